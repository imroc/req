-- Root of the bridge library.  It imports nothing: every `Bridge.*` module imports a `Generated.*` module, which
-- `tools/gofacts` writes from the Go source on each run of `bin/check`; `bin/check` then builds the bridges by name.
