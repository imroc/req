import Generated.PureHttp
import Bridge.PureAscii
import Req.Client.Validate
import Req.H1.LineSplit
import Req.Lemmas.U8
/-!
Bridge: `isTokenBoundary`, `stringContainsCTLByte`, `hasToken` (http.go), `isASCIILetter`, `trim`
(textproto_reader.go), translated from the Go source by `tools/gofacts` on every run, against the
model functions used by the request-validation (C01), header-parsing (C04) and hostile-input (C07)
theorems.  `trim` has two index-moving `for cond {…}` loops: the theorem also says they terminate
within `len(s)+1` iterations each and never index or slice out of range.  `hasToken` (section
`HasToken`) agrees with the model for lower-case tokens only: `hasToken_uppercase_token_differs`.
-/
namespace Bridge.PureHttp
open Req.GoSem
open Generated.PureHttp (stringContainsCTLByte_loop1 trim_loop1 trim_loop2 hasToken_loop1)

theorem isTokenBoundary_bridge (b : UInt8) :
    Generated.PureHttp.isTokenBoundary b = Req.Validate.isTokenBoundary b := by
  revert b
  exact Req.U8.forall_uint8 _ (by decide +kernel)

theorem isASCIILetter_bridge (b : UInt8) :
    Generated.PureHttp.isASCIILetter b = Req.Ascii.isAlpha b := by
  revert b
  exact Req.U8.forall_uint8 _ (by decide +kernel)

theorem ctl_byte (b : UInt8) :
    ((decide (b < (32 : UInt8))) || (b == (127 : UInt8))) = Req.Validate.isCTL b := rfl

theorem stringContainsCTLByte_bridge (s : Bytes) :
    Generated.PureHttp.stringContainsCTLByte s = Res.ok (s.any Req.Validate.isCTL) := by
  unfold Generated.PureHttp.stringContainsCTLByte
  have := cursor_loop (stringContainsCTLByte_loop1 s) (fun _ r => .ok (r.any Req.Validate.isCTL)) s 0
    (by simp [stringContainsCTLByte_loop1])
    (by intro f pre c rest h; subst h; rw [stringContainsCTLByte_loop1, idx_app]
        simp only [ctl_byte]
        by_cases hc : Req.Validate.isCTL c = true <;> simp [hc])
    s [] rfl
  simpa [len] using this

theorem ows_eq (c : UInt8) : ((c == 32) || (c == 9)) = Req.H1.isOWS c := rfl

/-- Go tests space and tab one after the other, with the same continuation. -/
theorem ite_ite_same {α : Type} (p q : Bool) (x y : α) :
    (if p then x else if q then x else y) = if (p || q) then x else y := by
  cases p <;> cases q <;> rfl

theorem trim_loop2_eq : ∀ (fuel : Nat) (pre mid post : Bytes), mid.length < fuel →
    trim_loop2 (pre ++ mid ++ post) (pre.length : Int) fuel ((pre.length + mid.length : Nat) : Int) =
      Res.ok ((mid.reverse.dropWhile Req.H1.isOWS).reverse) := by
  intro fuel
  induction fuel with
  | zero => intro _ mid _ h; omega
  | succ f ih =>
    intro pre mid post h
    rcases List.eq_nil_or_concat mid with rfl | ⟨m, c, rfl⟩
    · rw [trim_loop2]
      have : ¬ (((pre.length + ([] : Bytes).length : Nat) : Int) > (pre.length : Int)) := by simp
      simp only [this, decide_false, Bool.false_eq_true, if_false]
      have := slice_mid pre [] post
      simp only [List.append_nil, List.length_nil, Nat.add_zero] at this ⊢
      rw [this]; simp
    · simp only [List.concat_eq_append] at h ⊢
      rw [trim_loop2]
      have hgt : (((pre.length + (m ++ [c]).length : Nat) : Int) > (pre.length : Int)) := by simp; omega
      have hidx : idx? (pre ++ (m ++ [c]) ++ post) (((pre.length + (m ++ [c]).length : Nat) : Int) - 1) = some c := by
        have e : (((pre.length + (m ++ [c]).length : Nat) : Int) - 1) = (((pre ++ m).length : Nat) : Int) := by
          simp; omega
        rw [e]
        have : pre ++ (m ++ [c]) ++ post = (pre ++ m) ++ c :: post := by simp
        rw [this, idx_app]
      have hrec := ih pre m (c :: post) (by simp at h; omega)
      have hs : pre ++ m ++ c :: post = pre ++ (m ++ [c]) ++ post := by simp
      rw [hs] at hrec
      have hn1 : (((pre.length + (m ++ [c]).length : Nat) : Int) - 1) = ((pre.length + m.length : Nat) : Int) := by
        simp; omega
      simp only [hgt, decide_true, if_true, hidx]
      rw [ite_ite_same, ows_eq, hn1, hrec, slice_mid pre (m ++ [c]) post]
      cases hc : Req.H1.isOWS c <;> simp [hc]

theorem trim_loop1_eq (s : Bytes) : ∀ rest pre, pre ++ rest = s →
    trim_loop1 s (rest.length + 1) (pre.length : Int) =
      trim_loop2 s (((pre ++ rest.takeWhile Req.H1.isOWS).length : Nat) : Int) (s.length + 1) (len s) :=
  -- the invariant: from position `p` the first loop hands over to the second behind the leading blanks
  cursor_loop (trim_loop1 s)
    (fun p r => trim_loop2 s (((p ++ r.takeWhile Req.H1.isOWS).length : Nat) : Int) (s.length + 1) (len s)) s 1
    (by rw [trim_loop1]; simp [len])
    (by intro f pre c rest h; subst h
        rw [trim_loop1]
        have hlt : ((pre.length : Int) < len (pre ++ c :: rest)) := by simp [len]; omega
        simp only [hlt, decide_true, if_true, idx_app]
        rw [ite_ite_same, ows_eq]
        cases hc : Req.H1.isOWS c <;> simp [hc])

/-- `trim` (textproto_reader.go) terminates, never indexes or slices out of range, and is the
model's `trimOWS` (spaces and tabs off both ends), for every byte string. -/
theorem trim_bridge (s : Bytes) : Generated.PureHttp.trim s = Res.ok (Req.H1.trimOWS s) := by
  unfold Generated.PureHttp.trim
  have h1 := trim_loop1_eq s s [] rfl
  simp only [List.nil_append, List.length_nil] at h1
  rw [show ((0 : Int)) = ((0 : Nat) : Int) by rfl, h1]
  have hsplit : s = s.takeWhile Req.H1.isOWS ++ s.dropWhile Req.H1.isOWS ++ [] := by simp
  have h2 := trim_loop2_eq (s.length + 1) (s.takeWhile Req.H1.isOWS) (s.dropWhile Req.H1.isOWS) []
    (by have := congrArg List.length (List.takeWhile_append_dropWhile (p := Req.H1.isOWS) (l := s))
        rw [List.length_append] at this; omega)
  rw [← hsplit] at h2
  have hl : len s = (((s.takeWhile Req.H1.isOWS).length + (s.dropWhile Req.H1.isOWS).length : Nat) : Int) := by
    have := congrArg List.length (List.takeWhile_append_dropWhile (p := Req.H1.isOWS) (l := s))
    rw [List.length_append] at this; unfold len; omega
  rw [hl, h2]
  rfl

section HasToken
open Req.Validate Req.Ascii

/-- every byte equals its lower-case form, or does so after setting bit 5 (the first-character filter of `hasToken`) -/
theorem filter_byte (b : UInt8) : (b == toLower b || (b ||| 32) == toLower b) = true := by
  revert b
  exact Req.U8.forall_uint8 _ (by decide +kernel)

def LowerTok (tok : Bytes) : Prop := ∀ c ∈ tok, toLower c = c

/-- One iteration of the Go loop at position `pre.length` of `pre ++ rest`. -/
theorem hasToken_loop1_step (pre rest tok : Bytes) (f : Nat) (hne : tok ≠ [])
    (hlen : tok.length ≤ rest.length)
    (hlow : LowerTok tok) :
    hasToken_loop1 (pre ++ rest) tok (f + 1) (pre.length : Int) =
      if hasTokenAt tok pre.getLast? rest then Res.ok true
      else hasToken_loop1 (pre ++ rest) tok f ((pre.length : Int) + 1) := by
  obtain ⟨t0, ts, rfl⟩ := List.exists_cons_of_ne_nil hne
  obtain ⟨b, r, rfl⟩ : ∃ b r, rest = b :: r := by
    cases rest with
    | nil => simp at hlen
    | cons b r => exact ⟨b, r, rfl⟩
  -- the first-character filter never rejects a position where the token matches
  have hfilter : equalFold ((b :: r).take (ts.length + 1)) (t0 :: ts) = true →
      ((b != t0) = false ∨ ((b ||| 32) != t0) = false) := by
    intro h
    have h1 : toLower b = toLower t0 := by
      have := eq_of_beq h
      simp [lower] at this
      exact this.1
    have h3 := filter_byte b
    rw [h1, hlow t0 (by simp)] at h3
    simpa [or_comm] using h3
  have ht0 : idx? (t0 :: ts) (0 : Int) = some t0 := idx_app [] t0 ts
  rw [hasToken_loop1]
  simp only [len, idx_app, ht0, idx?_before, idx?_cursor, slice?_cursor _ _ _ hlen, cursor_pos, cursor_end _ _ _ hlen,
    Bridge.PureAscii.equalFold_bridge, isTokenBoundary_bridge]
  unfold hasTokenAt
  rw [List.head?_drop]
  have hlen' : ts.length + 1 ≤ r.length + 1 := by simpa using hlen
  simp only [List.length_cons, hlen', decide_true, Bool.and_true]
  cases hE : equalFold ((b :: r).take (ts.length + 1)) (t0 :: ts) with
  | false => cases pre.getLast? <;> cases (b :: r)[ts.length + 1]? <;> simp
  | true =>
    cases pre.getLast? <;> cases (b :: r)[ts.length + 1]? <;>
      rcases hfilter hE with h | h <;> simp [h] <;> split <;> simp [*]

theorem hasTokenAux_short (tok : Bytes) : ∀ (rest : Bytes) (prev : Option UInt8), rest.length < tok.length →
    hasTokenAux tok prev rest = false := by
  intro rest
  induction rest with
  | nil => intro prev _; rfl
  | cons c t ih =>
    intro prev h
    unfold hasTokenAux hasTokenAt
    have : ¬ tok.length ≤ (c :: t).length := by omega
    simp only [this, decide_false, Bool.and_false, Bool.false_and, Bool.false_or]
    exact ih (some c) (by simp at h; omega)

theorem hasToken_loop1_eq (tok : Bytes) (hne : tok ≠ []) (hlow : LowerTok tok) :
    ∀ (f : Nat) (pre rest : Bytes),
    rest.length + 1 = f + tok.length →
    hasToken_loop1 (pre ++ rest) tok f (pre.length : Int) = Res.ok (hasTokenAux tok pre.getLast? rest) := by
  intro f
  induction f with
  | zero =>
    intro pre rest h
    rw [hasTokenAux_short tok rest _ (by omega)]
    rw [hasToken_loop1]
  | succ f ih =>
    intro pre rest h
    have hlen : tok.length ≤ rest.length := by omega
    rw [hasToken_loop1_step pre rest tok f hne hlen hlow]
    cases rest with
    | nil => cases tok with
             | nil => exact absurd rfl hne
             | cons _ _ => simp at hlen
    | cons b r =>
      have hrec := ih (pre ++ [b]) r (by simp at h; omega)
      simp only [List.append_assoc, List.singleton_append, List.length_append, List.length_singleton,
        List.getLast?_append, List.getLast?_singleton, Option.some_or] at hrec
      rw [show ((pre.length : Int) + 1) = ((pre.length + 1 : Nat) : Int) by simp, hrec]
      rw [hasTokenAux]
      cases hasTokenAt tok pre.getLast? (b :: r) <;> simp

theorem hasTokenAt_self (tok : Bytes) : hasTokenAt tok none tok = true := by
  unfold hasTokenAt
  simp [equalFold]

/-- `hasToken(v, token)` (http.go; decides `Connection: close` / `keep-alive` / `Upgrade` tokens) never
panics and computes the model's `hasToken`, for every `v` and every LOWER-CASE token (the Go
function documents "token must be all lowercase": its first-character filter is only sound then). -/
theorem hasToken_bridge (v tok : Bytes) (hlow : LowerTok tok) :
    Generated.PureHttp.hasToken v tok = Res.ok (Req.Validate.hasToken v tok) := by
  unfold Generated.PureHttp.hasToken Req.Validate.hasToken
  by_cases he : tok = []
  · subst he; simp
  · have hne : (tok == ([] : List UInt8)) = false := by simpa using he
    have hemp : tok.isEmpty = false := by simpa using he
    simp only [hne, Bool.or_false, hemp, Bool.not_false, Bool.true_and]
    by_cases hl : tok.length > v.length
    · have : decide (len tok > len v) = true := by simp [len]; omega
      simp only [this, if_true]
      rw [hasTokenAux_short tok v none hl]
    · have : decide (len tok > len v) = false := by simp [len]; omega
      simp only [this, Bool.false_eq_true, if_false]
      by_cases hv : v = tok
      · subst hv
        simp only [beq_self_eq_true, if_true]
        cases v with
        | nil => exact absurd rfl he
        | cons c t => unfold hasTokenAux; rw [hasTokenAt_self]; rfl
      · have : (v == tok) = false := by simpa using hv
        simp only [this, Bool.false_eq_true, if_false]
        have := hasToken_loop1_eq tok he hlow (v.length - tok.length + 1) [] v (by omega)
        simp only [List.nil_append, List.length_nil, List.getLast?_nil] at this
        have hf : (len v - len tok - (0 : Int) + 1).toNat = v.length - tok.length + 1 := by
          simp [len]; omega
        rw [hf, show (0 : Int) = ((0 : Nat) : Int) by rfl, this]

/-- the excluded point: with an upper-case token the first-character filter rejects a match the
model accepts -/
theorem hasToken_uppercase_token_differs :
    Generated.PureHttp.hasToken [97] [65] = Res.ok false ∧ Req.Validate.hasToken [97] [65] = true := by
  decide


end HasToken

end Bridge.PureHttp
