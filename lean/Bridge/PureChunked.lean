import Generated.PureChunked
import Req.Lemmas.U8
import Req.Lemmas.H1Hex
/-!
Bridge: the Lean definitions that `tools/gofacts` (pure.go) TRANSLATES from
`internal/chunked.go` on every run are equal to the hand-written model functions of
`Req.H1.Chunked` (the chunk-size line of the reader that C03, C04 and C07 speak about).  The statements also say that the
Go functions neither panic (index / slice out of range) nor loop for ever: the generated
function returns `Res.ok …` for EVERY input.
-/
namespace Bridge.PureChunked
open Req.GoSem Req.H1
open Generated.PureChunked (parseHexUint_loop1 trimTrailingWhitespace_loop1)

theorem isASCIISpace_bridge (b : UInt8) :
    Generated.PureChunked.isASCIISpace b = Req.H1.isASCIISpace b := by
  revert b
  exact Req.U8.forall_uint8 _ (by decide +kernel)

theorem trimWS_nil : trimTrailingWS ([] : Bytes) = [] := by
  simp [trimTrailingWS]

theorem trimWS_concat (l : Bytes) (c : UInt8) :
    trimTrailingWS (l ++ [c]) = if Req.H1.isASCIISpace c then trimTrailingWS l else l ++ [c] := by
  unfold trimTrailingWS
  simp only [List.reverse_append, List.reverse_cons, List.reverse_nil, List.nil_append,
    List.singleton_append, List.dropWhile_cons]
  split <;> simp

theorem idx_last (l : Bytes) (c : UInt8) :
    idx? (l ++ [c]) (len (l ++ [c]) - (1 : Int)) = some c := by
  have h : len (l ++ [c]) - (1 : Int) = ((l.length : Nat) : Int) := by
    simp [len]
  rw [h, idx?_eq_getElem?]
  simp

theorem slice_init (l : Bytes) (c : UInt8) :
    slice? (l ++ [c]) (0 : Int) (len (l ++ [c]) - (1 : Int)) = some l := by
  have h : len (l ++ [c]) - (1 : Int) = ((l.length : Nat) : Int) := by
    simp [len]
  rw [h, slice?_to _ _ (by simp)]
  simp

theorem trimTrailingWhitespace_loop1_eq (fuel : Nat) : ∀ b : Bytes, b.length < fuel →
    trimTrailingWhitespace_loop1 fuel b = Res.ok (trimTrailingWS b) := by
  induction fuel with
  | zero => intro b h; omega
  | succ f ih =>
    intro b h
    rcases List.eq_nil_or_concat b with rfl | ⟨l, c, rfl⟩
    · simp [trimTrailingWhitespace_loop1, len, trimWS_nil]
    · simp only [List.concat_eq_append] at h ⊢
      have hpos : decide (len (l ++ [c]) > (0 : Int)) = true := by unfold len; simp <;> omega
      rw [trimTrailingWhitespace_loop1]
      simp only [if_pos hpos, idx_last, slice_init, isASCIISpace_bridge, trimWS_concat]
      by_cases hc : Req.H1.isASCIISpace c = true
      · simp only [hc, if_true]
        exact ih l (by simp at h; omega)
      · simp only [hc, Bool.false_eq_true, if_false]

theorem trimTrailingWhitespace_bridge (b : Bytes) :
    Generated.PureChunked.trimTrailingWhitespace b = Res.ok (trimTrailingWS b) := by
  unfold Generated.PureChunked.trimTrailingWhitespace
  exact trimTrailingWhitespace_loop1_eq _ b (by omega)

theorem shift_or (n : UInt64) (d : UInt8) (hn : n.toNat < 2^60) (hd : d.toNat < 16) :
    ((n <<< (4 : UInt64)) ||| d.toUInt64).toNat = n.toNat * 16 + d.toNat := by
  rw [UInt64.toNat_or, UInt64.toNat_shiftLeft]
  simp
  have h1 : n.toNat <<< 4 = n.toNat * 16 := by rw [Nat.shiftLeft_eq]
  rw [h1]
  have h2 : n.toNat * 16 % 18446744073709551616 = n.toNat * 16 := by omega
  rw [h2]
  have := Nat.shiftLeft_add_eq_or_of_lt (a := n.toNat) (i := 4) (b := d.toNat) (by omega)
  rw [h1] at this
  omega

/-- One iteration of the Go loop body, as a function: the digit value of a byte. -/
def digit (b : UInt8) : Option UInt8 :=
  if 48 ≤ b ∧ b ≤ 57 then some (b - 48)
  else if 97 ≤ b ∧ b ≤ 102 then some (b - 97 + 10)
  else if 65 ≤ b ∧ b ≤ 70 then some (b - 65 + 10)
  else none

theorem digit_hexVal (b : UInt8) : (digit b).map UInt8.toNat = hexVal? b := by
  revert b
  exact Req.U8.forall_uint8 _ (by decide +kernel)

theorem digit_lt (b d : UInt8) (h : digit b = some d) : d.toNat < 16 :=
  hexVal?_lt (c := b) (by rw [← digit_hexVal, h]; rfl)

theorem loop_cons (v : Bytes) (b : UInt8) (rest : Bytes) (i : Int) (n : UInt64) :
    parseHexUint_loop1 v (b :: rest) i n =
      match digit b with
      | none => none
      | some d => if i == 16 then none
                  else parseHexUint_loop1 v rest (i + 1) ((n <<< (4 : UInt64)) ||| d.toUInt64) := by
  rw [parseHexUint_loop1]
  unfold digit
  by_cases h1 : 48 ≤ b ∧ b ≤ 57
  · simp [h1]
  · by_cases h2 : 97 ≤ b ∧ b ≤ 102
    · simp [h1, h2]
    · by_cases h3 : 65 ≤ b ∧ b ≤ 70
      · simp [h1, h2, h3]
      · simp [h1, h2, h3]

/-- The loop from index `k` with accumulator `n`: the model's accumulator while at most 16 bytes are
in play, an error otherwise (at an invalid byte or at index 16).  `n.toNat < 16 ^ k` with `k ≤ 15` at a
shift keeps `n <<< 4` inside 64 bits, and the OR with a digit below 16 is then an addition (`shift_or`). -/
theorem parseHexUint_loop1_eq (v : Bytes) : ∀ (rest : Bytes) (k : Nat) (n : UInt64), k ≤ 16 → n.toNat < 16 ^ k →
    (parseHexUint_loop1 v rest (k : Int) n).map UInt64.toNat =
      if 16 < k + rest.length then none else parseHexAcc n.toNat rest := by
  intro rest
  induction rest with
  | nil => intro k n hk _; simp [parseHexUint_loop1, parseHexAcc]; omega
  | cons b rest ih =>
    intro k n hk hn
    rw [loop_cons]
    have hd := digit_hexVal b
    cases hdb : digit b with
    | none => rw [hdb] at hd; simp at hd; simp [parseHexAcc, ← hd]
    | some d =>
      rw [hdb] at hd; simp at hd
      by_cases hk16 : k = 16
      · subst hk16; simp
      · have hk' : ¬ ((k : Int) == 16) = true := by simp; omega
        simp only [hk', Bool.false_eq_true, if_false]
        have hd16 := digit_lt b d hdb
        have hn60 : n.toNat < 2 ^ 60 := by
          have : 16 ^ k ≤ 16 ^ 15 := Nat.pow_le_pow_right (by omega) (by omega)
          have : (16 : Nat) ^ 15 = 2 ^ 60 := by decide
          omega
        have hs := shift_or n d hn60 hd16
        have := ih (k + 1) ((n <<< (4 : UInt64)) ||| d.toUInt64) (by omega)
          (by rw [hs, Nat.pow_succ]; omega)
        rw [show ((k : Int) + 1) = ((k + 1 : Nat) : Int) by simp, this, hs]
        simp [parseHexAcc, ← hd, Nat.add_right_comm, Nat.add_assoc]

/-- `parseHexUint` of internal/chunked.go computes the model's `parseHexUint` (value as a natural
number; `none` = an error is returned) for every byte string. -/
theorem parseHexUint_bridge (v : Bytes) :
    (Generated.PureChunked.parseHexUint v).map UInt64.toNat = Req.H1.parseHexUint v := by
  unfold Generated.PureChunked.parseHexUint Req.H1.parseHexUint
  by_cases h0 : v = []
  · subst h0; simp [len]
  · have hlen : ¬ (len v == (0 : Int)) = true := by simp [len]; exact h0
    have hne : v.isEmpty = false := by simpa using h0
    simp only [hlen, Bool.false_eq_true, if_false, hne]
    simpa using parseHexUint_loop1_eq v v 0 0 (by omega) (by simp)

end Bridge.PureChunked
