import Generated.C15Facts
import Req.Client.Decode
/-!
Bridge for C15: the tables regenerated from /repo by `tools/gofacts/c15.go` are the tables the
model uses.  A source edit that changes the BOM table (internal/charsets/charsets.go `boms`),
the default text content types (decode.go `textContentTypes`) or the "already UTF-8" markers
(transport.go `autoDecodeResponseBody`) breaks one of these.
-/
namespace Bridge.C15

theorem boms_eq : Generated.C15Facts.boms = Req.Decode.boms := by decide +kernel

theorem textContentTypes_eq : Generated.C15Facts.textContentTypes = Req.Decode.textContentTypes := by decide +kernel

theorem utf8Markers_eq : Generated.C15Facts.utf8Markers = Req.Decode.utf8Markers := by decide +kernel

end Bridge.C15
