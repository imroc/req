import Generated.PureH2
import Req.H2.Frame
/-!
Bridge: `validStreamID` / `validStreamIDOrZero` of internal/http2/frame.go (a bit test on a
`uint32`), translated from the Go source on every run, against the arithmetic form the frame model
`Req.H2.Frame` uses (`sid < 2^31`).
-/
namespace Bridge.PureH2

/-- The mask is `2 ^ 31`: after `toNat_and`, bit 31 of `x.toNat` decides (`Nat.testBit`). -/
theorem and_top_bit (x : UInt32) :
    ((x &&& (2147483648 : UInt32)) == (0 : UInt32)) = decide (x.toNat < 2147483648) := by
  have hx : x.toNat < 2 ^ (31 + 1) := x.toNat_lt
  have h : (x &&& (2147483648 : UInt32)).toNat = x.toNat &&& 2 ^ 31 := by
    rw [UInt32.toNat_and]; rfl
  by_cases hlt : x.toNat < 2147483648
  · have hz : x.toNat &&& 2 ^ 31 = 0 := by
      apply Nat.eq_of_testBit_eq
      intro i
      rw [Nat.testBit_and, Nat.testBit_two_pow, Nat.zero_testBit]
      by_cases hi : 31 = i
      · subst hi; rw [Nat.testBit_lt_two_pow (by omega)]; rfl
      · simp [hi]
    have : (x &&& (2147483648 : UInt32)) = 0 := UInt32.toNat_inj.mp (by rw [h, hz]; rfl)
    simp [this, hlt]
  · have ht : x.toNat.testBit 31 = true :=
      Nat.testBit_of_two_pow_le_and_two_pow_add_one_gt (by omega) hx
    have hne : (x &&& (2147483648 : UInt32)) ≠ 0 := by
      intro h0
      rw [h0] at h
      have : (x.toNat &&& 2 ^ 31).testBit 31 = true := by
        rw [Nat.testBit_and, Nat.testBit_two_pow, ht]; simp
      rw [← h] at this
      simp at this
    simp [hne, hlt]

theorem validStreamIDOrZero_bridge (sid : UInt32) :
    Generated.PureH2.validStreamIDOrZero sid = Req.H2.Frame.validStreamIDOrZero sid.toNat := by
  unfold Generated.PureH2.validStreamIDOrZero Req.H2.Frame.validStreamIDOrZero Req.H2.Frame.two31
  rw [and_top_bit]

theorem validStreamID_bridge (sid : UInt32) :
    Generated.PureH2.validStreamID sid = Req.H2.Frame.validStreamID sid.toNat := by
  unfold Generated.PureH2.validStreamID Req.H2.Frame.validStreamID Req.H2.Frame.two31
  rw [and_top_bit]
  have : (sid != 0) = decide (sid.toNat ≠ 0) := by
    by_cases h : sid = 0
    · subst h; simp
    · have : sid.toNat ≠ 0 := fun h0 => h (UInt32.toNat_inj.mp (by simpa using h0))
      simp [h, this]
  rw [this]

end Bridge.PureH2
