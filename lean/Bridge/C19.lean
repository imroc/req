import Generated.CloneTable
import Req.Client.CloneFacts
import Req.Props.C19
import Req.Props.C19Graph
import Req.Client.ShareJudge
import Req.Client.ReqSetters
/-!
# C19 — bridging theorems over the regenerated clone/setter facts

`Generated/CloneTable.lean` is printed by `tools/gofacts` (extractor `c19.go`) from the current
source on every run. The theorems below are re-checked by `lake build Bridge.C19`; a new
reference-typed field that `Clone` shares although a setter mutates it in place, a removed
`clone*` call, or a setter-written field that `Clone` drops, makes `clone_rows_safe` false.

Open findings (known-findings.txt, read by gofacts into the `open_*` flags) excuse exactly
the rows / facts of their class; once the patch is applied and the `open:` line removed the
obligation is the unconditional one.
-/
namespace Bridge.C19
open Generated.CloneTable Req.CloneFacts

-- `decide +kernel` where a whole table is walked: the elaborator's evaluation of such a walk runs into its
-- recursion limit as the table grows with the source; the kernel's has no such limit.

/-- Row ids excused by the open findings. -/
def excused : List Nat :=
  (if open_wrapper_slice_alias then [Client_roundTripWrappers.id, Transport_httpRoundTripWrappers.id] else [])
  ++ (if open_h2c_allowhttp_dropped then [H2Transport_AllowHTTP.id] else [])
  ++ (if open_tls_config_shared then [TLSConfig_Certificates.id, TLSConfig_RootCAs.id] else [])

/-- Every field a setter mutates in place is deep-copied or rebuilt by `Clone`, and no field a
setter writes is dropped by `Clone` (modulo the open findings). -/
theorem clone_rows_safe : allSafeExcept excused rows = true := by decide +kernel

/-- `Client.R` clones the retry option for the request. -/
theorem request_retry_fresh : requestRetryFresh = true := by decide

/-- `Client.Clone` calls `initCookieJar` after rebuilding the `http.Client`: a jar that comes
from a factory is not shared with the copy. -/
theorem jar_rebuilt : jarRebuilt = true := by decide

/-- The copy's dumper is re-linked to the copy's `dumpOptions`. -/
theorem dump_relinked : (dumpRelinked || open_dump_options_unlinked) = true := by decide

/-- The TLS-fingerprint handshake closure does not keep reading the original client. -/
theorem fingerprint_rebound :
    (!fingerprintCapturesClient || fingerprintReboundInClone || open_fingerprint_captures_original) = true := by decide

/-! ## From the regenerated rows to the treatment tables of the reference-aware model -/

open Req.Scope Req.Heap in
/-- model treatment of a Go field: dropped, made anew, or shared. A reference that no setter
mutates in place is an immutable value as far as the model is concerned (the model's primitives
on such a field only ever replace it). Rows excused by an open finding count as repaired. -/
def treatRow (r : Row) : Treatment :=
  if excused.contains r.id then .fresh else
  match r.how with
  | .absent => .absent
  | .cloned => .fresh
  | .rebuilt => .fresh
  | .assigned => if r.kind.isRef && r.inPlace then .assigned else .fresh

open Req.Scope Req.Heap in
/-- a field that lives behind pointer / struct field `p` -/
def via (p : Row) (t : Treatment) : Treatment :=
  match treatRow p with
  | .assigned => .assigned
  | .absent => .absent
  | .fresh => t

open Req.Scope Req.Heap in
/-- the `Clone` table of the code under test, field by field of the model. The numbers are the model's field numbers:
those `Scope.F` names, and for a scalar setting, which the model addresses only through `Setter.scalar`, the number of its
row in `c19Scalars` (harness/req/zz_verif_c19_world_test.go). Field 63, the default case, is the request's body, which no
Go field of the client stands for; it must read `.fresh`: `Safe` asks the table to carry every field that `idealClone`
carries, which is every field but the jar, and to share none. -/
def cloneTbl : Table := fun f =>
  let T := via Client_Transport
  let O := fun t => T (via Transport_Options t)
  let TLS := fun t => O (via Options_TLSClientConfig t)
  let H2 := fun t => T (via Transport_t2 t)
  let RO := via Client_retryOption
  let DO := via Client_dumpOptions
  let HC := via Client_httpClient
  match f.val with
  | 0 => T (treatRow Transport_Headers)
  | 1 => treatRow Client_PathParams
  | 2 => treatRow Client_QueryParams
  | 3 => treatRow Client_FormData
  | 4 => T (treatRow Transport_Cookies)
  | 5 => treatRow Client_udBeforeRequest
  | 6 => treatRow Client_afterResponse
  | 7 => treatRow Client_roundTripWrappers
  | 8 => T (treatRow Transport_httpRoundTripWrappers)
  | 9 => treatRow Client_wrappedRoundTrip
  | 10 => T (treatRow Transport_wrappedRoundTrip)
  | 11 => RO (treatRow retryOption_RetryConditions)
  | 12 => RO (treatRow retryOption_RetryHooks)
  | 13 => RO (treatRow retryOption_MaxRetries)
  | 14 => RO (treatRow retryOption_GetRetryInterval)
  | 15 => if jarRebuilt then .absent else .assigned
  | 16 => treatRow Client_cookiejarFactory
  | 17 => TLS (treatRow TLSConfig_Certificates)
  | 18 => TLS (treatRow TLSConfig_RootCAs)
  | 19 => TLS (treatRow TLSConfig_InsecureSkipVerify)
  | 20 => O (treatRow Options_Dump)
  | 21 => DO (treatRow DumpOptions_Output)
  | 22 => DO (treatRow DumpOptions_RequestHeader)
  | 23 => DO (treatRow DumpOptions_RequestBody)
  | 24 => DO (treatRow DumpOptions_ResponseHeader)
  | 25 => DO (treatRow DumpOptions_ResponseBody)
  | 26 => treatRow Client_BaseURL
  | 27 => treatRow Client_AllowGetMethodPayload
  | 28 => treatRow Client_DebugLog
  | 29 => treatRow Client_trace
  | 30 => treatRow Client_disableAutoReadResponse
  | 31 => treatRow Client_outputDirectory
  | 32 => treatRow Client_scheme
  | 33 => O (treatRow Options_Proxy)
  | 34 => O (treatRow Options_DisableKeepAlives)
  | 35 => O (treatRow Options_DisableCompression)
  | 36 => O (treatRow Options_AutoDecompression)
  | 37 => O (treatRow Options_TLSHandshakeTimeout)
  | 38 => O (treatRow Options_MaxIdleConns)
  | 39 => O (treatRow Options_MaxConnsPerHost)
  | 40 => O (treatRow Options_IdleConnTimeout)
  | 41 => O (treatRow Options_ResponseHeaderTimeout)
  | 42 => O (treatRow Options_ExpectContinueTimeout)
  | 43 => O (treatRow Options_MaxResponseHeaderBytes)
  | 44 => O (treatRow Options_WriteBufferSize)
  | 45 => O (treatRow Options_ReadBufferSize)
  | 46 => O (treatRow Options_EnableH2C)
  | 47 => O (treatRow Options_DialTLSContext)
  | 48 => T (treatRow Transport_forceHttpVersion)
  | 49 => T (treatRow Transport_disableAutoDecode)
  | 50 => T (treatRow Transport_t3)
  | 51 => H2 (treatRow H2Transport_AllowHTTP)
  | 52 => H2 (treatRow H2Transport_MaxHeaderListSize)
  | 53 => H2 (treatRow H2Transport_StrictMaxConcurrentStreams)
  | 54 => H2 (treatRow H2Transport_ReadIdleTimeout)
  | 55 => H2 (treatRow H2Transport_PingTimeout)
  | 56 => H2 (treatRow H2Transport_WriteByteTimeout)
  | 57 => H2 (treatRow H2Transport_ConnectionFlow)
  | 58 => H2 (treatRow H2Transport_HeaderPriority)
  | 59 => H2 (treatRow H2Transport_Settings)
  | 60 => H2 (treatRow H2Transport_PriorityFrames)
  | 61 => HC (treatRow HTTPClient_Timeout)
  | 62 => HC (treatRow HTTPClient_CheckRedirect)
  | _ => .fresh

open Req.Scope Req.Heap in
/-- the `R()` table: the request gets the client's retry option as `Client.R` produces it -/
def reqTbl : Table := fun f =>
  let RO := fun (t : Treatment) => if requestRetryFresh then t else Treatment.assigned
  match f.val with
  | 11 => RO (treatRow retryOption_RetryConditions)
  | 12 => RO (treatRow retryOption_RetryHooks)
  | 13 => RO (treatRow retryOption_MaxRetries)
  | 14 => RO (treatRow retryOption_GetRetryInterval)
  | _ => .absent

/-- `Req.Heap.Safe` for the two treatment tables computed from the regenerated rows (modulo the open findings). -/
theorem clone_table_safe : Req.Heap.Safe cloneTbl reqTbl :=
  Req.Props.C19.safe_of_checks _ _ (by decide +kernel) (by decide +kernel) (by decide +kernel) (by decide +kernel)

/-- Hence the reference-aware model with the code's own `Clone` / `R()` treatment denotes the
value model, for every program and every slice growth policy. -/
theorem repo_heap_refines_scope (grow : Nat → Nat → Nat) (ops : List Req.Scope.Op) :
    Req.Heap.abs (Req.Heap.runHeap grow cloneTbl reqTbl ops).1 = (Req.Scope.runScope ops).1 ∧
    (Req.Heap.runHeap grow cloneTbl reqTbl ops).2 = (Req.Scope.runScope ops).2 :=
  Req.Props.C19.heap_refines_scope cloneTbl reqTbl clone_table_safe grow ops

/-- The scan saw the settings API (guards against an extractor that silently sees nothing). -/
theorem scan_not_vacuous : 150 ≤ settingsMethodsScanned ∧ 100 ≤ rows.length := by decide +kernel


/-! ## The object graph of the code under test

`Req/Client/Graph.lean` + `Req/Props/C19Graph.lean`: `Clone` as a copy of an object graph directed by
a per-field specification, and the separation theorem under the decidable premise `rowsSafe`.
Here the specification is computed from the regenerated rows — one graph type per struct
(`Client`, `Transport`, the embedded `Options`, the HTTP/2 transport, `retryOption`,
`DumpOptions`, `tls.Config`, `http.Client`, the dumper, and the two kinds of closures the
library builds around one client / one transport) — and the premise is decided. -/

namespace GraphOfRepo
open Req.Graph Req.Props.C19Graph Req.ShareJudge

/-- graph types: 0 plain value, 1 function value (both immutable leaves), 2 any other object
(map, array, pointed-to struct that is not modelled further), 10… the modelled structs, 19 a
closure over a client, 20 a closure over a transport -/
def ownerTy (o : String) : Ty :=
  if o == "Client" then 10 else if o == "Transport" then 11 else if o == "Options" then 12
  else if o == "H2Transport" then 13 else if o == "retryOption" then 14 else if o == "DumpOptions" then 15
  else if o == "TLSConfig" then 16 else if o == "HTTPClient" then 17 else if o == "Dumper" then 18 else 2

/-- where a field leads: to another modelled struct, to a per-client closure, or to a leaf by kind -/
def targetTy (r : Row) : Ty :=
  if r.id == Client_Transport.id then 11
  else if r.id == Transport_Options.id then 12
  else if r.id == Transport_t2.id then 13
  else if r.id == Options_TLSClientConfig.id then 16
  else if r.id == Options_Dump.id then 18
  else if r.id == Client_retryOption.id then 14
  else if r.id == Client_dumpOptions.id then 15
  else if r.id == Client_httpClient.id then 17
  else if r.id == H2Transport_Options.id then 12
  else if r.id == HTTPClient_Transport.id then 11
  else if r.id == Client_wrappedRoundTrip.id || r.id == Options_Debugf.id || r.id == Options_TLSHandshakeContext.id then 19
  else if r.id == Transport_wrappedRoundTrip.id then 20
  else match r.kind with
    | .value => 0
    | .func => 1
    | _ => 2

/-- what the copy's field is, from the row's `how` and the ordering facts of `Client.Clone` -/
def treatOf (r : Row) : Treat :=
  -- fields that `Clone` first copies by assignment and then makes again for the copy
  if r.id == HTTPClient_Jar.id then (if jarRebuilt then .fresh else .share)
  else if r.id == HTTPClient_Transport.id then (if httpClientTransportRebound then .toNew 11 else .share)
  else if r.id == Options_Debugf.id then (if debugfRebound then .copy else .share)
  else if r.id == Options_TLSHandshakeContext.id then
    (if !fingerprintCapturesClient || fingerprintReboundInClone || open_fingerprint_captures_original then .copy else .share)
  else if excused.contains r.id then .copy
  else match r.how with
    | .assigned => .share
    | .cloned => .copy
    | .rebuilt => if r.id == H2Transport_Options.id then .toNew 12 else if targetTy r == 19 || targetTy r == 20 then .copy else .fresh
    | .absent => .zero

/-- the strictest context: a TLS fingerprint is set and the client has a jar factory -/
def strict : Ctx := ⟨true, true, false⟩

def fieldRow (r : Row) : FieldRow :=
  ⟨ownerTy r.owner, r.id, treatOf r, targetTy r, sharedByDesign r.owner r.field r.kind strict⟩

/-- the regenerated rows as graph field rows, plus what the two per-client closures capture -/
def repoRows : List FieldRow :=
  rows.map fieldRow ++ [⟨19, 1000, .toNew 10, 10, false⟩, ⟨20, 1001, .toNew 11, 11, false⟩]

def immTys : List Ty := [0, 1]

/-- **Every field `Clone` shares is in the SharedByDesign list or refers to an immutable value** —
decided for the regenerated table. A new reference-typed field copied by `cc := *c`, a `Clone`
that hands the original's queue / pool / closure to the copy, breaks this. -/
theorem repo_rows_safe : rowsSafe repoRows immTys = true := by decide +kernel

/-- Hence, for EVERY heap that is an instance of the structs of the code under test: after `Clone`
no object is reachable from both clients except immutable values and what lies below a
SharedByDesign reference. -/
theorem repo_clone_separates (fuel : Nat) (g : G) (r : Nat) (hwf : WFBelow g.next g) (hr : r < g.next)
    (hc : Conforms repoRows immTys g) :
    ∀ n, Reach (clone (specOf repoRows) fuel g r).1 r n →
      Reach (clone (specOf repoRows) fuel g r).1 (clone (specOf repoRows) fuel g r).2 n →
      Common (immOf immTys) (designOf repoRows) (clone (specOf repoRows) fuel g r).1 g.next n :=
  rows_clone_separates repoRows immTys repo_rows_safe fuel g r hwf hr hc

/-- the copy's dumper has a queue of its own. (That it also has a writer goroutine of its own —
fact `dumperStarted`, printed for information — is tied behaviourally by lane `life`: where the
goroutine is started is a matter of shape, e.g. lazily on first use, and not an obligation here.) -/
theorem dumper_own_queue : (Dumper_ch.how != .assigned) = true := by decide

/-- the rows `treatOf` shares whose target is not an immutable leaf (a listing to `#eval`; what is proved of them is
`repo_rows_safe`) -/
def sharedRows : List (String × String) :=
  (rows.filter fun r => treatOf r == .share && targetTy r != 0 && targetTy r != 1).map fun r => (r.owner, r.field)

end GraphOfRepo

/-! ## The request-level settings API is covered row by row -/

/-- The regenerated list of request-level setters and the rows of `Req.ReqSetters.table` name the
same methods in the same (alphabetical) order; literals are compared, no string is scanned. -/
theorem request_setter_names : requestSetters = Req.ReqSetters.table.map (·.1) := rfl

/-- every exported method of `*Request` returning `*Request` found in request.go has a row in
`Req.ReqSetters.table` -/
theorem request_setters_have_rows : requestSetters.all Req.ReqSetters.hasRow = true := by
  rw [request_setter_names, List.all_eq_true]
  intro m hm
  obtain ⟨e, he, rfl⟩ := List.mem_map.1 hm
  exact List.lookup_isSome_iff.2 ⟨e, he, beq_self_eq_true _⟩

/-- and every row is about a method that request.go has -/
theorem request_setter_rows_current : Req.ReqSetters.table.all (fun e => requestSetters.contains e.1) = true := by
  rw [request_setter_names, List.all_eq_true]
  exact fun _ he => List.contains_iff_mem.2 (List.mem_map_of_mem he)

/-- every family a row names is one the value model has -/
theorem request_setter_families_known :
    Req.ReqSetters.table.all (fun e => match e.2 with
      | some c => Req.ReqSetters.families.contains c
      | none => true) = true := by decide +kernel

end Bridge.C19
