import Generated.C06Flow
import Generated.C06Facts
import Generated.C06Wake
import Req.H2.Flow
import Req.H2.Conn
/-!
Bridging theorems of C06: the Lean translation of `internal/http2/flow.go` and of the seeding
code of `newClientConn` / `addStreamLocked` / `awaitFlowControl` / `frameScratchBufferLen`
regenerated from /repo by `tools/gofacts` equals the hand model the property theorems are about.

The translated functions wrap every fixed-width operation; the hand model does not. Equality
therefore holds for arguments inside the Go types' ranges with non-negative windows, which is
an invariant of the connection model (`Req.Props.C06.inflow_nonneg`).

The three seeding facts that the repairs `fixes/C06-1..3` change (`callerSeeds_known`,
`streamInflowInit_known`, `prioSeed_known`) are bridged to the shape of the repaired code, which
is what /repo holds; on the unrepaired source they fail.
-/
namespace Bridge.C06
open Req.H2 Req.H2.Flow

/-- Robust to the branch shape of the Go source (guard clause vs nested, De Morgan, early
return, a value hoisted into a local, a helper inlined by gofacts): unfold both sides, split
every `if`/`match`, let `simp_all` turn the Boolean tests into propositions and the structure
equalities into componentwise ones, and close the arithmetic (wrap-around written out as `%`)
with `omega`. -/
macro "flow_bridge" : tactic =>
  `(tactic| (repeat' (first | omega | split | simp_all)))

theorem inflowMinRefresh_eq : Generated.C06Flow.inflowMinRefresh = Flow.inflowMinRefresh := rfl

theorem inflow_init_eq (f : Inflow) (n : Int) :
    Generated.C06Flow.inflow_init f n = Inflow.init f n := by
  unfold Generated.C06Flow.inflow_init Inflow.init
  flow_bridge

theorem inflow_add_eq (f : Inflow) (n : Int)
    (ha : 0 ≤ f.avail) (ha' : f.avail ≤ 2147483647) (hu : 0 ≤ f.unsent) (hu' : f.unsent ≤ 2147483647)
    (hn : n < 4611686018427387904) :
    Generated.C06Flow.inflow_add f n = Inflow.add f n := by
  unfold Generated.C06Flow.inflow_add Inflow.add Flow.inflowMinRefresh Flow.maxWindow wrap64 wrap32
  flow_bridge

theorem inflow_take_eq (f : Inflow) (n : Int)
    (ha : 0 ≤ f.avail) (ha' : f.avail ≤ 2147483647) (hn : 0 ≤ n) :
    Generated.C06Flow.inflow_take f n = Inflow.take f n := by
  unfold Generated.C06Flow.inflow_take Inflow.take wrapU32 wrap32
  flow_bridge

theorem takeInflows_eq (f1 f2 : Inflow) (n : Int)
    (ha1 : 0 ≤ f1.avail) (ha1' : f1.avail ≤ 2147483647)
    (ha2 : 0 ≤ f2.avail) (ha2' : f2.avail ≤ 2147483647) (hn : 0 ≤ n) :
    Generated.C06Flow.takeInflows f1 f2 n = Flow.takeInflows f1 f2 n := by
  unfold Generated.C06Flow.takeInflows Flow.takeInflows wrapU32 wrap32
  flow_bridge

theorem outflow_available_eq (f : Outflow) :
    Generated.C06Flow.outflow_available f = Outflow.available f := by
  unfold Generated.C06Flow.outflow_available Outflow.available
  rcases f with ⟨n0, nn, cn⟩
  cases nn <;> flow_bridge

theorem outflow_take_eq (f : Outflow) (n : Int)
    (hn : 0 ≤ n) (h1 : In32 f.n) (h2 : In32 f.conn_n) :
    Generated.C06Flow.outflow_take f n = Outflow.take f n := by
  unfold In32 at h1 h2
  unfold Generated.C06Flow.outflow_take Outflow.take
  rw [outflow_available_eq]
  unfold Outflow.available wrap32
  rcases f with ⟨n0, nn, cn⟩
  cases nn <;> flow_bridge

theorem outflow_add_eq (f : Outflow) (n : Int) :
    Generated.C06Flow.outflow_add f n = Outflow.add f n := by
  unfold Generated.C06Flow.outflow_add Outflow.add
  flow_bridge

open Req.H2.Conn

theorem transportDefaultConnFlow_eq : Generated.C06Facts.transportDefaultConnFlow = Conn.transportDefaultConnFlow := rfl
theorem transportDefaultStreamFlow_eq : Generated.C06Facts.transportDefaultStreamFlow = Conn.transportDefaultStreamFlow := rfl
theorem initialMaxConcurrentStreams_eq : Generated.C06Facts.initialMaxConcurrentStreams = (Conn.initialMaxConcurrentStreams : Int) := rfl
theorem defaultMaxConcurrentStreams_eq : Generated.C06Facts.defaultMaxConcurrentStreams = (Conn.defaultMaxConcurrentStreams : Int) := rfl
theorem initialWindowSize_eq : Generated.C06Facts.initialWindowSize = (Conn.initialWindowSize : Int) := rfl
theorem inflowMinRefresh_facts_eq : Generated.C06Facts.inflowMinRefresh = Flow.inflowMinRefresh := rfl

/-- the `ClientConn` literal of `newClientConn` agrees with `Conn.newConn` -/
theorem newConn_literal (cfg : Cfg) :
    Generated.C06Facts.cc_maxFrameSize_0 = (Conn.defaultMaxFrameSize : Int) ∧
    Generated.C06Facts.cc_initialWindowSize_0 = ((newConn cfg).1.initialWindowSize : Int) ∧
    Generated.C06Facts.cc_maxConcurrentStreams_0 = ((newConn cfg).1.maxConcurrent : Int) ∧
    Generated.C06Facts.cc_wantSettingsAck_0 = (newConn cfg).1.wantSettingsAck ∧
    Generated.C06Facts.cc_flow_0 = (newConn cfg).1.connOut ∧
    Generated.C06Facts.cc_nextStreamID_0 = 1 ∧
    Generated.C06Facts.streamIDStep = 2 :=
  ⟨rfl, rfl, rfl, rfl, rfl, rfl, rfl⟩

theorem connFlowAdvertised_eq (c : Int) :
    Generated.C06Facts.connFlowAdvertised c = Conn.connFlowAdvertised c := by
  unfold Generated.C06Facts.connFlowAdvertised Conn.connFlowAdvertised Conn.transportDefaultConnFlow
  flow_bridge

theorem connInflowInit_eq (c : Int) :
    Generated.C06Facts.connInflowInit c = Conn.connInflowInit c := by
  unfold Generated.C06Facts.connInflowInit Conn.connInflowInit Conn.connFlowAdvertised
    Conn.transportDefaultConnFlow
  flow_bridge

theorem defaultSettings_eq :
    Generated.C06Facts.defaultSettings =
      [("http2.SettingEnablePush", 0), ("http2.SettingInitialWindowSize", 4194304)] := rfl

theorem streamOutflowInitArg_eq :
    Generated.C06Facts.streamOutflowInitArg = "int32(cc.initialWindowSize)" := rfl

/-- what the caller's SETTINGS seed: the repaired shape for each of the two defects that live in
this switch -/
theorem callerSeeds_known :
    Generated.C06Facts.callerSeeds =
        -- the repaired shape (fixes/C06-1, fixes/C06-2): the caller's MAX_FRAME_SIZE does not seed
        -- cc.maxFrameSize, its INITIAL_WINDOW_SIZE seeds the stream inflow
        -- (sorted by gofacts: the order of the cases, and switch vs if-chain, mean nothing)
        [("http2.SettingHeaderTableSize", "local", "setting.Val"),
         ("http2.SettingInitialWindowSize", "cc.streamInflow", "int32(setting.Val)"),
         ("http2.SettingMaxHeaderListSize", "t.MaxHeaderListSize", "setting.Val")] := rfl

/-- the argument of `cs.inflow.init`: the value seeded from the advertised
SETTINGS_INITIAL_WINDOW_SIZE (fixes/C06-2), whose own default is `transportDefaultStreamFlow` -/
theorem streamInflowInit_known :
    Generated.C06Facts.streamInflowInitArg = "cc.streamInflow" ∧
      Generated.C06Facts.cc_streamInflow_0 = some Conn.transportDefaultStreamFlow := ⟨rfl, rfl⟩

/-- the PRIORITY-frame seed of `nextStreamID` is that of fixes/C06-3 -/
theorem prioSeed_known :
    ∀ nx id, Generated.C06Facts.prioSeed nx id = Conn.prioSeedFixed nx id := by
  intro nx id
  unfold Generated.C06Facts.prioSeed Conn.prioSeedFixed wrapU32
  flow_bridge

theorem awaitTake_eq (a maxBytes maxFrameSize : Int)
    (ha : In32 a) (hb : 0 ≤ maxBytes) (hb' : maxBytes < 4611686018427387904)
    (hm : 0 ≤ maxFrameSize) (hm' : maxFrameSize ≤ 2147483647) :
    Generated.C06Facts.awaitTake a maxBytes maxFrameSize = Conn.awaitTake a maxBytes maxFrameSize := by
  unfold In32 at ha
  unfold Generated.C06Facts.awaitTake Conn.awaitTake wrap64 wrap32
  flow_bridge

theorem frameScratchBufferLen_eq (cl maxFrameSize : Int)
    (hc : -1 ≤ cl) (hc' : cl < 4611686018427387904)
    (hm : 0 ≤ maxFrameSize) (hm' : maxFrameSize < 4611686018427387904) :
    Generated.C06Facts.frameScratchBufferLen cl maxFrameSize = Conn.scratchLen cl maxFrameSize := by
  unfold Generated.C06Facts.frameScratchBufferLen Conn.scratchLen wrap64
  flow_bridge

/-! ### the condition variable (wake-up discipline, `Req.Props.C06.no_lost_wakeup`) -/

/-- a ClientConn's condition variable is only ever *broadcast*: every sleeper looks again at
every wake-up, which is what the model's `wakes` / `resumePending` assume (a `Signal` would wake
one sleeper, not necessarily the one whose condition became true) -/
theorem cond_broadcast_only : Generated.C06Wake.condSignalUses = 0 := rfl

theorem cond_waiters : Generated.C06Wake.condWaiters = Req.H2.Conn.condWaiters := rfl

/-- every handler the wake-up table relies on reaches a `cond.Broadcast()` -/
theorem wake_sites_broadcast :
    Generated.C06Wake.broadcastSites = Req.H2.Conn.wakeSites.map (fun s => (s, true)) := by decide

end Bridge.C06
