import Generated.PureAscii
import Req.Base.Ascii
import Req.Lemmas.U8
/-!
Bridge: `internal/ascii/print.go` (`lower`, `EqualFold`, `IsPrint`, `Is`), translated from the Go
source by `tools/gofacts` on every run.  `lower` and `EqualFold` are compared with the hand-written
`Req.Ascii.toLower` / `equalFold` used by the header / charset / digest / content-type comparisons of
several properties; `IsPrint` and `Is` with their byte classes written out here (`isPrintByte`, "not above
0x7F").  Each statement is for EVERY byte string and also says the Go function does not panic (`s[i]`,
`t[i]` in range).
-/
namespace Bridge.PureAscii
open Req.GoSem Req.Ascii
open Generated.PureAscii (equalFold_loop1 isPrint_loop1 isASCII_loop1)

theorem lower_bridge (b : UInt8) : Generated.PureAscii.lower b = toLower b := by
  -- by evaluation on all 256 bytes: independent of how the Go function is written
  revert b
  exact Req.U8.forall_uint8 _ (by decide +kernel)

theorem idx_drop {α : Type} (s : List α) (i : Nat) (x : α) (xs : List α)
    (h : s.drop i = x :: xs) : idx? s (i : Int) = some x := by
  rw [idx?_eq_getElem?]
  have := List.getElem?_drop (xs := s) (i := i) (j := 0)
  rw [h] at this
  simpa using this.symm

theorem drop_succ_of {α : Type} (s : List α) (i : Nat) (x : α) (xs : List α)
    (h : s.drop i = x :: xs) : s.drop (i + 1) = xs := by
  have : s.drop (i + 1) = (s.drop i).drop 1 := by simp [List.drop_drop]
  rw [this, h]; rfl

theorem equalFold_bridge (s t : Bytes) :
    Generated.PureAscii.equalFold s t = Res.ok (equalFold s t) := by
  unfold Generated.PureAscii.equalFold equalFold
  by_cases hl : s.length = t.length
  · have h1 : (len s != len t) = false := by simp [len, hl]
    simp only [h1, Bool.false_eq_true, if_false]
    -- the invariant handed to `cursor_loop`: from position `p` on, the rests are equal after lower-casing
    have := cursor_loop (equalFold_loop1 s t) (fun p r => .ok (lower r == lower (t.drop p.length))) s 0
      (by simp [equalFold_loop1, hl, lower])
      (by intro f pre c rest h; subst h
          obtain ⟨y, ys, hy⟩ : ∃ y ys, t.drop pre.length = y :: ys := by
            cases hd : t.drop pre.length with
            | nil => have := congrArg List.length hd; simp at this hl; omega
            | cons y ys => exact ⟨y, ys, rfl⟩
          rw [equalFold_loop1, idx_app, idx_drop t _ y ys hy]
          have hys : t.drop (pre ++ [c]).length = ys := by
            simpa using drop_succ_of t _ y ys hy
          simp only [lower_bridge, hy, hys]
          by_cases hxy : toLower c = toLower y <;> simp [lower, hxy])
      s [] rfl
    simpa [len] using this
  · have h1 : (len s != len t) = true := by simp [len]; omega
    simp only [h1, if_true]
    have : (lower s == lower t) = false := by
      apply Bool.eq_false_iff.mpr
      intro h
      have := congrArg List.length (eq_of_beq h)
      simp [lower] at this
      exact hl this
    rw [this]

/-- The printable-ASCII predicate of `ascii.IsPrint` (RFC 20 section 4.2: 0x20 … 0x7E). -/
def isPrintByte (c : UInt8) : Bool := !(decide (c < 32)) && !(decide (c > 126))

theorem isPrint_bridge (s : Bytes) :
    Generated.PureAscii.isPrint s = Res.ok (s.all isPrintByte) := by
  unfold Generated.PureAscii.isPrint
  have := cursor_loop (isPrint_loop1 s) (fun _ r => .ok (r.all isPrintByte)) s 0
    (by simp [isPrint_loop1])
    (by intro f pre c rest h; subst h; rw [isPrint_loop1, idx_app]
        by_cases h1 : c < 32 <;> by_cases h2 : c > 126 <;> simp [h1, h2, isPrintByte])
    s [] rfl
  simpa [len] using this

theorem isASCII_bridge (s : Bytes) :
    Generated.PureAscii.isASCII s = Res.ok (s.all (fun c => !(decide (c > 127)))) := by
  unfold Generated.PureAscii.isASCII
  have := cursor_loop (isASCII_loop1 s) (fun _ r => .ok (r.all fun c => !(decide (c > 127)))) s 0
    (by simp [isASCII_loop1])
    (by intro f pre c rest h; subst h; rw [isASCII_loop1, idx_app]; by_cases h1 : c > 127 <;> simp [h1])
    s [] rfl
  simpa [len] using this

end Bridge.PureAscii
