import Generated.PureH1
import Req.Base.Ascii
import Req.C07.Token
import Req.H1.Transfer
import Req.Lemmas.U8
import Req.Props.C07Opts
/-!
Bridge: `isTokenTable`, `validHeaderFieldByte` (textproto_reader.go) and `bodyAllowedForStatus`
(transfer.go), translated from the Go source by `tools/gofacts` on every run, against the model
functions of C04/C07 (`Req.Ascii.isTokenByte`, `Req.C07.Token.validHeaderFieldByte`,
`Req.H1.bodyAllowedForStatus`).
-/
namespace Bridge.PureH1
open Req.GoSem

/-- The 127-entry table in the source is C07's table of the RFC 7230 `tchar` predicate (one
evaluation of the 127 entries; the two table theorems below follow from it). -/
theorem isTokenTable_eq : Generated.PureH1.isTokenTable = Req.C07.Token.table := by decide +kernel

theorem isTokenTable_length : Generated.PureH1.isTokenTable.length = 127 := by
  simp [isTokenTable_eq, Req.C07.Token.table, Req.C07.Token.tableLen]

/-- The 127-entry table in the source is the RFC 7230 `tchar` predicate of the model, entry by entry
(and has no entry for 127 and above). -/
theorem isTokenTable_bridge : ∀ n, n < 256 →
    Generated.PureH1.isTokenTable[n]? = (if n < 127 then some (Req.Ascii.isTokenByte (UInt8.ofNat n)) else none) := by
  intro n _
  simp only [isTokenTable_eq, Req.C07.Token.table, Req.C07.Token.tableLen, List.getElem?_map]
  split <;> simp [*]

/-- `validHeaderFieldByte` never indexes outside the table (the guard comes first) and is the
model's `isTokenByte`, for all 256 bytes. -/
theorem validHeaderFieldByte_bridge (b : UInt8) :
    Generated.PureH1.validHeaderFieldByte b = Res.ok (Req.Ascii.isTokenByte b) := by
  revert b
  exact Req.U8.forall_uint8 _ (by decide +kernel)

/-- The generated function against C07's partial model (`none` = run-time panic) of the same Go
function: they agree on every byte. -/
theorem validHeaderFieldByte_models_agree (b : UInt8) :
    Generated.PureH1.validHeaderFieldByte b =
      (match Req.C07.Token.validHeaderFieldByte b with | some r => Res.ok r | none => Res.panic) := by
  rw [validHeaderFieldByte_bridge, Req.Props.C07.token.validHeaderFieldByte_total]

theorem bodyAllowedForStatus_bridge (n : Nat) :
    Generated.PureH1.bodyAllowedForStatus (n : Int) = Req.H1.bodyAllowedForStatus n := by
  unfold Generated.PureH1.bodyAllowedForStatus Req.H1.bodyAllowedForStatus
  rw [Bool.eq_iff_iff]
  simp only [Bool.and_eq_true, Bool.or_eq_true, Bool.not_eq_true', decide_eq_true_eq, beq_iff_eq,
    Bool.if_false_left, Bool.if_true_right, Bool.or_eq_false_iff, Bool.and_eq_false_iff,
    decide_eq_false_iff_not, Bool.false_eq_true, or_false]
  omega

end Bridge.PureH1
