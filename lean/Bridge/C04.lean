import Generated.C04Facts
import Bridge.PureAscii
import Req.Props.C04Fold
/-!
C04 bridge: WHO compares tokens in the HTTP/1 response-reading code.

`Generated.C04Facts.caseRefs` is regenerated from the source on every run: every reference to a
case-mapping / case-insensitive-comparison / Unicode-normalising function (strings.EqualFold,
strings.ToLower …, bytes.*, unicode.*, golang.org/x/text/*, internal/ascii.*) in
textproto_reader.go, http.go, transfer.go (reader side), internal/chunked.go and the
`readResponse` / `readLoop` functions of transport.go, by import path (aliases resolved), wherever
it stands in the function.

* `case_refs_ascii_only` — all of them are functions of `internal/ascii`: the response reader
  uses no Unicode-aware case function (which would read U+212A KELVIN SIGN as `k`, U+017F LONG S
  as `s`).
* `te_compare_bridge` — `ascii.EqualFold(v, "chunked")` AS TRANSLATED FROM THE SOURCE
  (`Generated.PureAscii.equalFold`) never panics and is the test the model's
  `parseTransferEncoding` makes, for every byte string; `token_compare_bridge` — the same for the
  element test of `valuesContainToken` (`hasToken` / `HeaderValuesContainsToken`).
So the theorems of `Req.Props.C04Fold` (`te_chunked_only_ascii`, `reject_te_non_ascii`,
`token_match_only_ascii`) are about the comparison function the source really calls.
-/
namespace Bridge.C04
open Req.GoSem Req.Ascii Req.H1

def asciiPkg : String := "github.com/imroc/req/v3/internal/ascii"

/-- An entry of `caseRefs` is `(file, function, import path, name)`: `r.2.2.1` is the import path. -/
theorem case_refs_ascii_only :
    Generated.C04Facts.caseRefs.all (fun r => r.2.2.1 == asciiPkg) = true := by decide

theorem te_compare_bridge (v : Bytes) :
    Generated.PureAscii.equalFold v vChunked = Res.ok (lower v == vChunked) := by
  rw [Bridge.PureAscii.equalFold_bridge, Req.Props.C04Fold.te_compare_is_equalFold]

theorem token_compare_bridge (p tok : Bytes) (ht : lower tok = tok) :
    Generated.PureAscii.equalFold p tok = Res.ok (lower p == tok) := by
  rw [Bridge.PureAscii.equalFold_bridge]; unfold equalFold; rw [ht]

example : Generated.PureAscii.equalFold Req.Props.C04Fold.vChunKed vChunked = Res.ok false := by
  rw [te_compare_bridge]; decide

end Bridge.C04
