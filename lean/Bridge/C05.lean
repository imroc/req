import Generated.C05Facts
import Req.H2.Frame
import Req.H3.Varint
import Req.H3.Frame
import Req.H3.Fields
/-!
Bridging theorems of C05: the constant tables regenerated from /repo by `tools/gofacts`
(`Generated.C05Facts`) are the ones the Lean models use. A source edit that changes one of these
constants (a varint threshold, a frame type or flag value, the reserved HTTP/3 frame types, the
SETTINGS size cap, a forbidden connection field …) breaks one of these proofs.
-/
namespace Bridge.C05
open Generated.C05Facts

theorem maxVarInts_eq :
    maxVarInts = [Req.H3.Varint.maxVarInt1, Req.H3.Varint.maxVarInt2, Req.H3.Varint.maxVarInt4,
                  Req.H3.Varint.maxVarInt8] := by decide

/-- the threshold ladder of `quicvarint.Len` is the model's `len` -/
theorem len_eq_ladder (n : Nat) :
    Req.H3.Varint.len n = (lenLadder.find? (fun p => decide (n ≤ p.1))).map (·.2) := by
  simp only [Req.H3.Varint.len, lenLadder, Req.H3.Varint.maxVarInt1, Req.H3.Varint.maxVarInt2,
    Req.H3.Varint.maxVarInt4, Req.H3.Varint.maxVarInt8, List.find?]
  by_cases h1 : n ≤ 63
  · simp [h1]
  by_cases h2 : n ≤ 16383
  · simp [h1, h2]
  by_cases h3 : n ≤ 1073741823
  · simp [h1, h2, h3]
  by_cases h4 : n ≤ 4611686018427387903
  · simp [h1, h2, h3, h4]
  · simp [h1, h2, h3, h4]

open Req.H2.Frame in
theorem frameTypes_eq :
    frameTypes = [tData, tHeaders, tPriority, tRSTStream, tSettings, tPushPromise, tPing, tGoAway,
                  tWindowUpdate, tContinuation] := by decide

-- in the order of `Generated.C05Facts.flags`: FlagDataEndStream, FlagDataPadded, FlagHeadersEndStream,
-- FlagHeadersEndHeaders, FlagHeadersPadded, FlagHeadersPriority, FlagSettingsAck, FlagPingAck,
-- FlagContinuationEndHeaders, FlagPushPromiseEndHeaders, FlagPushPromisePadded (the model has one
-- constant per bit value, Go one per frame type and bit)
open Req.H2.Frame in
theorem flags_eq :
    flags = [flagEndStream, flagPadded, flagEndStream, flagEndHeaders, flagPadded, flagPriority,
             flagAck, flagAck, flagEndHeaders, flagEndHeaders, flagPadded] := by decide

-- frameHeaderLen, minMaxFrameSize, maxFrameSize (= what `SetMaxReadFrameSize` clamps to)
open Req.H2.Frame in
theorem sizes_eq : sizes = [9, 16384, setMaxReadFrameSize 4294967295] := by decide

open Req.H2.Frame in
theorem errCodes_eq : errCodes = [errProtocol, errFlowControl, errFrameSize, errCompression] := by decide

open Req.H3.Frame in
theorem settingIds_eq : settingIds = [settingExtendedConnect, settingDatagram] := by decide

open Req.H3.Frame in
theorem reservedTypes_eq (t : Nat) : isReservedType t = reservedTypes.contains t := by
  simp only [isReservedType, reservedTypes, List.contains, List.elem, Bool.or_assoc]
  cases h2 : t == 2 <;> cases h6 : t == 6 <;> cases h8 : t == 8 <;> cases h9 : t == 9 <;> rfl

/-- the frame types `ParseNext` returns and the SETTINGS size cap, as numerals: the model's
`parseNext` / `parseSettingsFrame` write 0, 1, 4 and 8192 as literals, so no model term stands on the
right (`settingsCap_model` ties the cap to `parseSettingsFrame`). -/
theorem returnedTypes_eq : returnedTypes = [0, 1, 4] ∧ settingsCap = 8192 := by decide

open Req.H3.Frame in
theorem settingsCap_model (input : Req.Proto.Bytes) :
    (parseSettingsFrame (settingsCap + 1) input).1 = .error .settingsTooLarge := by
  simp [parseSettingsFrame, settingsCap]

theorem invalidHeaderFields_eq : invalidHeaderFields = Req.H3.Fields.invalidHeaderFields := by decide

end Bridge.C05
