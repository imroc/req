import Bridge.C20
/-!
Strict form of the C20 bridge: the regenerated `hashFuncs` table EQUALS the model's table. It does
not build against a digest.go whose table maps `SHA-512-256(-sess)` to `crypto/sha512.New`.
-/
namespace Bridge.C20
open Req.Proto Req.Digest

theorem hash_table_agrees : genTable = hashTable.map (fun e => (e.1, some e.2)) := by decide

theorem lookup_map_some (name : Bytes) : ∀ ms : List (Bytes × Alg),
    (match lookup name (ms.map (fun e => (e.1, some e.2))) with
      | some (some a) => some a | _ => none) = lookup name ms
  | [] => by simp [lookup]
  | (k, v) :: ms => by
    simp only [List.map, lookup]
    by_cases hn : (name == k) = true
    · simp [hn]
    · simp only [hn]; exact lookup_map_some name ms

/-- **alg_table_agrees**: for every algorithm name, `hashFuncs[name]` is the model's (= RFC
7616's) algorithm. -/
theorem alg_table_agrees (name : Bytes) : genAlgOf name = algOf name := by
  unfold genAlgOf algOf
  rw [hash_table_agrees]
  exact lookup_map_some name hashTable

end Bridge.C20
