import Generated.C08Facts
import Req.Props.C08
/-!
Bridge for C08: the facts regenerated from request.go (`Request.do`) against the model.

* the wait between retry attempts has one of the two shapes the model knows, and it selects on
  the request context. gofacts sets `openFindingRetrySleep` when known-findings.txt has a line
  `open: property=C08 class=retry-sleep-ignores-ctx`; it has none (the finding is recorded `fixed:`), the
  flag is `false`, and the first disjunct of `retry_wait_selects_ctx` is the one that holds;
* `Request.do` stops retrying on `context.Canceled` (`contextCanceled` guard);
* `cancel_prompt` for the configuration whose sleep fact is the regenerated one.
-/
namespace Bridge.C08
open Req.Cancel Generated.C08Facts

theorem retry_wait_shape_known :
    retrySleepShape = "select-ctx-done" ∨ retrySleepShape = "time.Sleep" := by decide

theorem retry_wait_shape_consistent :
    retrySleepSelectsCtx = (retrySleepShape == "select-ctx-done") := by decide

/-- the sleep fact `cancel_prompt` needs holds of the tree -/
theorem retry_wait_selects_ctx :
    retrySleepSelectsCtx = true ∨ openFindingRetrySleep = true := by decide

/-- `finish` of the model stops on `context.Canceled` because `Request.do` does -/
theorem stops_on_context_canceled : stopsOnContextCanceled = true := by decide

/-- the model configuration of the current tree -/
def treeCfg (c : Cfg) : Cfg := { c with sleepSelectsCtx := retrySleepSelectsCtx }

/-- `cancel_prompt` at `treeCfg`, without its `bodyClosedOnce` conjunct; the regenerated fact stays a hypothesis
(`retry_wait_selects_ctx` and `openFindingRetrySleep = false` discharge it) -/
theorem cancel_prompt_on_tree (hfact : retrySleepSelectsCtx = true) (c : Cfg)
    (s : St) (hreach : Reach (treeCfg c) s) (e : CtxErr)
    (hcan : evGuard (treeCfg c) s (.cancel e) = true)
    (as : List Act) (s' : St) (hrun : Run (treeCfg c) (evApply (treeCfg c) s (.cancel e)) as s') :
    as.length ≤ K ∧ s'.sleepsDone = s.sleepsDone ∧
    (stuck (treeCfg c) s' = true →
      s'.phase = .done ∧ s'.result.identifies e = true ∧ s'.res.released = true) := by
  obtain ⟨h1, h2, h3⟩ := Req.Props.C08.cancel_prompt (treeCfg c) hfact s hreach e hcan as s' hrun
  refine ⟨h1, h2, fun h => ?_⟩
  obtain ⟨hdone, hres, hrel, -⟩ := h3 h
  exact ⟨hdone, hres, hrel⟩

end Bridge.C08
