import Generated.C18Facts
import Req.Client.Result
/-!
C18 bridge: the facts regenerated from /repo by tools/gofacts (c18.go) equal the model's.
A source edit that moves a threshold, reorders the ResultState constants, changes or drops an
auto-read guard or the 204 special-casing changes `Generated/C18Facts.lean` and breaks one of
these proofs. The proofs do not depend on the SHAPE of the generated decision tree (if-chain,
guard clauses, switch, hoisted locals, inlined helper all give trees that `split` + `omega`
handle alike).
-/
namespace Bridge.C18
open Req.Result Generated.C18Facts

/-- The model's states in the numbering of the source's `iota` block. -/
def code : ResultState → Nat
  | .success => successState
  | .error => errorState
  | .unknown => unknownState

theorem states_distinct : successState ≠ errorState ∧ errorState ≠ unknownState ∧ successState ≠ unknownState := by
  decide

theorem code_default (c : Int) : code (Req.Result.defaultChecker c) =
    if c > 199 ∧ c < 300 then successState else if c > 399 then errorState else unknownState := by
  unfold Req.Result.defaultChecker
  by_cases h1 : c > 199 ∧ c < 300
  · simp [h1, code]
  · by_cases h2 : c > 399 <;> simp [h1, h2, code]

macro "bridge_cases" : tactic => `(tactic| (
  repeat' split
  all_goals first
    | rfl
    | (exfalso
       simp only [Bool.and_eq_true, Bool.or_eq_true, decide_eq_true_eq, Bool.not_eq_true', Bool.not_eq_true,
         decide_eq_false_iff_not, not_and, not_or, Bool.and_eq_false_iff, Bool.or_eq_false_iff, gt_iff_lt, ge_iff_le] at *
       omega)))

/-- `defaultResultStateChecker` as evaluated from the source = the model, for EVERY integer. -/
theorem default_checker_agrees (c : Int) : Generated.C18Facts.defaultChecker c = code (Req.Result.defaultChecker c) := by
  rw [code_default]; unfold Generated.C18Facts.defaultChecker
  simp only [successState, errorState, unknownState]
  bridge_cases

/-- every auto-read block (Client.roundTrip; the digest middleware) tests the one status boundary
200 — the generator writes a boundary `b` for a condition that means `code ≥ b` —, and
Client.roundTrip has one; `auto_read_boundary` is the same boundary on the model's side -/
theorem auto_read_sites_shape :
    (∃ site ∈ autoReadSites, site.1 = "roundTrip") ∧ ∀ site ∈ autoReadSites, site.2 = [200] := by
  decide

theorem auto_read_boundary (c : Int) : autoReadStatus c = decide (c ≥ 200) := by
  simp only [autoReadStatus, decide_eq_decide]
  omega

/-- `parseResponseBody` special-cases exactly the model's `noContent` status. -/
theorem parse_points_shape : parseStatusPoints = [noContent] := by
  decide

end Bridge.C18
