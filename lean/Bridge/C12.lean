import Generated.C12Facts
import Req.Props.C12
import Req.Props.C12Paths
import Req.Props.C12Resume
/-!
# C12 — bridging theorems over the regenerated selector / wiring tables

`Generated.C12Facts.sites` lists every selector `X.TLSClientConfig`, `X.DialTLSContext`,
`X.TLSHandshakeContext` of client.go, transport.go (+ the rest of the root package),
internal/http2 and internal/http3 with the struct that declares the selected field
(go/types); `Generated.C12Facts.wiring` the `Options: &X.Options` construction sites.

The facts about the tables are checked by `decide` against the source as regenerated on every run;
the other theorems are the Props theorems with those facts put in for their premises.
`h3_source_repaired` demands that the HTTP/3 dial site reads the shared options (tree with
`fixes/C12-1-http3-tls-config-shadow.patch` applied): `tls_uniform`'s premise is then discharged
outright, and anything else breaks the build of this module. The statement of
`tls_uniform_generated` has a second disjunct for the shadowing by
`http3.RoundTripper.TLSClientConfig` (`knownShadow`, finding class `h3-tls-shadow`); its proof takes the first.
-/
namespace Bridge.C12
open Req.Pool.TLS Req.Props.C12 Generated.C12Facts

/-- Every setter (`SetTLSClientConfig`, `GetTLSClientConfig`, `SetDialTLS`, `SetTLSHandshake`,
`EnableH2C`, `T()`) writes the shared options struct. -/
theorem setters_write_shared : settersShared sites = true := by decide +kernel

/-- The HTTP/1.1 and HTTP/2 dial sites (`addTLS`, `newTLSConfig`) read the client's options. -/
theorem tcp_stacks_read_client_options :
    source sites .h1 = .clientOptions ∧ source sites .h2 = .clientOptions := by decide +kernel

/-- `DialTLSContext` / `TLSHandshakeContext` are read from the shared struct by both TCP stacks
and by nothing in internal/http3. -/
theorem custom_hooks_uniform : customHooksUniform sites = true := by decide +kernel

/-- The un-patched HTTP/3 dial site, exactly: every `TLSClientConfig` read in internal/http3
(there are some) resolves to a field of the stack's own struct. -/
def knownShadow (s : List Site) : Bool :=
  !(readSites s .h3).isEmpty && (readSites s .h3).all (fun x => x.decl = .stackLocal)

/-- The regenerated table is the repaired one: every stack's dial site reads the client's
shared options (re-introducing a stack-local `TLSClientConfig` breaks this obligation). -/
theorem h3_source_repaired : uniformSource sites = true := by
  decide +kernel

/-- `tls_uniform` with its premise discharged over the regenerated table: the left disjunct, by
`h3_source_repaired`. -/
theorem tls_uniform_generated :
    (∀ (accepts : VerifyCfg → ServerCert → Bool) (client : Option TlsCfg) (own : Stack → Option TlsCfg)
        (host : Nat) (o1 o2 o3 : Bool) (cert : ServerCert),
      accepts (verifyPart (effective .h1 o1 host (cfgRead sites client own .h1))) cert
        = accepts (verifyPart (effective .h2 o2 host (cfgRead sites client own .h2))) cert
      ∧ accepts (verifyPart (effective .h2 o2 host (cfgRead sites client own .h2))) cert
        = accepts (verifyPart (effective .h3 o3 host (cfgRead sites client own .h3))) cert)
    ∨ knownShadow sites = true :=
  .inl (tls_uniform sites ((uniformSource_iff sites).1 h3_source_repaired))

/-- The two TCP stacks are uniform whatever the HTTP/3 dial site reads. -/
theorem tls_uniform_tcp (accepts : VerifyCfg → ServerCert → Bool) (client : Option TlsCfg)
    (own : Stack → Option TlsCfg) (host : Nat) (o1 o2 : Bool) (cert : ServerCert) :
    accepts (verifyPart (effective .h1 o1 host (cfgRead sites client own .h1))) cert
      = accepts (verifyPart (effective .h2 o2 host (cfgRead sites client own .h2))) cert := by
  simp only [cfgRead, tcp_stacks_read_client_options.1, tcp_stacks_read_client_options.2]
  rw [effective_verify .h1, effective_verify .h2]

/-- Every protocol stack is constructed over the options of the transport it is stored into:
`T()`, `Transport.Clone` (t2 literal, `EnableHTTP3` called on the clone), `EnableHTTP3`. -/
theorem stacks_wired_to_owner :
    wireOK wiring .newT .h2 = true ∧ wireOK wiring .clone .h2 = true
    ∧ (wireOK wiring .clone .h3 && wireOK wiring .enableHTTP3 .h3) = true := by decide +kernel

/-- `clone_keeps_source` with its premises discharged. -/
theorem clone_keeps_source_generated (w : Wiring) (fresh : Nat) :
    (cloneWiring wiring w fresh).wired
    ∧ ∀ s o, (cloneWiring wiring w fresh).optsOf s = some o → o = fresh :=
  clone_keeps_source wiring stacks_wired_to_owner.2.1 stacks_wired_to_owner.2.2 w fresh

/-- The un-repaired closure, exactly: trust roots and `InsecureSkipVerify` are the client's,
`ServerName` and `Certificates` are not (finding class `fingerprint-ignores-servername-certs`,
repaired by `fixes/C12-5-fingerprint-servername-certs.patch`). -/
def knownFpGap (l : List FpField) : Bool :=
  l.contains .rootCAs && l.contains .insecureSkipVerify && !l.contains .serverName && !l.contains .certificates

/-- The regenerated data-flow fact: every field verification and client authentication look at
comes from the client's `tls.Config` (the premise of `tls_uniform_paths`). Anything else — a
closure that stops copying `RootCAs` or `InsecureSkipVerify`, or the gap `knownFpGap` that
`fixes/C12-5` repaired — breaks the build of this module. -/
theorem fp_covers : fpCovers fpCopied = true := by decide +kernel

/-- `tls_uniform_paths` with its premise discharged over the regenerated fact. -/
theorem tls_uniform_paths_generated :
    (∀ (h : Hooks) (accepts : VerifyCfg → ServerCert → Bool) (p q : DialPath) (o o' : Bool) (host : Nat)
        (read : Option TlsCfg) (c c' : TlsCfg) (cert : ServerCert),
      pathCfg fpCopied h p o host read = some c → pathCfg fpCopied h q o' host read = some c' →
      accepts (verifyPart c) cert = accepts (verifyPart c') cert ∧ c.certs = c'.certs) := by
  intro hk accepts p q o o' host read c c' cert hp hq
  exact tls_uniform_paths fpCopied fp_covers hk accepts p q o o' host read c c' cert hp hq

/-- Without `SetTLSFingerprint*` (and without `SetTLSHandshake`) every dial path — direct, proxy tunnel,
HTTP/2's own dial, QUIC — is uniform; the proof does not use `fp_covers`: with no handshake hook the
fingerprint closure governs no path. -/
theorem tls_uniform_paths_builtin (dial : Bool) (accepts : VerifyCfg → ServerCert → Bool) (p q : DialPath)
    (o o' : Bool) (host : Nat) (read : Option TlsCfg) (c c' : TlsCfg) (cert : ServerCert)
    (hp : pathCfg fpCopied ⟨dial, none⟩ p o host read = some c)
    (hq : pathCfg fpCopied ⟨dial, none⟩ q o' host read = some c') :
    accepts (verifyPart c) cert = accepts (verifyPart c') cert ∧ c.certs = c'.certs := by
  refine tls_uniform_paths_where_governed fpCopied ⟨dial, none⟩ (fun p hg => ?_) accepts p q o o' host read c c' cert hp hq
  cases p <;> cases dial <;> simp [governs, hsGoverns] at hg

/-- No stack stores a session cache of its own into the configuration of a dial: a re-dial
cannot resume a session established under earlier settings (a `ClientSessionCache` inside the
user's own `tls.Config` is the user's setting). -/
theorem no_library_session_cache : sessionCacheWrites = 0 := by decide +kernel

/-- `redial_governed_by_current_settings` over the regenerated fact. -/
theorem redial_governed_by_current_settings_generated (sess : Option Session) (v : VerifyCfg) (cert : ServerCert) :
    acceptsRedial sessionCacheWrites sess v cert = acceptsStd v cert := by
  rw [no_library_session_cache]; exact redial_governed_by_current_settings sess v cert

end Bridge.C12
