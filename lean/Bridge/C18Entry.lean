import Generated.C18Entry
import Req.Client.Pipeline
/-!
C18 bridge: the send entry points of package req, as regenerated from /repo by
tools/gofacts (c18entry.go), obey the rules the call-level theorems assume — stated BY RULE over
whatever functions the source defines, not by a table of names:

* every exported function / method that reaches the core `(*Request).do` and returns
  `(*Response, error)` ("verb style": `Send`, `Get`, `Post`, … and the package-level wrappers)
  passes the error hook exactly once on its way and never panics;
* every exported one that returns only `*Response` is either "Do style" — the hook is not on its
  path, nothing panics — or "Must style" — the hook is on its path exactly once and the function
  (or the Must function it delegates to) panics with the error result of the sender it calls;
* whoever calls the core directly is Do style; a function that invokes the hook itself reaches
  the core only through Do-style functions (so the hook cannot run twice).

An added or changed entry point that bypasses the hook, runs it twice, or panics with something
else breaks these `decide`d statements; one that follows the rules does not, nor do renamed
locals, reordered statements or extracted helpers (paths are followed through helpers).
-/
namespace Bridge.C18Entry
open Generated.C18Entry

/-- Depth to which paths are followed. It suffices when the call graph has no cycle (a path then
passes at most `fns.length` functions); nothing here proves there is none, and below the cut
`hookCount` contributes a silent 0, `reachesCore` a silent `false`. -/
def fuel : Nat := fns.length + 1

/-- how many invocations of the error hook lie on the paths from function `i` -/
def hookCount : Nat → Nat → Nat
  | 0, _ => 0
  | k + 1, i =>
    match fns[i]? with
    | none => 0
    | some f => (if f.hook then 1 else 0) + (f.calls.map (hookCount k)).sum

def reachesCore : Nat → Nat → Bool
  | 0, _ => false
  | k + 1, i =>
    i == core ||
    match fns[i]? with
    | none => false
    | some f => f.calls.any (reachesCore k)

/-- no function on any path from `i` panics -/
def panicFree : Nat → Nat → Bool
  | 0, _ => true
  | k + 1, i =>
    match fns[i]? with
    | none => true
    | some f => !f.panics && f.calls.all (panicFree k)

/-- `i` panics with the error result of the sender it calls, or delegates to functions that do -/
def mustStyle : Nat → Nat → Bool
  | 0, _ => false
  | k + 1, i =>
    match fns[i]? with
    | none => false
    | some f => (f.panics && f.panicArgIsCalleeErr) || (!f.panics && !f.calls.isEmpty && f.calls.all (mustStyle k))

def isEntry (f : Fn) (i : Nat) : Bool := f.exported && reachesCore fuel i

/-- the model's entry kind of an exported sender -/
def kindOf (f : Fn) (i : Nat) : Req.Pipeline.Entry :=
  if mustStyle fuel i then .must
  else if f.results == .respErr then (if f.hook then .send else .verb)
  else .do_

def forallFns (p : Fn → Nat → Bool) : Bool :=
  (List.range fns.length).all fun i => match fns[i]? with | some f => p f i | none => true

/-- verb style: hook exactly once on the path, no panic -/
theorem verb_style_runs_hook_once :
    forallFns (fun f i => !(isEntry f i && f.results == .respErr) || (hookCount fuel i == 1 && panicFree fuel i)) = true := by
  decide +kernel

/-- `*Response`-only entry points: Do style (no hook, no panic) or Must style (hook once, panics
with the error the non-Must form returns) -/
theorem do_or_must_style :
    forallFns (fun f i => !(isEntry f i && f.results == .resp) ||
      ((hookCount fuel i == 0 && panicFree fuel i) || (hookCount fuel i == 1 && mustStyle fuel i))) = true := by
  decide +kernel

/-- whoever calls the core directly is Do style, and the hook caller reaches the core only
through Do-style functions -/
theorem core_only_through_do_style :
    forallFns (fun f _ => !(f.calls.contains core) || (f.results == .resp && !f.hook && !f.panics)) = true ∧
    forallFns (fun f _ => !f.hook || f.calls.all (fun j => hookCount fuel j == 0)) = true := by
  decide +kernel

/-- the hook count of every entry point is 0 when its kind (`kindOf`) is `Do` style and 1
otherwise: the two numbers `Req.Props.C18.onError_once` has for a call of that `Entry` kind that
ends in error with a hook installed -/
theorem hook_count_matches_model :
    forallFns (fun f i => !isEntry f i || f.results == .err || f.results == .other ||
      (hookCount fuel i == if kindOf f i == .do_ then 0 else 1)) = true := by
  decide +kernel

/-- non-vacuity: the graph was resolved — at least 8 verb-style, 8 Must-style entry points, a
Do-style one, and exactly one function that invokes the hook itself -/
theorem entry_points_present :
    ((List.range fns.length).filter fun i => match fns[i]? with
      | some f => isEntry f i && f.results == .respErr | none => false).length ≥ 8 ∧
    ((List.range fns.length).filter fun i => match fns[i]? with
      | some f => isEntry f i && mustStyle fuel i | none => false).length ≥ 8 ∧
    ((List.range fns.length).filter fun i => match fns[i]? with
      | some f => isEntry f i && f.results == .resp && hookCount fuel i == 0 | none => false).length ≥ 1 ∧
    (fns.filter (·.hook)).length = 1 := by
  decide +kernel

end Bridge.C18Entry
