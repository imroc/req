import Generated.C14Facts
import Req.Client.CompressShape
/-!
Bridge for C14: what `tools/gofacts` extracted from the current source equals the model's
tables. Every fact is an `Option`: `none` = the construct could not be LOCATED in the shape
family the extractor reads (if/else-if chain or tagless switch; conditions in either operand
order, through parentheses, `&&` and nested ifs; values hoisted into single-assignment locals;
statements in any order; calls to unexported same-package helpers inlined one level deep) —
no claim is made then and nothing alarms: every part of these shapes is pinned behaviourally
by the C14 lanes. A construct that IS located but differs (dropped flag or guard, other test,
other token, missing/extra/unclassifiable statement → marker `other:…`) breaks the obligation.

* `arms_eq`, `libs_eq`: the switch arms of `compress.NewCompressReader` are `Req.Compress.arms`;
  each lazy reader constructs the library the trusted base names (deflate = compress/flate).
* `site_h1/h2/h3`: the located decoding chain of each call site is `Req.Compress.shape s`
  (`Legacy.shape s` is not accepted) and tests the named flag field;
  the located ask-for-gzip condition has the model's conjuncts.
  `Req.Props.C14.interp_shape_*` give the shapes their meaning (`decideCore`, `decideH3`).
* `sites_same_shape`: the located chains are the same decision.
-/
namespace Bridge.C14
open Req.Compress

def ctorAlg (s : String) : Option Alg :=
  if s == "NewGzipReader" then some .gzip
  else if s == "NewDeflateReader" then some .deflate
  else if s == "NewBrotliReader" then some .br
  else if s == "NewZstdReader" then some .zstd
  else none

/-- if the switch was located, it is the model's table. -/
theorem arms_eq :
    Generated.C14Facts.arms.all (fun g =>
      decide (g.map (fun p => (p.1, ctorAlg p.2)) = arms.map (fun p => (p.1, some p.2)))) = true := by
  decide +kernel

/-- each lazy reader whose constructor call was located constructs the library the
trusted base names (deflate = compress/flate: a RAW deflate stream). -/
theorem libs_eq :
    Generated.C14Facts.libs.all (fun p => p.2 == "" ||
      [("GzipReader", "compress/gzip"), ("DeflateReader", "compress/flate"),
       ("BrotliReader", "github.com/andybalholm/brotli"),
       ("ZstdReader", "github.com/klauspost/compress/zstd")].contains p) = true := by
  decide +kernel

def convAsk (s : String) : Ask :=
  if s == "notDisabled" then .notDisabled
  else if s == "noHeader:Accept-Encoding" then .noAcceptEncoding
  else if s == "noHeader:Range" then .noRange
  else if s == "notHead" then .notHead
  else .other

def convTest (s : String) : GzipTest :=
  if s == "==" then .eq else if s == "ascii.EqualFold" then .equalFold else .other

def convAuto (s : String) : AutoCond :=
  if s == "auto" then .auto else if s == "notHead" then .notHead else .other

def convGuard (s : String) : Guard :=
  if s == "reader-exists" then .readerExists
  else if s == "encoding-nonempty" then .encodingNonempty else .other

def convEffect (s : String) : Effect :=
  if s == "" then .none
  else if s == "del:Content-Encoding" then .delContentEncoding
  else if s == "del:Content-Length" then .delContentLength
  else if s == "ContentLength=-1" then .contentLengthMinus1
  else if s == "Uncompressed=true" then .uncompressedTrue
  else if s == "set:Body:raw" then .set .body .raw
  else if s == "set:Body:gzip" then .set .body .gzipReader
  else if s == "set:Body:reader" then .set .body .reader
  else if s == "set:Body:field:responseBody" then .set .body .responseBody
  else if s == "set:responseBody:raw" then .set .responseBody .raw
  else if s == "set:responseBody:gzip" then .set .responseBody .gzipReader
  else if s == "set:responseBody:reader" then .set .responseBody .reader
  else .other

/-- Strings → the model's enums; conjuncts and the (mutually independent) statements of a block
are put in canonical order, so reordering them in the source is not a shape change. The
request-side conjuncts are a separate fact (`askOk`). -/
def conv (g : Generated.C14Facts.Site) : SiteShape where
  ask := []
  gzipTest := convTest g.gzipTest
  gzipToken := g.gzipToken
  gzipEffects := canonEffects (g.gzipEffects.map convEffect)
  autoConds := canonAuto (g.autoConds.map convAuto)
  autoGuard := convGuard g.autoGuard
  autoEffects := canonEffects (g.autoEffects.map convEffect)
  elseEffects := canonEffects (g.elseEffects.map convEffect)
  before := convEffect g.before
  after := convEffect g.after

/-- a located decoding chain is the model's shape, and its flag field is the named one -/
def siteOk (s : Site) (flag : String) (g : Option Generated.C14Facts.Site) : Bool :=
  g.all (fun g => decide (conv g = { shape s with ask := [] }) && g.gzipFlag == flag)

/-- a located ask-for-gzip condition has the model's conjuncts -/
def askOk (s : Site) (a : Option (List String)) : Bool :=
  a.all (fun a => decide (canonAsk (a.map convAsk) = (shape s).ask))

theorem site_h1 : siteOk .h1 "addedGzip" Generated.C14Facts.h1 = true ∧ askOk .h1 Generated.C14Facts.h1Ask = true := by
  decide +kernel

theorem site_h2 : siteOk .h2 "requestedGzip" Generated.C14Facts.h2 = true ∧ askOk .h2 Generated.C14Facts.h2Ask = true := by
  decide +kernel

theorem site_h3 : siteOk .h3 "requestedGzip" Generated.C14Facts.h3 = true ∧ askOk .h3 Generated.C14Facts.h3Ask = true := by
  decide +kernel

/-- What must coincide for the three sites to be one decision: the gzip test and token, the
guard, and the set of header-rewrite statements of both branches. -/
def essence (s : SiteShape) : GzipTest × Req.Proto.Bytes × Guard × Option Bool × Option Bool :=
  (s.gzipTest, s.gzipToken, s.autoGuard, strips s.gzipEffects, strips s.autoEffects)

def sameEssence (a b : Option Generated.C14Facts.Site) : Bool :=
  match a, b with
  | some a, some b => decide (essence (conv a) = essence (conv b))
  | _, _ => true

theorem sites_same_shape :
    sameEssence Generated.C14Facts.h1 Generated.C14Facts.h2 = true ∧
    sameEssence Generated.C14Facts.h2 Generated.C14Facts.h3 = true ∧
    sameEssence Generated.C14Facts.h1 Generated.C14Facts.h3 = true := by
  decide +kernel

end Bridge.C14
