import Generated.Locks
import Req.Lemmas.C09Lockset
import Req.Lemmas.ListFacts
/-!
Bridge for C09: the lock-set table regenerated from /repo by `tools/gofacts/c09.go`
(`Generated.Locks.fields`) satisfies the lock-set discipline.
-/
namespace Bridge.C09
open Req.Pool.Lockset

/-- (field id, function) sites exempted from the check as confirmed lock-set defects. There is none:
`anchored_fields_guarded` is the unconditional statement, and the facts lane
(`TestVerif_C09_locksetfacts`) checks the table without exemption as well. -/
def knownOpen : List (Nat × List Nat) := []

/-- Peer settings of an HTTP/2 `ClientConn` (`maxConcurrentStreams`, `initialWindowSize`,
`maxFrameSize`: "also guarded by wmu"): written under `mu` AND `wmu`, read under either. Such a field
need not have a lock common to all its sites; it follows the pairwise discipline. -/
def twoMutexIds : List Nat := [20, 21, 22]

/-- **anchored_fields_guarded**: every anchored shared field (and every `…Locked` calling
convention / inferred caller-holds helper) other than the two-mutex ones has a lock common to
all its access sites. -/
theorem anchored_fields_guarded :
    allGuardedExcept knownOpen (Generated.Locks.fields.filter (fun f => !twoMutexIds.contains f.1)) = true := by
  decide +kernel

/-- **anchored_fields_pairwise**: EVERY field of the table — the two-mutex ones included —
satisfies the pairwise discipline (each two sites of which one can write share a lock). -/
theorem anchored_fields_pairwise : allPairGuarded Generated.Locks.fields = true := by decide +kernel

/-- The anchored fields are all present: the alt-svc state, the HTTP/1.1 pool and per-host accounting
of `Transport`, the HTTP/2 `clientConnPool` and the HTTP/3 `RoundTripper` cache (0–13, names in
`Generated.Locks.fieldNames`), the HTTP/2 demultiplexer state of a
`ClientConn` under `cc.mu` (14 streams, 15 nextStreamID, 16 pendingRequests, 17 streamsReserved,
18 goAway, 19 closed), the peer settings (20–22), the HTTP/3 datagram stream table (23) and the
write side of an HTTP/2 connection under `cc.wmu` (24 bw, 25 hbuf, 26 the Framer's `Write*`). -/
theorem anchored_fields_present :
    ((List.range 27).all (fun i => (Generated.Locks.fields.lookup i).isSome)) = true := by decide +kernel

/-- Field ids checked for a common lock. -/
def strictIds : List Nat :=
  (Generated.Locks.fields.map (·.1)).filter
    (fun i => !((knownOpen.map (·.1)).contains i) && !twoMutexIds.contains i)

theorem strict_fields_guarded :
    strictIds.all (fun x =>
      match Generated.Locks.fields.lookup x with
      | some as => guarded (as.map ofTuple) && !(live (as.map ofTuple)).isEmpty
      | none => false) = true := by decide +kernel

/-- **anchored_no_race**: for every field checked without exemption, no well-formed execution
that conforms to the extracted access sites contains a data race on it. -/
theorem anchored_no_race (x : Nat) (hx : x ∈ strictIds) (tr : List Ev) (hwf : WF tr)
    (hc : Conforms (factsOf Generated.Locks.fields) tr) : ¬ Race tr x := by
  have h := List.all_eq_true.mp strict_fields_guarded x hx
  cases hl : Generated.Locks.fields.lookup x with
  | none => rw [hl] at h; simp at h
  | some as =>
    rw [hl] at h
    simp only [Bool.and_eq_true, Bool.not_eq_true', List.isEmpty_eq_false_iff] at h
    obtain ⟨l, hcom⟩ := Req.Lemmas.C09Lockset.guarded_gives_common (as.map ofTuple) h.1 h.2
    apply Req.Lemmas.C09Lockset.static_lockset_sound (factsOf Generated.Locks.fields) tr hwf hc x l
    intro s hs
    simp only [factsOf, hl, List.mem_map] at hs
    obtain ⟨a, ha, rfl⟩ := hs
    exact hcom a ha

/-- **anchored_no_race_pairwise**: for EVERY field of the table (two-mutex fields included), no
well-formed execution that conforms to the extracted access sites (with their write flags)
contains a data race on it. -/
theorem anchored_no_race_pairwise (x : Nat) (tr : List Ev) (hwf : WF tr)
    (hc : ConformsW (factsOfW Generated.Locks.fields) tr) : ¬ Race tr x := by
  apply Req.Lemmas.C09Lockset.static_lockset_sound_pairwise (factsOfW Generated.Locks.fields) tr hwf hc x
  intro a ha b hb hw
  cases hl : Generated.Locks.fields.lookup x with
  | none => simp [factsOfW, hl] at ha
  | some as =>
    simp only [factsOfW, hl, List.mem_map] at ha hb
    obtain ⟨a', ha', rfl⟩ := ha
    obtain ⟨b', hb', rfl⟩ := hb
    have hmem : (x, as) ∈ Generated.Locks.fields := List.lookup_mem hl
    have hg : pairGuarded (as.map ofTuple) = true :=
      List.all_eq_true.mp anchored_fields_pairwise (x, as) hmem
    exact Req.Lemmas.C09Lockset.pairGuarded_gives_shared _ hg a' b' ha' hb' hw

end Bridge.C09
