import Generated.C18Finish
import Req.Client.Finish
/-!
C18 bridge: the two FINISHING SITES of the Go code have the shape of the model's
`Site.combine`; whether a site attempts the save step is compared with `modelRow`'s own reading,
which `modelRow_attempts` ties to `Site.saves` for the digest tail.

`Generated.C18Finish` (tools/gofacts c18finish.go) is the meaning of each site as an interpreter
of its statements finds it: per world (output set, binding fails, saving fails) the error the
site ends with and whether the save step is attempted. The theorems below say the table of
each site is the model's, world by world, and that all six worlds are present. An edit that lets
a successful save cover a binding failure, that stops recording one of the two
failures in the client loop, that saves after a failed binding in the digest tail, or that
changes the built-in head of the client's middleware list changes the table and breaks a proof;
renamed locals, if/else ↔ guard clauses ↔ switch, named ↔ unnamed results, a helper around the
tail do not.
-/
namespace Bridge.C18Finish
open Req.Result Req.Pipeline

/-- The numbering of the generated table. -/
def code : Option Err → Nat
  | none => 0
  | some .unmarshal => 1
  | some .output => 2
  | some _ => 3

/-- The binding / saving failure of a world, as model errors. -/
def pOf (w : Bool × Bool × Bool) : Option Err := if w.2.1 then some .unmarshal else none
def sOf (w : Bool × Bool × Bool) : Option Err := if w.1 && w.2.2 then some .output else none

/-- What the model says about `site` in world `w`: the error it ends with — the save step's
failure counting only when the site attempts it — and whether it attempts it (9 = no output). -/
def modelRow (site : Site) (w : Bool × Bool × Bool) : List Nat × Nat :=
  let attempts : Bool := match site with
    | .clientLoop => true
    | .digestTail => (pOf w).isNone
  ([code (site.combine (pOf w) (if attempts then sOf w else none))],
   if w.1 then (if attempts then 1 else 0) else 9)

def worlds : List (Bool × Bool × Bool) :=
  [(false, false, false), (false, true, false), (true, false, false), (true, false, true), (true, true, false), (true, true, true)]

/-- the client's built-in response middleware are binding, then saving -/
theorem client_builtins_shape : Generated.C18Finish.clientBuiltins = ["parseResponseBody", "handleDownload"] := by
  decide

/-- `Client.roundTrip`'s loop over the built-in head = the model's client-loop site, in every world -/
theorem client_loop_site_shape :
    Generated.C18Finish.clientLoop = worlds.map fun w => (w, modelRow .clientLoop w) := by
  decide

/-- the tail of the digest middleware = the model's digest-tail site, in every world -/
theorem digest_tail_site_shape :
    Generated.C18Finish.digestTail = worlds.map fun w => (w, modelRow .digestTail w) := by
  decide

/-- `modelRow`'s "attempts" for the digest tail is the model's `Site.saves` (repaired code). For the
client loop `modelRow` says "always"; the model's `Site.saves .clientLoop` is `false` on a response
without http response and on a digest challenge that is going to be answered
(`Req.Props.C18.challenge_is_not_saved`) — neither is a dimension of the six worlds. -/
theorem modelRow_attempts (s : Stack) (a : Nat) (r : Resp) (p : Option Err) (h : s.fixDigestSave = true) :
    Site.saves .digestTail s a r p = p.isNone := by
  simp [Site.saves, h]

/-- both sites, every world: no error at the end only when neither stage failed -/
theorem sites_lose_no_failure (site : Site) :
    ∀ w ∈ worlds, (modelRow site w).1 = [0] → w.2.1 = false ∧ (w.1 && w.2.2) = false := by
  cases site <;> decide

end Bridge.C18Finish
