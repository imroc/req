import Generated.C16Facts
import Req.H1.RequestWrite
import Req.H2.Fields
/-!
Bridge C16 / C01: the exclusion tables, bookkeeping keys and default user agent the models use are
the ones regenerated from the source of imroc/req by `tools/gofacts` (c16.go). A source edit that
adds, removes or re-spells a table entry or a key breaks one of these obligations.
-/
namespace Bridge.C16
open Generated.C16Facts

/-- equality of two key lists as sets. -/
def sameSet (a b : List (List UInt8)) : Bool := a.all (b.contains ·) && b.all (a.contains ·)

/-- root `reqWriteExcludeHeader` (exact-key lookup, HTTP/1.1 writer) -/
theorem root_exclude_table : sameSet rootExclude Req.H1.reqWriteExcludeHeader = true := by decide +kernel

theorem root_exclude_nodup : rootExclude.length = Req.H1.reqWriteExcludeHeader.length := by decide +kernel

/-- internal/header `reqWriteExcludeHeader` (lower-cased lookup, HTTP/2 and HTTP/3 writers) -/
theorem lower_exclude_table : sameSet lowerExclude Req.H2.excludeLower = true := by decide +kernel

theorem lower_exclude_nodup : lowerExclude.length = Req.H2.excludeLower.length := by decide +kernel

theorem header_order_key : headerOrderKey = Req.H1.headerOrderKey := by decide +kernel
theorem pseudo_header_order_key : pseudoHeaderOrderKey = Req.H1.pseudoHeaderOrderKey := by decide +kernel
/-- the setters (request.go) and the writers (internal/header) agree on the keys -/
theorem api_keys_agree :
    apiHeaderOrderKey = headerOrderKey ∧ apiPseudoHeaderOrderKey = pseudoHeaderOrderKey := by decide +kernel
theorem default_user_agent : defaultUserAgent = Req.H1.defaultUserAgent := by decide +kernel

/-- the bookkeeping keys are in both tables (so they can never be written as header fields) -/
theorem bookkeeping_excluded :
    rootExclude.contains headerOrderKey = true ∧ rootExclude.contains pseudoHeaderOrderKey = true ∧
    lowerExclude.contains headerOrderKey = true ∧ lowerExclude.contains pseudoHeaderOrderKey = true := by
  decide +kernel

/-- ALL internal keys: every `__name__` string literal anywhere in the module's sources is one of
the two bookkeeping keys the models know (`isBookkeeping`) — there is no third in-band key — … -/
theorem internal_keys_are_the_two :
    sameSet internalKeys [Req.H1.headerOrderKey, Req.H1.pseudoHeaderOrderKey] = true := by decide +kernel

/-- … and each of them is in the HTTP/1.1 table (exact key) and in the HTTP/2 / HTTP/3 table
(lower-cased lookup): a key added to the sources without being excluded breaks this. -/
theorem internal_keys_all_excluded :
    internalKeys.all (fun k => rootExclude.contains k && lowerExclude.contains (Req.Ascii.lower k)) = true := by
  decide +kernel

end Bridge.C16
