import Generated.DigestFacts
import Req.Client.Digest
/-!
Bridge for C20: the regenerated `hashFuncs` table of digest.go against the model's table
`Req.Digest.hashTable` (which is also the table of RFC 7616, `Req.Props.C20Legacy.alg_table_spec`).

This module proves agreement up to ONE tolerated deviation: a source table that maps
`SHA-512-256(-sess)` to `crypto/sha512.New` (the first C20 finding of known-findings.txt, which the
known-answer lane detects behaviourally, `class=c20-sha512-256-table`). Any other change of the table
— another entry, a new name, a dropped name, an unknown constructor — breaks it.
`Bridge/C20Strict.lean` proves plain equality.
-/
namespace Bridge.C20
open Req.Proto Req.Digest

/-- constructor identifier (as printed by gofacts) ↦ abstract algorithm -/
def ctorTable : List (Bytes × Alg) := [
  (b!"crypto/md5.New", .md5),
  (b!"crypto/sha256.New", .sha256),
  (b!"crypto/sha512.New512_256", .sha512_256),
  (b!"crypto/sha512.New", .sha512)
]

/-- The regenerated table with constructors mapped to algorithms (`none` = a constructor the
model does not know). -/
def genTable : List (Bytes × Option Alg) :=
  Generated.DigestFacts.hashFuncs.map fun e => (e.1, lookup e.2 ctorTable)

/-- `hashFuncs[name]` of the source, as an abstract algorithm. -/
def genAlgOf (name : Bytes) : Option Alg :=
  match lookup name genTable with
  | some (some a) => some a
  | _ => none

def entryOk (g : Bytes × Option Alg) (m : Bytes × Alg) : Bool :=
  g.1 == m.1 && (g.2 == some m.2 || (g.2 == some Alg.sha512 && m.2 == Alg.sha512_256))

def tablesOk : List (Bytes × Option Alg) → List (Bytes × Alg) → Bool
  | [], [] => true
  | g :: gs, m :: ms => entryOk g m && tablesOk gs ms
  | _, _ => false

/-- Entry by entry: same names in the same (sorted) order, same algorithm — or `sha512` where
`sha512_256` is required. -/
theorem hash_table_agrees_modulo_row13 : tablesOk genTable hashTable = true := by decide

theorem lookup_tablesOk (name : Bytes) :
    ∀ gs ms, tablesOk gs ms = true →
      (match lookup name gs with | some (some a) => some a | _ => none) = lookup name ms ∨
      ((match lookup name gs with | some (some a) => some a | _ => none) = some Alg.sha512 ∧
        lookup name ms = some Alg.sha512_256)
  | [], [], _ => by simp [lookup]
  | [], _ :: _, h => by simp [tablesOk] at h
  | _ :: _, [], h => by simp [tablesOk] at h
  | (gk, gv) :: gs, (mk, mv) :: ms, h => by
    simp only [tablesOk, entryOk, Bool.and_eq_true, Bool.or_eq_true, beq_iff_eq] at h
    obtain ⟨⟨hk, hv⟩, hrest⟩ := h
    subst hk
    simp only [lookup]
    by_cases hn : (name == gk) = true
    · simp only [hn, if_true]
      rcases hv with hv | ⟨hv, hm⟩
      · subst hv; left; rfl
      · subst hv; subst hm; right; exact ⟨rfl, rfl⟩
    · simp only [hn]
      exact lookup_tablesOk name gs ms hrest

/-- For EVERY algorithm name the source's table gives the model's algorithm, except that it may give
`sha512` where `sha512_256` is required (`alg_table_agrees` is the statement without the exception). -/
theorem alg_table_agrees_modulo_row13 (name : Bytes) :
    genAlgOf name = algOf name ∨
    (genAlgOf name = some Alg.sha512 ∧ algOf name = some Alg.sha512_256) :=
  lookup_tablesOk name genTable hashTable hash_table_agrees_modulo_row13

end Bridge.C20
