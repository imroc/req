import Req.Client.AuthSet
/-!
C20 — the setters, complete characterisation: for EVERY sequence of configuration calls the
`Authorization` value that leaves is determined by the LAST request-level call and the LAST
client-level call alone (nothing accumulates, nothing is skipped, no value — however degenerate —
is treated as "not configured").
-/
namespace Req.Props.C20
open Req.Proto Req.Auth Req.Ascii

/-- the field value a setter stores -/
def _root_.Req.Auth.SetOp.value : SetOp → Bytes
  | .clientBasic u p => basic u p
  | .clientBearer t => bearer t
  | .reqBasic u p => basic u p
  | .reqBearer t => bearer t

/-- what the last call of one level stored: `client = true` the client level, `false` the request
level -/
def lastValue (ops : List SetOp) (client : Bool) : Option Bytes :=
  ((ops.filter fun o => o.isClient == client).getLast?).map SetOp.value

theorem applyOp_eq (c : Conf) (o : SetOp) :
    applyOp c o = if o.isClient then { c with client := some o.value } else { c with request := some o.value } := by
  cases o <;> rfl

theorem lastValue_cons (o : SetOp) (rest : List SetOp) (b : Bool) :
    lastValue (o :: rest) b = (lastValue rest b).or (if o.isClient == b then some o.value else none) := by
  unfold lastValue
  rw [List.filter_cons]
  split
  · rw [List.getLast?_cons]; cases (rest.filter _).getLast? <;> rfl
  · cases (rest.filter _).getLast? <;> rfl

theorem foldl_applyOp_spec : ∀ (ops : List SetOp) (c : Conf),
    (ops.foldl applyOp c).request = (lastValue ops false).or c.request ∧
    (ops.foldl applyOp c).client = (lastValue ops true).or c.client
  | [], _ => ⟨rfl, rfl⟩
  | o :: rest, c => by
    obtain ⟨ihr, ihc⟩ := foldl_applyOp_spec rest (applyOp c o)
    rw [List.foldl_cons, ihr, ihc, lastValue_cons, lastValue_cons, applyOp_eq]
    cases o.isClient <;> simp

/-- **setters_characterised**: for EVERY sequence of calls and every URL: the value sent is
`effective` of what the last request-level call stored, what the last client-level call stored, and
the URL user information. -/
theorem setters_characterised (ops : List SetOp) (urlUser : Option (Bytes × Bytes)) :
    sent ops urlUser = effective (lastValue ops false) (lastValue ops true) urlUser := by
  unfold sent configure
  obtain ⟨hr, hc⟩ := foldl_applyOp_spec ops {}
  rw [hr, hc]
  simp

theorem lastValue_snoc (ops : List SetOp) (o : SetOp) : lastValue (ops ++ [o]) o.isClient = some o.value := by
  unfold lastValue
  have hf : ([o].filter fun x => x.isClient == o.isClient) = [o] := by simp
  rw [List.filter_append, hf, List.getLast?_concat]
  rfl

/-- a setter call is never a no-op: after it, its level holds a value — also for `("", "")` -/
theorem setter_always_stores (ops : List SetOp) (o : SetOp) (urlUser : Option (Bytes × Bytes)) :
    sent (ops ++ [o]) urlUser ≠ none := by
  rw [setters_characterised]
  have h := lastValue_snoc ops o
  cases ho : o.isClient <;> rw [ho] at h <;> rw [h]
  · nofun
  · cases lastValue (ops ++ [o]) false <;> nofun

example : lastValue [.clientBasic [97] [98], .reqBasic [] [], .clientBearer [116]] false = some (basic [] []) := by decide +kernel
example : sent [.clientBasic [97] [98], .reqBasic [] [], .clientBearer [116]] (some ([117], [112])) = some (basic [] []) := by
  decide +kernel

end Req.Props.C20
