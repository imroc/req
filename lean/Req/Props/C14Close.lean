import Req.Client.CompressClose
/-!
C14 — closing a decoded `Response.Body` closes the body underneath, for each of the four
wrappers of `internal/compress`, after any sequence of reads and closes, without waiting for
the server; and both statements are FALSE of the `Close` methods modelled under `Legacy`
(`Req.Client.CompressClose`: `DeflateReader.Close` before commit 1ae1001, `ZstdReader.Close`
before commit 0be7b6d), witnessed by `decide` and replayed by lanes `close` / `close_e2e` (classes
`deflate-close-leaves-body-open`, `zstd-close-waits-for-body`).
-/
namespace Req.Props.C14Close
open Req.Proto Req.Compress

/-- every `Close` of every wrapper calls the underlying `Body.Close`,
whether or not a decoder was built. -/
theorem close_reaches_body (a : Alg) (h : Handles) :
    (closeOf a h).bodyCloses = h.bodyCloses + 1 := by
  cases a <;> rfl

theorem read_keeps_body (h : Handles) : (readOf h).bodyCloses = h.bodyCloses := by
  unfold readOf; split <;> rfl

/-- after any sequence of reads and closes the underlying body has
been closed exactly as often as the wrapper was: in particular at least once as soon as the
caller closed it once (the connection / stream is released), never by a read. -/
theorem body_closes_eq_count (a : Alg) (h : Handles) (ops : List HOp) :
    (runOps closeOf a h ops).bodyCloses = h.bodyCloses + ops.count .close := by
  induction ops generalizing h with
  | nil => simp [runOps]
  | cons op ops ih =>
    cases op with
    | read => simp [runOps, ih, read_keeps_body]
    | close => simp [runOps, ih, close_reaches_body]; omega

theorem closed_once_closed (a : Alg) (ops : List HOp) (hc : HOp.close ∈ ops) :
    1 ≤ (runOps closeOf a .fresh ops).bodyCloses := by
  rw [body_closes_eq_count]
  have := List.count_pos_iff.mpr hc
  simp [Handles.fresh]; omega

/-- the decoder's own `Close` is only called on a decoder that exists -/
theorem decoder_closed_only_if_started (a : Alg) (h : Handles) (hs : h.started = false) :
    (closeOf a h).decoderCloses = h.decoderCloses := by
  cases a <;> simp [closeOf, hs]

/-- `GzipReader`: a read after `Close` neither builds a decoder nor touches the body -/
theorem gzip_read_after_close (h : Handles) : readOf (closeOf .gzip h) = closeOf .gzip h := rfl

example : (runOps closeOf .deflate .fresh [.read, .read, .close, .close]).bodyCloses = 2 := by decide
example : (runOps closeOf .zstd .fresh [.close]).decoderCloses = 0 := by decide

/-- no wrapper's `Close` depends on the server sending anything. -/
theorem close_never_waits (a : Alg) (h : Handles) : closeWaits a h = false := by
  cases a <;> rfl

/-- `close_never_waits` is false of `Legacy.closeWaits`: after a read, `ZstdReader.Close` waits
for the body -/
theorem legacy_zstd_close_waits :
    Legacy.closeWaits .zstd (readOf .fresh) = true := by decide

theorem legacy_waits_only (a : Alg) (h : Handles) (hw : Legacy.closeWaits a h = true) :
    a = .zstd ∧ h.started = true := by
  cases a <;> simp [Legacy.closeWaits] at hw ⊢
  exact hw.1

/-- `body_closes_eq_count` is false of `Legacy.closeOf`: a read, then `Close` of a
`DeflateReader`, and the body underneath is never closed (the HTTP/1.1 connection stays with a
blocked `readLoop`, an HTTP/2 stream keeps its window) -/
theorem legacy_deflate_close_leaks :
    (runOps Legacy.closeOf .deflate .fresh [.read, .close]).bodyCloses = 0 := by decide

/-- `Legacy.closeOf` differs from `closeOf` on a started `DeflateReader` only -/
theorem legacy_differs_only (a : Alg) (h : Handles) (hne : ¬(a = .deflate ∧ h.started = true)) :
    Legacy.closeOf a h = closeOf a h := by
  cases a <;> simp [Legacy.closeOf] at hne ⊢
  simp [closeOf, hne]

end Req.Props.C14Close
