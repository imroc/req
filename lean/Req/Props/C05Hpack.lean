import Req.Lemmas.C05Hpack
import Req.Lemmas.C05ExceptEq
/-!
C05 — "whatever the client encodes (HPACK … integers) decodes in the reference decoder to exactly
what was encoded", for the HPACK primitives that carry every header block (RFC 7541 §5.1 integers,
§5.2 string literals with H = 0, §6.2.2/§6.2.3 literal fields with a new name). The model is tied to
`golang.org/x/net/http2/hpack` by lane `h2hpackprim`: the reference ENCODER's bytes for literal
fields equal `encodeBlock` byte for byte, and the reference DECODER reads hand-built blocks
(non-minimal integers, every truncation, overflow) as `decodeBlock` does.
-/
namespace Req.Props.C05
open Req.Proto Req.H2.Hpack Req.Lemmas.C05.Hpack

/-- `readVarInt(n, appendVarInt(n, i) ++ rest) = (i, rest)`: N-bit prefix (`hi` = the
representation's type bits, a multiple of `2^n` that fits the octet), any value below `2^n − 1 +
2^63` (the exact range of the reference decoder: its overflow rule stops at the tenth continuation
octet), anything after it. -/
theorem hpack_int_roundtrip (n hi i : Nat) (rest : Bytes) (hn1 : 1 ≤ n) (hn8 : n ≤ 8)
    (hhi : hi % 2 ^ n = 0) (hhi2 : hi + 2 ^ n ≤ 256) (hi' : i < 2 ^ n - 1 + 2 ^ 63) :
    readInt n (encodeInt n hi i ++ rest) = .ok (i, rest) :=
  int_roundtrip n hi i rest hhi hhi2 hi'

/-- RFC 7541 C.1.1–C.1.3: 10 with a 5-bit prefix, 1337 with a 5-bit prefix, 42 at an octet
boundary. -/
example : encodeInt 5 0 10 = [10] ∧ encodeInt 5 0 1337 = [31, 154, 10] ∧ encodeInt 8 0 42 = [42] := by
  decide
example : readInt 5 [31, 154, 10, 99] = .ok (1337, [99]) := by decide
/-- the range is sharp: `2^n − 1 + 2^63` needs a tenth continuation octet, which the reference
rejects (`errVarintOverflow`) … -/
example : readInt 7 (encodeInt 7 0 (127 + 2 ^ 63)) = .error .overflow := by decide
/-- … while `2^n − 2 + 2^63` is the largest value that round-trips. -/
example : readInt 7 (encodeInt 7 0 (126 + 2 ^ 63)) = .ok (126 + 2 ^ 63, []) := by decide
/-- non-minimal encodings (zero groups appended) are accepted by the reader: not injective on the
wire, which is why the lane compares DECODED lists, and the writer's output byte for byte. -/
example : readInt 7 [127, 128, 0] = .ok (127, []) ∧ readInt 7 [127, 0] = .ok (127, []) := by decide

/-- the prefix alone holds exactly the values below `2^n − 1`. -/
theorem hpack_int_one_byte_iff (n hi i : Nat) : (encodeInt n hi i).length = 1 ↔ i < 2 ^ n - 1 := by
  unfold encodeInt
  by_cases h : i < 2 ^ n - 1
  · simp [h]
  · simp only [h, ↓reduceIte, List.length_cons, iff_false]
    have := groups_length_pos (i - (2 ^ n - 1)) (i - (2 ^ n - 1))
    omega

example : (encodeInt 7 0 126).length = 1 ∧ (encodeInt 7 0 127).length = 2 ∧
    (encodeInt 7 0 (127 + 127)).length = 2 ∧ (encodeInt 7 0 (127 + 128)).length = 3 ∧
    (encodeInt 7 0 (127 + 16383)).length = 3 ∧ (encodeInt 7 0 (127 + 16384)).length = 4 := by decide

/-- cut an encoding anywhere — after the prefix octet, inside the continuation — and the reader asks
for more (never a wrong value, never an overflow). -/
theorem hpack_int_need_more (n hi i : Nat) (pre : Bytes) (hn1 : 1 ≤ n) (hn8 : n ≤ 8)
    (hhi : hi % 2 ^ n = 0) (hhi2 : hi + 2 ^ n ≤ 256) (hi' : i < 2 ^ n - 1 + 2 ^ 63)
    (hp : pre <+: encodeInt n hi i) (hne : pre ≠ encodeInt n hi i) :
    readInt n pre = .error .needMore := by
  have hpos : 0 < 2 ^ n := Nat.two_pow_pos _
  unfold encodeInt at hp hne
  by_cases hlt : i < 2 ^ n - 1
  · rw [if_pos hlt] at hp hne
    rw [proper_prefix_singleton hp hne]; rfl
  · rw [if_neg hlt] at hp hne
    cases pre with
    | nil => rfl
    | cons x xs =>
      obtain ⟨rfl, h2⟩ := List.cons_prefix_cons.mp hp
      rw [readInt, prefix_octet hhi hhi2 (by omega), if_neg (Nat.lt_irrefl _)]
      exact groups_prefix_needMore (i - (2 ^ n - 1)) (i - (2 ^ n - 1)) _ 0 xs (Nat.le_refl _)
        (by simp; omega) h2 fun hx => hne (by rw [hx])

example : readInt 5 [31, 154] = .error .needMore ∧ readInt 5 [31] = .error .needMore := by decide

/-- H = 0. -/
theorem hpack_string_roundtrip (s rest : Bytes) (hs : s.length < 2 ^ 63) :
    decodeString (encodeString s ++ rest) = .ok (s, rest) :=
  string_roundtrip s rest hs

example : encodeString [104, 105] = [2, 104, 105] := by decide

/-- any list of literal fields with new names — never-indexed or without indexing, any octets in
names and values — is decoded to exactly that list. -/
theorem hpack_block_roundtrip (fs : List Field)
    (h : ∀ f ∈ fs, f.name.length < 2 ^ 63 ∧ f.value.length < 2 ^ 63) :
    decodeBlock (encodeBlock fs) = .ok fs :=
  loop_roundtrip fs _ h (by have := encodeBlock_length fs; omega)

/-- RFC 7541 C.2.2 (literal without indexing, here with a new name) / C.2.3 (never indexed). -/
example : encodeBlock [⟨true, [112, 119], [115]⟩, ⟨false, [97], []⟩] =
    [16, 2, 112, 119, 1, 115,   0, 1, 97, 0] := by decide
example : decodeBlock [16, 2, 112, 119, 1, 115, 0, 1, 97, 0] =
    .ok [⟨true, [112, 119], [115]⟩, ⟨false, [97], []⟩] := by decide

/-- two field lists with the same block are the same list. -/
theorem hpack_block_injective (a b : List Field)
    (ha : ∀ f ∈ a, f.name.length < 2 ^ 63 ∧ f.value.length < 2 ^ 63)
    (hb : ∀ f ∈ b, f.name.length < 2 ^ 63 ∧ f.value.length < 2 ^ 63)
    (h : encodeBlock a = encodeBlock b) : a = b := by
  have h1 := hpack_block_roundtrip a ha
  have h2 := hpack_block_roundtrip b hb
  rw [h] at h1
  rw [h1] at h2
  exact Except.ok.inj h2

end Req.Props.C05
