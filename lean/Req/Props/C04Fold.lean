import Req.Props.C04
import Req.Lemmas.Ascii
/-!
C04 — case-insensitive token comparison is ASCII folding, nothing more.

Every token the response reader compares case-insensitively (`chunked` in `parseTransferEncoding`,
`close` / `keep-alive` / `upgrade` through `HeaderValuesContainsToken`) is compared with
`internal/ascii.EqualFold` (model: `Req.Ascii.equalFold`, `lower a == lower b`; the Go function is
translated on every run and proved equal to the model in `Bridge.PureAscii.equalFold_bridge`).
The theorems below state what that excludes, for ALL byte strings: a value that contains a byte
≥ 0x80 never equals an ASCII token — so no UTF-8 encoded look-alike (U+212A KELVIN SIGN for `k`,
U+017F LONG S for `s`, U+0130 / U+0131 for `i`, fullwidth letters) can be read as `chunked`,
`close`, `keep-alive` — and an accepted spelling of `chunked` differs from it only in the case of
ASCII letters, byte for byte (`caseVariantOf`).  For a reader comparing with `strings.EqualFold`
`te_chunked_only_ascii` is false: witness `chunKed` (U+212A).
Numbers (Content-Length, status code, version, chunk size) are covered by `Req.Props.C04Digits`
(`parseDigits_accepts_iff`, `parseHexUint_accepts_iff`: only the ASCII digit bytes).
-/
namespace Req.Props.C04Fold
open Req.Proto Req.H1 Req.Ascii

theorem toLower_high (c : UInt8) (h : ¬ c < 128) : toLower c = c := by
  have := toLower_toNat c
  rw [UInt8.lt_iff_toNat_lt] at h
  rw [← UInt8.toNat_inj]
  simp only [UInt8.toNat_ofNat] at h
  omega

theorem lower_eq_ascii : ∀ (v t : Bytes), lower v = t → (∀ b ∈ t, b < 128) → ∀ b ∈ v, b < 128
  | [], _, _, _ => by simp
  | c :: cs, t, h, ht => by
    cases t with
    | nil => simp [lower] at h
    | cons d ds =>
      simp only [lower, List.map_cons, List.cons.injEq] at h
      intro b hb
      rcases List.mem_cons.mp hb with rfl | hb
      · have : toLower b < 128 := by rw [h.1]; exact ht d (by simp)
        exact (toLower_ascii_iff b).mp this
      · exact lower_eq_ascii cs ds h.2 (fun x hx => ht x (by simp [hx])) b hb

/-- ∀ byte strings: `ascii.EqualFold(s, t)` with `t` pure ASCII ⇒ `s`
pure ASCII (and of the same length).  No multi-byte look-alike folds onto an ASCII token. -/
theorem equalFold_ascii_closed (s t : Bytes) (h : equalFold s t = true) (ht : ∀ b ∈ t, b < 128) :
    (∀ b ∈ s, b < 128) ∧ s.length = t.length := by
  unfold equalFold at h
  have he : lower s = lower t := by simpa using h
  constructor
  · apply lower_eq_ascii s (lower t) he
    intro b hb
    simp only [lower, List.mem_map] at hb
    obtain ⟨a, ha, rfl⟩ := hb
    exact (toLower_ascii_iff a).mpr (ht a ha)
  · have := congrArg List.length he
    simpa [lower] using this

/-- A byte string with a byte ≥ 0x80 is never case-insensitively equal to an ASCII token. -/
theorem non_ascii_never_folds (s t : Bytes) (hs : ∃ b ∈ s, ¬ b < 128) (ht : ∀ b ∈ t, b < 128) :
    equalFold s t = false := by
  cases h : equalFold s t with
  | false => rfl
  | true =>
    obtain ⟨b, hb, hn⟩ := hs
    exact absurd ((equalFold_ascii_closed s t h ht).1 b hb) hn

theorem lower_chunked : lower vChunked = vChunked := by decide +kernel
theorem chunked_ascii : ∀ b ∈ vChunked, b < 128 := by decide +kernel
theorem close_ascii : ∀ b ∈ vClose, b < 128 := by decide +kernel
theorem keepAlive_ascii : ∀ b ∈ vKeepAlive, b < 128 := by decide +kernel

/-- The model's Transfer-Encoding comparison IS `ascii.EqualFold(v, "chunked")`. -/
theorem te_compare_is_equalFold (v : Bytes) : (lower v == vChunked) = equalFold v vChunked := by
  unfold equalFold; rw [lower_chunked]

/-- Same length, and each byte of the first string is the corresponding byte of the second or the
ASCII upper-case letter 32 below it. -/
def caseVariantOf : Bytes → Bytes → Bool
  | [], [] => true
  | a :: as, b :: bs => (a == b || (isUpper a && a + 32 == b)) && caseVariantOf as bs
  | _, _ => false

theorem lower_eq_iff_caseVariant : ∀ (v t : Bytes), (∀ b ∈ t, isUpper b = false) →
    (lower v = t ↔ caseVariantOf v t = true)
  | [], [], _ => by simp [lower, caseVariantOf]
  | [], _ :: _, _ => by simp [lower, caseVariantOf]
  | _ :: _, [], _ => by simp [lower, caseVariantOf]
  | a :: as, b :: bs, ht => by
    have ih := lower_eq_iff_caseVariant as bs (fun x hx => ht x (by simp [hx]))
    have hb : isUpper b = false := ht b (by simp)
    simp only [lower, List.map_cons, List.cons.injEq, caseVariantOf, Bool.and_eq_true,
      Bool.or_eq_true, beq_iff_eq]
    simp only [lower] at ih
    rw [ih, toLower_eq_iff]
    constructor
    · rintro ⟨h | h, h2⟩
      · exact ⟨Or.inl h.2, h2⟩
      · exact ⟨Or.inr h, h2⟩
    · rintro ⟨h | h, h2⟩
      · subst h; exact ⟨Or.inl ⟨hb, rfl⟩, h2⟩
      · exact ⟨Or.inr h, h2⟩

/-- ∀ versions, header maps: when `parseTransferEncoding` reports a
chunked body, the header had exactly ONE Transfer-Encoding value, it is 7 bytes long, pure ASCII,
and byte for byte a case variant of `chunked`. -/
theorem te_chunked_only_ascii {major minor : Nat} {h r : HeaderMap}
    (hp : parseTransferEncoding major minor h = some (true, r)) :
    ∃ v, HeaderMap.get h kTransferEncoding = some [v] ∧ v.length = 7 ∧ (∀ b ∈ v, b < 128) ∧
      caseVariantOf v vChunked = true := by
  unfold parseTransferEncoding at hp
  cases hg : HeaderMap.get h kTransferEncoding with
  | none => simp [hg] at hp
  | some raw =>
    simp only [hg] at hp
    split at hp
    · simp at hp
    · match raw, hp with
      | [v], hp =>
        by_cases hv : lower v = vChunked
        · refine ⟨v, rfl, ?_, lower_eq_ascii v vChunked hv chunked_ascii, ?_⟩
          · have := congrArg List.length hv; simpa [lower, vChunked] using this
          · exact (lower_eq_iff_caseVariant v vChunked (by decide)).mp hv
        · have : (lower v == vChunked) = false := by simpa using hv
          simp [this] at hp
      | [], hp => simp at hp
      | _ :: _ :: _, hp => simp at hp

/-- On HTTP/1.1 and later a Transfer-Encoding value containing any byte
≥ 0x80 is an unsupported transfer coding — whatever the other bytes are (`chunKed`,
`chunKed` in fullwidth, …). -/
theorem reject_te_non_ascii {major minor : Nat} {h : HeaderMap} {v : Bytes}
    (hget : HeaderMap.get h kTransferEncoding = some [v]) (hv : major > 1 ∨ (major = 1 ∧ minor ≥ 1))
    (hb : ∃ b ∈ v, ¬ b < 128) : parseTransferEncoding major minor h = none := by
  apply Req.Props.C04.reject_te_unsupported hget hv
  intro hl
  obtain ⟨b, hbv, hn⟩ := hb
  exact hn (lower_eq_ascii v vChunked hl chunked_ascii b hbv)

/-- A list element (between commas, blanks trimmed) with a byte ≥ 0x80 never is the token. -/
theorem element_non_ascii_no_match (p tok : Bytes) (ht : ∀ b ∈ tok, b < 128)
    (hb : ∃ b ∈ trimOWS p, ¬ b < 128) : (lower (trimOWS p) == tok) = false := by
  cases h : lower (trimOWS p) == tok with
  | false => rfl
  | true =>
    obtain ⟨b, hbp, hn⟩ := hb
    exact absurd (lower_eq_ascii _ tok (by simpa using h) ht b hbp) hn

/-- ∀ value lists and ASCII tokens: when `HeaderValuesContainsToken`
finds the token, the element it found is pure ASCII and lower-cases to the token. -/
theorem token_match_only_ascii (vs : List Bytes) (tok : Bytes) (ht : ∀ b ∈ tok, b < 128)
    (h : valuesContainToken vs tok = true) :
    ∃ v ∈ vs, ∃ p ∈ splitOnByte 44 v, (∀ b ∈ trimOWS p, b < 128) ∧ lower (trimOWS p) = tok := by
  unfold valuesContainToken at h
  simp only [List.any_eq_true] at h
  obtain ⟨v, hv, p, hp, hm⟩ := h
  have hm' : lower (trimOWS p) = tok := by simpa using hm
  exact ⟨v, hv, p, hp, lower_eq_ascii _ tok hm' ht, hm'⟩

/-- When every element of every value carries a byte ≥ 0x80, no ASCII token is found. -/
theorem no_token_in_non_ascii_values (vs : List Bytes) (tok : Bytes) (ht : ∀ b ∈ tok, b < 128)
    (hall : ∀ v ∈ vs, ∀ p ∈ splitOnByte 44 v, ∃ b ∈ trimOWS p, ¬ b < 128) :
    valuesContainToken vs tok = false := by
  cases h : valuesContainToken vs tok with
  | false => rfl
  | true =>
    obtain ⟨v, hv, p, hp, hasc, _⟩ := token_match_only_ascii vs tok ht h
    obtain ⟨b, hb, hn⟩ := hall v hv p hp
    exact absurd (hasc b hb) hn

/-- `chunKed`, K = U+212A (E2 84 AA) -/
def vChunKed : Bytes := [99,104,117,110,0xE2,0x84,0xAA,101,100]
/-- `cloſe`, ſ = U+017F (C5 BF) -/
def vCloLongSe : Bytes := [99,108,111,0xC5,0xBF,101]
/-- `Keep-alive`, K = U+212A -/
def vKelvinKeepAlive : Bytes := [0xE2,0x84,0xAA,101,101,112,45,97,108,105,118,101]

example : parseTransferEncoding 1 1 [(kTransferEncoding, [vChunKed])] = none := by decide +kernel
example : parseTransferEncoding 1 1 [(kTransferEncoding, [[67,72,85,78,75,69,68]])] = some (true, []) := by decide +kernel
example : parseTransferEncoding 1 1 [(kTransferEncoding, [vChunKed])] = none :=
  reject_te_non_ascii (v := vChunKed) rfl (Or.inr ⟨rfl, by decide⟩) ⟨0xE2, by decide, by decide⟩
example : ∃ v, HeaderMap.get [(kTransferEncoding, [[67,104,85,110,75,101,68]])] kTransferEncoding = some [v] ∧
    v.length = 7 ∧ (∀ b ∈ v, b < 128) ∧ caseVariantOf v vChunked = true :=
  te_chunked_only_ascii (major := 1) (minor := 1) (r := []) (by decide)
example : equalFold vChunKed vChunked = false ∧ equalFold [67,72,85,78,75,69,68] vChunked = true := by decide +kernel
example : (shouldClose 1 1 [(kConnection, [vCloLongSe])]).1 = false ∧
    (shouldClose 1 1 [(kConnection, [[67,76,79,83,69]])]).1 = true := by decide +kernel
example : (shouldClose 1 0 [(kConnection, [vKelvinKeepAlive])]).1 = true ∧
    (shouldClose 1 0 [(kConnection, [[75,101,101,112,45,97,108,105,118,101]])]).1 = false := by decide +kernel
example : valuesContainToken [vCloLongSe] vClose = false :=
  no_token_in_non_ascii_values _ _ close_ascii (by decide)

end Req.Props.C04Fold
