import Req.Pool.H2Mux
import Req.Lemmas.C09H2Rel
import Req.Lemmas.C09H2Core
import Req.Lemmas.C09H2Inv
import Req.Lemmas.C09H2Slots
/-!
C09 — HTTP/2 stream routing (`h2_routing` of DESIGN.md), property theorems over the model
`Req/Pool/H2Mux.lean` of one `ClientConn`'s demultiplexer.  An op list is one interleaving, at
lock granularity, of any number of callers (`roundTrip`: reserve, take `reqHeaderMu`, the
`cc.mu` section with `awaitOpenSlotForStreamLocked`/`addStreamLocked`, HEADERS, wake-ups,
`cleanupWriteRequest`/`forgetStreamID`, cancel, body close) with the read loop (read a frame
and look its stream up; process it) — the theorems quantify over ALL op lists (over any state, where
they speak of one step) and both `StrictMaxConcurrentStreams` settings / single-use connections.
-/
namespace Req.Props.C09H2
open Req.Pool.H2Mux Req.Lemmas.C09H2Rel Req.Lemmas.C09H2Core Req.Lemmas.C09H2Inv Req.Lemmas.C09H2Slots

theorem Inv_reach (cfg : Cfg) (ops : List Op) : Inv (core (run cfg {} ops)) := Inv_run cfg {} ops Inv_init

/-- **h2_pairing** — whatever the read loop delivers to a caller's stream object (1xx, response head, DATA
payload, trailers, END_STREAM, RST_STREAM) was carried by a frame the peer sent with the id of the stream THAT
caller opened, with that payload. -/
theorem h2_pairing (cfg : Cfg) (ops : List Op) (k : Caller) (it : Item)
    (h : it ∈ ((run cfg {} ops).cs k).got) :
    it.sid = ((run cfg {} ops).cs k).id ∧ it.sid ≠ 0 ∧
      ∃ f, (run cfg {} ops).rx[it.seq]? = some f ∧ f.sid? = some it.sid ∧ f.tag = it.tag :=
  (Inv_reach cfg ops).gotOwn k it h

/-- **h2_no_crosstalk** — what is delivered for one stream id never reaches a second caller. -/
theorem h2_no_crosstalk (cfg : Cfg) (ops : List Op) (k k' : Caller) (it it' : Item)
    (h : it ∈ ((run cfg {} ops).cs k).got) (h' : it' ∈ ((run cfg {} ops).cs k').got)
    (hs : it.sid = it'.sid) : k = k' := by
  obtain ⟨a, b, _⟩ := (Inv_reach cfg ops).gotOwn k it h
  obtain ⟨a', _, _⟩ := (Inv_reach cfg ops).gotOwn k' it' h'
  exact (Inv_reach cfg ops).idInj k k' (by rw [← a]; exact b) (by rw [← a, ← a', hs])

/-- **h2_order** — a caller is given the items in the order the peer sent them (`got` is newest-first:
positions in the peer's frame sequence never increase). -/
theorem h2_order (cfg : Cfg) (ops : List Op) (k : Caller) :
    ((((run cfg {} ops).cs k).got).map Item.seq).Pairwise (· ≥ ·) :=
  (Inv_reach cfg ops).gotSorted k

/-- **h2_ids_unique** — no two entries of `cc.streams` share an id, the entry of id `i` is the caller that opened
`i`, different callers never hold the same id, every id handed out is below `nextStreamID`. -/
theorem h2_ids_unique (cfg : Cfg) (ops : List Op) :
    let s := run cfg {} ops
    (s.streams.map Prod.fst).Nodup ∧
    (∀ i k, (i, k) ∈ s.streams → (s.cs k).id = i ∧ i ≠ 0) ∧
    (∀ k k', (s.cs k).id ≠ 0 → (s.cs k).id = (s.cs k').id → k = k') ∧
    (∀ k, (s.cs k).id < s.nextId) :=
  ⟨(Inv_reach cfg ops).keysNodup, fun i k h => ⟨(Inv_reach cfg ops).tableId i k h, (Inv_reach cfg ops).tableNZ i k h⟩,
   (Inv_reach cfg ops).idInj, (Inv_reach cfg ops).idLt⟩

/-- **h2_ids_never_reused** — an id stays with its caller for the rest of the connection and `nextStreamID`
never goes back — also after `forgetStreamID`. -/
theorem h2_ids_never_reused (cfg : Cfg) (ops more : List Op) (k : Caller)
    (h : ((run cfg {} ops).cs k).id ≠ 0) :
    ((run cfg {} (ops ++ more)).cs k).id = ((run cfg {} ops).cs k).id ∧
    (run cfg {} ops).nextId ≤ (run cfg {} (ops ++ more)).nextId ∧
    ∀ k', ((run cfg {} (ops ++ more)).cs k').id = ((run cfg {} ops).cs k).id → k' = k := by
  rw [run_append]
  obtain ⟨a, b⟩ := id_stable_run cfg (run cfg {} ops) more (Inv_reach cfg ops) k h
  refine ⟨a, b, ?_⟩
  intro k' hk'
  have hi := Inv_run cfg (run cfg {} ops) more (Inv_reach cfg ops)
  exact (hi.idInj k k' (by show ((run cfg (run cfg {} ops) more).cs k).id ≠ 0; rw [a]; exact h)
    (by show ((run cfg (run cfg {} ops) more).cs k).id = ((run cfg (run cfg {} ops) more).cs k').id
        rw [a, hk'])).symm

/-- What the read loop does with a frame whose stream it did not find. -/
inductive Reaction where
  | ignored
  | connectionError (code : Nat)
deriving DecidableEq, Repr

def reactionUnknown (s : St) : Frame → Option Reaction
  | .headers _ _ _ _ => some .ignored
  | .rst _ _ => some .ignored
  | .windowUpdate id _ => if id ≠ 0 then some .ignored else none
  | .data id _ _ _ => if id ≥ s.nextId then some (.connectionError 1) else some .ignored
  | .pushPromise _ => some (.connectionError 1)
  | _ => none

theorem process_unknown (s : St) (f : Frame) :
    match reactionUnknown s f with
    | some .ignored => process s f none = s
    | some (.connectionError code) => process s f none = readerCleanup s (some code)
    | none => True := by
  cases f with
  | data id len fin tag =>
    simp only [reactionUnknown, process]
    by_cases h : id ≥ s.nextId
    · rw [if_pos h, if_pos h]
    · rw [if_neg h, if_neg h]
  | windowUpdate id ov =>
    simp only [reactionUnknown, process]
    by_cases h : id ≠ 0
    · rw [if_pos h, if_pos h]
    · rw [if_neg h]; trivial
  | headers | rst | pushPromise => rfl
  | goAway | settings | eof => trivial

/-- **h2_forgotten_not_delivered** — in ANY state, a frame whose stream the read loop does not find (forgotten,
never opened, reset by the read loop) changes no caller's view; the reaction is the code's: HEADERS / RST_STREAM /
WINDOW_UPDATE ignored, DATA ignored below `nextStreamID` and a connection error (PROTOCOL_ERROR) at or above it,
PUSH_PROMISE always a connection error. -/
theorem h2_forgotten_not_delivered (cfg : Cfg) (s : St) (f : Frame) (h : s.rl = some (f, none)) :
    let s' := (step cfg s .rlProcess).1
    (∀ k, (s'.cs k).got = (s.cs k).got) ∧
    (reactionUnknown s f = some .ignored → s' = { s with rl := none }) ∧
    (∀ code, reactionUnknown s f = some (.connectionError code) →
        s' = readerCleanup { s with rl := none } (some code)) := by
  simp only [step, h]
  have hr := rel_process { s with rl := none } f none
  have hp := process_unknown { s with rl := none } f
  refine ⟨?_, fun hre => ?_, fun code hre => ?_⟩
  · intro k
    obtain ⟨n, e, p⟩ := hr.got k
    cases n with
    | nil => simpa using e
    | cons x _ => exact absurd (p x List.mem_cons_self).1 (by simp)
  · rw [show reactionUnknown { s with rl := none } f = _ from hre] at hp; exact hp
  · rw [show reactionUnknown { s with rl := none } f = _ from hre] at hp; exact hp

/-- The read loop finds no stream for an id that is not in the table (never opened, or
forgotten), and for a stream it has reset itself. -/
theorem lookup_misses (s : St) (id : Nat)
    (h : (∀ k, (id, k) ∉ s.streams) ∨ (∀ k, (id, k) ∈ s.streams → (s.cs k).readAborted = true)) :
    streamByID s id = none := by
  unfold streamByID
  cases hl : s.streams.lookup id with
  | none => rfl
  | some k =>
    have hm : (id, k) ∈ s.streams := List.lookup_mem hl
    rcases h with h | h
    · exact absurd hm (h k)
    · simp [h k hm]

/-- **h2_wire_order** — request HEADERS reach the wire in strictly increasing stream-id order (what
`reqHeaderMu` is for; RFC 9113 5.1.1). -/
theorem h2_wire_order (cfg : Cfg) (ops : List Op) : (run cfg {} ops).hdrWire.Pairwise (· < ·) :=
  (Inv_reach cfg ops).wireSorted

/-- **h2_admission** — in ANY state, a step that makes `cc.streams` grow: a stream is admitted only while the
connection is open, saw no GOAWAY, is not marked do-not-reuse, and `len(streams) < MAX_CONCURRENT_STREAMS`; without
`StrictMaxConcurrentStreams` also `len(streams) + other reservations + 1 ≤ MAX_CONCURRENT_STREAMS`. -/
theorem h2_admission (cfg : Cfg) (s : St) (op : Op)
    (h : (step cfg s op).1.streams.length > s.streams.length) :
    s.closed = false ∧ s.goAway = none ∧ s.doNotReuse = false ∧ s.streams.length < s.maxConc ∧
    (cfg.strict = false → s.streams.length + (s.reserved - 1) + 1 ≤ s.maxConc) ∧
    ∃ k, (step cfg s op).1.streams = (s.nextId, k) :: s.streams := by
  cases op with
  | openSlot k =>
    by_cases hp : (s.cs k).phase ≠ .holdMu
    · simp only [step, if_pos hp] at h
      exact absurd h (Nat.lt_irrefl _)
    · simp only [step, if_neg hp] at h ⊢
      obtain ⟨a, b, c, d, e, f⟩ := slotLoop_admits cfg _ k h
      exact ⟨a, b, c, d, e, k, f⟩
  | wake k =>
    by_cases hp : (s.cs k).phase ≠ .pending ∨ s.woken.contains k = false
    · simp only [step, if_pos hp] at h
      exact absurd h (Nat.lt_irrefl _)
    · simp only [step, if_neg hp] at h ⊢
      cases ha : (s.cs k).abort with
      | some e => simp only [ha] at h; exact absurd h (Nat.lt_irrefl _)
      | none =>
        simp only [ha] at h ⊢
        obtain ⟨a, b, c, d, e, f⟩ := slotLoop_admits cfg _ k h
        exact ⟨a, b, c, d, fun hs => Nat.le_trans (by show _ ≤ s.streams.length + s.reserved + 1; omega) (e hs), k, f⟩
  | _ => exact absurd h (Nat.not_lt.mpr (step_no_growth cfg s _ rfl))

/-- **h2_pending_at_most_one** — at most one request sleeps in `awaitOpenSlotForStreamLocked`, and it holds
`reqHeaderMu`. -/
theorem h2_pending_at_most_one (cfg : Cfg) (ops : List Op) :
    let s := run cfg {} ops
    s.pendingReq ≤ 1 ∧
    (∀ k, (s.cs k).phase = .pending → s.hdrMu = some k ∧ s.pendingReq = 1) ∧
    (∀ k j, (s.cs k).phase = .pending → (s.cs j).phase = .pending → j = k) := by
  have hi := Inv_reach cfg ops
  refine ⟨?_, ?_, ?_⟩
  · have := hi.pend
    show (core (run cfg {} ops)).pendingReq ≤ 1
    rw [this]
    split
    · split <;> omega
    · omega
  · intro k hk
    have hm := (hi.mu k).mp (by simp [holds, core, hk])
    refine ⟨hm, ?_⟩
    have := hi.pend
    rw [hm] at this
    simpa [core, hk] using this
  · intro k j hk hj
    exact hi.holder (k := k) (j := j) (by simp [holds, core, hk]) (by simp [holds, core, hj])

/-- **h2_forget_never_panics** — "forgetting unknown stream id" is unreachable. -/
theorem h2_forget_never_panics (cfg : Cfg) (ops : List Op) : (run cfg {} ops).forgetPanic = false :=
  (Inv_reach cfg ops).noPanic

/-- **h2_forget_wakes_all** — in ANY state: `forgetStreamID` of a real stream wakes EVERY goroutine asleep on
`cc.cond` (Broadcast) — the pending request among them, whoever else (uploads stalled on flow control) went to
sleep first. -/
theorem h2_forget_wakes_all (cfg : Cfg) (s : St) (k : Caller)
    (hp : (s.cs k).phase = .finishing) (hid : (s.cs k).id ≠ 0) :
    let s' := (step cfg s (.forget k)).1
    s'.condWait = [] ∧ ∀ w ∈ s.condWait, w ∈ s'.woken := by
  have key : ∀ t : St, t.condWait = s.condWait → ∀ (p : Prop) [Decidable p],
      let s' := (if p then (({ broadcast t with closed := true } : St), Out.none) else (broadcast t, Out.none)).1
      s'.condWait = [] ∧ ∀ w ∈ s.condWait, w ∈ s'.woken := by
    intro t ht p _
    split <;> exact ⟨rfl, fun w hw => List.mem_append_right _ (ht ▸ hw)⟩
  simp only [step, hp, hid, ne_eq, not_true_eq_false, if_false]
  exact key _ (by split <;> rfl) _

/-- **h2_raised_limit_wakes_all** — in ANY state: SETTINGS that raise MAX_CONCURRENT_STREAMS leave
nobody asleep on `cc.cond` (`processSettingsNoWrite` broadcasts): the request
pending for a slot looks again (`h2_woken_pending_admitted`). -/
theorem h2_raised_limit_wakes_all (cfg : Cfg) (s : St) (v : Nat) (tgt : Option Caller)
    (hrl : s.rl = some (.settings (some v), tgt)) (hv : v > s.maxConc) :
    let s' := (step cfg s .rlProcess).1
    s'.maxConc = v ∧ s'.condWait = [] ∧ ∀ w ∈ s.condWait, w ∈ s'.woken := by
  simp only [step, hrl, process]
  simp [hv, broadcast]
  intro w hw; exact Or.inr hw

/-- **h2_woken_pending_admitted** — a pending request that was woken and finds the connection usable with a free
slot is admitted with the next stream id. -/
theorem h2_woken_pending_admitted (cfg : Cfg) (s : St) (k : Caller)
    (hp : (s.cs k).phase = .pending) (hw : k ∈ s.woken) (ha : (s.cs k).abort = none)
    (hc : s.closed = false) (hs : s.streams.length < s.maxConc)
    (ht : canTake cfg { s with woken := s.woken.erase k, pendingReq := s.pendingReq - 1 } = true) :
    let s' := (step cfg s (.wake k)).1
    (s'.cs k).phase = .opened ∧ (s'.cs k).id = s.nextId ∧ s'.streams = (s.nextId, k) :: s.streams ∧
      s'.nextId = s.nextId + 2 := by
  have hw' : s.woken.contains k = true := by simpa using hw
  simp only [step, hp, hw', ha]
  simp only [ne_eq, not_true_eq_false, Bool.true_eq_false, or_self, if_false]
  unfold slotLoop
  have hcl : ({ s with woken := s.woken.erase k, pendingReq := s.pendingReq - 1 } : St).closed = false := hc
  rw [if_neg (fun hx => by
    rcases hx with h1 | h2
    · exact absurd (hcl.symm.trans h1) (by simp)
    · exact absurd (ht.symm.trans h2) (by simp)), if_pos hs]
  simp [addStream, setCS, upd]

def strict : Cfg := ⟨true, false⟩
def lax : Cfg := ⟨false, false⟩

/-- the peer allows one stream: caller 0 is admitted, caller 1 sleeps for a slot -/
def setup1 : List Op :=
  [.rlRead (.settings (some 1)), .rlProcess,
   .begin 0 false false, .acquire 0, .openSlot 0, .writeHeaders 0,
   .begin 1 false false, .acquire 1, .openSlot 1]

example : (run strict {} setup1).streams = [(1, 0)] ∧ (run strict {} setup1).pendingReq = 1 ∧
    ((run strict {} setup1).cs 1).phase = .pending ∧ (run strict {} setup1).hdrWire = [1] := by decide

/-- the response to caller 0 arrives (head, 5 bytes, END_STREAM); caller 0 cleans up and forgets
the stream: everybody on `cc.cond` is woken, caller 1 is admitted with id 3; a late DATA frame for
the forgotten stream 1 is ignored, one for stream 9 (never opened) kills the connection. -/
def full1 : List Op := setup1 ++
  [.rlRead (.headers 1 .status2xx false 70), .rlProcess, .rlRead (.data 1 5 true 71), .rlProcess,
   .finishWrite 0, .retire 0, .forget 0, .wake 1, .writeHeaders 1,
   .rlRead (.data 1 4 false 72), .rlProcess]

example : ((run strict {} full1).cs 0).got =
    [⟨1, 2, 71, .eof⟩, ⟨1, 2, 71, .data 5⟩, ⟨1, 1, 70, .head⟩] ∧
    ((run strict {} full1).cs 1).got = [] ∧
    (run strict {} full1).streams = [(3, 1)] ∧ (run strict {} full1).hdrWire = [1, 3] ∧
    (run strict {} full1).closed = false := by decide

example : (run strict {} (full1 ++ [.rlRead (.data 9 4 false 73), .rlProcess])).closed = true ∧
    (run strict {} (full1 ++ [.rlRead (.data 9 4 false 73), .rlProcess])).goAwaySent = some 1 := by decide

/-- the peer raises its limit from 1 to 2 while caller 1 sleeps for a slot: it is woken and admitted -/
example :
    let s := run strict {} (setup1 ++ [.rlRead (.settings (some 2)), .rlProcess, .wake 1])
    s.streams = [(3, 1), (1, 0)] ∧ s.pendingReq = 0 ∧ (s.cs 1).phase = .opened := by decide

/-- the read loop looked stream 1 up, the caller cancelled and forgot it before the frame was
processed: the item still lands in caller 0's own (abandoned) stream object, nowhere else. -/
example :
    let s := run lax {}
      [.begin 0 false false, .acquire 0, .openSlot 0, .writeHeaders 0,
       .begin 1 false false, .acquire 1, .openSlot 1, .writeHeaders 1,
       .rlRead (.headers 1 .status2xx false 70),
       .cancel 0, .rtReturn 0, .finishWrite 0, .retire 0, .forget 0,
       .rlProcess]
    s.streams = [(3, 1)] ∧ (s.cs 0).got = [⟨1, 0, 70, .head⟩] ∧ (s.cs 1).got = [] ∧
    (s.cs 0).rt = .returned (some .canceled) ∧ s.rstWire = [(1, 8)] := by decide

/-- without the strict setting a connection at the peer's limit refuses the request
(`errClientConnUnusable`: the pool dials another connection) -/
example :
    let s := run lax {} (setup1)
    (s.cs 1).phase = .exiting ∧ (s.cs 1).exitErr = some .unusable ∧ s.streams = [(1, 0)] := by decide

example : reactionUnknown (run strict {} full1) (.data 1 4 false 0) = some .ignored ∧
    reactionUnknown (run strict {} full1) (.data 9 4 false 0) = some (.connectionError 1) := by decide

end Req.Props.C09H2
