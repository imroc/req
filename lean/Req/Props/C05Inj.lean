import Req.Lemmas.C05Inj
import Req.Lemmas.C05ExceptEq
/-!
C05 — canonical encoding, over ALL `Framer.Write*` entry points at once (`WOp`): no two requests to
write are confused on the wire, which is what makes byte-identity with the reference equivalent to
frame-identity. (The composite `writeHeaders` is `header_block_reassembled` in `Req.Props.C05Frag`.)
-/
namespace Req.Props.C05
open Req.Proto Req.H2.Frame Req.Lemmas.C05.Inj

/-- every writer, on its accepted arguments, writes exactly `headerBytes(payload length, type,
flags, stream id) ++ payload`, with the payload below 2^24 bytes, type and flags one byte, the
stream id 31 bits. -/
theorem write_wire_form (a : WOp) (h : a.Wf) :
    a.write = .ok (headerBytes a.payload.length a.typ a.flags a.sid ++ a.payload) ∧
      a.payload.length < two24 ∧ a.typ < 256 ∧ a.flags < 256 ∧ a.sid < two31 :=
  ⟨Req.Lemmas.C05.H2.write_wire a h, Req.Lemmas.C05.H2.hdr_fits a h⟩

example : (WOp.windowUpdate 3 65535).Wf := by simp [WOp.Wf, two31]
example : (WOp.windowUpdate 3 65535).write = .ok [0, 0, 4, 8, 0, 0, 0, 0, 3, 0, 0, 255, 255] := by decide

/-- `parse (write x) = x` for EVERY writer entry point: whatever `Write*` call on accepted
arguments, `ReadFrame` on the bytes (followed by anything) returns the frame with exactly these
arguments, consumes exactly the frame, and moves the header-block state as the frame says — for
every reader that is in the state the frame needs (inside the block of its stream for CONTINUATION,
outside a block otherwise) and accepts the frame size. -/
theorem every_write_read_back (a : WOp) (h : a.Wf) :
    ∃ out, a.write = .ok out ∧ ∀ (r : Reader) (rest : Bytes), Ready r a.payload.length a.inBlock →
      readFrame r (out ++ rest) = (.ok a.frame, { r with lastHeaderStream := a.leaves }, rest) := by
  obtain ⟨out, hw, -, hrd⟩ := Req.Lemmas.C05.H2.write_read_back a h
  exact ⟨out, hw, hrd⟩

/-- (type, flags, stream, payload) determine the arguments: the typed parser reads them back. -/
theorem args_determined (a b : WOp) (ha : a.Wf) (hb : b.Wf) (ht : a.typ = b.typ)
    (hf : a.flags = b.flags) (hs : a.sid = b.sid) (hp : a.payload = b.payload) : a = b := by
  have h := Req.Lemmas.C05.H2.parsePayload_wf a ha
  rw [ht, hf, hs, hp, Req.Lemmas.C05.H2.parsePayload_wf b hb] at h
  exact frame_inj a b ha hb (Except.ok.inj h).symm

/-- for all write operations `a`, `b` — of any writer entry points — on their accepted arguments:
the same bytes on the wire ⇒ the same writer and the same arguments. -/
theorem write_injective (a b : WOp) (ha : a.Wf) (hb : b.Wf) (h : a.write = b.write) : a = b := by
  obtain ⟨wa, la, ta, fa, sa⟩ := write_wire_form a ha
  obtain ⟨wb, lb, tb, fb, sb⟩ := write_wire_form b hb
  rw [wa, wb] at h
  obtain ⟨_, e2, e3, e4, e5⟩ := wire_inj _ _ _ _ _ _ _ _ _ _ la ta fa sa lb tb fb sb (Except.ok.inj h)
  exact args_determined a b ha hb e2 e3 e4 e5

/-- the mask on GOAWAY's last-stream-id is why `Wf` asks for 31 bits there: outside that domain the
writer is NOT injective (5 and 5 + 2^31 give the same frame). -/
example : (WOp.goAway 5 0 []).write = (WOp.goAway (5 + 2147483648) 0 []).write := by decide
/-- PADDED with a zero-length padding is not reachable through `WriteHeaders` (PadLength 0 means
"not padded"), so no two `HeadersParam` collide … -/
example : (WOp.headers ⟨1, [7], false, true, 0, Priority.zero⟩).write =
    .ok [0, 0, 1, 1, 4, 0, 0, 0, 1, 7] := by decide
/-- … while `WriteDataPadded` distinguishes `nil` padding from empty padding on the wire. -/
example : (WOp.data 1 false [7] none).write ≠ (WOp.data 1 false [7] (some [])).write := by decide

end Req.Props.C05
