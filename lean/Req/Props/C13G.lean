import Req.Lemmas.C13Sites
import Req.Lemmas.H2MetaLoop
/-!
C13, HTTP/2 and HTTP/3: which bytes each dump call site hands to the dumper
(`Req/Client/DumpSites.lean`; tied to the code by lanes `h2sites`, `h3sites`, `e2eh2` (frame
granularity), `e2eh3`).
-/
namespace Req.Props.C13G
open Req.Proto Req.Client.DumpSites

/-- **dump = wire, request head, HTTP/2 and HTTP/3.** For every enumeration of header pairs (any
names, any values), with (`skip` = HTTP/2) or without the non-ASCII filter: the dumper is handed
exactly the textual rendering — `name: value\r\n` per field, in wire order, then the blank line —
of the field list handed to the header compressor, each field once; nothing when header dump is
off; and the field list itself does not depend on dump. -/
theorem dump_equals_wire_head (skip : Bool) (en : List Field) :
    (encodeHead skip true en).dump = renderBlock (encodeHead skip true en).wire ∧
    (encodeHead skip false en).dump = [] ∧
    (encodeHead skip true en).wire = (encodeHead skip false en).wire := by
  -- both runs hand on `keptFields skip en`; with dump on, the dump is its rendering
  simp [encodeHead, encodeLoop_eq, renderBlock]

/-- non-vacuity: `X-A: 1`, a non-ASCII name (skipped on HTTP/2, lower-cased bytewise on HTTP/3). -/
example :
    (encodeHead true true [([88, 45, 65], [49]), ([195, 169], [50])]).dump =
      [120, 45, 97, 58, 32, 49, 13, 10, 13, 10] ∧
    (encodeHead false true [([88, 45, 65], [49]), ([195, 169], [50])]).wire.length = 2 := by decide +kernel

/-- **dump = wire, HTTP/2 request body.** For every frame size limit, every sequence of body reads
and EVERY flow-control schedule (any grants, exhausted or not): the DATA payloads concatenate to
the body, none is empty or longer than the limit, none crosses a read; and the dumper is handed
exactly those payloads, one call per frame — so its content is the body, each byte once. -/
theorem dump_equals_wire_h2_body (maxFrame : Nat) (hm : 1 ≤ maxFrame) (pieces : List Bytes) (gs : List Nat) :
    dataDump maxFrame pieces gs = dataFrames maxFrame pieces gs ∧
    (dataDump maxFrame pieces gs).flatten = pieces.flatten ∧
    ∀ f ∈ dataFrames maxFrame pieces gs, f ≠ [] ∧ f.length ≤ maxFrame :=
  ⟨rfl, (dataFrames_spec maxFrame hm pieces gs).1, (dataFrames_spec maxFrame hm pieces gs).2⟩

/-- non-vacuity: one read of 5 bytes, grants 2, 1, then open: frames of 2, 1, 2 bytes. -/
example : dataFrames 16384 [[1, 2, 3, 4, 5]] [2, 1] = [[1, 2], [3], [4, 5]] := by decide +kernel

/-- The trial change `seeded/C13-1` as a model: dumping the rest of the read on every split hands the
dumper more bytes than were sent. -/
theorem dump_rest_not_exact :
    (cutReadDumpRest 16384 5 [1, 2, 3, 4, 5] [2, 1]).flatten ≠ [1, 2, 3, 4, 5] := by decide +kernel

open Req.H2.Meta in
/-- **Transparency of the HTTP/2 response-head dump**: the dumping emit callback drives the
parser's state machine exactly like the plain one, for every fragment list and decoder behaviour. -/
theorem meta_dump_transparent (s : St) (frags : List Frag) (d : Bytes) :
    (fragLoopDump s frags d).1 = (fragLoop s frags).toOption :=
  (fragLoopDump_spec frags s d).1

open Req.H2.Meta in
/-- **dump = wire, HTTP/2 response head.** Whenever `readMetaFrame` accepts a header block
without truncating it — for every split into HEADERS / CONTINUATION fragments, every limit — the
dumper has been handed exactly the rendering of the fields of the `MetaHeadersFrame`, each once,
then the blank line. (A block that is refused or truncated is dumped up to and including the
field that caused it, without the blank line unless the truncated frame is returned: what was
received, as far as the client listened.) -/
theorem dump_equals_wire_h2_resp (maxHeaderList : Nat) (frags : List Frag) (closeErr : Bool)
    (fields : List Field) (h : readMeta maxHeaderList frags closeErr = .ok fields false) :
    metaDump maxHeaderList frags closeErr = renderBlock fields := by
  unfold metaDump
  rw [h]
  unfold readMeta at h
  obtain ⟨hfst, hinv⟩ := fragLoopDump_spec frags { remainSize := maxHeaderListSize maxHeaderList } []
  replace hinv := hinv ⟨fun _ => rfl, fun h => by simp at h⟩
  generalize fragLoopDump { remainSize := maxHeaderListSize maxHeaderList } frags [] = r at hfst hinv
  obtain ⟨so, d⟩ := r
  simp only at hfst hinv ⊢
  cases hl : fragLoop { remainSize := maxHeaderListSize maxHeaderList } frags with
  | error o =>
    rw [hl] at h; simp only at h
    obtain ⟨c, hc⟩ := fragLoop_error_conn frags _ o hl
    rw [hc] at h; cases h
  | ok s =>
    rw [hl] at h hfst
    simp only [Except.toOption] at hfst
    subst hfst
    simp only at h
    split at h
    · cases h
    · split at h
      · cases h
      · split at h
        · cases h
        · rename_i hinval _
          injection h with hf ht
          have hi := hinv s rfl
          -- accepted and not truncated: the decoder never stopped emitting (`DInv.2`), so the dump is
          -- the rendering of all the fields (`DInv.1`)
          have hen : s.emitEnabled = true := by
            by_cases he : s.emitEnabled = true
            · exact he
            · have := hi.2 (by simpa using he)
              rcases this with h1 | h1
              · rw [h1] at hinval; exact absurd rfl hinval
              · rw [h1] at ht; cases ht
          rw [hi.1 hen, hf]; rfl

open Req.H2.Meta in
/-- non-vacuity: `:status: 200`, `a: b` in two fragments. -/
example :
    readMeta 0 [⟨10, [.field sStatus [50, 48, 48]]⟩, ⟨4, [.field [97] [98]]⟩] false =
      .ok [(sStatus, [50, 48, 48]), ([97], [98])] false ∧
    metaDump 0 [⟨10, [.field sStatus [50, 48, 48]]⟩, ⟨4, [.field [97] [98]]⟩] false =
      [58, 115, 116, 97, 116, 117, 115, 58, 32, 50, 48, 48, 13, 10, 97, 58, 32, 98, 13, 10, 13, 10] := by
  decide +kernel

/-- **dump = wire, HTTP/3 response head.** Every field of the decoded field section, as received
and in order, then the blank line; nothing without the flag, nothing when the HEADERS frame is
refused before it is decoded. -/
theorem dump_equals_wire_h3_resp (fs : List Field) (b : Bool) :
    respHeadH3 true (some fs) = renderBlock fs ∧ respHeadH3 false (some fs) = [] ∧
    respHeadH3 b none = [] := ⟨rfl, rfl, rfl⟩

/-- **dump = wire, HTTP/3 request body**, also when the stream fails. For every sequence of body
reads and every failure point of the QUIC stream: the dumper holds a prefix of the body — the
payload bytes the stream accepted, in order, each once, nothing after the failure — and the whole
body if the stream did not fail. -/
theorem dump_equals_wire_h3_body (limit : Option Nat) (pieces : List Bytes) :
    (h3Body limit pieces).dump <+: pieces.flatten ∧
    ((h3Body limit pieces).failed = false → (h3Body limit pieces).dump = pieces.flatten) := by
  obtain ⟨x, h1, h2, h4⟩ := h3_fold_prefix pieces { limit := limit }
  unfold h3Body
  simp only [List.nil_append] at h1
  rw [h1]
  exact ⟨h2, h4⟩

/-- non-vacuity: two reads; unlimited: two DATA frames `00 02 ab`, `00 01 c`; the stream failing
after 4 bytes: `00 02 ab` went out, the dump holds `ab`. -/
example :
    (h3Body none [[97, 98], [], [99]]).wire = [0, 2, 97, 98, 0, 1, 99] ∧
    (h3Body none [[97, 98], [], [99]]).dump = [97, 98, 99] ∧
    (h3Body (some 5) [[97, 98], [], [99]]).dump = [97, 98] ∧
    (h3Body (some 5) [[97, 98], [], [99]]).failed = true := by decide +kernel

end Req.Props.C13G
