import Req.Props.C04
/-!
C04 — what `readLoop` decides from an accepted head, as iffs over every method, status line and header
map: whether there is a body (`head_never_has_body`, `hasBody_iff_framing`: the test
`method != HEAD && ContentLength != 0` is "the framing is not `none`"), `resp.Close` (`close_iff`), and
whether the connection goes back to the idle pool (`keepalive_iff`).
-/
namespace Req.Props.C04
open Req.Proto Req.H1

/-- A `RespFraming` is exactly one of the four (a fact about the datatype). -/
theorem framing_exactly_one (f : RespFraming) :
    (f = .none ∧ f ≠ .chunked ∧ f ≠ .untilClose ∧ ∀ n, f ≠ .length n) ∨
    (f = .chunked ∧ f ≠ .none ∧ f ≠ .untilClose ∧ ∀ n, f ≠ .length n) ∨
    (f = .untilClose ∧ f ≠ .none ∧ f ≠ .chunked ∧ ∀ n, f ≠ .length n) ∨
    (∃ n, f = .length n ∧ f ≠ .none ∧ f ≠ .chunked ∧ f ≠ .untilClose ∧ ∀ k, f = .length k → k = n) := by
  cases f with
  | none => simp
  | chunked => simp
  | untilClose => simp
  | length n => simp

theorem head_never_has_body {sl : StatusLine} {h0 : HeaderMap} {m : Msg}
    (h : readTransfer true sl h0 = some m) (B : Nat) (s : Bytes) :
    m.framing = .none ∧ readBody B m s = ⟨[], true, declMap m.trailerDecl, s⟩ := by
  have hf : m.framing = .none := (framing_exclusive h).1.mpr (Or.inl rfl)
  exact ⟨hf, by simp [readBody, hf]⟩

/-- `Transfer-Encoding: chunked` and, behind the blank line, `5 CRLF`: for HEAD none of it is body. -/
example : parseResponse true 4096
    [72,84,84,80,47,49,46,49,32,50,48,48,32,79,75,13,10,
     84,114,97,110,115,102,101,114,45,69,110,99,111,100,105,110,103,58,32,99,104,117,110,107,101,100,13,10,
     13,10, 53,13,10] =
    .resp ⟨⟨[72,84,84,80,47,49,46,49], [50,48,48,32,79,75], 200, 1, 1⟩,
           [], -1, true, false, [], .none⟩
          ⟨[], true, [], [53,13,10]⟩ := by decide +kernel

theorem hasBody_iff_framing {isHead : Bool} {sl : StatusLine} {h0 : HeaderMap} {m : Msg}
    (h : readTransfer isHead sl h0 = some m) :
    (!isHead && m.contentLength != 0) = true ↔ m.framing ≠ .none := by
  obtain ⟨chunked, n?, hs⟩ := readTransfer_accepted h
  rw [hs.framing]
  cases hH : isHead with
  | true => simp
  | false => simp [hs.len hH, (framingFor_iff _ _ _).1]

/-- `Connection` values of the header block as read. -/
def connValues (h0 : HeaderMap) : List Bytes :=
  match HeaderMap.get h0 kConnection with | some vs => vs | none => []

theorem shouldClose_fst_iff (major minor : Nat) (h0 : HeaderMap) :
    (shouldClose major minor h0).1 = true ↔
      (major < 1 ∨
       (major = 1 ∧ minor = 0 ∧
          (valuesContainToken (connValues h0) vClose = true ∨
           valuesContainToken (connValues h0) vKeepAlive = false)) ∨
       (1 ≤ major ∧ ¬ (major = 1 ∧ minor = 0) ∧
          valuesContainToken (connValues h0) vClose = true)) := by
  have key : ∀ conv : List Bytes,
      (if major < 1 then (true, h0)
       else if major = 1 ∧ minor = 0 then
         (valuesContainToken conv vClose || !valuesContainToken conv vKeepAlive, h0)
       else if valuesContainToken conv vClose = true then (true, h0.del kConnection)
       else (false, h0)).1 = true ↔
      (major < 1 ∨
       (major = 1 ∧ minor = 0 ∧
          (valuesContainToken conv vClose = true ∨ valuesContainToken conv vKeepAlive = false)) ∨
       (1 ≤ major ∧ ¬ (major = 1 ∧ minor = 0) ∧ valuesContainToken conv vClose = true)) := by
    intro conv
    by_cases h1 : major < 1
    · simp [h1]
    · have hge : 1 ≤ major := by omega
      by_cases h10 : major = 1 ∧ minor = 0
      · simp [h10]
      · simp only [h1, h10, if_false]
        by_cases hc : valuesContainToken conv vClose = true <;> simp [hc, h10, hge]
        intro ha hb; exact absurd ⟨ha, hb⟩ h10
  cases hg : HeaderMap.get h0 kConnection with
  | none => simpa [shouldClose, connValues, hg] using key []
  | some vs => simpa [shouldClose, connValues, hg] using key vs

/-- `resp.Close` by protocol version, `Connection` tokens and framing. -/
theorem close_iff {isHead : Bool} {sl : StatusLine} {h0 : HeaderMap} {m : Msg}
    (h : readTransfer isHead sl h0 = some m) :
    m.close = true ↔
      (sl.major < 1 ∨
       (sl.major = 1 ∧ sl.minor = 0 ∧
          (valuesContainToken (connValues h0) vClose = true ∨
           valuesContainToken (connValues h0) vKeepAlive = false)) ∨
       (1 ≤ sl.major ∧ ¬ (sl.major = 1 ∧ sl.minor = 0) ∧
          valuesContainToken (connValues h0) vClose = true) ∨
       m.framing = .untilClose) := by
  obtain ⟨chunked, n?, hs⟩ := readTransfer_accepted h
  rw [hs.close, ← hs.framing, Bool.or_eq_true, decide_eq_true_eq, shouldClose_fst_iff]
  simp only [or_assoc]

/-- After one exchange the connection goes back to the idle pool iff:
neither side asked to close (`close_iff` spells out the response's side by protocol,
`Connection` tokens and framing), the status is at least 200, the body is not a writable
protocol-switch body, there is no body or the caller read it to `io.EOF`, the connection has
not seen EOF, the request was written and the pool takes the connection. -/
theorem keepalive_iff {isHead : Bool} {sl : StatusLine} {h0 : HeaderMap} {m : Msg}
    (h : readTransfer isHead sl h0 = some m) (e : ReuseEnv) (he : e.isHead = isHead) :
    mayReuse m e = true ↔
      (m.close = false ∧ e.reqClose = false ∧ 200 ≤ sl.code ∧ e.bodyWritable = false ∧
       (m.framing = .none ∨ e.bodyEOF = true) ∧
       e.sawEOF = false ∧ e.wroteRequest = true ∧ e.poolAccepts = true) := by
  have hb := hasBody_iff_framing h
  obtain ⟨_, _, hs⟩ := readTransfer_accepted h
  have hsl := hs.status
  have h200 : 199 < sl.code ↔ 200 ≤ sl.code := by omega
  unfold mayReuse
  rw [he, hsl]
  by_cases hfn : m.framing = .none
  · have hnb : (!isHead && m.contentLength != 0) = false := by
      cases hx : (!isHead && m.contentLength != 0) with
      | false => rfl
      | true => exact absurd hfn (hb.mp hx)
    simp only [hnb, hfn]
    cases e.bodyWritable <;> simp [h200, and_assoc]
  · have hnb : (!isHead && m.contentLength != 0) = true := hb.mpr hfn
    simp only [hnb, hfn]
    cases e.bodyWritable <;> simp [h200, and_assoc]

example : ∃ m : Msg, ∃ r, parseHead false
    [72,84,84,80,47,49,46,48,32,50,48,48,32,79,75,13,10,13,10] = some (m, r) ∧
    m.close = true ∧ m.framing = .untilClose := by
  refine ⟨_, _, rfl, ?_, ?_⟩ <;> decide

end Req.Props.C04
