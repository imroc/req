import Req.Props.C02Pragma
import Req.Lemmas.C02H1Msg
import Req.Lemmas.C02Hex
import Req.Lemmas.C02Trailer
/-!
C02 — **whole-message round trip over HTTP/1.1.**

The origin writes: up to five interim (1xx) heads, the final head (status line, field lines in
any order, with any optional white space, names in any case; the framing fields
`Content-Length` / `Transfer-Encoding: chunked` / `Connection: close` / `Trailer` anywhere among
them), then the body in the framing it chose — declared length, chunked with ANY split into
chunks and any chunk-size spelling / extension the reader's own line parser accepts, or
delimited by closing the connection — then, for chunked, the trailer section; then whatever
follows on the connection (`rest`).

The client reads: `persistConn.readResponse` = C04's byte-exact head reader
`Req.H1.parseFinalHead` (1xx loop, `readLine`, `ReadMIMEHeader`, `readTransfer`), then the body
through the automaton `Req.C02.H1Body` that `readTransfer` installed, over the connection's
`bufio.Reader` in ANY state that is consistent with the head having been consumed (whatever
was buffered while the head was read, whatever segmentation the network delivers the rest in),
with ANY sequence of caller read sizes.

The theorems: the caller gets exactly the origin's status, exactly the origin's values under
every ordinary field name (canonical key, wire order, optional white space removed), exactly
the body bytes, exactly the trailer fields, and the connection reader stands exactly at `rest`.
-/
namespace Req.Props.C02
open Req.Proto Req.Ascii Req.C02 Req.H1

/-- The framing fields of the origin's head, position-free: what the field list holds under
the framing keys (`valuesOf`: values in wire order). `cl`: a Content-Length value in any
spelling the reader parses to `n`; `te`: `chunked` in any case; `tr`: a `Trailer` announcement. -/
structure OriginFraming (o : OHead) (cc chunked : Bool) (te : Bytes) (cl : Option (Bytes × Nat))
    (tr : Option Bytes) : Prop where
  pragma : valuesOf kPragma (fieldsOf o.fs) = []
  conn : valuesOf kConnection (fieldsOf o.fs) = if cc then [vClose] else []
  teVals : valuesOf kTransferEncoding (fieldsOf o.fs) = if chunked then [te] else []
  teLow : lower te = vChunked
  clVals : valuesOf kContentLength (fieldsOf o.fs) = (match cl with | some p => [p.1] | none => [])
  clParse : ∀ p, cl = some p → parseContentLength1 p.1 = some p.2
  trVals : valuesOf Req.H1.kTrailer (fieldsOf o.fs) = (match tr with | some v => [v] | none => [])

theorem OriginFraming.toP {o : OHead} {cc chunked : Bool} {te : Bytes} {cl : Option (Bytes × Nat)}
    {tr : Option Bytes} (h : OriginFraming o cc chunked te cl tr) : OriginFramingP o cc chunked te cl tr :=
  ⟨h.conn, h.teVals, h.teLow, h.clVals, h.clParse, h.trVals⟩

theorem OriginFraming.entries {o : OHead} {cc chunked : Bool} {te : Bytes} {cl : Option (Bytes × Nat)}
    {tr : Option Bytes} (h : OriginFraming o cc chunked te cl tr) :
    FrameEntries o.hmap cc chunked te cl tr := by
  have h0 := h.toP.entries
  exact ⟨by simp [OHead.hmap, get_hmapOf, h.pragma], h0.conn, h0.teGet, h0.teLow, h0.clGet, h0.clParse, h0.trGet⟩

/-- **h1_head_roundtrip.** For every origin head (status digits, reason phrase, field list),
preceded by up to five interim responses (`parseFinalHead 6`: fuel for Go's `max1xxResponses = 5`
interim heads and the final one) and followed by ANY bytes `W`: the head reader returns
the origin's status code; under every ordinary field name exactly the origin's values, in wire
order; `readTransfer`'s framing verdict is the origin's choice; and exactly the heads were
consumed. -/
theorem h1_head_roundtrip (isHead : Bool) (is : List OHead) (his : ∀ i ∈ is, i.Interim) (hn : is.length ≤ 5)
    (o : OHead) (ho : o.OK) (hfc : FinalCode o.code)
    (cc chunked : Bool) (te : Bytes) (cl : Option (Bytes × Nat)) (tr : Option Bytes)
    (hF : OriginFraming o cc chunked te cl tr)
    (hexcl : chunked = true → cl = none) (htrc : tr.isSome = true → chunked = true)
    (hkeys : ∀ tv, tr = some tv → (declKeys tv).any badTrailerKey = false) (W : Bytes) :
    ∃ msg, Req.H1.parseFinalHead 6 isHead (interimsWire is ++ (o.wire ++ W)) = some (msg, W) ∧
      msg.sl.code = o.code ∧
      (∀ k, OrdinaryKey k → msg.header.get k =
        if valuesOf k (fieldsOf o.fs) = [] then none else some (valuesOf k (fieldsOf o.fs))) ∧
      msg.trailerDecl = trailerDeclOf tr ∧
      msg.framing =
        (if (isHead || !Req.H1.bodyAllowedForStatus o.code) = true then RespFraming.none
         else if chunked = true then RespFraming.chunked
         else framingOfCL cl) := by
  have h := h1_head_roundtrip_pragma isHead is his hn o ho hfc cc chunked te cl tr hF.toP hexcl htrc hkeys W
  simp only [pragmaAdds_none hF.pragma, Bool.false_eq_true, and_false, if_false] at h
  exact h

/-- The trailer section the origin writes after the last-chunk line. -/
def trailerSection (trailers : List WField) : Bytes := blockWire trailers

/-- What `Response.Trailer` receives from it. -/
def trailerGot (trailers : List WField) : Option Trailer :=
  if trailers = [] then none else some (fieldsOf trailers)

theorem trailerOK_section (cap : Nat) (hcap : 2 ≤ cap) (trailers : List WField) (hts : ∀ f ∈ trailers, f.OK)
    (hfit : (blockWire trailers).length ≤ cap) (rest : Bytes) :
    TrailerOK cap (trailerSection trailers ++ rest) rest (trailerGot trailers) := by
  unfold trailerSection trailerGot
  by_cases h : trailers = []
  · subst h
    simpa [blockWire] using trailerOK_empty cap hcap rest
  · simp only [h, if_false]
    exact trailerOK_fields cap trailers hts h hfit rest

/-- **h1_response_roundtrip, no body**: a response to HEAD, or with a status that cannot have a
body (1xx final i.e. 101, 204, 304) — whatever framing fields it carries. The caller gets the
status and the fields, the body reader is `http.NoBody`, and `rest` (the next response) is
untouched. -/
theorem h1_response_roundtrip_nobody (isHead : Bool) (is : List OHead) (his : ∀ i ∈ is, i.Interim)
    (hn : is.length ≤ 5) (o : OHead) (ho : o.OK) (hfc : FinalCode o.code)
    (cc chunked : Bool) (te : Bytes) (cl : Option (Bytes × Nat)) (tr : Option Bytes)
    (hF : OriginFraming o cc chunked te cl tr)
    (hexcl : chunked = true → cl = none) (htrc : tr.isSome = true → chunked = true)
    (hkeys : ∀ tv, tr = some tv → (declKeys tv).any badTrailerKey = false)
    (hnb : (isHead || !Req.H1.bodyAllowedForStatus o.code) = true) (rest : Bytes) :
    ∃ msg, Req.H1.parseFinalHead 6 isHead (interimsWire is ++ (o.wire ++ rest)) = some (msg, rest) ∧
      msg.sl.code = o.code ∧
      (∀ k, OrdinaryKey k → msg.header.get k =
        if valuesOf k (fieldsOf o.fs) = [] then none else some (valuesOf k (fieldsOf o.fs))) ∧
      msg.framing = RespFraming.none := by
  obtain ⟨msg, h1, h2, h3, _, h5⟩ :=
    h1_head_roundtrip isHead is his hn o ho hfc cc chunked te cl tr hF hexcl htrc hkeys rest
  exact ⟨msg, h1, h2, h3, by rw [h5, if_pos hnb]⟩

/-- **h1_response_roundtrip, declared length.** The origin announces `Content-Length` (any
spelling the reader parses to `|body|`) and writes `body`, then `rest` follows. The caller gets
the status, the fields, and — from ANY state `br` of the connection reader that has consumed
exactly the heads, for EVERY read-size sequence — exactly `body`, then `io.EOF`, with the
reader left exactly at `rest`. (An empty body is `http.NoBody`.) -/
theorem h1_response_roundtrip_length (is : List OHead) (his : ∀ i ∈ is, i.Interim) (hn : is.length ≤ 5)
    (o : OHead) (ho : o.OK) (hfc : FinalCode o.code) (hba : Req.H1.bodyAllowedForStatus o.code = true)
    (cc : Bool) (clv : Bytes) (body : Bytes)
    (hF : OriginFraming o cc false vChunked (some (clv, body.length)) none) (rest : Bytes) :
    ∃ msg, Req.H1.parseFinalHead 6 false (interimsWire is ++ (o.wire ++ (body ++ rest))) = some (msg, body ++ rest) ∧
      msg.sl.code = o.code ∧
      (∀ k, OrdinaryKey k → msg.header.get k =
        if valuesOf k (fieldsOf o.fs) = [] then none else some (valuesOf k (fieldsOf o.fs))) ∧
      (body = [] → msg.framing = RespFraming.none) ∧
      (body ≠ [] → msg.framing = RespFraming.length body.length ∧
        ∀ br : Bufio, br.rem = body ++ rest → br.WF →
          BodyExact (H1Body.new (.length body.length) br) body none rest) := by
  obtain ⟨msg, h1, h2, h3, _, h5⟩ :=
    h1_head_roundtrip false is his hn o ho hfc cc false vChunked (some (clv, body.length)) none hF
      (by simp) (by simp) (by simp) (body ++ rest)
  rw [hba] at h5
  refine ⟨msg, h1, h2, h3, fun hb => by rw [h5, hb]; rfl, fun hb =>
    ⟨?_, fun br hrem hw => bodyExact_length br body rest (List.length_pos_iff.mpr hb) hrem hw⟩⟩
  obtain ⟨b, bs, rfl⟩ := List.exists_cons_of_ne_nil hb
  exact h5

/-- **h1_response_roundtrip, chunked.** The origin announces `Transfer-Encoding: chunked` (any
case), optionally a `Trailer`, and writes the body as the chunks `cs` — ANY split, each size
line any spelling / extension the reader's own parser maps to the chunk length —, a last-chunk
line, the trailer section with the fields `trailers` (fitting the read buffer: the code's own
limit), then `rest`. The caller gets the status, the fields, the announced trailer keys, and —
from ANY reader state that has consumed exactly the heads, for EVERY read-size sequence —
exactly the concatenated chunk data, then `io.EOF`; `Response.Trailer` receives exactly the
trailer fields (canonical names, wire order); the reader is left exactly at `rest`. -/
theorem h1_response_roundtrip_chunked (is : List OHead) (his : ∀ i ∈ is, i.Interim) (hn : is.length ≤ 5)
    (o : OHead) (ho : o.OK) (hfc : FinalCode o.code) (hba : Req.H1.bodyAllowedForStatus o.code = true)
    (cc : Bool) (te : Bytes) (tr : Option Bytes) (hF : OriginFraming o cc true te none tr)
    (hkeys : ∀ tv, tr = some tv → (declKeys tv).any badTrailerKey = false)
    (cap : Nat) (hcap : 2 ≤ cap) (cs : List WChunk) (hcs : ∀ c ∈ cs, c.OK cap) (last : Bytes) (hl : LastOK cap last)
    (trailers : List WField) (hts : ∀ f ∈ trailers, f.OK) (hfit : (blockWire trailers).length ≤ cap)
    (rest : Bytes) :
    let after := wireFrom cs last (trailerSection trailers ++ rest)
    ∃ msg, Req.H1.parseFinalHead 6 false (interimsWire is ++ (o.wire ++ after)) = some (msg, after) ∧
      msg.sl.code = o.code ∧
      (∀ k, OrdinaryKey k → msg.header.get k =
        if valuesOf k (fieldsOf o.fs) = [] then none else some (valuesOf k (fieldsOf o.fs))) ∧
      msg.trailerDecl = trailerDeclOf tr ∧
      msg.framing = RespFraming.chunked ∧
      ∀ br : Bufio, br.rem = after → br.WF → br.Fits → br.cap = cap →
        BodyExact (H1Body.new .chunked br) (dataOf cs) (trailerGot trailers) rest := by
  intro after
  obtain ⟨msg, h1, h2, h3, h4, h5⟩ :=
    h1_head_roundtrip false is his hn o ho hfc cc true te none tr hF (by simp) (by simp) hkeys after
  rw [hba] at h5
  refine ⟨msg, h1, h2, h3, h4, h5, ?_⟩
  intro br hrem hw hf hc
  subst hc
  exact bodyExact_chunked br cs hcs last hl _ rest _ (trailerOK_section br.cap hcap trailers hts hfit rest)
    hrem hw hf

/-- **h1_response_roundtrip, close-delimited.** The origin announces neither a length nor a
transfer coding, writes `body` and closes the connection. The caller gets the status, the
fields, and — from ANY reader state that has consumed exactly the heads, for EVERY read-size
sequence — exactly `body`, then `io.EOF`. -/
theorem h1_response_roundtrip_close (is : List OHead) (his : ∀ i ∈ is, i.Interim) (hn : is.length ≤ 5)
    (o : OHead) (ho : o.OK) (hfc : FinalCode o.code) (hba : Req.H1.bodyAllowedForStatus o.code = true)
    (cc : Bool) (hF : OriginFraming o cc false vChunked none none) (body : Bytes) :
    ∃ msg, Req.H1.parseFinalHead 6 false (interimsWire is ++ (o.wire ++ body)) = some (msg, body) ∧
      msg.sl.code = o.code ∧
      (∀ k, OrdinaryKey k → msg.header.get k =
        if valuesOf k (fieldsOf o.fs) = [] then none else some (valuesOf k (fieldsOf o.fs))) ∧
      msg.framing = RespFraming.untilClose ∧
      ∀ br : Bufio, br.rem = body → br.WF → br.net.fin = .eof →
        BodyExact (H1Body.new .close br) body none [] := by
  obtain ⟨msg, h1, h2, h3, _, h5⟩ :=
    h1_head_roundtrip false is his hn o ho hfc cc false vChunked none none hF (by simp) (by simp) (by simp) body
  rw [hba] at h5
  exact ⟨msg, h1, h2, h3, h5, fun br hrem hw hfin => bodyExact_close br body hrem hw hfin⟩

/-- **h1_head_lines_split_independent.** The whole connection content — interim heads, the
final head, then anything (`after`: body, trailer section, next response) — delivered in ANY
segmentation `segs`, through a read buffer of any size in which every head line fits: the head
reader's line primitive hands out exactly the origin's head lines, and the connection reader
is then in a state that stands exactly at `after`. (This is the state the body theorems
quantify over: together they cover every segmentation of the whole message.) -/
theorem h1_head_lines_split_independent (hs : List OHead) (hok : ∀ h ∈ hs, h.OK) (cap : Nat)
    (hfit : ∀ h ∈ hs, ∀ l ∈ h.lines, l.length + 1 ≤ cap) (after : Bytes)
    (segs : List Bytes) (fin : NetEnd) (hsegs : segs.flatten = interimsWire hs ++ after) :
    ∃ br, Bufio.readLines (hs.flatMap OHead.lines).length (Bufio.new cap ⟨segs, fin⟩) =
        ((hs.flatMap OHead.lines).map (fun l => l ++ [10]), br) ∧
      br.rem = after ∧ br.WF ∧ br.Fits ∧ br.cap = cap ∧ br.net.fin = fin := by
  have hwire : interimsWire hs = linesWire (hs.flatMap OHead.lines) := by
    clear hok hfit hsegs
    induction hs with
    | nil => simp [interimsWire, linesWire]
    | cons h hs ih =>
      have : interimsWire (h :: hs) = h.wire ++ interimsWire hs := by simp [interimsWire]
      rw [this, ih, OHead.wire_lines, List.flatMap_cons, linesWire_append]
  refine Bufio.readLines_spec (hs.flatMap OHead.lines) (Bufio.new cap ⟨segs, fin⟩) after (Bufio.new_wf _ _)
    (Bufio.new_fits _ _) (by rw [Bufio.new_rem, hsegs, hwire]) ?_ ?_
  · intro l hl
    obtain ⟨h, hh, hl⟩ := List.mem_flatMap.mp hl
    exact OHead.lines_no_lf h (hok h hh) l hl
  · intro l hl
    obtain ⟨h, hh, hl⟩ := List.mem_flatMap.mp hl
    exact hfit h hh l hl

/-- **h1_response_roundtrip, chunked, from a fresh connection.** The complete statement for one
framing, end to end: the origin's whole output (interim heads, final head, chunks in any split,
last chunk, trailer section, then `rest`) arrives in ANY segmentation `segs` on a fresh
connection with a read buffer in which the head lines, the chunk-size lines and the trailer
section fit. The head reader returns the origin's status and fields and consumes exactly the
heads; after the head lines have been read the body automaton delivers — for EVERY read-size
sequence — exactly the body, then `io.EOF`, exactly the trailer fields, and leaves exactly
`rest` on the connection. -/
theorem h1_response_roundtrip_chunked_wire (is : List OHead) (his : ∀ i ∈ is, i.Interim) (hn : is.length ≤ 5)
    (o : OHead) (ho : o.OK) (hfc : FinalCode o.code) (hba : Req.H1.bodyAllowedForStatus o.code = true)
    (cc : Bool) (te : Bytes) (tr : Option Bytes) (hF : OriginFraming o cc true te none tr)
    (hkeys : ∀ tv, tr = some tv → (declKeys tv).any badTrailerKey = false)
    (cap : Nat) (hcap : 2 ≤ cap) (hfit : ∀ h ∈ is ++ [o], ∀ l ∈ h.lines, l.length + 1 ≤ cap)
    (cs : List WChunk) (hcs : ∀ c ∈ cs, c.OK cap) (last : Bytes) (hl : LastOK cap last)
    (trailers : List WField) (hts : ∀ f ∈ trailers, f.OK) (hfitT : (blockWire trailers).length ≤ cap)
    (rest : Bytes) (segs : List Bytes) (fin : NetEnd)
    (hsegs : segs.flatten =
      interimsWire is ++ (o.wire ++ wireFrom cs last (trailerSection trailers ++ rest))) :
    let after := wireFrom cs last (trailerSection trailers ++ rest)
    let br := (Bufio.readLines ((is ++ [o]).flatMap OHead.lines).length (Bufio.new cap ⟨segs, fin⟩)).2
    (∃ msg, Req.H1.parseFinalHead 6 false segs.flatten = some (msg, after) ∧ msg.sl.code = o.code ∧
      (∀ k, OrdinaryKey k → msg.header.get k =
        if valuesOf k (fieldsOf o.fs) = [] then none else some (valuesOf k (fieldsOf o.fs))) ∧
      msg.framing = RespFraming.chunked) ∧
    br.rem = after ∧
    BodyExact (H1Body.new .chunked br) (dataOf cs) (trailerGot trailers) rest := by
  intro after br
  obtain ⟨msg, h1, h2, h3, _, h5, h6⟩ :=
    h1_response_roundtrip_chunked is his hn o ho hfc hba cc te tr hF hkeys cap hcap cs hcs last hl trailers hts
      hfitT rest
  have hsegs' : segs.flatten = interimsWire (is ++ [o]) ++ after := by
    rw [hsegs]; simp [interimsWire, after, List.append_assoc]
  obtain ⟨br', hb1, hb2, hb3, hb4, hb5, _⟩ :=
    h1_head_lines_split_independent (is ++ [o])
      (fun h hh => (List.mem_append.mp hh).elim (fun hi => (his h hi).1) (fun ho' => List.mem_singleton.mp ho' ▸ ho))
      cap hfit after segs fin hsegs'
  have hbr : br = br' := by simp only [br, hb1]
  refine ⟨⟨msg, by rw [hsegs]; exact h1, h2, h3, h5⟩, by rw [hbr]; exact hb2, ?_⟩
  rw [hbr]
  exact h6 br' hb2 hb3 hb4 hb5

/-! ## Non-vacuity

`HTTP/1.1 103 Early` + `Link: x`, then `HTTP/1.1 200 OK` with the fields
`x-a:  b `, `content-length: 5`, `X-A: c` — the framing field in the middle, names in mixed
case, optional white space —, body `hello`, then `N` (the next response). -/

def exInterim : OHead := ⟨49, 48, 51, [69, 97, 114, 108, 121], [⟨[76, 105, 110, 107], [32], [120], []⟩]⟩

def exHead : OHead :=
  ⟨50, 48, 48, [79, 75],
   [⟨[120, 45, 97], [32, 32], [98], [32]⟩,
    ⟨[99, 111, 110, 116, 101, 110, 116, 45, 108, 101, 110, 103, 116, 104], [32], [53], []⟩,
    ⟨[88, 45, 65], [32], [99], []⟩]⟩

theorem exInterim_ok : exInterim.Interim := by
  refine ⟨ohead_ok_of_bool _ (by decide +kernel), rfl, by decide +kernel, ?_⟩
  refine ⟨by decide +kernel, by decide +kernel, by decide +kernel, by decide +kernel, by decide +kernel, by simp, by decide +kernel⟩

theorem exHead_framing : OriginFraming exHead false false vChunked (some ([53], 5)) none := by
  refine ⟨by decide +kernel, by decide +kernel, by decide +kernel, by decide +kernel, by decide +kernel, ?_, by decide +kernel⟩
  intro p hp
  simp only [Option.some.injEq] at hp
  subst hp
  decide

example :
    ∃ msg, Req.H1.parseFinalHead 6 false
        (interimsWire [exInterim] ++ (exHead.wire ++ ([104, 101, 108, 108, 111] ++ [78]))) =
          some (msg, [104, 101, 108, 108, 111] ++ [78]) ∧
      msg.sl.code = 200 ∧
      msg.header.get [88, 45, 65] = some [[98], [99]] ∧
      msg.framing = RespFraming.length 5 ∧
      ∀ br : Bufio, br.rem = [104, 101, 108, 108, 111] ++ [78] → br.WF →
        BodyExact (H1Body.new (.length 5) br) [104, 101, 108, 108, 111] none [78] := by
  obtain ⟨msg, h1, h2, h3, _, h5⟩ :=
    h1_response_roundtrip_length [exInterim] (by intro i hi; simp at hi; subst hi; exact exInterim_ok) (by simp)
      exHead (ohead_ok_of_bool _ (by decide)) (by unfold FinalCode; decide) (by decide) false [53] [104, 101, 108, 108, 111]
      exHead_framing [78]
  refine ⟨msg, h1, h2, ?_, (h5 (by simp)).1, (h5 (by simp)).2⟩
  rw [h3 [88, 45, 65] (by unfold OrdinaryKey; decide)]
  decide

/-! The same message chunked: `Transfer-Encoding: CHUNKED`, `Trailer: X-T`, chunks
`3;x=y` CRLF `hel`, `002` CRLF `lo`, last chunk `0`, trailer `x-t: v`; buffer size 4096. -/

def exHeadChunked : OHead :=
  ⟨50, 48, 48, [79, 75],
   [⟨[84, 114, 97, 110, 115, 102, 101, 114, 45, 69, 110, 99, 111, 100, 105, 110, 103], [32],
      [67, 72, 85, 78, 75, 69, 68], []⟩,
    ⟨[88, 45, 65], [32], [99], []⟩,
    ⟨[116, 114, 97, 105, 108, 101, 114], [32], [88, 45, 84], []⟩]⟩

theorem exHeadChunked_framing :
    OriginFraming exHeadChunked false true [67, 72, 85, 78, 75, 69, 68] none (some [88, 45, 84]) := by
  refine ⟨by decide +kernel, by decide +kernel, by decide +kernel, by decide +kernel, by decide +kernel, by simp,
    by decide +kernel⟩

theorem exChunked_parts :
    (∀ tv, some [88, 45, 84] = some tv → (declKeys tv).any badTrailerKey = false) ∧
    (∀ c ∈ ([⟨[51, 59, 120, 61, 121, 13], [104, 101, 108]⟩, ⟨[48, 48, 50, 13], [108, 111]⟩] : List WChunk),
      c.OK 4096) ∧
    LastOK 4096 [48, 13] ∧ ∀ f ∈ ([⟨[120, 45, 116], [32], [118], []⟩] : List WField), f.OK := by
  refine ⟨?_, ?_, ⟨by decide +kernel, by rfl, by decide +kernel, by decide +kernel⟩, ?_⟩
  · intro tv htv
    cases htv
    decide +kernel
  · intro c hc
    simp only [List.mem_cons, List.mem_nil_iff, or_false] at hc
    rcases hc with rfl | rfl
    · exact ⟨by decide +kernel, by decide +kernel, by rfl, by decide +kernel, by decide +kernel⟩
    · exact ⟨by decide +kernel, by decide +kernel, by rfl, by decide +kernel, by decide +kernel⟩
  · intro f hf
    cases List.mem_singleton.mp hf
    exact wfield_ok_of_bool _ (by decide +kernel)

example :
    let cs : List WChunk := [⟨[51, 59, 120, 61, 121, 13], [104, 101, 108]⟩, ⟨[48, 48, 50, 13], [108, 111]⟩]
    let trailers : List WField := [⟨[120, 45, 116], [32], [118], []⟩]
    let after := wireFrom cs [48, 13] (trailerSection trailers ++ [78])
    ∃ msg, Req.H1.parseFinalHead 6 false (interimsWire [] ++ (exHeadChunked.wire ++ after)) = some (msg, after) ∧
      msg.trailerDecl = [[88, 45, 84]] ∧
      ∀ br : Bufio, br.rem = after → br.WF → br.Fits → br.cap = 4096 →
        BodyExact (H1Body.new .chunked br) [104, 101, 108, 108, 111] (some [([88, 45, 84], [118])]) [78] := by
  intro cs trailers after
  obtain ⟨hkeys, hcs, hl, hts⟩ := exChunked_parts
  obtain ⟨msg, h1, _, _, h4, _, h6⟩ :=
    h1_response_roundtrip_chunked [] (by simp) (by simp) exHeadChunked (ohead_ok_of_bool _ (by decide))
      (by unfold FinalCode; decide) (by decide) false _ _ exHeadChunked_framing hkeys
      4096 (by omega) cs hcs [48, 13] hl trailers hts (by decide) [78]
  exact ⟨msg, h1, h4, h6⟩

end Req.Props.C02
