import Req.Client.CompressLines
import Req.Props.C14
import Req.Lemmas.TrimBy
/-!
C14 — the decoding decision over the raw header LINES of the response: it depends on the
`Content-Encoding` lines alone (non-interference of every other field; seeded/C14-r5-1 makes the
HTTP/1.1 decision read Content-Type), and a body is decoded only if what was read is ONE coding as
it stands (no comma, no optional white space; seeded/C14-r5-2 decodes `deflate, gzip` on HTTP/2).

Two readings of several lines are modelled. `process` reads the first line (`Header.Get`, as
net/http does): `first_line_decides`, `later_lines_alone_never_decode`. /repo reads all lines
joined into one field value (`compress.ContentEncoding` = `Joined.process`), so that several
lines are a list and never decoded: `several_lines_untouched`. With at most one line they are
the same function (`joined_single_line`).
-/
namespace Req.Props.C14Lines
open Req.Proto Req.Compress Req.Compress.Lines Req.Props.C14

theorem hget_eq_firstLine (h : Header) : hget h hContentEncoding = firstLine (ceLines h) := by
  induction h with
  | nil => rfl
  | cons p t ih =>
    unfold hget ceLines hvalues firstLine at *
    by_cases hp : (p.1 == hContentEncoding) = true
    · simp [List.find?, List.filter, hp]
    · have hp' : (p.1 == hContentEncoding) = false := by simpa using hp
      simp only [List.find?, List.filter, hp'] at ih ⊢
      exact ih

theorem respIn_eq_ofLines (s : Site) (c : ReqCfg) (auto hasBody : Bool) (r : Resp) :
    respIn s c auto hasBody r =
      respInOfLines (addGzip s c) auto c.isHead hasBody (ceLines r.header) := by
  simp only [respIn, respInOfLines, hget_eq_firstLine]

/-- non-interference: the action taken and the reader put
under `Response.Body` depend on the response header only through its `Content-Encoding` lines.
Two responses that differ in Content-Type (or any other field, or ContentLength) are decided
alike, on every stack and under every configuration. -/
theorem decision_ignores_content_type (s : Site) (c : ReqCfg) (auto hasBody : Bool) (r r' : Resp)
    (h : ceLines r.header = ceLines r'.header) :
    decideAt s (respIn s c auto hasBody r) = decideAt s (respIn s c auto hasBody r') ∧
    (process s c auto hasBody r).body = (process s c auto hasBody r').body := by
  have e : respIn s c auto hasBody r = respIn s c auto hasBody r' := by
    rw [respIn_eq_ofLines, respIn_eq_ofLines, h]
  refine ⟨by rw [e], ?_⟩
  unfold process
  rw [e]
  cases decideAt s (respIn s c auto hasBody r') <;> rfl

theorem ceLines_insert (h1 h2 : Header) (k v : Bytes) (hk : k ≠ hContentEncoding) :
    ceLines (h1 ++ (k, v) :: h2) = ceLines (h1 ++ h2) := by
  have : ((k == hContentEncoding) = false) := by simpa using hk
  simp [ceLines, hvalues, List.filter_append, List.filter, this]

/-- a field that is not Content-Encoding, placed anywhere in the
header with any value (`Content-Type: application/gzip` included), does not change the outcome. -/
theorem decision_ignores_field (s : Site) (c : ReqCfg) (auto hasBody : Bool) (h1 h2 : Header)
    (k v : Bytes) (hk : k ≠ hContentEncoding) (n n' : Int) (u u' : Bool) :
    (process s c auto hasBody ⟨h1 ++ (k, v) :: h2, n, u⟩).body =
      (process s c auto hasBody ⟨h1 ++ h2, n', u'⟩).body :=
  (decision_ignores_content_type s c auto hasBody _ _ (ceLines_insert h1 h2 k v hk)).2

def hContentType : Bytes := [67, 111, 110, 116, 101, 110, 116, 45, 84, 121, 112, 101]
def appGzip : Bytes := [97, 112, 112, 108, 105, 99, 97, 116, 105, 111, 110, 47, 103, 122, 105, 112]

-- `Content-Type: application/gzip` + `Content-Encoding: gzip` to the transport's own request: gunzipped
example :
    (process .h1 ⟨false, [71, 69, 84], [], []⟩ false true
      ⟨[(hContentType, appGzip), (hContentEncoding, tokGzip)], 5, false⟩).body = some .gunzip := by decide
example : hContentType ≠ hContentEncoding := by decide

/-- decoded or not, every field other than Content-Encoding and
Content-Length arrives with all its values in order. -/
theorem other_fields_delivered (s : Site) (c : ReqCfg) (auto hasBody : Bool) (r : Resp) (k : Bytes)
    (h1 : k ≠ hContentEncoding) (h2 : k ≠ hContentLength) :
    hvalues (process s c auto hasBody r).resp.header k = hvalues r.header k := by
  unfold process
  cases decideAt s (respIn s c auto hasBody r) <;>
    simp only [applyAction, strip] <;>
    first
      | rfl
      | (rw [hvalues_hdel_other _ _ _ h2, hvalues_hdel_other _ _ _ h1])

theorem splitComma_plain (v : Bytes) (hp : Plain v) : splitComma v = [v] := by
  induction v with
  | nil => rfl
  | cons b bs ih =>
    have hb : (b == 44) = false := by simpa using (hp b (by simp)).1
    have := ih (fun x hx => hp x (List.mem_cons_of_mem _ hx))
    simp [splitComma, hb, this]

theorem trimOWS_plain (v : Bytes) (hp : Plain v) : trimOWS v = v :=
  Req.Trim.trimBy_of_ends (fun b hb => (hp b (List.mem_of_mem_head? hb)).2)
    fun b hb => (hp b (List.mem_of_getLast? hb)).2

theorem codings_plain (v : Bytes) (hp : Plain v) (hne : v ≠ []) : codings [v] = [v] := by
  simp [codings, splitComma_plain v hp, trimOWS_plain v hp, hne]

theorem token_plain (a : Alg) : Plain (tokenOf a) ∧ tokenOf a ≠ [] := by
  cases a <;> refine ⟨?_, by decide⟩ <;> (intro b hb; revert b; decide)

theorem select_eq_token (v : Bytes) (a : Alg) : select v = some a ↔ v = tokenOf a := by
  rw [select_some_iff]
  cases a <;> simp [tokenOf] <;> decide

theorem gzipFold_plain (v : Bytes) (h : isGzipFold v = true) : Plain v ∧ v ≠ [] := by
  have hlt : Req.Ascii.lower tokGzip = tokGzip := by decide
  have hl : Req.Ascii.lower v = tokGzip := by
    have := h
    simp only [isGzipFold, Req.Ascii.equalFold, beq_iff_eq, hlt] at this
    exact this
  constructor
  · intro b hb
    have hm : Req.Ascii.toLower b ∈ tokGzip := by
      rw [← hl]; exact List.mem_map_of_mem hb
    constructor
    · intro e; subst e; revert hm; decide
    · cases ho : isOWS b with
      | false => rfl
      | true =>
        have : b = 32 ∨ b = 9 := by simpa [isOWS] using ho
        rcases this with e | e <;> (subst e; revert hm; decide)
  · intro e; subst e; revert hl; decide

theorem decoded_is_plain (s : Site) (i : RespIn) (h : decideAt s i ≠ .untouched) :
    Plain i.ce ∧ i.ce ≠ [] := by
  rw [decideAt_eq] at h
  cases hd : decideH3 i with
  | untouched => rw [hd] at h; exact absurd (by split <;> rfl) h
  | gunzip => exact gzipFold_plain _ ((decideH3_gunzip i).mp hd).2
  | decompress a =>
    obtain ⟨_, _, _, hsel⟩ := (decideH3_decompress i a).mp hd
    rw [(select_eq_token _ _).mp hsel]
    exact token_plain a

/-- whenever a body is decoded, on any stack, the line that was
read denotes exactly ONE content coding: itself. -/
theorem decoded_is_single_coding (s : Site) (i : RespIn) (h : decideAt s i ≠ .untouched) :
    codings [i.ce] = [i.ce] :=
  codings_plain _ (decoded_is_plain s i h).1 (decoded_is_plain s i h).2

/-- a line that denotes two or more codings (`deflate, gzip`;
`gzip,br`; `gzip , identity`) or none (`""`, `","`) is never decoded: the response is left
alone on HTTP/1.1, HTTP/2 and HTTP/3 alike. -/
theorem list_never_decoded (s : Site) (i : RespIn) (h : (codings [i.ce]).length ≠ 1) :
    decideAt s i = .untouched := by
  apply Classical.byContradiction
  intro hn
  exact h (by rw [decoded_is_single_coding s i hn]; rfl)

-- "deflate, gzip", "gzip,br", "gzip ,\tbr", ", gzip": lists; " gzip": not Plain, one coding
example : codings [[100, 101, 102, 108, 97, 116, 101, 44, 32, 103, 122, 105, 112]] = [tokDeflate, tokGzip] := by decide
example : codings [[103, 122, 105, 112, 44, 98, 114]] = [tokGzip, tokBr] := by decide
example : codings [[103, 122, 105, 112, 32, 44, 9, 98, 114]] = [tokGzip, tokBr] := by decide
example : codings [[44, 32, 103, 122, 105, 112]] = [tokGzip] := by decide
example : codings [[32, 103, 122, 105, 112]] = [tokGzip] := by decide
example : codings [tokDeflate, tokGzip] = [tokDeflate, tokGzip] := by decide
example : decideAt .h2 ⟨true, true, false, true, [100, 101, 102, 108, 97, 116, 101, 44, 32, 103, 122, 105, 112]⟩ = .untouched := by decide

/-- a response with ONE Content-Encoding line `v`: it is
decoded iff the stack reaches its branch, `v` is a single coding as it stands, and either the
transport asked for gzip and `v` is gzip in any letter case, or AutoDecompression is on, the
request is not HEAD and `v` is exactly one of the four supported tokens. -/
theorem decode_iff_single_supported_token (s : Site) (ag auto hd hb : Bool) (v : Bytes)
    (hhead : hd = true → ag = false) :
    decideAt s (respInOfLines ag auto hd hb [v]) ≠ .untouched ↔
      reaches s (respInOfLines ag auto hd hb [v]) = true ∧ codings [v] = [v] ∧
      ((ag = true ∧ Req.Ascii.lower v = tokGzip) ∨
        (auto = true ∧ hd = false ∧ ∃ a, v = tokenOf a)) := by
  let i := respInOfLines ag auto hd hb [v]
  have hce : i.ce = v := rfl
  have hlt : Req.Ascii.lower tokGzip = tokGzip := by decide
  have hfold : isGzipFold v = true ↔ Req.Ascii.lower v = tokGzip := by
    simp only [isGzipFold, Req.Ascii.equalFold, beq_iff_eq, hlt]
  constructor
  · intro h
    have hs := decoded_is_single_coding s i h
    rw [hce] at hs
    rcases hd' : decideAt s i with _ | a | _
    · obtain ⟨hreach, hadd, hgz⟩ := (decoded_when s i hhead).mp hd'
      exact ⟨hreach, hs, Or.inl ⟨hadd, hfold.mp hgz⟩⟩
    · obtain ⟨hreach, hnh, _, hauto, hsel⟩ := (decompress_when s i a).mp hd'
      exact ⟨hreach, hs, Or.inr ⟨hauto, hnh, a, (select_eq_token _ _).mp hsel⟩⟩
    · exact absurd hd' h
  · rintro ⟨hr, _, hor⟩
    rcases hor with ⟨h1, h2⟩ | ⟨h1, h2, a, h3⟩
    · rw [(decoded_when s i hhead).mpr ⟨hr, h1, hfold.mpr h2⟩]; intro hc; cases hc
    · by_cases hg : (i.addedGzip = true ∧ isGzipFold i.ce = true)
      · rw [(decoded_when s i hhead).mpr ⟨hr, hg.1, hg.2⟩]; intro hc; cases hc
      · rw [(decompress_when s i a).mpr ⟨hr, h2, hg, h1, (select_eq_token _ _).mpr h3⟩]
        intro hc; cases hc

example : decideAt .h3 (respInOfLines true false false true [[71, 90, 73, 80]]) = .gunzip := by decide
example : decideAt .h1 (respInOfLines false true false true [tokZstd]) = .decompress .zstd := by decide

/-- `process` reads `Header.Get`: with several Content-Encoding lines the first one alone
decides. That is net/http's reading and that of imroc/req before commit 5cd2211; /repo's is
`Joined.process` (`several_lines_untouched`). -/
theorem first_line_decides (s : Site) (ag auto hd hb : Bool) (v : Bytes) (rest : List Bytes) :
    decideAt s (respInOfLines ag auto hd hb (v :: rest)) =
      decideAt s (respInOfLines ag auto hd hb [v]) := rfl

/-- for `process` (first line): a supported token on a later line, behind a first line
that is not a single supported coding, leaves the response untouched (seeded/C14-r5-2 looks for
the token in every line on HTTP/2). -/
theorem later_lines_alone_never_decode (s : Site) (ag auto hd hb : Bool) (v : Bytes)
    (rest : List Bytes) (hv : (codings [v]).length ≠ 1) :
    decideAt s (respInOfLines ag auto hd hb (v :: rest)) = .untouched :=
  list_never_decoded s _ hv

example : decideAt .h2 (respInOfLines true true false true [tokDeflate, tokGzip]) = .decompress .deflate := by decide
example : decideAt .h2 (respInOfLines true false false true [tokDeflate, tokGzip]) = .untouched := by decide

/-! ### /repo's reading: all lines, one field value (`Joined.process`) -/

theorem joinLines_comma (v w : Bytes) (rest : List Bytes) : (44 : UInt8) ∈ joinLines (v :: w :: rest) := by
  simp [joinLines]

/-- with at most one Content-Encoding line /repo's reading (`Joined.process`) and the first-line
reading (`process`) are the same function: same decision, same response. This is what carries
the theorems about `process` over to /repo. -/
theorem joined_single_line (s : Site) (c : ReqCfg) (auto hasBody : Bool) (r : Resp)
    (h : (ceLines r.header).length ≤ 1) :
    Joined.process s c auto hasBody r = process s c auto hasBody r := by
  have e : fieldValue r.header = hget r.header hContentEncoding := by
    rw [hget_eq_firstLine]
    unfold fieldValue
    match hl : ceLines r.header with
    | [] => rfl
    | [v] => rfl
    | _ :: _ :: _ => rw [hl] at h; simp at h
  unfold Joined.process process Joined.respIn respIn
  rw [e]

/-- for /repo (`Joined.process`) a response with two or more Content-Encoding lines is a list: left alone on every stack, under every configuration (whatever
the lines say — `gzip` + `gzip` is a body gzipped twice, not once). -/
theorem several_lines_untouched (s : Site) (c : ReqCfg) (auto hasBody : Bool) (r : Resp)
    (h : 2 ≤ (ceLines r.header).length) :
    Joined.process s c auto hasBody r = ⟨r, some .raw⟩ := by
  have hu : decideAt s (Joined.respIn s c auto hasBody r) = .untouched := by
    apply Classical.byContradiction
    intro hn
    have hp := (decoded_is_plain s _ hn).1
    match hl : ceLines r.header with
    | [] => rw [hl] at h; simp at h
    | [_] => rw [hl] at h; simp at h
    | v :: w :: rest =>
      have hm : (44 : UInt8) ∈ (Joined.respIn s c auto hasBody r).ce := by
        show (44 : UInt8) ∈ joinLines (ceLines r.header)
        rw [hl]; exact joinLines_comma v w rest
      exact (hp 44 hm).1 rfl
  unfold Joined.process
  rw [hu]; rfl

/-- /repo (`Joined.process`) decodes a response only if it has exactly ONE Content-Encoding line
and that line is one coding as it stands (`decode_iff_single_supported_token` over ALL the raw
lines). -/
theorem joined_decoded_single_line_single_coding (s : Site) (c : ReqCfg) (auto hasBody : Bool) (r : Resp)
    (h : (Joined.process s c auto hasBody r).body ≠ some .raw) :
    ∃ v, ceLines r.header = [v] ∧ codings (ceLines r.header) = [v] := by
  match hl : ceLines r.header with
  | [] =>
    exfalso; apply h
    have : Joined.process s c auto hasBody r = process s c auto hasBody r :=
      joined_single_line s c auto hasBody r (by rw [hl]; simp)
    rw [this]
    have hce : hget r.header hContentEncoding = [] := by rw [hget_eq_firstLine, hl]; rfl
    have hu : decideAt s (respIn s c auto hasBody r) = .untouched := by
      apply Classical.byContradiction
      intro hn
      exact (decoded_is_plain s _ hn).2 hce
    unfold process; rw [hu]; rfl
  | [v] =>
    refine ⟨v, rfl, ?_⟩
    have hn : decideAt s (Joined.respIn s c auto hasBody r) ≠ .untouched := by
      intro hu; apply h; unfold Joined.process; rw [hu]; rfl
    have := decoded_is_single_coding s _ hn
    have hv : (Joined.respIn s c auto hasBody r).ce = v := by
      show joinLines (ceLines r.header) = v
      rw [hl]; rfl
    rw [hv] at this
    exact this
  | v :: w :: rest =>
    exfalso; apply h
    rw [several_lines_untouched s c auto hasBody r (by rw [hl]; simp)]

/-- the first-line reading (`process`) and /repo's (`Joined.process`) differ only on responses
with several Content-Encoding lines -/
theorem first_line_differs_only (s : Site) (c : ReqCfg) (auto hasBody : Bool) (r : Resp)
    (h : Joined.process s c auto hasBody r ≠ process s c auto hasBody r) :
    2 ≤ (ceLines r.header).length := by
  apply Classical.byContradiction
  intro hn
  exact h (joined_single_line s c auto hasBody r (by omega))

-- `Content-Encoding: gzip` twice (a body gzipped twice): `process` gunzips once and removes both
-- lines; `Joined.process` (/repo) leaves the response alone
example :
    (process .h1 ⟨false, [71, 69, 84], [], []⟩ false true
      ⟨[(hContentEncoding, tokGzip), (hContentEncoding, tokGzip)], 5, false⟩) = ⟨⟨[], -1, true⟩, some .gunzip⟩ := by decide
example :
    (Joined.process .h1 ⟨false, [71, 69, 84], [], []⟩ false true
      ⟨[(hContentEncoding, tokGzip), (hContentEncoding, tokGzip)], 5, false⟩).body = some .raw := by decide

end Req.Props.C14Lines
