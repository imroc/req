import Req.Pool.TLSHops
import Req.Pool.H2ConnPool
/-!
# C12 — TLS hops of one connection; HTTP/2 connections per origin

The ∀-statements live next to the two small models (`Req.Pool.TLSHops`: `hop_name`,
`https_proxy_accept`, `origin_hop_uniform`, `kept_uses_first_name`,
`kept_eq_fresh_of_override`, `kept_ne_fresh_example`; `Req.Pool.H2ConnPool`:
`served_by_own_origin`, `getConn_wf`, `run_served_by_own_origin`,
`coalesced_serves_other_origin`). Here: the property's reading of them.
-/
namespace Req.Props.C12Hops
open Req.Pool.TLSHops Req.Pool.H2ConnPool

/-- "The client's TLS settings govern every connection": behind an https proxy whose own
certificate is acceptable, an origin certificate is accepted iff it is accepted on a direct
connection to that origin under the same settings — for every settings / names / certificates. -/
theorem https_proxy_origin_judged_as_direct {N : Type} [DecidableEq N] (c : ClientTLS N) (p o : N)
    (pc oc : Cert N) (hp : acceptHop c p pc = true) :
    acceptConn c [(p, pc), (o, oc)] = acceptHop c o oc := by
  rw [origin_hop_uniform c p o pc oc hp]; simp [acceptConn]

/-- … and without verification skipped it is verified for the override, else for the ORIGIN's name. -/
theorem https_proxy_origin_name {N : Type} [DecidableEq N] (c : ClientTLS N) (p o : N) (pc oc : Cert N)
    (hi : c.insecure = false) (h : acceptConn c [(p, pc), (o, oc)] = true) :
    oc.names.contains (c.serverName.getD o) = true ∧ c.roots.contains oc.ca = true := by
  simp [acceptConn, acceptHop, hi, hopName] at h
  simp [h.2.1, h.2.2]

/-- Every HTTP/2 request of a client is carried by a connection dialled to (certificate
verified for, protocol negotiated with) the request's own origin. -/
theorem h2_request_served_by_own_origin {A : Type} [DecidableEq A] (reqs : List (A × List A)) :
    ∀ x ∈ run ([] : Pool A) reqs, x.2.dialled = x.1 := run_served_by_own_origin reqs

end Req.Props.C12Hops
