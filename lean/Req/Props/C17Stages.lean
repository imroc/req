import Req.Client.ResponseStages
import Req.Lemmas.Progress
/-!
C17 — the download callback counts WIRE bytes, whatever decoders the transport stacks on the
response body: the ORDER in which `handleResponseBody` installs the progress reader, the charset
decoder and the dumper, and `wrapResponseBody` reaching below a content decoder.
-/
namespace Req.Props.C17Stages
open Req.Stages Req.Progress

/-- The progress reader is the innermost reader — directly on the wire body — for every
combination of content decoding, charset decoding and dumping; and it is the only one. -/
theorem progress_next_to_wire (o : Opts) (h : o.wrap = true) :
    ∃ above, stackOf o = above ++ [.progress] ∧ Stage.progress ∉ above := by
  obtain ⟨cd, w, cs, d⟩ := o
  simp only at h; subst h
  refine ⟨(stackOf ⟨cd, true, cs, d⟩).dropLast, ?_, ?_⟩ <;> cases cd <;> cases cs <;> cases d <;> decide

example : stackOf ⟨true, true, true, true⟩ = [.dump, .charsetDecoder, .contentDecoder, .progress] := by decide

/-- without the wrapper (no output, or no callback) nothing is observed -/
theorem no_wrapper_no_reports (c : Codec) (o : Opts) (wire : Bytes) (h : o.wrap = false) :
    observed c (stackOf o) wire = none := by
  obtain ⟨cd, w, cs, d⟩ := o
  simp only at h; subst h
  cases cd <;> cases cs <;> cases d <;> rfl

/-- The observers (progress reader, dumper) do not change what the caller receives: the content
decoding, then the charset decoding of the wire body — with or without them. -/
theorem delivered_unaffected_by_observers (c : Codec) (o : Opts) (wire : Bytes) :
    deliver c (stackOf o) wire =
      (if o.charset then c.charset else id) ((if o.contentDecoding then c.content else id) wire) := by
  obtain ⟨cd, w, cs, d⟩ := o
  cases cd <;> cases w <;> cases cs <;> cases d <;> rfl

example : deliver ⟨fun b => b ++ b, fun b => 0 :: b⟩ (stackOf ⟨true, true, true, false⟩) [1, 2] = [0, 1, 2, 1, 2] ∧
    observed ⟨fun b => b ++ b, fun b => 0 :: b⟩ (stackOf ⟨true, true, true, false⟩) [1, 2] = some [1, 2] := by decide

/-- a codec that lengthens every body by one byte per decoder -/
def growing : Codec := ⟨fun b => 0 :: b, fun b => 0 :: b⟩

theorem deliver_no_decoder (c : Codec) (s : List Stage) (w : Bytes) (h : countDecoders s = 0) :
    deliver c s w = w := by
  induction s with
  | nil => rfl
  | cons st below ih =>
    cases st <;> simp [countDecoders, Stage.isDecoder] at h <;> simp [deliver, stageFn] <;> exact ih h

theorem deliver_growing_length (s : List Stage) (w : Bytes) :
    (deliver growing s w).length = w.length + countDecoders s := by
  induction s with
  | nil => simp [deliver, countDecoders]
  | cons st below ih =>
    cases st <;> simp [deliver, stageFn, growing, countDecoders, Stage.isDecoder] <;>
      simp [growing] at ih <;> omega

theorem observed_growing_length (s : List Stage) (w : Bytes) :
    (observed growing s w).map List.length = (decodersBelow s).map (w.length + ·) := by
  induction s with
  | nil => rfl
  | cons st below ih =>
    cases st <;> simp [observed, decodersBelow, ih]
    exact deliver_growing_length below w

/-- For ANY stack of readers: the progress reader observes the
wire bytes for all decoders and all bodies IF AND ONLY IF no decoder sits below it.  (So the order
`handleResponseBody` uses is the only truthful one: `progress_next_to_wire`.) -/
theorem progress_position_forced (s : List Stage) :
    (∀ (c : Codec) (w : Bytes), observed c s w = some w) ↔ decodersBelow s = some 0 := by
  constructor
  · intro h
    have h1 := observed_growing_length s []
    rw [h growing []] at h1
    cases hd : decodersBelow s with
    | none => rw [hd] at h1; simp at h1
    | some k => rw [hd] at h1; simp at h1; simp [h1]
  · intro h c w
    induction s with
    | nil => simp [decodersBelow] at h
    | cons st below ih =>
      cases st <;> simp [decodersBelow] at h <;> simp [observed]
      · exact ih h
      · exact deliver_no_decoder c below w h
      · exact ih h
      · exact ih h

/-- No decoder sits below the progress reader in the stack the code builds, for every option
combination. -/
theorem stackOf_no_decoder_below (o : Opts) (h : o.wrap = true) : decodersBelow (stackOf o) = some 0 := by
  obtain ⟨cd, w, cs, d⟩ := o
  simp only at h; subst h
  cases cd <;> cases cs <;> cases d <;> rfl

/-- ∀ options (content decoding × charset decoding × dumping),
∀ decoders (any functions on bodies: expanding, shrinking, failing short), ∀ wire bodies: the bytes
that pass through the download callback's reader are exactly the wire bytes. -/
theorem download_counts_wire_bytes (c : Codec) (o : Opts) (wire : Bytes) (h : o.wrap = true) :
    observed c (stackOf o) wire = some wire :=
  (progress_position_forced _).mpr (stackOf_no_decoder_below o h) c wire

/-- The callback's ARGUMENTS: for every option combination,
every pair of decoders, every wire body and EVERY way the observed bytes are split into reads
(with or without a final `io.EOF`, any clock), once the body is closed the reports are strictly
increasing, never above the wire size, and the last one IS the wire size. -/
theorem download_reports_wire_total (c : Codec) (o : Opts) (wire : Bytes) (evs : List REvent)
    (h : o.wrap = true) (hne : wire ≠ [])
    (hreads : ∀ b, observed c (stackOf o) wire = some b → bytesR evs = b.length) :
    (reports evs).Pairwise (· < ·) ∧ (∀ x ∈ reports evs, 0 < x ∧ x ≤ wire.length) ∧
    (reports evs).getLast? = some (wire.length : Int) := by
  have hb : bytesR evs = wire.length := hreads wire (download_counts_wire_bytes c o wire h)
  have hpos : 0 < bytesR evs := by
    rw [hb]; cases wire with
    | nil => exact absurd rfl hne
    | cons a t => simp
  obtain ⟨hm, hbd, hlast⟩ := runRC_spec evs
  rw [hb] at hbd hlast
  exact ⟨hm, hbd, hlast (by rwa [hb] at hpos)⟩

example : reports [⟨4096, false, false⟩, ⟨904, false, true⟩, ⟨0, true, false⟩] = [5000] := by decide

/-- A variant of `handleResponseBody` with the charset decoder installed BEFORE the wrapper: the
progress reader sits on top of it (and of the content decoder: `res.Body` is not a content decoder
any more): it counts the decoded, transcoded bytes. -/
theorem decode_first_counts_transcoded (c : Codec) (o : Opts) (wire : Bytes)
    (h : o.wrap = true) (hc : o.charset = true) :
    observed c (handleResponseBodyDecodeFirst o (transportBody o)) wire =
      some (c.charset ((if o.contentDecoding then c.content else id) wire)) := by
  obtain ⟨cd, w, cs, d⟩ := o
  simp only at h hc; subst h; subst hc
  cases cd <;> cases d <;> rfl

/-- ISO-8859-1 → UTF-8: every byte ≥ 0x80 becomes two -/
def latin1 (b : Bytes) : Bytes :=
  b.flatMap fun x => if x < 0x80 then [x] else [(0xC0 : UInt8) ||| (x >>> 6), (0x80 : UInt8) ||| (x &&& 0x3F)]

/-- "café" in Latin-1 is 4 bytes on the wire; the variant reports 5, the code 4 -/
example : observed ⟨id, latin1⟩ (handleResponseBodyDecodeFirst ⟨false, true, true, false⟩ []) [0x63, 0x61, 0x66, 0xE9]
      = some [0x63, 0x61, 0x66, 0xC3, 0xA9] ∧
    observed ⟨id, latin1⟩ (stackOf ⟨false, true, true, false⟩) [0x63, 0x61, 0x66, 0xE9]
      = some [0x63, 0x61, 0x66, 0xE9] ∧
    decodersBelow (handleResponseBodyDecodeFirst ⟨true, true, true, true⟩ [.contentDecoder]) = some 2 := by decide

end Req.Props.C17Stages
