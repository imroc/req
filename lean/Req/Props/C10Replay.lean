import Req.Props.C10
import Req.Props.C10Dyn
/-!
C10 — what a retry re-reads: the "cannot be replayed" test is made after EVERY attempt, on the
request as that attempt left it (`section loop`); the file content of a multipart upload is obtained
anew for every attempt, through `GetFileContent` (`section multipart`).
-/
namespace Req.Props.C10Replay
open Req.Retry Req.RetryDyn Req.Lemmas.C10Loop Req.Lemmas.C10Dyn

section loop
variable {σ W : Type}

/-- In the loop with everything mutable — the caller's `OnBeforeRequest` middleware (part of `mw`),
retry hooks (arbitrary functions of the request state), the retry option edited in flight — the
request that carried a body that cannot be sent again is the LAST request of the call, at whichever
attempt the body became unreplayable.  `mark w` tells of a request on the wire whether the attempt
that sent it left the request unreplayable (`hmark`: it is the loop's own test `su` on the state
after that attempt's middleware); nothing is sent after a marked request. -/
theorem replayability_rechecked_each_attempt (v : Variant) (p : Policy σ) (ed : Edits) (mw : Nat → σ → σ × W)
    (su : σ → Bool) (mark : W → Bool) (hmark : ∀ ra st, mark (mw ra st).2 = su (mw ra st).1)
    (script : List Outcome) (ra : Nat) (st : σ) (d : Dyn) (prev : Option Resp)
    (l1 l2 : List (Nat × W)) (ra' : Nat) (w : W)
    (hw : wires (dloop v p ed mw su script ra st d prev).1 = l1 ++ (ra', w) :: l2) (hm : mark w = true) :
    l2 = [] := by
  induction script, ra, st, d, prev using dloop_induct v p ed mw su generalizing l1 with
  | nil => cases l1 <;> cases hw
  | stop o _ _ _ _ _ P _ hP _ hl =>
    rw [hl, hP.wires] at hw
    split at hw
    · cases l1 <;> cases hw
    · cases l1 with
      | nil => exact (List.cons.inj hw).2.symm
      | cons a t => cases t <;> cases hw
  | cont o _ ra st _ _ P x hP hout hl ih =>
    have ho := (hP.cont hout).notBefore
    have hs := (hP.cont hout).replayable
    rw [hl, wires_append, hP.wires, if_neg ho] at hw
    cases l1 with
    | nil =>
      have : mark w = false := by rw [← (Prod.mk.inj (List.cons.inj hw).1).2, hmark, hs]
      rw [hm] at this; cases this
    | cons a t => exact ih t (List.cons.inj hw).2

/-- … in numbers: a pass whose middleware leaves the request unreplayable ends the call, so the
call makes exactly one attempt more than the passes before it. -/
theorem unreplayable_pass_is_last (v : Variant) (p : Policy σ) (ed : Edits) (mw : Nat → σ → σ × W)
    (su : σ → Bool) (o : Outcome) (rest : List Outcome) (ra : Nat) (st : σ) (d : Dyn) (prev : Option Resp)
    (h : su (mw ra st).1 = true) :
    iterations (dloop v p ed mw su (o :: rest) ra st d prev).1 = 1 := by
  obtain ⟨f, hf⟩ := Req.Props.C10Dyn.unreplayable_never_retried v p ed mw su o ra st d prev h
  simp only [dloop, hf]
  exact (diteration_exit v p ed mw su o ra st d prev).shape.2

/-! non-vacuity: the request state is "has an io.Reader body been installed"; the hook installs
one at retry 1 (`SetBody(io.Reader)` from a retry hook), the count is negative -/

def exP : Policy Bool := ⟨true, -1, [], [(0, fun o s => s || o.attempt == 1)], [], .fixed 0⟩
def exMw : Nat → Bool → Bool × Bool := fun _ s => (s, s)

/-- attempt 0 plain, attempt 1 carries the reader and is the last — although every outcome asks
for a retry and the count is unbounded; without the hook the loop runs the whole script -/
example : wires (dloop R exP Edits.nop exMw id (List.replicate 6 .transportErr) 0 false (dynOf exP) none).1 =
      [(0, false), (1, true)] ∧
    iterations (dloop R { exP with hooks := [] } Edits.nop exMw id (List.replicate 6 .transportErr) 0 false
      (dynOf exP) none).1 = 6 := by decide

/-- the caller's middleware installs it when it sees attempt 2 -/
example : wires (dloop R { exP with hooks := [] } Edits.nop (fun ra s => exMw ra (s || ra == 2)) id
      (List.replicate 6 .transportErr) 0 false (dynOf exP) none).1 = [(0, false), (1, false), (2, true)] := by decide

end loop

section multipart
open Req.Attempt Req.Lemmas.C10Attempt Req.Props.C10

/-- The file part an upload must produce: its complete content, typed explicitly or by sniffing
(the padded 512-byte buffer). -/
def completePart (c : ClientCfg) (f : FileUp) : FilePart :=
  ⟨f.param, f.name, if f.ctype = [] then c.detect (sniffBuf f.src.content) else f.ctype, f.src.content⟩

/-- A multipart request (buffered or streamed: the same
`writeMultiPart` fills a buffer or a pipe) whose uploads keep the `GetFileContent` contract and
which `Do` does not refuse sends, in EVERY attempt `k`, every upload complete — whichever the
content source: fresh reader per call, reopened file, the same seekable reader rewound — and the
request of attempt `k+1` is the request of attempt `k`. -/
theorem multipart_attempts_identical (c : ClientCfg) (hx : c.isXML c.jsonCT = false) (st : ReqState)
    (hm : st.multipart = true) (hp : payloadForbid c st.method = false)
    (hr : unreplayable R st = false) (hct : st.contract = true) (k : Nat) :
    build R c st (k + 1) = build R c st k ∧
    ∃ fields, (build R c st k).body = .multipart fields (st.files.map (completePart c)) := by
  refine ⟨attempts_identical c hx st hr hct k, ?_⟩
  rw [build_eq_first c hx st hr hct k]
  have hfiles := rereadable_of_replayable st hr hct
  have hparts : fileParts R c st.files = st.files.map (completePart c) := by
    rw [fileParts_eq_map R c st.files hfiles]
    apply List.map_congr_left
    intro f hf
    simp [filePart, completePart, fileContent_complete f (hfiles f hf)]
  have hb : (build R c st 0).body = (parseBody R c 0 (pre c 0 st)).2 := by
    show (Attempt.mw R c 0 st).2.body = _
    rw [mw_eq]
  have hp' : payloadForbid c (pre c 0 st).method = false := hp
  have hm' : (pre c 0 st).multipart = true := hm
  have hf' : (pre c 0 st).files = st.files := rfl
  rw [hb]
  unfold parseBody
  simp only [hp', hm', hf', Bool.false_eq_true, ↓reduceIte]
  rw [hparts]
  exact ⟨_, rfl⟩

def exCfgM : ClientCfg :=
  { cookies := [], headers := [], form := [], query := [], allowGetPayload := false,
    detect := fun _ => [116], boundaryCT := [66], formCT := [70], jsonCT := [74], ctKey := [67],
    mGet := [71], mHead := [72], mOptions := [79], isXML := fun _ => false, pathParams := [], baseURL := [98],
    schemePrefix := [] }

/-- a multipart `POST` with one upload from source `src` -/
def exUp (src : FileSrc) : ReqState :=
  { method := [80], urlHead := .rel, path := [.lit [47]], rawQuery := [], pathParams := [], cookies := [],
    headers := [], form := [], ordered := [], query := [], multipart := true,
    files := [⟨[112], [110], [], src⟩], body := .none }

/-- every source inside the contract: the complete content `x` in attempts 0, 1 and 2 -/
example : ∀ src ∈ [FileSrc.bytes [120], .path [120], .seeker [120] false, .shared [120] true false],
    unreplayable R (exUp src) = false ∧ (exUp src).contract = true ∧
    (build R exCfgM (exUp src) 0).body = .multipart [] [⟨[112], [110], [116], [120]⟩] ∧
    (build R exCfgM (exUp src) 1).body = .multipart [] [⟨[112], [110], [116], [120]⟩] ∧
    (build R exCfgM (exUp src) 2).body = .multipart [] [⟨[112], [110], [116], [120]⟩] := by decide

/-- The source OUTSIDE the contract — a
caller-written `GetFileContent` that hands out the same reader, not seekable, on every call — is
not (cannot be) refused by `Do`, and every retry uploads an empty part: the hypothesis
`st.contract` of the identity theorems is necessary. -/
theorem shared_unseekable_reader_uploads_nothing_on_retry :
    unreplayable R (exUp (.shared [120] false false)) = false ∧
    (exUp (.shared [120] false false)).contract = false ∧
    (build R exCfgM (exUp (.shared [120] false false)) 0).body = .multipart [] [⟨[112], [110], [116], [120]⟩] ∧
    (build R exCfgM (exUp (.shared [120] false false)) 1).body = .multipart [] [⟨[112], [110], [116], []⟩] := by
  decide

end multipart

end Req.Props.C10Replay
