import Req.Lemmas.CancelH3Stuck
/-!
# C08 on HTTP/3 — theorems about the lifecycle model `Req/Pool/CancelH3.lean`

After a cancellation at any reachable state every run of internal steps is short and ends released
(`cancel_releases_h3`, with `cancel_terminates_h3` for non-vacuity), the caller gets the context's error
(`cancel_error_h3`), the body is closed at most once (`h3_closes_exact`), the watcher is joined before an error
return (`h3_watcher_joined`); two sharpness witnesses (`cancel_write_is_necessary_h3`, `upload_outlives_response_h3`);
and, for HTTP/1.1's `mapRoundTripError`, `cancel_beats_write_error` with its sharpness `reqerr_first_hides_cancel`.
-/
namespace Req.Props.C08H3
open Req.Cancel (CtxErr)
open Req.CancelH3 Req.Lemmas.CancelH3

/-- the context ends at ANY reachable state at which the application is not yet done with the response
(`reqDone` open): every run of internal steps has at most `K` (= 17) steps, and when no step is enabled the
caller is back (with exactly the context's error, or with the response it already had), the watcher and the
upload goroutine are gone, NEITHER direction of the stream is left open, and the request body was closed
exactly once. -/
theorem cancel_releases_h3 {s : St} (hr : Reach s) (e : CtxErr) (hc : s.ctx = none)
    (hd : s.reqDone = false) {as : List Act} {s' : St} (run : Run (evApply s (.cancel e)) as s') :
    as.length ≤ K ∧
    (stuck s' = true →
      released s' = true ∧ (s'.cpc = .returned (.err (.ctx e)) ∨ s'.cpc = .returned .resp)) :=
  (cancel_point hr e hc hd).run_releases run

example : Reach (evApply (init true) .hsDone) ∧ (evApply (init true) .hsDone).ctx = none ∧
    (evApply (init true) .hsDone).reqDone = false :=
  ⟨Reach.ev .hsDone (Reach.init true) rfl, rfl, rfl⟩

/-- maximal internal runs exist: the ∀-run statements are not vacuous -/
theorem cancel_terminates_h3 (s : St) : ∃ as s', Run s as s' ∧ stuck s' = true :=
  Req.Lemmas.Lts.exists_maximal_run .nil .cons mu_dec s

/-- whatever `roundTrip` failed with, once the context is done the caller gets the context's error (the
relabelling in `RoundTrip`), at each of the three places where the call comes back with an error -/
theorem cancel_error_h3 (s : St) (a : Act) (e : CtxErr) (x : Err) (hc : s.ctx = some e)
    (g : guard s a = true) (hn : isReturned s = false) (hx : (apply s a).cpc = .returned (.err x)) :
    x = .ctx e := by
  have hJ : ErrIsCtx e s := by
    intro y hy
    simp [isReturned, hy] at hn
  exact errIsCtx_act hc hJ g x hx

example : guard { (init false) with ctx := some .deadline } .cHsCancel = true ∧
    (apply { (init false) with ctx := some .deadline } .cHsCancel).cpc = .returned (.err (.ctx .deadline)) := by
  decide

/-- cancelled, application not done with the response, stream write
blocked on flow control (`upl = write`): some step, of whichever goroutine, is enabled — nobody is parked
for good -/
theorem blocked_upload_is_woken_h3 {s : St} (hr : Reach s) (hc : s.ctx.isSome = true)
    (hd : s.reqDone = false) (hu : s.upl = .write) : stuck s = false := by
  cases hst : stuck s with
  | false => rfl
  | true =>
    have hrel := stuck_released (reach_inv hr) (Or.inl hd) hc hst
    simp [released, hu] at hrel

/-- `Close` calls on the request body: one for the upload goroutine past its deferred close, one for the caller
closing the body itself (never both: `h3_body_closed_at_most_once`) -/
theorem h3_closes_exact {s : St} (hr : Reach s) :
    s.closes = (if s.upl = .fin ∨ s.upl = .done then 1 else 0) + (if s.callerClosed = true then 1 else 0) :=
  (reach_inv hr).closes

theorem h3_body_closed_at_most_once {s : St} (hr : Reach s) : s.closes ≤ 1 := by
  have hI := reach_inv hr
  have := hI.closes
  -- the caller closes the body itself only when no upload goroutine exists: the two summands exclude each other
  have := hI.callerClosed
  grind

theorem h3_no_close_without_body {s : St} (hr : Reach s) (hb : s.hasBody = false) : s.closes = 0 := by
  have hI := reach_inv hr
  have := hI.closes
  have := hI.callerClosed
  have := hI.uplBody
  grind

/-- an error return of `roundTrip` on an existing stream has waited for the
watcher goroutine (`<-done`): it is never left behind waiting -/
theorem h3_watcher_joined {s : St} {a : Act} (g : guard s a = true) (hn : isReturned s = false)
    (hs : s.send ≠ .idle) (hr : Reach s) (x : Err) (hx : (apply s a).cpc = .returned (.err x)) :
    (apply s a).wat = .done := by
  have hI := reach_inv hr
  cases a <;> simp only [CancelH3.guard, Bool.and_eq_true, beq_iff_eq] at g
  case cHsCancel =>
    have := (hI.noStr (hI.pre (Or.inl g.1)).1).1
    exact absurd this hs
  case cOpenCancel =>
    have := (hI.noStr (hI.pre (Or.inr g.1)).1).1
    exact absurd this hs
  case cFailJoin =>
    simp only [CancelH3.apply]
    split <;> exact g.2
  case cSendHdr =>
    simp only [CancelH3.apply, closeBody] at hx
    (repeat' split at hx) <;> simp at hx
  case cFailSig =>
    simp only [CancelH3.apply] at hx
    split at hx
    · simp at hx
    · simp [isReturned, hx] at hn
  case cRespOk => simp [CancelH3.apply] at hx
  case cRespFail => simp [CancelH3.apply] at hx
  all_goals
    simp only [CancelH3.apply] at hx
    simp [isReturned, hx] at hn

/-- upload running, response headers handed out (early response), the next stream write blocked on
flow control, the caller in a pending `Body.Read`; then the context is cancelled -/
def exEarlyBlocked : St :=
  let s := init true
  let s := evApply s .hsDone
  let s := evApply s .streamOpen
  let s := apply s .cSendHdr
  let s := apply s .uRead
  let s := evApply s .peerHeaders
  let s := apply s .cRespOk
  evApply s (.cancel .canceled)

example : Reach exEarlyBlocked :=
  Reach.ev (.cancel .canceled) (Reach.act .cRespOk (Reach.ev .peerHeaders (Reach.act .uRead
    (Reach.act .cSendHdr (Reach.ev .streamOpen (Reach.ev .hsDone (Reach.init true) rfl) rfl) rfl) rfl) rfl) rfl) rfl

example : exEarlyBlocked.upl = .write ∧ exEarlyBlocked.send = .open ∧
    exEarlyBlocked.cpc = .returned .resp ∧ exEarlyBlocked.reqDone = false := by decide

/-- in the model of the code as it is every maximal run from there ends released: upload goroutine
gone, body closed once, both directions cancelled, the pending read failed with the local cancel -/
example : (finals 20 exEarlyBlocked).all (fun t =>
    released t && t.closes == 1 && t.upl == .done && t.send == .cancelled && t.recv == .cancelled &&
    t.readRes == some .h3cancel) = true := by decide +kernel

/-- with the watcher's `CancelWrite` dropped (the trial change `seeded/C08-r5-3`) the
same reachable state has a maximal run that ends with the upload goroutine parked in its stream
write and the request body never closed -/
theorem cancel_write_is_necessary_h3 :
    (finalsNoCW 20 exEarlyBlocked).any (fun t => t.upl == .write && t.closes == 0 && t.send == .open) = true := by
  decide +kernel

/-- the application closes the response body while the upload is still blocked; THEN the context ends -/
def exClosedFirst : St :=
  let s := init true
  let s := evApply s .hsDone
  let s := evApply s .streamOpen
  let s := apply s .cSendHdr
  let s := apply s .uRead
  let s := evApply s .peerHeaders
  let s := apply s .cRespOk
  let s := evApply s .callerClose
  let s := apply s .wExit
  evApply s (.cancel .canceled)

/-- the hypothesis `reqDone = false` of `cancel_releases_h3` cannot be
dropped: here the watcher left through `reqDone`, and the cancelled context reaches nobody — the
state is stuck with the upload parked on an open send side. -/
theorem upload_outlives_response_h3 :
    stuck exClosedFirst = true ∧ exClosedFirst.upl = .write ∧ exClosedFirst.send = .open ∧
    exClosedFirst.closes = 0 ∧ exClosedFirst.ctx = some .canceled := by decide

example : Reach exClosedFirst :=
  Reach.ev (.cancel .canceled) (Reach.act .wExit (Reach.ev .callerClose (Reach.act .cRespOk
    (Reach.ev .peerHeaders (Reach.act .uRead (Reach.act .cSendHdr (Reach.ev .streamOpen
    (Reach.ev .hsDone (Reach.init true) rfl) rfl) rfl) rfl) rfl) rfl) rfl) rfl) rfl

open Req.Cancel in
/-- HTTP/1.1: the connection was cancelled (`pc.canceledErr` set) AND the
write loop recorded a request error (`transportRequest.err`: tearing the connection down made the
blocked body write fail): the round trip reports the cancellation cause, whatever the other inputs — the
recorded write error included, so its hypothesis plays no part in the proof (`maperr_prefers_cancel`) -/
theorem cancel_beats_write_error (i : MapIn) (e : CtxErr) (h0 : i.errNil = false)
    (hc : i.canceled = some e) (_hw : i.reqErr = true) : mapRoundTripError i = .canceled e := by
  simp [mapRoundTripError, h0, hc]

open Req.Cancel in
/-- the order of the trial change `seeded/C08-r5-2`: the recorded request error consulted first -/
def mapReqErrFirst (i : MapIn) : MapOut :=
  if i.errNil then .nil
  else if i.reqErr then .reqErr
  else mapRoundTripError i

open Req.Cancel in
/-- sharpness: with the two checks swapped the cancellation is hidden
exactly when both are set, and nowhere else -/
theorem reqerr_first_hides_cancel (i : MapIn) :
    mapReqErrFirst i ≠ mapRoundTripError i ↔ (i.errNil = false ∧ i.reqErr = true ∧ i.canceled.isSome = true) := by
  rcases i with ⟨errNil, canceled, reqErr, kind, nw, broken⟩
  cases errNil <;> cases reqErr <;> cases canceled <;> simp [mapReqErrFirst, mapRoundTripError]

open Req.Cancel in
example : mapRoundTripError ⟨false, some .canceled, true, .other, false, true⟩ = .canceled .canceled ∧
    mapReqErrFirst ⟨false, some .canceled, true, .other, false, true⟩ = .reqErr := by decide

end Req.Props.C08H3
