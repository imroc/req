import Req.Client.Redirect
import Req.Client.Authority
import Req.Lemmas.C11
import Req.Lemmas.C11Host
/-!
C11 — host identity, further corners: an IP literal against a registered name or an IPv4 address, the empty
host of `http:///p` / `http://:80/p`, and a port that is not numeric (`host:abc` as a configured entry; net/url
refuses such a Location outright, `Loop.Loc.bad`).
-/
namespace Req.Props.C11Ident
open Req.Proto Req.Ascii Req.Redirect Req.Authority Req.Lemmas.C11

theorem plain_host_no_colon (a : Authority) (h : WfAuthority a)
    (hk : ∀ addr z, a.host ≠ .ip6 addr z) : (58 : UInt8) ∉ specHost a := by
  obtain ⟨host, port⟩ := a
  have hw := h.host
  rw [specHost, colon_mem_lower]
  cases host with
  | name ls dot =>
    simpa [Host.hostname, Host.nameText, glue_eq_joinWith] using (WfName.dotted hw).text_no (Or.inl rfl) dot
  | ip4 a b c d =>
    simpa [Host.hostname, glue_eq_joinWith] using (ip4_dotted hw).text_no (Or.inl rfl) false
  | ip6 addr z => exact absurd rfl (hk addr z)

/-- For well-formed authorities, an IP-literal (bracketed IPv6, with
or without zone) and a name or IPv4 address are never the same host and never the same domain,
whatever they spell: `[::ffff:1.2.3.4]` vs `1.2.3.4`, `[::1%example.com]` vs `example.com`. -/
theorem ip6_literal_never_plain_host (a b : Authority) (ha : WfAuthority a) (hb : WfAuthority b)
    (addr : Bytes) (z : Option Bytes) (ha6 : a.host = .ip6 addr z)
    (hb6 : ∀ addr' z', b.host ≠ .ip6 addr' z') :
    specHost a ≠ specHost b ∧ specDomain a ≠ specDomain b := by
  have hcol : (58 : UInt8) ∈ specHost a := by
    obtain ⟨host, port⟩ := a
    simp only at ha6
    subst ha6
    exact ip6Text_colon z ha.host
  have hno := plain_host_no_colon b hb hb6
  refine ⟨fun e => hno (e ▸ hcol), ?_⟩
  have hda : specDomain a = specHost a := by
    obtain ⟨host, port⟩ := a
    simp only at ha6
    subst ha6
    rfl
  rw [hda]
  intro e
  -- the domain of a name/IPv4 host has no colon either
  have : (58 : UInt8) ∉ specDomain b := by
    obtain ⟨host, port⟩ := b
    cases host with
    | name ls dot =>
      have hw : WfName ls := hb.host
      simp only [specDomain]
      rw [colon_mem_lower, glue_eq_joinWith]
      intro hm
      obtain ⟨l, hl, hcl⟩ := mem_joinWith (show (58 : UInt8) ≠ 46 by decide) _ hm
      have hl' : l ∈ ls := by
        simp only [dropFirstLabel] at hl
        split at hl
        · exact hl
        · exact List.mem_of_mem_drop hl
      exact hw.dotted.label_no hl' (Or.inr (Or.inl rfl)) hcl
    | ip4 _ _ _ _ => exact hno
    | ip6 addr' z' => exact absurd rfl (hb6 addr' z')
  exact this (e ▸ hcol)

/-- `[::ffff:1.2.3.4]` vs `1.2.3.4`, `[::1%a.b]` vs `a.b`. -/
example :
    let m : Authority := ⟨.ip6 [58,58,102,102,102,102,58,49,46,50,46,51,46,52] none, none⟩
    let v : Authority := ⟨.ip4 [49] [50] [51] [52], none⟩
    sameHostRedirectPolicy.check m.render ⟨⟨v.render, []⟩, []⟩ = .deny ∧
    sameDomainRedirectPolicy.check v.render ⟨⟨m.render, []⟩, []⟩ = .deny ∧
    (allowedHostRedirectPolicy [v.render]).check m.render ⟨⟨v.render, []⟩, []⟩ = .deny := by decide

/-- `URL.Host` of `http:///p` (empty) or `http://:80/p` (port only) has the
empty hostname and the empty domain. -/
theorem empty_host_hostname (p : Bytes) (hp : p.all isDigit = true) :
    getHostname [] = [] ∧ getDomain [] = [] ∧ getHostname (58 :: p) = [] ∧ getDomain (58 :: p) = [] := by
  have hs : splitLast 58 (58 :: p) = some ([], p) := by
    have := splitLast_append (c := 58) [] p (Req.Lemmas.C11.wfPort_no_colon hp)
    simpa using this
  have hh : getHostname (58 :: p) = [] := by
    simp [getHostname, urlHostname, hs, validPortDigits, hp, hasPrefixByte]
  refine ⟨by decide, by decide, hh, ?_⟩
  simp only [getDomain, hh]
  decide

/-- A redirect to a URL without host is never "the same host" as an origin that has a hostname, and an
allow-list of hosts admits it only through an entry that itself has the empty hostname. -/
theorem same_host_refuses_empty_host (origin : Bytes) (ho : getHostname origin ≠ []) (hdr : Headers)
    (rest : List Hop) :
    sameHostRedirectPolicy.check [] ⟨⟨origin, hdr⟩, rest⟩ = .deny ∧
    (∀ hosts : List Bytes, (∀ h ∈ hosts, getHostname h ≠ []) →
      (allowedHostRedirectPolicy hosts).check [] ⟨⟨origin, hdr⟩, rest⟩ = .deny) := by
  have he : getHostname [] = [] := by decide
  refine ⟨?_, fun hosts hh => ?_⟩
  · rw [sameHost_check, ite_deny_iff, he]
    exact fun h => ho h.symm
  · rw [allowedHost_check, ite_deny_iff, he, List.mem_map]
    rintro ⟨h, hm, hl⟩
    -- lower-casing keeps the length
    exact hh h hm (List.eq_nil_of_length_eq_zero (by rw [← lower_length, hl]; rfl))

/-- When the text after the last colon is not all digits it is not removed:
the "port" stays part of the hostname (`host:abc` ≠ `host`). -/
theorem invalid_port_kept (h p : Bytes) (hc : (58 : UInt8) ∉ p) (hp : p.all isDigit = false)
    (hb : (h ++ 58 :: p).head? ≠ some 91) :
    getHostname (h ++ 58 :: p) = lower (h ++ 58 :: p) := by
  have hs := splitLast_append (c := 58) h p hc
  simp only [getHostname, urlHostname, hs, validPortDigits, hp]
  simp [hasPrefixByte_eq_false hb]

/-- `host:abc` -/
example : getHostname [104, 58, 97] = [104, 58, 97] ∧ getHostname [104, 58, 56, 48] = [104] := by decide

end Req.Props.C11Ident
