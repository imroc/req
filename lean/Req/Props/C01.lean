import Req.Lemmas.Pct
import Req.Lemmas.Query
import Req.Lemmas.H1Fidelity
import Req.Props.C16
import Req.Lemmas.Trim
import Req.Client.Url
import Req.Client.Merge
/-!
C01 — request fidelity: property theorems about the models of the request-building pipeline.
Besides the three groups below: the header merge (`merge_*`), the HTTP/1.1 serialisation read back
by an independent origin (`h1_fidelity`, `h1_exactly_one_request`, `body_framing_*`) and the agreement
of the three protocols on header values and request line (`cross_protocol*`).

* `escape_roundtrip`, `pathEscape_no_structure`, `queryEscape_no_structure`: Go's percent-encoding
  is injective (decodable) and its output contains no byte that has a structural meaning in a
  path, a query, a request line or a header block.
* `path_param_segments`: substituting path parameters (request-level and client-level maps, any
  iteration order, any template, any values) never adds a `/`, `?`, `#`, space, CR, LF, NUL …:
  a value cannot add a path segment, a query, a fragment or a line.
* `query_merge_spec`: an origin parsing the final raw query reads the pairs of the caller's raw
  query followed by exactly the merged parameter maps (request keys override client keys), sorted
  by key — nothing dropped, duplicated or altered.
-/
namespace Req.Props.C01
open Req.Proto Req.Pct Req.Url Req.BStr Req.Query

/-- for every mode Go decodes its own escapes back to the input (host and
zone excluded: there Go itself rejects `%XX` of an ASCII byte). -/
theorem escape_roundtrip (m : Mode) (hm1 : m ≠ .host) (hm2 : m ≠ .zone) (s : Bytes) :
    unescape m (escape m s) = some s :=
  unescape_escape m hm1 hm2 s

example : unescape .pathSegment (pathEscape [97, 47, 98, 32, 195, 188, 13, 10]) =
    some [97, 47, 98, 32, 195, 188, 13, 10] := by decide +kernel

/-- escaping is injective: two values can never be confused on the wire. -/
theorem escape_injective (m : Mode) (hm1 : m ≠ .host) (hm2 : m ≠ .zone) (s t : Bytes)
    (h : escape m s = escape m t) : s = t := by
  have hs := escape_roundtrip m hm1 hm2 s
  have ht := escape_roundtrip m hm1 hm2 t
  rw [h, ht] at hs
  exact (Option.some.inj hs).symm

/-- bytes with a structural meaning in a URL path, a request line or a header block:
`/ ? # { } ; ,`, space, control bytes (CR, LF, NUL, …), DEL, and everything non-ASCII. -/
def pathStructural (b : UInt8) : Bool :=
  b == 47 || b == 63 || b == 35 || b == 123 || b == 125 || b == 59 || b == 44 || b ≤ 32 || b ≥ 127

/-- `url.PathEscape` never outputs `/ ? # { } ; ,`, a space, a
control byte (CR, LF, NUL …), DEL or a non-ASCII byte. -/
theorem pathEscape_no_structure (s : Bytes) : ∀ b ∈ pathEscape s, pathStructural b = false :=
  escape_forall (by decide) nofun (fun b h => by
    simpa [h] using Req.U8.all (fun b => shouldEscape b .pathSegment || !pathStructural b)
      (by decide +kernel) b) s

example : pathEscape [46, 46, 47, 13, 10, 123, 105, 100, 125] =
    [46, 46, 37, 50, 70, 37, 48, 68, 37, 48, 65, 37, 55, 66, 105, 100, 37, 55, 68] := by decide +kernel

/-- `url.QueryEscape` never outputs `& = # ? /`, a space, a control
byte, DEL or a non-ASCII byte (`+` stands for a space). -/
theorem queryEscape_no_structure (s : Bytes) : ∀ b ∈ queryEscape s, queryStructural b = false :=
  queryEscape_not_structural s

example : queryEscape [97, 38, 98, 61, 99, 32, 35] = [97, 37, 50, 54, 98, 37, 51, 68, 99, 43, 37, 50, 51] := by
  decide +kernel

theorem substOne_count (c : UInt8) (hc : pathStructural c = true) (tmpl : Bytes)
    (pv : Bytes × Bytes) : count c (substOne tmpl pv) ≤ count c tmpl := by
  unfold substOne replaceAll
  split
  · exact Nat.le_refl _
  · apply replaceAux_count
    apply count_eq_zero_of_not_mem
    intro b hb heq
    have := pathEscape_no_structure pv.2 b hb
    rw [heq, hc] at this
    exact Bool.noConfusion this

theorem foldl_substOne_count (c : UInt8) (hc : pathStructural c = true) (ps : PMap) :
    ∀ tmpl : Bytes, count c (ps.foldl substOne tmpl) ≤ count c tmpl := by
  induction ps with
  | nil => intro tmpl; exact Nat.le_refl _
  | cons p ps ih =>
    intro tmpl
    simp only [List.foldl_cons]
    exact Nat.le_trans (ih _) (substOne_count c hc tmpl p)

/-- for EVERY template, every request-level and client-level parameter
map in any iteration order and every value, substitution never increases the number of `/`
(path segments), `?` (queries), `#` (fragments), spaces, CR, LF, NUL or any other structural
byte: a path-parameter value cannot add a segment, a query, a fragment, a header line or a second
request. (It can lower a count only when a KEY — part of the template — contains such a byte.) -/
theorem path_param_segments (tmpl : Bytes) (rp cp : PMap) (c : UInt8)
    (hc : pathStructural c = true) : count c (substParams tmpl rp cp) ≤ count c tmpl := by
  unfold substParams
  exact Nat.le_trans (foldl_substOne_count c hc cp _) (foldl_substOne_count c hc rp tmpl)

/-- the instance `/`: no new path segment (segments = number of `/` + 1). -/
theorem path_param_no_new_segment (tmpl : Bytes) (rp cp : PMap) :
    count 47 (substParams tmpl rp cp) ≤ count 47 tmpl :=
  path_param_segments tmpl rp cp 47 (by decide)

/-- non-vacuity: `/u/{id}/x` with id = `a/b?c#d` + CR LF keeps its three slashes. -/
example : substParams [47, 117, 47, 123, 105, 100, 125, 47, 120]
    [([105, 100], [97, 47, 98, 63, 99, 35, 100, 13, 10])] [] =
    [47, 117, 47, 97, 37, 50, 70, 98, 37, 51, 70, 99, 37, 50, 51, 100, 37, 48, 68, 37, 48, 65, 47, 120] := by
  decide +kernel

/-- the pairs the caller described through the client-level and request-level maps: request keys
override client keys, keys sorted bytewise, values in the order given. -/
def specPairs (cq rq : QMap) : List (Bytes × Bytes) :=
  (isortBy (fun a b => le a.1 b.1) (mergedQuery cq rq)).flatMap fun kv => kv.2.map fun v => (kv.1, v)

theorem encodeValues_eq (m : QMap) :
    encodeValues m = join [38]
      (((isortBy (fun a b => le a.1 b.1) m).flatMap fun kv => kv.2.map fun v => (kv.1, v)).map
        fun p => encodePair p.1 p.2) := by
  unfold encodeValues
  congr 1
  simp [List.map_flatMap, List.map_map, Function.comp_def]

/-- an origin that parses the final raw query reads the pairs of the raw
query of the URL, followed by exactly `specPairs` — every key/value of the merged maps once, each
decoded to the caller's bytes, request-level keys replacing client-level keys. (`none` on both
sides when the caller's own raw query has a malformed escape. Odd corner of the code, kept: a raw
query made of white space only counts as absent — `util.IsStringEmpty` — and is replaced.) -/
theorem query_merge_spec (raw : Bytes) (cq rq : QMap) :
    parseQuery (mergeRawQuery raw cq rq) =
      if !(mergedQuery cq rq).isEmpty && allSpace raw then some (specPairs cq rq)
      else (parseQuery raw).map (· ++ specPairs cq rq) := by
  unfold mergeRawQuery
  simp only
  split
  next hq =>
    have : specPairs cq rq = [] := by
      unfold specPairs
      have : mergedQuery cq rq = [] := by simpa using hq
      rw [this]; simp [isortBy]
    rw [this]
    simp only [hq, Bool.not_true, Bool.false_and, Bool.false_eq_true, if_false]
    cases parseQuery raw <;> simp
  next hq =>
    have hq' : (mergedQuery cq rq).isEmpty = false := by simpa using hq
    split
    next hraw =>
      simp only [hq', hraw, Bool.not_false, Bool.and_self, if_true]
      rw [encodeValues_eq, parseQuery_join]
      rfl
    next hraw =>
      have hraw' : allSpace raw = false := by simpa using hraw
      simp only [hq', hraw', Bool.not_false, Bool.and_false, Bool.false_eq_true, if_false]
      rw [List.append_assoc, List.singleton_append, parseQuery_append, encodeValues_eq,
        parseQuery_join]
      cases parseQuery raw <;> rfl

/-- non-vacuity: raw `x=1`, client {a:[1], b:[2]}, request {a:[z, ' &']} . -/
example : mergeRawQuery [120, 61, 49] [([97], [[49]]), ([98], [[50]])] [([97], [[122], [32, 38]])] =
    [120, 61, 49, 38, 97, 61, 122, 38, 97, 61, 43, 37, 50, 54, 38, 98, 61, 50] := by decide +kernel

section MergeSec
open Req.Merge Req.H1 Req.HeaderSort

/-- a request-level header with at least one value survives the merge untouched. -/
theorem merge_request_wins (ch : Option Hdr) (rh : Hdr) (kv : KV) (hkv : kv ∈ rh)
    (hne : kv.values.isEmpty = false) : kv ∈ mergeHeaders ch rh := by
  unfold mergeHeaders
  cases ch with
  | none => exact hkv
  | some ch =>
    apply List.mem_append.mpr
    left
    apply List.mem_map.mpr
    exact ⟨kv, hkv, by simp [hne]⟩

/-- a client-level header is added when the request has no entry under exactly that key. -/
theorem merge_client_fills (ch rh : Hdr) (kv : KV) (hkv : kv ∈ ch)
    (habs : ∀ x ∈ rh, (x.key == kv.key) = false) : kv ∈ mergeHeaders (some ch) rh := by
  unfold mergeHeaders
  apply List.mem_append.mpr
  right
  apply List.mem_filter.mpr
  refine ⟨hkv, ?_⟩
  simp only [Bool.not_eq_true', List.any_eq_false]
  intro x hx
  simpa using habs x hx

/-- nothing else appears: every merged entry is a request entry, a client entry, or a request key
that had no value filled with the client's values for that key. -/
theorem merge_nothing_else (ch rh : Hdr) (kv : KV) (h : kv ∈ mergeHeaders (some ch) rh) :
    kv ∈ rh ∨ kv ∈ ch ∨ ∃ r ∈ rh, r.values.isEmpty = true ∧ kv.key = r.key ∧ hdrGet? ch r.key = some kv.values := by
  unfold mergeHeaders at h
  rcases List.mem_append.mp h with h | h
  · obtain ⟨r, hr, rfl⟩ := List.mem_map.mp h
    split
    next he =>
      cases hg : hdrGet? ch r.key with
      | none => exact Or.inl hr
      | some vs => exact Or.inr (Or.inr ⟨r, hr, he, rfl, hg⟩)
    next => exact Or.inl hr
  · exact Or.inr (Or.inl (List.mem_filter.mp h).1)

end MergeSec

section H1
open Req.H1 Req.H1.Origin Req.Validate Req.HeaderSort

/-- the four framings `newTransferWriter` can settle on: no body, chunked, a positive declared
length, CONNECT's raw tunnel. -/
theorem framing_shape (r : WReq) (f : Framing) (h : framing r = .ok f) :
    f = ⟨false, false, 0⟩ ∨ f = ⟨true, true, -1⟩ ∨ (∃ c, 0 < c ∧ f = ⟨true, false, c⟩) ∨
      ((methodOrGet r.method == sCONNECT) = true ∧ ∃ c, c < 0 ∧ f = ⟨true, false, c⟩) := by
  unfold framing at h
  by_cases h1 : (r.contentLength != 0 && !r.hasBody) = true
  · simp [h1] at h
  simp only [h1, Bool.false_eq_true, if_false] at h
  generalize hc : (if (!r.hasBody) = true then (0:Int) else
    if (r.contentLength != 0) = true then r.contentLength else -1) = cl0 at h
  by_cases h2 : cl0 < 0
  · simp only [h2, if_true] at h
    by_cases h3 : (methodOrGet r.method == sCONNECT) = true
    · simp only [h3, if_true, Except.ok.injEq] at h
      exact .inr (.inr (.inr ⟨h3, cl0, h2, h.symm⟩))
    · simp only [h3, Bool.false_eq_true, if_false] at h
      split at h
      · split at h <;> cases h <;> simp
      · cases h; simp
  · simp only [h2, if_false, Except.ok.injEq] at h
    subst h
    cases hb : r.hasBody with
    | false => simp [hb] at hc; simp [← hc]
    | true =>
      simp only [hb, Bool.not_true, Bool.false_eq_true, if_false] at hc
      exact .inr (.inr (.inl ⟨cl0, by split at hc <;> simp_all <;> omega, rfl⟩))

theorem framing_framed (r : WReq) (f : Framing) (h : framing r = .ok f)
    (hnc : (methodOrGet r.method == sCONNECT) = false) (hsb : f.sendBody = true) :
    f.chunked = true ∨ 0 ≤ f.cl := by
  rcases framing_shape r f h with rfl | rfl | ⟨c, hc, rfl⟩ | ⟨hm, _⟩
  · cases hsb
  · exact .inl rfl
  · exact .inr (Int.le_of_lt hc)
  · rw [hnc] at hm; cases hm

/-- what an origin observes of a request, as determined by the request itself: the method, the
request target, every header line in wire order (value without surrounding white space) and the
body bytes. -/
def view (r : WReq) (host : Bytes) (f : Framing) : View :=
  { method := methodOrGet r.method, target := requestTarget r host,
    fields := (linesOf (h1Fields r host f)).map trimmed,
    body := if f.sendBody then r.body else [] }

theorem methodOrGet_ne_nil (m : Bytes) : methodOrGet m ≠ [] := by
  unfold methodOrGet
  split
  · decide
  next h => simpa using h

/-- for every request whose unvalidated parts are sane (`Valid`), the independent
origin reads from `serializeH1 r ++ rest` EXACTLY ONE request — the method, the target, every
header line the writer emitted with its exact value (white space trimmed as HTTP defines), the
exact body bytes, for Content-Length framing, chunked framing (any read split) and no body — and
leaves `rest` untouched, whatever `rest` is: nothing the caller supplied can end the header
block early, add a line or start a second request. -/
theorem h1_fidelity (r : WReq) (wire host : Bytes) (f : Framing)
    (hh : wireHost r = .ok host) (hf : framing r = .ok f) (hs : serializeH1 r = .ok wire)
    (hv : Valid r host f) (rest : Bytes) :
    parseRequestH1 (wire ++ rest) = some (view r host f, rest) := by
  obtain ⟨_, f', bw, hf', hb, rfl⟩ := serializeH1_ok r wire host hh hs
  cases hf.symm.trans hf'
  unfold parseRequestH1
  simp only [List.append_assoc]
  rw [readLine_requestLine _ _ _ (fun b hb' => (hv.method_ok b hb').2)
    (fun b hb' => (hv.target_ok.2 b hb').2)]
  simp only
  rw [parseRequestLine_render _ _ (methodOrGet_ne_nil _) hv.target_ok.1
    (fun b hb' => (hv.method_ok b hb').1) (fun b hb' => (hv.target_ok.2 b hb').1)]
  simp only
  rw [renderFields_eq, ← List.append_assoc (renderLines _),
    parseHeaders_render _ _ [] (h1Fields_lineok r host f
      (List.all_ne (wireHost_valid r host hh) (by decide)) hv.ua_ok)]
  simp only [List.reverse_nil, List.nil_append]
  rw [framingOf_h1Fields r host f hv]
  have hfr := hv.framed
  rcases framing_shape r f hf with rfl | rfl | ⟨c, hc, rfl⟩ | ⟨_, c, hc, rfl⟩
  · cases hb
    cases hp : isPostPutPatch (methodOrGet r.method) <;>
      simp [shouldSendContentLength, hp, decodeBody, view]
  · cases hb
    simp [shouldSendContentLength, decodeBody_chunked, view]
  · have hne1 : (c == -1) = false := by simp only [beq_eq_false_iff_ne, ne_eq]; omega
    simp only [bodyBytes, Bool.not_true, Bool.false_eq_true, if_false, hne1] at hb
    split at hb
    · cases hb
    next hlen =>
      cases hb
      have hlen' : c = (r.body.length : Int) := by simpa using hlen
      have : c.toNat = r.body.length := by omega
      simp [shouldSendContentLength, hc, this, decodeBody_length, view]
  · rcases hfr rfl with h | h
    · cases h
    · simp only at h; omega

/-- non-vacuity: a POST with a chunked body (reads 2+3), a header value with surrounding spaces,
a pipelined tail. -/
example :
    let r : WReq := { method := [80, 79, 83, 84],
                      url := { scheme := [104], host := [104], path := [47, 97] },
                      header := [⟨[88, 45, 65], [[32, 118, 32]]⟩], hasBody := true,
                      body := [1, 2, 3, 4, 5], reads := [2] }
    (serializeH1 r).toOption.bind (fun w => parseRequestH1 (w ++ [71, 69, 84])) =
      some (view r [104] ⟨true, true, -1⟩, [71, 69, 84]) := by decide +kernel

/-- no CR / LF injection through header values: whatever bytes a caller (or the transport's
extra headers) supplies as a header value, the value written to the wire contains neither CR nor
LF — it cannot end the line it is on. -/
theorem header_value_no_crlf (v : Bytes) : ∀ b ∈ sanitizeValue v, b ≠ 13 ∧ b ≠ 10 :=
  sanitizeValue_no_crlf v

/-- smuggling corollary: a `Valid` request followed by ANY bytes is read as that one request
followed by exactly those bytes; in particular the serialisation itself (`rest = []`) is consumed
entirely — it contains no second request. -/
theorem h1_exactly_one_request (r : WReq) (wire host : Bytes) (f : Framing)
    (hh : wireHost r = .ok host) (hf : framing r = .ok f) (hs : serializeH1 r = .ok wire)
    (hv : Valid r host f) :
    parseRequestH1 wire = some (view r host f, []) := by
  have := h1_fidelity r wire host f hh hf hs hv []
  simpa using this

/-- chunked body framing round trip (any body, any sequence of read sizes, any tail). -/
theorem body_framing_chunked (body : Bytes) (reads : List Nat) (rest : Bytes) :
    decodeBody .chunked (chunkedBody body reads ++ rest) = some (body, rest) :=
  decodeBody_chunked body reads rest

/-- the chunks are exactly a split of the body: concatenated they give it back. -/
theorem body_framing_total (body : Bytes) (reads : List Nat) :
    (splitReads body reads).flatten = body ∧ ∀ p ∈ splitReads body reads, p ≠ [] :=
  splitReads_spec reads body

end H1

section Cross
open Req.H1 Req.H2 Req.H1.Origin Req.Validate Req.HeaderSort Req.Ascii Req.Props.C16

/-- a caller header none of the three writers treats specially: valid field name, not in either
exclusion table (connection-specific / framing / bookkeeping names), not User-Agent, not Cookie. -/
def ordinaryKey (k : Bytes) : Bool :=
  validHeaderFieldName k && !reqWriteExcludeHeader.contains k && !isExcluded k &&
    !equalFold k sUserAgentL && !equalFold k sCookieL

theorem mem_wireOf {kvs : List KV} {kv : KV} {v : Bytes} (h : kv ∈ kvs) (hv : v ∈ kv.values) :
    (lower kv.key, v) ∈ wireOf kvs := by
  unfold wireOf
  exact List.mem_flatMap.mpr ⟨kv, h, List.mem_map.mpr ⟨v, hv, rfl⟩⟩

/-- a group of the header-map pass is on the wire, field by field. -/
theorem group_on_wire (fl : Flavor) (q : FReq) (fs : List (Bytes × Bytes)) (hfs : fields fl q = .ok fs)
    {g : KV} (hg : g ∈ headerGroups fl q.header) {v : Bytes} (hv : v ∈ g.values) :
    (lower g.key, v) ∈ fs := by
  obtain ⟨host, path, _, _, hperm⟩ := wire_set_h2 fl q fs hfs
  apply hperm.mem_iff.mpr
  apply List.mem_append.mpr
  right
  unfold baseRegular
  rw [wireOf_append, wireOf_append, wireOf_append]
  simp only [List.mem_append]
  left; left; left
  exact mem_wireOf hg hv

/-- HTTP/3 has no cookie branch -/
theorem h3_line_on_wire (q : FReq) (fs : List (Bytes × Bytes)) (hfs : fields .h3 q = .ok fs)
    (kv : KV) (hkv : kv ∈ q.header) (hex : isExcluded kv.key = false)
    (hua : equalFold kv.key sUserAgentL = false) : ∀ v ∈ kv.values, (lower kv.key, v) ∈ fs := by
  intro v hv
  have hg : (⟨kv.key, [v]⟩ : KV) ∈ headerGroups .h3 q.header := by
    unfold headerGroups
    apply List.mem_flatMap.mpr
    refine ⟨kv, hkv, ?_⟩
    have : (Flavor.h3 == Flavor.h2) = false := by decide
    simp only [hex, hua, this, Bool.false_eq_true, if_false, Bool.false_and, beq_self_eq_true, if_true]
    exact List.mem_map.mpr ⟨v, hv, rfl⟩
  exact group_on_wire .h3 q fs hfs hg (v := v) (by simp)

/-- every field line of a key that no exclusion table, the User-Agent branch or the cookie branch
takes is in the HTTP/2 and in the HTTP/3 block. -/
theorem ordinary_on_wire (fl : Flavor) (q : FReq) (fs : List (Bytes × Bytes))
    (hfs : fields fl q = .ok fs) (kv : KV) (hkv : kv ∈ q.header)
    (hex : isExcluded kv.key = false) (hua : equalFold kv.key sUserAgentL = false)
    (hck : equalFold kv.key sCookieL = false) :
    ∀ v ∈ kv.values, (lower kv.key, v) ∈ fs := by
  cases fl with
  | h2 =>
    intro v hv
    have hg : kv ∈ headerGroups .h2 q.header := by
      unfold headerGroups
      apply List.mem_flatMap.mpr
      refine ⟨kv, hkv, ?_⟩
      simp [hex, hua, hck]
    exact group_on_wire .h2 q fs hfs hg hv
  | h3 => exact h3_line_on_wire q fs hfs kv hkv hex hua

/-- header values: for the same `http.Request`, every value of every ordinary
caller header that passes `validateHeaders` is on the HTTP/1.1 wire (name in the caller's
spelling) AND in the HTTP/2 / HTTP/3 field list (name lower-cased, value verbatim), and an origin
that removes surrounding white space — as HTTP defines field values — reads the SAME value from
both. -/
theorem cross_protocol (fl : Flavor) (w : WReq) (q : FReq) (host1 : Bytes) (f : Framing)
    (fs : List (Bytes × Bytes)) (hq : q.header = w.header) (hfs : fields fl q = .ok fs)
    (kv : KV) (hkv : kv ∈ w.header) (hk : ordinaryKey kv.key = true)
    (v : Bytes) (hv : v ∈ kv.values) (hval : validHeaderFieldValue v = true) :
    (kv.key, sanitizeValue v) ∈ linesOf (h1Fields w host1 f) ∧ (lower kv.key, v) ∈ fs ∧
      trimOWS (sanitizeValue v) = trimOWS v := by
  unfold ordinaryKey at hk
  simp only [Bool.and_eq_true, Bool.not_eq_true'] at hk
  obtain ⟨⟨⟨⟨hname, hex1⟩, hex2⟩, hua⟩, hck⟩ := hk
  refine ⟨h1_noncanonical_spelling w host1 f kv hkv hex1 hname v hv, ?_, ?_⟩
  · exact ordinary_on_wire fl q fs hfs kv (hq ▸ hkv) hex2 hua hck v hv
  · rw [sanitizeValue_of_valid v hval, trimOWS_idem]

/-- non-vacuity: `X-A` is ordinary, `Connection` / `content-length` / `User-Agent` are not; an
HTTP/2 field list for a request carrying `X-A: " v "` exists. -/
example : ordinaryKey [88, 45, 65] = true ∧ ordinaryKey sConnection = false ∧
    ordinaryKey sContentLengthL = false ∧ ordinaryKey sUserAgent = false := by decide +kernel

example :
    let q : FReq := { method := [71, 69, 84],
                      url := { scheme := [104], host := [104], path := [47] },
                      header := [⟨[88, 45, 65], [[32, 118, 32]]⟩] }
    (fields .h2 q).toOption.map (·.length) = some 6 := by decide +kernel

theorem lower_pseudo : lower sPath = sPath ∧ lower sMethod = sMethod ∧ lower sAuthority = sAuthority := by
  decide

/-- request line: for the same `http.Request` (no proxy, not CONNECT, target
in origin form) the `:method` / `:path` pseudo fields of HTTP/2 and HTTP/3 carry exactly the
method and the request target of the HTTP/1.1 request line. (HTTP/3 sends the method as given; it
only differs from the other two for the empty method, which they read as GET.) -/
theorem cross_protocol_request_line (fl : Flavor) (w : WReq) (q : FReq) (host1 : Bytes)
    (fs : List (Bytes × Bytes)) (hm : q.method = w.method) (hu : q.url = w.url)
    (hnc : (w.method == sCONNECT) = false) (hnp : w.usingProxy = false)
    (hvp : validPseudoPath (requestURI w.url) = true) (hfs : fields fl q = .ok fs) :
    (sPath, requestTarget w host1) ∈ fs ∧
      (sMethod, if fl = .h2 then methodOrGet w.method else w.method) ∈ fs := by
  obtain ⟨host, path, _, hpath, hperm⟩ := wire_set_h2 fl q fs hfs
  have hp : path = requestURI w.url := by
    unfold fieldPath at hpath
    simp only [hm, hnc, Bool.false_eq_true, if_false, hu, hvp, if_true, Except.ok.injEq] at hpath
    exact hpath.symm
  have ht := requestTarget_origin w host1 hnp hnc
  obtain ⟨l1, l2, _⟩ := lower_pseudo
  constructor
  · apply hperm.mem_iff.mpr
    apply List.mem_append.mpr
    left
    rw [ht, ← hp, ← l1]
    apply mem_wireOf (kv := ⟨sPath, [path]⟩) _ (by simp)
    unfold basePseudo
    simp [hm, hnc]
  · apply hperm.mem_iff.mpr
    apply List.mem_append.mpr
    left
    rw [← l2]
    apply mem_wireOf (kv := ⟨sMethod, [if fl = .h2 then methodOrGet w.method else w.method]⟩) _ (by simp)
    unfold basePseudo
    cases fl <;> simp [hm]

end Cross

end Req.Props.C01
