import Req.Pool.H3Map
import Req.Lemmas.C09H3
/-!
C09 — HTTP/3: which connection a request travels on (`h3_pairing`).  HTTP/3 has no
demultiplexer in the library — every request opens its own QUIC stream and reads its response
from that stream object — so "never mixed up" reduces to the client cache
`RoundTripper.clients` (model `Req/Pool/H3Map.lean`); all theorems quantify over every
interleaving of `getClient` / dial completion / connection death / give-up / `removeClient` /
request end / `CloseIdleConnections` / `Close`.

* `h3_pairing`            : the client a request is given (and keeps until it returns) was dialled
                            for the host of THAT request.
* `h3_one_client_per_host` : the cache has at most one entry per host and the entry of `h` was
                            dialled for `h`.
* `h3_usecount_covers_holders` : `useCount` of a client is at least the number of requests that
                            currently hold it (it is larger by the requests that left without
                            giving the count back: those that returned a dial error — the client is
                            dropped then — and those that started over after a cancelled dial,
                            `retryDial`).
* `h3_in_use_not_closed_by_idle_sweep` : `CloseIdleConnections` neither closes nor forgets a client
                            that some request holds.
-/
namespace Req.Props.C09H3
open Req.Pool.H3Map Req.Lemmas.C09H3

theorem Inv_reach (ops : List Op) : Inv (run {} ops) := Inv_run {} ops Inv_init

theorem h3_pairing (ops : List Op) (r c : Nat) (h : (run {} ops).rst r = .holding c) :
    ((run {} ops).cl c).host = (run {} ops).rhost r ∧ (run {} ops).rhost r ≠ none :=
  (Inv_reach ops).pairing r c h

theorem h3_one_client_per_host (ops : List Op) :
    ((run {} ops).clients.map Prod.fst).Nodup ∧
    ∀ h c, (h, c) ∈ (run {} ops).clients → ((run {} ops).cl c).host = some h :=
  ⟨(Inv_reach ops).keysNodup, (Inv_reach ops).regHost⟩

theorem h3_usecount_covers_holders (ops : List Op) (c : Nat) :
    (holders (run {} ops).rst c (run {} ops).reqs : Int) ≤ ((run {} ops).cl c).useCount :=
  (Inv_reach ops).count c

theorem h3_in_use_not_closed_by_idle_sweep (ops : List Op) (r c : Nat)
    (h : (run {} ops).rst r = .holding c) :
    let s := run {} ops
    let s' := (step s .closeIdle).1
    (s'.cl c).closedByUs = (s.cl c).closedByUs ∧ ∀ hst, (hst, c) ∈ s.clients → (hst, c) ∈ s'.clients := by
  have hi := Inv_reach ops
  -- `r` holds `c`, so the holders of `c` are at least one, and `useCount` covers them
  have hpos : ((run {} ops).cl c).useCount ≠ 0 := by
    have hm : r ∈ (run {} ops).reqs := (hi.started r).mp (by rw [h]; nofun)
    have := hi.count c
    have : 0 < holders (run {} ops).rst c (run {} ops).reqs :=
      List.length_pos_of_mem (List.mem_filter.mpr ⟨hm, by simp [h]⟩)
    omega
  refine ⟨?_, fun hst hmem => List.mem_filter.mpr ⟨hmem, by simpa using hpos⟩⟩
  simp only [step]
  rw [if_neg]
  simp only [List.any_eq_true, List.mem_filter, not_exists, not_and, decide_eq_true_eq]
  rintro p ⟨_, h0⟩ rfl
  exact hpos (by simpa using h0)
/-! Non-vacuity: requests 1 and 2 for host 7 share client 0 (dialled by the first), request 3 for
host 8 gets its own; an idle sweep while 2 is still in flight keeps client 0; after the
connection of client 0 has died, request 4 for host 7 gets a fresh client. -/
def exOps : List Op :=
  [.get 1 7 false, .dialDone 0 .ok, .get 2 7 false, .get 3 8 false, .dialDone 1 .ok,
   .finish 1 false, .finish 3 false, .closeIdle]

example : (run {} exOps).clients = [(7, 0)] ∧ (run {} exOps).rst 2 = .holding 0 ∧
    ((run {} exOps).cl 0).useCount = 1 ∧ ((run {} exOps).cl 1).closedByUs = true ∧
    ((run {} exOps).cl 0).closedByUs = false := by decide +kernel

example : (runOut {} (exOps ++ [.connDies 0, .get 4 7 false])).getLast? = some (.got 2 true) ∧
    (run {} (exOps ++ [.connDies 0, .get 4 7 false])).clients = [(7, 2)] := by decide +kernel

/-- `removeClient` deletes whatever is registered NOW: request 1 fails on the dead client 0 after
request 2 has already replaced it by client 1 — client 1 is forgotten by the cache while 2 uses it
(it is not closed: it serves 2 to the end and is never reused). -/
example :
    let s := run {} [.get 1 7 false, .dialDone 0 .ok, .connDies 0, .get 2 7 false, .dialDone 1 .ok,
                     .finish 1 true]
    s.clients = [] ∧ s.rst 2 = .holding 1 ∧ (s.cl 1).closedByUs = false ∧ (s.cl 1).host = some 7 := by
  decide +kernel

/-- The request that started the dial gives up: the dial is cancelled with it, the other waiter
starts over and dials again under its own context (client 1) instead of failing. -/
example :
    let s := run {} [.get 1 7 false, .get 2 7 false, .giveUp 1, .dialDone 0 .cancelled, .retryDial 2,
                     .get 2 7 false]
    s.clients = [(7, 1)] ∧ s.rst 2 = .holding 1 ∧ s.rst 1 = .over ∧ (s.cl 1).creator = 2 := by decide +kernel

end Req.Props.C09H3
