import Req.C02.HpackTable
/-!
C02 — an origin that uses the HPACK table size the client announced is understood.  Model: `Req/C02/HpackTable.lean`.  Tie: lane `h2recv`, class "SETTINGS this
end announces x what the origin's encoder makes of them" (the real `ClientConn` + `hpack.Decoder`
against a peer whose encoder adopts the announced size / a smaller one and emits the size
update; the response must equal the frame-script model's, which does not know the setting).
-/
namespace Req.C02.HpackTable

theorem total_keep_le (max : Nat) (l : List Nat) : total (keep max l) ≤ max := by
  induction l generalizing max with
  | nil => exact Nat.zero_le _
  | cons e r ih =>
    rw [keep]
    split
    · next h => exact Nat.add_le_of_le_sub' h (ih (max - e))
    · exact Nat.zero_le _

/-- The Go loop (left fold) and the origin's in-order reading of the frame agree, from any
starting value. -/
theorem foldl_eq_peerLimit (cur : Nat) (settings : List (Nat × Nat)) :
    settings.foldl (fun acc s => if s.1 = idHeaderTableSize then s.2 else acc) cur
      = peerLimit cur settings := by
  induction settings generalizing cur with
  | nil => rfl
  | cons s r ih => simp only [List.foldl, peerLimit]; exact ih _

/-- What the decoder allows is exactly what the origin was told. -/
theorem allowed_eq_announced (settings : List (Nat × Nat)) :
    (clientDecoder settings).allowedMax = peerLimit defaultTableSize settings :=
  foldl_eq_peerLimit defaultTableSize settings

/-- Table invariant: the entries fit the current limit, which is within the allowed one. -/
def Inv (limit : Nat) (d : DynTab) : Prop :=
  d.allowedMax = limit ∧ d.maxSize ≤ limit ∧ total d.entries ≤ d.maxSize

theorem inv_clientDecoder (settings : List (Nat × Nat)) :
    Inv (peerLimit defaultTableSize settings) (clientDecoder settings) := by
  exact ⟨allowed_eq_announced settings, Nat.le_of_eq (allowed_eq_announced settings), Nat.zero_le _⟩

theorem step_inv {limit : Nat} {d : DynTab} (hd : Inv limit d) (o : Op)
    (ho : ∀ sz, o = .update sz → sz ≤ limit) : ∃ d', step d o = some d' ∧ Inv limit d' := by
  obtain ⟨ha, hm, ht⟩ := hd
  cases o with
  | update sz =>
    have hsz : sz ≤ limit := ho sz rfl
    refine ⟨d.setMaxSize sz, ?_, ?_⟩
    · simp only [step, DynTab.sizeUpdate, Bool.not_true, Bool.false_and]
      rw [if_neg Bool.false_ne_true, if_neg (Nat.not_lt.2 (ha ▸ hsz))]
    · exact ⟨ha, hsz, total_keep_le _ _⟩
  | insert e =>
    exact ⟨d.insert e, rfl, ha, hm, total_keep_le _ _⟩

/-- On a connection whose client announced ANY settings list, EVERY sequence of
table operations of an origin that stays within the announced HEADER_TABLE_SIZE (size updates at
block starts to any value up to it — in particular the announced value itself, as nginx / h2o /
envoy do —, insertions of any size, in any order and number) is accepted by the decoder
`newClientConn` built: no COMPRESSION_ERROR, and the table invariant holds at the end. -/
theorem compliant_origin_accepted (settings : List (Nat × Nat)) (ops : List Op)
    (h : compliant (peerLimit defaultTableSize settings) ops) :
    ∃ d, run (clientDecoder settings) ops = some d ∧ Inv (peerLimit defaultTableSize settings) d := by
  suffices H : ∀ (limit : Nat) (ops : List Op) (d0 : DynTab), Inv limit d0 → compliant limit ops →
      ∃ d, run d0 ops = some d ∧ Inv limit d from
    H _ ops _ (inv_clientDecoder settings) h
  intro limit ops
  induction ops with
  | nil => intro d0 h0 _; exact ⟨d0, rfl, h0⟩
  | cons o r ih =>
    intro d0 h0 hc
    have hr : compliant limit r := by
      cases o with
      | update sz => exact hc.2
      | insert e => exact hc
    obtain ⟨d1, hs, h1⟩ := step_inv h0 o fun sz e => (e ▸ hc : compliant limit (.update sz :: r)).1
    obtain ⟨d, hrun, hd⟩ := ih d1 h1 hr
    exact ⟨d, by rw [run, hs]; exact hrun, hd⟩

/-- Why the allowed maximum is part of the model: the construction `clientDecoderResizeOnly`
(default decoder, then `SetMaxDynamicTableSize`) announces 65536 and refuses the origin's very first size update
to it. -/
theorem resizeOnly_refuses_announced :
    run (clientDecoderResizeOnly [(idHeaderTableSize, 65536)]) [.update 65536] = none := by
  decide

end Req.C02.HpackTable
