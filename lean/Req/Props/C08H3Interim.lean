import Req.Props.C08H3
/-!
# C08 — interim (1xx) responses and the HTTP/3 watcher

`Ev.peerInterim` = an informational response (100 Continue, 103 Early Hints, …) is read by the
`ReadResponse` loop of `doRequest`, which goes back to `ReadResponse`.
-/
namespace Req.Props.C08H3Interim
open Req.Cancel (CtxErr)
open Req.CancelH3 Req.Lemmas.CancelH3 Req.Props.C08H3

/-- `k` interim responses in a row -/
def interims : Nat → St → St
  | 0, s => s
  | k + 1, s => interims k (evApply s .peerInterim)

/-- a 1xx never signals `reqDone`: `reqDone` stays open, the watcher stays where it is, both directions of the
stream stay as they are, however many of them arrive. The model's `peerInterim` is the identity
(`Req/Pool/CancelH3.lean`): this reads that definition back; what ties it to `doRequest` is the lane, not the theorem. -/
theorem interim_keeps_watcher_h3 (s : St) (k : Nat) :
    (interims k s).reqDone = s.reqDone ∧ (interims k s).wat = s.wat ∧
    (interims k s).send = s.send ∧ (interims k s).recv = s.recv ∧ interims k s = s := by
  have h : interims k s = s := by
    induction k generalizing s with
    | zero => rfl
    | succ k ih => simp only [interims, CancelH3.evApply]; exact ih s
  rw [h]; exact ⟨rfl, rfl, rfl, rfl, rfl⟩

/-- the event is enabled exactly while the caller waits for the final header on an open stream -/
example : evGuard (apply (evApply (evApply (init false) .hsDone) .streamOpen) .cSendHdr) .peerInterim = true := by
  decide

theorem reach_interims {s : St} (hr : Reach s) (hg : evGuard s .peerInterim = true) (k : Nat) :
    Reach (interims k s) := by
  induction k generalizing s with
  | zero => exact hr
  | succ k ih =>
    simp only [interims]
    exact ih (Reach.ev .peerInterim hr hg) (by simpa only [CancelH3.evApply] using hg)

/-- `cancel_releases_h3` at the same state: `interims k s = s` (`interim_keeps_watcher_h3`) -/
theorem cancel_after_interims_releases_h3 {s : St} (hr : Reach s) (k : Nat)
    (hg : evGuard s .peerInterim = true) (e : CtxErr) (hc : s.ctx = none)
    (hd : s.reqDone = false) {as : List Act} {s' : St}
    (run : Run (evApply (interims k s) (.cancel e)) as s') :
    as.length ≤ K ∧
    (stuck s' = true →
      released s' = true ∧ (s'.cpc = .returned (.err (.ctx e)) ∨ s'.cpc = .returned .resp)) := by
  have h := (interim_keeps_watcher_h3 s k).2.2.2.2
  exact cancel_releases_h3 (reach_interims hr hg k) e (by rw [h]; exact hc) (by rw [h]; exact hd) run

/-- request sent (no body), one 103 read — closing `reqDone` as in the trial change `seeded/C08-r6-3` —, the watcher leaves
through `reqDone`, then the context is cancelled -/
def exInterimSignalled : St :=
  let s := init false
  let s := evApply s .hsDone
  let s := evApply s .streamOpen
  let s := apply s .cSendHdr
  let s := evApplyInterimSignals s .peerInterim
  let s := apply s .wExit
  evApply s (.cancel .canceled)

/-- sharpness (the trial change `seeded/C08-r6-3`): with the 1xx closing `reqDone`, `exInterimSignalled` is stuck with
the caller still inside `ReadResponse` and the receive side still open — the call never returns -/
theorem interim_signal_strands_cancel_h3 :
    stuck exInterimSignalled = true ∧ exInterimSignalled.cpc = .readResp ∧
    exInterimSignalled.recv = .open ∧ exInterimSignalled.wat = .done := by decide

/-- the same point in the model of the code as it is: every maximal run ends released with the
context's error -/
example : (finals 20 (evApply (evApply (apply (evApply (evApply (init false) .hsDone) .streamOpen) .cSendHdr)
    .peerInterim) (.cancel .canceled))).all
    (fun t => released t && t.cpc == .returned (.err (.ctx .canceled))) = true := by decide +kernel

end Req.Props.C08H3Interim
