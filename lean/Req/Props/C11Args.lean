import Req.Client.RedirectArgs
import Req.Client.Redirect
/-!
C11 — a client enforces the policy list it was GIVEN, whoever owns the storage it came in
(model `Req.Redirect.Args`; lanes policy / e2e / e2ealt / loop configure families of clients from shared
caller-owned arrays with spare capacity, overlapping sub-slices, and caller writes after the call).
`Args.run` copies the argument at the call; `Alias.run` is the code before fixes/C11-4, whose closure keeps the
caller's slice.
-/
namespace Req.Props.C11Args
open Req.Redirect.Args

/-- An operation that is not a `SetRedirectPolicy` call on client `i`. -/
def NotSetOn {α : Type} (i : Nat) : Op α → Prop
  | .setLit k _ => k ≠ i
  | .setSlice k _ => k ≠ i
  | _ => True

theorem step_keeps_client {α : Type} (st : State α) (op : Op α) (i : Nat) (v : List α)
    (h : st.clients[i]? = some v) (hop : NotSetOn i op) : (step st op).clients[i]? = some v := by
  have hlt : i < st.clients.length := by
    rcases Nat.lt_or_ge i st.clients.length with hl | hl
    · exact hl
    · rw [List.getElem?_eq_none hl] at h; exact absurd h (by simp)
  cases op with
  | alloc cells => exact h
  | write a x w => exact h
  | setLit k ps =>
    simp only [NotSetOn] at hop
    simp only [step]
    split
    · exact h
    · simp [List.getElem?_set, hop, h]
  | setSlice k s =>
    simp only [NotSetOn] at hop
    simp only [step]
    split
    · exact h
    · simp [List.getElem?_set, hop, h]
  | clone k =>
    simp only [step]
    split
    · simp [List.getElem?_append_left hlt, h]
    · exact h

theorem foldl_keeps_client {α : Type} (later : List (Op α)) (st : State α) (i : Nat) (v : List α)
    (h : st.clients[i]? = some v) (hl : ∀ op ∈ later, NotSetOn i op) :
    (later.foldl step st).clients[i]? = some v := by
  induction later generalizing st with
  | nil => exact h
  | cons op ops ih =>
    simp only [List.foldl_cons]
    exact ih _ (step_keeps_client st op i v h (hl op (by simp))) (fun o ho => hl o (by simp [ho]))

/-- Client `i` is configured from a caller-owned slice with a non-empty
content; whatever happens afterwards that is not a `SetRedirectPolicy` on `i` itself — the caller
overwriting cells of the array (reusing it, appending to a prefix), other clients being configured from
the same array or overlapping sub-slices, clones, allocations — client `i` enforces exactly the list the
slice held at the time of the call. -/
theorem set_policy_copies_argument {α : Type} (st : State α) (i : Nat) (s : Slice)
    (hi : i < st.clients.length) (hne : st.heap.read s ≠ [])
    (later : List (Op α)) (hl : ∀ op ∈ later, NotSetOn i op) :
    (later.foldl step (step st (.setSlice i s))).clients[i]? = some (st.heap.read s) := by
  apply foldl_keeps_client later _ i _ _ hl
  simp only [step]
  have : (st.heap.read s).isEmpty = false := by
    cases h : st.heap.read s with
    | nil => exact absurd h hne
    | cons x xs => rfl
  simp [this, List.getElem?_set, hi]

theorem foldl_refines {α : Type} (dflt : List α) (ops : List (Op α)) (st : State α)
    (acc : List (Req.Redirect.Lifetime.Op (List α)))
    (h : st.clients = Req.Redirect.Lifetime.run dflt acc) :
    (ops.foldl step st).clients = Req.Redirect.Lifetime.run dflt (trace st ops acc) := by
  induction ops generalizing st acc with
  | nil => simpa [trace] using h
  | cons op ops ih =>
    simp only [List.foldl_cons]
    cases op with
    | alloc cells => simp only [trace]; exact ih _ _ (by simpa [step] using h)
    | write a x v => simp only [trace]; exact ih _ _ (by simpa [step] using h)
    | setLit i ps =>
      simp only [trace]
      apply ih
      simp only [step, Req.Redirect.Lifetime.run, Req.Redirect.Lifetime.step]
      split <;> simp [h]
    | setSlice i s =>
      simp only [trace]
      apply ih
      simp only [step, Req.Redirect.Lifetime.run, Req.Redirect.Lifetime.step]
      split <;> simp [h]
    | clone i =>
      simp only [trace]
      apply ih
      simp only [step, Req.Redirect.Lifetime.run, Req.Redirect.Lifetime.step, ← h]
      split <;> simp_all

/-- With the argument copied at the call, a family of clients configured
through caller-owned storage is the lifetime machine run on the argument VALUES at call time. -/
theorem args_refine_lifetime {α : Type} (dflt : List α) (ops : List (Op α)) :
    (run dflt ops).clients =
      Req.Redirect.Lifetime.run dflt (trace { clients := [dflt] } ops []) :=
  foldl_refines dflt ops _ [] rfl

/-- Array `[1, 2]`, client 0 configured from `arr[0:2]`, then the caller
writes `arr[0] = 9` (e.g. reuses the buffer for the next client): the property's semantics keeps
`[1, 2]`, the pre-fix code enforces `[9, 2]`. Likewise a second client configured from the prefix
`arr[0:1]` by a library that appends one element in place (a write to `arr[1]`) changes client 0. -/
theorem alias_semantics_differs :
    let ops : List (Op Nat) := [.alloc [1, 2], .setSlice 0 ⟨0, 0, 2⟩, .write 0 0 9]
    (run [10] ops).clients[0]? = some [1, 2] ∧ Alias.enforced (Alias.run [10] ops) 0 = some [9, 2] := by
  decide

/-- Non-vacuity: three clients from one array with spare capacity, overlapping sub-slices, a clone, and
caller writes in between — each keeps what it was given. -/
example :
    (run [10] ([.alloc [1, 2, 3, 0, 0], .clone 0, .clone 0, .setSlice 0 ⟨0, 0, 3⟩, .setSlice 1 ⟨0, 0, 1⟩,
      .write 0 1 7, .setSlice 2 ⟨0, 1, 2⟩, .write 0 0 8, .clone 1, .setSlice 1 ⟨0, 3, 0⟩] : List (Op Nat))).clients =
      [[1, 2, 3], [1], [7, 3], [1]] := by decide

end Req.Props.C11Args
