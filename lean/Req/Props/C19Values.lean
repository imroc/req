import Req.Client.ValuesHeap
import Req.Lemmas.C19Values
/-!
# C19 — cloned maps of slices: capacity

A `map[string][]string` (`url.Values`, `http.Header`) behaves as a multimap of values as long as the CAPACITY
ranges of the slices of different keys are apart (`Sep`): then every sequence of `add` (append in place while it
fits, else move — for EVERY growth policy), `set`, `del` on the heap denotes the multimap operations of the value
model, and `Sep` is kept (`values_heap_refines`). Keys of several maps (original and clone) live in one `MapS`,
so this is at once "adding to one key of the clone changes no other key of the clone" and "… no key of the
original" (and the other way round). A clone laid out in ONE backing array is separated if every slice is capped
at its length (`sv[:n:n]`, what `http.Header.Clone` does: `cloneUrlValues_caps`) and is not without the cap
(`uncapped_counterexample`). `sepB` is the Boolean judge lane `vals` applies to the layouts it observes.
-/
namespace Req.Props.C19Values
open Req.Scope Req.ValuesHeap

theorem stepH_refines (grow : Nat → Nat → Nat) (st : Store) (m : MapS) (op : VOp) (hs : Sep st m) :
    Sep (stepH grow (st, m) op).1 (stepH grow (st, m) op).2 ∧
    absMap (stepH grow (st, m) op).1 (stepH grow (st, m) op).2 = stepA (absMap st m) op := by
  cases op with
  | add k vs =>
    simp only [stepH, stepA, AMap.addMany]
    rw [get_absMap]
    cases hl : lookup m k with
    | some s =>
      have hmem := lookup_mem m k s hl
      by_cases hfit : s.len + vs.length ≤ s.cap
      · simp only [hfit, if_true]
        -- room in place: the other keys are apart from the capacity range that is written
        have hread : ∀ e ∈ m, e.1 ≠ k →
            readSl (writeAt st s.arr (s.off + s.len) vs) e.2 = readSl st e.2 := fun e he hk =>
          readSl_writeAt_apart st s e.2 vs hfit (hs.fits e he) (apart_symm _ _ (hs.apart e he (k, s) hmem hk))
        refine ⟨sep_put st _ m k _ hs (Nat.le_refl _) (hs.fresh _ hmem) hfit
          fun e he hk => hs.apart e he (k, s) hmem hk, ?_⟩
        rw [absMap_put st _ m k _ hread, readSl_writeAt_self]
      · simp only [hfit, if_false]
        exact put_alloc st m hs k _ _ (Nat.le_max_right _ _)
    | none => simpa using put_alloc st m hs k vs _ (Nat.le_max_right _ _)
  | set k vs => exact put_alloc st m hs k vs _ (Nat.le_refl _)
  | del k =>
    simp only [stepH, stepA]
    refine ⟨⟨?_, ?_, ?_⟩, absMap_filter st m k⟩
    · intro e he; exact hs.fresh e (List.mem_filter.mp he).1
    · intro e he; exact hs.fits e (List.mem_filter.mp he).1
    · intro e1 h1 e2 h2; exact hs.apart e1 (List.mem_filter.mp h1).1 e2 (List.mem_filter.mp h2).1

/-- **Maps of slices behave as values while their capacities are apart** — every op sequence, every
growth policy. -/
theorem values_heap_refines (grow : Nat → Nat → Nat) : ∀ (ops : List VOp) (st : Store) (m : MapS), Sep st m →
    Sep (runH grow (st, m) ops).1 (runH grow (st, m) ops).2 ∧
    absMap (runH grow (st, m) ops).1 (runH grow (st, m) ops).2 = runA (absMap st m) ops := by
  intro ops
  induction ops with
  | nil => intro st m hs; exact ⟨hs, rfl⟩
  | cons op ops ih =>
    intro st m hs
    obtain ⟨h1, h2⟩ := stepH_refines grow st m op hs
    have := ih (stepH grow (st, m) op).1 (stepH grow (st, m) op).2 h1
    simp only [runH, runA, List.foldl_cons] at this ⊢
    rw [← h2]
    exact this

theorem sepB_sound (st : Store) (m : MapS) (h : sepB st.next m = true) : Sep st m := by
  simp only [sepB, Bool.and_eq_true, List.all_eq_true, Bool.or_eq_true, beq_iff_eq, decide_eq_true_eq] at h
  exact ⟨fun e he => (h.1 e he).1, fun e he => (h.1 e he).2,
    fun e1 h1 e2 h2 hne => (h.2 e1 h1 e2 h2).resolve_left hne⟩

/-- **A flat clone with capped slices is separated** — from itself and from ANY separated original:
`orig` are the slices that existed (the original's keys), the clone's array is the new one. This is the layout of
`http.Header.Clone`; req.go's `cloneUrlValues` builds one array per key (`ValuesHeap.perKey`), of which nothing is proved. -/
theorem cloneUrlValues_caps (st : Store) (orig : MapS) (hs : Sep st orig) (vals : AMap) :
    Sep (flatStore st vals) (orig ++ flat true st.next 0 (totalLen vals) vals) := by
  constructor
  · intro e he
    rw [List.mem_append] at he
    rcases he with he | he
    · exact Nat.lt_succ_of_lt (hs.fresh e he)
    · rw [(flat_capped_shape _ _ vals 0 e he).1]; exact Nat.lt_succ_self _
  · intro e he
    rw [List.mem_append] at he
    rcases he with he | he
    · exact hs.fits e he
    · rw [(flat_capped_shape _ _ vals 0 e he).2.2]; exact Nat.le_refl _
  · intro e1 h1 e2 h2 hne
    rw [List.mem_append] at h1 h2
    rcases h1 with h1 | h1
    · rcases h2 with h2 | h2
      · exact hs.apart e1 h1 e2 h2 hne
      · left; rw [(flat_capped_shape _ _ vals 0 e2 h2).1]; exact Nat.ne_of_lt (hs.fresh e1 h1)
    · rcases h2 with h2 | h2
      · left; rw [(flat_capped_shape _ _ vals 0 e1 h1).1]; exact Nat.ne_of_gt (hs.fresh e2 h2)
      · exact flat_capped_apart _ _ vals 0 e1 e2 h1 h2 hne

/-- Every later sequence of adds / sets / deletes on the original's keys or on the capped flat clone's acts on values. -/
theorem capped_clone_behaves_as_value (grow : Nat → Nat → Nat) (st : Store) (orig : MapS) (hs : Sep st orig)
    (vals : AMap) (ops : List VOp) :
    let x := runH grow (flatStore st vals, orig ++ flat true st.next 0 (totalLen vals) vals) ops
    absMap x.1 x.2 = runA (absMap (flatStore st vals) (orig ++ flat true st.next 0 (totalLen vals) vals)) ops :=
  (values_heap_refines grow ops _ _ (cloneUrlValues_caps st orig hs vals)).2

/-! ## Non-vacuity and the counterexample -/

def st0 : Store := ⟨fun _ _ => 0, 0⟩
def vals0 : AMap := [(1, [10]), (2, [20]), (3, [30, 31])]

/-- the capped flat clone reads the values it was made from -/
example : absMap (flatStore st0 vals0) (flat true 0 0 (totalLen vals0) vals0) = vals0 := by decide +kernel

example : sepB 1 (flat true 0 0 (totalLen vals0) vals0) = true := by decide +kernel

/-- capped: add to key 1, key 2 keeps its value -/
example : let x := runH (fun _ n => 2 * n) (flatStore st0 vals0, flat true 0 0 (totalLen vals0) vals0) [.add 1 [11]]
    (absMap x.1 x.2).get 1 = [10, 11] ∧ (absMap x.1 x.2).get 2 = [20] := by decide +kernel

/-- **Without the cap** (`sv[:n]`): the judge rejects the layout, and adding a value to key 1 of the
clone overwrites the value of key 2. -/
theorem uncapped_counterexample :
    sepB 1 (flat false 0 0 (totalLen vals0) vals0) = false ∧
    (let x := runH (fun _ n => 2 * n) (flatStore st0 vals0, flat false 0 0 (totalLen vals0) vals0) [.add 1 [11]]
     (absMap x.1 x.2).get 1 = [10, 11] ∧ (absMap x.1 x.2).get 2 = [11]) ∧
    (runA vals0 [.add 1 [11]]).get 2 = [20] := by decide +kernel

end Req.Props.C19Values
