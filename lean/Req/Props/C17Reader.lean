import Req.Lemmas.UploadReader
/-!
C17 — "file bytes arrive exactly", for a file given by a READER: `file_bytes_exact` for every
sequence of reads — any sizes (also empty reads), `io.EOF` delivered with the last bytes or
alone, a first read shorter than, equal to or longer than the 512-byte sniffing buffer — and for
errors at any point: the call fails, never a truncated part in a request that succeeds.
-/
namespace Req.Props.C17Reader
open Req.UploadReader Req.Proto

/-- For EVERY read script: if the file is written without error then the
bytes written into the part are exactly the file's bytes, and the script had no error before
its end. -/
theorem file_bytes_exact (script : List Rd) (r : Result)
    (h : writeFile true script = some r) (hok : r.ok = true) :
    r.written = content script ∧ clean script = true := by
  rcases writeFile_spec script with ⟨hn, -⟩ | ⟨k, -, -, hw⟩
  · rw [hn] at h; cases h
  · rw [hw] at h; cases h; exact ⟨rfl, hok⟩

/-- Conversely a clean script is always written completely: short reads never lose or repeat
a byte, wherever the 512-byte boundary falls. -/
theorem clean_file_written (script : List Rd) (hc : clean script = true) :
    ∃ r, writeFile true script = some r ∧ r.ok = true ∧ r.written = content script := by
  rcases writeFile_spec script with ⟨-, hn⟩ | ⟨k, -, -, hw⟩
  · rw [hc] at hn; cases hn
  · exact ⟨_, hw, hc, rfl⟩

theorem succeeds_iff (opens : Bool) (script : List Rd) :
    succeeds opens script = (opens && clean script) := by
  cases opens with
  | false => simp [succeeds, writeFile]
  | true =>
    rcases writeFile_spec script with ⟨hn, hc⟩ | ⟨k, -, -, hw⟩
    · simp [succeeds, hn, hc]
    · simp [succeeds, hw]

/-- An error of the content function, or of a read at ANY point before the
end of the file, fails the call. -/
theorem read_error_fails_call (opens : Bool) (script : List Rd)
    (h : opens = false ∨ clean script = false) : succeeds opens script = false := by
  rw [succeeds_iff]; rcases h with h | h <;> simp [h]

/-- What content sniffing looks at: exactly 512 bytes — a prefix of the file's bytes (the first
read: at most 512 bytes, fewer when the reader returns fewer) padded with zero bytes. -/
theorem sniff_sees_padded_prefix (script : List Rd) (r : Result)
    (h : writeFile true script = some r) :
    r.sniffed.length = sniffCap ∧
    ∃ k, k ≤ sniffCap ∧ r.sniffed = r.written.take k ++ List.replicate (sniffCap - k) 0 := by
  rcases writeFile_spec script with ⟨hn, -⟩ | ⟨k, hk, hl, hw⟩
  · rw [hn] at h; cases h
  · rw [hw] at h; cases h
    exact ⟨by simp [pad]; omega, k, hk, by simp [pad, Nat.min_eq_left hl]⟩

/-- Re-chunking invariance: two readers that deliver the same bytes without error produce the
same part content, however differently they split their reads. -/
theorem rechunk_invariant (s1 s2 : List Rd) (h1 : clean s1 = true) (h2 : clean s2 = true)
    (hc : content s1 = content s2) :
    (writeFile true s1).map (·.written) = (writeFile true s2).map (·.written) := by
  obtain ⟨r1, e1, -, w1⟩ := clean_file_written s1 h1
  obtain ⟨r2, e2, -, w2⟩ := clean_file_written s2 h2
  simp [e1, e2, w1, w2, hc]

set_option maxRecDepth 100000 in
/-- 3-byte first read, an empty read, then the rest with EOF attached: sniffed = 3 bytes + zeros -/
example : (writeFile true [.data [37, 80, 68], .data [], .data [70, 45], .eof [49]]).map
    (fun r => (r.written, r.ok, r.sniffed.take 5, r.sniffed.length)) =
    some ([37, 80, 68, 70, 45, 49], true, [37, 80, 68, 0, 0], 512) := by decide +kernel

set_option maxRecDepth 100000 in
/-- a first chunk longer than the sniffing buffer is split at 512, nothing lost -/
example : (writeFile true [.data (List.replicate 600 7), .eof [1, 2]]).map
    (fun r => (r.written.length, r.ok, r.written.drop 598)) = some (602, true, [7, 7, 1, 2]) := by decide +kernel

set_option maxRecDepth 100000 in
/-- an error after 1000 bytes: the call fails (imroc/req before commit 83ee13f sent the 1000 bytes in a
request that succeeded) -/
example : succeeds true [.data (List.replicate 1000 1), .fail []] = false := by decide +kernel
example : succeeds false [.eof [1]] = false := by decide
example : succeeds true [.fail [1, 2, 3]] = false := by decide
example : clean [.data [1], .fail [], .eof [2]] = false ∧ clean [.data [1], .eof [], .fail [2]] = true := by decide

end Req.Props.C17Reader
