import Req.Props.C02Msg
import Req.C02.H1Full
/-!
C02 — `h1_response_roundtrip`: the per-framing whole-message theorems of `Req.Props.C02Msg` for a
response that may have a body (`_length`, `_chunked`, `_close`) as ONE statement over every framing
the origin may choose.  The responses without a body (HEAD, 101, 204, 304) are
`h1_response_roundtrip_nobody` and not part of it.
-/
namespace Req.Props.C02
open Req.Proto Req.Ascii Req.C02 Req.H1

/-- The origin's choice of framing for a response that may have a body: what the head announces
(`OriginFraming`), the body it carries, the trailer fields, the bytes it writes after the head
(`after`), what is left for the next response (`rest`), and the body reader the client is to
install (`none` = `http.NoBody`). `cap` = the client's read-buffer size (the chunk-size lines and
the trailer section must fit it: the code's own limits). -/
inductive OWire (cap : Nat) (o : OHead) (cc : Bool) :
    (body : Bytes) → (trailers : List WField) → (after rest : Bytes) → Option Framing → Prop
  /-- `Content-Length: n` (any spelling the reader parses), then the `n > 0` body bytes -/
  | length (clv body rest : Bytes) (hF : OriginFraming o cc false vChunked (some (clv, body.length)) none)
      (hne : body ≠ []) :
      OWire cap o cc body [] (body ++ rest) rest (some (.length body.length))
  /-- `Content-Length: 0` -/
  | empty (clv rest : Bytes) (hF : OriginFraming o cc false vChunked (some (clv, 0)) none) :
      OWire cap o cc [] [] rest rest none
  /-- `Transfer-Encoding: chunked` (any case), optional `Trailer` announcement; the body in ANY
  split into chunks with any size-line spelling the reader's parser accepts, any last-chunk line,
  the trailer section -/
  | chunked (te : Bytes) (tr : Option Bytes) (cs : List WChunk) (last : Bytes) (trailers : List WField)
      (rest : Bytes) (hF : OriginFraming o cc true te none tr)
      (hkeys : ∀ tv, tr = some tv → (declKeys tv).any badTrailerKey = false)
      (hcap : 2 ≤ cap) (hcs : ∀ c ∈ cs, c.OK cap) (hl : LastOK cap last) (hts : ∀ f ∈ trailers, f.OK)
      (hfit : (blockWire trailers).length ≤ cap) :
      OWire cap o cc (dataOf cs) trailers (wireFrom cs last (trailerSection trailers ++ rest)) rest (some .chunked)
  /-- neither length nor coding: the body ends when the origin closes the connection -/
  | close (body : Bytes) (hF : OriginFraming o cc false vChunked none none) :
      OWire cap o cc body [] body [] (some .close)

/-- **h1_response_roundtrip.** For EVERY origin message — status, reason, field lines in any
order and spelling, 0..5 interim responses before it — and EVERY framing the origin may choose
(`OWire`: declared length, chunked with any chunk split / size-line spelling / trailer section,
close-delimited), followed by whatever comes next on the connection:

* the head reader (`persistConn.readResponse`, C04's byte-exact model) returns the origin's
  status, under every ordinary field name exactly the origin's values in wire order, and consumes
  exactly the heads;
* `readTransfer` installs exactly the body reader the origin's framing calls for;
* through it, from ANY state of the connection's `bufio.Reader` consistent with the heads having
  been consumed (any buffered prefix, any segmentation of what follows), for EVERY sequence of
  caller read sizes: the bytes handed out are a prefix of the body; an error is only ever
  `io.EOF`, and then the caller got EXACTLY the body, `Response.Trailer` got EXACTLY the trailer
  fields, and the connection reader stands EXACTLY at `rest`; positive read sizes and enough
  reads do end. -/
theorem h1_response_roundtrip (is : List OHead) (his : ∀ i ∈ is, i.Interim) (hn : is.length ≤ 5)
    (o : OHead) (ho : o.OK) (hfc : FinalCode o.code) (hba : Req.H1.bodyAllowedForStatus o.code = true)
    (cc : Bool) (cap : Nat) (body : Bytes) (trailers : List WField) (after rest : Bytes) (f? : Option Framing)
    (hW : OWire cap o cc body trailers after rest f?) :
    ∃ msg, Req.H1.parseFinalHead 6 false (interimsWire is ++ (o.wire ++ after)) = some (msg, after) ∧
      msg.sl.code = o.code ∧
      (∀ k, OrdinaryKey k → msg.header.get k =
        if valuesOf k (fieldsOf o.fs) = [] then none else some (valuesOf k (fieldsOf o.fs))) ∧
      framingOfH1 msg.framing = f? ∧
      (match f? with
       | none => body = [] ∧ after = rest
       | some f =>
         ∀ br : Bufio, br.rem = after → br.WF → br.Fits → br.cap = cap → (f = .close → br.net.fin = .eof) →
           BodyExact (H1Body.new f br) body (trailerGot trailers) rest) := by
  cases hW with
  | length clv body rest hF hne =>
    obtain ⟨msg, h1, h2, h3, _, h5⟩ := h1_response_roundtrip_length is his hn o ho hfc hba cc clv _ hF _
    obtain ⟨hfr, hbody⟩ := h5 hne
    refine ⟨msg, h1, h2, h3, by rw [hfr]; rfl, ?_⟩
    intro br hrem hw _ _ _
    exact hbody br hrem hw
  | empty clv rest hF =>
    obtain ⟨msg, h1, h2, h3, h4, _⟩ := h1_response_roundtrip_length is his hn o ho hfc hba cc clv [] hF after
    refine ⟨msg, by simpa using h1, h2, h3, by rw [h4 rfl]; rfl, rfl, rfl⟩
  | chunked te tr cs last trailers rest hF hkeys hcap hcs hl hts hfit =>
    obtain ⟨msg, h1, h2, h3, _, h5, h6⟩ :=
      h1_response_roundtrip_chunked is his hn o ho hfc hba cc te tr hF hkeys cap hcap cs hcs last hl _ hts
        hfit _
    refine ⟨msg, h1, h2, h3, by rw [h5]; rfl, ?_⟩
    intro br hrem hw hf hc _
    exact h6 br hrem hw hf hc
  | close body hF =>
    obtain ⟨msg, h1, h2, h3, h4, h5⟩ := h1_response_roundtrip_close is his hn o ho hfc hba cc hF _
    refine ⟨msg, h1, h2, h3, by rw [h4]; rfl, ?_⟩
    intro br hrem hw _ _ hfin
    exact h5 br hrem hw (hfin rfl)

/-! Non-vacuity: the two example messages of `C02Msg` as `OWire` instances. -/
example : OWire 4096 exHead false [104, 101, 108, 108, 111] [] ([104, 101, 108, 108, 111] ++ [78]) [78]
    (some (.length 5)) :=
  OWire.length [53] [104, 101, 108, 108, 111] [78] exHead_framing (by simp)

example :
    OWire 4096 exHeadChunked false
      (dataOf [⟨[51, 59, 120, 61, 121, 13], [104, 101, 108]⟩, ⟨[48, 48, 50, 13], [108, 111]⟩])
      [⟨[120, 45, 116], [32], [118], []⟩]
      (wireFrom [⟨[51, 59, 120, 61, 121, 13], [104, 101, 108]⟩, ⟨[48, 48, 50, 13], [108, 111]⟩] [48, 13]
        (trailerSection [⟨[120, 45, 116], [32], [118], []⟩] ++ [78]))
      [78] (some .chunked) := by
  obtain ⟨hkeys, hcs, hl, hts⟩ := exChunked_parts
  exact OWire.chunked _ _ _ _ _ _ exHeadChunked_framing hkeys (by omega) hcs hl hts (by decide)

end Req.Props.C02
