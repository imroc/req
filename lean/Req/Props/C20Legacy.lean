import Req.Client.Digest
import Req.Client.Rfc7616
import Req.Lemmas.C20Parse
import Req.Lemmas.C20Quote
import Req.Lemmas.C20Accept
/-!
C20 — digest authentication, theorems about `Req.Digest`, the model of a digest.go without RFC 7230
quoted-string handling (`parseChallenge`: split at every comma, `strings.Trim` of quotes, first
field line only; `authorize`: no escaping, the whole qop list echoed): acceptance by the verifier
CONDITIONED on the absence of the quoted-string corners (`Expressible`, `WellWritten`), and the
corners themselves as evaluated counter-examples (`excluded_*`); they are finding
`c20-quoted-string-handling` of known-findings.txt. The unconditional statements, about
`Req.DigestAuth`, are in `Req/Props/C20Digest.lean`. `WellWritten`, `challengeOf`, `lastValue` are
defined in `Req/Lemmas/C20Parse.lean`, `issuedOf` in `C20Accept.lean`, `isQd` in `C20Verify.lean`.
-/
namespace Req.Props.C20Legacy
open Req.Proto

section digest
open Req.Digest Req.Rfc7616 Req.Ascii

/-- Everything the header must carry inside a quoted-string is qdtext. -/
structure Expressible (c : Challenge) (user uri : Bytes) : Prop where
  user : c.userhash = b!"true" ∨ user.all isQd = true
  realm : c.realm.all isQd = true
  nonce : c.nonce.all isQd = true
  uri : uri.all isQd = true
  opaq : c.opaq.all isQd = true

/-- **digest_accepted**: what `authorize` writes for a parsed challenge is accepted by the RFC 7616
verifier that holds the same challenge, provided everything the header carries inside a
quoted-string is qdtext (`Expressible`) and so is the output of the hash function (`hH`; real output
is hex: `exH_qd`). -/
theorem digest_accepted (H : Alg → Bytes → Bytes) (hH : ∀ a x, (H a x).all isQd = true)
    (raw : Bytes) (c : Challenge) (user pass method uri body : Bytes) (rnd : Option Bytes) (hdr : Bytes)
    (hp : parseChallenge raw = .ok c)
    (hx : Expressible c user uri)
    (ha : authorize H algOf c { user, pass, method, uri } rnd = .ok hdr) :
    verify H specAlg { issued := issuedOf c, method, uri, user, pass, body } hdr = true := by
  have hnc : 44 ∉ c.qop := parseChallenge_noComma hp b!"qop" (by decide)
  unfold authorize at ha
  split at ha
  · cases ha
  · rename_i alg halg
    split at ha
    · cases ha
    · rename_i hvq
      split at ha
      · cases ha
      · rename_i hsess
        split at ha
        · cases ha
        · rename_i r
          simp only [Except.ok.injEq] at ha
          subst ha
          have hvq' : validateQop c.qop = true := by simpa using hvq
          have hqop := validateQop_noComma hnc hvq'
          have hcn : ((hex r).take 32).all isQd = true := all_take 32 (hex_all_qd r)
          have hnc1 : hex8 (0 + 1) = b!"00000001" := hex8_one
          have hncok : hex8 (0 + 1) ≠ [] ∧ (hex8 (0 + 1)).all isTokenByte = true := by
            rw [hnc1]; decide
          have hok := params_ok (H alg) c { user, pass, method, uri } (hex8 (0 + 1)) ((hex r).take 32)
            isQd (hh := hH alg) (huser := hx.user) (hrealm := hx.realm) (hnonce := hx.nonce)
            (huri := hx.uri) (hop := hx.opaq) (halg := algOf_token halg) (hqop := hqop) (hnc := hncok)
            (hcn := hcn)
          have hpc := parseCredentials_render _ (params_ne_nil (H alg) c { user, pass, method, uri }
              (hex8 (0 + 1)) ((hex r).take 32)) hok
          rw [hnc1] at hpc
          refine verify_params H alg c (issuedOf c) user pass method uri body (hpc := hpc)
            (realm := rfl) (nonce := rfl) (opaq := rfl) (algorithm := rfl) (userhash := rfl)
            (hash := specAlg_effAlg halg) (qop := ?_)
          rcases hqop with hq | hq
          · exact Or.inl ⟨hq, by simp [issuedOf, hq], by simpa [hq] using hsess⟩
          · exact Or.inr ⟨hq, by simp [issuedOf, hq]⟩

/-- **alg_table_spec**: the model's `hashFuncs` table is RFC 7616's registry — for every name but the
empty one, which stands for the absent parameter (`alg_table_default`). -/
theorem alg_table_spec (name : Bytes) (hne : name ≠ []) :
    specAlg name = (algOf name).map (fun a => (a, isSess name)) := by
  by_cases hk : name ∈ hashTable.map (·.1)
  · simp only [hashTable, List.map_cons, List.map_nil, List.mem_cons, List.not_mem_nil, or_false] at hk
    rcases hk with rfl | rfl | rfl | rfl | rfl | rfl | rfl
    · exact absurd rfl hne
    all_goals rfl
  · simp only [hashTable, List.map_cons, List.map_nil, List.mem_cons, List.not_mem_nil, or_false, not_or,
      ← beq_eq_false_iff_ne] at hk
    simp only [specAlg, algOf, hashTable, lookup, hk, Bool.false_eq_true, if_false, Option.map_none]

theorem alg_table_default : algOf [] = some Alg.md5 ∧ specAlg (effAlg none) = some (Alg.md5, false) := by
  decide

/-- A challenge the client can answer: registered algorithm, no qop or a qop list offering
`auth`, and not the unanswerable combination "-sess without qop". -/
def Supported (c : Challenge) : Prop :=
  (algOf c.algorithm).isSome = true ∧ validateQop c.qop = true ∧
  ¬(isSess c.algorithm = true ∧ c.qop = [])

/-- **bad_challenge_errors**: an unsupported challenge (unknown algorithm, qop without `auth`,
`-sess` without qop) yields an ERROR — for every hash, account, method, URI and entropy — never a
header. -/
theorem bad_challenge_errors (H : Alg → Bytes → Bytes) (c : Challenge) (cr : Cred) (rnd : Option Bytes)
    (h : ¬Supported c) : ∃ e, authorize H algOf c cr rnd = .error e := by
  unfold authorize
  split
  · exact ⟨_, rfl⟩
  · rename_i alg halg
    split
    · exact ⟨_, rfl⟩
    · rename_i hv
      split
      · exact ⟨_, rfl⟩
      · rename_i hs
        exfalso
        apply h
        refine ⟨by simp [halg], by simpa using hv, ?_⟩
        rintro ⟨h1, h2⟩
        exact hs (by simp [h1, h2])

/-- Which error: the kinds are distinguished. -/
theorem bad_challenge_kinds (H : Alg → Bytes → Bytes) (c : Challenge) (cr : Cred) (rnd : Option Bytes) :
    (algOf c.algorithm = none → authorize H algOf c cr rnd = .error .algNotSupported) ∧
    ((algOf c.algorithm).isSome = true → validateQop c.qop = false →
      authorize H algOf c cr rnd = .error .qopNotSupported) ∧
    ((algOf c.algorithm).isSome = true → isSess c.algorithm = true → c.qop = [] →
      authorize H algOf c cr rnd = .error .qopNotSupported) := by
  refine ⟨?_, ?_, ?_⟩
  · intro h; simp [authorize, h]
  · intro h1 h2
    cases ha : algOf c.algorithm with
    | none => simp [ha] at h1
    | some a => simp [authorize, ha, h2]
  · intro h1 h2 h3
    cases ha : algOf c.algorithm with
    | none => simp [ha] at h1
    | some a =>
      cases hv : validateQop c.qop <;> simp [authorize, ha, h2, h3]

/-- Conversely a supported challenge IS answered whenever entropy is available (the previous
theorems are not vacuous, and `digest_accepted` is not about an empty set). -/
theorem supported_answered (H : Alg → Bytes → Bytes) (c : Challenge) (cr : Cred) (r : Bytes)
    (h : Supported c) : ∃ hdr, authorize H algOf c cr (some r) = .ok hdr := by
  obtain ⟨h1, h2, h3⟩ := h
  cases ha : algOf c.algorithm with
  | none => simp [ha] at h1
  | some a =>
    have hs : (isSess c.algorithm && c.qop.isEmpty) = false := by
      cases hq : isSess c.algorithm with
      | false => rfl
      | true =>
        cases hc : c.qop with
        | nil => exact absurd ⟨hq, hc⟩ h3
        | cons _ _ => rfl
    refine ⟨digestPrefix ++ commaJoin (fields (H a) c cr (hex8 (cr.nc + 1)) ((hex r).take 32)), ?_⟩
    simp [authorize, ha, h2, hs]

/-- The entropy source failing is an error as well. -/
theorem no_entropy_errors (H : Alg → Bytes → Bytes) (c : Challenge) (cr : Cred) :
    ∃ e, authorize H algOf c cr none = .error e := by
  unfold authorize
  split
  · exact ⟨_, rfl⟩
  · split
    · exact ⟨_, rfl⟩
    · split
      · exact ⟨_, rfl⟩
      · exact ⟨_, rfl⟩

/-- **non401_untouched**: any response that is not a 401 (or carries a transport error) is
left exactly as it is: no challenge is parsed, nothing is sent. -/
theorem non401_untouched (H : Alg → Bytes → Bytes) (user pass method uri : Bytes) (body : Body)
    (rnd : Option Bytes) (resp : Resp) (h : resp.err = true ∨ resp.status ≠ 401) :
    handle H algOf user pass method uri body rnd resp = .untouched := by
  unfold handle
  rcases h with h | h <;> simp [h]

theorem non401_one_request (H : Alg → Bytes → Bytes) (server : Wire → Resp) (user pass method uri : Bytes)
    (body : Body) (rnd : Option Bytes)
    (h : (server { method, uri, authorization := none, body := bodyBytes body }).status ≠ 401) :
    exchange H algOf server user pass method uri body rnd =
      ([{ method, uri, authorization := none, body := bodyBytes body }], .untouched) := by
  simp only [exchange, non401_untouched H user pass method uri body rnd _ (Or.inr h)]

/-- A malformed challenge (whatever `parseChallenge` rejects, including an absent header) is an
error, not a request. -/
theorem malformed_challenge_errors (H : Alg → Bytes → Bytes) (user pass method uri : Bytes) (body : Body)
    (rnd : Option Bytes) (resp : Resp) (e : Err) (h401 : resp.err = false ∧ resp.status = 401)
    (h : resp.wwwAuth = [] ∨ parseChallenge resp.wwwAuth = .error e) :
    ∃ e', handle H algOf user pass method uri body rnd resp = .failed e' := by
  unfold handle
  simp only [h401.1, h401.2, bne_self_eq_false, Bool.or_self, Bool.false_eq_true, if_false]
  rcases h with h | h
  · exact ⟨.badChallenge, by simp [h]⟩
  · split
    · exact ⟨_, rfl⟩
    · simp only [h]; exact ⟨_, rfl⟩

/-- **answered_once**: whatever the origin answers (any function `server`), a call puts at most
two requests on the wire; the second exists exactly when the middleware decided to re-send, it
is the first request plus the Authorization header — same method, same request target — and
the response to it is not examined again. -/
theorem answered_once (H : Alg → Bytes → Bytes) (server : Wire → Resp) (user pass method uri : Bytes)
    (body : Body) (rnd : Option Bytes) :
    let x := exchange H algOf server user pass method uri body rnd
    let first : Wire := { method, uri, authorization := none, body := bodyBytes body }
    (x.1 = [first] ∧ ∀ hdr b, x.2 ≠ .resend hdr b) ∨
    (∃ hdr b, x.2 = .resend hdr b ∧
      x.1 = [first, { method, uri, authorization := some hdr, body := b }]) :=
  resend_shape _ (fun hdr b => { method, uri, authorization := some hdr, body := b }) _

theorem at_most_two_requests (H : Alg → Bytes → Bytes) (server : Wire → Resp) (user pass method uri : Bytes)
    (body : Body) (rnd : Option Bytes) :
    (exchange H algOf server user pass method uri body rnd).1.length ≤ 2 := by
  rcases answered_once H server user pass method uri body rnd with ⟨h, _⟩ | ⟨_, _, _, h⟩ <;>
    rw [h] <;> simp

/-- **body_resent_intact**: when the request is sent again its body is the original body —
byte for byte, and a request without body stays without — and the Authorization value is the
one `authorize` computed for the parsed challenge. A body that cannot be produced again
(io.Reader) is never re-sent. -/
theorem body_resent_intact (H : Alg → Bytes → Bytes) (user pass method uri : Bytes) (body : Body)
    (rnd : Option Bytes) (resp : Resp) (hdr : Bytes) (b : Option Bytes)
    (h : handle H algOf user pass method uri body rnd resp = .resend hdr b) :
    b = bodyBytes body ∧ (∀ s, body ≠ .stream s) ∧ resp.status = 401 ∧ resp.err = false ∧
    ∃ c, parseChallenge resp.wwwAuth = .ok c ∧
      authorize H algOf c { user, pass, method, uri } rnd = .ok hdr := by
  unfold handle at h
  split at h
  · cases h
  · rename_i h401
    have h401' : resp.err = false ∧ resp.status = 401 := by
      simp only [Bool.or_eq_true, bne_iff_ne, ne_eq, not_or, Bool.not_eq_true, Decidable.not_not] at h401
      exact h401
    split at h
    · cases h
    · split at h
      · cases h
      · rename_i c hc
        split at h
        · cases h
        · rename_i hdr' ha
          cases body with
          | none | replayable _ =>
            simp only [Outcome.resend.injEq] at h
            exact ⟨h.2.symm, (by intro s e; cases e), h401'.2, h401'.1, c, hc, h.1 ▸ ha⟩
          | stream _ | setupFails => cases h

deriving instance DecidableEq for Except

/-- a concrete hash for the examples: hex of the pre-image -/
def exH : Alg → Bytes → Bytes := fun _ x => hex x

theorem exH_qd : ∀ a x, (exH a x).all isQd = true := fun _ x => hex_all_qd x

/-- `Digest realm="r", nonce="n", qop="auth", algorithm=SHA-256-sess, opaque="o", userhash=true` -/
def exRaw : Bytes :=
  b!"Digest realm=\"r\", nonce=\"n\", qop=\"auth\", algorithm=SHA-256-sess, opaque=\"o\", userhash=true"

def exChal : Challenge :=
  { realm := b!"r", nonce := b!"n", qop := b!"auth", algorithm := b!"SHA-256-sess", opaq := b!"o",
    userhash := b!"true" }

def exCred : Cred :=
  { user := b!"Mufasa", pass := b!"Circle of Life", method := b!"GET", uri := b!"/dir/index.html?a=b" }

def exRnd : Bytes := [0, 1, 2, 3, 4, 5, 6, 7, 8, 9, 10, 11, 12, 13, 14, 15]

example : parseChallenge exRaw = .ok exChal := by decide +kernel

theorem exSupported : Supported exChal := by
  refine ⟨by decide, by decide, ?_⟩
  rintro ⟨_, h⟩; cases h

/-- the hypotheses of `digest_accepted` are satisfiable (and its conclusion then holds) -/
example : ∃ hdr, authorize exH algOf exChal exCred (some exRnd) = .ok hdr ∧
    verify exH specAlg
      { issued := issuedOf exChal, method := exCred.method, uri := exCred.uri, user := exCred.user,
        pass := exCred.pass } hdr = true := by
  obtain ⟨hdr, h⟩ := supported_answered exH exChal exCred exRnd exSupported
  exact ⟨hdr, h, digest_accepted exH exH_qd exRaw exChal _ _ _ _ [] _ hdr (by decide)
    ⟨Or.inl rfl, by decide, by decide, by decide, by decide⟩ h⟩

/-! ### the excluded points of `digest_accepted`, each a concrete failing input -/

/-- What the client sends for a raw challenge (`none` = it answers with an error). -/
def answer (raw user pass method uri : Bytes) : Option Bytes :=
  match parseChallenge raw with
  | .error _ => none
  | .ok c =>
    match authorize exH algOf c { user, pass, method, uri } (some exRnd) with
    | .ok hdr => some hdr
    | .error _ => none

def rejected (sc : Issued) (raw user pass method uri : Bytes) : Bool :=
  match answer raw user pass method uri with
  | some hdr => !verify exH specAlg { issued := sc, method, uri, user, pass } hdr
  | none => false

/-- `Expressible.user`: a user name with a quote (`a"b`) is written unescaped: the header
`username="a"b"` is not a credential. -/
theorem excluded_user_quote :
    rejected { realm := b!"r", nonce := b!"n" } b!"Digest realm=\"r\", nonce=\"n\", algorithm=MD5"
      b!"a\"b" b!"pw" b!"GET" b!"/" = true := by decide +kernel

/-- a comma inside a quoted realm followed by a known key: `realm="x, opaque=y"` is read as
realm `x` plus opaque `y` — a header for another realm, not an error. -/
theorem excluded_quoted_comma :
    rejected { realm := b!"x, opaque=y", nonce := b!"n" } b!"Digest realm=\"x, opaque=y\", nonce=\"n\", algorithm=MD5"
      b!"u" b!"pw" b!"GET" b!"/" = true := by decide +kernel

/-- bad white space after `=` (legal, RFC 7235 BWS): `realm= "x"` is read as realm ` "x`. -/
theorem excluded_bws :
    rejected { realm := b!"x", nonce := b!"n" } b!"Digest realm= \"x\", nonce=\"n\", algorithm=MD5"
      b!"u" b!"pw" b!"GET" b!"/" = true := by decide +kernel

/-- a quoted-pair in the realm (`a\"b` stands for `a"b`) is hashed with its backslash. -/
theorem excluded_quoted_pair :
    rejected { realm := b!"a\"b", nonce := b!"n" } b!"Digest realm=\"a\\\"b\", nonce=\"n\", algorithm=MD5"
      b!"u" b!"pw" b!"GET" b!"/" = true := by decide +kernel

/-- Strictness that is NOT a violation: the usual comma cases are an error, not a header —
a qop list, a realm with a plain comma. -/
theorem comma_usually_errors :
    answer b!"Digest realm=\"r\", nonce=\"n\", qop=\"auth,auth-int\"" b!"u" b!"pw" b!"GET" b!"/" = none ∧
    answer b!"Digest realm=\"r\", nonce=\"n\", qop=\"auth, auth-int\"" b!"u" b!"pw" b!"GET" b!"/" = none ∧
    answer b!"Digest realm=\"Acme, Inc\", nonce=\"n\"" b!"u" b!"pw" b!"GET" b!"/" = none := by decide +kernel

/-- The parameter list says what the server means: realm and nonce are there, opaque and
algorithm are there iff issued (and not empty), qop offers at most ONE option (a list needs a
comma, which digest.go cannot read), userhash is `true` iff the server supports it. -/
structure Describes (items : List Item) (sc : Issued) : Prop where
  realm : lastValue items b!"realm" = some sc.realm
  nonce : lastValue items b!"nonce" = some sc.nonce
  opaq : lastValue items b!"opaque" = sc.opaq
  opaqNe : sc.opaq ≠ some []
  algorithm : lastValue items b!"algorithm" = sc.algorithm
  algorithmNe : sc.algorithm ≠ some []
  qop : match lastValue items b!"qop" with
        | none => sc.qops = []
        | some q => q ≠ [] ∧ sc.qops = [q]
  userhash : sc.userhash = (lastValue items b!"userhash" == some b!"true")

theorem issuedOf_challengeOf (items : List Item) (sc : Issued) (h : Describes items sc) :
    issuedOf (challengeOf items) = sc := by
  obtain ⟨er, en, eo, ea, eu, eq⟩ := issued_of_fields (challengeOf items) (lastValue items)
    (fun k hk => field_challengeOf k hk items) sc (realm := h.realm) (nonce := h.nonce)
    (opaq := h.opaq) (opaqNe := h.opaqNe) (algorithm := h.algorithm) (algorithmNe := h.algorithmNe)
    (userhash := h.userhash)
  have hq := h.qop
  unfold issuedOf
  rw [er, en, eo, ea, eu, eq]
  cases hl : lastValue items b!"qop" with
  | none => rw [hl] at hq; cases sc; cases hq; rfl
  | some q =>
    rw [hl] at hq
    cases q with
    | nil => exact absurd rfl hq.1
    | cons _ _ => cases sc; cases hq.2; rfl

/-- what must be expressible inside quoted-strings, in the server's terms -/
structure ExpressibleI (sc : Issued) (user uri : Bytes) : Prop where
  user : sc.userhash = true ∨ user.all isQd = true
  realm : sc.realm.all isQd = true
  nonce : sc.nonce.all isQd = true
  uri : uri.all isQd = true
  opaq : ∀ o ∈ sc.opaq, o.all isQd = true

/-- `Expressible` is `ExpressibleI` of the server record the client's reading stands for -/
theorem Expressible.of_issued {c : Challenge} {user uri : Bytes} (h : ExpressibleI (issuedOf c) user uri) :
    Expressible c user uri where
  user := h.user.imp_left eq_of_beq
  realm := h.realm
  nonce := h.nonce
  uri := h.uri
  opaq := by
    cases ho : c.opaq with
    | nil => rfl
    | cons a as => exact ho ▸ h.opaq c.opaq (by simp [issuedOf, ho])

/-- **parse_faithful**: `parseChallenge` reads a challenge written in ANY parameter order, with
any optional white space (SP / HTAB) around the commas, any of space / tab / CR / LF around the
whole value and after the scheme, each parameter in token or in quoted form, exactly as it was
meant — provided no quoted value contains a comma or a quote. -/
theorem parse_faithful (lead sp : Bytes) (items : List Item) (trail : Bytes)
    (h : WellWritten lead sp items trail) :
    parseChallenge (renderChallenge lead sp items trail) = .ok (challengeOf items) := by
  let J := commaCat (items.map Item.render)
  have hpieces_ne : ∀ x ∈ items.map Item.render, x ≠ [] := by
    intro x hx
    simp only [List.mem_map] at hx
    obtain ⟨i, _, rfl⟩ := hx
    simp [Item.render, render_ne_nil i.p]
  have hmap_ne : items.map Item.render ≠ [] := by simpa using h.nonempty
  have hJne : J ≠ [] := commaCat_ne_nil _ hpieces_ne hmap_ne
  -- the joined elements begin and end with a non-space ASCII byte, so each trim stops exactly there
  have hJhead : ∀ a ∈ J.head?, plain a = true := by
    cases hi : items with
    | nil => exact absurd hi h.nonempty
    | cons i is =>
      have e : J.head? = i.p.render.head? := by
        show (commaCat (items.map Item.render)).head? = _
        rw [hi, List.map_cons, commaCat_head _ _ (hpieces_ne _ (by simp [hi])), Item.render,
          h.first i (by simp [hi]), List.nil_append, List.head?_append]
        cases hr : i.p.render with
        | nil => exact absurd hr (render_ne_nil _)
        | cons a as => rfl
      rw [e]
      obtain ⟨_, _, hp⟩ := h.ok i (by simp [hi])
      exact render_head_plain _ hp
  have hJlast : ∀ z ∈ J.getLast?, plain z = true := by
    intro z hz
    have hz' : (commaCat (items.map Item.render)).getLast? = some z := hz
    rw [commaCat_getLast? _ hpieces_ne, List.getLast?_map] at hz'
    cases hi : items.getLast? with
    | none => rw [hi] at hz'; cases hz'
    | some i =>
      rw [hi, Option.map_some, Option.bind_some, Item.render, h.last i hi, List.append_nil,
        List.getLast?_append_ne _ _ (render_ne_nil _)] at hz'
      obtain ⟨_, _, hp⟩ := h.ok i (List.mem_of_getLast? hi)
      exact render_last_plain _ hp z hz'
  -- the outer trim
  have hX : trim isWs (renderChallenge lead sp items trail) = digestPrefix ++ sp ++ J := by
    unfold renderChallenge
    apply trim_pad lead trail _ h.wsLead h.wsTrail
    · intro a ha
      have : a = 68 := by simpa [digestPrefix] using ha.symm
      subst this; decide
    · intro z hz
      rw [List.getLast?_append_ne _ _ hJne] at hz
      exact plain_notWs _ (hJlast z hz)
  have hpre : digestPrefix.isPrefixOf (digestPrefix ++ sp ++ J) = true := by
    rw [List.append_assoc]
    exact List.isPrefixOf_iff_prefix.mpr (List.prefix_append _ _)
  have hdrop : (digestPrefix ++ sp ++ J).drop 7 = sp ++ J := by
    rw [List.append_assoc]; rfl
  have hJtrim : trim isWs (sp ++ J) = J := by
    have := trim_pad (p := isWs) sp [] J h.wsSp rfl
      (fun a ha => plain_notWs _ (hJhead a ha)) (fun z hz => plain_notWs _ (hJlast z hz))
    simpa using this
  have hsplit : split 44 J = items.map Item.render := by
    apply split_commaCat _ hmap_ne
    intro x hx
    simp only [List.mem_map] at hx
    obtain ⟨i, hi, rfl⟩ := hx
    exact item_no_comma i (h.ok i hi)
  unfold parseChallenge
  simp only [hX, hpre, if_true, hdrop, hJtrim, hsplit]
  exact parseFields_items items {} h.ok

/-- **digest_accepted_wire**: the end-to-end form of `digest_accepted`. The verifier is given
what the SERVER issued (`sc`), not the client's reading of it: for every way of writing the
challenge that `WellWritten` covers, every hash with qdtext output (`hH`), account, method, target
and entropy, the answer of the client to a request without body is accepted. -/
theorem digest_accepted_wire (H : Alg → Bytes → Bytes) (hH : ∀ a x, (H a x).all isQd = true)
    (lead sp : Bytes) (items : List Item) (trail : Bytes) (sc : Issued)
    (user pass method uri body : Bytes) (rnd : Option Bytes) (hdr : Bytes)
    (hw : WellWritten lead sp items trail) (hd : Describes items sc)
    (hx : ExpressibleI sc user uri)
    (ha : handle H algOf user pass method uri .none rnd
      { err := false, status := 401, wwwAuth := renderChallenge lead sp items trail } = .resend hdr none) :
    verify H specAlg { issued := sc, method, uri, user, pass, body } hdr = true := by
  have hparse := parse_faithful lead sp items trail hw
  have hiss := issuedOf_challengeOf items sc hd
  obtain ⟨_, _, _, _, c, hc, hauth⟩ :=
    body_resent_intact H user pass method uri .none rnd _ hdr none ha
  rw [hparse] at hc
  cases hc
  have hexp : Expressible (challengeOf items) user uri := .of_issued (hiss ▸ hx)
  have := digest_accepted H hH (renderChallenge lead sp items trail) (challengeOf items) user pass method
    uri body rnd hdr hparse hexp hauth
  rw [hiss] at this
  exact this

/-- A supported, readable challenge on a 401 IS answered (request without body). -/
theorem supported_resent (H : Alg → Bytes → Bytes) (user pass method uri r : Bytes) (resp : Resp)
    (c : Challenge) (h401 : resp.err = false ∧ resp.status = 401) (hne : resp.wwwAuth ≠ [])
    (hp : parseChallenge resp.wwwAuth = .ok c) (hs : Supported c) :
    ∃ hdr, handle H algOf user pass method uri .none (some r) resp = .resend hdr none := by
  obtain ⟨hdr, ha⟩ := supported_answered H c { user, pass, method, uri } r hs
  refine ⟨hdr, ?_⟩
  have he : resp.wwwAuth.isEmpty = false := by
    cases h : resp.wwwAuth with
    | nil => exact absurd h hne
    | cons _ _ => rfl
  simp [handle, h401.1, h401.2, he, hp, ha]

/-- the example challenge of `exRaw` written differently: other order, tabs and spaces around
the commas, `qop` as a token, `algorithm` quoted, white space around everything -/
def exItems : List Item := [
  ⟨[], ⟨b!"nonce", b!"n", true⟩, b!" "⟩,
  ⟨b!"\t", ⟨b!"userhash", b!"true", false⟩, []⟩,
  ⟨b!"  ", ⟨b!"qop", b!"auth", false⟩, b!" \t"⟩,
  ⟨[], ⟨b!"charset", b!"utf-8", false⟩, []⟩,
  ⟨b!" ", ⟨b!"algorithm", b!"SHA-256-sess", true⟩, []⟩,
  ⟨b!" ", ⟨b!"realm", b!"r", true⟩, []⟩,
  ⟨b!" ", ⟨b!"opaque", b!"o", true⟩, []⟩]

example : renderChallenge b!" \r\n" b!" \t" exItems b!"\r\n" =
    b!" \r\nDigest  \tnonce=\"n\" ,\tuserhash=true,  qop=auth \t,charset=utf-8, algorithm=\"SHA-256-sess\", realm=\"r\", opaque=\"o\"\r\n" := by
  decide

theorem exWellWritten : WellWritten b!" \r\n" b!" \t" exItems b!"\r\n" where
  wsLead := by decide
  wsSp := by decide
  wsTrail := by decide
  ok := by
    unfold ItemOK ParamOK
    decide
  nonempty := by decide
  first := by intro i hi; cases hi; rfl
  last := by intro i hi; simp [exItems] at hi; subst hi; rfl

example : challengeOf exItems = exChal := by decide

def exIssued : Issued :=
  { realm := b!"r", nonce := b!"n", opaq := some b!"o", algorithm := some b!"SHA-256-sess",
    qops := [b!"auth"], userhash := true }

theorem exDescribes : Describes exItems exIssued where
  realm := by decide
  nonce := by decide
  opaq := by decide
  opaqNe := by decide
  algorithm := by decide
  algorithmNe := by decide
  qop := by
    have h : lastValue exItems b!"qop" = some b!"auth" := by decide
    simp only [h]
    exact ⟨by decide, rfl⟩
  userhash := by decide

/-- `digest_accepted_wire` is not vacuous: the re-written example challenge is answered, and the
answer is accepted by the verifier holding what the server issued. -/
example : ∃ hdr, handle exH algOf exCred.user exCred.pass exCred.method exCred.uri .none (some exRnd)
      { err := false, status := 401, wwwAuth := renderChallenge b!" \r\n" b!" \t" exItems b!"\r\n" } =
        .resend hdr none ∧
    verify exH specAlg
      { issued := exIssued, method := exCred.method, uri := exCred.uri, user := exCred.user,
        pass := exCred.pass } hdr = true := by
  have hp := parse_faithful _ _ _ _ exWellWritten
  have hc : challengeOf exItems = exChal := by decide
  rw [hc] at hp
  obtain ⟨hdr, h⟩ := supported_resent exH exCred.user exCred.pass exCred.method exCred.uri exRnd
    { err := false, status := 401, wwwAuth := renderChallenge b!" \r\n" b!" \t" exItems b!"\r\n" }
    exChal ⟨rfl, rfl⟩ (by decide) hp exSupported
  exact ⟨hdr, h, digest_accepted_wire exH exH_qd _ _ _ _ exIssued _ _ _ _ [] _ hdr exWellWritten exDescribes
    ⟨Or.inl rfl, by decide, by decide, by decide, by decide⟩ h⟩

end digest

end Req.Props.C20Legacy
