import Req.Lemmas.CancelH3Stuck
/-!
# C08 on HTTP/3 — "the upload stops"

`Steps` = any mixture of environment events and internal steps (the peer may grant credit, the
application may go on reading, …).
-/
namespace Req.Props.C08H3Stop
open Req.Cancel (CtxErr)
open Req.CancelH3 Req.Lemmas.CancelH3

inductive Step : St → St → Prop
  | ev {s} (e : Ev) : evGuard s e = true → Step s (evApply s e)
  | act {s} (a : Act) : guard s a = true → Step s (apply s a)

inductive Steps : St → St → Prop
  | refl (s) : Steps s s
  | tail {s t u} : Steps s t → Step t u → Steps s u

def shut (x : Side) : Bool := x != .open && x != .idle

theorem step_inv {s t : St} (h : Step s t) (hI : Inv s) : Inv t := by
  cases h with
  | ev e g => exact inv_ev hI g
  | act a g => exact inv_act hI g

theorem step_shut {s t : St} (h : Step s t) (hI : Inv s) (hs : shut s.send = true) :
    t.send = s.send ∧ t.writes = s.writes := by
  have ⟨ho, hi⟩ : s.send ≠ .open ∧ s.send ≠ .idle := by simpa [shut] using hs
  cases h with
  | ev e g =>
    cases e <;> simp only [CancelH3.evGuard, Bool.and_eq_true, beq_iff_eq] at g <;>
      simp only [CancelH3.evApply, resetIfOpen_eq, if_neg ho, and_self]
    case streamOpen => exact absurd (hI.noStr (hI.pre (.inr g)).1).1 hi
    case credit => exact absurd g.2 ho
  | act a g =>
    cases a <;> simp only [CancelH3.apply, closeBody_eq, cancelIfOpen_eq, finIfOpen_eq, beq_iff_eq, if_neg ho, and_self]
    case cFailSig => split <;> exact ⟨rfl, rfl⟩
    case cFailJoin => split <;> exact ⟨rfl, rfl⟩

theorem Steps.keeps {P : St → Prop} (step : ∀ {t u}, Step t u → Inv t → P t → P u) {s t : St}
    (h : Steps s t) (hI : Inv s) (hs : P s) : Inv t ∧ P t := by
  induction h with
  | refl => exact ⟨hI, hs⟩
  | tail _ st ih => exact ⟨step_inv st ih.1, step st ih.1 ih.2⟩

/-- from a state whose send side is shut, under ANY continuation, QUIC accepts no further write of the upload
(`writes` unchanged): the upload has stopped for good -/
theorem no_write_after_send_cancel_h3 {s t : St} (hr : Reach s) (h : Steps s t) (hs : shut s.send = true) :
    shut t.send = true ∧ t.writes = s.writes :=
  (h.keeps (P := fun u => shut u.send = true ∧ u.writes = s.writes)
    (fun st hI ih => have ⟨h1, h2⟩ := step_shut st hI ih.1; ⟨h1 ▸ ih.1, h2.trans ih.2⟩)
    (reach_inv hr) ⟨hs, rfl⟩).2

/-- once the send side of the request stream is not open any more (FIN, cancelled, reset) it stays that way -/
theorem send_side_never_reopens_h3 {s t : St} (hr : Reach s) (h : Steps s t) (hs : shut s.send = true) :
    t.send ≠ .open := by
  have := (no_write_after_send_cancel_h3 hr h hs).1
  intro ho
  simp [shut, ho] at this

example : shut (apply (evApply (evApply (evApply (init true) .hsDone) .streamOpen) (.cancel .canceled)) .wFireW).send = true := by
  decide

/-- at a reachable state whose watcher has taken its first step (`wat = mid`, or `wat = done` with `reqDone` still
open, i.e. it did not leave through `reqDone`) the send side is shut, so (`no_write_after_send_cancel_h3`) the
number of accepted writes is final: only what the peer's credit let through BEFORE that step was accepted -/
theorem upload_stops_h3 {s t : St} (hr : Reach s) (hw : s.wat = .mid ∨ (s.wat = .done ∧ s.reqDone = false))
    (h : Steps s t) : t.writes = s.writes := by
  have hI := reach_inv hr
  have hs : shut s.send = true := by
    have hne : s.wat ≠ .none := by rcases hw with h | h <;> simp [h]
    have hidle := (hI.str hne).1
    have hopen : s.send ≠ .open := by
      rcases hw with h | ⟨h, hd⟩
      · exact hI.mid h
      · rcases hI.done h with h' | h'
        · rw [hd] at h'; cases h'
        · exact h'.1
    cases hsend : s.send <;> simp_all [shut]
  exact (no_write_after_send_cancel_h3 hr h hs).2

def pastRead (u : UPc) : Bool := u == .fin || u == .done

theorem step_past {s t : St} (h : Step s t) (hI : Inv s) (hs : pastRead s.upl = true) : pastRead t.upl = true := by
  have hu : s.upl = .fin ∨ s.upl = .done := by simpa [pastRead] using hs
  cases h with
  | ev e g =>
    cases e <;> simp only [CancelH3.evGuard, Bool.and_eq_true, beq_iff_eq] at g <;>
      simp only [CancelH3.evApply, hs]
    case credit => grind
  | act a g =>
    cases a <;> simp only [CancelH3.guard, Bool.and_eq_true, beq_iff_eq] at g <;>
      simp only [CancelH3.apply, closeBody_eq, hs]
    case cSendHdr => have := hI.hdr g; grind
    case cFailSig => split <;> exact hs
    case cFailJoin => split <;> exact hs
    case uRead => grind
    case uEOF => grind
    case uWriteFail => grind
    case uClose => grind
    case uFin => rfl

/-- the upload goroutine past its deferred `body.Close()` never goes back to
reading the body or writing to the stream, whatever happens -/
theorem body_close_is_final_h3 {s t : St} (hr : Reach s) (h : Steps s t) (hs : pastRead s.upl = true) :
    pastRead t.upl = true :=
  (h.keeps step_past (reach_inv hr) hs).2

example : pastRead (UPc.fin) = true ∧ pastRead (UPc.write) = false := by decide

/-- abstraction of an HTTP/3 state to the abstract lifecycle's per-attempt resource record -/
def absRes (s : Req.CancelH3.St) : Req.Cancel.Res :=
  { bodyOpen := s.hasBody && s.closes == 0
    closes := s.closes
    writer := !(s.upl == .none || s.upl == .done)
    watch := !(s.wat == .none || s.wat == .done)
    stream := if s.send == .idle then Req.Cancel.Stream.none
              else if s.send == .open || s.recv == .open then Req.Cancel.Stream.open
              else if s.send == .cancelled || s.recv == .cancelled then Req.Cancel.Stream.reset
              else Req.Cancel.Stream.closed
    conn := if s.send == .open || s.recv == .open then Req.Cancel.Conn.owned
            else if s.send == .idle then Req.Cancel.Conn.none else Req.Cancel.Conn.pooled }

/-- the link to the protocol-independent lifecycle, for released states only: a released HTTP/3 state maps to a
released resource record (`Req.Cancel.Res.released`: body not open, no writer, no watcher, stream not open,
connection not held); no step correspondence is proved -/
theorem released_abs_h3 (s : Req.CancelH3.St) (h : released s = true) : (absRes s).released = true := by
  simp only [released, Bool.and_eq_true, Bool.or_eq_true, beq_iff_eq, bne_iff_ne, ne_eq] at h
  obtain ⟨⟨⟨⟨⟨_, hw⟩, hu⟩, hs⟩, hr⟩, hc⟩ := h
  have hb : (s.hasBody && s.closes == 0) = false := by cases hb : s.hasBody <;> simp [hb] at hc ⊢; simp [hc]
  have hw' : (s.wat == .none || s.wat == .done) = true := by simpa using hw
  have hu' : (s.upl == .none || s.upl == .done) = true := by simpa using hu
  have ho : (s.send == .open || s.recv == .open) = false := by simp [hs, hr]
  simp only [absRes, Req.Cancel.Res.released, hb, hw', hu', ho, Bool.false_eq_true, if_false]
  cases s.send == .idle <;> cases (s.send == .cancelled || s.recv == .cancelled) <;> rfl

example : (absRes (init true)).bodyOpen = true ∧ (absRes (init true)).released = false := by decide

end Req.Props.C08H3Stop
