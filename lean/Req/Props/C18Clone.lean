import Req.Client.CloneChain
/-!
C18 — property theorems: a call runs with the settings and stages of THE CLIENT IT IS
MADE ON, whatever that client's lineage (`C()`, `Clone` of a clone …) and whatever was installed
on it or on its relatives before and after cloning.

`build true ops` is the store of clients after ANY program `ops` of constructors, `Clone`s,
`WrapRoundTrip` batches and setters (code as it is: `Clone` rebuilds the wrapper chain).
`effective st c` follows the pointers the code follows during `c.R().Get(…)`; `own st c` reads
everything from `c` itself.
-/
namespace Req.Props.C18
open Req.CloneChain

/-- The invariant `Clone`'s rebuild maintains: a client's wrapper chain is nil exactly when it
has no wrappers, and otherwise consists of exactly its own wrappers around its OWN `roundTrip`. -/
def WFc (c : Cid) (cl : Client) : Prop :=
  (cl.wrappers = [] ∧ cl.chain = none) ∨ (cl.wrappers ≠ [] ∧ cl.chain = some ⟨cl.wrappers, c⟩)

def WF (st : Store) : Prop := ∀ c cl, st[c]? = some cl → WFc c cl

theorem wrapClient_wf (c : Cid) (cl : Client) (ws : List Nat) (h : WFc c cl) : WFc c (wrapClient c cl ws) := by
  unfold wrapClient
  cases hws : ws.isEmpty
  · have hne : ws ≠ [] := by intro h0; subst h0; simp at hws
    simp only [Bool.false_eq_true, if_false]
    rcases h with ⟨h1, h2⟩ | ⟨h1, h2⟩
    · rw [h2]; right; exact ⟨hne, rfl⟩
    · rw [h2]; right
      exact ⟨by simp [hne], rfl⟩
  · simpa using h

theorem cloneClient_wf (c n : Cid) (cl : Client) (h : WFc c cl) : WFc n (cloneClient true n cl) := by
  unfold cloneClient
  rcases h with ⟨h1, h2⟩ | ⟨h1, h2⟩
  · left; simp [h1, h2]
  · right
    have : cl.wrappers.isEmpty = false := by
      cases hw : cl.wrappers with
      | nil => exact absurd hw h1
      | cons _ _ => rfl
    simp [this, h1]

theorem update_wf (st : Store) (c : Cid) (f : Client → Client) (h : WF st)
    (hf : ∀ cl, WFc c cl → WFc c (f cl)) : WF (update st c f) := by
  unfold update
  cases hc : st[c]? with
  | none => simpa using h
  | some cl =>
    intro c' cl' h'
    simp only at h'
    by_cases e : c = c'
    · subst e
      rw [List.getElem?_set_self (List.getElem?_eq_some_iff.mp hc).1] at h'
      cases h'
      exact hf cl (h c cl hc)
    · rw [List.getElem?_set_ne e] at h'
      exact h c' cl' h'

theorem append_wf (st : Store) (cl : Client) (h : WF st) (hcl : WFc st.length cl) : WF (st ++ [cl]) := by
  intro c' cl' h'
  rcases Nat.lt_or_ge c' st.length with x | x
  · rw [List.getElem?_append_left x] at h'; exact h c' cl' h'
  · have hlt := (List.getElem?_eq_some_iff.mp h').1
    rw [List.length_append, List.length_singleton] at hlt
    obtain rfl : c' = st.length := Nat.le_antisymm (Nat.le_of_lt_succ hlt) x
    rw [List.getElem?_concat_length] at h'
    cases h'; exact hcl

theorem apply_wf (st : Store) (op : Op) (h : WF st) : WF (apply true st op) := by
  cases op with
  | new => exact append_wf st _ h (Or.inl ⟨rfl, rfl⟩)
  | clone c =>
    simp only [apply]
    cases hc : st[c]? with
    | none => simpa using h
    | some cl => exact append_wf st _ h (cloneClient_wf c _ cl (h c cl hc))
  | wrap c ws => exact update_wf st c _ h (fun cl hcl => wrapClient_wf c cl ws hcl)
  -- the setters touch neither the wrappers nor the chain
  | _ => exact update_wf st _ _ h (fun cl hcl => hcl)

theorem foldl_wf (ops : List Op) : ∀ st, WF st → WF (ops.foldl (apply true) st) := by
  induction ops with
  | nil => intro st h; exact h
  | cons op rest ih => intro st h; exact ih _ (apply_wf st op h)

/-- After ANY program of constructors, clones, wrapper registrations
(before and after cloning, on any client) and setters, every client's wrapper chain is nil or is
made of exactly its own wrappers around its own `roundTrip`. -/
theorem chain_ends_in_self (ops : List Op) : WF (build true ops) :=
  foldl_wf ops [] (by intro c cl h; simp at h)

theorem effective_eq_own_of_wf (st : Store) (h : WF st) (c : Cid) : effective st c = own st c := by
  unfold effective own
  cases hc : st[c]? with
  | none => rfl
  | some cl =>
    rcases h c cl hc with ⟨h1, h2⟩ | ⟨h1, h2⟩
    · simp [h2, hc, h1]
    · simp [h2, hc]

/-- For every program and every client `c` it creates, the call
`c.R().Get(…)` enters exactly `c`'s wrappers (last registered first), runs `c`'s own `roundTrip`
(its transport, its response middleware, its common error type, its auto-read switch) and
consults `c`'s request middleware, state checker, body transformer and error hook — never those
of the client it was cloned from or of its own clones. -/
theorem call_runs_own_settings (ops : List Op) (c : Cid) :
    effective (build true ops) c = own (build true ops) c :=
  effective_eq_own_of_wf _ (chain_ends_in_self ops) c

example : effective (build true [.new, .wrap 0 [1, 2], .onAfter 0 5, .clone 0, .wrap 1 [3], .onAfter 1 7, .wrap 0 [4],
                                  .setCommonErr 0 9, .clone 1, .onAfter 2 8]) 1
    = some { wrappers := [3, 2, 1], core := 1, before := [], checker := none, xform := none, hook := none,
             after := [5, 7], commonErr := none, autoReadOff := false, transport := 1 } := by decide

/-- `Clone` WITHOUT the rebuild (the chain value copied with `*c`): the copy of a wrapped client
runs the ORIGINAL client's `roundTrip` — the response middleware and common error type installed
on the copy are never consulted, the original's are. -/
theorem clone_without_rebuild_runs_parent :
    effective (build false [.new, .wrap 0 [1], .clone 0, .onAfter 1 7, .setCommonErr 1 9, .onAfter 0 6]) 1
      = some { wrappers := [1], core := 0, before := [], checker := none, xform := none, hook := none,
               after := [6], commonErr := none, autoReadOff := false, transport := 0 } ∧
    own (build false [.new, .wrap 0 [1], .clone 0, .onAfter 1 7, .setCommonErr 1 9, .onAfter 0 6]) 1
      = some { wrappers := [1], core := 1, before := [], checker := none, xform := none, hook := none,
               after := [7], commonErr := some 9, autoReadOff := false, transport := 1 } := by decide

theorem update_other (st : Store) (c c' : Cid) (f : Client → Client) (hne : c' ≠ c) :
    (update st c' f)[c]? = st[c]? := by
  unfold update
  cases st[c']? with
  | none => rfl
  | some cl => simp only; exact List.getElem?_set_ne hne

/-- An operation that does not configure `c` leaves `c` as it is (`Clone` reads, `C()` creates). -/
theorem apply_other (rb : Bool) (st : Store) (op : Op) (c : Cid) (hc : c < st.length)
    (hne : op.target ≠ some c) : (apply rb st op)[c]? = st[c]? := by
  cases op with
  | new => simp only [apply]; exact List.getElem?_append_left hc
  | clone c' =>
    simp only [apply]
    cases st[c']? with
    | none => rfl
    | some cl => simp only; exact List.getElem?_append_left hc
  -- every other operation is an `update` at its target
  | _ => exact update_other st c _ _ (fun e => hne (by simp [Op.target, e]))

theorem apply_length_le (rb : Bool) (st : Store) (op : Op) : st.length ≤ (apply rb st op).length := by
  cases op <;> simp only [apply, update] <;> (try split) <;> simp

theorem foldl_other (rb : Bool) (ops : List Op) (c : Cid) (hne : ∀ op ∈ ops, op.target ≠ some c) :
    ∀ st, c < st.length → (ops.foldl (apply rb) st)[c]? = st[c]? := by
  induction ops with
  | nil => intro st _; rfl
  | cons op rest ih =>
    intro st hc
    simp only [List.foldl_cons]
    rw [ih (fun o ho => hne o (by simp [ho])) _ (Nat.lt_of_lt_of_le hc (apply_length_le rb st op))]
    exact apply_other rb st op c hc (hne op (by simp))

/-- With either variant of `Clone`: what is done afterwards to other clients leaves the client
itself as it is (as found, its CALLS may still change: they follow the copied chain). -/
theorem client_untouched (rb : Bool) (pre post : List Op) (c : Cid) (hc : c < (build rb pre).length)
    (hne : ∀ op ∈ post, op.target ≠ some c) : (build rb (pre ++ post))[c]? = (build rb pre)[c]? := by
  unfold build
  rw [List.foldl_append]
  exact foldl_other rb post c hne _ hc

/-- Whatever is done afterwards to OTHER clients (the parent a
client was cloned from, its own clones, unrelated clients: wrappers, middleware, setters, further
clones), the call of an existing client `c` consults exactly what it consulted before. -/
theorem relatives_do_not_matter (pre post : List Op) (c : Cid) (hc : c < (build true pre).length)
    (hne : ∀ op ∈ post, op.target ≠ some c) :
    effective (build true (pre ++ post)) c = effective (build true pre) c := by
  rw [call_runs_own_settings, call_runs_own_settings]
  unfold own
  rw [client_untouched true pre post c hc hne]

example : effective (build true ([.new, .wrap 0 [1], .clone 0, .onAfter 1 7] ++ [.onAfter 0 6, .wrap 0 [2], .clone 1, .setChecker 2 3])) 1
    = effective (build true [.new, .wrap 0 [1], .clone 0, .onAfter 1 7]) 1 := by decide

/-- The copy starts with the settings its parent has at the moment
of cloning (same stages, in the same order), with a transport and `roundTrip` of its own. -/
theorem clone_starts_from_parent (ops : List Op) (p : Cid) (e : Eff)
    (hp : effective (build true ops) p = some e) :
    effective (build true (ops ++ [.clone p])) (build true ops).length =
      some { e with core := (build true ops).length, transport := (build true ops).length } := by
  rw [call_runs_own_settings] at hp ⊢
  unfold own at hp ⊢
  cases hpc : (build true ops)[p]? with
  | none => rw [hpc] at hp; cases hp
  | some cl =>
    rw [hpc] at hp
    have hb : build true (ops ++ [.clone p]) = build true ops ++ [cloneClient true (build true ops).length cl] := by
      unfold build
      rw [List.foldl_append]
      simp only [List.foldl_cons, List.foldl_nil, apply]
      have : (List.foldl (apply true) [] ops)[p]? = some cl := hpc
      rw [this]
    rw [hb]
    simp only [List.getElem?_append_right (Nat.le_refl _), Nat.sub_self, List.getElem?_cons_zero]
    simp only [Option.some.injEq] at hp
    subst hp
    simp [cloneClient]

example : effective (build true ([.new, .wrap 0 [1, 2], .onAfter 0 5, .setCommonErr 0 4] ++ [.clone 0])) 1
    = some { wrappers := [2, 1], core := 1, before := [], checker := none, xform := none, hook := none,
             after := [5], commonErr := some 4, autoReadOff := false, transport := 1 } := by decide

/-- `SetCommonDigestAuth` on ANY client at ANY point of ANY
program (before, between or after the middleware registrations, repeated, on a parent or a copy)
changes nothing of what a call of ANY client consults: every response middleware registered so
far is still there, in registration order, and so is every other setting. -/
theorem digest_auth_displaces_nothing (ops : List Op) (c c' : Cid) :
    effective (build true (ops ++ [.digestAuth c])) c' = effective (build true ops) c' := by
  rw [call_runs_own_settings, call_runs_own_settings]
  have hb : build true (ops ++ [.digestAuth c]) =
      update (build true ops) c (fun cl => { cl with digest := true }) := by
    unfold build
    rw [List.foldl_append]
    rfl
  rw [hb]
  by_cases e : c = c'
  · subst e
    unfold own update
    cases hc : (build true ops)[c]? with
    | none => simp only [hc]
    | some cl =>
      simp only [List.getElem?_set_self (List.getElem?_eq_some_iff.mp hc).1]
  · unfold own
    rw [update_other _ c' c _ e]

example : effective (build true ([.new, .onAfter 0 5, .onAfter 0 6] ++ [.digestAuth 0])) 0
    = some { wrappers := [], core := 0, before := [], checker := none, xform := none, hook := none,
             after := [5, 6], commonErr := none, autoReadOff := false, transport := 0 } := by decide

end Req.Props.C18
