import Req.Lemmas.C17Early
/-!
C17 — "bodies arrive exactly" when the origin answers EARLY (before the upload has finished).

Which early answers may end an upload, on HTTP/1.1, HTTP/2 and HTTP/3, and which must not:
RFC 9113 section 8.1 / RFC 9114 section 4.1 — only a COMPLETE response (and then a request to
stop with NO_ERROR) releases the client; the transport's own documented heuristic adds, on
HTTP/2 only, a final status above 299.  A header block that merely declares an empty body on a
stream that stays open (`200`, `Content-Length: 0`, no END_STREAM) releases nothing.
-/
namespace Req.Props.C17Early
open Req.EarlyResponse Req.Lemmas.C17Early

/-- The body writer is told to stop exactly when some event RELEASES the client (read off the
event list: an explicit stop, a `giveUp` after a complete response, an HTTP/2 final status above
299, a sixth interim response) — for every protocol, body size and interleaving. -/
theorem early_stop_iff_released (p : Proto) (total : Nat) (evs : List Ev) :
    (run p (init total) evs).stopped = released p {} evs := by
  rw [run_stopped]; simp [init]

/-- `released`, spelled out: some event releases, judged against what had been seen before it. -/
theorem released_iff_split (p : Proto) (o : Seen) (evs : List Ev) :
    released p o evs = true ↔
      ∃ a e b, evs = a ++ e :: b ∧ releases p (a.foldl see o) e = true := by
  induction evs generalizing o with
  | nil => simp [released]
  | cons x xs ih =>
    simp only [released, Bool.or_eq_true, ih]
    constructor
    · rintro (h | ⟨a, e, b, rfl, h⟩)
      · exact ⟨[], x, xs, rfl, h⟩
      · exact ⟨x :: a, e, b, rfl, h⟩
    · rintro ⟨a, e, b, h, hr⟩
      cases a with
      | nil =>
        simp only [List.nil_append, List.cons.injEq] at h
        obtain ⟨rfl, rfl⟩ := h
        exact Or.inl hr
      | cons y ys =>
        simp only [List.cons_append, List.cons.injEq] at h
        obtain ⟨rfl, rfl⟩ := h
        exact Or.inr ⟨ys, e, b, rfl, hr⟩

/-- Safety of the writer, whatever happens: never more than the body, END_STREAM only with the
last byte, and the count of bytes sent never goes back (the model counts bytes; it holds no byte
strings). -/
theorem early_sent_prefix (p : Proto) (total : Nat) (a b : List Ev) :
    let s := run p (init total) a
    let s' := run p (init total) (a ++ b)
    s.sent ≤ s'.sent ∧ s'.sent ≤ total ∧ (s'.endSent = true → s'.sent = total) := by
  have ha := inv_run p _ a (inv_init total)
  have hb := inv_run p _ b ha
  simp only [run_append]
  refine ⟨run_sent_mono p _ b ha, ?_, ?_⟩
  · have := hb.le; simpa [run_total, init] using this
  · intro h; have := hb.fin; rw [h] at this; simpa [run_total, init] using this.symm

/-- An early answer that does not release the client cannot cut the upload.  For every
protocol, body size, and event list (any interleaving of interim responses, header blocks, data,
credit, writer turns, premature `giveUp`s) in which no event releases: the writer is not stopped,
and for every chunk size `c > 0`, once the origin has granted enough rounds of window the WHOLE
body and END_STREAM have been sent. -/
theorem early_unreleased_upload_completes (p : Proto) (total : Nat) (evs : List Ev)
    (c k : Nat) (hrel : released p {} evs = false) (hc : 0 < c) (hk : 0 < k)
    (henough : total ≤ (run p (init total) evs).sent + k * c) :
    let s := pump p c k (run p (init total) evs)
    s.stopped = false ∧ s.sent = total ∧ s.endSent = true := by
  -- not needed: without a round (`k = 0`) or without window (`c = 0`) `henough` says that the
  -- whole body has gone out already
  clear hc hk
  have hs : (run p (init total) evs).stopped = false := by
    rw [early_stop_iff_released]; exact hrel
  have hi := inv_run p _ evs (inv_init total)
  obtain ⟨h1, h2, _, h4⟩ := pump_spec p c k _ hi hs
  have ht : (run p (init total) evs).total = total := by simp [run_total, init]
  rw [ht] at h4 h2
  have : (pump p c k (run p (init total) evs)).sent = total := by rw [h4]; omega
  -- END_STREAM is read off the writer invariant: it has gone out exactly when the last byte has
  exact ⟨h1, this, by rw [(inv_pump p c k _ hi).fin, h2]; simpa using this⟩

/-- interim header blocks in an event list -/
def countInterim : List Ev → Nat
  | [] => 0
  | .interim _ :: es => countInterim es + 1
  | _ :: es => countInterim es

/-- Events after which an HTTP/2 or HTTP/3 response stream is still OPEN and which carry no
error status: interim blocks, a final header block without END_STREAM / FIN (status at most 299
on HTTP/2; any declared length — `Content-Length: 0` included), data without END_STREAM, credit,
writer turns, and (premature) attempts of the client side to give up. -/
def OpenStream (p : Proto) : Ev → Prop
  | .headers st _ fin => fin = false ∧ (p = .h2 → st ≤ 299)
  | .data _ fin => fin = false
  | .stop => False
  | _ => True

theorem open_stream_seen (p : Proto) (hp : p ≠ .h1) (o : Seen) (e : Ev) (he : OpenStream p e)
    (ho : o.complete p = false) : (see o e).complete p = false := by
  cases e <;> simp only [see, OpenStream] at * <;> (try exact ho)
  · split <;> simp_all [Seen.complete]
  · rename_i st d fin
    cases hr : o.resp with
    | none => cases p <;> simp_all [Seen.complete, Resp.complete]
    | some r => cases p <;> simp_all [Seen.complete, Resp.complete]
  · rename_i n fin
    cases hr : o.resp with
    | none => simp_all [Seen.complete]
    | some r => cases p <;> simp_all [Seen.complete, Resp.complete]

theorem countInterim_cons (e : Ev) (es : List Ev) :
    countInterim (e :: es) = countInterim [e] + countInterim es := by
  cases e <;> simp [countInterim, Nat.add_comm]

theorem see_interims_le (o : Seen) (e : Ev) : (see o e).interims ≤ o.interims + countInterim [e] := by
  cases e <;> simp only [see, countInterim] <;> (repeat' split) <;> simp

/-- On HTTP/2 and HTTP/3, as long as the response stream stays open and no error status arrives,
nothing releases the client — in particular not `200` + `Content-Length: 0` without END_STREAM. -/
theorem open_stream_never_releases (p : Proto) (hp : p ≠ .h1) (o : Seen) (evs : List Ev)
    (hopen : ∀ e ∈ evs, OpenStream p e) (ho : o.complete p = false)
    (hint : o.interims + countInterim evs ≤ maxInterim) :
    released p o evs = false := by
  induction evs generalizing o with
  | nil => rfl
  | cons e es ih =>
    rw [List.forall_mem_cons] at hopen
    rw [countInterim_cons] at hint
    have hle := see_interims_le o e
    rw [released, ih _ hopen.2 (open_stream_seen p hp o e hopen.1 ho) (by omega), Bool.or_false]
    cases e with
    | interim c =>
      have : o.interims + (1 + countInterim es) ≤ maxInterim := hint
      simp only [releases, Bool.and_eq_false_iff, decide_eq_false_iff_not]; right; omega
    | headers st d fin =>
      simp only [releases, Bool.and_eq_false_iff, beq_eq_false_iff_ne, decide_eq_false_iff_not]
      by_cases h2 : p = .h2
      · have := hopen.1.2 h2; right; right; omega
      · exact .inr (.inl h2)
    | giveUp => exact ho
    | stop => exact hopen.1.elim
    | _ => rfl

/-- An upload whose response stream stays open completes: `open_stream_never_releases` into
`early_unreleased_upload_completes`. -/
theorem open_stream_upload_completes (p : Proto) (hp : p ≠ .h1) (total : Nat) (evs : List Ev)
    (hopen : ∀ e ∈ evs, OpenStream p e) (hint : countInterim evs ≤ maxInterim)
    (c k : Nat) (hc : 0 < c) (hk : 0 < k)
    (henough : total ≤ (run p (init total) evs).sent + k * c) :
    let s := pump p c k (run p (init total) evs)
    s.stopped = false ∧ s.sent = total ∧ s.endSent = true :=
  early_unreleased_upload_completes p total evs c k
    (open_stream_never_releases p hp {} evs hopen rfl (by simpa using hint)) hc hk henough

theorem run_before_final (p : Proto) (s : St) (a : List Ev)
    (hstop : ∀ e ∈ a, e ≠ .stop) (hhdr : ∀ e ∈ a, ∀ s d f, e ≠ .headers s d f)
    (hf : s.failed = false) (hr : s.seen.resp = none)
    (hint : s.seen.interims + countInterim a ≤ maxInterim) :
    (run p s a).failed = false ∧ (run p s a).seen.resp = none := by
  induction a generalizing s with
  | nil => exact ⟨hf, hr⟩
  | cons e es ih =>
    rw [List.forall_mem_cons] at hstop hhdr
    rw [countInterim_cons] at hint
    have hle := see_interims_le s.seen e
    refine ih (step p s e) hstop.2 hhdr.2 ?_ ?_ ?_
    · rw [step_failed, hf, hr]
      cases e <;> simp [countInterim] at hint hstop ⊢
      omega
    · rw [step_seen]; exact see_resp_none _ _ hr hhdr.1
    · rw [step_seen]; omega

/-- "Clients MUST NOT discard responses as a result of receiving such a RST_STREAM": once the
final header block is in — after any events that contain no stop, no other final block and at
most five interim blocks — the caller gets THAT status, whatever follows (RST_STREAM, giveUp,
more data, …), on every protocol. -/
theorem early_response_not_discarded (p : Proto) (total : Nat) (a b : List Ev)
    (st : Nat) (d : Option Nat) (fin : Bool)
    (hstop : ∀ e ∈ a, e ≠ .stop) (hhdr : ∀ e ∈ a, ∀ s d f, e ≠ .headers s d f)
    (hint : countInterim a ≤ maxInterim) :
    (run p (init total) (a ++ .headers st d fin :: b)).delivered = some st := by
  obtain ⟨k1, k2⟩ := run_before_final p (init total) a hstop hhdr rfl rfl (by simpa [init] using hint)
  rw [run_append, run]
  obtain ⟨g1, r', g2, g3⟩ := kept_after_final p (step p (run p (init total) a) (.headers st d fin))
    ⟨st, d, 0, fin⟩ b (by simp [step_failed, k1]) (by simp [step_seen, see, k2])
  simp [St.delivered, g1, g2, g3]

/-- The lane's verdict function is the rule as one would write it down: the upload may stop
iff more than five interim responses, or an explicit stop, or a final status with (HTTP/2) a
status above 299 or a response that is complete in the protocol's own sense. -/
theorem mayStop_eq_rule (p : Proto) (x : Early) : x.mayStop p = x.mayStopRule p := by
  unfold Early.mayStop Early.mayStopRule Early.script
  rw [List.append_assoc, released_interims]
  simp only [Nat.zero_add]
  have hl : decide (x.interim ≠ [] ∧ maxInterim < x.interim.length)
      = decide (maxInterim < x.interim.length) :=
    decide_eq_decide.mpr ⟨fun h => h.2, fun h => ⟨by intro hn; simp [hn] at h, h⟩⟩
  rw [hl]
  -- `tail` has eight shapes (final block or not, body bytes or not, stop or not); on each of them
  -- `released` unfolds to the rule
  unfold Early.tail
  cases hs : x.status == 0 <;> cases hb : x.bodySent == 0 <;> cases ht : x.stop <;>
    simp [released, releases, see, Seen.complete, bne, *] <;>
    simp_all [Resp.complete]

/-- HTTP/2, `200` + `Content-Length: 0`, stream left open: the upload may not stop -/
example : (Early.mk [] 200 (some 0) 0 false false).mayStop .h2 = false := by decide
/-- the same header block on HTTP/1.1 IS a complete response -/
example : (Early.mk [] 200 (some 0) 0 false false).mayStop .h1 = true := by decide
/-- HTTP/3: also open -/
example : (Early.mk [103] 200 (some 0) 0 false false).mayStop .h3 = false := by decide
/-- END_STREAM on the header block: complete -/
example : (Early.mk [] 200 (some 0) 0 true false).mayStop .h2 = true := by decide
/-- the 299 / 300 boundary of the HTTP/2 heuristic; no such heuristic on HTTP/3 and HTTP/1.1 -/
example : (Early.mk [] 299 none 0 false false).mayStop .h2 = false := by decide
example : (Early.mk [] 300 none 0 false false).mayStop .h2 = true := by decide
example : (Early.mk [] 500 none 0 false false).mayStop .h3 = false := by decide
example : (Early.mk [] 500 (some 10) 4 false false).mayStop .h1 = false := by decide
example : (Early.mk [] 500 (some 10) 10 false false).mayStop .h1 = true := by decide
/-- interim responses alone release nothing (up to five) -/
example : (Early.mk [100, 103, 103, 102, 103] 0 none 0 false false).mayStop .h2 = false := by decide
example : (Early.mk [100, 103, 103, 102, 103, 103] 0 none 0 false false).mayStop .h2 = true := by decide

/-- that scenario end to end on the automaton: 300 000 byte body, 64 KiB window, early
`200`/`Content-Length: 0`, a premature giveUp attempt; 4 more rounds of window deliver it all -/
example :
    let evs := [Ev.credit 65535, .write 16384, .write 16384, .headers 200 (some 0) false, .giveUp,
      .write 16384, .write 16384, .write 16384]
    let s := pump .h2 65536 4 (run .h2 (init 300000) evs)
    released .h2 {} evs = false ∧ (run .h2 (init 300000) evs).sent = 65535 ∧
      s.sent = 300000 ∧ s.endSent = true ∧ s.delivered = some 200 := by decide

/-- hypotheses of `open_stream_never_releases` are satisfiable on a non-trivial list -/
example : (∀ e ∈ [Ev.interim 103, .headers 200 (some 0) false, .data 5 false, .giveUp, .write 9],
    OpenStream .h2 e) ∧ countInterim [Ev.interim 103, .headers 200 (some 0) false, .data 5 false,
      .giveUp, .write 9] ≤ maxInterim := by
  constructor
  · intro e he
    simp at he
    rcases he with rfl | rfl | rfl | rfl | rfl <;> simp [OpenStream]
  · decide

/-- RST_STREAM(NO_ERROR) after a complete response: upload stops, the response is delivered -/
example :
    let s := run .h2 (init 1000) [.credit 100, .write 100, .headers 200 none true, .stop, .credit 900, .write 900]
    s.stopped = true ∧ s.sent = 100 ∧ s.delivered = some 200 := by decide

/-- the judge: an upload cut after `200` + `Content-Length: 0`, and an admissible may-stop observation -/
example : judge .h2 (Early.mk [] 200 (some 0) 0 false false) 200 ⟨false, true, 200⟩ = .uploadCut := by decide
example : judge .h2 (Early.mk [] 404 (some 0) 0 false false) 200 ⟨false, true, 404⟩ = .ok := by decide
example : judge .h2 (Early.mk [] 200 none 0 true true) 200 ⟨false, true, 0⟩ = .responseLost := by decide
example : judge .h1 (Early.mk [] 200 (some 0) 0 false false) 200 ⟨false, false, 200⟩ = .garbage := by decide

end Req.Props.C17Early
