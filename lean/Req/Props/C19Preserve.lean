import Req.Props.C19
/-!
# C19 — `Clone` preserves the original; request level overrides client level, as ONE
theorem over the table of keyed settings

Both on the value model. `Clone` (like `R()`, `NewClient` and the probes) touches no existing record, so every
existing record, and every observation the harness can make of one, is what it was (`untouching_op_preserves`);
through `heap_refines_scope` the same holds of what the reference-aware model denotes. "Request level overrides
client level" is one statement over the families that override (`Keyed`: headers, path parameters, query
parameters) and one over the table of their setters (`keyedSetters`); for the query, which `parseRequestURL` merges
by a fold over the request's entries, it rests on `mergeQuery_get`. Form data is MERGED by the code (request values
first, then the client's), not overridden: it is not in the table; the example at the end shows the difference.
-/
namespace Req.Props.C19Preserve
open Req.Scope Req.Heap Req.Props.C19

/-- records are well-formed when the client of every request record is an existing record -/
def ParentsBelow (s : VState) : Prop :=
  ∀ r, r < s.count → ∀ c, (s.owner r).parent = some c → c < s.count

theorem ParentsBelow.push {s : VState} (h : ParentsBelow s) (w : VOwner) (hw : ∀ c, w.parent = some c → c < s.count) :
    ParentsBelow (s.push w) := by
  intro r hr c hp
  by_cases hrc : r = s.count
  · rw [hrc, push_owner_new] at hp; exact Nat.lt_succ_of_lt (hw c hp)
  · have hr' : r < s.count := Nat.lt_of_le_of_ne (Nat.le_of_lt_succ hr) hrc
    rw [push_owner_old _ _ hr'] at hp
    exact Nat.lt_succ_of_lt (h r hr' c hp)

theorem ParentsBelow.updOwner {s : VState} (h : ParentsBelow s) (o : Nat) (g : VOwner → VOwner)
    (hg : ∀ w, (g w).parent = w.parent) : ParentsBelow (s.updOwner o g) := by
  intro r hr c hp
  rw [updOwner_count] at hr ⊢
  rw [updOwner_parent _ _ _ hg] at hp
  exact h r hr c hp

theorem ParentsBelow.stepOp (tc tr : Table) {s : VState} (h : ParentsBelow s) (op : Op) :
    ParentsBelow (stepOp tc tr s op) := by
  cases op with
  | newClient => rw [stepOp_newClient]; exact h.push _ nofun
  | clone i =>
    by_cases hi : i < s.count
    · rw [stepOp_clone _ _ _ hi]; exact h.push _ fun c hc => by rw [cloned, foldl_stepOwner_parent] at hc; cases hc
    · rw [stepOp_nil tc tr s (.clone i) (if_neg hi)]; exact h
  | newReq i =>
    by_cases hi : i < s.count
    · rw [stepOp_newReq _ _ _ hi]
      exact h.push _ fun c hc => by rw [requestOf, foldl_stepOwner_parent] at hc; cases hc; exact hi
    · rw [stepOp_nil tc tr s (.newReq i) (if_neg hi)]; exact h
  | set o st => rw [stepOp_set]; exact h.updOwner _ _ fun w => foldl_stepOwner_parent _ w
  | exec r m md path sc =>
    rw [stepOp_exec]
    split
    · exact h
    · split
      · exact h.updOwner _ _ fun _ => rfl
      · exact h
  | getCookies c => rw [stepOp_nil _ _ _ _ rfl]; exact h
  | probe o => rw [stepOp_nil _ _ _ _ rfl]; exact h

/-- every state a program reaches from a well-formed one is well-formed: the hypothesis of `clone_preserves_original`
holds of every state `runScope` yields -/
theorem ParentsBelow.runWith (tc tr : Table) : ∀ (ops : List Op) {s : VState}, ParentsBelow s →
    ParentsBelow (runWith tc tr s ops).1 := by
  intro ops
  induction ops with
  | nil => intro s h; exact h
  | cons op ops ih => intro s h; exact ih (h.stepOp tc tr op)

/-- An operation that touches no existing record (`Clone`, `R()`, `NewClient`, the probes) leaves every
existing record, and every observation the harness can make of one, as it was. -/
theorem untouching_op_preserves (tc tr : Table) (s : VState) (op : Op) (hwf : ParentsBelow s)
    (ht : ∀ b, b < s.count → ¬ Touches s op b) :
    let s' := stepOp tc tr s op
    (∀ b, b < s.count → s'.owner b = s.owner b) ∧
    (∀ r, r < s.count → ∀ m md path sc, observe s' (.exec r m md path sc) = observe s (.exec r m md path sc)) ∧
    (∀ c, c < s.count → observe s' (.getCookies c) = observe s (.getCookies c)) ∧
    (∀ o, o < s.count → observe s' (.probe o) = observe s (.probe o)) := by
  intro s'
  have hown : ∀ b, b < s.count → s'.owner b = s.owner b := fun b hb => stepOp_frame tc tr s op b hb (ht b hb)
  have hcnt : s.count ≤ s'.count := stepOp_count_le tc tr s op
  refine ⟨hown, ?_, ?_, ?_⟩
  · intro r hr m md path sc
    have hr' : r < s'.count := Nat.lt_of_lt_of_le hr hcnt
    simp only [observe, hr, hr', if_true, hown r hr]
    cases hp : (s.owner r).parent with
    | none => rfl
    | some c =>
      have hc := hwf r hr c hp
      simp only [hown c hc]
  · intro c hc
    have hc' : c < s'.count := Nat.lt_of_lt_of_le hc hcnt
    simp only [observe, hc, hc', if_true, hown c hc]
  · intro o ho
    have ho' : o < s'.count := Nat.lt_of_lt_of_le ho hcnt
    simp only [observe, ho, ho', if_true, hown o ho]

/-- **`Clone` preserves the original**, for every state in which the client of every request record exists
(`ParentsBelow`) and every pair of tables: after `Clone` every record that existed is what it was, and every
observation the harness can make of it (an execution of any of its requests: the request the origin receives with
the cookies of the jar, attempts, log, dump routing; `GetCookies`; the settings probe) is what it was before. -/
theorem clone_preserves_original (tc tr : Table) (s : VState) (i : Nat) (hwf : ParentsBelow s) :
    let s' := stepOp tc tr s (.clone i)
    (∀ b, b < s.count → s'.owner b = s.owner b) ∧
    (∀ r, r < s.count → ∀ m md path sc, observe s' (.exec r m md path sc) = observe s (.exec r m md path sc)) ∧
    (∀ c, c < s.count → observe s' (.getCookies c) = observe s (.getCookies c)) ∧
    (∀ o, o < s.count → observe s' (.probe o) = observe s (.probe o)) :=
  untouching_op_preserves tc tr s (.clone i) hwf fun _ _ => id

theorem runWith_append (tc tr : Table) : ∀ (ops : List Op) (s : VState) (op : Op),
    (runWith tc tr s (ops ++ [op])).1 = stepOp tc tr (runWith tc tr s ops).1 op := by
  intro ops
  induction ops with
  | nil => intro s op; simp [runWith]
  | cons o ops ih => intro s op; simp only [List.cons_append, runWith]; exact ih _ op

/-- Through the reference-aware model, for ANY operation appended to a program: a record the
operation does not touch denotes what it denoted. -/
theorem heap_op_preserves (tc tr : Table) (hs : Safe tc tr) (grow : Nat → Nat → Nat) (ops : List Op) (op : Op)
    (b : Nat) (hb : b < (abs (runHeap grow tc tr ops).1).count) (ht : ¬ Touches (runScope ops).1 op b) :
    (abs (runHeap grow tc tr (ops ++ [op])).1).owner b = (abs (runHeap grow tc tr ops).1).owner b := by
  rw [(heap_refines_scope tc tr hs grow ops).1] at hb ⊢
  rw [(heap_refines_scope tc tr hs grow (ops ++ [op])).1]
  unfold runScope at *
  rw [runWith_append]
  exact stepOp_frame idealClone idealReq _ op b hb ht

/-- Through the reference-aware model: whatever was done before (in-place inserts, appends into
spare capacity, cookies stored by responses), a `Clone` changes what no existing record denotes. -/
theorem heap_clone_preserves_original (tc tr : Table) (hs : Safe tc tr) (grow : Nat → Nat → Nat)
    (ops : List Op) (i b : Nat) (hb : b < (abs (runHeap grow tc tr ops).1).count) :
    (abs (runHeap grow tc tr (ops ++ [.clone i])).1).owner b = (abs (runHeap grow tc tr ops).1).owner b :=
  heap_op_preserves tc tr hs grow ops (.clone i) b hb id

/-- values of the LAST entry with key `k` (what a fold over the entries ends with) -/
def getLast : AMap → Nat → Option (List Nat)
  | [], _ => none
  | e :: m, k =>
    match getLast m k with
    | some vs => some vs
    | none => if e.1 = k then some e.2 else none

/-- `parseRequestURL`: the query values sent for key `k` are the request's if the request has the
key (its last entry, for a list with repeated keys), else the client's. -/
theorem mergeQuery_get (k : Nat) : ∀ (r c : AMap),
    (mergeQuery c r).get k = match getLast r k with
      | some vs => vs
      | none => c.get k := by
  intro r
  induction r with
  | nil => intro c; rfl
  | cons e r ih =>
    intro c
    have : mergeQuery c (e :: r) = mergeQuery (c.del e.1 ++ [(e.1, e.2)]) r := rfl
    rw [this, ih, getLast]
    cases hl : getLast r k with
    | some vs => rfl
    | none =>
      rw [get_del_append]
      by_cases he : e.1 = k <;> simp [he]

theorem getLast_of_has_false (m : AMap) (k : Nat) (h : AMap.has m k = false) : getLast m k = none := by
  induction m with
  | nil => rfl
  | cons e m ih =>
    rw [has_cons] at h
    have he : ¬ e.1 = k := by intro he; simp [he] at h
    rw [getLast, ih (by simpa [he] using h), if_neg he]

theorem getLast_map_set (m : AMap) (k : Nat) (vs : List Nat) (h : AMap.has m k = true) :
    getLast (m.map (fun e => if e.1 == k then (k, vs) else e)) k = some vs := by
  induction m with
  | nil => simp [AMap.has] at h
  | cons e m ih =>
    rw [List.map_cons, getLast]
    by_cases hm : AMap.has m k = true
    · rw [ih hm]
    · have hm' : AMap.has m k = false := by simpa using hm
      rw [has_cons, hm'] at h
      have hek : e.1 = k := by simpa using h
      rw [getLast_of_has_false _ k (by rw [has_map_set]; exact hm')]
      simp [hek]

theorem getLast_append_single (m : AMap) (k : Nat) (vs : List Nat) : getLast (m ++ [(k, vs)]) k = some vs := by
  induction m with
  | nil => simp [getLast]
  | cons e m ih => rw [List.cons_append, getLast, ih]

theorem getLast_set_same (m : AMap) (k : Nat) (vs : List Nat) : getLast (m.set k vs) k = some vs := by
  unfold AMap.set
  by_cases h : AMap.has m k = true
  · simp only [h, if_true]; exact getLast_map_set m k vs h
  · simp only [h, Bool.false_eq_true, if_false]; exact getLast_append_single m k vs

/-- after `set k vs` both `get` and `getLast` read `vs` at `k`: a field a keyed setter for `k` has just written meets
the hypothesis `hl` of `request_overrides_client` -/
theorem get_eq_of_getLast_set (m : AMap) (k : Nat) (vs : List Nat) :
    (m.set k vs).get k = vs ∧ getLast (m.set k vs) k = some vs :=
  ⟨get_set_same m k vs, getLast_set_same m k vs⟩

/-- the keyed two-level settings families that OVERRIDE -/
inductive Keyed | header | path | query
  deriving DecidableEq, Repr

def Keyed.field : Keyed → Field
  | .header => F.headers
  | .path => F.pathParams
  | .query => F.query

/-- the values the request is sent with for key `k`, from the client's and the request's value of the field -/
def Keyed.sent : Keyed → AMap → AMap → Nat → List Nat
  | .header, c, r, k => (mergeHeaders c r).get k
  | .path, c, r, k =>
    match resolveSeg c r (.param k) with
    | .val v => [v]
    | _ => []
  | .query, c, r, k => (mergeQuery c r).get k

/-- the request's own answer for key `k` (a path parameter has one value: the first) -/
def Keyed.own : Keyed → AMap → Nat → List Nat
  | .path, r, k => (r.get k).take 1
  | _, r, k => r.get k

/-- **Request level overrides client level**, every keyed family: when the request record has values
for `k` (and, for a multimap read by a fold, its reads are unambiguous), the client's field — the
value for `k` and everything else in it — does not matter. -/
theorem request_overrides_client (fam : Keyed) (c r : AMap) (k : Nat)
    (h : (r.get k).isEmpty = false) (hl : getLast r k = some (r.get k)) :
    fam.sent c r k = fam.own r k := by
  cases fam with
  | header => exact mergeHeaders_keeps k c r h
  | path =>
    simp only [Keyed.sent, Keyed.own, resolveSeg]
    cases hg : r.get k with
    | nil => rw [hg] at h; simp at h
    | cons v rest => simp
  | query =>
    -- the only family that needs `hl`: the merge ends with the request's LAST entry for `k`
    simp only [Keyed.sent, Keyed.own]
    rw [mergeQuery_get, hl]

/-- the setter table: family, setter (client level and request level share the constructor), and
whether it REPLACES the values of the key -/
def keyedSetters : List (Keyed × (Nat → Nat → Setter) × Bool) :=
  [(.header, Setter.hdrSet, true), (.header, Setter.hdrAdd, false), (.path, Setter.pathSet, true),
   (.query, Setter.querySet, true), (.query, Setter.queryAdd, false)]

theorem keyed_setter_effect (e : Keyed × (Nat → Nat → Setter) × Bool) (he : e ∈ keyedSetters)
    (o k v : Nat) (w : VOwner) :
    ((e.2.1 k v).prims o).foldl stepOwner w =
      w.setVal e.1.field ((w.val e.1.field).set k
        (if e.2.2 then [v] else (w.val e.1.field).get k ++ [v])) := by
  simp only [keyedSetters, List.mem_cons, List.mem_nil_iff, or_false] at he
  rcases he with rfl | rfl | rfl | rfl | rfl <;>
    simp [Setter.prims, stepOwner, Keyed.field, kind, sliceFields, F.headers, F.pathParams, F.query, AMap.addMany]

theorem set_set_comm (tc tr : Table) (s : VState) {a b : Nat} (hne : a ≠ b) (sa sb : Setter) :
    stepOp tc tr (stepOp tc tr s (.set a sa)) (.set b sb) = stepOp tc tr (stepOp tc tr s (.set b sb)) (.set a sa) := by
  simp only [stepOp_set]
  exact updOwner_comm s hne _ _

/-- Over the setter table `keyedSetters` (SetHeader(s), SetHeader(s)NonCanonical, SetPathParam(s), SetQueryParam(s),
AddQueryParam / SetQueryString): after the client-level setter with (k, vc) and the request-level setter with
(k, vr), in either order, from any state, the request is sent with the request record's own values for `k`, and
these end with `vr`; for the Set-type setters they are exactly `[vr]`. -/
theorem request_setter_overrides_client (e : Keyed × (Nat → Nat → Setter) × Bool) (he : e ∈ keyedSetters)
    (s : VState) (c r : Nat) (hc : c < s.count) (hr : r < s.count) (hne : r ≠ c) (k vc vr : Nat) :
    let s1 := stepOp idealClone idealReq s (.set c (e.2.1 k vc))
    let s2 := stepOp idealClone idealReq s1 (.set r (e.2.1 k vr))
    let t1 := stepOp idealClone idealReq s (.set r (e.2.1 k vr))
    let t2 := stepOp idealClone idealReq t1 (.set c (e.2.1 k vc))
    let mine := (if e.2.2 then [vr] else ((s.owner r).val e.1.field).get k ++ [vr])
    -- client setter first, or request setter first: the same two records
    s2.owner r = t2.owner r ∧ s2.owner c = t2.owner c ∧
    -- the request record's own values for k …
    ((s2.owner r).val e.1.field).get k = mine ∧
    -- … are what the request is sent with
    e.1.sent ((s2.owner c).val e.1.field) ((s2.owner r).val e.1.field) k = e.1.own ((s2.owner r).val e.1.field) k := by
  intro s1 s2 t1 t2 mine
  have ht : t2 = s2 := set_set_comm _ _ s hne _ _
  have hval : (s2.owner r).val e.1.field = ((s.owner r).val e.1.field).set k mine := by
    show ((stepOp _ _ (stepOp _ _ s _) _).owner r).val _ = _
    rw [stepOp_set, stepOp_set, updOwner_self _ _ _ (by rw [updOwner_count]; exact hr), updOwner_other _ _ _ _ hne.symm,
      keyed_setter_effect e he]
    simp [VOwner.setVal, mine]
  rw [ht]
  refine ⟨rfl, rfl, by rw [hval, get_set_same], ?_⟩
  rw [hval]
  apply request_overrides_client
  · rw [get_set_same]
    show mine.isEmpty = false
    by_cases hb : e.2.2 = true <;> simp [mine, hb]
  · rw [get_set_same]; exact getLast_set_same _ _ _

/-- a state with a configured original that has a cookie in its jar, and a request of it -/
def demo : VState :=
  (runScope [.newClient, .set 0 (.hdrSet 1 5), .newReq 0, .exec 1 0 0 [] 10, .newReq 0]).1

example : ParentsBelow demo := ParentsBelow.runWith _ _ _ (fun _ hr => absurd hr (Nat.not_lt_zero _))

/-- the original's jar has the cookie before and after the clone; the clone's jar is new -/
example : ((demo.owner 0).val F.jar).toList = [10] ∧
    (((stepOp idealClone idealReq demo (.clone 0)).owner 0).val F.jar).toList = [10] ∧
    (((stepOp idealClone idealReq demo (.clone 0)).owner 3).val F.jar).toList = [] := by decide +kernel

example : (Keyed.header, Setter.hdrAdd, false) ∈ keyedSetters := by simp [keyedSetters]

/-- same key at both levels: the request's value is sent, for a header and for a path parameter … -/
example : Keyed.header.sent [(7, [5])] [(7, [vEmpty])] 7 = [vEmpty] ∧
    Keyed.path.sent [(1, [5])] [(1, [6])] 1 = [6] ∧ Keyed.query.sent [(1, [5]), (2, [4])] [(1, [6])] 1 = [6] ∧
    Keyed.query.sent [(1, [5]), (2, [4])] [(1, [6])] 2 = [4] := by decide +kernel

/-- … while form data is merged, not overridden (as `parseRequestBody` does) -/
example : (mergeForm [(1, [5])] [(1, [6])]).get 1 = [6, 5] := by decide +kernel

end Req.Props.C19Preserve
