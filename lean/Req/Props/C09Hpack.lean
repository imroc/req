import Req.Pool.H2Hpack
/-!
# C09: the HPACK tables of an HTTP/2 connection stay in sync; every request is decoded as itself

Model `Req/Pool/H2Hpack.lean`.  For every static table, table size, and every list of operations
on the connection's encoder that the code can perform (`send` = encode + write under `wmu`,
`quitBefore` = cancelled / refused before the encoder is touched):

* `hpack_tables_in_sync` — the peer's decoder table equals the client's encoder table, the peer
  never hits a decoding error, and the header lists it decoded are, block by block, the header
  lists of the requests that were written (`rcvd = sent`): no request is decoded with another
  request's fields;
* `field_roundtrip`, `block_roundtrip` — the per-field / per-block facts behind it;
* `abandon_breaks_sync` — with the forbidden third outcome (encode, then leave without writing;
  `seeded/C09-r5-2`) the statement is false: the next request dies with an invalid index, or is
  decoded as somebody else's header.
-/
namespace Req.Props.C09Hpack
open Req.Pool.H2Hpack Req.Proto

theorem findFirst_sound (p : Ent → Bool) : ∀ (l : List Ent) (n : Nat), findFirst p l = n + 1 →
    ∃ e, l[n]? = some e ∧ p e = true
  | a :: r, n, h => by
    simp only [findFirst] at h
    split at h
    · cases h; exact ⟨a, rfl, ‹_›⟩
    · split at h
      · cases h
      · next m hm => cases h; exact findFirst_sound p r m hm

theorem findLast_sound (p : Ent → Bool) : ∀ (l : List Ent) (n : Nat), findLast p l = n + 1 →
    ∃ e, l[n]? = some e ∧ p e = true
  | a :: r, n, h => by
    simp only [findLast] at h
    split at h
    · split at h
      · cases h; exact ⟨a, rfl, ‹_›⟩
      · cases h
    · next m hm => cases h; exact findLast_sound p r m hm

/-- What the index `r.1` returned by a table search means; `get` is the table's lookup (indices from 1). -/
def Hit (get : Nat → Option Ent) (f : HF) (r : Nat × Bool) : Prop :=
  if r.2 then get r.1 = some (f.name, f.value) ∧ f.sensitive = false
  else r.1 = 0 ∨ ∃ e, get r.1 = some e ∧ e.1 = f.name

/-- the entry at index `i` of one table, indices from 1 -/
def nth1 (l : List Ent) (i : Nat) : Option Ent := if i = 0 then none else l[i - 1]?

theorem searchIn_sound (nf : (Ent → Bool) → List Ent → Nat)
    (hnf : ∀ p l n, nf p l = n + 1 → ∃ e, l[n]? = some e ∧ p e = true)
    (l : List Ent) (f : HF) : Hit (nth1 l) f (searchIn nf l f) := by
  simp only [searchIn]
  generalize hfull : (if f.sensitive = true then 0 else _) = full
  cases full with
  | zero =>
    rw [if_neg (by simp)]
    show _ ∨ _
    cases hn : nf (fun e => e.1 == f.name) l with
    | zero => exact .inl rfl
    | succ m =>
      obtain ⟨e, he, hpe⟩ := hnf _ _ _ hn
      exact .inr ⟨e, he, by simpa using hpe⟩
  | succ m =>
    rw [if_pos (Nat.succ_ne_zero m)]
    show _ ∧ _
    split at hfull
    · cases hfull
    · next hs =>
      obtain ⟨e, he, hpe⟩ := findFirst_sound _ _ _ hfull
      have h1 : e.1 = f.name ∧ e.2 = f.value := by simpa using hpe
      exact ⟨by rw [← h1.1, ← h1.2]; exact he, by simpa using hs⟩

theorem lookup_static (cfg : Cfg) (dyn : List Ent) (i : Nat) (e : Ent) (h : nth1 cfg.static i = some e) :
    lookup cfg dyn i = some e := by
  unfold nth1 at h
  split at h
  · cases h
  · next hi =>
    have := (List.getElem?_eq_some_iff.1 h).1
    rw [lookup, if_neg hi, if_pos (by omega), h]

theorem lookup_dyn (cfg : Cfg) (dyn : List Ent) (j : Nat) (hj : j ≠ 0) :
    lookup cfg dyn (j + cfg.static.length) = nth1 dyn j := by
  rw [lookup, nth1, if_neg (by omega), if_neg (by omega), if_neg hj]
  congr 1; omega

/-- `searchTable` returns an index whose entry is the field (full match) or carries its name. -/
theorem searchTable_sound (cfg : Cfg) (dyn : List Ent) (f : HF) :
    Hit (lookup cfg dyn) f (searchTable cfg dyn f) := by
  have hs := searchIn_sound findLast findLast_sound cfg.static f
  have hd := searchIn_sound findFirst findFirst_sound dyn f
  unfold searchTable
  generalize searchIn findLast cfg.static f = s at hs
  generalize searchIn findFirst dyn f = d at hd
  obtain ⟨si, sm⟩ := s
  obtain ⟨di, dm⟩ := d
  cases sm with
  | true => exact ⟨lookup_static cfg dyn si _ hs.1, hs.2⟩
  | false =>
    cases dm with
    | true =>
      have h0 : di ≠ 0 := fun h => by subst h; cases hd.1
      exact ⟨(lookup_dyn cfg dyn di h0).trans hd.1, hd.2⟩
    | false =>
      show Hit _ f (if (false || (si == 0 && di != 0)) = true then _ else _)
      split
      · next hc =>
        have hc' : si = 0 ∧ di ≠ 0 := by simpa using hc
        rcases hd with h | ⟨e, he, hn⟩
        · exact absurd h hc'.2
        · exact .inr ⟨e, (lookup_dyn cfg dyn di hc'.2).trans he, hn⟩
      · exact hs.imp id fun ⟨e, he, hn⟩ => ⟨e, lookup_static cfg dyn si e he, hn⟩

/-- **Per field**: decoding what the encoder wrote, against the same table, yields the field
itself and the same table afterwards. -/
theorem field_roundtrip (cfg : Cfg) (dyn : List Ent) (f : HF) :
    decodeRep cfg dyn (encodeField cfg dyn f).1 = .ok (f, (encodeField cfg dyn f).2) := by
  have hs := searchTable_sound cfg dyn f
  unfold encodeField
  generalize searchTable cfg dyn f = r at hs
  obtain ⟨i, m⟩ := r
  cases m with
  | true =>
    obtain ⟨hl, hsens⟩ : _ ∧ _ := hs
    simp only [if_true, decodeRep, hl]
    cases f; simp_all
  | false =>
    simp only [Bool.false_eq_true, if_false, decodeRep]
    by_cases h0 : i = 0
    · subst h0; simp
    · rcases (hs : _ ∨ _) with h | ⟨e, he, hn⟩
      · exact absurd h h0
      · simp only [h0, if_false, he, hn]
theorem block_roundtrip (cfg : Cfg) : ∀ (hs : List HF) (dyn : List Ent),
    decodeBlock cfg dyn (encodeBlock cfg dyn hs).1 = .ok (hs, (encodeBlock cfg dyn hs).2)
  | [], _ => rfl
  | f :: fs, dyn => by
    simp only [encodeBlock, decodeBlock, field_roundtrip, block_roundtrip cfg fs]

def Sync (c : Conn) : Prop := c.dec = c.enc ∧ c.dead = false ∧ c.rcvd = c.sent

theorem Sync_step (cfg : Cfg) (c : Conn) (op : Op) (hl : op.legal = true) (h : Sync c) : Sync (step cfg c op) := by
  obtain ⟨he, hd, hr⟩ := h
  cases op with
  | send hs =>
    simp only [step, hd, Bool.false_eq_true, if_false]
    rw [he, block_roundtrip]
    exact ⟨rfl, rfl, by simp [hr]⟩
  | quitBefore hs => exact ⟨he, hd, hr⟩
  | abandon hs => cases hl

theorem Sync_run (cfg : Cfg) : ∀ (ops : List Op) (c : Conn), (∀ op ∈ ops, op.legal = true) → Sync c → Sync (run cfg c ops)
  | [], _, _, h => h
  | op :: ops, c, hl, h =>
    Sync_run cfg ops _ (fun o ho => hl o (by simp [ho])) (Sync_step cfg c op (hl op (by simp)) h)

/-- **The peer's decoder table is the encoder's table; every block is decoded as the request that
was written** — for every static table, table size and every sequence of sends and of requests
that quit before the encoder is touched (cancelled while waiting for `wmu`, header list refused). -/
theorem hpack_tables_in_sync (cfg : Cfg) (ops : List Op) (hl : ∀ op ∈ ops, op.legal = true) :
    (run cfg {} ops).dec = (run cfg {} ops).enc ∧ (run cfg {} ops).dead = false ∧
    (run cfg {} ops).rcvd = (run cfg {} ops).sent :=
  Sync_run cfg ops {} hl ⟨rfl, rfl, rfl⟩

def tinyCfg : Cfg := ⟨[([1], []), ([2], [7])], 100⟩
def hA : HF := ⟨[9], [1], false⟩      -- caller A's tag
def hB : HF := ⟨[9], [2], false⟩      -- caller B's tag

/-- a repeated header is sent as an index into the dynamic table, and decoded as itself -/
example : (run tinyCfg {} [.send [hA], .quitBefore [hB], .send [hA, hB]]).rcvd = [[hA], [hA, hB]] ∧
    (encodeBlock tinyCfg [([9], [1])] [hA]).1 = [.indexed 3] := by decide +kernel

/-- B encodes and gives up without writing; A's next request refers to an entry the peer never
saw: the peer decodes B's tag where A sent its own (or, with an empty peer table, dies with
COMPRESSION_ERROR). -/
theorem abandon_breaks_sync :
    (run tinyCfg {} [.send [hB], .abandon [hA], .send [hA]]).rcvd = [[hB], [hB]] ∧
    (run tinyCfg {} [.abandon [hA], .send [hA]]).dead = true := by decide +kernel

end Req.Props.C09Hpack
