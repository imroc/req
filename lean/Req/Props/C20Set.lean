import Req.Props.C20SetAll
import Req.Props.C20Wire
/-!
C20 — basic and bearer credentials through the SETTERS: after ANY sequence of configuration calls
(client level and request level, Basic and Bearer mixed, any earlier values, URL user information
or not) the origin recovers exactly the pair handed to the setter that counts — for every byte
string, the EMPTY user name, the EMPTY password and both empty included.
-/
namespace Req.Props.C20
open Req.Proto Req.Auth Req.Ascii

theorem lastValue_append_client (ops post : List SetOp) (hpost : ∀ x ∈ post, x.isClient = true) :
    lastValue (ops ++ post) false = lastValue ops false := by
  unfold lastValue
  rw [List.filter_append, (List.filter_eq_nil_iff (l := post)).2 fun x hx => by simp [hpost x hx], List.append_nil]

/-- **setter_request_level_sent**: whatever was configured before (at either level), whatever is
configured at the client afterwards and whatever the URL says: the value of the LAST request-level
setter is the one that goes out. -/
theorem setter_request_level_sent (pre post : List SetOp) (o : SetOp) (ho : o.isClient = false)
    (hpost : ∀ x ∈ post, x.isClient = true) (urlUser : Option (Bytes × Bytes)) :
    sent (pre ++ o :: post) urlUser = (applyOp {} o).request ∧ (applyOp {} o).request ≠ none := by
  have hv : (applyOp {} o).request = some o.value := by rw [applyOp_eq, ho]; rfl
  have hl : lastValue (pre ++ o :: post) false = some o.value := by
    rw [List.append_cons, lastValue_append_client _ _ hpost, ← ho]
    exact lastValue_snoc pre o
  rw [hv, setters_characterised, hl]
  exact ⟨rfl, nofun⟩

theorem recoveredBasic_of_sent {h2 : Bool} {ops : List SetOp} {urlUser : Option (Bytes × Bytes)} {u p : Bytes}
    (h : sent ops urlUser = some (basic u p)) : recoveredBasic h2 ops urlUser = wireBasic h2 u p := by
  unfold recoveredBasic arrives wireBasic
  rw [h]
  exact Option.map_map ..

theorem recoveredBearer_of_sent {h2 : Bool} {ops : List SetOp} {urlUser : Option (Bytes × Bytes)} {t : Bytes}
    (h : sent ops urlUser = some (bearer t)) : recoveredBearer h2 ops urlUser = wireBearer h2 t := by
  unfold recoveredBearer arrives wireBearer
  rw [h]
  exact Option.map_map ..

/-- **basic_all_strings** (request level): for EVERY user name without a colon and EVERY password —
any bytes, any length, `""` for either or for BOTH — handed to `Request.SetBasicAuth`, after any
earlier configuration `pre` (other accounts at the client or the request included), any later
client-level configuration `post`, with or without user information in the URL, over HTTP/1.1 and
HTTP/2: the call is not refused and the origin's `BasicAuth()` yields exactly `(user, password)`. -/
theorem basic_all_strings (h2 : Bool) (pre post : List SetOp) (u p : Bytes) (hc : colon ∉ u)
    (hpost : ∀ x ∈ post, x.isClient = true) (urlUser : Option (Bytes × Bytes)) :
    recoveredBasic h2 (pre ++ .reqBasic u p :: post) urlUser = some (some (u, p)) :=
  (recoveredBasic_of_sent (setter_request_level_sent pre post (.reqBasic u p) rfl hpost urlUser).1).trans
    (basic_wire_exact h2 u p hc)

/-- **basic_all_strings_client** (client level): the same for `Client.SetCommonBasicAuth` when the
request sets nothing itself: the LAST client-level call counts, whatever accounts or tokens were
configured before, whatever the URL says. -/
theorem basic_all_strings_client (h2 : Bool) (pre : List SetOp) (u p : Bytes) (hc : colon ∉ u)
    (hpre : ∀ x ∈ pre, x.isClient = true) (urlUser : Option (Bytes × Bytes)) :
    recoveredBasic h2 (pre ++ [.clientBasic u p]) urlUser = some (some (u, p)) := by
  refine (recoveredBasic_of_sent ?_).trans (basic_wire_exact h2 u p hc)
  have hall : ∀ x ∈ pre ++ [.clientBasic u p], x.isClient = true := fun x hx =>
    (List.mem_append.1 hx).elim (hpre x) fun h => List.mem_singleton.1 h ▸ rfl
  rw [setters_characterised, show lastValue (pre ++ [.clientBasic u p]) false = none from lastValue_append_client [] _ hall,
    show lastValue (pre ++ [.clientBasic u p]) true = _ from lastValue_snoc pre (.clientBasic u p)]
  rfl

/-- with a colon in the user name: still never refused, `user:password` arrives whole -/
theorem basic_all_strings_joined (h2 : Bool) (pre post : List SetOp) (u p : Bytes)
    (hpost : ∀ x ∈ post, x.isClient = true) (urlUser : Option (Bytes × Bytes)) :
    ∃ u' p', recoveredBasic h2 (pre ++ .reqBasic u p :: post) urlUser = some (some (u', p')) ∧
      u' ++ colon :: p' = u ++ colon :: p := by
  rw [recoveredBasic_of_sent (setter_request_level_sent pre post (.reqBasic u p) rfl hpost urlUser).1]
  exact basic_wire_joined h2 u p

/-- **bearer_all_tokens**: the token of the last `Request.SetBearerAuthToken` is what the origin
recovers (HTTP/2: every token a field can carry, the empty one included), whatever Basic account
or other token was configured anywhere before. -/
theorem bearer_all_tokens (pre post : List SetOp) (t : Bytes) (hf : t.all isFieldByte = true)
    (hpost : ∀ x ∈ post, x.isClient = true) (urlUser : Option (Bytes × Bytes)) :
    recoveredBearer true (pre ++ .reqBearer t :: post) urlUser = some (some t) :=
  (recoveredBearer_of_sent (setter_request_level_sent pre post (.reqBearer t) rfl hpost urlUser).1).trans
    (bearer_wire_exact_h2 t hf)

/-- over HTTP/1.1: every token a field value can carry (not empty, not ending in SP/HTAB — see
`bearer_trailing_ows_excluded`) -/
theorem bearer_all_tokens_h1 (pre post : List SetOp) (t : Bytes) (hf : t.all isFieldByte = true) (hne : t ≠ [])
    (hl : ∀ z ∈ t.getLast?, isOws z = false)
    (hpost : ∀ x ∈ post, x.isClient = true) (urlUser : Option (Bytes × Bytes)) :
    recoveredBearer false (pre ++ .reqBearer t :: post) urlUser = some (some t) :=
  (recoveredBearer_of_sent (setter_request_level_sent pre post (.reqBearer t) rfl hpost urlUser).1).trans
    (bearer_wire_exact t hf hne hl)

/-- a token with a control byte (CR, LF, NUL …) handed to the setter that counts makes the call
FAIL: nothing is sent — not the client-level credential either -/
theorem bearer_setter_unsendable_refused (h2 : Bool) (pre post : List SetOp) (t : Bytes)
    (hf : t.all isFieldByte = false) (hpost : ∀ x ∈ post, x.isClient = true) (urlUser : Option (Bytes × Bytes)) :
    arrives h2 (pre ++ .reqBearer t :: post) urlUser = none := by
  unfold arrives
  rw [(setter_request_level_sent pre post (.reqBearer t) rfl hpost urlUser).1]
  have hw := bearer_unsendable_refused h2 t hf
  unfold wireBearer at hw
  show (transport h2 (bearer t)).map some = none
  rw [Option.map_eq_none_iff] at hw ⊢
  exact hw

/-- nothing configured, no user information: no `Authorization` field at all -/
theorem nothing_configured_nothing_sent (h2 : Bool) : arrives h2 [] none = some none := rfl

/-! the degenerate pairs, with overriding at both levels -/

-- ("", "") for one request of a client that has common credentials `admin:s3cret`
example : recoveredBasic false [.clientBasic [97, 100, 109, 105, 110] [115, 51, 99, 114, 101, 116], .reqBasic [] []]
    none = some (some ([], [])) := by decide +kernel
-- ("", "") for the client, replacing the common credentials set earlier; URL user information ignored
example : recoveredBasic true [.clientBasic [97] [98], .clientBearer [116], .clientBasic [] []]
    (some ([117], [112])) = some (some ([], [])) := by decide +kernel
-- empty user only / empty password only
example : recoveredBasic false [.reqBasic [] [112, 119]] none = some (some ([], [112, 119])) := by decide +kernel
example : recoveredBasic false [.reqBasic [117] []] none = some (some ([117], [])) := by decide +kernel
-- the hypotheses of basic_all_strings on a non-trivial value
example : colon ∉ ([] : Bytes) ∧ (∀ x ∈ [SetOp.clientBasic [97] [98]], x.isClient = true) := by decide +kernel
-- a request-level Bearer set AFTER the Basic pair replaces it (the premise "last request-level setter" matters)
example : recoveredBasic false [.reqBasic [117] [112], .reqBearer [116]] none = some none := by decide +kernel
example : recoveredBearer true [.reqBasic [117] [112], .clientBearer [120], .reqBearer []] none = some (some []) := by
  decide +kernel

end Req.Props.C20
