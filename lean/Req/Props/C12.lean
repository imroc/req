import Req.Pool.Dispatch
import Req.Pool.Tls
import Req.Lemmas.Dispatch
/-!
# C12 — protocol selection and TLS configuration are honoured uniformly

Theorems about `Req.Pool.Dispatch.route` (the decision of `Transport.roundTrip`) and
`Req.Pool.TLS` (which configuration each stack reads for a new connection).
Partial by design (DESIGN.md §6): X.509 verification, the TLS/QUIC handshakes and ALPN
negotiation inside the libraries are parameters (`accepts`, `Net`, `negotiate`).

The examples write the records of `Pool/Dispatch.lean` positionally: `Cfg` is
`⟨force, h3, allowHTTP, dialTLS, handshake, protos⟩`, `Req` is `⟨scheme, requiresH1⟩`, `Net` is
`⟨alpn, tcpAccept, h3Up, quicAccept, plainH2, custom, cachedH2, cachedH3, alt⟩`, `ProxyNet` is `⟨kind, up, tunnel⟩`.
-/
namespace Req.Props.C12
open Req.Pool.Dispatch Req.Pool.TLS Req.Lemmas.Dispatch

/-! The dispatch theorems are stated for `routeP px`, the decision of `roundTrip` with any proxy or
none; `route` is `routeP none`, and `Props/C12Proxy.lean` reads them with a proxy. -/

/-- **No crash.** The two crashing leaves are a forced HTTP/3 without its round tripper and, under a
forced HTTP/2, a handshake function that returns a plain connection. -/
theorem routeP_not_crash {px : Option ProxyNet} {cfg : Cfg} {req : Req} {net : Net}
    (h3 : cfg.force = some .h3 → cfg.h3 = true)
    (hc : cfg.force = some .h2 → cfg.handshake = true → net.custom ≠ .plain) :
    routeP px cfg req net ≠ .crash := by
  have hP : h1PathP px cfg req net ≠ .crash := by
    cases px
    · exact h1Path_not_crash
    · exact h1PathVia_not_crash
  unfold routeP
  by_cases ha : (cfg.force = none && req.scheme = .https && cfg.h3 && net.alt) = true
  · rw [if_pos ha]
    simp only [Bool.and_eq_true] at ha
    obtain ⟨⟨_, hh3⟩, _⟩ := ha
    exact t3_not_crash hh3
  · rw [if_neg ha]
    unfold dispatchP
    rcases hf : cfg.force with _ | (_ | _ | _) <;> simp only
    · exact ite_ne (ite_ne (by simp) (ite_ne (by simp) hP)) hP
    · exact ite_ne (ite_ne (by simp) (ite_ne (by simp) hP)) hP
    · exact ite_ne (by simp) (ite_ne (by simp) (t2Dial_not_crash (hc hf)))
    · exact t3_not_crash (h3 hf)

/-- **No silent fallback**, with or without a proxy. -/
theorem forced_no_fallbackP {px : Option ProxyNet} {cfg : Cfg} {req : Req} {net : Net} {v w : Ver}
    (hf : cfg.force = some v) (h : routeP px cfg req net = .ok w) : w = v := by
  rcases routeP_ok h with ⟨hn | h3, h⟩ | ⟨h2, h⟩ | ⟨hn, _⟩ | ⟨n2, n3, h⟩
  · rw [hf] at hn; cases hn                          -- Alt-Svc shortcut: un-forced only
  · rw [hf] at h3; cases h3; exact (t3_ok h).1       -- forced HTTP/3
  · rw [hf] at h2; cases h2; exact (t2_ok h).1       -- forced HTTP/2
  · rw [hf] at hn; cases hn                          -- cached connection: un-forced only
  · -- the HTTP/1.1 connection path: `v` is neither h2 nor h3
    have hv : v = .h1 := by cases v <;> simp_all
    subst hv
    rcases h1PathP_ok h with ⟨_, hw⟩ | ⟨_, st, _, hc⟩
    · exact hw
    · exact carry_forced_h1 hf hc

/-- **Plain http**: HTTP/1.1, or HTTP/2 prior knowledge when h2c is enabled and HTTP/2 forced. -/
theorem plain_httpP {px : Option ProxyNet} {cfg : Cfg} {req : Req} {net : Net} {v : Ver}
    (hs : req.scheme = .http) (h : routeP px cfg req net = .ok v) :
    v = .h1 ∨ (v = .h2 ∧ cfg.allowHTTP = true ∧ cfg.force = some .h2) := by
  rcases routeP_ok h with ⟨_, h⟩ | ⟨h2, h⟩ | ⟨_, hh, _⟩ | ⟨_, _, h⟩
  · -- HTTP/3 round tripper: it refuses the scheme
    rw [(t3_ok h).2.1] at hs; cases hs
  · -- forced HTTP/2: only with h2c
    obtain ⟨hv, hsch, _⟩ := t2_ok h
    rcases hsch with h1 | ⟨_, ha⟩
    · rw [hs] at h1; cases h1
    · exact .inr ⟨hv, ha, h2⟩
  · rw [hs] at hh; cases hh                          -- cached connections are for https
  · -- the HTTP/1.1 connection path
    rcases h1PathP_ok h with ⟨_, hv⟩ | ⟨hh, _⟩
    · exact .inl hv
    · rw [hs] at hh; cases hh

/-- **Un-forced https uses a negotiated version.** -/
theorem unforced_negotiatedP {px : Option ProxyNet} {cfg : Cfg} {req : Req} {net : Net} {v : Ver}
    (hf : cfg.force = none) (hs : req.scheme = .https) (h : routeP px cfg req net = .ok v) :
    Negotiated net v := by
  rcases routeP_ok h with ⟨_, h⟩ | ⟨h2, _⟩ | ⟨_, _, ⟨rfl, hc⟩ | ⟨rfl, hc⟩⟩ | ⟨_, _, h⟩
  · exact negotiated_of_t3 h                         -- HTTP/3 round tripper
  · rw [hf] at h2; cases h2                          -- forced HTTP/2: excluded
  · exact .inl hc                                    -- cached HTTP/2 connection
  · exact .inl hc                                    -- cached HTTP/3 connection
  · -- the HTTP/1.1 connection path
    rcases h1PathP_ok h with ⟨hh, _⟩ | ⟨_, st, hst, hc⟩
    · rw [hs] at hh; cases hh
    · exact negotiated_of_carry hst hc

/-- **No silent fallback.** With a forced version `v`, whatever the server offers, whatever
is cached, whatever Alt-Svc entry exists and whatever the TLS outcome: if the request is
carried at all, it is carried by `v`. -/
theorem forced_no_fallback (cfg : Cfg) (req : Req) (net : Net) (v w : Ver)
    (hf : cfg.force = some v) (h : route cfg req net = .ok w) : w = v :=
  forced_no_fallbackP (px := none) hf h

example : route ⟨some .h1, true, false, false, false, [.h2, .http11]⟩ ⟨.https, false⟩
    ⟨[.h2, .http11], true, true, true, false, .fail, true, true, true⟩ = .ok .h1 := by decide +kernel
example : route ⟨some .h2, false, false, false, false, [.http11, .h2]⟩ ⟨.https, false⟩
    ⟨[.http11], true, false, false, false, .fail, false, false, false⟩ = .error .h2NotNegotiated := by decide +kernel
example : route ⟨some .h3, true, false, false, false, []⟩ ⟨.https, false⟩
    ⟨[.h2, .http11], true, false, false, false, .fail, true, false, false⟩ = .error .h3Unreachable := by decide +kernel

/-- A forced request either is carried by the forced version or fails with an error — it does
not crash — as long as a forced h3 still has its round tripper (`EnableForceHTTP3` guarantees
it; `DisableHTTP3` afterwards breaks it) and a custom handshake function returns a TLS conn. -/
theorem forced_version_or_error (cfg : Cfg) (req : Req) (net : Net) (v : Ver)
    (hf : cfg.force = some v) (h3 : v = .h3 → cfg.h3 = true)
    (hc : cfg.handshake = true → net.custom ≠ .plain) :
    route cfg req net = .ok v ∨ ∃ e, route cfg req net = .error e := by
  cases hr : route cfg req net with
  | ok w => left; rw [forced_no_fallback cfg req net v w hf hr]
  | error e => right; exact ⟨e, rfl⟩
  | crash =>
    exact absurd hr (routeP_not_crash (px := none) (fun h => h3 (Option.some.inj (hf.symm.trans h)))
      (fun _ => hc))

/-- The excluded point is real: `EnableForceHTTP3()` then `DisableHTTP3()` leaves
`forceHttpVersion = h3` with `t3 = nil`; `roundTrip` dereferences it. -/
theorem forced_h3_without_roundtripper_crashes :
    route ⟨some .h3, false, false, false, false, []⟩ ⟨.https, false⟩
      ⟨[], true, true, true, false, .fail, false, false, false⟩ = .crash := by decide +kernel

theorem setting_preserves_wf (supported : Bool) (c : Cfg) (s : Setting) (h : c.WF) :
    (applySetting supported c s).WF := by
  have hen : (enableH3 supported c).WF := by
    unfold enableH3; split
    · exact fun _ => rfl
    · exact h
  cases s with
  | forceH1 | forceH2 | unforce => exact fun hf => nomatch hf
  | forceH3 =>
    simp only [applySetting]
    split
    · exact fun _ => ‹_›
    · exact hen
  | enableH3 => exact hen
  | disableH3 =>
    -- the forced HTTP/3 goes with the round tripper
    intro hf
    simp only [applySetting] at hf
    split at hf
    · cases hf
    · contradiction
  | enableH2C | disableH2C | clone => exact h

theorem settings_preserve_wf (supported : Bool) (ss : List Setting) (c : Cfg) (h : c.WF) :
    (ss.foldl (applySetting supported) c).WF :=
  List.foldlRecOn ss _ h fun c h s _ => setting_preserves_wf supported c s h

/-- For every configuration reachable from `T()` through the protocol setters (any order, any
number, clones included): a forced request is carried by the forced version or fails with an
error — it never crashes. -/
theorem forced_version_or_error_reachable (supported : Bool) (ss : List Setting) (req : Req) (net : Net)
    (v : Ver) (hf : (ss.foldl (applySetting supported) initialProto).force = some v)
    (hc : (ss.foldl (applySetting supported) initialProto).handshake = true → net.custom ≠ .plain) :
    route (ss.foldl (applySetting supported) initialProto) req net = .ok v
    ∨ ∃ e, route (ss.foldl (applySetting supported) initialProto) req net = .error e := by
  have wf : (ss.foldl (applySetting supported) initialProto).WF :=
    settings_preserve_wf supported ss initialProto (by intro h; cases h)
  exact forced_version_or_error _ req net v hf (fun hv => wf (hv ▸ hf)) hc

/-- The un-patched `DisableHTTP3` breaks the invariant (class `forced-h3-after-disable-panics`). -/
theorem unpatched_disable_breaks_wf :
    route ([Setting.forceH3, .disableH3].foldl (applySettingUnpatched true) initialProto) ⟨.https, false⟩
      ⟨[.h2, .http11], true, true, true, false, .fail, false, false, false⟩ = .crash := by decide +kernel

example : ([Setting.forceH3, .disableH3].foldl (applySetting true) initialProto).force = none := by decide +kernel
example : ([Setting.enableH3, .forceH1, .clone, .forceH3].foldl (applySetting true) initialProto).force = some .h3 := by
  decide +kernel

/-- **Un-forced https uses a negotiated version.** -/
theorem unforced_negotiated (cfg : Cfg) (req : Req) (net : Net) (v : Ver)
    (hf : cfg.force = none) (hs : req.scheme = .https) (h : route cfg req net = .ok v) :
    Negotiated net v :=
  unforced_negotiatedP (px := none) hf hs h

example : route ⟨none, false, false, false, false, [.http11, .h2]⟩ ⟨.https, false⟩
    ⟨[.h2, .http11], true, false, false, false, .fail, false, false, false⟩ = .ok .h2 := by decide +kernel
example : route ⟨none, false, false, false, false, [.http11, .h2]⟩ ⟨.https, false⟩
    ⟨[.http11], true, false, false, false, .fail, false, false, false⟩ = .ok .h1 := by decide +kernel
example : route ⟨none, true, false, false, false, [.http11, .h2]⟩ ⟨.https, false⟩
    ⟨[.h2, .http11], true, true, true, false, .fail, false, false, true⟩ = .ok .h3 := by decide +kernel

/-- **No connection without verification.** A request carried over a NEW connection (nothing
cached, no user-supplied dial/handshake function) went through a handshake that the
configuration in force accepted: QUIC's for HTTP/3, the TCP one otherwise. -/
theorem new_connection_was_accepted (cfg : Cfg) (req : Req) (net : Net) (v : Ver)
    (hs : req.scheme = .https) (hc2 : net.cachedH2 = false) (hc3 : net.cachedH3 = false)
    (hd : cfg.dialTLS = false) (hh : cfg.handshake = false)
    (h : route cfg req net = .ok v) :
    (v = .h3 → net.quicAccept = true) ∧ (v ≠ .h3 → net.tcpAccept = true) := by
  rcases routeP_ok (px := none) h with ⟨_, h⟩ | ⟨_, h⟩ | ⟨_, _, ⟨_, hc⟩ | ⟨_, hc⟩⟩ | ⟨_, _, h⟩
  · -- HTTP/3 round tripper: nothing cached, so QUIC's handshake was accepted
    obtain ⟨rfl, _, hq⟩ := t3_ok h
    rcases hq with hq | hq
    · rw [hc3] at hq; cases hq
    · exact ⟨fun _ => hq.2, fun hne => absurd rfl hne⟩
  · -- forced HTTP/2: nothing cached, so the connection was dialled
    obtain ⟨rfl, _, hc | hdial⟩ := t2_ok h
    · rw [hc2] at hc; cases hc
    · exact ⟨nofun, fun _ => (t2Dial_ok hdial).2 hd hh⟩
  · rw [hc2] at hc; cases hc
  · rw [hc3] at hc; cases hc
  · obtain ⟨ha, hv⟩ := h1PathP_accepted hs hh (.inr hd) h
    exact ⟨fun h3 => absurd h3 hv, fun _ => ha⟩

example : route ⟨none, false, false, false, false, [.http11, .h2]⟩ ⟨.https, false⟩
    ⟨[.h2, .http11], false, false, false, false, .fail, false, false, false⟩ = .error .tlsReject := by decide +kernel

/-- **Plain HTTP** is carried by HTTP/1.1, or by HTTP/2 prior knowledge when h2c is enabled
(and HTTP/2 is forced) — never by HTTP/3, whatever Alt-Svc entry exists. -/
theorem plain_http_h1_or_h2c (cfg : Cfg) (req : Req) (net : Net) (v : Ver)
    (hs : req.scheme = .http) (h : route cfg req net = .ok v) :
    v = .h1 ∨ (v = .h2 ∧ cfg.allowHTTP = true ∧ cfg.force = some .h2) :=
  plain_httpP (px := none) hs h

example : route ⟨none, true, true, true, false, []⟩ ⟨.http, false⟩
    ⟨[], true, true, true, false, .plain, false, false, true⟩ = .ok .h1 := by decide +kernel
example : route ⟨some .h2, false, true, true, false, []⟩ ⟨.http, false⟩
    ⟨[], true, false, false, true, .plain, false, false, false⟩ = .ok .h2 := by decide +kernel

/-- An un-forced plain request never fails because of an Alt-Svc entry: with an HTTP/1.1
listener it is carried by HTTP/1.1. -/
theorem plain_http_unforced (cfg : Cfg) (req : Req) (net : Net)
    (hs : req.scheme = .http) (hf : cfg.force = none) (hp : net.plainH2 = false) :
    route cfg req net = .ok .h1 := by
  unfold route dispatch h1Path speak plainPeer
  simp [hs, hf, hp]

/-- The client learns an Alt-Svc entry only from an un-forced https exchange. -/
theorem learns_alt_only_unforced_https (cfg : Cfg) (req : Req) (v : Ver) (adv : Bool)
    (h : learnsAlt cfg req v adv = true) : cfg.force = none ∧ req.scheme = .https ∧ cfg.h3 = true := by
  unfold learnsAlt at h
  simp at h
  obtain ⟨⟨⟨⟨_, hh3⟩, hnone⟩, hhttps⟩, _⟩ := h
  exact ⟨hnone, hhttps, hh3⟩

/-- Alt-Svc entries are per origin: what is learned for origin `a` is found for `b` only if `b`
is `a` (same scheme, host AND port) or `b` had an entry of its own. -/
theorem alt_entry_is_per_origin (j : AltState) (a b : Origin) (h : altHas (altLearn j a) b = true) :
    b = a ∨ altHas j b = true := by
  unfold altHas altLearn at *
  simp at h
  rcases h with h | h
  · left; exact h
  · right; simpa using h

/-- Hence an un-forced https request for an origin that never advertised anything is routed as
if no Alt-Svc existed at all, whatever was learned for other ports of the same host. -/
theorem other_origin_unaffected (cfg : Cfg) (req : Req) (net : Net) (a b : Origin) (hne : b ≠ a)
    (hb : net.alt = altHas (altLearn [] a) b) : route cfg req net = dispatch cfg req net := by
  have : net.alt = false := by
    rw [hb]
    cases h : altHas (altLearn [] a) b with
    | false => rfl
    | true =>
      rcases alt_entry_is_per_origin [] a b h with h1 | h1
      · exact absurd h1 hne
      · simp [altHas] at h1
  exact (route_of_no_alt this).1

example : altHas (altLearn [] ⟨.https, 1, 8443⟩) ⟨.https, 1, 8444⟩ = false := by decide +kernel

/-! ### the un-patched order (Alt-Svc shortcut first): where the property fails -/

/-- Witness replayed by the e2e lane (class `altsvc-overrides-forced-version`): HTTP/1.1 forced,
HTTP/3 enabled, a ready Alt-Svc entry ⇒ the request is carried by HTTP/3. -/
theorem unpatched_forced_h1_uses_h3 :
    routeUnpatched ⟨some .h1, true, false, false, false, [.http11, .h2]⟩ ⟨.https, false⟩
      ⟨[.h2, .http11], true, true, true, false, .fail, false, true, true⟩ = .ok .h3 := by decide +kernel

theorem unpatched_forced_h2_uses_h3 :
    routeUnpatched ⟨some .h2, true, false, false, false, [.http11, .h2]⟩ ⟨.https, false⟩
      ⟨[.h2, .http11], true, true, true, false, .fail, true, true, true⟩ = .ok .h3 := by decide +kernel

/-- Witness (class `altsvc-breaks-plain-http`): a plain request with an Alt-Svc entry for its
authority fails ("http3: unsupported protocol scheme") instead of using HTTP/1.1. -/
theorem unpatched_plain_http_fails :
    routeUnpatched ⟨none, true, false, false, false, [.http11, .h2]⟩ ⟨.http, false⟩
      ⟨[], true, true, true, false, .fail, false, false, true⟩ = .error .unsupportedScheme := by decide +kernel

/-- Away from Alt-Svc entries the two orders agree. -/
theorem unpatched_agrees_without_alt (cfg : Cfg) (req : Req) (net : Net) (h : net.alt = false) :
    routeUnpatched cfg req net = route cfg req net := by
  rw [(route_of_no_alt h).1, (route_of_no_alt h).2]

/-- What verification looks at in the configuration a stack builds. -/
def verifyPart (c : TlsCfg) : VerifyCfg := c.toVerifyCfg

theorem effective_verify (s : Stack) (o : Bool) (host : Nat) (r : Option TlsCfg) :
    verifyPart (effective s o host r) = verifyPart (effective .h1 false host r) := by
  cases r <;> cases s <;> simp [effective, verifyPart]

/-- **TLS settings govern every stack identically.** If every stack's `TLSClientConfig` read
sites resolve to the shared options (premise discharged over the regenerated table in
`Bridge/C12.lean`), then for every verifier, every server certificate, every client
configuration, whatever the stacks' own fields hold: the three stacks decide alike. -/
theorem tls_uniform (sites : List Site) (h : ∀ s, source sites s = .clientOptions)
    (accepts : VerifyCfg → ServerCert → Bool) (client : Option TlsCfg) (own : Stack → Option TlsCfg)
    (host : Nat) (o1 o2 o3 : Bool) (cert : ServerCert) :
    accepts (verifyPart (effective .h1 o1 host (cfgRead sites client own .h1))) cert
      = accepts (verifyPart (effective .h2 o2 host (cfgRead sites client own .h2))) cert
    ∧ accepts (verifyPart (effective .h2 o2 host (cfgRead sites client own .h2))) cert
      = accepts (verifyPart (effective .h3 o3 host (cfgRead sites client own .h3))) cert := by
  simp only [cfgRead, h]
  rw [effective_verify .h1, effective_verify .h2, effective_verify .h3]
  exact ⟨rfl, rfl⟩

/-- The configuration in force is the client's: what each stack verifies with is what the
setters produced, with `ServerName` defaulting to the dialled host. -/
theorem tls_governed_by_client (sites : List Site) (h : ∀ s, source sites s = .clientOptions)
    (client : Option TlsCfg) (own : Stack → Option TlsCfg) (host : Nat) (o : Bool) (s : Stack) (c : TlsCfg)
    (hc : client = some c) :
    verifyPart (effective s o host (cfgRead sites client own s))
      = { c.toVerifyCfg with serverName := if c.serverName = 0 then host else c.serverName } := by
  simp only [cfgRead, h, hc]
  cases s <;> simp [effective, verifyPart]

/-- Non-vacuity / necessity: with a stack-local source (the un-patched HTTP/3 dial site) the
stacks do disagree — `EnableInsecureSkipVerify` is honoured by HTTP/1.1 and ignored by HTTP/3. -/
theorem shadowed_source_disagrees :
    let sites : List Site := [⟨.root, .tlsClientConfig, .sharedOptions, false⟩,
      ⟨.http2, .tlsClientConfig, .sharedOptions, false⟩, ⟨.http3, .tlsClientConfig, .stackLocal, false⟩]
    let client : Option TlsCfg := some { initialCfg with insecure := true }
    let cert : ServerCert := ⟨7, [1]⟩
    acceptsStd (verifyPart (effective .h1 false 1 (cfgRead sites client (fun _ => none) .h1))) cert = true
    ∧ acceptsStd (verifyPart (effective .h3 false 1 (cfgRead sites client (fun _ => none) .h3))) cert = false := by
  decide +kernel

example : ∀ s, source [⟨.root, .tlsClientConfig, .sharedOptions, false⟩,
    ⟨.http2, .tlsClientConfig, .sharedOptions, false⟩, ⟨.http3, .tlsClientConfig, .sharedOptions, false⟩] s
    = .clientOptions := by intro s; cases s <;> decide +kernel

/-- The premise of `tls_uniform` as a decidable check over a table. -/
theorem uniformSource_iff (sites : List Site) :
    uniformSource sites = true ↔ ∀ s, source sites s = .clientOptions := by
  unfold uniformSource
  constructor
  · intro h s
    simp at h
    cases s
    · exact h.1
    · exact h.2.1
    · exact h.2.2
  · intro h
    simp [h]

/-- Requests made between setters (`use`) do not matter to the configuration the setters leave: a run
yields what its setters alone yield. (That a new connection of each stack reads that configuration is
`tls_governed_by_client`.) -/
theorem set_after_use (c : Option TlsCfg) (ops : List Op) :
    run c ops = run c (ops.filter (· ≠ .use)) := by
  -- a request is the one operation that leaves the configuration as it is
  rw [run, run, List.foldl_filter]
  congr
  funext c o
  split
  · rfl
  · next h => rw [show o = .use by simpa using h]; rfl

example : run (some initialCfg) [.addRoot 1, .use, .insecure true, .use, .setServerName 2]
    = some { initialCfg with roots := some [1], insecure := true, serverName := 2 } := by decide +kernel

/-- `Clone` copies the values (the clone starts from the same settings). -/
theorem clone_same_settings (c : Option TlsCfg) : step c .clone = c := rfl

/-- **Clone keeps the source.** When the construction sites in `Transport.Clone` and
`EnableHTTP3` hand each rebuilt stack the address of the clone's own options (regenerated
wiring facts), every stack of the clone reads the clone's options object — so a setter on
the clone governs all its stacks and none of the original's. -/
theorem clone_keeps_source (facts : List WireSite)
    (h2 : wireOK facts .clone .h2 = true)
    (h3 : (wireOK facts .clone .h3 && wireOK facts .enableHTTP3 .h3) = true)
    (w : Wiring) (fresh : Nat) :
    (cloneWiring facts w fresh).wired
    ∧ ∀ s o, (cloneWiring facts w fresh).optsOf s = some o → o = fresh := by
  unfold cloneWiring Wiring.wired
  simp [h2, h3]
  refine ⟨?_, ?_⟩
  · cases w.t3 <;> simp
  · intro s o
    cases s <;> simp [Wiring.optsOf]
    · intro h; exact h.symm
    · intro h; exact h.symm
    · cases w.t3 <;> simp
      intro h; exact h.symm

theorem clone_isolated_from_original (facts : List WireSite)
    (h2 : wireOK facts .clone .h2 = true)
    (h3 : (wireOK facts .clone .h3 && wireOK facts .enableHTTP3 .h3) = true)
    (w : Wiring) (hw : w.wired) (fresh : Nat) (hfresh : fresh ≠ w.own) (s s' : Stack) (o o' : Nat)
    (ho : (cloneWiring facts w fresh).optsOf s = some o) (ho' : w.optsOf s' = some o') : o ≠ o' := by
  have hc := (clone_keeps_source facts h2 h3 w fresh).2 s o ho
  have : o' = w.own := by
    cases s' <;> simp [Wiring.optsOf] at ho'
    · exact ho'.symm
    · rw [← ho']; exact hw.1
    · rcases hw.2 with h | h <;> simp [h] at ho'; exact ho'.symm
  subst hc this
  exact hfresh

/-- Necessity: a `Clone` that takes the address of the ORIGINAL's options (`&t.Options` for
`&tt.Options`) leaves the clone's HTTP/2 stack reading the original's settings. -/
theorem miswired_clone_reads_original :
    (cloneWiring [⟨.clone, .h2, false⟩, ⟨.clone, .h3, true⟩, ⟨.enableHTTP3, .h3, true⟩] ⟨10, 10, some 10⟩ 20).optsOf .h2 = some 10 := by
  decide +kernel

end Req.Props.C12
