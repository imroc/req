import Req.Client.CompressAttempts
import Req.Props.C14
/-!
C14 — the decision does not depend on WHICH attempt of a request is answered.

`Req.Props.C14` states the property for one pass through the transport. A request may pass
several times (transparent retry on a stale keep-alive connection, HTTP/2 retry after
GOAWAY/REFUSED_STREAM, the same `*http.Request` given to `RoundTrip` again). These theorems
say that every pass is decided like the first one — for any number of attempts — because an
attempt leaves the request's header as it found it; and that the statement is FALSE of a
transport that writes its `Accept-Encoding: gzip` into the request's own header
(seeded/C14-r3-1), witnessed by `decide` and replayed by lane `resend`.
-/
namespace Req.Props.C14Attempts
open Req.Proto Req.Compress

/-- an attempt does not modify the request header it was given
(the `http.RoundTripper` contract, on the three stacks). -/
theorem attempt_keeps_request (s : Site) (dc : Bool) (m : Bytes) (h : Carried) :
    (attempt s dc m h).2 = h := rfl

theorem attempts_keep_request (s : Site) (dc : Bool) (m : Bytes) (k : Nat) (h : Carried) :
    (attempts s dc m k h).2 = h := by
  induction k generalizing h with
  | zero => rfl
  | succ k ih => simp [attempts, ih, attempt_keeps_request]

/-- for every number of attempts, every attempt sends the same
`Accept-Encoding` and records the same `addedGzip` as the first one. -/
theorem attempts_all_alike (s : Site) (dc : Bool) (m : Bytes) (k : Nat) (h : Carried) :
    (attempts s dc m k h).1 = List.replicate k (attempt s dc m h).1 := by
  induction k generalizing h with
  | zero => rfl
  | succ k ih => simp [attempts, ih, attempt_keeps_request, List.replicate_succ]

/-- whichever attempt is answered, the response is processed
exactly as `process` (the single-pass function all of `Req.Props.C14` is about) says. -/
theorem every_attempt_decided_alike (s : Site) (dc : Bool) (m : Bytes) (k : Nat) (h : Carried)
    (auto hasBody : Bool) (r : Resp) (sent : Sent) (hs : sent ∈ (attempts s dc m k h).1) :
    processSent s sent auto (h.cfg dc m).isHead hasBody r = process s (h.cfg dc m) auto hasBody r := by
  rw [attempts_all_alike] at hs
  have := List.eq_of_mem_replicate hs
  subst this
  rfl

/-- the caller set neither `Accept-Encoding` nor `Range`,
compression is on, the method is not HEAD: then on EVERY attempt the origin is asked for gzip
by the transport, and a gzip answer (any case) to any of them is gunzipped with the headers
rewritten. -/
theorem retry_still_decodes_gzip (s : Site) (m : Bytes) (k : Nat) (hm : m ≠ tokHEAD)
    (auto : Bool) (r : Resp) (hce : isGzipFold (hget r.header hContentEncoding) = true)
    (sent : Sent) (hs : sent ∈ (attempts s false m k ⟨[], []⟩).1) :
    sent.wireAE = some tokGzip ∧ sent.addedGzip = true ∧
      processSent s sent auto false true r = ⟨strip r, some .gunzip⟩ := by
  rw [attempts_all_alike] at hs
  have := List.eq_of_mem_replicate hs
  subst this
  have hadd : addGzip s (Carried.cfg ⟨[], []⟩ false m) = true :=
    (C14.asks_gzip_iff s _).mpr ⟨rfl, rfl, rfl, by simpa [ReqCfg.isHead, Carried.cfg] using hm⟩
  refine ⟨?_, ?_, ?_⟩
  · simp [attempt, hadd, wireAcceptEncoding]
  · simp [attempt, hadd]
  · have hg : decideAt s ⟨true, auto, false, true, hget r.header hContentEncoding⟩ = .gunzip :=
      (C14.decoded_when s _ (fun h => by cases h)).mpr ⟨by cases s <;> rfl, rfl, hce⟩
    simp [processSent, attempt, hadd, hg, applyAction]

-- non-vacuity: three attempts of a plain GET on HTTP/1.1, `Content-Encoding: GZIP`
example :
    (attempts .h1 false [71, 69, 84] 3 ⟨[], []⟩).1.map (·.wireAE) =
      [some tokGzip, some tokGzip, some tokGzip] := by decide
example :
    processSent .h1 (attempt .h1 false [71, 69, 84] ⟨[], []⟩).1 false false true
      ⟨[(hContentEncoding, [71, 90, 73, 80]), (hContentLength, [53])], 5, false⟩
      = ⟨⟨[], -1, true⟩, some .gunzip⟩ := by decide

/-- `attempt_keeps_request` is false of a transport that writes into `req.Header`
(`WriteInPlace`): the request header does not survive an attempt -/
theorem write_in_place_modifies_request :
    (WriteInPlace.attempt .h1 false [71, 69, 84] ⟨[], []⟩).2 ≠ ⟨[], []⟩ := by decide

/-- `attempts_all_alike` and `every_attempt_decided_alike` are false of `WriteInPlace`: the second attempt still sends `Accept-Encoding: gzip` (now "the caller's") but records
`addedGzip = false`, so the gzip answer it provoked is handed over compressed, headers intact -/
theorem write_in_place_second_attempt_untouched :
    let sents := (WriteInPlace.attempts .h1 false [71, 69, 84] 2 ⟨[], []⟩).1
    let r : Resp := ⟨[(hContentEncoding, tokGzip), (hContentLength, [53])], 5, false⟩
    sents.map (·.wireAE) = [some tokGzip, some tokGzip] ∧
    sents.map (·.addedGzip) = [true, false] ∧
    sents.map (fun s => processSent .h1 s false false true r) =
      [⟨strip r, some .gunzip⟩, ⟨r, some .raw⟩] := by decide

end Req.Props.C14Attempts
