import Req.C02.Call
import Req.Lemmas.C02Call
import Req.Props.C02
/-!
C02 — response fidelity over MULTI-EXCHANGE calls (digest re-send, retries, redirects).

A `Request.Do` may consist of several exchanges. The theorems say: whatever the option
combination (auto-read on/off at client or request level × SetOutput / SetOutputFile × success
target × error target × digest off / client level / request level × retry count × retry rule)
and whatever the transport answers (any script of transport errors, statuses, redirects, bodies
in any segmentation ending in EOF or in a failure), everything the caller can observe on the
final `Response` — status, the header's exchange, `Err`, the cache (`Bytes/String/ToBytes`), the
restored or live `Body`, the bytes bound to the success / error target, what the download wrote
— is exactly what a call consisting of the FINAL exchange alone yields. Nothing of an earlier
exchange (the 401 challenge, a retried 503 …) survives in any observation path.
-/
namespace Req.Props.C02
open Req.Proto Req.C02

/-- **call_final_exchange.** For EVERY option combination and EVERY script: the caller-visible
state of the `Response` a call returns — status, header's exchange, `Err`, cache, `Body`, result
and error slot — equals the state after a single-exchange call that received only the exchange
the final `resp.Response` came from (`src`); and unless an error is recorded on the response,
so does the record of what the download wrote. (With an error recorded the digest paths save
nothing: the middleware returns before `saveResponse` when binding the answer
failed, and `handleDownload` leaves a Digest challenge alone.) The digest middleware's own copy of
"auto-read → bind → save" and `Client.roundTrip`'s agree, the 401 leaves nothing behind, and so
does no earlier attempt. -/
theorem call_final_exchange (cfg : CCfg) (script : List Exch) :
    (call cfg script).1.v.core = (single cfg (call cfg script).1.src).v.core ∧
    ((call cfg script).1.v.r.err = none → (call cfg script).1.v = (single cfg (call cfg script).1.src).v) :=
  let ⟨_, h, _⟩ := callLoop_ends cfg cfg.maxRetries none script
  h.view

/-- Consequently EVERY sequence of observation ops (`ToBytes/ToString/Bytes/String/Body.Read(n)/
io.ReadAll(Body)/Body.Close`) on the returned `Response` shows exactly what it shows after the
single-exchange call on the final exchange. -/
theorem call_ops_final (cfg : CCfg) (script : List Exch) (ops : List Op) :
    ((call cfg script).1.v.r.run ops).1 = ((single cfg (call cfg script).1.src).v.r.run ops).1 := by
  have h := congrArg (fun v => v.r) (call_final_exchange cfg script).1
  simp only [CView.core] at h
  rw [← Resp.run_noOut, h, Resp.run_noOut]

/-- **call_no_stale_bytes.** Whatever ends up in the cache (`resp.body`: what `Bytes`, `String`,
`ToBytes`, `ToString`, `Unmarshal*` return) or is bound to the success / error target is the
WHOLE body of the final exchange — never the 401's, never an earlier attempt's —, a target is
bound only by the status class it is for, and never both. (Any script, any options, also when
bodies fail.) -/
theorem call_no_stale_bytes (cfg : CCfg) (script : List Exch) :
    let c := (call cfg script).1
    (c.src = .terr → c.v.hasResp = false ∧ c.v.r.cache = none ∧ c.v.result = none ∧ c.v.error = none ∧
      c.v.r.err = some .transport) ∧
    (∀ tag st rd cks fin, c.src = .resp tag st rd cks fin →
      c.v.hasResp = true ∧ c.v.r.status = st ∧ c.v.tag = tag ∧
      (∀ b, c.v.r.cache = some b → b = cks.flatten) ∧
      (∀ b, c.v.result = some b → b = cks.flatten ∧ cfg.base.result = true ∧ successState st = true ∧ st ≠ 204) ∧
      (∀ b, c.v.error = some b → b = cks.flatten ∧ cfg.base.errResult = true ∧ 399 < st) ∧
      (c.v.result = none ∨ c.v.error = none)) := by
  intro c
  -- everything compared here is part of the core
  obtain ⟨o, ho⟩ : ∃ o, c.v = { (single cfg c.src).v with r := { (single cfg c.src).v.r with out := o } } :=
    CView.eq_of_core_eq (call_final_exchange cfg script).1
  rw [ho]
  refine ⟨fun h => ?_, fun tag st rd cks fin h => ?_⟩
  · rw [h, single_terr]
    exact ⟨rfl, rfl, rfl, rfl, rfl⟩
  · rw [h]
    obtain ⟨hh, hst, htag, hc, hr, he⟩ := single_resp cfg tag st rd cks fin
    refine ⟨hh, hst, htag, hc, fun b hb => ?_, fun b hb => ?_, ?_⟩
    · obtain ⟨hcnd, hb⟩ := Option.ite_none_right_eq_some.1 (hr.symm.trans hb)
      simp only [Bool.and_eq_true] at hcnd
      exact ⟨(Option.some.inj hb).symm, (wantsBind_success hcnd.1.1 hcnd.2).1, hcnd.2,
        (wantsBind_success hcnd.1.1 hcnd.2).2⟩
    · obtain ⟨hcnd, hb⟩ := Option.ite_none_right_eq_some.1 (he.symm.trans hb)
      simp only [Bool.and_eq_true, Bool.not_eq_true'] at hcnd
      exact ⟨(Option.some.inj hb).symm, wantsBind_error hcnd.1.1 hcnd.2⟩
    · cases hs : successState st
      · exact .inl (hr.trans (if_neg (by simp [hs])))
      · exact .inr (he.trans (if_neg (by simp [hs])))

/-- **call_views_final.** The call ended on a response whose body ends with EOF (status `st`,
body segments `cks`). Then, for every option combination and whatever happened before
(challenge, retried attempts, followed redirects):

* status and header are that exchange's;
* the applicable target — success target for 2xx except 204, error target for ≥ 400 — is bound
  to exactly its body;
* auto-read configuration, `st > 199`: no error, and EVERY interleaving of observation ops shows
  exactly that body in every cache op and streams a prefix of it from the restored `Body`;
* `SetOutput` / `SetOutputFile`: no error and the download wrote exactly that body;
* otherwise (auto-read off, no applicable target): nothing cached, `Body` is that exchange's
  live stream, untouched (so `stream_exact` applies to it). -/
theorem call_views_final (cfg : CCfg) (script : List Exch) (tag st : Nat) (rd : Bool) (cks : List Bytes)
    (hsrc : (call cfg script).1.src = .resp tag st rd cks .eof) :
    let v := (call cfg script).1.v
    v.r.status = st ∧ v.tag = tag ∧ v.hasResp = true ∧
    (wantsBind cfg.base st = true →
      (successState st = true → v.result = some cks.flatten ∧ v.error = none) ∧
      (successState st = false → v.error = some cks.flatten ∧ v.result = none)) ∧
    (AutoCfg cfg.base → 199 < st →
      v.r.err = none ∧ ∀ ops : List Op,
        (∀ x ∈ (v.r.run ops).1, okAuto cks.flatten x) ∧ ∃ t, cks.flatten = streamedOf (v.r.run ops).1 ++ t) ∧
    (cfg.base.save = true → v.r.err = none ∧ v.r.out = some cks.flatten) ∧
    (StreamCfg cfg.base st →
      v.r.err = none ∧ v.r.cache = none ∧ v.r.body = some (Body.transport cks .eof)) := by
  intro v
  obtain ⟨hcore, hfull⟩ := call_final_exchange cfg script
  have hops := call_ops_final cfg script
  rw [hsrc] at hcore hfull hops
  -- up to what the download wrote, the response is that of the single-exchange model
  obtain ⟨o, ho⟩ : ∃ o, v = { (single cfg (.resp tag st rd cks .eof)).v with
      r := { (single cfg (.resp tag st rd cks .eof)).v.r with out := o } } := CView.eq_of_core_eq hcore
  rw [single_r] at hops
  have hr : v.r.noOut = (afterRoundTrip cfg.base st (Body.transport cks .eof)).noOut := by
    rw [ho, ← single_r cfg tag st rd]; rfl
  obtain ⟨hh, hst, htag, _, hres, herr⟩ := single_resp cfg tag st rd cks .eof
  refine ⟨by rw [ho]; exact hst, by rw [ho]; exact htag, by rw [ho]; exact hh, ?_, ?_, ?_, ?_⟩
  · intro hb
    rw [ho]
    simp only [hb, decide_true, Bool.true_and] at hres herr
    refine ⟨fun hs => ⟨hres.trans ?_, herr.trans ?_⟩, fun hs => ⟨herr.trans ?_, hres.trans ?_⟩⟩
    all_goals simp [hs]
  · intro hauto hgt
    have := auto_read_views cfg.base hauto st hgt cks
    refine ⟨(congrArg Resp.err hr).trans (this []).1, fun ops => ?_⟩
    rw [hops ops]
    exact (this ops).2.2
  · intro hs
    have := save_output_exact cfg.base hs st cks
    have he : v.r.err = none := (congrArg Resp.err hr).trans this.2
    have hv : v = (single cfg (.resp tag st rd cks .eof)).v := hfull he
    rw [hv, single_r]
    exact ⟨this.2, this.1⟩
  · intro hstream
    have := stream_exact cfg.base st hstream cks []
    exact ⟨(congrArg Resp.err hr).trans this.2.1, (congrArg Resp.cache hr).trans this.1,
      (congrArg Resp.body hr).trans this.2.2.1⟩

/-- **call_output_final.** What the output (the `SetOutputFile` file / the `SetOutput` writer)
holds after the call, whenever the final response was saved (`r.out = some d`: by
`call_views_final` that is the final body):

* a file holds EXACTLY `d` — every download re-creates it;
* a writer holds `pre ++ d`: what earlier ATTEMPTS wrote, then `d` (finding
  `retry-output-writer-accumulates`); without retries `pre` is empty — within one attempt
  there is at most one download, the digest challenge is not saved. -/
theorem call_output_final (cfg : CCfg) (script : List Exch) (d : Bytes)
    (h : (call cfg script).1.v.r.out = some d) :
    (cfg.file = true → (call cfg script).2.1 = some d) ∧
    (cfg.file = false → ∃ pre, (call cfg script).2.1 = some (pre ++ d) ∧ (cfg.maxRetries = 0 → pre = [])) := by
  obtain ⟨acc0, hends, h0⟩ := callLoop_ends cfg cfg.maxRetries none script
  have hout := hends.out d h
  refine ⟨fun hf => ?_, fun hf => ⟨accBytes acc0, ?_, fun hz => by rw [h0 hz]; rfl⟩⟩
  · simpa [call, hf] using hout
  · simpa [call, hf] using hout

/-! Non-vacuity: client-level digest, automatic read disabled,
an error target. The 401's body "AA" is read and bound; after the re-send nothing of it is
left: status 200 of exchange 1, nothing cached, `ToBytes` reads "BBC" from the live stream. -/
example :
    let cfg : CCfg := { base := { clientDisable := false, reqDisable := true, save := false, result := false,
                                   errResult := true },
                        file := false, digest := .client, maxRetries := 0, cond := .dflt }
    let c := (call cfg [.resp 0 401 false [[65, 65]] .eof, .resp 1 200 false [[66, 66], [67]] .eof]).1
    c.src = .resp 1 200 false [[66, 66], [67]] .eof ∧ c.v.r.status = 200 ∧ c.v.tag = 1 ∧
    c.v.r.cache = none ∧ c.v.error = none ∧
    (c.v.r.run [.bytes, .toBytes]).1 = [(.bytes, .cached none), (.toBytes, .data [66, 66, 67] .ok)] := by
  decide

/-! Retry on 503 (status rule), then a digest challenge, request-level middleware, success
target, output file: three exchanges are used, the file holds the 200's body only, the target
is bound to it. With a writer instead, the 503's body precedes it. -/
example :
    let base : Cfg := { clientDisable := false, reqDisable := false, save := true, result := true, errResult := true }
    let script := [.resp 0 503 false [[1]] .eof, .resp 1 401 false [[2]] .eof, .resp 2 200 false [[3], [4]] .eof,
                   Exch.terr]
    let f := call { base := base, file := true, digest := .request, maxRetries := 2, cond := .status } script
    let w := call { base := base, file := false, digest := .request, maxRetries := 2, cond := .status } script
    f.1.v.tag = 2 ∧ f.1.v.result = some [3, 4] ∧ f.1.v.error = none ∧ f.2.1 = some [3, 4] ∧ f.2.2 = [Exch.terr] ∧
    w.2.1 = some [1, 3, 4] := by
  decide

/-! A followed redirect, then a transport error that the default rule retries, then the answer. -/
example :
    let cfg : CCfg := { base := { clientDisable := false, reqDisable := false, save := false, result := false },
                        file := false, digest := .off, maxRetries := 1, cond := .dflt }
    let c := (call cfg [.resp 0 302 true [[9]] .eof, .terr, .resp 2 200 false [[7, 7]] .eof]).1
    c.v.tag = 2 ∧ c.v.r.cache = some [7, 7] ∧ c.v.r.err = none := by
  decide

end Req.Props.C02
