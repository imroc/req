import Req.C02.H2Repair
/-!
C02 — HTTP/2 length accounting and statuses that never have a body: what `H2Stream.lenRepair`
(`Req/C02/H2Repair.lean`, the repair /repo carries) changes in the shared `H2Stream` model, which
is the reader without it.  Tie: lane `h2recv` (frame scripts: 204/304 × Content-Length × the
stream ended by HEADERS / by an empty DATA frame / by trailer HEADERS) and lane `e2eh2` (Go's h2
server with announced trailers).
-/
namespace Req.C02
open Req.Proto

/-- The repair changes nothing for a response that may have a body (the other C02
theorems about `H2Stream` speak of such states or of conformant lengths), for HEAD, and before the
head arrived. -/
theorem h2_lenRepair_id (s : H2Stream)
    (h : ∀ r, s.res = some r → r.body = .piped → bodyAllowedForStatusH2 r.status = true) :
    s.lenRepair = s := by
  unfold H2Stream.lenRepair
  cases hr : s.res with
  | none => rfl
  | some r =>
    simp only []
    by_cases hb : r.body = .piped
    · simp [h r hr hb]
    · have : (r.body == H2BodyKind.piped) = false := by
        cases hbb : r.body with
        | noBody => decide
        | missingBody => decide
        | piped => exact absurd hbb hb
      simp [this]

/-- After the repair a 204 / 304 whose HEADERS left the stream open carries no length
expectation, whatever Content-Length it announced. -/
theorem h2_lenRepair_nobody (s : H2Stream) (r : H2Res) (hr : s.res = some r) (hb : r.body = .piped)
    (hst : bodyAllowedForStatusH2 r.status = false) :
    s.lenRepair.bytesRemain = none ∧ s.lenRepair.pipe = s.pipe ∧ s.lenRepair.trailer = s.trailer ∧
      s.lenRepair.readErr = s.readErr := by
  have hpp : (H2BodyKind.piped == H2BodyKind.piped) = true := by decide
  simp [H2Stream.lenRepair, hr, hb, hst, hpp]

/-- Without a length expectation a read reports exactly what the pipe reports: the buffered
bytes, then the pipe's end (`io.EOF` after END_STREAM, with the trailers copied) — never
`io.ErrUnexpectedEOF`, never "more than declared". -/
theorem h2_read_without_accounting (s : H2Stream) (k : Nat) (hb : s.bytesRemain = none)
    (hre : s.readErr = none) (d : Bytes) (e : Option H2Err) (ran : Bool) (p' : Pipe)
    (hp : s.pipe.read k = some ((d, e, ran), p')) :
    ∃ s', s.read k = some ((d, e), s') ∧ s'.bytesRemain = none ∧ s'.readErr = none ∧ s'.pipe = p' ∧
      (ran = true → s'.resTrailer = s.trailer) := by
  cases ran <;> simp [H2Stream.read, hre, hp, hb]

/-! Non-vacuity and the defect itself, on the executable model: `:status 304`,
`content-length: 5`, HEADERS without END_STREAM, then trailer HEADERS (`x-t: 1`) with END_STREAM. -/
def ex304 : H2Stream :=
  [H2Ev.headers [([58, 115, 116, 97, 116, 117, 115], [51, 48, 52]),
      ([99, 111, 110, 116, 101, 110, 116, 45, 108, 101, 110, 103, 116, 104], [53])] false,
   H2Ev.headers [([120, 45, 116], [49])] true].foldl (fun s e => s.event e) (H2Stream.init false)

/-- without the repair: "unexpected EOF" -/
example : (ex304.read 10).map (·.1) = some ([], some .unexpectedEOF) := by decide

/-- with it: a clean end, trailers delivered -/
example : (ex304.lenRepair.read 10).map (·.1) = some ([], some .eof) ∧
    (ex304.lenRepair.read 10).map (·.2.resTrailer) = some [([88, 45, 84], [49])] := by decide

end Req.C02
