import Req.Lemmas.C13Setters
import Req.Lemmas.C13Stop
import Req.Lemmas.C13Partial
/-!
C13: the request-level dump setters in any call ORDER (the pointer model of
`Req/Client/DumpSetters.lean` against its value semantics); the asynchronous queue with its `Stop`
sentinel and the client life cycle with data in flight (`DumpStop.lean`); HTTP/2 uploads cut short
at any `awaitFlowControl` call (`DumpPartial.lean`).
-/
namespace Req.Props.C13R5
open Req.Client.Dump Req.Client.DumpSetters

/-- **Setter order, request level.** For EVERY sequence of request-level calls (`EnableDump`,
`EnableDumpTo`, `EnableDumpWithout…`, `SetDumpOptions`, in any order, any number of times) the
options the transport reads through the request-level dumper at send time are exactly the options
the calls produce when read as plain value updates in program order, and a dumper exists iff an
`EnableDump…` was called: a dumper made EARLY still follows every later setter. -/
theorem request_setters_follow_final (buf : Writer) (ops : List ROp) :
    (run buf false ops).effective = (vrun buf ops).effective := by
  have h := refines_run buf ops {} {} (by simp [Refines])
  unfold run vrun
  generalize ops.foldl (step buf false) {} = s at h
  generalize ops.foldl (vstep buf) {} = v at h
  unfold Refines at h
  cases hc : s.cur with
  | none =>
    rw [hc] at h
    obtain ⟨hv, hd⟩ := h
    subst hv
    simp [RSt.effective, VSt.effective, hd]
  | some i =>
    rw [hc] at h
    obtain ⟨⟨o, ho, hv⟩, hd⟩ := h
    cases he : v.enabled <;> simp [RSt.effective, VSt.effective, hd, he, ho, hv]

/-- non-vacuity: `EnableDump(); SetDumpOptions({only response body, writer 7})` -/
example : (run 30 false [.preset .all, .set { output := some 7, responseBody := true }]).effective
    = some { output := some 7, responseBody := true } := by decide +kernel

/-- **`SetDumpOptions` as the LAST call wins, whatever came before**: the dumper follows exactly
the options given (nil Output → the request's buffer) if dump was switched on anywhere before, and
there is no dumper otherwise. -/
theorem set_last_wins (buf : Writer) (ops : List ROp) (o : Opts) :
    (run buf false (ops ++ [.set o])).effective =
      if ops.any ROp.enables then some (fill buf o) else none := by
  rw [request_setters_follow_final, vrun_append]
  have he : (vrun buf ops).enabled = ops.any ROp.enables := by
    simpa [vrun] using vrun_enabled buf ops {}
  simp [vstep, VSt.effective, he]

/-- **Call order of `SetDumpOptions` and `EnableDump` does not matter**: after any prefix,
`SetDumpOptions(o).EnableDump()` and `EnableDump().SetDumpOptions(o)` leave the same dumper. -/
theorem enable_set_commute (buf : Writer) (ops : List ROp) (o : Opts) :
    (run buf false (ops ++ [.set o, .preset .all])).effective =
    (run buf false (ops ++ [.preset .all, .set o])).effective := by
  rw [request_setters_follow_final, request_setters_follow_final, vrun_append, vrun_append]
  cases o
  simp [vstep, VSt.effective, Preset.apply, Preset.off]

example : (run 30 false [.set { output := some 7, requestHeader := true }, .preset .all]).effective
    = (run 30 false [.preset .all, .set { output := some 7, requestHeader := true }]).effective := by decide +kernel

/-- The variant that re-points `r.dumpOptions` at the caller's struct (the class of the trial change `seeded/C13-r5-3`)
is NOT order-independent: the dumper made by an earlier `EnableDump` keeps the old struct. -/
theorem replace_breaks_setter_order :
    (run 30 true [.preset .all, .set { output := some 7, responseBody := true }]).effective
      ≠ (vrun 30 [.preset .all, .set { output := some 7, responseBody := true }]).effective := by
  decide +kernel

open Req.Client.DumpStop

/-- **`Stop` flushes.** For every program of `DumpTo` / `Stop` calls, every queue capacity and
EVERY schedule (any speed of the writer, any moment at which the sentinel is queued behind data):
once the `Start` loop has returned, everything that was enqueued before `Stop` has been written —
exactly once, in order (the written list IS the list of tasks in front of the sentinel); and while
it runs, what is written plus what is still to come in front of the sentinel is that list
(nothing lost, nothing duplicated, nothing reordered at any moment). -/
theorem async_stop_flushes (cap : Nat) (prog : List Item) (sched : List Step) :
    let q := (Q.run cap { todo := prog } sched)
    (q.running = false → q.written = upToStop prog) ∧
    (q.running = true → q.written ++ upToStop (q.queue ++ q.todo) = upToStop prog) := by
  have h := queueInv_run cap prog sched { todo := prog } (by simp [QueueInv])
  unfold QueueInv at h
  intro q
  constructor
  · intro hr
    simpa [q, hr] using h
  · intro hr
    simpa [q, hr] using h

/-- non-vacuity: three chunks then `Stop`, all sent before the slow writer takes anything; the
loop returns having written all three. -/
example :
    let q := Q.run 20 { todo := [.task ⟨1, [65]⟩, .task ⟨1, [66]⟩, .task ⟨2, [67]⟩, .stop] }
      [.send, .send, .send, .send, .recv, .recv, .recv, .recv]
    q.running = false ∧ q.written = [⟨1, [65]⟩, ⟨1, [66]⟩, ⟨2, [67]⟩] := by decide +kernel

/-- The gathering drain loop that returns on the sentinel WITHOUT writing what it holds (the class
of the trial change `seeded/C13-r5-1`) loses data: same program, queue filled behind a slow writer. -/
theorem gather_without_flush_loses :
    (QB.drain false 10 { queue := [.task ⟨1, [65]⟩, .task ⟨1, [66]⟩, .task ⟨2, [67]⟩, .stop] }).written
      ≠ [⟨1, [65, 66]⟩, ⟨2, [67]⟩] ∧
    (QB.drain true 10 { queue := [.task ⟨1, [65]⟩, .task ⟨1, [66]⟩, .task ⟨2, [67]⟩, .stop] }).written
      = [⟨1, [65, 66]⟩, ⟨2, [67]⟩] := by decide +kernel

/-- **Life cycle under a slow writer.** After ANY sequence of client operations (dumps, enable,
disable, clone, new options, writer stalls) and for EVERY schedule of every dumper generation's
channel: once that generation's `Start` loop has returned it has written everything that was ever
handed to that dumper — all tasks of its channel program, once, in order: nothing is ever queued
behind a sentinel, so switching dump off (or cloning, or re-configuring) with data in flight loses
nothing. -/
theorem lifecycle_stop_flushes (ops : List COp) (g cap : Nat) (sched : List Step) :
    let q := Q.run cap { todo := (crun ops).progs g ++ [.stop] } sched
    q.running = false →
      q.written = expectedOf (crun ops) g ∧ q.written = tasksOf ((crun ops).progs g) := by
  intro q hr
  have hq : q.written = upToStop ((crun ops).progs g ++ [.stop]) :=
    (async_stop_flushes cap _ sched).1 hr
  have hinv : ClientInv (crun ops) := clientInv_run ops {} ⟨fun _ => rfl, nofun, fun _ _ => rfl⟩
  exact ⟨hq, hq.trans (upToStop_of_stop_last _ (hinv.1 g))⟩

/-- non-vacuity: options, enable, two chunks, disable with both still queued, enable again, one
more chunk: generation 0 must deliver two chunks, generation 1 one. -/
example :
    let s := crun [.setOpts { output := some 7, requestHeader := true }, .enable, .hold,
      .dump .reqHeader [1], .dump .reqBody [2], .disable, .enable, .dump .respBody [3], .release]
    expectedOf s 0 = [⟨7, [1]⟩, ⟨7, [2]⟩] ∧ expectedOf s 1 = [⟨7, [3]⟩] := by decide +kernel

open Req.Proto Req.Client.DumpSites Req.Client.DumpPartial

/-- **dump = wire, HTTP/2 request body, uploads cut short.** For every frame size limit, every
sequence of body reads, EVERY flow-control schedule and EVERY abort point (the `awaitFlowControl`
call at which the stream turns out reset / answered / cancelled): the dumper has been handed
exactly the DATA payloads that were written — the first `k` frames of the complete upload's cut —
so its content is a prefix of the body, namely the bytes that went out, each once; and the whole
body if the upload was not cut short. Bytes that were read from the body but never sent are not
dumped. -/
theorem dump_equals_wire_h2_body_partial (maxFrame : Nat) (hm : 1 ≤ maxFrame) (pieces : List Bytes)
    (gs : List Nat) (k : Nat) :
    let o := sendBody maxFrame pieces gs k
    dumpAtWrite o = o.frames ∧
    o.frames = (dataFrames maxFrame pieces gs).take k ∧
    (dumpAtWrite o).flatten <+: pieces.flatten ∧
    (o.aborted = false → (dumpAtWrite o).flatten = pieces.flatten) := by
  intro o
  obtain ⟨h1, h2⟩ := sendBody_frames maxFrame pieces gs k
  refine ⟨rfl, h1, ?_, ?_⟩
  · show o.frames.flatten <+: _
    rw [h1, ← (dataFrames_spec maxFrame hm pieces gs).1]
    exact flatten_take_prefix _ _
  · intro ha
    show o.frames.flatten = _
    rw [h2 ha]
    exact (dataFrames_spec maxFrame hm pieces gs).1

/-- non-vacuity: a 5-byte read against a window of 2 that is never re-opened: the second
`awaitFlowControl` fails; 2 bytes went out, 2 bytes are dumped. -/
example : (sendBody 16384 [[1, 2, 3, 4, 5]] [2] 1).frames = [[1, 2]] ∧
    (sendBody 16384 [[1, 2, 3, 4, 5]] [2] 1).aborted = true := by decide +kernel

/-- The class of the trial change `seeded/C13-r5-2` — dumping where the chunk is read — shows bytes that were never
sent as soon as an upload is cut short. -/
theorem dump_at_read_not_exact :
    (dumpAtRead (sendBody 16384 [[1, 2, 3, 4, 5]] [2] 1)).flatten
      ≠ (sendBody 16384 [[1, 2, 3, 4, 5]] [2] 1).frames.flatten := by decide +kernel

end Req.Props.C13R5
