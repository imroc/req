import Req.Lemmas.C18Model
/-!
C18 — property theorems: FINISHING paths share one function.

Every path on which a call ends up with an http response — plain, every retry attempt, the end
of a redirect chain (all `Client.roundTrip`), the answer to a digest re-send
(`handleDigestAuthFunc`) — reads, binds and saves it through `Req.Pipeline.finish`; the paths
differ only in `Site.combine`. The theorems below are about `finish` for EVERY site, stack,
attempt and incoming response, and carry over to the pipeline model through the two equations
`client_round_trip_finishes` / `digest_resend_finishes` (the lemma files use them under the names
`clientRoundTrip_eq` / `rebind_eq` of `Req.Lemmas.C18Model`, where they are proved).
-/
namespace Req.Props.C18
open Req.Result Req.Pipeline

/-- `Client.roundTrip` of every attempt whose `GetBody` does not fail (plain call, retry,
redirect end) is: exchange, `finish .clientLoop`, the user's client-level response middleware;
what it returns is what is recorded. -/
theorem client_round_trip_finishes (s : Stack) (a : Nat) (hg : s.getBodyAt a = false) :
    clientRoundTrip s a =
      (let f := finish .clientLoop s a (exchange s a).1
       let u := clientLoop 0 (s.clientAt a) f.resp
       { resp := some u.1, err := u.1.err, evs := .send :: (exchange s a).2 ++ f.evs ++ u.2 }) :=
  clientRoundTrip_eq s a hg

/-- The digest middleware treats the answer to the authorized
request with the SAME function: a failure it `return`s stops `do`'s request-level loop, no
failure lets it go on. -/
theorem digest_resend_finishes (s : Stack) (a : Nat) (r1 : Resp) :
    rebind s a r1 =
      (let f := finish .digestTail s a r1
       match f.ret with
       | some e => .stop (some f.resp) e (.resend :: f.evs)
       | none => .cont (some f.resp) (.resend :: f.evs)) :=
  rebind_eq s a r1

/-- What a site hands on is `Site.combine` of what binding and
saving returned, and the save step returned nothing when it did not run. -/
theorem finish_ret_is_combine (site : Site) (s : Stack) (a : Nat) (r1 : Resp) :
    let f := finish site s a r1
    f.ret = site.combine f.parse f.save ∧ (f.saveRan = false → f.save = none) := by
  rw [finish_eq]
  exact ⟨rfl, fun h => by dsimp only [] at h ⊢; rw [h]; rfl⟩

/-- The digest tail returns the FIRST failure: a binding
failure (read, transform, unmarshal) is returned and the save is not even attempted; otherwise
what the save returned. In particular a successful save can not cover a binding failure. -/
theorem finish_error_is_first_failure (s : Stack) (a : Nat) (r1 : Resp) :
    let f := finish .digestTail s a r1
    (∀ e, f.parse = some e → f.ret = some e ∧ f.saveRan = false ∧ f.save = none ∧ f.resp.savedOf = (parseResp s (autoRead s r1).1).resp.savedOf) ∧
    (f.parse = none → f.ret = f.save) := by
  rw [finish_eq]
  dsimp only []
  generalize parseResp s (autoRead s r1).1 = p
  rcases p with ⟨pr, _ | e, pevs⟩
  · exact ⟨fun _ h => (nomatch h), fun _ => rfl⟩
  · exact ⟨fun _ h => Option.some.inj h ▸ ⟨rfl, rfl, rfl, rfl⟩, fun h => (nomatch h)⟩

/-- At EVERY site: the finished response carries no error only
when neither binding nor saving failed. A save that succeeds (or does not run) never wipes out a
binding failure, and the other way round. -/
theorem finish_no_failure_is_lost (site : Site) (s : Stack) (a : Nat) (r1 : Resp) :
    let f := finish site s a r1
    (Fin.error site f = none → f.parse = none ∧ f.save = none) ∧
    (∀ e, f.parse = some e → f.save = none → Fin.error site f = some e) ∧
    (∀ e, f.parse = none → f.save = some e → Fin.error site f = some e) := by
  cases site with
  | digestTail =>
    have h := finish_ret_is_combine .digestTail s a r1
    simp only at h
    simp only [Fin.error]
    rw [h.1]
    generalize (finish Site.digestTail s a r1).parse = p
    generalize (finish Site.digestTail s a r1).save = sv
    cases p <;> cases sv <;> simp [Site.combine]
  | clientLoop =>
    have h := (finish_clientLoop_err s a r1).1
    simp only [Fin.error]
    rw [h]
    generalize (finish Site.clientLoop s a r1).parse = p
    generalize (finish Site.clientLoop s a r1).save = sv
    cases p <;> cases sv <;> simp

/-- At every site the slots of the finished response are the ones
`parseResponseBody` left: saving binds and unbinds nothing. -/
theorem finish_binds_like_parse (site : Site) (s : Stack) (a : Nat) (r1 : Resp) :
    (finish site s a r1).resp.slots = (parseResp s (autoRead s r1).1).resp.slots ∧
    (finish site s a r1).parse = (parseResp s (autoRead s r1).1).ret := by
  obtain ⟨e, sv, h⟩ := finish_resp site s a r1
  exact ⟨by rw [h], by rw [finish_eq]⟩

example : (finish .digestTail { save := true, successTarget := true } 0
      { origin := .roundTrip 0, http := some { status := 200, ct := [], custom := none, readOK := true, jsonOK := false, xmlOK := false }, tag := 1 }).ret
    = some .unmarshal := by decide
example : (finish .clientLoop { save := true, successTarget := true, outFails := [true] } 0
      { origin := .roundTrip 0, http := some { status := 200, ct := [], custom := none, readOK := true, jsonOK := false, xmlOK := false } }).resp.err
    = some .output := by decide
example : (finish .clientLoop { save := true, successTarget := true } 0
      { origin := .roundTrip 0, http := some { status := 200, ct := [], custom := none, readOK := true, jsonOK := false, xmlOK := false } }).resp.err
    = some .unmarshal := by decide

/-- The whole precedence matrix in one line:
with a request-level error target (`SetErrorResult`) the client-level common error type plays no
part in binding, whatever the response; (`select_iff` at `.errorCommon`: it is used exactly when there
is no request-level target). -/
theorem common_type_immaterial_under_request_target (i : BindIn) (h : i.errorTarget = true) :
    parseBody i = parseBody { i with commonErr := false } := by
  have hsel : selectTarget i = selectTarget { i with commonErr := false } := by
    unfold selectTarget
    simp only [h]
    rcases i.http with _ | hh
    · rfl
    · simp only; split <;> simp
  unfold parseBody
  rw [← hsel]

def exBothTargets : BindIn :=
  { http := some { status := 404, ct := [], custom := none, readOK := true, jsonOK := true, xmlOK := false }
    successTarget := false
    errorTarget := true
    commonErr := true
    respErr := none
    bodyCached := false
    slots := {} }

example : (parseBody exBothTargets).slots.error = some .errorReq := by decide

end Req.Props.C18
