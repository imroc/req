import Req.Pool.AlpnSeq
/-!
# C12 — offering is a function of (mode, configured NextProtos) and never mutates configuration

Over every sequence of setters, mode switches, clones and requests (`Req.Pool.Alpn.arun`, at
the level of slice headers and shared backing arrays). Tied to the code by lane `c12alpnseq`
(one family of real clients through such a sequence; every request dials; ClientHello ALPN
list captured at the origin, version judged by what was negotiated).
-/
namespace Req.Props.C12
open Req.Pool.Alpn Req.Pool.Dispatch

/-- One connection: the arrays are what they were, the list offered is `Dispatch.offered` of
the member's mode and configured list. -/
theorem connect_pure (arrays : List (List Alpn)) (m : Member) (h1 : Bool) :
    connect .assignNil arrays m h1 = (arrays, offered (cfgOf arrays m) ⟨.https, h1⟩) := by
  unfold connect offered cfgOf
  cases hf : m.force with
  | none => cases h1 <;> simp [restrictH1]
  | some v => cases v <;> cases h1 <;> simp [restrictH1]

/-- For every sequence of `SetTLSClientConfig`, force / un-force,
`EnableHTTP3`, `Clone`, switching between the clients of the family and requests (plain or
HTTP/1.1-only): the final configuration of EVERY member and all backing arrays are exactly what
the setters alone produce — requests do not count — and every request offers
`Dispatch.offered (mode at that moment, NextProtos configured at that moment)`. -/
theorem alpn_offer_pure (ops : List AOp) (w : World) :
    arun .assignNil w ops = specRun w ops := by
  induction ops generalizing w with
  | nil => rfl
  | cons op rest ih =>
    cases op with
    | request h1 =>
      simp only [arun, specRun, astep]
      cases hm : w.members[w.cur]? with
      | none => simp [ih]
      | some m =>
        simp only [connect_pure]
        simp [ih]
    | setProtos l => cases l <;> simp [arun, specRun, astep, ih]
    | force f => simp [arun, specRun, astep, ih]
    | enableH3 => simp [arun, specRun, astep, ih]
    | fork =>
      have : (astep .assignNil w .fork).2 = none := by
        simp only [astep]; cases w.members[w.cur]? <;> rfl
      simp [arun, specRun, ih, this]
    | switch k =>
      have : (astep .assignNil w (.switch k)).2 = none := rfl
      simp [arun, specRun, ih, this]

/-- Requests can be deleted from a sequence without changing where the family ends up. -/
theorem requests_leave_configuration (ops : List AOp) (w : World) :
    (arun .assignNil w ops).1 = (arun .assignNil w (ops.filter (!isRequest ·))).1 := by
  -- in the specification run a request leaves the world alone by definition
  rw [alpn_offer_pure, alpn_offer_pure]
  induction ops generalizing w with
  | nil => rfl
  | cons op rest ih => cases op <;> exact ih _

/-- **Mode switch judged by what is offered.** Force HTTP/1.1, request, un-force, request:
the second request offers the configured list again, `h2` included. -/
theorem unforce_offers_configured_list (l : List Alpn) (w : World) (m : Member)
    (hm : w.members[w.cur]? = some m) :
    (arun .assignNil w [.setProtos (some l), .force (some .h1), .request false, .force none, .request false]).2
      = [[], l] := by
  rw [alpn_offer_pure]
  have hlt : w.cur < w.members.length := (List.getElem?_eq_some_iff.mp hm).1
  simp [specRun, astep, setCur, hlt, offered, cfgOf, readSlice]

example : (arun .assignNil World.init
    [.setProtos (some [.h2, .http11]), .fork, .switch 1, .force (some .h1), .request false, .switch 0, .request false]).2
    = [[], [.h2, .http11]] := by decide +kernel

/-- **Necessity.** Removing `h2` in place through the shared array: after one forced-HTTP/1.1
connection the same client, un-forced, no longer offers `h2` — and neither does the ORIGINAL
of a clone that was forced (the trial change `seeded/C12-r5-1`). -/
theorem in_place_filter_corrupts_offer :
    (arun .filterInPlace World.init
      [.setProtos (some [.h2, .http11]), .force (some .h1), .request false, .force none, .request false]).2
      = [[.http11], [.http11, .http11]]
    ∧ (arun .filterInPlace World.init
      [.setProtos (some [.h2, .http11]), .fork, .switch 1, .force (some .h1), .request false, .switch 0, .request false]).2
      = [[.http11], [.http11, .http11]] := by
  decide +kernel

end Req.Props.C12
