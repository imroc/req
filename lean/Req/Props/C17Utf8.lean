import Req.Lemmas.Multipart
import Req.Client.Utf8
/-!
C17 — non-ASCII names: the Content-Disposition quoting (`req.go quoteParamValue`) leaves every
byte ≥ 0x80 alone — UTF-8 multi-byte sequences in field names, file-parameter names, file names
and extra parameter values go on the wire byte for byte (no `%XX`, no escape) and are read back
exactly.
-/
namespace Req.Props.C17Utf8
open Req.Proto Req.Multipart

/-- bytes that go on the wire unchanged: everything from 0x80 up, TAB, and printable ASCII other
than `"` and `\` -/
def Plain (c : UInt8) : Prop := 128 ≤ c ∨ c = 9 ∨ (32 ≤ c ∧ c < 127 ∧ c ≠ 34 ∧ c ≠ 92)

/-- `quoteByte` in one pass over the 256 bytes: its complete table, and what the table means for
the bytes from 0x80 up and for the plain bytes. -/
theorem quoteByte_classes : ∀ c : UInt8,
    (quoteByte c =
      if c = 92 then [92, 92] else if c = 34 then [92, 34]
      else if (c < 32 ∧ c ≠ 9) ∨ c = 127 then pctByte c else [c]) ∧
    (Plain c → quoteByte c = [c]) ∧ (128 ≤ c → headerUnsafe c = false) ∧
    (quoteByte c).filter (fun c => decide (128 ≤ c)) = [c].filter (fun c => decide (128 ≤ c)) := by
  unfold Plain
  apply Req.U8.forall_uint8
  decide +kernel

/-- the byte table of `quoteParamValue`, complete: `\` and `"` are backslash-escaped, the controls
other than TAB and DEL are percent-encoded, EVERY other byte — 0x80 … 0xFF included — is copied -/
theorem quoteByte_table : ∀ c : UInt8,
    quoteByte c =
      if c = 92 then [92, 92] else if c = 34 then [92, 34]
      else if (c < 32 ∧ c ≠ 9) ∨ c = 127 then pctByte c else [c] :=
  fun c => (quoteByte_classes c).1

theorem quoteByte_plain : ∀ c : UInt8, Plain c → quoteByte c = [c] :=
  fun c => (quoteByte_classes c).2.1

theorem quoteByte_high : ∀ c : UInt8, 128 ≤ c → quoteByte c = [c] ∧ headerUnsafe c = false :=
  fun c h => ⟨quoteByte_plain c (.inl h), (quoteByte_classes c).2.2.1 h⟩

theorem quoteByte_filter_high : ∀ c : UInt8,
    (quoteByte c).filter (fun c => decide (128 ≤ c)) = [c].filter (fun c => decide (128 ≤ c)) :=
  fun c => (quoteByte_classes c).2.2.2

/-- A name made of bytes ≥ 0x80 (any UTF-8 multi-byte text, any
legacy 8-bit text), TAB and printable ASCII other than `"` `\` is written VERBATIM. -/
theorem quote_identity_on_utf8 (s : Bytes) (h : ∀ c ∈ s, Plain c) : quote s = s :=
  Req.Form.flatMap_self _ s fun c hc => quoteByte_plain c (h c hc)

/-- For ALL names: the bytes ≥ 0x80 of the quoted form are exactly
the bytes ≥ 0x80 of the name, in order: none is encoded away, none is introduced. -/
theorem quote_high_bytes_verbatim (s : Bytes) :
    (quote s).filter (fun c => decide (128 ≤ c)) = s.filter (fun c => decide (128 ≤ c)) := by
  induction s with
  | nil => rfl
  | cons c t ih =>
    simp only [quote, List.flatMap_cons, List.filter_append] at ih ⊢
    rw [ih, quoteByte_filter_high c, ← List.filter_append]; rfl

theorem ofNat_high (n : Nat) (h1 : 128 ≤ n) (h2 : n < 256) : (128 : UInt8) ≤ UInt8.ofNat n :=
  (UInt8.le_ofNat_iff h2).mpr h1

theorem utf8Enc_high (cp : Nat) (h1 : 0x80 ≤ cp) (h2 : cp < 0x110000) : ∀ b ∈ utf8Enc cp, 128 ≤ b := by
  intro b hb
  unfold utf8Enc at hb
  split at hb
  · omega
  · split at hb
    · simp only [List.mem_cons, List.not_mem_nil, or_false] at hb
      rcases hb with rfl | rfl <;> apply ofNat_high <;> omega
    · split at hb
      · simp only [List.mem_cons, List.not_mem_nil, or_false] at hb
        rcases hb with rfl | rfl | rfl <;> apply ofNat_high <;> omega
      · simp only [List.mem_cons, List.not_mem_nil, or_false] at hb
        rcases hb with rfl | rfl | rfl | rfl <;> apply ofNat_high <;> omega

/-- A name that is the UTF-8 encoding of ANY sequence of non-ASCII code
points (U+0080 … U+10FFFF: two-, three- and four-byte sequences) is written verbatim and a standard
parser reads it back exactly. -/
theorem utf8_names_roundtrip (cps : List Nat) (h : ∀ cp ∈ cps, 0x80 ≤ cp ∧ cp < 0x110000) (rest : Bytes) :
    quote (cps.flatMap utf8Enc) = cps.flatMap utf8Enc ∧
    consumeQuoted (quote (cps.flatMap utf8Enc) ++ 34 :: rest) = some (cps.flatMap utf8Enc, rest) := by
  have hi : ∀ b ∈ cps.flatMap utf8Enc, 128 ≤ b := by
    intro b hb
    obtain ⟨cp, hcp, hb⟩ := List.mem_flatMap.mp hb
    exact utf8Enc_high cp (h cp hcp).1 (h cp hcp).2 b hb
  exact ⟨quote_identity_on_utf8 _ fun c hc => Or.inl (hi c hc),
    quote_roundtrip _ rest fun c hc => (quoteByte_high c (hi c hc)).2⟩

/-- 名字 / é / 🙂 (3-, 2-, 4-byte sequences) -/
example : [0x540D, 0x5B57, 0xE9, 0x1F642].flatMap utf8Enc =
    [0xE5, 0x90, 0x8D, 0xE5, 0xAD, 0x97, 0xC3, 0xA9, 0xF0, 0x9F, 0x99, 0x82] ∧
    quote ([0x540D, 0x5B57, 0xE9, 0x1F642].flatMap utf8Enc) = [0x540D, 0x5B57, 0xE9, 0x1F642].flatMap utf8Enc := by decide

/-- a quoting that percent-encoded every `c >= 0x7f` would send `%E5%90%8D`; `quote` does not -/
example : quote [0xE5, 0x90, 0x8D, 34, 0x7F] = [0xE5, 0x90, 0x8D, 92, 34, 37, 55, 70] := by decide

end Req.Props.C17Utf8
