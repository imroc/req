import Req.Props.C06
/-!
C06 — the credit half of the property as the *peer* sees it, and the counter-examples of
the findings repaired by fixes/C06-5 … C06-8.

`credit_conservation` (in `Req.Props.C06`) is about the client's own books: nothing it was granted
is lost. `peer_window_exact` adds the other half: the client's books and the peer's books are the
same number — the peer's connection-level send window, computed by the receive side of the
strict monitor from the history alone, equals `cc.inflow.avail`. Together:
`no_permanent_stall_peer`. (Before fixes/C06-5 and C06-6 both halves failed on the running code:
see the counter-examples below, replayed on the implementation by the directed scripts
`content-length-overlong*`, `discarded-data*`, `head`, `trailers*` of the script lane.)

The Ping and Push machines of the monitor are part of `Monitor`, hence of `conn_conforms`; the
two corollaries below state them on their own.
-/
namespace Req.Props.C06
open Req.H2 Req.H2.Flow Req.H2.Conn Req.H2.Monitor Req.Lemmas.C06

/-- in every run, unless the connection has been torn down, the peer's
connection-level send window by its own books (`Recv`: 65535 + every connection-level
WINDOW_UPDATE it received − every flow-controlled octet it sent, DATA on closed / reset / unknown
streams, DATA that was answered with a stream error and padding included) is exactly the
client's `cc.inflow.avail`: the two ends never drift apart. -/
theorem peer_window_exact (cfg : Cfg) (hfix : cfg.fixes = Fixes.all) (hcfg : cfg.ok)
    (ops : List Op) (hops : ∀ op ∈ ops, op.ok) :
    (run cfg ops).1.closed = true ∨
    ∃ r, Recv.run Recv.init (history (run cfg ops)) = .ok r ∧ r.connWin = (run cfg ops).1.connIn.avail := by
  obtain ⟨m, r, _, h2, _, h4⟩ := run_joint cfg hfix hcfg ops hops
  cases hc : (run cfg ops).1.closed with
  | true => exact Or.inl rfl
  | false => exact Or.inr ⟨r, h2, h4.exact hc⟩

/-- once the caller has consumed (read or closed) everything, the
*peer's own* connection-level send window is more than half of what the client advertised (or
all of it) — it is not waiting for credit that was lost on either side. -/
theorem no_permanent_stall_peer (cfg : Cfg) (hfix : cfg.fixes = Fixes.all) (hcfg : cfg.ok)
    (ops : List Op) (hops : ∀ op ∈ ops, op.ok)
    (hc : (run cfg ops).1.closed = false) (hp : (run cfg ops).1.panicked = false)
    (hz : sumBuffered (run cfg ops).1.streams = 0) :
    ∃ r, Recv.run Recv.init (history (run cfg ops)) = .ok r ∧
      (connInflowInit cfg.connFlow < 2 * r.connWin ∨ r.connWin = connInflowInit cfg.connFlow) := by
  rcases peer_window_exact cfg hfix hcfg ops hops with h | ⟨r, h1, h2⟩
  · rw [hc] at h; cases h
  · refine ⟨r, h1, ?_⟩
    rw [h2]
    exact no_permanent_stall cfg hfix ops hops hp hz

/-- a download with padding, a read below the refresh threshold, DATA for a stream the caller
cancelled: the peer's books and the client's agree (1073807359 − 5010 − 3000 + 5010 + 3000 …) -/
def opsCredit : List Op :=
  [.peer (.settings []), .openStream 51 0 true, .peer (.headers 1 false), .peer (.data 1 5000 10 false),
   .read 1 100, .cancel 1, .peer (.data 1 3000 0 false), .read 1 100000]

example : (run exampleCfg opsCredit).1.closed = false := by decide +kernel
example : (match Recv.run Recv.init (history (run exampleCfg opsCredit)) with
    | .ok r => r.connWin | .error _ => 0) = (run exampleCfg opsCredit).1.connIn.avail := by decide +kernel

/-- every PING of the peer is answered with the same octets, no other
PING acknowledgement is ever written, none is owed at the end of a run. -/
theorem pings_acknowledged (cfg : Cfg) (ops : List Op) :
    Ping.run Ping.init (history (run cfg ops)) = .ok Ping.init :=
  (ping_push_run cfg ops).1

/-- after a PUSH_PROMISE that the client had ruled out (SETTINGS_ENABLE_PUSH = 0,
acknowledged) the connection is torn down: the monitor's Push machine (nothing but RST_STREAM
may follow) accepts every run — the model itself writes nothing at all any more. -/
theorem push_refused (cfg : Cfg) (ops : List Op) :
    ∃ q, Push.run Push.init (history (run cfg ops)) = .ok q :=
  (ping_push_run cfg ops).2

def opsPing : List Op :=
  [.peer (.settings []), .peer .settingsAck, .peer (.ping false 7), .openStream 51 100 true, .peer (.ping false 8),
   .peer (.pushPromise 1 2), .peer (.ping false 9), .openStream 51 0 true]

/-- two PINGs answered; nothing after the PUSH_PROMISE, not even the answer to the third PING -/
example : (history (run exampleCfg opsPing)).filterMap (fun e => match e with
    | .c (.ping a d) => some (a, d) | _ => none) = [(true, 7), (true, 8)] := by decide +kernel
example : (run exampleCfg opsPing).1.closed = true := by decide +kernel
example : Monitor (history (run exampleCfg opsPing)) = true := by decide +kernel

/-! ### one counter-example per repair (fixes/C06-5 … C06-8) -/

/-- a response with Content-Length 10 that carries 5000 octets, read with a buffer of 8192 -/
def opsOverlong : List Op :=
  [.peer (.settings []), .openStream 51 0 true, .peer (.resp 1 false 200 (some 10)), .peer (.data 1 5000 0 false),
   .read 1 8192, .close 1]

/-- unchanged code (fixes/C06-5 off): 5000 octets of connection window are gone for good — neither
granted to the peer, nor waiting to be returned, nor in a response body; repaired: conserved -/
theorem overlong_response_credit_counterexample :
    let st := (run { exampleCfg with fixes := { Fixes.all with readCredit := false } } opsOverlong).1
    let st' := (run exampleCfg opsOverlong).1
    st.connIn.avail + st.connIn.unsent + sumBuffered st.streams = connInflowInit 0 - 5000 ∧
    st'.connIn.avail + st'.connIn.unsent + sumBuffered st'.streams = connInflowInit 0 ∧
    (history (run exampleCfg opsOverlong)).getLast? = some (.c (.windowUpdate 0 5000)) := by decide +kernel

/-- DATA before the response HEADERS (5000 octets): a stream error -/
def opsDiscard : List Op :=
  [.peer (.settings []), .openStream 51 0 true, .peer (.data 1 5000 0 false)]

def peerConnWin (h : List Event) : Int :=
  match Recv.run Recv.init h with
  | .ok r => r.connWin
  | .error _ => 0

/-- unchanged code (fixes/C06-6 off): the peer's window is 5000 octets below the client's, for
good; repaired: equal (the frame is taken from the window and credited back at once) -/
theorem discarded_data_credit_counterexample :
    let r := run { exampleCfg with fixes := { Fixes.all with dataCredit := false } } opsDiscard
    let r' := run exampleCfg opsDiscard
    r.1.closed = false ∧ peerConnWin r.2 = r.1.connIn.avail - 5000 ∧
    r'.1.closed = false ∧ peerConnWin r'.2 = r'.1.connIn.avail := by decide +kernel

/-- an upload with 20000 octets of trailers; the peer lowers MAX_FRAME_SIZE from 1 MiB to 16384
while the body is being written -/
def opsTrailers : List Op :=
  [.peer (.settings [(sMaxFrameSize, 1048576)]),
   .openReq { hdrLen := 60, bodyLen := 1000, known := false, trailer := some 20000 },
   .peer (.settings [(sMaxFrameSize, 16384)]), .feed 1 0, .write 1, .write 1]

/-- unchanged code (fixes/C06-7 off): a trailer HEADERS frame of 20000 octets for a peer whose
limit is 16384; repaired: HEADERS 16384 + CONTINUATION 3616 -/
theorem trailers_frame_size_counterexample :
    Monitor (history (run { exampleCfg with fixes := { Fixes.all with trailerFrame := false } } opsTrailers)) = false ∧
    (history (run { exampleCfg with fixes := { Fixes.all with trailerFrame := false } } opsTrailers)).getLast? =
      some (.c (.headers 1 20000 true true)) ∧
    Monitor (history (run exampleCfg opsTrailers)) = true ∧
    (history (run exampleCfg opsTrailers)).drop 7 =
      [.c (.data 1 1000 false), .c (.headers 1 16384 true false), .c (.continuation 1 3616 true)] := by decide +kernel

/-- MAX_CONCURRENT_STREAMS = 1; a request with declared trailers and no body, answered; the
next request -/
def opsTrailersNoBody : List Op :=
  [.peer (.settings [(sMaxConcurrentStreams, 1)]),
   .openReq { hdrLen := 64, bodyLen := 0, known := true, trailer := some 5 },
   .peer (.headers 1 true), .openStream 51 0 true]

/-- unchanged code (fixes/C06-8 off): the first stream is never closed by the client, which
forgets it and opens a second one above the peer's limit; repaired: END_STREAM on HEADERS -/
theorem trailers_without_body_counterexample :
    Monitor (history (run { exampleCfg with fixes := { Fixes.all with trailerNoBody := false } } opsTrailersNoBody)) = false ∧
    (history (run { exampleCfg with fixes := { Fixes.all with trailerNoBody := false } } opsTrailersNoBody)).filterMap
      (fun e => match e with | .c (.headers id _ es _) => some (id, es) | _ => none) = [(1, false), (3, true)] ∧
    Monitor (history (run exampleCfg opsTrailersNoBody)) = true := by decide +kernel

end Req.Props.C06
