import Req.Client.Retry
import Req.Client.Attempt
import Req.Lemmas.C10Backoff
import Req.Lemmas.C10Loop
import Req.Lemmas.C10Attempt
/-!
C10 — retry: bounded, condition-driven, every attempt sends the same request.

All theorems are about the REPAIRED code (`Variant.repaired`, i.e. /repo with
fixes/C10-1 … C10-6 applied); for the code as found the corresponding statements are false.
Each `asFound_*` statement (`section witnesses`; those of the backoff in `section backoff`) is
the negation of a theorem at a concrete input, `decide`d on the faithful model of the pinned
commit of imroc/req; the same inputs are replayed on the implementation by `c10Witnesses`
(harness).  The defects are DESIGN §5 rows 2–6 and C10-6.

`script` is the sequence of round-trip outcomes, one per iteration; `ra` is
`Request.RetryAttempt` when the loop is entered (0 in `run`).
-/
namespace Req.Props.C10
open Req.Retry Req.Lemmas.C10Loop

variable {σ W : Type} (p : Policy σ) (mw : Nat → σ → σ × W)

/-- The number of leading iterations after which the specification `wants` a further attempt. -/
def retries : List Outcome → Nat → Nat
  | [], _ => 0
  | o :: rest, ra => if wants p o ra then retries rest (ra + 1) + 1 else 0

/-- The number of iterations (attempts) the specification allows on `script`: one more than the
retries it asks for, as far as the script goes. -/
def specAttempts (script : List Outcome) (ra : Nat) : Nat := min (retries p script ra + 1) script.length

theorem specAttempts_cons (o : Outcome) (rest : List Outcome) (ra : Nat) :
    specAttempts p (o :: rest) ra = 1 + (if wants p o ra then specAttempts p rest (ra + 1) else 0) := by
  have hr : retries p (o :: rest) ra = (if wants p o ra then retries p rest (ra + 1) + 1 else 0) := rfl
  unfold specAttempts
  rw [hr]
  split <;> simp <;> omega

theorem lt_retries (script : List Outcome) (ra k : Nat) :
    k < retries p script ra ↔
      k ≤ retries p script ra ∧ ∃ o, script[k]? = some o ∧ wants p o (ra + k) = true := by
  induction script generalizing ra k with
  | nil => simp [retries]
  | cons o rest ih =>
    unfold retries
    by_cases h : wants p o ra = true
    · cases k with
      | zero => simp [h]
      | succ k =>
        simp only [h, ↓reduceIte, List.getElem?_cons_succ, show ra + (k + 1) = ra + 1 + k by omega,
          Nat.add_lt_add_iff_right, Nat.add_le_add_iff_right]
        exact ih (ra + 1) k
    · cases k <;> simp [h]

theorem iterations_loop (script : List Outcome) (ra : Nat) (st : σ) (prev : Option Resp) :
    iterations (loop R p mw script ra st prev).1 = specAttempts p script ra := by
  induction script, ra, st, prev using loop_induct p mw with
  | nil => rfl
  | stop o rest ra _ _ ev _ h hs hl => rw [hl, specAttempts_cons, h, hs.one]; rfl
  | cont o rest ra _ _ ev h hi _ _ hl ih => rw [hl, specAttempts_cons, h, iterations_append, hi, ih]; rfl

/-- No further attempt once the request's context is done — cancelled, or its deadline passed —
whatever the retry count, the conditions and the interval. -/
theorem no_attempt_after_context_done (o : Outcome) (ra : Nat)
    (h : o = .cancelled ∨ o.ctxDone = true) : wants p o ra = false := by
  cases hw : wants p o ra with
  | false => rfl
  | true =>
    obtain ⟨-, -, hnotCancelled, -, -, -, hctxAlive⟩ := (wants_iff p o ra).mp hw
    rcases h with h | h
    · exact absurd h hnotCancelled
    · rw [hctxAlive] at h; cases h

theorem wants_enabled {o : Outcome} {ra : Nat} (h : wants p o ra = true) : p.enabled = true :=
  ((wants_iff p o ra).mp h).2.2.2.1

theorem wants_count {o : Outcome} {ra : Nat} (h : wants p o ra = true) :
    p.maxRetries < 0 ∨ (ra : Int) < p.maxRetries :=
  ((wants_iff p o ra).mp h).2.2.2.2.1

/-- Over the whole run, attempt `k+1` happens iff attempt `k` happened, the script has an
outcome for it, and the specification wanted a retry after attempt `k`. -/
theorem retry_iff (script : List Outcome) (ra : Nat) (st : σ) (prev : Option Resp) (k : Nat) :
    k + 1 < iterations (loop R p mw script ra st prev).1 ↔
      k < iterations (loop R p mw script ra st prev).1 ∧ k + 1 < script.length ∧
      ∃ o, script[k]? = some o ∧ wants p o (ra + k) = true := by
  rw [iterations_loop, specAttempts]
  have := lt_retries p script ra k
  constructor
  · intro h
    exact ⟨by omega, by omega, (this.mp (by omega)).2⟩
  · rintro ⟨a, b, c⟩
    have := this.mpr ⟨by omega, c⟩
    omega

theorem retries_le (script : List Outcome) (ra : Nat) (hN : 0 ≤ p.maxRetries) :
    retries p script ra ≤ (p.maxRetries - ra).toNat := by
  refine Nat.le_of_not_lt fun hlt => ?_
  obtain ⟨-, o, -, hw⟩ := (lt_retries p script ra _).mp hlt
  have := wants_count p hw
  omega

/-- With a non-negative retry count `N` at most `N + 1` attempts are made. -/
theorem attempts_bound (unreplayable : Bool) (script : List Outcome) (st : σ) (hN : 0 ≤ p.maxRetries) :
    iterations (run R p mw unreplayable script st).events ≤ p.maxRetries.toNat + 1 := by
  unfold run
  split
  · simp [iterations]
  · simp only [iterations_loop, specAttempts]
    have := retries_le p script 0 hN
    simp at this
    omega

theorem wires_le_iterations (script : List Outcome) (ra : Nat) (st : σ) (prev : Option Resp) :
    (wires (loop R p mw script ra st prev).1).length ≤ iterations (loop R p mw script ra st prev).1 := by
  induction script, ra, st, prev using loop_induct p mw with
  | nil => exact Nat.le_refl _
  | stop _ _ _ _ _ ev _ _ hs hl => rw [hl, hs.one, hs.hwires]; split <;> simp
  | cont _ _ _ _ _ ev _ hi hw _ hl ih =>
    rw [hl, wires_append, iterations_append, hi, hw, List.length_append]
    exact Nat.add_le_add_left ih 1

theorem wire_bound (unreplayable : Bool) (script : List Outcome) (st : σ) (hN : 0 ≤ p.maxRetries) :
    (wires (run R p mw unreplayable script st).events).length ≤ p.maxRetries.toNat + 1 := by
  have h1 := attempts_bound p mw unreplayable script st hN
  unfold run at *
  split
  · simp [wires]
  · rename_i hc
    simp only [hc] at h1
    exact Nat.le_trans (wires_le_iterations p mw script 0 st none) h1

theorem no_retry_of_single (h : p.enabled = false ∨ p.maxRetries = 0) (o : Outcome) (ra : Nat) :
    wants p o ra = false := by
  cases hw : wants p o ra with
  | false => rfl
  | true =>
    rcases h with h | h
    · exact absurd (wants_enabled p hw) (by simp [h])
    · have := wants_count p hw; omega

theorem single_attempt (script : List Outcome) (ra : Nat) (st : σ) (prev : Option Resp)
    (h : p.enabled = false ∨ p.maxRetries = 0) (hs : script ≠ []) :
    iterations (loop R p mw script ra st prev).1 = 1 := by
  rw [iterations_loop]
  cases script with
  | nil => exact absurd rfl hs
  | cons o rest => rw [specAttempts_cons, no_retry_of_single p h]; rfl

/-- No bound but the count's: if the specification `wants` a retry after every outcome of the
script, every outcome gets its attempt, whatever the script's length.  (By `attempts_bound` a
script longer than `N + 1` meets the hypothesis only with a count `N < 0`.) -/
theorem unbounded_when_negative (script : List Outcome) (ra : Nat) (st : σ) (prev : Option Resp)
    (hall : ∀ k o, script[k]? = some o → wants p o (ra + k) = true) :
    iterations (loop R p mw script ra st prev).1 = script.length := by
  have : script.length ≤ retries p script ra := Nat.le_of_not_lt fun hlt =>
    have ho := List.getElem?_eq_getElem hlt
    Nat.lt_irrefl _ ((lt_retries p script ra _).mpr ⟨Nat.le_refl _, _, ho, hall _ _ ho⟩)
  rw [iterations_loop, specAttempts]
  omega

/-- Did the run end in the wait before a further attempt (context found done)? -/
def interruptedAt : List Outcome → Nat → Bool
  | [], _ => false
  | o :: rest, ra => if wants p o ra then interruptedAt rest (ra + 1) else interrupted p o ra

/-- The calls of retry hooks and of the interval function over the
whole run are, for retry number `j = 1, 2, …` in turn: every registered hook once, in reverse
registration order, then the interval function once — all with attempt number `j`.  If the wait
that follows finds the context done, that last block is not followed by an attempt. -/
theorem hooks_once_per_retry (script : List Outcome) (ra : Nat) (st : σ) (prev : Option Resp) :
    calls (loop R p mw script ra st prev).1 =
      ((List.range (retries p script ra)).flatMap fun j => block p (ra + j + 1)) ++
      (if interruptedAt p script ra then block p (ra + retries p script ra + 1) else []) := by
  induction script, ra, st, prev using loop_induct p mw with
  | nil => rfl
  | stop o rest ra _ _ ev _ h hs hl => simp [hl, hs.hcalls, retries, interruptedAt, h]
  | cont o rest ra _ _ ev h _ _ hc hl ih =>
    have e : ∀ j, ra + (j + 1) + 1 = ra + 1 + j + 1 := fun j => by omega
    rw [hl, calls_append, hc, ih]
    -- `range (n + 1) = 0 :: (range n).map (· + 1)`: this retry's block, then the later ones with `j` shifted
    simp [retries, interruptedAt, h, List.range_succ_eq_map, List.flatMap_map, e, List.append_assoc]

/-- If the outcome of attempt `k` is a cancelled context, or the
context is done when the wait after it begins, attempt `k` is the last one. -/
theorem stops_when_context_done (script : List Outcome) (ra : Nat) (st : σ) (prev : Option Resp)
    (k : Nat) (o : Outcome) (hk : script[k]? = some o) (h : o = .cancelled ∨ o.ctxDone = true) :
    iterations (loop R p mw script ra st prev).1 ≤ k + 1 := by
  by_cases hlt : k + 1 < iterations (loop R p mw script ra st prev).1
  · obtain ⟨_, _, o', ho', hw⟩ := (retry_iff p mw script ra st prev k).mp hlt
    rw [hk] at ho'
    cases ho'
    rw [no_attempt_after_context_done p o (ra + k) h] at hw
    cases hw
  · omega

/-- The response `resp` holds before iteration `k` of the loop (`prev` before the first). -/
def respBefore (prev : Option Resp) (script : List Outcome) (ra : Nat) : Nat → Option Resp
  | 0 => prev
  | k + 1 => (script[k]?).map fun o => respOf o (ra + k)

/-- When `do` returns, the response is the one of the last attempt `k`, and
the error is that attempt's round-trip error — or the error of the request-level response
middleware that aborted that attempt, or the context's error if the wait after that attempt
found the context done.  (If the last iteration never reached the wire because a request
middleware failed, the error is that middleware's and `resp` is still the previous attempt's
response.) -/
theorem result_is_last (script : List Outcome) (ra : Nat) (st : σ) (prev : Option Resp)
    (ev : List (Event W)) (resp : Option Resp) (err : Option Err)
    (h : loop R p mw script ra st prev = (ev, .done resp err)) :
    ∃ k o, script[k]? = some o ∧ iterations ev = k + 1 ∧
      (o ≠ .beforeErr → interrupted p o (ra + k) = false →
        resp = some (respOf o (ra + k)) ∧
        (err = o.errKind.map (ra + k, ·) ∨
          (aborted p o (ra + k) = true ∧ ∃ j, err = some (ra + k, .after j)))) ∧
      (interrupted p o (ra + k) = true →
        resp = some { respOf o (ra + k) with err := some (ra + k, .waitCtx) } ∧
        err = some (ra + k, .waitCtx)) ∧
      (o = .beforeErr → resp = respBefore prev script ra k ∧ err = some (ra + k, .before)) := by
  induction script, ra, st, prev using loop_induct p mw generalizing ev with
  | nil => simp [loop] at h
  | stop o _ ra _ prev ev1 fin _ hs hl =>
    rw [hl] at h
    obtain ⟨rfl, rfl⟩ := Prod.mk.inj h
    refine ⟨0, o, rfl, by rw [hs.one], fun ho hni => ?_, fun hin => ?_, fun ho => ?_⟩
    · obtain ⟨err', hd, hcase⟩ := hs.hdone ho hni
      obtain ⟨rfl, rfl⟩ := Final.done.inj hd
      exact ⟨rfl, hcase⟩
    · obtain ⟨rfl, rfl⟩ := Final.done.inj (hs.hwait hin); exact ⟨rfl, rfl⟩
    · obtain ⟨rfl, rfl⟩ := Final.done.inj (hs.hbefore ho); exact ⟨rfl, rfl⟩
  | cont o rest ra _ _ ev1 _ hi _ _ hl ih =>
    rw [hl] at h
    obtain ⟨rfl, hfin⟩ := Prod.mk.inj h
    obtain ⟨k, o', hk, hit, hdone, hwait, hbefore⟩ := ih _ (Prod.ext rfl hfin)
    have e : ra + 1 + k = ra + (k + 1) := by omega
    rw [e] at hdone hwait hbefore
    refine ⟨k + 1, o', by simpa using hk, by rw [iterations_append, hit, hi]; omega, hdone, hwait, fun hb => ?_⟩
    obtain ⟨hr, he⟩ := hbefore hb
    refine ⟨?_, he⟩
    rw [hr]
    cases k with
    | zero => rfl
    | succ j => simp [respBefore, show ra + 1 + j = ra + (j + 1) by omega]

/-- The repaired loop always returns: no nil dereference. -/
theorem repaired_never_panics (script : List Outcome) (ra : Nat) (st : σ) (prev : Option Resp) :
    (loop R p mw script ra st prev).2 ≠ .panic := by
  rcases loop_final p mw script ra st prev with h | ⟨_, _, h⟩ <;> rw [h] <;> nofun

/-- A retryable request (retry option present, count ≠ 0) with a body that cannot be replayed is
refused before anything is sent. -/
theorem unreplayable_fails_upfront (v : Variant) (script : List Outcome) (st : σ)
    (he : p.enabled = true) (hn : p.maxRetries ≠ 0) :
    (run v p mw true script st).final = .refused ∧ (run v p mw true script st).events = [] := by
  simp [run, he, hn]

/-- A call that `Do` does not refuse has a replayable body, or makes a single attempt. -/
theorem run_not_refused {u : Bool} (hc : ¬(p.enabled && p.maxRetries != 0 && u) = true) :
    u = false ∨ p.enabled = false ∨ p.maxRetries = 0 := by
  revert hc
  cases u <;> cases p.enabled <;> simp

/-- An unreplayable body is only ever sent when no retry can follow: at most once. -/
theorem unreplayable_sent_at_most_once (script : List Outcome) (st : σ)
    (h : (run R p mw true script st).final ≠ .refused) :
    (wires (run R p mw true script st).events).length ≤ 1 := by
  unfold run at *
  split
  · simp [wires]
  · rename_i hc
    have hd := (run_not_refused p hc).resolve_left nofun
    cases script with
    | nil => simp [loop, wires]
    | cons o rest =>
      have := single_attempt p mw (o :: rest) 0 st none hd (by simp)
      exact Nat.le_trans (wires_le_iterations p mw (o :: rest) 0 st none) (by omega)

section wire
open Req.Attempt Req.Lemmas.C10Attempt

/-- As long as nothing but the library's own middleware touches the
request between attempts, attempt `k+1` puts exactly the request of attempt `k` on the wire —
method, URL, query, headers, cookies and complete body — for every request that `Do` does not
refuse up front. -/
theorem attempts_identical (c : ClientCfg) (hx : c.isXML c.jsonCT = false) (st : ReqState)
    (hr : unreplayable R st = false) (hct : st.contract = true) (k : Nat) :
    build R c st (k + 1) = build R c st k := by
  rw [build_eq_first c hx st hr hct (k + 1), build_eq_first c hx st hr hct k]

theorem foldl_hooks_id (l : List (Nat × (Obs → ReqState → ReqState))) (ob : Obs) (s : ReqState)
    (h : ∀ x ∈ l, ∀ o s, x.2 o s = s) : l.foldl (fun s x => x.2 ob s) s = s := by
  induction l generalizing s with
  | nil => rfl
  | cons x t ih =>
    simp only [List.foldl_cons, h x (List.mem_cons_self ..)]
    exact ih s fun y hy => h y (List.mem_cons_of_mem _ hy)

theorem wires_same_aux (p : Policy ReqState) (c : ClientCfg) (hxml : c.isXML c.jsonCT = false) (st : ReqState)
    (hhooks : ∀ x ∈ p.hooks, ∀ o s, x.2 o s = s) (hct : st.contract = true)
    (hr : unreplayable R st = false ∨ p.enabled = false ∨ p.maxRetries = 0)
    (script : List Outcome) (ra : Nat) (s : ReqState) (prev : Option Resp)
    (hinv : Attempt.mw R c ra s = Attempt.mw R c 0 st) :
    ∀ x ∈ wires (loop R p (Attempt.mw R c) script ra s prev).1, x.2 = build R c st 0 := by
  induction script, ra, s, prev using loop_induct p (Attempt.mw R c) with
  | nil => simp [loop, wires]
  | stop o _ ra s _ ev _ _ hs hl =>
    rw [hl, hs.hwires]
    intro x hx
    split at hx
    · cases hx
    · rw [List.mem_singleton.mp hx, hinv]; rfl
  | cont o rest ra s prev ev h _ hw _ hl ih =>
    -- a retry happens only with a replayable body: an unreplayable one that is not refused is sent once
    have hrep : unreplayable R st = false := hr.resolve_right fun hd => by
      rw [no_retry_of_single p hd] at h; cases h
    rw [hl, wires_append, hw]
    intro x hx
    rcases List.mem_append.mp hx with h1 | h1
    · rw [List.mem_singleton.mp h1, hinv]; rfl
    · refine ih ?_ x h1
      unfold nextState
      rw [foldl_hooks_id _ _ _ (fun x hx => hhooks x (by simpa using hx)), hinv]
      exact mw_fix c hxml 0 ra st hrep hct

/-- In a run of `Request.Do` whose retry hooks leave
the request alone, every request that reaches the wire — whatever the outcome script, the retry
count, the conditions — is the request of the first attempt. -/
theorem all_attempts_same_wire (p : Policy ReqState) (c : ClientCfg) (hx : c.isXML c.jsonCT = false)
    (st : ReqState) (script : List Outcome)
    (hhooks : ∀ x ∈ p.hooks, ∀ o s, x.2 o s = s) (hct : st.contract = true) :
    ∀ x ∈ wires (run R p (Attempt.mw R c) (unreplayable R st) script st).events, x.2 = build R c st 0 := by
  unfold run
  split
  · simp [wires]
  · rename_i hc
    exact wires_same_aux p c hx st hhooks hct (run_not_refused p hc) script 0 st none rfl

/-- The per-attempt request pipeline (parseRequestHeader,
parseRequestCookie, parseRequestURL, parseRequestBody with the multipart / form / marshal
handlers) is idempotent on the request state: preparing an already prepared request — for
whichever attempt numbers — returns the same state AND the same request on the wire: URL (path
parameters of both levels, base URL, scheme), raw query + merged query parameters, headers
(order keys included: they travel in `r.Headers`), cookies, and every body kind.  This is the
reason every attempt sends the same bytes; `hx` is the one law about the environment
(`util.IsXMLType` does not hold of the JSON content type the pipeline itself stores). -/
theorem prepare_idempotent (c : ClientCfg) (hx : c.isXML c.jsonCT = false) (j k : Nat) (st : ReqState)
    (hr : unreplayable R st = false) (hct : st.contract = true) :
    Attempt.mw R c (k + 1) (Attempt.mw R c j st).1 = Attempt.mw R c j st := mw_fix c hx j k st hr hct

/-- What every attempt's URL and query are: functions of what the CALLER set (`RawURL`, path
parameters of both levels, `BaseURL`, scheme, query parameters of both levels) — untouched by
the attempts. -/
theorem url_every_attempt (c : ClientCfg) (hx : c.isXML c.jsonCT = false) (st : ReqState)
    (hr : unreplayable R st = false) (hct : st.contract = true) (k : Nat) :
    (build R c st k).url = urlOf c st ∧
    (build R c st k).query = st.rawQuery.map (fun p => (p.1, [p.2])) ++ mergeQuery c.query st.query := by
  rw [build_eq_first c hx st hr hct k]
  exact ⟨rfl, rfl⟩

theorem jar_step (sets : List (List (Str × Str))) (jar0 : List (Str × Str)) (k : Nat) :
    jarBefore sets jar0 (k + 1) = ((sets[k]?).getD []).foldl jarSet (jarBefore sets jar0 k) := by
  unfold jarBefore
  rw [List.take_add_one, List.foldl_append]
  cases h : sets[k]? <;> simp

/-- On the wire, attempt `k+1` is attempt `k` with the jar
brought up to date by the `Set-Cookie`s of response `k` — and nothing else; without a
`Set-Cookie` in response `k` the two are equal byte for byte. -/
theorem attempts_identical_modulo_jar (c : ClientCfg) (hx : c.isXML c.jsonCT = false) (st : ReqState)
    (hr : unreplayable R st = false) (hct : st.contract = true) (sets : List (List (Str × Str))) (jar0 : List (Str × Str)) (k : Nat) :
    withJar (build R c st (k + 1)) (jarBefore sets jar0 (k + 1)) =
      withJar (build R c st k) (((sets[k]?).getD []).foldl jarSet (jarBefore sets jar0 k)) ∧
    ((sets[k]?).getD [] = [] →
      withJar (build R c st (k + 1)) (jarBefore sets jar0 (k + 1)) =
        withJar (build R c st k) (jarBefore sets jar0 k)) := by
  rw [attempts_identical c hx st hr hct k, jar_step]
  refine ⟨rfl, ?_⟩
  intro h
  rw [h]
  rfl

/-- `Do` refuses exactly the requests the identity theorem excludes (when a retry can follow). -/
theorem refused_iff_unreplayable (p : Policy ReqState) (c : ClientCfg) (st : ReqState)
    (script : List Outcome) (he : p.enabled = true) (hn : p.maxRetries ≠ 0) :
    (run R p (Attempt.mw R c) (unreplayable R st) script st).final = .refused ↔ unreplayable R st = true := by
  constructor
  · intro h
    by_cases hu : unreplayable R st = true
    · exact hu
    · -- the loop itself never answers `refused`
      rw [run, if_neg (by simp [hu])] at h
      rcases loop_final p (Attempt.mw R c) script 0 st none with h' | ⟨_, _, h'⟩ <;> cases h'.symm.trans h
  · intro hu
    simp [run, he, hn, hu]

end wire

section backoff
open Req.Backoff Req.Lemmas.C10Backoff

/-- For `0 < min`, `2ns ≤ max` (`min ≤ max` is not assumed) and attempt numbers `≥ 1` (the loop
passes 1, 2, …) the interval never panics and lies in `[half, 2·half)` with
`half = ⌊min(max, min·2^attempt)/2⌋ ≥ 1`, hence below `max`; and it is at least `min` whenever
`2·min ≤ max`.  Whatever the jitter, with or without the C10-4 guard. -/
theorem backoff_bounds (guard : Bool) (mn mx : Int) (a jitter : Nat)
    (hmin : 0 < mn) (hmax : 2 ≤ mx) (ha : 1 ≤ a) :
    ∃ d, interval guard mn mx a jitter = .ok d ∧
      0 < half mn mx a ∧ half mn mx a ≤ d ∧ d < 2 * half mn mx a ∧ 2 * half mn mx a ≤ mx ∧
      (2 * mn ≤ mx → mn ≤ d) := by
  have h1 := temp_le mn mx a
  have h2 := temp_bounds mn mx a hmin ha
  have hdiv : half mn mx a = temp mn mx a / 2 := Int.tdiv_eq_ediv_of_nonneg (by omega)
  have hmod := jitter_lt (half mn mx a) jitter (by omega)
  refine ⟨half mn mx a + (jitter % (half mn mx a).toNat : Nat), ?_, by omega⟩
  simp only [interval]
  rw [if_neg (by omega)]

/-- Outside that domain the code as found panics in `rand.Int63n(0)`: `min = 0` … -/
theorem asFound_backoff_panics_min0 : interval false 0 1000000000 1 0 = .panic := by decide
/-- … a `max` below 2ns … -/
theorem asFound_backoff_panics_small_max : interval false 1 1 1 0 = .panic := by decide
/-- … `max < min` with a zero cap, and negative bounds. -/
theorem asFound_backoff_panics_zero_cap : interval false 1000000000 0 3 0 = .panic := by decide
theorem asFound_backoff_panics_negative : interval false (-5) 100 2 7 = .panic := by decide

/-- With fixes/C10-4 the function is total: it answers 0 where the code as found panics. -/
theorem repaired_backoff_total (mn mx : Int) (a jitter : Nat) :
    ∃ d, interval true mn mx a jitter = .ok d ∧ 0 ≤ d := by
  unfold interval
  simp only
  split
  · exact ⟨0, rfl, by omega⟩
  · exact ⟨_, rfl, by omega⟩

example : interval true 0 1000000000 1 0 = .ok 0 := by decide
example : interval false 100 1000 2 7 = .ok 207 := by decide
example : interval false 100 1000 9 499 = .ok 999 := by decide

end backoff

section policy

theorem clone_id (o : Option RetryOption) : RetryOption.clone o = o := by
  cases o <;> simp [RetryOption.clone]

/-- A request starts from the client's policy exactly as the client-level setters left it;
request-level setters then act on the request's own copy. -/
theorem effective_eq (cops rops : List Setter) :
    effective cops rops = (cops ++ rops).foldl Setter.apply none := by
  simp [effective, clone_id, List.foldl_append]

theorem fold_addCond (o : RetryOption) (adds : List Nat) :
    (adds.map Setter.addCond).foldl Setter.apply (some o) = some { o with conds := o.conds ++ adds } := by
  induction adds generalizing o with
  | nil => simp
  | cons a t ih => simp [Setter.apply, ih, List.append_assoc]

theorem fold_addHook (o : RetryOption) (adds : List Nat) :
    (adds.map Setter.addHook).foldl Setter.apply (some o) = some { o with hooks := o.hooks ++ adds } := by
  induction adds generalizing o with
  | nil => simp
  | cons a t ih => simp [Setter.apply, ih, List.append_assoc]

/-- `SetRetryCondition` replaces every condition registered before it — client-level ones
included; conditions added afterwards are appended. -/
theorem setCond_overrides (cops rops : List Setter) (c : Nat) (adds : List Nat) :
    (effective cops (rops ++ [.setCond c] ++ adds.map .addCond)).map (·.conds) = some (c :: adds) := by
  rw [effective_eq]
  simp only [← List.append_assoc, List.foldl_append, List.foldl_cons, List.foldl_nil]
  generalize List.foldl Setter.apply none (cops ++ rops) = o
  simp [Setter.apply, fold_addCond]

theorem setHook_overrides (cops rops : List Setter) (h : Nat) (adds : List Nat) :
    (effective cops (rops ++ [.setHook h] ++ adds.map .addHook)).map (·.hooks) = some (h :: adds) := by
  rw [effective_eq]
  simp only [← List.append_assoc, List.foldl_append, List.foldl_cons, List.foldl_nil]
  generalize List.foldl Setter.apply none (cops ++ rops) = o
  simp [Setter.apply, fold_addHook]

/-- `AddRetryCondition` at request level keeps the client-level conditions in front (they are
therefore asked AFTER the request-level ones: evaluation is last-to-first). -/
theorem addCond_keeps_client (cops : List Setter) (o : RetryOption) (adds : List Nat)
    (h : cops.foldl Setter.apply none = some o) :
    (effective cops (adds.map .addCond)).map (·.conds) = some (o.conds ++ adds) := by
  simp [effective, clone_id, h, fold_addCond]

/-- The last count set wins, at whichever level. -/
theorem count_last_wins (cops rops : List Setter) (n : Int) :
    (effective cops (rops ++ [.count n])).map (·.maxRetries) = some n := by
  rw [effective_eq]
  simp only [← List.append_assoc, List.foldl_append, List.foldl_cons, List.foldl_nil]
  generalize List.foldl Setter.apply none (cops ++ rops) = o
  simp [Setter.apply]

/-- Without any setter at either level the request has no retry option: exactly one attempt. -/
theorem no_setter_no_option : effective [] [] = none := rfl

/-- Conditions are asked last-registered-first, and only until one says yes: the condition
events of one pass are the refusals of the trailing conditions followed by the first yes. -/
theorem conds_last_to_first {W : Type} (ob : Obs) (cs : List (Nat × (Obs → Bool))) :
    (evalConds (W := W) ob cs).1 =
      ((cs.takeWhile fun c => !c.2 ob).map fun c => Event.cond c.1 ob false) ++
      (match cs.find? fun c => c.2 ob with
       | some c => [Event.cond c.1 ob true]
       | none => []) := by
  induction cs with
  | nil => simp [evalConds]
  | cons c t ih =>
    obtain ⟨id, f⟩ := c
    unfold evalConds
    by_cases h : f ob = true
    · simp [h]
    · have h' : f ob = false := by simpa using h
      simp [h', ih]

end policy

section witnesses
open Req.Attempt

/-- a client with cookie `a=1` and form field `k=v` -/
def exCfg : ClientCfg :=
  { cookies := [([97], [49])], headers := [([88], [[49]])], form := [([107], [[118]])], query := [],
    allowGetPayload := true, detect := fun _ => [116], boundaryCT := [66], formCT := [70], jsonCT := [74],
    ctKey := [67], mGet := [71], mHead := [72], mOptions := [79],
    isXML := fun ct => ct == [88], pathParams := [([105], [55])], baseURL := [98], schemePrefix := [115] }

/-- `POST` with request cookie `r=2`, no body of its own -/
def exReq : ReqState :=
  { method := [80], urlHead := .rel, path := [.lit [47, 117, 47], .param [105]], rawQuery := [([113], [49])],
    pathParams := [], cookies := [([114], [50])], headers := [], form := [], ordered := [],
    query := [], multipart := false, files := [], body := .none }

/-- a multipart upload through `SetFileReader(strings.NewReader("x"))` -/
def exUpload : ReqState :=
  { exReq with multipart := true, files := [⟨[112], [110], [], .seeker [120] false⟩] }

/-- row 2: the client cookie is sent once, twice, three times -/
theorem asFound_cookie_dup :
    (build .asFound exCfg exReq 0).cookies = [([114], [50]), ([97], [49])] ∧
    (build .asFound exCfg exReq 1).cookies = [([114], [50]), ([97], [49]), ([97], [49])] ∧
    (build .asFound exCfg exReq 2).cookies = [([114], [50]), ([97], [49]), ([97], [49]), ([97], [49])] := by
  decide

/-- row 3: `k=v` becomes `k=v&k=v` on the retry -/
theorem asFound_form_dup :
    (build .asFound exCfg exReq 0).body = .form [([107], [[118]])] ∧
    (build .asFound exCfg exReq 1).body = .form [([107], [[118], [118]])] := by
  decide

/-- C10-6: the reader upload is sent empty on the retry -/
theorem asFound_upload_emptied :
    (build .asFound { exCfg with form := [] } exUpload 0).body = .multipart [] [⟨[112], [110], [116], [120]⟩] ∧
    (build .asFound { exCfg with form := [] } exUpload 1).body = .multipart [] [⟨[112], [110], [116], []⟩] := by
  decide

/-- rows 2/3 as failures of idempotence: preparing the prepared request changes the wire -/
theorem asFound_not_idempotent :
    (Attempt.mw .asFound exCfg 1 (Attempt.mw .asFound exCfg 0 exReq).1).2 ≠ (Attempt.mw .asFound exCfg 0 exReq).2 ∧
    (Attempt.mw R exCfg 1 (Attempt.mw R exCfg 0 exReq).1) = Attempt.mw R exCfg 0 exReq := by
  decide

/-- URL building: relative `RawURL` `/u/{i}` + `BaseURL` `b`, the client-level path parameter
`i = 7` fills the placeholder, the raw query `q=1` stays in front — in every attempt -/
example : (build R exCfg exReq 3).url = [98, 47, 117, 47, 55] ∧
    (build R exCfg exReq 3).query = [([113], [[49]])] := by decide
/-- … a request-level parameter wins; an unfilled placeholder stays -/
example : urlOf exCfg { exReq with pathParams := [([105], [56])] } = [98, 47, 117, 47, 56] ∧
    urlOf { exCfg with pathParams := [] } exReq = [98, 47, 117, 47, 123, 105, 125] := by decide
/-- the jar: response 0 sets `s=1`, response 1 replaces it and adds `t=2`, response 2 expires `s` -/
example : jarBefore [[([115], [49])], [([115], [51]), ([116], [50])], [([115], [])]] [] 1 = [([115], [49])] ∧
    jarBefore [[([115], [49])], [([115], [51]), ([116], [50])], [([115], [])]] [] 2 = [([115], [51]), ([116], [50])] ∧
    jarBefore [[([115], [49])], [([115], [51]), ([116], [50])], [([115], [])]] [] 3 = [([116], [50])] ∧
    (withJar (build R exCfg exReq 1) (jarBefore [[([115], [49])]] [] 1)).cookies =
      [([114], [50]), ([97], [49]), ([115], [49])] := by decide
/-- XML marshalling: with an XML content type in force the XML marshaller's output is sent, in
every attempt; without any, JSON and the JSON content type -/
example : (build R { exCfg with form := [] } { exReq with headers := [([67], [[88]])], body := .marshal [106] [120] } 2).body = .raw [120] ∧
    (build R { exCfg with form := [] } { exReq with body := .marshal [106] [120] } 2).body = .raw [106] := by decide

/-- the repaired middleware on the same inputs (instances of `attempts_identical`) -/
example : build R exCfg exReq 2 = build R exCfg exReq 0 := by decide
example : build R exCfg exUpload 1 = build R exCfg exUpload 0 := by decide
example : unreplayable R exReq = false ∧ unreplayable R exUpload = false := by decide
example : (build R exCfg exReq 1).cookies = [([114], [50]), ([97], [49])] := by decide
/-- a non-rewindable reader upload and an `io.Reader` body are what `Do` refuses -/
example : unreplayable R { exUpload with files := [⟨[112], [110], [], .stream [120] false⟩] } = true := by decide
example : unreplayable R { exReq with body := .reader [120] false } = true := by decide

/-- a policy over a trivial request state: `SetRetryCount(2)`, default rule -/
def exPolicy (after : List (Obs → Bool)) : Policy Unit :=
  ⟨true, 2, [], [(0, fun _ s => s), (1, fun _ s => s)], after, .fixed 0⟩
def exMw : Nat → Unit → Unit × Nat := fun ra s => (s, ra)

/-- row 4: with a request-level response middleware that returns nil, two transport errors
lead to ONE attempt under the code as found; the specification (and the repaired code) make
three. -/
theorem asFound_after_erases_err :
    iterations (loop .asFound (exPolicy [fun _ => false]) exMw [.transportErr, .transportErr, .status 200] 0 () none).1 = 1 ∧
    specAttempts (exPolicy [fun _ => false]) [.transportErr, .transportErr, .status 200] 0 = 3 ∧
    iterations (loop R (exPolicy [fun _ => false]) exMw [.transportErr, .transportErr, .status 200] 0 () none).1 = 3 := by
  decide

/-- row 6: a `(nil, err)` round trip with a retry due dereferences nil under the code as found;
the repaired code retries and returns the second attempt's response. -/
theorem asFound_nil_resp_panics :
    (loop .asFound (exPolicy []) exMw [.nilResp, .status 200] 0 () none).2 = .panic ∧
    (loop R (exPolicy []) exMw [.nilResp, .status 200] 0 () none).2 = .done (some ⟨1, .status 200, none⟩) none := by
  decide

/-- non-vacuity of `hooks_once_per_retry`: two retries, hooks 1 then 0 each time, attempts 1 and 2 -/
example : calls (loop R (exPolicy []) exMw [.transportErr, .deadline, .status 200] 0 () none).1 =
    [.hook 1 1, .hook 0 1, .interval 1, .hook 1 2, .hook 0 2, .interval 2] := by decide
/-- … of `attempts_bound`: five failures, count 2, three attempts -/
example : iterations (run R (exPolicy []) exMw false
    [.transportErr, .transportErr, .transportErr, .transportErr, .transportErr] ()).events = 3 := by decide
/-- … of `retry_iff`: a cancelled context stops the loop although retries are left -/
example : iterations (loop R (exPolicy []) exMw [.transportErr, .cancelled, .status 200] 0 () none).1 = 2 := by
  decide
/-- … of `stops_when_context_done` / `hooks_once_per_retry` with an interrupted wait: the deadline
of the request's context passes during attempt 0; the default rule asks for a retry, hooks and
interval function run once, the wait finds the context done: one attempt, although 2 retries
are left, and the context's error is returned -/
example : iterations (loop R (exPolicy []) exMw [.deadlineCtx, .status 200] 0 () none).1 = 1 ∧
    calls (loop R (exPolicy []) exMw [.deadlineCtx, .status 200] 0 () none).1 =
      [.hook 1 1, .hook 0 1, .interval 1] ∧
    ((loop R (exPolicy []) exMw [.deadlineCtx, .status 200] 0 () none).2).returned =
      some (some (0, .noHttp), some (0, .waitCtx)) := by decide
/-- … the same for a context cancelled after a 503 that a condition wants retried -/
example : iterations (loop R (⟨true, -1, [(0, fun o => o.resp == .status 503)], [], [], .fixed 0⟩ : Policy Unit) exMw
    [.status 503, .lateCancel 503, .status 200] 0 () none).1 = 2 := by decide
/-- … of `result_is_last` -/
example : ((loop R (exPolicy []) exMw [.transportErr, .badBody 500, .transportErr, .status 200] 0 () none).2).returned
    = some (some (2, .noHttp), some (2, .transport)) := by decide
/-- … of `unbounded_when_negative`: count −1, nine failures, nine attempts and the script is exhausted -/
example : iterations (loop R (⟨true, -1, [], [], [], .dflt⟩ : Policy Unit) exMw
    (List.replicate 9 .transportErr) 0 () none).1 = 9 := by decide
/-- … of `unreplayable_fails_upfront` -/
example : (run R (exPolicy []) exMw true [.status 200] ()).final = .refused := by decide
/-- conditions override the default rule: a 503 is retried, a transport error is not -/
example : iterations (loop R (⟨true, 5, [(0, fun o => o.resp == .status 503)], [], [], .dflt⟩ : Policy Unit) exMw
    [.status 503, .status 503, .transportErr, .status 200] 0 () none).1 = 3 := by decide

end witnesses

end Req.Props.C10
