import Req.Lemmas.C03Enc
import Req.Props.C14Formats
import Req.Props.C03
import Req.Props.C03H2
import Req.Props.C03H3
import Req.Props.C04Conn
/-!
C03 — encoded bodies and over-long HTTP/1.1 responses.

**The two gzip laws** (`gz_err_surfaces` and `gz_prefix_free` of `Props/C03Gzip.lean`, there for
the toy codec) for the container model of `compress/gzip` of C14 (`Req.Client.CompressFormats`:
RFC 1952 members around RFC 1951 stored blocks as Go's readers read them, multistream, every header
field, CRC-32/ISIZE, for ANY check-sum function), which C14's `containers` lanes tie to the real
libraries; Huffman-coded blocks are outside that model:

* `gunzip_err_surfaces` — for EVERY byte string received (valid, damaged, cut anywhere, between
  members, empty) a source that ends with an error never reads as a clean end;
* `gunzip_prefix_free` — complete members followed by a strict non-empty prefix of one more never
  end cleanly, however the source ends;
* `gunzip_member_boundary` — complete members and then the source's own end: exactly their
  payloads, ending the way the SOURCE ends.  So a message cut exactly between two members is an
  error iff the framing layer under the decoder reports the cut — which is why the decoder must be
  installed AROUND the length-enforcing body (`h2_gzip_ok_complete`, `h3_gzip_ok_complete`).

**Decoded success implies framing-level completeness**, per protocol, unbounded (every
frame list / byte string / segmentation / read size): a decoded success comes from a framing-level
success (`h2_ok_complete` / `h3_ok_complete`: END_STREAM / FIN seen, whole frames, declared length
met exactly), and the decoded bytes are the container's meaning of exactly the body bytes.
HTTP/1.1: `h1_gzip_cut_never_success` (every strict prefix of a length/chunked response).

**Over-long HTTP/1.1 on a kept-open connection** (`overlong_h1_conn_not_reused`,
`overlong_h1_not_pooled`, `overlong_h1_next_request_fresh`), composing C04's
`unsolicited_bytes_not_in_previous` and `unsolicited_bytes_not_attributed`.
-/
namespace Req.Props.C03Enc
open Req.Proto Req.Compress Req.Compress.Fmt Req.Compress.Auto Req.H1 Req.C02 Req.C03
open Req.Props.C14Formats Req.Props.C03 Req.Props.C04 Req.Props.C03H2 Req.Props.C03H3

/-- `gz_err_surfaces` for the container model of `compress/gzip`, for every byte string received: a
source that ends with an error never reads as a clean end. -/
theorem gunzip_err_surfaces (S : Sums) (d : Bytes) (e : Nat) : (gunzip S (.err e) d).2 ≠ .eof :=
  gzip_verdict_err S _ (gzip_run_ok S d gInit gInit_ok) e

/-- `gz_prefix_free` for the container model of `compress/gzip` (any number of members in front,
any header fields, any block structure): complete members and then a strict non-empty prefix of one
more never end cleanly, however the source ends. -/
theorem gunzip_prefix_free (S : Sums) (ms : List Member) (hok : ∀ m ∈ ms, m.OK) (m : Member) (hm : m.OK)
    (p q : Bytes) (hw : m.bytes S = p ++ q) (hp : p ≠ []) (hq : q ≠ []) (fin : Term) :
    (gunzip S fin (wireOf S ms ++ p)).2 ≠ .eof := by
  obtain ⟨y, z, _, h⟩ := gunzip_truncated S ms hok m hm p q hw hp hq fin
  rw [h]
  cases fin <;> simp [noEOF]

/-- Cut exactly between two members (or behind the last): the payloads
so far, and the end of the SOURCE — an error iff the framing layer reports the cut. -/
theorem gunzip_member_boundary (S : Sums) (ms : List Member) (hok : ∀ m ∈ ms, m.OK) (fin : Term) :
    gunzip S fin (wireOf S ms) = (payloadOf ms, fin) := gunzip_members S ms hok fin

theorem decode_gzip (src : Src) : Enc.gzip.decode src = gunzip ieee src.fin src.data := rfl

/-- A decoder whose source ended with an error never yields a success. -/
theorem gzip_over_err_not_ok (st : Nat) (d : Bytes) (e : Nat) (status : Nat) (out : Bytes) :
    Enc.gzip.over st d (.err e) ≠ .ok status out := by
  have hs := gunzip_err_surfaces ieee d e
  unfold Enc.over
  rw [decode_gzip]
  rcases hg : gunzip ieee (.err e) d with ⟨o, t⟩
  rw [hg] at hs
  cases t with
  | eof => exact absurd rfl hs
  | err c => simp

/-- When the decoder yields a success, the source ended cleanly and the output is the container's meaning. -/
theorem gzip_over_ok (st : Nat) (d : Bytes) (fin : Term) (status : Nat) (out : Bytes)
    (h : Enc.gzip.over st d fin = .ok status out) :
    fin = .eof ∧ status = st ∧ gunzip ieee .eof d = (out, .eof) := by
  cases fin with
  | err e => exact absurd h (gzip_over_err_not_ok st d e status out)
  | eof =>
    unfold Enc.over at h
    rw [decode_gzip] at h
    rcases hg : gunzip ieee .eof d with ⟨o, t⟩
    rw [hg] at h
    cases t with
    | eof => simp at h; exact ⟨rfl, h.1.symm, by rw [h.2]⟩
    | err c => simp at h

/-- The body stops exactly between two gzip members and the
framing layer reports it (short of the declared length / reset / connection lost): a failure
after the payloads so far — not a clean shortened body. -/
theorem enc_short_at_member_boundary (st : Nat) (ms : List Member) (hok : ∀ m ∈ ms, m.OK) :
    Enc.gzip.over st (wireOf ieee ms) framingErr = .bodyFailed st (payloadOf ms) := by
  unfold Enc.over
  rw [decode_gzip]
  show (match gunzip ieee framingErr (wireOf ieee ms) with
    | (out, .eof) => EncOutcome.ok st out | (out, .err _) => .bodyFailed st out) = _
  rw [gunzip_member_boundary ieee ms hok]
  rfl

/-- Control: the whole body, the source ending cleanly: success with
exactly the payloads. -/
theorem enc_whole_members_ok (st : Nat) (ms : List Member) (hok : ∀ m ∈ ms, m.OK) :
    Enc.gzip.over st (wireOf ieee ms) .eof = .ok st (payloadOf ms) := by
  unfold Enc.over
  rw [decode_gzip]
  show (match gunzip ieee .eof (wireOf ieee ms) with
    | (out, .eof) => EncOutcome.ok st out | (out, .err _) => .bodyFailed st out) = _
  rw [gunzip_member_boundary ieee ms hok]

-- non-vacuity: two members (FHCRC, FEXTRA, FNAME, two blocks each); the whole decodes, the cut
-- between them with a framing error fails after the first payload
theorem demo_ok : ∀ m ∈ [demoMember, demoMember], m.OK := by
  intro m hm
  simp at hm
  subst hm
  exact demoMember_ok
example : Enc.gzip.over 200 (wireOf ieee [demoMember, demoMember]) .eof =
    .ok 200 (payloadOf [demoMember, demoMember]) := enc_whole_members_ok 200 _ demo_ok
example : Enc.gzip.over 200 (wireOf ieee [demoMember]) framingErr = .bodyFailed 200 (payloadOf [demoMember]) :=
  enc_short_at_member_boundary 200 _ (fun m hm => demo_ok m (by simp at hm; simp [hm]))

/-- A decoded success on HTTP/2 comes from a framing-level success, and the decoder ran exactly on a piped body. -/
theorem h2Enc_ok {x : H2X} {k status : Nat} {out : Bytes} (h : h2Enc .gzip x k = .ok status out) :
    ∃ body, x.outcome k = .ok status body ∧
      ∀ r, x.st.res = some r → r.body = .piped → gunzip ieee .eof body = (out, .eof) := by
  unfold h2Enc at h
  cases ho : x.outcome k with
  | pending => rw [ho] at h; cases h
  | callFailed r => rw [ho] at h; cases h
  | bodyBlocked a b => rw [ho] at h; cases h
  | bodyFailed st d e =>
    rw [ho] at h; simp only [] at h
    split at h
    · split at h
      · exact absurd h (gzip_over_err_not_ok st d _ status out)
      · cases h
    · cases h
  | ok st body =>
    obtain ⟨res, hr, _⟩ := outcome_ok ho
    rw [ho, hr] at h; simp only [] at h
    split at h
    · obtain ⟨_, rfl, hg⟩ := gzip_over_ok st body .eof status out h
      exact ⟨body, rfl, fun _ _ _ => hg⟩
    · next hp =>
      cases h
      exact ⟨_, rfl, fun r hr' hpi => by cases hr.symm.trans hr'; rw [hpi] at hp; exact absurd rfl hp⟩

/-- HTTP/2, any frame/event list: a DECODED success comes from a
framing-level success — so some frame carried END_STREAM, the body bytes are a prefix of the DATA
sent and are exactly as many as declared — and for a piped body the decoded bytes are the
container's meaning of exactly those bytes, the source having ended cleanly. -/
theorem h2_gzip_ok_complete (sid : Nat) (evs : List H2XEv) (k status : Nat) (out : Bytes)
    (h : h2Enc .gzip ((H2X.init sid false).run (evs.map .ev)).2 k = .ok status out) :
    ∃ body, ((H2X.init sid false).run (evs.map .ev)).2.outcome k = .ok status body ∧
      (∃ e ∈ evs, e.noES = false) ∧ body <+: dataOf evs ∧
      (∀ r n, ((H2X.init sid false).run (evs.map .ev)).2.st.res = some r → r.body = .piped →
        r.contentLength = some n → body.length = n) ∧
      (∀ r, ((H2X.init sid false).run (evs.map .ev)).2.st.res = some r → r.body = .piped →
        gunzip ieee .eof body = (out, .eof)) := by
  obtain ⟨body, ho, hg⟩ := h2Enc_ok h
  obtain ⟨h1, h2, h3⟩ := h2_ok_complete sid evs k status body ho
  exact ⟨body, ho, h1, h2, h3, hg⟩

/-- HTTP/3, any byte string on the stream, any segmentation: a DECODED
success comes from a framing-level success — the stream ended by FIN (with `h3_ok_complete`: whole
frames, body = exactly the DATA bytes, declared length met) — and the decoded bytes are the
container's meaning of exactly the body bytes. -/
theorem h3_gzip_ok_complete (isHead : Bool) (segs : List Bytes) (fin : NetEnd) (fls : List Fields)
    (maxH k status : Nat) (out : Bytes)
    (h : (h3Enc .gzip isHead segs fin fls maxH k).1 = .ok status out) :
    fin = .eof ∧ ∃ body, h3Outcome isHead segs fin fls maxH k = .ok status body ∧
      gunzip ieee .eof body = (out, .eof) := by
  unfold h3Enc at h
  simp only [] at h
  cases ho : h3Outcome isHead segs fin fls maxH k with
  | callFailed => rw [ho] at h; simp at h
  | bodyOpen a b => rw [ho] at h; simp at h
  | bodyFailed st d e =>
    rw [ho] at h
    exact absurd h (gzip_over_err_not_ok st d _ status out)
  | ok st body =>
    rw [ho] at h
    obtain ⟨_, rfl, hg⟩ := gzip_over_ok st body .eof status out h
    exact ⟨(h3_ok_complete isHead segs fin fls maxH k status body ho).1, body, rfl, hg⟩

/-- HTTP/1.1 under auto-decompression, Content-Length or chunked: a
complete response with nothing behind it, cut at ANY strict prefix — also exactly between two gzip
members, also before the first body byte: the call fails or the decoded body fails. -/
theorem h1_gzip_cut_never_success {B : Nat} {s : Bytes} {m : Msg} {b : BodyRes}
    (h : parseFinal false B s = .resp m b) (hf : m.framing ≠ .untilClose) (hrest : b.rest = [])
    (k : Nat) (hk : k < s.length) (status : Nat) (out : Bytes) :
    h1Enc .gzip B (s.take k) ≠ some (.ok status out) := by
  have hns := final_cut_never_success h hf hrest k hk
  unfold h1Enc
  cases hc : parseFinal false B (s.take k) with
  | reject => simp
  | resp m' b' =>
    rw [hc] at hns
    have hok : b'.ok = false := by
      cases hb : b'.ok with
      | false => rfl
      | true => simp [Outcome.isSuccess, hb] at hns
    simp only [hok, Bool.false_eq_true, if_false]
    intro hh
    exact gzip_over_err_not_ok _ _ _ status out (Option.some.inj hh)

/-- A complete keep-alive response `msg` (alone: delivered as `d`,
connection back in the idle pool with nothing left) with ANY non-empty surplus behind it on a
connection the peer keeps open: the delivery is still `d` — no surplus byte in it — and the
connection ends there: no later request, whatever the peer sends afterwards, is answered from it. -/
theorem overlong_h1_conn_not_reused {B : Nat} (q : ConnReq) (qs : List ConnReq) (msg extra : Bytes)
    (segs : List Bytes) {d : Delivery} (h : exchange B q msg = (d, some [])) (hx : extra ≠ []) :
    connTimed B (q :: qs) ((msg ++ extra) :: segs) = [d] :=
  unsolicited_bytes_not_attributed q qs (msg ++ extra) segs (unsolicited_bytes_not_in_previous h extra) hx

/-- At the Transport: after that exchange on a freshly dialled
connection no connection is idle (`cur = none`), whatever the script would still send. -/
theorem overlong_h1_not_pooled {B : Nat} (q : ConnReq) (msg extra : Bytes) (segs : List Bytes) (eof : Bool)
    (scs : List ConnScript) (n : Nat) {d : Delivery}
    (h : exchange B q msg = (d, some [])) (hx : extra ≠ []) :
    transportStep B q ⟨none, ⟨(msg ++ extra) :: segs, eof⟩ :: scs, n⟩ = (d, ⟨none, scs, n + 1⟩) := by
  have he := unsolicited_bytes_not_in_previous h extra
  have hne : (msg ++ extra).isEmpty = false := by
    cases extra with
    | nil => exact absurd rfl hx
    | cons a t => cases msg <;> rfl
  simp only [transportStep, dialAndServe, serveOn, hne, he, Bool.false_eq_true, if_false]
  cases extra with
  | nil => exact absurd rfl hx
  | cons a t => rfl

/-- After that exchange the next request is served by a NEW dial, from the next scripted
connection alone. -/
theorem overlong_h1_next_request_fresh {B : Nat} (q q2 : ConnReq) (msg extra : Bytes) (segs : List Bytes)
    (eof : Bool) (scs : List ConnScript) (n : Nat) {d : Delivery}
    (h : exchange B q msg = (d, some [])) (hx : extra ≠ []) :
    transportRun B [q, q2] ⟨none, ⟨(msg ++ extra) :: segs, eof⟩ :: scs, n⟩ =
      ([d, (dialAndServe B q2 ⟨none, scs, n + 1⟩).1], (dialAndServe B q2 ⟨none, scs, n + 1⟩).2.dials) := by
  simp only [transportRun, overlong_h1_not_pooled q msg extra segs eof scs n h hx]
  rfl

end Req.Props.C03Enc
