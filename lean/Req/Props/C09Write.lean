import Req.Pool.WriteTok

/-!
# C09 — the connection goes back to the pool on the report of ITS OWN request's write

`Req.Pool.WriteTok`: `pc.writeErrCh` as a one-slot channel of reports labelled (ghost) with the
request whose write they report.  For every sequence of requests on one connection, whatever the
timing of the reports (`late`) and whichever uploads are still being written when their response
is processed (`held`):
* `report_is_own` — every report `wroteRequest` consumes for request r is the report of r's write;
* `wrote_iff_written` — the check passes exactly when r's write is finished (so an upload answered
  early never sends its connection back to the pool); that a passed check leaves the channel clean
  is the helper `serveOne_written`;
* `fast_path_breaks` — with `Cfg.fastPath` (a body-less request passes without a token; `seeded/C09-r7-1`) both
  statements are false.
-/

namespace Req.Props.C09Write
open Req.Pool.WriteTok

theorem serveOne_written (s : St) (q : Rq) (hc : Clean s) (hh : q.held = false) :
    (serveOne {} s q).2 = true ∧ Clean (serveOne {} s q).1 ∧
      (serveOne {} s q).1.used = (q.id, q.id) :: s.used := by
  obtain ⟨h1, h2, h3⟩ := hc
  cases hl : q.late <;> simp [serveOne, step, check, Clean, h1, h2, h3, hh, hl]

theorem serveOne_held (s : St) (q : Rq) (hc : Clean s) (hh : q.held = true) :
    (serveOne {} s q).2 = false ∧ (serveOne {} s q).1.used = s.used := by
  obtain ⟨h1, h2, h3⟩ := hc
  cases hl : q.late <;> simp [serveOne, step, check, h1, h2, h3, hh, hl]

/-- The check passes exactly when the write of THIS request is finished. -/
theorem wrote_iff_written (s : St) (q : Rq) (hc : Clean s) :
    (serveOne {} s q).2 = !q.held := by
  cases hh : q.held
  · simpa using (serveOne_written s q hc hh).1
  · simpa using (serveOne_held s q hc hh).1

/-- Every consumed report is the report of the checking request's own write — for all request
sequences, all report timings, all held uploads. -/
theorem report_is_own (qs : List Rq) : ∀ (s : St), Clean s → (∀ p ∈ s.used, p.1 = p.2) →
    ∀ p ∈ (serve {} s qs).1.used, p.1 = p.2 := by
  induction qs with
  | nil => intro s _ hu; simpa [serve] using hu
  | cons q qs ih =>
    intro s hc hu
    cases hh : q.held
    · obtain ⟨hw, hc', hu'⟩ := serveOne_written s q hc hh
      simp only [serve, hw, if_true]
      exact ih _ hc' (by rw [hu']; exact List.forall_mem_cons.2 ⟨rfl, hu⟩)
    · obtain ⟨hw, hu'⟩ := serveOne_held s q hc hh
      simp only [serve, hw]
      exact hu' ▸ hu

/-- The verdicts of a whole sequence: `true` up to the first held upload, `false` there, nothing after. -/
theorem verdicts (qs : List Rq) : ∀ (s : St), Clean s →
    (serve {} s qs).2 = (qs.takeWhile (fun q => !q.held)).map (fun _ => true) ++
      (if qs.all (fun q => !q.held) then [] else [false]) := by
  induction qs with
  | nil => intro s _; simp [serve]
  | cons q qs ih =>
    intro s hc
    cases hh : q.held
    · obtain ⟨hw, hc', _⟩ := serveOne_written s q hc hh
      simp [serve, hw, hh, ih _ hc']
    · obtain ⟨hw, _⟩ := serveOne_held s q hc hh
      simp [serve, hw, hh]

/-- With `Cfg.fastPath`: a body-less request (`⟨id, held, late, bodyless⟩`) whose report is late passes without a token; the next
request — an upload still being written — consumes that report and its connection is reused. -/
theorem fast_path_breaks :
    let qs : List Rq := [⟨0, false, true, true⟩, ⟨1, true, false, false⟩]
    (serve ⟨true⟩ {} qs).2 = [true, true] ∧ (1, 0) ∈ (serve ⟨true⟩ {} qs).1.used := by
  decide

/-- non-vacuity: the same sequence on the code -/
example : (serve {} {} [⟨0, false, true, true⟩, ⟨1, true, false, false⟩]).2 = [true, false] := by decide

end Req.Props.C09Write
