import Req.Client.AttemptOrder
import Req.Props.C01Replay
/-!
C01 — `Transport.roundTrip`'s order of attempts (Alt-Svc transport → cached HTTP/2
connection → cached HTTP/3 connection → connection loop): for EVERY request, every outcome of every
stage, every number of body bytes each stage read before it gave up and every sequence of attempts
of the connection loop,

* `one_request_on_wire_per_success`: a call that succeeds had exactly one attempt answered by a
  server and it is the last attempt made; a call that fails had none (no stage's error falls through
  to a later stage that would send the request a second time);
* `attempts_start_at_body_start`: every attempt that reached a connection began with the body reader
  at the first byte of the described body (never a tail);
* `attempts_fidelity`: the server that answers receives exactly the described body.

Tied to the real `Transport.roundTrip` by the `attempts` lane.
-/
namespace Req.Props.C01Attempts
open Req.Proto Req.Replay Req.Attempts Req.Props.C01Replay

/-- the answered attempt, if any, is the last one; a call that did not succeed has none -/
def OneAnswered (res : Result) (w : List OnWire) : Prop :=
  (∀ b, res = .accepted b →
    ∃ init last, w = init ++ [last] ∧ last.answered = true ∧ ∀ e ∈ init, e.answered = false) ∧
  ((∀ b, res ≠ .accepted b) → ∀ e ∈ w, e.answered = false)

theorem oneAnswered_cons (res : Result) (st : Stage) (pos : Nat) (w : List OnWire)
    (h : OneAnswered res w) : OneAnswered res (⟨st, pos, false⟩ :: w) := by
  refine ⟨fun b hb => ?_, fun hn e he => ?_⟩
  · obtain ⟨init, last, hw, hl, hi⟩ := h.1 b hb
    refine ⟨⟨st, pos, false⟩ :: init, last, by rw [hw]; rfl, hl, fun e he => ?_⟩
    rcases List.mem_cons.mp he with rfl | h1
    · rfl
    · exact hi e h1
  · rcases List.mem_cons.mp he with rfl | h1
    · rfl
    · exact h.2 hn e h1

/-- a stage followed by what comes after it when it goes on -/
def andThen (x : Next × List OnWire) (k : Nat → Result × List OnWire) : Result × List OnWire :=
  match x with
  | (.done res, w) => (res, w)
  | (.goOn p, w) => ((k p).1, w ++ (k p).2)

theorem roundTrip_eq (fx : Fixes) (r : Req) (s : Script) :
    roundTrip fx r s =
      match s.altSvc with
      | .response => (.accepted (seenAt r 0), [⟨.altSvc, 0, true⟩])
      | .error _ => (.failed, [⟨.altSvc, 0, false⟩])
      | _ => andThen (stage fx r .h2Cached s.h2 0) fun p => andThen (stage fx r .h3Cached s.h3 p)
          fun p' => (h1Run fx r s.conns p', connTrace fx r s.conns p') := by
  unfold roundTrip
  cases s.altSvc <;> try rfl
  all_goals
    rcases stage fx r .h2Cached s.h2 0 with ⟨_ | p, w⟩
    · rfl
    · simp only [andThen]
      rcases stage fx r .h3Cached s.h3 p with ⟨_ | p', w'⟩ <;> simp

section Attempts
variable (fx : Fixes) (r : Req) (Pos : Nat → Prop) (P : Result → List OnWire → Prop)
  (hans : ∀ st pos, Pos pos → P (.accepted (seenAt r pos)) [⟨st, pos, true⟩])
  (hnone : ∀ res, (∀ b, res ≠ .accepted b) → P res [])
  (hcons : ∀ st pos res w, Pos pos → P res w → P res (⟨st, pos, false⟩ :: w))
include hans hnone hcons

/-- a stage in front of the connection loop, and what follows it -/
theorem stage_attempts (st : Stage) (t : Try) (pos : Nat) (hpos : Pos pos)
    (hrew : ∀ c touched p, t = .noConn c touched → h1Rewind fx r touched (pos + c) = some p → Pos p)
    (k : Nat → Result × List OnWire) (hk : ∀ p, Pos p → P (k p).1 (k p).2) :
    P (andThen (stage fx r st t pos) k).1 (andThen (stage fx r st t pos) k).2 := by
  cases t with
  | skipped => simpa [stage, andThen] using hk pos hpos
  | response => exact hans st pos hpos
  | error c => exact hcons st pos _ _ hpos (hnone _ nofun)
  | noConn c touched =>
    simp only [stage]
    cases hr : h1Rewind fx r touched (pos + c) with
    | none =>
      cases touched
      · exact hnone _ nofun
      · exact hcons st pos _ _ hpos (hnone _ nofun)
    | some p =>
      have := hk p (hrew c touched p rfl hr)
      cases touched
      · simpa [andThen] using this
      · exact hcons st pos _ _ hpos this

/-- the three rules of `conn_attempts` (`hans`, `hnone`, `hcons`) give a property of (result, attempts
on the wire) for every call of `roundTrip`, the stages in front of the connection loop included. -/
theorem roundTrip_attempts (s : Script) (h0 : Pos 0)
    (h2 : ∀ c t pos p, s.h2 = .noConn c t → Pos pos → h1Rewind fx r t (pos + c) = some p → Pos p)
    (h3 : ∀ c t pos p, s.h3 = .noConn c t → Pos pos → h1Rewind fx r t (pos + c) = some p → Pos p)
    (hc : ∀ a ∈ s.conns, ∀ pos p, Pos pos → h1Rewind fx r a.touched (pos + a.consumed) = some p → Pos p) :
    P (roundTrip fx r s).1 (roundTrip fx r s).2 := by
  have hrest := stage_attempts fx r Pos P hans hnone hcons .h2Cached s.h2 0 h0
    (fun c t p e => h2 c t 0 p e h0)
    (fun p => andThen (stage fx r .h3Cached s.h3 p)
      fun p' => (h1Run fx r s.conns p', connTrace fx r s.conns p'))
    fun p hp => stage_attempts fx r Pos P hans hnone hcons .h3Cached s.h3 p hp
      (fun c t p' e => h3 c t p p' e hp) (fun p' => (h1Run fx r s.conns p', connTrace fx r s.conns p'))
      fun p' hp' => conn_attempts fx r Pos P hans hnone hcons s.conns p' hp' hc
  rw [roundTrip_eq]
  cases s.altSvc with
  | response => exact hans _ _ h0
  | error c => exact hcons _ _ _ _ h0 (hnone _ nofun)
  | skipped => exact hrest
  | noConn c t => exact hrest

end Attempts

/-- for every request, every script of stage outcomes and
connection-loop attempts (and with or without the repairs of findings C01-2 / C01-3): when
`Transport.roundTrip` returns a response exactly one attempt was answered by a server and it is the
LAST attempt that reached a connection; when it returns an error (or is still under way) no attempt
was answered. In particular an error of the Alt-Svc transport or of a cached HTTP/2 / HTTP/3
connection is never followed by a second transmission on another stage. -/
theorem one_request_on_wire_per_success (fx : Fixes) (r : Req) (s : Script) :
    OneAnswered (roundTrip fx r s).1 (roundTrip fx r s).2 :=
  roundTrip_attempts fx r (fun _ => True) OneAnswered
    (fun st pos _ => ⟨fun _ _ => ⟨[], ⟨st, pos, true⟩, rfl, rfl, nofun⟩, fun hn => absurd rfl (hn _)⟩)
    (fun _ hres => ⟨fun b hb => absurd hb (hres b), fun _ => nofun⟩)
    (fun st pos res w _ => oneAnswered_cons res st pos w)
    s trivial (fun _ _ _ _ _ _ _ => trivial) (fun _ _ _ _ _ _ _ => trivial) (fun _ _ _ _ _ _ => trivial)

/-- with the repairs C01-2 / C01-3: every attempt that reached a
connection — on the Alt-Svc transport, a cached HTTP/2 or HTTP/3 connection or in the connection
loop, answered or not — began with the body reader at the start of the described body (or the
request has no body): what a server saw of the request was never the tail of a body another attempt
had started to read. -/
theorem attempts_start_at_body_start (r : Req) (s : Script) (hwf : s.wf) :
    (∀ e ∈ (roundTrip Fixes.all r s).2, AtStart r e.pos) ∧
    (∀ b, (roundTrip Fixes.all r s).1 = .accepted b → b = described r) :=
  roundTrip_attempts Fixes.all r (AtStart r)
    (fun res w => (∀ e ∈ w, AtStart r e.pos) ∧ ∀ b, res = .accepted b → b = described r)
    (fun st pos hpos => ⟨fun e he => List.mem_singleton.mp he ▸ hpos,
      fun b hb => Result.accepted.inj hb ▸ seen_atStart r pos hpos⟩)
    (fun res hres => ⟨nofun, fun b hb => absurd hb (hres b)⟩)
    (fun st pos res w hpos h => ⟨fun e he => by
      rcases List.mem_cons.mp he with rfl | he
      · exact hpos
      · exact h.1 e he, h.2⟩)
    s (Or.inr rfl)
    (fun c t pos p e hpos => rewind_atStart r t pos c p hpos (by have := hwf.1; rwa [e] at this))
    (fun c t pos p e hpos => rewind_atStart r t pos c p hpos (by have := hwf.2.1; rwa [e] at this))
    (fun a ha pos p hpos => rewind_atStart r a.touched pos a.consumed p hpos (hwf.2.2 a ha))

/-- the server that answers receives exactly the described body. -/
theorem attempts_fidelity (r : Req) (s : Script) (hwf : s.wf) (b : Bytes)
    (h : (roundTrip Fixes.all r s).1 = .accepted b) : b = described r :=
  (attempts_start_at_body_start r s hwf).2 b h

/-- non-vacuity: a cache miss on HTTP/2 and HTTP/3, then a reused HTTP/1.1 connection the peer closed
after 3 body bytes, then a fresh connection that answers: one answered attempt, the last, with the
whole body; an error on the cached HTTP/2 connection ends the call — nothing is sent on HTTP/1.1. -/
example :
    roundTrip Fixes.all { kind := .rewindable, data := [1, 2, 3, 4], idempotent := true }
      ⟨.skipped, .noConn 0 false, .noConn 0 false,
        [⟨true, some .readFromServer, 3, true⟩, ⟨false, none, 0, false⟩]⟩ =
      (.accepted [1, 2, 3, 4], [⟨.conn, 0, false⟩, ⟨.conn, 0, true⟩]) ∧
    roundTrip Fixes.all { kind := .rewindable, data := [1, 2, 3, 4], idempotent := true }
      ⟨.skipped, .error 2, .skipped, [⟨false, none, 0, false⟩]⟩ = (.failed, [⟨.h2Cached, 0, false⟩]) := by
  decide +kernel

/-- the code as found (finding C01-2: a one-shot body advertised as rewindable): a cached connection
that read 3 bytes before reporting a miss leaves the tail for HTTP/1.1 -/
example :
    roundTrip Fixes.asFound { kind := .oneShot, data := [1, 2, 3, 4], idempotent := true }
      ⟨.skipped, .noConn 3 true, .skipped, [⟨false, none, 0, false⟩]⟩ =
      (.accepted [4], [⟨.h2Cached, 0, false⟩, ⟨.conn, 3, true⟩]) := by
  decide +kernel

end Req.Props.C01Attempts
