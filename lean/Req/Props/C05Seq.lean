import Req.Lemmas.C05Seq
import Req.Lemmas.C05ExceptEq
/-!
C05 — frame SEQUENCES through one Framer, in both directions.

Write side (`Req.H2.WriteSeq`: `Framer.wbuf`, `startWrite`, `endWrite`, every `Write*` entry point
statement by statement with its refusals before and AFTER `startWrite`, the underlying writer taking
all / fewer bytes / failing): every call is the stateless writer of `Req.H2.Frame`, whatever earlier
calls left behind. Read side (`checkFrameOrder` with PUSH_PROMISE / CONTINUATION exactly as
golang.org/x/net/http2, whose framer does not support continued PUSH_PROMISE blocks): a written
sequence is read back frame by frame up to the first frame the order automaton refuses.
-/
namespace Req.Props.C05
open Req.Proto Req.H2.Frame Req.Lemmas.C05.Seq

/-- one `Framer.Write*` call — whatever `AllowIllegalWrites`, whatever the underlying writer does,
whatever state (`wbuf` content) earlier calls left — returns the result of the stateless writer and
hands the underlying writer exactly that writer's frame. -/
theorem write_call_stateless (c : Call) (w : Writer) :
    (c.op.run c.allow c.sink w).1 = c.result ∧
    (c.op.run c.allow c.sink w).2.out = w.out ++ c.bytes := by
  have h := plan_run (c.op.plan c.allow) c.sink w
  rw [Req.Lemmas.C05.H2.plan_stateless] at h
  refine ⟨h.1, ?_⟩
  unfold WOp.run Call.bytes Call.frame
  rw [h.2]
  cases c.op.writeA c.allow with
  | ok b => rfl
  | error e => cases c.sink <;> simp [Sink.taken]

/-- a WriteHeaders refused AFTER `startWrite` (stream dependency 2^31) leaves ten bytes in `wbuf` … -/
example : (WOp.headers ⟨1, [7], false, true, 3, ⟨2147483648, false, 1⟩⟩).run false .full {} =
    (.refused .depStreamID, { wbuf := [0, 0, 0, 1, 44, 0, 0, 0, 1, 3], out := [] }) := by decide

/-- for every sequence of `Write*` calls on one Framer, from every initial state: the bytes that
reach the connection are the concatenation, in order, of the frames of the accepted calls (a refused
call contributes nothing, a short or failing underlying write its prefix), and the result of every
call is the stateless one. -/
theorem write_sequence_bytes (w : Writer) (calls : List Call) :
    (runCalls w calls).1 = calls.map Call.result ∧
    (runCalls w calls).2.out = w.out ++ (calls.map Call.bytes).flatten := by
  induction calls generalizing w with
  | nil => simp [runCalls]
  | cons c cs ih =>
    have hc := write_call_stateless c w
    have ih' := ih (c.op.run c.allow c.sink w).2
    simp only [runCalls, List.map_cons, List.flatten_cons]
    refine ⟨?_, ?_⟩
    · rw [ih'.1, hc.1]
    · rw [ih'.2, hc.2, List.append_assoc]

/-- … and the PING written next is byte-identical to a PING on a fresh Framer. -/
example : runCalls {} [⟨false, .full, .headers ⟨1, [7], false, true, 3, ⟨2147483648, false, 1⟩⟩⟩,
                        ⟨false, .full, .ping false [1, 2, 3, 4, 5, 6, 7, 8]⟩] =
    ([.refused .depStreamID, .ok],
     { wbuf := [0, 0, 8, 6, 0, 0, 0, 0, 0, 1, 2, 3, 4, 5, 6, 7, 8],
       out := [0, 0, 8, 6, 0, 0, 0, 0, 0, 1, 2, 3, 4, 5, 6, 7, 8] }) := by decide

/-- refused WritePushPromise (promised id 0), short underlying write of a SETTINGS ACK, then RST_STREAM -/
example : (runCalls {} [⟨false, .full, .pushPromise ⟨1, 0, [9], true, 0⟩⟩,
                         ⟨false, .short 4, .settingsAck⟩,
                         ⟨false, .full, .rstStream 3 8⟩]) =
    ([.refused .streamID, .shortWrite, .ok],
     { wbuf := [0, 0, 4, 3, 0, 0, 0, 0, 3, 0, 0, 0, 8],
       out := [0, 0, 0, 4] ++ [0, 0, 4, 3, 0, 0, 0, 0, 3, 0, 0, 0, 8] }) := by decide

/-- the connection sees the same bytes as if the refused calls had never been made. -/
theorem write_refused_no_trace (w : Writer) (calls : List Call) :
    (runCalls w calls).2.out = (runCalls w (calls.filter Call.accepted)).2.out := by
  rw [(write_sequence_bytes w calls).2, (write_sequence_bytes w _).2, filter_bytes]

example : (⟨false, .full, .windowUpdate 1 0⟩ : Call).accepted = false ∧
    (⟨true, .full, .windowUpdate 1 0⟩ : Call).accepted = true := by decide

/-- two Framers that differ only in what is left in `wbuf` behave the same on every call sequence.
-/
theorem write_wbuf_irrelevant (w w' : Writer) (calls : List Call) (h : w.out = w'.out) :
    (runCalls w calls).1 = (runCalls w' calls).1 ∧
    (runCalls w calls).2.out = (runCalls w' calls).2.out := by
  rw [(write_sequence_bytes w calls).1, (write_sequence_bytes w' calls).1, (write_sequence_bytes w calls).2,
    (write_sequence_bytes w' calls).2, h]
  exact ⟨rfl, rfl⟩

/-- the accepted operations of a call sequence, in order. -/
def acceptedOps (calls : List Call) : List WOp := (calls.filter Call.accepted).map (·.op)

/-- with `AllowIllegalWrites` off, an underlying writer that takes everything, and accepted calls on
the arguments a reader gives back (`WOp.Wf`), the output is the wire image `header ++ payload` of
the accepted operations, one after the other. -/
theorem write_sequence_wire (w : Writer) (calls : List Call)
    (hplain : ∀ c ∈ calls, c.allow = false ∧ c.sink = .full)
    (hwf : ∀ c ∈ calls, c.accepted = true → c.op.Wf) :
    (runCalls w calls).2.out = w.out ++ wire (acceptedOps calls) := by
  rw [(write_sequence_bytes w calls).2, ← filter_bytes, wire_eq_flatten, acceptedOps, List.map_map]
  congr 2
  refine List.map_congr_left fun c hc => ?_
  obtain ⟨hc, hacc⟩ := List.mem_filter.mp hc
  exact bytes_eq_wire c (hplain c hc).1 (hplain c hc).2 (hwf c hc hacc)

example : acceptedOps [⟨false, .full, .priority 1 ⟨2147483648, false, 0⟩⟩, ⟨false, .full, .settingsAck⟩]
    = [.settingsAck] := by decide

/-- one step of `checkFrameOrder`, completely, with PUSH_PROMISE and CONTINUATION exactly as in
golang.org/x/net/http2. Inside the header block of stream `l ≠ 0` a frame is accepted iff it is a
CONTINUATION on stream `l` (the block stays open iff END_HEADERS is clear) — every other frame type,
PUSH_PROMISE included, is a connection error. Outside a block a frame is accepted iff it is not a
CONTINUATION, and the state it leaves is the stream of a HEADERS frame without END_HEADERS, closed
for everything else: a PUSH_PROMISE never opens a block whatever its END_HEADERS flag, so any frame
after it is accepted iff it is not a CONTINUATION. -/
theorem order_automaton_push (l : Nat) (fh : FrameHeader) :
    (l ≠ 0 → ∀ l', orderStep l fh = some l' ↔
        fh.type = tContinuation ∧ fh.streamID = l ∧
          l' = if hasFlag fh.flags flagEndHeaders then 0 else l) ∧
    (∀ l', orderStep 0 fh = some l' ↔
        fh.type ≠ tContinuation ∧
          l' = if fh.type = tHeaders ∧ hasFlag fh.flags flagEndHeaders = false then fh.streamID else 0) ∧
    (fh.type = tPushPromise → orderStep 0 fh = some 0 ∧
        (l ≠ 0 → orderStep l fh = none) ∧
        ∀ next, (runOrder 0 [fh, next]).isSome ↔ next.type ≠ tContinuation) := by
  refine ⟨?_, ?_, ?_⟩
  · intro hl l'
    rw [Req.Lemmas.C05.H2.orderStep_open l fh hl]
    by_cases hc : fh.type = tContinuation ∧ fh.streamID = l
    · simp only [hc, and_self, if_true, Option.some.injEq, true_and]
      exact eq_comm
    · simp only [hc, if_false]
      constructor
      · intro h; cases h
      · intro h; exact absurd ⟨h.1, h.2.1⟩ hc
  · intro l'
    rw [Req.Lemmas.C05.H2.orderStep_closed fh]
    by_cases hc : fh.type = tContinuation
    · simp [hc]
    · simp only [hc, if_false, ne_eq, not_false_eq_true, true_and]
      split <;> simp [eq_comm]
  · intro hp
    have h0 : orderStep 0 fh = some 0 := by
      rw [Req.Lemmas.C05.H2.orderStep_closed fh]; simp [hp, tPushPromise, tContinuation, tHeaders]
    refine ⟨h0, ?_, ?_⟩
    · intro hl
      rw [Req.Lemmas.C05.H2.orderStep_open l fh hl]; simp [hp, tPushPromise, tContinuation]
    · intro next
      simp only [runOrder, h0]
      rw [Req.Lemmas.C05.H2.orderStep_closed next]
      by_cases hc : next.type = tContinuation
      · simp [hc]
      · simp only [hc, if_false]
        by_cases hh : next.type = tHeaders ∧ hasFlag next.flags flagEndHeaders = false
        · simp [hh, tHeaders, tContinuation]
        · simp [hh, hc]

/-- PUSH_PROMISE without END_HEADERS (flags 0) on stream 1, then a CONTINUATION on stream 1: refused;
then a PING: accepted; HEADERS without END_HEADERS then PUSH_PROMISE: refused. -/
example : (runOrder 0 [⟨4, 5, 0, 1⟩, ⟨0, 9, 4, 1⟩]).isSome = false ∧
    (runOrder 0 [⟨4, 5, 0, 1⟩, ⟨8, 6, 0, 0⟩]).isSome = true ∧
    (runOrder 0 [⟨0, 1, 0, 1⟩, ⟨4, 5, 4, 1⟩]).isSome = false := by decide

/-- any list of frames written on accepted arguments — every type, any interleaving, PUSH_PROMISE
with or without END_HEADERS, CONTINUATION anywhere — followed by any bytes, read by a reader in ANY
header-block state that takes the frame sizes: repeated `ReadFrame` returns `readSpec`, i.e. exactly
the frames of the operations in order up to the first one `checkFrameOrder` refuses, and there the
(terminal) connection error PROTOCOL_ERROR; when none is refused (`runOrder … = some l`) reading
goes on with the following bytes in state `l`. With `order_automaton` the second case is exactly
`Contiguous`. -/
theorem sequence_read_back (ops : List WOp) (hwf : ∀ a ∈ ops, a.Wf) (r : Reader) (rest : Bytes)
    (k : Nat) (hlegal : r.allowIllegalReads = false)
    (hfit : ∀ a ∈ ops, a.payload.length ≤ r.maxReadSize) :
    readAll (ops.length + k) r (wire ops ++ rest) =
      match runOrder r.lastHeaderStream (ops.map WOp.hdr) with
      | some l => readSpec r.lastHeaderStream ops ++ readAll k { r with lastHeaderStream := l } rest
      | none => readSpec r.lastHeaderStream ops :=
  readAll_wire ops hwf r rest k hlegal hfit

/-- PUSH_PROMISE without END_HEADERS, CONTINUATION, PING on the wire: the PUSH_PROMISE frame, then
the connection error — the PING is never returned. -/
example : readAll 5 { maxReadSize := 16384 }
    (wire [.pushPromise ⟨1, 2, [9], false, 0⟩, .continuation 1 true [7], .ping false [1, 2, 3, 4, 5, 6, 7, 8]]) =
    [.ok (.pushPromise ⟨5, 5, 0, 1⟩ 2 [9]), .error (.conn errProtocol)] := by decide

example : readSpec 0 [.headers ⟨1, [7], false, false, 0, Priority.zero⟩, .continuation 1 true [8], .settingsAck] =
    [.ok (.headers ⟨1, 1, 0, 1⟩ Priority.zero [7]), .ok (.continuation ⟨1, 9, 4, 1⟩ [8]),
     .ok (.settings ⟨0, 4, 1, 0⟩ [])] := by decide

/-- inside an open header block (stream `l ≠ 0`) the frame of EVERY writer entry point is refused
with the connection error PROTOCOL_ERROR, the reader state untouched — except `WriteContinuation` on
stream `l`, which is returned and closes the block iff it carries END_HEADERS. -/
theorem open_block_every_writer (a : WOp) (h : a.Wf) (r : Reader) (rest : Bytes)
    (hopen : r.lastHeaderStream ≠ 0) (hlegal : r.allowIllegalReads = false)
    (hfit : a.payload.length ≤ r.maxReadSize) :
    (∀ eh f, a = .continuation r.lastHeaderStream eh f →
      readFrame r (wire [a] ++ rest) =
        (.ok a.frame, { r with lastHeaderStream := if eh then 0 else r.lastHeaderStream }, rest)) ∧
    ((¬ ∃ eh f, a = .continuation r.lastHeaderStream eh f) →
      readFrame r (wire [a] ++ rest) = (.error (.conn errProtocol), r, rest)) := by
  have h1 := Req.Lemmas.C05.H2.read_one a h r rest hlegal hfit
  simp only [wire, List.append_nil]
  rw [h1, Req.Lemmas.C05.H2.orderStep_open _ _ hopen]
  constructor
  · intro eh f ha
    subst ha
    cases eh <;> simp [WOp.hdr, WOp.typ, WOp.sid, WOp.flags, b2n, hasFlag, flagEndHeaders]
  · intro hne
    have : ¬ (a.hdr.type = tContinuation ∧ a.hdr.streamID = r.lastHeaderStream) := by
      intro ⟨ht, hs⟩
      obtain ⟨sid, eh, f, rfl⟩ := (typ_continuation_iff a h).1 ht
      exact hne ⟨eh, f, by simp only [WOp.hdr, WOp.sid] at hs; rw [hs]⟩
    simp [this]

/-- a PUSH_PROMISE (with END_HEADERS) inside the open block of its own stream: refused. -/
example : readFrame { maxReadSize := 16384, lastHeaderStream := 3 }
    (wire [.pushPromise ⟨3, 2, [9], true, 0⟩]) =
    (.error (.conn errProtocol), { maxReadSize := 16384, lastHeaderStream := 3 }, []) := by decide

/-- a Framer that ran ANY sequence of `Write*` calls (from any state; `AllowIllegalWrites` off, the
underlying writer taking everything, the accepted calls on arguments a reader gives back), and a
reader in the initial state that takes the frame sizes: reading the connection returns exactly
`readSpec` of the ACCEPTED calls — the refused ones are invisible — and ends with `io.EOF` when the
order automaton accepted them all. -/
theorem framer_write_read_sequence (w : Writer) (calls : List Call) (r : Reader)
    (hw : w.out = [])
    (hplain : ∀ c ∈ calls, c.allow = false ∧ c.sink = .full)
    (hwf : ∀ c ∈ calls, c.accepted = true → c.op.Wf)
    (hstate : r.lastHeaderStream = 0) (hlegal : r.allowIllegalReads = false)
    (hfit : ∀ c ∈ calls, c.op.payload.length ≤ r.maxReadSize) :
    readAll ((acceptedOps calls).length + 1) r (runCalls w calls).2.out =
      match runOrder 0 ((acceptedOps calls).map WOp.hdr) with
      | some _ => readSpec 0 (acceptedOps calls) ++ [.error .eof]
      | none => readSpec 0 (acceptedOps calls) := by
  rw [write_sequence_wire w calls hplain hwf, hw, List.nil_append]
  have hmem : ∀ a ∈ acceptedOps calls, ∃ c ∈ calls, c.accepted = true ∧ c.op = a := by
    intro a ha
    simp only [acceptedOps, List.mem_map, List.mem_filter] at ha
    obtain ⟨c, ⟨hc, hacc⟩, rfl⟩ := ha
    exact ⟨c, hc, hacc, rfl⟩
  have h := sequence_read_back (acceptedOps calls)
    (fun a ha => by obtain ⟨c, hc, hacc, rfl⟩ := hmem a ha; exact hwf c hc hacc)
    r [] 1 hlegal
    (fun a ha => by obtain ⟨c, hc, _, rfl⟩ := hmem a ha; exact hfit c hc)
  rw [List.append_nil, hstate] at h
  rw [h]
  cases runOrder 0 ((acceptedOps calls).map WOp.hdr) with
  | none => rfl
  | some l => simp [readAll, readFrame, parseHeader, RErr.terminal]

example : readAll 3 { maxReadSize := 16384 }
    (runCalls {} [⟨false, .full, .headers ⟨1, [7], false, true, 3, ⟨2147483648, false, 1⟩⟩⟩,
                  ⟨false, .full, .ping true [1, 2, 3, 4, 5, 6, 7, 8]⟩]).2.out =
    [.ok (.ping ⟨8, 6, 1, 0⟩ [1, 2, 3, 4, 5, 6, 7, 8]), .error .eof] := by decide

end Req.Props.C05
