import Req.Client.AuthHeap
/-!
C20 — credentials over the life of a client (several requests, several attempts each, setters
between the attempts): the slices shared between `Client.Headers` and `Request.Headers` by
`parseRequestHeader` are never written through.
-/
namespace Req.Props.C20
open Req.Proto Req.Auth

theorem derefC_append (cells : List Bytes) (v : Bytes) (s : Option Nat)
    (h : ∀ r, s = some r → r < cells.length) : derefC (cells ++ [v]) s = derefC cells s := by
  cases s with
  | none => rfl
  | some r =>
    have := h r rfl
    simp [derefC, List.getElem?_append_left this]

theorem derefC_new (cells : List Bytes) (v : Bytes) : derefC (cells ++ [v]) (some cells.length) = some v := by
  simp [derefC]

theorem map_derefC_append (cells : List Bytes) (v : Bytes) (reqs : List (Option Nat))
    (h : ∀ s ∈ reqs, ∀ r, s = some r → r < cells.length) :
    reqs.map (derefC (cells ++ [v])) = reqs.map (derefC cells) := by
  apply List.map_congr_left
  intro s hs
  exact derefC_append cells v s (h s hs)

theorem derefC_inherit (cells : List Bytes) (slot client : Option Nat)
    (h : ∀ r, slot = some r → r < cells.length) :
    derefC cells (inherit slot client) = orElse (derefC cells slot) (derefC cells client) := by
  cases slot with
  | none => rfl
  | some r =>
    have hr := h r rfl
    simp [inherit, derefC, orElse, List.getElem?_eq_getElem hr]

/-- under `Header.Set` NO event ever changes a cell that exists: the heap only grows -/
theorem fresh_cells_immutable (h : Heap) (e : Ev) (r : Nat) (hlt : r < h.cells.length) :
    (step .fresh h e).1.cells[r]? = h.cells[r]? := by
  cases e with
  | client v => exact List.getElem?_append_left hlt
  | newReq => rfl
  | request i v =>
    simp only [step]
    cases h.reqs[i]? with
    | none => rfl
    | some slot => exact List.getElem?_append_left hlt
  | send i url =>
    simp only [step]
    cases h.reqs[i]? <;> rfl

/-- **request_setters_never_write_client** (heap level): a credential setter of a request — whatever
the request went through before: sent, sent again, sharing the client's slice since its first
attempt — leaves the client's reference where it is, writes NO cell that existed before (so none that
the client or another request can reach), and neither the client nor any request holds the reference
`h.cells.length`, which is the one `store .fresh` hands out for the new slice. Stated for a `WF` heap
(every reference points into the cells); for `i` out of range the step does nothing. -/
theorem request_setters_never_write_client (h : Heap) (hw : WF h) (i : Nat) (v : Bytes) :
    (step .fresh h (.request i v)).1.client = h.client ∧
    (∀ r, r < h.cells.length → (step .fresh h (.request i v)).1.cells[r]? = h.cells[r]?) ∧
    h.client ≠ some h.cells.length ∧ (∀ s ∈ h.reqs, s ≠ some h.cells.length) ∧
    derefC (step .fresh h (.request i v)).1.cells (step .fresh h (.request i v)).1.client = derefC h.cells h.client := by
  obtain ⟨hclient, hreqs⟩ := hw
  refine ⟨?_, fresh_cells_immutable h _, fun e => Nat.lt_irrefl _ (hclient _ e),
    fun s hs e => Nat.lt_irrefl _ (hreqs s hs _ e), ?_⟩
  · simp only [step]
    cases h.reqs[i]? <;> rfl
  · -- the new slice is appended to the cells: what the client's reference points to stays
    simp only [step]
    cases h.reqs[i]? with
    | none => rfl
    | some slot => exact derefC_append h.cells v h.client hclient

theorem wf_set (cells : List Bytes) (reqs : List (Option Nat)) (i : Nat) (s : Option Nat)
    (hr : ∀ x ∈ reqs, ∀ r, x = some r → r < cells.length) (hs : ∀ r, s = some r → r < cells.length) :
    ∀ x ∈ reqs.set i s, ∀ r, x = some r → r < cells.length := by
  intro x hx r e
  rcases List.mem_or_eq_of_mem_set hx with h | h
  · exact hr x h r e
  · exact hs r (h ▸ e)

/-- one step: the heap with its sharing does what the value-only description does -/
theorem step_refines (h : Heap) (hw : WF h) (e : Ev) :
    abs (step .fresh h e).1 = (stepPure (abs h) e).1 ∧
    (step .fresh h e).2 = (stepPure (abs h) e).2 ∧ WF (step .fresh h e).1 := by
  obtain ⟨hc, hr⟩ := hw
  -- references into the old heap stay good when a cell is appended; the new cell's is good
  have up : ∀ (v : Bytes) {s : Option Nat}, (∀ r, s = some r → r < h.cells.length) →
      ∀ r, s = some r → r < (h.cells ++ [v]).length := fun v _ hs r e => by
    rw [List.length_append]; exact Nat.lt_add_right _ (hs r e)
  have new : ∀ (v : Bytes) r, some h.cells.length = some r → r < (h.cells ++ [v]).length := fun v r e => by
    rw [List.length_append, ← Option.some.inj e]; exact Nat.lt_succ_self _
  cases e with
  | client v =>
    refine ⟨?_, rfl, new v, fun s hs => up v (hr s hs)⟩
    simp only [step, abs, stepPure]
    rw [derefC_new, map_derefC_append _ _ _ hr]
  | newReq =>
    refine ⟨by simp [step, abs, stepPure, derefC], rfl, hc, fun s hs => ?_⟩
    rcases List.mem_append.mp hs with hs | hs
    · exact hr s hs
    · rw [List.mem_singleton.mp hs]; nofun
  | request i v =>
    simp only [step, stepPure, abs, List.getElem?_map]
    cases hs : h.reqs[i]? with
    | none => exact ⟨rfl, rfl, hc, hr⟩
    | some slot =>
      refine ⟨?_, rfl, up v hc, wf_set _ _ _ _ (fun x hx => up v (hr x hx)) (new v)⟩
      simp only [store, Option.map_some]
      rw [derefC_append _ _ _ hc, List.map_set, derefC_new, map_derefC_append _ _ _ hr]
  | send i url =>
    simp only [step, stepPure, abs, List.getElem?_map]
    cases hs : h.reqs[i]? with
    | none => exact ⟨rfl, rfl, hc, hr⟩
    | some slot =>
      have hslot := hr slot (List.mem_of_getElem? hs)
      have hin : ∀ r, inherit slot h.client = some r → r < h.cells.length := by
        cases slot with
        | none => exact hc
        | some q => exact hslot
      simp only [Option.map_some, List.map_set, derefC_inherit _ _ _ hslot]
      exact ⟨trivial, trivial, hc, wf_set _ _ _ _ hr hin⟩

theorem wf_empty : WF {} := ⟨fun _ e => (by cases e), fun _ hs => (by cases hs)⟩

/-- **sharing_unobservable**: for EVERY sequence of events — any number of requests, attempts,
setters at both levels in any order, from any `WF` heap (the empty one is: `wf_empty`; steps keep it:
`step_refines`) — the values that leave with the attempts are those of the description without
references. -/
theorem sharing_unobservable : ∀ (es : List Ev) (h : Heap), WF h →
    abs (runFrom .fresh h es).1 = (runPure (abs h) es).1 ∧ (runFrom .fresh h es).2 = (runPure (abs h) es).2 := by
  intro es
  induction es with
  | nil => intro h _; exact ⟨rfl, rfl⟩
  | cons e es ih =>
    intro h hw
    obtain ⟨ha, ho, hw'⟩ := step_refines h hw e
    obtain ⟨i1, i2⟩ := ih _ hw'
    simp only [runFrom, runPure]
    rw [i1, i2, ha, ho]
    exact ⟨rfl, rfl⟩

theorem life_eq_pure (es : List Ev) : life .fresh es = (runPure {} es).2 :=
  (sharing_unobservable es {} wf_empty).2

def lastClient : List Ev → Option Bytes
  | [] => none
  | .client v :: es => orElse (lastClient es) (some v)
  | _ :: es => lastClient es

def countReqs : List Ev → Nat
  | [] => 0
  | .newReq :: es => countReqs es + 1
  | _ :: es => countReqs es

theorem runPure_append (p : Pure) (xs ys : List Ev) :
    runPure p (xs ++ ys) = ((runPure (runPure p xs).1 ys).1, (runPure p xs).2 ++ (runPure (runPure p xs).1 ys).2) := by
  induction xs generalizing p with
  | nil => rfl
  | cons e xs ih =>
    simp only [List.cons_append, runPure, ih]
    cases (stepPure p e).2 <;> rfl

theorem runPure_client_len : ∀ (es : List Ev) (p : Pure),
    (runPure p es).1.client = orElse (lastClient es) p.client ∧
    (runPure p es).1.reqs.length = p.reqs.length + countReqs es := by
  intro es
  induction es with
  | nil => intro p; exact ⟨rfl, rfl⟩
  | cons e es ih =>
    intro p
    obtain ⟨i1, i2⟩ := ih (stepPure p e).1
    simp only [runPure]
    rw [i1, i2]
    cases e with
    | client v => simp only [lastClient]; exact ⟨by cases lastClient es <;> rfl, rfl⟩
    | newReq => exact ⟨rfl, by simp only [stepPure, countReqs, List.length_append, List.length_singleton]; omega⟩
    | request i v | send i url =>
      simp only [stepPure, lastClient, countReqs]
      cases p.reqs[i]? <;> simp

/-- **other_requests_carry_common_credentials**: after ANY life of the client — requests sent with
the common credentials, given credentials of their own afterwards (retry hook, between two sends),
sent again, in any number and order — a NEW request of the client leaves with exactly the value of the
last client-level setter (or the URL's user information when there was none): nothing a request-level
setter did is seen by it. -/
theorem other_requests_carry_common_credentials (es : List Ev) (url : Option (Bytes × Bytes)) :
    life .fresh (es ++ [.newReq, .send (countReqs es) url]) =
      life .fresh es ++ [effective none (lastClient es) url] := by
  obtain ⟨hc, hl⟩ := runPure_client_len es {}
  rw [life_eq_pure, life_eq_pure, runPure_append, ← show _ = countReqs es from hl.trans (Nat.zero_add _),
    ← show _ = lastClient es from hc.trans (by cases lastClient es <;> rfl)]
  generalize (runPure {} es).1 = p
  simp only [runPure, stepPure, List.getElem?_append_right (Nat.le_refl _), Nat.sub_self,
    List.getElem?_cons_zero, orElse]
  cases p.client <;> rfl

/-- a request-level setter counts from the next attempt on, also on a request that was already sent
with the client's credentials -/
theorem own_credentials_from_next_attempt (es : List Ev) (i : Nat) (v : Bytes) (url : Option (Bytes × Bytes))
    (hi : i < countReqs es) :
    life .fresh (es ++ [.request i v, .send i url]) = life .fresh es ++ [some v] := by
  rw [← show _ = countReqs es from (runPure_client_len es {}).2.trans (Nat.zero_add _)] at hi
  rw [life_eq_pure, life_eq_pure, runPure_append]
  generalize (runPure {} es).1 = p at hi
  simp [runPure, stepPure, List.getElem?_eq_getElem hi, orElse, effective, List.getElem?_set_self hi]

/-- common credentials, request 0 sent, given its own value, sent again, then request 1 -/
def leakTrace (c x : Bytes) : List Ev :=
  [.client c, .newReq, .send 0 none, .request 0 x, .send 0 none, .newReq, .send 1 none]

example : life .fresh (leakTrace [99] [120]) = [some [99], some [120], some [99]] := by decide +kernel

/-- what the theorems exclude: were the request setter to overwrite the slice it holds, the write
would reach the client (shared since the first attempt) and request 1 would leave with request 0's
credentials -/
theorem in_place_store_leaks : life .inPlace (leakTrace [99] [120]) = [some [99], some [120], some [120]] := by
  decide +kernel

example : life .fresh ([.client [99], .newReq, .send 0 none, .request 0 [120], .send 0 none] ++
    [.newReq, .send 1 (some ([117], [112]))]) = [some [99], some [120], some [99]] := by
  rw [show (1 : Nat) = countReqs [.client [99], .newReq, .send 0 none, .request 0 [120], .send 0 none] from rfl,
    other_requests_carry_common_credentials]
  decide

end Req.Props.C20
