import Req.Pool.TlsFamily
/-!
# C12 — every member of a family of clients is governed by ITS OWN setters

`Client.Clone` leaves two live clients; both keep receiving setters in any interleaving.
Theorems about `Req.Pool.TLS.famRun` (model of the value semantics `Options.Clone` must
have: own `Certificates` slice, own `RootCAs` pool) and `presented` (which client
certificate a handshake sends). Tied to the code by lane `c12fam`.
-/
namespace Req.Props.C12
open Req.Pool.TLS

/-- One step seen from member `i`: its value changes exactly when the step is a setter with the
cursor on `i`, which is also when `ownOps` keeps the setter. -/
theorem famStep_member (f : Fam) (op : FOp) (i : Nat) (c : Option TlsCfg)
    (hc : f.members[i]? = some c) (hcur : f.cur < f.members.length) :
    ∃ c', (famStep f op).members[i]? = some c' ∧ (famStep f op).cur < (famStep f op).members.length ∧
      ∀ rest, run c (ownOps f.members.length f.cur i (op :: rest))
        = run c' (ownOps (famStep f op).members.length (famStep f op).cur i rest) := by
  have hi : i < f.members.length := (List.getElem?_eq_some_iff.mp hc).1
  cases op with
  | set o =>
    by_cases he : f.cur = i
    · subst he
      have hd : f.members[f.cur] = c := by simpa [hcur] using hc
      exact ⟨step c o, by simp [famStep, hcur, hd], by simp [famStep, hcur],
        fun rest => by simp [famStep, ownOps, hcur, hd, run]⟩
    · exact ⟨c, by simp [famStep, hcur, List.getElem?_set_ne he, hc], by simp [famStep, hcur],
        fun rest => by simp [famStep, hcur, ownOps, he]⟩
  | fork =>
    exact ⟨c, by simp [famStep, hcur, List.getElem?_append_left hi, hc], by simp [famStep, hcur]; omega,
      fun rest => by simp [famStep, ownOps, hcur]⟩
  | switch k =>
    by_cases hk : k < f.members.length
    · exact ⟨c, by simp [famStep, hk, hc], by simp [famStep, hk], fun rest => by simp [famStep, hk, ownOps]⟩
    · exact ⟨c, by simp [famStep, hk, hc], by simp [famStep, hk, hcur], fun rest => by simp [famStep, hk, ownOps]⟩

/-- **Isolation, for every interleaving.** Whatever sequence of setters, forks (`Clone`) and
switches between members is applied to a family, member `i` ends up with the value it had,
changed by exactly the setters applied while the cursor was on `i` — the setters applied
to the original after the clone was taken, to a sibling or to a clone of it never show. -/
theorem member_reads_own_setters (ops : List FOp) (f : Fam) (i : Nat) (c : Option TlsCfg)
    (hc : f.members[i]? = some c) (hcur : f.cur < f.members.length) :
    (famRun f ops).members[i]? = some (run c (ownOps f.members.length f.cur i ops))
    ∧ (famRun f ops).cur < (famRun f ops).members.length := by
  induction ops generalizing f c with
  | nil => exact ⟨by simpa [famRun, ownOps, run] using hc, by simpa [famRun] using hcur⟩
  | cons op rest ih =>
    obtain ⟨c', hc', hcur', hrun⟩ := famStep_member f op i c hc hcur
    rw [hrun]
    exact ih (famStep f op) c' hc' hcur'

/-- `Clone()` hands the copy the VALUES of the member it was taken from, as a new member. -/
theorem fork_copies (f : Fam) (c : Option TlsCfg) (hc : f.members[f.cur]? = some c) :
    (famStep f .fork).members[f.members.length]? = some c
    ∧ (famStep f .fork).members.length = f.members.length + 1 := by
  simp [famStep, hc, step]

/-- Hence two op sequences that apply the same setters to member `i` leave it with the same
configuration, whatever else they do to its relatives. -/
theorem relatives_do_not_matter (ops ops' : List FOp) (f : Fam) (i : Nat) (c : Option TlsCfg)
    (hc : f.members[i]? = some c) (hcur : f.cur < f.members.length)
    (h : ownOps f.members.length f.cur i ops = ownOps f.members.length f.cur i ops') :
    (famRun f ops).members[i]? = (famRun f ops').members[i]? := by
  rw [(member_reads_own_setters ops f i c hc hcur).1, (member_reads_own_setters ops' f i c hc hcur).1, h]

/-- The shape of `seeded/C12-r3-3` (three certificates, clone, one more certificate on each side): the
original keeps ITS fourth certificate, the clone its own. -/
example :
    let f := famRun famInit [.set (.addCert 1), .set (.addCert 2), .set (.addCert 3), .fork,
      .set (.addCert 4), .switch 1, .set (.addCert 5)]
    (f.members[0]?.bind id).map (·.certs) = some [1, 2, 3, 4]
    ∧ (f.members[1]?.bind id).map (·.certs) = some [1, 2, 3, 5] := by decide +kernel

example : ownOps 1 0 0 [.set (.addCert 1), .fork, .switch 1, .set (.addCert 5), .switch 0, .set (.insecure true)]
    = [.addCert 1, .insecure true] := by decide +kernel

/-- The certificate a handshake presents is one of the configured ones, and one the server
can accept when it names its CAs. -/
theorem presented_is_configured (certs acc : List Nat) (j : Nat) (h : presented certs acc = some j) :
    j ∈ certs ∧ (acc ≠ [] → j ∈ acc) := by
  unfold presented at h
  split at h
  · rename_i he
    refine ⟨List.mem_of_mem_head? h, fun hne => ?_⟩
    cases acc with
    | nil => exact absurd rfl hne
    | cons a as => simp at he
  · have := List.find?_some h
    exact ⟨List.mem_of_find?_eq_some h, fun _ => by simpa using this⟩

/-- It is the FIRST such certificate: nothing before it in the list would have done. -/
theorem presented_is_first (certs acc : List Nat) (j : Nat) (hacc : acc ≠ [])
    (h : presented certs acc = some j) :
    ∃ pre post, certs = pre ++ j :: post ∧ ∀ x ∈ pre, x ∉ acc := by
  unfold presented at h
  have he : acc.isEmpty = false := by cases acc <;> simp_all
  simp only [he] at h
  obtain ⟨pre, post, hsplit, hpre⟩ := List.find?_eq_some_iff_append.1 h |>.2
  exact ⟨pre, post, hsplit, fun x hx => by simpa using hpre x hx⟩

/-- No stack edits the certificate list: the same client certificate is presented on
HTTP/1.1, HTTP/2 and HTTP/3. -/
theorem presented_uniform (s s' : Stack) (o o' : Bool) (host : Nat) (r : Option TlsCfg) (acc : List Nat) :
    presented (effective s o host r).certs acc = presented (effective s' o' host r).certs acc :=
  -- `effective` sets `serverName` and `protos` only: the certificate list is the one read, by definition
  congrArg (presented · acc) (rfl : (effective s o host r).certs = (effective s' o' host r).certs)

example : presented [1, 2, 3, 4] [4] = some 4 := by decide +kernel
example : presented [1, 2, 3, 5] [4] = none := by decide +kernel
example : presented [1, 2, 3] [] = some 1 := by decide +kernel

end Req.Props.C12
