import Req.Pool.CancelH2
import Req.Lemmas.CancelH2
/-!
C08 — property theorems, HTTP/2 request lifecycle (`Req/Pool/CancelH2.lean`: caller in
`ClientConn.roundTrip`, writer goroutine `doRequest` = `writeRequest` + `cleanupWriteRequest`,
closer goroutine of `closeReqBodyLocked`; read loop, peer, timers as environment).

Decision tables
* `cancelled_stream_is_reset`       : `cleanupWriteRequest` with a context error, HEADERS sent and the
                                      stream not closed by both sides writes RST_STREAM(CANCEL).
* `no_rst_before_headers`, `no_rst_when_closed_by_both_sides`, `no_rst_answering_a_peer_reset`,
  `cleanup_rst_iff`                 : … and writes none otherwise: the full characterisation.
* `flow_wait_exits_when_cancelled`  : one round of `awaitFlowControl` with the body claimed, the
                                      stream aborted or the context done neither takes flow-control
                                      tokens nor waits: no further DATA frame can be started.
Lifecycle, ∀ reachable states (any mixture of environment events and goroutine steps)
* `h2_body_closed_at_most_once`     : the request body is closed at most once, whoever closes it
                                      (closer goroutine after abortStream, or cleanupWriteRequest).
* `h2_rst_at_most_once`             : at most one RST_STREAM is written for the stream, and none before
                                      `cleanupWriteRequest` has finished (`donec` closed).
* `h2_rst_rule`                     : … namely the one `cleanupRule` gives for the error, `sentHeaders`,
                                      `sentEndStream`, `peerClosed` the cleanup saw.
* `cancel_releases_h2`              : after a cancellation / deadline at ANY reachable state, every run of
                                      internal steps has at most `K` (= 33) steps, and when no step is
                                      enabled: the writer goroutine is done (`donec` closed), the caller
                                      has returned, no closer goroutine is left, the stream slot and
                                      `reqHeaderMu` are given back, the request body — if there is one —
                                      was closed exactly once, the response pipe is closed (a pending body
                                      read returns).
* `cancel_terminates_h2`            : a maximal internal run exists from every state (non-vacuity of the
                                      ∀-run statements).
* `cancel_error_h2`                 : if the cancellation finds the caller in its select, no response
                                      headers and no earlier abort, the caller gets exactly the context's
                                      error, the stream is aborted with it, and the RST rule is applied to it.
* `no_data_after_cancel_h2`         : from a state in which the request is cancelled (context done,
                                      stream aborted, or body claimed), under ANY continuation (events
                                      and steps) at most the DATA frame whose tokens were already taken
                                      is written.
* `released_abs`                    : a released HTTP/2 state maps (`absRes`) to a released resource
                                      record of the protocol-independent lifecycle
                                      (`Req.Cancel.Res.released`); states only, no step correspondence.
-/
namespace Req.Props.C08H2
open Req.Cancel (CtxErr)
open Req.CancelH2 Req.Lemmas.CancelH2 Req.Lemmas.Lts

theorem cancelled_stream_is_reset (e : CtxErr) (sentEnd peerClosed : Bool)
    (h : ¬ (sentEnd = true ∧ peerClosed = true)) :
    cleanupRule ⟨.ctx e, true, sentEnd, peerClosed⟩ = some .cancel := by
  cases sentEnd <;> cases peerClosed <;> simp_all [cleanupRule, CleanupIn.effErr]

theorem no_rst_before_headers (i : CleanupIn) (h : i.sentHeaders = false) : cleanupRule i = none := by
  unfold cleanupRule
  cases i.effErr <;> simp [h]

theorem no_rst_when_closed_by_both_sides (i : CleanupIn) (h1 : i.sentEndStream = true)
    (h2 : i.peerClosed = true) : cleanupRule i = none := by
  unfold cleanupRule CleanupIn.effErr
  cases he : i.err <;> simp [h1, h2]

theorem no_rst_answering_a_peer_reset (i : CleanupIn) (h : i.effErr = .fromPeer) : cleanupRule i = none := by
  unfold cleanupRule; rw [h]

theorem cleanup_rst_iff (i : CleanupIn) :
    (cleanupRule i).isSome = true ↔
      i.sentHeaders = true ∧ i.effErr ≠ .fromPeer ∧ ¬ (i.effErr = .nil ∧ i.sentEndStream = true) := by
  unfold cleanupRule
  cases he : i.effErr <;> cases hs : i.sentHeaders <;> cases hse : i.sentEndStream <;> simp

theorem flow_wait_exits_when_cancelled (i : FlowIn)
    (h : i.bodyClaimed = true ∨ i.aborted = true ∨ i.ctxDone = true) :
    flowDecision i ≠ .wait ∧ ∀ n, flowDecision i ≠ .take n := by
  unfold flowDecision
  cases i.connClosed <;> cases hb : i.bodyClaimed <;> cases ha : i.aborted <;> cases hc : i.ctxDone <;>
    simp_all

theorem h2_body_closed_at_most_once (s : St) (h : Reach s) : s.closes ≤ 1 :=
  (reach_inv s h).closes_le

theorem h2_rst_at_most_once (s : St) (h : Reach s) :
    s.rsts.length ≤ 1 ∧ (s.rsts ≠ [] → s.donec = true) := by
  have hi := reach_inv s h
  refine ⟨hi.rsts_le, fun hne => hi.donecIff.mpr (Decidable.byContradiction fun hd => hne ?_)⟩
  rw [hi.rstsCu, hi.cu_none hd]

theorem h2_rst_rule (s : St) (h : Reach s) (hd : s.donec = true) :
    ∃ i, s.cu = some i ∧ s.rsts = (cleanupRule i).toList ∧
      i.sentHeaders = s.sentHeaders ∧ i.sentEndStream = s.sentEnd := by
  have hi := reach_inv s h
  obtain ⟨i, hc, hrs⟩ := hi.cu_done (hi.donecIff.mp hd)
  exact ⟨i, hc, hrs, hi.cuFields i hc⟩

theorem cancel_releases_h2 (s : St) (hr : Reach s) (hc : s.ctx.isSome = true)
    (as : List Act) (s' : St) (hrun : Run s as s') :
    as.length ≤ K ∧
    (stuck s' = true → released s' = true ∧ s'.pipeErr = true ∧ s'.closes ≤ 1 ∧ s'.rsts.length ≤ 1) := by
  have hrun := run_lts hrun
  refine ⟨hrun.length_le_of_le mu_dec mu_le, fun hst => ?_⟩
  have hi' := hrun.keeps inv_act (reach_inv s hr)
  have hc' : s'.ctx.isSome = true :=
    hrun.keeps (P := fun t => t.ctx.isSome = true) (fun h _ => by rw [apply_ctx]; exact h) hc
  exact ⟨stuck_released s' hi' hc' hst, hi'.donePipe (stuck_finished s' hi' hc' hst).1, hi'.closes_le,
    hi'.rsts_le⟩

theorem cancel_terminates_h2 (s : St) : ∃ as s', Run s as s' ∧ stuck s' = true :=
  exists_maximal_run .nil .cons mu_dec s

theorem cancel_error_h2 (s : St) (e : CtxErr) (hctx : s.ctx = some e) (hsel : s.rpc = .select)
    (hnh : s.respHdr = false) (hnp : s.peerClosed = false) (hna : s.abort = none)
    (hw : ∀ x, s.wpc ≠ .cleanup x ∧ s.wpc ≠ .cuClose x ∧ s.wpc ≠ .cuWait x) (hnd : s.wpc ≠ .done)
    (hi : Inv s) (as : List Act) (s' : St) (hrun : Run s as s') (hst : stuck s' = true) :
    s'.rpc = .returned (.err (.ctx e)) ∧ s'.abort = some (.ctx e) ∧
    ∃ i, s'.cu = some i ∧ i.err = .ctx e ∧ s'.rsts = (cleanupRule i).toList := by
  have hrun := run_lts hrun
  have hi' := hrun.keeps inv_act hi
  have hj' : RecordsCancel e s' := hrun.keeps RecordsCancel.act
    ⟨hctx, hnh, hnp, .inl hna, .inl (cuErr_none hw), .inl hsel,
      fun i hc => absurd (hi.cuIff.mp (by rw [hc]; rfl)) hnd⟩
  obtain ⟨hdone, -, r, hr⟩ := stuck_finished s' hi' (by rw [hj'.ctx]; rfl) hst
  obtain ⟨hab, hrp⟩ := hj'.left hr nofun
  obtain ⟨i, hc, hrs⟩ := hi'.cu_done hdone
  refine ⟨?_, hab, i, hc, (hj'.done i hc).1, hrs⟩
  -- the caller has returned, and `RecordsCancel` knows one way only
  rw [hr] at hrp ⊢
  rcases hrp with hx | hx | hx <;> cases hx
  rfl

inductive Step : St → St → Prop
  | ev {s} (e : Ev) : evGuard s e = true → Step s (evApply s e)
  | act {s} (a : Act) : CancelH2.guard s a = true → Step s (apply s a)

inductive Steps : St → St → Prop
  | refl (s) : Steps s s
  | tail {s t u} : Steps s t → Step t u → Steps s u

/-- the request is cancelled as far as the body writer is concerned -/
def quiet (s : St) : Bool := cancelled s || s.claimed

/-- DATA frames written so far plus the one whose tokens are already taken -/
def pot (s : St) : Nat := s.dataWrites + (if s.wpc = .data then 1 else 0)

/-- `quiet` only reads `abort`, `ctx` and `claimed`, and is monotone in them; `pot` only reads
`dataWrites` and whether the writer is about to write a DATA frame -/
theorem quiet_pot {s t : St} (hq : quiet s = true)
    (ha : s.abort.isSome = true → t.abort.isSome = true)
    (hc : s.ctx.isSome = true → t.ctx.isSome = true) (hcl : s.claimed = true → t.claimed = true)
    (hd : t.dataWrites = s.dataWrites) (hw : t.wpc = .data → s.wpc = .data) :
    quiet t = true ∧ pot t ≤ pot s := by
  simp only [quiet, cancelled, Bool.or_eq_true] at hq ⊢
  refine ⟨hq.imp (·.imp ha hc) hcl, ?_⟩
  unfold pot
  rw [hd]
  split
  · next h => rw [if_pos (hw h)]; exact Nat.le_refl _
  · exact Nat.add_le_add_left (Nat.zero_le _) _

theorem abortStream_quiet_pot (s : St) (x : WErr) :
    quiet (abortStream s x) = true ∧ pot (abortStream s x) = pot s := by
  rw [abortStream_eq]
  exact ⟨by unfold quiet cancelled; cases s.abort <;> rfl, rfl⟩

theorem step_quiet_pot (s t : St) (h : Step s t) (hq : quiet s = true) :
    quiet t = true ∧ pot t ≤ pot s := by
  cases h with
  | ev e hg =>
    cases e
    case cancel => exact quiet_pot hq id (fun _ => rfl) id rfl id
    case hdrMuFree | slotFree | continue100 => exact quiet_pot hq id id id rfl nofun
    case flowTake =>
      -- not enabled once the request is quiet
      simp only [evGuard, Bool.and_eq_true, Bool.not_eq_true'] at hg
      rw [quiet, hg.2, hg.1.2] at hq
      cases hq
    case peerHeaders => simp only [evApply]; split <;> exact quiet_pot hq id id id rfl id
    case peerEnd => exact quiet_pot hq id id id rfl id
    case peerRst | callerClose => exact (abortStream_quiet_pot s _).imp_right Nat.le_of_eq
  | act a hg =>
    cases a
    case wHdrMuCancel | wSlotAbort | wContCancel | wReadChunk | wReadEOF | wBodyStop | wPeerDone
        | wPeerAbort => exact quiet_pot hq id id id rfl nofun
    case wHeaders | wFlowExit | wEndStream =>
      simp only [apply]; (repeat' split) <;> exact quiet_pot hq id id id rfl nofun
    case wData =>
      -- the DATA frame accounted for in `pot s`
      simp only [CancelH2.guard, beq_iff_eq] at hg
      refine ⟨(quiet_pot hq id id id rfl id (t := s)).1, ?_⟩
      show s.dataWrites + 1 + 0 ≤ s.dataWrites + _
      rw [if_pos hg]
      exact Nat.le_refl _
    case wCleanupClaim =>
      obtain ⟨e, hw⟩ := guard_claim hg
      simp only [apply, hw]
      split
      · exact quiet_pot hq id id (fun _ => rfl) rfl nofun
      · exact quiet_pot hq id id id rfl nofun
    case wCleanupClose =>
      obtain ⟨e, hw⟩ := guard_close hg
      simp only [apply, hw]
      exact quiet_pot hq id id id rfl nofun
    case wCleanupFinish =>
      obtain ⟨e, hw⟩ := guard_finish hg
      simp only [apply, hw]
      split
      · have ⟨h1, h2⟩ := abortStream_quiet_pot s (CleanupIn.effErr ⟨e, s.sentHeaders, s.sentEnd, s.peerClosed⟩)
        exact h2 ▸ quiet_pot h1 id id id rfl nofun
      · exact quiet_pot hq id id id rfl nofun
    case rCtx =>
      simp only [apply]
      split
      · next e _ =>
        have ⟨h1, h2⟩ := abortStream_quiet_pot s (.ctx e)
        exact h2 ▸ quiet_pot h1 id id id rfl id
      · exact ⟨hq, Nat.le_refl _⟩
    case rWaitBody =>
      obtain ⟨e, hr⟩ := guard_waitBody hg
      simp only [apply, hr]
      exact quiet_pot hq id id id rfl id
    case rHeaders | rHdrWaitDone => simp only [apply]; split <;> exact quiet_pot hq id id id rfl id
    case rAbort | rWaitDone | closerRun => exact quiet_pot hq id id id rfl id

theorem no_data_after_cancel_h2 (s t : St) (hq : quiet s = true) (h : Steps s t) :
    t.dataWrites ≤ s.dataWrites + (if s.wpc = .data then 1 else 0) := by
  have : quiet t = true ∧ pot t ≤ pot s := by
    induction h with
    | refl => exact ⟨hq, Nat.le_refl _⟩
    | tail _ hst ih =>
      obtain ⟨h1, h2⟩ := ih
      obtain ⟨h3, h4⟩ := step_quiet_pot _ _ hst h1
      exact ⟨h3, Nat.le_trans h4 h2⟩
  have hp := this.2
  unfold pot at hp
  split at hp <;> omega

theorem released_abs (s : St) (h : released s = true) : (absRes s).released = true := by
  unfold released at h
  simp only [Bool.and_eq_true, beq_iff_eq, Bool.not_eq_true', Bool.or_eq_true] at h
  obtain ⟨⟨⟨⟨⟨⟨hw, hd⟩, hc⟩, hid⟩, _⟩, _⟩, hb⟩ := h
  unfold absRes Req.Cancel.Res.released
  cases hbody : s.hasBody with
  | false => simp [hw, hd, hc, hid]; split <;> simp
  | true =>
    rcases hb with hb | hb
    · rw [hbody] at hb; cases hb
    · simp [hw, hd, hc, hid, hb.1]; split <;> simp

/-- upload, HEADERS sent, a chunk read, waiting for flow control; then the context is cancelled -/
def exUpload : St :=
  let s := init true false false
  let s := evApply s .hdrMuFree
  let s := evApply s .slotFree
  let s := apply s .wHeaders
  let s := apply s .wReadChunk
  evApply s (.cancel .canceled)

example : Reach exUpload :=
  Reach.ev (.cancel .canceled) (Reach.act .wReadChunk (Reach.act .wHeaders (Reach.ev .slotFree
    (Reach.ev .hdrMuFree (Reach.init true false false) rfl) rfl) rfl) rfl) rfl

example : exUpload.wpc = .flow ∧ exUpload.sentHeaders = true ∧ exUpload.hasID = true := by decide

/-- every maximal internal run from there ends released, body closed once, RST_STREAM(CANCEL), the
caller got `context.Canceled`, and no DATA frame was written after the cancellation -/
example : (finals 40 exUpload).all (fun t =>
    released t && t.closes == 1 && t.rsts == [.cancel] &&
    t.rpc == .returned (.err (.ctx .canceled)) && t.dataWrites == 0) = true := by decide +kernel

/-- a request cancelled while it waits for a stream slot: no RST (nothing was sent), slot
reservation and header lock given back -/
def exSlot : St := evApply (evApply (init false false false) .hdrMuFree) (.cancel .deadline)
example : (finals 40 exSlot).all (fun t => released t && t.rsts == [] &&
    t.rpc == .returned (.err (.ctx .deadline))) = true := by decide +kernel

/-- complete exchange, then the cancellation arrives: nothing to reset -/
def exDone : St :=
  let s := init false false true
  let s := evApply s .hdrMuFree
  let s := evApply s .slotFree
  let s := apply s .wHeaders
  let s := evApply s .peerHeaders
  evApply s (.cancel .canceled)
example : (finals 40 exDone).all (fun t => released t && t.rsts == []) = true := by decide +kernel

end Req.Props.C08H2
