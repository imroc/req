import Req.H2.BodyWire
import Req.Props.C01Body
import Req.Lemmas.C05H2
/-!
C01 — `h2_wire_body_exact`: the request body on an HTTP/2 connection at BYTE level.

Composes C01's content-level theorem `h2_body_exact` (the DATA payloads `writeRequestBody` cuts are
the body, END_STREAM on exactly the last frame — for every reader, window schedule, frame size) with
C05's framer round trip (`WriteData` → `ReadFrame`: `write_read_back_idle`, of which
`data_parse_write` is the DATA instance): the bytes on the connection
parse, with C05's frame parser, into DATA frames of the request's stream whose payload
concatenation is the body, the last of which carries END_STREAM, and nothing of what follows on the
connection is consumed.
-/
namespace Req.Props.C01H2Wire
open Req.Proto Req.H2.BodyWrite Req.H2.BodyWire Req.Lemmas.C01Body

/-- a frame the body writer hands to `WriteData` -/
def IsData (f : Frame) : Prop := ∃ p e, f = .data p e

/-- without a trailer block every frame of `writeRequestBody` is a DATA frame -/
theorem loop_all_data (cfg : Cfg) (hnt : (cfg.hasTrailers && cfg.trailerBlock) = false) :
    ∀ (fuel : Nat) (remain : Int) (r : Reader) (av : List Nat),
      ∀ s ∈ (loop cfg fuel remain r av).1, IsData s.frame :=
  loop_forall cfg (fun _ _ _ _ _ _ => ⟨_, _, rfl⟩) (by unfold closing; rw [hnt]; exact ⟨_, _, rfl⟩)

/-- the framer round trip, frame after frame: DATA frames without END_STREAM followed by one with
it are written by `WriteData` and read back by `ReadFrame` as exactly their payloads; what follows
on the connection is left unread. -/
theorem readBody_wire (sid mf : Nat) (hsid : Req.H2.Frame.ValidSid sid) (hmf : mf < Req.H2.Frame.two24)
    (rd : Req.H2.Frame.Reader) (h0 : rd.lastHeaderStream = 0) (hl : rd.allowIllegalReads = false)
    (hfit : mf ≤ rd.maxReadSize) (p : Bytes) (hp : p.length ≤ mf) :
    ∀ (init : List Frame), (∀ f ∈ init, IsData f ∧ f.endStream = false ∧ f.payload.length ≤ mf) →
      ∃ w, wire sid (init ++ [.data p true]) = some w ∧
        ∀ rest, readBody sid (init.length + 1) rd (w ++ rest) =
          some ((init ++ [Frame.data p true]).map Frame.payload, rest) := by
  -- what `readBody` looks at in a frame read back: its stream and its END_STREAM flag
  have one : ∀ (q : Bytes) (e : Bool), q.length ≤ mf →
      ∃ out h, frameWire sid (.data q e) = some out ∧ h.streamID = sid ∧
        Req.H2.Frame.hasFlag h.flags Req.H2.Frame.flagEndStream = e ∧
        ∀ rest, Req.H2.Frame.readFrame rd (out ++ rest) = (.ok (.data h q), rd, rest) := by
    intro q e hq
    obtain ⟨out, hw, -, hr⟩ := Req.Lemmas.C05.H2.write_read_back_idle (.data sid e q none)
      ⟨hsid, by simp only; omega⟩ rfl rfl
    have hw : Req.H2.Frame.writeData false sid e q none = .ok out := hw
    refine ⟨out, _, by simp [frameWire, hw], rfl, ?_,
      fun rest => hr rd rest ⟨h0, hl, by simp [Req.H2.Frame.WOp.payload]; omega⟩⟩
    cases e <;> simp [Req.H2.Frame.WOp.flags, Req.H2.Frame.b2n, Req.H2.Frame.hasFlag, Req.H2.Frame.flagEndStream]
  intro init
  induction init with
  | nil =>
    intro _
    obtain ⟨out, h, hw, hs, he, hr⟩ := one p true hp
    exact ⟨out, by simp [wire, hw], fun rest => by simp [readBody, hr rest, hs, he, Frame.payload]⟩
  | cons f init ih =>
    intro hall
    obtain ⟨⟨q, e, hf⟩, he, hq⟩ := hall f (by simp)
    subst hf
    simp only [Frame.endStream] at he
    subst he
    simp only [Frame.payload] at hq
    obtain ⟨w, hw, hr⟩ := ih (fun g hg => hall g (by simp [hg]))
    obtain ⟨out, h, hwo, hs, he, hro⟩ := one q false hq
    refine ⟨out ++ w, by simp [wire, hwo, hw], fun rest => ?_⟩
    have e1 : (Frame.data q false :: init).length + 1 = (init.length + 1) + 1 := by simp
    rw [e1, List.append_assoc, readBody, hro (w ++ rest)]
    simp [hs, he, hr rest, Frame.payload]

/-- for every body, reader behaviour, scratch buffer, window schedule,
declared length and SETTINGS_MAX_FRAME_SIZE below 2^24, on a valid stream id and without a trailer
block: when `writeRequestBody` completes, the bytes it put on the connection (`WriteData` for every
cut) are read by an origin using C05's `ReadFrame` (idle, legal, accepting frames of the size it
advertised) as DATA frames of that stream whose payloads concatenate to EXACTLY the body; the
reading stops at the frame with END_STREAM, which is the last byte written — whatever follows on the
connection (`rest`) is untouched. -/
theorem h2_wire_body_exact (cfg : Cfg) (r : Reader) (avails : List Nat) (sid : Nat)
    (rd : Req.H2.Frame.Reader)
    (hdone : (writeBody cfg r avails).2 = .done)
    (hnt : (cfg.hasTrailers && cfg.trailerBlock) = false)
    (hsid : Req.H2.Frame.ValidSid sid) (hmf : cfg.maxFrame < Req.H2.Frame.two24)
    (h0 : rd.lastHeaderStream = 0) (hl : rd.allowIllegalReads = false) (hfit : cfg.maxFrame ≤ rd.maxReadSize) :
    ∃ w payloads, wire sid (frames (writeBody cfg r avails).1) = some w ∧
      payloads.flatten = r.data ∧
      ∀ rest, readBody sid (writeBody cfg r avails).1.length rd (w ++ rest) = some (payloads, rest) := by
  obtain ⟨hpay, ⟨init, s, hsplit, hend, hno⟩, _⟩ := Req.Props.C01Body.h2_body_exact cfg r avails hdone
  have hwithin := Req.Props.C01Body.h2_within_window cfg r avails
  have hdata := loop_all_data cfg hnt (fuelFor r) (remain0 cfg.cl) r avails
  have hdata' : ∀ x ∈ (writeBody cfg r avails).1, IsData x.frame := hdata
  rw [hsplit] at hwithin hdata' hpay ⊢
  obtain ⟨p, e, hs⟩ := hdata' s (by simp)
  rw [hs] at hend
  simp only [Frame.endStream] at hend
  subst hend
  have hp : p.length ≤ cfg.maxFrame := by
    have := (hwithin s (by simp)).2
    rw [hs] at this
    exact this
  obtain ⟨w, hw, hr⟩ := readBody_wire sid cfg.maxFrame hsid hmf rd h0 hl hfit p hp (frames init) (by
    intro f hf
    simp only [frames, List.mem_map] at hf
    obtain ⟨x, hx, hxf⟩ := hf
    subst hxf
    exact ⟨hdata' x (by simp [hx]), hno x hx, (hwithin x (by simp [hx])).2⟩)
  have hfr : frames (init ++ [s]) = frames init ++ [Frame.data p true] := by
    simp [frames, hs]
  refine ⟨w, (frames init ++ [Frame.data p true]).map Frame.payload, by rw [hfr]; exact hw, ?_, ?_⟩
  · rw [← hfr]; exact hpay
  · intro rest
    have := hr rest
    simpa [frames] using this

example : ∃ w, wire 3 (frames (writeBody { maxFrame := 16384, buf := 4, cl := none }
    { data := [1, 2, 3, 4, 5], sizes := [2], ending := .eof } [1, 10, 10, 10]).1) = some w ∧
    readBody 3 5 { maxReadSize := 16384 } (w ++ [7, 7]) = some ([[1], [2], [3, 4, 5], []], [7, 7]) := by
  refine ⟨_, rfl, ?_⟩
  decide

end Req.Props.C01H2Wire
