import Req.Lemmas.C14Formats
import Req.Props.C14
/-!
C14 — "exactly the original bytes … corrupt data yields a read error", for REAL container
formats.

`Req.Props.C14` Part 2 states the reader half of the property for an abstract `Codec` with a
streaming law. Here the parameter is instantiated by the formats `Content-Encoding: gzip` and
`deflate` actually carry — RFC 1952 members around RFC 1951 stored blocks, as Go's
`compress/gzip` / `compress/flate` read them (`Req.Client.CompressFormats`) — and the
statements are proved outright, for every payload, every split into blocks, every combination of
header fields (FTEXT, FHCRC, FEXTRA, FNAME, FCOMMENT, MTIME/XFL/OS), any number of members, and
for ANY check-sum function `S` (a check compares what is carried with what is computed).
`gunzip` / `inflate` are the whole-stream meanings; the automata are `Codec`s (`Auto.codec`,
streaming law proved in `Req.Lemmas.C14Auto`), so Part 2 applies to them: the `*_any_schedule`
theorems (gzip only; for `deflateCodec` only `deflateCodec_total` is stated).

`deflate` is a RAW stream for imroc/req: a zlib-wrapped body (RFC 9110's deflate) and a gzip
body are read errors, trailing bytes after the final block go unnoticed.

Tie: lanes `containers` (internal/compress) and `containers_e2e` (root, three protocols) feed
the model ENCODER's output — and damaged versions of it — to the real readers and compare what
they deliver with the model DECODER (driver lanes `c14enc`, `c14dec`).
-/
namespace Req.Props.C14Formats
open Req.Proto Req.Compress Req.Compress.Fmt Req.Compress.Auto

/-- what the encoder is asked for: header fields, the payload cut into blocks -/
structure Member where
  hdr : GzHeader
  blocks : List Bytes
  last : Bytes

def Member.payload (m : Member) : Bytes := m.blocks.flatten ++ m.last
def Member.bytes (S : Sums) (m : Member) : Bytes := gzMember S m.hdr m.blocks m.last
def Member.OK (m : Member) : Prop := m.hdr.WF ∧ okChunks m.blocks m.last

def wireOf (S : Sums) (ms : List Member) : Bytes := (ms.map (·.bytes S)).flatten
def payloadOf (ms : List Member) : Bytes := (ms.map (·.payload)).flatten

/-- what `compress/gzip.Reader` makes of a body that ends with `fin` -/
def gunzip (S : Sums) (fin : Term) (wire : Bytes) : Bytes × Term := (gzip S).mean fin wire gInit
/-- what `compress/flate`'s reader makes of it -/
def inflate (fin : Term) (wire : Bytes) : Bytes × Term := deflate.mean fin wire .hdr

variable (S : Sums)

theorem member_units (ms : List Member) (hok : ∀ m ∈ ms, m.OK) :
    ∀ m ∈ ms, (gzip1 S).IsUnit (m.bytes S) m.payload :=
  fun m hm => member_unit S m.hdr (hok m hm).1 m.blocks m.last (hok m hm).2

/-- any number of members (none: an empty body), each with any header
fields and any block structure: exactly the payloads, in order, and the end of the underlying
body — a clean `io.EOF` when the body ends cleanly. -/
theorem gunzip_members (ms : List Member) (hok : ∀ m ∈ ms, m.OK) (fin : Term) :
    gunzip S fin (wireOf S ms) = (payloadOf ms, fin) :=
  mean_many_units (gzip1 S) _ _ (gzip1_lawful S) rfl ms (member_units S ms hok) fin

/-- `Content-Encoding: gzip` with an empty body: empty, ending as the body ends. -/
theorem gunzip_empty_body (fin : Term) : gunzip S fin [] = ([], fin) :=
  gunzip_members S [] (by simp) fin

/-- `many_after_units` for gzip -/
theorem gunzip_after_members (ms : List Member) (hok : ∀ m ∈ ms, m.OK) {w o r : Bytes} {s : GSt}
    (hw : w ≠ []) (hrun : (gzip1 S).run w gInit = (s, o, r)) (hnd : gphase s ≠ .done) (fin : Term) :
    gunzip S fin (wireOf S ms ++ w) = (payloadOf ms ++ o, (gzip1 S).verdict fin s) := by
  -- unfolded first: left to `exact`, the unifier tries to match `gunzip …` with `A.many.mean …`
  -- by reducing both and runs out of heartbeats in `whnf`
  unfold gunzip gzip wireOf payloadOf
  exact (many_after_units (gzip1 S) _ _ rfl ms (member_units S ms hok) hw hrun hnd fin).2

/-- complete members followed by a strict, non-empty prefix of one more:
the complete payloads, a prefix of the next one, then `io.ErrUnexpectedEOF` (or the underlying
body's own error). Never a clean end, never a byte that is not the payload's. -/
theorem gunzip_truncated (ms : List Member) (hok : ∀ m ∈ ms, m.OK) (m : Member) (hm : m.OK)
    (p q : Bytes) (hw : m.bytes S = p ++ q) (hp : p ≠ []) (hq : q ≠ []) (fin : Term) :
    ∃ y z, m.payload = y ++ z ∧ gunzip S fin (wireOf S ms ++ p) = (payloadOf ms ++ y, noEOF fin) := by
  unfold gunzip gzip wireOf payloadOf
  exact mean_many_units_truncated (gzip1 S) _ _ (gzip1_lawful S) rfl ms (member_units S ms hok)
    (member_unit S m.hdr hm.1 m.blocks m.last hm.2) p q hw hp hq fin

/-- `gunzip_members` at the ends `.err 1` and `.eof`: complete members and nothing behind them,
which is also what a longer message cut exactly behind a member looks like (`more` stands for
what is missing; the statement does not mention it), are a valid end for the decoder. Whether
the caller gets an error depends on the framing layer alone: `io.ErrUnexpectedEOF` from the
Content-Length accounting comes through (the reason the `short` lanes need that accounting:
seeded/C14-1), a clean end of the body reads as a clean end of the (shortened) payload. -/
theorem gunzip_member_boundary_needs_framing (ms more : List Member) (hok : ∀ m ∈ ms, m.OK)
    (_hmore : more ≠ []) :
    gunzip S (.err 1) (wireOf S ms) = (payloadOf ms, .err 1) ∧
    gunzip S .eof (wireOf S ms) = (payloadOf ms, .eof) :=
  ⟨gunzip_members S ms hok _, gunzip_members S ms hok _⟩

/-- where a member must start, ten or more bytes that do not begin with
`1f 8b 08`: `gzip.ErrHeader`. With `ms = []`: a body that is not gzip at all; with members
before: trailing garbage. -/
theorem gunzip_bad_magic (ms : List Member) (hok : ∀ m ∈ ms, m.OK)
    (b0 b1 b2 b3 b4 b5 b6 b7 b8 b9 : UInt8) (r : Bytes) (h : ¬(b0 = 0x1f ∧ b1 = 0x8b ∧ b2 = 8))
    (fin : Term) :
    gunzip S fin (wireOf S ms ++ b0 :: b1 :: b2 :: b3 :: b4 :: b5 :: b6 :: b7 :: b8 :: b9 :: r) =
      (payloadOf ms, errCorrupt) := by
  simpa [verdict, gzip1, gphase] using gunzip_after_members S ms hok (by simp)
    (run_bad_magic S b0 b1 b2 b3 b4 b5 b6 b7 b8 b9 r h) (by simp [gphase]) fin

/-- one to nine bytes after the last member (or as the whole body):
`io.ErrUnexpectedEOF`, whatever the bytes are. Together with `gunzip_bad_magic`: bytes after the
last member never go unnoticed. -/
theorem gunzip_stray_bytes (ms : List Member) (hok : ∀ m ∈ ms, m.OK) (g : Bytes)
    (h0 : g ≠ []) (h9 : g.length ≤ 9) (fin : Term) :
    gunzip S fin (wireOf S ms ++ g) = (payloadOf ms, noEOF fin) := by
  obtain ⟨ok', flg', hc', hrun⟩ := run_fixed_partial S 0 true 0 0 g (by simpa using h9)
  rw [gunzip_after_members S ms hok h0 hrun (by simp [gphase]), List.append_nil]
  obtain ⟨b, g', rfl⟩ := List.exists_cons_of_ne_nil h0
  exact congrArg _ (verdict_working (gzip1 S) _ rfl rfl fin)

/-- a member whose eight trailer bytes are not the CRC-32 and the size
of what was decoded: the payload is delivered, then `gzip.ErrChecksum` — for ANY check-sum
function `S`. -/
theorem gunzip_bad_trailer (ms : List Member) (hok : ∀ m ∈ ms, m.OK) (m : Member) (hm : m.OK)
    (t0 t1 t2 t3 t4 t5 t6 t7 : UInt8) (r : Bytes)
    (h : [t0, t1, t2, t3, t4, t5, t6, t7] ≠
      le32 (S.crc 0 m.payload) ++ le32 (UInt32.ofNat m.payload.length)) (fin : Term) :
    gunzip S fin (wireOf S ms ++ (m.hdr.bytes S ++ stored m.blocks m.last ++
        t0 :: t1 :: t2 :: t3 :: t4 :: t5 :: t6 :: t7 :: r)) =
      (payloadOf ms ++ m.payload, errCorrupt) := by
  have hrun := run_seq (run_member_body S m.hdr hm.1 m.blocks m.last hm.2)
    (run_trailer_bad S _ _ t0 t1 t2 t3 t4 t5 t6 t7 r h)
  rw [List.append_nil] at hrun
  exact gunzip_after_members S ms hok
    (by simp [GzHeader.bytes, GzHeader.covered, GzHeader.fixedPart]) hrun (by simp [gphase]) fin

/-- FHCRC set and not the low 16 bits of the header's CRC-32:
`gzip.ErrHeader`, nothing of that member delivered. -/
theorem gunzip_bad_hcrc (ms : List Member) (hok : ∀ m ∈ ms, m.OK) (h : GzHeader) (wf : h.WF)
    (hh : h.hcrc = true) (x y : UInt8) (r : Bytes)
    (hne : [x, y] ≠ (le32 (S.crc 0 h.covered)).take 2) (fin : Term) :
    gunzip S fin (wireOf S ms ++ (h.covered ++ x :: y :: r)) = (payloadOf ms, errCorrupt) := by
  simpa [verdict, gzip1, gphase] using gunzip_after_members S ms hok
    (by simp [GzHeader.covered, GzHeader.fixedPart]) (run_header_bad_hcrc S h wf hh x y r hne)
    (by simp [gphase]) fin

/-- inside a member, a stored block whose NLEN is not the complement of
its LEN (after any number of good blocks): the good blocks' bytes, then
`flate.CorruptInputError`. -/
theorem gunzip_bad_block (h : GzHeader) (wf : h.WF) (cs : List Bytes) (hcs : ∀ c ∈ cs, c.length < 65536)
    (b l0 l1 n0 n1 : UInt8) (r : Bytes) (hb : (b >>> 1) &&& 3 = 0)
    (hbad : ¬(l0 ^^^ n0 = 255 ∧ l1 ^^^ n1 = 255)) (fin : Term) :
    gunzip S fin (h.bytes S ++ ((cs.map (block false)).flatten ++ b :: l0 :: l1 :: n0 :: n1 :: r)) =
      (cs.flatten, errCorrupt) := by
  have hd := run_blocks_then cs hcs (run_bad_nlen b l0 l1 n0 n1 r hb hbad)
  rw [List.append_nil] at hd
  have hrun : (gzip1 S).run (h.bytes S ++ ((cs.map (block false)).flatten ++
      b :: l0 :: l1 :: n0 :: n1 :: r)) gInit = (.failed errCorrupt, cs.flatten, r) := by
    rw [run_header S h wf, enterBody]
    exact run_body_failed S 0 0 rfl hd
  simpa [wireOf, payloadOf, verdict, gzip1, gphase] using gunzip_after_members S [] (by simp)
    (by simp [GzHeader.bytes, GzHeader.covered, GzHeader.fixedPart]) hrun (by simp [gphase]) fin

/-- a stored-block stream, then anything: the payload and a clean end.
Bytes after the final block are NOT noticed (`compress/flate` stops reading there, and
`internal/compress.DeflateReader` hands its verdict on). -/
theorem inflate_stored (cs : List Bytes) (last : Bytes) (h : okChunks cs last) (r : Bytes)
    (fin : Term) : inflate fin (stored cs last ++ r) = (cs.flatten ++ last, .eof) :=
  mean_unit deflate _ _ r (stored_unit cs last h) fin

/-- a strict, non-empty prefix: a prefix of the payload, then an error. -/
theorem inflate_truncated (cs : List Bytes) (last : Bytes) (h : okChunks cs last) (p q : Bytes)
    (hw : stored cs last = p ++ q) (hp : p ≠ []) (hq : q ≠ []) (fin : Term) :
    ∃ y z, cs.flatten ++ last = y ++ z ∧ inflate fin p = (y, noEOF fin) :=
  mean_unit_truncated deflate deflate_lawful rfl _ _ p q (stored_unit cs last h) hw hp hq fin

/-- `Content-Encoding: deflate` with an empty body is an error (unlike gzip). -/
theorem inflate_empty_body (fin : Term) : inflate fin [] = ([], noEOF fin) := rfl

theorem inflate_reserved_type (b : UInt8) (r : Bytes) (h : (b >>> 1) &&& 3 = 3) (fin : Term) :
    inflate fin (b :: r) = ([], errCorrupt) :=
  mean_of_run (run_reserved_type b r h) fin

theorem inflate_bad_nlen (b l0 l1 n0 n1 : UInt8) (r : Bytes) (hb : (b >>> 1) &&& 3 = 0)
    (h : ¬(l0 ^^^ n0 = 255 ∧ l1 ^^^ n1 = 255)) (fin : Term) :
    inflate fin (b :: l0 :: l1 :: n0 :: n1 :: r) = ([], errCorrupt) :=
  mean_of_run (run_bad_nlen b l0 l1 n0 n1 r hb h) fin

/-- a gzip body labelled `deflate`: the magic byte 0x1f reads as a
final block of the reserved type: a read error at once, nothing delivered. -/
theorem gzip_under_deflate (m : Member) (r : Bytes) (fin : Term) :
    inflate fin (m.bytes S ++ r) = ([], errCorrupt) := by
  have : m.bytes S ++ r = 0x1f :: ((m.bytes S ++ r).drop 1) := by
    simp [Member.bytes, gzMember, GzHeader.bytes, GzHeader.covered, GzHeader.fixedPart]
  rw [this]
  exact inflate_reserved_type 0x1f _ (by decide) fin

def firstBlockLen : List Bytes → Bytes → Nat
  | [], last => last.length
  | c :: _, _ => c.length

theorem stored_head (cs : List Bytes) (last : Bytes) :
    ∃ hb tl, stored cs last = hb :: UInt8.ofNat (firstBlockLen cs last % 256) ::
      UInt8.ofNat (firstBlockLen cs last / 256) :: tl := by
  cases cs with
  | nil => exact ⟨1, _, by simp [stored, block, le16, firstBlockLen]; rfl⟩
  | cons c cs => exact ⟨0, _, by simp [stored, block, le16, firstBlockLen]; rfl⟩

/-- RFC 9110 defines the `deflate` coding as the zlib format; the fork
reads it as a raw DEFLATE stream. The zlib header byte 0x78 then reads as a stored block whose
LEN/NLEN are the next four bytes; unless the first real block happens to be 0x..63 bytes long
that is a read error — a standards-conforming `deflate` response cannot be decoded (but is never
delivered as garbage). -/
theorem zlib_under_deflate (cs : List Bytes) (last adler r : Bytes)
    (hlen : firstBlockLen cs last % 256 ≠ 99) (fin : Term) :
    inflate fin (zlibWrap (stored cs last) adler ++ r) = ([], errCorrupt) := by
  obtain ⟨hb, tl, hst⟩ := stored_head cs last
  have hx : ¬((0x9c : UInt8) ^^^ UInt8.ofNat (firstBlockLen cs last % 256) = 255 ∧
      hb ^^^ UInt8.ofNat (firstBlockLen cs last / 256) = 255) := by
    intro ⟨h1, _⟩
    have h2 : UInt8.ofNat (firstBlockLen cs last % 256) = 0x63 :=
      (xor_cancel 0x9c _).symm.trans (by rw [h1]; decide)
    have h3 := congrArg UInt8.toNat h2
    simp [UInt8.toNat_ofNat'] at h3
    omega
  simp only [zlibWrap, hst, List.cons_append, List.nil_append]
  exact inflate_bad_nlen 0x78 0x9c hb _ _ _ (by decide) hx fin

def gzipCodec : Codec := (gzip S).codec
def deflateCodec : Codec := deflate.codec

theorem gzipCodec_total (src : Src) : (gzipCodec S).total src = gunzip S src.fin src.data := rfl
theorem deflateCodec_total (src : Src) : deflateCodec.total src = inflate src.fin src.data := rfl

/-- the gzip reader the caller finds in `Response.Body` (either
one: `transport.go gzipReader`, `compress.GzipReader`), on any stack, over a body of gzip
members, read with ANY sequence of buffer sizes: when a `Read` reports the end, everything read
is exactly the payloads and the end is `io.EOF`. -/
theorem stored_gzip_any_schedule (codecs : Alg → Codec) (hc : codecs .gzip = gzipCodec S)
    (site : Site) (ms : List Member) (hok : ∀ m ∈ ms, m.OK) (k : BodyKind)
    (hk : k = .gunzip ∨ k = .decode .gzip) (ns : List Nat) (t : Term)
    (h : (drain (C14.bodyReader codecs site ⟨wireOf S ms, .eof⟩ k).R
      (C14.bodyReader codecs site ⟨wireOf S ms, .eof⟩ k).s ns).2.2 = some t) :
    (drain (C14.bodyReader codecs site ⟨wireOf S ms, .eof⟩ k).R
      (C14.bodyReader codecs site ⟨wireOf S ms, .eof⟩ k).s ns).2.1 = payloadOf ms ∧ t = .eof := by
  refine C14.read_of_delivered codecs site ⟨wireOf S ms, .eof⟩ k ns t h ?_
  rcases hk with rfl | rfl <;>
    simp [C14.delivered, deliver, hc, gzipCodec_total, gunzip_members S ms hok]

/-- the readers of `stored_gzip_any_schedule` over a body cut inside a member: every
read schedule ends in `io.ErrUnexpectedEOF`; what was read before is the complete members'
payloads and a prefix of the cut one's. -/
theorem truncated_gzip_any_schedule (codecs : Alg → Codec) (hc : codecs .gzip = gzipCodec S)
    (site : Site) (ms : List Member) (hok : ∀ m ∈ ms, m.OK) (m : Member) (hm : m.OK)
    (p q : Bytes) (hw : m.bytes S = p ++ q) (hp : p ≠ []) (hq : q ≠ []) (k : BodyKind)
    (hk : k = .gunzip ∨ k = .decode .gzip) (ns : List Nat) (t : Term)
    (h : (drain (C14.bodyReader codecs site ⟨wireOf S ms ++ p, .eof⟩ k).R
      (C14.bodyReader codecs site ⟨wireOf S ms ++ p, .eof⟩ k).s ns).2.2 = some t) :
    t = .err 1 ∧ ∃ y z, m.payload = y ++ z ∧
      (drain (C14.bodyReader codecs site ⟨wireOf S ms ++ p, .eof⟩ k).R
        (C14.bodyReader codecs site ⟨wireOf S ms ++ p, .eof⟩ k).s ns).2.1 = payloadOf ms ++ y := by
  obtain ⟨y, z, hyz, hg⟩ := gunzip_truncated S ms hok m hm p q hw hp hq .eof
  have hd : C14.delivered codecs ⟨wireOf S ms ++ p, .eof⟩ k = (payloadOf ms ++ y, .err 1) := by
    rcases hk with rfl | rfl <;> simp [C14.delivered, deliver, hc, gzipCodec_total, hg, noEOF]
  have := C14.read_of_delivered codecs site _ k ns t h hd
  exact ⟨this.2, y, z, hyz, this.1⟩

/-- "hello" as two stored blocks in a member with FHCRC, FEXTRA and FNAME -/
def demoHeader : GzHeader := ⟨false, true, some [1, 2, 3], some [110], none, 0, 0, 0, 0, 0, 255⟩
def demoMember : Member := ⟨demoHeader, [[104, 101]], [108, 108, 111]⟩

theorem demoMember_ok : demoMember.OK := by
  refine ⟨⟨?_, ?_, ?_⟩, ?_, ?_⟩
  · intro e he; cases he; decide
  · exact ⟨by intro b hb; simp at hb; subst hb; decide, by decide⟩
  · trivial
  · intro c hc; simp [demoMember] at hc; subst hc; decide
  · decide

-- 1f 8b 08 0e … the bytes every gzip implementation accepts
example : (demoMember.bytes ieee).take 12 = [0x1f, 0x8b, 8, 14, 0, 0, 0, 0, 0, 255, 3, 0] := by
  decide
example : gunzip ieee .eof (wireOf ieee [demoMember, demoMember]) =
    ([104, 101, 108, 108, 111, 104, 101, 108, 108, 111], .eof) :=
  gunzip_members ieee [demoMember, demoMember] (by intro m hm; simp at hm; subst hm; exact demoMember_ok) .eof
example : inflate .eof (stored [[104, 101]] [108, 108, 111] ++ [9, 9]) = ([104, 101, 108, 108, 111], .eof) :=
  inflate_stored _ _ ⟨by intro c hc; simp at hc; subst hc; decide, by decide⟩ _ _
example : inflate .eof (zlibWrap (stored [] [1, 2, 3]) (adler32 [1, 2, 3])) = ([], .err 2) := by
  decide

end Req.Props.C14Formats
