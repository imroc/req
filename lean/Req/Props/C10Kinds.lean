import Req.Client.RetryKinds
import Req.Props.C10
/-!
C10 — the retry decision over the lattice error kind × context state.

`retry_iff_ctx_alive`: for every attempt (any cause, any state of the request's context that
is coherent with it), every policy and attempt counter, the loop goes round again **iff** the
request's context is alive ∧ nothing aborted ∧ retries are enabled and left ∧ the conditions /
the default rule ask for it.  The kind of the error enters only through what the caller's
conditions are shown — never through "it looks like a deadline".
-/
namespace Req.Props.C10Kinds
open Req.Retry Req.RetryKinds Req.Props.C10

variable {σ W : Type} (p : Policy σ) (mw : Nat → σ → σ × W)

theorem outcome_not_before (a : Att) : a.outcome ≠ .beforeErr := by
  obtain ⟨c, n, x⟩ := a
  cases c <;> cases x <;> simp [Att.outcome]

theorem outcome_ctx (a : Att) (h : a.coherent = true) :
    (a.outcome = .cancelled ∨ a.outcome.ctxDone = true) ↔ a.ctx ≠ .alive := by
  obtain ⟨c, n, x⟩ := a
  cases c <;> cases x <;> simp_all [Att.outcome, Att.coherent, Outcome.ctxDone]

theorem outcome_err (a : Att) : a.outcome.errKind.isSome = a.cause.failed := by
  obtain ⟨c, n, x⟩ := a
  cases c <;> cases x <;> simp [Att.outcome, Outcome.errKind, Cause.failed]

/-- (One pass of the loop model `Req.Retry.iteration`.)  After an attempt of ANY kind the
loop goes round again iff the request's context is alive and the policy asks for a retry. -/
theorem retry_iff_ctx_alive (a : Att) (h : a.coherent = true) (ra : Nat) (st : σ) (prev : Option Resp) :
    (∃ x, (iteration R p mw a.outcome ra st prev).2 = .inr x) ↔
      a.ctx = .alive ∧ aborted p a.outcome ra = false ∧ p.enabled = true ∧
      (p.maxRetries < 0 ∨ (ra : Int) < p.maxRetries) ∧ need p a.outcome ra = true := by
  rw [Lemmas.C10Loop.retry_iff_step, Lemmas.C10Loop.wants_iff]
  have hctx := outcome_ctx a h
  have hnb := outcome_not_before a
  constructor
  · rintro ⟨-, hnotAborted, hnotCancelled, henabled, hcount, hconds, hctxAlive⟩
    refine ⟨?_, hnotAborted, henabled, hcount, hconds⟩
    by_cases hx : a.ctx = .alive
    · exact hx
    · exact absurd (hctx.mpr hx) (by simp [hnotCancelled, hctxAlive])
  · rintro ⟨halive, hnotAborted, henabled, hcount, hneeded⟩
    have hn : ¬ (a.outcome = .cancelled ∨ a.outcome.ctxDone = true) := fun hh => hctx.mp hh halive
    refine ⟨hnb, hnotAborted, fun hh => hn (Or.inl hh), henabled, hcount, hneeded, ?_⟩
    cases hd : a.outcome.ctxDone with
    | false => rfl
    | true => exact absurd (Or.inr hd) hn

/-- With the default rule (no condition, no request-level
response middleware) two failed attempts that leave the context in the same state are decided
alike — a client timeout, a dial timeout and a connection reset are all just "an error occurred";
in particular an error that merely MATCHES `context.DeadlineExceeded` is retried like any other
while the context is alive. -/
theorem default_rule_blind_to_error_kind (a b : Att) (ha : a.coherent = true) (hb : b.coherent = true)
    (hctx : a.ctx = b.ctx) (hfa : a.cause.failed = true) (hfb : b.cause.failed = true)
    (hc : p.conds = []) (haf : p.after = []) (ra : Nat) (st : σ) (prev : Option Resp) :
    (∃ x, (iteration R p mw a.outcome ra st prev).2 = .inr x) ↔
      (∃ x, (iteration R p mw b.outcome ra st prev).2 = .inr x) := by
  rw [retry_iff_ctx_alive p mw a ha, retry_iff_ctx_alive p mw b hb, hctx]
  have hna : need p a.outcome ra = true := by simp [need, hc, outcome_err, hfa]
  have hnb : need p b.outcome ra = true := by simp [need, hc, outcome_err, hfb]
  simp [hna, hnb, aborted, haf]

/-- An attempt that ran into the client's per-attempt timeout
(or a dial / TLS / read timeout) while the request's context is alive IS retried under the default
rule whenever retries are enabled and left. -/
theorem deadline_like_error_is_retried (a : Att) (hk : a.cause = .clientTimeout ∨ a.cause = .netTimeout)
    (hx : a.ctx = .alive) (hc : p.conds = []) (haf : p.after = []) (he : p.enabled = true)
    (ra : Nat) (hn : p.maxRetries < 0 ∨ (ra : Int) < p.maxRetries) (st : σ) (prev : Option Resp) :
    ∃ x, (iteration R p mw a.outcome ra st prev).2 = .inr x := by
  have hcoh : a.coherent = true := by rcases hk with h | h <;> simp [Att.coherent, h]
  rw [retry_iff_ctx_alive p mw a hcoh]
  have hf : a.cause.failed = true := by rcases hk with h | h <;> simp [Cause.failed, h]
  exact ⟨hx, by simp [aborted, haf], he, hn, by simp [need, hc, outcome_err, hf]⟩

/-- … and NO kind of attempt is followed by another one once the context is done. -/
theorem no_retry_when_ctx_done (a : Att) (h : a.coherent = true) (hx : a.ctx ≠ .alive) (ra : Nat) (st : σ)
    (prev : Option Resp) : ¬ ∃ x, (iteration R p mw a.outcome ra st prev).2 = .inr x := by
  rw [retry_iff_ctx_alive p mw a h]
  exact fun hh => hx hh.1

def exP : Policy Unit := ⟨true, 3, [], [], [], .fixed 0⟩
def exMw : Nat → Unit → Unit × Nat := fun ra s => (s, ra)

/-- the client's timeout on attempt 0, context alive: retried; same error with the context's
deadline passed: not; a connection reset with the context cancelled meanwhile: not -/
example : iterations (loop R exP exMw [(⟨.clientTimeout, 0, .alive⟩ : Att).outcome, .status 200] 0 () none).1 = 2 ∧
    iterations (loop R exP exMw [(⟨.clientTimeout, 0, .expired⟩ : Att).outcome, .status 200] 0 () none).1 = 1 ∧
    iterations (loop R exP exMw [(⟨.transport, 0, .canceled⟩ : Att).outcome, .status 200] 0 () none).1 = 1 ∧
    iterations (loop R exP exMw [(⟨.transport, 0, .alive⟩ : Att).outcome, .status 200] 0 () none).1 = 2 := by
  decide

example : (⟨.netTimeout, 0, .alive⟩ : Att).coherent = true ∧ (⟨.ctxDeadline, 0, .alive⟩ : Att).coherent = false ∧
    Cause.isDeadlineExceeded .clientTimeout = true ∧ Cause.isCanceled .clientTimeout = false := by decide

end Req.Props.C10Kinds
