import Req.Pool.DumpQueue
/-!
# C09: an asynchronous dump shows every chunk as it was when it was handed over

Model `Req/Pool/DumpQueue.lean` (the queue of `internal/dump` TOGETHER with the memory its tasks
point into).  `async_dump_as_received`: for every op list — any interleaving of `DumpTo` calls, of
the owners of the dumped buffers overwriting them (next response on the kept-alive connection,
next frame, next `Read` into the caller's buffer), of `Start`/`Stop` and of the writer goroutine's
two steps, i.e. any lag of the output — what an output has received plus what is still queued
for it, READ FROM MEMORY AS IT IS NOW, equals the bytes that were handed to `DumpTo` for it, as
they were at the call, in call order.  `drained_dump_as_received` is the user-visible form.
The hypothesis `cfg.copies = true` is the copy in `DumpTo`; `copy_is_needed` shows the statement
is false without it (`seeded/C09-r5-3`).
-/
namespace Req.Props.C09Dump
open Req.Pool.DumpQueue Req.Proto

structure Inv (cfg : Cfg) (s : St) : Prop where
  /-- every queued task points into a private buffer that has been allocated -/
  priv : ∀ t ∈ tasksOf s, ∃ n, t.data = ⟨.priv n, 0, t.data.len⟩ ∧ n < s.nextPriv
  /-- a synchronous dumper never queues a task -/
  sync : cfg.async = false → tasksOf s = []
  bal : ∀ o, s.written o ++ pending s o = s.want o

theorem pend_append (rd : Slice → Bytes) (a b : List Task) (o : Nat) :
    pend rd (a ++ b) o = pend rd a o ++ pend rd b o := by
  induction a with
  | nil => rfl
  | cons t r ih => simp only [List.cons_append, pend, ih, List.append_assoc]

theorem cut_self (p : Bytes) : cut p 0 p.length = p := by simp [cut]

theorem cut_length (m : Bytes) (lo len : Nat) (h : lo + len ≤ m.length) : (cut m lo len).length = len := by
  simp [cut]; omega

theorem pending_eq (s s' : St) (o : Nat) (hu : s'.user = s.user) (hv : s'.priv = s.priv)
    (ht : tasksOf s' = tasksOf s) : pending s' o = pending s o := by
  simp only [pending, hu, hv, ht]

/-- what is queued does not depend on the users' buffers, nor on private buffers not yet allocated -/
theorem pend_private {cfg : Cfg} {s : St} (h : Inv cfg s) (user' priv' : Nat → Bytes)
    (hv : ∀ n < s.nextPriv, priv' n = s.priv n) (o : Nat) :
    pend (readSl user' priv') (tasksOf s) o = pending s o := by
  have hp := h.priv
  unfold pending
  generalize tasksOf s = ts at hp
  induction ts with
  | nil => rfl
  | cons t r ih =>
    obtain ⟨n, hn, hlt⟩ := hp t (by simp)
    have ht : readSl user' priv' t.data = readSl s.user s.priv t.data := by
      rw [hn]; simp only [readSl, hv n hlt]
    simp only [pend, ih fun t' ht' => hp t' (by simp [ht']), ht]

theorem upd_append (f : Nat → Bytes) (o : Nat) (p : Bytes) (o' : Nat) :
    upd f o (f o ++ p) o' = f o' ++ if o = o' then p else [] := by
  unfold upd
  split <;> rename_i h
  · subst h; simp
  · simp [Ne.symm h]

/-- a step that changes neither the task list nor allocated private memory nor the outputs -/
theorem inv_same {cfg : Cfg} {s : St} (h : Inv cfg s) (user : Nat → Bytes) (ch : List (Option Task))
    (cur : Option Task) (running : Bool)
    (ht : tasksOf { s with user := user, ch := ch, cur := cur, running := running } = tasksOf s) :
    Inv cfg { s with user := user, ch := ch, cur := cur, running := running } :=
  ⟨by rw [ht]; exact h.priv, by rw [ht]; exact h.sync, fun o => by
    rw [pending, ht, pend_private h _ _ fun _ _ => rfl]; exact h.bal o⟩

theorem inv_sync {cfg : Cfg} {s : St} (h : Inv cfg s) (ha : cfg.async = false) (o : Nat) (p : Bytes) :
    Inv cfg { s with written := upd s.written o (s.written o ++ p), want := upd s.want o (s.want o ++ p) } :=
  ⟨h.priv, h.sync, fun o' => by
    have hb : s.written o' = s.want o' := by simpa [pending, h.sync ha, pend] using h.bal o'
    show upd _ _ _ o' ++ pend _ (tasksOf s) o' = upd _ _ _ o'
    rw [h.sync ha, upd_append, upd_append, hb]; exact List.append_nil _⟩

theorem inv_push {cfg : Cfg} {s : St} (h : Inv cfg s) (ha : cfg.async = true) (o len : Nat) (p : Bytes)
    (hl : p.length = len) (s' : St)
    (hs' : s' = { s with priv := upd s.priv s.nextPriv p, nextPriv := s.nextPriv + 1,
                         ch := s.ch ++ [some ⟨⟨.priv s.nextPriv, 0, len⟩, o⟩],
                         want := upd s.want o (s.want o ++ p) }) : Inv cfg s' := by
  have ht : tasksOf s' = tasksOf s ++ [⟨⟨.priv s.nextPriv, 0, len⟩, o⟩] := by
    simp [hs', tasksOf, List.filterMap_append]
  refine ⟨fun t h' => ?_, fun ha' => (by rw [ha] at ha'; cases ha'), fun o' => ?_⟩
  · rw [ht] at h'
    subst hs'
    rcases List.mem_append.1 h' with h' | h'
    · obtain ⟨n, hn, hlt⟩ := h.priv t h'
      exact ⟨n, hn, Nat.lt_succ_of_lt hlt⟩
    · cases List.mem_singleton.1 h'; exact ⟨s.nextPriv, rfl, Nat.lt_succ_self _⟩
  · rw [pending, ht]
    subst hs'
    show s.written o' ++ pend (readSl s.user (upd s.priv s.nextPriv p)) _ o' = upd _ _ _ o'
    rw [pend_append, pend_private h _ _ fun n hn => by simp [upd, Nat.ne_of_lt hn], upd_append,
      ← h.bal o', List.append_assoc]
    simp [pend, readSl, upd, cut, ← hl]

theorem inv_emit {cfg : Cfg} {s : St} (h : Inv cfg s) {t : Task} (hcur : s.cur = some t) (s' : St)
    (hs' : s' = { s with cur := none, written := upd s.written t.out
                           (s.written t.out ++ readSl s.user s.priv t.data) }) : Inv cfg s' := by
  have ht : tasksOf s = t :: tasksOf s' := by simp [hs', tasksOf, hcur]
  subst hs'
  refine ⟨fun t' h' => h.priv t' (ht ▸ List.mem_cons_of_mem _ h'), fun ha => ?_, fun o => ?_⟩
  · have := h.sync ha; rw [ht] at this; cases this
  · have hb := h.bal o
    rw [pending, ht] at hb
    show upd _ _ _ o ++ pend _ (tasksOf _) o = s.want o
    rw [upd_append, ← hb, List.append_assoc]; rfl

theorem Inv_init (cfg : Cfg) : Inv cfg {} := ⟨nofun, fun _ => rfl, fun _ => rfl⟩

theorem Inv_step (cfg : Cfg) (hc : cfg.copies = true) (s : St) (op : Op) (h : Inv cfg s) :
    Inv cfg (step cfg s op).1 := by
  cases op with
  | write b lo d =>
    simp only [step]
    split
    · exact inv_same h _ _ _ _ rfl
    · exact h
  | dumpTo b lo len out =>
    simp only [step, hc, if_true]
    split
    · exact h
    · next hlen =>
      cases out with
      | none => exact h
      | some o =>
        dsimp only
        split
        · exact h
        · split
          · next hasync => exact inv_sync h (by simpa using hasync) o _
          · next hasync =>
            split
            · exact h
            · exact inv_push h (by simpa using hasync) o len _ (cut_length _ _ _ (by omega)) _ rfl
  | start =>
    simp only [step]
    split
    · exact h
    · exact inv_same h _ _ _ _ rfl
  | stop =>
    simp only [step]
    split
    · exact h
    · exact inv_same h _ _ _ _ (by simp [tasksOf, List.filterMap_append])
  | take =>
    simp only [step]
    split
    · next hcond =>
      have hcur : s.cur = none := by simp at hcond; exact hcond.2
      split
      · exact h
      · next q hq => exact inv_same h _ _ _ _ (by simp [tasksOf, hq])
      · next t q hq => exact inv_same h _ _ _ _ (by simp [tasksOf, hq, hcur])
    · exact h
  | emit =>
    simp only [step]
    split
    · exact h
    · next t hcur => exact inv_emit h hcur _ rfl

theorem Inv_run (cfg : Cfg) (hc : cfg.copies = true) : ∀ (ops : List Op) (s : St), Inv cfg s → Inv cfg (run cfg s ops)
  | [], _, h => h
  | op :: ops, s, h => Inv_run cfg hc ops _ (Inv_step cfg hc s op h)

theorem Inv_reach (cfg : Cfg) (hc : cfg.copies = true) (ops : List Op) : Inv cfg (run cfg {} ops) :=
  Inv_run cfg hc ops {} (Inv_init cfg)

/-- **An asynchronous dump shows every chunk as it was handed over** — for every op list
(interleaving of dump calls, buffer reuse by the transport / the caller, writer lag, Start/Stop):
what output `o` has received, followed by what is queued for it read from memory as it is NOW,
is exactly the bytes given to `DumpTo` for `o`, as they were at the call, in call order. -/
theorem async_dump_as_received (cfg : Cfg) (hc : cfg.copies = true) (ops : List Op) (o : Nat) :
    (run cfg {} ops).written o ++ pending (run cfg {} ops) o = (run cfg {} ops).want o :=
  (Inv_reach cfg hc ops).bal o

/-- User-visible form: once the writer has caught up, every output holds exactly what was dumped
to it — no chunk replaced by later contents of the buffer it was cut from. -/
theorem drained_dump_as_received (cfg : Cfg) (hc : cfg.copies = true) (ops : List Op) (o : Nat)
    (hq : tasksOf (run cfg {} ops) = []) :
    (run cfg {} ops).written o = (run cfg {} ops).want o := by
  have h := async_dump_as_received cfg hc ops o
  simpa [pending, hq, pend] using h

/-- No queued task can be reached through a pointer somebody else holds. -/
theorem queued_tasks_are_private (cfg : Cfg) (hc : cfg.copies = true) (ops : List Op) :
    ∀ t ∈ tasksOf (run cfg {} ops), ∃ n, t.data.ref = .priv n := by
  intro t ht
  obtain ⟨n, hn, _⟩ := (Inv_reach cfg hc ops).priv t ht
  exact ⟨n, by rw [hn]⟩

/-- A synchronous dumper writes at once: the output always equals what was dumped. -/
theorem sync_dump_immediate (cfg : Cfg) (hc : cfg.copies = true) (ha : cfg.async = false) (ops : List Op) (o : Nat) :
    (run cfg {} ops).written o = (run cfg {} ops).want o :=
  drained_dump_as_received cfg hc ops o ((Inv_reach cfg hc ops).sync ha)

/-- response 1 (bytes 1,2,3) is dumped from the connection's read buffer, the writer is slow,
response 2 (7,8,9) is read into the same buffer and dumped, then the writer catches up. -/
def keepAlive : List Op :=
  [.start, .write 0 0 [1, 2, 3], .dumpTo 0 0 3 (some 0), .take, .write 0 0 [7, 8, 9],
   .dumpTo 0 0 3 (some 0), .emit, .take, .emit]

example : (run { async := true } {} keepAlive).written 0 = [1, 2, 3, 7, 8, 9] := by
  decide +kernel

/-- Without the copy (`seeded/C09-r5-3`) the same schedule shows the second response twice. -/
theorem copy_is_needed :
    (run { async := true, copies := false } {} keepAlive).written 0 = [7, 8, 9, 7, 8, 9] ∧
    (run { async := true, copies := false } {} keepAlive).want 0 = [1, 2, 3, 7, 8, 9] := by
  decide +kernel

end Req.Props.C09Dump
