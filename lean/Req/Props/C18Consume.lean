import Req.Client.Consume
import Req.Props.C18Pipeline
/-!
C18 — property theorems: every way the body is consumed after the call. The error a
call ended with is what every consumer reports, unchanged and for ever; a body that was not read
during the call (auto-read off, `SetOutput`, no target selected) is read by the first consumer,
and a failure of that late read or of the body transformer is reported AND recorded, so it is
again what every later consumer — and `resp.Err` — shows.
-/
namespace Req.Props.C18
open Req.Result Req.Pipeline Req.Consume

/-- On a response whose `Err` is set (any call that ended
in error) every consumer returns exactly that error and changes nothing. -/
theorem consumers_report_the_call_error (r : Resp) (e : Err) (h : r.err = some e) (u : Use) :
    consume r u = (r, some e) := by
  cases u <;> simp [consume, Consume.toBytes, unmarshalWith, h]
  cases r.http <;> simp [unmarshalWith, h]

theorem consumers_report_the_call_error_all (r : Resp) (e : Err) (h : r.err = some e) (us : List Use) :
    consumeAll r us = (r, us.map fun _ => some e) := by
  induction us with
  | nil => rfl
  | cons u rest ih => simp [consumeAll, consumers_report_the_call_error r e h u, ih]

/-- On the response of ANY call of the repaired code the above applies to the call's error. -/
theorem consumers_report_the_call_error_call (s : Stack) (r : Resp) (hr : callResp (run Fixes.all s) = some r)
    (e : Err) (he : callErr (run Fixes.all s) = some e) (us : List Use) :
    consumeAll r us = (r, us.map fun _ => some e) := by
  obtain ⟨_, _, _, hce⟩ := callResp_callDo _ s r hr
  exact consumers_report_the_call_error_all r e (hce ▸ he) us

/-- `ToBytes`: the error already recorded; or nothing fails and nothing is recorded; or the
body is read now, fails, and the failure is returned and recorded. -/
theorem toBytes_cases (r : Resp) :
    (∃ e, r.err = some e ∧ Consume.toBytes r = (r, some e)) ∨
    (r.err = none ∧ (Consume.toBytes r).2 = none ∧ (Consume.toBytes r).1.err = none) ∨
    (r.err = none ∧ r.bodyCached = false ∧ ∃ h e, r.http = some h ∧ h.acqErr = some e ∧
      (Consume.toBytes r).2 = some e ∧ (Consume.toBytes r).1.err = some e) := by
  cases hre : r.err with
  | some e => exact .inl ⟨e, rfl, by simp [Consume.toBytes, hre]⟩
  | none =>
    right
    cases hc : r.bodyCached with
    | true => exact .inl (by simp [Consume.toBytes, hre, hc])
    | false =>
      cases hh : r.http with
      | none => exact .inl (by simp [Consume.toBytes, hre, hc, hh])
      | some h =>
        cases ha : h.acqErr with
        | none => exact .inl (by simp [Consume.toBytes, hre, hc, hh, ha])
        | some e => exact .inr ⟨rfl, rfl, h, e, rfl, ha, by simp [Consume.toBytes, hre, hc, hh, ha]⟩

/-- Every consumer but `ToBytes` is `unmarshalWith` some codec. -/
theorem consume_eq (r : Resp) (u : Use) :
    (u = .toBytes ∧ consume r u = Consume.toBytes r) ∨ (u ≠ .toBytes ∧ ∃ c, consume r u = unmarshalWith r c) := by
  cases u with
  | toBytes => exact .inl ⟨rfl, rfl⟩
  | unmarshalJson => exact .inr ⟨Use.noConfusion, _, rfl⟩
  | unmarshalXml => exact .inr ⟨Use.noConfusion, _, rfl⟩
  | into =>
    refine .inr ⟨Use.noConfusion, ?_⟩
    unfold consume
    cases r.http <;> exact ⟨_, rfl⟩

/-- An unmarshalling consumer on a response without error: a failure of `ToBytes` is its own,
otherwise the unmarshaller decides. -/
theorem unmarshalWith_none (r : Resp) (c : Codec) (hre : r.err = none) :
    unmarshalWith r c = match (Consume.toBytes r).2 with
      | some e => ((Consume.toBytes r).1, some e)
      | none => if decodes (Consume.toBytes r).1 c then ((Consume.toBytes r).1, none)
                else ((Consume.toBytes r).1, some .unmarshal) := by
  unfold unmarshalWith
  rw [hre]
  generalize Consume.toBytes r = p
  obtain ⟨r1, e⟩ := p
  cases e <;> rfl

/-- A consumer that fails does so with the error already in
`resp.Err`, or with a failure to read / transform the body that it records in `resp.Err`, or —
unmarshalling consumers only — with the unmarshaller's rejection (not recorded: the body is
fine, another target may fit). -/
theorem late_read_failure_is_recorded (r : Resp) (u : Use) (e : Err) (h : (consume r u).2 = some e) :
    r.err = some e ∨
    (r.err = none ∧ (consume r u).1.err = some e ∧ r.bodyCached = false ∧ ∃ hh, r.http = some hh ∧ hh.acqErr = some e) ∨
    (r.err = none ∧ e = .unmarshal ∧ u ≠ .toBytes ∧ (consume r u).1.err = none) := by
  rcases toBytes_cases r with ⟨e0, hre, _⟩ | ⟨hre, ht, hok⟩ | ⟨hre, hc, hh, e1, hhttp, ha, ht, hrec⟩
  · rw [consumers_report_the_call_error r e0 hre u] at h
    cases h; exact .inl hre
  · rcases consume_eq r u with ⟨_, hcu⟩ | ⟨hu, c, hcu⟩ <;> rw [hcu] at h ⊢
    · rw [ht] at h; cases h
    · rw [unmarshalWith_none r c hre, ht] at h ⊢
      simp only [] at h ⊢
      split at h <;> cases h
      rw [if_neg ‹_›]
      exact .inr (.inr ⟨hre, rfl, hu, hok⟩)
  · have : (consume r u).2 = some e1 ∧ (consume r u).1.err = some e1 := by
      rcases consume_eq r u with ⟨_, hcu⟩ | ⟨_, c, hcu⟩ <;> rw [hcu]
      · exact ⟨ht, hrec⟩
      · rw [unmarshalWith_none r c hre, ht]; exact ⟨rfl, hrec⟩
    rw [this.1] at h
    cases h; exact .inr (.inl ⟨hre, this.2, hc, hh, hhttp, ha⟩)

/-- A late failure sticks: after a consumer recorded a read / transform failure every later
consumer reports it. -/
theorem late_failure_sticks (r : Resp) (u : Use) (e : Err) (h : (consume r u).1.err = some e) (us : List Use) :
    (consumeAll (consume r u).1 us).2 = us.map fun _ => some e := by
  rw [consumers_report_the_call_error_all _ e h]

/-- With auto-read off (or `SetOutput`) and no target selected the call does not read the body:
the first consumer does. -/
theorem lazy_read_only_for_a_target (s : Stack) (r : Resp) (hoff : s.autoRead = false ∨ s.save = true)
    (hsel : selectTarget (bindIn s r) = none) (hc : r.bodyCached = false) :
    (parseResp s (autoRead s r).1).resp.bodyCached = false := by
  have ha : (autoRead s r).1 = r := by
    unfold autoRead
    split
    · rw [if_neg]
      rintro ⟨_, ⟨h1, h2⟩, _⟩
      rcases hoff with h | h
      · rw [h] at h1; cases h1
      · rw [h] at h2; cases h2
    · rfl
  rw [ha]
  show (parseBody (bindIn s r)).bodyCached = false
  rcases parseBody_cases (bindIn s r) with ⟨_, hp⟩ | ⟨_, t, _, hsel', _⟩
  · rw [hp]; exact hc
  · rw [hsel] at hsel'; cases hsel'

/-- a 200 whose body transformer fails, auto-read off, no target -/
def exLazy : Stack :=
  { autoRead := false,
    transport := [.resp { status := 200, ct := [], custom := none, readOK := true, jsonOK := true, xmlOK := false,
                          xf := .fail (.stage 3) false }] }

/-- … the call succeeds, the first `ToBytes` fails with the transformer's error and records it,
`Into` afterwards reports it too -/
example : callErr (run Fixes.all exLazy) = none ∧
    ((callResp (run Fixes.all exLazy)).map fun r => (consumeAll r [.toBytes, .into]).2) =
      some [some (.stage 3), some (.stage 3)] := by decide

end Req.Props.C18
