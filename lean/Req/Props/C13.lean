import Req.Lemmas.C13ReadLine
import Req.Lemmas.C13Dump
/-!
C13 — dump is transparent and faithful.

First the response-header line reader (`Req.H1.BufLine`): the dumping `readLine` installed by
`newTextprotoReader` is `bufio.ReadLine` plus a dump of exactly the consumed bytes, for every
buffer size, reader state and read script; the same through `readLineSlice` (lines longer than
the buffer) and through any parser written on top of `readLine` (`Prog`). The closure as it
stands before fixes/C13-1 is proved NOT equivalent (witness for B = 16, replayed on the
implementation with B = 4096 by the lane). Then the dump plumbing (`Req.Client.Dump`), below.
-/
namespace Req.Props.C13
open Req.Proto Req.H1.BufLine

/-- The dumping `readLine` of `newTextprotoReader` returns what `bufio.ReadLine` returns and leaves the
reader in the same state. (`16 ≤ B` is what `bufio.NewReaderSize` guarantees; the equality needs no bound.) -/
theorem dump_readline_equiv (B : Nat) (_hB : 16 ≤ B) (st : Rd) :
    ((dumpReadLine B st).1, (dumpReadLine B st).2.1) = readLine B st :=
  dumpReadLine_eq_readLine B st

/-- Dumped bytes ++ everything still unread = everything that was
unread before: the dump is exactly the consumed bytes (a put-back '\r' is dumped by the call
that finally consumes it). -/
theorem dump_readline_exact (B : Nat) (st : Rd) :
    (dumpReadLine B st).2.2 ++ (dumpReadLine B st).2.1.bytes = st.bytes := by
  have hc := readSlice_bytes B st
  rcases h : readSlice B st with ⟨r, st1⟩
  rw [h] at hc
  simp only [dumpReadLine, h]
  simp only [Rd.bytes] at hc ⊢
  split
  · split
    · next hcr =>
      -- the put-back '\r' is unread again: it moves from the dump to the buffer
      rw [← hc]
      conv => rhs; rw [← lastIs_dropLast hcr]
      simp
    · exact hc
  · split
    · next he => simpa [he] using hc
    · exact hc

example : (dumpReadLine 16 (Rd.ofSrc [⟨[72, 105, 13, 10, 88], none⟩])) =
    (⟨[72, 105], false, none⟩, ⟨[88], none, []⟩, [72, 105, 13, 10]) := by decide +kernel

/-- The model's recursion fuel is never what ends a `ReadSlice`: the `stuck` marker is
unreachable, every model answer is a Go answer. -/
theorem model_readslice_total (B : Nat) (st : Rd) (hs : st.err ≠ some .stuck) :
    (readSlice B st).1.err ≠ some .stuck := readSlice_not_stuck B st hs

theorem plain_readline_dumps_nothing (B : Nat) (st : Rd) : (plainReadLine B st).2.2 = [] := by
  simp [plainReadLine]

/-- A whole line of ANY length (also many times the buffer size)
is read identically — same bytes or same error, same reader state — with and without dump. -/
theorem dump_readlineslice_equiv (B : Nat) (_hB : 16 ≤ B) (lim : Option Nat) (st : Rd) :
    (readLineSlice (dumpReadLine B) lim st).res = (readLineSlice (plainReadLine B) lim st).res ∧
    (readLineSlice (dumpReadLine B) lim st).st = (readLineSlice (plainReadLine B) lim st).st := by
  unfold readLineSlice
  rw [readLineSliceLoop_eq_prog _ lim true, readLineSliceLoop_eq_prog _ lim true]
  exact prog_congr _ _ (dump_agrees_plain B) _ st [] [] true true

/-- The dump of reading one line is exactly the bytes the read
consumed (terminator included), whatever the line length and the read sizes. -/
theorem dump_readlineslice_exact (B : Nat) (lim : Option Nat) (st : Rd) :
    (readLineSlice (dumpReadLine B) lim st).dumped ++ (readLineSlice (dumpReadLine B) lim st).st.bytes
      = st.bytes := by
  unfold readLineSlice
  rw [readLineSliceLoop_eq_prog _ lim true]
  simpa using prog_exact _ (dump_readline_exact B) _ (sliceProg_accounted lim _ []) st []

/-- The accumulation loop always ends with a Go result (every `isPrefix` round consumes at least
`B - 1 ≥ 1` bytes): the model's `stuck` marker is unreachable here too. `2 ≤ B` is needed —
with a 1-byte buffer `bufio.ReadLine` itself would spin on a lone '\r'. -/
theorem model_readlineslice_total (B : Nat) (hB : 2 ≤ B) (lim : Option Nat) (st : Rd)
    (h : GoodErr st.err) :
    (readLineSlice (dumpReadLine B) lim st).res ≠ .error .stuck := by
  suffices hl : ∀ f acc d (st : Rd), GoodErr st.err → st.bytes.length + 1 ≤ f →
      (readLineSliceLoop (dumpReadLine B) lim f acc d st).res ≠ .error .stuck from
    hl _ [] [] st h (by omega)
  intro f
  induction f with
  | zero => intro _ _ st _ hf; omega
  | succ f ih =>
    intro acc d st h hf
    have hspec := dumpReadLine_spec B st h
    have hex := dump_readline_exact B st
    rcases hrl : dumpReadLine B st with ⟨r, st1, d1⟩
    rw [hrl] at hspec hex
    simp only at hspec hex
    simp only [readLineSliceLoop, hrl]
    split
    · next e he =>
      intro hc
      simp only [Res.error.injEq] at hc
      exact hspec.2.1 (he.trans (congrArg some hc))
    · split
      · simp
      · split
        · next hp =>
          apply ih _ _ st1 hspec.1
          have h1 := hspec.2.2 hp
          have h2 := congrArg List.length hex
          simp only [List.length_append] at h2
          omega
        · simp

-- a 20-byte line through a 16-byte buffer, delivered in two reads
example : (readLineSlice (dumpReadLine 16) none
      (Rd.ofSrc [⟨[88, 45, 65, 58, 32, 97, 97, 97, 97, 97], none⟩,
                 ⟨[97, 97, 97, 97, 97, 97, 97, 97, 13, 10, 89], none⟩])).res
    = .ok [88, 45, 65, 58, 32, 97, 97, 97, 97, 97, 97, 97, 97, 97, 97, 97, 97, 97] := by decide +kernel

/-- Every parser built from `readLine` calls and direct reader access
computes the same result and leaves the same reader state with the dumping `readLine`. -/
theorem dump_prog_equiv {α : Type} (B : Nat) (hB : 16 ≤ B) (p : Prog α) (st : Rd) (d d' : Bytes)
    (e e' : Bool) :
    (p.run (dumpReadLine B) e st d).1 = (p.run (plainReadLine B) e' st d').1 ∧
    (p.run (dumpReadLine B) e st d).2.1 = (p.run (plainReadLine B) e' st d').2.1 :=
  prog_congr _ _ (dump_agrees_plain B) p st d d' e e'

theorem dump_prog_exact {α : Type} (B : Nat) (p : Prog α) (hp : p.Accounted) (st : Rd) (d : Bytes) :
    (p.run (dumpReadLine B) true st d).2.2 ++ (p.run (dumpReadLine B) true st d).2.1.bytes
      = d ++ st.bytes :=
  prog_exact _ (dump_readline_exact B) p hp st d

/-- A header line with one obs-fold continuation, read the way `readContinuedLineSlice` does:
`readLine`, `skipSpace` (direct ReadByte access), `readLine`. -/
def foldProg (B : Nat) : Prog (Bytes × Bytes × Bytes) :=
  .line fun r1 => .eat (skipSpace B) fun sp => .line fun r2 => .ret (r1.line, sp, r2.line)

/-- …is accounted (`skipSpace` returns exactly what it removed), so `dump_prog_exact` applies:
after fixes/C13-2 the blanks eaten by `skipSpace` are in the dump. -/
theorem foldProg_accounted (B : Nat) : (foldProg B).Accounted :=
  fun _ => ⟨fun st => skipSpace_bytes B st, fun _ _ => trivial⟩

theorem foldProg_dump_exact (B : Nat) (st : Rd) :
    ((foldProg B).run (dumpReadLine B) true st []).2.2 ++
      ((foldProg B).run (dumpReadLine B) true st []).2.1.bytes = st.bytes := by
  simpa using dump_prog_exact B (foldProg B) (foldProg_accounted B) st []

-- "A: b\r\n  c\r\nX": lines "A: b" and "c", two blanks eaten, all 11 consumed bytes dumped
example : (foldProg 16).run (dumpReadLine 16) true
      (Rd.ofSrc [⟨[65, 58, 32, 98, 13, 10, 32, 32, 99, 13, 10, 88], none⟩]) []
    = (([65, 58, 32, 98], [32, 32], [99]), ⟨[88], none, []⟩,
       [65, 58, 32, 98, 13, 10, 32, 32, 99, 13, 10]) := by decide +kernel

/-- With a 16-byte buffer and a 20-byte header line the
closure as found (`dumpReadLineOld`) returns the first 16 bytes as a COMPLETE line (`isPrefix = false`)
where `bufio.ReadLine` reports a prefix: `readLineSlice` then yields a truncated line and the
remainder is parsed as the next header ("malformed MIME header: missing colon"). -/
theorem old_dump_readline_not_equiv :
    ∃ st : Rd, (dumpReadLineOld 16 st).1 ≠ (readLine 16 st).1 ∧
      (readLineSlice (dumpReadLineOld 16) none st).res ≠ (readLineSlice (plainReadLine 16) none st).res :=
  ⟨Rd.ofSrc [⟨[88, 45, 65, 58, 32, 97, 97, 97, 97, 97, 97, 97, 97, 97, 97, 97, 97, 97, 13, 10], none⟩],
    by decide +kernel, by decide +kernel⟩

/-- …and it agrees with the repaired closure whenever `ReadSlice` does not report a full buffer,
which is why tests with short header lines never see it. -/
theorem old_dump_readline_equiv_when_fits (B : Nat) (st : Rd)
    (h : (readSlice B st).1.err ≠ some .bufferFull) :
    dumpReadLineOld B st = dumpReadLine B st := by
  simp [dumpReadLineOld, dumpReadLine, h]

end Req.Props.C13

/-!
The dump plumbing (`Req.Client.Dump`): which writer each part is routed to and that a writer
holds exactly the parts selected for it; the pass-through wrappers are transparent and dump
exactly what passed; the asynchronous queue delivers, under every schedule, what the
synchronous dump writes.
-/
namespace Req.Props.C13
open Req.Proto Req.Client.Dump

theorem routing_resolve_own (o : Opts) :
    (∀ w, o.requestHeaderOutput = some w → o.resolve .reqHeader = w) ∧
    (∀ w, o.requestBodyOutput = some w → o.resolve .reqBody = w) ∧
    (∀ w, o.responseHeaderOutput = some w → o.resolve .respHeader = w) ∧
    (∀ w, o.responseBodyOutput = some w → o.resolve .respBody = w) := by
  refine ⟨?_, ?_, ?_, ?_⟩ <;> intro w h <;> simp [Opts.resolve, pick, h]

theorem routing_resolve_direction (o : Opts) :
    (∀ w, o.requestHeaderOutput = none → o.requestOutput = some w → o.resolve .reqHeader = w) ∧
    (∀ w, o.requestBodyOutput = none → o.requestOutput = some w → o.resolve .reqBody = w) ∧
    (∀ w, o.responseHeaderOutput = none → o.responseOutput = some w → o.resolve .respHeader = w) ∧
    (∀ w, o.responseBodyOutput = none → o.responseOutput = some w → o.resolve .respBody = w) := by
  refine ⟨?_, ?_, ?_, ?_⟩ <;> intro w h1 h2 <;> simp [Opts.resolve, pick, h1, h2]

theorem routing_resolve_default (o : Opts) :
    (o.requestHeaderOutput = none → o.requestOutput = none → o.resolve .reqHeader = o.out) ∧
    (o.requestBodyOutput = none → o.requestOutput = none → o.resolve .reqBody = o.out) ∧
    (o.responseHeaderOutput = none → o.responseOutput = none → o.resolve .respHeader = o.out) ∧
    (o.responseBodyOutput = none → o.responseOutput = none → o.resolve .respBody = o.out) := by
  refine ⟨?_, ?_, ?_, ?_⟩ <;> intro h1 h2 <;> simp [Opts.resolve, pick, h1, h2]

/-- After `newDumper` the default writer is never a nil one and only `Output` was touched. -/
theorem newDumper_out (o : Opts) :
    (newDumper o).out = (match o.output with | some w => w | none => stderr) ∧
    ∀ p, (newDumper o).enabled p = o.enabled p := by
  constructor
  · unfold newDumper Opts.out; cases h : o.output <;> simp [h]
  · intro p; unfold newDumper; cases h : o.output <;> cases p <;> rfl

/-- An enabled (non-empty) part goes, exactly once, to exactly the writer it
resolves to; a disabled part goes to no writer. -/
theorem routing (o : Opts) (e : Exchange) (p : Part) :
    (o.enabled p = true → (e.part p).isEmpty = false →
      (dumperEvents o e).filter (·.part = p) = [⟨o.resolve p, p, e.part p⟩]) ∧
    (o.enabled p = false → (dumperEvents o e).filter (·.part = p) = []) := by
  -- a part occurs once in `Part.all`
  have hp : Part.all.filter (fun q => decide (q = p)) = [p] := by cases p <;> rfl
  have h : (dumperEvents o e).filter (·.part = p) =
      ([p].filter fun p => o.enabled p && !(e.part p).isEmpty).map fun p => ⟨o.resolve p, p, e.part p⟩ := by
    rw [dumperEvents_eq, List.filter_map, ← hp, List.filter_filter, List.filter_filter]
    congr 2
    funext q
    exact Bool.and_comm _ _
  rw [h]
  exact ⟨fun h1 h2 => by simp [h1, h2], fun h1 => by simp [h1]⟩

example : dumperEvents { requestHeader := true, responseBody := true, output := some 1,
                         responseBodyOutput := some 2 } ⟨[71], [1], [72], [98]⟩
    = [⟨1, .reqHeader, [71]⟩, ⟨2, .respBody, [98]⟩] := by decide +kernel

/-- A convenience setter switches off exactly the parts it names and never
switches a part on; nothing else about routing changes. -/
theorem presets_exact (p : Preset) (o : Opts) (q : Part) :
    (p.apply o).enabled q = (o.enabled q && !(p.off.contains q)) := by
  -- the closing `match` of `Preset.apply` touches `async` and `output` only
  unfold Preset.apply
  split <;> cases q <;> rfl

theorem presets_only_narrow (ps : List Preset) (o : Opts) (q : Part) :
    (applyPresets ps o).enabled q = true → o.enabled q = true :=
  List.foldlRecOn (motive := fun o' : Opts => o'.enabled q = true → o.enabled q = true) ps _ id
    fun o' h p _ h' => h (by rw [presets_exact, Bool.and_eq_true] at h'; exact h'.1)

example : (applyPresets [.withoutRequestBody, .withoutResponse] (defaultOpts stdout)).enabled .reqHeader = true ∧
    (applyPresets [.withoutRequestBody, .withoutResponse] (defaultOpts stdout)).enabled .reqBody = false := by decide +kernel

/-- The selected parts of one attempt for writer `w`: the enabled parts that resolve to `w`,
in wire order. -/
def selectedParts (o : Opts) (e : Exchange) (w : Writer) : Bytes :=
  (Part.all.filter fun p => o.enabled p && o.resolve p == w).flatMap e.part

theorem contentP_dumperEvents (o : Opts) (e : Exchange) (w : Writer) :
    contentP w (dumperEvents o e) = selectedParts o e w := by
  rw [dumperEvents_eq, contentP_eq_flatMap, List.flatMap_map, selectedParts, List.flatMap_filter, List.flatMap_filter]
  congr
  funext q
  -- an empty part is skipped on the left and adds nothing on the right
  cases o.enabled q <;> by_cases h3 : o.resolve q = w <;> cases h2 : e.part q <;> simp [h3]

/-- For any dumper list (client-level, request-level, both) and any
number of attempts (retries, redirect hops) writer `w` holds exactly the selected parts, each
once, attempt after attempt. -/
theorem selected_parts_exact (ds : List Opts) (es : List Exchange) (w : Writer) :
    expectedDump ds es w = es.flatMap fun e => ds.flatMap fun o => selectedParts o e w := by
  -- the events are a `flatMap` over attempts and dumpers, and so is a writer's content over events
  simp only [expectedDump, expectedEvents, contentP_eq_flatMap, List.flatMap_assoc]
  simp only [← contentP_eq_flatMap, contentP_dumperEvents]

/-- Nothing of a part that is switched off in every dumper reaches any writer. -/
theorem disabled_part_nowhere (ds : List Opts) (es : List Exchange) (p : Part)
    (h : ∀ o ∈ ds, o.enabled p = false) :
    (expectedEvents ds es).filter (·.part = p) = [] := by
  simp only [expectedEvents, List.filter_flatMap]
  exact List.flatMap_eq_nil_iff.mpr fun e _ => List.flatMap_eq_nil_iff.mpr fun o ho => (routing o e p).2 (h o ho)

example : expectedDump
    [{ requestHeader := true, responseBody := true, output := some 1, responseBodyOutput := some 2 },
     { responseBody := true, requestBody := true, output := some 3 }]
    [⟨[71], [1], [72], [98]⟩, ⟨[71], [], [72], [99]⟩] 3 = [1, 98, 99] := by decide +kernel

theorem expectedDump_single (ds : List Opts) (e : Exchange) (w : Writer) :
    expectedDump ds [e] w = ds.flatMap fun o => selectedParts o e w := by
  simp [selected_parts_exact]

theorem selectedParts_foreign (o : Opts) (e : Exchange) (w : Writer)
    (h : w ∉ Part.all.map o.resolve) : selectedParts o e w = [] := by
  have : (Part.all.filter fun p => o.enabled p && o.resolve p == w) = [] := by
    apply List.filter_eq_nil_iff.mpr
    intro p hp
    simp only [Bool.and_eq_true, beq_iff_eq, not_and]
    exact fun _ hw => h (List.mem_map.mpr ⟨p, hp, hw⟩)
  simp [selectedParts, this]

theorem expectedDump_foreign (ds : List Opts) (e : Exchange) (w : Writer)
    (h : w ∉ writersOf ds) : expectedDump ds [e] w = [] := by
  rw [expectedDump_single]
  exact List.flatMap_eq_nil_iff.mpr fun o ho =>
    selectedParts_foreign o e w fun hw => h (List.mem_flatMap.mpr ⟨o, ho, hw⟩)

/-- In a sequence of requests (one keep-alive connection, one
multiplexed connection) with per-request dumpers, a writer holds, request after request,
exactly the selected parts of the requests whose dumpers resolve to it… -/
theorem per_request_exact (steps : List ReqStep) (w : Writer) :
    expectedDumpSeq steps w =
      steps.flatMap fun s => s.1.flatMap fun o => selectedParts o s.2 w := by
  simp only [expectedDumpSeq, expectedDump_single]

/-- …so a writer that only request `s`'s dumpers use holds exactly
that request's selected parts: nothing of an earlier or later exchange on the same connection
(the trial change `seeded/C13-2`, a response-header reader cached on the connection, violates this). -/
theorem per_request_isolated (before after : List ReqStep) (s : ReqStep) (w : Writer)
    (hb : ∀ t ∈ before, w ∉ writersOf t.1) (ha : ∀ t ∈ after, w ∉ writersOf t.1) :
    expectedDumpSeq (before ++ s :: after) w = expectedDump s.1 [s.2] w := by
  have nil_of : ∀ l : List ReqStep, (∀ t ∈ l, w ∉ writersOf t.1) → expectedDumpSeq l w = [] :=
    fun l hl => List.flatMap_eq_nil_iff.mpr fun t ht => expectedDump_foreign t.1 t.2 w (hl t ht)
  have hB := nil_of before hb
  have hA := nil_of after ha
  unfold expectedDumpSeq at hB hA ⊢
  simp only [List.flatMap_append, List.flatMap_cons, hB, hA, List.nil_append, List.append_nil]

example : expectedDumpSeq
    [([{ responseHeader := true, output := some 120 }], ⟨[71], [], [72], [98]⟩),
     ([{ responseHeader := true, output := some 220 }], ⟨[71], [], [73], [99]⟩)] 120 = [72] := by decide +kernel

/-- Writers: for every sequence of writes, the results the caller
sees and everything the wrapped writer experiences are the same as without the wrapper. -/
theorem wrappers_transparent {σ : Type} (w : WriterM σ) (s : σ) (d : Bytes) (ps : List Bytes) :
    ((wrapWriter w).runAll (s, d) ps).1 = (w.runAll s ps).1 ∧
    ((wrapWriter w).runAll (s, d) ps).2.1 = (w.runAll s ps).2 := by
  rw [wrapWriter_eq_tee, tee_runAll]
  exact ⟨rfl, rfl⟩

/-- What passed: the accepted prefix of every write. -/
def passed : List Bytes → List IORes → Bytes
  | p :: ps, r :: rs => p.take r.n ++ passed ps rs
  | _, _ => []

theorem fed_take (d : Bytes) (ps : List Bytes) (rs : List IORes) :
    fed (fun d p r => d ++ p.take r.n) d ps rs = d ++ passed ps rs := by
  induction ps generalizing d rs with
  | nil => simp [fed, passed]
  | cons p ps ih => cases rs <;> simp [fed, passed, ih]

/-- Writers: the dump is exactly the bytes that passed, once. -/
theorem wrappers_exact {σ : Type} (w : WriterM σ) (s : σ) (d : Bytes) (ps : List Bytes) :
    ((wrapWriter w).runAll (s, d) ps).2.2 = d ++ passed ps (w.runAll s ps).1 := by
  rw [wrapWriter_eq_tee, tee_runAll]
  exact fed_take d ps _

/-- Two dumpers (client-level and request-level) wrap the same writer twice: still
transparent, and both dump the same bytes. -/
theorem wrappers_nested {σ : Type} (w : WriterM σ) (s : σ) (ps : List Bytes) :
    ((wrapWriter (wrapWriter w)).runAll ((s, []), []) ps).1 = (w.runAll s ps).1 ∧
    ((wrapWriter (wrapWriter w)).runAll ((s, []), []) ps).2.1.1 = (w.runAll s ps).2 ∧
    ((wrapWriter (wrapWriter w)).runAll ((s, []), []) ps).2.2 =
      ((wrapWriter (wrapWriter w)).runAll ((s, []), []) ps).2.1.2 := by
  have t1 := wrappers_transparent (wrapWriter w) (s, []) [] ps
  have t2 := wrappers_transparent w s [] ps
  have e1 := wrappers_exact (wrapWriter w) (s, []) [] ps
  have e2 := wrappers_exact w s [] ps
  refine ⟨t1.1.trans t2.1, ?_, ?_⟩
  · rw [t1.2]; exact t2.2
  · rw [e1, t1.2, e2, t2.1]

def received : List (Bytes × Nat) → Bytes
  | [] => []
  | x :: xs => x.1 ++ received xs

def eofs : List (Bytes × Nat) → Nat
  | [] => 0
  | x :: xs => (if x.2 = 1 then 1 else 0) + eofs xs

theorem wrapReader_runAll {σ : Type} (r : ReaderM σ) (s : σ) (d : Bytes) (k : Nat) (caps : List Nat) :
    (wrapReader r).runAll (s, d, k) caps =
      ((r.runAll s caps).1, (r.runAll s caps).2, d ++ received (r.runAll s caps).1,
        k + eofs (r.runAll s caps).1) := by
  induction caps generalizing s d k with
  | nil => simp [ReaderM.runAll, received, eofs]
  | cons c cs ih =>
    have e : (wrapReader r).read (s, d, k) c = ((r.read s c).1, (r.read s c).2,
        d ++ (r.read s c).1.1, if (r.read s c).1.2 = 1 then k + 1 else k) := rfl
    simp only [ReaderM.runAll, e, ih, received, eofs, List.append_assoc]
    split <;> simp <;> omega

/-- Response body reader: for every sequence of read sizes the
caller gets the same data and errors, and the wrapped reader ends in the same state. -/
theorem wrappers_transparent_reader {σ : Type} (r : ReaderM σ) (s : σ) (d : Bytes) (k : Nat)
    (caps : List Nat) :
    ((wrapReader r).runAll (s, d, k) caps).1 = (r.runAll s caps).1 ∧
    ((wrapReader r).runAll (s, d, k) caps).2.1 = (r.runAll s caps).2 := by
  rw [wrapReader_runAll]
  exact ⟨rfl, rfl⟩

/-- Response body reader: the dumped body is exactly the bytes the caller
received, once, and one separator is written per reported EOF. -/
theorem wrappers_exact_reader {σ : Type} (r : ReaderM σ) (s : σ) (d : Bytes) (k : Nat)
    (caps : List Nat) :
    ((wrapReader r).runAll (s, d, k) caps).2.2.1 = d ++ received (r.runAll s caps).1 ∧
    ((wrapReader r).runAll (s, d, k) caps).2.2.2 = k + eofs (r.runAll s caps).1 := by
  rw [wrapReader_runAll]
  exact ⟨rfl, rfl⟩

example : ((wrapWriter limitedWriter).runAll ((5, []), []) [[1, 2, 3], [4, 5, 6], [7]]) =
    ([⟨3, 0⟩, ⟨2, 2⟩, ⟨0, 2⟩], ((0, [1, 2, 3, 4, 5]), [1, 2, 3, 4, 5])) := by decide +kernel

example : ((wrapReader (bytesReader false)).runAll ([1, 2, 3], [], 0) [2, 2, 2]) =
    ([([1, 2], 0), ([3], 0), ([], 1)], ([], [1, 2, 3], 1)) := by decide +kernel

theorem content_append (w : Writer) (a b : List Event) :
    content w (a ++ b) = content w a ++ content w b := by
  induction a with
  | nil => simp [content]
  | cons x xs ih => simp [content, ih]

/-- Under EVERY schedule of senders and the `Start` loop, what has been
written is a prefix (in program order) of the synchronous dump; once the queue is drained every
writer holds exactly the synchronous content. -/
theorem async_same_content (cap : Nat) (evs : List Event) (sched : List Step) :
    let c := (Chan.mk evs [] [] true).run cap sched
    (∃ rest, c.written ++ rest = evs) ∧
    (c.done = true → ∀ w, content w c.written = content w evs) := by
  intro c
  have h : c.written ++ c.queue ++ c.todo = evs := chan_run_inv cap ⟨evs, [], [], true⟩ sched
  refine ⟨⟨c.queue ++ c.todo, by rw [← List.append_assoc, h]⟩, fun hd w => ?_⟩
  simp only [Chan.done, Bool.and_eq_true, List.isEmpty_iff] at hd
  rw [hd.1, hd.2, List.append_nil, List.append_nil] at h
  rw [h]

/-- The alternating schedule send, recv, send, recv, … -/
def alternating : Nat → List Step
  | 0 => []
  | n + 1 => .send :: .recv :: alternating n

/-- …drains any event list (capacity ≥ 1): delivery does complete, so `async_same_content` is not
vacuous. -/
theorem async_alternating_drains (cap : Nat) (hcap : 0 < cap) (evs wr : List Event) :
    ((Chan.mk evs [] wr true).run cap (alternating evs.length)).done = true := by
  induction evs generalizing wr with
  | nil => simp [alternating, Chan.run, Chan.done]
  | cons e es ih =>
    simp only [List.length_cons, alternating, Chan.run, Chan.step, List.length_nil, hcap, if_true,
      List.nil_append]
    exact ih _

/-- After ANY sequence of enabling, re-configuring (also
sync → async on a live dumper), disabling and cloning, the client's dumper — if there is one —
has a running `Start` loop (`started`), so it `delivers` whether its options say sync or async; that a
started loop does drain the queue is `async_same_content`, `async_alternating_drains`. (A clone that starts
the loop only when the copied options are async at that moment breaks exactly this.) -/
theorem lifecycle_always_started (ops : List LifeOp) (d : DumperSt) (h : lifeRun ops = some d) :
    d.started = true ∧ d.delivers = true := by
  have := lifeFold_started ops none (by simp) d h
  simp [DumperSt.delivers, this]

example : lifeRun [.set false, .clone, .asyncAll] = some ⟨true, true⟩ := by decide +kernel

/-- A dumper whose `Start` loop was never launched (every
request-level dumper in the code as found) writes nothing under any schedule… -/
theorem unstarted_async_writes_nothing (cap : Nat) (evs : List Event) (sched : List Step) :
    ((Chan.mk evs [] [] false).run cap sched).written = [] := by
  refine (chan_run_induct cap (fun x => x.started = false ∧ x.written = [])
    (fun x x' st hx hs => ?_) sched _ ⟨rfl, rfl⟩).2
  rcases chan_step_cases hs with ⟨e, _, hx'⟩ | ⟨hst, _⟩
  · rw [hx']; exact hx
  · rw [hx.1] at hst; cases hst

/-- …and once `cap` tasks are queued the next `DumpTo` blocks for ever: no step is enabled. -/
theorem unstarted_async_blocks (cap : Nat) (c : Chan) (hs : c.started = false)
    (hfull : c.queue.length = cap) (st : Step) : c.step cap st = none := by
  cases st with
  | send => simp only [Chan.step]; split <;> simp [hfull]
  | recv => simp [Chan.step, hs]

example : ((Chan.mk [⟨1, [65]⟩, ⟨2, [66]⟩, ⟨1, [67]⟩] [] [] true).run 2
    [.recv, .send, .send, .send, .recv, .send, .recv, .recv]).written
    = [⟨1, [65]⟩, ⟨2, [66]⟩, ⟨1, [67]⟩] := by decide +kernel

end Req.Props.C13
