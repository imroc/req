import Req.Lemmas.C07H1
import Req.Lemmas.H1Head
import Req.Lemmas.C07H3
import Req.H2.Frame
import Req.Client.DigestAuth
import Req.Lemmas.C20Select
import Req.Lemmas.C20Field
/-!
C07 — the reader loops of the HTTP/1.1, HTTP/2 and HTTP/3 models and the digest challenge reader, on
every server-chosen input. The models run on fuel; a loop TERMINATES when any fuel above the input
length gives the same answer (the strictly decreasing measure is the remaining input), makes PROGRESS
when what it returns as "rest" is a proper suffix, does not AMPLIFY when it delivers no more bytes than
it received, and its outcome is CLASSIFIED when it is a value or one of the named errors. Which of
these is proved of which loop is in the names of the theorems.

| loop in /repo | model |
|---|---|
| `chunkedReader.Read` / `beginChunk` (internal/chunked.go) | `H1.chunkLoop` |
| `readContinuedLineSlice` `for r.skipSpace() > 0` (textproto_reader.go:124) | `H1.readCont` |
| `readMIMEHeader` `for {}` (textproto_reader.go:231) | `H1.mimeLoop` |
| `persistConn.readResponse` `for {}` (transport.go:2895) | `H1.parseFinalHead` |
| `Framer.ReadFrame` called in `clientConnReadLoop.run` `for {}` | `H2.Frame.readFrame/readAll` |
| `frameParser.ParseNext` `for {}` (internal/http3/frames.go:29) | `H3.Frame.parseNext` (its termination is `h3budget.h3_parseNext_terminates`) |
| `parseSettingsFrame` `for b.Len() > 0` | `H3.Frame.settingsLoop` |
| `parseChallenge` (digest.go, the RFC 7235 challenge-list reader) | `DigestAuth.parseChallenge` |
-/
namespace Req.Props.C07
namespace total
open Req.Proto Req.H1 Req.Lemmas.C07.H1

/-- The chunked reader's loop needs at most one iteration per input byte;
more fuel never changes what it returns — it cannot spin on any body (zero-length chunks, empty
lines, huge sizes included). -/
theorem chunked_terminates (fuel B : Nat) (s : Bytes) (h : s.length < fuel) :
    chunkLoop fuel B 0 s = decodeChunked B s :=
  chunkLoop_fuel_stable fuel (s.length + 1) B 0 s h (Nat.lt_succ_self _)

/-- The bytes handed to the caller never exceed the bytes received. -/
theorem chunked_no_amplification (B : Nat) (s : Bytes) : (decodeChunked B s).1.length ≤ s.length :=
  chunkLoop_data_le _ B 0 s

/-- When the reader reports the end of the body, at least the last-chunk
line was consumed. -/
theorem chunked_end_progress (B : Nat) (s d r : Bytes) (h : decodeChunked B s = (d, some r)) :
    r.length < s.length :=
  chunkLoop_rest_lt _ B 0 s d r h

/-- The obs-fold loop consumes a line per iteration. -/
theorem continuation_terminates (fuel : Nat) (acc s : Bytes) (h : s.length < fuel) :
    readCont fuel acc s = readCont (s.length + 1) acc s :=
  readCont_fuel_stable fuel (s.length + 1) acc s h (Nat.lt_succ_self _)

/-- The header-block loop consumes at least a line per iteration. -/
theorem mime_terminates (fuel : Nat) (m : HeaderMap) (s : Bytes) (h : s.length < fuel) :
    mimeLoop fuel m s = mimeLoop (s.length + 1) m s :=
  mimeLoop_fuel_stable fuel (s.length + 1) m s h (Nat.lt_succ_self _)

/-- An accepted header block consumed at least its terminating blank line. -/
theorem mime_progress (s r : Bytes) (res : HeaderMap) (h : readMIMEHeader s = some (res, r)) :
    r.length < s.length := by
  unfold readMIMEHeader at h
  split at h
  · split at h
    · cases h
    · exact mimeLoop_rest_lt _ _ _ _ _ h
  · cases h

/-- Every accepted response head consumes input — the measure of the interim
loop. -/
theorem h1_head_progress (isHead : Bool) (s r : Bytes) (m : Msg)
    (h : parseHead isHead s = some (m, r)) : r.length < s.length :=
  let ⟨_, _, _, _, hl, _, hm, _⟩ := parseHead_eq_some.1 h
  Nat.lt_trans (mime_progress _ _ _ hm) (readLine_length hl)

theorem h1_final_progress (fuel : Nat) (isHead : Bool) (s r : Bytes) (m : Msg)
    (h : parseFinalHead fuel isHead s = some (m, r)) : r.length < s.length :=
  parseFinalHead_ind (P := fun _ s _ r => r.length < s.length)
    (fun hp _ => h1_head_progress _ _ _ _ hp)
    (fun hp _ ih => Nat.lt_trans ih (h1_head_progress _ _ _ _ hp)) h

theorem readBody_data_le (B : Nat) (m : Msg) (s : Bytes) : (readBody B m s).data.length ≤ s.length := by
  unfold readBody
  simp only
  split
  · simp
  · split
    · simp only [List.length_take]; omega
    · simp
  · simp
  · split
    · next d hd =>
      have := chunked_no_amplification B s
      rw [hd] at this
      exact this
    · next d r hd =>
      have := chunked_no_amplification B s
      rw [hd] at this
      split <;> exact this

/-- For EVERY byte stream the response reader (interim heads skipped) either fails the call or
returns a response, and the body it delivers is shorter than the stream. -/
theorem h1_final_total_classified (isHead : Bool) (B : Nat) (s : Bytes) :
    parseFinal isHead B s = .reject ∨
    ∃ m b, parseFinal isHead B s = .resp m b ∧ b.data.length < s.length := by
  unfold parseFinal
  split
  · exact Or.inl rfl
  · next m r hp =>
    refine Or.inr ⟨m, _, rfl, ?_⟩
    have h1 := h1_final_progress 6 isHead s r m hp
    have h2 := readBody_data_le B m r
    omega

open Req.H2.Frame

/-- `ReadFrame` never un-reads, and unless it fails with a terminal
error it consumed the nine header bytes (the measure of the connection read loop). -/
theorem h2_readFrame_progress (r : Reader) (input : Bytes) :
    (readFrame r input).2.2.length ≤ input.length ∧
    ((∀ e, (readFrame r input).1 = .error e → e.terminal = false) →
      (readFrame r input).2.2.length + 9 ≤ input.length) := by
  unfold readFrame
  split
  · next hp =>
    refine ⟨by simp, ?_⟩
    intro h
    have := h _ rfl
    split at this <;> simp [RErr.terminal] at this
  · next fh rest hp =>
    have hlen : rest.length + 9 = input.length := by
      unfold parseHeader at hp
      split at hp
      · simp only [Option.some.injEq, Prod.mk.injEq] at hp
        obtain ⟨_, rfl⟩ := hp
        simp
      · cases hp
    split
    · exact ⟨by simp; omega, fun _ => by simp; omega⟩
    · split
      · exact ⟨by simp, fun _ => by simp; omega⟩
      · have : (afterPayload r fh (rest.take fh.length) (rest.drop fh.length)).2.2 = rest.drop fh.length := by
          unfold afterPayload
          split
          · rfl
          · split <;> rfl
        rw [this]
        simp only [List.length_drop]
        exact ⟨by omega, fun _ => by omega⟩

theorem readFrame_rest_lt {r r' : Reader} {input rest : Bytes} {x : Except RErr Frame}
    (hr : readFrame r input = (x, r', rest)) (h : ∀ e, x = .error e → e.terminal = false) :
    rest.length < input.length := by
  have : rest.length + 9 ≤ input.length := by
    have := (h2_readFrame_progress r input).2
    rw [hr] at this
    exact this h
  omega

/-- Reading frames until a terminal error needs at most one call per
input byte: more fuel never changes the result. -/
theorem h2_readAll_terminates (f1 f2 : Nat) (r : Reader) (input : Bytes)
    (h1 : input.length < f1) (h2 : input.length < f2) : readAll f1 r input = readAll f2 r input := by
  induction f1 generalizing f2 r input with
  | zero => omega
  | succ n ih =>
    cases f2 with
    | zero => omega
    | succ m =>
      unfold readAll
      split
      · next e r' rest hr =>
        split
        · rfl
        · next hnt =>
          have := readFrame_rest_lt hr (by rintro _ ⟨⟩; simpa using hnt)
          rw [ih m r' rest (by omega) (by omega)]
      · next f r' rest hr =>
        have := readFrame_rest_lt hr nofun
        rw [ih m r' rest (by omega) (by omega)]

/-- For every reader state and every input `ReadFrame` yields a
frame, a stream error (the loop goes on), or one of the terminal classes. -/
theorem h2_readFrame_total_classified (r : Reader) (input : Bytes) :
    (∃ f, (readFrame r input).1 = .ok f) ∨
    (∃ sid code, (readFrame r input).1 = .error (.stream sid code)) ∨
    (∃ e, (readFrame r input).1 = .error e ∧ e.terminal = true) := by
  cases h : (readFrame r input).1 with
  | ok f => exact Or.inl ⟨f, rfl⟩
  | error e =>
    cases e with
    | stream sid code => exact Or.inr (Or.inl ⟨sid, code, rfl⟩)
    | conn c => exact Or.inr (Or.inr ⟨_, rfl, rfl⟩)
    | unexpectedEOF => exact Or.inr (Or.inr ⟨_, rfl, rfl⟩)
    | eof => exact Or.inr (Or.inr ⟨_, rfl, rfl⟩)
    | tooLarge => exact Or.inr (Or.inr ⟨_, rfl, rfl⟩)

open Req.H3.Frame

/-- `ParseNext` never un-reads. -/
theorem h3_parseNext_progress (fuel : Nat) (input : Bytes) :
    (parseNext fuel input).2.length ≤ input.length :=
  Req.Lemmas.C07.H3.parseNext_rest_le fuel input

/-- The SETTINGS payload loop consumes two varints per iteration. -/
theorem h3_settings_terminates (f1 f2 : Nat) (a : SettingsAcc) (b : Bytes)
    (h1 : b.length < f1) (h2 : b.length < f2) : settingsLoop f1 a b = settingsLoop f2 a b := by
  induction f1 generalizing f2 a b with
  | zero => omega
  | succ n ih =>
    cases f2 with
    | zero => omega
    | succ m =>
      unfold settingsLoop
      split
      · rfl
      · split
        · rfl
        · next id b1 hb1 =>
          have l1 := Req.Lemmas.C05.Varint.read_lt b id b1 hb1
          split
          · rfl
          · next v b2 hb2 =>
            have l2 := Req.Lemmas.C05.Varint.read_lt b1 v b2 hb2
            split
            · rfl
            · exact ih m _ b2 (by omega) (by omega)

open Req.Digest Req.DigestAuth

/-- An `if` fails only where one of its branches does. The error lemmas below walk the `if`-tree
of a definition with it (`nofun` for a branch that is `.ok _`). -/
theorem ite_error {ε α : Type} {p q : Prop} [Decidable p] {a b : Except ε α} {e : ε}
    (ha : a = .error e → q) (hb : b = .error e → q) (h : (if p then a else b) = .error e) : q :=
  Req.Lemmas.ite_ind (fun x : Except ε α => x = .error e → q) ha hb h

section
variable {e : Req.Digest.Err}

theorem setParam_err (c : Challenge) (n v : Bytes) : setParam c n v = .error e → e = .charset := by
  rw [setParam_eq]
  refine ite_error (ite_error nofun ?_) nofun
  rintro ⟨⟩; rfl

theorem addParam_err (st : PState) (n r : Bytes) :
    addParam st n r = .error e → e = .badChallenge ∨ e = .charset := by
  unfold addParam
  split
  · refine ite_error ?_ (ite_error nofun ?_)
    · rintro ⟨⟩; exact .inl rfl
    · split
      · split
        · nofun
        · next _ he => rintro ⟨⟩; exact .inr (setParam_err _ _ _ he)
      · nofun
  · rintro ⟨⟩; exact .inl rfl

theorem stepElem_err (st : PState) (e0 : Bytes) :
    stepElem st e0 = .error e → e = .badChallenge ∨ e = .charset := by
  unfold stepElem
  refine ite_error nofun <| ite_error ?_ <| ite_error (ite_error ?_ <| ite_error nofun <|
    ite_error (ite_error ?_ nofun) (addParam_err _ _ _)) (addParam_err _ _ _)
  all_goals rintro ⟨⟩; exact .inl rfl

theorem parseElems_err (es : List Bytes) (st : PState)
    (h : parseElems es st = .error e) : e = .badChallenge ∨ e = .charset := by
  induction es generalizing st with
  | nil => cases h
  | cons x xs ih =>
    unfold parseElems at h
    split at h
    · exact ih _ h
    · next he => cases h; exact stepElem_err _ _ he

theorem pick_err (algOf : Bytes → Option Alg) (l : List Challenge)
    (h : pick algOf l = .error e) :
    e = .badChallenge ∨ e = .algNotSupported ∨ e = .qopNotSupported := by
  unfold pick at h
  split at h
  · cases h; exact .inl rfl
  · split at h
    · cases h
    · next he =>
      split at h
      · cases h
      · cases h; exact .inr ((selectQop_error_kinds _ _ _).2 _ he)

end

/-- For EVERY `WWW-Authenticate` text — any list of challenges of any
schemes — the challenge reader returns a Digest challenge or one of exactly four named errors (bad
challenge, unsupported charset, unsupported algorithm, no supported qop). -/
theorem digest_total_classified (algOf : Bytes → Option Alg) (input : Bytes) :
    (∃ c, Req.DigestAuth.parseChallenge algOf input = .ok c) ∨
    ∃ e, Req.DigestAuth.parseChallenge algOf input = .error e ∧
      (e = .badChallenge ∨ e = .charset ∨ e = .algNotSupported ∨ e = .qopNotSupported) := by
  cases h : Req.DigestAuth.parseChallenge algOf input with
  | ok c => exact Or.inl ⟨c, rfl⟩
  | error e =>
    refine Or.inr ⟨e, rfl, ?_⟩
    unfold Req.DigestAuth.parseChallenge at h
    split at h
    · next e' he =>
      cases h
      rcases parseElems_err _ _ he with h1 | h1
      · exact Or.inl h1
      · exact Or.inr (Or.inl h1)
    · rcases pick_err _ _ h with h1 | h1 | h1
      · exact Or.inl h1
      · exact Or.inr (Or.inr (Or.inl h1))
      · exact Or.inr (Or.inr (Or.inr h1))

example : decodeChunked 4096 [53, 13, 10, 104, 101, 108, 108, 111, 13, 10, 48, 13, 10, 13, 10] =
    ([104, 101, 108, 108, 111], some [13, 10]) := by decide
example : (decodeChunked 4096 [48, 13, 10, 48, 13, 10]).2 = some [48, 13, 10] := by decide
example : (match (parseNext 9 [0x21, 0x00, 0x21, 0x00, 0x00, 0x03]).1 with
    | .ok (.data n) => n == 3
    | _ => false) = true := by decide

end total
end Req.Props.C07
