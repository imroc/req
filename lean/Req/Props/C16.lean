import Req.Lemmas.H1Fields
import Req.Lemmas.H2Fields
/-!
C16 (header sets preserved, requested order respected): `header.SortKeyValues` permutes and puts the
listed fields in list order; what the HTTP/1.1 writer and the HTTP/2 / HTTP/3 encoders put on the wire
is, as a multiset, their own fields plus the caller's, whatever the order lists and the map iteration
order; the bookkeeping keys never travel; the listed fields come in list order. The sort itself is
analysed in `Lemmas/HeaderSort`, the collectors in `Lemmas/H1Fields` and `Lemmas/H2Fields`.
-/
namespace Req.Props.C16
open Req.HeaderSort

/-- C16: `header.SortKeyValues` never adds, drops or duplicates a field. -/
theorem sort_perm (kvs : List KV) (order : List Req.Proto.Bytes) :
    (sortKeyValues kvs order).Perm kvs :=
  isort_perm _ kvs

/-- for header lists of any length, any order list (subset,
superset, duplicates, other case), the listed fields appear in the listed relative order. -/
theorem sort_listed_ordered (kvs : List KV) (order : List Req.Proto.Bytes) :
    ((sortKeyValues kvs order).filterMap (fun kv => lastIndex order kv.key)).Pairwise (· ≤ ·) :=
  isort_listed_ordered _ kvs

/-- Non-vacuity: a 3-element input (keys "B","X","A"; order list "a","b") with one unlisted
key really gets reordered to "A","B","X". -/
example :
    (sortKeyValues [⟨[66], []⟩, ⟨[88], []⟩, ⟨[65], []⟩] [[97], [98]]).map (·.key)
      = [[65], [66], [88]] := by decide +kernel

section Wire
open Req.Proto Req.H1 Req.H2 Req.Validate Req.BStr

/-- **wire_set (HTTP/1.1)**: whatever the header-order list and whatever order Go iterates the
header map in, the multiset of header lines on the wire is the writer's own fields plus every
caller value exactly once (name in the caller's spelling) plus the transport's extra headers —
nothing added, dropped or duplicated. -/
theorem wire_set_h1 (r : WReq) (host : Bytes) (f : Framing) :
    (linesOf (h1Fields r host f)).Perm
      (linesOf (ownFieldsH1 r host f) ++ linesOf (callerFields r.header reqWriteExcludeHeader) ++
        linesOf (callerFields r.extra [])) :=
  linesOf_h1Fields_perm r host f

/-- the two in-band keys under which the order lists travel in the header map
(`__header_order__`, `__pseudo_header_order__`) -/
def isBookkeeping (k : Bytes) : Bool := k == headerOrderKey || k == pseudoHeaderOrderKey

theorem bookkeeping_excluded {k : Bytes} (h : isBookkeeping k = true) :
    reqWriteExcludeHeader.contains k = true ∧ isExcluded k = true := by
  have : k = headerOrderKey ∨ k = pseudoHeaderOrderKey := by simpa [isBookkeeping] using h
  rcases this with rfl | rfl <;> decide

theorem callerFields_not_bookkeeping {h : Hdr} {kv : KV}
    (hm : kv ∈ callerFields h reqWriteExcludeHeader) : isBookkeeping kv.key = false := by
  cases hb : isBookkeeping kv.key with
  | false => rfl
  | true => cases (bookkeeping_excluded hb).1.symm.trans (callerFields_mem_key hm).1

theorem ownKeys_not_bookkeeping : ∀ k ∈ ownKeysH1, isBookkeeping k = false := by decide

/-- **bookkeeping keys never on the HTTP/1.1 wire** (`__header_order__`,
`__pseudo_header_order__`), provided the transport's own extra headers do not contain them (they
are `Accept-Encoding` / `Connection`). -/
theorem h1_no_bookkeeping (r : WReq) (host : Bytes) (f : Framing)
    (hextra : ∀ kv ∈ r.extra, isBookkeeping kv.key = false) :
    ∀ kv ∈ linesOf (h1Fields r host f), isBookkeeping kv.1 = false := by
  intro ⟨k, v⟩ hm
  have hm' := (wire_set_h1 r host f).mem_iff.mp hm
  simp only [List.mem_append] at hm'
  rcases hm' with (hm' | hm') | hm'
  · obtain ⟨kv, hkv, rfl, _⟩ := mem_linesOf hm'
    exact ownKeys_not_bookkeeping _ (ownFieldsH1_keys r host f kv hkv)
  · obtain ⟨kv, hkv, rfl, _⟩ := mem_linesOf hm'
    exact callerFields_not_bookkeeping hkv
  · obtain ⟨kv, hkv, rfl, _⟩ := mem_linesOf hm'
    obtain ⟨kv0, h0, hk⟩ := callerFields_mem_src hkv
    exact hk ▸ hextra kv0 h0

/-- every value of every caller key that is a valid field name and
is not one the writer handles itself is on the HTTP/1.1 wire under EXACTLY the caller's spelling
of the name (no canonicalisation, no lower-casing), header-order mode or not. -/
theorem h1_noncanonical_spelling (r : WReq) (host : Bytes) (f : Framing) (kv : KV)
    (hkv : kv ∈ r.header) (hex : reqWriteExcludeHeader.contains kv.key = false)
    (hname : validHeaderFieldName kv.key = true) (v : Bytes) (hv : v ∈ kv.values) :
    (kv.key, sanitizeValue v) ∈ linesOf (h1Fields r host f) := by
  apply (wire_set_h1 r host f).mem_iff.mpr
  simp only [List.mem_append]
  refine Or.inl (Or.inr ?_)
  unfold linesOf callerFields
  apply List.mem_flatMap.mpr
  refine ⟨⟨kv.key, kv.values.map sanitizeValue⟩, ?_, ?_⟩
  · apply List.mem_map.mpr
    have hex' : ¬ kv.key ∈ reqWriteExcludeHeader := by simpa using hex
    exact ⟨kv, List.mem_filter.mpr ⟨hkv, by simp [hex', hname]⟩, rfl⟩
  · simp only [List.mem_map]
    exact ⟨sanitizeValue v, ⟨v, hv, rfl⟩, rfl⟩

/-- non-vacuity: `x-MiXed` (set with SetHeaderNonCanonical) and `X-B`, order list `x-b, x-mixed`:
spelling kept, listed order respected (the unlisted Host / User-Agent keep their slice positions),
bookkeeping key gone. -/
example :
    (linesOf (h1Fields
      { method := [71, 69, 84], url := {}, header :=
          [⟨[120, 45, 77, 105, 88, 101, 100], [[49]]⟩, ⟨[88, 45, 66], [[50]]⟩,
           ⟨headerOrderKey, [[120, 45, 98], [120, 45, 109, 105, 120, 101, 100]]⟩] }
      [104] ⟨false, false, 0⟩)).map (·.1)
    = [sHost, [88, 45, 66], sUserAgent, [120, 45, 77, 105, 88, 101, 100]] := by decide +kernel

/-- **wire_set is independent of the map iteration order (HTTP/1.1)**: two runs that differ only
in the order Go iterates the header map and the extra-header map in put the same multiset of
header lines on the wire. -/
theorem wire_set_h1_perm_invariant (r r' : WReq) (host : Bytes) (f : Framing)
    (hh : r.header.Perm r'.header) (he : r.extra.Perm r'.extra)
    (hnd : (r.header.map (·.key)).Nodup)
    (hm : r'.method = r.method) (hc : r'.close = r.close) :
    (linesOf (h1Fields r host f)).Perm (linesOf (h1Fields r' host f)) := by
  refine (wire_set_h1 r host f).trans (List.Perm.trans ?_ (wire_set_h1 r' host f).symm)
  rw [ownFieldsH1_congr host f hm hc (hdrGet?_perm hh hnd _).symm fun _ => (hdrGet?_perm hh hnd _).symm]
  exact List.Perm.append (List.Perm.append (List.Perm.refl _)
    (linesOf_perm (callerFields_perm hh _))) (linesOf_perm (callerFields_perm he _))

/-- One direction: a header block that IS produced is within the peer's
SETTINGS_MAX_HEADER_LIST_SIZE — a request over the limit is refused (`errRequestHeaderListSize`) by
the counting pass, before anything is encoded. That nothing of a refused request reaches a later
header block is not a statement here (the model has no encoder state); the lanes check it on
sequences of requests over one connection's HPACK encoder/decoder pair. -/
theorem too_large_iff (fl : Flavor) (r : FReq) (fs : List (Bytes × Bytes)) (lim : Nat)
    (hl : r.maxHeaderList = some lim) (h : fields fl r = .ok fs) : headerListSize fs ≤ lim := by
  obtain ⟨_, _, _, _, _, _, hlim⟩ := fields_ok h
  exact hlim lim hl

/-- the pseudo header groups are a permutation of the default ones (each of
`:authority :method :path :scheme` exactly once; two for CONNECT) and those named in the
pseudo-header order list appear in the relative order of the list. -/
theorem pseudo_order (fl : Flavor) (r : FReq) (host path : Bytes) :
    (pseudoKVs fl r host path).Perm (basePseudo fl r host path) ∧
    ((pseudoKVs fl r host path).filterMap
        (fun kv => lastIndex (pseudoOrderList r.header) kv.key)).Pairwise (· ≤ ·) := by
  rw [pseudoKVs_eq]; exact ⟨applyOrder_perm _ _, applyOrder_listed _ _⟩

/-- the same for the regular fields and the header-order list. -/
theorem header_order_h2 (fl : Flavor) (r : FReq) :
    (regularKVs fl r).Perm (baseRegular fl r) ∧
    (¬ (orderList r.header).isEmpty →
      ((regularKVs fl r).filterMap (fun kv => lastIndex (orderList r.header) kv.key)).Pairwise (· ≤ ·)) := by
  rw [regularKVs_eq]; exact ⟨applyOrder_perm _ _, fun _ => applyOrder_listed _ _⟩

/-- **wire_set (HTTP/2, HTTP/3)**: when a header block is produced, its fields are a permutation
of the default-order pseudo fields followed by the default-order regular fields — neither order
list adds, drops or duplicates a field. -/
theorem wire_set_h2 (fl : Flavor) (r : FReq) (fs : List (Bytes × Bytes))
    (h : fields fl r = .ok fs) :
    ∃ host path, fieldHost r = .ok host ∧ fieldPath r host = .ok path ∧
      fs.Perm (wireOf (basePseudo fl r host path) ++ wireOf (baseRegular fl r)) := by
  obtain ⟨host, path, hh, hp, _, rfl, _⟩ := fields_ok h
  refine ⟨host, path, hh, hp, ?_⟩
  rw [← wireOf_append]
  exact List.Perm.flatMap_right _
    (List.Perm.append (pseudo_order fl r host path).1 (header_order_h2 fl r).1)

/-- the regular groups contain no key `header.IsExcluded` rejects, except the `content-length`
the writer adds itself: connection-specific fields and the bookkeeping keys are omitted. -/
theorem baseRegular_not_excluded (fl : Flavor) (r : FReq) :
    ∀ kv ∈ baseRegular fl r, isExcluded kv.key = false ∨ kv.key = sContentLengthL := by
  intro kv hkv
  unfold baseRegular at hkv
  simp only [List.mem_append] at hkv
  rcases hkv with ((hkv | hkv) | hkv) | hkv
  · obtain ⟨x, _, hex, hk | ⟨hk, _⟩⟩ := mem_headerGroups hkv
    · exact Or.inl (hk ▸ hex)
    · exact Or.inl (hk ▸ by decide)
  · exact Or.inr (List.mem_ite_l hkv ▸ rfl)
  · exact Or.inl (List.mem_ite_l hkv ▸ by decide)
  · exact Or.inl (List.mem_ite_r hkv ▸ by decide)

/-- **wire_set is independent of the map iteration order (HTTP/2, HTTP/3)**: the regular fields
of two runs that differ only in the iteration order of the header map are permutations of each
other. -/
theorem baseRegular_perm_invariant (fl : Flavor) (r : FReq) (h' : Hdr) (hh : r.header.Perm h') :
    (baseRegular fl r).Perm (baseRegular fl { r with header := h' }) := by
  unfold baseRegular
  have hua : didUA r.header = didUA h' := by
    unfold didUA; exact hh.any_eq
  simp only [hua]
  have hact : actualContentLength fl { r with header := h' } = actualContentLength fl r := rfl
  rw [hact]
  refine List.Perm.append (List.Perm.append (List.Perm.append ?_ (List.Perm.refl _))
    (List.Perm.refl _)) (List.Perm.refl _)
  unfold headerGroups
  exact List.Perm.flatMap_right _ hh

theorem h1_listed_ordered (r : WReq) (host : Bytes) (f : Framing) :
    ((h1Fields r host f).filterMap (fun kv => lastIndex (orderList r.header) kv.key)).Pairwise (· ≤ ·) := by
  rw [h1Fields_eq]; exact applyOrder_listed _ _

/-- the HTTP/1.1 header-order statement on the whole collected list (Host, User-Agent, framing,
caller fields, extra fields). -/
theorem header_order_h1 (r : WReq) (host : Bytes) (f : Framing)
    (hmode : (orderList r.header).isEmpty = false) :
    ((h1Fields r host f).filterMap (fun kv => lastIndex (orderList r.header) kv.key)).Pairwise (· ≤ ·) :=
  h1_listed_ordered r host f

/-- non-vacuity: pseudo order `:scheme, :PATH, :method` (other case accepted) on an HTTP/2 GET. -/
example :
    (pseudoKVs .h2
      { method := [71, 69, 84], url := { scheme := [104] }, header :=
          [⟨pseudoHeaderOrderKey, [sScheme, [58, 80, 65, 84, 72], sMethod]⟩] } [104] [47]).map (·.key)
    = [sAuthority, sScheme, sPath, sMethod] := by decide +kernel

end Wire

end Req.Props.C16
