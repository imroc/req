import Req.Pool.CancelErr
/-!
C08 — property theorems, error identification ("… returns promptly with an error identifying the
cancellation or timeout"): `Req/Pool/CancelErr.lean`.
-/
namespace Req.Props.C08Err
open Req.CancelErr

/-- `errors.Is` is transparent to every chain of wrappers -/
theorem is_relations_transparent (ws : List Wrap) (r : Rel) :
    (seen ws r).isCanceled = r.isCanceled ∧ (seen ws r).isDeadline = r.isDeadline := by
  unfold seen
  suffices h : ∀ v : View, (ws.foldl wrap1 v).rel.isCanceled = v.rel.isCanceled ∧
      (ws.foldl wrap1 v).rel.isDeadline = v.rel.isDeadline from h ⟨r, r.timeout⟩
  induction ws with
  | nil => intro v; exact ⟨rfl, rfl⟩
  | cons w t ih =>
    intro v
    simp only [List.foldl_cons]
    obtain ⟨h1, h2⟩ := ih (wrap1 v w)
    rw [h1, h2]
    cases w <;> exact ⟨rfl, rfl⟩

/-- a value that is no timeout does not become one by wrapping -/
theorem no_timeout_stays (ws : List Wrap) : ∀ v : View, v.rel.timeout = false → v.direct = false →
    (ws.foldl wrap1 v).rel.timeout = false := by
  induction ws with
  | nil => intro v h _; exact h
  | cons w t ih =>
    intro v h1 h2
    simp only [List.foldl_cons]
    apply ih
    · cases w <;> simp [wrap1, h2, h1]
    · cases w <;> simp [wrap1, h2]

/-- a cancelled context is reported as `context.Canceled` behind every chain of
wrappers and stops the retry loop (and is never a timeout: `cancel_never_a_timeout`). -/
theorem cancel_identified (ws : List Wrap) :
    classify (seen ws (rel .ctxCanceled)) = .canceled ∧ stopsRetry (seen ws (rel .ctxCanceled)) = true := by
  obtain ⟨h1, h2⟩ := is_relations_transparent ws (rel .ctxCanceled)
  unfold classify stopsRetry
  rw [h1]; exact ⟨rfl, rfl⟩

/-- a passed deadline (ctx deadline, Client.Timeout) is `DeadlineExceeded`
behind every chain of wrappers, and does not count as "cancelled" (so `Request.do` may retry it, and then
ends in its wait). -/
theorem deadline_identified (ws : List Wrap) :
    classify (seen ws (rel .ctxDeadline)) = .deadline ∧ (seen ws (rel .ctxDeadline)).isDeadline = true ∧
    stopsRetry (seen ws (rel .ctxDeadline)) = false := by
  obtain ⟨h1, h2⟩ := is_relations_transparent ws (rel .ctxDeadline)
  unfold classify stopsRetry
  rw [h1, h2]; exact ⟨rfl, rfl, rfl⟩

/-- the transport's own timeouts reach the caller bare or wrapped once by `http.Client`
(`*url.Error`): there they answer `Timeout() == true` -/
theorem every_timeout_says_timeout (s : Src)
    (h : s = .ctxDeadline ∨ s = .respHeaderTimeout ∨ s = .tlsHandshakeTimeout ∨ s = .h2RespHeaderTimeout)
    (ws : List Wrap) (hw : ws = [] ∨ ws = [.urlError]) :
    (seen ws (rel s)).timeout = true ∧ classify (seen ws (rel s)) = .deadline := by
  rcases h with h | h | h | h <;> subst h <;> rcases hw with hw | hw <;> subst hw <;> decide

/-- … but `*url.Error.Timeout()` looks only at the error it wraps directly: a timeout below another
wrapper is no longer a `net.Error` timeout for the caller (it stays `DeadlineExceeded` if it was) -/
theorem timeout_hidden_below_inner_wrapper (s : Src) (w : Wrap) (hw : w ≠ .urlError) :
    (seen [w, .urlError] (rel s)).timeout = false := by
  cases s <;> cases w <;> first | rfl | exact absurd rfl hw

/-- `errors.Is(err, context.Canceled)` holds for exactly one source. -/
theorem only_cancel_stops_retry (s : Src) : stopsRetry (rel s) = true ↔ s = .ctxCanceled := by
  cases s <;> decide

/-- no error is both cancelled and deadline. -/
theorem classes_exclusive (s : Src) : ¬ ((rel s).isCanceled = true ∧ (rel s).isDeadline = true) := by
  cases s <;> decide

theorem cancel_never_a_timeout (ws : List Wrap) : (seen ws (rel .ctxCanceled)).timeout = false :=
  no_timeout_stays ws ⟨rel .ctxCanceled, false⟩ rfl rfl

/-- the remaining sources are classified as neither. -/
theorem non_ctx_errors_are_other (s : Src)
    (h : s = .reqCanceled ∨ s = .reqCanceledConn ∨ s = .serverClosedIdle ∨ s = .io) (ws : List Wrap) :
    classify (seen ws (rel s)) = .other := by
  obtain ⟨h1, h2⟩ := is_relations_transparent ws (rel s)
  have h3 : (seen ws (rel s)).timeout = false := by
    unfold seen
    rcases h with h | h | h | h <;> subst h <;> exact no_timeout_stays ws _ rfl rfl
  unfold classify
  rw [h1, h2, h3]
  rcases h with h | h | h | h <;> subst h <;> rfl

/-- non-vacuity: the classes are all inhabited -/
example : (allSrc.map (fun s => classify (rel s))) =
    [.canceled, .deadline, .deadline, .deadline, .deadline, .other, .other, .other, .other] := by decide

end Req.Props.C08Err
