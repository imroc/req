import Req.C07.ProtoOpts
import Req.C07.Interim
import Req.C07.Token
/-!
C07 — option life cycle, interim loops, byte-indexed tables.

* No sequence of protocol setters (`EnableHTTP3`, `DisableHTTP3`, `EnableForceHTTP1/2/3`,
  `DisableForceHttpVersion`, `Clone`) — on a toolchain that supports HTTP/3 or not — leaves the
  transport in a state in which a response carrying `Alt-Svc`, or the forced-version dispatch,
  touches a nil field (`run_inv`, `altsvc_never_panics`, `forced_never_panics`).
* The interim-response loop of each protocol reads at most six heads, skips at most five, and what
  it returns is never an interim head (`interim_*`).
* The token table look-up guarded as in `validHeaderFieldByte` has a value for every byte
  (`validHeaderFieldByte_total`); without the guard it has none at 127 (`index_out_of_range`).
-/
namespace Req.Props.C07
open Req.C07

namespace opts
open Req.C07.ProtoOpts

/-- `Inv` alone is not inductive: `clone` of a state with `t3` and `force = .h3` on a toolchain
without HTTP/3 support (`sup = false`) would keep `force = .h3` and drop `t3`. Such a state is not
reachable, since `t3` is only ever set where `sup = true`. -/
def InvS (sup : Bool) (s : St) : Prop := Inv s ∧ (s.t3 = true → sup = true)

theorem invS_init (sup : Bool) : InvS sup {} := by simp [InvS, ProtoOpts.Inv]

theorem enableH3_inv (sup : Bool) (s : St) (h : InvS sup s) : InvS sup (enableH3 sup s) := by
  obtain ⟨⟨h1, h2, h3⟩, h4⟩ := h
  unfold enableH3
  split
  · exact ⟨⟨h1, h2, h3⟩, h4⟩
  · split
    · exact ⟨⟨h1, h2, h3⟩, h4⟩
    · next hs => exact ⟨⟨rfl, rfl, fun _ => rfl⟩, fun _ => by simpa using hs⟩

theorem disableH3_inv (sup : Bool) (s : St) : InvS sup (disableH3 s) := by
  refine ⟨⟨rfl, rfl, ?_⟩, ?_⟩
  · intro hf
    simp only [disableH3] at hf
    split at hf
    · cases hf
    · next hne => exact absurd hf hne
  · intro h; simp [disableH3] at h

theorem clone_inv (sup : Bool) (s : St) (h : InvS sup s) : InvS sup (clone sup s) := by
  obtain ⟨⟨_, _, h3⟩, h4⟩ := h
  unfold clone
  simp only
  split
  · next ht =>
    have hs : sup = true := h4 ht
    subst hs
    exact ⟨⟨rfl, rfl, fun _ => rfl⟩, fun _ => rfl⟩
  · next ht =>
    refine ⟨⟨rfl, rfl, ?_⟩, ?_⟩
    · intro hf
      exact absurd (h3 hf) ht
    · intro h; simp at h

theorem step_inv (sup : Bool) (s : St) (op : Op) (h : InvS sup s) : InvS sup (step sup s op) := by
  cases op with
  | enableH3 => exact enableH3_inv sup s h
  | disableH3 => exact disableH3_inv sup s
  | forceH3 =>
    have he := enableH3_inv sup s h
    simp only [step]
    split
    · next ht =>
      obtain ⟨⟨h1, h2, _⟩, h4⟩ := he
      exact ⟨⟨h1, h2, fun _ => ht⟩, h4⟩
    · exact he
  | clone => exact clone_inv sup s h
  | _ =>
    -- `forceH1`, `forceH2`, `unforce` write `force` only, and not to `.h3`
    obtain ⟨⟨h1, h2, _⟩, h4⟩ := h
    exact ⟨⟨h1, h2, fun hf => by cases hf⟩, h4⟩

theorem run_invS (sup : Bool) (s : St) (ops : List Op) (h : InvS sup s) : InvS sup (run sup s ops) :=
  List.foldlRecOn ops (step sup) h fun s hs op _ => step_inv sup s op hs

/-- After ANY sequence of protocol setters applied to a new transport, the alt-svc jar,
the pending map and the HTTP/3 round tripper are all nil or all non-nil, and HTTP/3 is forced only
while its round tripper exists. -/
theorem run_inv (sup : Bool) (ops : List Op) : Inv (run sup {} ops) :=
  (run_invS sup {} ops (invS_init sup)).1

/-- Whatever the setter history, a response that carries a usable
`Alt-Svc: h3=…` header never reaches a nil `pendingAltSvcs` map or a nil HTTP/3 round tripper. -/
theorem altsvc_never_panics (sup : Bool) (ops : List Op) (https respH3 : Bool) :
    onAltSvc (run sup {} ops) https respH3 ≠ .panic := by
  obtain ⟨h1, h2, _⟩ := run_inv sup ops
  unfold onAltSvc
  split
  · simp
  · next hg =>
    have hj : (run sup {} ops).jar = true := by
      simp only [Bool.or_eq_true, Bool.not_eq_true', not_or] at hg
      simpa using hg.1.1.2
    simp [h1, h2, hj]

/-- The forced-version dispatch never calls a nil HTTP/3 round tripper. -/
theorem forced_never_panics (sup : Bool) (ops : List Op) : onForced (run sup {} ops) ≠ .panic := by
  obtain ⟨_, _, h3⟩ := run_inv sup ops
  unfold onForced
  split
  · next hf => simp [h3 hf]
  · simp
  · simp

/-- Right after `DisableHTTP3` an `Alt-Svc` header is ignored, whatever
came before. -/
theorem disable_skips_altsvc (sup : Bool) (ops : List Op) (https respH3 : Bool) :
    onAltSvc (run sup {} (ops ++ [.disableH3])) https respH3 = .skip := by
  simp [run, List.foldl_append, step, disableH3, onAltSvc]

/-- non-vacuity: the guarded branch is reached (`ok`), and a state violating the invariant — the
alt-svc jar kept while the pending map is dropped — would panic. -/
example : onAltSvc (run true {} [.enableH3, .disableH3, .enableH3]) true false = .ok := by decide
example : onAltSvc { jar := true, pending := false, t3 := false } true false = .panic := by decide
example : onForced (run true {} [.forceH3, .clone]) = .ok := by decide
example : onForced (run false {} [.forceH3, .clone]) = .skip := by decide
example : onForced { force := .h3 } = .panic := by decide

end opts

namespace interim
open Req.C07.Interim

theorem consumed_le (p : Proto) (n : Nat) (hs : List Head) (hn : n ≤ max1xx) :
    consumed p n hs ≤ max1xx + 1 - n := by
  induction hs generalizing n with
  | nil => simp [consumed]
  | cons h rest ih =>
    unfold consumed
    split
    · split
      · omega
      · split
        · omega
        · next hgt =>
          have : n + 1 ≤ max1xx := by omega
          have := ih (n + 1) this
          omega
    · omega

/-- Whatever heads the server sends, the interim loop of each
protocol returns after reading at most six of them (no unbounded skipping). -/
theorem interim_reads_at_most_six (p : Proto) (hs : List Head) : consumed p 0 hs ≤ 6 := by
  have := consumed_le p 0 hs (by simp [max1xx])
  simpa [max1xx] using this

theorem loop_final (p : Proto) (n : Nat) (hs : List Head) (c k : Nat) (hn : n ≤ max1xx)
    (h : loop p n hs = .final c k) :
    k ≤ max1xx ∧ ∃ hd ∈ hs, hd.code = c ∧ isInterim p hd = false := by
  induction hs generalizing n with
  | nil => simp [loop] at h
  | cons hd rest ih =>
    unfold loop at h
    split at h
    · split at h
      · cases h
      · split at h
        · cases h
        · next hgt =>
          obtain ⟨h1, x, hx, hx2⟩ := ih (n + 1) (by omega) h
          exact ⟨h1, x, List.mem_cons_of_mem _ hx, hx2⟩
    · next hni =>
      cases h
      exact ⟨hn, hd, List.mem_cons_self, rfl, by simpa using hni⟩

/-- A head returned to the caller is never an interim head of that
protocol, and at most five heads were skipped before it. -/
theorem interim_final_classified (p : Proto) (hs : List Head) (c k : Nat)
    (h : run p hs = .final c k) :
    k ≤ 5 ∧ ∃ hd ∈ hs, hd.code = c ∧ isInterim p hd = false := by
  obtain ⟨h1, h3⟩ := loop_final p 0 hs c k (by simp [max1xx]) h
  exact ⟨by simpa [max1xx] using h1, h3⟩

theorem loop_flood (p : Proto) (n : Nat) (fl rest : List Head)
    (hall : ∀ h ∈ fl, isInterim p h = true ∧ h.endStream = false)
    (hlen : max1xx + 1 ≤ n + fl.length) (hn : n ≤ max1xx) : loop p n (fl ++ rest) = .tooMany := by
  induction fl generalizing n with
  | nil => simp [max1xx] at hlen hn; omega
  | cons hd tl ih =>
    obtain ⟨hi, he⟩ := hall hd List.mem_cons_self
    rw [List.cons_append, loop]
    simp only [hi, he, Bool.and_false, Bool.false_eq_true, ↓reduceIte]
    split
    · rfl
    · exact ih (n + 1) (fun h hh => hall h (List.mem_cons_of_mem _ hh)) (by simp at hlen; omega)
        (by omega)

/-- six interim heads in a row (none ending the stream) are refused, however many follow -/
theorem loop_all_interim (p : Proto) (n : Nat) (hs : List Head)
    (hall : ∀ h ∈ hs, isInterim p h = true ∧ h.endStream = false)
    (hlen : max1xx + 1 ≤ n + hs.length) (hn : n ≤ max1xx) : loop p n hs = .tooMany := by
  have := loop_flood p n hs [] hall hlen hn
  rwa [List.append_nil] at this

/-- A flood of interim heads ends in the "too many" error after the
sixth, whatever comes later. -/
theorem interim_flood_refused (p : Proto) (flood rest : List Head)
    (hall : ∀ h ∈ flood, isInterim p h = true ∧ h.endStream = false) (hlen : 6 ≤ flood.length) :
    run p (flood ++ rest) = .tooMany :=
  loop_flood p 0 flood rest hall (by simp [max1xx]; omega) (Nat.zero_le _)

example : run .h1 [⟨100, false⟩, ⟨103, false⟩, ⟨200, false⟩] = .final 200 2 := by decide
example : run .h1 [⟨103, false⟩, ⟨101, false⟩, ⟨200, false⟩] = .final 101 1 := by decide
example : run .h2 [⟨103, false⟩, ⟨101, false⟩, ⟨200, false⟩] = .final 200 2 := by decide
example : run .h2 [⟨100, true⟩, ⟨200, false⟩] = .endStream1xx := by decide
example : run .h3 (List.replicate 6 ⟨102, false⟩ ++ [⟨200, false⟩]) = .tooMany := by decide
example : consumed .h1 0 (List.replicate 9 ⟨100, false⟩) = 6 := by decide

end interim

namespace token
open Req.C07.Token Req.Ascii

theorem table_length : table.length = tableLen := by simp [table]

/-- No token byte lies above the table. -/
theorem isTokenByte_high (b : UInt8) (h : tableLen ≤ b.toNat) : isTokenByte b = false := by
  simp only [isTokenByte, isAlpha, isLower, isUpper, isDigit, Bool.or_eq_false_iff,
    Bool.and_eq_false_iff, beq_eq_false_iff_ne, ne_eq, decide_eq_false_iff_not,
    UInt8.le_iff_toNat_le, ← UInt8.toNat_inj, UInt8.toNat_ofNat]
  unfold tableLen at h
  omega

/-- For EVERY byte the guarded table look-up has a value (no index-out-of-range), and it is the
RFC 7230 token predicate: inside the table by the table's definition, above it by the guard. -/
theorem validHeaderFieldByte_total (b : UInt8) : validHeaderFieldByte b = some (isTokenByte b) := by
  unfold validHeaderFieldByte
  by_cases h : b.toNat < tableLen
  · simp [index, table, h]
  · rw [if_neg h, isTokenByte_high b (Nat.le_of_not_lt h)]

/-- the table really is one entry short of ASCII: the unguarded index has a value at 126 and none
at 127 (DEL) or 255 — the guard is what makes the function total. -/
theorem index_out_of_range : index 127 = none ∧ index 255 = none ∧ index 126 = some true := by decide

/-- the header-value byte class: everything except controls other than HTAB, and DEL -/
theorem validHeaderValueByte_spec : ∀ n, n < 256 →
    validHeaderValueByte (UInt8.ofNat n) = (n = 9 ∨ (32 ≤ n ∧ n ≠ 127)) := by decide +kernel

example : validHeaderFieldByte 127 = some false := by decide
example : validHeaderFieldByte 65 = some true := by decide

end token
end Req.Props.C07
