import Req.C07.H1Budget
import Req.C07.H3Budget
import Req.H2.Meta
import Req.Lemmas.C05Meta
import Req.Lemmas.C07H3
import Req.Lemmas.C05H3Stream
import Req.Lemmas.C07H1Budget
/-!
C07 — the memory held for one response head stays within the configured limit plus one read buffer,
in EVERY reachable state, for EVERY input. One section per protocol, each about the place where the
limit is enforced: HTTP/1.1 `MaxResponseHeaderBytes` through `persistConn.readLimit` (`h1budget`, read
off the invariant `Good` of `Req.Lemmas.C07H1Budget`), HTTP/2 `MaxHeaderListSize` through `remainSize`
in `readMetaFrame` (`h2budget`), HTTP/3 `MaxResponseHeaderBytes` through the length check in front of
the allocation (`h3budget`).
-/
namespace Req.Props.C07
open Req.Proto

namespace h1budget
open Req.C07.H1Budget

/-- In every state reachable by any sequence of socket deliveries, parser steps
and head boundaries, the bytes held for the response head (parsed into it + sitting in the read
buffer) are at most `MaxResponseHeaderBytes` + one read buffer. -/
theorem h1_held_le (L B b0 : Nat) (evs : List Ev) :
    held (run (init L B b0) evs) ≤ L + B :=
  (good_budget (run_good _ evs (good_init L B b0))).1

/-- Between two settings of the limit, at most `MaxResponseHeaderBytes` bytes
are taken from the socket — however the peer segments its writes. -/
theorem h1_pulled_le (L B b0 : Nat) (evs : List Ev) : (run (init L B b0) evs).pulled ≤ L :=
  (good_budget (run_good _ evs (good_init L B b0))).2.1

/-- A head that is accepted is at most `MaxResponseHeaderBytes` long plus what
was already buffered when the limit was set (at most one read buffer; nothing on a fresh
connection). -/
theorem h1_accept_size (L B b0 : Nat) (evs : List Ev) :
    let s := run (init L B b0) evs
    s.headSize ≤ s.carry + L ∧ s.carry ≤ B :=
  have g := run_good _ evs (good_init L B b0)
  ⟨(good_budget g).2.2.1, g.carry⟩

/-- For one whole response — up to five interim heads included — the client takes
at most `6 × MaxResponseHeaderBytes` bytes from the socket before it has either accepted a final
head or given up. -/
theorem h1_total_le (L B b0 : Nat) (evs : List Ev) :
    (run (init L B b0) evs).total ≤ 6 * L ∧ (run (init L B b0) evs).num1xx ≤ 5 :=
  have g := run_good _ evs (good_init L B b0)
  ⟨(good_budget g).2.2.2, g.n1xx⟩

/-- The "headers exceeded" error is raised only when the whole
budget has really been taken from the socket (never early). -/
theorem h1_exhausted_only_at_limit (s : St) (want avail : Nat) (hp : s.phase = .head)
    (h : (step s (.net want avail)).phase = .exhausted) : s.limit = 0 := by
  by_cases hl : s.limit = 0
  · exact hl
  · rw [step_net hp (if_neg hl)] at h
    exact absurd (hp.symm.trans h) nofun

/-- `persistConn.Read`: never more than asked for, than the limit, than available; the limit goes
down by exactly what was read; the error appears exactly at limit 0. -/
theorem pcRead_spec (limit want avail : Nat) :
    (limit = 0 → pcRead limit want avail = none) ∧
    (0 < limit → ∃ n, pcRead limit want avail = some (n, limit - n) ∧ n ≤ want ∧ n ≤ limit ∧ n ≤ avail) := by
  constructor
  · intro h; simp [pcRead, h]
  · intro h
    refine ⟨min (min want limit) avail, ?_, ?_, ?_, ?_⟩
    · simp [pcRead]; omega
    all_goals omega

/-- non-vacuity: a 10-byte budget, 4-byte buffer; the peer offers 100 bytes at a time -/
example : (run (init 10 4 0) [.net 4 100, .parse 4, .net 4 100, .parse 4, .net 4 100, .parse 4, .net 4 100]).phase
    = .exhausted := by decide
example : (run (init 10 4 0) [.net 4 100, .parse 4, .net 4 100, .parse 4, .net 4 100]).pulled = 10 := by decide
example : (run (init 10 4 0) [.net 4 3, .parse 3, .endHead true, .net 4 100, .parse 4, .endHead false]).phase
    = .accepted := by decide
example : (run (init 10 4 0) ((List.replicate 6 (Ev.endHead true)))).phase = .tooMany1xx := by decide

end h1budget

namespace h2budget
open Req.H2.Meta Req.Lemmas.C05.Meta Req.H2.Frame

def st0 (maxList : Nat) : St := { remainSize := maxHeaderListSize maxList }

/-- In every state the `readMetaFrame` loop can reach — after any number of
HEADERS / CONTINUATION fragments, whatever the HPACK decoder emitted — the fields kept so far plus
the remaining budget never exceed `MaxHeaderListSize`. -/
theorem h2_state_budget (maxList : Nat) (frags : List Frag) (s : St)
    (h : fragLoop (st0 maxList) frags = .ok s) :
    fieldsSize s.fields + s.remainSize ≤ maxHeaderListSize maxList :=
  (fragLoop_inv (emit_good _) frags _ s (good_start _) h).size

/-- The same bound in the middle of a fragment, after any prefix of the
decoder's events. -/
theorem h2_state_budget_mid (maxList : Nat) (frags : List Frag) (s s' : St) (evs : List Event)
    (h : fragLoop (st0 maxList) frags = .ok s) (hw : writeFrag s evs = some s') :
    fieldsSize s'.fields ≤ maxHeaderListSize maxList := by
  have g := fragLoop_inv (emit_good _) frags _ s (good_start _) h
  have := (writeFrag_inv (emit_good _) evs s s' g hw).size
  omega

/-- A fragment is handed to the HPACK decoder only if it is at most twice
the remaining budget (so at most `2 × MaxHeaderListSize`, and nothing once the budget is used up). -/
theorem h2_accepted_frag_le (s s' : St) (f : Frag) (rest : List Frag)
    (h : fragLoop s (f :: rest) = .ok s') : f.len ≤ 2 * s.remainSize := by
  simp only [fragLoop] at h
  split at h
  · cases h
  · next hle =>
    -- `% 2^32`: Go computes `2*remainSize` in `uint32` (frame.go:1637); wrapping only lowers the bound
    have : (2 * s.remainSize) % 4294967296 ≤ 2 * s.remainSize := Nat.mod_le _ _
    omega

theorem emit_trunc_inv (s : St) (n v : Bytes) (h : s.truncated = true → s.remainSize = 0) :
    (emit s n v).truncated = true → (emit s n v).remainSize = 0 := by
  unfold emit
  simp only
  split
  · exact h
  · split
    · intro _; rfl
    · intro ht
      have := h ht
      simp [this]

/-- Once a field did not fit (the frame is marked
`Truncated`), every further non-empty CONTINUATION fragment is a connection error — a CONTINUATION
flood cannot make the client decode, let alone keep, more header bytes. -/
theorem h2_no_continuation_after_truncation (maxList : Nat) (frags : List Frag) (s : St)
    (f : Frag) (rest : List Frag)
    (h : fragLoop (st0 maxList) frags = .ok s) (ht : s.truncated = true) (hf : 0 < f.len) :
    fragLoop s (f :: rest) = .error (.conn errProtocol) := by
  have hz : s.remainSize = 0 :=
    fragLoop_inv emit_trunc_inv frags (st0 maxList) s nofun h ht
  simp only [fragLoop, hz]
  split
  · rfl
  · next hle => simp at hle; omega

/-- A `MetaHeadersFrame` that is returned carries at most `MaxHeaderListSize`
bytes of fields (`hpack.HeaderField.Size` summed). -/
theorem h2_accept_size (maxList : Nat) (frags : List Frag) (closeErr : Bool)
    (fields : List (Bytes × Bytes)) (trunc : Bool)
    (h : readMeta maxList frags closeErr = .ok fields trunc) :
    fieldsSize fields ≤ maxHeaderListSize maxList :=
  (meta_ok_wellformed maxList frags closeErr fields trunc h).1

/-- non-vacuity: 69 bytes allowed, the second field (33 bytes) does not fit after the first (42):
truncated; a following 1-byte CONTINUATION fragment is refused. -/
example : (match fragLoop (st0 69) [⟨8, [.field sStatus [50, 48, 48], .field [120] [49]]⟩, ⟨1, []⟩] with
    | .error (.conn c) => c == errProtocol
    | _ => false) = true := by decide
example : readMeta 76 [⟨8, [.field sStatus [50, 48, 48], .field [120] [49]]⟩] false
    = .ok [(sStatus, [50, 48, 48]), ([120], [49])] false := by decide

end h2budget

namespace h3budget
open Req.C07.H3Budget Req.H3.Frame

/-- Whatever bytes arrive on the request stream — skipped frames, lying lengths, a
62-bit declared HEADERS length — the buffer allocated for the header block never exceeds
`MaxResponseHeaderBytes`. -/
theorem h3_alloc_le (max : Nat) (input : Bytes) : (readHead max input).alloc ≤ max := by
  unfold readHead
  split
  · simp
  · split
    · simp
    · next hle =>
      split <;> simp <;> omega
  · simp
  · simp

/-- A header block that is handed to the QPACK decoder is at most
`MaxResponseHeaderBytes` long and was really present on the stream. -/
theorem h3_block_le (max : Nat) (input p rest : Bytes)
    (h : (readHead max input).out = .block p rest) : p.length ≤ max ∧ p.length ≤ input.length := by
  unfold readHead at h
  split at h
  · cases h
  · next l r hp =>
    split at h
    · cases h
    · next hle =>
      split at h
      · cases h
      · next hlen =>
        simp only [Outcome.block.injEq] at h
        obtain ⟨rfl, _⟩ := h
        simp only [List.length_take]
        have hr : r.length ≤ input.length := by
          have := Req.Lemmas.C07.H3.parseNext_rest_le (input.length + 1) input
          rw [hp] at this
          exact this
        omega
  · cases h
  · cases h

/-- A HEADERS frame whose declared length exceeds the limit is refused
with nothing allocated and nothing of its payload read, whatever precedes it on the stream. -/
theorem h3_over_limit_refused (max l : Nat) (input rest : Bytes)
    (hp : parseNext (input.length + 1) input = (.ok (.headers l), rest)) (hl : max < l) :
    readHead max input = ⟨.tooLarge l, 0, rest⟩ := by
  unfold readHead
  rw [hp]
  simp [hl]

/-- The frame-skipping loop needs no more iterations than there are
input bytes — more fuel never changes the result (no spin on any stream content). -/
theorem h3_parseNext_terminates (fuel : Nat) (input : Bytes) (h : input.length < fuel) :
    parseNext fuel input = parseNext (input.length + 1) input :=
  Req.Lemmas.C05.H3Stream.parseNext_fuel fuel (input.length + 1) input h (Nat.lt_succ_self _)

/-- non-vacuity: a GREASE frame is skipped, then HEADERS(2) is read; HEADERS(2^40) is refused under
a 1000-byte limit with nothing allocated -/
example : readHead 1000 [0x21, 0x01, 0xff, 0x01, 0x02, 0xaa, 0xbb, 0x00] =
    ⟨.block [0xaa, 0xbb] [0x00], 2, [0x00]⟩ := by decide
example : (readHead 1000 [0x01, 0xc0, 0, 0, 1, 0, 0, 0, 0, 0xaa]).alloc = 0 := by decide

end h3budget
end Req.Props.C07
