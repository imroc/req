import Req.Pool.AltSvcClient
import Req.Props.C12
/-!
# C12 — forcing a version AFTER an alternative was learned and confirmed

Theorems about `Req.Pool.AltSvc.cstep` (Alt-Svc state machine + protocol setters) and the
dispatch model: whatever the client learned before — pending or confirmed in the jar — once a
version is forced the Alt-Svc shortcut is not taken (the trial change `seeded/C12-r4-2` takes it). Tied to the code by the
sequence lane `c12altsm` (setter events between header / request events, requests through
the real `Transport.RoundTrip`) and `c12seq` (f) (learn, CONFIRM, then force, on loopback).
-/
namespace Req.Props.C12
open Req.Pool.Dispatch Req.Pool.AltSvc

/-- **A forced request never takes the Alt-Svc shortcut and leaves the learned state alone**,
whatever that state is. -/
theorem forced_request_skips_altsvc (sup : Bool) (c : Client) (v : Ver) (o : Origin) (now : Nat) (ok : Bool)
    (hf : c.cfg.force = some v) :
    cstep sup c (.alt (.request o now ok)) = (c, some .normal) := by
  simp [cstep, consults, hf]

/-- A forced client learns nothing either. -/
theorem forced_client_learns_nothing (sup : Bool) (c : Client) (v : Ver) (o : Origin) (now : Nat)
    (mas : List (Option Nat)) (hf : c.cfg.force = some v) :
    cstep sup c (.alt (.header o now mas)) = (c, none) := by
  simp [cstep, consults, hf]

/-- **Forcing overrides a confirmed entry**: after ANY history (settings, headers, dials,
requests — so with any pending or confirmed entries), `EnableForceHTTP1` / `EnableForceHTTP2`
makes the next request of every origin go to the normal dispatch, where `forced_no_fallback`
applies; the learned state is kept as it was. -/
theorem forcing_overrides_confirmed_entry (sup : Bool) (evs : List CEvent) (s : Setting)
    (hs : s = .forceH1 ∨ s = .forceH2) (o : Origin) (now : Nat) (ok : Bool) :
    let c := crun sup Client.init evs
    let c' := (cstep sup c (.setting s)).1
    cstep sup c' (.alt (.request o now ok)) = (c', some .normal) ∧ c'.alt = c.alt := by
  intro c c'
  have hf : ∃ v, c'.cfg.force = some v := by
    rcases hs with rfl | rfl
    · exact ⟨.h1, rfl⟩
    · exact ⟨.h2, rfl⟩
  obtain ⟨v, hv⟩ := hf
  refine ⟨forced_request_skips_altsvc sup c' v o now ok hv, ?_⟩
  rcases hs with rfl | rfl <;> rfl

/-- Un-forcing brings the learned state back into play unchanged. -/
theorem unforce_resumes (sup : Bool) (c : Client) (s : Setting) (hs : s = .forceH1 ∨ s = .forceH2)
    (hf : c.cfg.force = none) :
    (crun sup c [.setting s, .setting .unforce]).alt = c.alt
    ∧ (crun sup c [.setting s, .setting .unforce]).cfg = c.cfg := by
  rcases hs with rfl | rfl <;> simp [crun, cstep, altAfter, applySetting] <;>
    (cases c with | mk cfg alt => cases cfg; simp_all)

/-- The shape of `seeded/C12-r4-2`: learn, dial, confirm over HTTP/3, then force HTTP/1.1 — the request is
dispatched normally; un-forced again it takes the shortcut. -/
example :
    let o : Origin := ⟨.https, 1, 443⟩
    let hist : List CEvent := [.setting .enableH3, .alt (.header o 0 [some 3600]), .alt (.dialed o [true]),
      .alt (.request o 1 true)]
    (cstep true (crun true Client.init hist) (.alt (.request o 2 true))).2 = some (.alt true)
    ∧ (cstep true (crun true Client.init (hist ++ [.setting .forceH1])) (.alt (.request o 2 true))).2 = some .normal
    ∧ (cstep true (crun true Client.init (hist ++ [.setting .forceH1, .setting .unforce])) (.alt (.request o 3 true))).2
        = some (.alt true) := by decide +kernel

/-- At the dispatch level: with a version forced the route does not depend on the Alt-Svc flag at
all — it is `dispatch`, which never reads it. -/
theorem forced_route_ignores_altsvc (cfg : Cfg) (req : Req) (net : Net) (a : Bool) (v : Ver)
    (hf : cfg.force = some v) :
    route cfg req { net with alt := a } = dispatch cfg req net := by
  unfold route
  simp [hf]
  rfl

/-- `DisableHTTP3` and `Clone` forget everything that was learned. -/
theorem disable_and_clone_forget (sup : Bool) (c : Client) (s : Setting) (hs : s = .disableH3 ∨ s = .clone)
    (o : Origin) (now : Nat) :
    usable (cstep sup c (.setting s)).1.alt o now = false := by
  rcases hs with rfl | rfl <;> simp [cstep, altAfter, usable, State.empty, jarLive]

end Req.Props.C12
