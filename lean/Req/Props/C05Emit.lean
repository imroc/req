import Req.Lemmas.C05Emit
import Req.H3.Rfc9114
/-!
C05 — "whatever the client encodes (HPACK/QPACK field sections …) decodes in the reference decoder
to exactly what was encoded": the field list the two `encodeHeaders` functions hand to the
encoders (`Req.H2.fieldsX`, the model the lanes `h2emit`/`h3emit` compare the reference decoders'
output with) is, for EVERY request and EVERY combination of the two order options, a well-formed
request field section — the one the client's own receive side (`parseHeaders`, `checkPseudos`)
and RFC 9113 §8.2–8.3 / RFC 9114 §4.2–4.3 demand.
-/
namespace Req.Props.C05
open Req.Proto Req.Ascii Req.HeaderSort Req.H1 Req.H2 Req.Lemmas.C05.Emit

/-- for every request the writers accept — any method, URL, header
map (in any iteration order), body kind, announced trailers, Extended CONNECT or not — and for all
four combinations {no order, header order, pseudo-header order, both} (the order lists are
entries of the header map, arbitrary), the emitted list is `ps ++ rs` where
* `ps` carries exactly the pseudo-header fields of the request, EACH EXACTLY ONCE (its names are a
  permutation of the duplicate-free `pseudoNames`), every one a request pseudo-header, `:method`
  and `:authority` among them;
* no field of `rs` is a pseudo-header field: all pseudo-header fields precede all regular fields;
* every name in `rs` is a non-empty token without upper-case letters;
* no name in `rs` is connection-specific (`connection`, `proxy-connection`, `transfer-encoding`,
  `upgrade`, `keep-alive`). -/
theorem emitted_fields_wellformed (fl : Flavor) (x : XReq) (fs : List (Bytes × Bytes))
    (h : fieldsX fl x = .ok fs) :
    ∃ ps rs, fs = ps ++ rs ∧
      (ps.map (·.1)).Perm (pseudoNames fl x) ∧ (pseudoNames fl x).Nodup ∧
      (∀ n ∈ pseudoNames fl x, n ∈ requestPseudoNames ∧ n.head? = some 58) ∧
      sMethod ∈ pseudoNames fl x ∧ sAuthority ∈ pseudoNames fl x ∧
      ∀ f ∈ rs, f.1.head? ≠ some 58 ∧ f.1 ≠ [] ∧
        (∀ c ∈ f.1, isTokenByte c = true ∧ isUpper c = false) ∧ f.1 ∉ connectionSpecific := by
  obtain ⟨ps, rs, rfl, hp, hr⟩ := emitted_shape fl x fs h
  refine ⟨ps, rs, rfl, hp, ?_, ?_, ?_, ?_, ?_⟩
  · rcases pseudoNames_cases fl x with e | e | e <;> rw [e] <;> decide
  · rcases pseudoNames_cases fl x with e | e | e <;> rw [e] <;> decide
  · rcases pseudoNames_cases fl x with e | e | e <;> rw [e] <;> decide
  · rcases pseudoNames_cases fl x with e | e | e <;> rw [e] <;> decide
  · intro f hf
    obtain ⟨a, b⟩ := hr f hf
    unfold regularNameOK at b
    simp only [Bool.and_eq_true, Bool.not_eq_true', List.all_eq_true, List.contains_eq_mem,
      decide_eq_false_iff_not, List.isEmpty_eq_false_iff] at b
    refine ⟨?_, b.1.1, ?_, b.2⟩
    · unfold isPseudoNameB at a; simpa using a
    · intro c hc; simpa using b.1.2 c hc

/-- the name rules of the RECEIVED-side specification (`Req.H3.Rfc9114`, the predicate
`h3_fields_accept_iff` proves `updateResponseFromHeaders` enforces on what the client receives) hold
for every regular field the client EMITS: lower-case name (§4.2), a token (RFC 9110 §5.1), not
connection-specific (§4.2) — and no pseudo-header field among them (§4.3). What the client sends
passes the name checks it applies to its peer. (The value rule and `te: trailers` are inputs of the
caller: a `TE: gzip` request header is forwarded unchanged, as by the upstream writers; the lanes
count that class.) -/
theorem emitted_regular_fields_rfc9114 (fl : Flavor) (x : XReq) (fs : List (Bytes × Bytes))
    (h : fieldsX fl x = .ok fs) :
    ∃ ps rs, fs = ps ++ rs ∧ (∀ f ∈ ps, f.1.head? = some 58) ∧
      ∀ f ∈ rs, ¬ Req.H3.Rfc9114.IsPseudo ⟨f.1, f.2⟩ ∧ Req.H3.Rfc9114.LowercaseName f.1 ∧
        Req.H3.Rfc9114.IsToken f.1 ∧ ¬ Req.H3.Rfc9114.ConnectionSpecific f.1 := by
  obtain ⟨ps, rs, rfl, hp, _, hn, _, _, hr⟩ := emitted_fields_wellformed fl x fs h
  refine ⟨ps, rs, rfl, ?_, ?_⟩
  · intro f hf
    exact (hn f.1 (hp.mem_iff.mp (List.mem_map_of_mem (f := (·.1)) hf))).2
  · intro f hf
    obtain ⟨h1, h2, h3, h4⟩ := hr f hf
    refine ⟨?_, ?_, ⟨h2, fun c hc => (h3 c hc).1⟩, ?_⟩
    · rintro ⟨tl, htl⟩
      simp only at htl
      rw [htl] at h1
      simp at h1
    · intro c hc hcu
      have := (h3 c hc).2
      simp only [isUpper, Bool.and_eq_false_iff, decide_eq_false_iff_not] at this
      rcases this with a | a
      · exact a hcu.1
      · exact a hcu.2
    · intro hcs
      apply h4
      unfold Req.H3.Rfc9114.ConnectionSpecific at hcs
      rcases hcs with e | e | e | e | e <;> rw [e] <;> decide

/-- the decidable request-section check (`requestSectionOK`: pseudo-header prefix, each a request
pseudo-header exactly once, `:method`/`:authority` present, `:path` and `:scheme` together,
`:protocol` only with them, regular names lower-case tokens that are not connection-specific)
accepts every emitted list. The lanes run the same check on the section the REFERENCE decoder (x/net
hpack, quic-go qpack) recovers from the real encoder's bytes. -/
theorem emitted_section_ok (fl : Flavor) (x : XReq) (fs : List (Bytes × Bytes))
    (h : fieldsX fl x = .ok fs) : requestSectionOK fs = true := by
  obtain ⟨ps, rs, rfl, hp, hr⟩ := emitted_shape fl x fs h
  exact requestSectionOK_of_shape fl x ps rs hp hr

/-- the emitted fields are a permutation of the default-order pseudo fields followed by the
default-order regular fields (announced `trailer` first): the order options only permute — inside
the pseudo part and inside the regular part, never across. -/
theorem emitted_set (fl : Flavor) (x : XReq) (fs : List (Bytes × Bytes))
    (h : fieldsX fl x = .ok fs) :
    ∃ host path ps rs, fs = ps ++ rs ∧ ps.Perm (wireOf (basePseudoX fl x host path)) ∧
      rs.Perm (wireOf (baseRegularX fl x)) := by
  obtain ⟨host, path, _, _, _, rfl⟩ := fieldsX_ok fl x fs h
  exact ⟨host, path, _, _, rfl, wireOf_perm (pseudoKVsX_perm fl x host path),
    wireOf_perm (regularKVsX_perm fl x)⟩

/-- without announced trailers and outside Extended CONNECT the extended model is the shared model
of C01/C16. -/
theorem fieldsX_conservative (fl : Flavor) (x : XReq) (he : isExtendedConnect fl x = false)
    (ht : x.trailers = []) : fieldsX fl x = fields fl x.base := by
  have hb : ∀ host path, basePseudoX fl x host path = basePseudo fl x.base host path := by
    intro host path; simp [basePseudoX, he]
  have hr : baseRegularX fl x = baseRegular fl x.base := by simp [baseRegularX, ht]
  unfold fieldsX fields fieldPathX pseudoKVsX regularKVsX
  simp only [he, hr, hb, Bool.false_eq_true, ↓reduceIte]
  cases hh : fieldHost x.base with
  | error e => rfl
  | ok host =>
    cases hp : fieldPath x.base host with
    | error e => simp only [hp, bind, Except.bind]
    | ok path =>
      simp only [hp, bind, Except.bind, pseudoKVs, regularKVs]
      split
      · rfl
      · cases x.base.maxHeaderList with
        | none => rfl
        | some lim =>
          simp only [pure, Except.pure]
          split <;> rfl

/-- GET https://h/ with `X-B: 2`, `x-a: 1`, BOTH order lists set (pseudo `:scheme, :method`;
regular `x-a, x-b`), HTTP/3. -/
def exBoth : XReq :=
  { base := { method := [71, 69, 84], url := { scheme := [104, 116, 116, 112, 115], host := [104], path := [47] },
              header := [⟨[88, 45, 66], [[50]]⟩, ⟨[120, 45, 97], [[49]]⟩,
                         ⟨headerOrderKey, [[120, 45, 97], [120, 45, 98]]⟩,
                         ⟨pseudoHeaderOrderKey, [sScheme, sMethod]⟩] } }

example : (fieldsX .h3 exBoth).toOption = some
    [(sAuthority, [104]), (sScheme, [104, 116, 116, 112, 115]), (sMethod, [71, 69, 84]), (sPath, [47]),
     ([120, 45, 97], [49]), ([120, 45, 98], [50]), (sUserAgentL, defaultUserAgent)] := by decide

/-- Extended CONNECT over HTTP/3 with announced trailers: five pseudo-header fields, `trailer` first. -/
example : (fieldsX .h3 { base := { method := sCONNECT, url := { scheme := [104], host := [104], path := [47] } },
                         proto := [119, 115], trailers := [88] }).toOption.map (·.map (·.1)) = some
    [sAuthority, sMethod, sPath, sScheme, sProtocol, sTrailerL, sUserAgentL] := by decide

/-- the check has teeth: the section a writer produces when the pseudo-header pass leaks into the
regular pass (pseudo-header fields once more, after a regular field) is rejected … -/
example : requestSectionOK
    [(sMethod, [71]), (sAuthority, [104]), (sPath, [47]), (sScheme, [104]),
     ([120], [49]), (sMethod, [71]), (sAuthority, [104]), (sPath, [47]), (sScheme, [104])] = false := by
  decide
/-- … as are a repeated pseudo-header field, an upper-case name and a connection-specific field. -/
example : requestSectionOK [(sMethod, [71]), (sMethod, [71]), (sAuthority, [104])] = false := by decide
example : requestSectionOK [(sMethod, [71]), (sAuthority, [104]), ([88], [49])] = false := by decide
example : requestSectionOK [(sMethod, [71]), (sAuthority, [104]), (sUpgradeL, [49])] = false := by decide
example : requestSectionOK [(sMethod, [71]), (sAuthority, [104]), ([120], [49])] = true := by decide

end Req.Props.C05
