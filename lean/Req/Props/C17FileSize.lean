import Req.Props.C17Progress
/-!
C17 — the size a `SetFile` upload announces (`FileUpload.FileSize`, the total of the upload
callback) is the size of the content that is uploaded, whatever way the path names the file:
directly, or through any chain of symbolic links. Model of `Request.SetFile` (request.go): open
the path, stat the path — both FOLLOW links; a stat that does not (lstat) announces the length
of the link text.
-/
namespace Req.Props.C17FileSize
open Req.Progress Req.Props.C17Progress

/-- what a path names -/
inductive Node where
  | file (content : List UInt8)
  | link (target : String)
  | dir
  deriving Repr, DecidableEq

/-- a file system: clean path ↦ node -/
abbrev FS := String → Option Node

/-- follow symbolic links (fuel = the platform's limit on nested links; running out = ELOOP) -/
def resolve (fs : FS) : Nat → String → Option Node
  | 0, _ => none
  | k + 1, p =>
    match fs p with
    | some (.link t) => resolve fs k t
    | other => other

/-- `os.Open` + reading to the end: the content of the regular file the path resolves to -/
def openRead (fs : FS) (fuel : Nat) (p : String) : Option (List UInt8) :=
  match resolve fs fuel p with
  | some (.file c) => some c
  | _ => none

/-- `FileInfo.Size`: for a symbolic link the length of the link text, which is what `lstat` reports;
for a directory the value depends on the system and `4096` stands for any (`setFile` refuses a
directory, so nothing rests on it) -/
def sizeOf : Node → Nat
  | .file c => c.length
  | .link t => t.utf8ByteSize
  | .dir => 4096

/-- `os.Stat`: the size of what the path resolves to -/
def stat (fs : FS) (fuel : Nat) (p : String) : Option Nat := (resolve fs fuel p).map sizeOf
/-- `os.Lstat`: the size of the node itself -/
def lstat (fs : FS) (p : String) : Option Nat := (fs p).map sizeOf

/-- `Request.SetFile`: (content that will be uploaded, announced FileSize), or an error -/
def setFile (fs : FS) (fuel : Nat) (p : String) : Option (List UInt8 × Nat) :=
  match openRead fs fuel p, stat fs fuel p with
  | some c, some n => some (c, n)
  | _, _ => none

/-- For every file system, every path and every depth of
links: when SetFile accepts the path, FileSize is the length of the content. -/
theorem setFile_size_truthful (fs : FS) (fuel : Nat) (p : String) (c : List UInt8) (n : Nat)
    (h : setFile fs fuel p = some (c, n)) : n = c.length := by
  unfold setFile openRead stat at h
  cases hr : resolve fs fuel p with
  | none => simp [hr] at h
  | some nd =>
    cases nd with
    | file c' =>
      simp [hr, sizeOf] at h
      obtain ⟨h1, h2⟩ := h
      subst h1; exact h2.symm
    | link t => simp [hr] at h
    | dir => simp [hr] at h

/-- SetFile accepts a path iff it resolves to a regular file (a directory, a dangling link, a
loop are refused) -/
theorem setFile_ok_iff (fs : FS) (fuel : Nat) (p : String) :
    (setFile fs fuel p).isSome ↔ ∃ c, resolve fs fuel p = some (.file c) := by
  unfold setFile openRead stat
  cases hr : resolve fs fuel p with
  | none => simp
  | some nd => cases nd <;> simp

/-- Whatever the links, the clock,
the interval and the split into writes: the last callback carries UploadedSize = FileSize. -/
theorem setFile_progress_final (fs : FS) (fuel : Nat) (p : String) (c : List UInt8) (n : Nat)
    (h : setFile fs fuel p = some (c, n)) (clk : Clock) (calls : List WCall)
    (hwrites : bytesC calls = (c.length : Int)) (hpos : 0 < c.length) :
    (runWT ⟨0, (n : Int)⟩ clk calls).getLast? = some (n : Int) := by
  have hn := setFile_size_truthful fs fuel p c n h
  subst hn
  exact progress_final_upload_clock _ clk calls hwrites.symm (by omega)

/-- every report of such an upload is at most FileSize -/
theorem setFile_progress_bounded (fs : FS) (fuel : Nat) (p : String) (c : List UInt8) (n : Nat)
    (h : setFile fs fuel p = some (c, n)) (clk : Clock) (calls : List WCall)
    (hwrites : bytesC calls = (c.length : Int)) :
    ∀ x ∈ runWT ⟨0, (n : Int)⟩ clk calls, x ≤ (n : Int) := by
  have hn := setFile_size_truthful fs fuel p c n h
  subst hn
  intro x hx
  have := (progress_monotone_upload_clock ⟨0, (c.length : Int)⟩ clk calls).2 x hx
  simp only at this
  omega

/-! non-vacuity: a link chain to a 7-byte file; lstat would announce the link text -/
def demoFS : FS := fun p =>
  if p = "/d/f" then some (.file [1, 2, 3, 4, 5, 6, 7])
  else if p = "/d/l1" then some (.link "/d/f")
  else if p = "/d/l2" then some (.link "/d/l1")
  else if p = "/d/loop" then some (.link "/d/loop")
  else if p = "/d" then some .dir
  else none

example : setFile demoFS 40 "/d/l2" = some ([1, 2, 3, 4, 5, 6, 7], 7) := by decide
example : lstat demoFS "/d/l2" = some 5 := by decide
example : lstat demoFS "/d/l1" = some 4 := by decide
example : setFile demoFS 40 "/d/loop" = none ∧ setFile demoFS 40 "/d" = none ∧
    setFile demoFS 40 "/d/none" = none := by decide
example : (runWT ⟨0, 7⟩ ⟨0, 3600⟩ [⟨3, 1⟩, ⟨4, 2⟩]).getLast? = some 7 := by decide
/-- the lstat total (5) against 7 written bytes: the final report never fires -/
example : runWT ⟨0, 5⟩ ⟨0, 3600⟩ [⟨3, 1⟩, ⟨4, 2⟩] = [] := by decide

end Req.Props.C17FileSize
