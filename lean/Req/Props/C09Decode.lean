import Req.Pool.DecodeOwner
/-!
# C09: the decoder state of a response body is owned by the response

Model `Req/Pool/DecodeOwner.lean`.  `decoder_state_per_response`: for EVERY streaming codec
(any state type, any `feed`), every op list — any number of responses alive at the same time,
their callers reading in any interleaving, in steps of any size — what the caller of response r
has been delivered is exactly what a decoder of its own produces from the chunks of r's body
(`own r ops` mentions no op of any other response), and the cell r decodes through is in the
state that decoder is in.  This is the pairing statement (`pairing`, `h2_pairing`: the i-th
response / the frames of stream id reach the caller that asked) carried through the stateful
readers `handleResponseBody` stacks on the body.  Hypothesis `cfg.shared = false` = a fresh
decoder per wrap (`enc.NewDecoder()`); `sharing_breaks_pairing` shows the statement is false for a
cache of decoder objects keyed by charset label (`seeded/C09-r6-2`), with the real ISO-2022-JP decoder.
-/
namespace Req.Props.C09Decode
open Req.Pool.DecodeOwner Req.Proto

theorem upd_other {β : Type} (f : Nat → β) (k x : Nat) (v : β) (h : x ≠ k) : upd f k v x = f x := by
  simp [upd, h]

theorem solo_snoc {σ : Type} (c : Codec σ) (l : List (Bytes × Bool)) (ch : Bytes × Bool) :
    solo c (l ++ [ch]) = soloStep c (solo c l) ch := by
  simp [solo, List.foldl_append]

theorem fed_step {σ : Type} (cfg : Cfg) (c : Codec σ) (s : St σ) (op : Op) (r : Nat) :
    (step cfg c s op).fed r = ownStep r (s.fed r) op := by
  cases op <;> simp only [step, ownStep, upd, eq_comm (a := r)] <;> split <;> simp_all

/-- The ghost really is "the chunks of r since its wrap", whoever owns the decoders. -/
theorem fed_is_own {σ : Type} (cfg : Cfg) (c : Codec σ) (ops : List Op) (r : Nat) :
    (run cfg c ops).fed r = own r ops :=
  (List.foldl_hom (fun s : St σ => s.fed r) (g₂ := ownStep r) (fun s op => (fed_step cfg c s op r).symm)).symm

/-- With a decoder per wrap, response `r` decodes through cell `2 * r`; its state and what `r`'s caller has been given are
those of a decoder fed `r`'s chunks alone. -/
def Owned {σ : Type} (c : Codec σ) (s : St σ) : Prop :=
  ∀ r, s.cell (2 * r) = (solo c (s.fed r)).1 ∧ s.out r = (solo c (s.fed r)).2

theorem owned_step {σ : Type} (cfg : Cfg) (hc : cfg.shared = false) (c : Codec σ) (s : St σ) (op : Op)
    (h : Owned c s) : Owned c (step cfg c s op) := by
  intro r
  obtain ⟨h1, h2⟩ := h r
  cases op with
  | wrap r' l =>
    by_cases e : r = r'
    · subst e; simp [step, key, hc, upd, solo]
    · simp [step, key, hc, upd, e, h1, h2, show ¬ 2 * r = 2 * r' by omega]
  | feed r' ch eof =>
    by_cases e : r = r'
    · subst e; simp [step, key, hc, upd, solo_snoc, soloStep, h1, h2]
    · simp [step, key, hc, upd, e, h1, h2, show ¬ 2 * r = 2 * r' by omega]

theorem owned_foldl {σ : Type} (cfg : Cfg) (hc : cfg.shared = false) (c : Codec σ) (ops : List Op)
    (s : St σ) (h : Owned c s) : Owned c (ops.foldl (step cfg c) s) := by
  induction ops generalizing s with
  | nil => exact h
  | cons op rest ih => simp only [List.foldl_cons]; exact ih _ (owned_step cfg hc c s op h)

theorem owned_run {σ : Type} (cfg : Cfg) (hc : cfg.shared = false) (c : Codec σ) (ops : List Op) :
    Owned c (run cfg c ops) := by
  apply owned_foldl cfg hc c ops
  intro r; simp [start, solo]

/-- **Decoder state per response.**  For every codec, every interleaving of wraps and reads of
any number of responses: the bytes delivered to the caller of r are what a decoder of r's own
makes of r's own chunks, and r's decoder is in exactly that decoder's state — nothing any other
response has read plays a part. -/
theorem decoder_state_per_response {σ : Type} (cfg : Cfg) (hc : cfg.shared = false) (c : Codec σ)
    (ops : List Op) (r : Nat) :
    (run cfg c ops).out r = (solo c (own r ops)).2 ∧
    (run cfg c ops).cell (key cfg r ((run cfg c ops).label r)) = (solo c (own r ops)).1 := by
  have h := owned_run cfg hc c ops r
  rw [fed_is_own] at h
  refine ⟨h.2, ?_⟩
  simp only [key, hc, Bool.false_eq_true, if_false]
  exact h.1

/-- Ops of other responses can be dropped or added at will: the caller of r sees the same bytes. -/
theorem others_do_not_matter {σ : Type} (cfg : Cfg) (hc : cfg.shared = false) (c : Codec σ)
    (ops ops' : List Op) (r : Nat) (h : own r ops = own r ops') :
    (run cfg c ops).out r = (run cfg c ops').out r := by
  rw [(decoder_state_per_response cfg hc c ops r).1, (decoder_state_per_response cfg hc c ops' r).1, h]

/-! ## Non-vacuity and the counter-example (ISO-2022-JP, katakana mode: no table needed)

Response 0 is `ESC ( I 1` (ｱ, left in katakana mode), response 1 is the ASCII text `t1`;
both are wrapped, caller 0 reads, then caller 1. -/
def demoOps : List Op :=
  [.wrap 0 7, .wrap 1 7, .feed 0 [0x1b, 0x28, 0x49, 0x31] false, .feed 1 [0x74, 0x31] false,
   .feed 0 [] true, .feed 1 [] true]

example : (run {} (iso []) demoOps).out 0 = [0xEF, 0xBD, 0xB1] ∧
    (run {} (iso []) demoOps).out 1 = [0x74, 0x31] := by decide +kernel

example : own 1 demoOps = [([0x74, 0x31], false), ([], true)] := by decide +kernel

example : (solo (iso []) (own 1 demoOps)).2 = [0x74, 0x31] := by decide +kernel

/-- With one decoder object per charset label (`seeded/C09-r6-2`) the statement is false: caller 1's
ASCII body is decoded in the mode caller 0's body left behind (`t` → U+FFFD, `1` → ｱ). -/
theorem sharing_breaks_pairing :
    (run { shared := true } (iso []) demoOps).out 1 ≠ (solo (iso []) (own 1 demoOps)).2 := by decide +kernel

example : (run { shared := true } (iso []) demoOps).out 1 = [0xEF, 0xBF, 0xBD, 0xEF, 0xBD, 0xB1] := by decide +kernel

/-- Two-byte mode with a table entry (日 = JIS X 0208 row 38 cell 92: index 37·94+91), split over
two reads: the first byte is held back, not lost. -/
example : (run {} (iso [(3569, 0x65E5)])
    [.wrap 0 1, .feed 0 [0x1b, 0x24, 0x42, 0x46] false, .feed 0 [0x7c] false]).out 0 = [0xE6, 0x97, 0xA5] := by
  decide +kernel

end Req.Props.C09Decode
