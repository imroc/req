import Req.Pool.TlsResume
import Req.Props.C12
/-!
# C12 — a re-dial is judged by the settings in force NOW

Theorems about `Req.Pool.TLS.acceptsRedial`. Tied to the code by the fact
`sessionCacheWrites` (bridge) and behaviourally by lanes c12cfg (probe server with stable
session-ticket keys, connections of the same stack before the settings change), c12e2e /
c12uniform kind `redial` (verified first connection, connection closed, settings replaced,
new connection — on HTTP/1.1, HTTP/2 and HTTP/3).
-/
namespace Req.Props.C12
open Req.Pool.TLS

/-- **Whatever sessions earlier connections left behind**, when the library installs no session
cache the verdict of a new connection is the full verification under the current settings. -/
theorem redial_governed_by_current_settings (sess : Option Session) (v : VerifyCfg) (cert : ServerCert) :
    acceptsRedial 0 sess v cert = acceptsStd v cert := by
  simp [acceptsRedial, libraryCaches]

/-- Hence re-dials are uniform over the stacks like first connections (`tls_uniform`): every
stack, whatever its own connection history, decides as HTTP/1.1 does on a fresh client. -/
theorem redial_uniform (sites : List Site) (h : ∀ s, source sites s = .clientOptions)
    (client : Option TlsCfg) (own : Stack → Option TlsCfg) (host : Nat) (o : Bool) (cert : ServerCert)
    (hist : Stack → Option Session) (s : Stack) :
    acceptsRedial 0 (hist s) (verifyPart (effective s o host (cfgRead sites client own s))) cert
      = acceptsStd (verifyPart (effective .h1 false host client)) cert := by
  rw [redial_governed_by_current_settings]
  simp only [cfgRead, h]
  rw [effective_verify]

/-- Necessity (the trial change `seeded/C12-r4-1`): with a library-side cache, a session verified under the OLD roots
makes the stack accept a certificate the current roots do not cover. -/
theorem cached_session_outlives_roots :
    let v : VerifyCfg := { serverName := 1, insecure := false, roots := some [2], certs := [] }
    let cert : ServerCert := ⟨0, [1]⟩
    acceptsRedial 1 (some ⟨1, true⟩) v cert = true ∧ acceptsStd v cert = false := by decide +kernel

/-- … while a changed `ServerName`, or a first connection made under `InsecureSkipVerify`, does
not resume (why only "verified, then roots replaced" shows it). -/
example : resumes (some ⟨1, true⟩) { serverName := 2, insecure := false, roots := none, certs := [] } = false
    ∧ resumes (some ⟨1, false⟩) { serverName := 1, insecure := false, roots := none, certs := [] } = false := by
  decide +kernel

end Req.Props.C12
