import Req.Pool.ProxyDispatch
import Req.Lemmas.Dispatch
import Req.Props.C12
/-!
# C12 — the dispatch theorems with a proxy configured

`routeP px` is `Transport.roundTrip` with `t.Proxy(req) = px` (HTTP proxy: absolute-form for
plain http, CONNECT for https; SOCKS5). Tied to the code by lane `c12proxy` (in-process
CONNECT proxy and SOCKS5 stub) and, for the TLS part inside the tunnel, lane `c12path`.
-/
namespace Req.Props.C12
open Req.Pool.Dispatch Req.Lemmas.Dispatch

theorem routeP_none (cfg : Cfg) (req : Req) (net : Net) : routeP none cfg req net = route cfg req net := by
  unfold routeP route dispatchP dispatch h1PathP
  rfl

/-- **No silent fallback, with a proxy.** Whatever proxy is configured and whatever it does:
with a forced version `v` a request that is carried at all is carried by `v`. -/
theorem forced_no_fallback_proxy (px : Option ProxyNet) (cfg : Cfg) (req : Req) (net : Net) (v w : Ver)
    (hf : cfg.force = some v) (h : routeP px cfg req net = .ok w) : w = v :=
  forced_no_fallbackP hf h

example : routeP (some ⟨.http, true, true⟩) ⟨some .h1, false, false, false, false, [.http11, .h2]⟩ ⟨.https, false⟩
    ⟨[.h2, .http11], true, false, false, false, .fail, false, false, false⟩ = .ok .h1 := by decide +kernel
example : routeP (some ⟨.socks5, true, true⟩) ⟨none, false, false, false, false, [.http11, .h2]⟩ ⟨.https, false⟩
    ⟨[.h2, .http11], true, false, false, false, .fail, false, false, false⟩ = .ok .h2 := by decide +kernel

/-- **A forced HTTP/2 or HTTP/3 ignores the proxy**: `http2.Transport` / `http3.RoundTripper`
dial the origin themselves — the outcome is that of the proxy-less client, whatever the
proxy is or does (it is never contacted: `viaProxy = false`). HTTP/3 cannot be tunnelled
through an HTTP proxy; the request neither fails nor falls back to another VERSION, it
leaves the proxy out. -/
theorem forced_h2_h3_ignore_proxy (px : Option ProxyNet) (cfg : Cfg) (req : Req) (net : Net)
    (hf : cfg.force = some .h2 ∨ cfg.force = some .h3) :
    routeP px cfg req net = route cfg req net ∧ viaProxy px cfg req net = false := by
  rcases hf with hf | hf <;> simp [routeP, route, dispatchP, dispatch, viaProxy, hf]

example : routeP (some ⟨.http, false, false⟩) ⟨some .h3, true, false, false, false, []⟩ ⟨.https, false⟩
    ⟨[.h2, .http11], true, true, true, false, .fail, false, false, false⟩ = .ok .h3 := by decide +kernel

/-- **A failing proxy is never bypassed on the HTTP/1.1 path.** Un-forced or forced HTTP/1.1,
no Alt-Svc entry, nothing cached: when the proxy is down or refuses the tunnel the request
FAILS — there is no silent direct connection. -/
theorem failing_proxy_is_an_error (p : ProxyNet) (cfg : Cfg) (req : Req) (net : Net)
    (hf : cfg.force = none ∨ cfg.force = some .h1) (hs : req.scheme = .https)
    (halt : net.alt = false) (hc2 : net.cachedH2 = false) (hc3 : net.cachedH3 = false)
    (hdown : p.up = false ∨ p.tunnel = false) :
    routeP (some p) cfg req net = .error .proxyFailed := by
  rcases hf with hf | hf <;> rcases hdown with hd | hd <;>
    simp [routeP, dispatchP, h1PathP, h1PathVia, hf, hs, halt, hc2, hc3, hd]

example : routeP (some ⟨.socks5, true, false⟩) ⟨none, false, false, false, false, [.http11, .h2]⟩ ⟨.https, false⟩
    ⟨[.h2, .http11], true, false, false, false, .fail, false, false, false⟩ = .error .proxyFailed := by decide +kernel

/-- **Inside the tunnel the CLIENT's TLS settings decide.** An https request carried over a new
connection through a proxy, with no handshake function set — even with a `SetDialTLS`
function, which is not consulted behind a proxy — went through the handshake acceptance of
the client's configuration. -/
theorem tunnel_connection_was_accepted (p : ProxyNet) (cfg : Cfg) (req : Req) (net : Net) (v : Ver)
    (hf : cfg.force = none ∨ cfg.force = some .h1) (hs : req.scheme = .https)
    (halt : net.alt = false) (hc2 : net.cachedH2 = false) (hc3 : net.cachedH3 = false)
    (hh : cfg.handshake = false) (h : routeP (some p) cfg req net = .ok v) :
    net.tcpAccept = true ∧ v ≠ .h3 ∧ p.up = true ∧ p.tunnel = true := by
  have hp : h1PathVia p cfg req net = .ok v := by
    rcases hf with hf | hf <;>
      simpa [routeP, dispatchP, h1PathP, hf, hs, halt, hc2, hc3] using h
  rcases h1PathVia_ok hp with ⟨hh', _⟩ | ⟨_, hup, htun, st, hst, hc⟩
  · rw [hs] at hh'; cases hh'
  · have hv : v ≠ .h3 := by
      rcases carry_ok hc with ⟨rfl, _⟩ | ⟨rfl, _⟩ <;> simp
    exact ⟨dialTlsState_accepted (cfg := { cfg with dialTLS := false }) rfl hh hst, hv, hup, htun⟩

/-- Plain http with a proxy: HTTP/1.1 (absolute-form to an HTTP proxy, origin-form through
SOCKS5), or HTTP/2 prior knowledge when h2c is enabled and HTTP/2 forced (direct). -/
theorem proxied_plain_http (px : Option ProxyNet) (cfg : Cfg) (req : Req) (net : Net) (v : Ver)
    (hs : req.scheme = .http) (h : routeP px cfg req net = .ok v) :
    v = .h1 ∨ (v = .h2 ∧ cfg.allowHTTP = true ∧ cfg.force = some .h2) :=
  plain_httpP hs h

/-- Through an HTTP proxy a plain request is HTTP/1.1 to the PROXY whatever the origin speaks. -/
theorem http_proxy_plain_is_h1 (p : ProxyNet) (cfg : Cfg) (req : Req) (net : Net)
    (hk : p.kind = .http) (hup : p.up = true) (hs : req.scheme = .http)
    (hf : cfg.force = none ∨ cfg.force = some .h1) :
    routeP (some p) cfg req net = .ok .h1 := by
  rcases hf with hf | hf <;> simp [routeP, dispatchP, h1PathP, h1PathVia, hf, hs, hk, hup]

/-- **Un-forced https through a proxy uses a version negotiated with the origin** (inside the
tunnel, or earlier for a cached connection). -/
theorem unforced_negotiated_proxy (px : Option ProxyNet) (cfg : Cfg) (req : Req) (net : Net) (v : Ver)
    (hf : cfg.force = none) (hs : req.scheme = .https) (h : routeP px cfg req net = .ok v) :
    Negotiated net v :=
  unforced_negotiatedP hf hs h

/-- A proxied request never crashes the caller either (same premises as `forced_version_or_error`,
un-forced included). -/
theorem proxied_h1_path_no_crash (p : ProxyNet) (cfg : Cfg) (req : Req) (net : Net)
    (hf : cfg.force = none ∨ cfg.force = some .h1) (halt : net.alt = false) :
    routeP (some p) cfg req net ≠ .crash := by
  apply routeP_not_crash <;> rcases hf with hf | hf <;> simp [hf]

end Req.Props.C12
