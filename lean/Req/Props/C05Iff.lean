import Req.Lemmas.C05H2Iff
import Req.Props.C05
/-!
C05 — error classes as CHARACTERISATIONS (both directions): the typed frame parsers of
`internal/http2/frame.go` accept a frame ⇔ RFC 9113 §6 accepts it, and reject it with class `c` ⇔
the RFC's reason for `c` holds. `Req.H2.Frame.Rfc` is the declarative side (arithmetic on length,
flags, stream id, Pad Length, INITIAL_WINDOW_SIZE, window increment): `parse_verdict` for all
frame types at once, the `*_classes` the classes of each type spelled out, exclusive and exhaustive.
-/
namespace Req.Props.C05
open Req.Proto Req.H2.Frame Req.H2.Frame.Rfc Req.Lemmas.C05.H2Iff

/-- for every frame header and payload of the announced length the typed parser
(`typeFrameParser(t)`) returns a frame iff RFC 9113 §6 accepts the frame, and otherwise exactly the
error the RFC (with the reference's precedence) prescribes. -/
theorem parse_verdict (fh : FrameHeader) (p : Bytes) (hl : fh.length = p.length) :
    ofResult (parsePayload fh p) = verdict fh p :=
  Req.Lemmas.C05.H2Iff.parse_verdict fh p hl

theorem parse_accept_iff (fh : FrameHeader) (p : Bytes) (hl : fh.length = p.length) :
    (∃ f, parsePayload fh p = .ok f) ↔ verdict fh p = .accept := by
  rw [← parse_verdict fh p hl, ofResult_accept]

theorem parse_reject_iff (fh : FrameHeader) (p : Bytes) (hl : fh.length = p.length) (e : RErr) :
    parsePayload fh p = .error e ↔ verdict fh p = .reject e := by
  rw [← parse_verdict fh p hl, ofResult_reject]

example : verdict ⟨4, tWindowUpdate, 0, 3⟩ [128, 0, 0, 0] = .reject (.stream 3 errProtocol) := by decide
example : verdict ⟨4, tWindowUpdate, 0, 0⟩ [0, 0, 0, 0] = .reject (.conn errProtocol) := by decide
example : verdict ⟨4, tWindowUpdate, 0, 0⟩ [128, 0, 0, 1] = .accept := by decide
example : verdict ⟨3, tHeaders, 8 + 32, 1⟩ [0, 1, 2] = .reject .unexpectedEOF := by decide
example : verdict ⟨7, tHeaders, 8 + 32, 1⟩ [2, 0, 0, 0, 0, 9, 7] = .reject (.stream 1 errProtocol) := by decide
example : verdict ⟨8, tHeaders, 8 + 32, 1⟩ [2, 0, 0, 0, 0, 9, 0, 0] = .accept := by decide

section perType
variable (fh : FrameHeader) (p : Bytes)

attribute [local simp] errProtocol errFrameSize errFlowControl tData tHeaders tPriority tRSTStream
  tSettings tPushPromise tPing tGoAway tWindowUpdate tContinuation


/-- §6.1 DATA. Accepted ⇔ non-zero stream and, when PADDED, a Pad Length smaller than the payload
length. PROTOCOL_ERROR (connection) ⇔ stream 0, or padding not shorter than the payload.
Short read ⇔ PADDED frame without any octet. Nothing else. -/
theorem data_classes (ht : fh.type = tData) :
    ((∃ f, parsePayload fh p = .ok f) ↔ fh.streamID ≠ 0 ∧ (padded fh = true → padLen fh p < p.length)) ∧
    (parsePayload fh p = .error (.conn errProtocol) ↔
      fh.streamID = 0 ∨ (padded fh = true ∧ 0 < p.length ∧ p.length ≤ padLen fh p)) ∧
    (parsePayload fh p = .error .unexpectedEOF ↔ fh.streamID ≠ 0 ∧ padded fh = true ∧ p.length = 0) := by
  have hv := data_verdict fh p
  rw [Req.Lemmas.C05.H2.parsePayload_data ht, accept_iff_of_verdict hv, reject_iff_of_verdict hv, reject_iff_of_verdict hv]
  unfold Rfc.data connProtocol
  by_cases h0 : fh.streamID = 0 <;> by_cases hpd : padded fh = true <;>
    by_cases hz : p.length = 0 <;> by_cases hle : padLen fh p ≥ p.length <;>
    simp [h0, hpd, hz, hle] <;> omega

/-- §6.2 HEADERS. Accepted ⇔ non-zero stream, the fixed fields (Pad Length, priority) fit, and the
padding fits what remains. PROTOCOL_ERROR on the connection ⇔ stream 0; on the stream ⇔ padding
exceeds the remaining payload; short read ⇔ the fixed fields do not fit. -/
theorem headers_classes (ht : fh.type = tHeaders) :
    ((∃ f, parsePayload fh p = .ok f) ↔
      fh.streamID ≠ 0 ∧ fixedHeaders fh ≤ p.length ∧ padLen fh p ≤ p.length - fixedHeaders fh) ∧
    (parsePayload fh p = .error (.conn errProtocol) ↔ fh.streamID = 0) ∧
    (parsePayload fh p = .error .unexpectedEOF ↔ fh.streamID ≠ 0 ∧ p.length < fixedHeaders fh) ∧
    (parsePayload fh p = .error (.stream fh.streamID errProtocol) ↔
      fh.streamID ≠ 0 ∧ fixedHeaders fh ≤ p.length ∧ p.length - fixedHeaders fh < padLen fh p) := by
  have hv := headers_verdict fh p
  rw [Req.Lemmas.C05.H2.parsePayload_headers ht, accept_iff_of_verdict hv, reject_iff_of_verdict hv, reject_iff_of_verdict hv, reject_iff_of_verdict hv]
  unfold Rfc.headers connProtocol
  by_cases h0 : fh.streamID = 0 <;> by_cases h1 : p.length < fixedHeaders fh <;>
    by_cases h2 : p.length - fixedHeaders fh < padLen fh p <;>
    simp [h0, h1, h2] <;> omega

/-- §6.3 PRIORITY. -/
theorem priority_classes (ht : fh.type = tPriority) :
    ((∃ f, parsePayload fh p = .ok f) ↔ fh.streamID ≠ 0 ∧ p.length = 5) ∧
    (parsePayload fh p = .error (.conn errProtocol) ↔ fh.streamID = 0) ∧
    (parsePayload fh p = .error (.conn errFrameSize) ↔ fh.streamID ≠ 0 ∧ p.length ≠ 5) := by
  have hv := priority_verdict fh p
  rw [Req.Lemmas.C05.H2.parsePayload_priority ht, accept_iff_of_verdict hv, reject_iff_of_verdict hv, reject_iff_of_verdict hv]
  unfold Rfc.priority connProtocol connFrameSize
  by_cases h0 : fh.streamID = 0 <;> by_cases h1 : p.length = 5 <;> simp [h0, h1]

/-- §6.4 RST_STREAM. -/
theorem rstStream_classes (ht : fh.type = tRSTStream) :
    ((∃ f, parsePayload fh p = .ok f) ↔ p.length = 4 ∧ fh.streamID ≠ 0) ∧
    (parsePayload fh p = .error (.conn errFrameSize) ↔ p.length ≠ 4) ∧
    (parsePayload fh p = .error (.conn errProtocol) ↔ p.length = 4 ∧ fh.streamID = 0) := by
  have hv := rstStream_verdict fh p
  rw [Req.Lemmas.C05.H2.parsePayload_rstStream ht, accept_iff_of_verdict hv, reject_iff_of_verdict hv, reject_iff_of_verdict hv]
  unfold Rfc.rstStream connProtocol connFrameSize
  by_cases h0 : fh.streamID = 0 <;> by_cases h1 : p.length = 4 <;> simp [h0, h1]

/-- §6.5 SETTINGS (value ranges: §6.5.2 INITIAL_WINDOW_SIZE ≤ 2^31 − 1). -/
theorem settings_classes (ht : fh.type = tSettings) (hl : fh.length = p.length) :
    ((∃ f, parsePayload fh p = .ok f) ↔
      (isAck fh = true → p.length = 0) ∧ fh.streamID = 0 ∧ p.length % 6 = 0 ∧
        initialWindowTooLarge p = false) ∧
    (parsePayload fh p = .error (.conn errFrameSize) ↔
      (isAck fh = true ∧ 0 < p.length) ∨ (fh.streamID = 0 ∧ p.length % 6 ≠ 0)) ∧
    (parsePayload fh p = .error (.conn errProtocol) ↔
      (isAck fh = true → p.length = 0) ∧ fh.streamID ≠ 0) ∧
    (parsePayload fh p = .error (.conn errFlowControl) ↔
      (isAck fh = true → p.length = 0) ∧ fh.streamID = 0 ∧ p.length % 6 = 0 ∧
        initialWindowTooLarge p = true) := by
  have hv := settings_verdict fh p hl
  rw [Req.Lemmas.C05.H2.parsePayload_settings ht, accept_iff_of_verdict hv, reject_iff_of_verdict hv, reject_iff_of_verdict hv, reject_iff_of_verdict hv]
  unfold Rfc.settings connProtocol connFrameSize
  have hpos : (p.length > 0) ↔ ¬ p.length = 0 := by omega
  simp only [hpos]
  by_cases ha : isAck fh = true <;> by_cases hz : p.length = 0 <;>
    by_cases h0 : fh.streamID = 0 <;> by_cases h6 : p.length % 6 = 0 <;>
    cases hw : initialWindowTooLarge p <;>
    simp [ha, hz, h0, h6] <;> (try omega)

/-- §6.6 PUSH_PROMISE. -/
theorem pushPromise_classes (ht : fh.type = tPushPromise) :
    ((∃ f, parsePayload fh p = .ok f) ↔
      fh.streamID ≠ 0 ∧ fixedPushPromise fh ≤ p.length ∧ padLen fh p ≤ p.length - fixedPushPromise fh) ∧
    (parsePayload fh p = .error (.conn errProtocol) ↔
      fh.streamID = 0 ∨ (fixedPushPromise fh ≤ p.length ∧ p.length - fixedPushPromise fh < padLen fh p)) ∧
    (parsePayload fh p = .error .unexpectedEOF ↔ fh.streamID ≠ 0 ∧ p.length < fixedPushPromise fh) := by
  have hv := pushPromise_verdict fh p
  rw [Req.Lemmas.C05.H2.parsePayload_pushPromise ht, accept_iff_of_verdict hv, reject_iff_of_verdict hv, reject_iff_of_verdict hv]
  unfold Rfc.pushPromise connProtocol
  by_cases h0 : fh.streamID = 0 <;> by_cases h1 : p.length < fixedPushPromise fh <;>
    by_cases h2 : p.length - fixedPushPromise fh < padLen fh p <;>
    simp [h0, h1, h2] <;> omega

/-- §6.7 PING. -/
theorem ping_classes (ht : fh.type = tPing) :
    ((∃ f, parsePayload fh p = .ok f) ↔ p.length = 8 ∧ fh.streamID = 0) ∧
    (parsePayload fh p = .error (.conn errFrameSize) ↔ p.length ≠ 8) ∧
    (parsePayload fh p = .error (.conn errProtocol) ↔ p.length = 8 ∧ fh.streamID ≠ 0) := by
  have hv := ping_verdict fh p
  rw [Req.Lemmas.C05.H2.parsePayload_ping ht, accept_iff_of_verdict hv, reject_iff_of_verdict hv, reject_iff_of_verdict hv]
  unfold Rfc.ping connProtocol connFrameSize
  by_cases h0 : fh.streamID = 0 <;> by_cases h1 : p.length = 8 <;> simp [h0, h1]

/-- §6.8 GOAWAY. -/
theorem goAway_classes (ht : fh.type = tGoAway) :
    ((∃ f, parsePayload fh p = .ok f) ↔ fh.streamID = 0 ∧ 8 ≤ p.length) ∧
    (parsePayload fh p = .error (.conn errProtocol) ↔ fh.streamID ≠ 0) ∧
    (parsePayload fh p = .error (.conn errFrameSize) ↔ fh.streamID = 0 ∧ p.length < 8) := by
  have hv := goAway_verdict fh p
  rw [Req.Lemmas.C05.H2.parsePayload_goAway ht, accept_iff_of_verdict hv, reject_iff_of_verdict hv, reject_iff_of_verdict hv]
  unfold Rfc.goAway connProtocol connFrameSize
  by_cases h0 : fh.streamID = 0 <;> by_cases h1 : p.length < 8 <;> simp [h0, h1] <;> omega

/-- §6.9 WINDOW_UPDATE: a zero increment (reserved bit ignored) is a PROTOCOL_ERROR — of the
connection on stream 0, of the stream otherwise. -/
theorem windowUpdate_classes (ht : fh.type = tWindowUpdate) :
    ((∃ f, parsePayload fh p = .ok f) ↔ p.length = 4 ∧ word0 p % two31 ≠ 0) ∧
    (parsePayload fh p = .error (.conn errFrameSize) ↔ p.length ≠ 4) ∧
    (parsePayload fh p = .error (.conn errProtocol) ↔
      p.length = 4 ∧ word0 p % two31 = 0 ∧ fh.streamID = 0) ∧
    (parsePayload fh p = .error (.stream fh.streamID errProtocol) ↔
      p.length = 4 ∧ word0 p % two31 = 0 ∧ fh.streamID ≠ 0) := by
  have hv := windowUpdate_verdict fh p
  rw [Req.Lemmas.C05.H2.parsePayload_windowUpdate ht, accept_iff_of_verdict hv, reject_iff_of_verdict hv, reject_iff_of_verdict hv, reject_iff_of_verdict hv]
  unfold Rfc.windowUpdate connProtocol connFrameSize
  by_cases h0 : fh.streamID = 0 <;> by_cases h1 : p.length = 4 <;>
    by_cases h2 : word0 p % two31 = 0 <;> simp [h0, h1, h2]

/-- §6.10 CONTINUATION. -/
theorem continuation_classes (ht : fh.type = tContinuation) :
    ((∃ f, parsePayload fh p = .ok f) ↔ fh.streamID ≠ 0) ∧
    (parsePayload fh p = .error (.conn errProtocol) ↔ fh.streamID = 0) := by
  have hv := continuation_verdict fh p
  rw [Req.Lemmas.C05.H2.parsePayload_continuation ht, accept_iff_of_verdict hv, reject_iff_of_verdict hv]
  unfold Rfc.continuation connProtocol
  by_cases h0 : fh.streamID = 0 <;> simp [h0]

/-- §4.1: frames of unknown types are never an error of the frame layer. -/
theorem unknown_accepted (ht : 10 ≤ fh.type) : parsePayload fh p = .ok (.unknown fh p) :=
  Req.Lemmas.C05.H2.parsePayload_unknown ht

end perType

/-- an error value is produced by a typed parser ⇔ it is the error RFC 9113 §6 prescribes for that
frame — `parse_reject_iff` — and every such error lies in `ErrClass` (`parse_error_classified`; the
second conjunct follows from the first). Nothing outside the RFC's verdict is ever returned; that
every member of `ErrClass` occurs for some payload is not claimed. -/
theorem parse_error_classified_iff (fh : FrameHeader) (p : Bytes) (hl : fh.length = p.length) (e : RErr) :
    parsePayload fh p = .error e ↔ (verdict fh p = .reject e ∧ ErrClass fh e) := by
  constructor
  · intro h
    exact ⟨(parse_reject_iff fh p hl e).mp h, parse_error_classified fh p e h⟩
  · intro h
    exact (parse_reject_iff fh p hl e).mpr h.1

/-- wire level: for a reader outside a header block that accepts the frame size, `ReadFrame` on
`header ++ payload ++ rest` fails with an error `e` ⇔ the RFC verdict on that frame is `reject e` —
for every frame type other than CONTINUATION, which outside a block the order automaton
(`order_automaton`) refuses whatever its payload. -/
theorem readFrame_verdict (r : Reader) (l t f s : Nat) (payload rest : Bytes) (e : RErr)
    (hl : l < two24) (ht : t < 256) (hf : f < 256) (hs : s < two31) (hp : payload.length = l)
    (hr : Ready r l 0) (htc : t ≠ tContinuation) :
    (readFrame r (headerBytes l t f s ++ (payload ++ rest))).1 = .error e ↔
      verdict ⟨l, t, f, s⟩ payload = .reject e := by
  subst hp
  rw [Req.Lemmas.C05.H2.readFrame_frame r t f s payload rest ht hf hs hl hr.fits, afterPayload,
    ← parse_reject_iff ⟨payload.length, t, f, s⟩ payload rfl e]
  cases hq : parsePayload ⟨payload.length, t, f, s⟩ payload with
  | error e' => simp
  | ok fr =>
    -- outside a block the order automaton refuses CONTINUATION only
    simp only [checkFrameOrder, hr.legal, Bool.false_eq_true, ↓reduceIte, hr.state,
      Req.Lemmas.C05.H2.orderStep_closed, if_neg htc]
    by_cases ho : t = tHeaders ∧ hasFlag f flagEndHeaders = false <;> simp [ho]

end Req.Props.C05
