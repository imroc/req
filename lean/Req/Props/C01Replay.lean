import Req.Client.AttemptOrder
/-!
C01 — request fidelity across transparent transport-level replays: the server that finally
ACCEPTS the request receives exactly the described body, whatever sequence of refusals, dropped
connections and time-outs came before and however much of the body each failed attempt had
already read — or the call fails. Stated about `Req.Replay` with the repairs (`Fixes.all`); the
behaviour of the code as found is shown to break it (`*_as_found_breaks`).

The HTTP/1.1 connection loop is analysed once, together with its attempts on the wire
(`conn_attempts`, over `Req.Attempts.connTrace`): `h1_replay_fidelity` is the instance that ignores
the attempts, Props/C01Attempts.lean uses the others.
-/
namespace Req.Props.C01Replay
open Req.Proto Req.Replay

theorem seenAt_zero (r : Req) : seenAt r 0 = described r := by
  unfold seenAt described
  cases r.kind <;> simp

theorem seenAt_none (r : Req) (h : r.kind = .none) (pos : Nat) : seenAt r pos = described r := by
  unfold seenAt described
  simp [h]

/-- the reader of a request that has a body stands at its start -/
def AtStart (r : Req) (pos : Nat) : Prop := r.kind = .none ∨ pos = 0

theorem seen_atStart (r : Req) (pos : Nat) (h : AtStart r pos) : seenAt r pos = described r := by
  rcases h with h | h
  · exact seenAt_none r h pos
  · rw [h]; exact seenAt_zero r

theorem atStart_noBody (r : Req) (pos : Nat) (h : r.noBody = true) : AtStart r pos :=
  Or.inl (by unfold Req.noBody at h; simpa using h)

/-- an honest `GetBody` hands out a reader that stands at the start. -/
theorem atStart_getBody (r : Req) (pos : Nat) (hg : hasGetBody Fixes.all r = true) :
    AtStart r (posAfterGetBody r pos) := by
  unfold hasGetBody at hg
  cases hk : r.kind with
  | none => exact Or.inl hk
  | rewindable => right; simp [posAfterGetBody, hk]
  | oneShot => simp [hk, Fixes.all] at hg

/-- `rewindBody`: an attempt that goes on starts at the first byte of the body. -/
theorem rewind_atStart (r : Req) (touched : Bool) (pos c p : Nat) (hs : AtStart r pos)
    (hwf : touched = false → c = 0) (hr : h1Rewind Fixes.all r touched (pos + c) = some p) :
    AtStart r p := by
  unfold h1Rewind at hr
  by_cases hc : (r.noBody || !touched) = true
  · rw [if_pos hc, Option.some.injEq] at hr
    simp only [Bool.or_eq_true, Bool.not_eq_true'] at hc
    rcases hc with hc | hc
    · exact atStart_noBody r p hc
    · rw [hwf hc] at hr
      exact hr ▸ hs
  · rw [if_neg hc] at hr
    by_cases hg : hasGetBody Fixes.all r = true
    · rw [if_pos hg, Option.some.injEq] at hr
      exact hr ▸ atStart_getBody r _ hg
    · rw [if_neg hg] at hr
      cases hr

/-- `shouldRetryRequest`: the same `Body` object is only kept when it was not read from. -/
theorem h2_retry_atStart (r : Req) (a : H2Attempt) (pos : Nat) (hs : AtStart r pos) :
    (h2ShouldRetry Fixes.all r a = .same → AtStart r (pos + a.consumed)) ∧
    (h2ShouldRetry Fixes.all r a = .rewound → AtStart r (posAfterGetBody r (pos + a.consumed))) := by
  unfold h2ShouldRetry
  by_cases hc : (!h2CanRetry a) = true
  · rw [if_pos hc]; exact ⟨nofun, nofun⟩
  rw [if_neg hc]
  by_cases hn : r.noBody = true
  · rw [if_pos hn]; exact ⟨fun _ => atStart_noBody r _ hn, nofun⟩
  rw [if_neg hn]
  by_cases hg : hasGetBody Fixes.all r = true
  · rw [if_pos hg]; exact ⟨nofun, fun _ => atStart_getBody r _ hg⟩
  rw [if_neg hg]
  by_cases hu : a = .unusable
  · rw [if_pos hu, hu]; exact ⟨fun _ => hs, nofun⟩
  · rw [if_neg hu]; exact ⟨nofun, nofun⟩

theorem h2Run_inv (r : Req) :
    ∀ (as : List H2Attempt) (retry pos : Nat) (b : Bytes), AtStart r pos →
      h2Run Fixes.all r as retry pos = .accepted b → b = described r := by
  intro as
  induction as with
  | nil => intro retry pos b _ h; simp [h2Run] at h
  | cons a rest ih =>
    intro retry pos b hs h
    obtain ⟨hsame, hrew⟩ := h2_retry_atStart r a pos hs
    cases a with
    | accepted =>
      simp only [h2Run, Result.accepted.injEq] at h
      rw [← h]; exact seen_atStart r pos hs
    | _ =>
      simp only [h2Run] at h
      split at h
      · cases h
      · split at h
        · cases h
        next hd => exact ih _ _ b (hsame hd) h
        next hd => exact ih _ _ b (hrew hd) h

/-- HTTP/2. For EVERY request, every sequence of failed attempts
(unusable connection, REFUSED_STREAM, graceful GOAWAY, PROTOCOL_ERROR from the peer, anything else)
and every number of body bytes each of them had read, a server that accepts the request receives
exactly the described body. (Otherwise the call fails or is still running.) -/
theorem h2_replay_fidelity (r : Req) (attempts : List H2Attempt) (b : Bytes)
    (h : h2Run Fixes.all r attempts 0 0 = .accepted b) : b = described r :=
  h2Run_inv r attempts 0 0 b (Or.inr rfl) h

/-- up to seven refusals of a request whose body can be rewound (or that has none) are survived:
the eighth attempt is made and, when accepted, delivers the whole body — the replay really
happens. -/
theorem h2_replay_succeeds (r : Req) (hk : r.kind ≠ .oneShot) (faults : List H2Attempt)
    (hf : ∀ a ∈ faults, h2CanRetry a = true) :
    ∀ (retry pos : Nat), AtStart r pos → retry + faults.length ≤ 7 →
      h2Run Fixes.all r (faults ++ [.accepted]) retry pos = .accepted (described r) := by
  induction faults with
  | nil =>
    intro retry pos hs _
    simp only [List.nil_append, h2Run]
    rw [seen_atStart r pos hs]
  | cons a rest ih =>
    intro retry pos hs hlen
    have hca : h2CanRetry a = true := hf a (by simp)
    have hrest : ∀ x ∈ rest, h2CanRetry x = true := fun x hx => hf x (by simp [hx])
    simp only [List.length_cons] at hlen
    -- `RoundTripOpt` goes on while `retry <= 6`
    have hnr : ¬ retry > 6 := by omega
    have step : ∀ pos', AtStart r pos' → h2Run Fixes.all r (rest ++ [.accepted]) (retry + 1) pos' = .accepted (described r) :=
      fun pos' hs' => ih hrest (retry + 1) pos' hs' (by omega)
    have hdec : h2ShouldRetry Fixes.all r a = .same ∧ r.kind = .none ∨
        h2ShouldRetry Fixes.all r a = .rewound ∧ r.kind = .rewindable := by
      unfold h2ShouldRetry
      simp only [hca, Bool.not_true, Bool.false_eq_true, if_false]
      cases hk' : r.kind with
      | none => left; simp [Req.noBody, hk']
      | rewindable => right; simp [Req.noBody, hk', hasGetBody]
      | oneShot => exact absurd hk' hk
    cases a with
    | accepted => simp [h2CanRetry] at hca
    | other c => simp [h2CanRetry] at hca
    | unusable | refused c | goAway c | protoFromPeer c =>
      simp only [List.cons_append, h2Run, hnr, if_false]
      rcases hdec with ⟨hd, hkn⟩ | ⟨hd, hkr⟩
      · rw [hd]; exact step _ (Or.inl hkn)
      · rw [hd]; exact step _ (Or.inr (by simp [posAfterGetBody, hkr]))

/-- non-vacuity: refused after 2 bytes, GOAWAY after 3, then accepted: the whole body arrives. -/
example : h2Run Fixes.all { kind := .rewindable, data := [1, 2, 3, 4], idempotent := false }
    [.refused 2, .goAway 3, .accepted] 0 0 = .accepted [1, 2, 3, 4] := by decide +kernel

/-- the code as found breaks it (known finding C01-2): a caller's `io.Reader` carries a
`GetBody` that returns the same reader; refused after 2 bytes, the retried request delivers the
last two bytes only. With the repair the call fails instead. -/
theorem h2_as_found_breaks :
    h2Run Fixes.asFound { kind := .oneShot, data := [1, 2, 3, 4], idempotent := false }
      [.refused 2, .accepted] 0 0 = .accepted [3, 4] ∧
    h2Run Fixes.all { kind := .oneShot, data := [1, 2, 3, 4], idempotent := false }
      [.refused 2, .accepted] 0 0 = .failed := by decide

section ConnLoop
open Req.Attempts
variable (fx : Fixes) (r : Req) (Pos : Nat → Prop) (P : Result → List OnWire → Prop)
  (hans : ∀ st pos, Pos pos → P (.accepted (seenAt r pos)) [⟨st, pos, true⟩])
  (hnone : ∀ res, (∀ b, res ≠ .accepted b) → P res [])
  (hcons : ∀ st pos res w, Pos pos → P res w → P res (⟨st, pos, false⟩ :: w))
include hans hnone hcons

/-- the connection loop as a sequence of attempts: a property `P` of (result, attempts on the wire)
holds of every run when it holds of a lone answered attempt (`hans`), of no attempt at all with a
result that is not a response (`hnone`), and survives an unanswered attempt put in front (`hcons`);
`Pos` is what is known of the reader's position when an attempt starts, and has to survive
`rewindBody`. -/
theorem conn_attempts : ∀ (as : List H1Attempt) (pos : Nat), Pos pos →
    (∀ a ∈ as, ∀ pos p, Pos pos → h1Rewind fx r a.touched (pos + a.consumed) = some p → Pos p) →
    P (h1Run fx r as pos) (connTrace fx r as pos) := by
  intro as
  induction as with
  | nil => exact fun _ _ _ => hnone _ nofun
  | cons a rest ih =>
    intro pos hpos hrew
    simp only [h1Run, connTrace]
    cases a.err with
    | none => exact hans _ _ hpos
    | some e =>
      simp only
      refine hcons _ _ _ _ hpos ?_
      split
      · cases hr : h1Rewind fx r a.touched (pos + a.consumed) with
        | none => exact hnone _ nofun
        | some pos' =>
          exact ih pos' (hrew a (by simp) pos pos' hpos hr) fun x hx => hrew x (by simp [hx])
      · exact hnone _ nofun

end ConnLoop

/-- HTTP/1.1. For every request and every sequence of attempts on fresh
or reused connections that end in any error after any number of body bytes were read, the server
that answers receives exactly the described body. -/
theorem h1_replay_fidelity (r : Req) (attempts : List H1Attempt) (b : Bytes)
    (hwf : ∀ a ∈ attempts, a.wf) (h : h1Run Fixes.all r attempts 0 = .accepted b) :
    b = described r :=
  conn_attempts Fixes.all r (AtStart r) (fun res _ => ∀ b, res = .accepted b → b = described r)
    (fun _ pos hpos _ hb => Result.accepted.inj hb ▸ seen_atStart r pos hpos)
    (fun _ hres b hb => absurd hb (hres b)) (fun _ _ _ _ _ h => h) attempts 0 (Or.inr rfl)
    (fun a ha pos p hpos => rewind_atStart r a.touched pos a.consumed p hpos (hwf a ha)) b h

/-- non-vacuity: an idempotent request on a reused connection that the peer closed after 3 bytes
of the body is replayed completely; a non-idempotent one fails. -/
example :
    h1Run Fixes.all { kind := .rewindable, data := [1, 2, 3, 4], idempotent := true }
      [⟨true, some .readFromServer, 3, true⟩, ⟨false, none, 0, false⟩] 0 = .accepted [1, 2, 3, 4] ∧
    h1Run Fixes.all { kind := .rewindable, data := [1, 2, 3, 4], idempotent := false }
      [⟨true, some .readFromServer, 3, true⟩, ⟨false, none, 0, false⟩] 0 = .failed := by decide +kernel

/-- the code as found (known finding C01-2) on HTTP/1.1: the one-shot body's `GetBody` returns the
reader already read from; the kept-alive connection is dropped after 3 bytes, and the replay on a
fresh connection delivers the last byte only. -/
theorem h1_as_found_breaks :
    h1Run Fixes.asFound { kind := .oneShot, data := [1, 2, 3, 4], idempotent := true }
      [⟨true, some .readFromServer, 3, true⟩, ⟨false, none, 0, false⟩] 0 = .accepted [4] := by decide

/-- the retry decision of `RoundTripOpt` only goes on without a body or after an honest `GetBody`. -/
theorem h3_retry_atStart (r : Req) (a : H3Attempt) (e : H3Err) (p p' : Nat)
    (hr : h3Retry Fixes.all r a e p = some p') : AtStart r p' := by
  unfold h3Retry at hr
  by_cases hre : (!a.reused) = true
  · rw [if_pos hre] at hr; cases hr
  rw [if_neg hre] at hr
  cases e with
  | timeout =>
    simp only [show Fixes.all.h3TimeoutRewinds = true from rfl, Bool.not_true, Bool.false_eq_true,
      if_false] at hr
    by_cases hn : r.noBody = true
    · exact atStart_noBody r _ hn
    rw [if_neg hn] at hr
    by_cases hg : hasGetBody Fixes.all r = true
    · rw [if_pos hg] at hr
      exact Option.some.inj hr ▸ atStart_getBody r _ hg
    · rw [if_neg hg] at hr; cases hr
  | connection =>
    simp only at hr
    by_cases hn : h3ReplayableWithoutBody r = true
    · simp only [h3ReplayableWithoutBody, Bool.and_eq_true] at hn
      exact atStart_noBody r _ hn.1
    · rw [if_neg hn] at hr; cases hr
  | other => cases hr

theorem h3Run_inv (r : Req) :
    ∀ (as : List H3Attempt) (pos : Nat) (b : Bytes), AtStart r pos →
      h3Run Fixes.all r as pos = .accepted b → b = described r := by
  intro as
  induction as with
  | nil => intro pos b _ h; simp [h3Run] at h
  | cons a rest ih =>
    intro pos b hs h
    simp only [h3Run] at h
    cases he : a.err with
    | none =>
      simp only [he, Result.accepted.injEq] at h
      rw [← h]; exact seen_atStart r pos hs
    | some e =>
      simp only [he] at h
      cases hr : h3Retry Fixes.all r a e (pos + a.consumed) with
      | none => simp [hr] at h
      | some pos' =>
        simp only [hr] at h
        exact ih pos' b (h3_retry_atStart r a e _ pos' hr) h

/-- HTTP/3 (with `fixes/C01-3`). For every request and every sequence of
attempts — on a cached connection that timed out or died after any number of body bytes were read,
or anything else — the server that answers receives exactly the described body. -/
theorem h3_replay_fidelity (r : Req) (attempts : List H3Attempt) (b : Bytes)
    (h : h3Run Fixes.all r attempts 0 = .accepted b) : b = described r :=
  h3Run_inv r attempts 0 b (Or.inr rfl) h

/-- non-vacuity, and the code as found (known finding C01-3; `⟨true, false⟩`: C01-2 repaired,
C01-3 not): a POST with a rewindable body whose cached connection times out after 3 bytes were
read. -/
theorem h3_as_found_breaks :
    h3Run Fixes.all { kind := .rewindable, data := [1, 2, 3, 4], idempotent := false }
      [⟨true, some .timeout, 3⟩, ⟨false, none, 0⟩] 0 = .accepted [1, 2, 3, 4] ∧
    h3Run ⟨true, false⟩ { kind := .rewindable, data := [1, 2, 3, 4], idempotent := false }
      [⟨true, some .timeout, 3⟩, ⟨false, none, 0⟩] 0 = .accepted [4] := by decide

end Req.Props.C01Replay
