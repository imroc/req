import Req.Client.RetryDyn
import Req.Lemmas.C10Dyn
import Req.Props.C10
/-!
C10 — the retry loop with the retry option as mutable state.

A retry hook (condition, response middleware, interval function) can lower or raise the retry
count, install another interval function or cancel the context through `resp.Request` while the
call is in flight, and a `Request` can be sent again (`RetryAttempt` is not reset).  The
theorems below are about `Req.RetryDyn.dloop`, for EVERY behaviour table of edits, every start
value of `RetryAttempt`, every retry count (negative ones included), every outcome script.
-/
namespace Req.Props.C10Dyn
open Req.Retry Req.RetryDyn Req.Lemmas.C10Loop Req.Lemmas.C10Dyn

variable {σ W : Type}

/-- What the loop with a fixed policy sees of a pass: its events, and what it returns or carries on. -/
def staticView (P : Pass σ W) : List (Event W) × (Final ⊕ (σ × Option Resp)) :=
  (P.events, match P.out with | .inl f => .inl f | .inr x => .inr (P.st, x))

/-- With no edits and no in-loop refusal, one pass of the loop with mutable state is the pass of `Req.Retry.loop`. -/
theorem iteration_eq_staticView (v : Variant) (p : Policy σ) (mw : Nat → σ → σ × W)
    (o : Outcome) (ra : Nat) (st : σ) (prev : Option Resp) :
    iteration v p mw o ra st prev = staticView (diteration v p Edits.nop mw (fun _ => false) o ra st (dynOf p) prev) := by
  unfold iteration diteration
  by_cases ho : o = .beforeErr
  · rw [if_pos ho, if_pos ho]; rfl
  · simp only [ho, ↓reduceIte, editsOf_nop, withDyn_dynOf]
    generalize roundTrip v ra o = rt
    generalize runAfter (W := W) v _ ra p.after 0 rt.2 = a
    by_cases hab : a.2.2 = true
    · rw [if_pos hab, if_pos hab]; rfl
    · rw [if_neg hab, if_neg hab]
      by_cases hcr : cannotRetry p o ra = true
      · rw [if_pos hcr, if_pos hcr]; rfl
      · rw [if_neg hcr, if_neg hcr]
        simp only [Bool.false_eq_true, ↓reduceIte, retryStage, askConds, editsOf_nop]
        generalize (if p.conds.isEmpty then (([] : List (Event W)), a.2.1.isSome)
          else evalConds ⟨ra, viewOf rt.1, a.2.1.map (·.2)⟩ p.conds.reverse) = c
        cases hc : c.2 with
        | false => simp only [Bool.not_false, ↓reduceIte]; rfl
        | true =>
          simp only [Bool.not_true, Bool.false_eq_true, Bool.true_eq_false, ↓reduceIte, waitStage, hookEvs,
            hookState, applyEv_nop]
          cases rt.1 with
          | none => rfl
          | some r => cases hd : o.ctxDone <;> simp [dynOf, staticView]

/-- When no callback touches the retry option or the context, the loop
with mutable state produces exactly the events and the result of `Req.Retry.loop` — for every
variant, policy, script and start value of `RetryAttempt`.  Every theorem of `Req.Props.C10`
about `loop` is therefore a theorem about `dloop … Edits.nop`. -/
theorem dyn_refines_static (v : Variant) (p : Policy σ) (mw : Nat → σ → σ × W)
    (script : List Outcome) (ra : Nat) (st : σ) (prev : Option Resp) :
    (dloop v p Edits.nop mw (fun _ => false) script ra st (dynOf p) prev).1 = (loop v p mw script ra st prev).1 ∧
    (dloop v p Edits.nop mw (fun _ => false) script ra st (dynOf p) prev).2.1 = (loop v p mw script ra st prev).2 := by
  induction script generalizing ra st prev with
  | nil => exact ⟨rfl, rfl⟩
  | cons o rest ih =>
    have hE := diteration_exit v p Edits.nop mw (fun _ => false) o ra st (dynOf p) prev
    unfold dloop loop
    rw [iteration_eq_staticView, staticView]
    generalize diteration v p Edits.nop mw (fun _ => false) o ra st (dynOf p) prev = P at hE
    have hd : P.dyn = dynOf p := by rw [hE.shape.1, editsOf_nop]
    have hra := fun x (h : P.out = .inr x) => (hE.cont h).raSucc
    cases hout : P.out with
    | inl f => simp only [hout, and_self]
    | inr x =>
      simp only [hout, hd, hra x hout]
      exact ⟨by rw [(ih _ _ _).1], (ih _ _ _).2⟩

/-- `Request.Do`, first send: the dynamic model is `Req.Retry.run` — for the code without the
in-loop refusal of C10-8, and for the repaired code whenever that refusal has nothing to refuse
(with a fixed policy `Do`'s up-front refusal has dealt with every unreplayable body already). -/
theorem dsend_refines_run (v : Variant) (p : Policy σ) (mw : Nat → σ → σ × W) (unrep : σ → Bool)
    (script : List Outcome) (st : σ) (h : v.loopRefuse = false ∨ ∀ s, unrep s = false) :
    (dsend v p Edits.nop mw unrep script 0 st (dynOf p)).1 = (run v p mw (unrep st) script st).events ∧
    (dsend v p Edits.nop mw unrep script 0 st (dynOf p)).2.1 = (run v p mw (unrep st) script st).final := by
  have hsu : (fun s => v.loopRefuse && unrep s) = fun _ => false := by
    funext s
    rcases h with h | h
    · simp [h]
    · simp [h s]
  unfold dsend run
  rw [hsu]
  by_cases hc : (p.enabled && p.maxRetries != 0 && unrep st) = true
  · simp [dynOf, hc]
  · simp only [dynOf] at hc ⊢
    simp only [hc, Bool.false_eq_true, ↓reduceIte]
    exact dyn_refines_static v p mw script 0 st none

/-- (Repaired code.)  Pass `(o, ra)` is followed by another pass exactly when three things hold:
the specification `wants` it under the policy in force at the pass's check (the retry option as
the request-level response middleware of THIS pass left it); no callback of the pass (response
middleware, condition, hook, interval function) cancelled the context; and the request as this
pass's middleware left it can be sent again (`su`). -/
theorem dyn_retry_iff (p : Policy σ) (ed : Edits) (mw : Nat → σ → σ × W)
    (su : σ → Bool) (o : Outcome) (ra : Nat) (st : σ) (d : Dyn) (prev : Option Resp) :
    (∃ x, (diteration R p ed mw su o ra st d prev).out = .inr x) ↔
      wants (withDyn p (dynAtCheck W R p ed o ra d)) o ra = true ∧
      (diteration R p ed mw su o ra st d prev).dyn.ctxDone = false ∧
      (o ≠ .beforeErr → su (mw ra st).1 = false) := by
  have h := diteration_exit R p ed mw su o ra st d prev
  generalize diteration R p ed mw su o ra st d prev = P at h ⊢
  rw [wants_eq, need_withDyn, aborted_withDyn, dynAtCheck_eq]
  -- every way through the pass but `WaitOut.goes` returns, and the test that sent it there refutes the right side
  cases h with
  | before ho => subst ho; simp
  | early ho ha h =>
    subst ha
    rcases h with h | h | h
    · simp [← (afterRun_repaired (W := W) p ra ho).1, h]
    · simp [h]
    · simp [h, ho]
  | condsNo ho ha hab _ _ hc hno =>
    subst ha hc
    rw [(afterRun_repaired (W := W) p ra ho).1] at hab
    simp [← ((afterRun_repaired (W := W) p ra ho).2 hab).2, hno]
  | wait ho ha hab hcr hsu hc hyes _ _ _ _ hout =>
    subst ha hc
    rw [(afterRun_repaired (W := W) p ra ho).1] at hab
    rw [((afterRun_repaired (W := W) p ra ho).2 hab).2] at hyes
    have hne : (o != Outcome.beforeErr) = true := by simpa using ho
    simp only [hne, hab, hcr, hyes, hsu, Bool.not_false, Bool.and_self, Bool.true_and, implies_true, and_true]
    cases hout with
    | panic hr => rw [roundTrip_repaired R rfl ra o ho] at hr; cases hr
    | ctxDone hr h => cases hd : o.ctxDone <;> simp_all
    | goes hr h1 h2 => simp [h1, h2]

/-- When the "absolutely cannot retry" test of a pass finds a
non-negative count that the attempt counter has reached OR PASSED — the count was lowered in
flight, or the `Request` is sent again with a smaller budget — the pass is the last one. -/
theorem dyn_past_count_stops (v : Variant) (p : Policy σ) (ed : Edits) (mw : Nat → σ → σ × W)
    (su : σ → Bool) (o : Outcome) (ra : Nat) (st : σ) (d : Dyn) (prev : Option Resp)
    (h0 : 0 ≤ (dynAtCheck W v p ed o ra d).maxRetries)
    (h1 : (dynAtCheck W v p ed o ra d).maxRetries ≤ ra) :
    ∃ f, (diteration v p ed mw su o ra st d prev).out = .inl f :=
  returns_of_not_continues prev fun hgo => by have := hgo.retriesLeft; omega

/-- … and so is every pass made without a retry option in force at its check. -/
theorem dyn_disabled_stops (v : Variant) (p : Policy σ) (ed : Edits) (mw : Nat → σ → σ × W)
    (su : σ → Bool) (o : Outcome) (ra : Nat) (st : σ) (d : Dyn) (prev : Option Resp)
    (h : (dynAtCheck W v p ed o ra d).enabled = false) :
    ∃ f, (diteration v p ed mw su o ra st d prev).out = .inl f :=
  returns_of_not_continues prev fun hgo => absurd (hgo.enabled.symm.trans h) nofun

/-- (fixes/C10-8)  A pass whose request carries a body that cannot be
replayed (`su`) is the last one — whatever the retry option says by then, however it came about
(set before the call, or by a middleware / hook while the call is in flight). -/
theorem unreplayable_never_retried (v : Variant) (p : Policy σ) (ed : Edits) (mw : Nat → σ → σ × W)
    (su : σ → Bool) (o : Outcome) (ra : Nat) (st : σ) (d : Dyn) (prev : Option Resp)
    (h : su (mw ra st).1 = true) :
    ∃ f, (diteration v p ed mw su o ra st d prev).out = .inl f :=
  returns_of_not_continues prev fun hgo => absurd (h.symm.trans hgo.replayable) nofun

/-- For every outcome script, every table of in-flight
edits, every count (negative included) and EVERY way the loop ends after an attempt that reached
the wire — retries used up, no retry option, the conditions say stop, a request-level response
middleware aborts, the body cannot be replayed, the context is cancelled / its deadline passes
during the attempt, during a condition, a hook, the interval function or DURING THE WAIT — the
response `do` returns is the LAST attempt's (`attempt = RetryAttempt` of the last pass) and holds
everything that attempt buffered: body, unmarshalled result / error result, dump, trace.  Nothing
of it is wiped: the per-attempt clean-up only ever runs when another attempt follows. -/
theorem returned_is_last_attempt_complete (v : Variant) (hw : v.wipeAfterWait = true)
    (hg : v.nilRespGuard = true) (p : Policy σ) (ed : Edits) (mw : Nat → σ → σ × W) (su : σ → Bool)
    (script : List Outcome) (ra : Nat) (st : σ) (d : Dyn) (prev : Option Resp)
    (ev : List (Event W)) (resp : Option Resp) (err : Option Err) (e : End σ)
    (h : dloop v p ed mw su script ra st d prev = (ev, .done resp err, e)) :
    ∃ k o, script[k]? = some o ∧ iterations ev = k + 1 ∧
      (o ≠ .beforeErr → e.held = true ∧ ∃ r, resp = some r ∧ r.attempt = ra + k) := by
  induction script, ra, st, d, prev using dloop_induct v p ed mw su generalizing ev with
  | nil => cases h
  | stop o _ _ _ _ _ P f hP hout hl =>
    cases hl.symm.trans h
    exact ⟨0, o, rfl, hP.shape.2, fun ho => hP.held hw hg ho hout⟩
  | cont o rest ra _ _ _ P x hP hout hl ih =>
    obtain ⟨rfl, hfin⟩ := Prod.mk.inj (hl.symm.trans h)
    obtain ⟨k, o', hk, hit, hheld⟩ := ih _ (Prod.ext rfl hfin)
    rw [(hP.cont hout).raSucc] at hheld
    refine ⟨k + 1, o', by simpa using hk, by rw [iterations_append, hP.shape.2, hit]; omega, fun ho => ?_⟩
    obtain ⟨a, r, b, c⟩ := hheld ho
    exact ⟨a, r, b, by omega⟩

/-- If during pass `(o, ra)` the request's context
becomes done — the round trip fails with `context.Canceled`, the context's deadline passes or
the caller cancels while the attempt is in flight, or ANY callback of the pass (request-level
response middleware, retry condition, retry hook, the interval function) cancels it — then no
further attempt is made: the whole loop makes exactly this one pass.  For every retry count
(negative = "unbounded" included), every policy, every table of edits, every variant. -/
theorem dyn_no_attempt_after_context_done (v : Variant) (p : Policy σ) (ed : Edits)
    (mw : Nat → σ → σ × W) (o : Outcome) (rest : List Outcome) (ra : Nat) (st : σ) (d : Dyn)
    (prev : Option Resp)
    (h : o = .cancelled ∨ o.ctxDone = true ∨
      ∃ e ∈ (diteration v p ed mw su o ra st d prev).events, (editOf ed e).cancel = true) :
    iterations (dloop v p ed mw su (o :: rest) ra st d prev).1 = 1 ∧
    (dloop v p ed mw su (o :: rest) ra st d prev).2.2.rest = rest := by
  have hP := diteration_exit v p ed mw su o ra st d prev
  have hs := hP.shape
  cases hout : (diteration v p ed mw su o ra st d prev).out with
  | inl f => simp only [dloop, hout]; exact ⟨hs.2, trivial⟩
  | inr x =>
    exfalso
    have hgo := hP.cont hout
    rcases h with h | h | ⟨e, he, hc⟩
    · exact hgo.notCancelled h
    · exact absurd (h ▸ hgo.ctxAlive) nofun
    · exact absurd ((hs.1 ▸ hgo.dynAlive) ▸ editsOf_cancel ed d _ e he hc) nofun

/-- The count in force lies in `[0, M]` (when there is a retry option at all). -/
def Bounded (M : Int) (d : Dyn) : Prop := d.enabled = true → 0 ≤ d.maxRetries ∧ d.maxRetries ≤ M

/-- Every count a callback ever sets lies in `[0, M]`. -/
def EditsBounded (M : Int) (ed : Edits) : Prop :=
  ∀ {W : Type} (e : Event W) (n : Int), (editOf ed e).count = some n → 0 ≤ n ∧ n ≤ M

theorem bounded_apply (M : Int) (hM : 0 ≤ M) (e : Edit) (d : Dyn)
    (he : ∀ n, e.count = some n → 0 ≤ n ∧ n ≤ M) (hd : Bounded M d) : Bounded M (e.apply d) := by
  unfold Bounded Edit.apply at *
  cases hc : e.count with
  | some n =>
    have := he n hc
    cases hi : e.interval <;> by_cases hen : d.enabled = true <;> simp_all [Dyn.get]
  | none =>
    cases hi : e.interval <;> by_cases hen : d.enabled = true <;> simp_all [Dyn.get]

theorem bounded_editsOf (M : Int) (hM : 0 ≤ M) (ed : Edits) (hed : EditsBounded M ed) (d : Dyn)
    (ev : List (Event W)) (hd : Bounded M d) : Bounded M (editsOf ed d ev) := by
  induction ev generalizing d with
  | nil => exact hd
  | cons e t ih => exact ih _ (bounded_apply M hM _ d (fun n hn => hed e n hn) hd)

/-- If the retry count in force when the loop is entered and every count
any callback sets in flight lie in `[0, M]`, then a call that starts with `RetryAttempt = ra`
(0 for a fresh request, the leftover of the previous call for a `Request` sent again) makes at
most `M − ra + 1` attempts (one, if the counter is already past `M`).  For every variant,
policy, table of edits, outcome script. -/
theorem dyn_attempts_bound (M : Int) (hM : 0 ≤ M) (v : Variant) (p : Policy σ) (ed : Edits)
    (hed : EditsBounded M ed) (mw : Nat → σ → σ × W) (su : σ → Bool) (script : List Outcome) (ra : Nat)
    (st : σ) (d : Dyn) (prev : Option Resp) (hd : Bounded M d) :
    iterations (dloop v p ed mw su script ra st d prev).1 ≤ (M - ra).toNat + 1 := by
  induction script, ra, st, d, prev using dloop_induct v p ed mw su with
  | nil => exact Nat.zero_le _
  | stop _ _ _ _ _ _ _ _ h _ hl => rw [hl, h.shape.2]; omega
  | cont o _ ra _ d _ P _ h hout hl ih =>
    have hgo := h.cont hout
    have hb : Bounded M (dynAtCheck W v p ed o ra d) := bounded_editsOf M hM ed hed d _ hd
    obtain ⟨h0, h1⟩ := hb hgo.enabled
    have hleft := hgo.retriesLeft
    have hra := hgo.raSucc
    have := ih (h.shape.1 ▸ bounded_editsOf M hM ed hed d _ hd)
    rw [hl, iterations_append, h.shape.2]
    rw [hra] at this ⊢
    omega

/-- The same for `Request.Do` on a request as a previous call left it (a refusal makes no attempt). -/
theorem resend_attempts_bound (M : Int) (hM : 0 ≤ M) (v : Variant) (p : Policy σ) (ed : Edits)
    (hed : EditsBounded M ed) (mw : Nat → σ → σ × W) (unrep : σ → Bool) (script : List Outcome)
    (ra : Nat) (st : σ) (d : Dyn) (hd : Bounded M d) :
    iterations (dsend v p ed mw unrep script ra st d).1 ≤ (M - ra).toNat + 1 := by
  unfold dsend
  split
  · simp [iterations]
  · exact dyn_attempts_bound M hM v p ed hed mw _ script ra st d none hd

section examples
open Req.Props.C10

/-- retry everything; hooks 0 and 1 -/
def exP (n : Int) : Policy Unit := ⟨true, n, [(0, fun _ => true)], [(0, fun _ s => s), (1, fun _ s => s)], [], .fixed 1⟩

/-- hook 1 lowers the count to 1 when it sees attempt 2 (the usual way to stop retries from a hook) -/
def exLower : Edits :=
  { Edits.nop with hook := fun id o => if id = 1 ∧ o.attempt = 2 then ⟨some 1, none, false⟩ else .nop }

/-- count 5, lowered to 1 during the second retry: the third attempt (already decided) is made,
then the counter (2) is PAST the count (1) and the loop stops: 3 attempts, not 6 — and not
"without bound", which is what `RetryAttempt == MaxRetries` would give. -/
example : iterations (dloop R (exP 5) exLower exMw (fun _ => false) (List.replicate 9 (.status 503)) 0 () (dynOf (exP 5)) none).1 = 3 := by
  decide
/-- without the edit: 6 attempts -/
example : iterations (dloop R (exP 5) Edits.nop exMw (fun _ => false) (List.replicate 9 (.status 503)) 0 () (dynOf (exP 5)) none).1 = 6 := by
  decide
/-- a `Request` that used 2 retries, sent again with a count of 1: one attempt -/
example : iterations (dsend R (exP 1) Edits.nop exMw (fun _ => false) (List.replicate 9 (.status 503)) 2 () (dynOf (exP 1))).1 = 1 := by
  decide
/-- … two sends in a row through `dsends`: 3 attempts, then `SetRetryCount(1)` and 1 attempt -/
example : (dsends R (exP 2) Edits.nop exMw (fun _ => false) [[⟨some 1, none, false⟩]]
    (List.replicate 9 (.status 503)) 0 () (dynOf (exP 2))).map (fun r => iterations r.1) = [3, 1] := by
  decide
/-- a hook raises the count from 1 to 3 in flight: 4 attempts (`dyn_attempts_bound` with `M = 3`) -/
example : iterations (dloop R (exP 1)
    { Edits.nop with hook := fun id _ => if id = 0 then ⟨some 3, none, false⟩ else .nop }
    exMw (fun _ => false) (List.replicate 9 (.status 503)) 0 () (dynOf (exP 1)) none).1 = 4 := by
  decide
/-- a response middleware enables retries on a request that has no retry option: the default
rule and the default interval apply from that pass on -/
example : iterations (dloop R (⟨false, 0, [], [], [fun _ => false], .dflt⟩ : Policy Unit)
    { Edits.nop with after := fun _ _ => ⟨some 2, none, false⟩ }
    exMw (fun _ => false) [.transportErr, .transportErr, .transportErr, .transportErr] 0 () ⟨false, 0, .dflt, false⟩ none).1 = 3 := by
  decide
/-- unbounded count, the hook cancels the context during the third retry: 3 attempts, the
context's error is returned (`dyn_no_attempt_after_context_done`) -/
example : iterations (dloop R (exP (-1))
    { Edits.nop with hook := fun id o => if id = 0 ∧ o.attempt = 3 then ⟨none, none, true⟩ else .nop }
    exMw (fun _ => false) (List.replicate 9 (.status 503)) 0 () (dynOf (exP (-1))) none).1 = 3 ∧
    ((dloop R (exP (-1))
    { Edits.nop with hook := fun id o => if id = 0 ∧ o.attempt = 3 then ⟨none, none, true⟩ else .nop }
    exMw (fun _ => false) (List.replicate 9 (.status 503)) 0 () (dynOf (exP (-1))) none).2.1).returned =
      some (some (2, .status 503), some (2, .waitCtx)) := by
  decide
/-- … the interval function cancels it during the first retry -/
example : iterations (dloop R (exP (-1)) { Edits.nop with ivl := fun a _ => ⟨none, none, a == 1⟩ }
    exMw (fun _ => false) (List.replicate 9 (.status 503)) 0 () (dynOf (exP (-1))) none).1 = 1 := by
  decide
/-- a hook installs another interval function: the interval call of the same retry already uses it -/
example : calls (dloop R (exP 1)
    { Edits.nop with hook := fun id _ => if id = 1 then ⟨none, some (.fixed 7), false⟩ else .nop }
    exMw (fun _ => false) [.status 503, .status 200] 0 () (dynOf (exP 1)) none).1 = [.hook 1 1, .hook 0 1, .interval 1] ∧
    (dloop R (exP 1)
    { Edits.nop with hook := fun id _ => if id = 1 then ⟨none, some (.fixed 7), false⟩ else .nop }
    exMw (fun _ => false) [.status 503, .status 200] 0 () (dynOf (exP 1)) none).2.2.dyn.interval = .fixed 7 := by
  decide

/-- C10-8: a request without retry option whose body is a reader; the response middleware
switches retries on in flight.  As found: three attempts (the 2nd and 3rd with the drained
reader); repaired: one. -/
example : iterations (dsend { R with loopRefuse := false } (⟨false, 0, [], [], [fun _ => false], .dflt⟩ : Policy Unit)
    { Edits.nop with after := fun _ _ => ⟨some 2, none, false⟩ } exMw (fun _ => true)
    [.transportErr, .transportErr, .transportErr, .transportErr] 0 () ⟨false, 0, .dflt, false⟩).1 = 3 ∧
  iterations (dsend R (⟨false, 0, [], [], [fun _ => false], .dflt⟩ : Policy Unit)
    { Edits.nop with after := fun _ _ => ⟨some 2, none, false⟩ } exMw (fun _ => true)
    [.transportErr, .transportErr, .transportErr, .transportErr] 0 () ⟨false, 0, .dflt, false⟩).1 = 1 := by
  decide

/-- The trial change `seeded/C10-r4-1` — the clean-up BEFORE the wait: a 503 is to be retried, the caller cancels while
the loop waits; the 503 comes back with body, error result, dump and trace wiped.  With the
code's ordering it comes back complete (`returned_is_last_attempt_complete`). -/
theorem wipe_before_wait_returns_emptied_response :
    (dloop { R with wipeAfterWait := false } (exP 3) Edits.nop exMw (fun _ => false)
      [.status 503, .lateCancel 503, .status 200] 0 () (dynOf (exP 3)) none).2.2.held = false ∧
    (dloop R (exP 3) Edits.nop exMw (fun _ => false)
      [.status 503, .lateCancel 503, .status 200] 0 () (dynOf (exP 3)) none).2.2.held = true ∧
    (dloop R (exP 3) Edits.nop exMw (fun _ => false)
      [.status 503, .lateCancel 503, .status 200] 0 () (dynOf (exP 3)) none).2.1.returned =
        some (some (1, .status 503), some (1, .waitCtx)) := by decide
/-- … the same when the interval function (or a hook) cancels, and when retries are simply used up -/
example : (dloop { R with wipeAfterWait := false } (exP (-1)) { Edits.nop with ivl := fun a _ => ⟨none, none, a == 2⟩ }
    exMw (fun _ => false) (List.replicate 9 (.status 503)) 0 () (dynOf (exP (-1))) none).2.2.held = false ∧
    (dloop { R with wipeAfterWait := false } (exP 2) Edits.nop
    exMw (fun _ => false) (List.replicate 9 (.status 503)) 0 () (dynOf (exP 2)) none).2.2.held = true := by decide
/-- the one return that hands back a wiped response in the code as it is: a request middleware
fails on a retry — `resp` is still the previous attempt's, after its clean-up (faithful corner) -/
example : (dloop R (exP 3) Edits.nop exMw (fun _ => false)
    [.status 503, .beforeErr] 0 () (dynOf (exP 3)) none).2.2.held = false := by decide

end examples

end Req.Props.C10Dyn
