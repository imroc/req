import Req.Lemmas.C03H3Original
/-!
C03 — HTTP/3: a truncated, over-long or spliced body is never reported as success; a dead
connection is not reused.

Model: the response stream is its bytes in an arbitrary segmentation followed by FIN or by a reset
(a stream reset with any code and a connection close both make every further stream read fail);
the response head is read by the model of C02 (`H3Stream.readFinalResponse`), the body by
`Req.C03.bodyReadR` = `body.Read` over `stream.Read` over `frameParser.ParseNext` with the
truncated-frame rule of fixes/C03-3.  Every theorem holds for EVERY byte string on the stream
(no well-formedness assumed unless stated), every segmentation and every sequence of read sizes.
-/
namespace Req.Props.C03H3
open Req.Proto Req.C02 Req.C03

/-- The stream never saw FIN — it was reset with any code, or the
connection was closed or lost: whatever bytes arrived before, in whatever pieces, with whatever
read sizes, no body read reports a clean `io.EOF`. -/
theorem h3_cut_never_success (b : H3Body) (ks : List Nat) (hf : b.str.net.fin = .reset) :
    ∀ r ∈ (bodyRunR b ks).1, r.2 ≠ some .eof := by
  induction ks generalizing b with
  | nil => simp [bodyRunR_nil]
  | cons k ks ih =>
    rw [bodyRunR_cons]
    have hne := bodyReadR_reset b k hf
    have hfin := bodyReadR_fin b k
    cases he : (bodyReadR b k).1.2 with
    | some e =>
      simp only [List.mem_singleton, forall_eq]
      rw [he] at hne; exact hne
    | none =>
      simp only [List.mem_cons, forall_eq_or_imp]
      exact ⟨by simp, ih _ (hfin.trans hf)⟩

/-- What a success of `h3Outcome` is made of: the head was read, leaving the reader at a frame
boundary on the same stream end, and the draining run ended with a clean `io.EOF` after `body`. -/
theorem h3Outcome_ok {isHead : Bool} {segs : List Bytes} {fin : NetEnd} {fls : List Fields} {maxH k status : Nat}
    {body : Bytes} (h : h3Outcome isHead segs fin fls maxH k = .ok status body) :
    ∃ (hd : H3Head) (s1 : H3Stream),
      H3Stream.readFinalResponse 7 0
        ({ net := { segs := segs, fin := fin }, remInFrame := 0, parsedTrailer := false, trailer := none,
           fieldLists := fls, maxHeaderBytes := maxH } : H3Stream) = (.ok hd, s1) ∧
      hd.status = status ∧ s1.remInFrame = 0 ∧ s1.parsedTrailer = false ∧ s1.net.fin = fin ∧
      lastErr (bodyRunR (H3Body.new isHead hd s1) (List.replicate (s1.net.size + 3) k)).1 = some .eof ∧
      body = outBytes (bodyRunR (H3Body.new isHead hd s1) (List.replicate (s1.net.size + 3) k)).1 := by
  unfold h3Outcome at h
  simp only [] at h
  have hs := readFinalResponse_same 7 0
    ({ net := { segs := segs, fin := fin }, remInFrame := 0, parsedTrailer := false, trailer := none,
       fieldLists := fls, maxHeaderBytes := maxH } : H3Stream)
  generalize H3Stream.readFinalResponse 7 0 _ = p at h hs ⊢
  obtain ⟨r, s1⟩ := p
  cases r with
  | error e => simp at h
  | ok hd =>
    simp only [] at h
    refine ⟨hd, s1, rfl, ?_⟩
    generalize (bodyRunR (H3Body.new isHead hd s1) (List.replicate (s1.net.size + 3) k)).1 = rs at h ⊢
    cases hl : lastErr rs with
    | none => rw [hl] at h; simp at h
    | some e =>
      rw [hl] at h
      cases e <;> simp at h
      exact ⟨h.1, hs.remInFrame, hs.parsedTrailer, hs.fin, rfl, h.2.symm⟩

/-- On a stream that ended by a reset the call never ends in success: it fails, or the body fails. -/
theorem h3_reset_outcome (isHead : Bool) (segs : List Bytes) (fls : List Fields) (maxH k : Nat)
    (status : Nat) (body : Bytes) : h3Outcome isHead segs .reset fls maxH k ≠ .ok status body := by
  intro h
  obtain ⟨hd, s1, _, _, _, _, hfin, hl, _⟩ := h3Outcome_ok h
  obtain ⟨d, hm⟩ := lastErr_mem hl
  exact h3_cut_never_success _ _ (by rw [H3Body.new_str]; exact hfin) _ hm rfl

example : h3Outcome false [[1, 1, 0xd9, 0, 3, 97, 98]] .reset [[([58, 115, 116, 97, 116, 117, 115], [50, 48, 48])]]
    1000 16 = .bodyFailed 200 [97, 98] .reset := by decide

/-- With a declared Content-Length the caller never receives more than that many bytes, and a run
that ends with a clean `io.EOF` has delivered exactly that many: FIN with fewer DATA bytes than
declared is an error (`io.ErrUnexpectedEOF`, by `bodyReadR`), DATA beyond the declared length is
never delivered. -/
theorem h3_length_exact (b : H3Body) (ks : List Nat) (hcl : b.hasCL = true) :
    (outBytes (bodyRunR b ks).1).length ≤ b.remaining ∧
    (lastErr (bodyRunR b ks).1 = some .eof → (outBytes (bodyRunR b ks).1).length = b.remaining) := by
  induction ks generalizing b with
  | nil => simp [bodyRunR_nil, outBytes, lastErr]
  | cons k ks ih =>
    rw [bodyRunR_cons]
    obtain ⟨hle, hrem, heof⟩ := bodyReadR_acct b k hcl
    cases he : (bodyReadR b k).1.2 with
    | some e =>
      simp only [outBytes_cons, outBytes_nil, List.append_nil, lastErr_single]
      refine ⟨hle, ?_⟩
      intro hx; injection hx with hx; subst hx
      have := heof he; omega
    | none =>
      simp only [outBytes_cons, List.length_append]
      obtain ⟨h1, h2⟩ := ih (bodyReadR b k).2 (by rw [bodyReadR_hasCL]; exact hcl)
      rw [hrem] at h1 h2
      refine ⟨by omega, ?_⟩
      intro hx
      by_cases hne : (bodyRunR (bodyReadR b k).2 ks).1 = []
      · rw [hne] at hx; simp [lastErr] at hx
      · rw [lastErr_cons_ne _ _ hne] at hx
        have := h2 hx; omega

/-- Once a DATA frame is open although nothing is owed any more, every
read fails with "too much data" — for ever. -/
theorem h3_overlong_is_error (b : H3Body) (k : Nat) (hv : b.violation = true) :
    bodyReadR b k = (([], some .tooMuchData), b) :=
  bodyReadR_viol b k hv

-- content-length: 2, one DATA frame "abc": two bytes, then the error
example : h3Outcome false [[1, 1, 0xd9, 0, 3, 97, 98, 99]] .eof
    [[([58, 115, 116, 97, 116, 117, 115], [50, 48, 48]),
      ([99, 111, 110, 116, 101, 110, 116, 45, 108, 101, 110, 103, 116, 104], [50])]] 1000 16
    = .bodyFailed 200 [97, 98] .tooMuchData := by decide

-- content-length: 5, FIN after "abc"
example : h3Outcome false [[1, 1, 0xd9, 0, 3, 97, 98, 99]] .eof
    [[([58, 115, 116, 97, 116, 117, 115], [50, 48, 48]),
      ([99, 111, 110, 116, 101, 110, 116, 45, 108, 101, 110, 103, 116, 104], [53])]] 1000 16
    = .bodyFailed 200 [97, 98, 99] .unexpectedEOF := by decide

/-- Whatever a run hands out — before an error or not — is a prefix of the
DATA bytes the stream holds from the reader's position on (`dataFrom`: the payloads of the DATA
frames in order, the received part of a cut one): nothing padded, nothing spliced in. -/
theorem h3_delivers_prefix (b : H3Body) (ks : List Nat) (hi : InvS b.str) :
    outBytes (bodyRunR b ks).1 <+: expS b.str :=
  (runReadsR_prefix (bodyReadR_refines b) ks b _ ⟨hi, rfl, id⟩).imp fun _ h => h.symm

/-- For a body that starts at a frame boundary (right after the response head) `expS` is
`dataFrom` of the bytes behind the head; in front of complete well-formed frames it is the
concatenation of their DATA payloads. -/
theorem h3_delivers_prefix_frames (b : H3Body) (ks : List Nat) (frs : List WFrame)
    (hfrs : ∀ f ∈ frs, BodyFrameOK f) (tail : Bytes)
    (hrem : b.str.remInFrame = 0) (hpt : b.str.parsedTrailer = false)
    (hfl : b.str.net.segs.flatten = framesWire frs ++ tail) :
    outBytes (bodyRunR b ks).1 <+: h3DataOf frs ++ dataFrom tail := by
  have := h3_delivers_prefix b ks (by intro h; rw [hpt] at h; simp at h)
  simpa [expS, hpt, hrem, dataIn_zero, hfl, dataFrom_frames frs hfrs tail] using this

/-- A run that ends with a clean `io.EOF` started at a position
from which the stream is a whole number of frames, and it has delivered every DATA byte of them:
a stream that ends (FIN) inside a frame header, inside the payload of a DATA frame, of a frame
the parser skips or of a trailers frame never ends cleanly. -/
theorem h3_clean_eof_whole_frames (b : H3Body) (ks : List Nat) (hi : InvS b.str)
    (h : lastErr (bodyRunR b ks).1 = some .eof) :
    WholeS b.str ∧ outBytes (bodyRunR b ks).1 = expS b.str := by
  -- the read that reported `io.EOF` stood where the rest of the stream is whole frames
  obtain ⟨b1, _, k, d, _, ⟨hi1, _, hw⟩, hr, _⟩ := runReadsR_last (bodyReadR_refines b) ks b _ ⟨hi, rfl, id⟩ _ h
  exact ⟨hw ((bodyReadR_spec b1 k hi1).2.2.2 (by rw [hr])).1,
    runReadsR_eof (bodyReadR_refines b) ks b _ ⟨hi, rfl, id⟩ _ h rfl⟩

/-- Complete well-formed frames followed by a frame that is cut
anywhere strictly inside (its header or its payload) and then FIN: no run ends with a clean
`io.EOF` — with or without a declared length, for every segmentation and all read sizes. -/
theorem h3_fin_cut_never_success (b : H3Body) (ks : List Nat) (frs : List WFrame)
    (hfrs : ∀ f ∈ frs, f.OK) (g : WFrame) (hg : g.OK) (j : Nat) (hj0 : 0 < j) (hj : j < g.wire.length)
    (hrem : b.str.remInFrame = 0)
    (hfl : b.str.net.segs.flatten = framesWire frs ++ g.wire.take j) :
    lastErr (bodyRunR b ks).1 ≠ some .eof := by
  intro h
  have hi : InvS b.str := fun _ => hrem
  obtain ⟨⟨_, hw⟩, _⟩ := h3_clean_eof_whole_frames b ks hi h
  rw [hrem, List.drop_zero, hfl] at hw
  exact not_whole_cut frs hfrs g hg j hj0 hj _ hw

-- FIN after the type byte of a second DATA frame; inside a skipped frame; after a trailer frame header
example : h3Outcome false [[1, 1, 0xd9, 0, 3, 97, 98, 99, 0]] .eof
    [[([58, 115, 116, 97, 116, 117, 115], [50, 48, 48])]] 1000 16 = .bodyFailed 200 [97, 98, 99] .unexpectedEOF := by
  decide
example : h3Outcome false [[1, 1, 0xd9, 0, 3, 97, 98, 99, 0x21, 4, 1]] .eof
    [[([58, 115, 116, 97, 116, 117, 115], [50, 48, 48])]] 1000 16 = .bodyFailed 200 [97, 98, 99] .unexpectedEOF := by
  decide
example : h3Outcome false [[1, 1, 0xd9, 0, 3, 97, 98, 99, 1, 5]] .eof
    [[([58, 115, 116, 97, 116, 117, 115], [50, 48, 48])], []] 1000 16 = .bodyFailed 200 [97, 98, 99] .unexpectedEOF := by
  decide
-- the whole frames: success
example : h3Outcome false [[1, 1, 0xd9, 0, 3, 97, 98, 99, 0x21, 1, 7]] .eof
    [[([58, 115, 116, 97, 116, 117, 115], [50, 48, 48])]] 1000 16 = .ok 200 [97, 98, 99] := by decide

/-- What the model-judged lane compares against: if the call and a draining
caller end in success then the stream ended by FIN, the body is exactly the DATA bytes behind the
response head (all of them, nothing else), the stream behind the head is a whole number of
frames, and with a declared length on a response that can have a body the body has that length
— whatever informational responses came first.  `readFinalResponse 7 0` is `doRequest`'s loop as
`h3Outcome` runs it: the count of informational responses (five may be skipped) stops it before
the fuel does. -/
theorem h3_ok_complete (isHead : Bool) (segs : List Bytes) (fin : NetEnd) (fls : List Fields) (maxH k : Nat)
    (status : Nat) (body : Bytes) (h : h3Outcome isHead segs fin fls maxH k = .ok status body) :
    fin = .eof ∧
    ∃ (hd : H3Head) (s1 : H3Stream),
      H3Stream.readFinalResponse 7 0
        ({ net := { segs := segs, fin := fin }, remInFrame := 0, parsedTrailer := false, trailer := none,
           fieldLists := fls, maxHeaderBytes := maxH } : H3Stream) = (.ok hd, s1) ∧
      hd.status = status ∧ body = dataFrom s1.net.segs.flatten ∧ Whole false s1.net.segs.flatten ∧
      ((H3Body.new isHead hd s1).hasCL = true → body.length = (H3Body.new isHead hd s1).remaining) := by
  have hfin : fin = .eof := by
    cases fin with
    | eof => rfl
    | reset => exact absurd h (h3_reset_outcome isHead segs fls maxH k status body)
  obtain ⟨hd, s1, hr, hst, hrem, hpt, _, hl, rfl⟩ := h3Outcome_ok h
  refine ⟨hfin, hd, s1, hr, hst, ?_⟩
  have hstr := H3Body.new_str isHead hd s1
  obtain ⟨⟨_, hwh⟩, hout⟩ := h3_clean_eof_whole_frames (H3Body.new isHead hd s1) _
    (by intro hx; rw [hstr, hpt] at hx; cases hx) hl
  rw [hstr, hrem, hpt, List.drop_zero] at hwh
  refine ⟨by rw [hout, hstr]; simp [expS, hpt, hrem, dataIn_zero], hwh, fun hcl => (h3_length_exact _ _ hcl).2 hl⟩

/-- A response to HEAD and a 1xx / 204 / 304 response has no body that
could come up short: no length accounting is armed, whatever Content-Length it declares. -/
theorem h3_bodiless_no_short (isHead : Bool) (h : H3Head) (s : H3Stream)
    (hb : isHead = true ∨ (100 ≤ h.status ∧ h.status ≤ 199) ∨ h.status = 204 ∨ h.status = 304) :
    (H3Body.new isHead h s).hasCL = false := by
  unfold H3Body.new
  rw [if_pos hb]

/-- However many informational responses the call skips, the body
reader starts at a frame boundary, before any trailer, on the same stream end: all the theorems
above apply to the body of the final response. -/
theorem h3_interim_transparent (fuel n1xx : Nat) (s : H3Stream) :
    (H3Stream.readFinalResponse fuel n1xx s).2.remInFrame = s.remInFrame ∧
    (H3Stream.readFinalResponse fuel n1xx s).2.parsedTrailer = s.parsedTrailer ∧
    (H3Stream.readFinalResponse fuel n1xx s).2.net.fin = s.net.fin :=
  let h := readFinalResponse_same fuel n1xx s
  ⟨h.remInFrame, h.parsedTrailer, h.fin⟩

/-- The body reader these theorems are about (with the
truncated-frame rule of fixes/C03-3) against the original reader of C02, which C02's lane
`c02h3recv` ties to the code byte by byte: for every stream, segmentation and read sizes the two
runs make the same reads and hand out the same bytes in the same pieces; only the error of the
LAST read may differ — `io.ErrUnexpectedEOF` where the original says `io.EOF` (a truncated frame),
or another non-EOF error for a non-EOF error (a SETTINGS frame is read before it is refused). -/
theorem h3_repaired_refines_original (b : H3Body) (ks : List Nat) :
    (b.runReads ks).1.map (·.1) = (bodyRunR b ks).1.map (·.1) ∧
    (lastErr (b.runReads ks).1 = lastErr (bodyRunR b ks).1 ∨
      ∃ e e', lastErr (b.runReads ks).1 = some e ∧ lastErr (bodyRunR b ks).1 = some e' ∧
        (e' = e ∨ (e = .eof ∧ e' = .unexpectedEOF) ∨ (e ≠ .eof ∧ e' ≠ .eof))) :=
  runReads_rel bodyRead_rel b ks

/-- Whatever happened before, `getClient` never hands out a cached
connection whose context is done: it is evicted and a new one dialled (fixes/C03-2). -/
theorem broken_conn_not_reused_h3 (c : H3Cache) : c.getClient.cached = true ∧ c.getClient.closed = false := by
  unfold H3Cache.getClient
  split
  · rename_i h; exact ⟨h.1, by simpa using h.2⟩
  · exact ⟨rfl, rfl⟩

/-- A failed call drops the cached connection (unless the caller's own context was cancelled); a
failure while reading the body does not — only a closed connection costs a new dial. -/
theorem h3_dials_two (e : H3End) (o : H3Outcome) (h : o = .callFailed ∨ ∃ c, e = .connClose c) :
    h3DialsAfterSecond e o = 2 := by
  rcases h with rfl | ⟨c, rfl⟩
  · cases e <;> rfl
  · cases o <;> rfl

theorem h3_dials_one (e : H3End) (o : H3Outcome) (h1 : o ≠ .callFailed) (h2 : ∀ c, e ≠ .connClose c) :
    h3DialsAfterSecond e o = 1 := by
  cases e with
  | connClose c => exact absurd rfl (h2 c)
  | fin => cases o <;> first | rfl | exact absurd rfl h1
  | reset c => cases o <;> first | rfl | exact absurd rfl h1

end Req.Props.C03H3
