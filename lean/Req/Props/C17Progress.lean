import Req.Lemmas.Progress
/-!
C17 — progress callbacks are truthful: interval throttling under an explicit (arbitrary) clock,
`Close` of the download reader, several files, several attempts.
-/
namespace Req.Props.C17Progress
open Req.Progress

/-- `bytesW` for timed calls: a result `n ≤ 0` transfers nothing -/
def bytesC : List WCall → Int
  | [] => 0
  | e :: es => (if e.n ≤ 0 then 0 else e.n) + bytesC es

theorem bytesW_bits (st : WState) (c : Clock) (calls : List WCall) :
    bytesW (bitsW st c calls) = bytesC calls := by
  induction calls generalizing st c with
  | nil => rfl
  | cons e es ih => simp only [bitsW, bytesW_cons, bytesC, ih]

/-- Whatever the clock does (it need not even be monotone): two successive
callbacks fired by the INTERVAL test are at least `interval` apart, the first at least
`interval` after `c.last`, the time the clock `c` starts from. -/
theorem throttle_spacing_upload (st : WState) (c : Clock) (calls : List WCall) :
    spaced c.interval c.last (intervalTimesW st c calls) := by
  induction calls generalizing st c with
  | nil => trivial
  | cons e es ih =>
    simp only [intervalTimesW]
    split
    · rename_i h
      simp only [Bool.and_eq_true, elapsed, decide_eq_true_eq] at h
      exact ⟨h.2, ih _ { c with last := e.now }⟩
    · exact ih _ c

/-- For EVERY clock and interval the reported counts are strictly increasing, above the count the
writer started with, none above the bytes written. -/
theorem progress_monotone_upload_clock (st : WState) (c : Clock) (calls : List WCall) :
    (runWT st c calls).Pairwise (· < ·) ∧
    ∀ x ∈ runWT st c calls, st.written < x ∧ x ≤ st.written + bytesC calls := by
  have := runW_spec st (bitsW st c calls)
  rwa [bytesW_bits] at this

/-- Known size = bytes written > 0: for EVERY clock and EVERY
interval (one hour, a year) the last reported count is the size. -/
theorem progress_final_upload_clock (total : Int) (c : Clock) (calls : List WCall)
    (hknown : total = bytesC calls) (hpos : 0 < total) :
    (runWT ⟨0, total⟩ c calls).getLast? = some total := by
  have := runW_final ⟨0, total⟩ (bitsW ⟨0, total⟩ c calls) (by simp [bytesW_bits, hknown])
    (by rw [bytesW_bits]; omega)
  simpa [runWT] using this

/-- a clock that never lets the interval elapse: everything is skipped except the final count -/
example : runWT ⟨0, 1000⟩ ⟨0, 3600⟩ [⟨512, 1⟩, ⟨400, 2⟩, ⟨88, 3⟩] = [1000] := by decide
/-- interval 2: calls at times 1,2,3,4,5 → reports at 2 and 4, then the final one -/
example : runWT ⟨0, 50⟩ ⟨0, 2⟩ [⟨10, 1⟩, ⟨10, 2⟩, ⟨10, 3⟩, ⟨10, 4⟩, ⟨10, 5⟩] = [20, 40, 50] ∧
    intervalTimesW ⟨0, 50⟩ ⟨0, 2⟩ [⟨10, 1⟩, ⟨10, 2⟩, ⟨10, 3⟩, ⟨10, 4⟩, ⟨10, 5⟩] = [2, 4] := by decide

theorem progress_monotone_download_closed (evs : List REvent) :
    (runRC ⟨0, 0⟩ evs).Pairwise (· < ·) ∧ ∀ x ∈ runRC ⟨0, 0⟩ evs, 0 < x ∧ x ≤ bytesR evs :=
  ⟨(runRC_spec evs).1, (runRC_spec evs).2.1⟩

/-- Download with `Close`: for EVERY sequence of reads —
`io.EOF` seen or not (a decoder that stops at the end of its stream, a caller that stops early),
every clock — once the body is closed the last reported count is the number of bytes read. -/
theorem progress_final_download_closed (evs : List REvent) (hpos : 0 < bytesR evs) :
    (runRC ⟨0, 0⟩ evs).getLast? = some (bytesR evs) :=
  (runRC_spec evs).2.2 hpos

/-- the situation of a deflate response: the last bytes arrive without `io.EOF`, the clock never
elapses, nobody reads again — without `Close` nothing is reported -/
example : runR ⟨0, 0⟩ [⟨4096, false, false⟩, ⟨1000, false, false⟩] = [] ∧
    runRC ⟨0, 0⟩ [⟨4096, false, false⟩, ⟨1000, false, false⟩] = [5096] := by decide

theorem filter_reports (id : Nat) (g : FileRun) :
    (((runW ⟨0, g.total⟩ g.evs).map fun x => (g.id, x)).filter fun p => p.1 == id).map (·.2) =
      if g.id = id then runW ⟨0, g.total⟩ g.evs else [] := by
  by_cases h : g.id = id <;> simp [List.filter_map, Function.comp_def, h]

/-- With distinct files, the reports that name file `f` are exactly that file's
own run, starting from 0: counts are per file, not cumulative over the request. -/
theorem upload_reports_per_file (files : List FileRun) (hnd : (files.map (·.id)).Nodup)
    (f : FileRun) (hf : f ∈ files) :
    ((runFiles files).filter fun p => p.1 == f.id).map (·.2) = runW ⟨0, f.total⟩ f.evs := by
  induction files with
  | nil => cases hf
  | cons g gs ih =>
    rw [List.map_cons, List.nodup_cons] at hnd
    rw [show runFiles (g :: gs) = ((runW ⟨0, g.total⟩ g.evs).map fun x => (g.id, x)) ++ runFiles gs from rfl,
      List.filter_append, List.map_append, filter_reports]
    rcases List.mem_cons.mp hf with rfl | hf'
    · -- no later file has this id
      have : ((runFiles gs).filter fun p => p.1 == f.id) = [] := by
        rw [List.filter_eq_nil_iff]
        intro p hp
        simp only [runFiles, List.mem_flatMap, List.mem_map] at hp
        obtain ⟨g', hg', x, -, rfl⟩ := hp
        simpa using fun he : g'.id = f.id => hnd.1 (he ▸ List.mem_map_of_mem hg')
      rw [if_pos rfl, this]; simp
    · rw [if_neg fun he : g.id = f.id => hnd.1 (he ▸ List.mem_map_of_mem hf')]
      exact ih hnd.2 hf'

/-- per file: strictly increasing, never above that file's bytes, and — size known — ending at
it; whatever the other files did -/
theorem upload_per_file_truthful (files : List FileRun) (hnd : (files.map (·.id)).Nodup)
    (f : FileRun) (hf : f ∈ files) :
    let mine := ((runFiles files).filter fun p => p.1 == f.id).map (·.2)
    mine.Pairwise (· < ·) ∧ (∀ x ∈ mine, 0 < x ∧ x ≤ bytesW f.evs) ∧
    (f.total = bytesW f.evs → 0 < f.total → mine.getLast? = some f.total) := by
  simp only [upload_reports_per_file files hnd f hf]
  obtain ⟨h1, h2⟩ := runW_spec ⟨0, f.total⟩ f.evs
  exact ⟨h1, by simpa using h2, fun hk hp => runW_final ⟨0, f.total⟩ f.evs (by simp [hk]) (by omega)⟩

/-- the files report in the order they are written: all reports of an earlier file come before
all reports of a later one -/
theorem upload_files_in_order (files : List FileRun) (hsorted : (files.map (·.id)).Pairwise (· < ·)) :
    ((runFiles files).map (·.1)).Pairwise (· ≤ ·) := by
  induction files with
  | nil => simp [runFiles]
  | cons g gs ih =>
    simp only [List.map_cons, List.pairwise_cons] at hsorted
    simp only [runFiles, List.flatMap_cons, List.map_append, List.pairwise_append]
    refine ⟨?_, by simpa [runFiles] using ih hsorted.2, ?_⟩
    · simp only [List.map_map, Function.comp_def]
      exact List.pairwise_map.mpr (List.pairwise_of_forall fun _ _ => Nat.le_refl _)
    · intro a ha b hb
      simp only [List.map_map, Function.comp_def, List.mem_map] at ha
      obtain ⟨x, -, rfl⟩ := ha
      simp only [List.mem_map, List.mem_flatMap] at hb
      obtain ⟨p, ⟨g', hg', y, -, rfl⟩, rfl⟩ := hb
      exact Nat.le_of_lt (hsorted.1 g'.id (List.mem_map_of_mem hg'))

/-- What an attempt reports is a function of that attempt alone: the output
of a sequence of attempts is the concatenation of the attempts' own outputs, each starting every
file from 0 again; so in EVERY attempt every file's reports are per-file truthful. -/
theorem resend_counts_restart (before after : List (List FileRun)) (a : List FileRun)
    (hnd : (a.map (·.id)).Nodup) :
    runAttempts (before ++ a :: after) = runAttempts before ++ runFiles a ++ runAttempts after ∧
    ∀ f ∈ a,
      let mine := ((runFiles a).filter fun p => p.1 == f.id).map (·.2)
      mine.Pairwise (· < ·) ∧ (∀ x ∈ mine, 0 < x ∧ x ≤ bytesW f.evs) ∧
      (f.total = bytesW f.evs → 0 < f.total → mine.getLast? = some f.total) := by
  refine ⟨by simp [runAttempts], fun f hf => upload_per_file_truthful a hnd f hf⟩

/-- two files, re-sent once: the second attempt starts both files from 0 again -/
example : runAttempts [[⟨0, 700, [⟨512, true⟩, ⟨188, false⟩]⟩, ⟨1, 0, [⟨300, true⟩]⟩],
                       [⟨0, 700, [⟨512, false⟩, ⟨188, false⟩]⟩, ⟨1, 0, [⟨300, false⟩]⟩]]
    = [(0, 512), (0, 700), (1, 300), (0, 700)] := by decide

theorem runBodies_hops (hops : List (List REvent)) (rest : List BodyRun) :
    runBodies (hops.map (fun h => ⟨h, false⟩) ++ rest) = runBodies rest := by
  simp [runBodies]

/-- Whatever exchanges precede the response the caller
gets — any number of redirect hops with bodies of any size, read in any way (larger than the file,
read partly, closed early) — the download callback receives exactly the reports of the FINAL
body alone: strictly increasing, each at most the final body's size, and (once closed) ending at
it.  Nothing of a hop's body is ever counted. -/
theorem download_counts_only_final_body (hops : List (List REvent)) (final : List REvent) :
    runBodies (roundTrip hops final) = runRC ⟨0, 0⟩ final ∧
    (runBodies (roundTrip hops final)).Pairwise (· < ·) ∧
    (∀ x ∈ runBodies (roundTrip hops final), 0 < x ∧ x ≤ bytesR final) ∧
    (0 < bytesR final → (runBodies (roundTrip hops final)).getLast? = some (bytesR final)) := by
  have h : runBodies (roundTrip hops final) = runRC ⟨0, 0⟩ final := by
    unfold roundTrip
    rw [runBodies_hops]
    simp [runBodies]
  rw [h]
  exact ⟨rfl, runRC_spec final⟩

/-- retries: the reports are the concatenation of the attempts' own final bodies — every attempt
starts from 0 again and is truthful for the response IT ended with. -/
theorem download_attempts_restart (before after : List (List (List REvent) × List REvent))
    (hops : List (List REvent)) (final : List REvent) :
    runDownloadAttempts (before ++ (hops, final) :: after) =
      runDownloadAttempts before ++ runRC ⟨0, 0⟩ final ++ runDownloadAttempts after := by
  simp [runDownloadAttempts, (download_counts_only_final_body hops final).1]

/-- with ONE counter for all the bodies of the round trip (`runSharedCounter`) a 100-byte file behind a
redirect with a 37-byte body ends at 137 — above the file's size; the model reports 100 -/
example : runSharedCounter [[⟨37, true, false⟩], [⟨100, true, false⟩]] = [37, 137] ∧
    runBodies (roundTrip [[⟨37, true, false⟩]] [⟨100, true, false⟩]) = [100] := by decide

/-- the behaviour of imroc/req before commit 10fb764 (a fresh reader per body, but every body
reported): a hop body larger than the file is reported first — `[2048, 100]` -/
example : runBodies [⟨[⟨2048, false, false⟩], true⟩, ⟨[⟨100, true, false⟩], true⟩] = [2048, 100] := by decide

end Req.Props.C17Progress
