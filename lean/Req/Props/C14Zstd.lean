import Req.Lemmas.C14Zstd
import Req.Props.C14
/-!
C14 — `Content-Encoding: zstd`, concretely: RFC 8878 frames around RAW blocks as
`klauspost/compress/zstd`'s streaming decoder reads them (`Req.Client.CompressZstd`). A `Frame`
is a data frame of any header layout (single-segment or window descriptor, Frame_Content_Size
absent / 1 / 2 / 4 / 8 bytes, Content_Checksum, a zero Dictionary_ID field; any split into raw
blocks) or a skippable frame. The check-sum function is a parameter `S`; all that is assumed of
it is `hS`: it yields four bytes.

`unzstd` is what the caller of `compress.ZstdReader` receives (`zmean`: bytes released ahead of
a block's end are taken back when the stream breaks off); `zstdCodec` has the automaton's own
meaning (`mean`). The two agree on complete streams (`zstdCodec_total`) and differ on streams cut
inside a block, so `unzstd_truncated` has no any-schedule companion.

Tie: lanes `containers`, `containers_e2e` (driver lanes `c14enc zframe`, `c14dec zstd`).
-/
namespace Req.Props.C14Zstd
open Req.Proto Req.Compress Req.Compress.Zstd Req.Compress.Auto

/-- what the decoder (and the format) accept in a frame the encoder is asked for -/
def Frame.OK : Frame → Prop
  | .data fhd wd f bs l => DataWF fhd wd f bs l
  | .skippable m0 p => m0 &&& 0xF0 = 0x50 ∧ p.length < 4294967296

def wireOf (S : ZSums) (fs : List Frame) : Bytes := (fs.map (·.bytes S)).flatten
def contentOf (fs : List Frame) : Bytes := (fs.map (·.content)).flatten

/-- what `zstd.NewReader(body)` delivers for a body that ends with `fin` -/
def unzstd (S : ZSums) (fin : Term) (wire : Bytes) : Bytes × Term := zmean S fin wire

variable (S : ZSums)

theorem frame_unit (hS : ∀ x, (S.sum x).length = 4) (f : Frame) (hf : Frame.OK f) : (zframe S).IsUnit (f.bytes S) f.content := by
  cases f with
  | data fhd wd fc bs l =>
    refine ⟨.done, ?_, rfl⟩
    have := run_zframe S hS fhd wd fc bs l hf []
    rw [List.append_nil] at this
    exact this
  | skippable m0 p =>
    refine ⟨.done, ?_, rfl⟩
    have := run_skippable S m0 p [] hf.1 hf.2
    rw [List.append_nil] at this
    exact this

theorem frame_units (hS : ∀ x, (S.sum x).length = 4) (fs : List Frame) (hok : ∀ f ∈ fs, Frame.OK f) :
    ∀ f ∈ fs, (zframe S).IsUnit (f.bytes S) f.content := fun f hf => frame_unit S hS f (hok f hf)

theorem held_of_boundary (s : ZSt) (h : (zframe S).Boundary s) : heldOf s = 0 := by
  rcases h with h | h
  · rw [h]; rfl
  · cases s <;> first | rfl | (simp [zframe, zphase] at h)

theorem zmean_of_run {inp o rest : Bytes} {s : ZSt} (fin : Term)
    (h : (zstd S).run inp (.magic []) = (s, o, rest)) (hh : heldOf s = 0) :
    zmean S fin inp = (o, (zstd S).verdict fin s) := by
  simp [zmean, h, hh]

/-- the real reader ends as the automaton does and hands out a prefix of what the automaton
released: the bytes held back are taken off the end -/
theorem zmean_of_mean {inp o : Bytes} {t : Term} (fin : Term)
    (h : (zstd S).mean fin inp (.magic []) = (o, t)) : ∃ k, zmean S fin inp = (o.take k, t) := by
  obtain ⟨rfl, rfl⟩ := Prod.mk.inj h
  exact ⟨_, rfl⟩

/-- any sequence of well-formed frames (data frames of every layout, skippable frames; none at
all: an empty body): exactly the contents, in order, then the end of the underlying body. -/
theorem unzstd_frames (hS : ∀ x, (S.sum x).length = 4) (fs : List Frame) (hok : ∀ f ∈ fs, Frame.OK f) (fin : Term) :
    unzstd S fin (wireOf S fs) = (contentOf fs, fin) := by
  obtain ⟨s1, hb1, h1⟩ := many_units (zframe S) _ _ rfl fs (frame_units S hS fs hok) (zframe S).init
    (Or.inl rfl)
  unfold unzstd wireOf contentOf
  rw [zmean_of_run S fin h1 (held_of_boundary S s1 hb1),
    show (zstd S).verdict fin s1 = fin from many_verdict_boundary (zframe S) rfl rfl s1 hb1 fin]

theorem unzstd_empty_body (fin : Term) : unzstd S fin [] = ([], fin) := rfl

/-- complete frames followed by a strict, non-empty prefix of one more: what the caller receives
is a prefix of the full content, and the stream ends in `io.ErrUnexpectedEOF` (or the underlying
body's own error), never cleanly. Unlike `gunzip_truncated` this does not say which prefix: the
bytes of an unfinished block are taken back (`zmean`). -/
theorem unzstd_truncated (hS : ∀ x, (S.sum x).length = 4) (fs : List Frame) (hok : ∀ f ∈ fs, Frame.OK f) (f : Frame) (hf : Frame.OK f)
    (p q : Bytes) (hw : f.bytes S = p ++ q) (hp : p ≠ []) (hq : q ≠ []) (fin : Term) :
    (unzstd S fin (wireOf S fs ++ p)).2 = noEOF fin ∧
      ∃ z, contentOf fs ++ f.content = (unzstd S fin (wireOf S fs ++ p)).1 ++ z := by
  obtain ⟨y, z, hyz, hm⟩ := mean_many_units_truncated (zframe S) _ _ (zframe_lawful S) rfl fs
    (frame_units S hS fs hok) (frame_unit S hS f hf) p q hw hp hq fin
  obtain ⟨k, hk⟩ := zmean_of_mean S fin hm
  refine ⟨congrArg Prod.snd hk, (contentOf fs ++ y).drop k ++ z, ?_⟩
  rw [show (unzstd S fin (wireOf S fs ++ p)).1 = (contentOf fs ++ y).take k from congrArg Prod.fst hk,
    ← List.append_assoc, List.take_append_drop, hyz, List.append_assoc]

/-- `unzstd_frames` at the ends `.err 1` and `.eof`: complete frames and nothing behind them,
which is also what a longer message cut exactly behind a frame looks like, are a valid end for
the decoder. Whether the caller gets an error is the framing layer's matter: its
`io.ErrUnexpectedEOF` comes through (`ZstdReader` remembers the body's error itself: the
library reports a source that fails between two frames as a clean end), a clean end of the body
reads as a clean end of the content. -/
theorem unzstd_frame_boundary_needs_framing (hS : ∀ x, (S.sum x).length = 4) (fs : List Frame) (hok : ∀ f ∈ fs, Frame.OK f) :
    unzstd S (.err 1) (wireOf S fs) = (contentOf fs, .err 1) ∧
    unzstd S .eof (wireOf S fs) = (contentOf fs, .eof) :=
  ⟨unzstd_frames S hS fs hok _, unzstd_frames S hS fs hok _⟩

/-- `many_after_units` for zstd, for a tail that ends with nothing held back (`hh`) -/
theorem unzstd_after_frames (hS : ∀ x, (S.sum x).length = 4) (fs : List Frame)
    (hok : ∀ f ∈ fs, Frame.OK f) {r o rest : Bytes} {s : ZSt} (hr : r ≠ [])
    (hrun : (zframe S).run r (.magic []) = (s, o, rest)) (hnd : zphase s ≠ .done) (hh : heldOf s = 0)
    (fin : Term) :
    unzstd S fin (wireOf S fs ++ r) = (contentOf fs ++ o, (zframe S).verdict fin s) := by
  have h := (many_after_units (zframe S) _ _ rfl fs (frame_units S hS fs hok) hr hrun hnd fin).1
  unfold unzstd wireOf contentOf
  rw [zmean_of_run S fin h hh]
  exact congrArg _ (many_verdict_eq (zframe S) s hnd fin)

/-- four or more bytes, where a frame must start, that are neither the
frame magic nor a skippable-frame magic: `ErrMagicMismatch`. -/
theorem unzstd_bad_magic (hS : ∀ x, (S.sum x).length = 4) (fs : List Frame) (hok : ∀ f ∈ fs, Frame.OK f) (b0 b1 b2 b3 : UInt8)
    (r : Bytes) (h1 : [b0, b1, b2, b3] ≠ [0x28, 0xB5, 0x2F, 0xFD])
    (h2 : ¬([b1, b2, b3] = [0x2A, 0x4D, 0x18] ∧ b0 &&& 0xF0 = 0x50)) (fin : Term) :
    unzstd S fin (wireOf S fs ++ b0 :: b1 :: b2 :: b3 :: r) = (contentOf fs, Zstd.errCorrupt) := by
  simpa [verdict, zframe, zphase] using unzstd_after_frames S hS fs hok (by simp)
    (run_bad_zmagic S b0 b1 b2 b3 r h1 h2) (by simp [zphase]) rfl fin

/-- a frame with Content_Checksum whose four check-sum bytes are not the check sum of its
content: the content is delivered, then `ErrCRCMismatch`, for ANY check-sum function `S`
(seeded/C14-2 removes exactly this check). -/
theorem unzstd_bad_checksum (hS : ∀ x, (S.sum x).length = 4) (fs : List Frame) (hok : ∀ f ∈ fs, Frame.OK f)
    (fhd wd : UInt8) (f : Bytes) (bs : List Bytes) (l : Bytes) (wf : DataWF fhd wd f bs l)
    (hsum : fhd &&& 4 ≠ 0) (t0 t1 t2 t3 : UInt8) (r : Bytes)
    (hbad : [t0, t1, t2, t3] ≠ S.sum (bs.flatten ++ l)) (fin : Term) :
    unzstd S fin (wireOf S fs ++ ([0x28, 0xB5, 0x2F, 0xFD, fhd] ++
        (if fhd &&& 32 ≠ 0 then [] else [wd]) ++ List.replicate (dictLen fhd) 0 ++ f ++
        ((bs.map (rawBlock false)).flatten ++ (rawBlock true l ++ (t0 :: t1 :: t2 :: t3 :: r))))) =
      (contentOf fs ++ (bs.flatten ++ l), Zstd.errCorrupt) :=
  unzstd_after_frames S hS fs hok (by simp)
    (run_zframe_bad_sum S fhd wd f bs l wf hsum t0 t1 t2 t3 r hbad) (by simp [zphase]) rfl fin

/-- one to three bytes where a frame must start: `io.ErrUnexpectedEOF`
(or the underlying body's error). -/
theorem unzstd_stray_bytes (hS : ∀ x, (S.sum x).length = 4) (fs : List Frame) (hok : ∀ f ∈ fs, Frame.OK f) (g : Bytes)
    (h0 : g ≠ []) (h3 : g.length ≤ 3) (fin : Term) :
    unzstd S fin (wireOf S fs ++ g) = (contentOf fs, noEOF fin) := by
  rw [unzstd_after_frames S hS fs hok h0 (run_magic_partial S g [] (by simpa using h3))
    (by simp [zphase]) rfl, List.append_nil]
  obtain ⟨b, g', rfl⟩ := List.exists_cons_of_ne_nil h0
  exact congrArg _ (verdict_working (zframe S) _ rfl rfl fin)

/-- the automaton as a `Codec`. Its meaning is `mean`, not `zmean`: on a stream cut inside a
block it hands out the bytes the real reader takes back. -/
def zstdCodec : Codec := (zstd S).codec

/-- for a complete stream the `Codec`'s meaning is what the real reader delivers
(`unzstd_frames`) -/
theorem zstdCodec_total (hS : ∀ x, (S.sum x).length = 4) (fs : List Frame) (hok : ∀ f ∈ fs, Frame.OK f) (fin : Term) :
    (zstdCodec S).total ⟨wireOf S fs, fin⟩ = (contentOf fs, fin) :=
  mean_many_units (zframe S) _ _ (zframe_lawful S) rfl fs (frame_units S hS fs hok) fin

/-- `compress.ZstdReader` over a body of zstd frames, on any
stack, read with ANY sequence of buffer sizes: exactly the contents, then `io.EOF`. -/
theorem zstd_frames_any_schedule (hS : ∀ x, (S.sum x).length = 4) (codecs : Alg → Codec) (hc : codecs .zstd = zstdCodec S)
    (site : Site) (fs : List Frame) (hok : ∀ f ∈ fs, Frame.OK f) (ns : List Nat) (t : Term)
    (h : (drain (C14.bodyReader codecs site ⟨wireOf S fs, .eof⟩ (.decode .zstd)).R
      (C14.bodyReader codecs site ⟨wireOf S fs, .eof⟩ (.decode .zstd)).s ns).2.2 = some t) :
    (drain (C14.bodyReader codecs site ⟨wireOf S fs, .eof⟩ (.decode .zstd)).R
      (C14.bodyReader codecs site ⟨wireOf S fs, .eof⟩ (.decode .zstd)).s ns).2.1 = contentOf fs ∧
      t = .eof := by
  refine C14.read_of_delivered codecs site ⟨wireOf S fs, .eof⟩ (.decode .zstd) ns t h ?_
  simp [C14.delivered, deliver, hc, zstdCodec_total S hS fs hok]

theorem xxh_len (x : Bytes) : (xxh.sum x).length = 4 := rfl

/-- "hello" in a single-segment, check-summed frame of two raw blocks -/
def demoFrame : Frame := .data 0x24 0 [5] [[104, 101]] [108, 108, 111]

theorem demoFrame_ok : Frame.OK demoFrame := by
  refine { reserved := by decide, fcsLength := by decide, fcsValue := by intro _; decide,
           window := by decide, last := by decide, blocks := ?_ }
  intro b hb
  simp at hb; subst hb; decide

example : unzstd xxh .eof (wireOf xxh [demoFrame, .skippable 0x53 [1, 2, 3], demoFrame]) =
    ([104, 101, 108, 108, 111, 104, 101, 108, 108, 111], .eof) :=
  unzstd_frames xxh xxh_len _ (by
    intro f hf
    simp at hf
    rcases hf with rfl | rfl | rfl
    · exact demoFrame_ok
    · exact ⟨by decide, by decide⟩
    · exact demoFrame_ok) .eof

end Req.Props.C14Zstd
