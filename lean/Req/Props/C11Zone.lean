import Req.Client.AuthorityZone
import Req.Props.C11
/-!
C11 — host identity of IPv6 literals against RFC 3986 + RFC 6874 (zone ids): the URL TEXT of a zoned literal
is `"[" IPv6address "%25" ZoneID "]" [":" port]`, `url.URL.Host` holds it with the zone percent-decoded, and the
policies compare the WHOLE literal (address, `%`, decoded zone), whatever dots the zone or an IPv4-style tail
of the address contain.
-/
namespace Req.Props.C11Zone
open Req.Proto Req.Ascii Req.Redirect Req.Authority Req.Lemmas.C11 Req.Props.C11

theorem isHex_hexVal (c : UInt8) (h : isHex c = true) : ∃ x, hexDigitVal c = some x := by
  unfold hexDigitVal
  split
  · exact ⟨_, rfl⟩
  split
  · exact ⟨_, rfl⟩
  split
  · exact ⟨_, rfl⟩
  simp_all [isHex]

theorem zoneChars_decodes (z : Bytes) (hc : isZoneChars z = true) :
    ∃ d, pctDecode z = some d ∧ (z ≠ [] → d ≠ []) := by
  induction z using isZoneChars.induct with
  | case1 => exact ⟨[], rfl, fun h => absurd rfl h⟩
  | case2 a b rest ih =>
    simp only [isZoneChars, ↓reduceIte, Bool.and_eq_true] at hc
    obtain ⟨x, hx⟩ := isHex_hexVal a hc.1.1
    obtain ⟨y, hy⟩ := isHex_hexVal b hc.1.2
    obtain ⟨d, hd, _⟩ := ih hc.2
    exact ⟨UInt8.ofNat (x * 16 + y) :: d, by simp [pctDecode, hx, hy, hd], fun _ => by simp⟩
  | case3 rest hno =>
    simp only [isZoneChars, ↓reduceIte] at hc
    cases hc
  | case4 c rest hp ih =>
    unfold isZoneChars at hc
    simp only [hp, ↓reduceIte, Bool.and_eq_true] at hc
    obtain ⟨d, hd, _⟩ := ih hc.2
    exact ⟨c :: d, by unfold pctDecode; simp [hp, hd], fun _ => by simp⟩

/-- An RFC 6874 `ZoneID` always percent-decodes, and to a non-empty zone. -/
theorem zoneid_decodes (z : Bytes) (h : isZoneIDText z = true) :
    ∃ d, pctDecode z = some d ∧ d ≠ [] := by
  simp only [isZoneIDText, Bool.and_eq_true, Bool.not_eq_eq_eq_not, Bool.not_true] at h
  obtain ⟨d, hd, hne⟩ := zoneChars_decodes z h.2
  refine ⟨d, hd, hne ?_⟩
  intro he; subst he; simp at h

/-- `eth0`, `%65th0` (same zone, one letter escaped), `br.eth0.100`, `a%5Db` (decodes to `a]b`). -/
example : pctDecode [101,116,104,48] = some [101,116,104,48] := by decide
example : pctDecode [37,54,53,116,104,48] = some [101,116,104,48] := by decide
example : isZoneIDText [98,114,46,101,116,104,48,46,49,48,48] = true := by decide
example : pctDecode [97,37,53,68,98] = some [97,93,98] := by decide
example : isZoneIDText [] = false := by decide
example : isZoneIDText [37,52] = false := by decide

/-- `rfc_wf` extended: for every RFC 6874 zoned literal in URL text the authority
`url.URL.Host` holds (zone percent-decoded) exists and is a `WfAuthority`. -/
theorem rfc6874_wf (t : ZonedText) (h : isRfc6874 t = true) :
    ∃ a z, pctDecode t.zoneText = some z ∧ z ≠ [] ∧ t.authority = some a ∧
      a = ⟨.ip6 t.addr (some z), t.port⟩ ∧ WfAuthority a := by
  simp only [isRfc6874, Bool.and_eq_true] at h
  obtain ⟨⟨ha, hz⟩, hp⟩ := h
  obtain ⟨z, hd, hne⟩ := zoneid_decodes t.zoneText hz
  refine ⟨⟨.ip6 t.addr (some z), t.port⟩, z, hd, hne, by simp [ZonedText.authority, hd], rfl, ?_, ?_⟩
  · exact ipv6_has_colon t.addr ha
  · cases hpt : t.port with
    | none => trivial
    | some p => rw [hpt] at hp; exact hp

/-- For EVERY bracketed literal — any address text containing a colon
(IPv4-mapped `::ffff:1.2.3.4`, dotted tails), any zone bytes (dots, a zone spelled like a DNS name),
any valid port — the domain is the hostname is the whole literal, lower-cased. -/
theorem ip6_literal_domain_whole (addr : Bytes) (zone : Option Bytes) (port : Option Bytes)
    (hc : (58 : UInt8) ∈ addr) (hp : WfPort port) :
    getDomain (Authority.render ⟨.ip6 addr zone, port⟩) = lower (Host.ip6Text addr zone) ∧
    getHostname (Authority.render ⟨.ip6 addr zone, port⟩) = lower (Host.ip6Text addr zone) := by
  have hw : WfAuthority ⟨.ip6 addr zone, port⟩ := ⟨hc, hp⟩
  exact ⟨by rw [domain_spec _ hw]; rfl, by rw [hostname_spec _ hw]; rfl⟩

/-- RFC 6874 text → what the policies compare. -/
theorem zoned_literal_identity (t : ZonedText) (h : isRfc6874 t = true) :
    ∃ a z, t.authority = some a ∧ pctDecode t.zoneText = some z ∧
      getHostname a.render = lower (t.addr ++ 37 :: z) ∧
      getDomain a.render = lower (t.addr ++ 37 :: z) := by
  obtain ⟨a, z, hd, _, hauth, ha, hw⟩ := rfc6874_wf t h
  subst ha
  have := ip6_literal_domain_whole t.addr (some z) t.port hw.host hw.port
  exact ⟨_, z, hauth, hd, this.2, this.1⟩

/-- `[fe80::1.2.3.4%25ETH0]:8080` → `fe80::1.2.3.4%eth0` (host and domain). -/
example :
    let t : ZonedText := ⟨[102,101,56,48,58,58,49,46,50,46,51,46,52], [69,84,72,48], some [56,48,56,48]⟩
    isRfc6874 t = true ∧
    (t.authority.map fun a => getDomain a.render) =
      some [102,101,56,48,58,58,49,46,50,46,51,46,52,37,101,116,104,48] := by decide

/-- SameDomain follows from literal `b` to literal `a` exactly when the
whole literals (address and zone) agree case-insensitively. -/
theorem ip6_same_domain_iff (addrA addrB : Bytes) (zA zB pA pB : Option Bytes)
    (hA : (58 : UInt8) ∈ addrA) (hB : (58 : UInt8) ∈ addrB) (hpA : WfPort pA) (hpB : WfPort pB)
    (hdr : Headers) (rest : List Hop) :
    sameDomainRedirectPolicy.check (Authority.render ⟨.ip6 addrA zA, pA⟩)
        (viaOf ⟨.ip6 addrB zB, pB⟩ hdr rest) = .allow ↔
      lower (Host.ip6Text addrA zA) = lower (Host.ip6Text addrB zB) := by
  have wA : WfAuthority ⟨.ip6 addrA zA, pA⟩ := ⟨hA, hpA⟩
  have wB : WfAuthority ⟨.ip6 addrB zB, pB⟩ := ⟨hB, hpB⟩
  rw [same_domain_iff _ _ wA wB]
  exact Iff.rfl

/-- AllowedDomain with literals configured: a literal target is allowed
exactly when some configured literal agrees with it as a whole. -/
theorem ip6_allowed_domain_iff (hosts : List (Bytes × Option Bytes × Option Bytes))
    (addr : Bytes) (z p : Option Bytes)
    (hh : ∀ x ∈ hosts, (58 : UInt8) ∈ x.1 ∧ WfPort x.2.2) (hc : (58 : UInt8) ∈ addr) (hp : WfPort p)
    (via : Via) :
    (allowedDomainRedirectPolicy (hosts.map fun x => Authority.render ⟨.ip6 x.1 x.2.1, x.2.2⟩)).check
        (Authority.render ⟨.ip6 addr z, p⟩) via = .allow ↔
      ∃ x ∈ hosts, lower (Host.ip6Text x.1 x.2.1) = lower (Host.ip6Text addr z) := by
  have := allowed_domain_iff (hosts.map fun x => (⟨.ip6 x.1 x.2.1, x.2.2⟩ : Authority)) ⟨.ip6 addr z, p⟩
    (by
      intro a ha
      obtain ⟨x, hx, rfl⟩ := List.mem_map.mp ha
      exact ⟨(hh x hx).1, (hh x hx).2⟩)
    ⟨hc, hp⟩ via
  simp only [List.map_map] at this
  rw [show (hosts.map fun x => Authority.render ⟨.ip6 x.1 x.2.1, x.2.2⟩) =
      hosts.map ((fun a : Authority => a.render) ∘ fun x => ⟨.ip6 x.1 x.2.1, x.2.2⟩) from rfl, this]
  constructor
  · rintro ⟨a, ha, he⟩
    obtain ⟨x, hx, rfl⟩ := List.mem_map.mp ha
    exact ⟨x, hx, he⟩
  · rintro ⟨x, hx, he⟩
    exact ⟨_, List.mem_map.mpr ⟨x, hx, rfl⟩, he⟩

/-- The same address under zones that differ (case-insensitively) is a
different host and a different domain: neither SameHost nor SameDomain follows. -/
theorem zone_distinguishes (addr zA zB : Bytes) (pA pB : Option Bytes)
    (hc : (58 : UInt8) ∈ addr) (hpA : WfPort pA) (hpB : WfPort pB) (hz : lower zA ≠ lower zB)
    (hdr : Headers) (rest : List Hop) :
    sameDomainRedirectPolicy.check (Authority.render ⟨.ip6 addr (some zA), pA⟩)
        (viaOf ⟨.ip6 addr (some zB), pB⟩ hdr rest) = .deny ∧
    sameHostRedirectPolicy.check (Authority.render ⟨.ip6 addr (some zA), pA⟩)
        (viaOf ⟨.ip6 addr (some zB), pB⟩ hdr rest) = .deny := by
  have hne : lower (Host.ip6Text addr (some zA)) ≠ lower (Host.ip6Text addr (some zB)) := by
    simp only [Host.ip6Text, lower_append, lower_cons]
    intro he
    have := List.append_cancel_left he
    simp only [List.cons.injEq, true_and] at this
    exact hz this
  have hd := ip6_literal_domain_whole addr (some zA) pA hc hpA
  have hd' := ip6_literal_domain_whole addr (some zB) pB hc hpB
  constructor
  · rw [sameDomain_check, ite_deny_iff, hd.1]
    exact hd'.1 ▸ hne
  · rw [sameHost_check, ite_deny_iff, hd.2]
    exact hd'.2 ▸ hne

/-- Two literals `pre ++ x ++ "." ++ tail` and `pre ++ y ++ "." ++ tail`
(an IPv4-style tail or a dotted zone — `tail` may contain the zone) with `x ≠ y` are different
domains whenever `x` and `y` differ (case-insensitively): there is no "first label" of an IP
literal to ignore. -/
theorem dotted_tail_distinguishes (pre x y tail : Bytes) (pA pB : Option Bytes)
    (hc : (58 : UInt8) ∈ pre) (hpA : WfPort pA) (hpB : WfPort pB)
    (hxy : lower x ≠ lower y)
    (hdr : Headers) (rest : List Hop) :
    sameDomainRedirectPolicy.check (Authority.render ⟨.ip6 (pre ++ x ++ 46 :: tail) none, pA⟩)
        (viaOf ⟨.ip6 (pre ++ y ++ 46 :: tail) none, pB⟩ hdr rest) = .deny := by
  have hA : (58 : UInt8) ∈ pre ++ x ++ 46 :: tail := by simp [hc]
  have hB : (58 : UInt8) ∈ pre ++ y ++ 46 :: tail := by simp [hc]
  have hd := ip6_literal_domain_whole _ none pA hA hpA
  have hd' := ip6_literal_domain_whole _ none pB hB hpB
  rw [sameDomain_check, ite_deny_iff, hd.1]
  refine hd'.1 ▸ fun he => hxy ?_
  -- the whole literals agree: `pre` cancels on the left, `"." ++ tail` on the right
  simp only [Host.ip6Text, lower_append] at he
  exact List.append_cancel_left (List.append_cancel_right he)

/-- `[fe80::1.2.3.4%eth0]` → `[fe80::9.2.3.4%eth0]` under SameDomain: refused (the trial change `seeded/C11-r5-1` follows it). -/
example :
    sameDomainRedirectPolicy.check
      (Authority.render ⟨.ip6 [102,101,56,48,58,58,57,46,50,46,51,46,52] (some [101,116,104,48]), none⟩)
      (viaOf ⟨.ip6 [102,101,56,48,58,58,49,46,50,46,51,46,52] (some [101,116,104,48]), none⟩) = .deny := by
  decide

end Req.Props.C11Zone
