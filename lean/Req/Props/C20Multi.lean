import Req.Props.C20Digest
/-!
C20 — multi-scheme challenge lists: the challenges of OTHER schemes (Basic, Bearer, Negotiate,
anything) that a response offers next to Digest — before it, after it, between two Digest
challenges, on the same field line or on another — never change what `parseChallenge` answers,
whatever parameter names they use (`realm` as well as the Digest challenge, practically always).
-/
namespace Req.Props.C20
open Req.Proto Req.Digest Req.DigestAuth Req.Ascii

/-- the first element that is not empty begins a challenge (or there is none) -/
def startsChallenge : List ElemW → Bool
  | [] => true
  | .empty :: r => startsChallenge r
  | .param _ :: _ => false
  | _ :: _ => true

/-- a parameter goes to the most recent challenge and looks at no other -/
theorem meanParam_cons (ch : SChal) (tl rest : List SChal) (p : ParamW) :
    meanParam (ch :: tl ++ rest) p = (meanParam (ch :: tl) p).map (· ++ rest) ∧
    ∀ acc', meanParam (ch :: tl) p = some acc' → acc' ≠ [] := by
  simp only [List.cons_append, meanParam]
  split
  · exact ⟨rfl, nofun⟩
  split
  · exact ⟨rfl, nofun⟩
  · exact ⟨rfl, fun _ h => Option.some.inj h ▸ List.cons_ne_nil _ _⟩

/-- the steps only ever look at the most recent challenge; a list that begins a challenge looks at
none of those read before -/
theorem meanElems_append_acc : ∀ (ws : List ElemW) (acc rest : List SChal),
    acc ≠ [] ∨ startsChallenge ws = true →
    meanElems ws (acc ++ rest) = (meanElems ws acc).map (· ++ rest) := by
  intro ws
  induction ws with
  | nil => intro acc rest _; rfl
  | cons w ws ih =>
    intro acc rest h
    suffices key : meanStep (acc ++ rest) w = (meanStep acc w).map (· ++ rest) ∧
        ∀ acc', meanStep acc w = some acc' → acc' ≠ [] ∨ startsChallenge ws = true by
      simp only [meanElems, key.1]
      cases hs : meanStep acc w with
      | none => rfl
      | some acc' => exact ih acc' rest (key.2 _ hs)
    cases w with
    | empty => exact ⟨rfl, fun _ e => Option.some.inj e ▸ h⟩
    | param p =>
      cases acc with
      | nil => exact h.elim (absurd rfl) nofun
      | cons ch tl => exact ⟨(meanParam_cons ch tl rest p).1, fun a e => .inl ((meanParam_cons ch tl rest p).2 a e)⟩
    | scheme s => exact ⟨rfl, fun _ e => .inl (Option.some.inj e ▸ List.cons_ne_nil _ _)⟩
    | scheme68 s sp t =>
      simp only [meanStep]
      split
      · exact ⟨rfl, nofun⟩
      · exact ⟨rfl, fun _ e => .inl (Option.some.inj e ▸ List.cons_ne_nil _ _)⟩
    | schemeParam s sp p =>
      exact ⟨(meanParam_cons { scheme := s } acc rest p).1,
        fun a e => .inl ((meanParam_cons { scheme := s } acc rest p).2 a e)⟩

theorem meanElems_starts (ws : List ElemW) (acc : List SChal) (h : startsChallenge ws = true) :
    meanElems ws acc = (meanElems ws []).map (· ++ acc) :=
  meanElems_append_acc ws [] acc (.inr h)

theorem meanElems_append : ∀ (a b : List ElemW) (acc : List SChal),
    meanElems (a ++ b) acc = (meanElems a acc).bind (meanElems b) := by
  intro a
  induction a with
  | nil => intro b acc; rfl
  | cons w a ih =>
    intro b acc
    simp only [List.cons_append, meanElems]
    cases meanStep acc w with
    | none => rfl
    | some acc' => exact ih b acc'

theorem starts_of_meaning : ∀ (ws : List ElemW) (chs : List SChal), meaning ws = some chs →
    startsChallenge ws = true
  | [], _, _ => rfl
  | .empty :: ws, chs, h => starts_of_meaning ws chs h
  | .param _ :: _, _, h => nomatch h
  | .scheme .. :: _, _, _ | .scheme68 .. :: _, _, _ | .schemeParam .. :: _, _, _ => rfl

theorem starts_append : ∀ (a b : List ElemW), startsChallenge a = true → startsChallenge b = true →
    startsChallenge (a ++ b) = true
  | [], _, _, hb => hb
  | .empty :: a, b, ha, hb => starts_append a b ha hb
  | .param _ :: _, _, ha, _ => nomatch ha
  | .scheme .. :: _, _, _, _ | .scheme68 .. :: _, _, _, _ | .schemeParam .. :: _, _, _, _ => rfl

/-- **meaning_append**: the meaning of two lists written one after the other, the second
beginning with a challenge, is the challenges of the first followed by those of the second. -/
theorem meaning_append (a b : List ElemW) (hb : startsChallenge b = true) :
    meaning (a ++ b) = (meaning a).bind fun ca => (meaning b).map (ca ++ ·) := by
  unfold meaning
  rw [meanElems_append]
  cases meanElems a [] with
  | none => rfl
  | some acc =>
    rw [Option.bind_some, meanElems_starts b acc hb]
    cases meanElems b [] with
    | none => rfl
    | some accb => simp

theorem filterMap_digestOf_others (others : List SChal) (h : ∀ o ∈ others, isDigest o.scheme = false) :
    others.filterMap digestOf = [] :=
  List.filterMap_eq_nil_iff.2 fun o ho => by simp [digestOf, h o ho]

/-- the meaning with other-scheme challenges inserted at a challenge boundary: the Digest
challenges are the same, in the same order -/
theorem meaning_insert_others (X Z Y : List ElemW) (hys : startsChallenge Y = true)
    (chs : List SChal) (hm : meaning (X ++ Y) = some chs)
    (others : List SChal) (hzm : meaning Z = some others) (hnd : ∀ o ∈ others, isDigest o.scheme = false) :
    ∃ chs', meaning (X ++ (Z ++ Y)) = some chs' ∧ chs'.filterMap digestOf = chs.filterMap digestOf := by
  have hzs := starts_of_meaning Z others hzm
  simp only [meaning_append _ _ hys, Option.bind_eq_some_iff, Option.map_eq_some_iff] at hm
  obtain ⟨ca, hxa, cb, hyb, rfl⟩ := hm
  refine ⟨ca ++ (others ++ cb), ?_, ?_⟩
  · rw [meaning_append _ _ (starts_append _ _ hzs hys), hxa, meaning_append _ _ hys, hzm, hyb]
    rfl
  · simp only [List.filterMap_append, filterMap_digestOf_others others hnd, List.nil_append]

/-- **other_schemes_do_not_interfere**: take ANY well-written challenge list `xs ++ ys` with a
meaning, `ys` beginning with a challenge (or empty), and insert between the two — i.e. at the
front, at the end or at any challenge boundary — ANY well-written list `zs` of challenges of other
schemes (`Basic realm="…"`, `Bearer`, `Negotiate <token68>`, `Newauth realm="…", nonce="…"`; any
number, any parameter names and values — the very names the Digest challenges use included —, any
white space, any way of quoting). `parseChallenge` answers exactly as without them: the same
Digest challenge is selected with the same parameters, or the same error is returned. -/
theorem other_schemes_do_not_interfere (xs zs ys : List Elem) (hne : xs ++ ys ≠ [])
    (hx : ∀ x ∈ xs, x.OK) (hz : ∀ x ∈ zs, x.OK) (hy : ∀ x ∈ ys, x.OK)
    (hys : startsChallenge (ys.map (·.e)) = true)
    (chs : List SChal) (hm : meaning ((xs ++ ys).map (·.e)) = some chs)
    (others : List SChal) (hzm : meaning (zs.map (·.e)) = some others)
    (hnd : ∀ o ∈ others, isDigest o.scheme = false) :
    parseChallenge algOf (commaCat ((xs ++ zs ++ ys).map Elem.render)) =
      parseChallenge algOf (commaCat ((xs ++ ys).map Elem.render)) := by
  obtain ⟨chs', hm', hf⟩ :=
    meaning_insert_others _ _ _ hys chs (List.map_append ▸ hm) others hzm hnd
  have hne' : xs ++ zs ++ ys ≠ [] := fun h => by
    simp only [List.append_eq_nil_iff] at h; exact hne (by rw [h.1.1, h.2]; rfl)
  rw [parse_faithful _ hne' ?_ chs' (by simpa using hm'),
    parse_faithful _ hne ?_ chs hm, hf]
  all_goals simp only [List.mem_append]
  · exact fun x h => h.elim (hx x) (hy x)
  · exact fun x h => h.elim (fun h => h.elim (hx x) (hz x)) (hy x)

/-! a worked list: Digest first, then `Basic realm=…` with the same parameter name (and a token68
challenge, and a third scheme reusing `nonce`) -/

def mxDigest : List Elem := [
  ⟨[], .schemeParam b!"Digest" b!" " ⟨b!"realm", [], [], plainQ b!"r"⟩, []⟩,
  ⟨b!" ", .param ⟨b!"nonce", [], [], plainQ b!"n"⟩, []⟩]

def mxOthers : List Elem := [
  ⟨b!" ", .schemeParam b!"Basic" b!" " ⟨b!"realm", [], [], plainQ b!"r"⟩, []⟩,
  ⟨b!" ", .scheme68 b!"Negotiate" b!" " b!"abc==", []⟩,
  ⟨b!" ", .schemeParam b!"Newauth" b!" " ⟨b!"REALM", [], b!" ", plainQ b!"x, y"⟩, []⟩,
  ⟨[], .param ⟨b!"nonce", b!" ", [], .tok b!"n"⟩, []⟩]

example : commaCat ((mxDigest ++ mxOthers ++ []).map Elem.render) =
    b!"Digest realm=\"r\", nonce=\"n\", Basic realm=\"r\", Negotiate abc==, Newauth REALM= \"x, y\",nonce =n" := by
  decide +kernel

example : (∀ x ∈ mxDigest, x.OK) ∧ (∀ x ∈ mxOthers, x.OK) := by decide +kernel

def mxOthersMeaning : List SChal := [
  { scheme := b!"Basic", params := [(b!"realm", b!"r")] },
  { scheme := b!"Negotiate", t68 := some b!"abc==" },
  { scheme := b!"Newauth", params := [(b!"realm", b!"x, y"), (b!"nonce", b!"n")] }]

example : meaning (mxOthers.map (·.e)) = some mxOthersMeaning ∧ ∀ o ∈ mxOthersMeaning, isDigest o.scheme = false := by
  decide +kernel

/-- the answerable Digest challenge IS answered when other schemes follow it or precede it -/
theorem digest_first_then_others :
    parseChallenge algOf (commaCat ((mxDigest ++ mxOthers ++ []).map Elem.render)) =
      .ok { realm := b!"r", nonce := b!"n" } ∧
    parseChallenge algOf (commaCat (([] ++ mxOthers ++ mxDigest).map Elem.render)) =
      .ok { realm := b!"r", nonce := b!"n" } := by decide +kernel

end Req.Props.C20
