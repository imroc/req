import Req.H1.Response
import Req.C07.DataBuf
import Req.C07.Exchanges
import Req.Lemmas.C07DataBuf
import Req.Client.DigestAuth
import Req.Props.C04
/-!
C07 — three ways a server can make ONE call cost without bound, each closed for every input:

* `r6h1` — staying silent after the head of a response that cannot have a body (answer to HEAD, 1xx,
  204, 304): whatever framing fields it carries, the caller needs no further byte. These are the
  HEAD / 1xx / 204 / 304 rows of C04's framing table (`Req.Props.C04.framing_exclusive`).
* `r6h2` — announcing a huge length on HTTP/2: the receive buffer (`Req.C07.DataBuf`) holds memory in
  proportion to the bytes received and still unread, under every interleaving of partial writes and
  reads; no allocation is sized by the announced length.
* `r6x` — answering every request with a challenge, a redirect or a retry-able status, for ever: the
  number of requests one call sends is bounded by its configuration alone.
-/
namespace Req.Props.C07
open Req.Proto

namespace r6h1
open Req.H1

/-- For EVERY status line and header block that `readTransfer` accepts, a
response to HEAD or with a status that forbids a body (1xx, 204, 304) gets `NoBody` — whatever
`Transfer-Encoding` / `Content-Length` fields the server added. -/
theorem bodiless_framing_none (isHead : Bool) (sl : StatusLine) (h : HeaderMap) (m : Msg)
    (hb : isHead = true ∨ bodyAllowedForStatus sl.code = false)
    (hm : readTransfer isHead sl h = some m) : m.framing = .none :=
  (Req.Props.C04.framing_exclusive hm).1.2 (hb.elim .inl fun hs => .inr (.inl hs))

/-- Reading the body of such a response consumes nothing of the
stream, delivers nothing and ends with `io.EOF` — for every continuation `s` of the connection, the
empty one (a server that stays silent) included. -/
theorem bodiless_needs_no_more_bytes (isHead : Bool) (sl : StatusLine) (h : HeaderMap) (m : Msg)
    (hb : isHead = true ∨ bodyAllowedForStatus sl.code = false)
    (hm : readTransfer isHead sl h = some m) (B : Nat) (s : Bytes) :
    (readBody B m s).data = [] ∧ (readBody B m s).ok = true ∧ (readBody B m s).rest = s := by
  have hf := bodiless_framing_none isHead sl h m hb hm
  simp [readBody, hf]

/-- non-vacuity: a 204 with `Transfer-Encoding: chunked` AND `Content-Length: 5` is accepted, bodiless -/
example : (readTransfer false ⟨[72,84,84,80,47,49,46,49], [], 204, 1, 1⟩
    [(kTransferEncoding, [vChunked]), (kContentLength, [[53]])]).map (·.framing) = some .none := by
  decide

example : (readTransfer false ⟨[72,84,84,80,47,49,46,49], [], 200, 1, 1⟩
    [(kTransferEncoding, [vChunked])]).map (·.framing) = some .chunked := by
  decide

end r6h1

namespace r6h2
open Req.C07.DataBuf

/-- Whatever length the server announced (`e`, any integer) and whatever
the interleaving of loop iterations of `Write` and `Read`: the memory the buffer holds is at most the
bytes actually received plus one chunk of the largest size class. -/
theorem h2_buffer_le_received (e : Int) (es : List Ev) :
    (run { expected := e } es).held ≤ (run { expected := e } es).recv + maxChunk :=
  (inv_budget _ (run_inv _ es (inv_init e))).1

/-- Under the same quantification the memory held is at most the unread
bytes plus two chunks (the partly read first and the partly written last one): memory goes back as
the caller reads. -/
theorem h2_buffer_le_unread (e : Int) (es : List Ev) :
    (run { expected := e } es).held ≤ (run { expected := e } es).size + 2 * maxChunk :=
  (inv_budget _ (run_inv _ es (inv_init e))).2

/-- No request for a chunk — however large the `want` computed from
the announced length — gets more than the largest size class (nor an empty chunk: progress). -/
theorem h2_chunk_never_sized_by_peer (want : Int) : 0 < chunkClass want ∧ chunkClass want ≤ 16384 :=
  chunkClass_bounds want

/-- `Write(p)` copies all `n = len(p)` bytes within `n` iterations in every
reachable state, for every announced length (each iteration copies at least one byte). -/
theorem h2_write_terminates (e : Int) (es : List Ev) (n : Nat) :
    let b := run { expected := e } es
    (Buf.write n b n).size = b.size + n ∧ (Buf.write n b n).recv = b.recv + n ∧
    (Buf.write n b n).held ≤ (Buf.write n b n).recv + maxChunk := by
  intro b
  have hi := run_inv _ es (inv_init e)
  obtain ⟨h1, h2, h3⟩ := write_spec n n b hi (Nat.le_refl n)
  exact ⟨h2, h3, (inv_budget _ h1).1⟩

/-- non-vacuity: 2^40 bytes announced, one byte sent: one 16 KiB chunk -/
example : (run { expected := 1099511627776 } [.wstep 1]).chunks = [16384] := by decide
example : (Buf.write 40000 { expected := -1 } 40000).chunks = [16384, 16384, 8192] := by decide

end r6h2

namespace r6x
open Req.C07.Exchanges

theorem chain_le (srv : Nat → Ans) (left i : Nat) : (chain srv left i).1 ≤ i + left + 1 := by
  induction left generalizing i with
  | zero => simp [chain]
  | succ l ih =>
    simp only [chain]
    split
    · have := ih (i + 1); omega
    · simp only; omega

theorem attempt_le (srv : Nat → Ans) (c : Cfg) (i : Nat) :
    (attempt srv c i).1 ≤ i + ((c.maxRedirects - 1) + 1 + (if c.digest then 1 else 0)) := by
  have h := chain_le srv (c.maxRedirects - 1) i
  unfold attempt
  generalize chain srv (c.maxRedirects - 1) i = p at h
  obtain ⟨j, a⟩ := p
  simp only at h ⊢
  split
  · rename_i hd; simp only [hd.1, if_true]; omega
  · simp only; split <;> omega

theorem attempts_le (srv : Nat → Ans) (c : Cfg) (left i : Nat) :
    (attempts srv c left i).1 ≤
      i + (left + 1) * ((c.maxRedirects - 1) + 1 + (if c.digest then 1 else 0)) := by
  induction left generalizing i with
  | zero => simpa [attempts] using attempt_le srv c i
  | succ l ih =>
    have h := attempt_le srv c i
    simp only [attempts]
    generalize attempt srv c i = p at h
    obtain ⟨j, a⟩ := p
    simp only at h ⊢
    rw [Nat.add_mul (l + 1) 1]
    split
    · have := ih j; omega
    · simp only
      have : 0 ≤ (l + 1) * ((c.maxRedirects - 1) + 1 + (if c.digest then 1 else 0)) := Nat.zero_le _
      omega

/-- Whatever the server answers to each request — a fresh challenge, a redirect
to itself, a retry-able status, for ever — one call puts at most
`(retries + 1) × (max redirects 1 + digest)` requests on the wire. -/
theorem requests_bounded (srv : Nat → Ans) (c : Cfg) : (call srv c).1 ≤ bound c := by
  have := attempts_le srv c c.maxRetries 0
  simpa [call, bound] using this

/-- with digest auth alone: at most two requests per call -/
theorem digest_at_most_two (srv : Nat → Ans) :
    (call srv { maxRedirects := 1, maxRetries := 0, digest := true }).1 ≤ 2 :=
  requests_bounded srv _

/-- the server that marks every challenge stale, for ever: exactly two requests, the second 401 returned -/
example : call (fun _ => .challenge) { maxRedirects := 10, maxRetries := 0, digest := true } = (2, .challenge) := by
  decide
example : call (fun _ => .redirect) { maxRedirects := 10 } = (10, .stopped) := by decide
example : call (cyclic [.redirect, .challenge, .again]) { maxRedirects := 3, maxRetries := 2, digest := true } = (9, .again) := by
  decide

open Req.DigestAuth in
/-- The middleware model of C20 (`handle` / `exchange`, tied to digest.go by
C20's lanes) against ANY server — the one that answers every request, authorized or not, with a fresh
challenge marked `stale=true` included: at most two requests per call; the answer to the second is
not examined. (The count of C20's `at_most_two_requests`, here for every look-up table `algOf`, read
off `exchange` directly.) -/
theorem digest_hostile_two (H : Req.Digest.Alg → Bytes → Bytes) (algOf : Bytes → Option Req.Digest.Alg)
    (server : Req.Digest.Wire → Req.DigestAuth.Resp) (user pass method uri : Bytes) (body : Req.Digest.Body) (rnd : Option Bytes) :
    (exchange H algOf server user pass method uri body rnd).1.length ≤ 2 := by
  simp only [exchange]
  split <;> simp

end r6x

end Req.Props.C07
