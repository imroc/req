import Req.Lemmas.WrapChain
import Req.Props.C12
/-!
# C12 — a clone with middleware is dispatched by ITS OWN transport

`Transport.Clone` / `Client.Clone` rebuild the middleware chains (`WrapRoundTrip`,
`SetCommonHeaderOrder`, `Impersonate*`; `Client.WrapRoundTrip`) for the copy. Theorems about
`Req.Pool.Wrap.wrun`: for EVERY sequence of settings, middleware installations on either
layer, `Clone`s and switches between the members of the family, the innermost closure of
every chain refers to the member that holds the chain — so a request issued on a member is
dispatched under that member's forced version, TLS trust and proxy, exactly as if no
middleware had ever been installed. With the chain rebuilt over the receiver of `Clone`
(the trial change `seeded/C12-r6-3`) the clone's requests are governed by the ORIGINAL's settings. Tied to the
code by lane `c12wrap`.
-/
namespace Req.Props.C12
open Req.Pool.Wrap Req.Pool.Dispatch

theorem wrap_setCur_length (f : Fam) (g : Member → Member) :
    (setCur f g).members.length = f.members.length := by
  unfold setCur; cases f.members[f.cur]? <;> simp

/-- After ANY sequence of settings, middleware installations
(transport level and client level), `Clone`s and switches from `C()`: the innermost closure of
every chain of every member — the original, its clones, clones of clones — refers to the
member that holds the chain. -/
theorem clone_chain_targets_clone (ops : List WOp) : WF (wrun .onCopy Fam.init ops) :=
  wrun_wf ops Fam.init wf_init

/-- **A clone's request is governed by the clone's settings.** Whatever the history (middleware
installed before or after any `Clone`, on either layer; settings changed on either side of a
`Clone` in any interleaving): the forced version, HTTP/3 switch, TLS trust and proxy a request
issued on member `i` is dispatched under are member `i`'s. -/
theorem request_governed_by_own_settings (ops : List WOp) (i : Nat) (m : Member)
    (hm : (wrun .onCopy Fam.init ops).members[i]? = some m) :
    governing (wrun .onCopy Fam.init ops) i = some m.sett := by
  simp [governing_of_wf _ (clone_chain_targets_clone ops), settView, hm]

/-- … and it passes exactly the member's own wrappers: its client chain, then its transport
chain, each outermost (installed last) first. -/
theorem request_passes_own_wrappers (ops : List WOp) (i : Nat) (m : Member)
    (hm : (wrun .onCopy Fam.init ops).members[i]? = some m) :
    trace (wrun .onCopy Fam.init ops) i = chainTrace m.cchain ++ chainTrace m.tchain := by
  simp [trace, hm, chainTarget_of_holder i _ (clone_chain_targets_clone ops i m hm).2]

/-- For every sequence from `C()` and every member: the settings
governing a request are those governing the same member's request in the sequence WITHOUT any
of its middleware installations — wrappers (header order, impersonation, user middleware)
never change which forced version, trust roots or proxy a client's or a clone's requests are
dispatched under; so neither does the outcome (`outcome`: `routeP` / `viaProxy` of them). -/
theorem middleware_transparent (ops : List WOp) (i : Nat) :
    governing (wrun .onCopy Fam.init ops) i = governing (wrun .onCopy Fam.init (noWraps ops)) i
    ∧ ∀ alpn h3Up ca, outcome (wrun .onCopy Fam.init ops) i alpn h3Up ca
        = outcome (wrun .onCopy Fam.init (noWraps ops)) i alpn h3Up ca := by
  have key : governing (wrun .onCopy Fam.init ops) i = governing (wrun .onCopy Fam.init (noWraps ops)) i := by
    rw [governing_of_wf _ (clone_chain_targets_clone ops),
      governing_of_wf _ (clone_chain_targets_clone (noWraps ops)),
      settView_wrun_noWraps .onCopy .onCopy]
  exact ⟨key, fun alpn h3Up ca => by simp [outcome, key]⟩

/-- **The forced version of a clone with middleware is honoured.** Wrapper installed, `Clone`,
then `EnableForceHTTP1/2/3` on the clone (any further wrappers / settings `pre` before): if the
clone's request is carried at all, it is carried by the version forced ON THE CLONE. -/
theorem clone_with_middleware_forced_no_fallback (pre : List WOp) (v : Ver) (i : Nat)
    (alpn : List Alpn) (h3Up : Bool) (ca : Nat) (m : Member) (u : Ver) (via : Bool)
    (hm : (wrun .onCopy Fam.init pre).members[i]? = some m)
    (hf : m.sett.force = some v)
    (ho : outcome (wrun .onCopy Fam.init pre) i alpn h3Up ca = some (.ok u, via)) : u = v := by
  simp only [outcome, request_governed_by_own_settings pre i m hm, Option.map_some, Option.some.injEq,
    Prod.mk.injEq] at ho
  have hcf : (cfgOf m.sett).force = some v := hf
  exact forced_no_fallbackP hcf ho.1

/-- The demonstration of `seeded/C12-r6-3` in the model: header-order middleware on the original, `Clone`,
force HTTP/1.1 and another trust root on the clone. -/
def demoOps : List WOp := [.twrap 1, .fork, .switch 1, .set (.force (some .h1)), .set (.trust 2)]

/-- The code: the clone's request is served by the clone (member 1), under forced HTTP/1.1 and
trust root 2; it passes the wrapper; against an origin certified by CA 0 it is refused. -/
example : servedBy (wrun .onCopy Fam.init demoOps) 1 = some 1
    ∧ governing (wrun .onCopy Fam.init demoOps) 1 = some ⟨some .h1, false, 2, false⟩
    ∧ trace (wrun .onCopy Fam.init demoOps) 1 = [1]
    ∧ outcome (wrun .onCopy Fam.init demoOps) 1 [.h2, .http11] true 0 = some (.error .tlsReject, false)
    ∧ outcome (wrun .onCopy Fam.init demoOps) 1 [.h2, .http11] true 2 = some (.ok .h1, false) := by
  decide +kernel

/-- **Necessity.** With the chain rebuilt over the
receiver of `Clone` the same clone is served by the ORIGINAL: nothing forced, trust root 0 —
it speaks HTTP/2 although HTTP/1.1 is forced on it and accepts a certificate of CA 0 it does
not trust. -/
theorem chain_over_original_reads_original :
    servedBy (wrun .onOriginal Fam.init demoOps) 1 = some 0
    ∧ governing (wrun .onOriginal Fam.init demoOps) 1 = some ⟨none, false, 0, false⟩
    ∧ outcome (wrun .onOriginal Fam.init demoOps) 1 [.h2, .http11] true 0 = some (.ok .h2, false)
    ∧ ¬ WF (wrun .onOriginal Fam.init demoOps) := by
  refine ⟨by decide +kernel, by decide +kernel, by decide +kernel, fun h => ?_⟩
  -- member 1, the clone, holds a transport chain whose innermost closure refers to member 0
  have := (h 1 { sett := ⟨some .h1, false, 2, false⟩, tchain := some { wrappers := [1], target := 0 },
                 cchain := none } (by decide +kernel)).1 { wrappers := [1], target := 0 } rfl
  exact absurd this (by decide +kernel)

/-- Without middleware at `Clone` time the two variants coincide (why only clients WITH
middleware show the defect): no chain, nothing to rebuild. -/
theorem no_middleware_no_difference (f : Fam) (m : Member) (hm : f.members[f.cur]? = some m)
    (ht : m.tchain = none) (hc : m.cchain = none) :
    wstep .onOriginal f .fork = wstep .onCopy f .fork := by
  simp [wstep, hm, ht, hc, rebuild]

example : (wrun .onCopy Fam.init [.set (.force (some .h3)), .fork, .cwrap 4, .twrap 5, .fork]).members.length = 3 := by
  decide +kernel

/-- Client-level and transport-level wrappers of a clone of a clone, outermost first. -/
example : trace (wrun .onCopy Fam.init [.twrap 1, .cwrap 2, .fork, .switch 1, .twrap 3, .fork, .switch 2, .cwrap 4]) 2
    = [4, 2, 3, 1] := by decide +kernel

example : noWraps demoOps = [.fork, .switch 1, .set (.force (some .h1)), .set (.trust 2)] := by decide +kernel

end Req.Props.C12
