import Req.Lemmas.C05H3Settings
import Req.Lemmas.C05ExceptEq
/-!
C05 — the HTTP/3 SETTINGS WRITER (`settingsFrame.Append`) with `Other` (the caller's
`AdditionalSettings`) allowed to COLLIDE with the dedicated flags 0x33 H3_DATAGRAM / 0x8
ENABLE_CONNECT_PROTOCOL, for every flag combination and every pair of map iteration orders.

`Req.H3.SettingsWrite.appendGo` follows the Go function statement by statement: the length is
computed by a loop of its own (`quicvarint.Len`), the pairs are written by a second loop
(`quicvarint.Append`); two loops can disagree (the trial change `seeded/C05-r6-2` makes the write
loop skip an entry the length loop counted), and the theorems say these never do.
-/
namespace Req.Props.C05
open Req.Proto Req.H3.Varint Req.H3.Frame Req.H3.Stream Req.H3.SettingsWrite
open Req.Lemmas.C05.H3Settings

/-- for EVERY `settingsFrame` — any flags, any `Other`, colliding with 0x33 / 0x8 or not —, whatever
order the length loop (`ord1`) and the write loop (`s.other`) iterate the map in: the value `Append`
announces in the length varint is the number of payload bytes it writes; `Len` panics exactly when
`Append` would. -/
theorem h3settings_length_exact (ord1 : List (Nat × Nat)) (s : Settings) (hp : ord1.Perm s.other) :
    declaredLen ord1 s = (settingsPayload s).map List.length :=
  declaredLen_eq ord1 s hp

example : declaredLen [(7, 100), (51, 1)] ⟨true, false, [(51, 1), (7, 100)]⟩ = some 7 := by decide
example : settingsPayload ⟨true, false, [(51, 1), (7, 100)]⟩ = some [51, 1, 51, 1, 7, 0x40, 100] := by
  decide

/-- the Go function (length loop, flag `if`s, write loop) is the writer `appendSettings` that
`h3settings_roundtrip` is about — with no condition on `Other` (`ord1`, the order in which the
length loop iterates the map, is any permutation of it). -/
theorem h3settings_append_two_loops (ord1 : List (Nat × Nat)) (s : Settings)
    (hp : ord1.Perm s.other) : appendGo ord1 s = appendSettings s :=
  appendGo_eq ord1 s hp

/-- quic-go v0.48.2 writes a colliding `Other` entry as it is: 04 04 33 01 33 01 (under the trial
change `seeded/C05-r6-2` the frame announces 4 and carries 2). -/
example : appendGo [(51, 1)] ⟨true, false, [(51, 1)]⟩ = some [4, 4, 0x33, 1, 0x33, 1] := by decide

/-- what the peer's reader sees: type 4, then a length `l`, then exactly `l` bytes that are the
written payload; the bytes of the NEXT control-stream frame start right behind them. -/
theorem h3settings_frame_aligned (ord1 : List (Nat × Nat)) (s : Settings) (hp : ord1.Perm s.other)
    (out rest : Bytes) (h : appendGo ord1 s = some out) :
    ∃ p r1, settingsPayload s = some p ∧ read (out ++ rest) = .ok (4, r1) ∧
      read r1 = .ok (p.length, p ++ rest) := by
  obtain ⟨x, y, p, hx, hy, hpl, rfl⟩ :=
    Req.Lemmas.C05.H3.appendSettings_some (appendGo_eq ord1 s hp ▸ h)
  refine ⟨p, y ++ p ++ rest, hpl, ?_, ?_⟩
  · rw [List.append_assoc]
    exact Req.Lemmas.C05.Varint.read_append 4 x _ hx
  · rw [List.append_assoc]
    exact Req.Lemmas.C05.Varint.read_append p.length y _ hy

/-- the payload `Append` wrote, for ANY settings value, is accepted by `parseSettingsFrame` ⇔ the
written pairs satisfy RFC 9114 §7.2.4 (`SettingsOK`: identifiers pairwise distinct — incl. `Other`
against the dedicated flags —, 0x8 / 0x33 carry 0 or 1), and then the result is what the pairs stand
for. -/
theorem h3settings_written_verdict (s : Settings) (p : Bytes) (hp : settingsPayload s = some p)
    (s' : Settings) :
    parseSettingsPayload p = .ok s' ↔
      (SettingsOK (writtenPairs s) ∧ s' = settingsOf (writtenPairs s)) :=
  Req.Lemmas.C05.H3.parse_written_iff (writtenPairs s) p hp s'

/-- `Other` carrying ENABLE_CONNECT_PROTOCOL = 1 with the flag clear is a legal frame that reads
back with the FLAG set (not the same struct, the same meaning). -/
example : parseSettingsPayload [51, 1, 8, 1] = .ok ⟨true, true, []⟩ := by decide
example : settingsPayload ⟨true, false, [(8, 1)]⟩ = some [51, 1, 8, 1] := by decide

/-- `ParseNext` on the written frame followed by anything, for every settings value whose frame fits
the 8 KiB cap: the verdict is the payload's (`frameVerdict`), and — accepted or refused — exactly
the bytes behind the frame are left. -/
theorem h3settings_wire_verdict (ord1 : List (Nat × Nat)) (s : Settings) (hp : ord1.Perm s.other)
    (out rest : Bytes) (fuel : Nat) (h : appendGo ord1 s = some out) (hsz : out.length ≤ 8192) :
    ∃ p, settingsPayload s = some p ∧
      parseNext (fuel + 1) (out ++ rest) = truncated (frameVerdict p rest) := by
  obtain ⟨x, y, p, hx, hy, hpl, rfl⟩ :=
    Req.Lemmas.C05.H3.appendSettings_some (appendGo_eq ord1 s hp ▸ h)
  refine ⟨p, hpl, ?_⟩
  rw [List.append_assoc, List.append_assoc, Req.Lemmas.C05.H3.parseNext_settingsFrame
    (Req.Lemmas.C05.H3.isVarint_append hx) (Req.Lemmas.C05.H3.isVarint_append hy)
    (by simp only [List.length_append] at hsz; omega)]

example : parseNext 3 ([4, 4, 0x33, 1, 0x33, 1] ++ [7, 1, 0]) =
    (.error (.duplicateSetting 51), [7, 1, 0]) := by decide

/-- an entry of `Other` that repeats the identifier of a SET dedicated flag makes the written frame
one the parser refuses (as quic-go's does: duplicate setting), whatever else the frame carries. -/
theorem h3settings_collision_refused (s : Settings) (p : Bytes) (hp : settingsPayload s = some p)
    (hc : Collides s) : ∃ e, parseSettingsPayload p = .error e :=
  Req.Lemmas.C05.H3.h3settings_dup_rejected (writtenPairs s) p hp (collides_not_nodup s hc)

example : Collides ⟨true, false, [(7, 0), (51, 0)]⟩ := by decide
example : ¬ Collides ⟨false, true, [(51, 1)]⟩ := by decide

/-- `Append` followed by the parser gives back the SAME settings exactly when `Other` is a map that
avoids the two dedicated identifiers — the side condition of `h3settings_roundtrip` is necessary,
not only sufficient. -/
theorem h3settings_roundtrip_iff (s : Settings) (p : Bytes) (hp : settingsPayload s = some p) :
    parseSettingsPayload p = .ok s ↔ Req.H3.Frame.WfSettings s :=
  ⟨roundtrip_wf s p hp, fun h => Req.Lemmas.C05.H3.h3settings_payload_roundtrip s p h hp⟩

end Req.Props.C05
