import Req.Lemmas.H1ErrClass
/-!
C04 — error kinds.  `Req.H1.ErrClass` is a conservative extension of the response reader:

* `parseHeadE_erase` / `parseHeadE_ok_iff` — for every buffer size `B`, `parseHeadE` with its class
  forgotten (`Except.toOption`) is `parseHead`: it accepts exactly the heads `parseHead` accepts,
  with the same message and the same rest (the `B`-dependent unterminated-line corner only ever
  changes the class of a rejection); likewise `mimeLoopE_erase`, `readMIMEHeaderE_erase`,
  `readTrailerE_erase`.
* `readBodyE_fst`, `readBodyE_class_iff` — the body result is `readBody`'s; a class is reported
  iff the body did not end in `io.EOF`.
* `parseResponseE_erase` — forgetting the classes gives `parseResponse`, so a theorem about
  `parseResponse` transfers to the class-reporting reader through it.
* `reject_class_te` — a refused Transfer-Encoding is reported as class `transferEncoding`; examples for
  the classes `statusLine`, `header`, `eof`.
-/
namespace Req.Props.C04
open Req.Proto Req.H1

theorem mimeLoopE_erase (B fuel : Nat) (m : HeaderMap) (s : Bytes) :
    (mimeLoopE B fuel m s).toOption = mimeLoop fuel m s := by
  induction fuel generalizing m s with
  | zero => rfl
  | succ f ih =>
    simp only [mimeLoopE, mimeLoop]
    rcases readLineB_readLine B s with he | ⟨hb, hp, hne⟩
    · rw [he]
      cases readLine s with
      | none => rfl
      | some p =>
        obtain ⟨l, rest⟩ := p
        simp only
        by_cases hblank : l.isEmpty = true
        · simp only [hblank, if_true]; rfl
        · simp only [hblank, Bool.false_eq_true, if_false]
          cases l.contains 58 with
          | false => rfl
          | true =>
            simp only [Bool.not_true, Bool.false_eq_true, if_false]
            rcases readContB_readCont B (rest.length + 1) (trimOWS l) rest with hc | ⟨h1, h2⟩
            · rw [hc]
              cases addHeaderLine m (readCont (rest.length + 1) (trimOWS l) rest).1 with
              | none => rfl
              | some m' => exact ih m' _
            · -- nothing is left on either side: both fail whatever the line was
              rw [h1, h2]
              cases addHeaderLine m (readContB B (rest.length + 1) (trimOWS l) rest).1 <;>
                cases addHeaderLine m (readCont (rest.length + 1) (trimOWS l) rest).1 <;>
                simp [mimeLoopE_nil, mimeLoop_nil, Except.toOption]
    · rw [hb, hp]
      have hblank : s.isEmpty = false := by
        cases s with
        | nil => exact absurd rfl hne
        | cons _ _ => rfl
      simp only [hblank, Bool.false_eq_true, if_false, readCont_nil]
      cases s.contains 58 with
      | false => rfl
      | true => cases addHeaderLine m (trimOWS s) <;> simp [mimeLoop_nil, Except.toOption]

theorem readMIMEHeaderE_erase (B : Nat) (s : Bytes) :
    (readMIMEHeaderE B s).toOption = readMIMEHeader s := by
  cases s with
  | nil => rfl
  | cons c cs =>
    simp only [readMIMEHeaderE, readMIMEHeader]
    split
    · rfl
    · exact mimeLoopE_erase B _ _ _

theorem parseHeadE_erase (B : Nat) (isHead : Bool) (s : Bytes) :
    (parseHeadE B isHead s).toOption = parseHead isHead s := by
  unfold parseHeadE parseHead
  rcases readLineB_readLine B s with he | ⟨hb, hp, _⟩
  · rw [he]
    cases readLine s with
    | none => rfl
    | some p =>
      obtain ⟨line, r⟩ := p
      simp only
      cases parseStatusLine line with
      | none => rfl
      | some sl =>
        simp only [← readMIMEHeaderE_erase B r]
        cases readMIMEHeaderE B r with
        | error e => rfl
        | ok y =>
          simp only [Except.toOption]
          cases readTransfer isHead sl (fixPragmaCacheControl y.1) <;> rfl
  · rw [hb, hp]
    simp only
    cases parseStatusLine s with
    | none => rfl
    | some sl => simp [readMIMEHeader, Except.toOption]

theorem parseHeadE_ok_iff (B : Nat) (isHead : Bool) (s : Bytes) (x : Msg × Bytes) :
    parseHeadE B isHead s = .ok x ↔ parseHead isHead s = some x := by
  rw [← parseHeadE_erase B, Except.toOption_eq_some]

theorem chunkLoopE_erase (fuel B : Nat) (ex : Int) (s : Bytes) :
    (chunkLoopE fuel B ex s).1 = (chunkLoop fuel B ex s).1 ∧
    (chunkLoopE fuel B ex s).2.toOption = (chunkLoop fuel B ex s).2 := by
  induction fuel generalizing ex s with
  | zero => simp [chunkLoopE, chunkLoop, Except.toOption]
  | succ f ih =>
    simp only [chunkLoopE, chunkLoop]
    cases readChunkLine B s with
    | none => simp [Except.toOption]
    | some p =>
      obtain ⟨line, r⟩ := p
      simp only
      cases parseHexUint (chunkSizeField line) with
      | none => simp [Except.toOption]
      | some n =>
        simp only
        by_cases h0 : n = 0
        · simp [h0, Except.toOption]
        · simp only [h0, if_false]
          split
          · simp [Except.toOption]
          · split
            · simp [Except.toOption]
            · have h1 : ∀ ex s, (chunkLoopE f B ex s).1 = (chunkLoop f B ex s).1 := fun ex s => (ih ex s).1
              have h2 : ∀ ex s, (chunkLoopE f B ex s).2.toOption = (chunkLoop f B ex s).2 :=
                fun ex s => (ih ex s).2
              split
              · next r3 h3 => simp only [h1, h2, h3, and_self]
              · split <;> simp_all [Except.toOption]

theorem readTrailerE_erase (B : Nat) (decl : HeaderMap) (s : Bytes) :
    (readTrailerE B decl s).toOption = readTrailer B decl s := by
  unfold readTrailerE readTrailer
  split
  · rfl
  · split
    · simp [Except.toOption]
    · split
      · simp [Except.toOption]
      · rw [← readMIMEHeaderE_erase B s]
        cases readMIMEHeaderE B s <;> simp [Except.toOption]

theorem decodeChunked_erase (B : Nat) (s : Bytes) :
    decodeChunked B s = ((decodeChunkedE B s).1, (decodeChunkedE B s).2.toOption) := by
  obtain ⟨h1, h2⟩ := chunkLoopE_erase (s.length + 1) B 0 s
  exact Prod.ext h1.symm h2.symm

theorem readBodyE_fst (B : Nat) (m : Msg) (s : Bytes) : (readBodyE B m s).1 = readBody B m s := by
  unfold readBodyE readBody
  cases m.framing with
  | none => rfl
  | untilClose => rfl
  | length n => simp only; split <;> rfl
  | chunked =>
    simp only [decodeChunked_erase]
    cases decodeChunkedE B s with
    | mk d e =>
      cases e with
      | error c => rfl
      | ok r =>
        simp only [Except.toOption, ← readTrailerE_erase]
        cases readTrailerE B (declMap m.trailerDecl) r <;> rfl

theorem readBodyE_class_iff (B : Nat) (m : Msg) (s : Bytes) :
    (readBodyE B m s).2 = none ↔ (readBody B m s).ok = true := by
  rw [← readBodyE_fst]
  unfold readBodyE
  cases m.framing with
  | none => simp
  | untilClose => simp
  | length n => simp only; split <;> simp
  | chunked =>
    simp only
    cases decodeChunkedE B s with
    | mk d e =>
      cases e with
      | error c => simp
      | ok r =>
        simp only
        cases readTrailerE B (declMap m.trailerDecl) r with
        | error c => simp
        | ok y => obtain ⟨tr, rest⟩ := y; simp

theorem parseResponseE_erase (isHead : Bool) (B : Nat) (s : Bytes) :
    (parseResponseE isHead B s).erase = parseResponse isHead B s := by
  unfold parseResponseE parseResponse
  rw [← parseHeadE_erase B]
  cases parseHeadE B isHead s with
  | error c => rfl
  | ok x => simp only [Except.toOption, OutcomeE.erase]; rw [← readBodyE_fst]

/-- An unsupported or repeated Transfer-Encoding is reported as such (not as a length error),
whatever Content-Length says. -/
theorem reject_class_te {isHead : Bool} {sl : StatusLine} {h0 : HeaderMap}
    (h : parseTransferEncoding
      (if sl.major = 0 ∧ sl.minor = 0 then 1 else sl.major)
      (if sl.major = 0 ∧ sl.minor = 0 then 1 else sl.minor)
      (shouldClose sl.major sl.minor h0).2 = none) :
    readTransfer isHead sl h0 = none ∧ readTransferClass isHead sl h0 = .transferEncoding := by
  unfold readTransfer readTransferClass
  by_cases h00 : sl.major = 0 ∧ sl.minor = 0
  · simp only [h00, and_self, if_true] at h ⊢
    simp [h]
  · simp only [h00, if_false] at h ⊢
    simp [h]

/-- Examples for the classes `statusLine`, `header`, `eof` (GET, 4096-byte buffer unless stated). -/
example : parseResponseE false 4096 [72,84,84,80,47,49,46,49,32,50,48,32,79,75,13,10,13,10] =
    .reject .statusLine := by decide +kernel                      -- "HTTP/1.1 20 OK"
example : parseResponseE false 4096 [72,84,84,80,47,49,46,49,32,50,48,48,32,79,75,13,10,88,13,10,13,10] =
    .reject .header := by decide +kernel                          -- header line "X"
example : parseResponseE false 4096 [72,84,84,80,47,49,46,49,32,50,48,48,32,79,75,13,10,88,58,49] =
    .reject .eof := by decide +kernel                             -- stream ends inside the header block
/-- The `B`-dependent corner: an unterminated 16-byte status line is `io.EOF` for a 16-byte
buffer and a malformed status line for a larger one. -/
example : parseResponseE false 16 [72,84,84,80,47,49,46,49,32,50,48,32,79,75,32,32] = .reject .eof ∧
    parseResponseE false 64 [72,84,84,80,47,49,46,49,32,50,48,32,79,75,32,32] = .reject .statusLine := by
  decide

end Req.Props.C04
