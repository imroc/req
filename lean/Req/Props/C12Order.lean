import Req.Lemmas.TlsOrder
import Req.Props.C12Paths
/-!
# C12 — the order of setters does not matter for what a handshake presents

The property's quantifier lists `SetTLSClientConfig`, accessor mutation, `SetDialTLS`,
`SetTLSHandshake` (and the fingerprint presets built on it) side by side: a client is
configured by calling them in SOME order. These theorems are about the pointer-level client
of `Req.Pool.TLS.PClient` (`Pool/TlsOrder.lean`): the configuration the governing handshake
of any dial path presents is a function of the TLS setters (in their order) and of the hook
setters (in theirs) — how the two families are interleaved is irrelevant, because the
fingerprint closure dereferences `Options.TLSClientConfig` when the handshake is made
(`FpRead.atHandshake`). With a closure that fetched the configuration when it was installed
(`FpRead.atSetter`) the theorem fails (`captured_config_goes_stale`). Tied to the code by lane
`c12path` (hook setters at every position of the setter sequence).
-/
namespace Req.Props.C12
open Req.Pool.TLS

/-- **The pointer model refines the value model**, for every setter sequence: the object
`Options.TLSClientConfig` designates in the end holds the value of `run` over the TLS
setters alone; the hooks in force are the hook setters alone. -/
theorem setters_split (ops : List POp) (s : PClient) (h : s.WF) :
    view (prun .atHandshake s ops) = run (view s) (tlsOps ops)
    ∧ hooksOf (prun .atHandshake s ops) = hookRun (hooksOf s) (hookOps ops) :=
  ⟨(prun_split ops s h).2.1, (prun_split ops s h).2.2⟩

example : view (prun .atHandshake PClient.init
    [.hook .fingerprint, .tls (.setConfig none), .tls (.insecure true), .hook (.dialTLS true)])
    = some { lazyCfg with insecure := true } := by decide +kernel

/-- **The fingerprint handshake reads the CURRENT configuration.** For every setter sequence
(TLS setters, Clone, fingerprint / handshake / dialer setters in any interleaving), every
dial path, host and mode: what the governing handshake presents on a new connection is
`pathCfg` of the hooks set last and the value the TLS setters produced — in particular a
configuration installed with `SetTLSClientConfig` AFTER `SetTLSFingerprint*` governs the
uTLS handshake exactly as it governs the built-in one and QUIC's. -/
theorem fingerprint_reads_current_config (copied : List FpField) (ops : List POp) (s : PClient)
    (h : s.WF) (p : DialPath) (onlyH1 : Bool) (host : Nat) :
    presentedCfg .atHandshake copied (prun .atHandshake s ops) p onlyH1 host
      = pathCfg copied (hookRun (hooksOf s) (hookOps ops)) p onlyH1 host (run (view s) (tlsOps ops)) := by
  obtain ⟨v, k⟩ := setters_split ops s h
  simp [presentedCfg, readFor, v, k]

example : presentedCfg .atHandshake [.serverName, .rootCAs, .insecureSkipVerify, .certificates]
    (prun .atHandshake PClient.init
      [.hook .fingerprint, .tls (.setConfig (some { emptyCfg with roots := some [7], serverName := 5 }))])
    .h2Own false 1
    = some { serverName := 5, insecure := false, roots := some [7], certs := [], protos := [.h2, .http11] } := by
  decide +kernel

/-- **Order independence.** Two setter sequences with the same TLS setters (in the same
relative order) and the same hook setters (in theirs) — i.e. any two interleavings of the two
families — present the same configuration on every path. -/
theorem setter_order_irrelevant (copied : List FpField) (ops₁ ops₂ : List POp) (s : PClient) (h : s.WF)
    (ht : tlsOps ops₁ = tlsOps ops₂) (hh : hookOps ops₁ = hookOps ops₂)
    (p : DialPath) (onlyH1 : Bool) (host : Nat) :
    presentedCfg .atHandshake copied (prun .atHandshake s ops₁) p onlyH1 host
      = presentedCfg .atHandshake copied (prun .atHandshake s ops₂) p onlyH1 host := by
  rw [fingerprint_reads_current_config _ _ _ h, fingerprint_reads_current_config _ _ _ h, ht, hh]

example : tlsOps [.hook .fingerprint, .tls (.addRoot 3)] = tlsOps [.tls (.addRoot 3), .hook .fingerprint]
    ∧ hookOps [.hook .fingerprint, .tls (.addRoot 3)] = hookOps [.tls (.addRoot 3), .hook .fingerprint] := by
  decide +kernel

/-- **All stacks agree whatever the order**: with the closure copying every verification
field, the fingerprint handshake of a TCP path and QUIC (which no hook governs) verify with
the same settings after ANY setter sequence in which no user function is installed last. -/
theorem fingerprint_matches_quic_any_order (copied : List FpField) (hc : fpCovers copied = true)
    (ops : List POp) (s : PClient) (h : s.WF) (p : DialPath) (host : Nat) (onlyH1 : Bool)
    (hu : governs (hookRun (hooksOf s) (hookOps ops)) p = .fingerprint) (c c3 : TlsCfg)
    (h1 : presentedCfg .atHandshake copied (prun .atHandshake s ops) p onlyH1 host = some c)
    (h3 : presentedCfg .atHandshake copied (prun .atHandshake s ops) .h3Quic false host = some c3) :
    c.toVerifyCfg = c3.toVerifyCfg := by
  rw [fingerprint_reads_current_config _ _ _ h] at h1 h3
  exact (path_cfg_is_client_config copied _ p (fun _ => hc) onlyH1 host _ c h1).trans
    (path_cfg_is_client_config copied _ .h3Quic (fun _ => hc) false host _ c3 h3).symm

example : governs (hookRun (hooksOf PClient.init) (hookOps [.hook .fingerprint, .tls (.insecure true)])) .h1Tunnel
    = .fingerprint := by decide +kernel

/-- **Necessity.** A closure that fetched the configuration when it was installed keeps
presenting the replaced object: `SetTLSFingerprint*` then `SetTLSClientConfig(roots 7)` —
HTTP/1.1 and HTTP/2 verify against the OLD settings (no roots), HTTP/3 against the new. -/
theorem captured_config_goes_stale :
    let ops : List POp := [.hook .fingerprint, .tls (.setConfig (some { emptyCfg with roots := some [7] }))]
    let full : List FpField := [.serverName, .rootCAs, .insecureSkipVerify, .certificates]
    (presentedCfg .atSetter full (prun .atSetter PClient.init ops) .h1Direct false 1).map (·.roots) = some none
    ∧ (presentedCfg .atSetter full (prun .atSetter PClient.init ops) .h3Quic false 1).map (·.roots) = some (some [7])
    ∧ (presentedCfg .atHandshake full (prun .atHandshake PClient.init ops) .h1Direct false 1).map (·.roots)
        = some (some [7]) := by
  decide +kernel

/-- The stale closure still follows IN-PLACE changes (same object) and a configuration
replaced BEFORE the fingerprint was chosen: the failure needs the order hook-then-replace. -/
theorem captured_config_sees_in_place_changes :
    let full : List FpField := [.serverName, .rootCAs, .insecureSkipVerify, .certificates]
    (presentedCfg .atSetter full (prun .atSetter PClient.init [.hook .fingerprint, .tls (.addRoot 7)])
        .h1Direct false 1).map (·.roots) = some (some [7])
    ∧ (presentedCfg .atSetter full (prun .atSetter PClient.init
        [.tls (.setConfig (some { emptyCfg with roots := some [7] })), .hook .fingerprint])
        .h1Direct false 1).map (·.roots) = some (some [7]) := by
  decide +kernel

end Req.Props.C12
