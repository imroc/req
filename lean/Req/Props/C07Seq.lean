import Req.C07.H1Conn
import Req.C07.H3Sections
import Req.C07.DigestAlg
import Req.C07.H2Settings
import Req.Lemmas.C07H1Budget
import Req.Props.C07Budget
import Req.Lemmas.C05Frag
import Req.H2.Conn
import Req.Lemmas.C20Digest
import Req.Lemmas.C20Select
/-!
C07 — budgets and totality over SEQUENCES: every response of a kept-alive HTTP/1.1 connection, every
field section of an HTTP/3 response, every SETTINGS frame of an HTTP/2 connection, and the two
look-ups of the digest `algorithm` token.

* `h1seq` — ∀ event sequences over ANY number of responses on one connection (body-less ones
  included): while a head is being read, held bytes ≤ limit + one buffer, bytes taken since the
  limit was set ≤ limit, ≤ 6 × limit per response (`h1_budget_every_response`,
  `h1_rearm_every_round`); the size rule of the response level `verdict` (`h1_seq_accept_size`,
  `h1_seq_refused`: accepted only if every head fits the limit) and, at the event level, what the
  canonical schedule `feed` does with one head of `S` bytes: accepted iff `S ≤ limit`
  (`h1_size_rule_refines`, `h1_size_rule_fresh`). That the two rules are the same one is read off the
  two statements; no theorem mentions both `verdict` and `feed`.
* `h3seq` — 1xx* + final + trailers: each block buffer ≤ limit, at most seven of them per response
  (`h3_budget_sections`, `h3_trailer_over_limit_refused`); a joint budget `limit - used` on `UInt64`
  (`u64_guarded_budget_sound`, `u64_unguarded_budget_wraps`).
* `digest` — `selectQop` accepts ⇒ the hash look-up succeeds, for all byte strings, for every pair
  of look-ups where acceptance implies presence (`digest_never_nil_hash`); the exact-match table of
  the code is such a pair (`digest_real_never_nil_hash`, `digest_alg_exact_spelling`); a
  case-folding test over the exact-match table is not (`example`).
* `h2set` — what `processSettings` does with each setting (`h2_setting_verdict_spec`); after any
  accepted sequence of SETTINGS frames `cc.maxFrameSize ∈ [2^14, 2^24-1]`
  (`h2_settings_frame_size_inv`), so the CONTINUATION loop covers the block with non-empty chunks
  (`h2_header_writer_terminates`) and the body writer takes at least a byte per round
  (`h2_body_writer_progress`); `h2_zero_frame_size_spins` is what the range check prevents.
-/
namespace Req.Props.C07
open Req.Proto

namespace h1seq
open Req.C07.H1Budget Req.C07.H1Conn Req.Props.C07.h1budget

/-- what holds in every state of a connection set up with limit `L` and buffer size `B`: the
head-phase invariant while a head is read; the read buffer never grows beyond its size -/
structure CGood (L B : Nat) (s : St) : Prop where
  hL : s.L = L
  hB : s.B = B
  buf : s.buffered ≤ B
  head : s.phase = .head → Good L B s

theorem cgood_init (L B b0 : Nat) : CGood L B (init L B b0) :=
  ⟨rfl, rfl, (good_init L B b0).buf, fun _ => good_init L B b0⟩

theorem good_rearm {L B : Nat} (s : St) (hL : s.L = L) (hB : s.B = B) (hb : s.buffered ≤ B) :
    Good L B (rearm s) := by
  refine ⟨hL, hB, hb, hb, ?_, ?_, ?_, ?_⟩ <;> simp [rearm, max1xx, hL]

theorem cstep_good {L B : Nat} (s : St) (e : CEv) (h : CGood L B s) : CGood L B (cstep s e) := by
  obtain ⟨hL, hB, hb, hh⟩ := h
  cases e with
  | head e =>
    -- an event of the head phase does nothing outside it
    by_cases ph : s.phase = .head
    · have g := step_good s e (hh ph)
      exact ⟨g.hL, g.hB, g.buf, fun _ => g⟩
    · rw [cstep, step_off e ph]
      exact ⟨hL, hB, hb, hh⟩
  | bodyNet _ _ | bodyTake _ =>
    -- in the accepted phase only `buffered` moves, within `B`
    simp only [cstep]
    split
    · exact ⟨hL, hB, hb, hh⟩
    · next hp =>
      have hp' : s.phase = .accepted := by simpa using hp
      refine ⟨hL, hB, by simp only; omega, fun h2 => ?_⟩
      simp only [hp'] at h2; cases h2
  | next v =>
    simp only [cstep]
    split
    · exact ⟨hL, hB, hb, hh⟩
    · exact ⟨hL, hB, hb, fun _ => good_rearm s hL hB hb⟩

theorem crun_good {L B : Nat} (s : St) (evs : List CEv) (h : CGood L B s) :
    CGood L B (crun s evs) :=
  List.foldlRecOn evs cstep h fun s hs e _ => cstep_good s e hs

/-- On one kept-alive connection, after ANY sequence of events — any
number of responses, with or without a body, each preceded by interim heads, the loop going round by
`continue` or after the body — whenever a response head is being read the bytes held for it are at
most `MaxResponseHeaderBytes` + one read buffer, at most `MaxResponseHeaderBytes` bytes were taken
from the socket since the limit was last set, and at most 6 × that for this response. The read
buffer never exceeds its size in any phase. -/
theorem h1_budget_every_response (L B b0 : Nat) (evs : List CEv) :
    (crun (init L B b0) evs).buffered ≤ B ∧
    ((crun (init L B b0) evs).phase = .head →
      held (crun (init L B b0) evs) ≤ L + B ∧ (crun (init L B b0) evs).pulled ≤ L ∧
      (crun (init L B b0) evs).pulled + (crun (init L B b0) evs).limit = L ∧
      (crun (init L B b0) evs).total ≤ 6 * L) :=
  have g := crun_good _ evs (cgood_init L B b0)
  ⟨g.buf, fun hp => have b := good_budget (g.head hp); ⟨b.1, b.2.1, (g.head hp).lim, b.2.2.2⟩⟩

/-- Whichever way `readLoop` goes round — the `continue` of the body-less
path or the end of the loop body — the next head starts with the whole limit and nothing counted. -/
theorem h1_rearm_every_round (s : St) (viaContinue : Bool) (hp : s.phase = .accepted) :
    let s' := cstep s (.next viaContinue)
    s'.phase = .head ∧ s'.limit = s.L ∧ s'.pulled = 0 ∧ s'.headSize = 0 ∧ s'.num1xx = 0 := by
  simp [cstep, hp, rearm]

/-- Invariant of the canonical schedule `feed` while it delivers a head of `S` bytes to a
connection armed with limit `L` and buffer size `B`: everything pulled since arming is head bytes,
parsed or still buffered, and nothing beyond the head was read (`num`). -/
structure FInv (L B S : Nat) (s : St) : Prop where
  hL : s.L = L
  hB : s.B = B
  ph : s.phase = .head
  num : s.headSize + s.buffered = s.pulled ∧ s.pulled + s.limit = L ∧ s.pulled ≤ S ∧ s.buffered ≤ B

theorem feed_off (m : Nat) (s : St) (S : Nat) (h : s.phase ≠ .head) : feed m s S = s := by
  cases m with
  | zero => rfl
  | succ m => rw [feed, if_pos (by simpa using h)]

/-- What `feed` ends in: the head is accepted iff it fits the limit. The fuel hypothesis is the
termination measure: every head byte still to be parsed costs at most one `net` and one `parse`
event (`2 * (S - headSize)`, written without the subtraction), one more when the buffer is empty
and the next event is a socket read. -/
theorem feed_spec (L B S : Nat) (hB1 : 1 ≤ B) : ∀ (fuel : Nat) (s : St), FInv L B S s →
    2 * S + (if s.buffered = 0 then 1 else 0) < fuel + 2 * s.headSize →
    ((feed fuel s S).phase = .accepted ↔ S ≤ L) ∧
    (L < S → (feed fuel s S).phase = .exhausted ∧ (feed fuel s S).pulled = L) := by
  intro fuel
  induction fuel with
  | zero => intro s ⟨_, _, _, _⟩ h; omega
  | succ n ih =>
    intro s ⟨hL, hB, ph, hb, lim, ps, bB⟩ hf
    rw [feed, if_neg (by simp [ph])]
    by_cases hdone : S ≤ s.headSize
    · -- the whole head is parsed: the blank line
      rw [if_pos hdone]
      have hacc : (step s (.endHead false)).phase = .accepted := by rw [step_endHead _ ph]; rfl
      exact ⟨⟨fun _ => by omega, fun _ => hacc⟩, fun hgt => by omega⟩
    · rw [if_neg hdone]
      by_cases hb0 : s.buffered = 0
      · -- the buffer is empty: one socket read
        rw [if_pos hb0] at hf ⊢
        by_cases hl0 : s.limit = 0
        · rw [step_net_exhausted ph hl0, feed_off _ _ _ (by simp)]
          exact ⟨⟨nofun, fun h => by omega⟩, fun _ => ⟨rfl, by simp only; omega⟩⟩
        · have hr : readN s s.B (S - s.headSize) = some _ := if_neg hl0
          obtain ⟨_, hk1, hk2, hk0⟩ := readN_le _ _ _ _ hr
          rw [step_net ph hr]
          generalize min (min s.B (s.B - s.buffered)) (min s.limit (S - s.headSize)) = k at *
          have := hk0 (hB ▸ hB1) (hB ▸ hb0 ▸ hB1) (Nat.sub_pos_of_lt (Nat.lt_of_not_le hdone))
          refine ih _ ⟨hL, hB, ph, ?_⟩ ?_ <;> simp only
          · omega
          · rw [if_neg (by omega)]
            omega
      · -- the parser takes what is buffered
        rw [if_neg hb0] at hf ⊢
        rw [step_parse _ ph]
        have hk := Nat.min_le_right (S - s.headSize) s.buffered
        have hk' := Nat.min_le_left (S - s.headSize) s.buffered
        have hk0 : 0 < min (S - s.headSize) s.buffered :=
          Nat.lt_min.2 ⟨Nat.sub_pos_of_lt (Nat.lt_of_not_le hdone), Nat.pos_of_ne_zero hb0⟩
        generalize min (S - s.headSize) s.buffered = k at *
        refine ih _ ⟨hL, hB, ph, ?_⟩ ?_ <;> simp only
        · omega
        · split <;> omega

/-- `feed_spec` from a freshly armed state with an empty buffer: `2 * S + 2` events suffice. -/
theorem feed_armed (L B S : Nat) (hB1 : 1 ≤ B) (s : St) (hL : s.L = L) (hB : s.B = B)
    (ph : s.phase = .head)
    (h0 : s.headSize = 0 ∧ s.buffered = 0 ∧ s.pulled = 0 ∧ s.limit = L) :
    ((feed (2 * S + 2) s S).phase = .accepted ↔ S ≤ L) ∧
    (L < S → (feed (2 * S + 2) s S).phase = .exhausted ∧ (feed (2 * S + 2) s S).pulled = L) :=
  feed_spec L B S hB1 _ s ⟨hL, hB, ph, by omega⟩ (by rw [if_pos h0.2.1]; omega)

/-- The event level on the canonical schedule `feed`: a head of `S` bytes delivered to a freshly armed
connection with an empty buffer (any buffer size ≥ 1, however many socket reads it takes) is accepted
if and only if `S ≤ MaxResponseHeaderBytes`; a longer one ends in the "headers exceeded" error after
exactly `MaxResponseHeaderBytes` bytes were taken from the socket (the number lane `h1connseq`
observes). This holds after every `next` of a kept-alive connection whose buffer is empty, and on a
fresh connection (`h1_size_rule_fresh`). It is the rule `verdictGo` applies at the response level
(`final > L` refuses, with `L` bytes pulled); the statement itself speaks of `feed` and `cstep` only. -/
theorem h1_size_rule_refines (L B S : Nat) (hB : 1 ≤ B) (s : St) (hs : s.phase = .accepted)
    (hL : s.L = L) (hB' : s.B = B) (he : s.buffered = 0) (v : Bool) :
    let a := cstep s (.next v)
    ((feed (2 * S + 2) a S).phase = .accepted ↔ S ≤ L) ∧
    (L < S → (feed (2 * S + 2) a S).phase = .exhausted ∧ (feed (2 * S + 2) a S).pulled = L) := by
  have ha : cstep s (.next v) = rearm s := by simp [cstep, hs]
  simp only [ha]
  exact feed_armed L B S hB _ hL hB' rfl ⟨rfl, he, rfl, hL⟩

theorem h1_size_rule_fresh (L B S : Nat) (hB : 1 ≤ B) :
    ((feed (2 * S + 2) (init L B 0) S).phase = .accepted ↔ S ≤ L) ∧
    (L < S → (feed (2 * S + 2) (init L B 0) S).phase = .exhausted ∧ (feed (2 * S + 2) (init L B 0) S).pulled = L) :=
  feed_armed L B S hB _ rfl rfl rfl ⟨rfl, Nat.zero_min _, rfl, rfl⟩

example : (feed 22 (init 10 4 0) 10).phase = .accepted := by decide
example : (feed 24 (init 10 4 0) 11).phase = .exhausted ∧ (feed 24 (init 10 4 0) 11).pulled = 10 := by decide

theorem verdictGo_ok (L final : Nat) : ∀ (n : Nat) (hs : List Nat), n ≤ max1xx →
    verdictGo L final n hs = .ok → final ≤ L ∧ (∀ h ∈ hs, h ≤ L) ∧ n + hs.length ≤ max1xx
  | n, [], hn0, h => by
    simp only [verdictGo] at h
    split at h
    · cases h
    · exact ⟨by omega, by simp, by simpa using hn0⟩
  | n, x :: rest, _, h => by
    simp only [verdictGo] at h
    split at h
    · cases h
    · split at h
      · cases h
      · next hx hn =>
        obtain ⟨a, b, c⟩ := verdictGo_ok L final (n + 1) rest (by omega) h
        refine ⟨a, ?_, ?_⟩
        · intro y hy
          rcases List.mem_cons.mp hy with rfl | hy
          · omega
          · exact b y hy
        · simp only [List.length_cons]; omega

theorem connRun_get (L : Nat) : ∀ (rs : List Resp) (c i : Nat) (r : Resp) (o : Out × Nat),
    rs[i]? = some r → (connRun L c rs)[i]? = some o → o.1 = verdict L r
  | [], _, _, _, _, hr, _ => by cases hr
  | _ :: _, _, 0, _, _, hr, h => by cases hr; cases h; rfl
  | _ :: rest, _, i + 1, r, o, hr, h => connRun_get L rest _ i r o hr h

/-- In ANY sequence of responses on kept-alive connections, whatever
preceded it (body-less responses, responses with bodies, refused ones), a response is accepted only
if its final head and every interim head before it fit `MaxResponseHeaderBytes` and there are at
most five interim heads. -/
theorem h1_seq_accept_size (L c i k : Nat) (rs : List Resp) (r : Resp)
    (hr : rs[i]? = some r) (h : (connRun L c rs)[i]? = some (.ok, k)) :
    r.final ≤ L ∧ (∀ x ∈ r.interim, x ≤ L) ∧ r.interim.length ≤ 5 := by
  obtain ⟨a, b, c⟩ := verdictGo_ok L r.final 0 r.interim (Nat.zero_le _)
    (connRun_get L rs c i r _ hr h).symm
  exact ⟨a, b, by simpa [max1xx] using c⟩

/-- A response whose final head is longer than the limit is refused at
every position of every sequence. -/
theorem h1_seq_refused (L c i : Nat) (rs : List Resp) (r : Resp) (o : Out × Nat)
    (hr : rs[i]? = some r) (hbig : r.final > L) (h : (connRun L c rs)[i]? = some o) : o.1 ≠ .ok :=
  fun ho => Nat.not_le_of_gt hbig (verdictGo_ok L r.final 0 r.interim (Nat.zero_le _)
    ((connRun_get L rs c i r o hr h).symm.trans ho)).1

/-- non-vacuity: limit 64; a 204 (40-byte head) then a 200 with a 4000-byte head on the same
connection: the second is refused after exactly 64 bytes, the third request uses connection 1 -/
example : (connRun 64 0 [⟨[], 40, true, false⟩, ⟨[], 4000, false, false⟩, ⟨[30, 30], 50, false, false⟩]).map renderOut
    = ["ok@0", "big@0/64", "ok@1"] := by decide
/-- non-vacuity, event level: after a body-less response went round by `continue`, a flood is cut at the limit -/
example : (crun (init 10 4 0) [.head (.net 4 3), .head (.parse 3), .head (.endHead false), .next true,
    .head (.net 4 100), .head (.parse 4), .head (.net 4 100), .head (.parse 4), .head (.net 4 100),
    .head (.parse 4), .head (.net 4 100)]).phase = .exhausted := by decide

end h1seq

namespace h3seq
open Req.C07.H3Budget Req.C07.H3Sections Req.H3.Frame

/-- The header-block buffers allocated so far: at most `k` of them, none above `max`. -/
structure Fits (max k : Nat) (l : List Nat) : Prop where
  le : ∀ a ∈ l, a ≤ max
  len : l.length ≤ k

theorem Fits.mono {max k k' : Nat} {l : List Nat} (h : Fits max k l) (hk : k ≤ k') : Fits max k' l :=
  ⟨h.le, Nat.le_trans h.len hk⟩

theorem Fits.push {max k x : Nat} {l : List Nat} (h : Fits max k l) (hx : x ≤ max) :
    Fits max (k + 1) (l ++ [x]) :=
  ⟨fun a ha => (List.mem_append.mp ha).elim (h.le a) fun ha => List.mem_singleton.mp ha ▸ hx,
   by simpa using h.len⟩

theorem Fits.sum_le {max k : Nat} : ∀ {l : List Nat}, Fits max k l → l.sum ≤ k * max
  | [], _ => Nat.zero_le _
  | x :: rest, h => by
    cases k with
    | zero => exact absurd h.len (by simp)
    | succ k =>
      have := Fits.sum_le (l := rest) (k := k)
        ⟨fun a ha => h.le a (List.mem_cons_of_mem _ ha), by simpa using h.len⟩
      have := h.le x List.mem_cons_self
      simp only [List.sum_cons, Nat.succ_mul]
      omega

theorem body_after_trailer (max : Nat) : ∀ (fuel : Nat) (allocs : List Nat) (input : Bytes),
    (body max fuel true allocs input).allocs = allocs := by
  intro fuel
  induction fuel with
  | zero => intro allocs input; simp [body]
  | succ n ih =>
    intro allocs input
    unfold body
    split <;> simp

theorem body_fits (max : Nat) {k : Nat} : ∀ (fuel : Nat) (allocs : List Nat) (input : Bytes),
    Fits max k allocs → Fits max (k + 1) (body max fuel false allocs input).allocs := by
  intro fuel
  induction fuel with
  | zero => intro allocs input h; exact h.mono (Nat.le_succ _)
  | succ n ih =>
    intro allocs input h
    have h1 := h.mono (Nat.le_succ k)
    unfold body
    split
    · exact h1
    · exact h1
    · simp only [Bool.false_eq_true, if_false]
      split
      · exact h1
      · exact ih allocs _ h
    · next l rest hp =>
      simp only [Bool.false_eq_true, if_false]
      split
      · exact h1
      · next hl =>
        split
        · exact h.push (Nat.le_of_not_gt hl)
        · rw [body_after_trailer]
          exact h.push (Nat.le_of_not_gt hl)
    · exact h1

theorem headFail_fits {max k : Nat} {allocs : List Nat} (r : Req.C07.H3Budget.Res)
    (h : Fits max k allocs) (hr : r.alloc ≤ max) : Fits max (k + 1) (headFail allocs r).allocs := by
  unfold headFail
  split
  · exact h.mono (Nat.le_succ _)
  · exact h.push hr

/-- After `n` interim sections: one buffer for each of the `max1xx - n` that may still come, one for
the head that ends the loop (final, failed, or the one too many), one for the trailers. -/
theorem heads_fits (max : Nat) : ∀ (statuses : List Nat) (n k : Nat) (allocs : List Nat) (input : Bytes),
    n ≤ max1xx → Fits max k allocs →
    Fits max (k + (max1xx - n) + 2) (heads max statuses n allocs input).allocs
  | [], n, k, allocs, input, _, h => by
    simp only [heads]
    exact (headFail_fits _ h (h3budget.h3_alloc_le max input)).mono (by omega)
  | st :: sts, n, k, allocs, input, hn, h => by
    have hr := h3budget.h3_alloc_le max input
    simp only [heads]
    split
    · exact (headFail_fits _ h hr).mono (by omega)
    · split
      · split
        · exact (h.push hr).mono (by omega)
        · exact (heads_fits max sts (n + 1) (k + 1) _ _ (by omega) (h.push hr)).mono (by omega)
      · exact (body_fits max _ _ _ (h.push hr)).mono (by omega)

/-- Whatever arrives on the request stream — any number of informational
sections, a final section, DATA frames, a trailer section, skipped and hostile frames with lying or
62-bit declared lengths — EVERY header-block buffer the client allocates for the response (each 1xx
section, the final section, the trailers) is at most `MaxResponseHeaderBytes`, there are at most
seven of them (five interim + one more head + trailers), so at most 7 × the limit over the whole
response; each buffer is garbage once its section is decoded. -/
theorem h3_budget_sections (max : Nat) (statuses : List Nat) (input : Bytes) :
    (∀ a ∈ (readResponse max statuses input).allocs, a ≤ max) ∧
    (readResponse max statuses input).allocs.length ≤ 7 ∧
    (readResponse max statuses input).allocs.sum ≤ 7 * max :=
  have h : Fits max 7 _ := heads_fits max statuses 0 0 [] input (Nat.zero_le _) ⟨nofun, Nat.le_refl _⟩
  ⟨h.le, h.len, h.sum_le⟩

/-- A trailer HEADERS frame that announces more than the limit is
refused before anything is allocated or read of it — whatever was read before it. -/
theorem h3_trailer_over_limit_refused (max fuel l : Nat) (allocs : List Nat) (input rest : Bytes)
    (hp : parseNext (input.length + 1) input = (.ok (.headers l), rest)) (hl : l > max) :
    body max (fuel + 1) false allocs input = ⟨.trailerTooLarge, allocs, rest⟩ := by
  simp [body, hp, hl]

/-- what is left of a byte budget, computed the safe way -/
def remaining (limit used : UInt64) : UInt64 := if used ≤ limit then limit - used else 0

/-- With the comparison in front of the subtraction, a length that
passes `l ≤ remaining limit used` keeps the total within the limit — for all 64-bit values. -/
theorem u64_guarded_budget_sound (limit used l : UInt64) (h : l ≤ remaining limit used) :
    l.toNat + used.toNat ≤ limit.toNat ∨ l = 0 := by
  unfold remaining at h
  split at h
  · next hu =>
    left
    have h1 : l.toNat ≤ (limit - used).toNat := UInt64.le_iff_toNat_le.mp h
    have h2 : used.toNat ≤ limit.toNat := UInt64.le_iff_toNat_le.mp hu
    rw [UInt64.toNat_sub_of_le _ _ hu] at h1
    omega
  · right
    have h1 : l.toNat ≤ (0 : UInt64).toNat := UInt64.le_iff_toNat_le.mp h
    exact UInt64.toNat_inj.mp (by simpa using h1)

/-- Without it, once the sections read so far exceed the limit the
"rest of the budget" is astronomically large: `limit - used = 2^64 - (used - limit)`, so every
declared length up to that passes the check. -/
theorem u64_unguarded_budget_wraps (limit used : UInt64) (h : limit < used) :
    (limit - used).toNat = 2 ^ 64 - (used.toNat - limit.toNat) := by
  have h1 : limit.toNat < used.toNat := UInt64.lt_iff_toNat_lt.mp h
  have h2 := used.toNat_lt
  rw [UInt64.toNat_sub]
  omega

/-- non-vacuity: limit 2048, 3000 bytes of header sections read: a 2^50-byte trailer passes the
unguarded check and is refused by the guarded one -/
example : ((1125899906842624 : UInt64) ≤ (2048 : UInt64) - 3000) = true := by decide
example : ((1125899906842624 : UInt64) ≤ remaining 2048 3000) = false := by decide
/-- a 103 section, a 200 section, DATA(2), a trailer section: three buffers of 1 byte; a trailer
announcing 2^40 bytes under a 1000-byte limit: refused, nothing allocated for it -/
example : readResponse 1000 [103, 200] [0x01, 0x01, 0xaa, 0x01, 0x01, 0xbb, 0x00, 0x02, 0x68, 0x69, 0x01, 0x01, 0xcc] =
    ⟨.ok, [1, 1, 1], []⟩ := by decide
example : (readResponse 1000 [200] [0x01, 0x01, 0xaa, 0x01, 0xc0, 0, 0, 1, 0, 0, 0, 0, 0xcc]).cls = .trailerTooLarge ∧
    (readResponse 1000 [200] [0x01, 0x01, 0xaa, 0x01, 0xc0, 0, 0, 1, 0, 0, 0, 0, 0xcc]).allocs = [1] := by decide
example : (readResponse 1000 [103, 103, 103, 103, 103, 103, 200]
    [1, 0, 1, 0, 1, 0, 1, 0, 1, 0, 1, 0, 1, 0]).cls = .tooMany1xx := by decide

end h3seq

namespace digest
open Req.Digest Req.C07.DigestAlg

/-- For EVERY `WWW-Authenticate` text (all byte strings, any list of
challenges, any spelling of the `algorithm` token) — if every token the test of `selectQop` accepts
has an entry in the table `credentials.h` reads, the nil constructor is never called. -/
theorem digest_never_nil_hash (T : Tables) (hT : ∀ a, T.accepts a = true → (T.hashOf a).isSome)
    (input : Bytes) : answer T input ≠ .panic := by
  unfold answer
  split
  · simp
  · split
    · simp
    · next c _ =>
      unfold authorizeUse
      split
      · simp
      · next qop hq =>
        obtain ⟨_, h1⟩ := (Req.DigestAuth.selectQop_ok hq).1
        have h2 : T.accepts c.algorithm = true := by
          unfold asAlgOf at h1
          split at h1
          · assumption
          · cases h1
        have h3 := hT _ h2
        split
        · next hn => simp [hn] at h3
        · simp

/-- The code as it is — one exact-match table behind both look-ups —
never calls a nil constructor, whatever the server sends. -/
theorem digest_real_never_nil_hash (input : Bytes) : answer real input ≠ .panic :=
  digest_never_nil_hash real (fun _ h => h) input

/-- The only spellings of the algorithm that are accepted are the
seven keys of `hashFuncs`, byte for byte — every case variant (`md5`, `Sha-256`, `MD5-SESS`) is an
unsupported algorithm, not a crash. -/
theorem digest_alg_exact_spelling (a : Bytes) (h : (algOf a).isSome) : a ∈ hashTable.map Prod.fst := by
  cases hv : algOf a with
  | none => simp [hv] at h
  | some v => exact List.mem_map.2 ⟨(a, v), lookup_mem a hashTable v hv, rfl⟩

/-- non-vacuity / necessity of the hypothesis: a test that folds case in front of the exact-match
table lets `Digest realm="r", nonce="n", algorithm=md5` reach the nil constructor; the real pair
answers "algorithm is not supported"; `algorithm=MD5` is answered with an MD5 response -/
example : answer foldAccept [68, 105, 103, 101, 115, 116, 32, 114, 101, 97, 108, 109, 61, 34, 114, 34, 44, 32,
    110, 111, 110, 99, 101, 61, 34, 110, 34, 44, 32, 97, 108, 103, 111, 114, 105, 116, 104, 109, 61, 109, 100, 53] = .panic := by
  decide
example : answer real [68, 105, 103, 101, 115, 116, 32, 114, 101, 97, 108, 109, 61, 34, 114, 34, 44, 32,
    110, 111, 110, 99, 101, 61, 34, 110, 34, 44, 32, 97, 108, 103, 111, 114, 105, 116, 104, 109, 61, 109, 100, 53] =
    .err .algNotSupported := by
  decide
example : answer real [68, 105, 103, 101, 115, 116, 32, 114, 101, 97, 108, 109, 61, 34, 114, 34, 44, 32,
    110, 111, 110, 99, 101, 61, 34, 110, 34, 44, 32, 97, 108, 103, 111, 114, 105, 116, 104, 109, 61, 77, 68, 53] =
    .ok .md5 [] := by
  decide

end digest

namespace h2set
open Req.C07.H2Settings Req.H2.Frame Req.Lemmas.C05.Frag

def FrameSizeOk (p : Peer) : Prop := minFrameSize ≤ p.maxFrameSize ∧ p.maxFrameSize ≤ maxFrameSizeLimit

theorem applySetting_inv (p p' : Peer) (id val : Nat) (h : FrameSizeOk p)
    (ha : applySetting p id val = .ok p') : FrameSizeOk p' := by
  unfold applySetting at ha
  split at ha
  · next hv =>
    simp only [Except.ok.injEq] at ha
    subst ha
    split
    · next h5 =>
      simp only [settingVerdict, h5, if_true] at hv
      split at hv
      · cases hv
      · next hr => unfold FrameSizeOk; simp only; omega
    · -- the other settings leave `maxFrameSize` alone
      exact Req.Lemmas.ite_ind FrameSizeOk h <| Req.Lemmas.ite_ind FrameSizeOk h <|
        Req.Lemmas.ite_ind FrameSizeOk h h
  · cases ha

theorem applyFrame_inv : ∀ (f : List (Nat × Nat)) (p p' : Peer), FrameSizeOk p →
    applyFrame p f = .ok p' → FrameSizeOk p'
  | [], p, p', h, ha => by simp only [applyFrame, Except.ok.injEq] at ha; subst ha; exact h
  | (id, val) :: rest, p, p', h, ha => by
    simp only [applyFrame] at ha
    split at ha
    · next q hq => exact applyFrame_inv rest q p' (applySetting_inv p q id val h hq) ha
    · cases ha

/-- After ANY sequence of SETTINGS frames that the client accepted
— any identifiers, any 32-bit values, duplicates, in any order — the frame size its writers use is
within `[2^14, 2^24-1]`. -/
theorem h2_settings_frame_size_inv : ∀ (fs : List (List (Nat × Nat))) (p p' : Peer), FrameSizeOk p →
    applyFrames p fs = .ok p' → FrameSizeOk p'
  | [], p, p', h, ha => by simp only [applyFrames, Except.ok.injEq] at ha; subst ha; exact h
  | f :: rest, p, p', h, ha => by
    simp only [applyFrames] at ha
    split at ha
    · next q hq => exact h2_settings_frame_size_inv rest q p' (applyFrame_inv f p q h hq) ha
    · cases ha

theorem frameSizeOk_default : FrameSizeOk {} := by
  unfold FrameSizeOk minFrameSize maxFrameSizeLimit; simp

/-- With the frame size any accepted SETTINGS history leaves, the
CONTINUATION loop of `writeHeaders` cuts every header block into non-empty chunks of at most that
size which together are the block — at most one frame per block byte, no empty frame, no slice
panic (with or without a header priority). -/
theorem h2_header_writer_terminates (fs : List (List (Nat × Nat))) (p' : Peer)
    (ha : applyFrames {} fs = .ok p') (prio : Priority) (block : Bytes) :
    (∃ frs, fragments prio p'.maxFrameSize block = .ok frs) ∧
    (chunks p'.maxFrameSize block.length block).flatten = block ∧
    (chunks p'.maxFrameSize block.length block).length ≤ block.length ∧
    ∀ c ∈ chunks p'.maxFrameSize block.length block, c.length ≤ p'.maxFrameSize ∧ c ≠ [] := by
  have h := h2_settings_frame_size_inv fs {} p' frameSizeOk_default ha
  unfold FrameSizeOk minFrameSize at h
  have h1 : 1 ≤ p'.maxFrameSize := by omega
  refine ⟨?_, chunks_flatten _ h1 _ _ (Nat.le_refl _), chunks_length_le _ h1 _ _, chunks_bound _ h1 _ _⟩
  unfold fragments
  split
  · exact ⟨_, rfl⟩
  · split
    · next hc => simp at hc; omega
    · exact ⟨_, rfl⟩

/-- The request-body writer — `awaitFlowControl` takes
`min(available, len(remain), cc.maxFrameSize)` bytes per DATA frame (model `H2.Conn.awaitTake` of
C06) — makes progress on every round after any accepted SETTINGS history: with window and data
available it takes at least one byte; with a frame size of 0 it would take none, for ever. -/
theorem h2_body_writer_progress (fs : List (List (Nat × Nat))) (p' : Peer)
    (ha : applyFrames {} fs = .ok p') (a maxBytes : Int) (h1 : 1 ≤ a) (h2 : 1 ≤ maxBytes) :
    1 ≤ Req.H2.Conn.awaitTake a maxBytes p'.maxFrameSize ∧
    Req.H2.Conn.awaitTake a maxBytes 0 = 0 := by
  have h := h2_settings_frame_size_inv fs {} p' frameSizeOk_default ha
  unfold FrameSizeOk minFrameSize at h
  unfold Req.H2.Conn.awaitTake
  -- each of the two `if`s of `awaitTake` is a minimum: of three numbers ≥ 1, resp. with 0 among them
  constructor <;> simp only <;> split <;> split <;> omega

/-- What the range check prevents — with a frame size of 0 every
iteration of the loop writes an empty frame and consumes nothing: whatever number of iterations is
allowed, all of them are used and the block is still there. -/
theorem h2_zero_frame_size_spins (b : Bytes) (hb : b ≠ []) :
    ∀ fuel : Nat, chunks 0 fuel b = List.replicate fuel [] := by
  intro fuel
  induction fuel with
  | zero => simp [chunks]
  | succ n ih =>
    unfold chunks
    have : b.isEmpty = false := by cases b <;> simp_all
    simp [this, ih, List.replicate_succ]

/-- Every (identifier, value) pair a server can send is classified:
refused with PROTOCOL_ERROR exactly for MAX_FRAME_SIZE outside the legal range, with
FLOW_CONTROL_ERROR exactly for INITIAL_WINDOW_SIZE above 2^31-1, accepted otherwise. -/
theorem h2_setting_verdict_spec (id val : Nat) :
    (settingVerdict id val = .protocolError ↔ id = 5 ∧ (val < 16384 ∨ val > 16777215)) ∧
    (settingVerdict id val = .flowControlError ↔ id = 4 ∧ val > 2147483647) := by
  unfold settingVerdict minFrameSize maxFrameSizeLimit
  -- the switch on `id` (5, 4, any other), then the range test of that setting
  split
  · split <;> simp_all
  · split
    · split <;> simp_all
    · simp_all

/-- non-vacuity: the default, a legal change, the hostile values -/
example : applyFrames {} [[(3, 100), (5, 65536)], [(4, 0), (1, 0), (2, 7)]] =
    .ok { maxFrameSize := 65536, initialWindow := 0, maxConcurrent := 100 } := by rfl
example : applyFrames {} [[(5, 0)]] = .error .protocolError := by rfl
example : applyFrames {} [[(5, 16383)]] = .error .protocolError := by rfl
example : applyFrames {} [[(5, 16777216)]] = .error .protocolError := by rfl
example : applyFrames {} [[(4, 2147483648)]] = .error .flowControlError := by rfl
example : chunks 0 3 [1, 2] = [[], [], []] := by decide

end h2set
end Req.Props.C07
