import Req.Client.Rewrite
import Req.Props.C16Wire
import Req.Lemmas.Trim
/-!
C16 on three classes of inputs:

1. order lists with duplicates (`SetHeaderOrder` called twice with overlapping parts, one name in
   two spellings): the listed fields come out as the listed fields of the input STABLY sorted by
   "last occurrence in the list", whatever other fields are present; a list with duplicates orders
   them exactly as its duplicate-free form `dedupLast`, and the output is a permutation of the input
   either way;
2. transparent re-sends (the transport writes the same request object again, after
   `headerWriteSubset` has sanitised the written values in place): same bytes on every write
   (sanitising twice = once: the sanitised value has no CR / LF left and trimming is idempotent);
3. names next to the bookkeeping keys: among the names beginning with `__` exactly the two keys
   are excluded; their extensions, prefixes and suffixes are not, and travel like any header.
-/
namespace Req.Props.C16Round5
open Req.Proto Req.Ascii Req.BStr Req.Validate Req.HeaderSort Req.H1 Req.H2 Req.Rewrite
open Req.Props.C16 Req.Props.C16Wire

/-! ## 1. order lists with duplicates -/

/-- `lastIndex` by recursion on the order list: the position of the last entry whose canonical
form is `ck`. -/
def lastIdxSpec (ck : Bytes) : List Bytes → Option Nat
  | [] => none
  | o :: os =>
    match lastIdxSpec ck os with
    | some j => some (j + 1)
    | none => if canonicalKey o == ck then some 0 else none

theorem lastIndex_go_eq (ck : Bytes) (l : List Bytes) (i : Nat) (acc : Option Nat) :
    lastIndex.go ck l i acc =
      match lastIdxSpec ck l with
      | some j => some (i + j)
      | none => acc := by
  induction l generalizing i acc with
  | nil => simp [lastIndex.go, lastIdxSpec]
  | cons o os ih =>
    simp only [lastIndex.go, lastIdxSpec]
    rw [ih]
    cases h : lastIdxSpec ck os with
    | some j => simp; omega
    | none =>
      simp only
      cases hm : canonicalKey o == ck <;> simp

theorem lastIndex_spec (order : List Bytes) (k : Bytes) :
    lastIndex order k = lastIdxSpec (canonicalKey k) order := by
  unfold lastIndex
  simp only [lastIndex_go_eq]
  cases lastIdxSpec (canonicalKey k) order <;> simp

theorem lastIdxSpec_cons_isSome (ck o : Bytes) (os : List Bytes) :
    (lastIdxSpec ck (o :: os)).isSome = ((lastIdxSpec ck os).isSome || (canonicalKey o == ck)) := by
  simp only [lastIdxSpec]
  cases lastIdxSpec ck os <;> cases canonicalKey o == ck <;> simp

theorem lastIdxSpec_isSome (ck : Bytes) (os : List Bytes) :
    (lastIdxSpec ck os).isSome = os.any (fun p => canonicalKey p == ck) := by
  induction os with
  | nil => rfl
  | cons o os ih => rw [lastIdxSpec_cons_isSome, ih, List.any_cons, Bool.or_comm]

/-- **being listed** is: some entry of the order list has the same canonical form. -/
theorem lastIndex_isSome (order : List Bytes) (k : Bytes) :
    (lastIndex order k).isSome = order.any (fun o => canonicalKey o == canonicalKey k) := by
  rw [lastIndex_spec, lastIdxSpec_isSome]

theorem lastIdxSpec_cons_olt (ck ck' : Bytes) (o : Bytes) (os : List Bytes) :
    olt (lastIdxSpec ck (o :: os)) (lastIdxSpec ck' (o :: os)) =
      (olt (lastIdxSpec ck os) (lastIdxSpec ck' os) ||
        (!(lastIdxSpec ck os).isSome && (lastIdxSpec ck' os).isSome && (canonicalKey o == ck))) := by
  simp only [lastIdxSpec]
  cases ha : lastIdxSpec ck os <;> cases hb : lastIdxSpec ck' os <;>
    cases hm : canonicalKey o == ck <;> cases hm' : canonicalKey o == ck' <;> simp [olt]

theorem lastIdxSpec_isSome_of_later (ck o : Bytes) (os : List Bytes)
    (hr : os.any (fun p => canonicalKey p == canonicalKey o) = true) (hm : (canonicalKey o == ck) = true) :
    (lastIdxSpec ck os).isSome = true := by
  rw [lastIdxSpec_isSome]
  have : canonicalKey o = ck := by simpa using hm
  rw [← this]; exact hr

theorem lastIdxSpec_dedup_isSome (ck : Bytes) (order : List Bytes) :
    (lastIdxSpec ck (dedupLast order)).isSome = (lastIdxSpec ck order).isSome := by
  induction order with
  | nil => rfl
  | cons o os ih =>
    unfold dedupLast
    split
    next hr =>
      rw [ih, lastIdxSpec_cons_isSome]
      cases hm : canonicalKey o == ck with
      | false => simp
      | true => simp [lastIdxSpec_isSome_of_later ck o os hr hm]
    next hr => rw [lastIdxSpec_cons_isSome, lastIdxSpec_cons_isSome, ih]

theorem lastIdxSpec_dedup_olt (order : List Bytes) : ∀ ck ck' : Bytes,
    olt (lastIdxSpec ck (dedupLast order)) (lastIdxSpec ck' (dedupLast order)) =
      olt (lastIdxSpec ck order) (lastIdxSpec ck' order) := by
  induction order with
  | nil => intro _ _; rfl
  | cons o os ih =>
    intro ck ck'
    unfold dedupLast
    split
    next hr =>
      rw [ih, lastIdxSpec_cons_olt]
      cases hm : canonicalKey o == ck with
      | false => simp
      | true => simp [lastIdxSpec_isSome_of_later ck o os hr hm]
    next hr =>
      rw [lastIdxSpec_cons_olt, lastIdxSpec_cons_olt, ih, lastIdxSpec_dedup_isSome, lastIdxSpec_dedup_isSome]

theorem mem_dedupLast {a : Bytes} {order : List Bytes} (h : a ∈ dedupLast order) : a ∈ order := by
  induction order with
  | nil => simp [dedupLast] at h
  | cons o os ih =>
    unfold dedupLast at h
    split at h
    · exact List.mem_cons_of_mem _ (ih h)
    · rcases List.mem_cons.mp h with rfl | h
      · exact List.mem_cons_self ..
      · exact List.mem_cons_of_mem _ (ih h)

/-- `dedupLast` really is duplicate-free: no two entries with the same canonical form. -/
theorem dedupLast_nodup (order : List Bytes) :
    (dedupLast order).Pairwise (fun a b => canonicalKey a ≠ canonicalKey b) := by
  induction order with
  | nil => simp [dedupLast]
  | cons o os ih =>
    unfold dedupLast
    split
    · exact ih
    next hr =>
      refine List.Pairwise.cons ?_ ih
      intro b hb heq
      apply hr
      rw [List.any_eq_true]
      exact ⟨b, mem_dedupLast hb, by simp [heq]⟩


theorem lastIndex_congr (order : List Bytes) {k k' : Bytes} (h : canonicalKey k = canonicalKey k') :
    lastIndex order k = lastIndex order k' := by
  unfold lastIndex; rw [h]

/-- for key/value lists of any length and ANY order list (duplicates,
other case, unknown names), the listed fields come out as the listed fields of the input stably
sorted by the position of the LAST list entry naming them: fields of one name stay together in
their original relative order, none is written twice, none is dropped — and the unlisted fields
have no influence on it at all. -/
theorem sort_listed_subsequence (kvs : List KV) (order : List Bytes) :
    (sortKeyValues kvs order).filter (listedBy order) =
      stableSort (fun kv => lastIndex order kv.key) (kvs.filter (listedBy order)) :=
  isort_listed_subsequence _ kvs

/-- "no matter how many other headers are present": two field lists with the same listed fields
produce the same sequence of listed fields. -/
theorem sort_listed_independent_of_others (kvs kvs' : List KV) (order : List Bytes)
    (h : kvs.filter (listedBy order) = kvs'.filter (listedBy order)) :
    (sortKeyValues kvs order).filter (listedBy order) =
      (sortKeyValues kvs' order).filter (listedBy order) := by
  rw [sort_listed_subsequence, sort_listed_subsequence, h]

theorem listedBy_dedup (order : List Bytes) : listedBy (dedupLast order) = listedBy order := by
  funext kv
  simp only [listedBy, lastIndex_spec, lastIdxSpec_dedup_isSome]

/-- multiset exactness for every order list, duplicates included: each field of the input is in
the output exactly as often as in the input. -/
theorem sort_count_exact (kvs : List KV) (order : List Bytes) (kv : KV) :
    (sortKeyValues kvs order).countP (fun x => decide (x = kv)) = kvs.countP (fun x => decide (x = kv)) :=
  (sort_perm kvs order).countP_eq _

/-- an order list with duplicates (same name twice, also in
two spellings) behaves as its duplicate-free form (`dedupLast`: the last occurrence of each name
kept): the output is a permutation of the same fields (multiset exact — a duplicated entry neither
writes a field twice nor drops another one) and the listed fields appear in exactly the same
sequence. -/
theorem sort_order_list_dedup_irrelevant (kvs : List KV) (order : List Bytes) :
    (sortKeyValues kvs order).Perm (sortKeyValues kvs (dedupLast order)) ∧
    (sortKeyValues kvs order).filter (listedBy order) =
      (sortKeyValues kvs (dedupLast order)).filter (listedBy (dedupLast order)) := by
  refine ⟨(sort_perm kvs order).trans (sort_perm kvs (dedupLast order)).symm, ?_⟩
  rw [sort_listed_subsequence, sort_listed_subsequence, listedBy_dedup]
  apply (stableSort_congr _ _ _ _).symm
  intro x y
  simp only [lastIndex_spec]
  exact lastIdxSpec_dedup_olt order _ _

/-- appending further entries to an order list never changes the multiset of fields written. -/
theorem sort_order_append_perm (kvs : List KV) (order dup : List Bytes) :
    (sortKeyValues kvs (order ++ dup)).Perm (sortKeyValues kvs order) :=
  (sort_perm kvs _).trans (sort_perm kvs order).symm

/-- non-vacuity: fields X-A, X-B, X-C, X-D, list "X-B","x-b","X-D":
the duplicate-free form is "x-b","X-D"; X-B is written once, X-D is not lost. -/
example :
    dedupLast [[88, 45, 66], [120, 45, 98], [88, 45, 68]] = [[120, 45, 98], [88, 45, 68]] ∧
    (sortKeyValues [⟨[88, 45, 65], [[49]]⟩, ⟨[88, 45, 66], [[50]]⟩, ⟨[88, 45, 67], [[51]]⟩, ⟨[88, 45, 68], [[52]]⟩]
      [[88, 45, 66], [120, 45, 98], [88, 45, 68]]).map (·.key) =
      [[88, 45, 65], [88, 45, 66], [88, 45, 67], [88, 45, 68]] ∧
    (sortKeyValues [⟨[88, 45, 68], [[52]]⟩, ⟨[88, 45, 65], [[49]]⟩, ⟨[88, 45, 66], [[50]]⟩]
      [[88, 45, 66], [120, 45, 98], [88, 45, 68]]).map (·.key) =
      [[88, 45, 65], [88, 45, 66], [88, 45, 68]] := by decide +kernel

/-- whatever the order list, the fields of one name (canonical forms
compared: a key in several spellings, the separate one-value groups HTTP/3 makes of a multi-valued
key) come out in the order they were collected — the sort never swaps two values of a header. -/
theorem sort_same_name_order (kvs : List KV) (order : List Bytes) (ck : Bytes) :
    (sortKeyValues kvs order).filter (fun kv => canonicalKey kv.key == ck) =
      kvs.filter (fun kv => canonicalKey kv.key == ck) :=
  isort_filter_same_idx _ _ kvs fun _ _ _ _ hx hy =>
    lastIndex_congr order ((eq_of_beq hx).trans (eq_of_beq hy).symm)

/-- specifying an order never reorders the OTHER fields among
themselves: the unlisted fields come out in collection order. -/
theorem sort_unlisted_keep_order (kvs : List KV) (order : List Bytes) :
    (sortKeyValues kvs order).filter (fun kv => !listedBy order kv) =
      kvs.filter (fun kv => !listedBy order kv) :=
  isort_filter_same_idx _ _ kvs fun x _ y _ hx hy => by
    simp only [listedBy, Bool.not_eq_true', Option.isSome_eq_false_iff, Option.isNone_iff_eq_none] at hx hy
    rw [hx, hy]

/-- non-vacuity: X-A=1, Z, x-a=2, B, X-A=3 with the list "B","x-A": the three X-A fields stay 1, 2, 3. -/
example :
    (sortKeyValues [⟨[88, 45, 65], [[49]]⟩, ⟨[90], [[48]]⟩, ⟨[120, 45, 97], [[50]]⟩, ⟨[66], [[57]]⟩, ⟨[88, 45, 65], [[51]]⟩]
      [[66], [120, 45, 65]]).map (·.values) = [[[57]], [[49]], [[48]], [[50]], [[51]]] := by decide +kernel


/-- **Multi-valued headers on HTTP/3** (every value is its own key/value group there): for a key
with an ordinary name that has a single spelling in the header map, the fields of that name in the
header block are — in arrival order — the caller's values in the caller's order, whatever the two
order lists do (the sort never swaps two fields of one name: `isort_filter_same_idx`). -/
theorem value_order_h3 (r : FReq) (fs : List (Bytes × Bytes)) (h : fields .h3 r = .ok fs)
    (kv : KV) (n : Bytes) (hn : ordinary n = true) (hnd : (r.header.map (·.key)).Nodup)
    (hm : kv ∈ r.header) (hk : lower kv.key = n)
    (huniq : ∀ kv' ∈ r.header, lower kv'.key = n → kv' = kv) :
    fs.filter (fun f => f.1 == n) = kv.values.map fun v => (n, v) :=
  value_order_h23 .h3 r fs h kv n hn hnd hm hk huniq

/-- non-vacuity: `X-M: 3, 1, 2` on HTTP/3 with an order list naming it: 3, 1, 2 on the wire. -/
example :
    ((fields .h3 { method := [71, 69, 84], url := { scheme := [104], host := [104], path := [47] }, header :=
        [⟨[88, 45, 77], [[51], [49], [50]]⟩, ⟨[88, 45, 65], [[57]]⟩,
         ⟨headerOrderKey, [[120, 45, 97], [120, 45, 109]]⟩] }).toOption.map
      (·.filter (fun f => f.1 == [120, 45, 109]))) =
      some [([120, 45, 109], [51]), ([120, 45, 109], [49]), ([120, 45, 109], [50])] := by decide +kernel


/-! ## 2. transparent re-sends -/

/-- what `headerWriteSubset` does to a value (CR / LF → space, trim) is
idempotent — a value it stored back into the header map is written unchanged next time: the
result has no CR / LF left, and trimming is idempotent. -/
theorem sanitizeValue_idem (v : Bytes) : sanitizeValue (sanitizeValue v) = sanitizeValue v := by
  rw [sanitizeValue, Req.H1.Origin.newlineToSpace_id _ (Req.H1.Origin.sanitizeValue_no_crlf v)]
  simp only [sanitizeValue, Req.H1.Origin.trimString_eq, Req.Trim.trimBy_idem]

/-- what `headerWriteSubset` leaves of one entry. -/
def sanitizedEntry (ex : List Bytes) (kv : KV) : KV :=
  if !ex.contains kv.key && validHeaderFieldName kv.key
  then ⟨kv.key, kv.values.map sanitizeValue⟩ else kv

theorem sanitizedInPlace_eq (h : Hdr) (ex : List Bytes) :
    sanitizedInPlace h ex = h.map (sanitizedEntry ex) := rfl

theorem sanitizedEntry_key (ex : List Bytes) (kv : KV) : (sanitizedEntry ex kv).key = kv.key := by
  unfold sanitizedEntry; split <;> rfl

theorem sanitizedEntry_excluded (ex : List Bytes) (kv : KV) (h : ex.contains kv.key = true) :
    sanitizedEntry ex kv = kv := by
  have hm : kv.key ∈ ex := by simpa using h
  unfold sanitizedEntry; simp [hm]

/-- a write changes no key of the header map (names, spelling, how many). -/
theorem sanitizedInPlace_keys (h : Hdr) (ex : List Bytes) :
    (sanitizedInPlace h ex).map (·.key) = h.map (·.key) := by
  rw [sanitizedInPlace_eq, List.map_map]
  apply List.map_congr_left
  intro kv _; exact sanitizedEntry_key ex kv

theorem insertBy_map_key (le : Bytes → Bytes → Bool) (g : KV → KV) (hg : ∀ kv, (g kv).key = kv.key)
    (x : KV) (l : List KV) :
    insertBy (fun a b => le a.key b.key) (g x) (l.map g) =
      (insertBy (fun a b => le a.key b.key) x l).map g := by
  induction l with
  | nil => rfl
  | cons y ys ih =>
    simp only [List.map_cons, insertBy, hg]
    split
    · rfl
    · simp [ih]

theorem isortBy_map_key (le : Bytes → Bytes → Bool) (g : KV → KV) (hg : ∀ kv, (g kv).key = kv.key)
    (l : List KV) :
    isortBy (fun a b => le a.key b.key) (l.map g) = (isortBy (fun a b => le a.key b.key) l).map g := by
  unfold isortBy
  induction l with
  | nil => rfl
  | cons x xs ih =>
    simp only [List.map_cons, List.foldr_cons]
    rw [ih]
    exact insertBy_map_key le g hg x _

theorem filter_map_key (p : Bytes → Bool) (g : KV → KV) (hg : ∀ kv, (g kv).key = kv.key) (l : List KV) :
    (l.map g).filter (fun kv => p kv.key) = (l.filter fun kv => p kv.key).map g := by
  rw [List.filter_map]
  congr 1
  apply List.filter_congr
  intro a _; simp [Function.comp, hg]

/-- the caller lines a write produces are the same after an earlier write went over the map. -/
theorem writeSubset_sanitizedInPlace (h : Hdr) (ex ex' : List Bytes) (mode : Bool) :
    writeSubset (sanitizedInPlace h ex') ex mode = writeSubset h ex mode := by
  unfold writeSubset
  rw [sanitizedInPlace_eq]
  have hk := sanitizedEntry_key ex'
  simp only
  rw [filter_map_key (fun k => !ex.contains k) (sanitizedEntry ex') hk]
  have hord : (if mode = true then (h.filter fun kv => !ex.contains kv.key).map (sanitizedEntry ex')
      else isortBy (fun a b => le a.key b.key) ((h.filter fun kv => !ex.contains kv.key).map (sanitizedEntry ex'))) =
      (if mode = true then (h.filter fun kv => !ex.contains kv.key)
        else isortBy (fun a b => le a.key b.key) (h.filter fun kv => !ex.contains kv.key)).map (sanitizedEntry ex') := by
    split
    · rfl
    · exact isortBy_map_key le (sanitizedEntry ex') hk _
  rw [hord, filter_map_key validHeaderFieldName (sanitizedEntry ex') hk, List.map_map]
  apply List.map_congr_left
  intro kv _
  simp only [Function.comp, sanitizedEntry]
  split
  · simp [sanitizeValue_idem]
  · rfl

theorem hdrGet?_map (g : KV → KV) (hg : ∀ kv, (g kv).key = kv.key) (h : Hdr) (k : Bytes) :
    hdrGet? (h.map g) k = ((h.find? (·.key == k)).map g).map (·.values) := by
  unfold hdrGet?
  rw [List.find?_map]
  have : ((fun x : KV => x.key == k) ∘ g) = (fun x : KV => x.key == k) := by
    funext kv; simp [Function.comp, hg]
  rw [this]

theorem hdrGet?_sanitized_excluded (h : Hdr) (ex : List Bytes) (k : Bytes) (hk : ex.contains k = true) :
    hdrGet? (sanitizedInPlace h ex) k = hdrGet? h k := by
  rw [sanitizedInPlace_eq, hdrGet?_map _ (sanitizedEntry_key ex)]
  unfold hdrGet?
  cases hf : h.find? (·.key == k) with
  | none => rfl
  | some kv =>
    have : kv.key = k := by simpa using List.find?_some hf
    simp [sanitizedEntry_excluded ex kv (this ▸ hk)]

theorem hdrGet?_sanitized_none (h : Hdr) (ex : List Bytes) (k : Bytes) (hn : hdrGet? h k = none) :
    hdrGet? (sanitizedInPlace h ex) k = none := by
  rw [sanitizedInPlace_eq, hdrGet?_map _ (sanitizedEntry_key ex)]
  unfold hdrGet? at hn
  cases hf : h.find? (·.key == k) with
  | none => rfl
  | some kv => simp [hf] at hn

theorem orderList_sanitized (h : Hdr) :
    orderList (sanitizedInPlace h reqWriteExcludeHeader) = orderList h := by
  unfold orderList; rw [hdrGet?_sanitized_excluded _ _ _ (by decide)]

theorem serializeH1_header_congr (r : WReq) (H' : Hdr)
    (hf : ∀ host f, h1Fields { r with header := H' } host f = h1Fields r host f) :
    serializeH1 { r with header := H' } = serializeH1 r := by
  unfold serializeH1
  have h1 : wireHost { r with header := H' } = wireHost r := rfl
  have h2 : ∀ host, requestTarget { r with header := H' } host = requestTarget r host := fun _ => rfl
  have h3 : framing { r with header := H' } = framing r := rfl
  have h4 : ∀ f, bodyBytes { r with header := H' } f = bodyBytes r f := fun _ => rfl
  have h5 : ∀ t, requestLine { r with header := H' } t = requestLine r t := fun _ => rfl
  simp only [h1, h2, h3, h4, h5, hf]

theorem h1Fields_sanitized (r : WReq) (host : Bytes) (f : Framing)
    (hc : r.close = false ∨ hdrGet? r.header sConnection = none) :
    h1Fields { r with header := sanitizedInPlace r.header reqWriteExcludeHeader } host f =
      h1Fields r host f := by
  rw [h1Fields_eq, h1Fields_eq, orderList_sanitized, writeSubset_sanitizedInPlace,
    ownFieldsH1_congr (r := r) (r' := { r with header := sanitizedInPlace r.header reqWriteExcludeHeader })
      host f rfl rfl (hdrGet?_sanitized_excluded _ _ _ (by decide)) fun hcl => by
        rcases hc with hc | hc
        · rw [hc] at hcl; cases hcl
        · exact (hdrGet?_sanitized_none _ _ _ hc).trans hc.symm]


theorem leftBehind_cases (r : WReq) :
    leftBehind r = r ∨
      leftBehind r = { r with header := sanitizedInPlace r.header reqWriteExcludeHeader } := by
  unfold leftBehind; split
  · right; rfl
  · left; rfl

/-- after `persistConn.writeRequest` the request's header
map holds the same keys (names, spellings, count), the same header-order and pseudo-header-order
lists, every entry the writer does not write itself untouched — and whatever it did to the values
it wrote (sanitised in place) is invisible to any later write: the request renders to exactly the
same bytes. (`Request.Close` with a caller `Connection` header is left out: the close decision
reads that header's raw value.) -/
theorem writeRequest_leaves_request_unchanged (r : WReq)
    (hc : r.close = false ∨ hdrGet? r.header sConnection = none) :
    ((writeAttempt r).2.header.map (·.key) = r.header.map (·.key)) ∧
    orderList (writeAttempt r).2.header = orderList r.header ∧
    hdrGet? (writeAttempt r).2.header pseudoHeaderOrderKey = hdrGet? r.header pseudoHeaderOrderKey ∧
    serializeH1 (writeAttempt r).2 = serializeH1 r := by
  have hw : (writeAttempt r).2 = leftBehind r := rfl
  rw [hw]
  rcases leftBehind_cases r with h | h
  · rw [h]; exact ⟨rfl, rfl, rfl, rfl⟩
  · rw [h]
    exact ⟨sanitizedInPlace_keys _ _, orderList_sanitized _,
      hdrGet?_sanitized_excluded r.header reqWriteExcludeHeader pseudoHeaderOrderKey (by decide),
      serializeH1_header_congr r _ (fun host f => h1Fields_sanitized r host f hc)⟩

theorem leftBehind_hyp (r : WReq) (hc : r.close = false ∨ hdrGet? r.header sConnection = none) :
    (leftBehind r).close = false ∨ hdrGet? (leftBehind r).header sConnection = none := by
  rcases leftBehind_cases r with h | h
  · rw [h]; exact hc
  · rw [h]
    rcases hc with hc | hc
    · left; exact hc
    · right; exact hdrGet?_sanitized_none _ _ _ hc

/-- however often the transport writes the same request object
(dead kept-alive connections in a row), every write puts the same bytes on its connection — same
header lines, same multiplicities, same spelling, same listed order. -/
theorem transparent_resend_same_wire (n : Nat) (r : WReq)
    (hc : r.close = false ∨ hdrGet? r.header sConnection = none) :
    ∀ w ∈ (writeAttempts n r).1, w = serializeH1 r := by
  induction n generalizing r with
  | zero => intro w hw; simp [writeAttempts] at hw
  | succ n ih =>
    intro w hw
    simp only [writeAttempts, writeAttempt, List.mem_cons] at hw
    rcases hw with rfl | hw
    · rfl
    · rw [ih (leftBehind r) (leftBehind_hyp r hc) w hw]
      obtain ⟨_, _, _, hbytes⟩ := writeRequest_leaves_request_unchanged r hc
      exact hbytes

/-- HTTP/2 and HTTP/3 only read the request: every re-encoding of the same request object yields
the same field list and leaves the request as it was. (That the encoders do not write to the
request is the modelling decision `Rewrite.encodeAttempt fl r = (fields fl r, r)`; the theorem
unfolds it over `n` attempts.) -/
theorem transparent_resend_same_fields (fl : Flavor) (n : Nat) (r : FReq) :
    (∀ w ∈ (encodeAttempts fl n r).1, w = fields fl r) ∧ (encodeAttempts fl n r).2 = r := by
  induction n with
  | zero => simp [encodeAttempts]
  | succ n ih =>
    simp only [encodeAttempts, encodeAttempt, List.mem_cons]
    refine ⟨?_, ih.2⟩
    intro w hw
    rcases hw with rfl | hw
    · rfl
    · exact ih.1 w hw

/-- non-vacuity: a request with an order list, a padded value and a `__` name: the first write
sanitises `  v ` in place; the order list is still there; the second write gives the same bytes. -/
def exReq : WReq :=
  { method := [71, 69, 84], url := { scheme := [104], host := [104], path := [47] },
    header := [⟨[88, 45, 65], [[32, 32, 118, 32]]⟩, ⟨[95, 95, 116], [[49]]⟩,
               ⟨headerOrderKey, [[95, 95, 116], [120, 45, 97]]⟩] }

example :
    (writeAttempt exReq).2.header =
      [⟨[88, 45, 65], [[118]]⟩, ⟨[95, 95, 116], [[49]]⟩, ⟨headerOrderKey, [[95, 95, 116], [120, 45, 97]]⟩] ∧
    (writeAttempts 2 exReq).1.map (·.toOption) =
      [(serializeH1 exReq).toOption, (serializeH1 exReq).toOption] ∧
    (serializeH1 exReq).toOption.isSome = true := by
  decide +kernel

/-! ## 3. names next to the bookkeeping keys -/

theorem lower_us (t : Bytes) : lower (95 :: 95 :: t) = 95 :: 95 :: lower t := by
  simp [lower, toLower, isUpper]

/-- a table in which the two keys are the only entries beginning with `__` holds a `__` name iff
it is one of them (the table fact is checked by evaluation for each of the three tables). -/
theorem mem_table_us {T : List Bytes}
    (hT : ∀ e ∈ T, e.take 2 = [95, 95] → e = headerOrderKey ∨ e = pseudoHeaderOrderKey)
    (h1 : headerOrderKey ∈ T) (h2 : pseudoHeaderOrderKey ∈ T) (t : Bytes) :
    (95 :: 95 :: t) ∈ T ↔ (95 :: 95 :: t) = headerOrderKey ∨ (95 :: 95 :: t) = pseudoHeaderOrderKey :=
  ⟨fun h => hT _ h rfl, fun h => by rcases h with h | h <;> rw [h] <;> assumption⟩

/-- (byte-string level): among the names that begin with the
internal prefix `__`, `header.IsExcluded` (HTTP/2, HTTP/3) holds for exactly the two in-band keys
(in any letter case) — never for another name that merely shares the prefix, the suffix or a part
with them. -/
theorem excluded_iff_exactly_two_keys (t : Bytes) :
    isExcluded (95 :: 95 :: t) = true ↔
      (lower (95 :: 95 :: t) = headerOrderKey ∨ lower (95 :: 95 :: t) = pseudoHeaderOrderKey) := by
  unfold isExcluded
  rw [lower_us, List.contains_iff_mem]
  exact mem_table_us (by decide +kernel) (by decide +kernel) (by decide +kernel) (lower t)

/-- the HTTP/1.1 table (exact key): among the `__` names exactly the two keys as spelled. -/
theorem excluded_h1_iff_exactly_two_keys (t : Bytes) :
    reqWriteExcludeHeader.contains (95 :: 95 :: t) = true ↔
      ((95 :: 95 :: t) = headerOrderKey ∨ (95 :: 95 :: t) = pseudoHeaderOrderKey) := by
  rw [List.contains_iff_mem]
  exact mem_table_us (by decide +kernel) (by decide +kernel) (by decide +kernel) t

/-- no name that properly extends the lower-case table entry `k` is excluded when `k` is a prefix
of no other entry. -/
theorem extension_not_excluded (k : Bytes) (hk : lower k = k)
    (htab : ∀ e ∈ excludeLower, k.isPrefixOf e = true → e = k) (s : Bytes) (hs : s ≠ []) :
    isExcluded (k ++ s) = false := by
  rw [Bool.eq_false_iff]
  intro h
  have hm : k ++ lower s ∈ excludeLower := by
    simpa [isExcluded, lower, show k.map toLower = k from hk] using h
  have := htab _ hm (List.isPrefixOf_iff_prefix.mpr (List.prefix_append k _))
  exact hs (List.map_eq_nil_iff.mp (List.append_right_eq_self.mp this))

/-- a name extending a bookkeeping key (`__header_order__x`, …) is not excluded. -/
theorem key_extension_not_excluded (s : Bytes) (hs : s ≠ []) :
    isExcluded (headerOrderKey ++ s) = false ∧ isExcluded (pseudoHeaderOrderKey ++ s) = false :=
  ⟨extension_not_excluded _ (by decide) (by decide) s hs,
    extension_not_excluded _ (by decide) (by decide) s hs⟩

/-- a proper prefix of a bookkeeping key (`__header_order`, `__`, …) is not excluded. -/
theorem key_prefix_not_excluded (n : Nat) :
    (n < headerOrderKey.length → isExcluded (headerOrderKey.take n) = false) ∧
    (n < pseudoHeaderOrderKey.length → isExcluded (pseudoHeaderOrderKey.take n) = false) := by
  constructor
  · have : ∀ m, m < headerOrderKey.length → isExcluded (headerOrderKey.take m) = false := by
      decide +kernel
    exact this n
  · have : ∀ m, m < pseudoHeaderOrderKey.length → isExcluded (pseudoHeaderOrderKey.take m) = false := by
      decide +kernel
    exact this n

/-- … nor is a proper suffix (`header_order__`, `_header_order__`, …). -/
theorem key_suffix_not_excluded (n : Nat) (h0 : 0 < n) :
    isExcluded (headerOrderKey.drop n) = false ∧ isExcluded (pseudoHeaderOrderKey.drop n) = false := by
  by_cases h : n ≤ pseudoHeaderOrderKey.length
  · have : ∀ m, m ≤ pseudoHeaderOrderKey.length → 0 < m →
        isExcluded (headerOrderKey.drop m) = false ∧ isExcluded (pseudoHeaderOrderKey.drop m) = false := by
      decide +kernel
    exact this n h h0
  · -- beyond the longer key nothing is left of either
    have hp : pseudoHeaderOrderKey.length ≤ n := Nat.le_of_lt (Nat.lt_of_not_le h)
    rw [List.drop_eq_nil_of_le (Nat.le_trans (by decide) hp), List.drop_eq_nil_of_le hp]
    decide

theorem us_ordinary (t : Bytes) (h1 : (95 :: 95 :: t) ≠ headerOrderKey)
    (h2 : (95 :: 95 :: t) ≠ pseudoHeaderOrderKey) : ordinary (95 :: 95 :: t) = true := by
  have hm : ¬ (95 :: 95 :: t) ∈ special := fun hm =>
    ((mem_table_us (T := special) (by decide +kernel) (by decide +kernel) (by decide +kernel) t).mp hm).elim h1 h2
  simp [ordinary, hm]

/-- **names next to the bookkeeping keys travel like any other header, on all three stacks**: for a
lower-case name that begins with `__` and is not one of the two keys, HTTP/1.1, HTTP/2 and HTTP/3
carry the same number of fields of that name — the number of values the caller gave. -/
theorem underscore_names_three_stacks
    (w : WReq) (r : FReq) (hsame : r.header = w.header) (host : Bytes) (f : Framing)
    (fs2 fs3 : List (Bytes × Bytes)) (t : Bytes)
    (h1 : (95 :: 95 :: t) ≠ headerOrderKey) (h2 : (95 :: 95 :: t) ≠ pseudoHeaderOrderKey)
    (hvalid : ∀ kv ∈ w.header, validHeaderFieldName kv.key = true)
    (hextra : ∀ kv ∈ w.extra, (lower kv.key == (95 :: 95 :: t)) = false)
    (h2f : fields .h2 r = .ok fs2) (h3f : fields .h3 r = .ok fs3) :
    (linesOf (h1Fields w host f)).countP (nameIs (95 :: 95 :: t)) = fs2.countP (fun f => f.1 == (95 :: 95 :: t)) ∧
    fs2.countP (fun f => f.1 == (95 :: 95 :: t)) = fs3.countP (fun f => f.1 == (95 :: 95 :: t)) ∧
    fs3.countP (fun f => f.1 == (95 :: 95 :: t)) = (linesOf w.header).countP (nameIs (95 :: 95 :: t)) :=
  same_description_three_stacks w r hsame host f fs2 fs3 _ (us_ordinary t h1 h2) hvalid hextra h2f h3f


/-- non-vacuity: `__RequestVerificationToken`-like names (`__t`), `__header_order` and
`__header_order__x` are not excluded; the keys themselves are, in any case. -/
example :
    isExcluded [95, 95, 116] = false ∧ isExcluded (headerOrderKey.take 14) = false ∧
    isExcluded (headerOrderKey ++ [120]) = false ∧ isExcluded headerOrderKey = true ∧
    isExcluded (headerOrderKey.map toUpper) = true ∧
    reqWriteExcludeHeader.contains [95, 95, 116] = false := by decide +kernel

end Req.Props.C16Round5
