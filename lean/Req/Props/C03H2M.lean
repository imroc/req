import Req.C03.H2Multi
/-!
C03 — HTTP/2, several concurrent streams on one connection: **a cut of one stream never changes
another stream's outcome** (`h2_cut_isolated`), for every frame sequence before and after the cut,
every interleaving of the streams' frames, every error code.
-/
namespace Req.Props.C03H2M
open Req.Proto Req.C02 Req.C03

/-- `y'` is `y` up to the shared `doNotReuse` flag. -/
def Sim (y y' : H2X) : Prop := ∃ d, y' = { y with doNotReuse := d }

theorem Sim.refl (y : H2X) : Sim y y := ⟨y.doNotReuse, rfl⟩

theorem Sim.st {y y' : H2X} (h : Sim y y') : y'.st = y.st := by
  obtain ⟨d, rfl⟩ := h; rfl

/-- No step reads `doNotReuse` for anything but `doNotReuse`. -/
theorem Sim.step {y y' : H2X} (h : Sim y y') (e : H2XEv) : Sim (y.step e) (y'.step e) := by
  obtain ⟨d, rfl⟩ := h
  cases e with
  | headers fs es => exact ⟨d, rfl⟩
  | data p pad es => exact ⟨d, rfl⟩
  | rst code => exact ⟨_, rfl⟩
  | goAway last code =>
    simp only [H2X.step]
    cases y.st.connDead
    · by_cases hl : y.sid ≤ last <;> simp only [Bool.false_eq_true, hl, if_true, if_false] <;> exact ⟨d, rfl⟩
    · exact ⟨d, rfl⟩
  | connLost => exact ⟨d, rfl⟩

theorem Sim.sibling {y y' x x' : H2X} (hy : Sim y y') (hx : Sim x x') (e : H2XEv) :
    Sim (y.sibling x (x.step e)) (y'.sibling x' (x'.step e)) := by
  have h1 := (hx.step e).st
  have h2 := hx.st
  unfold H2X.sibling
  rw [h1, h2]
  split
  · exact hy.step .connLost
  · obtain ⟨d, rfl⟩ := hy
    exact ⟨_, rfl⟩

/-- The outcome of a call does not depend on `doNotReuse`. -/
theorem Sim.outcome {y y' : H2X} (h : Sim y y') (k : Nat) : y'.outcome k = y.outcome k := by
  obtain ⟨d, rfl⟩ := h; rfl

/-- RST_STREAM never tears the connection down. -/
theorem rst_keeps_conn (x : H2X) (code : Nat) : (x.step (.rst code)).st.connDead = x.st.connDead := by
  simp only [H2X.step, H2Stream.processRst]
  split
  · rfl
  · simp only [H2Stream.abort]
    split <;> rfl

/-- Two connections agree, up to `doNotReuse`, on every stream but `i`. -/
def Agree (i : Nat) (m m' : H2M) : Prop := ∀ k, k ≠ i → Sim (m k) (m' k)

theorem Agree.step {i : Nat} {m m' : H2M} (h : Agree i m m') (e : H2MEv) (he : e.on i = false) :
    Agree i (m.step e) (m'.step e) := by
  intro k hk
  cases e with
  | conn e => exact (h k hk).step e
  | frame id e =>
    have hid : id ≠ i := by simpa [H2MEv.on] using he
    simp only [H2M.step]
    by_cases hkid : k = id
    · simp only [hkid, if_true]
      exact (h id hid).step e
    · simp only [hkid, if_false]
      exact (h k hk).sibling (h id hid) e

theorem Agree.run {i : Nat} {m m' : H2M} (h : Agree i m m') (evs : List H2MEv)
    (he : ∀ e ∈ evs, e.on i = false) : Agree i (m.run evs) (m'.run evs) := by
  induction evs generalizing m m' with
  | nil => exact h
  | cons e evs ih =>
    simp only [H2M.run]
    exact ih (h.step e (he e (by simp))) (fun e' h' => he e' (by simp [h']))

/-- Resetting stream `i` leaves every other stream as it is (up to `doNotReuse`). -/
theorem Agree.rst (i : Nat) (m : H2M) (code : Nat) : Agree i m (m.step (.frame i (.rst code))) := by
  intro k hk
  simp only [H2M.step, hk, if_false]
  unfold H2X.sibling
  rw [rst_keeps_conn]
  simp only [Bool.and_not_self, Bool.false_eq_true, if_false]
  exact ⟨_, rfl⟩

/-- One connection, any number of concurrent streams, ANY frame sequence
`before` (frames of all streams in any interleaving, GOAWAY, …).  Stream `i` is cut by
RST_STREAM with any error code and — it being cut — no further frame is addressed to it; `after` is
ANY continuation for the other streams and the connection.  Then every other stream `j` is, after
`before ++ RST_STREAM(i) ++ after`, exactly where it is after `before ++ after` (all of its state:
response head, pipe, length accounting, abort cause — only the connection's `doNotReuse` flag may
differ, RST_STREAM(PROTOCOL_ERROR)): the call and a draining caller observe the same outcome. -/
theorem h2_cut_isolated (m : H2M) (before after : List H2MEv) (i j code : Nat) (hij : j ≠ i)
    (hafter : ∀ e ∈ after, e.on i = false) (k : Nat) :
    Sim (((m.run before).run after) j) (((m.run before).step (.frame i (.rst code))).run after j) ∧
    ((((m.run before).step (.frame i (.rst code))).run after) j).outcome k =
      (((m.run before).run after) j).outcome k := by
  have h := (Agree.rst i (m.run before) code).run after hafter j hij
  exact ⟨h, h.outcome k⟩

/-- `h2_cut_isolated` for a whole family of concurrent streams at once: what every surviving stream
delivers is independent of the cut. -/
theorem h2_cut_isolated_all (m : H2M) (before after : List H2MEv) (i code : Nat)
    (hafter : ∀ e ∈ after, e.on i = false) (k : Nat) :
    ∀ j, j ≠ i → ((((m.run before).step (.frame i (.rst code))).run after) j).outcome k =
      (((m.run before).run after) j).outcome k :=
  fun j hij => (h2_cut_isolated m before after i j code hij hafter k).2

-- non-vacuity: streams 1 and 3; 3 gets its head and 2 of 5 bytes, 1 is reset (CANCEL), 3 completes
example :
    let hdr : H2XEv := .headers [([58, 115, 116, 97, 116, 117, 115], [50, 48, 48]),
      ([99, 111, 110, 116, 101, 110, 116, 45, 108, 101, 110, 103, 116, 104], [53])] false
    let evs : List H2MEv := [.frame 1 hdr, .frame 3 hdr, .frame 3 (.data [97, 98] false false),
      .frame 1 (.rst 8), .frame 3 (.data [99, 100, 101] false true)]
    ((H2M.init.run evs) 3).outcome 512 = .ok 200 [97, 98, 99, 100, 101] ∧
    ((H2M.init.run evs) 1).outcome 512 = .bodyFailed 200 [] .rst := by decide

end Req.Props.C03H2M
