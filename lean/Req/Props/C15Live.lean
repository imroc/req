import Req.Lemmas.DecodeLive
import Req.Props.C15Prescan
/-!
C15 — liveness.  A caller that keeps reading with non-empty buffers reaches the end of the stream, through every
reader `autoDecodeResponseBody` can install (raw, header-charset decoder, sniffing reader), for every body, every
split into network reads (empty reads included) and every decoder; and the end it sees is the end of the
underlying body.  The outcome theorems of Props/C15 assume "the reads end in EOF"; here that is proved.  The
statements take one buffer size `L`; `Req/Lemmas/DecodeLive.lean` has the same for every schedule of non-empty
buffers (`body_reaches_end_sched`, `fresh_reaches_end_sched`).
-/
namespace Req.Props.C15
open Req.Proto Req.Decode

variable {σ : Type}

/-- Reads with a non-empty buffer end the stream after finitely many, with the source's own terminal condition
(EOF stays EOF, an error stays that error), whichever reader `autoDecodeResponseBody` installed. -/
theorem response_reaches_end (cfg : Config) (ae ct : Bytes) (mp : MediaParse)
    (lookup : Bytes → Option (Decoder σ)) (find : Bytes → Option (Decoder σ)) (src : Src)
    (L : Nat) (hL : 0 < L) :
    ∃ n, (respReads cfg ae ct mp lookup find src (List.replicate n L)).term = some src.term :=
  body_reaches_end find _ src L hL

/-- `outcome_by_sniff` with its hypothesis discharged: the sniffing reader over a body that ends in EOF reports
EOF after finitely many reads, having delivered the original or the whole-body decode. -/
theorem body_fully_delivered (find : Bytes → Option (Decoder σ))
    (hlaw : ∀ c d, find c = some d → d.Lawful) (src : Src) (hsrc : src.term = .eof) (L : Nat) (hL : 0 < L) :
    ∃ n, (autoReads find src (List.replicate n L)).term = some .eof ∧
      (autoReads find src (List.replicate n L)).out =
        match (sniffed src (List.replicate n L)).bind find with
        | none => src.body
        | some d => d.decodeAll src.body := by
  obtain ⟨n, hn⟩ := fresh_reaches_end find L hL src
  rw [hsrc] at hn
  exact ⟨n, hn, outcome_by_sniff find hlaw src _ hn⟩

/-- A supported charset in the Content-Type header — after
finitely many reads EOF is reported and the whole body has arrived decoded from that charset. -/
theorem header_charset_fully_delivered (cfg : Config) (ct cs : Bytes) (lookup : Bytes → Option (Decoder σ))
    (find : Bytes → Option (Decoder σ)) (d : Decoder σ) (hl : d.Lawful)
    (hon : cfg.disable = false) (hsel : shouldDecode cfg ct = true)
    (hutf : isUtf8Label (Req.Ascii.lower cs) = false) (hlk : lookup (Req.Ascii.lower cs) = some d)
    (src : Src) (hsrc : src.term = .eof) (L : Nat) (hL : 0 < L) :
    ∃ n, (respReads cfg [] ct (.charset cs) lookup find src (List.replicate n L)).term = some .eof ∧
      (respReads cfg [] ct (.charset cs) lookup find src (List.replicate n L)).out = d.decodeAll src.body := by
  obtain ⟨n, hn⟩ := response_reaches_end cfg [] ct (.charset cs) lookup find src L hL
  rw [hsrc] at hn
  exact ⟨n, hn, header_charset_always_applied cfg ct cs lookup find d hl hon hsel hutf hlk src _ hn⟩

/-- With the scanner the code runs — after finitely many reads the
caller has the original body or its complete decode by the decoder `FindEncoding` finds on the
whole body. -/
theorem concrete_fully_delivered (P : Req.Prescan.Params) (decOf : Bytes → Decoder σ)
    (hlaw : ∀ n, (decOf n).Lawful) (src : Src) (hsrc : src.term = .eof) (L : Nat) (hL : 0 < L) :
    ∃ n, (autoReads (findC P decOf) src (List.replicate n L)).term = some .eof ∧
      ((autoReads (findC P decOf) src (List.replicate n L)).out = src.body ∨
       ∃ d, findC P decOf src.body = some d ∧
         (autoReads (findC P decOf) src (List.replicate n L)).out = d.decodeAll src.body) := by
  obtain ⟨n, hn⟩ := fresh_reaches_end (findC P decOf) L hL src
  rw [hsrc] at hn
  exact ⟨n, hn, split_only_affects_meta_detection P decOf hlaw src _ hn⟩

/-- A response that is not selected for decoding (auto-decode off, `Accept-Encoding` set, content type not
selected): the original body arrives completely. -/
theorem unselected_fully_delivered (cfg : Config) (ae ct : Bytes) (mp : MediaParse)
    (lookup : Bytes → Option (Decoder σ)) (find : Bytes → Option (Decoder σ))
    (h : cfg.disable = true ∨ ae ≠ [] ∨ shouldDecode cfg ct = false)
    (src : Src) (hsrc : src.term = .eof) (L : Nat) (hL : 0 < L) :
    ∃ n, (respReads cfg ae ct mp lookup find src (List.replicate n L)).term = some .eof ∧
      (respReads cfg ae ct mp lookup find src (List.replicate n L)).out = src.body := by
  obtain ⟨n, hn⟩ := response_reaches_end cfg ae ct mp lookup find src L hL
  rw [hsrc] at hn
  exact ⟨n, hn, unselected_body_intact cfg ae ct mp lookup find h src _ hn⟩

-- the UTF-16LE body of `demoSrc` (cut inside a code unit) read with 3-byte buffers
example : (autoReads demoFind demoSrc (List.replicate 3 3)).term = some .eof := by decide +kernel
example : (autoReads demoFind demoSrc (List.replicate 3 3)).out = [0xef, 0xbb, 0xbf, 0x68] := by decide +kernel
-- an error at the end of the stream is reported as that error
example : (autoReads demoFind ⟨[[0xff, 0xfe, 0x68], [0x00]], .err, true⟩ (List.replicate 4 2)).term = some .err := by decide +kernel

end Req.Props.C15
