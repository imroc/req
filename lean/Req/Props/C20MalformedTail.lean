import Req.Props.C20Malformed
/-!
C20 — malformed challenges: the quoted-string that is never closed. Everything after the
opening quote — commas, further "parameters", other challenges — is swallowed by it
(`splitList` does not split inside quotes), the element cannot be read, the call fails.
-/
namespace Req.Props.C20
open Req.Proto Req.DigestAuth Req.Ascii
open Req.Digest hiding authorize handle exchange parseChallenge Resp

/-- **unterminated_quote_is_error_e2e**: the 401 offers any readable list `good` (an answerable
Digest challenge included) and then a parameter whose quoted value is never closed —
`…, name="body` up to the end of the header, `body` ANY text without `"` and `\` (commas and what
looks like further parameters or challenges included): the call fails with `badChallenge`; one
request, no `Authorization`, the 401 is not handed back as a normal response. -/
theorem unterminated_quote_is_error_e2e (H : Alg → Bytes → Bytes) (server : Wire → DigestAuth.Resp)
    (user pass method uri : Bytes) (body : Body) (rnd : Option Bytes)
    (good : List Bytes) (st : PState) (pre name b1 b2 text : Bytes)
    (h401 : (server { method, uri, authorization := none, body := bodyBytes body }).err = false ∧
      (server { method, uri, authorization := none, body := bodyBytes body }).status = 401)
    (hlines : commaJoin (server { method, uri, authorization := none, body := bodyBytes body }).wwwAuth =
      commaCat (good ++ [pre ++ (name ++ (b1 ++ 61 :: (b2 ++ 34 :: text)))]))
    (hclosed : ∀ p ∈ good, scan false false p = some (false, false))
    (hgood : parseElems good {} = .ok st)
    (hpre : pre.all isOws = true) (hname : TokenOK name) (hb1 : b1.all isOws = true) (hb2 : b2.all isOws = true)
    (htext : ∀ c ∈ text, c ≠ 34 ∧ c ≠ 92) (hlast : ∀ z ∈ text.getLast?, isOws z = false) :
    DigestAuth.exchange H algOf server user pass method uri body rnd =
      ([{ method, uri, authorization := none, body := bodyBytes body }], .failed .badChallenge) := by
  let d : BadParam := ⟨pre, name, b1 ++ 61 :: (b2 ++ 34 :: text), []⟩
  have hd : d.OK := by
    refine ⟨hpre, rfl, hname, congrArg List.head? (trimLeft_bws b1 _ hb1), ?_,
      paramValue_unterminated b1 b2 text hb1 hb2 htext⟩
    intro z hz
    have hz' : ((b1 ++ 61 :: b2) ++ 34 :: text).getLast? = some z := by
      rw [List.append_assoc]; exact hz
    rw [List.getLast?_append_ne _ _ (by simp)] at hz'
    cases text with
    | nil => cases hz'; decide
    | cons t ts => exact hlast z (by rwa [List.getLast?_cons_cons] at hz')
  have hrender : d.render = pre ++ (name ++ (b1 ++ 61 :: (b2 ++ 34 :: text))) := by
    simp [BadParam.render, d]
  have hscan : scan false false d.render = some (true, false) := by
    rw [hrender, scan_closed _ _ (scan_ows _ hpre), scan_upto_value _ _ _ _ hname.2 hb1 hb2]
    exact scan_unterminated text htext
  apply malformed_digest_is_error_e2e H server user pass method uri body rnd .badChallenge h401
  rw [hlines, ← hrender]
  exact parseChallenge_first_error algOf good d.render [] st .badChallenge
    (splitList_commaCat_tail good d.render true false hclosed hscan) hgood (bad_param_errors st d hd)

/-! `Digest realm="r", nonce="n", opaque="x, qop=auth, Basic realm=y` -/
example : commaCat ([b!"Digest realm=\"r\"", b!" nonce=\"n\""] ++
      [b!" " ++ (b!"opaque" ++ ([] ++ 61 :: ([] ++ 34 :: b!"x, qop=auth, Basic realm=y")))]) =
    b!"Digest realm=\"r\", nonce=\"n\", opaque=\"x, qop=auth, Basic realm=y" := by decide +kernel

example : (∀ c ∈ b!"x, qop=auth, Basic realm=y", c ≠ 34 ∧ c ≠ 92) ∧
    (∀ z ∈ (b!"x, qop=auth, Basic realm=y").getLast?, isOws z = false) := by decide

example : DigestAuth.parseChallenge algOf b!"Digest realm=\"r\", nonce=\"n\", opaque=\"x, qop=auth, Basic realm=y" =
    .error .badChallenge := by decide +kernel

end Req.Props.C20
