import Req.Pool.TlsPaths
import Req.Props.C12
/-!
# C12 — uniformity over the dial paths (proxy tunnel, own HTTP/2 dial, uTLS fingerprint),
what the hooks are handed, and the ALPN list offered per mode

Theorems about `Req.Pool.TLS.pathCfg` / `governs` / `handshakeGiven` (`Pool/TlsPaths.lean`)
and `Req.Pool.Dispatch.offered`. Tied to the code by lane `c12path` (real `dialConn` —
direct, through an in-process CONNECT proxy, through a SOCKS5 stub — and the real HTTP/2
dial, against a loopback TLS server that records the ClientHello) and by the regenerated
fact `Generated.C12Facts.fpCopied` (bridge `Bridge.C12.fp_covers`).
-/
namespace Req.Props.C12
open Req.Pool.Dispatch Req.Pool.TLS

/-- **Every path hands `TLSHandshakeContext` the bare host** (never `host:port`): direct
HTTP/1.1 dial, tunnel through a proxy, HTTP/2's own dial. -/
theorem handshake_given_is_bare_host (host : Nat) (p : DialPath) (g : Given)
    (h : handshakeGiven host p = some g) : g = .bare host := by
  cases p <;> simp [handshakeGiven] at h <;> exact h.symm

/-- Hence a handshake function that verifies the peer against the name it is given decides
alike on every path that consults it. -/
theorem verifying_hook_uniform (host : Nat) (p q : DialPath) (g g' : Given) (trustOK : Bool) (names : List Nat)
    (hp : handshakeGiven host p = some g) (hq : handshakeGiven host q = some g') :
    hookAccepts trustOK names g = hookAccepts trustOK names g' := by
  rw [handshake_given_is_bare_host host p g hp, handshake_given_is_bare_host host q g' hq]

/-- Necessity: handed `host:port`, such a function rejects every certificate. -/
theorem verifying_hook_rejects_host_port (trustOK : Bool) (names : List Nat) (host : Nat) :
    hookAccepts trustOK names (.withPort host) = false := rfl

example : hookAccepts true [1, 2] (.bare 1) = true := by decide +kernel

/-- `DialTLSContext` gets `host:port` wherever it is consulted. -/
theorem dialtls_given_has_port (host : Nat) (p : DialPath) (g : Given)
    (h : dialTLSGiven host p = some g) : g = .withPort host := by
  cases p <;> simp [dialTLSGiven] at h <;> exact h.symm

/-- HTTP/3 is never governed by a hook ("only valid for HTTP1 and HTTP2"). -/
theorem h3_never_hooked (h : Hooks) : governs h .h3Quic = .clientConfig := rfl

/-- Behind a proxy `DialTLSContext` does not govern the handshake with the origin. -/
theorem tunnel_ignores_dialtls (h : Hooks) : governs h .h1Tunnel ≠ .userDialTLS := by
  unfold governs
  cases h.handshake with
  | none => simp [hsGoverns]
  | some k => cases k <;> simp [hsGoverns]

/-- The direct HTTP/1.1 dial and HTTP/2's own dial use the same precedence. -/
theorem tcp_paths_same_governor (h : Hooks) : governs h .h1Direct = governs h .h2Own := rfl

/-- `pathCfg` promises a configuration exactly when no USER function governs. -/
theorem user_functions_are_the_boundary (copied : List FpField) (h : Hooks) (p : DialPath) (o : Bool)
    (host : Nat) (read : Option TlsCfg) :
    pathCfg copied h p o host read = none ↔
      (governs h p = .userHandshake ∨ governs h p = .userDialTLS) := by
  unfold pathCfg
  cases hg : governs h p <;> simp
  cases handshakeGiven host p <;> simp

/-- Without `SetDialTLS` and `SetTLSHandshake` every path has a configuration. -/
theorem no_user_function_no_escape (copied : List FpField) (h : Hooks) (p : DialPath) (o : Bool) (host : Nat)
    (read : Option TlsCfg) (hd : h.dialTLS = false) (hh : h.handshake ≠ some .user) :
    ∃ c, pathCfg copied h p o host read = some c := by
  have hg : governs h p ≠ .userHandshake ∧ governs h p ≠ .userDialTLS := by
    unfold governs
    cases p <;> simp [hd] <;> (cases hk : h.handshake with
      | none => simp [hsGoverns]
      | some k => cases k <;> simp_all [hsGoverns])
  cases hc : pathCfg copied h p o host read with
  | some c => exact ⟨c, rfl⟩
  | none =>
    rcases (user_functions_are_the_boundary copied h p o host read).1 hc with h1 | h1
    · exact absurd h1 hg.1
    · exact absurd h1 hg.2

/-- The fingerprint closure, when it copies the four fields verification and client
authentication look at, verifies with exactly what the built-in handshake verifies with. -/
theorem fp_verify_eq (copied : List FpField) (hcov : fpCovers copied = true) (host : Nat) (g : Given)
    (hg : stripPort g = host) (s : Stack) (o : Bool) (read : Option TlsCfg) :
    verifyPart (effectiveFp copied g read) = verifyPart (effective s o host read) := by
  simp [fpCovers, fpVerifyFields] at hcov
  obtain ⟨h1, h2, h3, h4⟩ := hcov
  cases read with
  | none => cases s <;> simp [effectiveFp, effective, verifyPart, getCfg, lazyCfg, emptyCfg, h1, h2, h3, h4, hg]
  | some c =>
    cases s <;> simp [effectiveFp, effective, verifyPart, getCfg, h1, h2, h3, h4, hg] <;>
      (by_cases hz : c.serverName = 0 <;> simp [hz])

/-- **TLS settings govern every path identically** — direct, through a proxy tunnel, HTTP/2's
own dial, QUIC; with the built-in handshake or the uTLS fingerprint one; whatever hooks are
set, on every path on which no user function governs: the configuration in force has the
verification part of the client's settings (`ServerName` defaulting to the dialled host). -/
theorem path_cfg_is_client_config (copied : List FpField) (h : Hooks) (p : DialPath)
    (hcov : governs h p = .fingerprint → fpCovers copied = true)
    (o : Bool) (host : Nat) (read : Option TlsCfg) (c : TlsCfg)
    (hc : pathCfg copied h p o host read = some c) :
    verifyPart c = verifyPart (effective .h1 false host read) := by
  unfold pathCfg at hc
  split at hc
  · cases hc; exact effective_verify _ _ _ _
  · rename_i hfp
    split at hc
    · rename_i g hg
      cases hc
      have := handshake_given_is_bare_host host p g hg
      subst this
      exact fp_verify_eq copied (hcov hfp) host _ rfl .h1 false read
    · cases hc; exact effective_verify _ _ _ _
  · cases hc

/-- `tls_uniform_paths`, asking of the fingerprint closure only where it governs. -/
theorem tls_uniform_paths_where_governed (copied : List FpField) (h : Hooks)
    (hcov : ∀ p, governs h p = .fingerprint → fpCovers copied = true)
    (accepts : VerifyCfg → ServerCert → Bool) (p q : DialPath) (o o' : Bool) (host : Nat)
    (read : Option TlsCfg) (c c' : TlsCfg) (cert : ServerCert)
    (hp : pathCfg copied h p o host read = some c) (hq : pathCfg copied h q o' host read = some c') :
    accepts (verifyPart c) cert = accepts (verifyPart c') cert ∧ c.certs = c'.certs := by
  have e1 := path_cfg_is_client_config copied h p (hcov p) o host read c hp
  have e2 := path_cfg_is_client_config copied h q (hcov q) o' host read c' hq
  refine ⟨by rw [e1, e2], ?_⟩
  have := e1.trans e2.symm
  simp only [verifyPart] at this
  exact congrArg VerifyCfg.certs this

theorem tls_uniform_paths (copied : List FpField) (hcov : fpCovers copied = true) (h : Hooks)
    (accepts : VerifyCfg → ServerCert → Bool) (p q : DialPath) (o o' : Bool) (host : Nat)
    (read : Option TlsCfg) (c c' : TlsCfg) (cert : ServerCert)
    (hp : pathCfg copied h p o host read = some c) (hq : pathCfg copied h q o' host read = some c') :
    accepts (verifyPart c) cert = accepts (verifyPart c') cert ∧ c.certs = c'.certs :=
  tls_uniform_paths_where_governed copied h (fun _ _ => hcov) accepts p q o o' host read c c' cert hp hq

/-- Non-vacuity: fingerprint on the TCP paths, QUIC with the built-in handshake — one verdict. -/
example :
    let copied := [FpField.serverName, .rootCAs, .insecureSkipVerify, .certificates, .nextProtos]
    let h : Hooks := ⟨false, some .fingerprint⟩
    let read := some { initialCfg with serverName := 2, roots := some [0], certs := [4] }
    (pathCfg copied h .h2Own false 1 read).map verifyPart = (pathCfg copied h .h3Quic false 1 read).map verifyPart
    ∧ (pathCfg copied h .h1Tunnel true 1 read).map verifyPart = (pathCfg copied h .h3Quic false 1 read).map verifyPart := by
  decide +kernel

/-- Necessity (finding class `fingerprint-ignores-servername-certs`): a closure that does not
take `ServerName` / `Certificates` from the client's configuration makes the TCP paths
disagree with HTTP/3 — a certificate acceptable under a `ServerName` override is rejected,
and no client certificate is presented. -/
theorem fp_unpatched_disagrees :
    let h : Hooks := ⟨false, some .fingerprint⟩
    let read := some { initialCfg with serverName := 2, roots := some [0], certs := [4] }
    let cert : ServerCert := ⟨0, [2]⟩
    (pathCfg fpCopiedUnpatched h .h1Direct false 1 read).map (fun c => (acceptsStd (verifyPart c) cert, c.certs))
      = some (false, [])
    ∧ (pathCfg fpCopiedUnpatched h .h3Quic false 1 read).map (fun c => (acceptsStd (verifyPart c) cert, c.certs))
      = some (true, [4]) := by decide +kernel

/-- **The offered ALPN list matches the mode.** Forced HTTP/1.1 (or a request that requires
it): nothing is offered, `h2` cannot be selected. Forced HTTP/2: `h2` is offered, first when
the client's list lacks it, and the rest of the client's list is kept. Forced HTTP/3: `h3`
only. Otherwise the client's `NextProtos` verbatim; `EnableHTTP3` (`cfg.h3`) is irrelevant. -/
theorem offered_alpn_matches_mode (cfg : Cfg) (req : Req) :
    (cfg.force = some .h1 ∨ (cfg.force = none ∧ req.requiresH1 = true) → offered cfg req = [])
    ∧ (cfg.force = some .h2 → Alpn.h2 ∈ offered cfg req ∧ ∀ a ∈ cfg.protos, a ∈ offered cfg req)
    ∧ (cfg.force = some .h3 → offered cfg req = [.h3])
    ∧ (cfg.force = none → req.requiresH1 = false → offered cfg req = cfg.protos)
    ∧ offered { cfg with h3 := !cfg.h3 } req = offered cfg req := by
  refine ⟨?_, ?_, ?_, ?_, rfl⟩
  · rintro (h | ⟨h, hr⟩)
    · simp [offered, h]
    · simp [offered, h, hr]
  · intro h
    simp only [offered, h, h2Protos]
    split
    · rename_i hc; exact ⟨by simpa using hc, fun a ha => ha⟩
    · exact ⟨by simp, fun a ha => by simp [ha]⟩
  · intro h; simp [offered, h]
  · intro h hr; simp [offered, h, hr]

example : offered ⟨some .h2, false, false, false, false, [.http11]⟩ ⟨.https, false⟩ = [.h2, .http11] := by decide +kernel
example : offered ⟨some .h1, true, false, false, false, [.h2, .http11]⟩ ⟨.https, false⟩ = [] := by decide +kernel

/-- The list `offered` is the `NextProtos` of the configuration the stack builds
(`Req.Pool.TLS.effective`, tied to the ClientHello by lanes `c12cfg` and `c12path`). -/
theorem offered_eq_effective (cfg : Cfg) (req : Req) (host : Nat) (c : TlsCfg) (hc : c.protos = cfg.protos) :
    offered cfg req =
      match cfg.force with
      | some .h3 => (effective .h3 false host (some c)).protos
      | some .h2 => (effective .h2 false host (some c)).protos
      | f => (effective .h1 (f = some .h1 || req.requiresH1) host (some c)).protos := by
  unfold offered
  cases hf : cfg.force with
  | none => simp [effective, hc]
  | some v => cases v <;> simp [effective, hc]

/-- **The server picks X ⇒ X carries the request, or the call fails.** New TCP connection (no
user function, nothing cached, no Alt-Svc entry, HTTP/3 not forced): the route is determined by
what crypto/tls negotiates between the server's list and `offered`: handshake aborted ⇒
error; `h2` selected ⇒ only HTTP/2 can carry it; anything else or nothing ⇒ only HTTP/1.1. -/
theorem negotiated_version_used (cfg : Cfg) (req : Req) (net : Net)
    (hs : req.scheme = .https) (hd : cfg.dialTLS = false) (hh : cfg.handshake = false)
    (hc2 : net.cachedH2 = false) (hc3 : net.cachedH3 = false) (halt : net.alt = false)
    (hf3 : cfg.force ≠ some .h3) :
    match negotiate net.alpn (offered cfg req) with
    | none => route cfg req net = .error .alpnNoOverlap
    | some p => ∀ v, route cfg req net = .ok v → (if p = some .h2 then v = .h2 else v = .h1) := by
  by_cases hf2 : cfg.force = some .h2
  · have hroute : route cfg req net = t2Dial cfg req net := by
      simp [route, dispatch, hf2, t2RoundTrip, hs, hc2]
    have hoff : offered cfg req = h2Protos cfg.protos := by simp [offered, hf2]
    rw [hroute, hoff]
    unfold t2Dial
    simp only [hd, hh, Bool.false_eq_true, if_false, hs, ne_eq, not_true_eq_false]
    cases negotiate net.alpn (h2Protos cfg.protos) with
    | none => rfl
    | some p =>
      intro v h
      by_cases ha : net.tcpAccept = true
      · simp only [ha, Bool.not_true, Bool.false_eq_true, if_false] at h
        split at h
        · rename_i hp; cases h; simp [hp]
        · cases h
      · simp [ha] at h
  · -- nothing forced, or HTTP/1.1: the HTTP/1.1 dial path, offering what `addTLS` leaves of the list
    have hroute : route cfg req net = h1Path cfg req net ∧
        offered cfg req = if (decide (cfg.force = some .h1) || req.requiresH1) then [] else cfg.protos := by
      rcases hf : cfg.force with _ | (_ | _ | _)
      · simp [route, dispatch, offered, hf, hs, halt, hc2, hc3]
      · simp [route, dispatch, offered, hf, hs]
      · exact absurd hf hf2
      · exact absurd hf hf3
    rw [hroute.1, hroute.2]
    exact Req.Lemmas.Dispatch.h1Path_negotiated hs hd hh _ rfl

example : negotiate [.h2, .http11] (offered ⟨none, false, false, false, false, [.http11, .h2]⟩ ⟨.https, false⟩)
    = some (some .h2) := by decide +kernel
example : negotiate [.h2] (offered ⟨some .h1, false, false, false, false, [.http11, .h2]⟩ ⟨.https, false⟩)
    = some none := by decide +kernel

end Req.Props.C12
