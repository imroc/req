import Req.Client.DecodePath
import Req.Props.C15
/-!
C15 — the body stage runs exactly once on every path through the stack: the wrapper chain around the round
tripper is transparent to it (`Req/Client/DecodePath.lean`).
-/
namespace Req.Props.C15
open Req.Proto Req.Decode

theorem runPath_wrappers (stage : Bytes → Bytes) (n : Nat) (p : List PathElem) (b : Bytes) :
    runPath stage (List.replicate n .wrapper ++ p) b = runPath stage p b := by
  induction n with
  | zero => rfl
  | succ n ih => simpa [List.replicate_succ, runPath] using ih

/-- For every number of transport-level and client-level wrappers (`SetCommonHeaderOrder`,
`SetCommonPseudoHeaderOder`, `Impersonate*` install transport wrappers), whatever protocol the innermost round
tripper chooses: the caller receives `stage body`. -/
theorem decode_once (stage : Bytes → Bytes) (s : StackShape) (b : Bytes) :
    runPath stage (pathOf s) b = stage b := by
  unfold pathOf
  rw [List.append_assoc, runPath_wrappers]
  simp only [List.singleton_append, runPath]
  have := runPath_wrappers stage s.clientWrappers [] (stage b)
  simpa [runPath] using this

/-- `StackShape.clone` is the identity (`Clone` copies the wrapper lists): this holds by definition. -/
theorem decode_once_clone (stage : Bytes → Bytes) (s : StackShape) (b : Bytes) :
    runPath stage (pathOf s.clone) b = runPath stage (pathOf s) b := rfl

theorem one_body_stage (s : StackShape) : (pathOf s).count .bodyStage = 1 := by
  simp [pathOf, List.count_append, List.count_replicate]

/-- A chain whose innermost element also runs the stage: the defective composition applies the stage twice as soon as one
transport wrapper exists, and once otherwise. -/
theorem double_stage_path (stage : Bytes → Bytes) (s : StackShape) (b : Bytes) :
    runPath stage (pathOfDouble s) b =
      if s.transportWrappers = 0 then stage b else stage (stage b) := by
  unfold pathOfDouble
  by_cases h : s.transportWrappers = 0
  · simp only [h, if_true, List.nil_append]; exact decode_once stage s b
  · simp only [h, if_false, List.singleton_append, runPath]; exact decode_once stage s (stage b)

/-- Decoding twice is not decoding once: one transport wrapper, body `é` (E9) declared as
windows-1252 (what the label `iso-8859-1` means). -/
theorem decoding_twice_corrupts :
    runPath windows1252.decodeAll (pathOf ⟨1, 0⟩) [0xE9] = [0xC3, 0xA9] ∧
    runPath windows1252.decodeAll (pathOfDouble ⟨1, 0⟩) [0xE9] = [0xC3, 0x83, 0xC2, 0xA9] ∧
    runPath windows1252.decodeAll (pathOfDouble ⟨0, 3⟩) [0xE9] = [0xC3, 0xA9] := by decide +kernel

/-- For ASCII text a single-byte code page's stage is the identity: a second pass cannot be seen (why tests
with ASCII bodies do not notice `pathOfDouble`). -/
theorem stage_idempotent_on_ascii (cp : UInt8 → Nat) (hcp : ∀ b : UInt8, b < 128 → cp b = b.toNat)
    (body : Bytes) (h : ∀ b ∈ body, b < 128) : (charmap cp).decodeAll body = body := by
  induction body with
  | nil => rfl
  | cons x xs ih =>
    have hx : x < 128 := h x List.mem_cons_self
    have hxs := ih fun b hb => h b (List.mem_cons_of_mem _ hb)
    have hn : x.toNat < 128 := by simpa using UInt8.lt_iff_toNat_lt.mp hx
    have hdec : (charmap cp).decodeAll (x :: xs) = utf8 (cp x) ++ (charmap cp).decodeAll xs := by
      simp [charmap, ofBytewise]
    rw [hdec, hxs, hcp x hx]
    simp [utf8, hn]

example : (pathOf ⟨2, 1⟩) = [.wrapper, .wrapper, .bodyStage, .wrapper] := by decide +kernel

end Req.Props.C15
