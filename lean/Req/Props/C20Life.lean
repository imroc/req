import Req.Props.C20Heap
import Req.Props.C20SetAll
/-!
C20 — the life of a client and the setter sequences of `Req.Auth.sent` are one model:
a life with ONE request and ONE attempt is `sent`; and whatever happened before, an attempt carries
what `effective` says about the request's own value and the client's.
-/
namespace Req.Props.C20
open Req.Proto Req.Auth

/-- a setter call as an event of the life of a client whose only request is number 0 -/
def evOf (o : SetOp) : Ev :=
  if o.isClient then .client o.value else .request 0 o.value

theorem runPure_setters : ∀ (ops : List SetOp) (c : Conf),
    runPure { client := c.client, reqs := [c.request] } (ops.map evOf) =
      ({ client := (ops.foldl applyOp c).client, reqs := [(ops.foldl applyOp c).request] }, []) := by
  intro ops
  induction ops with
  | nil => intro c; rfl
  | cons o ops ih =>
    intro c
    have h1 : (stepPure { client := c.client, reqs := [c.request] } (evOf o)) =
        ({ client := (applyOp c o).client, reqs := [(applyOp c o).request] }, none) := by
      cases o <;> rfl
    simp only [List.map_cons, runPure, h1, List.foldl_cons, ih]

theorem effective_orElse (a c : Option Bytes) (url : Option (Bytes × Bytes)) :
    effective (orElse a c) c url = effective a c url := by
  cases a <;> cases c <;> rfl

/-- **single_request_life**: for every sequence of setter calls (both levels, any order) the life
"create the request, make the calls, send once" lets exactly `sent ops url` leave — the heap model
with its shared slices and the configuration fold `sent` agree. -/
theorem single_request_life (ops : List SetOp) (url : Option (Bytes × Bytes)) :
    life .fresh (.newReq :: ops.map evOf ++ [.send 0 url]) = [sent ops url] := by
  rw [life_eq_pure]
  show (runPure { client := ({} : Conf).client, reqs := [({} : Conf).request] }
    (ops.map evOf ++ [.send 0 url])).2 = _
  rw [runPure_append, runPure_setters]
  simp only [runPure, stepPure, List.getElem?_cons_zero, List.nil_append, effective_orElse]
  rfl

/-- `own_credentials_from_next_attempt` at a Basic value: after any life `es`, request `i` given the
pair `(u, p)` leaves with `basic u p` at its next attempt, also when it was ALREADY SENT with the
client's credentials before. -/
theorem basic_after_history (es : List Ev) (i : Nat) (hi : i < countReqs es) (u p : Bytes)
    (url : Option (Bytes × Bytes)) :
    life .fresh (es ++ [.request i (basic u p), .send i url]) = life .fresh es ++ [some (basic u p)] :=
  own_credentials_from_next_attempt es i (basic u p) url hi

example : life .fresh (.newReq :: [SetOp.clientBasic [97] [98], .reqBasic [] [], .clientBearer [116]].map evOf ++
    [.send 0 (some ([117], [112]))]) = [some (basic [] [])] := by decide +kernel

end Req.Props.C20
