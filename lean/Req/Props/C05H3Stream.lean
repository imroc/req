import Req.Lemmas.C05H3Stream
import Req.Lemmas.C05ExceptEq
/-!
C05 — the full HTTP/3 receive automaton of `frameParser.ParseNext` against a declarative
description of the wire, and iff-characterisations for HTTP/3 frames and SETTINGS. Encodings are
quantified as `IsVarint bs n` (any bytes `Parse` reads as `n`, minimal or not). The model is of the
fork with its truncation repair: a stream that ends inside a frame header or a skipped frame is
truncated (`io.ErrUnexpectedEOF`), not finished (`io.EOF`).
-/
namespace Req.Props.C05
open Req.Proto Req.H3.Varint Req.H3.Frame Req.H3.Stream Req.Lemmas.C05.H3Stream

/-- for every list `ws` of complete wire frames — each with ANY valid encoding of its type and of
its declared length, the declared number of payload bytes present, a type that is not reserved,
SETTINGS frames within the cap and acceptable — followed by ANY bytes `tail`, the receive loop
reports exactly the visible frames of `ws` (DATA and HEADERS with exactly their payload bytes,
SETTINGS parsed), in order, nothing for CANCEL_PUSH / PUSH_PROMISE / GOAWAY / MAX_PUSH_ID / greased
/ unknown frames wherever they stand, and then behaves on `tail` as on a fresh stream. -/
theorem h3_parse_stream (ws : List WFrame) (hw : ∀ w ∈ ws, w.Wf) (k : Nat) (tail : Bytes) :
    parseStream (k + 1 + (ws.filterMap WFrame.event).length) (wireBytes ws ++ tail) =
      ws.filterMap WFrame.event ++ parseStream (k + 1) tail := by
  induction ws with
  | nil => simp [wireBytes]
  | cons w ws ih =>
    have ih' := ih (fun x hx => hw x (by simp [hx]))
    have hf := parseStream_frame w (hw w (by simp))
    rw [show wireBytes (w :: ws) ++ tail = w.tEnc ++ (w.lEnc ++ (w.payload ++ (wireBytes ws ++ tail))) by
      simp [wireBytes, WFrame.bytes]]
    cases hev : w.event with
    | none =>
      rw [hev] at hf
      simp only [List.filterMap_cons, hev]
      rw [← ih', Nat.add_right_comm]
      exact hf _ _
    | some e =>
      rw [hev] at hf
      simp only [List.filterMap_cons, hev, List.length_cons, List.cons_append]
      rw [← ih', ← Nat.add_assoc]
      exact hf _ _
/-- GOAWAY(7) len 1, HEADERS len 2 (length encoded in 2 bytes, non-minimal), greased 0x21 len 0,
DATA len 64 would need 64 bytes; here DATA len 1: the consumer sees HEADERS [9,9], DATA [5], EOF. -/
example : parseStream 5 [7, 1, 0,   1, 0x40, 2, 9, 9,   0x21, 0,   0, 1, 5] =
    [.headers [9, 9], .data [5], .eof] := by decide

/-- how a stream ends: nothing left. -/
theorem h3_stream_end_clean (k : Nat) : parseStream (k + 1) [] = [.eof] := by
  simp [parseStream, parseNext, Req.H3.Varint.read, parse]

/-- … inside the type varint, at any byte (every proper prefix of an encoding fails to read): a
truncated frame, not a clean end. -/
theorem h3_stream_end_in_type (k : Nat) (tail : Bytes) (e : PErr) (hne : tail ≠ [])
    (h : Req.H3.Varint.read tail = .error e) : parseStream (k + 1) tail = [.err .unexpectedEOF] := by
  rw [parseStream, parseNext_no_type _ tail e h]
  have : tail.isEmpty = false := by cases tail <;> simp_all
  simp [this]

/-- … inside the length varint, at any byte, whatever the type (also DATA, HEADERS, reserved). -/
theorem h3_stream_end_in_length (k : Nat) (te tail : Bytes) (t : Nat) (ht : IsVarint te t) (e : PErr)
    (h : Req.H3.Varint.read tail = .error e) :
    parseStream (k + 1) (te ++ tail) = [.err .unexpectedEOF] := by
  rw [parseStream, parseNext_no_length _ te tail t ht e h]

/-- … inside a skipped frame: a declared length of ANY size that exceeds what remains is a
truncated frame (the parser does not allocate or wait for it). -/
theorem h3_stream_end_in_skipped (k : Nat) (te le part : Bytes) (t l : Nat) (ht : IsVarint te t)
    (hl : IsVarint le l) (hs : isSkipped t = true) (hp : part.length < l) :
    parseStream (k + 1) (te ++ (le ++ part)) = [.err .unexpectedEOF] := by
  rw [parseStream, parseNext_skip_short ht hl _ part hs hp]

/-- … inside the payload of a DATA frame: the frame header is reported with the declared length,
the consumer finds fewer bytes. -/
theorem h3_stream_end_in_data (k : Nat) (te le part : Bytes) (l : Nat) (ht : IsVarint te 0)
    (hl : IsVarint le l) (hp : part.length < l) :
    parseStream (k + 1) (te ++ (le ++ part)) = [.truncatedPayload l part] := by
  rw [parseStream, Req.Lemmas.C05.H3.step_header ht hl]
  simp [hp]

/-- … with a frame type RFC 9114 §7.2.8 reserves: an error, whatever follows. -/
theorem h3_stream_end_reserved (k : Nat) (te le rest : Bytes) (t l : Nat) (ht : IsVarint te t)
    (hl : IsVarint le l) (hr : isReservedType t = true) :
    parseStream (k + 1) (te ++ (le ++ rest)) = [.err (.reserved t)] := by
  rw [parseStream, Req.Lemmas.C05.H3.step_header ht hl]
  have h0 : t ≠ 0 := by intro h; subst h; simp [isReservedType] at hr
  have h1 : t ≠ 1 := by intro h; subst h; simp [isReservedType] at hr
  have h4 : t ≠ 4 := by intro h; subst h; simp [isReservedType] at hr
  simp [h0, h1, h4, hr]

example : parseStream 3 [0x40, 0x00, 5, 1, 2] = [.truncatedPayload 5 [1, 2]] := by decide
example : parseStream 3 [0x21, 0xc0, 0xff, 0xff, 0xff, 0xff, 0xff, 0xff, 0xff, 1, 2, 3] =
    [.err .unexpectedEOF] := by decide
example : parseStream 3 [0x80, 0, 0] = [.err .unexpectedEOF] := by decide
/-- a complete skipped frame and then nothing: clean end. -/
example : parseStream 3 [0x21, 2, 7, 7] = [.eof] := by decide
example : parseStream 3 [8, 0] = [.err (.reserved 8)] := by decide

/-- any two loop bounds above the input length give the same `ParseNext` result (the driver uses
`length + 1`). -/
theorem h3_parse_fuel_irrelevant (f1 f2 : Nat) (input : Bytes) (h1 : input.length < f1)
    (h2 : input.length < f2) : parseNext f1 input = parseNext f2 input :=
  parseNext_fuel f1 f2 input h1 h2

/-- one frame header `(t, l)` — any encodings — in front of any bytes: `t = 0` ⇒ returned as DATA,
`t = 1` ⇒ as HEADERS (with the declared length, positioned right after the header), `t = 4` ⇒ handed
to the SETTINGS parser (its `io.EOF` for a short payload becoming `unexpectedEOF`), `t ∈ {2, 6, 8,
9}` ⇒ rejected as reserved, a skipped type ⇒ skipped with its `l` payload bytes (`unexpectedEOF`
when fewer remain). Two converses: a DATA/HEADERS result with this `l` comes only from `t = 0`, `t =
1` or a skipped type (then it is a later frame's), and an error `reserved t'` only from `t = 4`, a
skipped type, or `t' = t` reserved. -/
theorem h3_frame_verdict (te le rest : Bytes) (t l fuel : Nat) (ht : IsVarint te t) (hl : IsVarint le l) :
    (t = 0 → parseNext (fuel + 1) (te ++ (le ++ rest)) = (.ok (.data l), rest)) ∧
    (t = 1 → parseNext (fuel + 1) (te ++ (le ++ rest)) = (.ok (.headers l), rest)) ∧
    (t = 4 → parseNext (fuel + 1) (te ++ (le ++ rest)) = truncated (parseSettingsFrame l rest)) ∧
    ((t = 2 ∨ t = 6 ∨ t = 8 ∨ t = 9) →
      parseNext (fuel + 1) (te ++ (le ++ rest)) = (.error (.reserved t), rest)) ∧
    (isSkipped t = true → rest.length < l →
      parseNext (fuel + 1) (te ++ (le ++ rest)) = (.error .unexpectedEOF, [])) ∧
    (isSkipped t = true → l ≤ rest.length →
      parseNext (fuel + 1) (te ++ (le ++ rest)) = parseNext fuel (rest.drop l)) ∧
    ((∃ f, (parseNext (fuel + 1) (te ++ (le ++ rest))).1 = .ok f ∧ (f = .data l ∨ f = .headers l)) →
      t = 0 ∨ t = 1 ∨ isSkipped t = true) ∧
    (∀ t', (parseNext (fuel + 1) (te ++ (le ++ rest))).1 = .error (.reserved t') →
      t = 4 ∨ isSkipped t = true ∨ (t' = t ∧ isReservedType t = true)) := by
  have hstep := Req.Lemmas.C05.H3.step_header ht hl fuel rest
  refine ⟨?_, ?_, ?_, ?_, ?_, ?_, ?_, ?_⟩
  · intro h; rw [hstep]; simp [h]
  · intro h; rw [hstep]; simp [h]
  · intro h; rw [hstep]; simp [h]
  · intro h; rw [hstep]; rcases h with h | h | h | h <;> subst h <;> simp [isReservedType]
  · exact parseNext_skip_short ht hl fuel rest
  · exact parseNext_skip ht hl fuel rest
  · rintro ⟨f, hf, hd⟩
    rw [hstep] at hf
    rcases frameType_cases t with h | h | rfl | ⟨hr, h0, h1, h4⟩ | hs
    · exact .inl h
    · exact .inr (.inl h)
    · obtain ⟨s, rfl⟩ := settingsBranch_ok (by simpa using hf)
      rcases hd with hd | hd <;> cases hd
    · simp [h0, h1, h4, hr] at hf
    · exact .inr (.inr hs)
  · intro t' hf
    rw [hstep] at hf
    rcases frameType_cases t with rfl | rfl | h | ⟨hr, h0, h1, h4⟩ | hs
    · simp at hf
    · simp at hf
    · exact .inl h
    · simp only [h0, h1, h4, hr, ↓reduceIte, Except.error.injEq, Err.reserved.injEq] at hf
      exact .inr (.inr ⟨hf.symm, hr⟩)
    · exact .inr (.inl hs)
/-- `ParseNext` reports `io.EOF` (clean end of the stream) ⇔ the input is empty, or it starts with a
COMPLETE frame of a skipped type — type and length readable, all `l` declared payload bytes present
— after which `ParseNext` reports `io.EOF` again. By induction: only at a frame boundary after
complete skipped frames, never inside a frame header, a SETTINGS frame or a skipped payload (RFC
9114 §7.1). -/
theorem h3_eof_iff_boundary (fuel : Nat) (input : Bytes) :
    (parseNext (fuel + 1) input).1 = .error .eof ↔
      (input = [] ∨ ∃ t r1 l r2, Req.H3.Varint.read input = .ok (t, r1) ∧
        Req.H3.Varint.read r1 = .ok (l, r2) ∧ isSkipped t = true ∧ l ≤ r2.length ∧
        (parseNext fuel (r2.drop l)).1 = .error .eof) := by
  rw [parseNext]
  constructor
  · intro h
    cases h1 : Req.H3.Varint.read input with
    | error e =>
      rw [h1] at h
      left
      cases input with
      | nil => rfl
      | cons b bs => simp at h
    | ok p1 =>
      obtain ⟨t, r1⟩ := p1
      rw [h1] at h
      simp only at h
      cases h2 : Req.H3.Varint.read r1 with
      | error e => rw [h2] at h; simp at h
      | ok p2 =>
        obtain ⟨l, r2⟩ := p2
        rw [h2] at h
        simp only at h
        exact .inr ⟨t, r1, l, r2, rfl, h2, (branch_eof t l r2 fuel).mp h⟩
  · rintro (rfl | ⟨t, r1, l, r2, h1, h2, hrest⟩)
    · simp [Req.H3.Varint.read, parse]
    · rw [h1]
      simp only
      rw [h2]
      simp only
      exact (branch_eof t l r2 fuel).mpr hrest

/-- a stream that ends inside a SETTINGS frame (fewer than the declared bytes, or a payload that
ends inside a pair) is a truncated frame for `ParseNext`, whatever `parseSettingsFrame` alone says. -/
theorem h3_settings_truncated_unexpected (te le rest : Bytes) (l fuel : Nat) (ht : IsVarint te 4)
    (hl : IsVarint le l) (h : (parseSettingsFrame l rest).1 = .error .eof) :
    (parseNext (fuel + 1) (te ++ (le ++ rest))).1 = .error .unexpectedEOF := by
  rw [Req.Lemmas.C05.H3.step_header ht hl]
  simp only [show (4 : Nat) ≠ 0 by decide, show (4 : Nat) ≠ 1 by decide, ↓reduceIte]
  cases hr : parseSettingsFrame l rest with
  | mk a b =>
    rw [hr] at h
    simp only at h
    subst h
    rfl

example : (parseNext 3 [4, 3, 6, 1]).1 = .error .unexpectedEOF ∧
    (parseNext 3 [4, 3, 6, 1, 7]).1 = .error .unexpectedEOF := by decide

/-- RFC 9114 §7.2.4, RFC 9220, RFC 9297: a SETTINGS payload is accepted with settings `s` ⇔ it is a
sequence of complete (identifier, value) varint pairs — any encodings — with pairwise distinct
identifiers in which 0x8 and 0x33 carry 0 or 1, and `s` is what those pairs stand for (the two
booleans; every other pair, in wire order). -/
theorem h3_settings_accept_iff (bs : Bytes) (s : Settings) :
    parseSettingsPayload bs = .ok s ↔
      ((decodePairs (bs.length + 1) bs).2 = false ∧ SettingsOK (decodePairs (bs.length + 1) bs).1 ∧
        s = settingsOf (decodePairs (bs.length + 1) bs).1) := by
  unfold parseSettingsPayload
  rw [Req.Lemmas.C05.H3.settingsLoop_decode, Req.Lemmas.C05.H3.pairsLoop_ok_iff,
    Req.Lemmas.C05.H3.stepsOK_init_iff]
  rfl

example : decodePairs 8 [0x33, 1, 0x40, 8, 0, 6, 0x80, 0, 0x40, 0] = ([(51, 1), (8, 0), (6, 16384)], false) := by
  decide
example : parseSettingsPayload [0x33, 1, 0x40, 8, 0, 6, 0x80, 0, 0x40, 0] =
    .ok ⟨true, false, [(6, 16384)]⟩ := by decide

/-- the SETTINGS parser reports `io.EOF` ⇔ the payload ends inside a pair and every complete pair
before is acceptable (an earlier duplicate or invalid value is reported instead). -/
theorem h3_settings_eof_iff (bs : Bytes) :
    parseSettingsPayload bs = .error .eof ↔
      ((decodePairs (bs.length + 1) bs).2 = true ∧ SettingsOK (decodePairs (bs.length + 1) bs).1) := by
  unfold parseSettingsPayload
  rw [Req.Lemmas.C05.H3.settingsLoop_decode, Req.Lemmas.C05.H3.pairsLoop_eof_iff,
    Req.Lemmas.C05.H3.stepsOK_init_iff]

example : parseSettingsPayload [6, 1, 7] = .error .eof := by decide
example : parseSettingsPayload [6, 1, 6, 2, 7] = .error (.duplicateSetting 6) := by decide

/-- `parseSettingsFrame(r, l)`: "unexpected size" ⇔ `l > 8192`; otherwise EOF when fewer than `l`
bytes remain; otherwise the verdict of the payload parser on exactly the next `l` bytes, leaving
exactly what follows them. -/
theorem h3_settings_frame_classes (l : Nat) (input : Bytes) :
    ((parseSettingsFrame l input).1 = .error .settingsTooLarge ↔ l > 8192) ∧
    (l ≤ 8192 → input.length < l → parseSettingsFrame l input = (.error .eof, [])) ∧
    (l ≤ 8192 → l ≤ input.length →
      parseSettingsFrame l input =
        (match parseSettingsPayload (input.take l) with
          | .error e => .error e
          | .ok s => .ok (.settings s), input.drop l)) := by
  refine ⟨?_, ?_, ?_⟩
  · unfold parseSettingsFrame
    by_cases h : l > 8192
    · simp [h]
    · simp only [h, ↓reduceIte, iff_false]
      split
      · simp
      · cases hp : parseSettingsPayload (input.take l) with
        | error e =>
          simp only [Except.error.injEq]
          intro he
          exact Req.Lemmas.C05.H3.parseSettingsPayload_ne_tooLarge _ (he ▸ hp)
        | ok s => simp
  · intro h1 h2
    unfold parseSettingsFrame
    rw [if_neg (by omega), if_pos h2]
  · intro h1 h2
    unfold parseSettingsFrame
    rw [if_neg (by omega), if_neg (by omega)]
    cases parseSettingsPayload (input.take l) <;> rfl

/-- every encoding `AppendWithLen` produces — minimal or padded to 2, 4 or 8 bytes — is an encoding
in the sense the theorems above quantify over. -/
theorem h3_varint_any_encoding (n l : Nat) (bs : Bytes)
    (hl : l = 1 ∨ l = 2 ∨ l = 4 ∨ l = 8) (hn : n < capacity l) (h : appendWithLen n l = some bs) :
    IsVarint bs n := by
  intro rest
  obtain ⟨bs', h1, _, h3⟩ := Req.Lemmas.C05.Varint.parse_nonminimal_ok n l rest hl hn
  rw [h] at h1; cases h1
  unfold Req.H3.Varint.read
  rw [h3]

/-- the boundary values in both directions, minimal and non-minimal. -/
example : appendWithLen 64 2 = some [0x40, 0x40] ∧ appendWithLen 64 8 = some [0xc0, 0, 0, 0, 0, 0, 0, 0x40]
    ∧ appendWithLen 16384 4 = some [0x80, 0, 0x40, 0] ∧ appendWithLen 1073741824 8 = some [0xc0, 0, 0, 0, 0x40, 0, 0, 0]
    ∧ appendWithLen 4611686018427387903 8 = some [0xff, 0xff, 0xff, 0xff, 0xff, 0xff, 0xff, 0xff] := by decide
example : parseStream 3 ([0xc0, 0, 0, 0, 0, 0, 0, 0] ++ [0xc0, 0, 0, 0, 0, 0, 0, 1] ++ [7]) =
    [.data [7], .eof] := by decide

end Req.Props.C05
