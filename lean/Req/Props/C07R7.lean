/-!
C07 — the trailer look-ahead of the HTTP/1 body reader never waits for a byte beyond the end
of the message.

`seeUpcomingDoubleCRLF` (transfer.go:824-837) is run by `body.readTrailer` after the last chunk: it
peeks 4, 5, 6, … bytes and stops at the first peek whose result ends in CR LF CR LF. `bufio.Reader.Peek n`
(n ≤ buffer size) does not return before `n` bytes have arrived, the stream has ended, or the read failed —
on a connection the server keeps open and silent after its response, a `Peek` for more bytes than the
server sent never returns (`Peek.blocked`).

The file holds the hand model of that loop (`loop`, `see`) and what is proved of it: for EVERY byte
sequence `s` the server sends before falling silent and every buffer size `B`, if some prefix of `s` of
length `k` (4 ≤ k ≤ B) ends in CR LF CR LF — the trailer section is complete — the loop answers `yes`,
so not `blocked`, although the connection stays open; likewise on that prefix alone and on `s` followed
by anything.

The model is tied to the code by lane `h1pos` (class "connection kept open after the last
byte": 1 byte per read on every self-delimited stream of the matrix, two segments split at every offset;
a reader waiting for more answers `wedge`, which no model outcome equals).
-/
namespace Req.Props.C07.r7

def dcrlf : List UInt8 := [13, 10, 13, 10]

/-- `bytes.HasSuffix(buf, doubleCRLF)` -/
def endsD (l : List UInt8) : Bool := dcrlf.isSuffixOf l

inductive Peek where
  | yes      -- the loop returned true
  | no       -- the loop returned false (buffer filled without a double CRLF)
  | blocked  -- a Peek asked for more bytes than the silent, open connection will ever deliver
  deriving DecidableEq, Repr

/-- The loop of `seeUpcomingDoubleCRLF`, `n` = peekSize, on a connection that delivers exactly `s` and
then stays open; `fuel` bounds the iterations (the loop ends at `n = B + 1` at the latest). -/
def loop (B : Nat) (s : List UInt8) : Nat → Nat → Peek
  | _, 0 => .no
  | n, fuel + 1 =>
    if B < n then
      -- Peek(n) with n > size: what is buffered (B bytes, the previous Peek(B) succeeded) + ErrBufferFull
      if endsD (s.take B) then .yes else .no
    else if s.length < n then .blocked
    else if endsD (s.take n) then .yes
    else loop B s (n + 1) fuel

/-- `seeUpcomingDoubleCRLF` -/
def see (B : Nat) (s : List UInt8) : Peek := loop B s 4 (B + 2)

theorem loop_yes (B : Nat) (s : List UInt8) (k : Nat) (hk : k ≤ s.length) (hB : k ≤ B)
    (he : endsD (s.take k) = true) :
    ∀ d n fuel, n + d = k → d < fuel → loop B s n fuel = .yes := by
  intro d
  -- `d` is the distance from the peek size `n` to `k`: the loop answers at `k` at the latest
  induction d with
  | zero =>
    intro n fuel hn hf
    obtain rfl : n = k := hn
    cases fuel with
    | zero => exact absurd hf (Nat.not_lt_zero _)
    | succ f => rw [loop, if_neg (Nat.not_lt.2 hB), if_neg (Nat.not_lt.2 hk), if_pos he]
  | succ d ih =>
    intro n fuel hn hf
    have hnk : n ≤ k := Nat.le.intro hn
    cases fuel with
    | zero => exact absurd hf (Nat.not_lt_zero _)
    | succ f =>
      rw [loop, if_neg (Nat.not_lt.2 (Nat.le_trans hnk hB)),
        if_neg (Nat.not_lt.2 (Nat.le_trans hnk hk))]
      split
      · rfl
      · exact ih (n + 1) f ((Nat.add_right_comm n 1 d).trans hn) (Nat.lt_of_succ_lt_succ hf)

/-- The trailer section is complete within what arrived and within the buffer ⇒ the look-ahead answers
`yes`; in particular it is never `blocked`, whatever follows (nothing, on an open connection). -/
theorem peek_loop_never_blocks (B : Nat) (s : List UInt8) (k : Nat) (h4 : 4 ≤ k) (hk : k ≤ s.length)
    (hB : k ≤ B) (he : endsD (s.take k) = true) : see B s = .yes := by
  unfold see
  exact loop_yes B s k hk hB he (k - 4) 4 (B + 2) (by omega) (by omega)

/-- The answer is `yes` on the first `k` bytes alone — a connection that delivers the trailer section
and nothing more does not leave the loop `blocked` — and on `s` followed by any `t` (the next response
on the connection, or none). -/
theorem peek_loop_demand_le (B : Nat) (s t : List UInt8) (k : Nat) (h4 : 4 ≤ k) (hk : k ≤ s.length)
    (hB : k ≤ B) (he : endsD (s.take k) = true) : see B (s.take k) = .yes ∧ see B (s ++ t) = .yes := by
  constructor
  · apply peek_loop_never_blocks B (s.take k) k h4
    · simp [List.length_take]; omega
    · exact hB
    · simp [List.take_take, he]
  · apply peek_loop_never_blocks B (s ++ t) k h4
    · simp [List.length_append]; omega
    · exact hB
    · rw [List.take_append_of_le_length hk]; exact he

/-- A single `Peek(size)` when the double CRLF is not buffered yet, instead of the growing peeks:
it blocks on `0 CRLF X: 1 CRLF` arrived, `CRLF` still to come, with a 4096-byte buffer. -/
def seeOnce (B : Nat) (buffered s : List UInt8) : Peek :=
  if (List.range (buffered.length + 1)).any (fun i => endsD (buffered.take i)) then .yes
  else if s.length < B then .blocked
  else if (List.range (B + 1)).any (fun i => endsD (s.take i)) then .yes else .no

example : seeOnce 4096 [88, 58, 49, 13, 10] [88, 58, 49, 13, 10, 13, 10] = .blocked := by decide
example : see 4096 [88, 58, 49, 13, 10, 13, 10] = .yes := by
  apply peek_loop_never_blocks 4096 _ 7 <;> decide

end Req.Props.C07.r7
