import Req.Client.Resend
import Req.Props.C16
/-!
C16 for SECOND SENDS (retry, the same request sent again, digest-auth re-send, redirect hop):
the second request carries the same header set as the first — same names in the caller's exact
spelling, same values, same multiplicities, same order lists — except for the one entry the
mechanism is there to change (`Authorization` for digest, `Referer` and, across domains, the
credentials for a redirect).
-/
namespace Req.Props.C16Resend
open Req.Proto Req.Ascii Req.HeaderSort Req.H1 Req.Resend Req.Validate Req.Props.C16

theorem canon_auth : canonicalMIMEHeaderKey sAuthorization = sAuthorization := by decide
theorem canon_referer : canonicalMIMEHeaderKey sReferer = sReferer := by decide

/-- **Shape of a second send**: the header map of the second request is the first one without the
keys the mechanism owns, plus the entry it adds — every other entry is the SAME entry (key
spelling, values, value order). -/
theorem secondHeader_eq (k : Kind) (h : Hdr) :
    secondHeader k h = h.filter (fun kv => !touched k kv.key) ++ added k := by
  cases k with
  | same =>
    simp only [secondHeader, touched, added, List.append_nil, Bool.not_false]
    exact (List.filter_eq_self.mpr (by intros; rfl)).symm
  | digest a => simp [secondHeader, hdrSet, hdrDel, touched, added, canon_auth]
  | redirect strip ref =>
    simp only [secondHeader, touched, added]
    by_cases he : ref.isEmpty
    · simp [he]
    · simp only [he, Bool.false_eq_true, if_false, hdrSet, hdrDel, canon_referer, List.filter_filter,
        Bool.not_false, Bool.true_and]
      congr 1
      apply List.filter_congr
      intro kv _
      cases strip <;> cases sensitive kv.key <;> cases kv.key == sReferer <;> rfl

/-- every entry the mechanism does not own survives as it is (exact spelling — `x-api-KEY` stays
`x-api-KEY`, `X-Dup` and `x-dup` stay two entries). -/
theorem second_keeps_entry (k : Kind) (h : Hdr) (kv : KV) (hm : kv ∈ h)
    (ht : touched k kv.key = false) : kv ∈ secondHeader k h := by
  rw [secondHeader_eq]
  exact List.mem_append_left _ (List.mem_filter.mpr ⟨hm, by simp [ht]⟩)

/-- and nothing appears besides the mechanism's own entry. -/
theorem second_adds_only (k : Kind) (h : Hdr) (kv : KV) (hm : kv ∈ secondHeader k h) :
    kv ∈ h ∨ kv ∈ added k := by
  rw [secondHeader_eq] at hm
  rcases List.mem_append.mp hm with h1 | h1
  · exact Or.inl (List.mem_filter.mp h1).1
  · exact Or.inr h1

/-- a digest re-send: non-canonical and case-variant names keep
their spelling, the old `Authorization` is replaced. -/
example :
    (secondHeader (.digest [68])
      [⟨[120, 45, 97, 112, 105, 45, 75, 69, 89], [[49]]⟩, ⟨[88, 45, 68, 117, 112], [[50]]⟩,
       ⟨sAuthorization, [[111]]⟩, ⟨[120, 45, 100, 117, 112], [[51]]⟩]).map (·.key) =
    [[120, 45, 97, 112, 105, 45, 75, 69, 89], [88, 45, 68, 117, 112], [120, 45, 100, 117, 112],
     sAuthorization] := by decide +kernel

theorem added_keys_touched (k : Kind) : ∀ kv ∈ added k, touched k kv.key = true := by
  intro kv hm
  cases k with
  | same => simp [added] at hm
  | digest a =>
    simp [added] at hm; subst hm; simp [touched]
  | redirect strip ref =>
    simp only [added] at hm
    split at hm
    · simp at hm
    next he =>
      simp at hm; subst hm
      simp [touched, he]

/-- a lookup of any key the mechanism does not own gives the same values in the same order. -/
theorem second_get (k : Kind) (h : Hdr) (key : Bytes) (ht : touched k key = false) :
    hdrGet? (secondHeader k h) key = hdrGet? h key := by
  rw [secondHeader_eq]
  unfold hdrGet?
  congr 1
  rw [List.find?_append]
  have h1 := find?_filter_untouched (fun x => !touched k x) key (by simp [ht]) h
  rw [h1]
  have h2 : (added k).find? (·.key == key) = none := by
    apply List.find?_eq_none.mpr
    intro kv hm hk
    have hke : kv.key = key := by simpa using hk
    have := added_keys_touched k kv hm
    rw [hke, ht] at this
    exact absurd this (by decide)
  rw [h2]
  cases List.find? (fun x => x.key == key) h <;> rfl

theorem touched_bookkeeping (k : Kind) {key : Bytes} (hb : isBookkeeping key = true) :
    touched k key = false := by
  have hkey : key = headerOrderKey ∨ key = pseudoHeaderOrderKey := by simpa [isBookkeeping] using hb
  have hs : sensitive key = false ∧ (key == sAuthorization) = false ∧ (key == sReferer) = false := by
    rcases hkey with rfl | rfl <;> decide
  cases k <;> simp [touched, hs]

/-- **the order lists travel with the request**: the second send sorts by the same header-order
list and the same pseudo-header-order list as the first. -/
theorem second_order_lists (k : Kind) (h : Hdr) :
    orderList (secondHeader k h) = orderList h ∧
    Req.H2.pseudoOrderList (secondHeader k h) = Req.H2.pseudoOrderList h := by
  unfold orderList Req.H2.pseudoOrderList
  rw [second_get k h _ (touched_bookkeeping k (by decide)), second_get k h _ (touched_bookkeeping k (by decide))]
  exact ⟨rfl, rfl⟩

/-- **Every caller line is on the wire of the second send exactly as often as on the first**
(HTTP/1.1): for any header line `(name, value)` whose name — in this exact spelling — is not one
the mechanism owns and not one the writer writes itself, the number of times it appears in the
second request equals the number of times it appears in the first; whatever the order lists, the
map iteration orders and the framing of the two requests. Nothing the caller set is dropped,
duplicated, re-spelled or merged by a second send. -/
theorem resend_wire_count (k : Kind) (r : WReq) (host host' : Bytes) (f f' : Framing)
    (n v : Bytes) (ht : touched k n = false) (hown : n ∉ ownKeysH1) :
    (linesOf (h1Fields { r with header := secondHeader k r.header } host' f')).count (n, v) =
    (linesOf (h1Fields r host f)).count (n, v) := by
  rw [(wire_set_h1 r host f).count_eq, (wire_set_h1 _ host' f').count_eq]
  simp only [List.count_append]
  have hz : ∀ (r0 : WReq) (h0 : Bytes) (f0 : Framing),
      (linesOf (ownFieldsH1 r0 h0 f0)).count (n, v) = 0 := by
    intro r0 h0 f0
    apply List.count_eq_zero.mpr
    intro hm
    obtain ⟨kv, hkv, hk, _⟩ := mem_linesOf hm
    exact hown (hk ▸ ownFieldsH1_keys r0 h0 f0 kv hkv)
  rw [hz, hz]
  have hc : (linesOf (callerFields (secondHeader k r.header) reqWriteExcludeHeader)).count (n, v) =
      (linesOf (callerFields r.header reqWriteExcludeHeader)).count (n, v) := by
    rw [secondHeader_eq, callerFields_append, linesOf_append, List.count_append,
      callerFields_filter (fun x => !touched k x), ← filter_linesOf (fun x => !touched k x),
      List.count_filter (by simp [ht])]
    have hz2 : (linesOf (callerFields (added k) reqWriteExcludeHeader)).count (n, v) = 0 := by
      apply List.count_eq_zero.mpr
      intro hm
      obtain ⟨kv, hkv, hk, _⟩ := mem_linesOf hm
      obtain ⟨kv0, h0, hk0⟩ := callerFields_mem_src hkv
      have := added_keys_touched k kv0 h0
      rw [← hk0, hk, ht] at this
      cases this
    omega
  simp only [hc]

/-- **the listed headers of the second send are in the order the caller listed** — the list that
was given for the first send. -/
theorem resend_order_respected (k : Kind) (r : WReq) (host : Bytes) (f : Framing)
    (hmode : (orderList r.header).isEmpty = false) :
    ((h1Fields { r with header := secondHeader k r.header } host f).filterMap
      (fun kv => lastIndex (orderList r.header) kv.key)).Pairwise (· ≤ ·) := by
  simpa only [(second_order_lists k r.header).1] using
    h1_listed_ordered { r with header := secondHeader k r.header } host f

/-- **no bookkeeping key on the wire of a second send** either. -/
theorem resend_no_bookkeeping (k : Kind) (r : WReq) (host : Bytes) (f : Framing)
    (hextra : ∀ kv ∈ r.extra, isBookkeeping kv.key = false) :
    ∀ l ∈ linesOf (h1Fields { r with header := secondHeader k r.header } host f),
      isBookkeeping l.1 = false :=
  h1_no_bookkeeping { r with header := secondHeader k r.header } host f hextra

/-- the transport's own extra headers never carry a bookkeeping key: the hypothesis of
`h1_no_bookkeeping` / `resend_no_bookkeeping` holds for what `persistConn.roundTrip` builds. -/
theorem transportExtra_no_bookkeeping (dc dk : Bool) (r : WReq) :
    ∀ kv ∈ transportExtra dc dk r, isBookkeeping kv.key = false := by
  intro kv hm
  unfold transportExtra at hm
  rcases List.mem_append.mp hm with h1 | h1
  · have := List.mem_ite_l h1; subst this; decide
  · have := List.mem_ite_l h1; subst this; decide

/-- non-vacuity of `resend_wire_count` / `resend_order_respected`: digest re-send of a request
with the order list `x-dup, authorization, x-api-key`. -/
example :
    (linesOf (h1Fields
      { method := [71, 69, 84], url := {}, header := secondHeader (.digest [68])
          [⟨[120, 45, 97, 112, 105, 45, 75, 69, 89], [[49]]⟩, ⟨[88, 45, 68, 117, 112], [[50]]⟩,
           ⟨headerOrderKey, [[120, 45, 100, 117, 112], [97, 117, 116, 104, 111, 114, 105, 122, 97, 116, 105, 111, 110],
              [120, 45, 97, 112, 105, 45, 107, 101, 121]]⟩] }
      [104] ⟨false, false, 0⟩)).map (·.1)
    = [sHost, [88, 45, 68, 117, 112], sAuthorization, sUserAgent, [120, 45, 97, 112, 105, 45, 75, 69, 89]] := by
  decide +kernel

end Req.Props.C16Resend
