import Req.Props.C13H1
/-!
C13: requests WITH a header order (`Request.SetHeaderOrder`, `Client.SetCommonHeaderOrder`,
an impersonation profile: `r.Header["__header_order__"]`). `writeRequest` then collects the field
lines, sorts them (`header.SortKeyValues`) and writes them in a second pass. That pass has to go
through the request-header dump wrappers like the direct one (the trial change `seeded/C13-r7-3` sends it to the raw
writer: wire unchanged, dump = request line + blank line only).
-/
namespace Req.Props.C13R7
open Req.Proto Req.H1 Req.H1.DumpWrite

/-- the field list of a request with a header order: everything collected, sorted by the list. -/
def orderedFields (r : WReq) (host : Bytes) (f : Framing) : Hdr :=
  let ua := if (hdrGet? r.header sUserAgent).isSome then hdrFirst r.header sUserAgent
            else defaultUserAgent
  HeaderSort.sortKeyValues
    ([⟨sHost, [host]⟩]
      ++ (if ua.isEmpty then [] else [⟨sUserAgent, [ua]⟩])
      ++ framingFields r f
      ++ writeSubset r.header reqWriteExcludeHeader true
      ++ writeSubset r.extra [] true)
    (orderList r.header)

theorem h1Fields_ordered (r : WReq) (host : Bytes) (f : Framing)
    (ho : (orderList r.header).isEmpty = false) :
    h1Fields r host f = orderedFields r host f := by
  simp [h1Fields, orderedFields, ho]

/-- **ordered head: dump = wire.** For every request with a non-empty header order, every buffer
size, body segmentation and dump mode: a dumper with `RequestHeader()` holds the request line,
EVERY sorted field line and the blank line — byte for byte the head on the wire. -/
theorem dump_equals_wire_h1_ordered (B : Nat) (r : WReq) (md : Mode) (pieces : List Bytes) (st : St)
    (ho : (orderList r.header).isEmpty = false)
    (hbf : md.bodyFails = false) (hd : md.hdrDump = true)
    (h : writeRequest B none r md pieces = .ok st) :
    ∃ host f, wireHost r = .ok host ∧ framing r = .ok f ∧
      let head := requestLine r (requestTarget r host) ++ renderFields (orderedFields r host f) ++ crlf
      st.dumpH = head ∧ st.w.flush.wire = head ++ bodyWire f pieces := by
  obtain ⟨host, f, hh, hf, hw, _, hdh, _⟩ := Req.Props.C13H1.dump_equals_wire_h1 B r md pieces st hbf h
  refine ⟨host, f, hh, hf, ?_⟩
  simp only [hd, if_true, headBytes, h1Fields_ordered r host f ho] at hdh hw
  exact ⟨hdh, hw⟩

/-- the write program of `seeded/C13-r7-3`: request line and blank line through the header wrappers,
the sorted field lines as ONE write to the raw writer. -/
def headOpsRawBlock (t : Tag) (line : Bytes) (fields : Hdr) : List Op :=
  [.write line t, .write (renderFields fields) .raw, .write crlf t]

/-- an ordered request: `GET h://h/a`, `X-A: v`, order `[X-A]`. -/
def exOrdered : WReq :=
  { method := [71, 69, 84], url := { scheme := [104], host := [104], path := [47, 97] },
    header := [⟨[88, 45, 65], [[118]]⟩, ⟨headerOrderKey, [[88, 45, 65]]⟩] }

/-- That variant is NOT faithful: same wire, but the header dump is the request line and the
blank line only (18 bytes instead of the whole head). -/
theorem raw_block_not_faithful :
    let fields := orderedFields exOrdered [104] ⟨false, false, 0⟩
    let line := requestLine exOrdered [47, 97]
    let good := run 4096 (St.init none) (headOps .hdr line fields)
    let bad := run 4096 (St.init none) (headOpsRawBlock .hdr line fields)
    good.w.flush.wire = bad.w.flush.wire ∧ good.dumpH = good.w.flush.wire ∧
      bad.dumpH = line ++ crlf ∧ bad.dumpH ≠ bad.w.flush.wire := by
  decide +kernel

end Req.Props.C13R7
