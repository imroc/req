import Req.Lemmas.C13Sched
/-!
C13, HTTP/1.1 request side: which bytes the stack hands to the dumper, when they leave, and what
is claimed when the request fails while it is written. Model: `Req/H1/DumpWrite.lean` (the write
program of `persistConn.writeRequest` + `transferWriter.writeBody` over the connection's
`bufio.Writer`); tied to the code by lane `h1w`.
-/
namespace Req.Props.C13H1
open Req.Proto Req.H1 Req.H1.DumpWrite

/-- the request every example below uses: `POST h://h/a` with an unknown-length body `abcde`
read as `ab`, `cde` (chunked). -/
def exReq : WReq :=
  { method := [80, 79, 83, 84], url := { scheme := [104], host := [104], path := [47, 97] },
    header := [⟨[88, 45, 65], [[118]]⟩], hasBody := true, body := [97, 98, 99, 100, 101], reads := [2] }

def exPieces : List Bytes := [[97, 98], [99, 100, 101], []]

/-- On a completed body the three accounts of `h1_dump_on_failure` are the head, the body bytes
and the wire bytes of `dump_equals_wire_h1`. -/
theorem h1_accounts (m line : Bytes) (fields : Hdr) (f : Framing) (md : Mode) (pieces : List Bytes)
    (hf : md.bodyFails = false) :
    dataOf .all (program m line fields f md pieces) = headBytes line fields ++ bodyWire f pieces ∧
    dataOf .hdr (program m line fields f md pieces) = (if md.hdrDump then headBytes line fields else []) ∧
    dataOf .body (program m line fields f md pieces) = (if md.bodyDump then bodyDumpBytes f pieces else []) := by
  have hfl : ∀ a, dataOf a (if md.flushHeaders then [Op.flush] else []) = [] := by
    intro a; split <;> rfl
  obtain ⟨ba, bh, bb⟩ := dataOf_bodyOps m f md pieces hf
  unfold program
  refine ⟨?_, ?_, ?_⟩ <;> rw [dataOf_append, dataOf_append, dataOf_headOps, hfl, htag_sel]
  · simp [ba]
  · simp [bh]
  · simp [bb]

/-- **dump = wire, HTTP/1.1 request** (no failure). For every request the writer accepts, every
buffer size `B`, every segmentation of the body into reads, every dump mode: once `writeLoop` has
flushed, the wire holds exactly the head followed by the framed body; every dumper with
`RequestHeader()` was handed exactly the head bytes — request line, each header line, the blank
line, as transmitted — once; every dumper with `RequestBody()` exactly the body bytes as sent
(`bodyDumpBytes`: the data without the chunk-size lines, plus the final CRLF of a chunked body),
once; without the flag nothing. -/
theorem dump_equals_wire_h1 (B : Nat) (r : WReq) (md : Mode) (pieces : List Bytes) (st : St)
    (hbf : md.bodyFails = false) (h : writeRequest B none r md pieces = .ok st) :
    ∃ host f, wireHost r = .ok host ∧ framing r = .ok f ∧
      let line := requestLine r (requestTarget r host)
      let fields := h1Fields r host f
      st.w.flush.wire = headBytes line fields ++ bodyWire f pieces ∧ st.w.flush.buf = [] ∧
      st.dumpH = (if md.hdrDump then headBytes line fields else []) ∧
      st.dumpB = (if md.bodyDump then bodyDumpBytes f pieces else []) := by
  obtain ⟨host, f, hh, hf, _, rfl⟩ := writeRequest_ok B none r md pieces st h
  refine ⟨host, f, hh, hf, ?_⟩
  have hd := h1_accounts r.method (requestLine r (requestTarget r host)) (h1Fields r host f) f md pieces hbf
  generalize program r.method (requestLine r (requestTarget r host)) (h1Fields r host f) f md pieces = prog at hd ⊢
  -- the wire never fails: no sticky error, so every account is complete and the flush empties the buffer
  obtain ⟨hall, hhdr, hbody⟩ := hd
  obtain ⟨hlim, herr⟩ := run_nofail B prog (St.init none) rfl rfl
  obtain ⟨_, _, hbuf, hwire⟩ := flush_nofail (run B (St.init none) prog).w hlim herr
  have acc := fun a => (run_init_acc B none a prog).2 herr
  refine ⟨?_, hbuf, (acc .hdr).trans hhdr, (acc .body).trans hbody⟩
  rw [hwire, run_conserve B prog (St.init none) rfl]
  exact (acc .all).trans hall

/-- non-vacuity, and the decision "are chunk-size lines dumped?" on a concrete upload: the wire
carries `2\r\nab\r\n3\r\ncde\r\n0\r\n\r\n`, the body dumper gets `abcde\r\n`. -/
example :
    (writeRequest 16 none exReq { hdrDump := true, bodyDump := true, flushHeaders := true } exPieces).toOption.map
      (fun st => (st.w.flush.wire.drop 116, st.dumpB, st.dumpH.length)) =
    some ([50, 13, 10, 97, 98, 13, 10, 51, 13, 10, 99, 100, 101, 13, 10, 48, 13, 10, 13, 10],
          [97, 98, 99, 100, 101, 13, 10], 116) := by decide +kernel

/-- The wire side of `dump_equals_wire_h1` is the byte-exact serialisation of C01/C16
(`serializeH1`) when the body reads are the chunk boundaries of that model. -/
theorem h1_wire_is_serializeH1 (r : WReq) (wire host : Bytes) (f : Framing)
    (hh : wireHost r = .ok host) (hf : framing r = .ok f) (hs : serializeH1 r = .ok wire) :
    headBytes (requestLine r (requestTarget r host)) (h1Fields r host f) ++
      bodyWire f (splitReads r.body r.reads) = wire := by
  unfold serializeH1 at hs
  rw [hh] at hs
  simp only [bind, Except.bind] at hs
  split at hs
  · cases hs
  · rw [hf] at hs
    simp only [pure, Except.pure] at hs
    cases hb : bodyBytes r f with
    | error e => rw [hb] at hs; cases hs
    | ok body =>
      rw [hb] at hs
      cases hs
      rw [headBytes, bodyWire_splitReads r f body hb]

set_option maxRecDepth 8000 in
example : (serializeH1 exReq).toOption.map (·.length) = some 136 := by decide +kernel

/-- **Transparency of the flush schedule.** For every buffer size, every failure point of the
wire, every segmentation: two dump modes that agree on what the transfer writer decides
(`flushHeaders`, a failing body) produce the same connection state — bytes on the wire, bytes
withheld in the buffer, error — and the same withheld-byte count at EVERY body read, whenever the
body is streamed (chunked, or unframed: CONNECT) or not sent; for bodies of known length the same
holds when the copy path is the same (`bodyDump` equal) — there `io.CopyBuffer` legitimately picks
`ReadFrom` or `Write`, and only `dump_equals_wire_h1` (same bytes) applies. This is the theorem
the trial change `seeded/C13-r3-1` and the CONNECT finding (fixes/C13-6) violate. -/
theorem h1_flush_schedule_transparent (B : Nat) (limit : Option Nat) (r : WReq) (md md' : Mode)
    (pieces : List Bytes) (st st' : St)
    (h1 : md.flushHeaders = md'.flushHeaders) (h2 : md.bodyFails = md'.bodyFails)
    (h3 : md.connectOld = false) (h3' : md'.connectOld = false)
    (h4 : ∀ f, framing r = .ok f →
      f.chunked = true ∨ (f.cl == -1) = true ∨ f.sendBody = false ∨ md.bodyDump = md'.bodyDump)
    (h : writeRequest B limit r md pieces = .ok st) (h' : writeRequest B limit r md' pieces = .ok st') :
    st.w = st'.w ∧ st.pending = st'.pending := by
  obtain ⟨host, f, hh, hf, _, rfl⟩ := writeRequest_ok B limit r md pieces st h
  obtain ⟨host', f', hh', hf', _, rfl⟩ := writeRequest_ok B limit r md' pieces st' h'
  cases hh.symm.trans hh'
  cases hf.symm.trans hf'
  have hcf : connectFlush r.method md = connectFlush r.method md' := by
    simp [connectFlush, h3, h3']
  exact run_erase_congr B _ _ _ (program_erase r.method _ _ f md md' pieces h1 h2 hcf (h4 f hf))

/-- non-vacuity: dump off vs everything dumped, tiny buffer, wire failing after 120 bytes. -/
example :
    (writeRequest 16 (some 120) exReq { flushHeaders := true } exPieces).toOption.map (fun st => (st.w, st.pending)) =
    (writeRequest 16 (some 120) exReq { hdrDump := true, bodyDump := true, flushHeaders := true } exPieces).toOption.map
      (fun st => (st.w, st.pending)) ∧
    (writeRequest 16 (some 120) exReq { flushHeaders := true } exPieces).toOption.map (·.w.err) = some true := by
  decide +kernel

/-- The tree before fixes/C13-6 is NOT transparent: a CONNECT stream of two writes, dump off vs
request-body dump: the second read finds the first piece still in the buffer. -/
theorem connect_old_not_transparent :
    let r : WReq := { method := sCONNECT, url := { scheme := [104], host := [104, 58, 52] },
                      hasBody := true, body := [1, 2, 3], contentLength := -1 }
    (writeRequest 64 none r { flushHeaders := true, connectOld := true } [[1], [2, 3]]).toOption.map (·.pending)
      = some [0, 0] ∧
    (writeRequest 64 none r { bodyDump := true, flushHeaders := true, connectOld := true } [[1], [2, 3]]).toOption.map
      (·.pending) = some [0, 1] := by decide +kernel

/-- **Streamed bodies leave at once, with or without dump.** If the wire does not fail and the
head is flushed before the body (`FlushHeaders`: every body that is not an in-memory reader), then
for a chunked body and for a CONNECT stream, for every dump mode, buffer size and segmentation:
whenever the body is asked for its next piece NOTHING produced so far is still withheld. -/
theorem h1_stream_prompt (B : Nat) (r : WReq) (md : Mode) (pieces : List Bytes) (st : St)
    (hfh : md.flushHeaders = true) (hold : md.connectOld = false)
    (hs : ∀ f, framing r = .ok f → streams r.method f = true)
    (h : writeRequest B none r md pieces = .ok st) :
    ∀ n ∈ st.pending, n = 0 := by
  obtain ⟨host, f, hh, hf, _, rfl⟩ := writeRequest_ok B none r md pieces st h
  have hstr := hs f hf
  unfold program
  rw [run_append, run_append, hfh, if_pos rfl]
  -- the head is flushed: nothing is withheld when the body starts
  have hz0 : Flushed (run B (run B (St.init none)
      (headOps md.htag (requestLine r (requestTarget r host)) (h1Fields r host f))) [Op.flush]) :=
    flushed_flush B _ (prompt_headOps B _ _ _ _ { noLimit := rfl, noErr := rfl, prompt := nofun })
  generalize run B (run B (St.init none)
      (headOps md.htag (requestLine r (requestTarget r host)) (h1Fields r host f))) [Op.flush] = s1 at hz0 ⊢
  unfold bodyOps
  by_cases h0 : f.sendBody
  · simp only [h0, Bool.not_true, Bool.false_eq_true, ↓reduceIte]
    by_cases hc : f.chunked
    · simp only [hc, ↓reduceIte]
      rw [run_append]
      have hz := flushed_pieces_chunked B md.btag pieces s1 hz0
      -- the closing writes come after the last read
      split
      · exact hz.prompt
      · exact (prompt_write B _ _ _ (prompt_write B _ _ _ hz.toPrompt)).prompt
    · simp only [streams, hc, Bool.false_or, Bool.and_eq_true] at hstr
      have hcf : connectFlush r.method md = true := by simp [connectFlush, hstr.2, hold]
      simp only [hc, Bool.false_eq_true, ↓reduceIte, hstr.1, hcf]
      exact (flushed_pieces_stream B md.btag pieces s1 hz0).prompt
  · simp only [h0, Bool.not_false, ↓reduceIte]
    exact hz0.prompt

example :
    (writeRequest 16 none exReq { bodyDump := true, flushHeaders := true } exPieces).toOption.map (·.pending) =
      some [0, 0, 0] ∧ (framing exReq).toOption.map (streams exReq.method) = some true := by decide +kernel

/-- **What is dumped when the request fails while it is written.** For every failure point of
the wire (`limit`), buffer size, dump mode and segmentation — also when the body itself fails
(`bodyFails`): the header dump is a PREFIX of the head, the body dump a prefix of the body bytes,
the bytes the buffered writer accepted a prefix of the request, and the wire holds those accepted
bytes except for what is still in the buffer: nothing is dumped twice, nothing out of order,
nothing that was not handed to the connection, nothing after the failure; and if the wire did not
fail all three are complete. (`dataOf`: the bytes of the program's writes for that account.) -/
theorem h1_dump_on_failure (B : Nat) (limit : Option Nat) (r : WReq) (md : Mode) (pieces : List Bytes)
    (st : St) (h : writeRequest B limit r md pieces = .ok st) :
    ∃ host f, wireHost r = .ok host ∧ framing r = .ok f ∧
      let prog := program r.method (requestLine r (requestTarget r host)) (h1Fields r host f) f md pieces
      st.dumpH <+: dataOf .hdr prog ∧ st.dumpB <+: dataOf .body prog ∧
      st.accepted <+: dataOf .all prog ∧ st.w.wire ++ st.w.buf = st.accepted ∧
      (st.w.err = false →
        st.dumpH = dataOf .hdr prog ∧ st.dumpB = dataOf .body prog ∧ st.accepted = dataOf .all prog) := by
  obtain ⟨host, f, hh, hf, _, rfl⟩ := writeRequest_ok B limit r md pieces st h
  have H := fun a => run_init_acc B limit a
    (program r.method (requestLine r (requestTarget r host)) (h1Fields r host f) f md pieces)
  exact ⟨host, f, hh, hf, (H .hdr).1, (H .body).1, (H .all).1, run_conserve B _ (St.init limit) rfl,
    fun he => ⟨(H .hdr).2 he, (H .body).2 he, (H .all).2 he⟩⟩

/-- non-vacuity: the wire fails in the middle of the first chunk (after `2\r\na`): the header
dump is complete (116 bytes), the body dump holds `ab` — the piece the buffered writer accepted, of
which one byte reached the wire and 3 bytes (`b\r\n`) are still in the buffer — and nothing of the
second piece. -/
example :
    (writeRequest 16 (some 120) exReq { hdrDump := true, bodyDump := true, flushHeaders := true } exPieces).toOption.map
      (fun st => (st.dumpH.length, st.dumpB, st.w.wire.length, st.w.buf.length, st.w.err)) =
      some (116, [97, 98], 120, 3, true) := by
  decide +kernel

end Req.Props.C13H1
