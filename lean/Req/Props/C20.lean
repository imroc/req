import Req.Client.Auth
import Req.Lemmas.C20Base64
/-!
C20 — authentication headers are computed correctly: base64, Basic and Bearer credentials.
Digest authentication is in `Req/Props/C20Digest.lean` (about `Req.DigestAuth`, the model of
digest.go) and `Req/Props/C20Legacy.lean` (the same statements about `Req.Digest`, the model of a
digest.go without RFC 7230 quoted-string handling, conditioned on the quoted-string corners, with the
concrete failing inputs of finding `c20-quoted-string-handling`). DESIGN.md `### C20` lists the other
modules of the property.
-/
namespace Req.Props.C20
open Req.Proto

section b64
open Req.Base64

/-- **base64_roundtrip**: the (strict) decoder of a server recovers every byte string from what
`base64.StdEncoding.EncodeToString` produced — all lengths, all byte values. -/
theorem base64_roundtrip : ∀ bs : Bytes, decode (encode bs) = some bs := by
  intro bs
  fun_induction encode bs with
  | case1 => rfl
  | case2 a =>
    rw [decode_two (top a) (by omega) (Nat.mul_mod_left ..), byte1']
  | case3 a b =>
    rw [decode_three (top a) (sliceLt a.toNat 4 (top b)) (by omega) (Nat.mul_mod_left ..), byte1, byte2']
  | case4 a b c rest ih =>
    rw [decode_full (top a) (sliceLt a.toNat 4 (top b)) (sliceLt b.toNat 16 (top c)) (Nat.mod_lt _ (by decide)),
      ih, quad, byte1, byte2, byte3]
    rfl

/-- `"hi?"`, `"hi"`, `"h"`: the three padding cases -/
example : encode [104, 105, 63] = [97, 71, 107, 47] ∧ encode [104, 105] = [97, 71, 107, 61] ∧
    encode [104] = [97, 65, 61, 61] := by decide

end b64

section basic
open Req.Auth

theorem cutColon_append (u p : Bytes) (h : colon ∉ u) : cutColon (u ++ colon :: p) = some (u, p) := by
  induction u with
  | nil => simp [cutColon]
  | cons c cs ih =>
    have hc : (c == colon) = false := by
      simp only [beq_eq_false_iff_ne, ne_eq]
      intro e; exact h (e ▸ List.mem_cons_self)
    have hcs : colon ∉ cs := fun m => h (List.mem_cons_of_mem _ m)
    simp [cutColon, hc, ih hcs]

theorem serverBasic_basic (u p : Bytes) : serverBasic (basic u p) = cutColon (u ++ colon :: p) := by
  have ht : (basic u p).take 6 = basicPrefix := rfl
  have hd : (basic u p).drop 6 = Req.Base64.encode (u ++ colon :: p) := rfl
  have hf : Req.Ascii.equalFold basicPrefix basicPrefix = true := by decide
  simp only [serverBasic, ht, hd, hf, if_true, base64_roundtrip]

/-- **basic_roundtrip**: for EVERY user-id without a colon and EVERY password (any bytes, empty,
any length) the origin recovers exactly `(user, password)` from the header value produced by
`BasicAuthHeaderValue`. The colon restriction is RFC 7617's own ("a user-id containing a colon
character is invalid"). -/
theorem basic_roundtrip (u p : Bytes) (h : colon ∉ u) : serverBasic (basic u p) = some (u, p) :=
  (serverBasic_basic u p).trans (cutColon_append u p h)

/-- The excluded point: with a colon in the user-id the split moves — `("a:b", "c")` is
received as `("a", "b:c")`. No encoding could avoid it: the scheme has no escape for `:`. -/
theorem basic_colon_excluded :
    serverBasic (basic [97, 58, 98] [99]) = some ([97], [98, 58, 99]) := by decide

/-- Even then nothing is lost: the origin always recovers `user ++ ":" ++ password`. -/
theorem basic_joined (u p : Bytes) :
    ∃ u' p', serverBasic (basic u p) = some (u', p') ∧ u' ++ colon :: p' = u ++ colon :: p := by
  obtain ⟨u', p', hs, hn⟩ := List.eq_append_cons_of_mem (a := colon) (xs := u ++ colon :: p) (by simp)
  exact ⟨u', p', by rw [serverBasic_basic, hs, cutColon_append u' p' hn], hs.symm⟩

/-- `Aladdin` / `open sesame` (RFC 7617 section 2) gives `QWxhZGRpbjpvcGVuIHNlc2FtZQ==` -/
example : basic [65, 108, 97, 100, 100, 105, 110] [111, 112, 101, 110, 32, 115, 101, 115, 97, 109, 101] =
    basicPrefix ++ [81, 87, 120, 104, 90, 71, 82, 112, 98, 106, 112, 118, 99, 71, 86, 117, 73, 72, 78, 108,
      99, 50, 70, 116, 90, 81, 61, 61] := by decide

/-- **bearer_exact**: the origin recovers exactly the token, for every byte string. -/
theorem bearer_exact (t : Bytes) : serverBearer (bearer t) = some t := by
  have ht : (bearer t).take 7 = bearerPrefix := rfl
  have hd : (bearer t).drop 7 = t := rfl
  have hf : Req.Ascii.equalFold bearerPrefix bearerPrefix = true := by decide
  simp only [serverBearer, ht, hd, hf, if_true]

example : serverBearer (bearer [116, 111, 107, 58, 32, 195, 169]) = some [116, 111, 107, 58, 32, 195, 169] := by
  decide

/-- **bearer_scheme_like_token**: a token that itself begins with the scheme - a stored
complete header value `Bearer xxx` - is a token like any other: the origin recovers all of it,
the seven bytes included. -/
theorem bearer_scheme_like_token (t : Bytes) :
    serverBearer (bearer (bearerPrefix ++ t)) = some (bearerPrefix ++ t) := bearer_exact _

/-- **bearer_never_verbatim**: the header value is never the token itself, whatever the token
looks like: the scheme is always written (seven bytes longer). -/
theorem bearer_never_verbatim (t : Bytes) : bearer t ≠ t := by
  intro h
  have := congrArg List.length h
  simp [bearer, bearerPrefix] at this
  omega

/-- the token `Bearer abc` goes out as `Bearer Bearer abc` -/
example : bearer (bearerPrefix ++ [97, 98, 99]) = bearerPrefix ++ bearerPrefix ++ [97, 98, 99] := by decide

end basic

end Req.Props.C20
