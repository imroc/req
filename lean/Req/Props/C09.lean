import Req.Lemmas.C09Lockset
import Req.Lemmas.C09PoolOnce
import Req.Lemmas.C09PoolInv
import Req.Lemmas.C09Pairing
import Req.Lemmas.C09Monitor
/-!
C09 — property theorems for the lock-set discipline (`Req/Pool/Lockset.lean`; the regenerated table is
discharged in `lean/Bridge/C09.lean`), the HTTP/1.1 idle pool (`Req/Pool/H1Pool.lean`; an op list is one
interleaving at lock granularity), the pairing of requests and responses on one HTTP/1.1 connection
(`Req/Pool/Pairing.lean`) and the monitor that judges the concurrent lanes (`Req/Pool/Monitor.lean`).

NOT proved (see notes/C09.md): liveness in the temporal sense (a pool routine that holds a connection in
transit does finish); the Go memory model below lock granularity. Outside the pool model: HTTP/2
(`pconn.alt`) entries of the idle list, and the `tooOld` test in the scan of `queueForIdleConn`
(`IdleConnTimeout` expiry by the timer, `closeConnIfStillIdle`, is the op `idleTimeout`).
-/
namespace Req.Props.C09
open Req.Pool.Lockset Req.Lemmas.C09Lockset

/-- **lockset_sound** — the classical lock-set theorem: in every well-formed execution, if all
accesses to `x` are made while holding one common lock `l`, no two accesses to `x` by different
threads are concurrent (unordered by happens-before); in particular there is no data race on `x`. -/
theorem lockset_sound (tr : List Ev) (hwf : WF tr) (x : Loc) (l : Lock)
    (hg : Guarded tr x l) : ¬ Race tr x :=
  no_race_of_shared tr hwf x fun i j t₁ t₂ w₁ w₂ hi hj _ => ⟨l, hg i t₁ w₁ hi, hg j t₂ w₂ hj⟩

/-- **lockset_sound_pairwise** — the two-mutex discipline ("written under `mu` AND `wmu`, read under
either"): if every two access sites of `x` of which at least one can write have a lock in common
(not necessarily the same lock for every pair), no execution that conforms to the sites contains
a race on `x`. -/
theorem lockset_sound_pairwise (facts : StaticFactsW) (tr : List Ev) (hwf : WF tr)
    (hc : ConformsW facts tr) (x : Loc)
    (hall : ∀ a ∈ facts x, ∀ b ∈ facts x, (a.1 = true ∨ b.1 = true) → ∃ l, l ∈ a.2 ∧ l ∈ b.2) :
    ¬ Race tr x :=
  static_lockset_sound_pairwise facts tr hwf hc x hall

/-- A well-formed two-thread trace in which both threads write `x = 7` under lock 1. -/
def exTrace : List Ev :=
  [.acq 1 1, .acc 1 7 true, .rel 1 1, .acq 2 1, .acc 2 7 true, .rel 2 1]

example : holders (exTrace.take 1) 1 = some 1 := by decide
example : holders (exTrace.take 4) 1 = some 2 := by decide
/-- and an ill-disciplined one (thread 2 does not take the lock): the hypotheses of
`lockset_sound` genuinely exclude it. -/
example : holders ([Ev.acq 1 1, .acc 1 7 true, .acc 2 7 true].take 2) 1 ≠ some 2 := by decide

/-- The table check distinguishes a guarded from an unguarded field. -/
example : guarded [⟨[1], true, false, [5]⟩, ⟨[2], false, false, [4, 5]⟩] = true := by decide
example : guarded [⟨[1], true, false, [5]⟩, ⟨[2], false, false, []⟩] = false := by decide
example : verdict [⟨[1], true, false, [5]⟩, ⟨[1], true, false, [5]⟩, ⟨[2], false, false, []⟩]
    = .unguarded 5 [[2]] := by decide
/-- written under locks 4 and 5, read under 4 by one reader and under 5 by another: no common
lock, pairwise guarded; a reader that holds neither breaks it. -/
example : verdict [⟨[1], true, false, [4, 5]⟩, ⟨[2], false, false, [4]⟩, ⟨[3], false, false, [5]⟩]
    = .pairwise := by decide
example : pairGuarded [⟨[1], true, false, [4, 5]⟩, ⟨[2], false, false, [4]⟩, ⟨[3], false, false, []⟩]
    = false := by decide


section Pool
open Req.Pool.H1Pool Req.Lemmas.C09Pool Req.Lemmas.C09PoolExcl Req.Lemmas.C09PoolLru
open Req.Lemmas.C09PoolCount Req.Lemmas.C09PoolOnce Req.Lemmas.C09PoolLeak

/-- The pool invariant, spelled out. `(s.wst w).holds c` = request `w` owns connection `c`
(delivered to its `wantConn` or already received by `getConn`). Proofs build on
`Req.Lemmas.C09PoolInv.PoolInv`, the same invariant in the layers every `Move` keeps, and not on this
flat form, which follows from it (`Inv.of_poolInv`) under other field names: the first seven fields are
those of `excl` (`idle_not_owned` = `idleNotHeld`, `owner_unique` = `heldUnique`), `handoff` = `iw`,
`idle_per_host` = `il`, `conns_per_host` = `cl`, `slots` and `no_underflow` = `acct`, `no_dup_panic` =
`lru.noDup`; `idle_total` is `len` seen from the idle lists. -/
structure Inv (cfg : Cfg) (s : St) : Prop where
  /-- an idle list never contains a connection twice, and only connections of its own key -/
  idle_nodup : ∀ k, (s.idle k).Nodup
  idle_key : ∀ k c, c ∈ s.idle k → s.ckey c = some k
  /-- an idle connection is owned by no request and held by no pool routine -/
  idle_not_owned : ∀ k c w, c ∈ s.idle k → (s.wst w).holds c = false
  idle_not_transit : ∀ k c, c ∈ s.idle k → c ∉ s.transit
  /-- a connection is owned by at most one request -/
  owner_unique : ∀ w₁ w₂ c, (s.wst w₁).holds c = true → (s.wst w₂).holds c = true → w₁ = w₂
  /-- a connection in transit (between two critical sections of a pool routine) is owned by nobody -/
  transit_not_owned : ∀ c w, c ∈ s.transit → (s.wst w).holds c = false
  transit_nodup : s.transit.Nodup
  /-- no lost hand-off: waiters queued for a key ⇒ no idle connection listed for it -/
  handoff : ∀ k, s.idleWait k ≠ [] → s.idle k = []
  idle_per_host : ∀ k, (s.idle k).length ≤ cfg.idlePerHost
  idle_total : cfg.maxIdle ≠ 0 → ∀ ks : List Key, ks.Nodup →
      (ks.map (fun k => (s.idle k).length)).sum ≤ cfg.maxIdle
  conns_per_host : cfg.maxConnsPerHost > 0 → ∀ k, (s.cph k : Int) ≤ cfg.maxConnsPerHost
  /-- slot accounting: connsPerHost[k] = live connections of k + running dials for k -/
  slots : cfg.maxConnsPerHost > 0 → ∀ k,
      s.cph k = liveCnt s.ckey s.closed k s.conns + dialCnt s.wkey k s.dialing
  /-- the internal-error panics ("already in LRU" / "dup idle pconn"; "connCount underflow") are unreachable -/
  no_dup_panic : s.dupPanic = false
  no_underflow : cfg.maxConnsPerHost > 0 → s.underflow = false

theorem Inv.of_poolInv {cfg : Cfg} {s : St} (h : Req.Lemmas.C09PoolInv.PoolInv cfg s) : Inv cfg s where
  idle_nodup := h.excl.idleNodup
  idle_key := h.excl.idleKey
  idle_not_owned := h.excl.idleNotHeld
  idle_not_transit := h.excl.idleNotTransit
  owner_unique := h.excl.heldUnique
  transit_not_owned := h.excl.transitNotHeld
  transit_nodup := h.excl.transitNodup
  handoff := h.iw
  idle_per_host := h.il
  idle_total := fun hm ks hks => Nat.le_trans (total_idle_le_lru _ h.excl h.lru ks hks) (h.len hm)
  conns_per_host := h.cl
  slots := fun hpos => (h.acct hpos).bal
  no_dup_panic := h.lru.noDup
  no_underflow := fun hpos => (h.acct hpos).noUnderflow

/-- **pool_inv** — for every configuration and every interleaving of the pool's critical
sections, the invariant holds. -/
theorem pool_inv (cfg : Cfg) (ops : List Op) : Inv cfg (run cfg {} ops) :=
  .of_poolInv (Req.Lemmas.C09PoolInv.PoolInv_reach cfg ops)

/-- **pool_no_leak** — no connection is lost track of: in every reachable state every connection
that was dialled and is not closed is listed idle, owned by a request (delivered to its `wantConn`
or in use), or in the hands of a pool routine between two critical sections (`transit`: the
routine then pools it, hands it to a waiter, or closes it). -/
theorem pool_no_leak (cfg : Cfg) (ops : List Op) (c : Conn)
    (hcreated : (run cfg {} ops).ckey c ≠ none) (hopen : (run cfg {} ops).closed c = false) :
    (∃ k, c ∈ (run cfg {} ops).idle k) ∨ c ∈ (run cfg {} ops).transit ∨
      ∃ w, ((run cfg {} ops).wst w).holds c = true :=
  (Req.Lemmas.C09PoolInv.PoolInv_reach cfg ops).leak c ⟨hcreated, hopen⟩

/-- **pool_exact** — "in exactly one place": every connection ever dialled is, in every reachable
state, in EXACTLY one of {the idle list of its own key (once), owned by exactly one request, in
transit, nowhere — and then it is closed}. -/
theorem pool_exact (cfg : Cfg) (ops : List Op) (c : Conn) (hcreated : (run cfg {} ops).ckey c ≠ none) :
    let s := run cfg {} ops
    -- at least one place, unless closed
    ((∃ k, c ∈ s.idle k) ∨ c ∈ s.transit ∨ (∃ w, (s.wst w).holds c = true) ∨ s.closed c = true) ∧
    -- idle excludes the others; the list is the one of the connection's key and has it once
    (∀ k, c ∈ s.idle k → c ∉ s.transit ∧ (∀ w, (s.wst w).holds c = false) ∧
        s.ckey c = some k ∧ (s.idle k).count c = 1) ∧
    -- transit excludes ownership and appears once
    (c ∈ s.transit → (∀ w, (s.wst w).holds c = false) ∧ s.transit.count c = 1) ∧
    -- one owner at most
    (∀ w₁ w₂, (s.wst w₁).holds c = true → (s.wst w₂).holds c = true → w₁ = w₂) := by
  have he := (Req.Lemmas.C09PoolInv.PoolInv_reach cfg ops).excl
  refine ⟨?_, ?_, ?_, ?_⟩
  · cases hcl : (run cfg {} ops).closed c with
    | true => exact .inr (.inr (.inr rfl))
    | false => exact (pool_no_leak cfg ops c hcreated hcl).imp id (.imp id .inl)
  · intro k hk
    exact ⟨he.idleNotTransit k c hk, fun w => he.idleNotHeld k c w hk, he.idleKey k c hk,
      by rw [(he.idleNodup k).count, if_pos hk]⟩
  · intro ht
    exact ⟨fun w => he.transitNotHeld c w ht, by rw [he.transitNodup.count, if_pos ht]⟩
  · intro w₁ w₂ h1 h2
    exact he.heldUnique w₁ w₂ c h1 h2

/-- **deliver_once** — a want is delivered at most once: after any further interleaving a want
that owned connection `c` owns `c` or nothing. -/
theorem deliver_once (cfg : Cfg) (ops more : List Op) (w : Want) (c d : Conn)
    (hc : ((run cfg {} ops).wst w).holds c = true)
    (hd : ((run cfg (run cfg {} ops) more).wst w).holds d = true) : d = c := by
  have hsame : ∀ a : WSt, a.holds c = true → a.holds d = true → d = c := by
    intro a h1 h2
    cases a <;> simp [WSt.holds] at h1 h2 <;> (subst h1; exact h2.symm)
  have h := (WstOK_run cfg (run cfg {} ops) more w).2 d hd
  rcases h with h | h
  · exact hsame _ hc h
  · rw [h] at hc; cases hc

/-- **done_stays_done** — a want whose state is not `waiting` (`wantConn.done`) never becomes `waiting` again. -/
theorem done_stays_done (cfg : Cfg) (ops more : List Op) (w : Want)
    (h : (run cfg {} ops).wst w ≠ .waiting) : (run cfg (run cfg {} ops) more).wst w ≠ .waiting :=
  (WstOK_run cfg (run cfg {} ops) more w).1 h

/-! Non-vacuity: a concrete interleaving in which a connection is dialled for request 0, used,
put back, reused by request 1, and in which request 2 (MaxConnsPerHost = 1) waits and gets the
connection handed over by `tryPutIdleConn`. -/
def exCfg : Cfg := ⟨0, 0, 1, false⟩
def exOps : List Op :=
  [.newWant 0 0, .queueIdle 0, .queueDial 0, .dialOk 0 7, .recv 0, .finishPut 0,   -- conn 7 idle
   .newWant 1 0, .queueIdle 1, .recv 1,                                             -- reused by 1
   .newWant 2 0, .queueIdle 2, .queueDial 2,                                        -- 2 waits
   .finishPut 1]                                                                    -- handed to 2
example : (run exCfg {} (exOps.take 6)).idle 0 = [7] := by decide +kernel
example : (run exCfg {} (exOps.take 9)).wst 1 = .inUse 7 := by decide +kernel
example : (run exCfg {} (exOps.take 12)).dialWait 0 = [2] := by decide +kernel
example : (run exCfg {} exOps).wst 2 = .gotConn 7 ∧ (run exCfg {} exOps).idle 0 = [] ∧
    (run exCfg {} exOps).cph 0 = 1 := by decide +kernel

/-- Non-vacuity: connection 7 of `exOps` walks through the places — delivered, in use, idle,
in use again, handed to the waiter — and a connection whose want was cancelled while the dial was
running ends up in transit and, once the routine has let go of it, closed (MaxIdleConnsPerHost < 0:
keep-alives off). -/
example : ((run exCfg {} (exOps.take 4)).wst 0).holds 7 = true ∧ (run exCfg {} (exOps.take 6)).idle 0 = [7] ∧
    ((run exCfg {} (exOps.take 9)).wst 1).holds 7 = true ∧ ((run exCfg {} exOps).wst 2).holds 7 = true := by decide +kernel
example :
    let s1 := run ⟨0, -1, 0, false⟩ {} [.newWant 0 0, .queueIdle 0, .queueDial 0, .cancel 0, .dialOk 0 5]
    let s2 := run ⟨0, -1, 0, false⟩ s1 [.putT 5, .closeT 5]
    s1.transit = [5] ∧ s1.closed 5 = false ∧ s2.transit = [] ∧ s2.closed 5 = true ∧ s2.idle 0 = [] := by decide +kernel

end Pool

section Pairing
open Req.Pool.Pairing Req.Lemmas.C09Pairing

/-- **pairing** — the i-th response read on a connection is delivered to the i-th request
written on it, for every interleaving of `roundTrip`, `readLoop` and body consumption. -/
theorem pairing (ops : List Req.Pool.Pairing.Op) (r i : Nat)
    (h : (r, i) ∈ (Req.Pool.Pairing.run {} ops).pairs) :
    (Req.Pool.Pairing.run {} ops).started[i]? = some r :=
  (PInv_run {} ops PInv_init).pairs (r, i) h

/-- **put_only_after_eof** — whenever the connection is available to the pool, no response is
expected, nothing is queued for the read loop, the read loop is at its top, and every request
ever written on the connection has had its response fully consumed. -/
theorem put_only_after_eof (ops : List Req.Pool.Pairing.Op)
    (h : (Req.Pool.Pairing.run {} ops).avail = true) :
    let s := Req.Pool.Pairing.run {} ops
    s.numExpected = 0 ∧ s.reqch = [] ∧ s.phase = .peeking ∧ s.consumed = s.started.length := by
  rcases (PInv_run {} ops PInv_init).shape with h' | h' | h' | h'
  · exact ⟨h'.numExpected, h'.reqch, h'.phase, h'.consumed⟩
  all_goals rw [h'.avail] at h; cases h

/-- **one_request_at_a_time** — `numExpectedResponses` never exceeds 1. -/
theorem one_request_at_a_time (ops : List Req.Pool.Pairing.Op) :
    (Req.Pool.Pairing.run {} ops).numExpected ≤ 1 := by
  exact (PInv_run {} ops PInv_init).neLe

/-- **own_response_h1** — whose response a caller gets.  The peer's byte stream is modelled as a
queue of complete responses, each labelled with the request the peer meant it for (`none` =
unsolicited bytes: a duplicated response, a response nobody asked for, garbage).  Unless the
connection is `tainted` (unsolicited bytes arrived in front of an awaited response head, or the
pool handed the connection out before the read loop saw them — nothing a client can repair),
every response head delivered to request `r` is the peer's answer to `r`. -/
theorem own_response_h1 (ops : List Req.Pool.Pairing.Op)
    (hclean : (Req.Pool.Pairing.run {} ops).tainted = false) (r : Nat) (l : Option Nat)
    (h : (r, l) ∈ (Req.Pool.Pairing.run {} ops).got) : l = some r :=
  (PInv_run {} ops PInv_init).own hclean (r, l) h

/-- **unsolicited_never_delivered** — bytes nobody asked for that the read loop finds on an idle
connection (`Peek` returns with `numExpectedResponses == 0`) close the connection: whatever
happens afterwards, no request is ever started on it again and nothing more is delivered. -/
theorem unsolicited_never_delivered (ops more : List Req.Pool.Pairing.Op)
    (hidle : (Req.Pool.Pairing.run {} ops).phase = .peeking ∧ (Req.Pool.Pairing.run {} ops).numExpected = 0)
    (hbytes : (Req.Pool.Pairing.run {} ops).wire ≠ []) :
    let s := Req.Pool.Pairing.step (Req.Pool.Pairing.run {} ops) .peekIdle
    s.avail = false ∧ (Req.Pool.Pairing.run s more).got = (Req.Pool.Pairing.run {} ops).got ∧
      (Req.Pool.Pairing.run s more).started = (Req.Pool.Pairing.run {} ops).started := by
  have hw : (Req.Pool.Pairing.run {} ops).wire.isEmpty = false := by
    cases hwl : (Req.Pool.Pairing.run {} ops).wire with
    | nil => exact absurd hwl hbytes
    | cons _ _ => rfl
  have hs : Req.Pool.Pairing.step (Req.Pool.Pairing.run {} ops) .peekIdle =
      { Req.Pool.Pairing.run {} ops with phase := .closed, avail := false,
                                         log := .close :: (Req.Pool.Pairing.run {} ops).log } := by
    simp [Req.Pool.Pairing.step, hidle.1, hidle.2, hw]
  rw [hs]
  exact ⟨rfl, (closed_run _ more rfl).2⟩

/-- Non-vacuity: a peer that answers request 10 and then repeats its answer while the connection
is idle.  When the read loop sees the extra bytes first, the connection is closed and request 11
(ignored here: the pool dials a new connection) gets nothing from it; when the pool wins the
race the connection is `tainted` and request 11 is given the unsolicited bytes. -/
example :
    let s := Req.Pool.Pairing.run {}
      [.start 10, .peerAnswer, .readHead false true true true, .peerExtra, .peekIdle, .start 11,
       .readHead false true true true]
    s.got = [(10, some 10)] ∧ s.tainted = false ∧ s.phase = .closed ∧ s.started = [10] := by decide +kernel
example :
    let s := Req.Pool.Pairing.run {}
      [.start 10, .peerAnswer, .readHead false true true true, .peerExtra, .start 11,
       .readHead false true true true]
    s.got = [(11, none), (10, some 10)] ∧ s.tainted = true := by decide +kernel

/-- Non-vacuity: two requests on one connection; the second is started only after the first
body was read to EOF and the connection put back; both get their own response. -/
example :
    let s := Req.Pool.Pairing.run {}
      [.start 10, .peerAnswer, .readHead true true true true, .bodyDone true true true,
       .start 11, .peerAnswer, .readHead false true true true]
    s.pairs = [(11, 1), (10, 0)] ∧ s.avail = true ∧ s.consumed = 2 ∧
      s.got = [(11, some 11), (10, some 10)] := by decide +kernel
/-- and a `start` while the first body is still unread is ignored (the pool never hands the
connection out then). -/
example :
    (Req.Pool.Pairing.run {} [.start 10, .peerAnswer, .readHead true true true true, .start 11]).started = [10] := by
  decide +kernel

end Pairing

section Monitor
open Req.Pool.Monitor Req.Lemmas.C09Monitor

/-- **monitor_accepts_only_own_responses** — acceptance by the spec monitor means: every
`done` event of the history carries the caller's own tag and a body that matched it. -/
theorem monitor_accepts_only_own_responses (cfg : Req.Pool.Monitor.Cfg) (h : List Req.Pool.Monitor.Ev)
    (hacc : check cfg h = .ok ()) (t echo : Nat) (ok early : Bool)
    (hm : Req.Pool.Monitor.Ev.done t echo ok early ∈ h) : echo = t ∧ ok = true := by
  obtain ⟨s₁, s₂, hs⟩ := check_ok_mem cfg h hacc _ hm
  exact step_done_ok cfg s₁ s₂ t echo ok early hs

/-- **monitor_accepts_no_overlap** — a `req c t` event of an accepted history is one that `step` lets
pass from some monitor state with no request outstanding on `c`. The statement does not say that this
state is the one the events before it lead to; `Req.Lemmas.C09Monitor.check_ok_at` keeps that link. -/
theorem monitor_accepts_no_overlap (cfg : Req.Pool.Monitor.Cfg) (h : List Req.Pool.Monitor.Ev)
    (hacc : check cfg h = .ok ()) (c t : Nat) (hm : Req.Pool.Monitor.Ev.req c t ∈ h) :
    ∃ s₁ s₂, Req.Pool.Monitor.step cfg s₁ (.req c t) = .ok s₂ ∧ (s₁.outstanding.lookup c).isSome = false := by
  obtain ⟨s₁, s₂, hs⟩ := check_ok_mem cfg h hacc _ hm
  exact ⟨s₁, s₂, hs, step_req_ok cfg s₁ s₂ c t hs⟩

/-- Non-vacuity: a two-request history on one connection is accepted, the same history with the
second request arriving before the first response is complete is rejected as `overlap`, and a
swapped echo as `mixed-response`. -/
example : verdict ⟨1, 2, 0⟩ [.send 1, .send 2, .opened 5 0, .req 5 1, .respLast 5 1, .done 1 1 true false,
    .req 5 2, .respLast 5 2, .done 2 2 true false] = "ok" := by decide +kernel
example : verdict ⟨1, 2, 0⟩ [.send 1, .send 2, .opened 5 0, .req 5 1, .req 5 2] = "violation overlap 4" := by
  decide +kernel
example : verdict ⟨1, 2, 0⟩ [.send 1, .send 2, .opened 5 0, .req 5 1, .respLast 5 1, .done 1 2 true false]
    = "violation mixed-response 5" := by decide +kernel

end Monitor

end Req.Props.C09
