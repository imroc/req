import Req.Client.Scope
import Req.Client.Heap
import Req.Lemmas.C19Scope
import Req.Lemmas.C19AMap
import Req.Lemmas.C19Heap
/-!
# C19 — settings are scoped correctly and cloned clients are independent

Property (properties.jsonl C19): request-level settings override client-level settings for that
request only and leave no trace on the client or on other requests; client-level settings apply
to every later request of that client; a cloned client initially behaves identically to the
original, and thereafter a change to either has no effect on the other.

Two models. In the value model `Scope` a client or request is a record of settings VALUES, and scope and isolation
are frame facts about records, for arbitrary states, setters and programs. That Go's maps, pointers and slices
(length and capacity) behave like values here is not assumed: the reference-aware model `Heap` keeps them as shared
objects, and `heap_refines_scope` shows it denotes the value model whenever the `Clone` / `R()` tables share no
reference (`Safe`, decided for the tables of the code in `Bridge/C19.lean`); with a wrapper slice copied by
assignment it does not (`alias_counterexample`). Trusted: that `Scope.stepV` / `emit` say what the setters and the
request middleware do — tied by the C19 lanes of the harness.
-/
namespace Req.Props.C19
open Req.Scope Req.Heap

/-- A setter changes the record it is called on and no other: a request-level setter leaves no
trace on the client, on other requests, or on other clients (and a client-level setter none on
other clients or on existing requests). -/
theorem request_scope_setter (tc tr : Table) (s : VState) (r : Nat) (st : Setter) (b : Nat)
    (hb : b < s.count) (hne : b ≠ r) : (stepOp tc tr s (.set r st)).owner b = s.owner b := by
  rw [stepOp_set]; exact updOwner_other _ _ _ _ hne.symm

/-- Executing a request leaves no trace: no record changes, except that a cookie the origin sets
lands in the jar of the request's client. -/
theorem request_scope_exec (tc tr : Table) (s : VState) (r m md : Nat) (path : List Seg) (sc : Nat) (b : Nat) (f : Field)
    (hf : f ≠ F.jar ∨ sc = 0 ∨ (s.owner r).parent ≠ some b) :
    ((stepOp tc tr s (.exec r m md path sc)).owner b).val f = (s.owner b).val f := by
  rw [stepOp_exec]
  split
  · rfl
  · rename_i h
    split
    · rename_i c hc
      by_cases hcb : c = b
      · subst hcb
        have hfj : f ≠ F.jar := hf.resolve_right fun h' => h'.elim (fun h0 => h (Or.inr (Or.inl h0))) (fun h1 => h1 hc)
        by_cases hc' : c < s.count
        · rw [updOwner_self _ _ _ hc']; exact if_neg hfj
        · rw [updOwner_ge _ _ _ hc']
      · rw [updOwner_other _ _ _ _ hcb]
    · rfl

/-- Request level overrides client level, headers: if the request has values for key `k`, the merged header map that is
sent has the request's values for `k`, whatever the client's map holds. -/
theorem request_header_overrides (clientHdr reqHdr : AMap) (k : Nat) (h : (reqHdr.get k).isEmpty = false) :
    (mergeHeaders clientHdr reqHdr).get k = reqHdr.get k :=
  mergeHeaders_keeps k clientHdr reqHdr h

/-- Request level overrides client level, path parameters: a `{k}` segment of the URL is filled with the request's
first value for `k`, if it has one, whatever the client has for `k`. -/
theorem request_path_param_overrides (clientPP reqPP : AMap) (k v : Nat) (rest : List Nat)
    (h : reqPP.get k = v :: rest) : resolveSeg clientPP reqPP (.param k) = .val v := by
  simp [resolveSeg, h]

/-- A client-level header set with `SetCommonHeader` is what EVERY request of that client is
sent with from then on — requests that exist already and requests created later alike (the
merge reads the client record at execution time) — unless the request has its own values for
the key; requests, and every other client, are untouched by the setter. -/
theorem client_scope (tc tr : Table) (s : VState) (c k v : Nat) (hc : c < s.count) :
    let s' := stepOp tc tr s (.set c (.hdrSet k v))
    (∀ rq : VOwner, ((rq.val F.headers).get k).isEmpty = true →
      (mergeHeaders ((s'.owner c).val F.headers) (rq.val F.headers)).get k = [v]) ∧
    (∀ b, b < s.count → b ≠ c → s'.owner b = s.owner b) := by
  intro s'
  have hs' : s' = s.updOwner c (((Setter.hdrSet k v).prims c).foldl stepOwner ·) := stepOp_set ..
  rw [hs']
  refine ⟨fun rq hrq => ?_, fun b _ hne => updOwner_other _ _ _ _ hne.symm⟩
  rw [updOwner_self _ _ _ hc]
  show (mergeHeaders (((s.owner c).val F.headers).set k [v]) _).get k = _
  rw [mergeHeaders_client k _ _ hrq (by rw [get_set_same]; rfl), get_set_same]

/-- `op` may change record `b`: a setter called on it, or an execution of one of its requests
whose response stores a cookie in its jar. (`Clone` and `R()` only read their source.) -/
def Touches (s : VState) (op : Op) (b : Nat) : Prop :=
  match op with
  | .set o _ => o = b
  | .exec r _ _ _ sc => sc ≠ 0 ∧ (s.owner r).parent = some b
  | _ => False

/-- no op of the program touches `b` -/
def Untouched (tc tr : Table) (b : Nat) : VState → List Op → Prop
  | _, [] => True
  | s, op :: ops => ¬ Touches s op b ∧ Untouched tc tr b (stepOp tc tr s op) ops

instance (s : VState) (op : Op) (b : Nat) : Decidable (Touches s op b) := by
  unfold Touches
  cases op <;> infer_instance

instance decUntouched (tc tr : Table) (b : Nat) : ∀ (s : VState) (ops : List Op), Decidable (Untouched tc tr b s ops)
  | _, [] => isTrue trivial
  | s, op :: ops => by
    unfold Untouched
    exact @instDecidableAnd _ _ _ (decUntouched tc tr b _ ops)

theorem stepOp_frame (tc tr : Table) (s : VState) (op : Op) (b : Nat) (hb : b < s.count) (ht : ¬ Touches s op b) :
    (stepOp tc tr s op).owner b = s.owner b := by
  cases op with
  | newClient => rw [stepOp_newClient]; exact push_owner_old _ _ hb
  | clone i =>
    by_cases hi : i < s.count
    · rw [stepOp_clone _ _ _ hi]; exact push_owner_old _ _ hb
    · rw [stepOp_nil tc tr s (.clone i) (if_neg hi)]
  | newReq i =>
    by_cases hi : i < s.count
    · rw [stepOp_newReq _ _ _ hi]; exact push_owner_old _ _ hb
    · rw [stepOp_nil tc tr s (.newReq i) (if_neg hi)]
  | set o st => rw [stepOp_set]; exact updOwner_other _ _ _ _ ht
  | exec r m md path sc =>
    rw [stepOp_exec]
    split
    · rfl
    · rename_i h
      split
      · rename_i c hc
        exact updOwner_other _ _ _ _ fun hcb => ht ⟨fun h0 => h (Or.inr (Or.inl h0)), hcb ▸ hc⟩
      · rfl
  | getCookies c => rw [stepOp_nil _ _ _ _ rfl]
  | probe o => rw [stepOp_nil _ _ _ _ rfl]

/-- **Clone isolation.** Whatever a program does — setters of every group, requests, executions,
further clones, on any records other than `b` — record `b` is unchanged. `b` may be an original
whose clones are being changed, a clone whose original is being changed, a clone of a clone. -/
theorem clone_isolated (tc tr : Table) (b : Nat) : ∀ (ops : List Op) (s : VState), b < s.count →
    Untouched tc tr b s ops → (runWith tc tr s ops).1.owner b = s.owner b := by
  intro ops
  induction ops with
  | nil => intro s _ _; rfl
  | cons op ops ih =>
    intro s hb hu
    simp only [runWith]
    have h1 := stepOp_frame tc tr s op b hb hu.1
    have h2 := ih (stepOp tc tr s op) (Nat.lt_of_lt_of_le hb (stepOp_count_le tc tr s op)) hu.2
    rw [h2, h1]

/-- Consequently everything client `b` emits afterwards is what it would have emitted before:
for every request record, method, URL. -/
theorem isolated_emit (tc tr : Table) (b : Nat) (ops : List Op) (s : VState) (hb : b < s.count)
    (hu : Untouched tc tr b s ops) (rq : VOwner) (m md : Nat) (path : List Seg) :
    emit ((runWith tc tr s ops).1.owner b) rq m md path = emit (s.owner b) rq m md path ∧
    execCtx ((runWith tc tr s ops).1.owner b) rq = execCtx (s.owner b) rq := by
  rw [clone_isolated tc tr b ops s hb hu]
  exact ⟨rfl, rfl⟩

/-- The record `Clone` creates (ideal table): every settings field of the original, the closure
chains rebuilt from the wrapper slices, a new jar from the factory. -/
theorem clone_same_settings (s : VState) (i : Nat) (hi : i < s.count) :
    let s' := stepOp idealClone idealReq s (.clone i)
    s'.count = s.count + 1 ∧
    (s'.owner s.count).parent = none ∧
    (∀ f, f ≠ F.jar → f ≠ F.wrapChain → f ≠ F.tWrapChain → (s'.owner s.count).val f = (s.owner i).val f) ∧
    (s'.owner s.count).val F.wrapChain = (s.owner i).val F.wrappers ∧
    (s'.owner s.count).val F.tWrapChain = (s.owner i).val F.tWrappers ∧
    (s'.owner s.count).val F.jar = (s.owner i).val F.jarFactory ∧
    (∀ b, b < s.count → s'.owner b = s.owner b) := by
  intro s'
  have hs' : s' = s.push (cloned idealClone (s.owner i)) := stepOp_clone _ _ s hi
  rw [hs', push_owner_new]
  refine ⟨rfl, rfl, fun f h1 h2 h3 => ?_, ?_, ?_, ?_, fun b hb => push_owner_old _ _ hb⟩
  · -- `cloned` read at `f`: the three rebuilt fields first, else what the table carries
    show (if f = F.jar then _ else if f = F.tWrapChain then _ else if f = F.wrapChain then _ else _) = _
    rw [if_neg h1, if_neg h3, if_neg h2]
    simp [deriveVal, idealClone, h1]
  all_goals rfl

/-- A cloned client initially behaves identically: for every request record the origin receives
the same request from the clone as from the original (the jar being what the factory gives, as
it is for the original while no response has stored a cookie). -/
theorem clone_same_behaviour (s : VState) (i : Nat) (hi : i < s.count) (rq : VOwner) (m md : Nat) (path : List Seg)
    (hjar : (s.owner i).val F.jar = (s.owner i).val F.jarFactory) :
    emit ((stepOp idealClone idealReq s (.clone i)).owner s.count) rq m md path = emit (s.owner i) rq m md path := by
  obtain ⟨_, _, hsame, _, _, hj, _⟩ := clone_same_settings s i hi
  have hs : ∀ f, f ≠ F.jar ∧ f ≠ F.wrapChain ∧ f ≠ F.tWrapChain →
      ((stepOp idealClone idealReq s (.clone i)).owner s.count).val f = (s.owner i).val f :=
    fun f h => hsame f h.1 h.2.1 h.2.2
  simp only [emit, hs F.baseURL (by decide), hs F.scheme (by decide), hs F.headers (by decide),
    hs F.allowGetPayload (by decide), hs F.form (by decide), hs F.pathParams (by decide), hs F.query (by decide),
    hs F.cookies (by decide), hs F.disableKeepAlives (by decide), hs F.disableCompression (by decide), hj, hjar]

/-- The middleware, wrappers and retry options a request of the clone runs with are those a
request of the original runs with (the original's closure chains being its wrapper slices, as
they are after any sequence of `WrapRoundTrip` calls). -/
theorem clone_same_middleware (s : VState) (i : Nat) (hi : i < s.count) (rq : VOwner)
    (hw : (s.owner i).val F.wrapChain = (s.owner i).val F.wrappers)
    (htw : (s.owner i).val F.tWrapChain = (s.owner i).val F.tWrappers) :
    execCtx ((stepOp idealClone idealReq s (.clone i)).owner s.count) rq = execCtx (s.owner i) rq := by
  obtain ⟨_, _, hsame, hcw, hct, _, _⟩ := clone_same_settings s i hi
  unfold execCtx
  rw [hsame F.udBefore (by decide) (by decide) (by decide), hsame F.after (by decide) (by decide) (by decide),
    hcw, hct, ← hw, ← htw]

/-- **Refinement.** When `Clone` and `R()` share no reference with the record they copy and carry
what they should (`Safe`), the reference-aware model — in-place map inserts, writes through
pointers, `append` into spare capacity, for EVERY slice growth policy — denotes exactly the
value model: same final settings of every record, same observations. -/
theorem heap_refines_scope (tc tr : Table) (hs : Safe tc tr) (grow : Nat → Nat → Nat) (ops : List Op) :
    abs (runHeap grow tc tr ops).1 = (runScope ops).1 ∧ (runHeap grow tc tr ops).2 = (runScope ops).2 := by
  have h := runHeapFrom_refines grow tc tr hs.cloneAlias hs.reqAlias ops Heap.empty inv_empty
  have habs : abs Heap.empty = VState.empty := rfl
  rw [habs] at h
  have hc := runWith_congr tc tr idealClone idealReq hs.cloneCarries hs.reqCarries ops VState.empty
  unfold runHeap runScope
  rw [← hc]
  exact ⟨h.2.1, h.2.2⟩

theorem forall_field_of_all {p : Field → Bool}
    (h : ((List.range nFields).all fun n => if h : n < nFields then p ⟨n, h⟩ else true) = true) (f : Field) :
    p f = true := by
  have := List.all_eq_true.1 h f.val (List.mem_range.2 f.isLt)
  rwa [dif_pos f.isLt] at this

/-- `Safe` from the Boolean checks (what `Bridge/C19.lean` decides for the regenerated table). -/
theorem safe_of_checks (tc tr : Table) (h1 : aliasSafeB tc = true) (h2 : aliasSafeB tr = true)
    (h3 : carriesLikeB idealClone tc = true) (h4 : carriesLikeB idealReq tr = true) : Safe tc tr := by
  have alias : ∀ t, aliasSafeB t = true → AliasSafe t := fun t ht f => by
    simpa using forall_field_of_all (p := fun f => t f != .assigned) ht f
  have carries : ∀ ideal t, carriesLikeB ideal t = true → CarriesLike ideal t := fun ideal t ht f => by
    have := forall_field_of_all (p := fun f => (t f == .absent) == (ideal f == .absent)) ht f
    cases ht' : t f <;> cases hi : ideal f <;> simp [ht', hi] at this ⊢
  exact ⟨alias tc h1, alias tr h2, carries _ tc h3, carries _ tr h4⟩

/-- DESIGN.md section 5 row 18: `c.Wrap(w1); c.Wrap(w2); c.Wrap(w3); cc := c.Clone(); c.Wrap(w4);
cc.Wrap(w5); c.Clone()`. -/
def witness : List Op :=
  [.newClient, .set 0 (.wrap [1] false), .set 0 (.wrap [2] false), .set 0 (.wrap [3] false), .clone 0,
   .set 0 (.wrap [4] false), .set 1 (.wrap [5] false), .clone 0]

/-- With the wrapper slices copied by assignment (`aliasWrappers`: `cc := *c` and nothing more for those two fields) and
Go's slice growth, the second clone of the ORIGINAL runs wrapper 5 — which only the first clone
ever added — where the value model (and the original itself) runs wrapper 4. -/
theorem alias_counterexample :
    ((abs (runHeap goGrow (aliasWrappers idealClone) idealReq witness).1).owner 2).val F.wrapChain = [(0, [1, 2, 3, 5])] ∧
    ((runScope witness).1.owner 2).val F.wrapChain = [(0, [1, 2, 3, 4])] ∧
    ((abs (runHeap goGrow (aliasWrappers idealClone) idealReq witness).1).owner 0).val F.wrapChain = [(0, [1, 2, 3, 4])] := by
  decide +kernel

/-- The same run, seen in the original's own settings: its recorded wrapper list was overwritten
by a call on the clone. -/
theorem alias_clobbers_original :
    ((abs (runHeap goGrow (aliasWrappers idealClone) idealReq witness).1).owner 0).val F.wrappers = [(0, [1, 2, 3, 5])] := by
  decide +kernel

/-- With the slices cloned (`idealClone`) the same run agrees with the value model, as
`heap_refines_scope` says it must. -/
example : ((abs (runHeap goGrow idealClone idealReq witness).1).owner 2).val F.wrapChain = [(0, [1, 2, 3, 4])] := by
  decide +kernel

/-- the ideal tables are `Safe` (so `heap_refines_scope` has an instance) -/
example : Safe idealClone idealReq := safe_of_checks _ _ (by decide +kernel) (by decide +kernel) (by decide +kernel) (by decide +kernel)

/-- the aliasing table is not -/
example : ¬ AliasSafe (aliasWrappers idealClone) := by
  intro h
  exact h F.wrappers (by decide)

/-- a concrete state for the examples below: client 0 with a header, its clone 1, a request 2 of the clone -/
def demo : VState := (runScope [.newClient, .set 0 (.hdrSet 1 5), .clone 0, .newReq 1]).1

example : demo.count = 3 ∧ (demo.owner 2).parent = some 1 ∧ ((demo.owner 1).val F.headers).get 1 = [5] := by decide

example : Untouched idealClone idealReq 0 demo
    [.set 1 (.hdrSet 1 6), .set 2 (.hdrSet 2 7), .exec 2 0 0 [] 11, .clone 1, .set 3 (.wrap [4] false)] := by
  decide

/-- request-level value wins, client-level value is used otherwise -/
example : (mergeHeaders [(1, [5]), (2, [6])] [(1, [9])]).get 1 = [9] ∧
    (mergeHeaders [(1, [5]), (2, [6])] [(1, [9])]).get 2 = [6] := by decide

end Req.Props.C19
