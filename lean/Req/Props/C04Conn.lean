import Req.H1.Conn
import Req.Props.C04Framing
/-!
C04 — connection-level attribution: "the two never disagree about where a message ends, so
bytes belonging to one response are never attributed to another", at the level of the
persistent-connection read loop (`Req.H1.Conn`: `exchange`, `connSequence`, `connTimed`,
`transportRun`), for every buffer size, request list, byte stream and number of messages.
-/
namespace Req.Props.C04
open Req.Proto Req.H1

/-- The environment `exchange` hands to `connReusable`. -/
def exchEnv (q : ConnReq) (all : Bool) : ReuseEnv := ⟨q.reqClose, q.isHead, false, false, true, true, all⟩

theorem exchange_some_inv {B : Nat} {q : ConnReq} {s r : Bytes} {d : Delivery}
    (h : exchange B q s = (d, some r)) :
    ∃ m r0, parseFinalHead 6 q.isHead s = some (m, r0) ∧ isProtocolSwitch m = false ∧
      (readBody B m r0).ok = true ∧ m.framing ≠ .untilClose ∧ r = (readBody B m r0).rest ∧
      m.close = false ∧ q.reqClose = false ∧ 200 ≤ m.sl.code ∧
      (m.framing = .none ∨ q.consume.readsAll (readBody B m r0).data.length = true) := by
  unfold exchange at h
  cases hp : parseFinalHead 6 q.isHead s with
  | none => simp [hp] at h
  | some p =>
    obtain ⟨m, r0⟩ := p
    simp only [hp] at h
    cases hsw : isProtocolSwitch m with
    | true => simp [hsw] at h
    | false =>
      simp only [hsw, Bool.false_eq_true, if_false, Prod.mk.injEq] at h
      obtain ⟨_, hre⟩ := h
      split at hre
      · next hreuse =>
        simp only [Option.some.injEq] at hre
        obtain ⟨sl, h0, hrt⟩ := parseFinalHead_readTransfer hp
        obtain ⟨_, _, hs⟩ := readTransfer_accepted hrt
        have hsl := hs.status
        unfold connReusable at hreuse
        have hk := (keepalive_iff hrt _ rfl).mp hreuse
        obtain ⟨hclose, hrc, h200, _, hbody, _, _, _⟩ := hk
        have hnu : m.framing ≠ .untilClose := by
          intro hu
          have := (close_iff hrt).mpr (Or.inr (Or.inr (Or.inr hu)))
          rw [hclose] at this; cases this
        have hok : (readBody B m r0).ok = true := by
          rcases hbody with hn | hb
          · simp [readBody, hn]
          · simp only [Bool.and_eq_true] at hb; exact hb.2
        refine ⟨m, r0, rfl, hsw, hok, hnu, hre.symm, hclose, hrc, hsl ▸ h200, ?_⟩
        rcases hbody with hn | hb
        · exact Or.inl hn
        · simp only [Bool.and_eq_true] at hb; exact Or.inr hb.1
      · cases hre

theorem exchange_deterministic_end {B : Nat} {q : ConnReq} {s r : Bytes} {d : Delivery}
    (h : exchange B q s = (d, some r)) (t : Bytes) :
    exchange B q (s ++ t) = (d, some (r ++ t)) := by
  obtain ⟨m, r0, hp, hsw, hok, hnu, hr, _⟩ := exchange_some_inv h
  have hb := readBody_append hok hnu t
  unfold exchange at h ⊢
  rw [parseFinalHead_append hp t]
  simp only [hp, hsw, Bool.false_eq_true, if_false] at h ⊢
  rw [hb]
  simp only [Prod.mk.injEq] at h ⊢
  obtain ⟨hd, hre⟩ := h
  refine ⟨hd, ?_⟩
  -- `connReusable` never reads `rest`
  have hcr : connReusable (.resp m { readBody B m r0 with rest := (readBody B m r0).rest ++ t })
      ⟨q.reqClose, q.isHead, false, false, true, true,
        q.consume.readsAll (readBody B m r0).data.length⟩ =
      connReusable (.resp m (readBody B m r0))
      ⟨q.reqClose, q.isHead, false, false, true, true,
        q.consume.readsAll (readBody B m r0).data.length⟩ := rfl
  rw [hcr]
  split at hre
  · next hreuse =>
    simp only [Option.some.injEq] at hre
    simp [hreuse, hre]
  · cases hre

/-- A request, the bytes of its response, and what the caller gets when these bytes are all
there is. -/
structure Attributed (B : Nat) where
  q : ConnReq
  msg : Bytes
  d : Delivery
  alone : exchange B q msg = (d, some [])

/-- For every `k`, every stream `m₁ ++ … ++ m_k ++ tail` in which
each `mᵢ` on its own is a complete exchange for `qᵢ` that keeps the connection: response `i`
is exactly the one `mᵢ` alone yields — its head, body and trailers are parsed from the bytes of
`mᵢ` and from nothing else — and the loop goes on reading at `tail` with the remaining
requests. -/
theorem sequence_attribution {B : Nat} (l : List (Attributed B)) (more : List ConnReq)
    (tail : Bytes) :
    connSequence B (l.map (·.q) ++ more) ((l.map (·.msg)).flatten ++ tail) =
      l.map (·.d) ++ connSequence B more tail := by
  induction l with
  | nil => simp
  | cons a l ih =>
    simp only [List.map_cons, List.cons_append, List.flatten_cons, List.append_assoc]
    have := exchange_deterministic_end a.alone ((l.map (·.msg)).flatten ++ tail)
    simp only [List.nil_append] at this
    rw [connSequence, this]
    simp only [ih]

/-- The same read off by position: the `i`-th delivery on the concatenated stream is the one
its own message yields. -/
theorem sequence_attribution_get {B : Nat} (l : List (Attributed B)) (more : List ConnReq)
    (tail : Bytes) (i : Nat) (hi : i < l.length) :
    (connSequence B (l.map (·.q) ++ more) ((l.map (·.msg)).flatten ++ tail))[i]? =
      some (exchange B l[i].q l[i].msg).1 := by
  rw [sequence_attribution, List.getElem?_append_left (by simpa using hi)]
  simp [hi, l[i].alone]

/-- An exchange that does not put the connection back ends the sequence:
whatever requests are queued and whatever bytes follow, nothing more is delivered. -/
theorem sequence_stops {B : Nat} (l : List (Attributed B)) (q : ConnReq) (more : List ConnReq)
    (s : Bytes) (hstop : (exchange B q s).2 = none) :
    connSequence B (l.map (·.q) ++ q :: more) ((l.map (·.msg)).flatten ++ s) =
      l.map (·.d) ++ [(exchange B q s).1] := by
  rw [sequence_attribution]
  congr 1
  rw [connSequence]
  cases he : exchange B q s with
  | mk d o =>
    rw [he] at hstop
    simp only at hstop
    subst hstop
    rfl

/-- The messages after which `readLoop` ends: the response asks to close
(`close_iff`: HTTP/1.0 without keep-alive, `Connection: close`, major version 0, close-delimited
body), the request did, the status is at most 199 (terminal 101, statuses below 100), the body
was not read to its end by the caller, or it ended in an error. -/
theorem forbids_reuse {B : Nat} {q : ConnReq} {s r0 : Bytes} {m : Msg}
    (hp : parseFinalHead 6 q.isHead s = some (m, r0))
    (hwhy : m.close = true ∨ q.reqClose = true ∨ m.sl.code ≤ 199 ∨ isProtocolSwitch m = true ∨
      (m.framing ≠ .none ∧ q.consume.readsAll (readBody B m r0).data.length = false) ∨
      (readBody B m r0).ok = false) :
    (exchange B q s).2 = none := by
  cases he : exchange B q s with
  | mk d o =>
    cases o with
    | none => rfl
    | some r =>
      exfalso
      obtain ⟨m', r0', hp', hsw, hok, _, _, hclose, hrc, h200, hbody⟩ := exchange_some_inv he
      rw [hp] at hp'
      simp only [Option.some.injEq, Prod.mk.injEq] at hp'
      obtain ⟨rfl, rfl⟩ := hp'
      rcases hwhy with h | h | h | h | ⟨hn, h⟩ | h
      · rw [hclose] at h; cases h
      · rw [hrc] at h; cases h
      · omega
      · rw [hsw] at h; cases h
      · rcases hbody with hb | hb
        · exact hn hb
        · rw [hb] at h; cases h
      · rw [hok] at h; cases h

/-- A rejected head ends the connection as well. -/
theorem reject_ends_connection {B : Nat} {q : ConnReq} {s : Bytes}
    (hp : parseFinalHead 6 q.isHead s = none) : exchange B q s = (.fail, none) := by
  simp [exchange, hp]

/-- The timed read loop goes on exactly when the exchange leaves the connection reusable with
nothing unread; otherwise the delivery is the last. -/
theorem connTimed_go {B : Nat} {q : ConnReq} {seg : Bytes} {d : Delivery} (qs : List ConnReq)
    (segs : List Bytes) (h : exchange B q seg = (d, some [])) :
    connTimed B (q :: qs) (seg :: segs) = d :: connTimed B qs segs := by
  rw [connTimed, h]

theorem connTimed_stop {B : Nat} {q : ConnReq} {seg : Bytes} {d : Delivery} {o : Option Bytes}
    (qs : List ConnReq) (segs : List Bytes) (h : exchange B q seg = (d, o)) (ho : o ≠ some []) :
    connTimed B (q :: qs) (seg :: segs) = [d] := by
  rw [connTimed, h]
  match o, ho with
  | none, _ => rfl
  | some (_ :: _), _ => rfl
  | some [], h => exact absurd rfl h

/-- If, when the exchange for request `q` ends with the
connection back in the idle pool, bytes are left that the peer sent without a request being
outstanding (`r ≠ []`), the connection ends there: no later request — however many are queued,
whatever the peer sends afterwards — is answered from this connection, so no byte of `r` (or of
anything after it) is ever delivered as a response. -/
theorem unsolicited_bytes_not_attributed {B : Nat} (q : ConnReq) (qs : List ConnReq)
    (seg : Bytes) (segs : List Bytes) {d : Delivery} {r : Bytes}
    (h : exchange B q seg = (d, some r)) (hr : r ≠ []) :
    connTimed B (q :: qs) (seg :: segs) = [d] :=
  connTimed_stop qs segs h (by simpa using hr)

/-- … and the delivery itself is the one the message alone yields: the unsolicited bytes do not
leak into the response they follow either. -/
theorem unsolicited_bytes_not_in_previous {B : Nat} {q : ConnReq} {msg : Bytes} {d : Delivery}
    (h : exchange B q msg = (d, some [])) (extra : Bytes) :
    exchange B q (msg ++ extra) = (d, some extra) := by
  simpa using exchange_deterministic_end h extra

/-- Response `j` on a connection depends on nothing but
request `j` and what the peer sent between request `j` and request `j+1`. -/
theorem timed_delivery_from_own_segment {B : Nat} (reqs : List ConnReq) (segs : List Bytes)
    (j : Nat) (hj : j < (connTimed B reqs segs).length) :
    ∃ (hq : j < reqs.length) (hs : j < segs.length),
      (connTimed B reqs segs)[j] = (exchange B reqs[j] segs[j]).1 := by
  induction reqs generalizing segs j with
  | nil => simp [connTimed] at hj
  | cons q qs ih =>
    cases segs with
    | nil => simp [connTimed] at hj
    | cons seg segs =>
      cases he : exchange B q seg with
      | mk d o =>
        by_cases ho : o = some []
        · subst ho
          have hc := connTimed_go qs segs he
          cases j with
          | zero => exact ⟨by simp, by simp, by simp [hc, he]⟩
          | succ j =>
            have hj' : j < (connTimed B qs segs).length := by
              rw [hc] at hj; simpa using hj
            obtain ⟨hq, hs, heq⟩ := ih segs j hj'
            exact ⟨by simp; omega, by simp; omega, by simp [hc, heq]⟩
        · have hc := connTimed_stop qs segs he ho
          have hj0 : j = 0 := by rw [hc] at hj; simpa using hj
          subst hj0
          exact ⟨by simp, by simp, by simp [hc, he]⟩

/-- With proper alternation the timed reading delivers what each message alone yields. -/
theorem timed_attribution {B : Nat} (l : List (Attributed B)) :
    connTimed B (l.map (·.q)) (l.map (·.msg)) = l.map (·.d) := by
  induction l with
  | nil => rfl
  | cons a l ih =>
    simp only [List.map_cons]
    rw [connTimed_go _ _ a.alone, ih]

/-- When the peer answers each request with exactly one
complete message, reading with arrival times and reading the concatenated stream coincide. -/
theorem timed_agrees_with_sequence {B : Nat} (l : List (Attributed B)) :
    connTimed B (l.map (·.q)) (l.map (·.msg)) =
      connSequence B (l.map (·.q)) (l.map (·.msg)).flatten := by
  have h := sequence_attribution l [] []
  simp only [List.append_nil] at h
  rw [h, timed_attribution]
  simp [connSequence]

/-- Whether the request carried `Expect: 100-continue` changes
nothing in how the response stream is read (a `100 Continue` is one of the at most five skipped
informational heads either way). -/
theorem expect100_irrelevant (B : Nat) (q : ConnReq) (x : Bool) (s : Bytes) :
    exchange B { q with expect100 := x } s = exchange B q s := rfl

/-- Any head that keeps the connection (no `Close`, status ≥ 200, no protocol switch) followed by
bytes that its body reader consumes completely and without error, read to the end by a non-HEAD
caller: the exchange delivers exactly that body and leaves nothing. -/
theorem attributed_of_body {B : Nat} {hd bs data : Bytes} {m : Msg} (x : Bool)
    (hp : parseFinalHead 6 false hd = some (m, []))
    (hb : readBody B m bs = ⟨data, true, declMap m.trailerDecl, []⟩)
    (hclose : m.close = false) (h200 : 200 ≤ m.sl.code) (hsw : isProtocolSwitch m = false) :
    exchange B ⟨false, false, x, .full⟩ (hd ++ bs) =
      (.resp m data .eof (declMap m.trailerDecl), some []) := by
  have hp' := parseFinalHead_append hp bs
  simp only [List.nil_append] at hp'
  obtain ⟨sl, h0, hrt⟩ := parseFinalHead_readTransfer hp
  have hre : connReusable (.resp m (readBody B m bs))
      ⟨false, false, false, false, true, true, true⟩ = true := by
    unfold connReusable
    rw [hb]
    apply (keepalive_iff hrt _ rfl).mpr
    obtain ⟨_, _, hs⟩ := readTransfer_accepted hrt
    exact ⟨hclose, rfl, hs.status ▸ h200, rfl, Or.inr rfl, rfl, rfl, rfl⟩
  unfold exchange
  simp only [hp', hsw, Bool.false_eq_true, if_false, Consume.readsAll, if_true, hre]
  simp [hb]

/-- A declared length `n` followed by exactly `n` body bytes. -/
theorem attributed_length {B : Nat} {hd body : Bytes} {m : Msg} {n : Nat} (x : Bool)
    (hp : parseFinalHead 6 false hd = some (m, []))
    (hf : m.framing = .length n) (hn : body.length = n)
    (hclose : m.close = false) (h200 : 200 ≤ m.sl.code) (hsw : isProtocolSwitch m = false) :
    exchange B ⟨false, false, x, .full⟩ (hd ++ body) =
      (.resp m body .eof (declMap m.trailerDecl), some []) :=
  attributed_of_body x hp (by simp [readBody, hf, ← hn]) hclose h200 hsw

/-- Chunked framing followed by the chunked writer's output for ANY split of the body into
non-empty chunks and the final CRLF (no trailers sent). -/
theorem attributed_chunked {B : Nat} (hB : 18 ≤ B) {hd : Bytes} {m : Msg} (x : Bool)
    (hp : parseFinalHead 6 false hd = some (m, []))
    (hf : m.framing = .chunked)
    (hclose : m.close = false) (h200 : 200 ≤ m.sl.code) (hsw : isProtocolSwitch m = false)
    (chunks : List Bytes) (hne : ∀ c ∈ chunks, c ≠ []) (hsz : ∀ c ∈ chunks, c.length < 2 ^ 61) :
    exchange B ⟨false, false, x, .full⟩ (hd ++ (encodeChunked chunks ++ [CR, LF])) =
      (.resp m chunks.flatten .eof (declMap m.trailerDecl), some []) :=
  attributed_of_body x hp (by simpa using chunked_body_roundtrip hB hf chunks hne hsz []) hclose h200
    hsw

/-- `attributed_length` as a constructor of `Attributed`: every keep-alive Content-Length
message qualifies, so `sequence_attribution` applies to every pipelined run of such messages. -/
def Attributed.ofLength {B : Nat} {hd body : Bytes} {m : Msg} {n : Nat}
    (hp : parseFinalHead 6 false hd = some (m, []))
    (hf : m.framing = .length n) (hn : body.length = n)
    (hclose : m.close = false) (h200 : 200 ≤ m.sl.code) (hsw : isProtocolSwitch m = false) :
    Attributed B :=
  ⟨⟨false, false, false, .full⟩, hd ++ body, .resp m body .eof (declMap m.trailerDecl),
    attributed_length false hp hf hn hclose h200 hsw⟩

/-- … and every keep-alive chunked message, for every split of its body into chunks. -/
def Attributed.ofChunked {B : Nat} (hB : 18 ≤ B) {hd : Bytes} {m : Msg}
    (hp : parseFinalHead 6 false hd = some (m, []))
    (hf : m.framing = .chunked)
    (hclose : m.close = false) (h200 : 200 ≤ m.sl.code) (hsw : isProtocolSwitch m = false)
    (chunks : List Bytes) (hne : ∀ c ∈ chunks, c ≠ []) (hsz : ∀ c ∈ chunks, c.length < 2 ^ 61) :
    Attributed B :=
  ⟨⟨false, false, false, .full⟩, hd ++ (encodeChunked chunks ++ [CR, LF]),
    .resp m chunks.flatten .eof (declMap m.trailerDecl),
    attributed_chunked hB false hp hf hclose h200 hsw chunks hne hsz⟩

namespace Ex
def get : ConnReq := ⟨false, false, false, .full⟩
/-- `HTTP/1.1 200 OK`, `Content-Length: 2`, body `hi`. -/
def m1 : Bytes := [72,84,84,80,47,49,46,49,32,50,48,48,32,79,75,13,10,67,111,110,116,101,110,116,45,76,101,110,103,116,104,58,32,50,13,10,13,10,104,105]
/-- `HTTP/1.1 200 OK`, `Transfer-Encoding: chunked`, `1 CRLF A CRLF 0 CRLF CRLF`. -/
def m2 : Bytes := [72,84,84,80,47,49,46,49,32,50,48,48,32,79,75,13,10,84,114,97,110,115,102,101,114,45,69,110,99,111,100,105,110,103,58,32,99,104,117,110,107,101,100,13,10,13,10,49,13,10,65,13,10,48,13,10,13,10]
/-- `HTTP/1.1 200 OK`, `Connection: close`, `Content-Length: 1`, body `Z`. -/
def m3 : Bytes := [72,84,84,80,47,49,46,49,32,50,48,48,32,79,75,13,10,67,111,110,110,101,99,116,105,111,110,58,32,99,108,111,115,101,13,10,67,111,110,116,101,110,116,45,76,101,110,103,116,104,58,32,49,13,10,13,10,90]
def a1 : Attributed 4096 := ⟨get, m1, (exchange 4096 get m1).1, by decide⟩
def a2 : Attributed 4096 := ⟨get, m2, (exchange 4096 get m2).1, by decide⟩

set_option maxRecDepth 16384 in
/-- Two pipelined messages and a third that forbids reuse, then junk: three deliveries, with
bodies `hi`, `A`, `Z`; the junk is never read. -/
example : (connSequence 4096 [get, get, get, get] (m1 ++ m2 ++ m3 ++ m1)).map
    (fun d => match d with | .resp _ b _ _ => b | .fail => []) = [[104,105], [65], [90]] := by decide +kernel

/-- `sequence_stops` applies to `m3` (`Connection: close`). -/
example : (exchange 4096 get (m3 ++ m1)).2 = none := by decide +kernel

set_option maxRecDepth 16384 in
/-- Unsolicited: `m1` immediately followed by another complete response in the same segment;
the second request gets nothing from this connection. -/
example : connTimed 4096 [get, get] [m1 ++ m2, m1] = [a1.d] := by decide +kernel

/-- Proper alternation: both are delivered. -/
example : connTimed 4096 [get, get] [m1, m2] = [a1.d, a2.d] := by decide +kernel

set_option maxRecDepth 16384 in
/-- Transport level: unsolicited bytes after `m1` cost a second dial; the second request is
answered from the second connection's bytes (`m2`, body `A`), never from the leftover. -/
example : transportRun 4096 [get, get] ⟨none, [⟨[m1 ++ m1, m1], false⟩, ⟨[m2], false⟩], 0⟩ =
    ([a1.d, a2.d], 2) := by decide +kernel
set_option maxRecDepth 16384 in
example : transportRun 4096 [get, get] ⟨none, [⟨[m1, m2], false⟩, ⟨[m1], false⟩], 0⟩ =
    ([a1.d, a2.d], 1) := by decide +kernel
end Ex

/-- Where a delivery can come from: an error, or ONE exchange on ONE segment of the idle
connection or of the next scripted connection. -/
def DeliveredFrom (B : Nat) (q : ConnReq) (st : TState) (d : Delivery) : Prop :=
  d = .fail ∨
  (∃ segs eof seg, st.cur = some (segs, eof) ∧ seg ∈ segs ∧ d = (exchange B q seg).1) ∨
  (∃ sc scs seg, st.scripts = sc :: scs ∧ seg ∈ sc.segs ∧ d = (exchange B q seg).1)

theorem serveOn_source {B : Nat} {q : ConnReq} {segs : List Bytes} {eof : Bool} {d : Delivery}
    {next : Option (List Bytes)} (h : serveOn B q segs eof = some (d, next)) :
    ∃ seg, seg ∈ segs ∧ d = (exchange B q seg).1 := by
  unfold serveOn at h
  cases segs with
  | nil => simp at h
  | cons seg rest =>
    simp only at h
    split at h
    · cases h
    · refine ⟨seg, by simp, ?_⟩
      split at h <;> simp_all

/-- What one request through the Transport can do: it is served on the idle connection; it fails
with no connection kept (the idle one stays silent, or nothing is left to dial); it dials the next
scripted connection, which yields nothing or serves it. -/
theorem transportStep_cases {B : Nat} {q : ConnReq} (P : Delivery × TState → Prop) (st : TState)
    (reused : ∀ segs eof d next, st.cur = some (segs, eof) → serveOn B q segs eof = some (d, next) →
      P (d, { st with cur := next.map fun r => (r, eof) }))
    (failed : P (.fail, { st with cur := none }))
    (dead : ∀ sc scs, st.scripts = sc :: scs → P (.fail, ⟨none, scs, st.dials + 1⟩))
    (dialled : ∀ sc scs d next, st.scripts = sc :: scs → serveOn B q sc.segs sc.eof = some (d, next) →
      P (d, ⟨next.map fun r => (r, sc.eof), scs, st.dials + 1⟩)) :
    P (transportStep B q st) := by
  have dial : P (dialAndServe B q { st with cur := none }) := by
    unfold dialAndServe
    split
    · exact failed
    · next sc scs h =>
      split
      · exact dead sc scs h
      · next d next hso => exact dialled sc scs d next h hso
  unfold transportStep
  split
  · next hc =>
    obtain ⟨cur, scripts, dials⟩ := st
    cases hc
    exact dial
  · next segs eof hc =>
    split
    · next d next hso => exact reused segs eof d next hc hso
    · split
      · exact dial
      · exact failed

/-- Whatever the Transport hands to the caller for a request is
either an error or the result of one exchange on one segment of one connection: a response is
never assembled from bytes of two connections or of two arrival segments. -/
theorem transport_attribution (B : Nat) (q : ConnReq) (st : TState) :
    DeliveredFrom B q st (transportStep B q st).1 := by
  refine transportStep_cases (DeliveredFrom B q st ·.1) st ?_ (Or.inl rfl) (fun _ _ _ => Or.inl rfl) ?_
  · intro segs eof d next hc hso
    obtain ⟨seg, hm, hd⟩ := serveOn_source hso
    exact Or.inr (Or.inl ⟨segs, eof, seg, hc, hm, hd⟩)
  · intro sc scs d next hsc hso
    obtain ⟨seg, hm, hd⟩ := serveOn_source hso
    exact Or.inr (Or.inr ⟨sc, scs, seg, hsc, hm, hd⟩)

/-- Through the Transport, on ONE scripted connection that the
peer keeps open, the requests get exactly what the connection-level read loop (`connTimed`)
delivers, and every request after the connection has ended fails (no other connection is
scripted): the Transport layer adds nothing to and takes nothing from a connection's
deliveries.  (This is what ties `connTimed`, and through `timed_agrees_with_sequence`
`connSequence`, to the lane that runs `transportRun` against the real Transports.) -/
theorem transport_single_connection (B : Nat) (reqs : List ConnReq) (segs : List Bytes) (n : Nat) :
    (transportRun B reqs ⟨some (segs, false), [], n⟩).1 =
      connTimed B reqs segs ++
        List.replicate (reqs.length - (connTimed B reqs segs).length) Delivery.fail := by
  have hdead : ∀ (reqs : List ConnReq) (n : Nat),
      (transportRun B reqs ⟨none, [], n⟩).1 = List.replicate reqs.length Delivery.fail := by
    intro reqs
    induction reqs with
    | nil => intro n; rfl
    | cons q qs ih =>
      intro n
      simp only [transportRun, transportStep, dialAndServe, List.length_cons, List.replicate_succ]
      rw [ih]
  induction reqs generalizing segs n with
  | nil => simp [transportRun, connTimed]
  | cons q qs ih =>
    cases segs with
    | nil =>
      simp only [transportRun, transportStep, serveOn, connTimed, Bool.false_eq_true, if_false,
        List.nil_append, List.length_nil, Nat.sub_zero, List.length_cons, List.replicate_succ]
      rw [hdead]
    | cons seg rest =>
      by_cases hempty : seg.isEmpty = true
      · have hnil : seg = [] := List.isEmpty_iff.mp hempty
        subst hnil
        have hx : exchange B q [] = (Delivery.fail, none) :=
          reject_ends_connection (by simp [parseFinalHead, parseHead, readLine])
        simp only [transportRun, transportStep, serveOn, List.isEmpty_nil, if_true,
          Bool.false_eq_true, if_false, connTimed, hx, List.length_cons, List.length_nil]
        rw [hdead]
        simp
      · have hne : seg.isEmpty = false := by simpa using hempty
        cases hx : exchange B q seg with
        | mk d o =>
          by_cases ho : o = some []
          · subst ho
            simp only [transportRun, transportStep, serveOn, hne, Bool.false_eq_true, if_false, hx,
              Bool.and_false, Option.map_some, connTimed, List.cons_append, List.length_cons,
              Nat.add_sub_add_right]
            rw [ih]
          · have hstop := connTimed_stop qs rest hx ho
            have hserve : serveOn B q (seg :: rest) false = some (d, none) := by
              simp only [serveOn, hne, Bool.false_eq_true, if_false, hx]
            simp only [transportRun, transportStep, hserve, Option.map_none, hstop,
              List.length_cons, List.length_nil, List.cons_append, List.nil_append]
            rw [hdead]
            simp

/-- Every request gets exactly one delivery. -/
theorem transport_one_delivery_per_request (B : Nat) (reqs : List ConnReq) (st : TState) :
    (transportRun B reqs st).1.length = reqs.length := by
  induction reqs generalizing st with
  | nil => rfl
  | cons q qs ih => simp [transportRun, ih]

theorem transportStep_dials (B : Nat) (q : ConnReq) (st : TState) :
    st.dials ≤ (transportStep B q st).2.dials ∧ (transportStep B q st).2.dials ≤ st.dials + 1 ∧
    (transportStep B q st).2.dials + (transportStep B q st).2.scripts.length =
      st.dials + st.scripts.length := by
  refine transportStep_cases (fun r => st.dials ≤ r.2.dials ∧ r.2.dials ≤ st.dials + 1 ∧
    r.2.dials + r.2.scripts.length = st.dials + st.scripts.length) st ?_ (by simp) ?_ ?_
  · intros; simp
  · intro sc scs h; simp [h]; omega
  · intro sc scs d next h _; simp [h]; omega

/-- At most one dial per request, and never more dials than scripted connections. -/
theorem transport_dials_le (B : Nat) (reqs : List ConnReq) (st : TState) :
    st.dials ≤ (transportRun B reqs st).2 ∧
    (transportRun B reqs st).2 ≤ st.dials + reqs.length ∧
    (transportRun B reqs st).2 ≤ st.dials + st.scripts.length := by
  induction reqs generalizing st with
  | nil => simp [transportRun]
  | cons q qs ih =>
    obtain ⟨h1, h2, h3⟩ := transportStep_dials B q st
    obtain ⟨i1, i2, i3⟩ := ih (transportStep B q st).2
    simp only [transportRun, List.length_cons]
    omega

end Req.Props.C04
