import Req.Props.C20Multi
/-!
C20 — multi-scheme challenge lists: challenges of other schemes on field lines OF THEIR
OWN (a response with several `WWW-Authenticate` lines, in any order), and the same statement for the
whole middleware: the outcome of the call — error, or the exact second request — does not depend on
them.
-/
namespace Req.Props.C20
open Req.Proto Req.DigestAuth Req.Ascii
open Req.Digest hiding authorize handle exchange parseChallenge Resp

/-- **other_scheme_lines_do_not_interfere**: a response whose `WWW-Authenticate` field lines are
`l1 ++ l2` (any number of lines, any challenges, `l2` beginning with a challenge) — and the same
response with one more field line `z` between them (in front, at the end, in the middle) that
carries challenges of other schemes only: `parseChallenge` (on the lines joined as
`createDigestAuth` joins them) answers the same. -/
theorem other_scheme_lines_do_not_interfere (l1 l2 : List (List Elem)) (z : List Elem)
    (hne : l1 ++ l2 ≠ []) (hl : ∀ l ∈ l1 ++ z :: l2, l ≠ []) (hok : ∀ l ∈ l1 ++ z :: l2, ∀ x ∈ l, x.OK)
    (hys : startsChallenge (l2.flatten.map (·.e)) = true)
    (chs : List SChal) (hm : meaning ((l1 ++ l2).flatten.map (·.e)) = some chs)
    (others : List SChal) (hzm : meaning (z.map (·.e)) = some others)
    (hnd : ∀ o ∈ others, isDigest o.scheme = false) :
    DigestAuth.parseChallenge algOf (commaJoin ((l1 ++ z :: l2).map lineRender)) =
      DigestAuth.parseChallenge algOf (commaJoin ((l1 ++ l2).map lineRender)) := by
  have hsub : ∀ l ∈ l1 ++ l2, l ∈ l1 ++ z :: l2 := by
    intro l hl'
    rcases List.mem_append.mp hl' with h | h
    · exact List.mem_append_left _ h
    · exact List.mem_append_right _ (List.mem_cons_of_mem _ h)
  rw [List.flatten_append, List.map_append] at hm
  obtain ⟨chs', hm', hf⟩ := meaning_insert_others _ (z.map (·.e)) _ hys chs hm others hzm hnd
  have hm2 : meaning ((l1 ++ z :: l2).flatten.map (·.e)) = some chs' := by
    rw [List.flatten_append, List.flatten_cons, List.map_append, List.map_append]
    exact hm'
  rw [parse_faithful_lines _ (by simp) hl hok chs' hm2,
    parse_faithful_lines _ hne (fun l h => hl l (hsub l h)) (fun l h => hok l (hsub l h)) chs
      (by rw [List.flatten_append, List.map_append]; exact hm), hf]

/-- **other_schemes_same_outcome**: … and therefore the whole middleware does the same — the same
error, or the same second request byte for byte — whether or not the origin also offers Basic,
Bearer, Negotiate … next to Digest, and wherever it lists them. -/
theorem other_schemes_same_outcome (H : Alg → Bytes → Bytes) (user pass method uri : Bytes) (body : Body)
    (rnd : Option Bytes) (err : Bool) (status : Nat)
    (l1 l2 : List (List Elem)) (z : List Elem)
    (hne : l1 ++ l2 ≠ []) (hl : ∀ l ∈ l1 ++ z :: l2, l ≠ []) (hok : ∀ l ∈ l1 ++ z :: l2, ∀ x ∈ l, x.OK)
    (hys : startsChallenge (l2.flatten.map (·.e)) = true)
    (chs : List SChal) (hm : meaning ((l1 ++ l2).flatten.map (·.e)) = some chs)
    (others : List SChal) (hzm : meaning (z.map (·.e)) = some others)
    (hnd : ∀ o ∈ others, isDigest o.scheme = false) :
    DigestAuth.handle H algOf user pass method uri body rnd
        { err, status, wwwAuth := (l1 ++ z :: l2).map lineRender } =
      DigestAuth.handle H algOf user pass method uri body rnd
        { err, status, wwwAuth := (l1 ++ l2).map lineRender } := by
  unfold DigestAuth.handle
  simp only [createDigestAuth_eq,
    other_scheme_lines_do_not_interfere l1 l2 z hne hl hok hys chs hm others hzm hnd]

/-! `Digest …` on the first line, `Basic realm="r", Negotiate …, Newauth …` on a
second line (`mxDigest`, `mxOthers` of C20Multi) -/
example : (∀ l ∈ [mxDigest] ++ mxOthers :: [], l ≠ []) ∧ (∀ l ∈ [mxDigest] ++ mxOthers :: [], ∀ x ∈ l, x.OK) ∧
    startsChallenge (([] : List (List Elem)).flatten.map (·.e)) = true := by decide +kernel

example : DigestAuth.parseChallenge algOf (commaJoin (([mxDigest] ++ mxOthers :: []).map lineRender)) =
    .ok { realm := b!"r", nonce := b!"n" } := by decide +kernel

end Req.Props.C20
