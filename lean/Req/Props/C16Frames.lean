import Req.H2.HeaderBlock
/-!
C16 on HTTP/2, the last step before the wire: the encoded header block (the header SET of the
request) is cut into HEADERS + CONTINUATION frames by `ClientConn.writeHeaders`. The set reaches
the peer only if the frames reassemble to the block and the LAST one — and only the last one —
carries END_HEADERS; otherwise the peer waits for a CONTINUATION forever and every header of the
request is lost. Stated for every block, every peer frame size above the 5 priority octets,
with and without a HEADERS priority — in particular for blocks of exactly k × MAX_FRAME_SIZE
(− 5) bytes.
-/
namespace Req.Props.C16Frames
open Req.Proto Req.H2.HeaderBlock

theorem splitFrom_nil (fuel : Nat) (first es prio : Bool) (m : Nat) :
    splitFrom fuel first es prio m [] = [] := by
  cases fuel <;> simp [splitFrom]

theorem limit_pos (first prio : Bool) {m : Nat} (hm : 5 < m) : 0 < limit first prio m := by
  unfold limit; split <;> omega

/-- Recursion on the block instead of on the fuel. The frames of the empty block are none; those
of a non-empty block `b` are one frame with its first `limit` bytes — END_HEADERS set iff nothing
is left — followed by the frames `fs` of the rest, written as CONTINUATION frames; `fs` is empty iff
the rest is. -/
theorem splitFrom_rec {P : Bool → Bytes → List HFrame → Prop} (es prio : Bool) {m : Nat} (hm : 5 < m)
    (hnil : ∀ first, P first [] [])
    (hcons : ∀ first (b : Bytes) fs, b ≠ [] → (fs = [] ↔ b.drop (limit first prio m) = []) →
      P false (b.drop (limit first prio m)) fs →
      P first b ((if first then ⟨false, (b.drop (limit first prio m)).isEmpty, es, prio, b.take (limit first prio m)⟩
        else ⟨true, (b.drop (limit first prio m)).isEmpty, false, false, b.take (limit first prio m)⟩) :: fs)) :
    ∀ (fuel : Nat) (first : Bool) (b : Bytes), b.length ≤ fuel →
      P first b (splitFrom fuel first es prio m b) ∧ (splitFrom fuel first es prio m b = [] ↔ b = []) := by
  intro fuel
  induction fuel with
  | zero =>
    intro first b hb
    rw [List.length_eq_zero_iff.mp (Nat.le_zero.mp hb)]
    exact ⟨hnil first, Iff.intro (fun _ => rfl) (fun _ => rfl)⟩
  | succ fuel ih =>
    intro first b hb
    cases b with
    | nil => rw [splitFrom_nil]; exact ⟨hnil first, Iff.intro (fun _ => rfl) (fun _ => rfl)⟩
    | cons c t =>
      have hpos := limit_pos first prio hm
      obtain ⟨ih1, ih2⟩ := ih false ((c :: t).drop (limit first prio m))
        (by rw [List.length_drop]; simp only [List.length_cons] at hb ⊢; omega)
      exact ⟨hcons first (c :: t) _ (List.cons_ne_nil _ _) ih2 ih1,
        Iff.intro (fun h => nomatch h) (fun h => nomatch h)⟩

/-- the fragments, concatenated in frame order, are the block: nothing added, dropped, duplicated
or reordered. -/
theorem frames_reassemble (es prio : Bool) {m : Nat} (hm : 5 < m) (b : Bytes) :
    (writeHeaders es prio m b).flatMap (·.frag) = b := by
  refine (splitFrom_rec (P := fun _ b fs => fs.flatMap (·.frag) = b) es prio hm (fun _ => rfl)
    (fun first b fs _ _ ih => ?_) b.length true b (Nat.le_refl _)).1
  rw [List.flatMap_cons, ih]
  cases first <;> exact List.take_append_drop ..

example : (writeHeaders true true 8 [1, 2, 3, 4, 5, 6, 7, 8, 9, 10, 11]).map (·.frag) =
    [[1, 2, 3], [4, 5, 6, 7, 8, 9, 10, 11]] := by decide +kernel

/-- the first frame's payload (fragment + priority octets) fits the peer's frame size -/
theorem payload_fits (first prio : Bool) {m : Nat} (hm : 5 < m) (b : Bytes) :
    (b.take (limit first prio m)).length + (if (first && prio) = true then 5 else 0) ≤ m := by
  rw [List.length_take]
  unfold limit
  split <;> omega

/-- The contract between the writer and the receiving peer: END_HEADERS sits on the last frame and
on no other; every frame is non-empty and fits the peer's frame size; the first frame is the
HEADERS frame (with the END_STREAM flag and priority as asked), all others are CONTINUATION frames
without them. `writeHeaders` keeps it (`frames_wellFormed`); a peer that enforces its frame size and
the CONTINUATION discipline delivers every sequence that keeps it (`receive_wellFormed`). -/
def WellFormed (m : Nat) (es prio : Bool) : Bool → List HFrame → Prop
  | _, [] => True
  | first, f :: rest =>
    f.frag ≠ [] ∧ payloadLen f ≤ m ∧ f.cont = !first ∧
    f.endStream = (first && es) ∧ f.prio = (first && prio) ∧
    (f.endHeaders = true ↔ rest = []) ∧ WellFormed m es prio false rest

theorem frames_wellFormed (es prio : Bool) {m : Nat} (hm : 5 < m) (b : Bytes) :
    WellFormed m es prio true (writeHeaders es prio m b) := by
  refine (splitFrom_rec (P := fun first _ fs => WellFormed m es prio first fs) es prio hm
    (fun _ => trivial) (fun first b fs hne hfs ih => ?_) b.length true b (Nat.le_refl _)).1
  have hfit := payload_fits first prio hm b
  have htake : b.take (limit first prio m) ≠ [] := fun h => by
    have := congrArg List.length h
    rw [List.length_take, List.length_nil] at this
    have := limit_pos first prio hm
    have := List.length_pos_iff.mpr hne
    omega
  have hend : (b.drop (limit first prio m)).isEmpty = true ↔ fs = [] :=
    List.isEmpty_iff.trans hfs.symm
  cases first
  · exact ⟨htake, by simpa [payloadLen] using hfit, rfl, rfl, rfl, hend, ih⟩
  · exact ⟨htake, by simpa [payloadLen] using hfit, rfl, by simp, by simp, hend, ih⟩

example : (writeHeaders true true 8 (List.replicate 19 0)).map
      (fun f => (f.cont, f.endHeaders, f.endStream, f.prio, f.frag.length)) =
    [(false, false, true, true, 3), (true, false, false, false, 8), (true, true, false, false, 8)] := by
  decide +kernel

theorem receive_wellFormed (m : Nat) (es prio : Bool) : ∀ (fs : List HFrame) (first : Bool) (acc : Bytes),
    fs ≠ [] → WellFormed m es prio first fs →
    fs.foldl (recvStep m) (if first then .idle else .waiting acc es) =
      .delivered ((if first then [] else acc) ++ fs.flatMap (·.frag)) es := by
  intro fs
  induction fs with
  | nil => intro _ _ h; exact absurd rfl h
  | cons f rest ih =>
    intro first acc _ ⟨_, hfit, hcont, hes, _, hend, hrest⟩
    have hfit' : ¬ payloadLen f > m := Nat.not_lt.mpr hfit
    rw [List.foldl_cons, List.flatMap_cons]
    by_cases hr : rest = []
    · subst hr
      cases first <;> simp [recvStep, hcont, hfit', hend.mpr rfl, hes]
    · have he : f.endHeaders = false := by
        cases h : f.endHeaders with
        | false => rfl
        | true => exact absurd (hend.mp h) hr
      have hstep : recvStep m (if first then .idle else .waiting acc es) f =
          .waiting ((if first then [] else acc) ++ f.frag) es := by
        cases first <;> simp [recvStep, hcont, hfit', he, hes]
      have := ih false ((if first then [] else acc) ++ f.frag) hr hrest
      simp only [Bool.false_eq_true, if_false] at this
      rw [hstep, this, List.append_assoc]

/-- **The header block is delivered.** For every non-empty block, every peer frame size and with
or without a HEADERS priority, a peer that enforces its frame size limit and the CONTINUATION
discipline ends up with exactly the block (and the END_STREAM flag) — it is never left waiting
for a CONTINUATION and never sees a frame that is too large or out of place. -/
theorem block_delivered (es prio : Bool) {m : Nat} (hm : 5 < m) (b : Bytes) (hne : b ≠ []) :
    receive m (writeHeaders es prio m b) = .delivered b es := by
  have hnil : writeHeaders es prio m b ≠ [] := fun h =>
    hne (by rw [← frames_reassemble es prio hm b, h]; rfl)
  have h := receive_wellFormed m es prio _ true [] hnil (frames_wellFormed es prio hm b)
  rwa [frames_reassemble es prio hm] at h

/-- the block fills the frame(s) EXACTLY (16 = 2 × 8 bytes, and 3 + 8 with a priority): delivered. -/
example : receive 8 (writeHeaders false false 8 (List.replicate 16 7)) =
    .delivered (List.replicate 16 7) false := by decide +kernel
example : receive 8 (writeHeaders true true 8 (List.replicate 11 7)) =
    .delivered (List.replicate 11 7) true := by decide +kernel
/-- a writer that left END_HEADERS off the last frame would leave the peer waiting: the
statement is not vacuous. -/
example : receive 8 [⟨false, false, false, false, [1, 2, 3, 4, 5, 6, 7, 8]⟩] =
    .waiting [1, 2, 3, 4, 5, 6, 7, 8] false := by decide +kernel

/-- one more frame per `m` bytes: ⌈n / m⌉ = ⌈(n − m) / m⌉ + 1 for `n > 0`. -/
theorem ceil_step {m n : Nat} (hm : 0 < m) (hn : 0 < n) :
    (n + m - 1) / m = (n - m + m - 1) / m + 1 := by
  by_cases hle : n ≤ m
  · rw [Nat.sub_eq_zero_of_le hle, Nat.zero_add, Nat.div_eq_of_lt (Nat.sub_lt hm Nat.one_pos)]
    exact Nat.div_eq_of_lt_le (by omega) (by omega)
  · rw [show n + m - 1 = (n - m + m - 1) + m by omega, Nat.add_div_right _ hm]

/-- **Frame count**: a (non-empty) block of `n` bytes goes out in ⌈(n + p) / m⌉ frames, `p` = 5
with a HEADERS priority and 0 without: one frame up to `m − p` bytes, two up to `2m − p`, … —
the boundaries `k·m − p` are where the last frame is exactly full. -/
theorem frames_count (es prio : Bool) {m : Nat} (hm : 5 < m) (b : Bytes) (hne : b ≠ []) :
    (writeHeaders es prio m b).length = (b.length + (if prio then 5 else 0) + m - 1) / m := by
  have hm0 : 0 < m := by omega
  -- for the rest of a block (CONTINUATION frames, no priority octets) the empty rest counts too
  have h := (splitFrom_rec (P := fun first b fs => b ≠ [] ∨ first = false →
      fs.length = (b.length + (if (first && prio) = true then 5 else 0) + m - 1) / m) es prio hm
    (fun first h => ?_) (fun first b fs hne _ ih _ => ?_) b.length true b (Nat.le_refl _)).1 (Or.inl hne)
  · simpa [writeHeaders] using h
  · rcases h with h | rfl
    · exact absurd rfl h
    · exact (Nat.div_eq_of_lt (by simpa using Nat.sub_lt hm0 Nat.one_pos)).symm
  · generalize hp : (if (first && prio) = true then 5 else 0) = p
    have hlim : limit first prio m = m - p ∧ p ≤ 5 := by
      rw [← hp]; unfold limit; split <;> simp
    have hlen := List.length_pos_iff.mpr hne
    rw [List.length_cons, ih (Or.inr rfl), List.length_drop, ceil_step hm0 (n := b.length + p) (by omega),
      hlim.1]
    simp only [Bool.false_and, Bool.false_eq_true, if_false, Nat.add_zero]
    congr 3
    omega

example : (writeHeaders false false 8 (List.replicate 16 0)).length = 2 := by decide +kernel
example : (writeHeaders false false 8 (List.replicate 17 0)).length = 3 := by decide +kernel
example : (writeHeaders false true 8 (List.replicate 11 0)).length = 2 := by decide +kernel
example : (writeHeaders false true 8 (List.replicate 12 0)).length = 3 := by decide +kernel

/-- an empty block writes nothing (the Go loop body never runs); `encodeHeaders` never produces
one (the pseudo fields are always there). -/
theorem empty_block (es prio : Bool) (m : Nat) : writeHeaders es prio m [] = [] := rfl

end Req.Props.C16Frames
