import Req.Client.BodyTable
import Req.Lemmas.Multipart
/-!
C17 — "under a Content-Type that matches the body": the decision table of `parseRequestBody`
over EVERY combination of Content-Type presets (request level, client level, both, none) and body
kinds, with the server's choice of parser as the judge.
-/
namespace Req.Props.C17ContentType
open Req.Proto Req.Form Req.Body Req.Multipart

/-- One walk through `dispatch`: whenever the call succeeds, kind and Content-Type are those of
the table. -/
theorem dispatch_table (c : Cfg) (out : Out) (h : dispatch c = some out) :
    out.kind = kindTable c ∧ out.ct = expectedCT c out.kind := by
  unfold dispatch at h
  unfold kindTable hasForm
  split at h
  · next hf => cases h; simp [hf, expectedCT]
  next hf =>
  split at h
  · cases h
  next pairs hp =>
  rw [← pairUp_isEmpty _ _ hp]
  simp only [hf, Bool.false_eq_true, ↓reduceIte] at h ⊢
  split at h
  · next hmp => split at h <;> cases h; simp [hmp, expectedCT]
  next hmp =>
  split at h
  · next hform => cases h; simp [hmp, hform, expectedCT]
  next hform =>
  simp only [hmp, hform, Bool.false_eq_true, ↓reduceIte]
  split at h
  · split at h
    · split at h <;> cases h; simp [expectedCT, *]
    · split at h <;> split at h <;> cases h <;> simp [expectedCT, *]
  · split at h
    · cases h; simp [expectedCT, *]
    · split at h <;> cases h <;> simp [expectedCT, *]

/-- Whenever the call succeeds, the kind of body that is sent is the one the
table names: forbidden method ≻ multipart ≻ form ≻ marshalled value ≻ raw body ≻ nothing. -/
theorem body_kind_table (c : Cfg) (out : Out) (h : dispatch c = some out) : out.kind = kindTable c :=
  (dispatch_table c out h).1

/-- ∀ request descriptions, ∀ presets (request level, client
level, both, none): the Content-Type the request goes out with is the one the table gives for the
kind of body that is sent. -/
theorem content_type_matches_body (c : Cfg) (out : Out) (h : dispatch c = some out) :
    out.ct = expectedCT c out.kind :=
  (dispatch_table c out h).2

def withPresets (c : Cfg) (reqCT clientCT : Bytes) : Cfg := { c with reqCT := reqCT, clientCT := clientCT }

/-- A urlencoded form or a multipart body is sent EXACTLY the same —
body and Content-Type — whatever Content-Type was preset at request level, at client level, or at
both (a kept preset would make the server's `ParseForm` see no keys). -/
theorem form_ignores_presets (c : Cfg) (reqCT clientCT : Bytes)
    (hm : isPayloadForbid c.method c.allowGet = false)
    (hk : c.multipart = true ∨ hasForm c = true) :
    dispatch (withPresets c reqCT clientCT) = dispatch c := by
  unfold dispatch withPresets
  simp only [hm, Bool.false_eq_true, ↓reduceIte]
  cases hp : pairUp c.ordered with
  | none => rfl
  | some pairs =>
    simp only
    have hpe := pairUp_isEmpty _ _ hp
    rcases hk with hk | hk
    · simp [hk]
    · cases hmp : c.multipart
      · simp only [hasForm] at hk
        rw [← hpe] at hk
        simp [hk]
      · simp

theorem formCT_parses_as_urlencoded : serverParser formCT = .urlencoded := by decide +kernel

theorem kindTable_marshal (c : Cfg) :
    (kindTable c = .marshalXml → isXMLType (effCT c) = true) ∧
    (kindTable c = .marshalJson → (effCT c).isEmpty = true ∨ isXMLType (effCT c) = false) := by
  unfold kindTable
  (repeat' split) <;> simp_all

/-- The judge is the SERVER: for every description and every
preset combination the Content-Type that is sent makes a standard server choose the parser that
fits the body: the urlencoded parser for forms, the multipart parser with the body's own boundary
for multipart bodies (any boundary `SetBoundary` accepts); a marshalled value goes out under an XML
type iff the XML marshaller produced it. -/
theorem server_picks_matching_parser (c : Cfg) (out : Out) (h : dispatch c = some out) :
    (out.kind = .form → serverParser out.ct = .urlencoded) ∧
    (out.kind = .multipart → validBoundary c.boundary = true → serverParser out.ct = .multipart c.boundary) ∧
    (out.kind = .marshalXml → isXMLType out.ct = true) ∧
    (out.kind = .marshalJson → isXMLType out.ct = false) := by
  obtain ⟨hkind, hct⟩ := dispatch_table c out h
  refine ⟨fun hk => ?_, fun hk hv => ?_, fun hk => ?_, fun hk => ?_⟩ <;> rw [hct, hk] <;> rw [hk] at hkind
  · exact formCT_parses_as_urlencoded
  · simp only [expectedCT, serverParser, content_type_boundary c.boundary hv]
    have h1 : (multipartFormData == wwwForm) = false := by decide
    simp [h1, List.lookup]
  · exact (kindTable_marshal c).1 hkind.symm
  · rcases (kindTable_marshal c).2 hkind.symm with he | hx
    · rw [expectedCT, if_pos he]; decide
    · rw [expectedCT]; split
      · decide
      · exact hx

/-- non-vacuity: a form under request-level JSON + client-level XML presets still goes out (and is
parsed) as a form; the same value marshalled follows the request-level preset -/
private def exForm : Cfg :=
  { method := "POST", allowGet := true, multipart := false, clientForm := [],
    reqForm := [([97], [[49]])], ordered := [], files := [], boundary := [66], marshal := none,
    body := none, reqCT := jsonCT, clientCT := [116, 101, 120, 116, 47, 120, 109, 108], sniffed := [] }

example : (dispatch exForm).map (fun o => (o.kind, o.ct == formCT, serverParser o.ct)) =
    some (.form, true, .urlencoded) := by decide +kernel
example : dispatch (withPresets exForm [] []) = dispatch exForm := by decide +kernel
example : (dispatch { exForm with reqForm := [], marshal := some (some [123, 125], some [60, 97, 47, 62]) }).map (·.kind)
    = some .marshalJson ∧
  (dispatch { exForm with reqForm := [], reqCT := [], marshal := some (some [123, 125], some [60, 97, 47, 62]) }).map
    (fun o => (o.kind, o.body)) = some (.marshalXml, some [60, 97, 47, 62]) := by decide +kernel
example : (dispatch { exForm with multipart := true }).map (fun o => serverParser o.ct) = some (.multipart [66]) := by decide +kernel

end Req.Props.C17ContentType
