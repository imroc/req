import Req.Pool.AltSvcParse
import Req.Pool.MetaCharset
import Req.Lemmas.IfTree
/-!
C07 — the two cursor parsers terminate on every server-chosen text and always yield a value. The
header parser behind `altsvcutil.ParseHeader` is three nested Go loops with no explicit progress
argument, `charsets.fromMetaElement` a `for s != ""` loop with a `continue`; the models run them on
fuel, and `length + 1` fuel is always enough (`parse_total`, `parse_classified`, `fromMeta_total`):
neither can spin.
-/
namespace Req.Props.C07

section altSvc
open Req.AltSvcParse Req.Proto

theorem readBytes_rest_le (d : UInt8) (buf : Bytes) :
    (readBytes d buf).2.1.length ≤ buf.length := by
  induction buf with
  | nil => exact Nat.le_refl _
  | cons c cs ih =>
    unfold readBytes
    split
    · exact Nat.le_succ _
    · exact Nat.le_succ_of_le ih

theorem readBytes_rest_lt (d : UInt8) (buf : Bytes) (h : buf ≠ []) :
    (readBytes d buf).2.1.length < buf.length := by
  cases buf with
  | nil => exact absurd rfl h
  | cons c cs =>
    unfold readBytes
    split
    · exact Nat.lt_succ_self _
    · exact Nat.lt_succ_of_le (readBytes_rest_le d cs)

open Req.Lemmas in
theorem parseKv_rest_le_readBytes (buf : Bytes) :
    (parseKv buf).rest.length ≤ (readBytes 61 buf).2.1.length := by
  unfold parseKv
  generalize readBytes 61 buf = r
  obtain ⟨line, bs, found⟩ := r
  have hd (n : Nat) : (bs.drop n).length ≤ bs.length := by simp
  let P (k : Kv) := k.rest.length ≤ bs.length
  refine ite_ind P (Nat.le_refl _) (ite_ind P (Nat.le_refl _) (ite_ind P ?_ ?_))
  · refine ite_ind P (Nat.le_refl _) (ite_ind P (hd _) ?_)
    have := hd (quoteIndex bs + 1)
    split
    · exact this
    · next heq => rw [heq] at this; exact Nat.le_of_succ_le this
  · exact ite_ind P (Nat.le_refl _) (hd _)

theorem parseKv_rest_lt (buf : Bytes) (h : buf ≠ []) :
    (parseKv buf).rest.length < buf.length :=
  Nat.lt_of_le_of_lt (parseKv_rest_le_readBytes buf) (readBytes_rest_lt 61 buf h)

theorem parseKv_nil : (parseKv []).haveNext = false ∧ (parseKv []).err = .eof ∧ (parseKv []).rest = [] := by
  simp [parseKv, readBytes]

theorem parseKv_rest_le (buf : Bytes) : (parseKv buf).rest.length ≤ buf.length := by
  cases buf with
  | nil => simp [parseKv_nil.2.2]
  | cons c cs => exact Nat.le_of_lt (parseKv_rest_lt _ (by simp))

theorem drain_some (fuel : Nat) (buf : Bytes) (h : buf.length < fuel) :
    ∃ e r, drain fuel buf = some (e, r) ∧ r.length ≤ buf.length := by
  induction fuel generalizing buf with
  | zero => omega
  | succ n ih =>
    unfold drain
    simp only
    split
    next hn =>
      have hne : buf ≠ [] := by
        intro he
        subst he
        simp [parseKv_nil.1] at hn
      have hlt := parseKv_rest_lt buf hne
      obtain ⟨e, r, h1, h2⟩ := ih (parseKv buf).rest (by omega)
      exact ⟨e, r, h1, by omega⟩
    next =>
      exact ⟨_, _, rfl, parseKv_rest_le buf⟩

open Req.Lemmas in
theorem parseOne_some (buf : Bytes) :
    ∃ e err r, parseOne (buf.length + 1) buf = some (e, err, r) ∧
      r.length ≤ (parseKv buf).rest.length := by
  unfold parseOne
  have h1 := parseKv_rest_le buf
  have h2 := parseKv_rest_le (parseKv buf).rest
  obtain ⟨e, r, hd, hr⟩ :=
    drain_some (buf.length + 1) (parseKv (parseKv buf).rest).rest (by omega)
  let P (o : Option (Option Entry × Err × Bytes)) :=
    ∃ e err r, o = some (e, err, r) ∧ r.length ≤ (parseKv buf).rest.length
  refine ite_ind P ⟨_, _, _, rfl, Nat.le_refl _⟩ <| ite_ind P ⟨_, _, _, rfl, Nat.le_refl _⟩ <|
    ite_ind P ⟨_, _, _, rfl, h2⟩ <| ite_ind P ⟨_, _, _, rfl, h2⟩ <| ite_ind P ⟨_, _, _, rfl, h2⟩ <|
    ite_ind P ⟨_, _, _, rfl, h2⟩ ?_
  rw [hd]
  exact ⟨_, _, _, rfl, Nat.le_trans hr h2⟩

theorem parseOne_progress (buf : Bytes) (e : Option Entry) (r : Bytes)
    (h : parseOne (buf.length + 1) buf = some (e, .none, r)) : r.length < buf.length := by
  have hne : buf ≠ [] := by
    intro he
    subst he
    simp [parseOne, parseKv, readBytes] at h
  obtain ⟨e', err', r', h1, hr⟩ := parseOne_some buf
  rw [h] at h1
  simp only [Option.some.injEq, Prod.mk.injEq] at h1
  rw [h1.2.2]
  exact Nat.lt_of_le_of_lt hr (parseKv_rest_lt buf hne)

theorem parseLoop_classified (fuel : Nat) (buf : Bytes) (acc : List Entry) (h : buf.length < fuel) :
    ∃ es err, parseLoop fuel buf acc = some (es, err) ∧ err ≠ .none := by
  induction fuel generalizing buf acc with
  | zero => omega
  | succ n ih =>
    unfold parseLoop
    obtain ⟨e, err, r, h1, _⟩ := parseOne_some buf
    rw [h1]
    cases err with
    | none => exact ih r _ (by have := parseOne_progress buf e r h1; omega)
    | eof => exact ⟨_, _, rfl, nofun⟩
    | other => exact ⟨_, _, rfl, nofun⟩

/-- The result is always classified: success or error, never "still running". -/
theorem parse_classified (s : Bytes) : ∃ es err, parse s = some (es, err) ∧ err ≠ .none :=
  parseLoop_classified _ s [] (Nat.lt_succ_self _)

/-- `altsvcutil.ParseHeader`: for every header value the parser terminates with a value — a list of
entries together with success (`eof`) or an error; it can neither spin nor get stuck. -/
theorem parse_total (s : Bytes) : (parse s).isSome := by
  obtain ⟨_, _, h, _⟩ := parse_classified s
  rw [h]
  rfl

/-- Non-vacuity: `h3=":443"; ma=3600, h2="a:8"` parses to two entries. -/
example :
    parse [104,51,61,34,58,52,52,51,34,59,32,109,97,61,51,54,48,48,44,32,104,50,61,34,97,58,56,34] =
      some ([⟨[104,51], [], [52,52,51], true⟩, ⟨[104,50], [97], [56], false⟩], .eof) := by decide

end altSvc

section metaCharset
open Req.MetaCharset Req.Proto

theorem isPrefixOf_length (p s : Bytes) (h : isPrefixOf p s = true) : p.length ≤ s.length := by
  induction p generalizing s with
  | nil => exact Nat.zero_le _
  | cons a as ih =>
    cases s with
    | nil => cases h
    | cons b bs =>
      simp only [isPrefixOf, Bool.and_eq_true] at h
      exact Nat.succ_le_succ (ih bs h.2)

theorem afterCharset_lt (s r : Bytes) (h : afterCharset s = some r) : r.length < s.length := by
  induction s with
  | nil => cases h
  | cons c cs ih =>
    unfold afterCharset at h
    split at h
    next hp =>
      have hlen : 7 ≤ (c :: cs).length := isPrefixOf_length _ _ hp
      cases h
      simp only [List.length_drop]
      omega
    next => exact Nat.lt_succ_of_lt (ih h)

theorem trimLeftWs_le (s : Bytes) : (trimLeftWs s).length ≤ s.length := by
  induction s with
  | nil => simp [trimLeftWs]
  | cons c cs ih =>
    unfold trimLeftWs
    split
    · simp only [List.length_cons]; omega
    · simp

theorem fromMeta_some (fuel : Nat) (s : Bytes) (h : s.length < fuel) : (fromMeta fuel s).isSome := by
  induction fuel generalizing s with
  | zero => omega
  | succ n ih =>
    unfold fromMeta
    split
    · simp
    · split
      · simp
      · rename_i s1 hs1
        have h1 := afterCharset_lt s s1 hs1
        have h2 := trimLeftWs_le s1
        simp only
        split
        · split
          · simp
          · split
            · split <;> simp
            · simp
        · exact ih _ (by omega)

/-- `charsets.fromMetaElement` terminates with a value on every input. -/
theorem fromMeta_total (s : Bytes) : (fromMetaElement s).isSome :=
  fromMeta_some _ s (by omega)

/-- Non-vacuity: `text/html; charset = "gbk"` yields `gbk`, after skipping a `charset` that is
not followed by `=`. -/
example : fromMetaElement [99,104,97,114,115,101,116,120,59,32,99,104,97,114,115,101,116,32,61,32,34,103,98,107,34]
    = some [103, 98, 107] := by decide

end metaCharset
end Req.Props.C07
