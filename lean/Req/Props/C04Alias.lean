import Req.Lemmas.BufAlias
/-!
C04 — buffer aliasing in the header line reader.

`Req.H1.BufAlias` keeps `bufio.Reader`'s buffer as an explicit array; `ReadSlice`/`ReadLine`
return VIEWS into it and `fill` overwrites it.  Theorems (all ∀ buffer sizes, reader states —
hence all scripts/segmentations of the connection — and validation functions):

* `readLineSlice_view`, over `readSlice_view`, `readLine_view` of `Lemmas/BufAlias` — a view read at the
  moment the call returns holds exactly the line the value-semantics reader `Req.H1.BufLine` returns, and
  the unread bytes / pending error / rest of the script are the same.
* `peek2_no_refill` (`Lemmas/BufAlias`) — with at least two bytes buffered `Peek(2)` does not touch the reader.
* `continued_line_alias_safe` — `readContinuedLineSlice` with the code's guard
  (`Buffered() > 1`) returns, by content, what the value-semantics reader `readContinuedV`
  returns, and leaves the same reader: no view is read after a refill.
* `head_lines_alias_safe` — the same for the whole sequence of continued lines of a header block.
* `continued_line_fastpath_irrelevant`, `continued_line_alias_safe_slow` — the fast path changes
  nothing, so the aliasing reader also computes `readContinuedSlow`, the form C04Split and C04Whole
  start from.
* the last `example` ("guard_zero_corrupts", decided) — with the guard `Buffered() > 0` the property is
  false: one byte of the next line buffered, `Peek(2)` refills, the line just read is overwritten.
-/
namespace Req.Props.C04
open Req.Proto Req.H1 Req.H1.BufLine Req.H1.BufAlias

theorem mid_take_drop (p x y : Bytes) : ((p ++ (x ++ y)).drop p.length).take x.length = x := by
  simp

theorem deref_shorter (a : ARd) (off len k : Nat) :
    a.deref ⟨off, min k len⟩ = (a.deref ⟨off, len⟩).take k := by
  simp [ARd.deref, List.take_take]

def resGet (a : ARd) : Res Line → Res Bytes
  | .ok l => .ok (a.get l)
  | .error e => .error e

theorem areadLineSliceLoop_view (B f : Nat) (acc : Option Bytes) (d : Bytes) (a : ARd) :
    (areadLineSliceLoop B f acc a).2.rd
      = (readLineSliceLoop (plainReadLine B) none f (acc.getD []) d a.rd).st ∧
    resGet (areadLineSliceLoop B f acc a).2 (areadLineSliceLoop B f acc a).1
      = (readLineSliceLoop (plainReadLine B) none f (acc.getD []) d a.rd).res := by
  induction f generalizing acc d a with
  | zero => simp [areadLineSliceLoop, readLineSliceLoop, resGet]
  | succ f ih =>
    obtain ⟨h1, h2, h3, h4⟩ := readLine_view B a
    rw [readLineSliceLoop_succ, ← h1, ← h2, ← h3, ← h4]
    unfold areadLineSliceLoop
    generalize areadLine B a = ra
    obtain ⟨r, a1⟩ := ra
    simp only
    cases r.err with
    | some e => exact ⟨rfl, rfl⟩
    | none =>
      cases hp : r.isPrefix with
      | false => cases acc <;> exact ⟨rfl, rfl⟩
      | true =>
        have := ih (some (acc.getD [] ++ a1.deref r.v)) (d ++ []) a1
        cases acc <;> simpa using this

theorem readLineSlice_view (B : Nat) (a : ARd) :
    (areadLineSlice B a).2.rd = (readLineSlice (plainReadLine B) none a.rd).st ∧
    resGet (areadLineSlice B a).2 (areadLineSlice B a).1
      = (readLineSlice (plainReadLine B) none a.rd).res :=
  areadLineSliceLoop_view B _ none [] a

theorem acontLoop_view (B f : Nat) (acc : Bytes) (a : ARd) :
    (acontLoop B f acc a).1 = (contLoopV B f acc a.rd).1 ∧
    (acontLoop B f acc a).2.rd = (contLoopV B f acc a.rd).2 := by
  induction f generalizing acc a with
  | zero => simp [acontLoop, contLoopV]
  | succ f ih =>
    obtain ⟨h1, h2⟩ := skipSpace_view B a
    unfold acontLoop contLoopV
    generalize askipSpace B a = x at *
    generalize skipSpace B a.rd = y at *
    obtain ⟨sk, a1⟩ := x
    obtain ⟨_, st1⟩ := y
    simp only at h1 h2 ⊢
    subst h1 h2
    split
    · exact ⟨rfl, rfl⟩
    · obtain ⟨g1, g2⟩ := readLineSlice_view B a1
      generalize areadLineSlice B a1 = x at *
      generalize readLineSlice (plainReadLine B) none a1.rd = y at *
      obtain ⟨res, a2⟩ := x
      obtain ⟨_, st2, _⟩ := y
      simp only at g1 g2 ⊢
      subst g1 g2
      cases res with
      | error e => exact ⟨rfl, rfl⟩
      | ok ln => exact ih (acc ++ [32] ++ trimOWS (a2.get ln)) a2

/-- For every buffer size, every reader state (whatever the
connection has delivered and will deliver, in whatever segments) and every first-line check:
`readContinuedLineSlice` over the real, aliasing `bufio.Reader` returns — read at return time —
exactly the line the value-semantics reader returns, and leaves the same unread bytes, pending
error and connection. -/
theorem continued_line_alias_safe (B : Nat) (valid : Bytes → Bool) (a : ARd) :
    (areadContinued B 1 valid a).1 = (readContinuedV B valid a.rd).1 ∧
    (areadContinued B 1 valid a).2.rd = (readContinuedV B valid a.rd).2 := by
  obtain ⟨g1, g2⟩ := readLineSlice_view B a
  unfold areadContinued readContinuedV
  generalize areadLineSlice B a = x at *
  generalize readLineSlice (plainReadLine B) none a.rd = y at *
  obtain ⟨res, a1⟩ := x
  obtain ⟨_, st1, _⟩ := y
  simp only at g1 g2 ⊢
  subst g1 g2
  cases res with
  | error e => exact ⟨rfl, rfl⟩
  | ok ln =>
    simp only [resGet]
    by_cases h0 : (a1.get ln).isEmpty = true
    · rw [if_pos h0, if_pos h0]
      exact ⟨rfl, rfl⟩
    · rw [if_neg h0, if_neg h0]
      by_cases hval : (!valid (a1.get ln)) = true
      · rw [if_pos hval, if_pos hval]
        exact ⟨rfl, rfl⟩
      · rw [if_neg hval, if_neg hval]
        -- with two bytes buffered `Peek(2)` does not refill: the views stay valid
        have hp : (if decide (a1.rd.buf.length > 1) = true then apeek2 B a1 else a1) = a1 := by
          split
          · next hg => exact peek2_no_refill B a1 (by simpa using hg)
          · rfl
        simp only [hp]
        split
        · exact ⟨rfl, rfl⟩
        · exact acontLoop_view B _ _ a1

/-- `readContinuedLineSlice` without its `Buffered() > 1` / `Peek(2)` fast path. -/
def readContinuedSlow (B : Nat) (valid : Bytes → Bool) (st : Rd) : ContRes × Rd :=
  match readLineSlice (plainReadLine B) none st with
  | ⟨.error e, st1, _⟩ => (.err e, st1)
  | ⟨.ok l, st1, _⟩ =>
    if l.isEmpty then (.ok [], st1)
    else if !valid l then (.invalid, st1)
    else contLoopV B (st1.bytes.length + 1) (trimOWS l) st1

/-- The only place where `readContinuedLineSlice` looks at
HOW MUCH the connection has delivered so far (`Buffered() > 1`, i.e. where segmentation enters
other than through `fill`) does not change its result: with and without the fast path the same
line is returned and the same reader is left. -/
theorem continued_line_fastpath_irrelevant (B : Nat) (valid : Bytes → Bool) (st : Rd) :
    readContinuedV B valid st = readContinuedSlow B valid st := by
  unfold readContinuedV readContinuedSlow
  cases hv : readLineSlice (plainReadLine B) none st with
  | mk res st1 dd =>
    cases res with
    | error e => rfl
    | ok l =>
      simp only
      split
      · rfl
      · split
        · rfl
        · split
          · next hfast =>
            simp only [Bool.and_eq_true, decide_eq_true_eq] at hfast
            obtain ⟨c, t', hb⟩ : ∃ c t', st1.buf = c :: t' := by
              cases hb : st1.buf with
              | nil => simp [hb] at hfast
              | cons c t' => exact ⟨c, t', rfl⟩
            have hc : isSpTab c = false := by
              rw [hb, List.take_succ_cons] at hfast
              exact peekOK_nonblank hfast.2
            have hs := skipSpace_nonblank B st1 c t' hb hc
            unfold contLoopV
            simp [hs]
          · rfl

theorem continued_line_alias_safe_slow (B : Nat) (valid : Bytes → Bool) (a : ARd) :
    (areadContinued B 1 valid a).1 = (readContinuedSlow B valid a.rd).1 ∧
    (areadContinued B 1 valid a).2.rd = (readContinuedSlow B valid a.rd).2 := by
  rw [← continued_line_fastpath_irrelevant]
  exact continued_line_alias_safe B valid a

/-- The header-block loop over the value-semantics reader. -/
def headLinesV (B : Nat) (valid : Bytes → Bool) : Nat → Rd → List Bytes × ContRes × Rd
  | 0, st => ([], .err .stuck, st)
  | f + 1, st =>
    match readContinuedV B valid st with
    | (.ok l, st1) =>
      if l.isEmpty then ([], .ok [], st1)
      else
        match headLinesV B valid f st1 with
        | (ls, e, st2) => (l :: ls, e, st2)
    | (r, st1) => ([], r, st1)

/-- Every continued line of a header block, read one after the other
from the same aliasing reader: the contents are those of the value-semantics reader. -/
theorem head_lines_alias_safe (B f : Nat) (valid : Bytes → Bool) (a : ARd) :
    (aheadLines B 1 valid f a).1 = (headLinesV B valid f a.rd).1 ∧
    (aheadLines B 1 valid f a).2.1 = (headLinesV B valid f a.rd).2.1 ∧
    (aheadLines B 1 valid f a).2.2.rd = (headLinesV B valid f a.rd).2.2 := by
  induction f generalizing a with
  | zero => simp [aheadLines, headLinesV]
  | succ f ih =>
    obtain ⟨h1, h2⟩ := continued_line_alias_safe B valid a
    unfold aheadLines headLinesV
    generalize areadContinued B 1 valid a = x at *
    generalize readContinuedV B valid a.rd = y at *
    obtain ⟨r, a1⟩ := x
    obtain ⟨_, st1⟩ := y
    simp only at h1 h2
    subst h1 h2
    cases r with
    | ok l =>
      simp only
      split
      · exact ⟨rfl, rfl, rfl⟩
      · have := ih a1
        exact ⟨by rw [this.1], this.2.1, this.2.2⟩
    | err e => exact ⟨rfl, rfl, rfl⟩
    | invalid => exact ⟨rfl, rfl, rfl⟩

def colonCheck (l : Bytes) : Bool := l.contains 58

/-- "A: bcd\r\nE" then ": fgh\r\nI: jkl\r\n\r\n" through a 16-byte reader. -/
def twoSegs : ARd := ARd.init 16
  [⟨[65, 58, 32, 98, 99, 100, 13, 10, 69], none⟩,
   ⟨[58, 32, 102, 103, 104, 13, 10, 73, 58, 32, 106, 107, 108, 13, 10, 13, 10], none⟩]

set_option maxRecDepth 100000 in
/-- The code's guard: the first line is "A: bcd", the lines are A, E, I. -/
example : (areadContinued 16 1 colonCheck twoSegs).1 = .ok [65, 58, 32, 98, 99, 100] := by decide +kernel

set_option maxRecDepth 100000 in
example : (aheadLines 16 1 colonCheck 10 twoSegs).1 =
    [[65, 58, 32, 98, 99, 100], [69, 58, 32, 102, 103, 104], [73, 58, 32, 106, 107, 108]] := by decide +kernel

set_option maxRecDepth 100000 in
/-- **guard_zero_corrupts.** With `Buffered() > 0` the one buffered byte `E` lets `Peek(2)`
refill: the array now starts with "E: fgh", and that is what the view of the first line shows. -/
example : (areadContinued 16 0 colonCheck twoSegs).1 = .ok [69, 58, 32, 102, 103, 104] := by decide +kernel

end Req.Props.C04
