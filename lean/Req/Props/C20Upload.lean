import Req.Client.DigestResend
/-!
C20 — "the original body is sent again intact" for multipart uploads, buffered and STREAMED, from
every kind of part source, with client-level form data (`Mode.repaired` is digest.go; `Mode.asFound` a
digest.go without fixes/C20-6, kept for `as_found_upload_damaged`).
-/
namespace Req.Props.C20
open Req.Proto Req.DigestAuth

theorem readSource_rewound (s : Source) (h : s.isOneShot = false) :
    readSource true true s = readSource false false s := by
  cases s with
  | content b => rfl
  | seekable b => rfl
  | oneShot b => cases h

theorem resendParts_repaired (u : Upload) :
    resendParts .repaired u =
      if u.streamed && u.files.any (·.src.isOneShot) then none else some (firstParts u) := by
  unfold resendParts
  cases u.streamed
  · rfl
  · simp only [Bool.not_true, Bool.false_eq_true, if_false, Bool.true_and]
    split
    · rfl
    · rename_i hany
      unfold firstParts writeParts
      congr 2
      exact List.map_congr_left fun f hf => by
        rw [readSource_rewound f.src (Bool.eq_false_iff.2 fun hb => hany (List.any_eq_true.2 ⟨f, hf, hb⟩))]

/-- **upload_resent_intact**: for EVERY upload — any ordered pairs, request-level and client-level
form pairs, any number of file parts from any sources, buffered or streamed: when the body is sent
again, its parts are exactly the parts of the first request (names, file names, contents, order;
no field twice, no file empty). -/
theorem upload_resent_intact (u : Upload) (ps : List Part) (h : resendParts .repaired u = some ps) :
    ps = firstParts u := by
  rw [resendParts_repaired] at h
  split at h
  · cases h
  · exact (Option.some.inj h).symm

/-- **unreplayable_upload_refused**: the body is refused (an error, nothing is sent) exactly when
the upload is streamed and one of its parts comes from a reader that cannot be read again — never
sent with that part empty. -/
theorem unreplayable_upload_refused (u : Upload) :
    resendParts .repaired u = none ↔ (u.streamed = true ∧ ∃ f ∈ u.files, f.src.isOneShot = true) := by
  rw [resendParts_repaired]
  simp [List.any_eq_true]

/-- the middleware: a re-sent upload carries the parts of the first request; an unanswerable
challenge is an error before any body is written -/
theorem upload_outcome (answer : Option (Except Req.Digest.Err Bytes)) (u : Upload) (ps : List Part)
    (h : handleUpload .repaired answer u = .resend ps) :
    ps = firstParts u ∧ ∃ hdr, answer = some (.ok hdr) ∧ hdr.all isFieldByte = true := by
  unfold handleUpload at h
  split at h
  · cases h
  · cases h
  · rename_i hdr
    split at h
    · cases h
    · rename_i ps' hr
      split at h
      · rename_i hall
        simp only [UploadOutcome.resend.injEq] at h
        subst h
        exact ⟨upload_resent_intact u _ hr, hdr, rfl, hall⟩
      · cases h

/-! a worked upload, also under `.asFound`: a streamed upload of a client with common form data
`k=v`, a file from a seekable reader -/

def exUpload : Upload :=
  { form := [([102], [49])], clientForm := [([107], [118])],
    files := [{ param := [102, 105, 108, 101], filename := [97], src := .seekable [1, 2, 3] }], streamed := true }

example : resendParts .repaired exUpload = some (firstParts exUpload) := by decide +kernel
example : (firstParts exUpload).length = 3 := by decide +kernel

/-- as found, the same upload was re-sent with the client-level field twice and the file EMPTY -/
theorem as_found_upload_damaged :
    resendParts .asFound exUpload = some [
      { name := [102], filename := [], content := [49] },
      { name := [107], filename := [], content := [118] },
      { name := [107], filename := [], content := [118] },
      { name := [102, 105, 108, 101], filename := [97], content := [] }] ∧
    resendParts .asFound exUpload ≠ some (firstParts exUpload) := by decide +kernel

def exOneShot : Upload := { exUpload with files := [{ param := [102], filename := [97], src := .oneShot [1] }] }

example : resendParts .repaired exOneShot = none := by decide +kernel
-- buffered: every source is replayed from the buffer, nothing refused
example : resendParts .repaired { exOneShot with streamed := false } =
    some (firstParts { exOneShot with streamed := false }) := by decide +kernel

end Req.Props.C20
