import Req.Lemmas.C05Frag
import Req.Lemmas.C05ExceptEq
/-!
C05 — every writer entry point the client uses is read back: `ClientConn.writeHeaders`, the one
composite writer (a header block cut into HEADERS + CONTINUATION frames at the peer's
SETTINGS_MAX_FRAME_SIZE). Each piece is one `Framer` call, so the frames come back as those of
every written sequence do (`Req.Lemmas.C05.Seq.readAll_wire`).

The lane `h2emit` runs the real `cc.writeHeaders` on the blocks of the real `encodeHeaders` at frame
sizes 1, 2, 5, 6, around the block length and 16384, compares the bytes with `writeBlock` and reads
them back with x/net's `Framer.ReadFrame` and `ReadMetaHeaders`.
-/
namespace Req.Props.C05
open Req.Proto Req.H2.Frame Req.Lemmas.C05.Frag

/-- for EVERY non-empty header block and EVERY maximum frame size
≥ 1 (≥ 5 when the transport sends a HEADERS priority, whose 5 octets the fork counts against the
peer's limit) `writeHeaders` produces frames such that
* the fragments concatenate to the block (nothing lost, duplicated or reordered),
* only the first frame is a HEADERS frame, all others are CONTINUATION frames,
* only the last frame carries END_HEADERS,
* every frame's payload (fragment, plus the 5 priority octets on the HEADERS frame) fits the
  maximum frame size,
* no CONTINUATION frame is empty (the loop makes progress: at most `block.length` of them). -/
theorem header_block_fragmentation (prio : Priority) (maxFrame : Nat) (block : Bytes)
    (hb : block ≠ []) (hm : 1 ≤ maxFrame) (hp : prio.isZero = false → 5 ≤ maxFrame) :
    ∃ fr, fragments prio maxFrame block = .ok fr ∧
      (fr.map (·.chunk)).flatten = block ∧
      fr.map (·.isHeaders) = true :: List.replicate (fr.length - 1) false ∧
      fr.map (·.endHeaders) = List.replicate (fr.length - 1) false ++ [true] ∧
      (∀ f ∈ fr, f.chunk.length + (if f.isHeaders && !prio.isZero then 5 else 0) ≤ maxFrame) ∧
      (∀ f ∈ fr, f.isHeaders = false → f.chunk ≠ []) :=
  fragmentation prio maxFrame block hb hm hp

/-- a 10-byte block at frame size 4: HEADERS(4) CONTINUATION(4) CONTINUATION(2, END_HEADERS) … -/
example : fragments Priority.zero 4 [1, 2, 3, 4, 5, 6, 7, 8, 9, 10] =
    .ok [⟨true, false, [1, 2, 3, 4]⟩, ⟨false, false, [5, 6, 7, 8]⟩, ⟨false, true, [9, 10]⟩] := by decide
/-- … with a priority at frame size 5 the HEADERS frame has room for the priority octets only … -/
example : fragments ⟨3, false, 7⟩ 5 [1, 2, 3, 4, 5, 6] =
    .ok [⟨true, false, []⟩, ⟨false, false, [1, 2, 3, 4, 5]⟩, ⟨false, true, [6]⟩] := by decide
/-- … and a block that fits goes out as one HEADERS frame with END_HEADERS. -/
example : fragments Priority.zero 16384 [1, 2, 3] = .ok [⟨true, true, [1, 2, 3]⟩] := by decide

/-- an empty block writes nothing at all (not even an empty HEADERS frame). -/
theorem header_block_empty (sid : Nat) (es : Bool) (prio : Priority) (maxFrame : Nat) :
    writeBlock sid es prio maxFrame [] = .ok [] := by
  simp [writeBlock, fragments]

/-- with a HEADERS priority and a frame size below 5 the Go slice expression has a negative
bound (run-time panic); unreachable through SETTINGS, whose minimum is 16384. -/
theorem header_block_priority_too_small (sid : Nat) (es : Bool) (prio : Priority) (maxFrame : Nat)
    (block : Bytes) (hb : block ≠ []) (hz : prio.isZero = false) (hm : maxFrame < 5) :
    writeBlock sid es prio maxFrame block = .error .sliceBounds := by
  have : block.isEmpty = false := by cases block <;> simp_all
  simp [writeBlock, fragments, this, hz, hm]

/-- wire level: the bytes `writeHeaders` puts on the connection are returned by `ReadFrame` as
exactly the frames of `header_block_fragmentation`, in order — the HEADERS frame with END_STREAM as
requested, the priority, and END_HEADERS only on the last frame — by every reader that is outside a
header block and accepts frames of the maximum size; the reader ends outside the block again
(`readAll` continues on `rest` from the same state), and the fragments of the returned frames — what
`readMetaFrame` feeds to the HPACK decoder — concatenate to exactly the block. Frame sizes up to
2^24 − 7 (`WfHeaders` reserves room for the Pad Length and priority octets). -/
theorem header_block_reassembled (sid : Nat) (es : Bool) (prio : Priority) (maxFrame : Nat)
    (block : Bytes) (hs : ValidSid sid) (hpr : WfPriority prio) (hb : block ≠ []) (hm : 1 ≤ maxFrame)
    (hp : prio.isZero = false → 5 ≤ maxFrame) (hsz : maxFrame + 6 < two24)
    (r : Reader) (hr : Ready r maxFrame 0) (rest : Bytes) (k : Nat) :
    ∃ fr out, fragments prio maxFrame block = .ok fr ∧
      writeBlock sid es prio maxFrame block = .ok out ∧
      readAll (fr.length + k) r (out ++ rest) =
        fr.map (fun f => Except.ok (fragFrame sid es prio f)) ++ readAll k r rest ∧
      ((fr.map (fragFrame sid es prio)).map Frame.fragment).flatten = block := by
  obtain ⟨fr, out, h1, h2, h3⟩ := block_read sid es prio maxFrame block hs hpr hb hm hp hsz r hr rest k
  refine ⟨fr, out, h1, h2, h3, ?_⟩
  obtain ⟨fr', h1', hcat, _⟩ := fragmentation prio maxFrame block hb hm hp
  rw [h1] at h1'; cases h1'
  have : (fr.map (fragFrame sid es prio)).map Frame.fragment = fr.map (·.chunk) := by
    simp only [List.map_map]
    apply List.map_congr_left
    intro f _
    simp only [Function.comp, fragFrame]
    split <;> rfl
  rw [this, hcat]

example : (writeBlock 1 true Priority.zero 2 [7, 8, 9]).toOption =
    some [0, 0, 2, 1, 1, 0, 0, 0, 1, 7, 8,   0, 0, 1, 9, 4, 0, 0, 0, 1, 9] := by decide
example : readAll 3 { maxReadSize := 16384 }
    [0, 0, 2, 1, 1, 0, 0, 0, 1, 7, 8,   0, 0, 1, 9, 4, 0, 0, 0, 1, 9] =
    [.ok (.headers ⟨2, 1, 1, 1⟩ Priority.zero [7, 8]), .ok (.continuation ⟨1, 9, 4, 1⟩ [9]), .error .eof] := by
  decide

end Req.Props.C05
