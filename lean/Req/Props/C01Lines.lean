import Req.Props.C01
/-!
C01 — header fields given as SEVERAL field lines (several values of one key).

`cross_protocol` (Props/C01.lean) covers every value of every ORDINARY key and leaves `Cookie`
out, because HTTP/2 crumbles it. Here:

* `cookie_crumbs_all_lines` — HTTP/2: for EVERY key that folds to `cookie`, EVERY one of its field
  lines `v` and EVERY cookie-pair `c` of `splitCookie v`, the field `(cookie, c)` is in the header
  block — no line after the first is skipped (a variant that crumbles `values[0]` only does).
* `cookie_lines_all_h3` — HTTP/3: every line is a field of its own, verbatim.
* `multi_line_all_values` — an ordinary key: every line is in the HTTP/2 and the HTTP/3 block.
* `firstLineCrumbs`, `h2_cookie_group_exact`, `first_line_only_drops` — the first-line-only variant
  against `flatMap splitCookie`: what it leaves out (as a list identity) and a header on which it
  loses a pair.
-/
namespace Req.Props.C01Lines
open Req.Proto Req.H1 Req.H2 Req.HeaderSort Req.Ascii Req.Props.C01

/-- a key that folds to `cookie` is in no exclusion table and is not User-Agent. -/
theorem cookie_key_facts {k : Bytes} (h : equalFold k sCookieL = true) :
    isExcluded k = false ∧ equalFold k sUserAgentL = false := by
  have hl : lower k = sCookieL := equalFold_lower h (by decide)
  constructor
  · unfold isExcluded; rw [hl]; decide
  · unfold equalFold; rw [hl]; decide

/-- the header-map pass of HTTP/2 `encodeHeaders` for a cookie key: ONE group holding the crumbs of
ALL its values. -/
theorem headerGroups_cookie_h2 {h : Hdr} {kv : KV} (hkv : kv ∈ h) (hck : equalFold kv.key sCookieL = true) :
    (⟨sCookieL, kv.values.flatMap splitCookie⟩ : KV) ∈ headerGroups .h2 h := by
  obtain ⟨hex, hua⟩ := cookie_key_facts hck
  unfold headerGroups
  apply List.mem_flatMap.mpr
  refine ⟨kv, hkv, ?_⟩
  simp [hex, hua, hck]

/-- HTTP/2: every cookie-pair of EVERY field line of every key that
folds to `cookie` is a `cookie` field of the header block. -/
theorem cookie_crumbs_all_lines (q : FReq) (fs : List (Bytes × Bytes)) (hfs : fields .h2 q = .ok fs)
    (kv : KV) (hkv : kv ∈ q.header) (hck : equalFold kv.key sCookieL = true)
    (v : Bytes) (hv : v ∈ kv.values) (c : Bytes) (hc : c ∈ splitCookie v) :
    (sCookieL, c) ∈ fs := by
  have hg := headerGroups_cookie_h2 hkv hck
  have hmem : c ∈ (⟨sCookieL, kv.values.flatMap splitCookie⟩ : KV).values :=
    List.mem_flatMap.mpr ⟨v, hv, hc⟩
  have := group_on_wire .h2 q fs hfs hg hmem
  simpa [show lower sCookieL = sCookieL by decide] using this

/-- HTTP/3: every field line of a cookie key is a field of the block,
verbatim (name lower-cased). -/
theorem cookie_lines_all_h3 (q : FReq) (fs : List (Bytes × Bytes)) (hfs : fields .h3 q = .ok fs)
    (kv : KV) (hkv : kv ∈ q.header) (hck : equalFold kv.key sCookieL = true)
    (v : Bytes) (hv : v ∈ kv.values) :
    (sCookieL, v) ∈ fs := by
  obtain ⟨hex, hua⟩ := cookie_key_facts hck
  have := h3_line_on_wire q fs hfs kv hkv hex hua v hv
  rwa [equalFold_lower hck (by decide)] at this

/-- an ORDINARY key given as several field lines: every line is in the
HTTP/2 and in the HTTP/3 block (the `cross_protocol` statement, per line). -/
theorem multi_line_all_values (fl : Flavor) (q : FReq) (fs : List (Bytes × Bytes))
    (hfs : fields fl q = .ok fs) (kv : KV) (hkv : kv ∈ q.header)
    (hex : isExcluded kv.key = false) (hua : equalFold kv.key sUserAgentL = false)
    (hck : equalFold kv.key sCookieL = false) :
    ∀ v ∈ kv.values, (lower kv.key, v) ∈ fs :=
  ordinary_on_wire fl q fs hfs kv hkv hex hua hck

/-- a variant of the cookie branch that crumbles `values[0]` only: the crumbs of the FIRST line. -/
def firstLineCrumbs (vs : List Bytes) : List Bytes :=
  match vs with
  | [] => []
  | v :: _ => splitCookie v

/-- what the first-line-only variant leaves out: the crumbs of every line after the first. -/
theorem h2_cookie_group_exact (v : Bytes) (vs : List Bytes) :
    (v :: vs).flatMap splitCookie = firstLineCrumbs (v :: vs) ++ vs.flatMap splitCookie := by
  simp [firstLineCrumbs]

/-- `Cookie: a=1` / `Cookie: b=2` — the first-line-only variant emits `a=1`,
the code as it is emits both. -/
theorem first_line_only_drops :
    firstLineCrumbs [[97, 61, 49], [98, 61, 50]] = [[97, 61, 49]] ∧
    [[97, 61, 49], [98, 61, 50]].flatMap splitCookie = [[97, 61, 49], [98, 61, 50]] := by
  decide

/-- non-vacuity of `cookie_crumbs_all_lines`: two `Cookie` lines (`a=1; b=2` and `c=3`) give three
`cookie` fields in a block of 4 pseudo fields + 3 crumbs + user-agent. -/
example :
    let q : FReq := { method := [71, 69, 84],
                      url := { scheme := [104], host := [104], path := [47] },
                      header := [⟨[67, 111, 111, 107, 105, 101], [[97, 61, 49, 59, 32, 98, 61, 50], [99, 61, 51]]⟩] }
    (fields .h2 q).toOption.map (fun fs => (fs.filter fun f => f.1 == sCookieL).map (·.2))
      = some [[97, 61, 49], [98, 61, 50], [99, 61, 51]] := by decide +kernel

end Req.Props.C01Lines
