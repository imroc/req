import Req.Props.C04Alias
import Req.Lemmas.BufLineSplit
/-!
C04 — the header line reader does not depend on how the connection segments the bytes.

Setting: `Clean` scripts (every read delivers ≥ 1 byte without error; EOF after the last segment)
and the reader states `Good B` that occur over them.  `Same B s1 s2` = two such states with the
same unread bytes (buffered ++ still to come), however these are split.

* `readSlice_clean` — `ReadSlice('\n')` is the function `sliceSpec B` of the unread bytes: the
  line up to the first LF within the first `B` bytes, else `ErrBufferFull` with exactly `B` bytes,
  else everything with `io.EOF`; `readByte_clean` (`byteSpec`), `readLine_clean` (`lineSpec`) and
  `skipSpace_whole` (`owsSpec`) likewise, the last two in the form `Reads`.
* `readLine_same`, `readLineSlice_same`, `skipSpace_same`, … — every layer of the text reader maps
  `Same` states to equal results and `Same` states: by `Reads.same` where the layer has a spec for
  every `B ≥ 1`, by congruence along the loop where it has not (`B = 1`: a CR in a one-byte buffer
  is put back for ever, no whole-stream function describes that).
* `continued_line_split_independent` — for ANY two aliasing readers (explicit arrays, lines as
  views) with `Same` value parts, `readContinuedLineSlice` (guard `Buffered() > 1`) returns the same
  line by content and leaves the same unread bytes; `_fresh`: two segmentations of one byte
  string; `head_lines_split_independent`: the whole sequence of lines of a header block.
  Chain: aliasing reader = value reader (`continued_line_alias_safe`) = slow-path value reader
  (`continued_line_fastpath_irrelevant`), which touches the connection only through
  `ReadSlice`/`ReadByte`, which are functions of the bytes.
-/
namespace Req.Props.C04
open Req.Proto Req.H1 Req.H1.BufLine Req.H1.BufAlias

/-- A network script: every read delivers at least one byte and no error; after the last segment
the connection reports `io.EOF`. -/
def Clean (src : List Chunk) : Prop := ∀ c ∈ src, c.err = none ∧ c.data ≠ []

/-- Reader states that occur over clean scripts with a buffer of `B` bytes.  `room`: only `fill` stores
an error, and it is called only when the buffer has room; consuming only shrinks the buffer. -/
structure Good (B : Nat) (st : Rd) : Prop where
  clean : Clean st.src
  err : st.err = none ∨ (st.err = some (.src .eof) ∧ st.src = [])
  len : st.buf.length ≤ B
  room : st.err ≠ none → st.buf.length < B

theorem good_ofSrc (B : Nat) (src : List Chunk) (h : Clean src) : Good B (Rd.ofSrc src) :=
  ⟨h, Or.inl rfl, by simp [Rd.ofSrc], by simp [Rd.ofSrc]⟩

theorem srcRead_clean (cap : Nat) (src : List Chunk) (h : Clean src) (hcap : 0 < cap) :
    (src = [] ∧ srcRead cap src = ([], some .eof, [])) ∨
    (∃ d src', srcRead cap src = (d, none, src') ∧ d ≠ [] ∧ d.length ≤ cap ∧ Clean src' ∧
      d ++ srcBytes src' = srcBytes src) := by
  cases src with
  | nil => exact Or.inl ⟨rfl, rfl⟩
  | cons c rest =>
    right
    have hc := h c (by simp)
    have hrest : Clean rest := fun x hx => h x (List.mem_cons_of_mem _ hx)
    have hpos : 0 < c.data.length := List.length_pos_iff.mpr hc.2
    by_cases hle : c.data.length ≤ cap
    · refine ⟨c.data, rest, ?_, hc.2, hle, hrest, rfl⟩
      simp [srcRead, hle, hc.1]
    · refine ⟨c.data.take cap, { c with data := c.data.drop cap } :: rest, ?_, ?_, ?_, ?_, ?_⟩
      · simp [srcRead, hle]
      · intro h0
        have h1 : (c.data.take cap).length = min cap c.data.length := List.length_take
        rw [h0] at h1
        simp only [List.length_nil] at h1
        omega
      · simp [List.length_take]; omega
      · intro x hx
        rcases List.mem_cons.mp hx with rfl | hx
        · refine ⟨hc.1, ?_⟩
          intro h0
          have := congrArg List.length h0
          simp at this; omega
        · exact hrest x hx
      · simp [srcBytes, ← List.append_assoc]

/-- One `fill` on a good state with room: the bytes are kept, the buffer grows by at least one
byte — or the script is exhausted and `io.EOF` is pending. -/
theorem fill_good (B : Nat) (st : Rd) (hg : Good B st) (he : st.err = none) (hr : st.buf.length < B) :
    Good B (fill B st) ∧ (fill B st).bytes = st.bytes ∧
    ∃ d, (fill B st).buf = st.buf ++ d ∧
      ((d ≠ [] ∧ (fill B st).err = none) ∨
       (d = [] ∧ st.src = [] ∧ (fill B st).err = some (.src .eof) ∧ (fill B st).src = [])) := by
  refine ⟨?_, fill_bytes B st, ?_⟩
  all_goals
    unfold fill
    rw [show (100 : Nat) = 99 + 1 from rfl]
    unfold fillLoop
    rcases srcRead_clean (B - st.buf.length) st.src hg.clean (by omega) with ⟨hs, hsr⟩ | ⟨d, src', hsr, hd, hdl, hcl, _⟩
  · rw [hsr]
    exact ⟨by intro c hc; simp at hc, Or.inr ⟨rfl, rfl⟩, by simpa using hg.len, by intro _; simpa using hr⟩
  · rw [hsr]
    have hpos : d.length > 0 := List.length_pos_iff.mpr hd
    simp only [hpos, if_true]
    exact ⟨hcl, Or.inl he, by simp; omega, by intro h; exact absurd he h⟩
  · rw [hsr]
    exact ⟨[], by simp, Or.inr ⟨rfl, hs, rfl, rfl⟩⟩
  · rw [hsr]
    have hpos : d.length > 0 := List.length_pos_iff.mpr hd
    simp only [hpos, if_true]
    exact ⟨d, rfl, Or.inl ⟨hd, he⟩⟩

/-- What `ReadSlice('\n')` returns and leaves, from the unread bytes alone. -/
def sliceSpec (B : Nat) (s : Bytes) : Bytes × Option RErr × Bytes :=
  match cutNL (s.take B) with
  | some (l, _) => (l, none, s.drop l.length)
  | none =>
    if B ≤ s.length then (s.take B, some .bufferFull, s.drop B) else (s, some (.src .eof), [])

theorem readSliceLoop_clean (B f : Nat) (st : Rd) (hg : Good B st)
    (hf : (B - st.buf.length) + (if st.err.isSome then 0 else 1) + 1 ≤ f) :
    ((readSliceLoop B f st).1.line, (readSliceLoop B f st).1.err, (readSliceLoop B f st).2.bytes)
      = sliceSpec B st.bytes ∧
    Good B (readSliceLoop B f st).2 ∧
    ((readSliceLoop B f st).1.err = some .bufferFull →
      (readSliceLoop B f st).2.buf = [] ∧ (readSliceLoop B f st).2.err = none) := by
  induction f generalizing st with
  | zero => omega
  | succ f ih =>
    unfold readSliceLoop
    cases hc : cutNL st.buf with
    | some p =>
      obtain ⟨line, rest⟩ := p
      have hb := cutNL_append hc
      simp only
      refine ⟨?_, ?_, by simp⟩
      · unfold sliceSpec Rd.bytes
        rw [List.take_append, List.take_of_length_le hg.len, cutNL_prefix hc]
        simp only [← hb, List.append_assoc, List.drop_left']
      · have hl : rest.length ≤ st.buf.length := by rw [← hb]; simp
        have hlen := hg.len
        exact ⟨hg.clean, hg.err, by simp only; omega, by intro h; have := hg.room h; simp only; omega⟩
    | none =>
      simp only
      cases he : st.err with
      | some e =>
        simp only
        have hroom := hg.room (by simp [he])
        rcases hg.err with h0 | ⟨h1, h2⟩
        · simp [he] at h0
        · rw [he] at h1
          refine ⟨?_, ⟨hg.clean, Or.inl rfl, by simp, by simp⟩, by simp [h1]⟩
          unfold sliceSpec Rd.bytes
          simp only [h2, srcBytes, List.append_nil]
          rw [List.take_of_length_le (by omega), hc, if_neg (by omega)]
          simp [h1]
      | none =>
        simp only
        split
        · next hle =>
          have hlen : st.buf.length = B := by have := hg.len; omega
          refine ⟨?_, ⟨hg.clean, Or.inl rfl, by simp, by simp⟩, by simp⟩
          unfold sliceSpec Rd.bytes
          have ht : (st.buf ++ srcBytes st.src).take B = st.buf := by
            rw [List.take_append, List.take_of_length_le hg.len, hlen]; simp
          have hd : (st.buf ++ srcBytes st.src).drop B = srcBytes st.src := by
            rw [← hlen]; simp
          rw [ht, hc, if_pos (by simp; omega), hd]
          rfl
        · next hlt =>
          have hlt' : st.buf.length < B := by omega
          obtain ⟨hg1, hb1, d, hbuf, hcase⟩ := fill_good B st hg he hlt'
          have hf1 : (B - (fill B st).buf.length) + (if (fill B st).err.isSome then 0 else 1) + 1 ≤ f := by
            simp only [he, Option.isSome_none, Bool.false_eq_true, if_false] at hf
            rw [hbuf]
            rcases hcase with ⟨hd, he1⟩ | ⟨hd, _, he1, _⟩
            · have : 0 < d.length := List.length_pos_iff.mpr hd
              simp only [he1, Option.isSome_none, Bool.false_eq_true, if_false, List.length_append]
              omega
            · simp only [he1, hd, Option.isSome_some, if_true, List.length_append, List.length_nil]
              omega
          have := ih (fill B st) hg1 hf1
          rw [hb1] at this
          exact this

theorem readSlice_clean (B : Nat) (st : Rd) (hg : Good B st) :
    ((readSlice B st).1.line, (readSlice B st).1.err, (readSlice B st).2.bytes) = sliceSpec B st.bytes ∧
    Good B (readSlice B st).2 ∧
    ((readSlice B st).1.err = some .bufferFull →
      (readSlice B st).2.buf = [] ∧ (readSlice B st).2.err = none) := by
  apply readSliceLoop_clean B (B + 2) st hg
  split <;> omega

def byteSpec : Bytes → Res UInt8 × Bytes
  | [] => (.error (.src .eof), [])
  | c :: t => (.ok c, t)

/-- With a byte in the buffer or an error pending `ReadByte` answers without a `fill`: the head of
the unread bytes, in a state that can take it back (`UnreadByte`). -/
theorem readByteLoop_ready (B f : Nat) (st : Rd) (hg : Good B st) (h : st.buf = [] → st.err ≠ none) :
    ((readByteLoop B (f + 1) st).1, (readByteLoop B (f + 1) st).2.bytes) = byteSpec st.bytes ∧
    Good B (readByteLoop B (f + 1) st).2 ∧
    (∀ c, (readByteLoop B (f + 1) st).1 = .ok c →
      Good B { (readByteLoop B (f + 1) st).2 with buf := c :: (readByteLoop B (f + 1) st).2.buf }) := by
  unfold readByteLoop
  cases hb : st.buf with
  | cons c rest =>
    have hlen := hg.len
    have hroom := hg.room
    rw [hb] at hlen hroom
    simp only [List.length_cons] at hlen hroom
    refine ⟨by simp [Rd.bytes, hb, byteSpec], ⟨hg.clean, hg.err, by simp only; omega, ?_⟩, ?_⟩
    · intro h; have := hroom h; simp only; omega
    · intro c' hc'
      obtain rfl := Res.ok.inj hc'
      exact ⟨hg.clean, hg.err, hlen, hroom⟩
  | nil =>
    rcases hg.err with h0 | ⟨h1, h2⟩
    · exact absurd h0 (h hb)
    · simp only [h1]
      exact ⟨by simp [Rd.bytes, hb, h2, srcBytes, byteSpec], ⟨hg.clean, Or.inl rfl, by simp, by simp⟩, by simp⟩

theorem readByte_clean (B : Nat) (hB : 0 < B) (st : Rd) (hg : Good B st) :
    ((readByte B st).1, (readByte B st).2.bytes) = byteSpec st.bytes ∧
    Good B (readByte B st).2 ∧
    (∀ c, (readByte B st).1 = .ok c →
      Good B { (readByte B st).2 with buf := c :: (readByte B st).2.buf }) := by
  by_cases h : st.buf = [] ∧ st.err = none
  · -- one `fill` brings a byte or `io.EOF`
    obtain ⟨hg1, hb1, d, hbuf, hcase⟩ := fill_good B st hg h.2 (by rw [h.1]; exact hB)
    have := readByteLoop_ready B 0 (fill B st) hg1 (by
      rcases hcase with ⟨hd, _⟩ | ⟨_, _, he1, _⟩
      · intro h0; rw [hbuf, h.1] at h0; exact absurd h0 hd
      · simp [he1])
    unfold readByte
    rw [show (2 : Nat) = 1 + 1 from rfl]
    unfold readByteLoop
    rw [h.1, h.2]
    rwa [hb1] at this
  · exact readByteLoop_ready B 1 st hg (fun hb he => h ⟨hb, he⟩)

/-- Two reader states over clean scripts with the same unread bytes — however they are split
between the buffer and the segments still to come. -/
def Same (B : Nat) (s1 s2 : Rd) : Prop := Good B s1 ∧ Good B s2 ∧ s1.bytes = s2.bytes

/-- On `Good` states the reader operation `f` is the function `spec` of the unread bytes: what it
returns and what it leaves unread do not depend on how the bytes are split between the buffer and
the segments still to come.  Every layer of the text reader gets one theorem of this form. -/
def Reads {α : Type} (B : Nat) (f : Rd → α × Rd) (spec : Bytes → α × Bytes) : Prop :=
  ∀ st, Good B st → ((f st).1, (f st).2.bytes) = spec st.bytes ∧ Good B (f st).2

theorem Reads.same {α : Type} {B : Nat} {f : Rd → α × Rd} {spec : Bytes → α × Bytes}
    (h : Reads B f spec) {s1 s2 : Rd} (hs : Same B s1 s2) :
    (f s1).1 = (f s2).1 ∧ Same B (f s1).2 (f s2).2 := by
  obtain ⟨e1, g1⟩ := h s1 hs.1
  obtain ⟨e2, g2⟩ := h s2 hs.2.1
  rw [hs.2.2] at e1
  have e := Prod.mk.inj (e1.trans e2.symm)
  exact ⟨e.1, g1, g2, e.2⟩

/-- What `ReadLine` returns and leaves, from the unread bytes alone. -/
def lineSpec (B : Nat) (s : Bytes) : LineRes × Bytes :=
  match sliceSpec B s with
  | (l, e, rest) =>
    if e = some .bufferFull then
      if lastIs 13 l then (⟨l.dropLast, true, none⟩, 13 :: rest) else (⟨l, true, none⟩, rest)
    else if l = [] then (⟨[], false, e⟩, rest)
    else (⟨dropEOL l, false, none⟩, rest)

theorem readLine_clean (B : Nat) (hB : 0 < B) : Reads B (BufLine.readLine B) (lineSpec B) := by
  intro st hg
  obtain ⟨e, gg, hfull⟩ := readSlice_clean B st hg
  unfold BufLine.readLine lineSpec
  rw [← e]
  generalize readSlice B st = x at *
  obtain ⟨r, t⟩ := x
  simp only at gg hfull ⊢
  split
  · next hf =>
    obtain ⟨hb, hn⟩ := hfull hf
    split
    · exact ⟨by simp [Rd.bytes], gg.clean, Or.inl hn, by simp [hb]; omega, by simp [hn]⟩
    · exact ⟨rfl, gg⟩
  · split <;> exact ⟨rfl, gg⟩

theorem readLine_same (B : Nat) (hB : 0 < B) (s1 s2 : Rd) (h : Same B s1 s2) :
    (BufLine.readLine B s1).1 = (BufLine.readLine B s2).1 ∧
    Same B (BufLine.readLine B s1).2 (BufLine.readLine B s2).2 :=
  (readLine_clean B hB).same h

theorem readLineSliceLoop_same (B : Nat) (hB : 0 < B) (f : Nat) (acc d1 d2 : Bytes) (s1 s2 : Rd)
    (h : Same B s1 s2) :
    (readLineSliceLoop (plainReadLine B) none f acc d1 s1).res
      = (readLineSliceLoop (plainReadLine B) none f acc d2 s2).res ∧
    Same B (readLineSliceLoop (plainReadLine B) none f acc d1 s1).st
      (readLineSliceLoop (plainReadLine B) none f acc d2 s2).st := by
  induction f generalizing acc d1 d2 s1 s2 with
  | zero => exact ⟨rfl, h⟩
  | succ f ih =>
    obtain ⟨hr, hs⟩ := readLine_same B hB s1 s2 h
    rw [readLineSliceLoop_succ, readLineSliceLoop_succ, ← hr]
    -- the matches are reduced by `simp only` first: left to `exact`, the kernel unfolds `readLine`
    cases (BufLine.readLine B s1).1.err with
    | some e => simp only; exact ⟨trivial, hs⟩
    | none =>
      cases (BufLine.readLine B s1).1.isPrefix with
      | true => simp only [if_true]; exact ih _ _ _ _ _ hs
      | false => simp only [Bool.false_eq_true, if_false]; exact ⟨trivial, hs⟩

theorem readLineSlice_same (B : Nat) (hB : 0 < B) (s1 s2 : Rd) (h : Same B s1 s2) :
    (readLineSlice (plainReadLine B) none s1).res = (readLineSlice (plainReadLine B) none s2).res ∧
    Same B (readLineSlice (plainReadLine B) none s1).st (readLineSlice (plainReadLine B) none s2).st := by
  unfold readLineSlice
  rw [h.2.2]
  exact readLineSliceLoop_same B hB _ [] [] [] s1 s2 h

/-- `skipSpace` splits the unread bytes behind their leading blanks. -/
def owsSpec (s : Bytes) : Bytes × Bytes := (s.take (countOWS s), s.drop (countOWS s))

theorem skipSpaceLoop_whole (B : Nat) (hB : 0 < B) (f : Nat) (acc : Bytes) (st : Rd) (hg : Good B st)
    (hf : st.bytes.length + 1 ≤ f) :
    (skipSpaceLoop B f acc st).1 = acc ++ st.bytes.take (countOWS st.bytes) ∧
    (skipSpaceLoop B f acc st).2.bytes = st.bytes.drop (countOWS st.bytes) ∧
    Good B (skipSpaceLoop B f acc st).2 := by
  induction f generalizing acc st with
  | zero => omega
  | succ f ih =>
    obtain ⟨hspec, hg1, hun⟩ := readByte_clean B hB st hg
    unfold skipSpaceLoop
    cases hrb : readByte B st with
    | mk r st1 =>
      rw [hrb] at hspec hg1 hun
      simp only at hspec hg1 hun ⊢
      cases hs : st.bytes with
      | nil =>
        rw [hs] at hspec
        simp only [byteSpec, Prod.mk.injEq] at hspec
        obtain ⟨rfl, hb1⟩ := hspec
        simp only [countOWS, List.take_nil, List.append_nil, List.drop_nil]
        exact ⟨trivial, hb1, hg1⟩
      | cons c t =>
        rw [hs] at hspec hf
        simp only [byteSpec, Prod.mk.injEq] at hspec
        obtain ⟨rfl, hb1⟩ := hspec
        simp only
        have hows : isSpTab c = isOWS c := rfl
        by_cases hc : isOWS c = true
        · rw [hows, if_pos hc]
          have := ih (acc ++ [c]) st1 hg1 (by rw [hb1]; simp only [List.length_cons] at hf; omega)
          rw [hb1] at this
          simp only [countOWS, hc, if_true, List.take_succ_cons, List.drop_succ_cons]
          simpa [List.append_assoc] using this
        · rw [hows, if_neg hc]
          simp only [countOWS, hc, Bool.false_eq_true, if_false, List.take_zero, List.append_nil, List.drop_zero]
          exact ⟨trivial, by simp [Rd.bytes] at hb1 ⊢; exact hb1, hun c rfl⟩

theorem skipSpace_whole (B : Nat) (hB : 0 < B) : Reads B (skipSpace B) owsSpec := by
  intro st hg
  obtain ⟨h1, h2, h3⟩ := skipSpaceLoop_whole B hB (st.bytes.length + 1) [] st hg (Nat.le_refl _)
  exact ⟨Prod.ext h1 h2, h3⟩

theorem skipSpace_same (B : Nat) (hB : 0 < B) (s1 s2 : Rd) (h : Same B s1 s2) :
    (skipSpace B s1).1 = (skipSpace B s2).1 ∧ Same B (skipSpace B s1).2 (skipSpace B s2).2 :=
  (skipSpace_whole B hB).same h

theorem contLoopV_same (B : Nat) (hB : 0 < B) (f : Nat) (acc : Bytes) (s1 s2 : Rd) (h : Same B s1 s2) :
    (contLoopV B f acc s1).1 = (contLoopV B f acc s2).1 ∧
    Same B (contLoopV B f acc s1).2 (contLoopV B f acc s2).2 := by
  induction f generalizing acc s1 s2 with
  | zero => exact ⟨rfl, h⟩
  | succ f ih =>
    obtain ⟨hr, hs⟩ := skipSpace_same B hB s1 s2 h
    unfold contLoopV
    generalize skipSpace B s1 = x at *
    generalize skipSpace B s2 = y at *
    obtain ⟨k, t1⟩ := x
    obtain ⟨_, t2⟩ := y
    simp only at hr hs ⊢
    subst hr
    split
    · exact ⟨rfl, hs⟩
    · obtain ⟨hl, hls⟩ := readLineSlice_same B hB t1 t2 hs
      generalize readLineSlice (plainReadLine B) none t1 = x at *
      generalize readLineSlice (plainReadLine B) none t2 = y at *
      obtain ⟨res, u1, _⟩ := x
      obtain ⟨_, u2, _⟩ := y
      simp only at hl hls ⊢
      subst hl
      cases res with
      | error e => exact ⟨rfl, hls⟩
      | ok l => exact ih _ u1 u2 hls

theorem readContinuedSlow_same (B : Nat) (hB : 0 < B) (valid : Bytes → Bool) (s1 s2 : Rd)
    (h : Same B s1 s2) :
    (readContinuedSlow B valid s1).1 = (readContinuedSlow B valid s2).1 ∧
    Same B (readContinuedSlow B valid s1).2 (readContinuedSlow B valid s2).2 := by
  obtain ⟨hl, hls⟩ := readLineSlice_same B hB s1 s2 h
  unfold readContinuedSlow
  generalize readLineSlice (plainReadLine B) none s1 = x at *
  generalize readLineSlice (plainReadLine B) none s2 = y at *
  obtain ⟨res, u1, _⟩ := x
  obtain ⟨_, u2, _⟩ := y
  simp only at hl hls ⊢
  subst hl
  cases res with
  | error e => exact ⟨rfl, hls⟩
  | ok l =>
    simp only
    split
    · exact ⟨rfl, hls⟩
    · split
      · exact ⟨rfl, hls⟩
      · rw [hls.2.2]
        exact contLoopV_same B hB _ _ u1 u2 hls

/-- For every buffer size `B ≥ 1` (bufio: ≥ 16), every
first-line check and ANY two `bufio.Reader`s — explicit arrays, lines as views — whose unread bytes
(buffered + still to be delivered, in whatever segments, over clean scripts) are the same:
`readContinuedLineSlice` returns the same line, by content, and leaves the same unread bytes.
In particular the result depends on the byte stream only, not on where the network cut it, how
much was buffered when the call began, or what the array held before. -/
theorem continued_line_split_independent (B : Nat) (hB : 0 < B) (valid : Bytes → Bool) (a1 a2 : ARd)
    (h : Same B a1.rd a2.rd) :
    (areadContinued B 1 valid a1).1 = (areadContinued B 1 valid a2).1 ∧
    (areadContinued B 1 valid a1).2.rd.bytes = (areadContinued B 1 valid a2).2.rd.bytes ∧
    Same B (areadContinued B 1 valid a1).2.rd (areadContinued B 1 valid a2).2.rd := by
  obtain ⟨p1, q1⟩ := continued_line_alias_safe_slow B valid a1
  obtain ⟨p2, q2⟩ := continued_line_alias_safe_slow B valid a2
  obtain ⟨hr, hs⟩ := readContinuedSlow_same B hB valid a1.rd a2.rd h
  rw [p1, p2, q1, q2]
  exact ⟨hr, hs.2.2, hs⟩

/-- The same for fresh readers over two segmentations of one byte string. -/
theorem continued_line_split_independent_fresh (B : Nat) (hB : 0 < B) (valid : Bytes → Bool)
    (src1 src2 : List Chunk) (h1 : Clean src1) (h2 : Clean src2)
    (hb : srcBytes src1 = srcBytes src2) :
    (areadContinued B 1 valid (ARd.init B src1)).1 = (areadContinued B 1 valid (ARd.init B src2)).1 ∧
    (areadContinued B 1 valid (ARd.init B src1)).2.rd.bytes
      = (areadContinued B 1 valid (ARd.init B src2)).2.rd.bytes := by
  have h : Same B (ARd.init B src1).rd (ARd.init B src2).rd :=
    ⟨good_ofSrc B src1 h1, good_ofSrc B src2 h2, by simp [ARd.init, Rd.ofSrc, Rd.bytes, hb]⟩
  have := continued_line_split_independent B hB valid _ _ h
  exact ⟨this.1, this.2.1⟩

/-- The whole sequence of continued lines of a header block
(until the blank line / first error), as `readMIMEHeader` reads them one after the other. -/
theorem head_lines_split_independent (B : Nat) (hB : 0 < B) (valid : Bytes → Bool) (f : Nat)
    (a1 a2 : ARd) (h : Same B a1.rd a2.rd) :
    (aheadLines B 1 valid f a1).1 = (aheadLines B 1 valid f a2).1 ∧
    (aheadLines B 1 valid f a1).2.1 = (aheadLines B 1 valid f a2).2.1 ∧
    Same B (aheadLines B 1 valid f a1).2.2.rd (aheadLines B 1 valid f a2).2.2.rd := by
  induction f generalizing a1 a2 with
  | zero => exact ⟨rfl, rfl, h⟩
  | succ f ih =>
    obtain ⟨hr, _, hs⟩ := continued_line_split_independent B hB valid a1 a2 h
    unfold aheadLines
    generalize areadContinued B 1 valid a1 = x at *
    generalize areadContinued B 1 valid a2 = y at *
    obtain ⟨r, t1⟩ := x
    obtain ⟨_, t2⟩ := y
    simp only at hr hs ⊢
    subst hr
    cases r with
    | ok l =>
      simp only
      split
      · exact ⟨rfl, rfl, hs⟩
      · have := ih t1 t2 hs
        exact ⟨by rw [this.1], this.2.1, this.2.2⟩
    | err e => exact ⟨rfl, rfl, hs⟩
    | invalid => exact ⟨rfl, rfl, hs⟩

/-- "A: b\r\n c\r\nD" in one piece and cut after every byte: clean scripts, same bytes. -/
example : Clean [⟨[65, 58, 32, 98, 13, 10, 32, 99, 13, 10, 68], none⟩] ∧
    Clean ([65, 58, 32, 98, 13, 10, 32, 99, 13, 10, 68].map fun b => (⟨[b], none⟩ : Chunk)) := by
  unfold Clean; decide

set_option maxRecDepth 100000 in
example : (areadContinued 16 1 colonCheck
      (ARd.init 16 [⟨[65, 58, 32, 98, 13, 10, 32, 99, 13, 10, 68], none⟩])).1 = .ok [65, 58, 32, 98, 32, 99] ∧
    (areadContinued 16 1 colonCheck
      (ARd.init 16 ([65, 58, 32, 98, 13, 10, 32, 99, 13, 10, 68].map fun b => (⟨[b], none⟩ : Chunk)))).1
      = .ok [65, 58, 32, 98, 32, 99] := by decide +kernel

end Req.Props.C04
