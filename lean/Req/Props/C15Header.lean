import Req.Lemmas.RespHeader
import Req.Props.C15
/-!
C15 — "a charset declared in the Content-Type header is always applied" starts at the header FIELDS the peer
sent: the Content-Type the selection looks at is `res.Header.Get("Content-Type")` of the map assembled from them,
and the pre-allocated value slots of the HTTP/1.1 and HTTP/2 header readers produce exactly that map.
-/
namespace Req.Props.C15
open Req.Proto Req.Decode Req.RespHeader Req.Ascii

/-- In the assembled map every key holds exactly the values of the fields with that (canonicalised) name, in
wire order — however the fields of different names are interleaved and however often a name repeats. -/
theorem values_assemble (fields : List Field) (k : Bytes) :
    values (assemble fields) k =
      (fields.filter fun f => canonicalMIMEHeaderKey f.1 = k).map Prod.snd := by
  unfold assemble
  rw [values_foldl]
  simp [values]

/-- `Header.Get("Content-Type")` is the value of the FIRST Content-Type field. -/
theorem contentType_first_field (fields : List Field) :
    get (assemble fields) contentTypeKey =
      match fields.find? fun f => canonicalMIMEHeaderKey f.1 = contentTypeKey with
      | some f => f.2
      | none => [] := by
  unfold RespHeader.get
  rw [values_assemble]
  induction fields with
  | nil => rfl
  | cons f fs ih =>
    by_cases h : canonicalMIMEHeaderKey f.1 = contentTypeKey
    · simp [h]
    · simp only [List.filter_cons, List.find?_cons, h, decide_false]
      exact ih

/-- Two field lists with the same Content-Type fields (in
the same order) give the same Content-Type, whatever else they contain and wherever. -/
theorem contentType_ignores_other_fields (fields fields' : List Field)
    (h : (fields.filter fun f => canonicalMIMEHeaderKey f.1 = contentTypeKey) =
         (fields'.filter fun f => canonicalMIMEHeaderKey f.1 = contentTypeKey)) :
    get (assemble fields) contentTypeKey = get (assemble fields') contentTypeKey := by
  unfold RespHeader.get
  rw [values_assemble, values_assemble, h]

/-- The slot mechanism with capped capacity (`strs[:1:1]`) IS `Header.Add`, for every field list and every size
`n` of the pre-allocated array (HTTP/2: the number of regular fields; HTTP/1.1: `upcomingHeaderKeys()`, the header
lines buffered so far, which textproto_reader.go caps at 1000 — the model takes any `n`). -/
theorem slots_refine_assemble (n : Nat) (fields : List Field) :
    Slots.readOut (Slots.run true n fields) = assemble fields := by
  have hg : Slots.Good (Slots.init n) := ⟨Nat.zero_le _, fun k off len cap hm => nomatch hm⟩
  simpa [Slots.readOut, Slots.run, assemble, Slots.resolve, Slots.init] using
    (Slots.run_capped fields (Slots.init n) hg).2

private def sc : Bytes := [115, 101, 116, 45, 99, 111, 111, 107, 105, 101]          -- "set-cookie"
private def ctl : Bytes := [99, 111, 110, 116, 101, 110, 116, 45, 116, 121, 112, 101] -- "content-type"
private def gbkCT : Bytes := [116, 101, 120, 116, 47, 112, 108, 97, 105, 110, 59, 32, 99, 104, 97, 114, 115, 101, 116, 61, 103, 98, 107]
-- set-cookie: a / content-type: text/plain; charset=gbk / set-cookie: b
private def interleaved : List Field := [(sc, [97]), (ctl, gbkCT), (sc, [98])]

/-- Without the capacity cap (`strs[:1]`) the second `set-cookie` value lands
in the array element that holds the Content-Type: the caller sees Content-Type `b`. -/
theorem uncapped_slots_overwrite :
    get (Slots.readOut (Slots.run false 3 interleaved)) contentTypeKey = [98] ∧
    get (assemble interleaved) contentTypeKey = gbkCT ∧
    get (Slots.readOut (Slots.run true 3 interleaved)) contentTypeKey = gbkCT := by decide +kernel

example : values (assemble interleaved) [83, 101, 116, 45, 67, 111, 111, 107, 105, 101] = [[97], [98]] := by decide +kernel
-- fewer slots than keys (HTTP/1.1 when the header block arrives in several packets)
example : Slots.readOut (Slots.run true 1 interleaved) = assemble interleaved := by decide +kernel

variable {σ : Type}

/-- `header_charset_always_applied` from the fields on: whatever fields surround it, the charset of the first
Content-Type field is applied to the whole body. -/
theorem header_charset_applied_from_fields (fields : List Field) (f : Field)
    (hfirst : fields.find? (fun f => canonicalMIMEHeaderKey f.1 = contentTypeKey) = some f)
    (hnoae : get (assemble fields) acceptEncodingKey = [])
    (cfg : Config) (cs : Bytes) (lookup : Bytes → Option (Decoder σ))
    (find : Bytes → Option (Decoder σ)) (d : Decoder σ) (hl : d.Lawful)
    (hon : cfg.disable = false) (hsel : shouldDecode cfg f.2 = true)
    (hutf : isUtf8Label (lower cs) = false) (hlk : lookup (lower cs) = some d)
    (src : Src) (bufs : List Nat)
    (heof : (respReads cfg (get (assemble fields) acceptEncodingKey) (get (assemble fields) contentTypeKey)
      (.charset cs) lookup find src bufs).term = some .eof) :
    (respReads cfg (get (assemble fields) acceptEncodingKey) (get (assemble fields) contentTypeKey)
      (.charset cs) lookup find src bufs).out = d.decodeAll src.body := by
  have hct : get (assemble fields) contentTypeKey = f.2 := by
    rw [contentType_first_field, hfirst]
  rw [hct, hnoae] at heof ⊢
  exact header_charset_always_applied cfg f.2 cs lookup find d hl hon hsel hutf hlk src bufs heof

end Req.Props.C15
