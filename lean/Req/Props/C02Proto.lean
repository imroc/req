import Req.Props.C02
import Req.Props.C02Msg
import Req.Lemmas.C02Proto
import Req.Lemmas.C02H3Head
/-!
C02 — **whole-message round trips over HTTP/2 and HTTP/3, and the three protocols side by
side.**

One protocol-independent origin message `M : AMsg` (status, ordinary fields, body, trailer
fields).

* HTTP/2: the origin sends 0..5 interim HEADERS, the final HEADERS (`:status`, optionally
  `content-length`, the fields), the body as DATA frames in ANY split (padded or not, empty
  frames allowed), END_STREAM on the last DATA frame or on a trailer HEADERS frame. The read
  loop delivers these frames to `H2Stream` in ANY interleaving with the caller's reads.
* HTTP/3: the origin writes on the request stream 0..5 interim HEADERS frames, the final
  HEADERS frame, DATA frames in any split, optionally a trailer HEADERS frame, with unknown /
  GREASE frames interleaved anywhere and any valid varint encodings, then FIN. The QUIC stream
  delivers these bytes in ANY segmentation; the caller reads with any sizes.
* HTTP/1.1: `Req.Props.C02Msg`.

In all three the caller gets exactly `M`: the status, every field under its canonical name
with its value in the origin's order, the body bytes, the trailer fields.
-/
namespace Req.Props.C02
open Req.Proto Req.Ascii Req.C02

/-- The frame carrying END_STREAM: the last DATA frame, or the trailer HEADERS frame. -/
def h2Last (M : AMsg) : Option (Bytes × Bool) → H2Ev
  | some (p, pad) => .data p pad true
  | none => .headers M.trailers true

/-- `datas`: the DATA frames without END_STREAM, each with "padded?"; `lastData`: the DATA frame that
carries END_STREAM, if the message ends on one (`none`: it ends on the trailer HEADERS). -/
def h2MsgOf (M : AMsg) (declare : Option Bytes) (interims : List Fields) (datas : List (Bytes × Bool))
    (lastData : Option (Bytes × Bool)) : H2Msg :=
  { interims := interims, head := M.h2Head declare, datas := datas, last := h2Last M lastData }

def lastDataBytes : Option (Bytes × Bool) → Bytes
  | some (p, _) => p
  | none => []

theorem h2MsgOf_conformant (M : AMsg) (hM : M.OK) (declare : Option Bytes)
    (hdecl : ∀ cb, declare = some cb → natOfDigits cb = some M.body.length)
    (interims : List Fields) (hint : ∀ fs ∈ interims, InterimOK fs) (hn : interims.length ≤ 5)
    (datas : List (Bytes × Bool)) (lastData : Option (Bytes × Bool))
    (hsplit : (datas.map (·.1)).flatten ++ lastDataBytes lastData = M.body) :
    (h2MsgOf M declare interims datas lastData).body = M.body ∧
    (h2MsgOf M declare interims datas lastData).Conformant M.code (declare.map fun _ => M.body.length) := by
  have hbody : (h2MsgOf M declare interims datas lastData).body = M.body := by
    rw [← hsplit]
    cases lastData with
    | none => simp [H2Msg.body, h2MsgOf, h2Last, lastPayload, lastDataBytes]
    | some p => rcases p with ⟨p, pad⟩; simp [H2Msg.body, h2MsgOf, h2Last, lastPayload, lastDataBytes]
  obtain ⟨hstatus, _hfields, _hdeclared, hlengths⟩ := h2Head_spec M hM declare
  refine ⟨hbody, ⟨hint, hn, ⟨M.sv, hstatus, hM.svNe, hM.svCode, hM.final⟩, ?_, ?_⟩⟩
  · cases declare with
    | none => exact Or.inl ⟨hlengths, rfl⟩
    | some cb =>
      refine Or.inr ⟨cb, hlengths, ?_, ?_⟩
      · rw [hbody]; exact hdecl cb rfl
      · rw [hbody]; rfl
  · cases lastData with
    | none => exact Or.inr ⟨M.trailers, rfl, hM.trailersOK⟩
    | some p => rcases p with ⟨p, pad⟩; exact Or.inl ⟨p, pad, rfl⟩

/-- For EVERY origin message, every choice of announcing the length,
0..5 interim responses, EVERY split of the body into DATA frames (padded or not, empty ones
included), END_STREAM on a last DATA frame (then there are no trailers) or on the trailer
HEADERS — and EVERY interleaving `ops` of the read loop delivering a prefix of these frames
with the caller calling `Read` with any sizes at any moments:

* what the caller has read is a prefix of the origin's body; no read reports anything but data
  or `io.EOF`;
* a read that reports `io.EOF` means the caller got EXACTLY the body and `Response.Trailer`
  holds exactly the origin's trailer fields (canonical names, wire order);
* once the final HEADERS has been delivered the response carries the origin's status and
  exactly the origin's fields (canonical names, wire order; preceded by `Content-Length` if the
  origin announced it);
* after all frames have arrived, enough non-empty reads do reach `io.EOF`. -/
theorem h2_message_roundtrip (M : AMsg) (hM : M.OK) (declare : Option Bytes)
    (hdecl : ∀ cb, declare = some cb → natOfDigits cb = some M.body.length)
    (interims : List Fields) (hint : ∀ fs ∈ interims, InterimOK fs) (hn : interims.length ≤ 5)
    (datas : List (Bytes × Bool)) (lastData : Option (Bytes × Bool))
    (hsplit : (datas.map (·.1)).flatten ++ lastDataBytes lastData = M.body)
    (htr : lastData.isSome = true → M.trailers = []) :
    let m := h2MsgOf M declare interims datas lastData
    (∀ (ops : List H2Op) (rest : List H2Ev), m.events = evsOf ops ++ rest →
      let run := (H2Stream.init false).runOps ops
      (∃ t, M.body = readsOut run.1 ++ t) ∧ (∀ o ∈ run.1, ObsOK o) ∧
      (SawEOF run.1 → readsOut run.1 = M.body ∧ run.2.resTrailer = M.trailer) ∧
      (rest.length ≤ datas.length + 1 →
        ∃ res, run.2.res = some res ∧ res.status = M.code ∧
          res.fields = clEntry declare ++ M.header)) ∧
    (∀ (ops : List H2Op) (ks : List Nat), m.events = evsOf ops → (∀ k ∈ ks, 0 < k) → M.body.length < ks.length →
      let run := (H2Stream.init false).runOps (ops ++ ks.map H2Op.read)
      SawEOF run.1 ∧ readsOut run.1 = M.body ∧ run.2.resTrailer = M.trailer) := by
  intro m
  obtain ⟨hbody, hconf⟩ := h2MsgOf_conformant M hM declare hdecl interims hint hn datas lastData hsplit
  have htrail : lastTrailers m.last = M.trailer := by
    cases lastData with
    | none => rfl
    | some p => exact (congrArg (List.map canonKV) (htr rfl)).symm
  obtain ⟨_, hfields, _, _⟩ := h2Head_spec M hM declare
  have hfields : h2Fields m.head = clEntry declare ++ M.header := hfields
  refine ⟨?_, ?_⟩
  · intro ops rest hev
    have h := stream_body_exact_h2 m M.code _ hconf ops rest hev
    simp only at h
    rw [hbody, htrail, hfields] at h
    exact h
  · intro ops ks hev hpos hlen
    have h := stream_body_complete_h2 m M.code _ hconf ops hev ks hpos (by rw [hbody]; exact hlen)
    simp only at h
    rw [hbody, htrail] at h
    exact h

/-- HEADERS only: an origin message with an empty body and no
trailers sent as 0..5 interim HEADERS and the final HEADERS frame carrying END_STREAM (no DATA
frame at all): the response has the origin's status and fields, `ContentLength` 0, and the body
is `http.NoBody` — every read returns `io.EOF` at once; nothing is reported as an error. -/
theorem h2_message_roundtrip_empty (M : AMsg) (hM : M.OK)
    (interims : List Fields) (hint : ∀ fs ∈ interims, InterimOK fs) (hn : interims.length ≤ 5) :
    let s := ((interims.map fun fs => H2Ev.headers fs false) ++ [H2Ev.headers (M.h2Head none) true]).foldl
      H2Stream.event (H2Stream.init false)
    s.res = some { status := M.code, fields := M.header, declaredTrailers := [], contentLength := some 0,
                   body := .noBody } ∧
    s.headErr = none ∧ H2BodyKind.noBody.readFixed = some .eof := by
  intro s
  have hskip : ∀ (ints : List Fields) (j : Nat), j + ints.length ≤ 5 → (∀ fs ∈ ints, InterimOK fs) →
      (ints.map fun fs => H2Ev.headers fs false).foldl H2Stream.event (st0 j) = st0 (j + ints.length) := by
    intro ints
    induction ints with
    | nil => intro j _ _; rfl
    | cons fs ints ih =>
      intro j hj hok
      rw [List.length_cons] at hj
      rw [List.map_cons, List.foldl_cons, st0_interim j fs (by omega) (hok fs List.mem_cons_self),
        ih (j + 1) (by omega) fun g hg => hok g (List.mem_cons_of_mem _ hg), Nat.add_right_comm]
      rfl
  have hs : s = (st0 interims.length).event (.headers (M.h2Head none) true) := by
    simp only [s, List.foldl_append, show H2Stream.init false = st0 0 from rfl, hskip interims 0 (by omega) hint,
      List.foldl_cons, List.foldl_nil, Nat.zero_add]
  obtain ⟨hstatus, hfields, hdeclared, hlengths⟩ := h2Head_spec M hM none
  have hemp : M.sv.isEmpty = false := List.isEmpty_eq_false_iff.mpr hM.svNe
  have h : s.res = some ⟨M.code, M.header, [], some 0, .noBody⟩ ∧ s.headErr = none := by
    rw [hs]
    simp [st0, H2Stream.event, H2Stream.processHeaders, H2Stream.init, H2Stream.handleResponse, hstatus, hemp,
      hM.svCode, hM.final, hfields, hdeclared, hlengths, clEntry, Option.toList, H2Stream.endStream, Pipe.closeWithError, Pipe.empty]
  exact ⟨h.1, h.2, rfl⟩

/-- `parseHeaders` + `updateResponseFromHeaders` on the origin's final HEADERS (the same field
list as over HTTP/2). -/
theorem h3Head_spec (M : AMsg) (hM : M.OK) (declare : Option Bytes)
    (hdecl : ∀ cb, declare = some cb → natOfDigits cb = some M.body.length ∧ validFieldValue cb = true) :
    h3ParseHead (M.h2Head declare) =
      some { status := M.code, fields := M.header, contentLength := declare.map (fun _ => M.body.length),
             trailerKeys := [] } :=
  h3_head_plain_cl M.fields hM.plain M.sv M.code hM.svNe hM.svCode hM.svValid declare M.body.length hdecl

/-- The request stream right after the request was sent: nothing read yet, the QPACK-decoded
field lists of the HEADERS frames that will arrive as side input. -/
def h3Stream0 (segs : List Bytes) (lists : List Fields) (maxH : Nat) : H3Stream :=
  { net := ⟨segs, .eof⟩, remInFrame := 0, parsedTrailer := false, trailer := none,
    fieldLists := lists, maxHeaderBytes := maxH }

/-- For EVERY origin message, every choice of announcing the length,
0..5 interim HEADERS frames, the final HEADERS frame, the body as DATA frames in ANY split
(empty ones included), optionally the trailer HEADERS frame — unknown / GREASE frames
interleaved anywhere, every frame header in any valid varint encoding — then FIN: for EVERY
segmentation `segs` of that byte stream into QUIC stream reads and EVERY sequence `ks` of
caller read sizes, `doRequest` returns the origin's status and exactly the origin's fields
(canonical names, wire order), and the body reads

* hand out a prefix of the origin's body;
* end, if they end, with `io.EOF`, and then the caller got EXACTLY the body and
  `Response.Trailer` holds exactly the origin's trailer fields;
* do end with positive read sizes and more reads than bytes on the stream.

(`readFinalResponse 7 0`: no interim response counted yet, and fuel for more than the six heads the
loop of `doRequest` can read, five interim and the final one.) -/
theorem h3_message_roundtrip (M : AMsg) (hM : M.OK) (declare : Option Bytes)
    (hdecl : ∀ cb, declare = some cb → natOfDigits cb = some M.body.length ∧ validFieldValue cb = true)
    (maxH : Nat) (is : List WHead) (his : ∀ i ∈ is, i.OK maxH ∧ i.Interim) (hn : is.length ≤ 5)
    (w : WHead) (hw : w.OK maxH) (hwf : w.fields = M.h2Head declare)
    (frs : List WFrame) (hfrs : ∀ f ∈ frs, BodyFrameOK f) (hdata : h3DataOf frs = M.body)
    (tr : Option WTrailer) (htr : ∀ t, tr = some t → t.OK maxH ∧ t.fields = M.trailers)
    (htn : tr = none → M.trailers = [])
    (segs : List Bytes)
    (hsegs : segs.flatten = headsWire is ++ (w.wire ++ (framesWire frs ++ trailerWire tr)))
    (ks : List Nat) :
    ∃ h s1, (h3Stream0 segs (is.map (·.fields) ++ (w.fields :: trailerLists tr)) maxH).readFinalResponse 7 0 =
        (.ok h, s1) ∧
      h.status = M.code ∧ h.fields = M.header ∧
      (let run := runReads H3Body.read (H3Body.new false h s1) ks
       (∃ u, M.body = outBytes run.1 ++ u) ∧
       (∀ e, lastErr run.1 = some e →
         e = .eof ∧ outBytes run.1 = M.body ∧ (tr.isSome = true → run.2.str.trailer = some M.trailer)) ∧
       ((∀ k ∈ ks, 0 < k) → (framesWire frs ++ trailerWire tr).length < ks.length →
         ∃ e, lastErr run.1 = some e)) := by
  have hparsed : w.parsed = (⟨M.code, M.header, declare.map (fun _ => M.body.length), []⟩ : H3Head) := by
    have ⟨_skips, _frame, _typ, _len, hparse⟩ := hw
    rw [hwf, h3Head_spec M hM declare hdecl] at hparse
    exact (Option.some.inj hparse).symm
  have hfinal : ¬ w.Interim := by
    unfold WHead.Interim
    rw [hparsed]
    intro h
    exact hM.final ⟨h.1, h.2.1⟩
  obtain ⟨s1, hrf, hs1⟩ :=
    readFinalResponse_spec is maxH his w hw hfinal 7 0 (by omega) (by omega)
      (h3Stream0 segs (is.map (·.fields) ++ (w.fields :: trailerLists tr)) maxH) frs hfrs tr
      (by simpa [h3Stream0] using hsegs) rfl rfl rfl rfl rfl
  refine ⟨w.parsed, s1, hrf, by rw [hparsed], by rw [hparsed], ?_⟩
  -- the body reader starts at the frames
  have htrOK : ∀ t, tr = some t → t.OK maxH := fun t ht => (htr t ht).1
  have hpos := H3Body.new_pos hs1 false w.parsed (by rw [hparsed, hdata]; cases declare <;> simp)
  obtain ⟨hpre, hend, hterm⟩ := (h3_exact tr maxH htrOK).run hpos ks
  rw [hdata] at hpre hend
  refine ⟨hpre, fun e he => ?_, fun hp hlen => hterm hp ?_⟩
  · obtain ⟨rfl, hout, h2⟩ := hend e he
    refine ⟨rfl, hout, ?_⟩
    intro hsome
    cases htrc : tr with
    | none => rw [htrc] at hsome; cases hsome
    | some t =>
      rw [h2 t htrc]
      obtain ⟨⟨_, _, _, hp⟩, hf⟩ := htr t htrc
      rw [hf] at hp
      have : h3ParseTrailers M.trailers = some M.trailer := by
        unfold h3ParseTrailers
        have : M.trailers.any (fun kv => isPseudo kv.1) = false := by
          rw [List.any_eq_false]
          intro kv hkv
          simp [hM.trailersOK kv hkv]
        simp [this, AMsg.trailer, canonKV]
      rw [this] at hp
      exact congrArg some (Option.some.inj hp).symm
  · rw [H3Body.new_str, hs1.fl]
    exact hlen

end Req.Props.C02

namespace Req.Props.C02
-- from here on `Req.H1` is open as well: the HTTP/1.1 leg of the comparison is read by C04's reader
open Req.Proto Req.Ascii Req.C02 Req.H1

-- "pragma", as HTTP/2 and HTTP/3 carry the name (`kPragma` is the canonical `Pragma`)
def kPragmaLower : Bytes := [112, 114, 97, 103, 109, 97]

/-- What the abstract message needs to be writable as an HTTP/1.1 head as well: a three-digit
status, values without leading / trailing optional white space (HTTP/1.1 strips it), token
names for the trailer fields too, and no `pragma` field (over HTTP/1.1 net/http's
`fixPragmaCacheControl` turns `Pragma: no-cache` into an additional `Cache-Control`). -/
structure H1Able (M : AMsg) (d1 d2 d3 : UInt8) : Prop where
  sv : M.sv = [d1, d2, d3]
  digits : isDigit d1 = true ∧ isDigit d2 = true ∧ isDigit d3 = true
  values : ∀ kv ∈ M.fields ++ M.trailers, ValueOK kv.2
  trailersPlain : ∀ kv ∈ M.trailers, PlainField kv
  noPragma : ∀ kv ∈ M.fields, kv.1 ≠ kPragmaLower

theorem natOfDigits_three (d1 d2 d3 : UInt8) (h1 : isDigit d1 = true) (h2 : isDigit d2 = true)
    (h3 : isDigit d3 = true) : natOfDigits [d1, d2, d3] = some (codeOf d1 d2 d3) := by
  simp [natOfDigits, List.foldlM, h1, h2, h3, codeOf]

/-- The ordinary fields of an abstract message carry none of the keys HTTP/1.1 framing uses. -/
theorem header_no_special (M : AMsg) (hM : M.OK) (hp : ∀ kv ∈ M.fields, kv.1 ≠ kPragmaLower) (k : Bytes)
    (hk : k = kPragma ∨ k = kConnection ∨ k = kTransferEncoding ∨ k = Req.H1.kContentLength ∨ k = Req.H1.kTrailer) :
    valuesOf k M.header = [] := by
  refine congrArg (List.map (·.2)) (filter_key_ne (canon_key_ne fun kv h0 heq => ?_)).2
  obtain ⟨p1, _, _, p4, _, p6, p7, _⟩ := hM.plain kv h0
  have hlow := canonical_eq_lower kv.1 k p1 heq
  rcases hk with rfl | rfl | rfl | rfl | rfl
  · exact hp kv h0 (by rw [hlow]; decide)
  · exact absurd (hlow ▸ p4) (by decide)
  · exact absurd (hlow ▸ p4) (by decide)
  · exact absurd (hlow ▸ p6) (by decide)
  · exact absurd (heq ▸ p7) (by decide)

/-- The HTTP/1.1 head the origin writes for `M` with chunked coding: the framing field, then
the fields as `name ": " value`. -/
def h1ChunkedHead (M : AMsg) (d1 d2 d3 : UInt8) (reason : Bytes) : OHead :=
  ⟨d1, d2, d3, reason, ⟨kTransferEncoding, [32], vChunked, []⟩ :: M.fields.map toWField⟩

theorem h1ChunkedHead_fields (M : AMsg) (d1 d2 d3 : UInt8) (reason : Bytes) :
    fieldsOf (h1ChunkedHead M d1 d2 d3 reason).fs = (kTransferEncoding, vChunked) :: M.header := by
  have : canonicalMIMEHeaderKey kTransferEncoding = kTransferEncoding := by decide
  simp [h1ChunkedHead, fieldsOf, this, AMsg.header, toWField, canonKV, List.map_map, Function.comp_def]

/-- ONE origin message `M`, sent three ways — over HTTP/1.1 with
chunked coding (any chunk split, any chunk-size spelling, the trailer section), over HTTP/2
(any DATA split, trailer HEADERS or END_STREAM on the last DATA), over HTTP/3 (any frame split,
interleaved GREASE frames, trailer HEADERS) — and received through the three reader models
under every segmentation / interleaving / read-size sequence. Each view shows `M`:

* status: `M.code` in all three;
* header: under every ordinary key exactly `valuesOf k M.header` (HTTP/1.1 as lookups in Go's
  header map, HTTP/2 and HTTP/3 as the field list `M.header` itself);
* body: a complete read yields exactly `M.body` in all three;
* trailers: `M.trailer` over HTTP/2; over HTTP/1.1 `M.trailer` if there are trailer fields and no
  trailer (`none`) otherwise; over HTTP/3 `M.trailer` when a trailer HEADERS frame was sent (without
  one the conjunct says nothing).

The legs are the plain ones: over HTTP/1.1 no interim heads, no `Connection: close`, no `Trailer`
announcement; over HTTP/2 and HTTP/3 no interim HEADERS and no `content-length`. -/
theorem cross_protocol_message (M : AMsg) (hM : M.OK) (d1 d2 d3 : UInt8) (hA : H1Able M d1 d2 d3) :
    -- HTTP/1.1
    (∀ (reason : Bytes), (10 : UInt8) ∉ reason → Req.H1.bodyAllowedForStatus M.code = true →
      ∀ (cap : Nat), 2 ≤ cap → ∀ (cs : List WChunk), (∀ c ∈ cs, c.OK cap) → dataOf cs = M.body →
      ∀ (last : Bytes), LastOK cap last → (blockWire (M.trailers.map toWField)).length ≤ cap → ∀ (rest : Bytes),
      let after := wireFrom cs last (trailerSection (M.trailers.map toWField) ++ rest)
      ∃ msg, Req.H1.parseFinalHead 6 false ((h1ChunkedHead M d1 d2 d3 reason).wire ++ after) = some (msg, after) ∧
        msg.sl.code = M.code ∧
        (∀ k, OrdinaryKey k → msg.header.get k =
          if valuesOf k M.header = [] then none else some (valuesOf k M.header)) ∧
        ∀ br : Bufio, br.rem = after → br.WF → br.Fits → br.cap = cap →
          BodyExact (H1Body.new .chunked br) M.body (if M.trailers = [] then none else some M.trailer) rest) ∧
    -- HTTP/2
    (∀ (datas : List (Bytes × Bool)) (lastData : Option (Bytes × Bool)),
      (datas.map (·.1)).flatten ++ lastDataBytes lastData = M.body → (lastData.isSome = true → M.trailers = []) →
      ∀ (ops : List H2Op) (ks : List Nat), (h2MsgOf M none [] datas lastData).events = evsOf ops →
        (∀ k ∈ ks, 0 < k) → M.body.length < ks.length →
        let run := (H2Stream.init false).runOps (ops ++ ks.map H2Op.read)
        (∃ res, run.2.res = some res ∧ res.status = M.code ∧ res.fields = M.header) ∧
        SawEOF run.1 ∧ readsOut run.1 = M.body ∧ run.2.resTrailer = M.trailer) ∧
    -- HTTP/3
    (∀ (maxH : Nat) (w : WHead), w.OK maxH → w.fields = M.h2Head none →
      ∀ (frs : List WFrame), (∀ f ∈ frs, BodyFrameOK f) → h3DataOf frs = M.body →
      ∀ (tr : Option WTrailer), (∀ t, tr = some t → t.OK maxH ∧ t.fields = M.trailers) → (tr = none → M.trailers = []) →
      ∀ (segs : List Bytes), segs.flatten = w.wire ++ (framesWire frs ++ trailerWire tr) →
      ∀ (ks : List Nat), (∀ k ∈ ks, 0 < k) → (framesWire frs ++ trailerWire tr).length < ks.length →
      ∃ h s1, (h3Stream0 segs (w.fields :: trailerLists tr) maxH).readFinalResponse 7 0 = (.ok h, s1) ∧
        h.status = M.code ∧ h.fields = M.header ∧
        (let run := runReads H3Body.read (H3Body.new false h s1) ks
         lastErr run.1 = some .eof ∧ outBytes run.1 = M.body ∧
         (tr.isSome = true → run.2.str.trailer = some M.trailer))) := by
  obtain ⟨hsv, ⟨hd1, hd2, hd3⟩, hvals, htp, hnp⟩ := hA
  have hcode : M.code = codeOf d1 d2 d3 := by
    have := hM.svCode
    rw [hsv, natOfDigits_three d1 d2 d3 hd1 hd2 hd3] at this
    exact (Option.some.inj this).symm
  refine ⟨?_, ?_, ?_⟩
  · -- HTTP/1.1
    intro reason hreason hba cap hcap cs hcs hdata last hl hfit rest after
    let o := h1ChunkedHead M d1 d2 d3 reason
    have hfs : ∀ f ∈ o.fs, f.OK :=
      List.forall_mem_cons.mpr ⟨wfield_ok_of_bool _ (by decide), toWField_ok fun kv hkv =>
        ⟨hM.plain kv hkv, hvals kv (List.mem_append_left _ hkv)⟩⟩
    have ho : o.OK := ⟨hd1, hd2, hd3, hreason, hfs⟩
    have hocode : o.code = M.code := by rw [hcode]; rfl
    have hfo : fieldsOf o.fs = _ := h1ChunkedHead_fields M d1 d2 d3 reason
    have hno := header_no_special M hM hnp
    have hsp : ∀ k, kTransferEncoding ≠ k → _ → valuesOf k (fieldsOf o.fs) = [] := fun k hne hk => by
      rw [hfo, valuesOf_cons_ne _ _ _ hne]
      exact hno k hk
    have hF : OriginFraming o false true vChunked none none := by
      refine ⟨hsp _ (by decide) (.inl rfl), hsp _ (by decide) (.inr (.inl rfl)), ?_, by decide,
        hsp _ (by decide) (.inr (.inr (.inr (.inl rfl)))), nofun, hsp _ (by decide) (.inr (.inr (.inr (.inr rfl))))⟩
      rw [hfo]
      exact (valuesOf_cons_self (kTransferEncoding, vChunked) M.header).trans
        (congrArg _ (hno _ (.inr (.inr (.inl rfl)))))
    have hts : ∀ f ∈ M.trailers.map toWField, f.OK := toWField_ok fun kv hkv =>
      ⟨htp kv hkv, hvals kv (List.mem_append_right _ hkv)⟩
    have hfc : FinalCode o.code := fun h => hM.final (hocode ▸ ⟨h.1, h.2.1⟩)
    -- no interim heads, no `Connection: close`, no `Trailer` announcement
    obtain ⟨msg, h1, h2, h3, _hdecl, _hframing, h6⟩ :=
      h1_response_roundtrip_chunked (is := []) (his := by simp) (hn := by simp) (o := o) (ho := ho) (hfc := hfc)
        (hba := by rw [hocode]; exact hba) (cc := false) (te := vChunked) (tr := none) (hF := hF)
        (hkeys := by simp) (cap := cap) (hcap := hcap) (cs := cs) (hcs := hcs) (last := last) (hl := hl)
        (trailers := M.trailers.map toWField) (hts := hts) (hfit := hfit) (rest := rest)
    have htg : trailerGot (M.trailers.map toWField) = if M.trailers = [] then none else some M.trailer := by
      unfold trailerGot
      by_cases hte : M.trailers = []
      · simp [hte]
      · have : M.trailers.map toWField ≠ [] := by simpa using hte
        simp only [this, hte, if_false]
        rw [fieldsOf_toWField]
        rfl
    refine ⟨msg, h1, by rw [h2, hocode], fun k hk => ?_, fun br a b c d => htg ▸ hdata ▸ h6 br a b c d⟩
    rw [h3 k hk, hfo, valuesOf_cons_ne _ _ _ (fun h => hk.2.1 h.symm)]
  · -- HTTP/2
    intro datas lastData hsplit htr ops ks hev hpos hlen
    obtain ⟨hA1, hA2⟩ := h2_message_roundtrip M hM none (by simp) [] (by simp) (by simp) datas lastData hsplit htr
    have hc := hA2 ops ks hev hpos hlen
    have hhead := hA1 (ops ++ ks.map H2Op.read) [] (by rw [evsOf_append, evsOf_reads]; simpa using hev)
    simp only at hc hhead ⊢
    obtain ⟨res, hr1, hr2, hr3⟩ := hhead.2.2.2 (by simp)
    exact ⟨⟨res, hr1, hr2, by simpa [clEntry] using hr3⟩, hc⟩
  · -- HTTP/3
    intro maxH w hw hwf frs hfrs hdata tr htr htn segs hsegs ks hpos hlen
    obtain ⟨h, s1, g1, g2, g3, g4⟩ :=
      h3_message_roundtrip M hM none (by simp) maxH [] (by simp) (by simp) w hw hwf frs hfrs hdata tr htr htn segs
        (by simpa [headsWire] using hsegs) ks
    refine ⟨h, s1, by simpa using g1, g2, g3, ?_⟩
    simp only at g4 ⊢
    obtain ⟨e, he⟩ := g4.2.2 hpos hlen
    obtain ⟨rfl, ho, ht⟩ := g4.2.1 e he
    exact ⟨he, ho, ht⟩

/-! ## Non-vacuity

`M`: status 200, fields `x-a: b`, `x-a: c`, body `hello`, trailer `x-t: v`. -/

def exM : AMsg :=
  { code := 200, sv := [50, 48, 48], fields := [([120, 45, 97], [98]), ([120, 45, 97], [99])],
    body := [104, 101, 108, 108, 111], trailers := [([120, 45, 116], [118])] }

theorem exM_ok : exM.OK := by
  refine ⟨by decide, by decide, by decide, by decide, ?_, ?_⟩
  · intro kv hkv
    simp only [exM, List.mem_cons, List.mem_nil_iff, or_false] at hkv
    rcases hkv with rfl | rfl <;> (unfold PlainField; decide)
  · intro kv hkv
    simp only [exM, List.mem_cons, List.mem_nil_iff, or_false] at hkv
    subst hkv
    decide

theorem exM_h1able : H1Able exM 50 48 48 := by
  refine ⟨rfl, by decide, ?_, ?_, ?_⟩
  · intro kv hkv
    simp only [exM, List.cons_append, List.nil_append, List.mem_cons, List.mem_nil_iff, or_false] at hkv
    rcases hkv with rfl | rfl | rfl <;> exact valueOK_of_bool _ (by decide)
  · intro kv hkv
    simp only [exM, List.mem_cons, List.mem_nil_iff, or_false] at hkv
    subst hkv
    unfold PlainField; decide
  · intro kv hkv
    simp only [exM, List.mem_cons, List.mem_nil_iff, or_false] at hkv
    rcases hkv with rfl | rfl <;> decide

/-! HTTP/2: one interim 103, HEADERS, DATA `he` (padded), an empty DATA, DATA `llo`, trailer
HEADERS with END_STREAM; reads interleaved with the frames, then drained. -/
example :
    let i103 : Fields := [([58, 115, 116, 97, 116, 117, 115], [49, 48, 51])]
    let datas : List (Bytes × Bool) := [([104, 101], true), ([], false), ([108, 108, 111], false)]
    let ops : List H2Op :=
      [.read 3, .ev (.headers i103 false), .ev (.headers (exM.h2Head none) false), .ev (.data [104, 101] true false),
       .read 1, .ev (.data [] false false), .ev (.data [108, 108, 111] false false), .read 9,
       .ev (.headers exM.trailers true)]
    let run := (H2Stream.init false).runOps (ops ++ [9, 9, 9, 9, 9, 9].map H2Op.read)
    SawEOF run.1 ∧ readsOut run.1 = exM.body ∧ run.2.resTrailer = exM.trailer := by
  intro i103 datas ops
  have hint : ∀ fs ∈ [i103], InterimOK fs := by
    intro fs hfs
    simp only [List.mem_singleton] at hfs
    subst hfs
    exact ⟨[49, 48, 51], 103, by decide, by decide, by decide, by decide, by decide⟩
  exact (h2_message_roundtrip exM exM_ok none (by simp) [i103] hint (by simp) datas none (by decide) (by simp)).2
    ops [9, 9, 9, 9, 9, 9] (by decide) (by decide) (by decide)

/-! HTTP/3: GREASE frame (type 0x21), HEADERS frame (3 opaque payload bytes), DATA `he`, an
empty DATA, GREASE, DATA `llo`, trailer HEADERS frame (2 opaque bytes), FIN — the stream cut
into pieces that split frame headers and payloads. -/
example :
    let grease : WFrame := ⟨[33, 1], 33, [9]⟩
    let w : WHead := ⟨[grease], ⟨[1, 3], 1, [7, 7, 7]⟩, exM.h2Head none, ⟨200, exM.header, none, []⟩⟩
    let frs : List WFrame := [⟨[0, 2], 0, [104, 101]⟩, ⟨[0, 0], 0, []⟩, grease, ⟨[0, 3], 0, [108, 108, 111]⟩]
    let tr : WTrailer := ⟨⟨[1, 2], 1, [8, 8]⟩, exM.trailers, exM.trailer⟩
    let segs : List Bytes := [[33], [1, 9, 1], [3, 7, 7], [7, 0, 2, 104], [101, 0], [0, 33, 1, 9, 0, 3, 108], [108, 111, 1, 2, 8], [8]]
    ∃ h s1, (h3Stream0 segs (w.fields :: trailerLists (some tr)) 1000).readFinalResponse 7 0 = (.ok h, s1) ∧
      h.status = 200 ∧ h.fields = exM.header ∧
      (let run := runReads H3Body.read (H3Body.new false h s1) (List.replicate 20 4)
       lastErr run.1 = some .eof ∧ outBytes run.1 = exM.body ∧ run.2.str.trailer = some exM.trailer) := by
  intro grease w frs tr segs
  have hg : grease.OK ∧ skippable grease.typ :=
    ⟨fun R => by simp [grease, decHdr, decVarint, decVarintTail], by simp [grease, skippable]⟩
  have hw : w.OK 1000 := by
    refine ⟨?_, fun R => by simp [w, decHdr, decVarint, decVarintTail], rfl, by decide, ?_⟩
    · intro g hgm
      simp only [w, List.mem_singleton] at hgm
      subst hgm
      exact hg
    · exact h3Head_spec exM exM_ok none (by simp)
  have hfrs : ∀ f ∈ frs, BodyFrameOK f := by
    intro f hf
    simp only [frs, List.mem_cons, List.mem_nil_iff, or_false] at hf
    rcases hf with rfl | rfl | rfl | rfl
    · exact ⟨fun R => by simp [decHdr, decVarint, decVarintTail], Or.inl rfl⟩
    · exact ⟨fun R => by simp [decHdr, decVarint, decVarintTail], Or.inl rfl⟩
    · exact ⟨hg.1, Or.inr hg.2⟩
    · exact ⟨fun R => by simp [decHdr, decVarint, decVarintTail], Or.inl rfl⟩
  have htr : ∀ t, some tr = some t → t.OK 1000 ∧ t.fields = exM.trailers := by
    intro t ht
    simp only [Option.some.injEq] at ht
    subst ht
    exact ⟨⟨fun R => by simp [tr, decHdr, decVarint, decVarintTail], rfl, by decide, by decide⟩, rfl⟩
  obtain ⟨h, s1, g1, g2, g3, g4⟩ := h3_message_roundtrip exM exM_ok none (by simp) 1000 [] (by simp) (by simp)
    w hw rfl frs hfrs (by decide) (some tr) htr (by simp) segs (by decide) (List.replicate 20 4)
  refine ⟨h, s1, by simpa using g1, g2, g3, ?_⟩
  simp only at g4 ⊢
  obtain ⟨e, he⟩ := g4.2.2 (by intro k hk; simp at hk; omega) (by decide)
  obtain ⟨rfl, ho, ht⟩ := g4.2.1 e he
  exact ⟨he, ho, ht rfl⟩

/-! HTTP/2, HEADERS only: the same status and fields with an empty body and no trailers, one
interim 103 before. -/
example :
    let M0 : AMsg := { exM with body := [], trailers := [] }
    let s := ([H2Ev.headers [([58, 115, 116, 97, 116, 117, 115], [49, 48, 51])] false,
               H2Ev.headers (M0.h2Head none) true]).foldl H2Stream.event (H2Stream.init false)
    (s.res.map fun r => (r.status, r.fields, r.body)) = some (200, exM.header, .noBody) := by
  decide

end Req.Props.C02
