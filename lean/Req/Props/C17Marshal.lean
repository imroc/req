import Req.Client.SetBody
import Req.Props.C17
/-!
C17 — marshalled bodies: what `SetBody` marshals, and that the marshaller follows the
Content-Type that is sent.
-/
namespace Req.Props.C17Marshal
open Req.SetBody Req.Body Req.Proto

/-- exactly the composite values are marshalled -/
theorem setBody_marshal_iff (a : Arg) : setBody a = .marshal ↔ a = .composite := by
  cases a <;> simp [setBody]

/-- `[]byte`, `string` and the printed scalars are sent as their exact bytes -/
theorem setBody_raw_iff (a : Arg) (b : Bytes) :
    setBody a = .raw b ↔ a = .bytes b ∨ a = .str b ∨ a = .scalar b := by
  cases a <;> simp [setBody]

/-- the untyped nil, and only it, leaves the request as it was -/
theorem setBody_unchanged_iff (a : Arg) : setBody a = .unchanged ↔ a = .untypedNil := by
  cases a <;> simp [setBody]

/-- `SetBody(value)` end to end: a composite value on a request with no form data, no files, a
payload-carrying method: the body is the output of the marshaller that MATCHES the Content-Type
the request goes out with — XML iff that type is an XML type (any letter case, `+xml`,
parameters), else JSON; without a preset, JSON under `application/json; charset=utf-8`.  A
marshaller error fails the call. -/
theorem setBody_composite_dispatch (base : Cfg) (json xml : Option Bytes)
    (hm : isPayloadForbid base.method base.allowGet = false) (hmp : base.multipart = false)
    (ho : base.ordered = []) (hr : base.reqForm = []) (hc : base.clientForm = []) :
    dispatch (toCfg base .composite json xml) =
      if (effCT base).isEmpty then json.map (fun j => ⟨.marshalJson, some j, jsonCT⟩)
      else if isXMLType (effCT base) then xml.map (fun x => ⟨.marshalXml, some x, effCT base⟩)
      else json.map (fun j => ⟨.marshalJson, some j, effCT base⟩) := by
  have := Req.Props.C17.marshal_choice (toCfg base .composite json xml) json xml
    (by simpa [toCfg, setBody] using hm) (by simpa [toCfg, setBody] using hmp)
    (by simpa [toCfg, setBody] using ho) (by simpa [toCfg, setBody] using hr)
    (by simpa [toCfg, setBody] using hc) (by simp [toCfg, setBody])
  simpa [toCfg, setBody, effCT] using this

/-- raw values: the exact bytes, under the preset type or the sniffed one -/
theorem setBody_raw_dispatch (base : Cfg) (a : Arg) (b : Bytes) (h : setBody a = .raw b)
    (hm : isPayloadForbid base.method base.allowGet = false) (hmp : base.multipart = false)
    (ho : base.ordered = []) (hr : base.reqForm = []) (hc : base.clientForm = []) :
    dispatch (toCfg base a none none) =
      some ⟨.raw, some b, if (effCT base).isEmpty then base.sniffed else effCT base⟩ := by
  simp only [toCfg, h, dispatch, hm, hmp, ho, hr, hc, Form.pairUp, Form.mergeForm, Form.addAll,
    List.foldl_nil, List.isEmpty_nil, Bool.false_eq_true, ↓reduceIte, Bool.not_true, Bool.or_self, effCT]
  split
  · split <;> simp_all
  · rfl

/-- letter case does not matter, suffixes and parameters count -/
example : isXMLType [65, 112, 112, 108, 105, 99, 97, 116, 105, 111, 110, 47, 88, 77, 76] = true := by decide  -- Application/XML
example : isXMLType [97, 112, 112, 108, 105, 99, 97, 116, 105, 111, 110, 47, 115, 111, 97, 112, 43, 120, 109, 108, 59, 32,
  99, 104, 97, 114, 115, 101, 116, 61, 117, 116, 102, 45, 56] = true := by decide  -- application/soap+xml; charset=utf-8
example : isXMLType [97, 112, 112, 108, 105, 99, 97, 116, 105, 111, 110, 47, 118, 110, 100, 46, 97, 112, 105, 43, 106,
  115, 111, 110] = false := by decide  -- application/vnd.api+json

end Req.Props.C17Marshal
