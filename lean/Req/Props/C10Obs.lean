import Req.Client.RetryObs
import Req.Lemmas.C10Obs
/-!
C10 — observers do not perturb the retry machinery.

`EnableDebugLog`, `DevMode`, `EnableTraceAll`, `EnableDumpAll` / `EnableDumpEachRequest` watch
the client work.  The retry conditions, retry hooks and the interval function are the CALLER's
functions; they may keep state (a schedule that is consumed one step per call, a token bucket,
a counter).  The property's "hooks run once per retry … the interval function is asked once per
retry, with the number of the retry" must therefore hold whatever is being observed.

The theorems are about `Req.RetryObs.odloop` / `odsends` (the loop with the retry option as
mutable state, `Req.RetryDyn`, plus the observers' statements), for EVERY setting of the four
switches, behaviour table of in-flight edits, start value of `RetryAttempt`, count, script,
middleware, variant.
-/
namespace Req.Props.C10Obs
open Req.Retry Req.RetryDyn Req.RetryObs Req.Lemmas.C10Obs

variable {σ W : Type}

theorem perturbs_code (obs : Observers) : perturbs obs .code = false := by
  simp [perturbs, ObsImpl.code]

/-- With the observers as written in /repo the observed run IS the unobserved one — same events
(every condition / hook / interval call with its arguments, every wire request), same result, same
state left behind — for whole calls, re-sends included.  Every theorem of `Req.Props.C10Dyn` /
`C10Replay` / `C10Kinds` is thereby a theorem about the observed client. -/
theorem observers_do_not_call_policy (obs : Observers) (v : Variant) (p : Policy σ) (ed : Edits)
    (mw : Nat → σ → σ × W) (un : σ → Bool) (again : List (List Edit)) (script : List Outcome) (ra : Nat) (st : σ)
    (d : Dyn) :
    odsends obs .code v p ed mw un again script ra st d = dsends v p ed mw un again script ra st d :=
  odsends_unperturbed obs .code (perturbs_code obs) v p ed mw un again script ra st d

/-- … for the loop itself, from any pass on. -/
theorem observers_do_not_call_policy_loop (obs : Observers) (v : Variant) (p : Policy σ) (ed : Edits)
    (mw : Nat → σ → σ × W) (su : σ → Bool) (script : List Outcome) (ra : Nat) (st : σ) (d : Dyn) (prev : Option Resp) :
    odloop obs .code v p ed mw su script ra st d prev = dloop v p ed mw su script ra st d prev :=
  odloop_unperturbed obs .code (perturbs_code obs) v p ed mw su script ra st d prev

/-- Two clients that differ in their observation switches only run the same calls. -/
theorem observed_runs_agree (obs obs' : Observers) (v : Variant) (p : Policy σ) (ed : Edits)
    (mw : Nat → σ → σ × W) (un : σ → Bool) (again : List (List Edit)) (script : List Outcome) (ra : Nat) (st : σ)
    (d : Dyn) :
    odsends obs .code v p ed mw un again script ra st d = odsends obs' .code v p ed mw un again script ra st d := by
  rw [observers_do_not_call_policy, observers_do_not_call_policy]

/-- How often the interval function, hook `id` and condition `id` are invoked, and with which
attempt numbers the interval function is, does not depend on the observation switches. -/
theorem call_counts_independent_of_observers (obs obs' : Observers) (id : Nat) (v : Variant) (p : Policy σ)
    (ed : Edits) (mw : Nat → σ → σ × W) (su : σ → Bool) (script : List Outcome) (ra : Nat) (st : σ) (d : Dyn)
    (prev : Option Resp) :
    intervalCalls (odloop obs .code v p ed mw su script ra st d prev).1 =
      intervalCalls (odloop obs' .code v p ed mw su script ra st d prev).1 ∧
    hookCalls id (odloop obs .code v p ed mw su script ra st d prev).1 =
      hookCalls id (odloop obs' .code v p ed mw su script ra st d prev).1 ∧
    condCalls id (odloop obs .code v p ed mw su script ra st d prev).1 =
      condCalls id (odloop obs' .code v p ed mw su script ra st d prev).1 ∧
    intervalArgs (odloop obs .code v p ed mw su script ra st d prev).1 =
      intervalArgs (odloop obs' .code v p ed mw su script ra st d prev).1 := by
  rw [observers_do_not_call_policy_loop, observers_do_not_call_policy_loop]
  exact ⟨rfl, rfl, rfl, rfl⟩

/-- Over a whole call the interval function is invoked
exactly `RetryAttempt(end) − RetryAttempt(start)` times — once for every retry the loop decided
on (the one whose wait the context interrupts included), never for the last attempt, and not
once more because somebody is watching. -/
theorem interval_called_once_per_retry (obs : Observers) (v : Variant) (p : Policy σ) (ed : Edits)
    (mw : Nat → σ → σ × W) (su : σ → Bool) (script : List Outcome) (ra : Nat) (st : σ) (d : Dyn) (prev : Option Resp) :
    intervalCalls (odloop obs .code v p ed mw su script ra st d prev).1 + ra =
      (odloop obs .code v p ed mw su script ra st d prev).2.2.ra := by
  rw [observers_do_not_call_policy_loop]
  exact dloop_calls v p ed mw su script ra st d prev

/-- However the observers are written, with the debug log off (`DebugLog` and `DevMode` both
unset — trace and dump may be on) the run is the unobserved one.  A lane that never switches the
debug log on cannot tell an observer that calls back (`ObsImpl.seeded`) from the code: why the lanes
run with the switches on as well. -/
theorem seeded_log_invisible_without_debug_log (obs : Observers) (im : ObsImpl) (h : obs.logs = false)
    (v : Variant) (p : Policy σ) (ed : Edits) (mw : Nat → σ → σ × W) (un : σ → Bool) (again : List (List Edit))
    (script : List Outcome) (ra : Nat) (st : σ) (d : Dyn) :
    odsends obs im v p ed mw un again script ra st d = dsends v p ed mw un again script ra st d :=
  odsends_unperturbed obs im (by simp [perturbs, h]) v p ed mw un again script ra st d

section witnesses

/-- `SetRetryCount(3)`, a condition that retries every 429, two hooks, a caller-supplied interval function -/
def exPolicy : Policy Unit :=
  ⟨true, 3, [(0, fun o => o.resp == .status 429)], [(0, fun _ s => s), (1, fun _ s => s)], [], .fn 7⟩
def exMw : Nat → Unit → Unit × Nat := fun ra s => (s, ra)
def exScript : List Outcome := [.status 429, .status 429, .status 200]
def exRun (obs : Observers) (im : ObsImpl) : List (Event Nat) × Final × End Unit :=
  odloop obs im R exPolicy Edits.nop exMw (fun _ => false) exScript 0 () (dynOf exPolicy) none

/-- non-vacuity of `observers_do_not_call_policy` / `interval_called_once_per_retry`: two
retries — the interval function is asked twice, with 1 and 2, every hook runs twice, the
condition is asked three times; debug log, DevMode, trace and dump all on -/
example : intervalArgs (exRun ⟨true, true, true, true⟩ .code).1 = [1, 2] ∧
    intervalCalls (exRun ⟨true, true, true, true⟩ .code).1 = 2 ∧
    hookCalls 0 (exRun ⟨true, true, true, true⟩ .code).1 = 2 ∧
    hookCalls 1 (exRun ⟨true, true, true, true⟩ .code).1 = 2 ∧
    condCalls 0 (exRun ⟨true, true, true, true⟩ .code).1 = 3 ∧
    (exRun ⟨true, true, true, true⟩ .code).2.2.ra = 2 := by decide

/-- A log line that asks the interval function (the trial change `seeded/C10-r6-3`): with the debug
log on — directly or through DevMode — the interval function is asked `[1, 1, 2, 2]` for two
retries; the hooks and the condition are not affected, nor is anything with the log off. -/
theorem log_asking_the_interval_function_doubles_the_calls :
    intervalArgs (exRun ⟨true, false, false, false⟩ .seeded).1 = [1, 1, 2, 2] ∧
    intervalArgs (exRun ⟨false, true, false, false⟩ .seeded).1 = [1, 1, 2, 2] ∧
    intervalCalls (exRun ⟨true, false, false, false⟩ .seeded).1 + 0 ≠ (exRun ⟨true, false, false, false⟩ .seeded).2.2.ra ∧
    hookCalls 0 (exRun ⟨true, false, false, false⟩ .seeded).1 = 2 ∧
    condCalls 0 (exRun ⟨true, false, false, false⟩ .seeded).1 = 3 ∧
    intervalArgs (exRun ⟨false, false, true, true⟩ .seeded).1 = [1, 2] := by decide

/-- the extra call is a real call: an interval function that cancels the request's context when
asked about retry 1 is asked twice before the wait finds the context done -/
example : intervalArgs (odloop ⟨true, false, false, false⟩ .seeded R exPolicy
      { Edits.nop with ivl := fun a _ => ⟨none, none, a == 1⟩ } exMw (fun _ => false) exScript 0 ()
      (dynOf exPolicy) none).1 = [1, 1] ∧
    intervalArgs (odloop ⟨true, false, false, false⟩ .code R exPolicy
      { Edits.nop with ivl := fun a _ => ⟨none, none, a == 1⟩ } exMw (fun _ => false) exScript 0 ()
      (dynOf exPolicy) none).1 = [1] := by decide

end witnesses

end Req.Props.C10Obs
