import Req.Pool.CancelResend
/-!
# C08 — the transparent re-send loop of the HTTP/1 `Transport.roundTrip`
-/
namespace Req.Props.C08Resend
open Req.Cancel (CtxErr)
open Req.CancelResend

/-- whatever the number of dying keep-alive connections, the replayability
of the request and the instant the context ends: when the loop returns, EVERY body handed to the
transport (the caller's and each one `GetBody` produced) has been closed. -/
theorem resend_closes_every_body (cfg : Cfg) (fuel : Nat) (s : St) (o : Out)
    (h0 : s.leaked = 0) (h : loop cfg true fuel s = some o) : o.open_ = 0 := by
  induction fuel generalizing s with
  | zero => simp [loop] at h
  | succ n ih =>
    unfold loop at h
    split at h
    · simp at h; subst h; simp [topClose, St.out, St.openCount, h0]
    · simp only at h
      split at h
      · split at h
        · apply ih _ _ h
          split <;> simp [rewind, written, h0]
        · simp at h; subst h; simp [St.out, St.openCount, written, h0]
      · split at h <;> (simp at h; subst h; simp [St.out, St.openCount, written, h0])

theorem run_closes_every_body (cfg : Cfg) (o : Out) (h : run cfg = some o) : o.open_ = 0 :=
  resend_closes_every_body cfg _ _ o (by simp [init]) h

/-- a loop iteration entered with the context ended returns that
context's error at once: no further `GetBody` call, nothing written to a connection. -/
theorem resend_stops_on_ended_context (cfg : Cfg) (b : Bool) (fuel : Nat) (s : St) (e : CtxErr)
    (hc : s.ctx = some e) :
    ∃ o, loop cfg b (fuel + 1) s = some o ∧ o.res = .ctxErr e ∧ o.got = s.got ∧ o.late = s.late := by
  refine ⟨(topClose b s).out (.ctxErr e), ?_, ?_, ?_, ?_⟩
  · simp [loop, hc]
  · simp [St.out]
  · simp [St.out, topClose]; split <;> rfl
  · simp [St.out, topClose]; split <;> rfl

/-- no attempt is ever written after the context ended. -/
theorem resend_nothing_sent_after_end (cfg : Cfg) (b : Bool) (fuel : Nat) (s : St) (o : Out)
    (h0 : s.late = 0) (h : loop cfg b fuel s = some o) : o.late = 0 := by
  induction fuel generalizing s with
  | zero => simp [loop] at h
  | succ n ih =>
    unfold loop at h
    split at h
    · simp at h; subst h; simp [St.out, topClose]; split <;> simp [h0]
    · rename_i hctx
      simp only at h
      split at h
      · split at h
        · apply ih _ _ h
          split <;> simp [rewind, written, h0, hctx]
        · simp at h; subst h; simp [St.out, written, h0, hctx]
      · split at h <;> (simp at h; subst h; simp [St.out, written, h0, hctx])

/-- `deaths + 2` iterations are enough: the loop returns. -/
theorem resend_returns (cfg : Cfg) (b : Bool) (fuel : Nat) (s : St)
    (hf : cfg.deaths < fuel + s.sent) (hp : 0 < fuel) : (loop cfg b fuel s).isSome = true := by
  induction fuel generalizing s with
  | zero => omega
  | succ n ih =>
    unfold loop
    split
    · simp
    · simp only
      split
      · rename_i hle
        simp [written] at hle
        split
        · apply ih
          · split <;> simp [rewind, written] <;> omega
          · omega
        · simp
      · split <;> simp

theorem run_returns (cfg : Cfg) (b : Bool) : (run cfg b).isSome = true :=
  resend_returns cfg b _ _ (by omega) (by omega)

/-- sharpness (the trial change `seeded/C08-r7-1`): one warm connection dies under a replayable request and the
context is cancelled inside the first `GetBody` call (the `Cfg` fields in order: `deaths`, `safeMethod`,
`idemKey`, `hasGetBody`, `point`, `kind`). With `closeBody(origReq)` at the top of the loop (`closesCur = false`)
the body `GetBody` handed out is still open when the call returns; with `closeBody(req)` none is. -/
theorem orig_close_leaks_rewound_body :
    (run ⟨1, false, true, true, .rewound 1, .canceled⟩ false).map (·.open_) = some 1 ∧
    (run ⟨1, false, true, true, .rewound 1, .canceled⟩ true).map (·.open_) = some 0 := by
  decide

end Req.Props.C08Resend
