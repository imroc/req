import Req.C02.H2GoAway
import Req.Props.C02Proto
/-!
C02 — a response is delivered whole whatever the connection is told meanwhile (`Req.C02.H2GoAway`).

Between (before, after) the frames of a response the server may send connection-level frames:
GOAWAY (graceful or with an error code, any last-stream-id), PING, SETTINGS, WINDOW_UPDATE on
stream 0, extension frames.  RFC 9113 §6.8: streams with an identifier up to and including
last-stream-id are still being served.  The statements use two notions of the model file:
`eraseOps sid`, what stream `sid` sees of the connection's traffic (its own frames and the caller's
reads), and `KeepsStream sid`, "every GOAWAY names a last-stream-id that is not below `sid`".
-/
namespace Req.Props.C02
open Req.Proto Req.Ascii Req.C02

/-- `setGoAway` leaves every stream `id ≤ last` exactly as it was (state, buffered bytes, errors),
for every table and every error code. -/
theorem goaway_keeps_streams_up_to_last_id (c : H2Conn) (last code id : Nat) (h : id ≤ last) :
    (c.setGoAway last code).streams id = c.streams id := by
  simp only [H2Conn.setGoAway]
  cases c.streams id with
  | none => rfl
  | some s => simp [h]

/-- `setGoAway` on a stream above last-stream-id: it is aborted with `goAwayAbortErr`, and the GOAWAY
is recorded with the merged error code. -/
theorem goaway_aborts_streams_above_last_id (c : H2Conn) (last code id : Nat) (s : H2Stream)
    (hs : c.streams id = some s) (h : last < id) :
    (c.setGoAway last code).streams id =
      some (s.abort (goAwayAbortErr id (mergeGoAwayCode c.goAway code))) ∧
    (c.setGoAway last code).goAway = some { last := last, code := mergeGoAwayCode c.goAway code } := by
  simp only [H2Conn.setGoAway, hs]
  have : ¬ id ≤ last := by omega
  simp [this]

-- non-vacuity: GOAWAY(last = 3) on a table with streams 3 and 5: 3 untouched, 5 aborted
example :
    let c : H2Conn := { streams := fun j => if j = 3 ∨ j = 5 then some (H2Stream.init false) else none, goAway := none }
    ((c.setGoAway 3 0).streams 3).map (·.headErr) = some none ∧
    ((c.setGoAway 3 0).streams 5).map (·.headErr) = some (some .goAwayRetry) ∧
    ((c.setGoAway 0 2).streams 1 |>.map (·.headErr)) = none := by decide

-- stream 1 after an error GOAWAY is not retryable; a graceful GOAWAY that follows keeps the code
example :
    let c : H2Conn := H2Conn.single 1 (H2Stream.init false)
    ((c.setGoAway 0 2).streams 1).map (·.headErr) = some (some .goAwayErr) ∧
    ((c.setGoAway 0 0).streams 1).map (·.headErr) = some (some .goAwayRetry) ∧
    (((c.setGoAway 1 2).setGoAway 0 0).streams 1).map (·.headErr) = some (some .goAwayErr) := by decide

/-- An abort (by GOAWAY or otherwise) leaves the delivered
head, the buffered body bytes and the trailers where they are; it fails `RoundTrip` only if no
head was delivered. -/
theorem goaway_abort_keeps_delivered (s : H2Stream) (e : H2Err) :
    (s.abort e).res = s.res ∧ (s.abort e).pipe.buf = s.pipe.buf ∧ (s.abort e).pipe.hasBuf = s.pipe.hasBuf ∧
    (s.abort e).resTrailer = s.resTrailer ∧
    (s.res.isSome → (s.abort e).headErr = s.headErr) := by
  have hp : ∀ p : Pipe, (p.closeWithError e false).buf = p.buf ∧ (p.closeWithError e false).hasBuf = p.hasBuf := by
    intro p
    unfold Pipe.closeWithError
    split <;> exact ⟨rfl, rfl⟩
  unfold H2Stream.abort
  by_cases h : s.res.isNone ∧ s.headErr.isNone
  · simp only [h, and_self, if_true]
    exact ⟨trivial, (hp _).1, (hp _).2, trivial, fun hs => by rw [Option.isNone_iff_eq_none.mp h.1] at hs; cases hs⟩
  · simp only [h, if_false]
    exact ⟨trivial, (hp _).1, (hp _).2, trivial, fun _ => trivial⟩

theorem H2Conn.set_streams_self (c : H2Conn) (id : Nat) (s : H2Stream) : (c.set id s).streams id = some s :=
  if_pos rfl

theorem H2Conn.set_streams_other (c : H2Conn) (id j : Nat) (s : H2Stream) (h : j ≠ id) :
    (c.set id s).streams j = c.streams j :=
  if_neg h

/-- One connection frame, seen from stream `sid`: the stream stays in the table, and what it
goes through is its own run on the erased frame. -/
theorem H2Conn.event_streams (c : H2Conn) (sid : Nat) (s : H2Stream) (hs : c.streams sid = some s) (e : CEv)
    (ops : List COp) (hk : KeepsStream sid (.ev e :: ops)) :
    KeepsStream sid ops ∧ ∃ s', (c.event e).streams sid = some s' ∧
      s.runOps (eraseOps sid (.ev e :: ops)) = s'.runOps (eraseOps sid ops) := by
  cases e with
  | frame id ev =>
    by_cases hid : id = sid
    · subst hid
      exact ⟨hk, s.event ev, by simp only [H2Conn.event, hs, H2Conn.set_streams_self],
        by simp only [eraseOps, if_true, H2Stream.runOps]⟩
    · refine ⟨hk, s, ?_, by simp only [eraseOps, hid, if_false]⟩
      simp only [H2Conn.event]
      cases c.streams id with
      | none => exact hs
      | some t => exact (H2Conn.set_streams_other _ _ _ _ (Ne.symm hid)).trans hs
  | goAway last code => exact ⟨hk.2, s, (goaway_keeps_streams_up_to_last_id c last code sid hk.1).trans hs, rfl⟩
  | neutral k => exact ⟨hk, s, hs, rfl⟩

/-- For every sequence of connection frames, frames of other streams, frames of this stream and
caller reads in which every GOAWAY names a last-stream-id ≥ this stream, the caller's observations
and the stream's final state are those of the stream run on its own frames alone. -/
theorem conn_frames_invisible (sid : Nat) (ops : List COp) :
    ∀ (c : H2Conn) (s : H2Stream), c.streams sid = some s → KeepsStream sid ops →
      (c.runOps sid ops).1 = (s.runOps (eraseOps sid ops)).1 ∧
      (c.runOps sid ops).2.streams sid = some (s.runOps (eraseOps sid ops)).2 := by
  induction ops with
  | nil => intro c s hs _; exact ⟨rfl, hs⟩
  | cons op ops ih =>
    intro c s hs hk
    cases op with
    | read k =>
      simp only [H2Conn.runOps, hs, eraseOps, H2Stream.runOps]
      cases hr : s.read k with
      | none =>
        obtain ⟨h1, h2⟩ := ih c s hs hk
        exact ⟨congrArg (none :: ·) h1, h2⟩
      | some r =>
        obtain ⟨h1, h2⟩ := ih (c.set sid r.2) r.2 (H2Conn.set_streams_self c sid r.2) hk
        exact ⟨congrArg (some r.1 :: ·) h1, h2⟩
    | ev e =>
      obtain ⟨hk', s', hs', hrun⟩ := H2Conn.event_streams c sid s hs e ops hk
      rw [hrun]
      exact ih _ s' hs' hk'

theorem KeepsStream.append_reads (sid : Nat) (ks : List Nat) :
    ∀ cops : List COp, KeepsStream sid cops → KeepsStream sid (cops ++ ks.map COp.read) ∧
      eraseOps sid (cops ++ ks.map COp.read) = eraseOps sid cops ++ ks.map H2Op.read
  | [], _ => by
    induction ks with
    | nil => exact ⟨trivial, rfl⟩
    | cons k ks ih => exact ⟨ih.1, congrArg (H2Op.read k :: ·) ih.2⟩
  | .read k :: cops, h =>
    let ⟨h1, h2⟩ := KeepsStream.append_reads sid ks cops h
    ⟨h1, congrArg (H2Op.read k :: ·) h2⟩
  | .ev (.frame id e) :: cops, h => by
    obtain ⟨h1, h2⟩ := KeepsStream.append_reads sid ks cops h
    refine ⟨h1, ?_⟩
    simp only [List.cons_append, eraseOps]
    split
    · exact congrArg (H2Op.ev e :: ·) h2
    · exact h2
  | .ev (.neutral _) :: cops, h => KeepsStream.append_reads sid ks cops h
  | .ev (.goAway _ _) :: cops, h =>
    let ⟨h1, h2⟩ := KeepsStream.append_reads sid ks cops h.2
    ⟨⟨h.1, h1⟩, h2⟩

-- non-vacuity: HEADERS, DATA "ab", GOAWAY(last = 3 = this stream, NO_ERROR), PING, a frame of
-- stream 5, DATA "c" with END_STREAM, reads: the caller of stream 3 reads "abc" then EOF
example :
    let hd : H2Ev := .headers [([58, 115, 116, 97, 116, 117, 115], [50, 48, 48])] false
    let ops : List COp := [.ev (.frame 3 hd), .ev (.frame 3 (.data [97, 98] false false)), .ev (.goAway 3 0),
      .ev (.neutral 0), .ev (.frame 5 .rst), .read 10, .ev (.frame 3 (.data [99] false true)), .read 10, .read 10]
    KeepsStream 3 ops ∧
    ((H2Conn.single 3 (H2Stream.init false)).runOps 3 ops).1 =
      [some ([97, 98], none), some ([99], none), some ([], some .eof)] := by
  refine ⟨by simp [KeepsStream], by decide⟩

-- the same traffic with GOAWAY(last = 1): stream 3 is cut off after "ab"
example :
    let hd : H2Ev := .headers [([58, 115, 116, 97, 116, 117, 115], [50, 48, 48])] false
    let ops : List COp := [.ev (.frame 3 hd), .ev (.frame 3 (.data [97, 98] false false)), .ev (.goAway 1 0),
      .read 10, .ev (.frame 3 (.data [99] false true)), .read 10]
    ((H2Conn.single 3 (H2Stream.init false)).runOps 3 ops).1 =
      [some ([97, 98], none), some ([], some .goAwayRetry)] := by decide

/-- `h2_message_roundtrip` on a connection that is told to go away
(or pinged, or re-configured) around the response: for EVERY origin message, framing and DATA
split, every stream id, EVERY sequence `cops` of connection frames, frames of other streams, a
prefix of this response's frames and caller reads — where every GOAWAY names a last-stream-id
that is not below this stream — the caller's reads are a prefix of the origin's body, report
nothing but data or `io.EOF`; `io.EOF` means exactly the body and exactly the trailers; once the
final HEADERS is in, the response has the origin's status and fields; and when all frames have
arrived enough non-empty reads reach `io.EOF`. -/
theorem goaway_response_whole (M : AMsg) (hM : M.OK) (declare : Option Bytes)
    (hdecl : ∀ cb, declare = some cb → natOfDigits cb = some M.body.length)
    (interims : List Fields) (hint : ∀ fs ∈ interims, InterimOK fs) (hn : interims.length ≤ 5)
    (datas : List (Bytes × Bool)) (lastData : Option (Bytes × Bool))
    (hsplit : (datas.map (·.1)).flatten ++ lastDataBytes lastData = M.body)
    (htr : lastData.isSome = true → M.trailers = []) (sid : Nat) :
    let m := h2MsgOf M declare interims datas lastData
    (∀ (cops : List COp) (rest : List H2Ev), KeepsStream sid cops →
      m.events = evsOf (eraseOps sid cops) ++ rest →
      let run := (H2Conn.single sid (H2Stream.init false)).runOps sid cops
      (∃ t, M.body = readsOut run.1 ++ t) ∧ (∀ o ∈ run.1, ObsOK o) ∧
      (SawEOF run.1 → readsOut run.1 = M.body ∧
        (run.2.streams sid).map (·.resTrailer) = some M.trailer) ∧
      (rest.length ≤ datas.length + 1 →
        ∃ st res, run.2.streams sid = some st ∧ st.res = some res ∧ res.status = M.code ∧
          res.fields = clEntry declare ++ M.header)) ∧
    (∀ (cops : List COp) (ks : List Nat), KeepsStream sid cops →
      m.events = evsOf (eraseOps sid cops) → (∀ k ∈ ks, 0 < k) → M.body.length < ks.length →
      let run := (H2Conn.single sid (H2Stream.init false)).runOps sid (cops ++ ks.map COp.read)
      SawEOF run.1 ∧ readsOut run.1 = M.body ∧
        (run.2.streams sid).map (·.resTrailer) = some M.trailer) := by
  intro m
  obtain ⟨hA, hB⟩ := h2_message_roundtrip M hM declare hdecl interims hint hn datas lastData hsplit htr
  have hsingle : (H2Conn.single sid (H2Stream.init false)).streams sid = some (H2Stream.init false) :=
    if_pos rfl
  refine ⟨?_, ?_⟩
  · intro cops rest hk hev
    obtain ⟨h1, h2⟩ := conn_frames_invisible sid cops _ _ hsingle hk
    obtain ⟨a1, a2, a3, a4⟩ := hA (eraseOps sid cops) rest hev
    simp only [h1, h2]
    refine ⟨a1, a2, ?_, ?_⟩
    · intro hs; obtain ⟨b1, b2⟩ := a3 hs; exact ⟨b1, by simp [b2]⟩
    · intro hr; obtain ⟨res, r1, r2, r3⟩ := a4 hr; exact ⟨_, res, rfl, r1, r2, r3⟩
  · intro cops ks hk hev hpos hlen
    obtain ⟨hk2, her⟩ := KeepsStream.append_reads sid ks cops hk
    obtain ⟨h1, h2⟩ := conn_frames_invisible sid _ _ _ hsingle hk2
    obtain ⟨b1, b2, b3⟩ := hB (eraseOps sid cops) ks hev hpos hlen
    simp only [h1, h2, her]
    exact ⟨b1, b2, by simp [b3]⟩

end Req.Props.C02
