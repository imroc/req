import Req.Lemmas.C02ReadLine
/-!
C02 — head lines of ANY length under every segmentation.

`h1_head_lines_split_independent` speaks of lines that fit the connection's read buffer.  Here
the accumulation loop of `textprotoReader.readLineSlice` is in the model
(`Req.C02.Bufio.readLineSlice` over `Bufio.readLine` = `bufio.Reader.ReadLine` = the closure
`newTextprotoReader` installs when the response header is dumped) and the statement has no size
condition: a line longer than the
buffer is handed out in full-buffer pieces, a CR that lands on the last byte of a full buffer is
put back so that a CR LF straddling two fills is still recognised as the line end (the lines that
need that step have length 4095 + k·4096 with the default buffer).

The same question for the whole head (status line, header block, framing decision) is answered over
C04's reader models by `response_head_incremental_is_whole_stream` (`Props/C04Whole`); the two
developments share no lemma.

Tie: lane `h1line` — the real `newTextprotoReader(...).ReadLine()` with and without
dumpers over a real `bufio.Reader` of sizes 16..4096 against `Bufio.readLinesAny`, line by line;
lane `h1longline` — the real client end to end, dump option matrix × read-buffer size × which
line of the head is long.
-/
namespace Req.C02
open Req.Proto

/-- `ReadLine()` on a line of any length ended by LF (a CR before it is removed): for EVERY
state of the connection reader (whatever is buffered, whatever segmentation follows), every
buffer size ≥ 2 (Go's minimum is 16): exactly the line, the reader exactly behind the LF. -/
theorem readLineSlice_any_length (b : Bufio) (l R : Bytes) (fuel : Nat) (hw : b.WF) (hf : b.Fits)
    (hcap : 2 ≤ b.cap) (hrem : b.rem = l ++ 10 :: R) (hno : (10 : UInt8) ∉ l) (hfuel : l.length < fuel) :
    ∃ b', b.readLineSlice fuel [] = ((some (stripCR l), none), b') ∧ b'.rem = R ∧ b'.WF ∧ b'.Fits ∧
      b'.cap = b.cap := by
  obtain ⟨b', h1, h2, h3, h4, h5, _⟩ := Bufio.readLineSlice_spec fuel [] l R b hw hf hcap hrem hno
    (by intro _; simp) hfuel
  exact ⟨b', by simpa using h1, h2, h3, h4, h5⟩

/-- The same for a CR LF line end: the content `l` (any bytes but LF, CRs included, any length —
also `cap - 1 + k·cap`, where the CR is the last byte of a full buffer) comes back unchanged. -/
theorem readLineSlice_crlf (b : Bufio) (l R : Bytes) (fuel : Nat) (hw : b.WF) (hf : b.Fits)
    (hcap : 2 ≤ b.cap) (hrem : b.rem = l ++ 13 :: 10 :: R) (hno : (10 : UInt8) ∉ l)
    (hfuel : l.length + 1 < fuel) :
    ∃ b', b.readLineSlice fuel [] = ((some l, none), b') ∧ b'.rem = R ∧ b'.WF ∧ b'.Fits ∧
      b'.cap = b.cap := by
  obtain ⟨b', h1, h2⟩ := readLineSlice_any_length b (l ++ [13]) R fuel hw hf hcap
    (by rw [hrem, List.append_assoc]; rfl) (by simp [hno]) (by rw [List.length_append]; exact hfuel)
  exact ⟨b', by rw [h1, stripCR, List.getLast?_concat, if_pos rfl, List.dropLast_concat], h2⟩

/-- What an origin writes for a list of head lines. -/
def wireOfLines : List Bytes → Bytes
  | [] => []
  | l :: ls => l ++ 13 :: 10 :: wireOfLines ls

/-- **Head lines of any length, every segmentation.**  `n` calls of `ReadLine()` on a
connection that delivers `n` CR LF-terminated lines (status line, field lines, the blank line —
any content without LF, any lengths) followed by anything, from any state of the reader:
exactly those lines, and the reader stands exactly at what follows the head. -/
theorem h1_lines_any_length (fuel : Nat) : ∀ (lines : List Bytes) (after : Bytes) (b : Bufio),
    b.WF → b.Fits → 2 ≤ b.cap → b.rem = wireOfLines lines ++ after →
    (∀ l ∈ lines, (10 : UInt8) ∉ l ∧ l.length + 1 < fuel) →
    ∃ b', Bufio.readLinesAny lines.length fuel b = (lines, none, b') ∧ b'.rem = after ∧ b'.WF ∧ b'.Fits ∧
      b'.cap = b.cap
  | [], after, b, hw, hf, _, hrem, _ => ⟨b, rfl, hrem, hw, hf, rfl⟩
  | l :: ls, after, b, hw, hf, hcap, hrem, hall => by
    have hl := hall l (by simp)
    obtain ⟨b1, h1, h2, h3, h4, h5⟩ := readLineSlice_crlf b l (wireOfLines ls ++ after) fuel hw hf hcap
      (by rw [hrem, wireOfLines, List.append_assoc]; rfl) hl.1 hl.2
    obtain ⟨b', g1, g2, g3, g4, g5⟩ := h1_lines_any_length fuel ls after b1 h3 h4 (by omega) h2
      (fun x hx => hall x (List.mem_cons_of_mem _ hx))
    refine ⟨b', ?_, g2, g3, g4, by rw [g5, h5]⟩
    simp only [List.length_cons, Bufio.readLinesAny, h1, g1]

/-- From a fresh connection under ANY segmentation of the whole stream.  (Not the statement of
`h1_head_lines_split_independent` in `Props/C02Msg` minus a hypothesis: that one is about
`Bufio.readLines` — `ReadSlice`, the raw lines with their line ends, each fitting the buffer, wire
`linesWire`; this one is about `Bufio.readLinesAny` — `ReadLine`, the lines without their line
ends, any length, wire `wireOfLines`.) -/
theorem h1_head_lines_any_length_wire (cap fuel : Nat) (segs : List Bytes) (fin : NetEnd)
    (lines : List Bytes) (after : Bytes) (hcap : 2 ≤ cap)
    (hwire : segs.flatten = wireOfLines lines ++ after)
    (hall : ∀ l ∈ lines, (10 : UInt8) ∉ l ∧ l.length + 1 < fuel) :
    ∃ b', Bufio.readLinesAny lines.length fuel (Bufio.new cap ⟨segs, fin⟩) = (lines, none, b') ∧
      b'.rem = after := by
  obtain ⟨b', h1, h2, _⟩ := h1_lines_any_length fuel lines after (Bufio.new cap ⟨segs, fin⟩)
    (Bufio.new_wf _ _) (Bufio.new_fits _ _) hcap (by rw [Bufio.new_rem]; exact hwire) hall
  exact ⟨b', h1, h2⟩

/-! Non-vacuity, on the executable model with a 4-byte buffer: a line whose CR is the last byte
of a full buffer ("abc\r\n"), a longer one with a CR in the middle on a buffer edge, one-byte
segments. -/
example : (Bufio.readLinesAny 2 20 (Bufio.new 4 ⟨[[97, 98, 99, 13, 10, 100, 13, 10, 120]], .eof⟩)).1 =
    [[97, 98, 99], [100]] := by decide

example : (Bufio.readLinesAny 1 20 (Bufio.new 4 ⟨[[97], [98], [99], [13], [101, 102, 103, 13], [10], [120]], .eof⟩)).1 =
    [[97, 98, 99, 13, 101, 102, 103]] := by decide

example : ((Bufio.readLinesAny 1 20 (Bufio.new 4 ⟨[[97, 98, 99, 13, 10, 120]], .eof⟩)).2.2).rem = [120] := by decide

example : wireOfLines [[97, 98, 99], [100]] = [97, 98, 99, 13, 10, 100, 13, 10] := by decide

end Req.C02
