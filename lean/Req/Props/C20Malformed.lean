import Req.Props.C20Digest
/-!
C20 — a MALFORMED Digest challenge yields an ERROR, end to end: not only does `parseChallenge`
refuse it, the middleware returns that error to the caller — exactly one request was sent, the 401
is never handed back as an ordinary response (`untouched`), nothing is sent with a guessed header.
-/
namespace Req.Props.C20
open Req.Proto Req.DigestAuth Req.Ascii
open Req.Digest hiding authorize handle exchange parseChallenge Resp

/-- **malformed_digest_is_error_e2e**: for EVERY origin, account, method, target, body and entropy:
when the first response is a 401 and the joined `WWW-Authenticate` lines are refused by
`parseChallenge` with `e` (malformed: `badChallenge`; also charset / algorithm / qop), the call
FAILS with `e`: one request on the wire, without `Authorization`, and the outcome is neither
`untouched` (the 401 returned as if nothing had happened) nor a re-send. -/
theorem malformed_digest_is_error_e2e (H : Alg → Bytes → Bytes) (server : Wire → DigestAuth.Resp)
    (user pass method uri : Bytes) (body : Body) (rnd : Option Bytes) (e : Err)
    (h401 : (server { method, uri, authorization := none, body := bodyBytes body }).err = false ∧
      (server { method, uri, authorization := none, body := bodyBytes body }).status = 401)
    (hbad : parseChallenge algOf
      (commaJoin (server { method, uri, authorization := none, body := bodyBytes body }).wwwAuth) = .error e) :
    exchange H algOf server user pass method uri body rnd =
      ([{ method, uri, authorization := none, body := bodyBytes body }], .failed e) := by
  have hc := createDigestAuth_parse_error H _ { user, pass, method, uri } rnd e hbad
  simp only [exchange, malformed_challenge_errors H user pass method uri body rnd _ e h401 hc]

/-- a list element `OWS name rest OWS` where `rest` begins (after BWS) with `=` -/
structure BadParam where
  pre : Bytes
  name : Bytes
  rest : Bytes
  post : Bytes

def BadParam.render (d : BadParam) : Bytes := d.pre ++ (d.name ++ d.rest) ++ d.post

structure BadParam.OK (d : BadParam) : Prop where
  pre : d.pre.all isOws = true
  post : d.post.all isOws = true
  name : TokenOK d.name
  eq : (trimLeft isOws d.rest).head? = some 61
  /-- so that trimming the element stops at the end of `rest` -/
  last : ∀ z ∈ d.rest.getLast?, isOws z = false
  /-- what follows the name is NOT `BWS "=" BWS ( token / quoted-string )` up to the end -/
  bad : paramValue d.rest = none

/-- **bad_param_errors**: in EVERY state of the loop — before any scheme, inside a Digest
challenge, inside the challenge of another scheme — such an element is refused. -/
theorem bad_param_errors (st : PState) (d : BadParam) (h : d.OK) :
    stepElem st d.render = .error .badChallenge := by
  obtain ⟨a, r, hn, ha⟩ := token_head d.name h.name
  have hrne : d.rest ≠ [] := by
    intro hr
    have := h.eq
    rw [hr] at this
    cases this
  have htrim : trim isOws d.render = d.name ++ d.rest := by
    unfold BadParam.render
    apply trim_pad d.pre d.post (d.name ++ d.rest) h.pre h.post
    · intro b hb
      rw [hn] at hb
      simp at hb
      subst hb
      exact tok_not_ows ha
    · intro z hz
      rw [List.getLast?_append_ne _ _ hrne] at hz
      exact h.last z hz
  rw [stepElem_param st _ _ _ htrim h.name h.eq]
  unfold addParam
  simp only [h.bad]

/-- no closing quote: `realm="abc` -/
theorem paramValue_unterminated (b1 b2 body : Bytes) (h1 : b1.all isOws = true) (h2 : b2.all isOws = true)
    (hb : ∀ c ∈ body, c ≠ 34 ∧ c ≠ 92) : paramValue (b1 ++ 61 :: (b2 ++ 34 :: body)) = none :=
  (paramValue_bws b1 b2 (34 :: body) h1 h2 (by intro a ha; cases ha; decide)).trans
    (unquote_plain_none body hb)

/-- something after the closing quote: `realm="a"b`, `realm="a" nonce="n"` (missing comma) -/
theorem paramValue_junk_after_quote (b1 b2 : Bytes) (l : QBody) (junk : Bytes) (h1 : b1.all isOws = true)
    (h2 : b2.all isOws = true) (hl : QbOK l) (hj : junk ≠ []) :
    paramValue (b1 ++ 61 :: (b2 ++ 34 :: (qbRender l ++ 34 :: junk))) = none :=
  (paramValue_bws b1 b2 (34 :: (qbRender l ++ 34 :: junk)) h1 h2 (by intro a ha; cases ha; decide)).trans
    (unquote_junk l hl junk hj)

/-- no value at all: `realm=` -/
theorem paramValue_empty (b1 : Bytes) (h1 : b1.all isOws = true) : paramValue (b1 ++ [61]) = none :=
  paramValue_bws b1 [] [] h1 rfl (by intro a ha; cases ha)

/-- a token value followed by anything: `algorithm=MD5 qop=auth` (missing comma), `stale=a"b"` -/
theorem paramValue_missing_comma (b1 b2 tok junk : Bytes) (h1 : b1.all isOws = true) (h2 : b2.all isOws = true)
    (ht : TokenOK tok) (hj : junk ≠ []) (hjh : ∀ a ∈ junk.head?, isTokenByte a = false) :
    paramValue (b1 ++ 61 :: (b2 ++ (tok ++ junk))) = none := by
  obtain ⟨a, r, hn, ha⟩ := token_head tok ht
  have hq : (a == 34) = false := by simpa using (tok_not_delim a ha).1
  rw [paramValue_bws b1 b2 _ h1 h2 (by
    intro x hx; rw [hn] at hx; simp at hx; subst hx; exact tok_not_ows ha),
    cutToken_append tok junk ht.2 hjh, hn]
  cases junk with
  | nil => exact absurd rfl hj
  | cons j js => simp [hq]

/-- **damaged_list_is_error_e2e**: the field lines of the 401 are ANY list of pieces (each with its
quotes closed, `hclosed`, `d` included: the value that is never closed is
`unterminated_quote_is_error_e2e`) of which the part before `d` is read without error and `d` is a
damaged parameter (`BadParam.OK`) — whatever follows `d`, whatever preceded (a perfectly
answerable Digest challenge included): the call fails with `badChallenge`, one request, no
`Authorization`. -/
theorem damaged_list_is_error_e2e (H : Alg → Bytes → Bytes) (server : Wire → DigestAuth.Resp)
    (user pass method uri : Bytes) (body : Body) (rnd : Option Bytes)
    (good more : List Bytes) (d : BadParam) (st : PState)
    (h401 : (server { method, uri, authorization := none, body := bodyBytes body }).err = false ∧
      (server { method, uri, authorization := none, body := bodyBytes body }).status = 401)
    (hlines : commaJoin (server { method, uri, authorization := none, body := bodyBytes body }).wwwAuth =
      commaCat (good ++ d.render :: more))
    (hclosed : ∀ p ∈ good ++ d.render :: more, scan false false p = some (false, false))
    (hgood : parseElems good {} = .ok st) (hd : d.OK) :
    exchange H algOf server user pass method uri body rnd =
      ([{ method, uri, authorization := none, body := bodyBytes body }], .failed .badChallenge) := by
  apply malformed_digest_is_error_e2e H server user pass method uri body rnd .badChallenge h401
  rw [hlines]
  exact parseChallenge_first_error algOf good d.render more st .badChallenge
    (splitList_commaCat _ (by simp) hclosed) hgood (bad_param_errors st d hd)

-- `Digest realm="r", nonce="n", opaque="x"y, qop=auth`: an answerable challenge, then junk after a value
def exBad : BadParam := ⟨b!" ", b!"opaque", b!"=\"x\"y", []⟩

theorem exBad_ok : exBad.OK :=
  { pre := by decide
    post := by decide
    name := by decide
    eq := by decide
    last := by decide
    bad := paramValue_junk_after_quote [] [] [(120, false)] b!"y" rfl rfl (by decide) (by decide) }

example : parseElems [b!"Digest realm=\"r\"", b!" nonce=\"n\""] {} =
    .ok { rev := [{ realm := b!"r", nonce := b!"n" }], cur := true, seen := some [b!"nonce", b!"realm"] } := by decide +kernel

example : commaCat ([b!"Digest realm=\"r\"", b!" nonce=\"n\""] ++ exBad.render :: [b!" qop=auth"]) =
    b!"Digest realm=\"r\", nonce=\"n\", opaque=\"x\"y, qop=auth" := by decide

example : ∀ p ∈ [b!"Digest realm=\"r\"", b!" nonce=\"n\""] ++ exBad.render :: [b!" qop=auth"],
    scan false false p = some (false, false) := by decide

-- an unterminated value, no value, a missing comma, and `realm` twice, evaluated on the real text
example : parseChallenge algOf b!"Digest realm=\"r\", nonce=\"n" = .error .badChallenge ∧
    parseChallenge algOf b!"Digest realm=\"r\", nonce=" = .error .badChallenge ∧
    parseChallenge algOf b!"Digest realm=\"r\", nonce=\"n\", algorithm=MD5 qop=auth" = .error .badChallenge ∧
    parseChallenge algOf b!"Digest realm=\"r\", nonce=\"n\", realm=\"r\"" = .error .badChallenge ∧
    parseChallenge algOf b!"Digest realm=\"r\", nonce=\"n\"" = .ok { realm := b!"r", nonce := b!"n" } := by decide +kernel

end Req.Props.C20
