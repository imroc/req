import Req.C03.GzipCut
import Req.Props.C03
/-!
C03 — gzip: every strict prefix of a compressed HTTP/1.1 response is an error, never a clean
shortened body — with the one exception that is the known finding `gzip-close-empty`.

The framing layer is the whole-stream HTTP/1.1 model (`parseFinal`), the decompressor the codec
`gzCodec` of `Req/C03/GzipCut.lean` (the toy codec of C14 behind a gzip-like header that is read
the way `gzip.NewReader` reads it).  The two laws used here — an error of the underlying body
surfaces (`gz_err_surfaces`), no strict non-empty prefix of a complete stream ends cleanly
(`gz_prefix_free`) — are about this toy codec; `Props/C03Enc.lean` has them for the container model
of `compress/gzip` over stored blocks (`gunzip_err_surfaces`, `gunzip_prefix_free`).  For
Huffman-coded blocks they are assumptions about external code.
-/
namespace Req.Props.C03Gzip
open Req.Proto Req.Compress Req.H1 Req.C03 Req.Props.C03

theorem gz_total_cons (a b : UInt8) (rest : Bytes) (fin : Term) :
    gzCodec.total ⟨a :: b :: rest, fin⟩ =
      if a = 31 ∧ b = 139 then Toy.codec.total ⟨rest, fin⟩ else ([], Toy.errCorrupt) := by
  by_cases hm : a = 31 ∧ b = 139
  · simp only [Codec.total, gzCodec, gzOpen, hm, and_self, if_true]; rfl
  · simp only [Codec.total, gzCodec, gzOpen, hm, if_false]

theorem restW_err_ne_eof (w : Bytes) (e : Nat) : (Toy.restW w (.err e)).2 ≠ .eof := by
  match w with
  | [] => simp [Toy.restW, Toy.trunc]
  | [k] => simp only [Toy.restW]; split <;> simp [Toy.trunc]
  | k :: b :: tl =>
    simp only [Toy.restW]
    split
    · simp [Toy.errCorrupt]
    · exact restW_err_ne_eof tl e

/-- An error of the underlying (framing-level) body is never turned into a
clean end by the decompressing reader, whatever was received before it. -/
theorem gz_err_surfaces (d : Bytes) (e : Nat) : (gzCodec.total ⟨d, .err e⟩).2 ≠ .eof := by
  match d with
  | [] => simp [Codec.total, gzCodec, gzOpen]
  | [a] => simp [Codec.total, gzCodec, gzOpen, Toy.trunc]
  | a :: b :: rest =>
    rw [gz_total_cons]
    split
    · rw [Toy.total_eq]; exact restW_err_ne_eof rest e
    · simp [Toy.errCorrupt]

/-- No strict, non-empty prefix of a complete compressed stream ends cleanly. -/
theorem gz_prefix_free (p : Bytes) (j : Nat) (hj0 : 0 < j) (hj : j < (gzEncode p).length) :
    (gzCodec.total ⟨(gzEncode p).take j, .eof⟩).2 ≠ .eof := by
  match j, hj0 with
  | 1, _ => simp [gzEncode, Codec.total, gzCodec, gzOpen, Toy.trunc, Toy.errUnexpectedEOF]
  | j + 2, _ =>
    simp only [gzEncode, List.take_succ_cons, List.length_cons] at hj ⊢
    rw [gz_total_cons]
    simp only [and_self, if_true]
    rw [Toy.truncated_is_error p j (by omega)]
    simp [Toy.errUnexpectedEOF]

/-- The round trip: the whole stream decodes to the payload and ends cleanly (non-vacuity). -/
theorem gz_roundtrip (p : Bytes) : gzCodec.total ⟨gzEncode p, .eof⟩ = (p, .eof) := by
  simp only [gzEncode]
  rw [gz_total_cons]
  simp only [and_self, if_true]
  exact Toy.roundtrip p

/-- The excluded point (known finding `gzip-close-empty`): on an EMPTY body that ends with a
clean `io.EOF` the constructor's `io.ReadFull` returns that `io.EOF`, and it is passed on: a clean
end with no data. -/
theorem gzip_close_empty_witness : gzCodec.total ⟨[], .eof⟩ = ([], .eof) := by decide

/-- Content-Length and chunked framing.  A complete response with
nothing after it, cut at ANY strict prefix: the call fails, or the decoded body ends with an error
— never a clean, shortened decoded body.  (No assumption on the compressed bytes is even needed:
the framing error reaches the caller through the decompressor.) -/
theorem gzip_cut_never_success {B : Nat} {s : Bytes} {m : Msg} {b : BodyRes}
    (h : parseFinal false B s = .resp m b) (hf : m.framing ≠ .untilClose) (hrest : b.rest = [])
    (k : Nat) (hk : k < s.length) :
    ∀ out t, gzOutcome B (s.take k) = some (out, t) → t ≠ .eof := by
  intro out t ho
  have hns := final_cut_never_success h hf hrest k hk
  unfold gzOutcome at ho
  cases hc : parseFinal false B (s.take k) with
  | reject => rw [hc] at ho; simp at ho
  | resp m' b' =>
    rw [hc] at ho hns
    simp only [Option.some.injEq] at ho
    have hok : b'.ok = false := by
      cases hb : b'.ok with
      | false => rfl
      | true => simp [Outcome.isSuccess, hb] at hns
    rw [hok] at ho
    have := gz_err_surfaces b'.data 10  -- `framingFin false = .err 10`
    simp only [framingFin, Bool.false_eq_true, if_false] at ho
    rw [ho] at this
    exact this

/-- A close-delimited response whose body is a complete compressed
stream, cut at any strict prefix: the call fails, or the decoded body ends with an error, or —
the excluded point — not a single byte of the body arrived (`gzip_close_empty_witness`). -/
theorem gzip_close_delimited_cut {B : Nat} {s : Bytes} {m : Msg} {b : BodyRes} (p : Bytes)
    (h : parseFinal false B s = .resp m b) (hf : m.framing = .untilClose) (hz : b.data = gzEncode p)
    (k : Nat) (hk : k < s.length) :
    parseFinal false B (s.take k) = .reject ∨
    ∃ b', parseFinal false B (s.take k) = .resp m b' ∧
      (b'.data = [] ∨ (gzCodec.total ⟨b'.data, framingFin b'.ok⟩).2 ≠ .eof) := by
  rcases cut_resp (fun _ => rfl) parseFinalHead_append h k with hr | ⟨r', hr, rfl⟩
  · exact .inl hr
  refine .inr ⟨_, hr, ?_⟩
  simp only [readBody, hf] at hz ⊢
  by_cases hr : r' = []
  · left; exact hr
  · right
    simp only [framingFin, if_true]
    have hlen : r'.length < (gzEncode p).length := by
      rw [← hz, List.length_append]
      have : 0 < (s.drop k).length := by rw [List.length_drop]; omega
      omega
    have hpre : r' = (gzEncode p).take r'.length := by rw [← hz]; simp
    rw [hpre]
    exact gz_prefix_free p r'.length (List.length_pos_iff.mpr hr) hlen

/-- `gzip_cut_never_success` with hypotheses that evaluation can check. -/
theorem gzip_cut_checked {B : Nat} {s : Bytes} {n : Nat} (hn : s.length = n)
    (h : (match parseFinal false B s with
      | .resp m b => decide (m.framing ≠ .untilClose) && b.rest.isEmpty
      | .reject => false) = true) (k : Nat) (hk : k < n) :
    (gzOutcome B (s.take k)).map (·.2) ≠ some .eof := by
  cases hs : parseFinal false B s with
  | reject => simp [hs] at h
  | resp m b =>
    simp only [hs, Bool.and_eq_true, decide_eq_true_eq, List.isEmpty_iff] at h
    have := gzip_cut_never_success hs h.1 h.2 k (hn ▸ hk)
    cases ho : gzOutcome B (s.take k) with
    | none => simp
    | some q => simpa using this q.1 q.2 ho

-- a Content-Length response carrying gzEncode "hi": success for the whole, an error for every strict prefix
example :
    let s : Bytes := [72,84,84,80,47,49,46,49,32,50,48,48,32,79,75,13,10,
      67,111,110,116,101,110,116,45,76,101,110,103,116,104,58,32,55,13,10,13,10,
      31,139,1,104,1,105,0]
    gzOutcome 4096 s = some ([104, 105], .eof) ∧
    ∀ k, k < s.length → (gzOutcome 4096 (s.take k)).map (·.2) ≠ some .eof :=
  ⟨by decide, gzip_cut_checked rfl (by decide)⟩

-- close-delimited (HTTP/1.0): cut right after the header block = the excluded point, success with no data;
-- one byte later: an error
example :
    let s : Bytes := [72,84,84,80,47,49,46,48,32,50,48,48,32,79,75,13,10,13,10,31,139,1,104,0]
    gzOutcome 4096 s = some ([104], .eof) ∧ gzOutcome 4096 (s.take 19) = some ([], .eof) ∧
    ∀ k, k < s.length → 19 < k → (gzOutcome 4096 (s.take k)).map (·.2) ≠ some .eof := by decide

end Req.Props.C03Gzip
