import Req.Lemmas.C18Bind
import Req.Lemmas.C18ErrAtt
import Req.Props.C18Finish
import Req.Props.C18Loop
/-!
C18 — property theorems: the call pipeline (`Req.Pipeline`, the model of
`Request.Do/do/Send/Get…/Must*`, `Client.roundTrip`, `WrapRoundTrip`, `handleDigestAuthFunc`).

`run fx s` is the caller-visible outcome of the scripted call `s` under code variant `fx`;
`(run fx s).atts` is the list of attempts, each with its invocation log. Theorems quantify
over ALL stacks: any number of middleware of each kind, any per-attempt behaviour of every
stage (succeed, return an error, set or clear `resp.Err`, short-circuit, drop or fabricate the
response), any transport outcome, any retry budget / retry verdicts, every entry point.
Unless a theorem says otherwise it holds for every code variant, in particular for the
repaired code `Fixes.all` that the model follows.
-/
namespace Req.Props.C18
open Req.Result Req.Pipeline

theorem run_att (fx : Fixes) (s : Stack) (i : Nat) (t : Att) (ht : (run fx s).atts[i]? = some t) :
    ∃ prev, t = attempt fx s i prev := by
  rw [run_atts] at ht; exact callDo_atts fx s i t ht

/-- In every attempt of every call the user request middleware run
first, in registration order; when one fails nothing else of the attempt happens (the attempt
returns that error, with the response object `do` held before); the built-in request
middleware block comes next, and only when all of them succeeded is anything else done:
wrappers entered, request built and sent (`send`), response middleware run. -/
theorem request_mw_order (fx : Fixes) (s : Stack) (i : Nat) (t : Att)
    (ht : (run fx s).atts[i]? = some t) :
    let n := s.udReq.length
    (∃ k e, k < n ∧ (s.udAt i)[k]? = some (.fail e) ∧ (∀ j, j < k → (s.udAt i)[j]? = some .ok) ∧
        t.evs = (List.range (k + 1)).map .udReq ++ [.raised e] ∧ t.returned = true ∧ t.err = some e) ∨
    ((∀ act ∈ s.udAt i, act = .ok) ∧
      ((∃ e, s.builtinAt i = .fail e ∧ t.evs = (List.range n).map .udReq ++ [.raised e] ∧
          t.returned = true ∧ t.err = some e) ∨
       (s.builtinAt i = .ok ∧ ∃ more, t.evs = (List.range n).map .udReq ++ .builtin :: more ∧
          ∀ e ∈ more, e.late = true))) := by
  obtain ⟨prev, rfl⟩ := run_att fx s i t ht
  have hlen : (s.udAt i).length = s.udReq.length := List.length_map _
  have hph := attempt_request_phase fx s i prev
  rw [hlen] at hph
  rcases hph with ⟨k, e, h1, h2, h3, h⟩ | ⟨hok, ⟨e, hb, h⟩ | ⟨hb, h⟩⟩ <;> rw [h]
  · exact .inl ⟨k, e, h1, h2, h3, rfl, rfl, rfl⟩
  · exact .inr ⟨hok, .inl ⟨e, hb, rfl, rfl, rfl⟩⟩
  · refine .inr ⟨hok, .inr ⟨hb, _, List.append_assoc _ (_ :: _) _, ?_⟩⟩
    refine List.forall_mem_append.mpr ⟨fun e he => ?_, fun e he => ?_⟩ <;> simp only [Ev.late, Bool.or_eq_true]
    · exact .inl (roundTrip_inRT s i e he)
    · exact .inr (reqRespLoop_inReqLoop fx s i _ _ _ _ e he)

/-- `late` events are neither request middleware nor the built-in block: the order theorem
really separates the two phases. -/
theorem late_not_request (e : Ev) (h : e.late = true) : e.isUdReq = false ∧ e ≠ .builtin := by
  cases e <;> simp_all [Ev.late, Ev.inRT, Ev.inReqLoop, Ev.isUdReq]

example : (run Fixes.all { udReq := [[.ok], [.fail (.stage 1)], [.ok]], transport := [.fail (.stage 2)] }).atts.map (·.evs)
    = [[.udReq 0, .udReq 1, .raised (.stage 1)]] := by decide

/-- In every attempt of every call there is at most one
exchange, and when the request was sent EVERY client-level response middleware runs after it,
exactly once, in registration order (whatever the transport outcome and whatever the earlier
middleware did); and once the request middleware succeeded the request-level response
middleware run in registration order, the loop ending early only when one returns an error. -/
theorem response_mw_every_attempt (fx : Fixes) (s : Stack) (i : Nat) (t : Att)
    (ht : (run fx s).atts[i]? = some t) :
    (t.evs.filter Ev.isExch = [] ∨
      t.evs.filter Ev.isExch = .send :: (List.range s.clientResp.length).map .cResp) ∧
    (.builtin ∈ t.evs →
      ∃ j, j ≤ s.reqResp.length ∧ (s.reqResp ≠ [] → 0 < j) ∧
        t.evs.filter Ev.isRResp = (List.range j).map .rResp ∧
        (j < s.reqResp.length → t.returned = true ∨ t.crash = true)) := by
  obtain ⟨prev, rfl⟩ := run_att fx s i t ht
  exact ⟨attempt_exchange fx s i prev, attempt_rresp fx s i prev⟩

example : (run Fixes.all { clientResp := [[.ret (.stage 1)], [.nop]], reqResp := [[.mw .nop]],
                           transport := [.fail (.stage 2), .fail (.stage 3)], maxRetries := 1 }).atts.map (·.evs.filter (!·.isRaised))
    = [[.builtin, .send, .cResp 0, .cResp 1, .rResp 0], [.builtin, .send, .cResp 0, .cResp 1, .rResp 0]] := by decide

/-- An attempt of any call whose transport exchange (or
GetBody) FAILED, whatever the wrapping round-trippers do with that: once the request middleware
succeeded, the request-level response middleware run all the same — in registration order, all
of them unless one returns an error, which then is the attempt's error and ends the call; the
digest middleware among them leaves the response alone; the response still carries no http
response, and `resp.Err` afterwards is what the last of them that assigned it left (`recErr`)
starting from SOME error `e0` — the statement does not say which; `reqRespLoop_nohttp` proves it
is the one recorded in the response that comes out of the nil guard. Together
with `response_mw_every_attempt` (client level: every one, every attempt): response middleware
of BOTH levels run after error attempts exactly as after answered ones. -/
theorem response_mw_runs_on_error_attempts (s : Stack) (i : Nat) (t : Att)
    (ht : (run Fixes.all s).atts[i]? = some t) (hb : .builtin ∈ t.evs)
    (hfail : s.getBodyAt i = true ∨ ∃ e, s.transportAt i = .fail e) :
    t.evs.filter Ev.isRResp = (List.range (ranUntilRet (s.reqRespAt i))).map .rResp ∧
    t.crash = false ∧
    (firstRet (s.reqRespAt i) = none → ranUntilRet (s.reqRespAt i) = s.reqResp.length ∧ t.returned = false) ∧
    (∀ e, firstRet (s.reqRespAt i) = some e → t.returned = true ∧ t.err = some e) ∧
    (∃ r e0, t.resp = some r ∧ r.http = none ∧ r.err = recErr (s.reqRespAt i) e0) := by
  obtain ⟨prev, rfl⟩ := run_att Fixes.all s i t ht
  rcases attempt_cases Fixes.all s i prev with ⟨k, e, h⟩ | ⟨_, _, h⟩ <;> rw [h] at hb ⊢
  · simp at hb
  simp only [show Fixes.all.nilGuard = true from rfl, if_true]
  obtain ⟨r, hr⟩ := nilGuard_some (roundTrip s i).resp (roundTrip s i).err
  have hnone : r.http = none :=
    nilGuard_keeps (I := fun r => r.http = none) (fun _ _ h => h) _ _ (fun _ => rfl)
      (runWrappers_keeps (fun _ _ h => h) (fun _ h _ => h) i _ (clientRoundTrip_nohttp s i hfail) _) r hr
  rw [hr]
  obtain ⟨l1, l2, l3, l4, r', l5, l6, l7⟩ := reqRespLoop_nohttp s i (s.reqRespAt i) 0 r (roundTrip s i).err hnone
  have hlen : (s.reqRespAt i).length = s.reqResp.length := List.length_map _
  refine ⟨?_, l2, fun hn => ⟨(ranUntilRet_all _ hn).trans hlen, (l4 hn).1⟩, l3, r', r.err, l5, l6, l7⟩
  rw [late_filter_rresp, l1, List.range_eq_range']

/-- An error the LAST request-level response middleware records (`resp.Err = e; return nil`) is
what `resp.Err` holds when the loop is over. -/
theorem recErr_last_set (pre : List RAct) (e : Err) (cur : Option Err) (h : firstRet pre = none) :
    recErr (pre ++ [.mw (.set e)]) cur = some e := by
  induction pre generalizing cur with
  | nil => rfl
  | cons act rest ih =>
    cases act with
    | digest ok re => exact ih cur (by simpa [firstRet] using h)
    | mw m =>
      cases m with
      | ret e' => simp [firstRet] at h
      | nop => exact ih cur (by simpa [firstRet] using h)
      | set e' => exact ih (some e') (by simpa [firstRet] using h)
      | clear => exact ih none (by simpa [firstRet] using h)

example : (run Fixes.all { reqResp := [[.mw .nop, .mw .nop], [.digest true (.fail (.stage 9)), .digest true (.fail (.stage 9))], [.mw (.set (.stage 5)), .mw .nop]],
                           transport := [.fail (.stage 2), .fail (.stage 3)], maxRetries := 1 }).atts.map (·.evs.filter Ev.isRResp)
    = [[.rResp 0, .rResp 1, .rResp 2], [.rResp 0, .rResp 1, .rResp 2]] := by decide

/-- The response a verb-style entry point hands back: the one `Do` returned, after the `OnError`
hook — which is handed the response and may rewrite `resp.Err` — if it fired. -/
def afterHook (s : Stack) (r : Resp) : Resp :=
  if s.entry ≠ .do_ ∧ (r.err.isSome && s.hook) = true then applyHook r s.hookAct else r

theorem afterHook_eq (s : Stack) (r : Resp) : ∃ e, afterHook s r = { r with err := e } := by
  unfold afterHook
  split
  · exact applyHook_eq r _
  · exact ⟨_, rfl⟩

/-- What the entry point makes of the response `r0` that `do` returned. -/
def handOn (s : Stack) (atts : List Att) (r0 : Resp) : Out :=
  match s.entry, (afterHook s r0).err with
  | .do_, _ => .ret (some r0) r0.err 0 atts
  | .must, some e => .mustPanic e (if (r0.err.isSome && s.hook) = true then 1 else 0) atts
  | _, _ => .ret (some (afterHook s r0)) (afterHook s r0).err (if (r0.err.isSome && s.hook) = true then 1 else 0) atts

/-- `run` by what `do` returned: a nil dereference (inside `do`, or `resp.Err` read on a nil
response), the script ran out, or the response `r0` handed on through the entry point. -/
theorem run_cases (fx : Fixes) (s : Stack) :
    (((callDo fx s).crash = true ∨ (callDo fx s).exhausted = false ∧ (callDo fx s).resp = none) ∧
      run fx s = .crash (callDo fx s).atts) ∨
    ((callDo fx s).crash = false ∧ (callDo fx s).exhausted = true ∧ run fx s = .exhausted (callDo fx s).atts) ∨
    ∃ r0, (callDo fx s).crash = false ∧ (callDo fx s).exhausted = false ∧ (callDo fx s).resp = some r0 ∧
      run fx s =
        handOn s (callDo fx s).atts r0 := by
  unfold run handOn afterHook
  generalize callDo fx s = d
  obtain ⟨atts, resp, err, crash, exh⟩ := d
  cases crash
  · cases exh
    · cases resp with
      | none => exact .inl ⟨.inr ⟨rfl, rfl⟩, rfl⟩
      | some r0 =>
        refine .inr (.inr ⟨r0, rfl, rfl, rfl, ?_⟩)
        simp only [Bool.false_eq_true, if_false]
        cases he : s.entry <;> simp <;>
          (try (generalize (if r0.err.isSome = true ∧ s.hook = true then applyHook r0 s.hookAct else r0) = x
                cases x.err <;> rfl))
    · exact .inr (.inl ⟨rfl, rfl, rfl⟩)
  · exact .inl ⟨.inl rfl, rfl⟩

/-- With the two nil repairs (nil guard, digest guard): the script ran out, or `do` returned a
response. -/
theorem run_guarded (fx : Fixes) (h1 : fx.nilGuard = true) (h2 : fx.digestRebind = true) (s : Stack) :
    ((callDo fx s).exhausted = true ∧ run fx s = .exhausted (callDo fx s).atts) ∨
    ∃ r0, (callDo fx s).exhausted = false ∧ (callDo fx s).resp = some r0 ∧
      run fx s = handOn s (callDo fx s).atts r0 := by
  obtain ⟨hc, hsome⟩ := callDo_guarded fx h1 h2 s
  rcases run_cases fx s with ⟨hcr | ⟨hx, hn⟩, _⟩ | ⟨_, hx, h⟩ | ⟨r0, _, hx, hr, h⟩
  · rw [hc] at hcr; cases hcr
  · have := hsome hx; rw [hn] at this; cases this
  · exact .inl ⟨hx, h⟩
  · exact .inr ⟨r0, hx, hr, h⟩

/-- No nil dereference in any code variant that has the nil guard and the digest guard; the
repair of `do`'s error wiring (`keepErr`) plays no part in it. -/
theorem never_panics_of_guards (fx : Fixes) (h1 : fx.nilGuard = true) (h2 : fx.digestRebind = true) (s : Stack) :
    (run fx s).isCrash = false := by
  rcases run_guarded fx h1 h2 s with ⟨_, h⟩ | ⟨r0, _, _, h⟩ <;> rw [h]
  · rfl
  · unfold handOn; split <;> rfl

/-- The script ran out under an unbounded retry (model artefact, see `Stack.fuel`). -/
def isExhausted : Out → Bool
  | .exhausted _ => true
  | _ => false

/-- With `MaxRetries ≥ 0` the number of attempts never exceeds `MaxRetries + 1`. -/
theorem attempts_bound (fx : Fixes) (s : Stack) (hb : s.unbounded = false) :
    (run fx s).atts.length ≤ s.maxRetries + 1 := by
  rw [run_atts]; exact callDo_atts_length fx s hb

/-- With `MaxRetries ≥ 0` the call always comes to an end. -/
theorem bounded_call_ends (fx : Fixes) (s : Stack) (hb : s.unbounded = false) :
    isExhausted (run fx s) = false := by
  have h := callDo_bounded_not_exhausted fx s hb
  rcases run_cases fx s with ⟨_, hr⟩ | ⟨_, hx, _⟩ | ⟨r0, _, _, _, hr⟩
  · rw [hr]; rfl
  · rw [h] at hx; cases hx
  · rw [hr, handOn]; split <;> rfl

/-- With a negative `MaxRetries` nothing bounds the attempts but the script itself. -/
theorem attempts_le_script (fx : Fixes) (s : Stack) : (run fx s).atts.length ≤ s.fuelFor := by
  rw [run_atts]; exact callDo_atts_le_fuel fx s

example : (run Fixes.all { unbounded := true, fuel := 5, transport := [.fail (.stage 1), .fail (.stage 2), .fail .ctxCanceled] }).atts.length = 3 := by
  decide
example : isExhausted (run Fixes.all { unbounded := true, fuel := 4, transport := [] }) = true := by decide

/-- The repaired pipeline never dereferences a nil response: for
every stack, including wrapping round-trippers that return `(nil, err)` or `(nil, nil)` on any
attempt with any retry budget, the digest middleware on whatever comes out of the wrappers, and
request middleware failing on a retry. (`Must*` panicking with the call's error is the
documented contract of those helpers, a different outcome: `Out.mustPanic`.) -/
theorem pipeline_never_panics (s : Stack) : (run Fixes.all s).isCrash = false :=
  never_panics_of_guards Fixes.all rfl rfl s

/-- The code as found DOES panic (DESIGN section 5 row 6): a wrapper returning `(nil, err)` with
one retry allowed. -/
theorem as_found_nil_resp_retry_panics :
    (run Fixes.none { entry := .verb, wrappers := [[.shortNil (.stage 1)]], maxRetries := 1 }).isCrash = true := by
  decide

/-- … and without any retry when the nil response reaches the digest middleware. -/
theorem as_found_nil_resp_digest_panics :
    (run Fixes.none { wrappers := [[.shortNil (.stage 1)]],
                      reqResp := [[.digest true (.fail (.stage 2))]] }).isCrash = true := by
  decide

/-- Every call that returns hands back a non-nil response, and
the error it returns is the one recorded in that response AT RETURN — also when the `OnError`
hook or a retry hook rewrote or cleared `resp.Err` (`Do` returns no error value: the model
reports `resp.Err`); a `Must*` call panics exactly with the error recorded after the hook ran, and
returns normally when the hook cleared it. Stated for the repaired code; the proof uses only the
nil guard and the digest guard (`run_guarded`). -/
theorem resp_nonnil_and_err_agree (s : Stack) :
    match run Fixes.all s with
    | .ret resp err _ _ => ∃ r, resp = some r ∧ err = r.err ∧ (s.entry = .must → err = none)
    | .mustPanic e _ _ => s.entry = .must ∧ ∃ r0, (callDo Fixes.all s).resp = some r0 ∧ (afterHook s r0).err = some e
    | .crash _ => False
    | .exhausted _ => s.unbounded = true := by
  rcases run_guarded Fixes.all rfl rfl s with ⟨hx, h⟩ | ⟨r0, _, hr0, h⟩ <;> rw [h]
  · cases hb : s.unbounded
    · rw [callDo_bounded_not_exhausted Fixes.all s hb] at hx; cases hx
    · rfl
  · unfold handOn
    cases he : s.entry <;> simp only []
    · exact ⟨r0, rfl, rfl, by simp⟩
    · exact ⟨_, rfl, rfl, by simp⟩
    · exact ⟨_, rfl, rfl, by simp⟩
    · cases hre : (afterHook s r0).err with
      | none => exact ⟨_, rfl, by simp [hre], by simp⟩
      | some e => exact ⟨trivial, r0, hr0, hre⟩

/-- For EVERY behaviour of the hooks (the `OnError`
hook replacing `resp.Err` by another error, clearing it, or leaving it; retry hooks doing the
same on any attempt) and every other stage, entry point and loop script: the error a call
returns is the error recorded in the response it returns, and a `Must*` call panics iff an error
is recorded after the hook ran, with exactly that error. -/
theorem recorded_equals_returned_after_hooks (s : Stack) (h : HookAct) (rh : List HookAct) :
    match run Fixes.all { s with hookAct := h, retryHooks := rh } with
    | .ret resp err _ _ => ∃ r, resp = some r ∧ err = r.err
    | .mustPanic e _ _ => ∃ r0, (callDo Fixes.all { s with hookAct := h, retryHooks := rh }).resp = some r0 ∧
        (afterHook { s with hookAct := h, retryHooks := rh } r0).err = some e
    | .crash _ => False
    | .exhausted _ => s.unbounded = true := by
  have := resp_nonnil_and_err_agree { s with hookAct := h, retryHooks := rh }
  revert this
  cases run Fixes.all { s with hookAct := h, retryHooks := rh } with
  | ret resp err hooks atts => rintro ⟨r, h1, h2, _⟩; exact ⟨r, h1, h2⟩
  | mustPanic e hooks atts => rintro ⟨_, r0, h1, h2⟩; exact ⟨r0, h1, h2⟩
  | crash atts => exact id
  | exhausted atts => exact id

/-- the hook translates the error: the caller gets the translated one, recorded and returned -/
example : run Fixes.all { entry := .verb, hook := true, hookAct := .set (.stage 9), transport := [.fail (.stage 1)] }
    matches .ret (some { err := some (.stage 9), .. }) (some (.stage 9)) 1 _ := by decide
/-- the hook recovers: no error returned, none recorded, `Must*` does not panic -/
example : run Fixes.all { entry := .must, hook := true, hookAct := .clear, transport := [.fail (.stage 1)] }
    matches .ret (some { err := none, .. }) none 1 _ := by decide

/-- The same for a call whose attempt loop is unbounded (`SetRetryCount(-1)`), whose context is
cancelled mid-flight or done while waiting: every outcome script that lets the call end. -/
example : run Fixes.all { entry := .verb, hook := true, unbounded := true, fuel := 9,
                          transport := [.fail (.stage 1), .fail (.stage 2)], ctxDone := [false, true] }
    matches .ret (some { err := some .ctxDone, .. }) (some .ctxDone) 1 [_, _] := by decide

/-- The error hook runs exactly once when a verb-style call (`Send`, `Get`,
`Post`, … and the `Must*` helpers built on them) ends in error and a hook is installed, and
never otherwise: not for `Do`, not for a call without error, not once per attempt or per
failing stage. Holds for every code variant. -/
theorem onError_once (fx : Fixes) (s : Stack) :
    let doErr := (callDo fx s).resp.bind (·.err)      -- the error `Do` ended with, before any hook
    match run fx s with
    | .ret _ _ hooks _ => hooks = if s.entry ≠ .do_ ∧ s.hook = true ∧ doErr ≠ none then 1 else 0
    | .mustPanic _ hooks _ => hooks = if s.hook = true ∧ doErr ≠ none then 1 else 0
    | .crash _ => True
    | .exhausted _ => True := by
  intro doErr
  rcases run_cases fx s with ⟨_, h⟩ | ⟨_, _, h⟩ | ⟨r0, _, _, hr, h⟩ <;> rw [h]
  · trivial
  · trivial
  · have hd : doErr = r0.err := by simp [doErr, hr]
    have hn : (if (r0.err.isSome && s.hook) = true then 1 else 0) =
        if s.hook = true ∧ r0.err ≠ none then 1 else 0 := by
      cases r0.err <;> cases s.hook <;> rfl
    rw [hd, handOn, hn]
    cases s.entry
    case must => cases (afterHook s r0).err <;> simp
    all_goals simp

example : run Fixes.all { entry := .verb, hook := true, maxRetries := 2, clientResp := [[.ret (.stage 1), .ret (.stage 1), .ret (.stage 1)]],
                          transport := [.fail (.stage 2)] } matches .ret _ (some (.stage 1)) 1 [_, _, _] := by decide
example : run Fixes.all { entry := .do_, hook := true, transport := [.fail (.stage 2)] } matches .ret _ (some (.stage 2)) 0 _ := by decide

/-- The error the caller sees: returned by `Send`/verbs, read from `resp.Err` after `Do`, or the
panic value of `Must*`. -/
def callErr : Out → Option Err
  | .ret _ err _ _ => err
  | .mustPanic e _ _ => some e
  | .crash _ => none
  | .exhausted _ => none

/-- Whatever the entry point: the caller sees the error recorded after the hook ran. -/
theorem callErr_handOn (s : Stack) (atts : List Att) (r0 : Resp) :
    callErr (handOn s atts r0) = (afterHook s r0).err := by
  unfold handOn
  cases he : s.entry
  case do_ => rw [afterHook, if_neg fun h => h.1 he]; rfl
  case must => cases (afterHook s r0).err <;> rfl
  all_goals rfl

theorem afterHook_nop (s : Stack) (r : Resp) (h : s.hookAct = .nop) : afterHook s r = r := by
  unfold afterHook; split <;> simp [h, applyHook]

/-- For every stack in which no stage deliberately suppresses an
error (`Loud`: no middleware clears `resp.Err`, no wrapper swallows the inner error or answers
`(nil, nil)`), whose `OnError` and retry hooks leave `resp.Err` alone (`hh`, `hrh`) and whose
script lets the call end (`hend`): (1) if ANY stage of the final attempt raised an error — a request middleware, the
built-in block, GetBody, the transport, reading or unmarshalling the body, a client-level or
request-level response middleware returning an error or setting `resp.Err`, a wrapper, the
digest middleware — the caller sees an error; (2) the error the caller sees is one that a stage
raised during the call, or the context's error assigned by the wait before a retry, or the
builder / unreplayable-body error of `Do`, before any attempt.
Which one wins when several stages fail is stated by the `precedence_*` theorems. -/
theorem stage_error_is_seen (s : Stack) (hl : s.Loud) (hend : isExhausted (run Fixes.all s) = false)
    (hh : s.hookAct = .nop) (hrh : ∀ a, s.retryHookAt a = .nop) :
    (∀ tl, (run Fixes.all s).atts.getLast? = some tl → raisedOf tl.evs ≠ [] →
        callErr (run Fixes.all s) ≠ none) ∧
    (∀ e, callErr (run Fixes.all s) = some e →
        e ∈ allRaised (run Fixes.all s).atts ∨ e = .ctxDone ∨
        ((run Fixes.all s).atts = [] ∧ (e = .builder ∨ e = .unreplayable))) := by
  rcases run_guarded Fixes.all rfl rfl s with ⟨_, h⟩ | ⟨r, hex, hr, h⟩
  · rw [h] at hend; cases hend
  have hce : callErr (run Fixes.all s) = r.err := by rw [h, callErr_handOn, afterHook_nop s r hh]
  rw [run_atts, hce]
  rcases callDo_cases Fixes.all s with ⟨e0, he0, hcd⟩ | hcd
  · rw [hcd] at hr ⊢
    simp only [Option.some.injEq] at hr; subst hr
    refine ⟨by simp, ?_⟩
    intro e he
    simp only [Option.some.injEq] at he; subst he
    exact Or.inr (Or.inr ⟨rfl, he0⟩)
  · rw [hcd] at hr hex ⊢
    obtain ⟨r', tl, h1, h2, h3, h4⟩ := doLoop_seen s hl hrh s.fuelFor 0 none hex
    rw [h1] at hr; cases hr
    refine ⟨?_, ?_⟩
    · intro tl' htl; rw [h2] at htl; cases htl; exact h3
    · intro e he
      rcases h4 e he with h | h | h
      · exact Or.inl h
      · simp at h
      · exact Or.inr (Or.inl h)

/-- Corollary: when every error raised during the call is the same `e` and the final attempt
raised it, the caller sees `e` — or the context's error, assigned by the wait before a retry. -/
theorem single_error_is_the_error (s : Stack) (hl : s.Loud) (hend : isExhausted (run Fixes.all s) = false)
    (hh : s.hookAct = .nop) (hrh : ∀ a, s.retryHookAt a = .nop)
    (hctx : ∀ a, s.ctxDoneAt a = false) (e : Err) (tl : Att)
    (hlast : (run Fixes.all s).atts.getLast? = some tl) (hraised : raisedOf tl.evs ≠ [])
    (hsame : ∀ e' ∈ allRaised (run Fixes.all s).atts, e' = e) :
    callErr (run Fixes.all s) = some e ∨ callErr (run Fixes.all s) = some .ctxDone := by
  obtain ⟨h1, h2⟩ := stage_error_is_seen s hl hend hh hrh
  have hne := h1 tl hlast hraised
  cases hc : callErr (run Fixes.all s) with
  | none => exact absurd hc hne
  | some e' =>
    rcases h2 e' hc with h | h | ⟨h, _⟩
    · left; rw [hsame e' h]
    · right; rw [h]
    · rw [h] at hlast; simp at hlast

example : callErr (run Fixes.all { udReq := [[.ok, .fail (.stage 7)]], transport := [.fail (.stage 7)], maxRetries := 1 })
    = some (.stage 7) := by decide

/-- a non-trivial stack satisfying the hypothesis of `stage_error_is_seen` -/
def exLoud : Stack :=
  { udReq := [[.ok], [.ok, .fail (.stage 2)]],
    wrappers := [[.postErr (.stage 3)], [.pass, .shortNil (.stage 4)]],
    transport := [.resp { status := 500, ct := [], custom := none, readOK := true, jsonOK := false, xmlOK := false }, .fail (.stage 5)],
    clientResp := [[.set (.stage 6)]],
    reqResp := [[.mw (.ret (.stage 7))], [.digest true (.fail (.stage 8))]],
    errorTarget := true,
    maxRetries := 1 }

example : exLoud.Loud := by unfold Stack.Loud; decide
example : callErr (run Fixes.all exLoud) = some (.stage 6) := by decide

/-- Without the repair of request.go `do` (DESIGN section 5 row 4) an error IS lost: a wrapper
returns `(resp, err)` without recording `err`, a request-level middleware returns nil. -/
theorem as_found_error_lost :
    callErr (run Fixes.none
      { entry := .verb,
        wrappers := [[.postErr (.stage 1)]],
        transport := [.resp { status := 200, ct := [], custom := none, readOK := true, jsonOK := true, xmlOK := true }],
        reqResp := [[.mw .nop]] }) = none := by decide

/-- Every client-level response middleware runs and the LAST one
that returns an error (or assigns `resp.Err`) decides, also over a transport or unmarshalling
error recorded before. -/
theorem precedence_client_loop_last_wins (acts : List RespAct) :
    ∀ i r, (clientLoop i acts r).1.err = acts.foldl clientActErr r.err :=
  fun i r => by rw [clientLoop_fst]

/-- When the request-level response middleware at hand returns an error the loop ends there
(whatever `rest` is); the caller sees the error ALREADY RECORDED in `resp.Err` (transport,
unmarshalling, client-level middleware, wrapper) if there is one, else the middleware's. -/
theorem precedence_recorded_over_returned (fx : Fixes) (s : Stack) (a i : Nat) (e : Err) (rest : List RAct)
    (r : Resp) (err : Option Err) :
    (reqRespLoop fx s a i (.mw (.ret e) :: rest) (some r) err).seen = orE r.err (some e) := by
  simp [reqRespLoop, stageStep, Att.seen]

/-- A wrapper that returns its own error without recording it loses
against an error the inner round trip recorded in the response it passes on. -/
theorem precedence_recorded_over_wrapper (a i : Nat) (core : RT) (e : Err) (rest : List (Nat × WAct)) :
    (runWrappers a core ((i, .postErr e) :: rest)).carried =
      orE ((runWrappers a core rest).resp.bind (·.err)) (some e) := by
  simp [runWrappers, RT.carried]

/-- A request middleware failing on a retry
returns the response of the previous attempt; the caller sees the error that response already
records, if any, else the middleware's error. -/
theorem precedence_previous_over_request_mw (fx : Fixes) (s : Stack) (a : Nat) (prev : Option Resp) (k : Nat) (e : Err)
    (hk : (s.udAt a)[k]? = some (.fail e)) (hbefore : ∀ j, j < k → (s.udAt a)[j]? = some .ok) :
    (attempt fx s a prev).seen = orE (prev.bind (·.err)) (some e) := by
  rcases attempt_request_phase fx s a prev with ⟨k', e', _, h2, h3, h⟩ | ⟨hok, _⟩
  · have : k' = k := by
      rcases Nat.lt_trichotomy k' k with h | h | h
      · have := hbefore k' h; rw [h2] at this; cases this
      · exact h
      · have := h3 k h; rw [hk] at this; cases this
    subst this
    rw [h2] at hk; cases hk
    rw [h]; rfl
  · have := hok _ (List.mem_of_getElem? hk); cases this

/-- The response object handed to the caller. -/
def callResp : Out → Option Resp
  | .ret r _ _ _ => r
  | _ => none

theorem callResp_callDo (fx : Fixes) (s : Stack) (r : Resp) (h : callResp (run fx s) = some r) :
    ∃ r0, (callDo fx s).resp = some r0 ∧ r = afterHook s r0 ∧ callErr (run fx s) = r.err := by
  rcases run_cases fx s with ⟨_, hr⟩ | ⟨_, _, hr⟩ | ⟨r0, _, _, hr0, hr⟩ <;> rw [hr] at h ⊢
  · cases h
  · cases h
  · have : r = afterHook s r0 := by
      unfold handOn at h
      cases he : s.entry <;> simp only [he] at h
      · cases h; simp [afterHook, he]
      · cases h; rfl
      · cases h; rfl
      · cases hre : (afterHook s r0).err <;> rw [hre] at h <;> cases h
        rfl
    exact ⟨r0, hr0, this, by rw [callErr_handOn, this]⟩

/-- The hooked response reports no error although the hook did not clear one: `Do` reported none. -/
theorem afterHook_err_none (s : Stack) (r0 : Resp) (h : (afterHook s r0).err = none) (hcl : s.hookAct ≠ .clear) :
    r0.err = none := by
  unfold afterHook at h
  split at h
  · cases ha : s.hookAct with
    | nop => rw [ha] at h; exact h
    | set e => rw [ha] at h; simp [applyHook] at h
    | clear => exact absurd ha hcl
  · exact h

/-- The slots of the response a call returns agree with the http response it carries whenever
the call reports no error (and not merely because the hook cleared one); otherwise they do so
or are empty. -/
theorem callResp_agrees (s : Stack) (r : Resp) (hr : callResp (run Fixes.all s) = some r) :
    (Agrees s r ∨ r.slots = {}) ∧ (r.err = none → s.hookAct ≠ .clear → Agrees s r) := by
  obtain ⟨r0, hr0, rfl, _⟩ := callResp_callDo _ s r hr
  obtain ⟨e, he⟩ := afterHook_eq s r0
  rcases callDo_final s r0 hr0 with ha | ⟨h1, h2⟩
  · have ha' : Agrees s (afterHook s r0) := he ▸ (agrees_kept s).err r0 e ha
    exact ⟨.inl ha', fun _ _ => ha'⟩
  · exact ⟨.inr (by rw [he]; exact h1), fun hn hcl => absurd (afterHook_err_none s r0 hn hcl) h2⟩

/-- On the response any call returns, for every stack: if
the success result is populated then a target was supplied and the http response the caller
holds is in the success state, is not a 204, reads and unmarshals; and whenever the call
reports no error the converse holds too. -/
theorem success_bound_call (s : Stack) (r : Resp) (hr : callResp (run Fixes.all s) = some r) :
    (r.slots.result = true → ∃ h, r.http = some h ∧ SuccessRHS s h) ∧
    (r.err = none → s.hookAct ≠ .clear → (r.slots.result = true ↔ ∃ h, r.http = some h ∧ SuccessRHS s h)) := by
  obtain ⟨h1, h2⟩ := callResp_agrees s r hr
  refine ⟨fun hres => ?_, fun he hcl => (h2 he hcl).1⟩
  rcases h1 with ha | h0
  · exact ha.1.mp hres
  · rw [h0] at hres; cases hres

/-- Likewise for the error result: the request-level target
when one was supplied, an object of the client-level common error type only when none was. -/
theorem error_bound_call (s : Stack) (r : Resp) (hr : callResp (run Fixes.all s) = some r) :
    (r.slots.error = some .errorReq → ∃ h, r.http = some h ∧ ErrReqRHS s h) ∧
    (r.slots.error = some .errorCommon → ∃ h, r.http = some h ∧ ErrCommonRHS s h) ∧
    r.slots.error ≠ some .success ∧
    (r.err = none → s.hookAct ≠ .clear →
      (r.slots.error = some .errorReq ↔ ∃ h, r.http = some h ∧ ErrReqRHS s h) ∧
      (r.slots.error = some .errorCommon ↔ ∃ h, r.http = some h ∧ ErrCommonRHS s h)) := by
  obtain ⟨h1, h2⟩ := callResp_agrees s r hr
  have h3 : (r.slots.error = some .errorReq → ∃ h, r.http = some h ∧ ErrReqRHS s h) ∧
      (r.slots.error = some .errorCommon → ∃ h, r.http = some h ∧ ErrCommonRHS s h) ∧
      r.slots.error ≠ some .success := by
    rcases h1 with ha | h0
    · exact ⟨ha.2.1.mp, ha.2.2.1.mp, ha.2.2.2⟩
    · rw [h0]; exact ⟨nofun, nofun, nofun⟩
  exact ⟨h3.1, h3.2.1, h3.2.2, fun he hcl => ⟨(h2 he hcl).2.1, (h2 he hcl).2.2.1⟩⟩

/-- No call ever returns a response with both the success result
and the error result populated. -/
theorem never_both_call (s : Stack) (r : Resp) (hr : callResp (run Fixes.all s) = some r) :
    ¬ (r.slots.result = true ∧ r.slots.error ≠ none) := by
  intro ⟨h1, h2⟩
  obtain ⟨h, hh, _, hsuccess, _⟩ := (success_bound_call s r hr).1 h1
  obtain ⟨e1, e2, e3, _⟩ := error_bound_call s r hr
  -- an error result means the error state, the success result the success state
  have clash : ∀ h', r.http = some h' → stateOf h' = .error → False := by
    intro h' hh' herr
    cases hh.symm.trans hh'
    rw [hsuccess] at herr; cases herr
  rcases hse : r.slots.error with _ | t
  · exact h2 hse
  · cases t
    · exact e3 hse
    · obtain ⟨h', hh', _, herr, _⟩ := e1 hse
      exact clash h' hh' herr
    · obtain ⟨h', hh', _, _, herr, _⟩ := e2 hse
      exact clash h' hh' herr

def exHttp (status : Int) (jsonOK : Bool) : Http :=
  { status := status, ct := [], custom := none, readOK := true, jsonOK := jsonOK, xmlOK := false }

/-- digest: 401 then 200, success and error targets supplied -/
def exDigest : Stack :=
  { successTarget := true,
    errorTarget := true,
    transport := [.resp (exHttp 401 true)],
    reqResp := [[.digest true (.resp (exHttp 200 true))]] }

example : (callResp (run Fixes.all exDigest)).map (fun r => (r.tag, r.slots)) = some (1, { result := true, error := none }) := by
  decide

/-- The digest middleware as found returns the final 200 (exchange tag 1, success state) with the
SUCCESS result empty and the ERROR result bound from the 401 — `success_bound_call` fails for
the code as found (`fixes/C18-1-digest-rebind.patch`). -/
theorem as_found_digest_stale_binding :
    (callResp (run Fixes.none exDigest)).map (fun r => (r.tag, r.err, r.slots)) =
      some (1, none, { result := false, error := some .errorReq }) := by
  decide

theorem clientLoop_nop (acts : List RespAct) (h : ∀ m ∈ acts, m = .nop) : ∀ i r, (clientLoop i acts r).1 = r := by
  induction acts with
  | nil => exact fun _ _ => rfl
  | cons m rest ih =>
    intro i r
    rw [h m List.mem_cons_self]
    exact ih (fun m hm => h m (List.mem_cons_of_mem _ hm)) _ _

theorem mem_of_mem_raisedOf {e : Err} {evs : List Ev} (h : e ∈ raisedOf evs) : .raised e ∈ evs := by
  obtain ⟨x, hx, hxe⟩ := List.mem_filterMap.mp h
  cases x <;> cases hxe
  exact hx

theorem selectTarget_congr (i j : BindIn) (h1 : i.http = j.http) (h2 : i.successTarget = j.successTarget)
    (h3 : i.errorTarget = j.errorTarget) (h4 : i.commonErr = j.commonErr) : selectTarget i = selectTarget j := by
  unfold selectTarget; rw [h1, h2, h3, h4]

/-- The target `parseResponseBody` selects for an http response `h` under the targets of `s`. -/
def targetFor (s : Stack) (h : Http) : Option Target :=
  selectTarget (bindIn s { origin := .synth, http := some h })

/-- Output set or not, at every site: the fresh response
of an exchange for which a target is selected, whose body reads but does not unmarshal, comes
out of `finish` with nothing bound and WITH an error: the unmarshalling error, unless — client
loop only — writing the output fails as well, which is recorded after it. -/
theorem finish_unmarshal_failure_surfaces (site : Site) (s : Stack) (a : Nat) (r1 : Resp) (h : Http) (t : Target)
    (hh : r1.http = some h) (he : r1.err = none) (hc : r1.bodyCached = false) (hs : r1.slots = {})
    (hsel : targetFor s h = some t) (hread : h.bodyOK = true) (hbad : codecOK h = false) :
    let f := finish site s a r1
    f.parse = some .unmarshal ∧ f.resp.slots = {} ∧
    (Fin.error site f = some .unmarshal ∨
      (∃ e, site = .clientLoop ∧ f.save = some e ∧ Fin.error site f = some e)) := by
  obtain ⟨a1, a2, a3⟩ := autoRead_ready s r1 h hh he hc
  have hready := a3.mpr hread
  have hsel' : selectTarget (bindIn s (autoRead s r1).1) = some t := by
    rw [← hsel]; unfold targetFor
    exact selectTarget_congr _ _ (by simp [bindIn, a1]) rfl rfl rfl
  obtain ⟨u1, u2⟩ := unmarshal_failure_surfaces (bindIn s (autoRead s r1).1) h t (by simp [bindIn, a1]) hsel' hready.1 hready.2 hbad
  have hp : (parseResp s (autoRead s r1).1).ret = some .unmarshal := u1
  have hsl : (parseResp s (autoRead s r1).1).resp.slots = {} := by
    show (parseBody (bindIn s (autoRead s r1).1)).slots = {}
    rw [u2]; simp [bindIn, a2, hs]
  obtain ⟨b1, b2⟩ := finish_binds_like_parse site s a r1
  obtain ⟨_, n2, _⟩ := finish_no_failure_is_lost site s a r1
  refine ⟨b2.trans hp, b1.trans hsl, ?_⟩
  cases hsv : (finish site s a r1).save with
  | none => left; exact n2 _ (b2.trans hp) hsv
  | some e =>
    cases site with
    | digestTail =>
      obtain ⟨_, _, hnosave, _⟩ := (finish_error_is_first_failure s a r1).1 _ (b2.trans hp)
      rw [hnosave] at hsv; cases hsv
    | clientLoop =>
      have hrec := (finish_clientLoop_err s a r1).1
      rw [hsv] at hrec
      simp only at hrec
      right; exact ⟨e, rfl, rfl, hrec⟩

/-- On any attempt of any stack: when the
transport answers with a response for which a target is selected, whose body reads but does
not unmarshal, `Client.roundTrip` returns the unmarshalling error, records it in `resp.Err` and
binds nothing — provided no later client-level middleware overrides it (last error wins, see
`precedence_client_loop_last_wins`). By `stage_error_is_seen` the caller then sees an error. -/
theorem unmarshal_failure_surfaces_roundtrip (s : Stack) (a : Nat) (h : Http) (t : Target)
    (hg : s.getBodyAt a = false) (ht : s.transportAt a = .resp h) (hsel : targetFor s h = some t)
    (hread : h.bodyOK = true) (hbad : codecOK h = false) (hquiet : ∀ m ∈ s.clientAt a, m = .nop)
    (hsave : s.save = false) :
    (clientRoundTrip s a).err = some .unmarshal ∧
    ∃ r, (clientRoundTrip s a).resp = some r ∧ r.err = some .unmarshal ∧ r.slots = {} ∧
      .raised .unmarshal ∈ (clientRoundTrip s a).evs := by
  have hex : exchange s a = ({ origin := .roundTrip a, http := some h, tag := 2 * a }, []) := by
    unfold exchange; rw [ht]
  obtain ⟨_, f2, f3⟩ := finish_unmarshal_failure_surfaces .clientLoop s a (exchange s a).1 h t
    (by rw [hex]) (by rw [hex]) (by rw [hex]) (by rw [hex]) hsel hread hbad
  -- no output is set: the save step returns nothing
  have hsv : (finish .clientLoop s a (exchange s a).1).save = none := by
    rw [finish_eq]
    dsimp only []
    cases Site.saves .clientLoop s a _ _
    · rfl
    · rw [cond_true, saveStep_snd]
      unfold saveErr
      split
      · rfl
      · exact if_pos hsave
  have herr : (finish .clientLoop s a (exchange s a).1).resp.err = some .unmarshal := by
    rcases f3 with h | ⟨e, _, he, _⟩
    · exact h
    · rw [hsv] at he; cases he
  -- the event is there because the error is: the error contract of the round trip
  have hc := Carry.of_step (clientRoundTrip_step s a fun m hm => by rw [hquiet m hm]; rfl)
  rw [client_round_trip_finishes s a hg] at hc ⊢
  dsimp only [] at hc ⊢
  rw [clientLoop_nop _ hquiet 0 _] at hc ⊢
  exact ⟨herr, _, rfl, herr, f2, mem_of_mem_raisedOf (hc.2 _ (by rw [RT.carried, Option.bind_some, herr]; rfl))⟩

end Req.Props.C18
