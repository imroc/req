import Req.Pool.AltSvcClient
/-!
# C12 — a clone starts with NO Alt-Svc state, whatever the original had learned

`Transport.Clone` gives the copy its own (empty) Alt-Svc jar and pending map (through
`EnableHTTP3`): a pending entry carries the ORIGINAL's HTTP/3 round tripper
(`pendingAltSvc.Transport`), so sharing it would send the clone's requests through the
original's transport and TLS settings (the trial change `seeded/C12-r5-3`). Model: `Req.Pool.AltSvc.cstep` with the
setter `clone` (`altAfter`). Tied to the code by lane `c12altsm` (Clone at any point of an
Alt-Svc event sequence: nothing learned, pending, confirmed).
-/
namespace Req.Props.C12
open Req.Pool.AltSvc Req.Pool.Dispatch

/-- Whatever the original's Alt-Svc state (nothing, a pending
advertisement — ready or not —, a confirmed entry) and settings: the first request the clone
makes for ANY origin is dispatched normally — over the clone's own stacks with the clone's
TLS settings — never through an alternative the original learned; and its state stays empty. -/
theorem clone_altsvc_separate (sup : Bool) (c : Client) (o : Origin) (now : Nat) (ok : Bool) :
    let cl := (cstep sup c (.setting .clone)).1
    (cstep sup cl (.alt (.request o now ok))).2 = some .normal
    ∧ ∀ o' now', usable (cstep sup cl (.alt (.request o now ok))).1.alt o' now' = false := by
  simp only [cstep, altAfter]
  by_cases hc : consults (applySetting sup c.cfg .clone) o
  · simp [hc, step, viaJar, jarPurge, jarExpired, State.empty, usable, jarLive]
  · simp [hc, usable, State.empty, jarLive]

/-- The clone learns for itself: after its OWN header and dial it has its own pending entry. -/
example : (usable (crun true Client.init
    [.setting .enableH3, .setting .clone, .setting .enableH3,
     .alt (.header ⟨.https, 1, 443⟩ 0 [none]), .alt (.dialed ⟨.https, 1, 443⟩ [true])]).alt ⟨.https, 1, 443⟩ 1) = true := by
  decide +kernel

/-- The original had a ready pending entry; its clone has none. -/
example :
    let orig := crun true Client.init
      [.setting .enableH3, .alt (.header ⟨.https, 1, 443⟩ 0 [none]), .alt (.dialed ⟨.https, 1, 443⟩ [true])]
    usable orig.alt ⟨.https, 1, 443⟩ 1 = true
    ∧ usable (cstep true orig (.setting .clone)).1.alt ⟨.https, 1, 443⟩ 1 = false := by
  decide +kernel

end Req.Props.C12
