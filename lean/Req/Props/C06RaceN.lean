import Req.Props.C06Race
/-!
C06 — several SETTINGS frames inside one race window.

`race_tolerated` / `race_breaks_only` cover ONE SETTINGS frame processed and acknowledged
between "a DATA frame is sized under `cc.mu`" and "it is written under `cc.wmu`". A body writer
can be off the CPU for longer: `NOp.writeRacedN id frames` (module `Req.H2.RaceN`) lets the read loop process and
acknowledge ANY NUMBER of SETTINGS frames in that window; `openRacedN r vals more` does the same
between the admission of a request and the write of its header block. The verdicts stay the same
three.

The proof (`Req.Lemmas.C06RaceN.race_seq`) is an induction over the frames of the window that
carries the books of the atomic order "DATA first, then all the SETTINGS so far" (booking a DATA
frame commutes with every acknowledgement: `debit_foldl` over the concatenated settings) and the
fact that the tolerant monitor's grace values for the stream never drop below what was in force
when the frame was sized. For a new stream (`open_seq`): the stream limit the tolerant monitor has
noted since the last new stream only grows from acknowledgement to acknowledgement.
-/
namespace Req.Props.C06
open Req.H2 Req.H2.Flow Req.H2.Conn Req.H2.Monitor Req.H2.Race Req.Lemmas.C06

/-- every history of the two-phase machine with any number of SETTINGS frames inside a DATA frame's
or a new stream's race window is accepted by the race-tolerant reading of the strict peer, and no
SETTINGS frame is left unacknowledged. -/
theorem race_tolerated_n (cfg : Cfg) (hfix : cfg.fixes = Fixes.all) (ops : List NOp) (hops : ∀ op ∈ ops, op.ok) :
    ∃ t, Tolerant.run Tolerant.init (nrun cfg ops).2 = .ok t ∧ t.m.final = .ok () :=
  race_nrun cfg hfix ops hops

/-- the strict peer accepts such a history, or rejects it with `frame-size`,
`stream-window-exceeded` or `max-concurrent-streams` — however many SETTINGS frames were
acknowledged between the decision and the write. -/
theorem race_breaks_only_n (cfg : Cfg) (hfix : cfg.fixes = Fixes.all) (ops : List NOp) (hops : ∀ op ∈ ops, op.ok) :
    (∃ m, Send.run Send.init (nrun cfg ops).2 = .ok m ∧ m.final = .ok ()) ∨
    ∃ r, Send.run Send.init (nrun cfg ops).2 = .error r ∧
      (r = "frame-size" ∨ r = "stream-window-exceeded" ∨ r = "max-concurrent-streams") :=
  strict_verdict (race_tolerated_n cfg hfix ops hops)

/-- a 32768-octet frame is sized under MAX_FRAME_SIZE 32768 and a window of 65535; the peer lowers
MAX_FRAME_SIZE to 16384 (acknowledged), then INITIAL_WINDOW_SIZE to 100 (acknowledged); the frame
is written -/
def raceTwoFrames : List NOp :=
  [.r (.plain (.peer (.settings [(sMaxFrameSize, 32768)]))), .r (.plain (.openStream 40 60000 true)),
   .r (.plain (.feed 1 0)), .writeRacedN 1 [[(sMaxFrameSize, 16384)], [(sInitialWindowSize, 100)]]]

/-- … and a window in which the second frame takes the first one back (INITIAL_WINDOW_SIZE 4096,
then 65535): the strict peer has nothing to object to -/
def raceUndone : List NOp :=
  [.r (.plain (.peer (.settings []))), .r (.plain (.openStream 40 60000 true)),
   .r (.plain (.feed 1 0)), .writeRacedN 1 [[(sInitialWindowSize, 4096)], [(sInitialWindowSize, 65535)]]]

/-- a request is admitted under MAX_CONCURRENT_STREAMS = 1; the peer raises the limit to 5
(acknowledged), then lowers it to 0 (acknowledged); the HEADERS are written -/
def raceOpenTwoFrames : List NOp :=
  [.r (.plain (.peer (.settings [(sMaxConcurrentStreams, 1)]))),
   .openRacedN { hdrLen := 40, bodyLen := 0, known := true } [(sMaxConcurrentStreams, 5)] [[(sMaxConcurrentStreams, 0)]]]

theorem race_n_examples :
    (nrun exampleCfg raceTwoFrames).2.getLast? = some (.c (.data 1 32768 false)) ∧
    strictVerdict (nrun exampleCfg raceTwoFrames).2 = "frame-size" ∧
    tolerantOk (nrun exampleCfg raceTwoFrames).2 = true ∧
    (nrun exampleCfg raceOpenTwoFrames).2.getLast? = some (.c (.headers 1 40 true true)) ∧
    strictVerdict (nrun exampleCfg raceOpenTwoFrames).2 = "max-concurrent-streams" ∧
    tolerantOk (nrun exampleCfg raceOpenTwoFrames).2 = true ∧
    (nrun exampleCfg raceUndone).2.getLast? = some (.c (.data 1 16384 false)) ∧
    strictVerdict (nrun exampleCfg raceUndone).2 = "ok" ∧
    -- a window with one frame is `writeRaced`
    nrun exampleCfg ((raceStreamWindow.take 3).map NOp.r ++ [.writeRacedN 1 [[(sInitialWindowSize, 4096)]]]) =
      rrun exampleCfg raceStreamWindow := by decide +kernel

example : ∀ op ∈ raceTwoFrames ++ raceUndone ++ raceOpenTwoFrames, op.ok := by
  simp [raceTwoFrames, raceUndone, raceOpenTwoFrames, NOp.ok, ROp.ok, Op.ok, PFrame.ok, sInitialWindowSize,
    sMaxFrameSize, sMaxConcurrentStreams]

end Req.Props.C06
