import Req.Client.RetryBody
/-!
C10 — the place where an attempt fails after the response header arrived is invisible
to the retry loop: `Client.roundTrip` hands out `err = resp.Err` for EVERY combination of
auto-read / result target / fault site, so `Outcome.badBody` (response with a status + error of
kind body) is the one class the loop has to be proved for — and every theorem of `Req.Props.C10*`
about `badBody` is a theorem about truncated bodies, resets mid-body, failing transformers and
failing unmarshallers alike.
-/
namespace Req.Props.C10Body
open Req.Retry Req.RetryBody

/-- Whatever reads the body first and wherever it fails, the code's
`roundTrip` returns exactly what the loop model's `roundTrip` returns for `badBody` / `status`. -/
theorem body_fault_site_invisible (cfg : BodyCfg) (f : BodyFault) (ra c : Nat) :
    roundTripAt .code cfg f ra c = Req.Retry.roundTrip R ra (outcomeOf cfg f c) := by
  obtain ⟨a, t⟩ := cfg
  cases a <;> cases t <;> cases f <;> rfl

/-- `err` and `resp.Err` agree when `roundTrip` returns (what `Request.do`, the default rule, the
conditions and the hooks rely on). -/
theorem err_is_resp_err (cfg : BodyCfg) (f : BodyFault) (ra c : Nat) :
    (roundTripAt .code cfg f ra c).2 = ((roundTripAt .code cfg f ra c).1.bind (·.err)) := by
  obtain ⟨a, t⟩ := cfg
  cases a <;> cases t <;> cases f <;> rfl

/-- The default rule asks for a retry exactly when something failed, wherever. -/
theorem default_rule_retries_any_body_fault {σ : Type} (p : Policy σ) (hp : p.conds.isEmpty = true)
    (cfg : BodyCfg) (f : BodyFault) (ra c : Nat) :
    need p (outcomeOf cfg f c) ra = failed cfg f := by
  unfold need outcomeOf
  cases h : failed cfg f <;> simp [hp, Outcome.errKind]

/-- An explicit-return `roundTrip` (the trial change `seeded/C10-r7-1`) differs from the code in
exactly one cell: the body breaks off during the auto-read and no result target makes
`parseResponseBody` meet the error again (3xx, or no `SetSuccessResult` / `SetErrorResult`) — why a
lane needs that cell. -/
theorem explicit_return_differs_iff (cfg : BodyCfg) (f : BodyFault) (ra c : Nat) :
    roundTripAt .explicit cfg f ra c ≠ roundTripAt .code cfg f ra c ↔
      (f = .read ∧ cfg.autoRead = true ∧ cfg.target = false) := by
  obtain ⟨a, t⟩ := cfg
  cases a <;> cases t <;> cases f <;> simp [roundTripAt, afterAutoRead, parseErr]

/-- … and in that cell the loop is told "no error" while `resp.Err` holds one. -/
theorem explicit_return_loses_read_error (ra c : Nat) :
    roundTripAt .explicit ⟨true, false⟩ .read ra c = (some ⟨ra, .status c, some (ra, .body)⟩, none) := rfl

end Req.Props.C10Body
