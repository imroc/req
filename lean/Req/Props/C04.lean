import Req.Lemmas.H1Chunk
import Req.Lemmas.H1Transfer
import Req.Lemmas.H1Head
/-!
C04 — HTTP/1.1 response parsing and framing.

The property is relational (the fork's reader ≡ Go's reference reader).  It is decided by ONE
model (`Req.H1.parseResponse`) that the reference lane ties to BOTH implementations on every
run; the theorems below are what makes that agreement meaningful: where a message ends is
determined by the message, the framing decision is a table, malformed classes are rejected, the
chunked reader inverts the chunked writer.
-/
namespace Req.Props.C04
open Req.Proto Req.H1

/-- If the stream `s` holds a complete response (accepted, body
read to EOF, framing not close-delimited) with `rest` left over, then on `s ++ t` the reader
produces the same response and leaves `rest ++ t`: what follows a message never changes how the
message is read, and none of `t` is attributed to it. -/
theorem parse_deterministic_end {isHead : Bool} {B : Nat} {s : Bytes} {m : Msg} {b : BodyRes}
    (h : parseResponse isHead B s = .resp m b) (hok : b.ok = true)
    (hf : m.framing ≠ .untilClose) (t : Bytes) :
    parseResponse isHead B (s ++ t) = .resp m { b with rest := b.rest ++ t } := by
  unfold parseResponse at h ⊢
  cases hh : parseHead isHead s with
  | none => simp [hh] at h
  | some p =>
    obtain ⟨m', r⟩ := p
    simp only [hh, Outcome.resp.injEq] at h
    obtain ⟨rfl, rfl⟩ := h
    simp only [parseHead_append hh t]
    rw [readBody_append hok hf t]

/-- Close-delimited bodies are the one framing whose end is the end of the connection: the
body is everything that follows the header block. -/
theorem until_close_takes_all {B : Nat} {m : Msg} (s : Bytes) (hf : m.framing = .untilClose) :
    (readBody B m s).data = s ∧ (readBody B m s).rest = [] ∧ (readBody B m s).ok = true := by
  simp [readBody, hf]

example : parseResponse false 4096
    [72,84,84,80,47,49,46,49,32,50,48,48,32,79,75,13,10,  -- HTTP/1.1 200 OK
     67,111,110,116,101,110,116,45,76,101,110,103,116,104,58,32,50,13,10,13,10,  -- Content-Length: 2
     104,105, 78,69,88,84] =                                -- "hi" then "NEXT"
    .resp ⟨⟨[72,84,84,80,47,49,46,49], [50,48,48,32,79,75], 200, 1, 1⟩,
           [(kContentLength, [[50]])], 2, false, false, [], .length 2⟩
          ⟨[104,105], true, [], [78,69,88,84]⟩ := by decide +kernel

/-- Each of the four framings {no body, declared length n, chunked, until
close} by an iff over (method, status, Transfer-Encoding verdict, ContentLength). -/
theorem framing_exclusive {isHead : Bool} {sl : StatusLine} {h0 : HeaderMap} {m : Msg}
    (h : readTransfer isHead sl h0 = some m) :
    (m.framing = .none ↔
      (isHead = true ∨ bodyAllowedForStatus sl.code = false ∨
        (m.teChunked = false ∧ m.contentLength = 0))) ∧
    (m.framing = .chunked ↔
      (isHead = false ∧ bodyAllowedForStatus sl.code = true ∧ m.teChunked = true)) ∧
    (∀ n, m.framing = .length n ↔
      (isHead = false ∧ bodyAllowedForStatus sl.code = true ∧ m.teChunked = false ∧
        0 < n ∧ m.contentLength = (n : Int))) ∧
    (m.framing = .untilClose ↔
      (isHead = false ∧ bodyAllowedForStatus sl.code = true ∧ m.teChunked = false ∧
        m.contentLength = -1)) := by
  obtain ⟨chunked, n?, hs⟩ := readTransfer_accepted h
  rw [hs.framing, hs.te]
  cases hH : isHead with
  | true => simp
  | false =>
    rw [hs.len hH]
    obtain ⟨t1, t2, t3, t4⟩ := framingFor_iff (!bodyAllowedForStatus sl.code) chunked n?
    simp only [Bool.false_or, t1, t2, t3, t4]
    cases bodyAllowedForStatus sl.code <;> cases chunked <;> simp

/-- How `readTransfer` picks the framing: chunked iff a valid chunked Transfer-Encoding was seen and a
body is allowed; until close only without it, for a non-HEAD request, with no declared length, and then
`Close` is set; a declared length `n > 0` only without chunked, for a non-HEAD request. -/
theorem framing_table {isHead : Bool} {sl : StatusLine} {h0 : HeaderMap} {m : Msg}
    (h : readTransfer isHead sl h0 = some m) :
    (m.framing = .chunked ↔ (m.teChunked = true ∧ isHead = false ∧ bodyAllowedForStatus sl.code = true)) ∧
    (m.framing = .untilClose → m.teChunked = false ∧ m.close = true ∧ isHead = false ∧
        bodyAllowedForStatus sl.code = true ∧ m.contentLength = -1) ∧
    (∀ n, m.framing = .length n → m.teChunked = false ∧ 0 < n ∧ m.contentLength = n ∧ isHead = false) := by
  obtain ⟨_, hchunked, hlength, hclose⟩ := framing_exclusive h
  refine ⟨?_, ?_, ?_⟩
  · rw [hchunked]
    exact ⟨fun ⟨hH, hba, hte⟩ => ⟨hte, hH, hba⟩, fun ⟨hte, hH, hba⟩ => ⟨hH, hba, hte⟩⟩
  · intro hu
    obtain ⟨hH, hba, hte, hcl⟩ := hclose.mp hu
    obtain ⟨chunked, n?, hs⟩ := readTransfer_accepted h
    refine ⟨hte, ?_, hH, hba, hcl⟩
    rw [hs.close, ← hs.framing, hu]
    simp
  · intro n hn
    obtain ⟨hH, _, hte, hpos, hcl⟩ := (hlength n).mp hn
    exact ⟨hte, hpos, hcl, hH⟩

theorem chunked_content_length {isHead : Bool} {sl : StatusLine} {h0 : HeaderMap} {m : Msg}
    (h : readTransfer isHead sl h0 = some m) (hf : m.framing = .chunked) :
    m.contentLength = -1 := by
  obtain ⟨hH, hba, hte⟩ := (framing_exclusive h).2.1.mp hf
  obtain ⟨chunked, n?, hs⟩ := readTransfer_accepted h
  rw [hs.len hH, ← hs.te, hte]
  simp [hba]

theorem hex_roundtrip (n : Nat) (h : n < 2 ^ 64) : parseHexUint (toHex n) = some n :=
  parseHexUint_toHex n h

/-- For every split of a body into non-empty chunks (each below 2^61
bytes), every read-buffer size of at least 18 bytes (a size line of sixteen hex digits and CRLF), and
whatever follows: the chunked reader
returns exactly the concatenation of the chunks, ends with io.EOF, and has consumed exactly the
writer's output (`rest` untouched). -/
theorem chunked_roundtrip {B : Nat} (hB : 18 ≤ B) (chunks : List Bytes)
    (hne : ∀ c ∈ chunks, c ≠ []) (hsz : ∀ c ∈ chunks, c.length < 2 ^ 61) (rest : Bytes) :
    decodeChunked B (encodeChunked chunks ++ rest) = (chunks.flatten, some rest) := by
  unfold decodeChunked
  apply chunkLoop_encodeChunked hB chunks hne hsz rest
  have := encodeChunked_length chunks hne
  simp
  omega

/-- The same through `readBody`: chunked framing, no trailers (the final CRLF), followed by
the bytes of the next message. -/
theorem chunked_body_roundtrip {B : Nat} (hB : 18 ≤ B) {m : Msg} (hf : m.framing = .chunked)
    (chunks : List Bytes) (hne : ∀ c ∈ chunks, c ≠ []) (hsz : ∀ c ∈ chunks, c.length < 2 ^ 61)
    (next : Bytes) :
    readBody B m (encodeChunked chunks ++ [CR, LF] ++ next) =
      ⟨chunks.flatten, true, declMap m.trailerDecl, next⟩ := by
  unfold readBody
  simp only [hf]
  have := chunked_roundtrip hB chunks hne hsz ([CR, LF] ++ next)
  rw [List.append_assoc, this]
  simp [readTrailer]

example : decodeChunked 4096 (encodeChunked [[104, 101], [108, 108, 111]] ++ [13, 10, 88]) =
    ([104, 101, 108, 108, 111], some [13, 10, 88]) := by decide +kernel

/-- A response that is chunked (valid `Transfer-Encoding: chunked` on HTTP/1.1+,
body allowed, not HEAD): the framing is chunked whatever Content-Length said, the reported
length is -1 and the Content-Length field is gone from the header. -/
theorem te_and_cl {sl : StatusLine} {h0 : HeaderMap} {m : Msg}
    (h : readTransfer false sl h0 = some m) (hte : m.teChunked = true)
    (hba : bodyAllowedForStatus sl.code = true) :
    m.framing = .chunked ∧ m.contentLength = -1 ∧ HeaderMap.get m.header kContentLength = none := by
  obtain ⟨chunked, n?, hs⟩ := readTransfer_accepted h
  have hc : chunked = true := hs.te ▸ hte
  subst hc
  exact ⟨by rw [hs.framing, (framingFor_iff _ _ _).2.1]; simp [hba], by simp [hs.len rfl, hba],
    hs.noCL rfl hba rfl⟩

/-- Two Transfer-Encoding field lines (or any number other than one) on HTTP/1.1: rejected. -/
theorem reject_te_not_single {major minor : Nat} {h : HeaderMap} {raw : List Bytes}
    (hget : HeaderMap.get h kTransferEncoding = some raw) (hv : major > 1 ∨ (major = 1 ∧ minor ≥ 1))
    (hlen : raw.length ≠ 1) : parseTransferEncoding major minor h = none := by
  rw [parseTransferEncoding_of_get hget hv]
  match raw, hlen with
  | [], _ => rfl
  | [_], hl => simp at hl
  | _ :: _ :: _, _ => rfl

/-- A Transfer-Encoding other than (case-insensitive) `chunked`: rejected. -/
theorem reject_te_unsupported {major minor : Nat} {h : HeaderMap} {v : Bytes}
    (hget : HeaderMap.get h kTransferEncoding = some [v]) (hv : major > 1 ∨ (major = 1 ∧ minor ≥ 1))
    (hne : Req.Ascii.lower v ≠ vChunked) : parseTransferEncoding major minor h = none := by
  rw [parseTransferEncoding_of_get hget hv]
  exact if_neg (by simpa using hne)

/-- Content-Length values that disagree (after trimming): rejected, whatever the method. -/
theorem reject_cl_disagree {code : Nat} {isHead chunked : Bool} {h : HeaderMap}
    {a b : Bytes} {more : List Bytes}
    (hget : HeaderMap.get h kContentLength = some (a :: b :: more))
    (hne : trimString b ≠ trimString a) : fixLength code isHead h chunked = none := by
  unfold fixLength
  simp only [hget]
  have : ((a :: b :: more).all fun c => trimString c == trimString a) = false := by
    simp only [List.all_cons, beq_self_eq_true, Bool.true_and]
    have : (trimString b == trimString a) = false := by simpa using hne
    simp [this]
  simp [this]

/-- A Content-Length that is not a plain decimal number below 2^63: rejected. -/
theorem reject_cl_invalid {code : Nat} {isHead chunked : Bool} {h : HeaderMap} {v : Bytes}
    (hget : HeaderMap.get h kContentLength = some [v])
    (hbad : parseContentLength1 v = none) : fixLength code isHead h chunked = none := by
  unfold fixLength
  simp [hget, hbad]

/-- The empty size field: an error for `parseHexUint`; the number 0, hence a last chunk, for
`parseHexUintLenient`, the variant without the emptiness check. -/
theorem reject_empty_chunk_size : parseHexUint [] = none ∧ parseHexUintLenient [] = some 0 := by
  decide

/-- Witness of the known finding (DESIGN section 5 row 14): `5 CRLF hello CRLF CRLF CRLF`. -/
example : decodeChunked 4096 [53, 13, 10, 104, 101, 108, 108, 111, 13, 10, 13, 10, 13, 10] =
    ([104, 101, 108, 108, 111], none) := by decide +kernel

/-- A status line without a three-digit code, a header line without colon, a header block
starting with a blank, a control byte in a value: rejected. -/
example : parseResponse false 4096 [72,84,84,80,47,49,46,49,32,50,48,32,79,75,13,10,13,10] = .reject := by
  decide
example : readMIMEHeader [88, 13, 10, 13, 10] = none := by decide +kernel
example : readMIMEHeader [32, 88, 58, 49, 13, 10, 13, 10] = none := by decide +kernel
example : readMIMEHeader [88, 58, 1, 13, 10, 13, 10] = none := by decide +kernel

/-- A response whose status is at most 199 (a terminal 101 — with or without Upgrade headers —
or a status below 100) never leaves a reusable connection, whatever else holds: the
`resp.StatusCode <= 199` guard of `readLoop` (tied to the code and to net/http by the
`keepalive` lane: two requests in sequence, connections counted). -/
theorem status_le_199_not_reused (m : Msg) (e : ReuseEnv) (h : m.sl.code ≤ 199) :
    mayReuse m e = false := by
  unfold mayReuse
  simp [h]

example : ∃ m : Msg, m.sl.code = 101 ∧ m.close = false ∧
    parseHead false [72,84,84,80,47,49,46,49,32,49,48,49,32,83,13,10,13,10] = some (m, []) := by
  refine ⟨_, ?_, ?_, rfl⟩ <;> decide

end Req.Props.C04
