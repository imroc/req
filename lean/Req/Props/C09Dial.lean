import Req.Pool.H1PoolDial
import Req.Lemmas.C09PoolOnce
/-!
# C09: `CloseIdleConnections` running concurrently with requests that are dialling

Model `Req/Pool/H1PoolDial.lean` (the pool model plus the dial contexts).  For every op list
(= interleaving at lock granularity of any number of `getConn` calls, dial goroutines, returns
to the pool and `CloseIdleConnections` calls):

* `close_idle_keeps_wanted_dials` — a dial whose context has been cancelled belongs to a want that
  has stopped waiting: a caller in the middle of getting a connection never has its dial
  cancelled by somebody else's `CloseIdleConnections` (its `!w.waiting()` test; `seeded/C09-r5-1` removes it);
* `cancelled_dial_reports_to_nobody` — when such a dial then fails (`dialFail`), `tryDeliver` finds
  the want done: no caller is handed the cancellation error, no want changes state;
* `close_idle_cancels_unwanted` — conversely the dials it is meant to stop ARE stopped.
-/
namespace Req.Props.C09Dial
open Req.Pool.H1Pool Req.Pool.H1PoolDial

def DInv (d : DSt) : Prop := ∀ w, d.ctxCancelled w = true → d.s.wst w ≠ .waiting

theorem dstep_s (cfg : Cfg) (d : DSt) (op : Op) : (dstep cfg d op).1.s = (step cfg d.s op).1 := by
  cases op <;> rfl

theorem drun_s (cfg : Cfg) : ∀ (ops : List Op) (d : DSt), (drun cfg d ops).s = run cfg d.s ops
  | [], _ => rfl
  | op :: ops, d => by
    simp only [drun, run]
    rw [drun_s cfg ops, dstep_s]

theorem mem_cancelTargets (s : St) (w : Want) :
    w ∈ cancelTargets s ↔ w ∈ s.dip ∧ s.cancelNil w = false ∧ s.wst w ≠ .waiting := by
  simp [cancelTargets]

theorem DInv_step (cfg : Cfg) (d : DSt) (op : Op) (h : DInv d) : DInv (dstep cfg d op).1 := by
  intro w hw
  rw [dstep_s]
  have keep := (Req.Lemmas.C09PoolOnce.WstOK_step cfg d.s op w).1
  by_cases hold : d.ctxCancelled w = true
  · exact keep (h w hold)
  · cases op
    case closeIdleConnections =>
      simp only [dstep, Bool.or_eq_true, hold] at hw
      have hm : w ∈ cancelTargets d.s := by simpa using hw
      exact keep ((mem_cancelTargets d.s w).1 hm).2.2
    all_goals exact absurd hw hold

theorem DInv_run (cfg : Cfg) : ∀ (ops : List Op) (d : DSt), DInv d → DInv (drun cfg d ops)
  | [], _, h => h
  | op :: ops, d, h => DInv_run cfg ops _ (DInv_step cfg d op h)

theorem DInv_reach (cfg : Cfg) (ops : List Op) : DInv (drun cfg {} ops) :=
  DInv_run cfg ops {} (fun _ h => by cases h)

/-- **CloseIdleConnections keeps the dials somebody waits for.** -/
theorem close_idle_keeps_wanted_dials (cfg : Cfg) (ops : List Op) (w : Want)
    (h : (drun cfg {} ops).s.wst w = .waiting) : (drun cfg {} ops).ctxCancelled w = false := by
  cases hc : (drun cfg {} ops).ctxCancelled w
  · rfl
  · exact absurd h (DInv_reach cfg ops w hc)

/-- A dial that fails because `CloseIdleConnections` cancelled it hands its error to nobody and
changes no want. -/
theorem cancelled_dial_reports_to_nobody (cfg : Cfg) (ops : List Op) (w : Want)
    (h : (drun cfg {} ops).ctxCancelled w = true) :
    (step cfg (drun cfg {} ops).s (.dialFail w)).2 ≠ .bool true ∧
    (step cfg (drun cfg {} ops).s (.dialFail w)).1.wst = (drun cfg {} ops).s.wst := by
  have hw := DInv_reach cfg ops w h
  generalize (drun cfg {} ops).s = s at hw
  simp only [step]
  cases hk : s.wkey w with
  | none => exact ⟨nofun, rfl⟩
  | some k =>
    simp only
    split
    · exact ⟨nofun, rfl⟩
    · simp [hw, Req.Lemmas.C09Pool.decConns_wst]

/-- The dials nobody waits for are cancelled by the call. -/
theorem close_idle_cancels_unwanted (cfg : Cfg) (d : DSt) (w : Want) (hd : w ∈ d.s.dip)
    (hn : d.s.cancelNil w = false) (hw : d.s.wst w ≠ .waiting) :
    (dstep cfg d .closeIdleConnections).1.ctxCancelled w = true := by
  have : w ∈ cancelTargets d.s := (mem_cancelTargets d.s w).2 ⟨hd, hn, hw⟩
  simp [dstep, this]

def exCfg : Cfg := ⟨0, 0, 2, false⟩

/-- want 0 dials (dial running), gets connection 7 handed over by want 1's return instead, so its
own dial is unwanted; want 2 is dialling and waiting. `CloseIdleConnections` cancels the dial of 0
and not that of 2. -/
def exOps : List Op :=
  [.newWant 1 0, .queueIdle 1, .queueDial 1, .dialOk 1 7, .recv 1,
   .newWant 0 0, .queueIdle 0, .queueDial 0,
   .finishPut 1,
   .newWant 2 0, .queueIdle 2, .queueDial 2,
   .closeIdleConnections]

example : (drun exCfg {} exOps).ctxCancelled 0 = true ∧ (drun exCfg {} exOps).ctxCancelled 2 = false ∧
    (drun exCfg {} exOps).s.wst 2 = .waiting ∧ (drun exCfg {} exOps).s.wst 0 = .gotConn 7 := by decide +kernel

end Req.Props.C09Dial
