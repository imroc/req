import Req.Props.C06
import Req.Lemmas.C06WakeW
/-!
C06 — the liveness half "a peer that stays within its limits never stalls a request
for ever", wake-up discipline.

A `RoundTrip` that finds the connection at the peer's MAX_CONCURRENT_STREAMS parks in
`awaitOpenSlotForStreamLocked` and sleeps on `cc.cond`. `no_lost_wakeup`: in every reachable
state of the model no parked request is *enabled* (connection usable, a slot free) — i.e. every
operation that can make the condition true (a stream ends, is reset or cancelled, the peer
raises the limit, the first SETTINGS frame replaces the initial limit of 100 by the default)
ends in a broadcast that the parked request acts on in the same step. `wake_is_silent` is the
same fact seen from the lane: an extra `cond.Broadcast()` after any operation makes the client
write nothing. The table `Conn.wakes` is tied to the code by the wake-up lane (script lane
without forced broadcasts: an enabled request must go ahead within the barrier) and by the
regenerated facts `Bridge.C06.wake_sites_broadcast` (every handler the table relies on reaches a
`cond.Broadcast()`), `cond_broadcast_only` and `cond_waiters`.

On the unchanged code a SETTINGS frame that only raises the limit does not broadcast:
`max_concurrent_wake_counterexample` (finding c06-max-concurrent-wake, fixes/C06-9).
-/
namespace Req.Props.C06
open Req.H2 Req.H2.Flow Req.H2.Conn Req.H2.Monitor Req.Lemmas.C06

/-- C06, liveness half: for every fingerprint with fixes/C06-9 and every operation list, no
`RoundTrip` is left parked in a state in which it could open its stream. -/
theorem no_lost_wakeup (cfg : Cfg) (hfix : cfg.fixes.mcsWake = true) (ops : List Op) :
    enabled (run cfg ops).1 = false := by
  unfold run
  exact wake_runFrom ops (newConn cfg).1 _ hfix (by simp [enabled, newConn])

/-- a spurious wake-up (any `cc.cond.Broadcast()`, from any goroutine, at any
moment) never makes the client write a frame — whoever could write had been woken by the
operation that enabled it. (It may let a parked request notice that the connection has become
unusable and give up.) -/
theorem wake_is_silent (cfg : Cfg) (hfix : cfg.fixes.mcsWake = true) (ops : List Op) :
    (step (run cfg ops).1 .wake).2 = [] := by
  have h := no_lost_wakeup cfg hfix ops
  generalize (run cfg ops).1 = st at h
  refine step_cases (fun x => x.2 = []) st .wake (fun _ => rfl) (fun _ hq => by simp [wakes] at hq) (fun _ => ?_)
  · simp only [apply, List.nil_append]
    exact resumePending_cases (fun r => r.2 = []) st (fun _ => rfl) (fun _ _ _ _ => rfl) (fun _ _ => rfl)
      fun r hp hc hct hl => by
        -- a parked request that could open its stream: excluded by `no_lost_wakeup`
        have : enabled st = true := by
          unfold enabled
          rw [hct, hp, hc]
          simp [hl]
        rw [h] at this; cases this

/-- the same for the body writers blocked in `awaitFlowControl`: in every state,
whenever an operation raises the send window a live stream's writer sees
(`cs.flow.available()` = min(connection window, stream window)), that operation ends in a
broadcast. Only an applied WINDOW_UPDATE and a SETTINGS frame with SETTINGS_INITIAL_WINDOW_SIZE
can raise it (`noraise_apply`: every other handler leaves every send window where it was or
lower), and both are in the table `Conn.wakes`. -/
theorem writer_woken (st : State) (op : Op) (id : Nat) (a a1 : Int)
    (h0 : availOf st id = some a) (h1 : availOf (apply st op).1 id = some a1) (hup : a < a1) :
    wakes st (apply st op).1 op = true := by
  cases hw : wakes st (apply st op).1 op with
  | true => rfl
  | false => exact absurd (availOf_mono (noraise_quiet st op hw) h0 h1) (by omega)

/-- a writer blocked on a stream window of 0 sees 100 after the peer's WINDOW_UPDATE -/
example :
    let st := (run exampleCfg [.peer (.settings [(sInitialWindowSize, 0)]), .openStream 40 1000 true, .feed 1 0]).1
    availOf st 1 = some 0 ∧ availOf (apply st (.peer (.windowUpdate 1 100))).1 1 = some 100 := by decide +kernel

/-- strict mode, the peer allows no stream at first, then five -/
def cfgStrict (fx : Fixes) : Cfg :=
  { settings := [], connFlow := 0, prio := [], hdrPrio := false, maxHeaderList := 10485760, strict := true,
    fixes := fx }

def opsRaise : List Op :=
  [.peer (.settings [(sMaxConcurrentStreams, 0)]), .openStream 51 0 true,
   .peer (.settings [(sMaxConcurrentStreams, 5)])]

example : enabled (run (cfgStrict Fixes.all) [.peer (.settings [(sMaxConcurrentStreams, 0)]), .openStream 51 0 true]).1 = false ∧
    (run (cfgStrict Fixes.all) [.peer (.settings [(sMaxConcurrentStreams, 0)]), .openStream 51 0 true]).1.pendingOpen.isSome = true := by
  decide

/-- unchanged code (fixes/C06-9 off): after the limit was raised the request could go ahead but
sleeps on (its HEADERS are not written until something else broadcasts); repaired: it goes
ahead in the step that raised the limit. -/
theorem max_concurrent_wake_counterexample :
    enabled (run (cfgStrict { Fixes.all with mcsWake := false }) opsRaise).1 = true ∧
    (history (run (cfgStrict { Fixes.all with mcsWake := false }) opsRaise)).getLast? = some (.c .settingsAck) ∧
    enabled (run (cfgStrict Fixes.all) opsRaise).1 = false ∧
    (history (run (cfgStrict Fixes.all) opsRaise)).getLast? = some (.c (.headers 1 51 true true)) := by decide +kernel

end Req.Props.C06
