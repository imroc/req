import Req.Lemmas.Form
import Req.Lemmas.MultipartItems
import Req.Lemmas.Progress
import Req.Client.Body
/-!
C17 — form data, multipart uploads and marshalled bodies arrive exactly as supplied;
progress callbacks are truthful.

What the client writes (`handleOrderedFormData`, `url.Values.Encode`, `writeMultiPart`, the
dispatch of `parseRequestBody`) is read back by an independent model of a standard server
(`url.ParseQuery`, `mime/multipart.Reader`, `mime.ParseMediaType`); the progress callbacks
(`callbackWriter`, `callbackReader`) are automata under an arbitrary clock.
-/
namespace Req.Props.C17
open Req.Proto Req.Form

/-- What `handleOrderedFormData` writes for ANY list of key/value byte strings is parsed by the
server (`url.ParseQuery`) back to exactly that list, in order, without error. -/
theorem ordered_form_roundtrip (ps : List Pair) : parseForm (encodePairs ps) = (ps, false) := by
  have h := segs_encodePairs ps
  simp [parseForm, h.1, h.2]

example : parseForm (encodePairs [([97, 32, 38], [61, 37, 200]), ([], []), ([97, 32, 38], [43])])
    = ([([97, 32, 38], [61, 37, 200]), ([], []), ([97, 32, 38], [43])], false) := by decide +kernel

/-- `SetOrderedFormData(k1, v1, k2, v2, …)`: the server reads the argument list back as the pairs, in
order, without error. -/
theorem ordered_args_roundtrip (ps : List Pair) :
    (encodeOrdered (ps.flatMap (fun p => [p.1, p.2]))).map parseForm = some (ps, false) := by
  simp [encodeOrdered, pairUp_flat, ordered_form_roundtrip]

/-- An odd number of arguments is rejected (`errBadOrderedFormData`), nothing is encoded. -/
theorem encodeOrdered_odd (args : List Bytes) (h : args.length % 2 = 1) :
    encodeOrdered args = none := by
  simp [encodeOrdered, pairUp_odd args h]

example : encodeOrdered [[97], [98], [99]] = none := by decide

/-- `url.Values.Encode` of ANY map: the server reports no error and holds under every key exactly
the supplied values in the supplied order — whatever the map's iteration order `m` was. -/
theorem form_roundtrip (m : Values) :
    (parseForm (encode m)).2 = false ∧
    ∀ k, valuesOfPairs (parseForm (encode m)).1 k = valuesOf m k := by
  unfold encode
  rw [ordered_form_roundtrip]
  refine ⟨rfl, fun k => ?_⟩
  simp only
  rw [valuesOfPairs_flatten, valuesOf_sortKeys]

example : (parseForm (encode [([98], [[1], [2]]), ([97, 38], [[61]]), ([], [[]])])).1
    = [([], []), ([97, 38], [61]), ([98], [1]), ([98], [2])] := by decide +kernel

/-- Client-level form data merged into the request's
(`SetFormDataFromValues(c.FormData)`): under every key the server finds the request's values
followed by the client's, nothing lost, nothing duplicated. -/
theorem form_merge (req client : Values) (hreq : (req.map (·.1)).Nodup) (k : Bytes) :
    valuesOf (mergeForm req client) k = valuesOf req k ++ valuesOf client k ∧
    valuesOfPairs (parseForm (encode (mergeForm req client))).1 k = valuesOf req k ++ valuesOf client k := by
  have h := (valuesOf_addAll req client k hreq).2
  exact ⟨h, by rw [(form_roundtrip _).2 k]; exact h⟩

example : valuesOf (mergeForm [([97], [[1]]), ([98], [[2]])] [([98], [[3], [4]]), ([99], [[5]])]) [98]
    = [[2], [3], [4]] := by decide +kernel

section Quoting
open Req.Multipart

/-- For ALL byte strings `s`: a standard parser (`mime.consumeValue`) reads the quoting of `s`
(`quoteParamValue`) back as `arrive s`: every byte a header value can carry exactly, the others
(controls except TAB, DEL) percent-encoded. -/
theorem quote_unquote (s rest : Bytes) :
    consumeQuoted (quote s ++ 34 :: rest) = some (arrive s, rest) :=
  consumeQuoted_quote s rest

example : consumeQuoted (quote [97, 9, 34, 92, 200, 98] ++ [34]) = some ([97, 9, 34, 92, 200, 98], []) := by
  decide +kernel

/-- The quoting never produces a byte that `net/textproto` refuses in a header value:
no name, whatever its bytes, can break the part header or make the server reject the upload. -/
theorem quote_header_valid (s : Bytes) : ∀ c ∈ quote s, validValueByte c = true :=
  quote_valid s

theorem goQuoteByte_printable : ∀ c : UInt8, 32 ≤ c ∧ c < 127 →
    goQuoteByte c = some (if c == 92 then [92, 92] else if c == 34 then [92, 34] else [c]) ∧
    (c == 13) = false ∧ (c == 10) = false := by
  apply Req.U8.forall_uint8
  decide +kernel

/-- Go's `%q` (`goQuoteAscii`: the quoting of imroc/req before commit ec16623): the round trip holds
for printable ASCII names. -/
theorem goquote_roundtrip_partial (s rest : Bytes) (h : ∀ c ∈ s, 32 ≤ c ∧ c < 127) :
    ∃ q, goQuoteAscii s = some q ∧ consumeQuoted (q ++ 34 :: rest) = some (s, rest) := by
  induction s with
  | nil => exact ⟨[], rfl, consumeQuoted_close rest⟩
  | cons c cs ih =>
    rw [List.forall_mem_cons] at h
    obtain ⟨q, hq, hc⟩ := ih h.2
    obtain ⟨hg, h13, h10⟩ := goQuoteByte_printable c h.1
    refine ⟨_ ++ q, by rw [goQuoteAscii, hg, hq], ?_⟩
    rw [List.append_assoc, consumeQuoted_escaped c _ h13 h10, hc]
    rfl

/-- Under `%q` (`goQuoteAscii`) the name `a<TAB>b` arrives as the five bytes `a\tb` (DESIGN section 5
row 19; lanes `quote`, `cdheader`). -/
theorem goquote_tab_counterexample :
    (goQuoteAscii [97, 9, 98]).bind (fun q => consumeQuoted (q ++ [34]))
      = some ([97, 92, 116, 98], []) := by decide +kernel

end Quoting

section Multipart
open Req.Multipart

/-- For every boundary without LF, all fields and all files that a
multipart body can carry (`FieldOK`, `FileOK`: non-empty names, delimiter-free contents; field
names, file names and parameter values may contain ANY bytes): the server reads back exactly the
fields, then the files, in order — names as `arrive` (exact for every byte a header can carry),
content types and file bytes exact. -/
theorem multipart_roundtrip (b : Bytes) (fields : List (Bytes × Bytes)) (files : List File)
    (hb : (10 : UInt8) ∉ b)
    (hfields : ∀ kv ∈ fields, FieldOK b kv) (hfiles : ∀ f ∈ files, FileOK b f) :
    serverForm b (write b fields files) = .ok (fields.map fieldItem ++ files.map fileItem) := by
  have := serverForm_writeParts b
    (fields.map (fun kv => (fieldPart kv, fieldHeaders kv, fieldItem kv)) ++
      files.map fun f => (filePart f, fileHeaders f, fileItem f)) hb (by
    intro q hq
    simp only [List.mem_append, List.mem_map] at hq
    rcases hq with ⟨kv, hkv, rfl⟩ | ⟨f, hf, rfl⟩
    · exact ⟨goodPart_field b kv (hfields kv hkv), itemOf_field kv (hfields kv hkv).name_ne⟩
    · exact ⟨goodPart_file b f (hfiles f hf), itemOf_file b f (hfiles f hf)⟩)
  simpa [write, List.map_append, List.map_map, Function.comp_def] using this

/-- The exact form: when the names are made of bytes a header can carry (everything except
controls other than TAB, and DEL), the server holds exactly the supplied names. -/
theorem multipart_roundtrip_exact (b : Bytes) (fields : List (Bytes × Bytes)) (files : List File)
    (hb : (10 : UInt8) ∉ b)
    (hfields : ∀ kv ∈ fields, FieldOK b kv) (hfiles : ∀ f ∈ files, FileOK b f)
    (hfsafe : ∀ kv ∈ fields, ∀ c ∈ kv.1, headerUnsafe c = false)
    (hsafe : ∀ f ∈ files, (∀ c ∈ f.param, headerUnsafe c = false) ∧ (∀ c ∈ f.filename, headerUnsafe c = false)) :
    serverForm b (write b fields files) =
      .ok ((fields.map fun kv => .field kv.1 kv.2) ++
        files.map fun f => .file f.param f.filename (seenCType f) f.content) := by
  rw [multipart_roundtrip b fields files hb hfields hfiles]
  congr 2
  · apply List.map_congr_left
    intro kv hkv
    simp [fieldItem, arrive_eq_self _ (hfsafe kv hkv)]
  · apply List.map_congr_left
    intro f hf
    simp [fileItem, arrive_eq_self _ (hsafe f hf).1, arrive_eq_self _ (hsafe f hf).2]

/-- The error branch of `writeMultiPart`, exactly: the body is
written iff every field has a name, every file's content type is a valid header value and every
extra Content-Disposition parameter name a token; otherwise the call fails. -/
theorem writeChecked_ok_iff (b : Bytes) (fields : List (Bytes × Bytes)) (files : List File) :
    (∃ body, writeChecked b fields files = .ok body) ↔
      (∀ kv ∈ fields, kv.1 ≠ []) ∧
      (∀ f ∈ files, (∀ c ∈ f.ctype, headerUnsafe c = false) ∧
        ∀ p ∈ f.extra, p.1 ≠ [] ∧ ∀ c ∈ p.1, isTChar c = true) := by
  simp only [writeChecked_ok_body, checkField_ok, checkFile_ok]
  exact ⟨fun ⟨_, _, h⟩ => h, fun h => ⟨_, rfl, h⟩⟩

/-- The round trip for ALL names: whenever `writeMultiPart` produces a body at all, the
server reads back the fields and files — for EVERY field name, file name and parameter value
(any bytes: quotes, backslashes, CR/LF, other controls, non-ASCII, invalid UTF-8, any length),
every content type and parameter name the writer accepted.  Nothing about the BYTES of names is
assumed: what cannot be carried was refused (`writeChecked_ok_iff`).  Left as DOMAIN (`FileDomain`,
not refused by `writeMultiPart` and not a matter of bytes): the form name and the file name of a
file non-empty (`SetFileUpload` refuses the others earlier), parameter names distinct and without
`*`, content type without surrounding blanks, contents free of the delimiter. -/
theorem multipart_roundtrip_all_names (b : Bytes) (fields : List (Bytes × Bytes)) (files : List File)
    (body : Bytes) (hb : (10 : UInt8) ∉ b)
    (hw : writeChecked b fields files = .ok body)
    (hfree : ∀ kv ∈ fields, BoundaryFree (delim b) (crlf ++ kv.2))
    (hfiles : ∀ f ∈ files, FileDomain b f) :
    serverForm b body = .ok (fields.map fieldItem ++ files.map fileItem) := by
  obtain ⟨rfl, h1, h2⟩ := (writeChecked_ok_body b fields files body).mp hw
  exact multipart_roundtrip b fields files hb
    (fun kv hkv => ⟨(checkField_ok kv).mp (h1 kv hkv), hfree kv hkv⟩)
    (fun f hf => fileOK_of_checked b f (h2 f hf) (hfiles f hf))

/-- No part-header injection, for every field and for every file `checkFile` accepts whose form name
and file name are non-empty: every byte of every part header line value is one `net/textproto`
accepts (in particular no CR, no LF), so the header block of a part consists of exactly the lines
the writer meant to write. -/
theorem part_headers_valid (fields : List (Bytes × Bytes)) (files : List File)
    (hfiles : ∀ f ∈ files, checkFile f = .ok () ∧ f.param ≠ [] ∧ f.filename ≠ []) :
    (∀ kv ∈ fields, ∀ c ∈ fieldDisposition kv.1, validValueByte c = true) ∧
    (∀ f ∈ files, (∀ c ∈ fileDisposition f, validValueByte c = true) ∧
      (isStringEmpty f.ctype = false → ∀ c ∈ f.ctype, validValueByte c = true)) := by
  refine ⟨fun kv _ => (fieldDisposition_value kv.1).2.1, fun f hf => ?_⟩
  obtain ⟨hc, hp, hn⟩ := hfiles f hf
  obtain ⟨hct, hkeys⟩ := (checkFile_ok f).mp hc
  refine ⟨?_, fun _ c hcm => by simp [validValueByte, hct c hcm]⟩
  intro c hcm
  simp only [fileDisposition, List.mem_append, List.mem_flatMap] at hcm
  rcases hcm with hcm | ⟨p, hpm, hcm⟩
  · exact formData_valid c hcm
  · apply cdParam_valid p ?_ c hcm
    rw [fileParams_shape f hp hn] at hpm
    simp only [List.mem_cons] at hpm
    rcases hpm with rfl | rfl | hpm
    · exact key_consts.1.2.1
    · exact key_consts.2.2.1
    · exact fun x hx => tchar_token x ((hkeys p hpm).2 x hx)

/-- The behaviour of imroc/req before commit b190ad2 (`rawFieldDisposition`: Go's `WriteField`, only
`\` and `"` escaped): the field name `a` CR LF `X: y` puts a second header line `X: y"` into the part
header — header injection (lanes `mpwrite`, `e2e`; class `c17-field-name-ctl`). -/
theorem raw_field_name_injects :
    (readHeaders 10 true (headerLine cdHeader (rawFieldDisposition [97, 13, 10, 88, 58, 32, 121]) ++ crlf)).toOption.map
      (fun r => r.1.map (·.1)) = some [cdHeader, [88]] := by decide +kernel

/-- the same name under `fieldDisposition`: one header line -/
example :
    (readHeaders 10 true (headerLine cdHeader (fieldDisposition [97, 13, 10, 88, 58, 32, 121]) ++ crlf)).toOption.map
      (fun r => r.1.map (·.1)) = some [cdHeader] := by decide +kernel

/-- The hypothesis `BoundaryFree` of `multipart_roundtrip` in plain words: it holds whenever
the delimiter (CRLF `--` boundary) does not occur in CRLF ++ content and the boundary has no
CR — which is what "the boundary does not occur in the data" means for a multipart body. -/
theorem boundary_free_of_absent (b content : Bytes) (hcr : (13 : UInt8) ∉ b)
    (h : ¬ (delim b) <:+: (crlf ++ content)) : BoundaryFree (delim b) (crlf ++ content) :=
  boundaryFree_of_not_infix b (crlf ++ content) hcr h

/-- A boundary accepted by `Writer.SetBoundary` contains no LF: the hypothesis `hb` of the round trips
holds of every boundary that can be set. -/
theorem validBoundary_no_lf (b : Bytes) (h : validBoundary b = true) : (10 : UInt8) ∉ b := by
  intro hm
  simp only [validBoundary, Bool.and_eq_true, List.all_eq_true] at h
  have := h.1.2 10 hm
  exact absurd this (by decide)

/- Non-vacuity: a field, and a file whose name contains TAB, a quote, a backslash and a
non-ASCII byte and whose content contains CRLF and dashes, under the boundary `B`. -/
set_option maxRecDepth 100000 in
example : (serverForm [66] (write [66] [([107], [118, 13, 10, 45, 45])]
      [⟨[102], [97, 9, 34, 92, 200], [], [116, 47, 120], [13, 10, 45, 45, 65, 0]⟩])).toOption
    = some [.field [107] [118, 13, 10, 45, 45],
            .file [102] [97, 9, 34, 92, 200] [116, 47, 120] [13, 10, 45, 45, 65, 0]] := by decide +kernel

/- Non-vacuity of the hypotheses: the same field and file satisfy `FieldOK` / `FileOK`. -/
example : FieldOK [66] ([107], [118, 13, 10, 45, 45]) :=
  ⟨by decide, by unfold BoundaryFree; decide +kernel⟩

/- A field whose NAME is `a` CR LF `X: y` `"` `\` NUL: accepted, arrives percent-encoded. -/
set_option maxRecDepth 100000 in
example : (match writeChecked [66] [([97, 13, 10, 88, 58, 32, 121, 34, 92, 0], [118])] [] with
    | .ok body => (serverForm [66] body).toOption
    | .error _ => none)
    = some [.field [97, 37, 48, 68, 37, 48, 65, 88, 58, 32, 121, 34, 92, 37, 48, 48] [118]] := by decide +kernel

/- the error branch is reachable: empty field name, CR in a content type, `"` in a parameter name -/
example : writeChecked [66] [([], [118])] [] = .error .missingFieldName := rfl
example : writeChecked [66] [] [⟨[102], [97], [], [116, 13, 10, 88], []⟩] = .error .badContentType := rfl
example : writeChecked [66] [] [⟨[102], [97], [([120, 34], [1])], [116], []⟩] = .error .badParamKey := rfl

example : FileOK [66] ⟨[102], [97, 9, 34, 92, 200], [([120, 45, 97], [1, 2])], [116, 47, 120], [13, 10, 45, 45, 65, 0]⟩ :=
  ⟨by decide, by decide, by unfold GoodParams; decide, by unfold CTypeOK; decide, by unfold BoundaryFree; decide +kernel⟩

example : (parseMediaType (formDataContentType [97, 32, 98])).toOption = some (multipartFormData, [(boundaryKey, [97, 32, 98])])
    ∧ validBoundary [97, 32, 98] = true := by
  decide +kernel

end Multipart

section Dispatch
open Req.Body Req.Multipart

/-- `Client.isPayloadForbid`: HEAD and OPTIONS never carry a payload, GET only when
`AllowGetMethodPayload` is set. -/
theorem isPayloadForbid_iff (m : String) (allow : Bool) :
    isPayloadForbid m allow = true ↔ m = "HEAD" ∨ m = "OPTIONS" ∨ (m = "GET" ∧ allow = false) := by
  simp only [isPayloadForbid, Bool.or_eq_true, Bool.and_eq_true, beq_iff_eq, Bool.not_eq_true', or_comm,
    or_left_comm]

/-- Whatever body description the request carries (raw
body, value to marshal, form data, files), a method that must not carry a payload sends
none, and no error is raised. -/
theorem payload_forbidden_sends_none (c : Cfg) (h : isPayloadForbid c.method c.allowGet = true) :
    dispatch c = some ⟨.none, none, effCT c⟩ := by
  simp [dispatch, h]

private def exHead : Cfg :=
  { method := "HEAD", allowGet := true, multipart := true, clientForm := [([1], [ [2] ])],
    reqForm := [], ordered := [[1]], files := [], boundary := [66], marshal := some (some [1], none),
    body := some [1, 2], reqCT := [], clientCT := [], sniffed := [] }

example : (dispatch exHead).map (·.body) = some none := by decide +kernel

private def exGet : Cfg :=
  { method := "GET", allowGet := true, multipart := false, clientForm := [],
    reqForm := [], ordered := [], files := [], boundary := [66], marshal := none,
    body := some [1, 2], reqCT := [], clientCT := [], sniffed := [7] }

/- Conversely a body IS sent with every other method when one is described. -/
example : (dispatch exGet).map (·.body) = some (some [1, 2]) := by decide +kernel

/-- An odd number of ordered form data strings is refused by the call itself — unless the method
sends no payload at all. -/
theorem ordered_odd_fails (c : Cfg) (hm : isPayloadForbid c.method c.allowGet = false)
    (h : c.ordered.length % 2 = 1) : dispatch c = none := by
  simp [dispatch, hm, pairUp_odd c.ordered h]

/-- A value to marshal (and nothing that takes precedence: no form data,
no multipart): without any Content-Type preset the JSON marshaller is used and the JSON
content type is set; with a preset (request level first, else client level) containing
"xml" in any letter case (`+xml` suffixes and parameters included) the XML marshaller is used,
otherwise the JSON marshaller; the preset type is kept. -/
theorem marshal_choice (c : Cfg) (json xml : Option Bytes)
    (hm : isPayloadForbid c.method c.allowGet = false) (hmp : c.multipart = false)
    (ho : c.ordered = []) (hr : c.reqForm = []) (hc : c.clientForm = [])
    (hv : c.marshal = some (json, xml)) :
    dispatch c =
      if (effCT c).isEmpty then json.map (fun j => ⟨.marshalJson, some j, jsonCT⟩)
      else if isXMLType (effCT c) then xml.map (fun x => ⟨.marshalXml, some x, effCT c⟩)
      else json.map (fun j => ⟨.marshalJson, some j, effCT c⟩) := by
  simp only [dispatch, hm, hmp, ho, hr, hc, hv, pairUp, mergeForm, addAll, List.foldl_nil,
    List.isEmpty_nil, Bool.false_eq_true, ↓reduceIte, Bool.not_true, Bool.or_self]
  split
  · cases json <;> rfl
  · split
    · cases xml <;> rfl
    · cases json <;> rfl

theorem joinAmp_encodePairs (a b : List Pair) :
    joinAmp (encodePairs a) (encodePairs b) = encodePairs (a ++ b) := by
  have hne : ∀ (p : Pair) (l : List Pair), (encodePairs (p :: l)).isEmpty = false := by
    intro p l
    cases l with
    | nil => simp [encodePairs, encPair]
    | cons q qs => simp [encodePairs, encPair]
  induction a with
  | nil =>
    cases b with
    | nil => rfl
    | cons q qs => simp [joinAmp, encodePairs]
  | cons p ps ih =>
    cases b with
    | nil => simp [joinAmp, hne, encodePairs]
    | cons q qs =>
      cases ps with
      | nil =>
        have h1 := hne p []
        simp only [encodePairs] at h1
        simp [joinAmp, h1, hne, encodePairs]
      | cons r rs =>
        have h1 : encodePairs (p :: r :: rs) = encPair p ++ 38 :: encodePairs (r :: rs) := rfl
        have h2 : encodePairs (p :: r :: rs ++ q :: qs) = encPair p ++ 38 :: encodePairs (r :: rs ++ q :: qs) := rfl
        rw [h2, ← ih]
        simp [joinAmp, hne, h1]

/-- The urlencoded case of `parseRequestBody`: whenever form data of either kind is
present (and the request is not multipart), the request goes out as
`application/x-www-form-urlencoded` — whatever Content-Type was preset — and the server's
`ParseForm` reads the body back, without error, as exactly the ordered pairs (in order)
followed by the merged request + client form data. -/
theorem form_dispatch_roundtrip (c : Cfg) (pairs : List Pair)
    (hm : isPayloadForbid c.method c.allowGet = false) (hmp : c.multipart = false)
    (ho : pairUp c.ordered = some pairs)
    (hne : (mergeForm c.reqForm c.clientForm).isEmpty = false ∨ pairs.isEmpty = false) :
    ∃ body, dispatch c = some ⟨.form, some body, formCT⟩ ∧
      parseForm body = (pairs ++ flatten (sortKeys (mergeForm c.reqForm c.clientForm)), false) := by
  refine ⟨joinAmp (encodePairs pairs) (encode (mergeForm c.reqForm c.clientForm)), ?_, ?_⟩
  · have : (!(mergeForm c.reqForm c.clientForm).isEmpty || !pairs.isEmpty) = true := by
      rcases hne with h | h <;> simp [h]
    simp [dispatch, hm, hmp, ho, this]
  · unfold encode
    rw [joinAmp_encodePairs, ordered_form_roundtrip]

/-- The multipart case of `parseRequestBody`: a multipart request goes out under
`multipart/form-data; boundary=<the boundary the body was written with>` and, for everything a
multipart body can carry, the server reads back the ordered pairs, then the merged form data
(in map order), then the files.  Field names: ANY non-empty byte strings. -/
theorem multipart_dispatch_roundtrip (c : Cfg) (pairs : List Pair)
    (hm : isPayloadForbid c.method c.allowGet = false) (hmp : c.multipart = true)
    (ho : pairUp c.ordered = some pairs) (hb : (10 : UInt8) ∉ c.boundary)
    (hfields : ∀ kv ∈ pairs ++ flatten (mergeForm c.reqForm c.clientForm), FieldOK c.boundary kv)
    (hfiles : ∀ f ∈ c.files, checkFile f = .ok () ∧ FileDomain c.boundary f) :
    ∃ body, dispatch c = some ⟨.multipart, some body, formDataContentType c.boundary⟩ ∧
      serverForm c.boundary body =
        .ok ((pairs ++ flatten (mergeForm c.reqForm c.clientForm)).map fieldItem ++ c.files.map fileItem) := by
  have hw := (writeChecked_ok_body c.boundary (pairs ++ flatten (mergeForm c.reqForm c.clientForm))
    c.files _).mpr ⟨rfl, fun kv hkv => (checkField_ok kv).mpr (hfields kv hkv).name_ne,
      fun f hf => (hfiles f hf).1⟩
  exact ⟨_, by simp [dispatch, hm, hmp, ho, hw],
    multipart_roundtrip_all_names _ _ _ _ hb hw (fun kv hkv => (hfields kv hkv).free)
      fun f hf => (hfiles f hf).2⟩

/-- The rejected class fails the CALL (nothing is sent): a field without a name, a content type
that is not a header value, a parameter name that is not a token. -/
theorem multipart_dispatch_rejects (c : Cfg) (pairs : List Pair)
    (hm : isPayloadForbid c.method c.allowGet = false) (hmp : c.multipart = true)
    (ho : pairUp c.ordered = some pairs)
    (hbad : (∃ kv ∈ pairs ++ flatten (mergeForm c.reqForm c.clientForm), kv.1 = []) ∨
      ∃ f ∈ c.files, checkFile f ≠ .ok ()) :
    dispatch c = none := by
  cases hw : writeChecked c.boundary (pairs ++ flatten (mergeForm c.reqForm c.clientForm)) c.files with
  | error e => simp [dispatch, hm, hmp, ho, hw]
  | ok body =>
    obtain ⟨-, h1, h2⟩ := (writeChecked_ok_body _ _ _ _).mp hw
    rcases hbad with ⟨kv, hkv, he⟩ | ⟨f, hf, he⟩
    · exact absurd he ((checkField_ok kv).mp (h1 kv hkv))
    · exact absurd (h2 f hf) he

end Dispatch

section Progress
open Req.Progress

/-- Upload (`callbackWriter`): for every sequence of write results and
every behaviour of the clock: the reported counts are strictly increasing, every one of them
is the true number of bytes written after some call (`Sublist` of the running counts), and none
exceeds the bytes written in total. -/
theorem progress_monotone_upload (st : WState) (evs : List WEvent) :
    (runW st evs).Pairwise (· < ·) ∧ (runW st evs).Sublist (countsW st.written evs) ∧
    ∀ x ∈ runW st evs, st.written < x ∧ x ≤ st.written + bytesW evs := by
  exact ⟨(runW_spec st evs).1, runW_sublist st evs, (runW_spec st evs).2⟩

/-- Upload: when the size was known (`totalSize` = the bytes that are
really written) and not zero, the last reported count is that size. -/
theorem progress_final_upload (total : Int) (evs : List WEvent)
    (hknown : total = bytesW evs) (hpos : 0 < total) :
    (runW ⟨0, total⟩ evs).getLast? = some total := by
  have := runW_final ⟨0, total⟩ evs (by simp [hknown]) (by omega)
  simpa using this

example : runW ⟨0, 1000⟩ [⟨512, false⟩, ⟨0, true⟩, ⟨-1, true⟩, ⟨400, true⟩, ⟨88, false⟩] = [912, 1000] := by
  decide +kernel

/-- With an unknown size (`totalSize = 0`) nothing is promised about the end: the clock alone
decides (this is why the property says "uploads whose size was known"). -/
example : runW ⟨0, 0⟩ [⟨512, false⟩, ⟨488, false⟩] = [] := by decide

/-- Download (`callbackReader`): the same three facts as for the upload, from a fresh reader. -/
theorem progress_monotone_download (evs : List REvent) :
    (runR ⟨0, 0⟩ evs).Pairwise (· < ·) ∧ (runR ⟨0, 0⟩ evs).Sublist (countsR 0 evs) ∧
    ∀ x ∈ runR ⟨0, 0⟩ evs, 0 < x ∧ x ≤ bytesR evs := by
  obtain ⟨h1, h2, -, -, h5, h6⟩ := runR_spec ⟨0, 0⟩ evs (Int.le_refl 0)
  refine ⟨h1, runR_sublist _ evs, fun x hx => ?_⟩
  have := h2 x hx
  simp only at this h6
  omega

/-- Download: once a read has delivered `io.EOF` (and nothing is read
after it), the last reported count is the total number of bytes read, for every split into
reads and every behaviour of the clock. -/
theorem progress_final_download (pre post : List REvent) (e : REvent)
    (heof : e.eof = true) (hpost : ∀ x ∈ post, x.n ≤ 0) (hpos : 0 < bytesR (pre ++ e :: post)) :
    (runR ⟨0, 0⟩ (pre ++ e :: post)).getLast? = some (bytesR (pre ++ e :: post)) := by
  have := runR_final ⟨0, 0⟩ pre post e (by simp) heof hpost (by simpa using hpos)
  simpa using this

example : runR ⟨0, 0⟩ [⟨100, false, false⟩, ⟨50, false, true⟩, ⟨0, false, true⟩, ⟨25, false, false⟩, ⟨0, true, false⟩,
    ⟨0, true, true⟩] = [150, 175] := by decide +kernel

end Progress

end Req.Props.C17
