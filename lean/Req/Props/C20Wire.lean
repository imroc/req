import Req.Client.AuthWire
import Req.Props.C20
import Req.Lemmas.TrimBy
/-!
C20 — basic and bearer credentials on the wire: which credential a request carries
(request-level / client-level / URL user information) and what the origin recovers after HTTP
field transport, for every byte string.
-/
namespace Req.Props.C20
open Req.Proto Req.Auth Req.Ascii

def solid (c : UInt8) : Bool := isFieldByte c && !isOws c

theorem trimOws_id (v : Bytes) (hh : ∀ a ∈ v.head?, isOws a = false) (hl : ∀ z ∈ v.getLast?, isOws z = false) :
    trimOws v = v :=
  Req.Trim.trimBy_of_ends hh hl

/-- field transport leaves alone a value `pre ++ v` of field bytes that starts with a non-blank
byte of `pre` and ends with a non-blank byte of `v` -/
theorem transport_id (h2 : Bool) (pre v : Bytes) (hp : pre.all isFieldByte = true)
    (hh : ∃ a r, pre = a :: r ∧ isOws a = false) (hv : v.all isFieldByte = true) (hne : v ≠ [])
    (hl : ∀ z ∈ v.getLast?, isOws z = false) : transport h2 (pre ++ v) = some (pre ++ v) := by
  obtain ⟨a, r, rfl, ha⟩ := hh
  have hlast : (a :: r ++ v).getLast? = v.getLast? := by
    rw [List.getLast?_append, List.getLast?_eq_some_getLast hne]; rfl
  have ht : trimOws (a :: r ++ v) = a :: r ++ v :=
    trimOws_id _ (fun x (h : some a = some x) => Option.some.inj h ▸ ha) (hlast ▸ hl)
  unfold transport
  rw [if_pos (by rw [List.all_append, hp, hv]; rfl), ht]
  cases h2 <;> rfl

theorem solid_iff {c : UInt8} : solid c = true ↔ isFieldByte c = true ∧ isOws c = false := by
  simp [solid]

/-- `alpha` is total: from 64 on it returns `/`, so the sweep over `n < 64` needs the second branch -/
theorem alpha_solid (n : Nat) : solid (Req.Base64.alpha n) = true :=
  if h : n < 64 then
    (by decide +kernel : ∀ n, n < 64 → solid (Req.Base64.alpha n) = true) n h
  else by
    unfold Req.Base64.alpha
    rw [if_neg (by omega), if_neg (by omega), if_neg (by omega), if_neg (by omega)]; rfl

theorem encode_solid : ∀ bs : Bytes, (Req.Base64.encode bs).all solid = true := by
  intro bs
  fun_induction Req.Base64.encode bs with
  | case1 => rfl
  | case2 | case3 => simp only [List.all_cons, alpha_solid]; rfl
  | case4 a b c rest ih => simp only [List.all_cons, alpha_solid, ih]; rfl

theorem encode_ne_nil (a : UInt8) (l : Bytes) : Req.Base64.encode (a :: l) ≠ [] := by
  match l with
  | [] | [_] | _ :: _ :: _ => simp [Req.Base64.encode]

/-- the Basic value never needs anything of the transport: it is refused by nobody and loses
nothing -/
theorem basic_transported (h2 : Bool) (u p : Bytes) : transport h2 (basic u p) = some (basic u p) := by
  have henc := List.all_eq_true.mp (encode_solid (u ++ colon :: p))
  have hne : Req.Base64.encode (u ++ colon :: p) ≠ [] := by
    cases u <;> exact encode_ne_nil _ _
  exact transport_id h2 basicPrefix _ (by decide) ⟨_, _, rfl, by decide⟩
    (List.all_eq_true.mpr fun x hx => (solid_iff.1 (henc x hx)).1) hne
    fun z hz => (solid_iff.1 (henc z (List.mem_of_getLast? hz))).2

/-- **basic_wire_exact**: for EVERY user-id without a colon and EVERY password — any byte
values, CR, LF, NUL, quotes, non-ASCII, empty, any length — the call is not refused and the
origin recovers exactly `(user, password)` after field transport, over HTTP/1.1 and HTTP/2. -/
theorem basic_wire_exact (h2 : Bool) (u p : Bytes) (h : colon ∉ u) : wireBasic h2 u p = some (some (u, p)) := by
  unfold wireBasic
  rw [basic_transported, Option.map_some, basic_roundtrip u p h]

/-- with a colon in the user-id: still never refused, and `user:password` arrives whole -/
theorem basic_wire_joined (h2 : Bool) (u p : Bytes) :
    ∃ u' p', wireBasic h2 u p = some (some (u', p')) ∧ u' ++ colon :: p' = u ++ colon :: p := by
  obtain ⟨u', p', h1, h2⟩ := basic_joined u p
  exact ⟨u', p', by unfold wireBasic; rw [basic_transported, Option.map_some, h1], h2⟩

theorem bearer_fieldBytes (t : Bytes) : (bearer t).all isFieldByte = t.all isFieldByte := by
  unfold bearer; rw [List.all_append]; rfl

/-- **bearer_wire_exact**: a token made of bytes a header field can carry (no control byte but
HTAB), not empty and not ending in SP/HTAB, arrives exactly — spaces inside and in front, quotes,
colons, non-ASCII bytes included (HTTP/1.1; over HTTP/2 see `bearer_wire_exact_h2`). -/
theorem bearer_wire_exact (t : Bytes) (hf : t.all isFieldByte = true) (hne : t ≠ [])
    (hl : ∀ z ∈ t.getLast?, isOws z = false) : wireBearer false t = some (some t) := by
  unfold wireBearer bearer
  rw [transport_id false bearerPrefix t (by decide) ⟨_, _, rfl, by decide⟩ hf hne hl]
  exact congrArg some (bearer_exact t)

/-- over HTTP/2 the value is carried as it is: EVERY token without control bytes arrives exactly,
the empty one and those ending in white space included -/
theorem bearer_wire_exact_h2 (t : Bytes) (hf : t.all isFieldByte = true) : wireBearer true t = some (some t) := by
  unfold wireBearer transport
  rw [bearer_fieldBytes, hf]
  exact congrArg some (bearer_exact t)

/-- **bearer_unsendable_refused**: a token with a control byte (CR, LF, NUL, DEL, …) makes the call
FAIL before anything is sent — never another token, never an injected header line. -/
theorem bearer_unsendable_refused (h2 : Bool) (t : Bytes) (h : t.all isFieldByte = false) :
    wireBearer h2 t = none := by
  unfold wireBearer transport
  rw [bearer_fieldBytes, h]; rfl

/-- The excluded points of "the server recovers exactly the token for all strings", which no
HTTP/1.1 client can avoid: white space at the END of a token is not part of a field value (it
arrives without), and an empty (or all-white) token leaves `Bearer` without credentials. -/
theorem bearer_trailing_ows_excluded :
    wireBearer false [116, 111, 107, 32] = some (some [116, 111, 107]) ∧
    wireBearer false [32, 116, 111, 107] = some (some [32, 116, 111, 107]) ∧
    wireBearer false [] = some none ∧ wireBearer false [32, 9] = some none := by decide +kernel

example : wireBearer false [116, 58, 32, 34, 195, 169] = some (some [116, 58, 32, 34, 195, 169]) := by decide +kernel
example : wireBearer true [116, 111, 107, 32] = some (some [116, 111, 107, 32]) := by decide +kernel
example : wireBearer false [97, 13, 10, 88, 58, 49] = none ∧ wireBearer true [97, 13, 10, 88, 58, 49] = none := by
  decide +kernel
example : wireBasic false [97, 13, 10] [0, 255, 34] = some (some ([97, 13, 10], [0, 255, 34])) := by decide +kernel

/-- a request-level credential always wins -/
theorem request_level_wins (v : Bytes) (c : Option Bytes) (u : Option (Bytes × Bytes)) :
    effective (some v) c u = some v := rfl

/-- without one, the client-level credential — also when the URL carries user information -/
theorem client_level_over_url (v : Bytes) (u : Option (Bytes × Bytes)) :
    effective none (some v) u = some v := rfl

/-- the user information of the URL is used only when nothing else is configured, as Basic -/
theorem url_userinfo_last (user pass : Bytes) :
    effective none none (some (user, pass)) = some (basic user pass) ∧ effective none none none = none :=
  ⟨rfl, rfl⟩

end Req.Props.C20
