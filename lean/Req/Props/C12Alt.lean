import Req.Lemmas.AltSvc
import Req.Lemmas.Dispatch
/-!
# C12 — the Alt-Svc learning state machine: per origin (port included), confirmed only by a
successful HTTP/3 exchange, never used after expiry

Theorems about `Req.Pool.AltSvc.step` / `run` for EVERY sequence of events (Alt-Svc headers
with any `ma`, background dial outcomes, requests at any time, over any set of origins).
Tied to `handleAltSvc` / `handlePendingAltSvc` / `checkAltSvc` / `pkg/altsvc` by the sequence
lane `c12altsm`.
-/
namespace Req.Props.C12
open Req.Pool.Dispatch (Origin)
open Req.Pool.AltSvc

/-- The origin has some Alt-Svc state. -/
def hasEntry (s : State) (o : Origin) : Prop := s.pending o ≠ none ∨ s.jar o ≠ none

/-- An `Alt-Svc` header with at least one usable `h3` entry was received for `o`. -/
def advertisedIn (evs : List Event) (o : Origin) : Prop :=
  ∃ now mas, Event.header o now mas ∈ evs ∧ mas ≠ []

/-- **State exists only for origins that advertised themselves.** After any event sequence from
the empty state, an origin has a pending or confirmed entry only if an `Alt-Svc` header with an
`h3` entry was received on a response of THAT origin. -/
theorem entry_only_for_advertised_origin (evs : List Event) (o : Origin)
    (h : hasEntry (run State.empty evs) o) : advertisedIn evs o := by
  rcases run_traces hasEntry (fun e o => ∃ now mas, e = .header o now mas ∧ mas ≠ [])
    (fun s e o => (step_move s e o).entry)
    evs State.empty o h with h | ⟨e, hmem, now, mas, rfl, hm⟩
  · rcases h with h | h <;> simp [State.empty] at h
  · exact ⟨now, mas, hmem, hm⟩

/-- `checkAltSvc` takes the shortcut exactly when `usable` holds (this is `Net.alt`). -/
theorem request_alt_iff_usable (s : State) (o : Origin) (now : Nat) (ok : Bool) :
    (∃ b, (step s (.request o now ok)).2 = some (.alt b)) ↔ usable s o now = true := by
  rw [step_request_served]; cases usable s o now <;> simp

theorem request_alt_needs_entry (s : State) (o : Origin) (now : Nat) (ok b : Bool)
    (h : (step s (.request o now ok)).2 = some (.alt b)) : hasEntry s o := by
  have hu := (request_alt_iff_usable s o now ok).1 ⟨b, h⟩
  unfold usable at hu; unfold hasEntry
  rcases hp : s.pending o with _ | p
  · exact .inr (jar_some_of_live (by simpa [hp] using hu))
  · exact .inl nofun

/-- **Alt-Svc reroutes only the origin that advertised** (`alt_entry_is_per_origin` over the
whole state machine): whatever was learned, confirmed, expired for other origins — other
ports of the same host included — a request for `o` goes to HTTP/3 through the shortcut only
if `o` itself advertised `h3` earlier. -/
theorem alt_route_only_for_advertised_origin (evs : List Event) (o : Origin) (now : Nat) (ok b : Bool)
    (h : (step (run State.empty evs) (.request o now ok)).2 = some (.alt b)) : advertisedIn evs o :=
  entry_only_for_advertised_origin evs o (request_alt_needs_entry _ o now ok b h)

example : (step (run State.empty [.header ⟨.https, 1, 8443⟩ 0 [some 3600], .dialed ⟨.https, 1, 8443⟩ [true]])
    (.request ⟨.https, 1, 8444⟩ 1 true)).2 = some .normal := by decide +kernel
example : (step (run State.empty [.header ⟨.https, 1, 8443⟩ 0 [some 3600], .dialed ⟨.https, 1, 8443⟩ [true]])
    (.request ⟨.https, 1, 8443⟩ 1 true)).2 = some (.alt true) := by decide +kernel

/-- A successful exchange over the Alt-Svc shortcut for `o` happened in `evs`. -/
def confirmedIn (evs : List Event) (o : Origin) : Prop := ∃ now, Event.request o now true ∈ evs

/-- **pending → confirmed only by a successful exchange.** An origin is in the jar only if a
request for it succeeded over HTTP/3 before. -/
theorem confirmed_only_after_success (evs : List Event) (o : Origin)
    (h : (run State.empty evs).jar o ≠ none) : confirmedIn evs o := by
  rcases run_traces (fun s o => s.jar o ≠ none) (fun e o => ∃ now, e = .request o now true)
    (fun s e o => (step_move s e o).jar)
    evs State.empty o h with h | ⟨e, hmem, now, rfl⟩
  · simp [State.empty] at h
  · exact ⟨now, hmem⟩

example : (run State.empty [.header ⟨.https, 1, 443⟩ 0 [some 60], .dialed ⟨.https, 1, 443⟩ [true],
    .request ⟨.https, 1, 443⟩ 1 true]).jar ⟨.https, 1, 443⟩ = some (some 60) := by decide +kernel
example : (run State.empty [.header ⟨.https, 1, 443⟩ 0 [some 60], .dialed ⟨.https, 1, 443⟩ [true],
    .request ⟨.https, 1, 443⟩ 1 false]).jar ⟨.https, 1, 443⟩ = none := by decide +kernel

/-- **An expired confirmed entry is never used**, and it is gone afterwards. -/
theorem expired_entry_not_used (s : State) (o : Origin) (now : Nat) (ok : Bool) (e : Option Nat)
    (hp : s.pending o = none) (hj : s.jar o = some e) (hx : expired e now = true) :
    (step s (.request o now ok)).2 = some .normal ∧ (step s (.request o now ok)).1.jar o = none := by
  have hl : jarLive s o now = false := by simp [jarLive, hj, hx]
  have he : jarExpired s o now = true := by simp [jarExpired, hj, hx]
  refine ⟨by simp [step_request_served, usable, hp, hl], ?_⟩
  simp [step, viaJar, hp, purge_jar_self, he]

/-- … and an unexpired one is used (`ma` is honoured in both directions). -/
theorem unexpired_entry_used (s : State) (o : Origin) (now : Nat) (ok : Bool) (e : Option Nat)
    (hp : s.pending o = none) (hj : s.jar o = some e) (hx : expired e now = false) :
    (step s (.request o now ok)).2 = some (.alt ok) := by
  simp [step_request_served, usable, hp, jarLive, hj, hx]

example : expired (some 60) 61 = true ∧ expired (some 60) 60 = false ∧ expired none 1000000 = false := by decide +kernel

/-- The expiry of a confirmed entry is the one computed when its header was parsed:
`now + ma` of the header event, not of the confirmation. -/
example : (run State.empty [.header ⟨.https, 1, 443⟩ 100 [some 60], .dialed ⟨.https, 1, 443⟩ [true],
    .request ⟨.https, 1, 443⟩ 150 true]).jar ⟨.https, 1, 443⟩ = some (some 160) := by decide +kernel

/-- **`clear`, an unparsable value, other protocols only: nothing happens** — in particular
nothing is cleared (a deviation from RFC 7838 §3 carried as it is; recorded in notes/C12.md). -/
theorem empty_header_changes_nothing (s : State) (o : Origin) (now : Nat) :
    (step s (.header o now [])).1.pending = s.pending ∧ (step s (.header o now [])).2 = none
    ∧ (jarLive s o now = true → (step s (.header o now [])).1.jar o = s.jar o) := by
  rw [step_header_ignored (.inr (.inr rfl))]
  exact ⟨purge_pending .., rfl, fun hl => by rw [purge_jar_self, not_expired_of_live hl]; rfl⟩

/-- **The first advertisement governs until it expires**: while the origin has a pending entry
or an unexpired confirmed one, a further header (another `ma`, other endpoints) is ignored. -/
theorem known_origin_ignores_header (s : State) (o : Origin) (now : Nat) (mas : List (Option Nat))
    (h : s.pending o ≠ none ∨ jarLive s o now = true) :
    (step s (.header o now mas)).1.pending = s.pending ∧ (step s (.header o now mas)).2 = none := by
  rw [step_header_ignored (h.elim (.inr ∘ .inl) .inl)]
  exact ⟨purge_pending .., rfl⟩

/-- **Routing of an origin that never advertised is untouched by everything the client learned
elsewhere** (`other_origin_unaffected` over the state machine): with `Net.alt` read off the
state (`usable`), such a request is dispatched as if Alt-Svc did not exist. -/
theorem unadvertised_origin_routed_normally (evs : List Event) (b : Origin) (now : Nat)
    (cfg : Req.Pool.Dispatch.Cfg) (req : Req.Pool.Dispatch.Req) (net : Req.Pool.Dispatch.Net)
    (hb : ¬advertisedIn evs b) (hnet : net.alt = usable (run State.empty evs) b now) :
    Req.Pool.Dispatch.route cfg req net = Req.Pool.Dispatch.dispatch cfg req net := by
  have : net.alt = false := by
    rw [hnet]
    cases hu : usable (run State.empty evs) b now with
    | false => rfl
    | true =>
      obtain ⟨x, hx⟩ := (request_alt_iff_usable (run State.empty evs) b now true).2 hu
      exact absurd (alt_route_only_for_advertised_origin evs b now true x hx) hb
  exact (Req.Lemmas.Dispatch.route_of_no_alt this).1

/-- An origin never has a pending and a confirmed entry at once. -/
theorem pending_and_confirmed_disjoint (evs : List Event) (o : Origin) :
    ¬((run State.empty evs).pending o ≠ none ∧ (run State.empty evs).jar o ≠ none) :=
  List.foldlRecOn (motive := fun s => ∀ o, ¬(s.pending o ≠ none ∧ s.jar o ≠ none)) evs _ (fun _ h => h.1 rfl)
    (fun s hs e _ o => (step_move s e o).disjoint (hs o)) o

end Req.Props.C12
