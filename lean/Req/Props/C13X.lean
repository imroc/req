import Req.Client.DumpExtra
import Req.Props.C13
/-!
C13: transparency when the dump writer itself fails, and what `Response.Dump()` holds after a
call of several exchanges.
-/
namespace Req.Props.C13X
open Req.Proto Req.Client.Dump

theorem wrapWriterSink_eq_tee {σ τ : Type} (w : WriterM σ) (sink : WriterM τ) :
    wrapWriterSink w sink = tee w fun t p r =>
      if (p.take r.n).isEmpty then t else (sink.write t (p.take r.n)).2 := rfl

/-- **Transparency under a failing dump writer.** For EVERY sink — one that reports errors,
accepts short counts, or keeps arbitrary state — and every sequence of writes: the results the
caller sees and the state of the wrapped connection writer are exactly those of the unwrapped
writer. A dump writer cannot fail, shorten or alter the upload. -/
theorem wrappers_transparent_any_sink {σ τ : Type} (w : WriterM σ) (sink : WriterM τ) (s : σ) (t : τ)
    (ps : List Bytes) :
    ((wrapWriterSink w sink).runAll (s, t) ps).1 = (w.runAll s ps).1 ∧
    ((wrapWriterSink w sink).runAll (s, t) ps).2.1 = (w.runAll s ps).2 := by
  rw [wrapWriterSink_eq_tee, tee_runAll]
  exact ⟨rfl, rfl⟩

theorem fed_sink {τ : Type} (sink : WriterM τ) (t : τ) (ps : List Bytes) (rs : List IORes) :
    fed (fun t p r => if (p.take r.n).isEmpty then t else (sink.write t (p.take r.n)).2)
      t ps rs = sinkRun sink t (offered ps rs) := by
  induction ps generalizing t rs with
  | nil => rfl
  | cons p ps ih =>
    cases rs with
    | nil => rfl
    | cons r rs =>
      simp only [fed, offered, ih]
      split <;> rfl

/-- **…and the sink is still offered exactly what passed, once**, whatever it answered to earlier
offers: no retry after an error, no skipped piece. -/
theorem sink_offered_exactly {σ τ : Type} (w : WriterM σ) (sink : WriterM τ) (s : σ) (t : τ)
    (ps : List Bytes) :
    ((wrapWriterSink w sink).runAll (s, t) ps).2.2 = sinkRun sink t (offered ps (w.runAll s ps).1) := by
  rw [wrapWriterSink_eq_tee, tee_runAll]
  exact fed_sink sink t ps _

/-- non-vacuity: a connection writer that takes 5 more bytes, a sink that fails from its second
write on: the caller sees `3:ok, 2:short, 0:short`; the sink was offered `abc`, `de` and nothing else. -/
example :
    let r := (wrapWriterSink limitedWriter (failingSink 1)).runAll ((5, []), (0, [])) [[97, 98, 99], [100, 101, 102], [103]]
    r.1 = [⟨3, 0⟩, ⟨2, 2⟩, ⟨0, 2⟩] ∧ r.2.2 = (2, [[97, 98, 99], [100, 101]]) := by decide +kernel

/-- **`Response.Dump()` after a call of several exchanges.** The request's own buffer holds
exactly the selected parts of the exchanges of the LAST retry attempt — every redirect hop /
re-send of that attempt once, in order — and nothing of earlier attempts; every other writer
(client-level dump, request-level dump to a caller's writer) holds all exchanges of all attempts,
each once, in order. -/
theorem response_dump_last_attempt (ds : List Opts) (attempts : List (List Exchange)) (buf w : Writer) :
    dumpAfterRetries ds attempts buf w =
      if w = buf then (attempts.getLast?.getD []).flatMap fun e => ds.flatMap fun o => Req.Props.C13.selectedParts o e w
      else attempts.flatten.flatMap fun e => ds.flatMap fun o => Req.Props.C13.selectedParts o e w := by
  unfold dumpAfterRetries
  split <;> exact Req.Props.C13.selected_parts_exact ds _ w

/-- non-vacuity: two attempts, the second with a redirect hop; buffer 30 holds the two exchanges of
the second attempt only, writer 10 all three. -/
example :
    let o : Opts := { output := some 30, requestHeader := true, responseBody := true }
    let c : Opts := { output := some 10, requestHeader := true }
    let e (n : UInt8) : Exchange := ⟨[n], [n, n], [n, n, n], [n + 100]⟩
    dumpAfterRetries [c, o] [[e 1], [e 2, e 3]] 30 30 = [2, 102, 3, 103] ∧
    dumpAfterRetries [c, o] [[e 1], [e 2, e 3]] 30 10 = [1, 2, 3] := by decide +kernel

end Req.Props.C13X
