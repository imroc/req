import Req.Lemmas.C01Body
import Req.Lemmas.C01BodyH3
import Req.Lemmas.H1Parse
/-!
C01 — request fidelity of the HTTP/2 request body: what `clientStream.writeRequestBody` +
`awaitFlowControl` put into DATA frames, for EVERY body, every behaviour of the body reader
(sizes of its reads, how it signals its end, errors), every scratch-buffer length, every
SETTINGS_MAX_FRAME_SIZE and every flow-control schedule (`avails`: the window seen at each look,
zeros = still waiting; the list ending = no more window ever).

Model: `Req.H2.BodyWrite` (tied to the real `ClientConn` by the `h2body` lane).

Then the same for HTTP/3 (`sendRequestBody`, model `Req.H3.BodyWrite`: `h3_*`), and
`cross_protocol_body`: the three protocols deliver the same body.
-/
namespace Req.Props.C01Body
open Req.Proto Req.H2.BodyWrite Req.Lemmas.C01Body

/-- whatever happens — reader errors, a lying content length, a
window that never opens — the concatenation of the DATA payloads written so far is a prefix of
the bytes the reader yields: no byte is altered, dropped in the middle, duplicated or reordered. -/
theorem h2_data_is_body_prefix (cfg : Cfg) (r : Reader) (avails : List Nat) :
    payloads (frames (writeBody cfg r avails).1) <+: r.data := by
  obtain ⟨⟨tail, h, _⟩, _⟩ := loop_spec cfg (fuelFor r)
    (remain0 cfg.cl) r avails
  exact ⟨tail, h⟩

/-- when `writeRequestBody` reports success the DATA payloads are EXACTLY the
bytes of the body, END_STREAM is set on exactly one frame and that frame is the last one (a DATA
frame that carries the final bytes, an empty DATA frame, or the trailers), and the body was not
longer than a declared content length. -/
theorem h2_body_exact (cfg : Cfg) (r : Reader) (avails : List Nat)
    (h : (writeBody cfg r avails).2 = .done) :
    payloads (frames (writeBody cfg r avails).1) = r.data ∧
    EndsOnce (writeBody cfg r avails).1 ∧
    ∀ n, cfg.cl = some n → r.data.length ≤ n := by
  obtain ⟨⟨tail, h1, h2⟩, h3, _, h5⟩ := loop_spec cfg (fuelFor r)
    (remain0 cfg.cl) r avails
  refine ⟨?_, h3 h, ?_⟩
  · have := h2 h
    subst this
    simpa [writeBody] using h1
  · intro n hn
    have := h5 (by simp [hn]) h
    simp only [hn, remain0] at this
    omega

/-- in every other outcome (reader error, body longer than the
declared length, writer still blocked on flow control) NO frame carries END_STREAM: the peer never
sees a complete request made of a partial body (the stream is then reset by `cleanupWriteRequest`). -/
theorem h2_no_end_stream_unless_done (cfg : Cfg) (r : Reader) (avails : List Nat)
    (h : (writeBody cfg r avails).2 ≠ .done) : NoEnd (writeBody cfg r avails).1 := by
  exact (loop_spec cfg (fuelFor r) (remain0 cfg.cl) r avails).2.2.1 h

/-- no DATA payload exceeds the window `awaitFlowControl` saw when it cut
the frame, nor the peer's SETTINGS_MAX_FRAME_SIZE. -/
theorem h2_within_window (cfg : Cfg) (r : Reader) (avails : List Nat) :
    ∀ s ∈ (writeBody cfg r avails).1,
      s.frame.payload.length ≤ s.avail ∧ s.frame.payload.length ≤ cfg.maxFrame := by
  refine loop_forall cfg (fun a p e _ h1 h2 => ⟨h1, h2⟩) ?_ (fuelFor r) (remain0 cfg.cl) r avails
  simp [closing_payload]

/-- the windows recorded with the flow-controlled frames are looks of
the given schedule, in order, each used for at most one frame (a sublist of `avails`): together with
`h2_within_window`, every DATA frame fits the window that was really available when it was cut. -/
theorem h2_windows_used_in_order (cfg : Cfg) (r : Reader) (avails : List Nat) :
    (dataAvails (writeBody cfg r avails).1).Sublist avails :=
  loop_avails cfg (fuelFor r) (remain0 cfg.cl) r avails

/-- a reader that yields MORE bytes than the declared content
length never completes the request: the outcome is an error (or the writer is still blocked) and
no END_STREAM was sent. -/
theorem h2_long_reader_never_completes (cfg : Cfg) (r : Reader) (avails : List Nat) (n : Nat)
    (hcl : cfg.cl = some n) (hlong : n < r.data.length) :
    (writeBody cfg r avails).2 ≠ .done ∧ NoEnd (writeBody cfg r avails).1 := by
  have hne : (writeBody cfg r avails).2 ≠ .done := by
    intro h
    have := (h2_body_exact cfg r avails h).2.2 n hcl
    omega
  exact ⟨hne, h2_no_end_stream_unless_done cfg r avails hne⟩

/-- an origin that follows RFC 9113 §8.1 / §8.1.1 (content = DATA
payloads up to END_STREAM; a content-length that differs from their total is malformed) reads from
a completed write exactly the body when the declared length is truthful (or absent) — and REJECTS
the request when the reader yielded fewer bytes than declared: a short body is never accepted as
the body. -/
theorem h2_origin_reads_exact_body (cfg : Cfg) (r : Reader) (avails : List Nat)
    (h : (writeBody cfg r avails).2 = .done) :
    originRead cfg.cl (frames (writeBody cfg r avails).1) [] =
      if clMatches cfg.cl r.data.length then some r.data else none := by
  obtain ⟨hp, ⟨init, s, hfs, hs, hno⟩, _⟩ := h2_body_exact cfg r avails h
  rw [hfs] at hp ⊢
  rw [originRead_endsOnce cfg.cl init s [] hno hs]
  simp only [List.nil_append, hp]

theorem h2_short_reader_rejected (cfg : Cfg) (r : Reader) (avails : List Nat) (n : Nat)
    (hcl : cfg.cl = some n) (hshort : r.data.length < n) (h : (writeBody cfg r avails).2 = .done) :
    originRead cfg.cl (frames (writeBody cfg r avails).1) [] = none := by
  rw [h2_origin_reads_exact_body cfg r avails h, hcl]
  have : (n == r.data.length) = false := by simp; omega
  simp [clMatches, this]

/-- non-vacuity of `done`, for every body: with a reader that ends with
`io.EOF` (either way), a truthful or absent content length, a window that is positive at every look
and at least one look per body byte, the write completes — so `h2_body_exact` applies. -/
theorem h2_body_completes (cfg : Cfg) (r : Reader) (avails : List Nat)
    (hmf : 1 ≤ cfg.maxFrame) (hb : 1 ≤ cfg.buf)
    (hend : r.ending = .eof ∨ r.ending = .eofWithLast)
    (hcl : cfg.cl = none ∨ cfg.cl = some r.data.length)
    (hpos : ∀ a ∈ avails, 0 < a) (hlen : r.data.length ≤ avails.length) :
    (writeBody cfg r avails).2 = .done := by
  apply loop_progress cfg hmf hb (fuelFor r) _ r avails (Nat.le_refl _) hend _ hpos hlen
  intro hs
  rcases hcl with h | h
  · simp [h] at hs
  · simp [h, remain0]

/-- non-vacuity: 10 bytes, declared length 10, reads of 3 then 5-byte buffers, windows 2, 0, 100,
100, 1, 100, maximum frame size 4: frames of 2, 1, 4, 1, 2 bytes, END_STREAM on the last. -/
example :
    writeBody { maxFrame := 4, buf := 5, cl := some 10 }
      { data := [1, 2, 3, 4, 5, 6, 7, 8, 9, 10], sizes := [3], ending := .eof } [2, 0, 100, 100, 1, 100, 100] =
    ([⟨2, .data [1, 2] false⟩, ⟨100, .data [3] false⟩, ⟨100, .data [4, 5, 6, 7] false⟩,
      ⟨1, .data [8] false⟩, ⟨100, .data [9, 10] true⟩], .done) := by decide +kernel

/-- no declared length: the end is an empty DATA frame; one byte too many: `errReqBodyTooLong`
before the last chunk is written; one byte short: completes, and the origin rejects it. -/
example :
    (writeBody { maxFrame := 4, buf := 5, cl := none }
      { data := [1, 2, 3], sizes := [], ending := .eof } [9, 9]).1.map (·.frame) =
      [.data [1, 2, 3] false, .data [] true] ∧
    writeBody { maxFrame := 4, buf := 5, cl := some 2 }
      { data := [1, 2, 3], sizes := [2], ending := .eof } [9, 9] = ([], .tooLong) ∧
    originRead (some 4) (frames (writeBody { maxFrame := 4, buf := 5, cl := some 4 }
      { data := [1, 2, 3], sizes := [], ending := .eofWithLast } [9, 9]).1) [] = none := by decide +kernel

section H3
open Req.H3.BodyWrite Req.Lemmas.C01BodyH3

/-- whatever the reader does, the payloads handed to `stream.Write`
(one DATA frame each) concatenate to a prefix of the body; no `Write` is empty or longer than the
copy buffer. -/
theorem h3_data_is_body_prefix (buf : Nat) (r : Reader) :
    (sendBody buf r).1.flatten <+: r.data ∧ ∀ w ∈ (sendBody buf r).1, w ≠ [] ∧ w.length ≤ buf := by
  obtain ⟨⟨tail, h, _⟩, hw⟩ := copy_spec buf (fuelFor r) r
  exact ⟨⟨tail, h⟩, hw⟩

/-- when the copy ends cleanly (the stream is closed with FIN) the DATA payloads
are exactly the body, the byte stream `stream.Write` produces exists (every length fits its
varint), and an origin that follows RFC 9114 §4.1.2 / §7.2.1 — DATA frames parsed with the frame
parser of C05, content = their payloads, a content-length that differs from the total is malformed
— reads exactly the body when the declared length is truthful or absent and REJECTS the request
otherwise (reader shorter or longer than declared). -/
theorem h3_body_exact (buf : Nat) (hbuf : buf < 2 ^ 62) (cl : Option Nat) (r : Reader)
    (h : (sendBody buf r).2 = .closed) :
    (sendBody buf r).1.flatten = r.data ∧
    ∃ s, wire (sendBody buf r).1 = some s ∧
      Req.H3.BodyWrite.originRead cl s true =
        if clMatches cl r.data.length then some r.data else none := by
  obtain ⟨⟨tail, h1, h2⟩, hw⟩ := copy_spec buf (fuelFor r) r
  have ht := h2 h
  subst ht
  have hflat : (sendBody buf r).1.flatten = r.data := by simpa [sendBody] using h1
  have hlt : ∀ w ∈ (sendBody buf r).1, w.length < 2 ^ 62 := fun w hw' => by
    have := (hw w hw').2; omega
  obtain ⟨s, hs, hl⟩ := wire_some _ hlt
  refine ⟨hflat, s, hs, ?_⟩
  unfold Req.H3.BodyWrite.originRead
  simp only [if_true]
  rw [originLoop_wire cl _ (s.length + 1) s [] hs hlt (by omega)]
  simp [hflat]

/-- the model's origin accepts no body from a stream that did not end with FIN (`fin = false`, what
a peer sees of a stream after `CancelWrite`), whatever bytes arrived: the `else` branch of
`originRead`. That a failing reader ends in `Outcome.reset` is said by `copy`, not here. -/
theorem h3_reset_not_accepted (cl : Option Nat) (s : Bytes) :
    Req.H3.BodyWrite.originRead cl s false = none := by
  simp [Req.H3.BodyWrite.originRead]

/-- every reader that ends with `io.EOF` is copied to the end. -/
theorem h3_body_completes (buf : Nat) (hb : 1 ≤ buf) (r : Reader)
    (hend : r.ending = .eof ∨ r.ending = .eofWithLast) : (sendBody buf r).2 = .closed :=
  copy_progress buf hb (fuelFor r) r (Nat.le_refl _) hend

/-- non-vacuity: 5 bytes read as 2 + 3 into a 4-byte buffer: two DATA frames `00 02 ..`, `00 03 ..`. -/
example :
    sendBody 4 { data := [1, 2, 3, 4, 5], sizes := [2], ending := .eof } = ([[1, 2], [3, 4, 5]], .closed) ∧
    wire [[1, 2], [3, 4, 5]] = some [0, 2, 1, 2, 0, 3, 3, 4, 5] ∧
    Req.H3.BodyWrite.originRead (some 5) [0, 2, 1, 2, 0, 3, 3, 4, 5] true = some [1, 2, 3, 4, 5] ∧
    Req.H3.BodyWrite.originRead (some 6) [0, 2, 1, 2, 0, 3, 3, 4, 5] true = none := by decide +kernel

end H3

section Cross
open Req.H1 Req.H1.Origin Req.H3.BodyWrite

/-- the same body bytes, read from an honest reader in ANY sizes, are
delivered identically by all three protocols — HTTP/1.1 chunked (any read split; `h1_fidelity` adds
the Content-Length form), HTTP/2 (any window schedule that lets the write complete, any frame size,
truthful or absent content length) and HTTP/3: each protocol's independent origin reads exactly
`r.data`. -/
theorem cross_protocol_body (r : Reader) (reads : List Nat) (rest : Bytes)
    (cfg : Cfg) (avails : List Nat) (buf3 : Nat) (hbuf3 : buf3 < 2 ^ 62)
    (hcl : cfg.cl = none ∨ cfg.cl = some r.data.length)
    (h2done : (writeBody cfg r avails).2 = .done) (h3done : (sendBody buf3 r).2 = .closed) :
    decodeBody .chunked (chunkedBody r.data reads ++ rest) = some (r.data, rest) ∧
    Req.H2.BodyWrite.originRead cfg.cl (frames (writeBody cfg r avails).1) [] = some r.data ∧
    ∃ s, wire (sendBody buf3 r).1 = some s ∧ Req.H3.BodyWrite.originRead cfg.cl s true = some r.data := by
  have hm : clMatches cfg.cl r.data.length = true := by
    rcases hcl with h | h <;> simp [h, clMatches]
  refine ⟨decodeBody_chunked r.data reads rest, ?_, ?_⟩
  · rw [h2_origin_reads_exact_body cfg r avails h2done, hm]; rfl
  · obtain ⟨_, s, hs, ho⟩ := h3_body_exact buf3 hbuf3 cfg.cl r h3done
    exact ⟨s, hs, by rw [ho, hm]; rfl⟩

end Cross

end Req.Props.C01Body
