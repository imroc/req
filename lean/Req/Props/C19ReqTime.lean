import Req.Client.ReqTime
import Req.Props.C19Values
/-!
# C19 — request-time code leaves client-level slices and maps alone

Two places where the code builds, at request time, a value out of client-level state.

Cookie slices (`parseRequestCookie`): a send appends the client's cookies to the request's slice. The cookie slices
of all clients and requests live in one map of slices (`ValuesHeap`), a send is a multimap `add`
(`ROp.toV`), and so `values_heap_refines` applies: while the capacity ranges are apart, EVERY sequence of
`SetCommonCookies`, `Request.SetCookies`, `ClearCookies` and sends (first attempts and retries, of any requests of
any clients, in any interleaving), under EVERY growth policy, acts on the heap as on values
(`request_time_appends_copy`), where a send changes only the sent request's slice (`send_frame`). Appending the
other way round, `append(c.Cookies, r.Cookies...)`, writes into the client's spare capacity
(`front_append_counterexample`).

CONNECT header (`dialConn`): the header of a CONNECT request is computed from the dialing client's configured map
and its own proxy credentials, and the map object is only read (`dial_reads_only`,
`connect_header_credentials`); writing the credentials into the map object instead makes a clone send the
original's (`in_place_counterexample`).
-/
namespace Req.Props.C19ReqTime
open Req.Scope Req.ValuesHeap Req.ReqTime Req.Props.C19Values

theorem stepRH_refines (grow : Nat → Nat → Nat) (st : Store) (m : MapS) (op : ROp) (hs : Sep st m) :
    Sep (stepRH grow (st, m) op).1 (stepRH grow (st, m) op).2 ∧
    absMap (stepRH grow (st, m) op).1 (stepRH grow (st, m) op).2 = stepRA (absMap st m) op :=
  -- by definition `stepRH` / `stepRA` run the multimap operations `op.toV (absMap st m)` on the heap / on values
  values_heap_refines grow (op.toV (absMap st m)) st m hs

/-- **Request-time appends copy** — every program of cookie setters and sends, every growth policy. -/
theorem request_time_appends_copy (grow : Nat → Nat → Nat) : ∀ (ops : List ROp) (st : Store) (m : MapS), Sep st m →
    Sep (runRH grow (st, m) ops).1 (runRH grow (st, m) ops).2 ∧
    absMap (runRH grow (st, m) ops).1 (runRH grow (st, m) ops).2 = runRA (absMap st m) ops := by
  intro ops
  induction ops with
  | nil => intro st m hs; exact ⟨hs, rfl⟩
  | cons op ops ih =>
    intro st m hs
    obtain ⟨h1, h2⟩ := stepRH_refines grow st m op hs
    have := ih (stepRH grow (st, m) op).1 (stepRH grow (st, m) op).2 h1
    simp only [runRH, runRA, List.foldl_cons] at this ⊢
    rw [← h2]
    exact this

/-- on values: a send changes only the slice of the request it sends -/
theorem send_frame (m : AMap) (r c a k : Nat) (hk : k ≠ r) : (stepRA m (.send r c a)).get k = m.get k := by
  unfold stepRA ROp.toV
  by_cases h : merges m c a = true
  · simp only [h, if_true, runA, List.foldl_cons, List.foldl_nil, stepA, AMap.addMany]
    exact get_set_other m r k _ hk
  · simp [h, runA]

/-- on values: first attempt = request-level cookies, then the client's; a retry keeps the slice -/
theorem send_merges (m : AMap) (r c a : Nat) :
    (stepRA m (.send r c a)).get r = if merges m c a then m.get r ++ m.get c else m.get r := by
  unfold stepRA ROp.toV
  by_cases h : merges m c a = true
  · simp only [h, if_true, runA, List.foldl_cons, List.foldl_nil, stepA, AMap.addMany]
    exact get_set_same m r _
  · simp [h, runA]

/-- **On the heap a send leaves the client's cookies and every other request's cookies alone.** -/
theorem heap_send_leaves_others (grow : Nat → Nat → Nat) (st : Store) (m : MapS) (hs : Sep st m) (r c a k : Nat)
    (hk : k ≠ r) :
    (absMap (stepRH grow (st, m) (.send r c a)).1 (stepRH grow (st, m) (.send r c a)).2).get k = (absMap st m).get k := by
  rw [(stepRH_refines grow st m (.send r c a) hs).2]
  exact send_frame _ r c a k hk

/-! ### non-vacuity and the counterexample: client cookies `[1,2,3]` in an array of 4 (three
`SetCommonCookies` calls), request 101 with cookie 10, request 102 with cookie 20 -/

def stC : Store := ⟨fun a i => if a = 0 then [1, 2, 3, 0].getD i 0 else if a = 1 then [10].getD i 0 else if a = 2 then [20].getD i 0 else 0, 3⟩
def mC : MapS := [(0, ⟨0, 0, 3, 4⟩), (101, ⟨1, 0, 1, 1⟩), (102, ⟨2, 0, 1, 1⟩)]

example : Sep stC mC := sepB_sound stC mC (by decide +kernel)

/-- the code as it is: both requests keep their own cookie, the client keeps its three -/
example : let x := runRH (fun _ n => 2 * n) (stC, mC) [.send 101 0 0, .send 102 0 0, .send 101 0 1]
    (absMap x.1 x.2).get 101 = [10, 1, 2, 3] ∧ (absMap x.1 x.2).get 102 = [20, 1, 2, 3] ∧ (absMap x.1 x.2).get 0 = [1, 2, 3] ∧
    sepB x.1.next x.2 = true := by decide +kernel

example : sentLog (absMap stC mC) [.send 101 0 0, .setCommon 0 [4], .send 101 0 1] = [(101, [10, 1, 2, 3]), (101, [10, 1, 2, 3])] := by
  decide +kernel

/-- **`append(c.Cookies, r.Cookies...)`**: after the first send the request's slice lies in the
client's array (the judge rejects the layout); the second request's send overwrites the first's cookie. -/
theorem front_append_counterexample :
    (let x := sendFront (fun _ n => 2 * n) (stC, mC) 101 0
     (absMap x.1 x.2).get 101 = [1, 2, 3, 10] ∧ sepB x.1.next x.2 = false) ∧
    (let x := sendFront (fun _ n => 2 * n) (sendFront (fun _ n => 2 * n) (stC, mC) 101 0) 102 0
     (absMap x.1 x.2).get 101 = [1, 2, 3, 20]) := by decide +kernel

theorem dial_reads_only (s : PState) (c : Nat) :
    (stepP false s (.dial c)).boxes = s.boxes ∧ (stepP false s (.dial c)).clients = s.clients := ⟨rfl, rfl⟩

/-- over any program the map objects change only by the setter -/
theorem boxes_change_only_by_setter : ∀ (ops : List POp) (s : PState), (∀ op ∈ ops, op.isSetHdr = false) →
    (runP false s ops).boxes = s.boxes := by
  intro ops
  induction ops with
  | nil => intro s _; rfl
  | cons op ops ih =>
    intro s h
    have h1 := h op (List.mem_cons_self ..)
    have h2 : ∀ o ∈ ops, o.isSetHdr = false := fun o ho => h o (List.mem_cons_of_mem _ ho)
    simp only [runP, List.foldl_cons]
    have := ih (stepP false s op) h2
    simp only [runP] at this
    rw [this]
    cases op with
    | setHdr c b content => simp [POp.isSetHdr] at h1
    | clone a b => rfl
    | setProxy c auth => rfl
    | dial c => rfl

/-- The `Proxy-Authorization` of a CONNECT request is the DIALING client's own credentials if it has some, else what its
configured header says; every other key is the configured header's. -/
theorem connect_header_credentials (boxes : Nat → AMap) (p : PClient) :
    (connectHeader boxes p).get paKey = (match p.auth with
      | some a => [a]
      | none => (baseHeader boxes p).get paKey) ∧
    ∀ k, k ≠ paKey → (connectHeader boxes p).get k = (baseHeader boxes p).get k := by
  unfold connectHeader
  cases p.auth with
  | none => exact ⟨rfl, fun _ _ => rfl⟩
  | some a => exact ⟨get_set_same _ _ _, fun k hk => get_set_other _ _ k _ hk⟩

theorem dial_sends_own_header (inPlace : Bool) (s : PState) (c : Nat) :
    (stepP inPlace s (.dial c)).log = s.log ++ [(c, connectHeader s.boxes (s.clients c))] := rfl

/-- the program of the counterexample: header `{5: [50]}`, credentials 9 on the original, the clone
configured without credentials; original dials, clone dials -/
def progP : List POp := [.setHdr 0 0 [(5, [50])], .setProxy 0 (some 9), .clone 0 1, .setProxy 1 none, .dial 0, .dial 1]

/-- the code as it is: the clone's CONNECT carries no credentials, the map object is what the caller set -/
example : (runP false initP progP).log = [(0, [(5, [50]), (0, [9])]), (1, [(5, [50])])] ∧
    (runP false initP progP).boxes 0 = [(5, [50])] := by decide +kernel

/-- **credentials written into the map object**: the clone sends the original's credentials and the
caller's map has grown a `Proxy-Authorization` entry -/
theorem in_place_counterexample :
    (runP true initP progP).log = [(0, [(5, [50]), (0, [9])]), (1, [(5, [50]), (0, [9])])] ∧
    (runP true initP progP).boxes 0 = [(5, [50]), (0, [9])] := by decide +kernel

end Req.Props.C19ReqTime
