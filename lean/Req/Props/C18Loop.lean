import Req.Lemmas.C10Loop
import Req.Lemmas.C18Err
/-!
C18 — property theorems: the attempt loop of a call is ANY outcome script.

The call-level theorems of `Req.Props.C18Pipeline` are stated over `run fx s` for ALL stacks `s`,
and a stack scripts the whole control of `do()`'s loop: `SetRetryCount(n)` with `n ≥ 0` or
`n < 0` (`unbounded`), the default rule or scripted retry conditions per attempt, an error that
wraps `context.Canceled` coming out of any attempt, the request's context being done at the wait
before any retry. This file ties that loop to the retry-loop model of property C10
(`Req.Retry`): the loop continues after an attempt EXACTLY when C10's specification `wants` says
a further attempt is made, on the C10 view of that attempt; and the fuel the model needs for an
unbounded loop is immaterial as soon as the script lets the call end.
-/
namespace Req.Props.C18
open Req.Result Req.Pipeline

/-- Does `do()` go on to another attempt after attempt `a` ended as `t`? (The loop's tests in
the order of the code.) -/
def continues (s : Stack) (a : Nat) (t : Att) : Bool :=
  !t.crash && !t.returned && !cannotRetry s a t.err && needRetry s a t.err && t.resp.isSome && !s.ctxDoneAt a

/-- One unfolding of the loop: it stops with this attempt, or goes on with the cleaned-up
response — according to `continues`. -/
theorem doLoop_step (fx : Fixes) (s : Stack) (fuel a : Nat) (prev : Option Resp) :
    (continues s a (attempt fx s a prev) = true ∧ ∃ r, (attempt fx s a prev).resp = some r ∧
      doLoop fx s (fuel + 1) a prev =
        { doLoop fx s fuel (a + 1) (some (cleanup (applyHook r (s.retryHookAt a)))) with
          atts := attempt fx s a prev :: (doLoop fx s fuel (a + 1) (some (cleanup (applyHook r (s.retryHookAt a))))).atts }) ∨
    (continues s a (attempt fx s a prev) = false ∧ (doLoop fx s (fuel + 1) a prev).atts = [attempt fx s a prev] ∧
      (doLoop fx s (fuel + 1) a prev).exhausted = false) := by
  simp only [doLoop, continues]
  generalize attempt fx s a prev = t
  by_cases hc : t.crash = true
  · right; simp [hc, crashOut]
  · by_cases hret : t.returned = true
    · right; simp [hc, hret, stopOut]
    · by_cases hcr : cannotRetry s a t.err = true
      · right; simp [hc, hret, hcr, stopOut]
      · by_cases hn : needRetry s a t.err = true
        · cases hr : t.resp with
          | none => right; simp [hc, hret, hcr, hn, crashOut]
          | some r =>
            by_cases hx : s.ctxDoneAt a = true
            · right; simp [hc, hret, hcr, hn, hx, waitOut]
            · left; simp [hc, hret, hcr, hn, hx]
        · right; simp [hc, hret, hcr, hn, stopOut]

theorem doLoop_atts (fx : Fixes) (s : Stack) :
    ∀ fuel a prev i t, (doLoop fx s fuel a prev).atts[i]? = some t → ∃ prev', t = attempt fx s (a + i) prev' := by
  intro fuel
  induction fuel with
  | zero => exact fun _ _ _ _ h => nomatch h
  | succ n ih =>
    intro a prev i t h
    rcases doLoop_step fx s n a prev with ⟨_, r, _, he⟩ | ⟨_, he, _⟩ <;> rw [he] at h
    · rcases i with _ | i
      · exact ⟨prev, (Option.some.inj h).symm⟩
      · obtain ⟨p', hp⟩ := ih _ _ i t h
        exact ⟨p', by rw [hp, Nat.add_right_comm, Nat.add_assoc]⟩
    · rcases i with _ | i
      · exact ⟨prev, (Option.some.inj h).symm⟩
      · cases h

theorem doLoop_atts_le_fuel (fx : Fixes) (s : Stack) :
    ∀ fuel a prev, (doLoop fx s fuel a prev).atts.length ≤ fuel := by
  intro fuel
  induction fuel with
  | zero => exact fun _ _ => Nat.le_refl _
  | succ n ih =>
    intro a prev
    rcases doLoop_step fx s n a prev with ⟨_, r, _, he⟩ | ⟨_, he, _⟩ <;> rw [he]
    · exact Nat.succ_le_succ (ih _ _)
    · exact Nat.succ_le_succ (Nat.zero_le n)

theorem lt_maxRetries_of_continues {s : Stack} {a : Nat} {t : Att} (hb : s.unbounded = false)
    (h : continues s a t = true) : a < s.maxRetries := by
  simp only [continues, cannotRetry, hb, Bool.and_eq_true, Bool.not_eq_true', Bool.or_eq_false_iff, Bool.not_false,
    Bool.true_and, decide_eq_false_iff_not] at h
  -- the third factor, `!cannotRetry s a t.err`; the last disjunct of `cannotRetry` is the budget test
  exact Nat.lt_of_not_le h.1.1.1.2.2

theorem doLoop_bounded_not_exhausted (fx : Fixes) (s : Stack) (hb : s.unbounded = false) :
    ∀ fuel a prev, a ≤ s.maxRetries → s.maxRetries + 1 ≤ a + fuel → (doLoop fx s fuel a prev).exhausted = false := by
  intro fuel
  induction fuel with
  | zero => exact fun a _ h1 h2 => absurd h2 (Nat.not_lt_of_le h1)
  | succ n ih =>
    intro a prev _ h2
    rcases doLoop_step fx s n a prev with ⟨hc, r, _, he⟩ | ⟨_, _, he⟩
    · rw [he]; exact ih _ _ (lt_maxRetries_of_continues hb hc) (by omega)
    · exact he

/-- The second alternative is a loop entered beyond the budget (`a > MaxRetries`): it makes its one
attempt and stops. `callDo` enters at `a = 0`, where it does not arise. -/
theorem doLoop_atts_bounded (fx : Fixes) (s : Stack) (hb : s.unbounded = false) :
    ∀ fuel a prev, (doLoop fx s fuel a prev).atts.length + a ≤ s.maxRetries + 1 ∨
      s.maxRetries < a ∧ (doLoop fx s fuel a prev).atts.length ≤ 1 := by
  intro fuel
  induction fuel with
  | zero => intro a _; simp only [doLoop, exhaustedOut, List.length_nil]; omega
  | succ n ih =>
    intro a prev
    rcases doLoop_step fx s n a prev with ⟨hc, r, _, he⟩ | ⟨_, he, _⟩ <;> rw [he]
    · have := lt_maxRetries_of_continues hb hc
      have := ih (a + 1) (some (cleanup (applyHook r (s.retryHookAt a))))
      simp only [List.length_cons]
      omega
    · simp only [List.length_singleton]; omega

theorem callDo_atts (fx : Fixes) (s : Stack) (i : Nat) (t : Att) (h : (callDo fx s).atts[i]? = some t) :
    ∃ prev, t = attempt fx s i prev := by
  rcases callDo_cases fx s with ⟨e, _, hc⟩ | hc <;> rw [hc] at h
  · cases h
  · simpa using doLoop_atts fx s _ _ _ _ _ h

theorem callDo_atts_length (fx : Fixes) (s : Stack) (hb : s.unbounded = false) :
    (callDo fx s).atts.length ≤ s.maxRetries + 1 := by
  rcases callDo_cases fx s with ⟨e, _, hc⟩ | hc <;> rw [hc]
  · exact Nat.zero_le _
  · rcases doLoop_atts_bounded fx s hb s.fuelFor 0 none with h | ⟨h, _⟩ <;> omega

theorem callDo_atts_le_fuel (fx : Fixes) (s : Stack) : (callDo fx s).atts.length ≤ s.fuelFor := by
  rcases callDo_cases fx s with ⟨e, _, hc⟩ | hc <;> rw [hc]
  · exact Nat.zero_le _
  · exact doLoop_atts_le_fuel fx s _ _ _

theorem callDo_bounded_not_exhausted (fx : Fixes) (s : Stack) (hb : s.unbounded = false) :
    (callDo fx s).exhausted = false := by
  rcases callDo_cases fx s with ⟨e, _, hc⟩ | hc <;> rw [hc]
  exact doLoop_bounded_not_exhausted fx s hb _ 0 none (Nat.zero_le _) (by simp [Stack.fuelFor, hb])

/-- If the loop comes to an end with some fuel, it gives the very same
result with any larger fuel: for an unbounded retry the answer of the model does not depend on
the bound the model needs to be a total function. -/
theorem fuel_is_immaterial (fx : Fixes) (s : Stack) :
    ∀ fuel a prev, (doLoop fx s fuel a prev).exhausted = false →
      ∀ k, doLoop fx s (fuel + k) a prev = doLoop fx s fuel a prev := by
  intro fuel
  induction fuel with
  | zero => intro a prev h; simp [doLoop, exhaustedOut] at h
  | succ fuel ih =>
    intro a prev h k
    have e : fuel + 1 + k = (fuel + k) + 1 := by omega
    rw [e]
    simp only [doLoop] at h ⊢
    generalize attempt fx s a prev = t at h ⊢
    by_cases hc : t.crash = true
    · simp [hc]
    · by_cases hret : t.returned = true
      · simp [hc, hret]
      · by_cases hcr : cannotRetry s a t.err = true
        · simp [hc, hret, hcr]
        · by_cases hn : needRetry s a t.err = true
          · cases hr : t.resp with
            | none => simp [hc, hret, hcr, hn]
            | some r =>
              by_cases hx : s.ctxDoneAt a = true
              · simp [hc, hret, hcr, hn, hx]
              · simp only [hc, hret, hcr, hn, hr, hx, if_false, if_true] at h ⊢
                rw [ih _ _ h k]
          · simp [hc, hret, hcr, hn]

/-- The C10 view (`Req.Retry.Outcome`) of one attempt of the C18 pipeline. -/
def outcomeOf (s : Stack) (a : Nat) (t : Att) : Retry.Outcome :=
  if t.returned = true ∧ Ev.builtin ∉ t.evs then .beforeErr             -- a request middleware failed
  else if t.err = some .ctxCanceled then .cancelled
  else
    let code : Nat := match t.resp.bind (·.http) with
      | some h => h.status.toNat
      | none => 0
    if s.ctxDoneAt a then (if t.err.isSome then .deadlineCtx else .lateCancel code)
    else match t.err, t.resp.bind (·.http) with
      | none, _ => .status code
      | some _, some _ => .badBody code
      | some _, none => .transportErr

/-- The C10 policy of a stack: `MaxRetries` (negative = unbounded), the scripted joint verdict of
the retry conditions, and — as the one request-level response middleware C10 knows — "a
request-level response middleware returned an error in this attempt". -/
def policyOf (s : Stack) (aborts : Nat → Bool) : Retry.Policy Unit :=
  { enabled := true
    maxRetries := if s.unbounded then -1 else (s.maxRetries : Int)
    conds := match s.conds with
      | none => []
      | some l => [(0, fun o => l.getD o.attempt false)]
    hooks := []
    after := [fun o => aborts o.attempt]
    interval := .dflt }

/-- The C10 view of an attempt that got past the request phase: never `beforeErr`, `cancelled` exactly when the
error wraps `context.Canceled`; otherwise done exactly when the context is, and an error kind exactly when the
attempt has an error. -/
theorem outcomeOf_late (s : Stack) (a : Nat) (t : Att) (h1 : ¬ (t.returned = true ∧ Ev.builtin ∉ t.evs)) :
    (outcomeOf s a t != .beforeErr) = true ∧
    (outcomeOf s a t == .cancelled) = (t.err == some .ctxCanceled) ∧
    (t.err ≠ some .ctxCanceled →
      (outcomeOf s a t).ctxDone = s.ctxDoneAt a ∧ (outcomeOf s a t).errKind.isSome = t.err.isSome) := by
  unfold outcomeOf
  rw [if_neg h1]
  by_cases h2 : t.err = some .ctxCanceled
  · rw [if_pos h2, h2]; exact ⟨rfl, rfl, fun h => absurd rfl h⟩
  · rw [if_neg h2, (beq_eq_false_iff_ne).2 h2]
    cases s.ctxDoneAt a <;> cases t.err <;> cases t.resp.bind (·.http) <;> exact ⟨rfl, rfl, fun _ => ⟨rfl, rfl⟩⟩

/-- On such an attempt the "absolutely cannot retry" tests of the two models agree, whatever the middleware. -/
theorem cannotRetry_policyOf (s : Stack) (a : Nat) (t : Att) (f : Nat → Bool)
    (h1 : ¬ (t.returned = true ∧ Ev.builtin ∉ t.evs)) :
    Retry.cannotRetry (policyOf s f) (outcomeOf s a t) a = cannotRetry s a t.err := by
  simp only [Retry.cannotRetry, cannotRetry, (outcomeOf_late s a t h1).2.1, policyOf]
  by_cases hu : s.unbounded = true <;> simp [hu]

/-- After ANY attempt of ANY stack (the repaired code's
attempt never crashes and leaves a response), `do()` goes on to a further attempt exactly when
C10's specification `Req.Retry.wants` says so on the C10 view of the attempt: no request or
response middleware aborted the call, the error does not wrap `context.Canceled`, retries are
left (`MaxRetries < 0` or `RetryAttempt < MaxRetries`), the conditions — or the default rule —
ask for it, and the context is not done when the wait begins. The agreement is attempt by
attempt: the C10 policy (`policyOf`) takes its one abort flag from the attempt it judges. -/
theorem retry_decision_agrees_with_C10 (s : Stack) (a : Nat) (prev : Option Resp) :
    continues s a (attempt Fixes.all s a prev) =
      Retry.wants (policyOf s (fun i => decide (i = a) && (attempt Fixes.all s a prev).returned))
        (outcomeOf s a (attempt Fixes.all s a prev)) a := by
  obtain ⟨hc, hr⟩ := (Kept.trivial s).keeps_attempt (fx := Fixes.all) rfl rfl a prev
  generalize attempt Fixes.all s a prev = t at hc hr ⊢
  have hcr : t.crash = false := hc
  -- `wants` as the loop's tests in the order of the code: `continues`, factor by factor
  rw [Lemmas.C10Loop.wants_eq]
  by_cases hb : t.returned = true ∧ Ev.builtin ∉ t.evs
  · -- request phase failed
    have ho : outcomeOf s a t = .beforeErr := by unfold outcomeOf; rw [if_pos hb]
    simp [continues, ho, hb.1]
  · by_cases hret : t.returned = true
    · -- a request-level response middleware returned an error
      simp [continues, Retry.aborted, policyOf, hret]
    · have hrs : t.resp.isSome = true := by
        rcases hr with ⟨_, h, _⟩ | ⟨_, _, h⟩
        · rw [h]; rfl
        · exact absurd h hret
      have hrf : t.returned = false := by simpa using hret
      obtain ⟨hne, _, hlate⟩ := outcomeOf_late s a t hb
      have hab : Retry.aborted (policyOf s fun i => decide (i = a) && t.returned) (outcomeOf s a t) a = false := by
        simp [Retry.aborted, policyOf, hrf]
      rw [cannotRetry_policyOf s a t _ hb, hab]
      cases hcan : cannotRetry s a t.err
      · -- retries are left and nothing was cancelled: the conditions (or the default rule) and the context decide
        obtain ⟨hctx, hek⟩ := hlate fun h => by simp [cannotRetry, h] at hcan
        have hneed : ∀ f, Retry.need (policyOf s f) (outcomeOf s a t) a = needRetry s a t.err := by
          intro f
          unfold Retry.need needRetry policyOf
          cases hcs : s.conds with
          | none => simp [hek]
          | some l => simp
        simp [continues, hcr, hrf, hrs, hne, hneed, hctx, hcan]
      · simp [continues, hcan]

/-- a stack with an unbounded retry, a context that is done at the wait after the second
attempt: the loop continues after attempt 0 and stops (waiting) after attempt 1 -/
example : let s : Stack := { unbounded := true, fuel := 9, transport := [.fail (.stage 1), .fail (.stage 2)], ctxDone := [false, true] }
    continues s 0 (attempt Fixes.all s 0 none) = true ∧
    Retry.wants (policyOf s (fun _ => false)) (outcomeOf s 1 (attempt Fixes.all s 1 none)) 1 = false := by decide

end Req.Props.C18
