import Req.Client.Scope
/-! C19: which level's Content-Type picks the marshaller of `SetBody(struct)`.

`handleMarshalBody` (middleware.go) asks the REQUEST's header first and the client's only when the
request has none (`Scope.marshalCT`); asking the client first is `clientFirstCT`.
The theorems say that the request level decides whenever it speaks, for every client-level
header map — so a client-level `SetCommonContentType` (made before or after `Clone`, on any side)
cannot change the format of a request that names its own — and that without a request-level
value the client's decides. Lanes `override` (family `ct`) and `prog` (`bd` ids ≥ 10) judge the
running code by `Scope.emit`, which uses `marshalCT`. -/
namespace Req.Props.C19Marshal
open Req.Scope

/-- a request-level content type decides the marshaller, whatever the client says -/
theorem request_content_type_decides (c c' r : AMap) (h : firstCT r ≠ 0) :
    marshalCT c r = firstCT r ∧ marshalCT c r = marshalCT c' r := by
  simp [marshalCT, h]

/-- without one (no key, or the empty string) the client's decides -/
theorem client_content_type_default (c r : AMap) (h : firstCT r = 0) :
    marshalCT c r = firstCT c := by
  simp [marshalCT, h]

/-- neither level names a content type: `marshalCT` is 0, which is not the XML value, so the body is marshalled as JSON -/
theorem no_content_type_json (c r : AMap) (hc : firstCT c = 0) (hr : firstCT r = 0) :
    marshalCT c r = 0 ∧ (marshalCT c r == vCtXml) = false := by
  simp [marshalCT, hc, hr, vCtXml]

/-- the other order: the client's content type first -/
def clientFirstCT (c r : AMap) : Nat := if firstCT c != 0 then firstCT c else firstCT r

theorem client_first_counterexample :
    marshalCT [(hContentType, [vCtJson])] [(hContentType, [vCtXml])] = vCtXml ∧
    clientFirstCT [(hContentType, [vCtJson])] [(hContentType, [vCtXml])] = vCtJson := by decide

/-- asking the client first picks another marshaller exactly when both levels speak and disagree -/
theorem client_first_differs_iff (c r : AMap) :
    clientFirstCT c r ≠ marshalCT c r ↔ (firstCT c ≠ 0 ∧ firstCT r ≠ 0 ∧ firstCT c ≠ firstCT r) := by
  unfold clientFirstCT marshalCT
  by_cases hc : firstCT c = 0 <;> by_cases hr : firstCT r = 0 <;> simp [hc, hr]

/-- In what the origin receives (`emit`): a request that carries a value to marshal (no form data,
a method that may have a payload) is sent in the format picked by `marshalCT` of the two header
maps — by `request_content_type_decides` the request's own content type whenever it has one. -/
theorem emit_marshal_format (cl rq : VOwner) (m md : Nat) (path : List Seg) (o : ReqObs)
    (he : emit cl rq m md path = some o)
    (hp : payloadForbidden m ((cl.val F.allowGetPayload).scalar != 0) = false)
    (hf : (mergeForm (cl.val F.form) (rq.val F.form)).isEmpty = true)
    (hb : (rq.val F.body).scalar ≥ marshalFrom) :
    o.body = .marsh (marshalCT (cl.val F.headers) (rq.val F.headers) == vCtXml) (rq.val F.body).scalar := by
  simp only [emit] at he
  split at he
  · cases he
  · injection he with he
    subst he
    simp [hp, hf]

/-- … hence two clients that differ only in their own Content-Type send a request that names its
content type in the same format. -/
theorem emit_marshal_client_independent (cl cl' rq : VOwner) (m md : Nat) (path : List Seg) (o o' : ReqObs)
    (he : emit cl rq m md path = some o) (he' : emit cl' rq m md path = some o')
    (hp : payloadForbidden m ((cl.val F.allowGetPayload).scalar != 0) = false)
    (hp' : payloadForbidden m ((cl'.val F.allowGetPayload).scalar != 0) = false)
    (hf : (mergeForm (cl.val F.form) (rq.val F.form)).isEmpty = true)
    (hf' : (mergeForm (cl'.val F.form) (rq.val F.form)).isEmpty = true)
    (hb : (rq.val F.body).scalar ≥ marshalFrom) (hr : firstCT (rq.val F.headers) ≠ 0) :
    o.body = o'.body := by
  rw [emit_marshal_format cl rq m md path o he hp hf hb, emit_marshal_format cl' rq m md path o' he' hp' hf' hb,
    (request_content_type_decides (cl.val F.headers) (cl'.val F.headers) (rq.val F.headers) hr).2]

end Req.Props.C19Marshal
