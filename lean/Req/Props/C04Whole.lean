import Req.Props.C04Split
import Req.H1.AliasMime
import Req.Lemmas.H1ErrClass
import Req.Lemmas.TrimBy
/-!
C04 — the incremental head line reader computes the whole-stream reader.

The C04 theorems (`parse_deterministic_end`, `framing_*`, `parseHeadE_*` …) are about whole-stream
functions (`readLineB`, `readContB`, `mimeLoopE`: "these bytes, then EOF").  The code reads
incrementally: `bufio.Reader` of `B` bytes filled segment by segment, `ReadLine` fragments glued by
`readLineSlice`, a CR put back at a full buffer, `ReadByte`/`UnreadByte` in `skipSpace`, a `Peek(2)`
fast path, lines as views into the buffer.  Here the two are proved EQUAL, for every `B ≥ 2`
(bufio: ≥ 16) and every clean script (any segmentation):

* `readLineB_frag` — `readLineB` obeys the recursion of the fragment loop over `lineSpec`;
  `readLineSliceLoop_whole` / `readLineSlice_eq` — hence the fragment loop = `readLineB B` (incl.
  the CR put back when "\r\n" straddles the buffer end, and the corner `untermEOF`: an unterminated
  last line that fills the buffer exactly is `io.EOF`); `status_line_whole_stream` is this for the
  first line of `_readResponse`.
* `contLoopV_whole` — continuation loop = `readContB` (over `skipSpace_whole`: `skipSpace` = `countOWS`).
* `continued_line_whole_stream` — `readContinuedLineSlice` of the code over the ALIASING reader =
  `contSpec` (`readLineB` + colon check + `readContB`: the loop body of `mimeLoopE`), same rest.
* `mimeLoopE_succ` — one round of `mimeLoopE` is `contSpec` followed by the map update; hence
  `head_incremental_is_whole_stream` — `amimeLoop` (`readMIMEHeader`'s loop over the aliasing
  reader) = `mimeLoopE B`: same header map, same error class, same unread rest.
* `response_head_incremental_is_whole_stream` — status line, `Peek(1)` (`apeek1_good`), header block and
  framing decision together: `aparseHead` = `parseHeadE B`.
-/
namespace Req.Props.C04
open Req.Proto Req.H1 Req.H1.BufLine Req.H1.BufAlias

theorem cutNL_of_noLF {s : Bytes} (h : ∀ c ∈ s, c ≠ 10) : cutNL s = none := by
  rw [cutNL_eq_splitLF, splitLF_eq_none.mpr h]; rfl

/-- What the fragment loop, holding `acc`, makes of `readLineB`'s answer on the unread bytes. -/
def lineOf (acc : Bytes) : Option (Bytes × Bytes) → Res Bytes × Bytes
  | some (l, rest) => (.ok (acc ++ l), rest)
  | none => (.error (.src .eof), [])

theorem lineOf_map (acc x : Bytes) (o : Option (Bytes × Bytes)) :
    lineOf acc (o.map fun p => (x ++ p.1, p.2)) = lineOf (acc ++ x) o := by
  rcases o with _ | ⟨l, r⟩ <;> simp [lineOf]

/-- `readLineB` obeys the recursion of the fragment loop over `ReadLine` (= `lineSpec`): an error
ends the read, a fragment (`isPrefix`) is glued in front of what the rest yields, a line ends it.
All three regimes of `sliceSpec` (LF within the buffer, full buffer, short rest) are met here. -/
theorem readLineB_frag (B : Nat) (hB : 2 ≤ B) (acc s : Bytes) :
    lineOf acc (readLineB B s) =
      match (lineSpec B s).1.err with
      | some e => (.error e, (lineSpec B s).2)
      | none =>
        if (lineSpec B s).1.isPrefix then
          lineOf (acc ++ (lineSpec B s).1.line) (readLineB B (lineSpec B s).2)
        else (.ok (acc ++ (lineSpec B s).1.line), (lineSpec B s).2) := by
  unfold lineSpec sliceSpec
  have hsplit : s.take B ++ s.drop B = s := List.take_append_drop B _
  cases hcut : cutNL (s.take B) with
  | some p =>
    obtain ⟨l, r'⟩ := p
    have hfullcut := cutNL_prefix hcut (s.drop B)
    rw [hsplit] at hfullcut
    obtain ⟨a, rfl, -⟩ := cutNL_splitLF hfullcut
    have hrest : s.drop (a ++ [10]).length = r' ++ s.drop B := by
      have := cutNL_append hfullcut
      conv => lhs; rw [← this]
      simp
    simp only [List.length_append, List.length_singleton] at hrest
    simp [readLineB_of_cut hfullcut, dropEOL_snoc, hrest, lineOf]
  | none =>
    obtain ⟨hnl1, hnl2⟩ := cutNL_none hcut
    by_cases hlen : B ≤ s.length
    · -- one fragment of `B` bytes, of `B - 1` when its last byte is a CR (put back)
      rw [readLineB_step B hB s hlen hnl2]
      by_cases hcr : lastIs 13 (s.take B) = true <;> simp [hlen, hcr, lineOf_map]
    · have htake : s.take B = s := List.take_of_length_le (by omega)
      rw [htake] at hnl1 hnl2
      simp only [if_neg hlen]
      cases s with
      | nil => simp [readLineB, lineOf]
      | cons c t =>
        have : untermEOF B ((c :: t).length + 1) (c :: t) = false := by
          unfold untermEOF
          rw [if_neg (by simp), if_pos (by omega)]
        simp only [List.length_cons] at this
        simp [dropEOL_noLF hnl2, readLineB, hnl1, this, lineOf]

/-- A fragment consumes at least `B - 1 ≥ 1` bytes: the fuel of `readLineSlice` suffices. -/
theorem lineSpec_frag_shorter (B : Nat) (hB : 2 ≤ B) (s : Bytes)
    (h : (lineSpec B s).1.isPrefix = true) : (lineSpec B s).2.length < s.length := by
  unfold lineSpec sliceSpec at h ⊢
  cases hcut : cutNL (s.take B) with
  | some p =>
    obtain ⟨l, r'⟩ := p
    rw [hcut] at h
    simp only [reduceCtorEq, if_false] at h
    by_cases hl : l = [] <;> simp [hl] at h
  | none =>
    rw [hcut] at h
    by_cases hlen : B ≤ s.length
    · simp only [if_pos hlen, if_true]
      split <;> simp only [List.length_cons, List.length_drop] <;> omega
    · simp only [if_neg hlen] at h
      by_cases hl : s = [] <;> simp [hl] at h

/-- Over clean scripts, for every buffer size `B ≥ 2`, every state and every accumulated prefix: the
fragment loop of `readLineSlice` ends exactly as `readLineB B` says on the unread bytes.  Loop and
`readLineB` run the same recursion (`readLine_clean`, `readLineB_frag`). -/
theorem readLineSliceLoop_whole (B : Nat) (hB : 2 ≤ B) (f : Nat) (acc d : Bytes) (st : Rd)
    (hg : Good B st) (hf : st.bytes.length + 2 ≤ f) :
    ((readLineSliceLoop (plainReadLine B) none f acc d st).res,
      (readLineSliceLoop (plainReadLine B) none f acc d st).st.bytes) = lineOf acc (readLineB B st.bytes) ∧
    Good B (readLineSliceLoop (plainReadLine B) none f acc d st).st := by
  induction f generalizing acc d st with
  | zero => omega
  | succ f ih =>
    obtain ⟨hspec, hg1⟩ := readLine_clean B (by omega) st hg
    have hlt := lineSpec_frag_shorter B hB st.bytes
    rw [readLineSliceLoop_succ, readLineB_frag B hB, ← hspec]
    rw [← hspec] at hlt
    generalize BufLine.readLine B st = x at *
    obtain ⟨⟨l, pre, e⟩, st1⟩ := x
    cases e with
    | some e => exact ⟨rfl, hg1⟩
    | none =>
      cases pre with
      | true => exact ih _ _ st1 hg1 (by have := hlt rfl; simp only at this; omega)
      | false => exact ⟨rfl, hg1⟩

theorem readLineSlice_eq (B : Nat) (hB : 2 ≤ B) (st : Rd) (hg : Good B st) :
    ((readLineSlice (plainReadLine B) none st).res, (readLineSlice (plainReadLine B) none st).st.bytes)
      = lineOf [] (readLineB B st.bytes) ∧ Good B (readLineSlice (plainReadLine B) none st).st :=
  readLineSliceLoop_whole B hB _ [] [] st hg (Nat.le_refl _)

theorem readLineSlice_whole (B : Nat) (hB : 2 ≤ B) (st : Rd) (hg : Good B st) :
    (∀ l rest, readLineB B st.bytes = some (l, rest) →
      (readLineSlice (plainReadLine B) none st).res = .ok l ∧
      Good B (readLineSlice (plainReadLine B) none st).st ∧
      (readLineSlice (plainReadLine B) none st).st.bytes = rest) ∧
    (readLineB B st.bytes = none →
      (readLineSlice (plainReadLine B) none st).res = .error (.src .eof) ∧
      Good B (readLineSlice (plainReadLine B) none st).st ∧
      (readLineSlice (plainReadLine B) none st).st.bytes = []) := by
  obtain ⟨e, g⟩ := readLineSlice_eq B hB st hg
  constructor
  · intro l rest h
    rw [h] at e
    exact ⟨(Prod.mk.inj e).1, g, (Prod.mk.inj e).2⟩
  · intro h
    rw [h] at e
    exact ⟨(Prod.mk.inj e).1, g, (Prod.mk.inj e).2⟩

theorem take_countOWS_isEmpty (s : Bytes) : (s.take (countOWS s)).isEmpty = decide (countOWS s = 0) := by
  cases s with
  | nil => simp [countOWS]
  | cons c t =>
    unfold countOWS
    split <;> simp

/-- The continuation loop as a function of the unread bytes. -/
def contBSpec (B f : Nat) (acc s : Bytes) : ContRes × Bytes :=
  (.ok (readContB B f acc s).1, (readContB B f acc s).2)

theorem contLoopV_whole (B : Nat) (hB : 2 ≤ B) (f : Nat) (acc : Bytes) :
    Reads B (contLoopV B f acc) (contBSpec B f acc) := by
  induction f generalizing acc with
  | zero => exact fun st hg => ⟨rfl, hg⟩
  | succ f ih =>
    intro st hg
    obtain ⟨hsk, hskg⟩ := skipSpace_whole B (by omega) st hg
    unfold contLoopV contBSpec readContB
    generalize skipSpace B st = x at *
    obtain ⟨sk, st1⟩ := x
    obtain ⟨rfl, hskb⟩ := Prod.mk.inj hsk
    simp only at hskb hskg ⊢
    rw [take_countOWS_isEmpty]
    by_cases hn : countOWS st.bytes = 0
    · simp only [hn, decide_true, if_true]
      rw [hn] at hskb
      exact ⟨by simpa using hskb, hskg⟩
    · simp only [hn, decide_false, Bool.false_eq_true, if_false]
      obtain ⟨hw, hgg⟩ := readLineSlice_eq B hB st1 hskg
      rw [hskb] at hw
      generalize readLineSlice (plainReadLine B) none st1 = y at *
      obtain ⟨res, st2, _⟩ := y
      cases hx : readLineB B (st.bytes.drop (countOWS st.bytes)) with
      | none =>
        rw [hx] at hw
        obtain ⟨rfl, hbb⟩ := Prod.mk.inj hw
        exact ⟨by simpa using hbb, hgg⟩
      | some p =>
        rw [hx] at hw
        obtain ⟨rfl, hbb⟩ := Prod.mk.inj hw
        have := ih (acc ++ [32] ++ trimOWS p.1) st2 hgg
        simp only at hbb
        rw [hbb] at this
        simpa [contBSpec] using this

/-- `readContinuedLineSlice` as a function of the unread bytes — the body of `mimeLoopE`'s loop. -/
def contSpec (B : Nat) (valid : Bytes → Bool) (s : Bytes) : ContRes × Bytes :=
  match readLineB B s with
  | none => (.err (.src .eof), [])
  | some (l, rest) =>
    if l.isEmpty then (.ok [], rest)
    else if !valid l then (.invalid, rest)
    else (.ok (readContB B (rest.length + 1) (trimOWS l) rest).1,
          (readContB B (rest.length + 1) (trimOWS l) rest).2)

theorem readContinuedSlow_whole (B : Nat) (hB : 2 ≤ B) (valid : Bytes → Bool) :
    Reads B (readContinuedSlow B valid) (contSpec B valid) := by
  intro st hg
  obtain ⟨hw, hgg⟩ := readLineSlice_eq B hB st hg
  unfold readContinuedSlow contSpec
  generalize readLineSlice (plainReadLine B) none st = y at *
  obtain ⟨res, st1, _⟩ := y
  cases hx : readLineB B st.bytes with
  | none =>
    rw [hx] at hw
    obtain ⟨rfl, hbb⟩ := Prod.mk.inj hw
    exact ⟨by simpa using hbb, hgg⟩
  | some p =>
    rw [hx] at hw
    obtain ⟨rfl, hbb⟩ := Prod.mk.inj hw
    simp only [List.nil_append] at hbb ⊢
    split
    · exact ⟨by rw [hbb], hgg⟩
    · split
      · exact ⟨by rw [hbb], hgg⟩
      · have := contLoopV_whole B hB (st1.bytes.length + 1) (trimOWS p.1) st1 hgg
        rw [hbb] at this ⊢
        exact this

/-- For every buffer size `B ≥ 2`, first-line check and aliasing
reader over a clean script: `readContinuedLineSlice` of the code (array, views, fast path,
fragments, put-backs — under whatever segmentation) returns, by content, exactly what the
whole-stream model `readLineB` + `readContB` (the loop body of `mimeLoopE`) computes from the unread
bytes, and leaves exactly its rest. -/
theorem continued_line_whole_stream (B : Nat) (hB : 2 ≤ B) (valid : Bytes → Bool) (a : ARd)
    (hg : Good B a.rd) :
    (areadContinued B 1 valid a).1 = (contSpec B valid a.rd.bytes).1 ∧
    (areadContinued B 1 valid a).2.rd.bytes = (contSpec B valid a.rd.bytes).2 ∧
    Good B (areadContinued B 1 valid a).2.rd := by
  obtain ⟨p1, q1⟩ := continued_line_alias_safe_slow B valid a
  obtain ⟨e, g⟩ := readContinuedSlow_whole B hB valid a.rd hg
  rw [p1, q1]
  exact ⟨congrArg Prod.fst e, congrArg Prod.snd e, g⟩

theorem trimOWS_ne_nil {l : Bytes} (h : l.contains 58 = true) : trimOWS l ≠ [] :=
  List.ne_nil_of_mem (Req.Trim.mem_trimBy (p := isOWS) (by simpa using h) (by decide))

/-- One round of `mimeLoopE` is `contSpec` with the colon check, then the map update. -/
theorem mimeLoopE_succ (B f : Nat) (m : HeaderMap) (s : Bytes) :
    mimeLoopE B (f + 1) m s =
      match contSpec B (fun l => l.contains 58) s with
      | (.err _, _) => .error .eof
      | (.invalid, _) => .error .header
      | (.ok kv, r) =>
        if kv.isEmpty then .ok (m, r)
        else match addHeaderLine m kv with
          | none => .error .header
          | some m' => mimeLoopE B f m' r := by
  conv => lhs; unfold mimeLoopE
  unfold contSpec
  cases readLineB B s with
  | none => rfl
  | some p =>
    obtain ⟨l, rest⟩ := p
    simp only
    by_cases hl : l.isEmpty = true
    · simp [hl]
    · by_cases hv : l.contains 58 = true
      · -- a line with a colon never joins to an empty line: the blank-line test sees the same
        have hne := readContB_ne_nil B (rest.length + 1) (trimOWS l) rest (trimOWS_ne_nil hv)
        have hv' : (58 : UInt8) ∈ l := by simpa using hv
        have hl' : l ≠ [] := by simpa using hl
        simp [hl', hv', hne]
        rfl
      · have hv' : ¬ (58 : UInt8) ∈ l := by simpa using hv
        have hl' : l ≠ [] := by simpa using hl
        simp [hl', hv']

/-- The header-block loop of the real reader (aliasing
`bufio.Reader`, every buffer size `B ≥ 2`, every clean segmentation of the connection) computes the
whole-stream model `mimeLoopE B` that the C04 theorems are stated about: same map, same error
class, same unread rest. -/
theorem head_incremental_is_whole_stream (B : Nat) (hB : 2 ≤ B) (f : Nat) (m : HeaderMap) (a : ARd)
    (hg : Good B a.rd) :
    (match amimeLoop B f m a with
      | .ok (m', a') => Except.ok (m', a'.rd.bytes)
      | .error e => Except.error e) = mimeLoopE B f m a.rd.bytes := by
  induction f generalizing m a with
  | zero => rfl
  | succ f ih =>
    obtain ⟨h1, h2, h3⟩ := continued_line_whole_stream B hB (fun l => l.contains 58) a hg
    rw [mimeLoopE_succ, amimeLoop]
    generalize areadContinued B 1 (fun l => l.contains 58) a = x at *
    generalize contSpec B (fun l => l.contains 58) a.rd.bytes = y at *
    obtain ⟨r, a1⟩ := x
    obtain ⟨_, s1⟩ := y
    simp only at h1 h2 h3
    subst h1 h2
    cases r with
    | err e => rfl
    | invalid => rfl
    | ok kv =>
      simp only
      by_cases hk : kv.isEmpty = true
      · rw [if_pos hk, if_pos hk]
      · rw [if_neg hk, if_neg hk]
        cases addHeaderLine m kv with
        | none => rfl
        | some m' => exact ih m' a1 h3

theorem areadLineSlice_eq (B : Nat) (hB : 2 ≤ B) (a : ARd) (hg : Good B a.rd) :
    (resGet (areadLineSlice B a).2 (areadLineSlice B a).1, (areadLineSlice B a).2.rd.bytes)
      = lineOf [] (readLineB B a.rd.bytes) ∧ Good B (areadLineSlice B a).2.rd := by
  obtain ⟨g1, g2⟩ := readLineSlice_view B a
  rw [g1, g2]
  exact readLineSlice_eq B hB a.rd hg

/-- The status line is read by the same `readLineSlice`: `_readResponse`'s first line. -/
theorem status_line_whole_stream (B : Nat) (hB : 2 ≤ B) (a : ARd) (hg : Good B a.rd)
    (l rest : Bytes) (h : readLineB B a.rd.bytes = some (l, rest)) :
    resGet (areadLineSlice B a).2 (areadLineSlice B a).1 = .ok l ∧
    (areadLineSlice B a).2.rd.bytes = rest := by
  have := (areadLineSlice_eq B hB a hg).1
  rw [h] at this
  exact Prod.mk.inj this

theorem apeek1_tail (B : Nat) (x : ARd) (hg : Good B x.rd) (hne : x.rd.buf = [] → x.rd.bytes = []) :
    Good B (if x.rd.buf.length < 1 then clearErr x else x).rd ∧
    (if x.rd.buf.length < 1 then clearErr x else x).rd.bytes = x.rd.bytes ∧
    (if x.rd.buf.length < 1 then clearErr x else x).rd.buf.head? = x.rd.bytes.head? := by
  by_cases hb : x.rd.buf.length < 1
  · have hbuf : x.rd.buf = [] := List.eq_nil_of_length_eq_zero (by omega)
    rw [if_pos hb]
    refine ⟨⟨hg.clean, Or.inl rfl, hg.len, by simp [clearErr]⟩, by simp [clearErr, Rd.bytes], ?_⟩
    rw [hne hbuf]
    simp [clearErr, hbuf]
  · rw [if_neg hb]
    refine ⟨hg, rfl, ?_⟩
    cases hq : x.rd.buf with
    | nil => rw [hq] at hb; simp at hb
    | cons c t => simp [Rd.bytes, hq]

theorem apeek1_good (B : Nat) (hB : 0 < B) (a : ARd) (hg : Good B a.rd) :
    Good B (apeek1 B a).rd ∧ (apeek1 B a).rd.bytes = a.rd.bytes ∧
    (apeek1 B a).rd.buf.head? = a.rd.bytes.head? := by
  unfold apeek1
  by_cases hc : a.rd.buf.length < 1 ∧ 0 < B ∧ a.rd.err = none
  · simp only [hc, and_self, if_true]
    have hbuf : a.rd.buf = [] := List.eq_nil_of_length_eq_zero (by omega)
    obtain ⟨hg1, hb1, d, hd, hcase⟩ := fill_good B a.rd hg hc.2.2 (by rw [hbuf]; exact hB)
    rw [hbuf, List.nil_append] at hd
    have hfill : (afill B a).rd = fill B a.rd := rfl
    have := apeek1_tail B (afill B a) (by rw [hfill]; exact hg1) (by
      rw [hfill]
      intro h0
      rcases hcase with ⟨hdne, _⟩ | ⟨_, _, _, hs1⟩
      · rw [hd] at h0; exact absurd h0 hdne
      · simp [Rd.bytes, h0, hs1, srcBytes])
    rw [hfill, hb1] at this
    exact this
  · rw [if_neg hc]
    apply apeek1_tail B a hg
    intro hbuf
    have he : a.rd.err ≠ none := by
      intro he
      exact hc ⟨by rw [hbuf]; simp, hB, he⟩
    rcases hg.err with h0 | ⟨_, h2⟩
    · exact absurd h0 he
    · simp [Rd.bytes, hbuf, h2, srcBytes]

/-- `_readResponse`'s head over the aliasing reader
(every `B ≥ 2`, every clean segmentation) = `parseHeadE B` on the bytes: same accept/reject, error
class, status line, header map, `Close`, `ContentLength`, `TransferEncoding`, framing decision and
unread rest — whenever the header block does not start with a blank (that rejection path is
`initialBlankClass` on the whole-stream side only). -/
theorem response_head_incremental_is_whole_stream (B : Nat) (hB : 2 ≤ B) (isHead : Bool) (a : ARd)
    (hg : Good B a.rd) (r : Except ErrClass (Msg × ARd)) (h : aparseHead B isHead a = some r) :
    (match r with
      | .ok (m, a') => Except.ok (m, a'.rd.bytes)
      | .error e => Except.error e) = parseHeadE B isHead a.rd.bytes := by
  obtain ⟨hw, hgg⟩ := areadLineSlice_eq B hB a hg
  unfold aparseHead at h
  unfold parseHeadE
  cases hl : areadLineSlice B a with
  | mk res a1 =>
    rw [hl] at h hw hgg
    cases hx : readLineB B a.rd.bytes with
    | none =>
      rw [hx] at hw
      cases res with
      | ok ln => cases (Prod.mk.inj hw).1
      | error e => cases h; rfl
    | some p =>
      obtain ⟨line, rest⟩ := p
      rw [hx] at hw
      cases res with
      | error e => cases (Prod.mk.inj hw).1
      | ok ln =>
        obtain ⟨hr, hbb⟩ := Prod.mk.inj hw
        simp only [resGet, List.nil_append, Res.ok.injEq] at hr hbb
        simp only [hr] at h ⊢
        cases hsl : parseStatusLine line with
        | none => rw [hsl] at h; cases h; rfl
        | some sl =>
          rw [hsl] at h
          simp only at h ⊢
          obtain ⟨pg, pb, ph⟩ := apeek1_good B (by omega) a1 hgg
          rw [hbb] at pb ph
          rw [ph, pb] at h
          split at h
          · cases h
          · next hnb =>
            have hmime := head_incremental_is_whole_stream B hB (rest.length + 1) [] (apeek1 B a1) pg
            rw [pb] at hmime
            rw [readMIMEHeaderE_loop B rest (by simpa using hnb), ← hmime]
            cases ham : amimeLoop B (rest.length + 1) [] (apeek1 B a1) with
            | error e => rw [ham] at h; cases h; rfl
            | ok q =>
              rw [ham] at h
              simp only at h ⊢
              cases hrt : readTransfer isHead sl (fixPragmaCacheControl q.1) <;>
                (rw [hrt] at h; cases h; rfl)

/-- "K: v\r\n w\r\n\r\nR" cut into 1-byte segments, 16-byte buffer: one header `K: v w`, rest "R". -/
def oneByteSegs : ARd := ARd.init 16
  ([75, 58, 32, 118, 13, 10, 32, 119, 13, 10, 13, 10, 82].map fun b => (⟨[b], none⟩ : Chunk))

example : Good 16 oneByteSegs.rd := good_ofSrc 16 _ (by unfold Clean; decide)

set_option maxRecDepth 100000 in
example : (match amimeLoop 16 20 [] oneByteSegs with
    | .ok (m, a) => some (m, a.rd.bytes)
    | .error _ => none) = some ([([75], [[118, 32, 119]])], [82]) := by decide +kernel

set_option maxRecDepth 100000 in
example : (match mimeLoopE 16 20 [] [75, 58, 32, 118, 13, 10, 32, 119, 13, 10, 13, 10, 82] with
    | .ok p => some p
    | .error _ => none) = some ([([75], [[118, 32, 119]])], [82]) := by decide +kernel

/-- the B-dependent corner is part of the equality: 16 unterminated bytes, B = 16 → `io.EOF`. -/
example : readLineB 16 (List.replicate 16 120) = none ∧ (readLineB 17 (List.replicate 16 120)).isSome := by
  decide

end Req.Props.C04
