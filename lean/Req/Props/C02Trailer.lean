import Req.Lemmas.C02TrailerMap
/-!
C02 — `Response.Trailer` as the merged Go map (announced keys ∪ received fields), in the
three protocols.  Models: `Req/C02/TrailerMap.lean`.  Tie: lane `trailermap` — real
HTTP/1.1 (raw peer, chunked), HTTP/2 (Go h2 server) and HTTP/3 (quic-go server) responses with
generated `Trailer` announcements (keys sent, keys never sent, sent-but-unannounced keys,
repeated names), the caller's `resp.Trailer` dumped WITH its nil-valued keys and compared with
`trailerMapMerged` / `trailerMapH3`.
-/
namespace Req.C02
open Req.Proto Req.H1

/-- **HTTP/1.1 and HTTP/2.**  For every list of announced keys and every received trailer
section (any fields, repeated names, announced or not): under every key `k` the map holds
exactly the received values of `k` in wire order; an announced key that was never sent is
present with a nil value; nothing else is in the map. -/
theorem trailer_map_merged (decl : List Bytes) (recv : List (Bytes × Bytes)) (k : Bytes) :
    (trailerMapMerged decl recv).get k =
      if valuesOf k recv ≠ [] then some (valuesOf k recv)
      else if k ∈ decl then some [] else none := by
  rw [trailerMapMerged, get_mergeSet _ _ _ (nodup_hmapOf recv), get_hmapOf, get_declMap]
  by_cases h : valuesOf k recv = []
  · rw [if_pos h, if_neg (not_not_intro h)]
  · rw [if_neg h, if_pos h]

/-- **HTTP/3.**  Until the trailer HEADERS frame: the announced keys with nil values.
Afterwards exactly the received fields — the announced-but-unsent keys are gone (`rsp.Trailer =
hdr` replaces the map where HTTP/1.1 and HTTP/2 merge). -/
theorem trailer_map_h3 (decl : List Bytes) (recv : List (Bytes × Bytes)) (k : Bytes) :
    (trailerMapH3 decl none).get k = (if k ∈ decl then some [] else none) ∧
    (trailerMapH3 decl (some recv)).get k =
      if valuesOf k recv ≠ [] then some (valuesOf k recv) else none := by
  refine ⟨get_declMap decl k, (get_hmapOf recv k).trans ?_⟩
  by_cases h : valuesOf k recv = []
  · rw [if_pos h, if_neg (not_not_intro h)]
  · rw [if_neg h, if_pos h]

/-- **The three protocols agree on every trailer VALUE**: read as a value list (`nil` for an
absent key — what `Header.Values(k)` / `Header.Get(k)` show) the maps are equal under every
key, and equal to the origin's values in wire order.  They differ only in whether an
announced key that was never sent is still a (nil-valued) key of the map: HTTP/1.1 and HTTP/2
keep it, HTTP/3 drops it once trailers arrived. -/
theorem trailer_values_cross_protocol (decl : List Bytes) (recv : List (Bytes × Bytes)) (k : Bytes) :
    getL (trailerMapMerged decl recv) k = valuesOf k recv ∧
    getL (trailerMapH3 decl (some recv)) k = valuesOf k recv := by
  rw [getL, getL, trailer_map_merged, (trailer_map_h3 decl recv k).2]
  by_cases h : valuesOf k recv = []
  · rw [if_neg (not_not_intro h), if_neg (not_not_intro h), h]
    refine ⟨?_, rfl⟩
    split
    · next heq => split at heq <;> cases heq; rfl
    · rfl
  · rw [if_pos h, if_pos h]
    exact ⟨rfl, rfl⟩

/-! Non-vacuity (keys `a`=97, `b`=98, `c`=99): announced a, b; received b: 1, c: 2, b: 3. -/
example : trailerMapMerged [[97], [98]] [([98], [49]), ([99], [50]), ([98], [51])] =
    [([97], []), ([98], [[49], [51]]), ([99], [[50]])] := by decide

example : trailerMapH3 [[97], [98]] (some [([98], [49]), ([99], [50]), ([98], [51])]) =
    [([98], [[49], [51]]), ([99], [[50]])] := by decide

example : trailerMapH3 [[97], [98]] none = [([97], []), ([98], [])] := by decide

end Req.C02
