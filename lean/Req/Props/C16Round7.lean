import Req.Client.Validate
import Req.H2.HpackSync
import Req.Lemmas.Trim
/-!
C16 at the edges of a value and at the edges of a request's life.

1. VALUE EDGES on HTTP/1.1 (`headerWriteSubset`: `headerNewlineToSpace` + `textproto.TrimString`):
   what is cut off a value is blanks only — the written value is the caller's value (CR / LF read
   as spaces) minus a prefix and a suffix consisting of SP / HTAB (/ CR / LF) bytes; every other
   byte — in particular every byte of a non-ASCII character such as U+3000, U+00A0, U+0085, which
   other notions of "white space" (`strings.TrimSpace`) would trim — is written, in
   order, and a value whose first and last byte are not blanks is written exactly.
2. GIVEN-UP REQUESTS and the connection's header-compression state on HTTP/2, over the model
   `Req.HpackSync`: for every sequence of requests on a connection and every choice of give-up
   points (not at all / before the block is encoded / while it is encoded), with the writer's
   discipline "an encoded block is written" both ends' tables stay equal and the peer decodes, for
   every request that was not given up before encoding, exactly that request's field list; the
   discipline "check again after encoding and drop the block" is refuted: a later
   request arrives with ANOTHER field or as a COMPRESSION_ERROR.
-/
namespace Req.Props.C16Round7
open Req.Proto Req.Validate
open Req.Trim (trimBy_split trimBy_of_ends)
open Req.H1.Origin (trimString_eq newlineToSpace_id)

/-! ## 1. value edges -/

/-- the value on the HTTP/1.1 wire is the caller's value (CR /
LF as spaces) minus a prefix and a suffix of SP / HTAB / (former) CR / LF bytes — nothing else is
ever cut off, whatever the bytes at the edges of the value are. -/
theorem sanitizeValue_cuts_blanks_only (v : Bytes) :
    ∃ p q, newlineToSpace v = p ++ sanitizeValue v ++ q ∧ (∀ b ∈ p, isASCIISpace b = true) ∧
      (∀ b ∈ q, isASCIISpace b = true) := by
  rw [sanitizeValue, trimString_eq]
  exact trimBy_split _ _

theorem filter_blank_nil (p : Bytes) (h : ∀ b ∈ p, isASCIISpace b = true) :
    p.filter (fun b => !isASCIISpace b) = [] := by
  apply List.filter_eq_nil_iff.2
  intro b hb
  simp [h b hb]

/-- `headerNewlineToSpace` on one byte -/
def nl (b : UInt8) : UInt8 := if b == 10 || b == 13 then 32 else b

theorem newlineToSpace_eq_map (w : Bytes) : newlineToSpace w = w.map nl := rfl

theorem nl_byte (x : UInt8) :
    (isASCIISpace x = true → isASCIISpace (nl x) = true) ∧ (isASCIISpace x = false → nl x = x) := by
  by_cases h10 : x = 10
  · subst h10; decide
  · by_cases h13 : x = 13
    · subst h13; decide
    · have : nl x = x := by simp [nl, h10, h13]
      rw [this]; exact ⟨id, fun _ => rfl⟩

theorem newlineToSpace_filter (v : Bytes) :
    (newlineToSpace v).filter (fun b => !isASCIISpace b) = v.filter (fun b => !isASCIISpace b) := by
  rw [newlineToSpace_eq_map]
  induction v with
  | nil => rfl
  | cons x xs ih =>
    rw [List.map_cons, List.filter_cons, List.filter_cons, ih]
    by_cases hs : isASCIISpace x = true
    · simp [hs, (nl_byte x).1 hs]
    · have hs' : isASCIISpace x = false := by simpa using hs
      rw [(nl_byte x).2 hs']

/-- every byte of the caller's value that is not SP / HTAB
/ CR / LF is written, in order — all bytes of non-ASCII characters (U+3000 = e3 80 80, U+00A0 =
c2 a0, U+0085 = c2 85, ...) among them, wherever in the value they stand. -/
theorem sanitizeValue_keeps_nonblank_bytes (v : Bytes) :
    (sanitizeValue v).filter (fun b => !isASCIISpace b) = v.filter (fun b => !isASCIISpace b) := by
  obtain ⟨p, q, h, hp, hq⟩ := sanitizeValue_cuts_blanks_only v
  rw [← newlineToSpace_filter v, h]
  simp [List.filter_append, filter_blank_nil p hp, filter_blank_nil q hq]

/-- a value without CR / LF whose first and last byte are not SP / HTAB is
written byte for byte. -/
theorem sanitizeValue_exact (v : Bytes) (hn : ∀ b ∈ v, b ≠ 10 ∧ b ≠ 13)
    (hfirst : ∀ c t, v = c :: t → isASCIISpace c = false)
    (hlast : ∀ c t, v.reverse = c :: t → isASCIISpace c = false) : sanitizeValue v = v := by
  rw [sanitizeValue, newlineToSpace_id v fun b hb => (hn b hb).symm, trimString_eq]
  exact trimBy_of_ends (fun c hc => (List.head?_eq_some_iff.mp hc).elim (hfirst c))
    fun c hc => (List.head?_eq_some_iff.mp (List.head?_reverse ▸ hc)).elim (hlast c)

/-- non-vacuity: "山田" + U+3000 (full-width space) keeps its last character; SP / HTAB go. -/
example : sanitizeValue [0xe5, 0xb1, 0xb1, 0xe7, 0x94, 0xb0, 0xe3, 0x80, 0x80] =
    [0xe5, 0xb1, 0xb1, 0xe7, 0x94, 0xb0, 0xe3, 0x80, 0x80] := by decide +kernel
example : sanitizeValue [32, 0xc2, 0xa0, 0x76, 0xc2, 0x85, 9, 32] = [0xc2, 0xa0, 0x76, 0xc2, 0x85] := by
  decide +kernel

/-! ## 2. given-up requests and the connection's compression state -/
open Req.HpackSync

theorem find_nth (f : Field) : ∀ (t : Table) (i : Nat), find f t = some i → nth t i = some f := by
  intro t
  induction t with
  | nil => intro i h; simp [find] at h
  | cons g t ih =>
    intro i h
    unfold find at h
    split at h
    next hg =>
      cases h
      simp [nth, hg]
    next hg =>
      cases hf : find f t with
      | none => simp [hf] at h
      | some j =>
        simp [hf] at h
        subst h
        simpa [nth] using ih j hf

theorem encodeBlock_cons_some {f : Field} {t : Table} {i : Nat} (fs : List Field)
    (h : find f t = some i) :
    encodeBlock t (f :: fs) = (.indexed i :: (encodeBlock t fs).1, (encodeBlock t fs).2) := by
  simp [encodeBlock, encodeField, h]

theorem encodeBlock_cons_none {f : Field} {t : Table} (fs : List Field) (h : find f t = none) :
    encodeBlock t (f :: fs) =
      (.literal f :: (encodeBlock (f :: t) fs).1, (encodeBlock (f :: t) fs).2) := by
  simp [encodeBlock, encodeField, h]

/-- the decoder undoes the encoder when it starts from the encoder's table, and ends with the
encoder's table -/
theorem decode_encode (fs : List Field) : ∀ t : Table,
    decodeBlock t (encodeBlock t fs).1 = some (fs, (encodeBlock t fs).2) := by
  induction fs with
  | nil => intro t; rfl
  | cons f fs ih =>
    intro t
    cases hf : find f t with
    | some i =>
      rw [encodeBlock_cons_some fs hf]
      simp [decodeBlock, find_nth f t i hf, ih t]
    | none =>
      rw [encodeBlock_cons_none fs hf]
      simp [decodeBlock, ih (f :: t)]

theorem step_writeAlways (c : Conn) (h : c.client = c.peer) (r : List Field × GiveUp) :
    (step true c r).1.client = (step true c r).1.peer ∧ (step true c r).2 = expected r := by
  obtain ⟨fs, g⟩ := r
  have hd := decode_encode fs c.client
  cases g with
  | beforeEncoding => simp [step, expected, h]
  | no | whileEncoding =>
    simp only [step, expected]
    rw [← h, hd]
    exact ⟨rfl, rfl⟩

theorem run_writeAlways (rs : List (List Field × GiveUp)) : ∀ c : Conn, c.client = c.peer →
    (run true c rs).1.client = (run true c rs).1.peer ∧ (run true c rs).2 = rs.map expected := by
  induction rs with
  | nil => intro c h; exact ⟨h, rfl⟩
  | cons r rs ih =>
    intro c h
    obtain ⟨hs, he⟩ := step_writeAlways c h r
    unfold run
    exact ⟨(ih _ hs).1, by rw [(ih _ hs).2, he]; rfl⟩

/-- ∀ request sequences, ∀ give-up points — with the discipline "an encoded
block is written" the peer's table equals the client's after every sequence. -/
theorem tables_in_step (rs : List (List Field × GiveUp)) : ∀ c : Conn, c.client = c.peer →
    (run true c rs).1.client = (run true c rs).1.peer :=
  fun c h => (run_writeAlways rs c h).1

/-- ∀ request sequences, ∀ give-up points — the peer decodes for
every request exactly that request's field list (nothing for a request given up before its block
was encoded); a request given up while its block was being encoded changes nothing for the
requests that follow it on the connection. -/
theorem given_up_requests_invisible (rs : List (List Field × GiveUp)) : ∀ c : Conn,
    c.client = c.peer → (run true c rs).2 = rs.map expected :=
  fun c h => (run_writeAlways rs c h).2

/-- non-vacuity + refutation of "check again after encoding, drop the block": the table holds y
and x; a request carrying a new field a is dropped after encoding; the next request sends y,
which the client encodes as index 1 — the peer reads x. -/
theorem drop_after_encoding_wrong_field :
    let x : Field := ([120], [49]); let y : Field := ([121], [50]); let a : Field := ([97], [51])
    (run false ⟨[y, x], [y, x]⟩ [([a], .whileEncoding), ([y], .no)]).2 = [.nothing, .fields [x]] ∧
    (run true ⟨[y, x], [y, x]⟩ [([a], .whileEncoding), ([y], .no)]).2 = [.fields [a], .fields [y]] := by
  decide +kernel

theorem drop_after_encoding_compression_error :
    let x : Field := ([120], [49]); let a : Field := ([97], [51])
    (run false ⟨[x], [x]⟩ [([a], .whileEncoding), ([x], .no)]).2 = [.nothing, .compressionError] := by
  decide +kernel

end Req.Props.C16Round7
