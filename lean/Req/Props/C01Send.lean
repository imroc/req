import Req.Lemmas.H1Valid
import Req.Props.C01
/-!
C01 — HTTP/1.1 request fidelity from the checks the code REALLY makes.

`Props/C01.lean: h1_fidelity` is stated under `Valid` (method / target free of SP and CR, …).
Here those hypotheses are replaced by the code's own validation: `sendH1` = the checks of
`Transport.roundTrip` (`validateHeaders`, `validMethod`, URL host) followed by
`persistConn.writeRequest` (`serializeH1`: `PunycodeHostPort` / `ValidHostHeader`,
`URL.RequestURI()` with its path escaping, `stringContainsCTLByte(ruri)`).

* an invalid method, header name or header value, a control byte anywhere in the request target
  make the send FAIL (`h1_invalid_method_fails`, `h1_invalid_header_fails`, `h1_ctl_target_fails`);
* the request target's only unescaped part is the caller's own `RawQuery` (`target_invisible_from_query`);
* a request that is sent is read back EXACTLY by the independent origin (`h1_send_fidelity`), the
  one residual case — a raw SP the caller wrote into the URL's own query, which Go transmits
  verbatim — is REJECTED by the origin, never misread (`h1_raw_space_rejected`).
-/
namespace Req.Props.C01Send
open Req.Proto Req.Ascii Req.BStr Req.Url Req.Validate Req.H1 Req.H1.Origin Req.HeaderSort
open Req.Lemmas.H1Valid Req.Props.C01

/-- the request target is in origin form: no proxy, not CONNECT, the URL is not opaque. -/
structure OriginForm (r : WReq) : Prop where
  noProxy : r.usingProxy = false
  notConnect : (r.method == sCONNECT) = false
  notOpaque : r.url.opaq = []

/-- no framing header under a spelling the exact-key exclusion table of the writer does not know
(`content-length` / `transfer-encoding` set through `SetHeaderNonCanonical`: written next to the
writer's own field, as net/http does — recorded in notes/C01.md). -/
structure NoShadowFraming (r : WReq) : Prop where
  hdr : ∀ kv ∈ r.header, (lower kv.key == sTE || lower kv.key == sCL) = true →
      reqWriteExcludeHeader.contains kv.key = true
  extra : ∀ kv ∈ r.extra, (lower kv.key == sTE || lower kv.key == sCL) = false

/-- a method that is not a token (a SP, CR, LF, colon … in it) never
reaches the wire: the call fails. -/
theorem h1_invalid_method_fails (r : WReq) (hne : r.method ≠ [])
    (hbad : ∃ b ∈ r.method, isTokenByte b = false) : ∃ e, sendH1 r = .error e := by
  cases h : sendH1 r with
  | error e => exact ⟨e, rfl⟩
  | ok w =>
    exfalso
    obtain ⟨hc, _⟩ := send_ok_parts r w h
    obtain ⟨_, hm, _⟩ := checks_ok r hc
    rcases hm with hm | hm
    · exact hne hm
    · obtain ⟨b, hb, hbt⟩ := hbad
      unfold validMethod at hm
      simp only [Bool.and_eq_true] at hm
      have := List.all_eq_true.mp hm.2 b hb
      rw [hbt] at this
      exact absurd this (by simp)

/-- a header whose name is not a token, or one of whose values holds
a control byte other than HTAB (CR, LF, NUL …), never reaches the wire: the call fails. -/
theorem h1_invalid_header_fails (r : WReq) (kv : KV) (hkv : kv ∈ r.header)
    (hbad : validHeaderFieldName kv.key = false ∨ ∃ v ∈ kv.values, validHeaderFieldValue v = false) :
    sendH1 r = .error .invalidHeader := by
  have : headersValid (headerPairs r.header) = false := by
    cases hv : headersValid (headerPairs r.header) with
    | false => rfl
    | true =>
      exfalso
      obtain ⟨h1, h2⟩ := headersValid_value r.header hv kv hkv
      rcases hbad with h | ⟨v, hv', hvb⟩
      · rw [h1] at h; exact absurd h (by simp)
      · rw [h2 v hv'] at hvb; exact absurd hvb (by simp)
  unfold sendH1 roundTripChecks
  simp [this]

/-- a control byte (CR, LF, NUL, DEL …) anywhere in the request target —
it can only come from the caller's raw query, the path is escaped — fails the write. -/
theorem h1_ctl_target_fails (r : WReq) (host : Bytes) (hh : wireHost r = .ok host)
    (hctl : containsCTL (requestTarget r host) = true) : ∃ e, sendH1 r = .error e := by
  cases h : sendH1 r with
  | error e => exact ⟨e, rfl⟩
  | ok w =>
    obtain ⟨_, hs⟩ := send_ok_parts r w h
    rw [(serializeH1_ok r w host hh hs).1] at hctl
    cases hctl

/-- in origin form every byte of the request target that is not
visible ASCII (SP, control bytes, DEL, non-ASCII) is a byte of the URL's own `RawQuery`: the path
is always percent-encoded by `URL.EscapedPath`. -/
theorem target_invisible_from_query (r : WReq) (host : Bytes) (hof : OriginForm r) (b : UInt8)
    (hb : b ∈ requestTarget r host) (hv : visible b = false) : b ∈ r.url.rawQuery := by
  rcases requestURI_mem r.url b (requestTarget_origin r host hof.noProxy hof.notConnect ▸ hb) with h | h | h
  · rw [h] at hv; cases hv
  · exact h
  · exact absurd hof.notOpaque h.1

/-- the hypotheses of `h1_fidelity`, from what the code checks itself. -/
theorem valid_of_send (r : WReq) (wire host : Bytes) (f : Framing)
    (hs : sendH1 r = .ok wire) (hh : wireHost r = .ok host) (hf : framing r = .ok f)
    (hof : OriginForm r) (hsh : NoShadowFraming r) (hsp : ∀ b ∈ r.url.rawQuery, b ≠ 32) :
    Valid r host f := by
  obtain ⟨hc, hser⟩ := send_ok_parts r wire hs
  obtain ⟨hhv, hm, _⟩ := checks_ok r hc
  have hnoctl := containsCTL_false (serializeH1_ok r wire host hh hser).1
  have ht := requestTarget_origin r host hof.noProxy hof.notConnect
  have hnc : (methodOrGet r.method == sCONNECT) = false := by
    unfold methodOrGet
    split
    · decide
    · exact hof.notConnect
  refine ⟨?_, ⟨?_, ?_⟩, ?_, hsh.hdr, hsh.extra, framing_framed r f hf hnc⟩
  · exact methodOrGet_bytes r.method hm
  · rw [ht]
    exact requestURI_ne_nil r.url (by simp [hof.notOpaque])
  · intro b hb
    refine ⟨?_, (hnoctl b hb).1⟩
    cases hv : visible b with
    | true => exact (visible_ne hv).1
    | false => exact hsp b (target_invisible_from_query r host hof b hb hv)
  · intro b hb
    by_cases hne : hdrFirst r.header sUserAgent = []
    · rw [hne] at hb; cases hb
    · obtain ⟨kv, hkv, hv⟩ := hdrFirst_mem r.header sUserAgent hne
      exact (validValue_no_crlf _ ((headersValid_value r.header hhv kv hkv).2 _ hv) b hb).1

/-- a request that passes the code's OWN checks (`sendH1 r = .ok wire`:
`validateHeaders`, `validMethod`, `ValidHostHeader`, `stringContainsCTLByte`) in origin form, with no
raw SP in the URL's own query, is read back by the independent origin as EXACTLY ONE request —
method, target, every header line, exact body — whatever bytes follow it. The method / target /
User-Agent hypotheses of `h1_fidelity` are discharged from the validation the code performs. -/
theorem h1_send_fidelity (r : WReq) (wire host : Bytes) (f : Framing)
    (hs : sendH1 r = .ok wire) (hh : wireHost r = .ok host) (hf : framing r = .ok f)
    (hof : OriginForm r) (hsh : NoShadowFraming r) (hsp : ∀ b ∈ r.url.rawQuery, b ≠ 32)
    (rest : Bytes) :
    parseRequestH1 (wire ++ rest) = some (view r host f, rest) :=
  h1_fidelity r wire host f hh hf (send_ok_parts r wire hs).2
    (valid_of_send r wire host f hs hh hf hof hsh hsp) rest

/-- non-vacuity: `POST /a%20b?x=1` with a body passes the checks and is read back. -/
example :
    let r : WReq := { method := [80, 79, 83, 84],
                      url := { scheme := [104], host := [104], path := [47, 97, 32, 98], rawQuery := [120, 61, 49] },
                      header := [⟨[88, 45, 65], [[118]]⟩], hasBody := true, contentLength := 2, body := [1, 2] }
    (sendH1 r).toOption.bind (fun w => parseRequestH1 (w ++ [71])) =
      some (view r [104] ⟨true, false, 2⟩, [71]) := by decide +kernel

def errOf : Except SendErr Bytes → Option SendErr
  | .error e => some e
  | .ok _ => none

/-- non-vacuity of the failures: method `GE T`, header value with CR LF, raw query with LF. -/
example :
    let u : Url := { host := [104], path := [47] }
    let r1 : WReq := { method := [71, 69, 32, 84], url := u }
    let r2 : WReq := { method := [71, 69, 84], url := u, header := [⟨[88], [[97, 13, 10, 66, 58, 49]]⟩] }
    let r3 : WReq := { method := [71, 69, 84], url := { u with rawQuery := [97, 10, 98] } }
    errOf (sendH1 r1) = some .invalidMethod ∧ errOf (sendH1 r2) = some .invalidHeader ∧
      errOf (sendH1 r3) = some (.write .ctlInURI) := by decide +kernel

/-- the residual case. A raw SP the caller wrote into the URL's own
query is transmitted verbatim (Go does not validate `RawQuery` beyond control bytes); the origin
then REJECTS the request line — it is never read as a different request. -/
theorem h1_raw_space_rejected (r : WReq) (wire host : Bytes)
    (hs : sendH1 r = .ok wire) (hh : wireHost r = .ok host)
    (hsp : ∃ b ∈ requestTarget r host, b = 32) (rest : Bytes) :
    parseRequestH1 (wire ++ rest) = none := by
  obtain ⟨hc, hser⟩ := send_ok_parts r wire hs
  obtain ⟨_, hm, _⟩ := checks_ok r hc
  have hnoctl := containsCTL_false (serializeH1_ok r wire host hh hser).1
  have hmeth := methodOrGet_bytes r.method hm
  obtain ⟨_, f, bw, _, _, rfl⟩ := serializeH1_ok r wire host hh hser
  obtain ⟨_, hsp, rfl⟩ := hsp
  obtain ⟨t1, t2, ht, ht1⟩ := List.eq_append_cons_of_mem hsp
  unfold parseRequestH1
  simp only [List.append_assoc]
  rw [readLine_requestLine _ _ _ (fun b hb => (hmeth b hb).2) (fun b hb => (hnoctl b hb).1)]
  have hpl : parseRequestLine (methodOrGet r.method ++ [32] ++ requestTarget r host ++ [32] ++ sHTTP11) = none := by
    unfold parseRequestLine
    have e1 : methodOrGet r.method ++ [32] ++ requestTarget r host ++ [32] ++ sHTTP11 =
        methodOrGet r.method ++ 32 :: (t1 ++ 32 :: (t2 ++ 32 :: sHTTP11)) := by
      rw [ht]; simp
    rw [e1, cut_append 32 _ _ (fun b hb' => (hmeth b hb').1)]
    simp only
    rw [cut_append 32 t1 _ fun b hb e => ht1 (e ▸ hb)]
    simp only
    have : (t2 ++ 32 :: sHTTP11 == sHTTP11) = false := by
      apply beq_eq_false_iff_ne.mpr
      intro hc
      have := congrArg List.length hc
      simp [sHTTP11] at this
    simp [this]
  simp only [hpl]

/-- non-vacuity: `GET /p?a b` is written as is; the origin refuses it. -/
example :
    (sendH1 { method := [71, 69, 84], url := { host := [104], path := [47, 112], rawQuery := [97, 32, 98] } }).toOption.bind
      (fun w => parseRequestH1 w) = none ∧
    (sendH1 { method := [71, 69, 84], url := { host := [104], path := [47, 112], rawQuery := [97, 32, 98] } }).toOption.isSome = true := by
  decide +kernel

end Req.Props.C01Send
