import Req.Lemmas.C03H2Over
import Req.Lemmas.C03H2Conn
import Req.C03.H2Pool
import Req.Lemmas.C03H2Wire
/-!
C03 — HTTP/2: a truncated, over-long or spliced body is never reported as success; a broken
connection is not reused.

Model: one client stream of the receive path of C02 (`Req.C02.H2Stream`: `processHeaders`,
`processData`, `processResetStream`, `endStream`, `readLoop.cleanup`, `transportResponseBody.Read`
with `bytesRemain`, the pipe) under the events of `Req.C03.H2XEv` (HEADERS, DATA, RST_STREAM with
any code, GOAWAY with last-stream-id and code, loss of the connection) and the caller's operations
(`Read(p)` of any size, `Close`).  The theorems about runs quantify over ALL lists of operations:
every frame sequence, every interleaving with caller reads of any sizes; nothing is bounded.
(`h2_ok_complete` takes the events first and then a draining caller; `h2_interim_transparent`,
`h2_bodiless_status_no_short`, `h2_midframe_cut_is_conn_lost`, `pool_hands_out_usable` are about one step.)

`obs` = one observation per read (`none` = the read blocks), `outOf obs` = the bytes handed to the
caller, `dataOf evs` = the concatenated payloads of the DATA frames.
-/
namespace Req.Props.C03H2
open Req.Proto Req.C02 Req.C03

/-- No frame carries END_STREAM — the stream was reset (any code), the
connection got a GOAWAY, was lost at a frame boundary or inside a frame, or the peer just stopped
— and whatever else happens in whatever order: no body read ever reports a clean `io.EOF`, and
a response to anything but HEAD has a piped body (so the caller must read to find out). -/
theorem h2_cut_never_success (sid : Nat) (ops : List H2XOp)
    (hes : ∀ e ∈ evsOf ops, e.noES = true) :
    NoCleanEOF ((H2X.init sid false).run ops).1 ∧
    ∀ r, ((H2X.init sid false).run ops).2.st.res = some r → r.body = .piped := by
  obtain ⟨h1, h2⟩ := run_open (x := H2X.init sid false) (Inv.init false) Open.init ops hes
  exact ⟨h1, h2.piped ((Mono.run (x := H2X.init sid false) (Inv.init false) ops).isHead.trans rfl)⟩

example :
    ((H2X.init 1 false).run [.ev (.headers [([58, 115, 116, 97, 116, 117, 115], [50, 48, 48])] false),
      .ev (.data [1, 2, 3] false false), .read 2, .ev (.rst 0), .read 8, .read 8]).1
    = [some ([1, 2], none), some ([3], none), some ([], some .rst)] := by decide

/-- The failure of a cut stream is delivered: once the stream was reset or the connection lost
before END_STREAM (the read loop alive and the stream not reset until then), the call has failed if
it had no response head yet, and a caller who drains with reads of positive size, more of them than
bytes are buffered, ends on an error other than `io.EOF` (`runReads` stops without a result at a
read that would block: none does). -/
theorem h2_cut_call_or_read_fails (sid : Nat) (ops : List H2XOp) (last : H2XEv)
    (hes : ∀ e ∈ evsOf ops, e.noES = true) (hl : last = .connLost ∨ ∃ c, last = .rst c)
    (hlive : ((H2X.init sid false).run ops).2.st.readAborted = false ∧
             ((H2X.init sid false).run ops).2.st.connDead = false) :
    ((((H2X.init sid false).run ops).2.step last).st.res = none →
      (((H2X.init sid false).run ops).2.step last).st.headErr.isSome = true) ∧
    ∀ ks : List Nat, (∀ k ∈ ks, 0 < k) →
      (((H2X.init sid false).run ops).2.step last).st.pipe.buf.length < ks.length →
      ∃ d e, ((((H2X.init sid false).run ops).2.step last).st.runReads ks).1.getLast? = some (d, some e) ∧
        e ≠ .eof := by
  have hi := Inv.reach sid false ops
  obtain ⟨_, ho⟩ := run_open (x := H2X.init sid false) (Inv.init false) Open.init ops hes
  generalize ((H2X.init sid false).run ops).2 = x0 at *
  have hi' := hi.step last
  have hno : last.noES = true := by rcases hl with rfl | ⟨c, rfl⟩ <;> rfl
  have ho' := ho.step hi last hno
  obtain ⟨s0, e, hst⟩ : ∃ (s0 : H2Stream) (e : H2Err), (x0.step last).st = s0.abort e := by
    rw [step_st]
    rcases hl with rfl | ⟨c, rfl⟩
    · exact ⟨{ x0.st with connDead := true }, .connProto, by simp [H2Stream.connError, ho.readClosed]⟩
    · exact ⟨x0.st, .rst, by simp [H2Stream.processRst, hlive.1, hlive.2]⟩
  have hdead : Dead (x0.step last).st :=
    Dead.of_shut hi' ho' (.inl (by rw [hst, abort_eq]; exact closeWithError_err_isSome _ _ _))
  constructor
  · intro hr
    rw [hst, abort_eq] at hr ⊢
    simp only at hr ⊢
    split
    · rfl
    · rename_i h
      simp only [hr, Option.isNone_none, true_and] at h
      cases hh : s0.headErr with
      | none => simp [hh] at h
      | some _ => rfl
  · intro ks hpos hlen
    exact drain_dead hi' hdead ks hpos hlen

/-- A stream that is `Dead` — a read has failed, or the pipe is broken, or closed with an error
other than `io.EOF`: what an abort before END_STREAM leaves (reset, connection lost, GOAWAY above
last-stream-id, a protocol violation noticed by the read loop, a length violation noticed by the
reader, the caller closing the body; `Dead` is the hypothesis here, `Dead.of_shut`,
`Dead.closeBody` and the example below produce it) — stays failed: no later frame (not even one
with END_STREAM) and no later event makes any read end cleanly. -/
theorem h2_abort_is_final (sid : Nat) (isHead : Bool) (ops1 ops2 : List H2XOp)
    (hd : Dead ((H2X.init sid isHead).run ops1).2.st) :
    NoCleanEOF (((H2X.init sid isHead).run ops1).2.run ops2).1 :=
  (run_dead (Inv.reach sid isHead ops1) hd ops2).1

example : Dead ((H2X.init 1 false).run [.ev (.headers [([58, 115, 116, 97, 116, 117, 115], [50, 48, 48])] false),
    .ev (.data [1, 2, 3] false false), .ev (.goAway 0 0)]).2.st := by
  right; right; exact ⟨.connProto, by decide, by decide⟩

/-- Whatever the caller has been handed at any moment — before an error or
not — is a prefix of the concatenated DATA payloads: nothing padded, nothing spliced in, nothing
reordered. -/
theorem h2_delivers_prefix (sid : Nat) (isHead : Bool) (ops : List H2XOp) :
    outOf ((H2X.init sid isHead).run ops).1 <+: dataOf (evsOf ops) :=
  (Inv.reach sid isHead ops).outPfx

/-- With a declared Content-Length `n` the caller never receives
more than `n` bytes, however the surplus is split over frames and reads. -/
theorem h2_overlong_not_delivered (sid : Nat) (ops : List H2XOp) (r : H2Res) (n : Nat)
    (hres : ((H2X.init sid false).run ops).2.st.res = some r) (hp : r.body = .piped)
    (hcl : r.contentLength = some n) :
    (outOf ((H2X.init sid false).run ops).1).length ≤ n :=
  (Inv.reach sid false ops).bound r n hres hp hcl

/-- Once the pipe holds more than the declared length still allows (the
surplus has arrived: in the same frame, in a later frame, after the caller had already drained
the declared bytes, with a declared length of zero, …), no read ever ends cleanly, whatever
follows — END_STREAM included. -/
theorem h2_overlong_is_error (sid : Nat) (ops1 ops2 : List H2XOp) (r : H2Res) (n : Nat)
    (hres : ((H2X.init sid false).run ops1).2.st.res = some r) (hp : r.body = .piped)
    (hcl : r.contentLength = some n)
    (hbuf : ((H2X.init sid false).run ops1).2.st.pipe.hasBuf = true)
    (hsur : (outOf ((H2X.init sid false).run ops1).1).length +
      ((H2X.init sid false).run ops1).2.st.pipe.buf.length > n) :
    NoCleanEOF (((H2X.init sid false).run ops1).2.run ops2).1 :=
  run_surplus (Inv.reach sid false ops1) (Or.inr ⟨r, n, hres, hp, hcl, hbuf, hsur⟩) ops2

/-- The same in terms of frames: before any END_STREAM the DATA frames —
however many, however split, interleaved with caller reads of any sizes at any moments — bring more
bytes than the declared length, the last of them possibly with END_STREAM itself (surplus in the
same frame, in a later frame after the caller drained the declared bytes, declared length zero,
declared length equal to the caller's buffer): from then on no read ever ends cleanly, whatever
follows. -/
theorem h2_overlong_frames (sid : Nat) (ops1 ops2 : List H2XOp) (p : Bytes) (pad es : Bool) (r : H2Res) (n : Nat)
    (hes : ∀ e ∈ evsOf ops1, e.noES = true)
    (hres : ((H2X.init sid false).run ops1).2.st.res = some r) (hcl : r.contentLength = some n)
    (hsur : (dataOf (evsOf ops1)).length + p.length > n) :
    NoCleanEOF ((((H2X.init sid false).run ops1).2.step (.data p pad es)).run ops2).1 := by
  have hi := Inv.reach sid false ops1
  obtain ⟨_, ho⟩ := run_open (x := H2X.init sid false) (Inv.init false) Open.init ops1 hes
  have hs := Shut.run (x := H2X.init sid false) (Inv.init false) (Shut.init false) ops1
  have hh : ((H2X.init sid false).run ops1).2.st.isHead = false :=
    (Mono.run (x := H2X.init sid false) (Inv.init false) ops1).isHead.trans rfl
  have hsp := surplus_after_data hi ho hs hh r n hres hcl p pad es hsur
  exact run_surplus (hi.step _) hsp ops2

-- content-length: 2; the third byte arrives in a later frame, after the caller drained the two
example :
    ((H2X.init 1 false).run [.ev (.headers [([58, 115, 116, 97, 116, 117, 115], [50, 48, 48]),
        ([99, 111, 110, 116, 101, 110, 116, 45, 108, 101, 110, 103, 116, 104], [50])] false),
      .ev (.data [97, 98] false false), .read 4, .ev (.data [99] false true), .read 4, .read 4]).1
    = [some ([97, 98], none), some ([], some .overDeclared), some ([], some .overDeclared)] := by decide

/-- Fewer DATA bytes in total than the declared Content-Length: no read
ever ends cleanly (with or without END_STREAM, in any interleaving). -/
theorem h2_short_is_error (sid : Nat) (ops : List H2XOp) (r : H2Res) (n : Nat)
    (hres : ((H2X.init sid false).run ops).2.st.res = some r) (hp : r.body = .piped)
    (hcl : r.contentLength = some n) (hlt : (dataOf (evsOf ops)).length < n) :
    NoCleanEOF ((H2X.init sid false).run ops).1 :=
  run_short (x := H2X.init sid false) (Inv.init false) ops r n hres hp hcl (by simpa using hlt)

/-- Fewer DATA bytes than declared and then END_STREAM: a draining caller receives exactly what
is still buffered, then `io.ErrUnexpectedEOF`. -/
theorem h2_short_unexpected_eof (sid : Nat) (ops : List H2XOp) (r : H2Res) (n : Nat)
    (hres : ((H2X.init sid false).run ops).2.st.res = some r) (hp : r.body = .piped)
    (hcl : r.contentLength = some n) (hlt : (dataOf (evsOf ops)).length < n)
    (hes : ((H2X.init sid false).run ops).2.st.pipe.err = some .eof)
    (hbe : ((H2X.init sid false).run ops).2.st.pipe.breakErr = none)
    (hre : ((H2X.init sid false).run ops).2.st.readErr = none)
    (ks : List Nat) (hpos : ∀ k ∈ ks, 0 < k)
    (hlen : ((H2X.init sid false).run ops).2.st.pipe.buf.length < ks.length) :
    ∃ d, (((H2X.init sid false).run ops).2.st.runReads ks).1.getLast? = some (d, some .unexpectedEOF) ∧
      outBytes (((H2X.init sid false).run ops).2.st.runReads ks).1 =
        ((H2X.init sid false).run ops).2.st.pipe.buf :=
  drain_short (Inv.reach sid false ops) r n hres hp hcl hes hbe hre hlt ks hpos hlen

example :
    ((H2X.init 1 false).run [.ev (.headers [([58, 115, 116, 97, 116, 117, 115], [50, 48, 48]),
        ([99, 111, 110, 116, 101, 110, 116, 45, 108, 101, 110, 103, 116, 104], [53])] false),
      .ev (.data [97, 98] false true), .read 4, .read 4]).1
    = [some ([97, 98], none), some ([], some .unexpectedEOF)] := by decide

/-- What the model-judged lane compares against: if, after the events, the
call and a draining caller end in success, then some frame carried END_STREAM, the body is a
prefix of the DATA sent, and it has exactly the declared length if one was declared. -/
theorem h2_ok_complete (sid : Nat) (evs : List H2XEv) (k status : Nat) (body : Bytes)
    (h : ((H2X.init sid false).run (evs.map .ev)).2.outcome k = .ok status body) :
    (∃ e ∈ evs, e.noES = false) ∧ body <+: dataOf evs ∧
    ∀ r n, ((H2X.init sid false).run (evs.map .ev)).2.st.res = some r → r.body = .piped →
      r.contentLength = some n → body.length = n := by
  have hev := evsOf_map_ev evs
  have hi := Inv.reach sid false (evs.map .ev)
  rw [hev, outOf_run_evs] at hi
  have hih : ((H2X.init sid false).run (evs.map .ev)).2.st.isHead = false :=
    (Mono.run (x := H2X.init sid false) (Inv.init false) (evs.map .ev)).isHead.trans rfl
  -- with no END_STREAM among the events the stream is still `Open`
  have hall : ¬(∃ e ∈ evs, e.noES = false) → Open ((H2X.init sid false).run (evs.map .ev)).2.st := fun hne =>
    (run_open (x := H2X.init sid false) (Inv.init false) Open.init (evs.map .ev) (by
      rw [hev]; intro e he
      cases hx : e.noES with
      | true => rfl
      | false => exact absurd ⟨e, he, hx⟩ hne)).2
  generalize ((H2X.init sid false).run (evs.map .ev)).2 = x at *
  obtain ⟨res, hr, _, ⟨hb, rfl⟩ | ⟨hb, s', hd⟩⟩ := outcome_ok h
  · refine ⟨Classical.byContradiction fun hne => ?_, List.nil_prefix, fun r n h1 h2 => ?_⟩
    · have := (hall hne).piped hih res hr; rw [hb] at this; cases this
    · cases hr.symm.trans h1; rw [hb] at h2; cases h2
  · obtain ⟨O', hb', hpf, hrc, hlen⟩ := drainAll_eof hi k _ [] body s' hd
    simp only [List.nil_append] at hb' hpf hlen
    subst hb'
    refine ⟨Classical.byContradiction fun hne => ?_, hpf, hlen⟩
    have := (hall hne).readClosed; rw [hrc] at this; cases this

/-- A valid informational (1xx) HEADERS frame in front of the final
response changes nothing but the counter of informational responses (at most five are skipped):
every theorem above quantifies over arbitrary frame lists, so over any number of them. -/
theorem h2_interim_transparent (s : H2Stream) (fs : Fields) (sv : Bytes) (code : Nat)
    (hs : h2StatusValue fs = some sv) (hne : sv ≠ []) (hc : natOfDigits sv = some code)
    (h1 : 100 ≤ code ∧ code ≤ 199) (hlim : s.num1xx + 1 ≤ 5)
    (hlive : s.readAborted = false ∧ s.connDead = false ∧ s.readClosed = false ∧ s.pastHeaders = false) :
    s.processHeaders fs false = { s with num1xx := s.num1xx + 1 } := by
  have hemp : sv.isEmpty = false := by cases sv <;> simp_all
  have hnot : ¬ (s.num1xx + 1 > 5) := by omega
  obtain ⟨a, b, c, d⟩ := hlive
  have : s = { s with pastHeaders := false } := by cases s; simp_all
  rw [this]
  simp [H2Stream.processHeaders, H2Stream.handleResponse, a, b, c, hs, hemp, hc, h1.1, h1.2, hnot]

/-- A 204 / 304 response that ends on its HEADERS frame has no body that could be missing,
whatever Content-Length it declares (`bodyAllowedForStatusH2`). -/
theorem h2_bodiless_status_no_short (s : H2Stream) (fs : Fields) (r : H2Res) (s' : H2Stream)
    (h : s.handleResponse fs true = (.ok (some r), s')) (hh : s.isHead = false)
    (hst : r.status = 204 ∨ r.status = 304) : r.body = .noBody := by
  have hnf := handleResponse_nf s fs true
  rw [h] at hnf
  cases hnf with
  | bodiless _ hp _ _ hm =>
    cases hb : r.body with
    | noBody => rfl
    | piped => exact absurd hb hp
    | missingBody => rcases hst with hst | hst <;> simp [bodyAllowedForStatusH2, hst, hb] at hm
  | piped _ _ _ hes => cases hes

/-- A response to HEAD never has a body that could come up short, whatever
length it declares: the body is `noBody`. -/
theorem h2_head_no_body (sid : Nat) (ops : List H2XOp) (r : H2Res)
    (hres : ((H2X.init sid true).run ops).2.st.res = some r) : r.body = .noBody := by
  exact head_no_body_run ops (H2X.init sid true) [] [] (Inv.init true) rfl (by simp [H2X.init, H2Stream.init]) r hres

/-! ### the wire: a cut inside a frame -/

section wire
open Req.H2.Frame

/-- A frame cut short by the transport never reaches the stream.  The connection's bytes end
`j` bytes into a frame (inside its 9-byte header or inside its payload), whatever the frame is:
`Framer.ReadFrame` returns an error (`io.EOF`, `io.ErrUnexpectedEOF`, or "frame too large") and no
frame.  The statement is about the frame reader of C05 alone; that an error of `ReadFrame` ends the
read loop is what the event `H2XEv.connLost` of `Req/C03/H2Cut.lean` models, for a cut inside a
frame as for a close at the frame boundary. -/
theorem h2_midframe_cut_is_conn_lost (r : Reader) (input : Bytes) (fh : FrameHeader) (rest : Bytes)
    (hp : parseHeader input = some (fh, rest)) (j : Nat) (hj : j < 9 + fh.length) :
    ∃ e, (readFrame r (input.take j)).1 = .error e ∧ (e = .eof ∨ e = .unexpectedEOF ∨ e = .tooLarge) := by
  unfold readFrame
  by_cases h9 : j < 9
  · have : parseHeader (input.take j) = none := parseHeader_short _ (by simp; omega)
    rw [this]
    simp only []
    split
    · exact ⟨_, rfl, Or.inl rfl⟩
    · exact ⟨_, rfl, Or.inr (Or.inl rfl)⟩
  · rw [parseHeader_take input fh rest hp j (by omega)]
    simp only []
    split
    · exact ⟨_, rfl, Or.inr (Or.inr rfl)⟩
    · have hlt : (rest.take (j - 9)).length < fh.length := by simp; omega
      simp only [hlt, if_true]
      split
      · exact ⟨_, rfl, Or.inl rfl⟩
      · exact ⟨_, rfl, Or.inr (Or.inl rfl)⟩

end wire

/-- Once the read loop ended (transport EOF at a frame boundary or
inside a frame, a connection error) or a GOAWAY was processed — with any code, any
last-stream-id — the connection takes no new request and is out of the pool, whatever else
happened before or happens after, in any order. -/
theorem broken_conn_not_reused_h2 (sid : Nat) (isHead : Bool) (ops : List H2XOp)
    (hf : ∃ e ∈ evsOf ops, H2XEv.fatal e = true) :
    ((H2X.init sid isHead).run ops).2.canTakeNewRequest = false ∧
    ((H2X.init sid isHead).run ops).2.inPool = false :=
  fatal_run (H2X.init sid isHead) ops hf (by simp [H2X.init, H2Stream.init])

/-- `GetClientConn` never hands out a connection that cannot take a new request: it dials. -/
theorem pool_hands_out_usable (p : H2Pool) : p.getClientConn.2.canTake = true := by
  unfold H2Pool.getClientConn
  cases h : p.conns.find? (·.canTake) with
  | none => rfl
  | some c => simpa using List.find?_some h

/-- After a connection-fatal event the next `GetClientConn` dials a new connection. -/
theorem broken_conn_redials_h2 (sid : Nat) (isHead : Bool) (ops : List H2XOp)
    (hf : ∃ e ∈ evsOf ops, H2XEv.fatal e = true) :
    h2DialsAfterNext ((H2X.init sid isHead).run ops).2 = 2 := by
  obtain ⟨h1, h2⟩ := broken_conn_not_reused_h2 sid isHead ops hf
  simp [h2DialsAfterNext, h1, h2, H2Pool.getClientConn, H2Pool.empty, H2Pool.setCanTake, H2Pool.markDead]

/-- A failure of the stream alone — RST_STREAM with any code but
PROTOCOL_ERROR, a short or over-long body, the caller closing the body — leaves the connection in
the pool and able to take the next request (as long as the read loop did not fail): no new dial. -/
theorem h2_stream_failure_keeps_conn (sid : Nat) (isHead : Bool) (ops : List H2XOp)
    (hs : ∀ e ∈ evsOf ops, H2XEv.streamLevel e = true)
    (hfin : ((H2X.init sid isHead).run ops).2.st.connDead = false) :
    h2DialsAfterNext ((H2X.init sid isHead).run ops).2 = 1 := by
  obtain ⟨h1, h2⟩ := stream_level_run (H2X.init sid isHead) ops hs (by rfl) (by rfl) hfin
  simp [h2DialsAfterNext, h1, h2, H2Pool.getClientConn, H2Pool.empty, H2Pool.setCanTake]

example : h2DialsAfterNext ((H2X.init 1 false).run [.ev (.headers [([58, 115, 116, 97, 116, 117, 115], [50, 48, 48])] false),
    .ev (.rst 8)]).2 = 1 := by decide
example : h2DialsAfterNext ((H2X.init 1 false).run [.ev (.headers [([58, 115, 116, 97, 116, 117, 115], [50, 48, 48])] false),
    .ev (.rst 1)]).2 = 2 := by decide
example : h2DialsAfterNext ((H2X.init 1 false).run [.ev (.goAway 1 0),
    .ev (.headers [([58, 115, 116, 97, 116, 117, 115], [50, 48, 48])] true)]).2 = 2 := by decide

end Req.Props.C03H2
