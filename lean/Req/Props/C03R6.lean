import Req.C03.H1End
import Req.C03.H3Next
import Req.Props.C03
import Req.Props.C03H3
import Req.Props.C02Call
/-!
C03 — "a cut body is never a success" along three other axes: how an HTTP/1 connection ends, which
exchange of a multi-exchange call is cut, which request follows a failed HTTP/3 response.

1. **The ending of an HTTP/1 connection (FIN vs RST).** `reset_close_delimited_never_success`:
   a close-delimited body whose connection is RESET ends in an error at every offset;
   `reset_never_more_lenient`: for every framing a success under RST is the same success under
   FIN (so all the cut theorems of `Props/C03.lean` hold under RST too —
   `reset_cut_never_success`); `reset_delivers_same_bytes`.
2. **The cut exchange inside a MULTI-EXCHANGE call** (digest re-send, retried attempts, followed
   redirects; C02's `Call` model of `Request.do` / `Client.roundTrip` / `handleDigestAuthFunc`):
   `call_cut_never_success` — whatever the options and whatever happened before, if the exchange
   the returned response came from has a body that fails, a consuming configuration records
   the failure in `Response.Err` and a streaming one hands out the live failing body (from C02's
   `call_final_exchange` and `call_no_stale_bytes`, `Props/C02Call.lean`).
3. **The request after a failed HTTP/3 response, for every method / body kind**
   (`H3Cache.roundTripNext` = `RoundTripOpt`): `h3_next_request_served`.
-/
namespace Req.Props.C03R6
open Req.Proto Req.H1 Req.C03

/-! ### 1. FIN vs RST -/

/-- Any bytes `s` (nothing assumed: any head, any number
of informational responses, any body bytes, none at all), then a connection reset: if the
response is close-delimited its body ends with an error — never a clean end, at every offset. -/
theorem reset_close_delimited_never_success (isHead : Bool) (B : Nat) (s : Bytes) (m : Msg) (b : BodyRes)
    (h : parseFinalEnd .reset isHead B s = .resp m b) (hf : m.framing = .untilClose) :
    b.ok = false := by
  unfold parseFinalEnd at h
  split at h
  · cases h
  · rename_i m' r _
    simp only [Outcome.resp.injEq] at h
    obtain ⟨rfl, rfl⟩ := h
    simp [readBodyEnd, hf]

/-- For every byte string: what succeeds when the connection is
reset behind it is not close-delimited and is exactly what `parseFinal` (the FIN reading)
yields — a RST never makes anything a success that a FIN does not. -/
theorem reset_never_more_lenient (isHead : Bool) (B : Nat) (s : Bytes)
    (h : (parseFinalEnd .reset isHead B s).isSuccess = true) :
    parseFinalEnd .reset isHead B s = parseFinal isHead B s ∧
    ∀ m b, parseFinal isHead B s = .resp m b → m.framing ≠ .untilClose := by
  unfold parseFinalEnd parseFinal at *
  cases hp : parseFinalHead 6 isHead s with
  | none => simp [hp, Outcome.isSuccess] at h
  | some p =>
    obtain ⟨m, r⟩ := p
    simp only [hp] at h ⊢
    cases hf : m.framing with
    | untilClose => simp [readBodyEnd, hf, Outcome.isSuccess] at h
    | none => exact ⟨by simp [readBodyEnd, hf], fun m' b' h' => by cases h'; simp [hf]⟩
    | length n => exact ⟨by simp [readBodyEnd, hf], fun m' b' h' => by cases h'; simp [hf]⟩
    | chunked => exact ⟨by simp [readBodyEnd, hf], fun m' b' h' => by cases h'; simp [hf]⟩

/-- A FIN ending is `parseFinal`. -/
theorem fin_is_parseFinal (isHead : Bool) (B : Nat) (s : Bytes) :
    parseFinalEnd .fin isHead B s = parseFinal isHead B s := by
  unfold parseFinalEnd parseFinal
  cases parseFinalHead 6 isHead s with
  | none => rfl
  | some p => simp [readBodyEnd]

/-- A complete exchange `s` (accepted, not close-delimited, nothing
left over): every strict prefix followed by EITHER ending is an error; and if it IS
close-delimited, every prefix followed by a reset is. -/
theorem reset_cut_never_success {isHead : Bool} {B : Nat} {s : Bytes} {m : Msg} {b : BodyRes}
    (h : parseFinal isHead B s = .resp m b) (k : Nat) :
    (m.framing ≠ .untilClose → b.rest = [] → k < s.length →
      ∀ e, (parseFinalEnd e isHead B (s.take k)).isSuccess = false) ∧
    (m.framing = .untilClose → (parseFinalEnd .reset isHead B (s.take k)).isSuccess = false) := by
  refine ⟨fun hf hrest hk e => ?_, fun hf => ?_⟩
  · have hcut := Req.Props.C03.final_cut_never_success h hf hrest k hk
    cases e with
    | fin => rw [fin_is_parseFinal]; exact hcut
    | reset =>
      cases hs : (parseFinalEnd .reset isHead B (s.take k)).isSuccess with
      | false => rfl
      | true =>
        have := (reset_never_more_lenient isHead B (s.take k) hs).1
        rw [this] at hs
        rw [hcut] at hs
        cases hs
  · cases hs : (parseFinalEnd .reset isHead B (s.take k)).isSuccess with
    | false => rfl
    | true =>
      exfalso
      obtain ⟨heq, hne⟩ := reset_never_more_lenient isHead B (s.take k) hs
      -- the head of the prefix is the head of the whole exchange
      rcases Req.Props.C03.final_cut_delivers_prefix h k with hr | ⟨b'', hr, _⟩
      · rw [heq, hr] at hs; cases hs
      · exact hne m b'' hr hf

/-- The bytes handed out do not depend on the ending. -/
theorem reset_delivers_same_bytes (e : ConnEnd) (B : Nat) (m : Msg) (s : Bytes) :
    (readBodyEnd e B m s).data = (readBody B m s).data := by
  cases e with
  | fin => simp [readBodyEnd]
  | reset =>
    cases hf : m.framing <;> simp [readBodyEnd, readBody, hf]

/-- A close-delimited response with a body, its connection reset: the connection is not reused. -/
theorem reset_close_delimited_not_reused (isHead : Bool) (B : Nat) (s : Bytes) (m : Msg) (b : BodyRes)
    (h : parseFinalEnd .reset isHead B s = .resp m b) (hf : m.framing = .untilClose) (env : ReuseEnv)
    (hbody : (!env.isHead && m.contentLength != 0) = true) (hw : env.bodyWritable = false) :
    connReusable (parseFinalEnd .reset isHead B s) env = false := by
  have hb := reset_close_delimited_never_success isHead B s m b h hf
  rw [h]
  simp [connReusable, mayReuse, hb, hbody, hw]

/-! Non-vacuity: `HTTP/1.0 200 OK\r\n\r\nab` — FIN: success with body "ab"; RST: an error, the
same two bytes delivered. -/
example :
    let s : Bytes := [72,84,84,80,47,49,46,48,32,50,48,48,32,79,75,13,10,13,10,97,98]
    (parseFinalEnd .fin false 4096 s).isSuccess = true ∧
    (parseFinalEnd .reset false 4096 s).isSuccess = false ∧
    (match parseFinalEnd .reset false 4096 s with | .resp _ b => b.data | .reject => []) = [97, 98] := by
  decide

/-! ### 2. the cut exchange of a multi-exchange call -/
open Req.C02 Req.Props.C02

/-- A single exchange whose body fails, consumed by the client: the failure is in `Response.Err`. -/
theorem afterRoundTrip_fail_consumed (base : Cfg) (st : Nat) (cks : List Bytes)
    (h : (AutoCfg base ∧ 199 < st) ∨ base.save = true ∨ wantsBind base st = true) :
    (afterRoundTrip base st (Body.transport cks .fail)).err = some .fail := by
  rw [afterRoundTrip_eq base st (Body.transport cks .fail) rfl]
  refine if_pos ⟨?_, rfl⟩
  rcases h with ⟨⟨h1, h2, h3⟩, hst⟩ | h | h
  · simp [autoRead, h1, h2, h3, hst]
  · simp [h]
  · simp [h]

/-- EVERY option combination (auto-read on / off at client or request
level × SetOutput / SetOutputFile × success / error target × digest off / client level / request
level × retry count × retry rule), EVERY script of exchanges (transport errors, 401 challenges,
retried 5xx, followed redirects, bodies of any segmentation): if the exchange the returned
`Response` came from — the authorized exchange of a digest call, the last attempt of a retried
call, the target of a redirect — has a body that ends in a read error, then

* a consuming configuration (auto-read of a final status, a download, a target that applies)
  reports it: `Response.Err` is that error — the call is not a success;
* a streaming configuration hands the caller that exchange's live body untouched: nothing
  cached, and the body is the failing stream (every drain of it ends in the error:
  `Body.readAll` = (bytes, `fail`)). -/
theorem call_cut_never_success (cfg : CCfg) (script : List Exch) (tag st : Nat) (rd : Bool) (cks : List Bytes)
    (hsrc : (call cfg script).1.src = .resp tag st rd cks .fail) :
    let v := (call cfg script).1.v
    v.r.status = st ∧ v.tag = tag ∧
    ((AutoCfg cfg.base ∧ 199 < st) ∨ cfg.base.save = true ∨ wantsBind cfg.base st = true →
      v.r.err = some .fail) ∧
    (StreamCfg cfg.base st →
      v.r.err = none ∧ v.r.cache = none ∧ v.r.body = some (Body.transport cks .fail) ∧
      (Body.transport cks .fail).readAll.1 = (cks.flatten, .fail)) := by
  intro v
  obtain ⟨hcore, hfull⟩ := call_final_exchange cfg script
  rw [hsrc] at hcore hfull
  have herr : v.r.err = (afterRoundTrip cfg.base st (Body.transport cks .fail)).err := by
    have := congrArg (fun v => v.r.err) hcore
    simp only [CView.core, Resp.noOut] at this
    rw [this, single_r]
  obtain ⟨_, hst, htag, _⟩ := (call_no_stale_bytes cfg script).2 tag st rd cks .fail hsrc
  refine ⟨hst, htag, fun h => ?_, fun hstream => ?_⟩
  · rw [herr]; exact afterRoundTrip_fail_consumed cfg.base st cks h
  · obtain ⟨hs, hd, hres⟩ := hstream
    have hr := afterRoundTrip_stream cfg.base st cks .fail hs hd hres
    have he : v.r.err = none := by rw [herr, hr]
    have hv : v = (single cfg (.resp tag st rd cks .fail)).v := hfull he
    have hvr : v.r = afterRoundTrip cfg.base st (Body.transport cks .fail) := by rw [hv, single_r]
    rw [hvr, hr]
    exact ⟨rfl, rfl, rfl, by rw [Body.readAll_open _ rfl]; rfl⟩

/-! Non-vacuity: client-level digest auth, auto-read; the 401
challenge is answered, the answer to the authorized request breaks off after "BB": the call
carries the error. And the last attempt of a retried call (503, then a cut 200), request-level
digest with a download. -/
example :
    let cfg : CCfg := { base := { clientDisable := false, reqDisable := false, save := false, result := false },
                        file := false, digest := .client, maxRetries := 0, cond := .dflt }
    let c := (call cfg [.resp 0 401 false [] .eof, .resp 1 200 false [[66, 66]] .fail]).1
    c.src = .resp 1 200 false [[66, 66]] .fail ∧ c.v.r.status = 200 ∧ c.v.r.err = some .fail := by
  decide

example :
    let cfg : CCfg := { base := { clientDisable := false, reqDisable := false, save := true, result := false },
                        file := true, digest := .request, maxRetries := 1, cond := .status }
    let c := (call cfg [.resp 0 503 false [] .eof, .resp 1 401 false [] .eof, .resp 2 200 false [[7], [8]] .fail]).1
    c.v.tag = 2 ∧ c.v.r.err = some .fail := by
  decide

/-! ### 3. the next request after a failed HTTP/3 response -/

/-- `getClient` (with the eviction) never hands out a closed connection, so `RoundTripOpt`
serves the request on it whatever its method and body: the retry rule is never needed. -/
theorem roundTripNext_served (c : H3Cache) (q : NextReq) :
    (c.roundTripNext q).1 = true ∧ (c.roundTripNext q).2 = c.getClient := by
  have h := (Req.Props.C03H3.broken_conn_not_reused_h3 c).2
  simp [H3Cache.roundTripNext, H3Cache.roundTripNextV, H3Cache.getClientV, h]

/-- Whatever happened to the first response (any ending: FIN, stream
reset with any code, connection close with any code; any outcome: call failed, body failed, ok)
the next request on the same client is served, for EVERY kind of request — also a POST / PUT with
a body and a non-idempotent request without one, which `RoundTripOpt` would not send twice — and
the number of dials is the one `h3DialsAfterSecond` names (independent of the request kind). -/
theorem h3_next_request_served (e : H3End) (o : H3Outcome) (q : NextReq) :
    h3Next e o q = (true, h3DialsAfterSecond e o) := by
  unfold h3Next
  obtain ⟨h1, h2⟩ := roundTripNext_served (h3CacheAfterFirst e o) q
  rw [Prod.ext_iff]
  refine ⟨h1, ?_⟩
  simp only [h2]
  cases e <;> rfl

/-- Without the eviction the same request sequence depends on the request kind: a dead cached
connection fails exactly the requests that cannot be replayed (what `getClient`'s check buys). -/
theorem h3_no_evict_serves_iff_replayable (c : H3Cache) (q : NextReq)
    (hc : c.cached = true) (hd : c.closed = true) :
    (c.roundTripNextV false q).1 = q.replayable := by
  cases hq : q.replayable <;> simp [H3Cache.roundTripNextV, H3Cache.getClientV, hc, hd, hq]

/-! Non-vacuity: connection closed inside the body, then a POST with a body: served on a second
connection; without the eviction it is not, while a GET is. -/
example :
    h3Next (.connClose 258) (.bodyFailed 200 [1, 2] .reset) ⟨false, true, false⟩ = (true, 2) ∧
    ((h3CacheAfterFirst (.connClose 258) (.bodyFailed 200 [1, 2] .reset)).roundTripNextV false ⟨false, true, false⟩).1 = false ∧
    ((h3CacheAfterFirst (.connClose 258) (.bodyFailed 200 [1, 2] .reset)).roundTripNextV false ⟨true, false, false⟩).1 = true := by
  decide

end Req.Props.C03R6
