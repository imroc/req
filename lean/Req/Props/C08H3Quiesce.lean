import Req.Lemmas.CancelH3Stuck
/-!
# C08 on HTTP/3 — quiescence with the peer still acting after the cancel

`cancel_releases_h3` looks at the runs of internal steps right after the cancel. Here the peer and the
network go on acting after it (handshake completes, stream credit arrives, flow-control credit, response
HEADERS / FIN, a reset) in ANY interleaving with the internal steps:

* `cancel_quiesces_h3` — from the cancel at any reachable state with the response not yet finished by the
  application, after ANY mixture of peer events and internal steps, every further run of internal steps has
  ≤ 17 steps and ends released, the caller holding exactly the context's error or the response it had.

The two events left out are the application's own `callerClose` / `callerEOF` racing the watcher's `select`
(`upload_outlives_response_h3`, observation (d) in notes/C08.md).
-/
namespace Req.Props.C08H3Quiesce
open Req.Cancel (CtxErr)
open Req.CancelH3 Req.Lemmas.CancelH3

/-- events of the peer / the network (not the application's, not a second cancel) -/
def peerEv : Ev → Bool
  | .callerClose | .callerEOF | .cancel _ => false
  | _ => true

inductive PSteps : St → St → Prop
  | refl (s) : PSteps s s
  | ev {s t} (e : Ev) : PSteps s t → peerEv e = true → evGuard t e = true → PSteps s (evApply t e)
  | act {s t} (a : Act) : PSteps s t → guard t a = true → PSteps s (apply t a)

theorem watcherOrShut_ev {s : St} {e : Ev} (h : Inv s) (hG : WatcherOrShut s) (hp : peerEv e = true) (g : evGuard s e = true) :
    WatcherOrShut (evApply s e) := by
  cases e <;> simp only [peerEv, Bool.false_eq_true] at hp <;>
    simp only [CancelH3.evGuard, Bool.and_eq_true, beq_iff_eq] at g <;>
    simp only [CancelH3.evApply, resetIfOpen_eq, WatcherOrShut] at hG ⊢
  case streamOpen => exact .inl (h.noStr (h.pre (.inr g)).1).2.2.2
  case peerEnd => grind
  case peerReset => grind
  all_goals exact hG

theorem errIsCtx_ev {c : CtxErr} {s : St} {e : Ev} (hJ : ErrIsCtx c s) (hp : peerEv e = true) (g : evGuard s e = true) :
    ErrIsCtx c (evApply s e) ∧ (evApply s e).ctx = s.ctx := by
  cases e <;> simp only [peerEv, Bool.false_eq_true] at hp <;>
    simp only [CancelH3.evGuard, Bool.and_eq_true, beq_iff_eq] at g <;>
    simp only [CancelH3.evApply, ErrIsCtx]
  case hsDone => simp
  case streamOpen => simp
  all_goals exact ⟨hJ, trivial⟩

theorem psteps_keep {c : CtxErr} {s t : St} (h : PSteps s t) (hs : Cancelled c s) : Cancelled c t := by
  induction h with
  | refl => exact hs
  | ev e _ hp g ih =>
    have ⟨j1, j2⟩ := errIsCtx_ev ih.err hp g
    exact ⟨inv_ev ih.inv g, watcherOrShut_ev ih.inv ih.watcherOrShut hp g, j2.trans ih.ctx, j1⟩
  | act a _ g ih => exact ih.act g

theorem cancel_quiesces_h3 {s t : St} (hr : Reach s) (c : CtxErr) (hc : s.ctx = none)
    (hd : s.reqDone = false) (h : PSteps (evApply s (.cancel c)) t)
    {as : List Act} {t' : St} (run : Run t as t') :
    as.length ≤ K ∧
    (stuck t' = true →
      released t' = true ∧ (t'.cpc = .returned (.err (.ctx c)) ∨ t'.cpc = .returned .resp)) :=
  (psteps_keep h (cancel_point hr c hc hd)).run_releases run

/-- non-vacuity: cancelled while waiting for stream credit; the stream is opened all the same -/
example : PSteps (evApply (evApply (init true) .hsDone) (.cancel .deadline))
    (evApply (evApply (evApply (init true) .hsDone) (.cancel .deadline)) .streamOpen) :=
  PSteps.ev .streamOpen (PSteps.refl _) rfl rfl

/-- … and from there (the stream was opened although the context was already done) every maximal run
ends released with the deadline error, body closed once -/
example : (finals 20 (evApply (evApply (evApply (init true) .hsDone) (.cancel .deadline)) .streamOpen)).all
    (fun t => released t && t.closes == 1 && t.cpc == .returned (.err (.ctx .deadline))) = true := by
  decide +kernel

end Req.Props.C08H3Quiesce
