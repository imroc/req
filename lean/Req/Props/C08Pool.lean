import Req.Pool.CancelPool
import Req.Lemmas.CancelPool
import Req.Lemmas.C09PoolInv
/-!
C08 — property theorems, multi-request part ("… and the client remains fully usable").

Model: C09's pool state machine `Req/Pool/H1Pool.lean` (an op list = one interleaving of the
pool's critical sections at lock granularity; `Op.cancel w` = `wantConn.cancel`, which leaves
the cancelled want in every queue it is in), read through `Req/Pool/CancelPool.lean`.
-/
namespace Req.Props.C08Pool
open Req.Pool.H1Pool Req.Pool.CancelPool Req.Lemmas.CancelPool
open Req.Lemmas.C09Pool Req.Lemmas.C09PoolExcl Req.Lemmas.C09PoolCount Req.Lemmas.C09PoolLru Req.Lemmas.C09PoolInv

theorem run_snoc (cfg : Cfg) (s : St) (ops : List Op) (op : Op) :
    run cfg s (ops ++ [op]) = (step cfg (run cfg s ops) op).1 := by
  induction ops generalizing s with
  | nil => rfl
  | cons a t ih => exact ih _

/-- **no_stranded_waiter**: ∀ interleavings, somebody queued in `connsPerHostWait[k]` ⇒ `MaxConnsPerHost > 0` and
`connsPerHost[k] = MaxConnsPerHost`: nobody waits for a slot while a slot is free — whatever was
cancelled, and when. -/
theorem no_stranded_waiter (cfg : Cfg) (ops : List Op) (k : Key)
    (h : (run cfg {} ops).dialWait k ≠ []) :
    cfg.maxConnsPerHost > 0 ∧ ((run cfg {} ops).cph k : Int) = cfg.maxConnsPerHost := by
  obtain ⟨hpos, hge⟩ := NSW_reach cfg ops k h
  have hle := (PoolInv_reach cfg ops).cl hpos k
  exact ⟨hpos, by omega⟩

/-- **freed_slot_leaves_no_waiter**: whenever a critical section lowers `connsPerHost[k]`, the wait queue
of `k` is empty afterwards. -/
theorem freed_slot_leaves_no_waiter (cfg : Cfg) (ops : List Op) (op : Op) (k : Key)
    (hdec : (step cfg (run cfg {} ops) op).1.cph k < (run cfg {} ops).cph k) :
    (step cfg (run cfg {} ops) op).1.dialWait k = [] := by
  rw [← run_snoc] at hdec ⊢
  cases hq : (run cfg {} (ops ++ [op])).dialWait k with
  | nil => rfl
  | cons a t =>
    obtain ⟨hpos, heq⟩ := no_stranded_waiter cfg (ops ++ [op]) k (by rw [hq]; simp)
    have hle := (PoolInv_reach cfg ops).cl hpos k
    omega

/-- **cancelled_waiter_never_blocks_others**: `decConnsPerHost` on ANY state whose queue is
`dead ++ w :: rest` (`dead` all cancelled / delivered, `w` waiting): exactly one dial is started, for
`w`; the queue is `rest`; the count is unchanged. -/
theorem cancelled_waiter_never_blocks_others (cfg : Cfg) (s : St) (k : Key)
    (dead : List Want) (w : Want) (rest : List Want)
    (hpos : cfg.maxConnsPerHost > 0) (hc : s.cph k ≠ 0)
    (hq : s.dialWait k = dead ++ w :: rest)
    (hdead : ∀ d ∈ dead, s.wst d ≠ .waiting) (hw : s.wst w = .waiting) :
    (decConns cfg s k).dialing = w :: s.dialing ∧ (decConns cfg s k).dialWait k = rest ∧
    (decConns cfg s k).cph k = s.cph k ∧ (decConns cfg s k).wst = s.wst := by
  have hf : firstLive s.wst (s.dialWait k) = some (w, rest) := by
    rw [hq]; exact firstLive_of_split s.wst dead w rest hdead hw
  rw [decConns_firstLive_some cfg s k w rest hpos hc hf]
  simp [startDial]

/-- a live connection of key `k` holds one of the `connsPerHost[k]` slots -/
theorem cph_pos_of_live_conn (cfg : Cfg) (ops : List Op) (c : Conn) (k : Key)
    (hpos : cfg.maxConnsPerHost > 0)
    (hk : (run cfg {} ops).ckey c = some k) (hopen : (run cfg {} ops).closed c = false) :
    (run cfg {} ops).cph k ≠ 0 := by
  have hp := PoolInv_reach cfg ops
  have he := hp.excl
  have ha := hp.acct hpos
  have hmem : c ∈ (run cfg {} ops).conns := (he.connsCreated c).mpr (by rw [hk]; simp)
  have := cnt_pos_of_mem (fun c => (run cfg {} ops).ckey c == some k && !(run cfg {} ops).closed c)
    (run cfg {} ops).conns c hmem (by simp [hk, hopen])
  have hb := ha.bal k
  unfold liveCnt at hb
  omega

/-- **slot_release_dials_first_live_waiter**: ∀ interleavings, closing a live connection of key `k`
while a live waiter is queued for `k` starts the dial for the FIRST live waiter (FIFO among the
living), skipping every cancelled one in front. -/
theorem slot_release_dials_first_live_waiter (cfg : Cfg) (ops : List Op) (c : Conn) (k : Key)
    (hpos : cfg.maxConnsPerHost > 0)
    (hk : (run cfg {} ops).ckey c = some k) (hopen : (run cfg {} ops).closed c = false)
    (hlive : hasLive (run cfg {} ops).wst ((run cfg {} ops).dialWait k) = true) :
    ∃ dead w rest, (run cfg {} ops).dialWait k = dead ++ w :: rest ∧
      (∀ d ∈ dead, (run cfg {} ops).wst d ≠ .waiting) ∧ (run cfg {} ops).wst w = .waiting ∧
      (closeConn cfg (run cfg {} ops) c).closed c = true ∧
      (closeConn cfg (run cfg {} ops) c).dialing = w :: (run cfg {} ops).dialing ∧
      (closeConn cfg (run cfg {} ops) c).dialWait k = rest ∧
      (closeConn cfg (run cfg {} ops) c).cph k = (run cfg {} ops).cph k := by
  have hc := cph_pos_of_live_conn cfg ops c k hpos hk hopen
  generalize run cfg {} ops = s at *
  have hclose : closeConn cfg s c = decConns cfg { s with closed := upd s.closed c true } k := by
    unfold closeConn; simp [hopen, hk]
  rw [hclose]
  obtain ⟨dead, w, rest, hq, hdead, hw, h⟩ :=
    decConns_dials_first_live cfg { s with closed := upd s.closed c true } k hpos hc hlive
  exact ⟨dead, w, rest, hq, hdead, hw, by simp, h⟩

/-- **dead_dial_passes_slot_on** — a dial goroutine that finds its own want cancelled before it
started (`getCtxForDial() == nil`) hands its slot to the first live waiter of the key. -/
theorem dead_dial_passes_slot_on (cfg : Cfg) (ops : List Op) (b : Want) (k : Key)
    (hpos : cfg.maxConnsPerHost > 0)
    (hk : (run cfg {} ops).wkey b = some k) (hd : b ∈ (run cfg {} ops).dialing)
    (hgone : (run cfg {} ops).wst b ≠ .waiting)
    (hlive : hasLive (run cfg {} ops).wst ((run cfg {} ops).dialWait k) = true) :
    ∃ dead w rest, (run cfg {} ops).dialWait k = dead ++ w :: rest ∧
      (∀ d ∈ dead, (run cfg {} ops).wst d ≠ .waiting) ∧ (run cfg {} ops).wst w = .waiting ∧
      (step cfg (run cfg {} ops) (.dialBegin b)).1.dialing = w :: (run cfg {} ops).dialing.erase b ∧
      (step cfg (run cfg {} ops) (.dialBegin b)).1.dialWait k = rest ∧
      (step cfg (run cfg {} ops) (.dialBegin b)).1.cph k = (run cfg {} ops).cph k := by
  have ha := (PoolInv_reach cfg ops).acct hpos
  have hc : (run cfg {} ops).cph k ≠ 0 := by
    have := cnt_pos_of_mem (fun w => (run cfg {} ops).wkey w == some k) (run cfg {} ops).dialing b hd (by simp [hk])
    have hb := ha.bal k
    unfold dialCnt at hb
    omega
  generalize run cfg {} ops = s at *
  have hstep : (step cfg s (.dialBegin b)).1 = decConns cfg { s with dialing := s.dialing.erase b } k := by
    simp [step, hk, hd, hgone]
  rw [hstep]
  exact decConns_dials_first_live cfg { s with dialing := s.dialing.erase b } k hpos hc hlive

/-- **idle_handoff_skips_cancelled** — `tryPutIdleConn` hands a healthy connection to the first
want of `idleConnWait[k]` that is still waiting, however many cancelled ones are in front. -/
theorem idle_handoff_skips_cancelled (cfg : Cfg) (s : St) (c : Conn) (k : Key)
    (dead : List Want) (w : Want) (rest : List Want)
    (hka : cfg.disableKeepAlives = false) (hmi : ¬ cfg.maxIdlePerHost < 0) (hopen : s.closed c = false)
    (hq : s.idleWait k = dead ++ w :: rest)
    (hdead : ∀ d ∈ dead, s.wst d ≠ .waiting) (hw : s.wst w = .waiting) :
    (tryPut cfg s c k).2 = .ok ∧ (tryPut cfg s c k).1.wst w = .gotConn c ∧
    (tryPut cfg s c k).1.idleWait k = rest ∧ (tryPut cfg s c k).1.idle = s.idle := by
  have hf : firstLive s.wst (s.idleWait k) = some (w, rest) := by
    rw [hq]; exact firstLive_of_split s.wst dead w rest hdead hw
  unfold tryPut
  simp [hka, hmi, hopen, popUntilWaiting_firstLive, hf]

/-- **late_conn_goes_to_transit**: a dial that completes after its want was cancelled does not deliver;
the connection is held by the dial goroutine (`transit`). -/
theorem late_conn_goes_to_transit (cfg : Cfg) (s : St) (b : Want) (c : Conn) (k : Key)
    (hk : s.wkey b = some k) (hfresh : s.ckey c = none) (hd : b ∈ s.dialing)
    (hgone : s.wst b ≠ .waiting) :
    (step cfg s (.dialOk b c)).2 = .bool false ∧
    c ∈ (step cfg s (.dialOk b c)).1.transit ∧ (step cfg s (.dialOk b c)).1.wst = s.wst ∧
    (step cfg s (.dialOk b c)).1.ckey c = some k ∧ (step cfg s (.dialOk b c)).1.closed c = false := by
  simp [step, hk, hfresh, hd, hgone]

/-- `putOrCloseIdleConn(c)` for a connection a pool routine holds: `tryPutIdleConn`, and
`pconn.close(err)` when that refuses. -/
def putOrClose (cfg : Cfg) (s : St) (c : Conn) : St :=
  match (step cfg s (.putT c)).2 with
  | .put .ok => (step cfg s (.putT c)).1
  | .put _ => (step cfg (step cfg s (.putT c)).1 (.closeT c)).1
  | _ => (step cfg s (.putT c)).1

/-- **late_conn_not_leaked** — ∀ interleavings: a connection some pool routine holds in its hands
(`transit`: delivered by a dial after its want was cancelled, taken back from a cancelled want,
or taken out of the idle list by `CloseIdleConnections`) is, after `putOrCloseIdleConn`, in nobody's
hands any more and is handed to a waiting request, listed idle, or closed. -/
theorem late_conn_not_leaked (cfg : Cfg) (ops : List Op) (c : Conn) (k : Key)
    (hk : (run cfg {} ops).ckey c = some k) (ht : c ∈ (run cfg {} ops).transit) :
    c ∉ (putOrClose cfg (run cfg {} ops) c).transit ∧
    ((∃ w, (putOrClose cfg (run cfg {} ops) c).wst w = .gotConn c) ∨
      c ∈ (putOrClose cfg (run cfg {} ops) c).idle k ∨
      (putOrClose cfg (run cfg {} ops) c).closed c = true) := by
  have hp := PoolInv_reach cfg ops
  generalize run cfg {} ops = s at *
  have hnot : c ∉ s.transit.erase c := fun h => (List.Nodup.mem_erase_iff hp.excl.transitNodup).mp h |>.1 rfl
  have hstep : step cfg s (.putT c) =
      (putBack (tryPut cfg { s with transit := s.transit.erase c } c k) c,
        Out.put (tryPut cfg { s with transit := s.transit.erase c } c k).2) := by
    simp only [step, hk, ht, putBack, List.contains_eq_mem, decide_true, Bool.not_true, Bool.false_eq_true, if_false]
    split <;> rfl
  unfold putOrClose
  rw [hstep]
  by_cases hok : (tryPut cfg { s with transit := s.transit.erase c } c k).2 = .ok
  · simp only [putBack, hok, if_true]
    refine ⟨by simpa using hnot, ?_⟩
    rcases Req.Lemmas.C09PoolLeak.tryPut_ok_places cfg { s with transit := s.transit.erase c } c k hk hok with h | h | h | h
    · exact Or.inl h
    · exact Or.inr (Or.inl h)
    · exact Or.inr (Or.inr h)
    · -- c ∈ lru cannot be: LRU entries are idle-listed (hence not in transit) or closed
      exfalso
      rcases hp.lru.lruIdleOrClosed c h.2 with ⟨k', hk'⟩ | hc
      · exact hp.excl.idleNotTransit k' c hk' ht
      · cases h.1.symm.trans hc
  · simp only [putBack, if_neg hok]
    cases hp : (tryPut cfg { s with transit := s.transit.erase c } c k).2 with
    | ok => exact absurd hp hok
    | keepAlivesDisabled | broken | closeIdle | tooManyIdleHost =>
      simp only [step, List.contains_cons, beq_self_eq_true, Bool.true_or, Bool.not_true, Bool.false_eq_true,
        if_false, List.erase_cons_head]
      refine ⟨by simpa using hnot, Or.inr (Or.inr ?_)⟩
      exact (closeConn_closed cfg _ c c).mpr (Or.inr ⟨rfl, by simp [hk]⟩)

/-- **cancel_is_lazy**: `wantConn.cancel` of a waiting want changes nothing but the want. -/
theorem cancel_is_lazy (cfg : Cfg) (s : St) (w : Want) (k : Key) (hk : s.wkey w = some k)
    (hw : s.wst w = .waiting) :
    (step cfg s (.cancel w)).1 = cancelOnly s w := by
  simp [step, hk, hw, cancelOnly]

/-- **sample_ok**: the judgement the crowd lanes apply to in-package samples of the real pool
(`Sample.verdict`) is `ok` on the sample of every key of every reachable model state. -/
theorem sample_ok (cfg : Cfg) (ops : List Op) (k : Key) :
    (sampleOf cfg (run cfg {} ops) k).verdict = .ok := by
  have hcl := (PoolInv_reach cfg ops).cl
  have hnsw := NSW_reach cfg ops k
  have hiw := (PoolInv_reach cfg ops).iw k
  unfold Sample.verdict sampleOf
  simp only
  rw [if_neg, if_neg, if_neg]
  · rintro ⟨h1, h2⟩
    have : (run cfg {} ops).idleWait k ≠ [] := by
      intro h; rw [h] at h1; simp at h1
    rw [hiw this] at h2; simp at h2
  · rintro ⟨h1, h2⟩
    have : (run cfg {} ops).dialWait k ≠ [] := by
      intro h; rw [h] at h1; simp at h1
    obtain ⟨hpos, hge⟩ := hnsw this
    omega
  · rintro ⟨hpos, hgt⟩
    have := hcl hpos k
    omega

/-- MaxConnsPerHost = 1, keep-alives off: request 0 owns connection 7; requests 1 and 2 queue for
the slot in that order; request 1 is cancelled while queued. -/
def exCfg : Cfg := ⟨0, 0, 1, true⟩
def exOps : List Op :=
  [.newWant 0 0, .queueIdle 0, .queueDial 0, .dialOk 0 7, .recv 0,
   .newWant 1 0, .queueIdle 1, .queueDial 1,
   .newWant 2 0, .queueIdle 2, .queueDial 2,
   .cancel 1]

example : (run exCfg {} exOps).dialWait 0 = [1, 2] ∧ (run exCfg {} exOps).wst 1 = .canceled ∧
    (run exCfg {} exOps).wst 2 = .waiting ∧ (run exCfg {} exOps).cph 0 = 1 := by decide
/-- request 0 finishes, its connection is closed: the dial is started for request 2 -/
example : (run exCfg {} (exOps ++ [.finishClose 0])).dialing = [2] ∧
    (run exCfg {} (exOps ++ [.finishClose 0])).dialWait 0 = [] ∧
    (run exCfg {} (exOps ++ [.finishClose 0])).cph 0 = 1 := by decide
example : hasLive (run exCfg {} exOps).wst ((run exCfg {} exOps).dialWait 0) = true := by decide
example : (sampleOf exCfg (run exCfg {} exOps) 0).verdict = .ok := by decide

/-- **loop_is_necessary** — with a single `popFront` instead of the loop, the same reachable
state leaves request 2 waiting for a slot while the count says a slot is free. -/
theorem loop_is_necessary :
    let s := run exCfg {} exOps
    let bad := decConnsFirstOnly exCfg { s with closed := upd s.closed 7 true } 0
    (sampleOf exCfg bad 0).verdict = .stranded ∧ bad.wst 2 = .waiting ∧ bad.dialing = [] ∧
    (decConns exCfg { s with closed := upd s.closed 7 true } 0).dialing = [2] := by decide

/-- the idle hand-off: keep-alives on, the connection of request 0 is put back while 1 (cancelled)
and 2 (waiting) are queued in `idleConnWait`: request 2 gets it. -/
def exCfgKA : Cfg := ⟨0, 0, 1, false⟩
example : (run exCfgKA {} (exOps ++ [.finishPut 0])).wst 2 = .gotConn 7 ∧
    (run exCfgKA {} (exOps ++ [.finishPut 0])).idleWait 0 = [] := by decide

/-- the late connection: request 1's dial completes after request 1 was cancelled (no limit):
not delivered, held by the dial goroutine, then parked in the idle list by `putOrClose`. -/
def exLate : List Op := [.newWant 1 0, .queueIdle 1, .queueDial 1, .cancel 1, .dialOk 1 9]
def exCfgFree : Cfg := ⟨0, 0, 0, false⟩
example : (run exCfgFree {} exLate).transit = [9] ∧ (run exCfgFree {} exLate).wst 1 = .canceled := by decide
example : (putOrClose exCfgFree (run exCfgFree {} exLate) 9).idle 0 = [9] ∧
    (putOrClose exCfgFree (run exCfgFree {} exLate) 9).transit = [] := by decide
/-- … and closed (slot given back) when keep-alives are off -/
example : (putOrClose exCfg (run exCfg {} exLate) 9).closed 9 = true ∧
    (putOrClose exCfg (run exCfg {} exLate) 9).transit = [] ∧
    (putOrClose exCfg (run exCfg {} exLate) 9).cph 0 = 0 := by decide

end Req.Props.C08Pool
