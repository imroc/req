import Req.Lemmas.SharedScratch
import Req.Lemmas.OrderScope
/-!
C16 where something is shared between requests or between clients.

1. Requests written CONCURRENTLY through a shared scratch object (HTTP/1.1: the pooled
   `headerSorter` of `headerSortedKeyValues`; HTTP/3: `requestWriter.headerBuf` under the writer's
   mutex), over the model `Req.SharedScratch`: for EVERY schedule of the writers' steps every
   writer hands to its own connection a prefix of its own header block, the whole block once it is
   done, never an item of another request — for a pool (`cap = none`) and for a mutex around one
   buffer (`cap = some 1`) alike; two writers never hold the same object; in pool mode a writer
   that gets its steps does finish. The discipline "give the object back before reading it" is
   refuted by a two-writer schedule.
2. Client-level order settings over op sequences with `Client.Clone`, over the model
   `Req.OrderScope`: the order lists a client sends with are a function of its OWN history, no call
   on another client changes them, a copy starts with what its source had and goes its own way
   afterwards; the first call on a client wins and replaces a request-level list.
-/
namespace Req.Props.C16Round6
open Req.Proto

section scratch
open Req.SharedScratch
variable {α : Type}

/-- ∀ schedules: what a writer has put on its own connection so far is a prefix of ITS request. -/
theorem scratch_own_prefix (cap : Option Nat) (reqs : Nat → List α) (sched : List Nat) (i : Nat) :
    ∃ k, (run true cap reqs init sched).out i = (reqs i).take k := by
  have h := inv_run cap reqs sched init (inv_init reqs)
  have ho := h.own i
  unfold Own at ho
  cases hp : (run true cap reqs init sched).phase i with
  | idle => exact ⟨0, by simpa [hp] using ho⟩
  | holding id pos => exact ⟨pos, (h.held hp).output⟩
  | done => exact ⟨(reqs i).length, by simpa [hp] using ho⟩

/-- ∀ schedules: a writer that is done has written exactly its own request. -/
theorem scratch_own_output (cap : Option Nat) (reqs : Nat → List α) (sched : List Nat) (i : Nat)
    (hd : (run true cap reqs init sched).phase i = .done) :
    (run true cap reqs init sched).out i = reqs i := by
  simpa only [Own, hd] using (inv_run cap reqs sched init (inv_init reqs)).own i

/-- the interleaving is invisible on the wire: two schedules that both let writer `i` finish give
the same bytes on its connection — in particular the schedule in which it runs alone. -/
theorem scratch_schedule_irrelevant (cap cap' : Option Nat) (reqs : Nat → List α) (s1 s2 : List Nat) (i : Nat)
    (h1 : (run true cap reqs init s1).phase i = .done)
    (h2 : (run true cap' reqs init s2).phase i = .done) :
    (run true cap reqs init s1).out i = (run true cap' reqs init s2).out i := by
  rw [scratch_own_output cap reqs s1 i h1, scratch_own_output cap' reqs s2 i h2]

/-- the scratch objects in use are pairwise different: two writers never hold the same one. -/
theorem scratch_exclusive (cap : Option Nat) (reqs : Nat → List α) (sched : List Nat) (i j id p q : Nat)
    (hi : (run true cap reqs init sched).phase i = .holding id p)
    (hj : (run true cap reqs init sched).phase j = .holding id q) : i = j :=
  (inv_run cap reqs sched init (inv_init reqs)).excl i j id p q hi hj

/-- pool mode (HTTP/1.1 sorter pool — nobody ever waits for a scratch object): a writer that is
given `length + 2` steps, wherever they fall in the schedule, is done — and by `scratch_own_output`
has then written exactly its own request. -/
theorem scratch_pool_progress (reqs : Nat → List α) (sched : List Nat) (i : Nat)
    (h : (reqs i).length + 2 ≤ sched.count i) :
    (run true none reqs init sched).phase i = .done ∧ (run true none reqs init sched).out i = reqs i := by
  have hd : (run true none reqs init sched).phase i = .done := by
    apply done_of_remaining_zero reqs
    rw [remaining_run]
    have : remaining reqs (init : State α) i = (reqs i).length + 2 := by simp [remaining, init]
    omega
  exact ⟨hd, scratch_own_output none reqs sched i hd⟩

example : (run true none (fun i => [10 * i, 10 * i + 1, 10 * i + 2]) init
    [0, 0, 1, 1, 1, 1, 1, 0, 0, 0]).out 0 = [0, 1, 2] := by decide +kernel
example : (run true none (fun i => [10 * i, 10 * i + 1, 10 * i + 2]) init
    [0, 0, 1, 1, 1, 1, 1, 0, 0, 0]).phase 0 = .done := by decide +kernel
example : (run true (some 1) (fun i => [10 * i, 10 * i + 1]) init
    [0, 1, 0, 1, 0, 0, 1, 1, 1, 1]).out 1 = [10, 11] := by decide +kernel

/-- The discipline "object given back right after filling, read later" (`hold = false`):
writer 0 is parked after its first item, writer 1 runs meanwhile, writer 0 finishes with the
items of writer 1. -/
theorem early_release_foreign_items :
    (run false none (fun i => [10 * i, 10 * i + 1, 10 * i + 2]) init
      [0, 0, 1, 1, 1, 1, 1, 0, 0, 0]).out 0 = [0, 11, 12] := by decide

end scratch

section order
open Req.OrderScope

/-- ∀ op sequences (setter calls on any client, copies of any client in any order): the state a
client sends with is the replay of its OWN history — the calls made on it and, through `Clone`,
those its source had received at the moment of the copy. -/
theorem order_follows_own_client (ops : List Op) (c : Nat) :
    run fresh ops c = replay (history ops c) := by
  have := run_eq_replay_rev ops.reverse c
  rw [List.reverse_reverse] at this
  exact this

/-- no call on ANOTHER client — a later `SetCommonHeaderOrder` / `Impersonate*` on the original, on a
sibling, a further `Clone` of it — changes what client `c` sends with. -/
theorem order_unaffected_by_other_clients (st : Store) (ops1 ops2 : List Op) (c : Nat)
    (h : ∀ o ∈ ops2, touches o c = false) :
    run st (ops1 ++ ops2) c = run st ops1 c := by
  rw [run, List.foldl_append]
  exact run_untouched ops2 c _ h

/-- a copy starts with exactly what its source has. -/
theorem clone_copies (st : Store) (ops : List Op) (s d : Nat) :
    run st (ops ++ [.clone s d]) d = run st ops s := by
  simp [run_snoc, apply]

/-- clone, then re-configure the ORIGINAL (and anybody else) in any way: the copy still sends with
what the original had when it was copied; and the other way round: re-configuring the copy leaves
the original alone. -/
theorem clone_then_diverge (st : Store) (ops later : List Op) (s d : Nat) (hsd : s ≠ d)
    (hd : ∀ o ∈ later, touches o d = false) (hs : ∀ o ∈ later, touches o s = false) :
    run st (ops ++ [.clone s d] ++ later) d = run st ops s ∧
    run st (ops ++ [.clone s d] ++ later) s = run st ops s := by
  constructor
  · rw [order_unaffected_by_other_clients st _ later d hd, clone_copies]
  · rw [order_unaffected_by_other_clients st _ later s hs, run_snoc]
    simp [apply, hsd]

theorem foldl_applyCfg_hdr (h : List Cfg) (st : CState) :
    (h.foldl applyCfg st).hdr = st.hdr ++ h.filterMap Cfg.hdr? := by
  induction h generalizing st with
  | nil => simp
  | cons x t ih =>
    cases x <;> simp [List.foldl_cons, ih, applyCfg, Cfg.hdr?, List.filterMap_cons]

/-- the list the writer finds: the FIRST `SetCommonHeaderOrder` of the client's own history (the
innermost wrapper assigns last); a request-level list survives only without any. -/
theorem effective_first_call (ops : List Op) (c : Nat) (requestLevel : Option (List Bytes)) :
    effective (run fresh ops c).hdr requestLevel =
      match (history ops c).filterMap Cfg.hdr? with
      | [] => requestLevel
      | l :: _ => some l := by
  rw [order_follows_own_client, replay, foldl_applyCfg_hdr]
  simp only [List.nil_append]
  cases (history ops c).filterMap Cfg.hdr? <;> rfl

example : (run fresh [.setOrder 0 [[1]], .clone 0 1, .setOrder 0 [[2]], .setOrder 1 [[3]]] 1).hdr = [[[1]], [[3]]] := by
  decide +kernel
example : effective (run fresh [.setOrder 0 [[1]], .clone 0 1, .setOrder 0 [[2]]] 1).hdr none = some [[1]] := by
  decide +kernel
example : history [.setOrder 0 [[1]], .clone 0 1, .setOrder 0 [[2]], .setPseudo 1 [[3]]] 1 = [.hdr [[1]], .pse [[3]]] := by
  decide +kernel

end order
end Req.Props.C16Round6
