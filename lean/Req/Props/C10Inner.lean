import Req.Client.Exchange
import Req.Lemmas.C10Exchange
/-!
C10 — every EXCHANGE of every attempt carries the complete body.

One attempt of `Request.do` can put the request on the wire several times (HTTP/2 GOAWAY /
REFUSED_STREAM replay, HTTP/1.1 replay on a closed keep-alive connection, 307/308 redirect,
digest re-send): `Req.Exchange`.  With an honest `GetBody` (fixes/C10-7; for every body that is
not a one-shot reader the code as found is honest already) the theorems hold for every peer
script, protocol, retry count and body kind; for the code as found and a one-shot reader the
counter-examples are `decide`d at the end and replayed by lane `inner`.
-/
namespace Req.Props.C10Inner
open Req.Exchange

/-- With an honest `GetBody`, the i-th exchange of a call —
whichever attempt it belongs to, first send or transparent replay, redirect follow-up or digest
re-send — is the peer's i-th scripted exchange and carries the COMPLETE body of the request
(nothing, when the request has no body), unless the peer itself stopped reading before the end.
For every protocol, retry count, body kind, peer script and connection-reuse pattern. -/
theorem exchanges_carry_complete_body (cfg : Cfg) (h : cfg.honestGetBody = true)
    (sc : List (Act × Bool)) :
    ∀ (i : Nat) (ex : Ex), (run cfg sc).1[i]? = some ex →
      ∃ (a : Act) (r : Bool), sc[i]? = some (a, r) ∧
        ex.sent = (if cfg.body = .none then .none else if a.cut = .full then .full else .part) := by
  rcases Lemmas.C10Exchange.run_cases cfg sc with hr | hr <;> rw [hr]
  · intro i ex hex; simp at hex
  · exact Lemmas.C10Exchange.go_exchanges cfg h sc _ fun _ => rfl

/-- … in particular no exchange ever offers a drained one-shot reader. -/
theorem never_drained (cfg : Cfg) (h : cfg.honestGetBody = true) (sc : List (Act × Bool)) :
    ∀ ex ∈ (run cfg sc).1, ex.sent ≠ .drained := by
  intro ex hex
  obtain ⟨i, hi⟩ := List.getElem?_of_mem hex
  obtain ⟨a, r, -, hs⟩ := exchanges_carry_complete_body cfg h sc i ex hi
  rw [hs]
  split
  · simp
  · split <;> simp

/-- A body that is not a one-shot reader is honest in the code as found already: `honestGetBody`
does not matter. -/
theorem fresh_indifferent (cfg : Cfg) (hb : cfg.body = .none ∨ cfg.body = .fresh) (b : Bool)
    (sc : List (Act × Bool)) :
    run { cfg with honestGetBody := b } sc = run { cfg with honestGetBody := true } sc := by
  have hcr : ∀ b, canReplay { cfg with honestGetBody := b } = true := by
    intro b; rcases hb with hb | hb <;> simp [canReplay, hb]
  have hgo : ∀ (sc : List (Act × Bool)) (st : St),
      go { cfg with honestGetBody := b } sc st = go { cfg with honestGetBody := true } sc st := by
    intro sc
    induction sc with
    | nil => intro st; rfl
    | cons e rest ih =>
      intro st
      obtain ⟨a, reused⟩ := e
      have hstep : step { cfg with honestGetBody := b } a reused st
          = step { cfg with honestGetBody := true } a reused st := by
        unfold step canResend
        simp only [hcr]
      have hsent : sentOf { cfg with honestGetBody := b } a st
          = sentOf { cfg with honestGetBody := true } a st := rfl
      unfold go
      simp only [hstep, hsent, ih]
      rfl
  unfold run
  simp only [hgo]

/-- A `SetBody(io.Reader)` body goes on the wire at most once in the whole
call: `Do` refuses it when a retry can follow, and nothing below `Do` sends it a second time. -/
theorem oneshot_sent_once (cfg : Cfg) (h : cfg.honestGetBody = true) (hb : cfg.body = .once)
    (sc : List (Act × Bool)) : (run cfg sc).1.length ≤ 1 := by
  have hstep : ∀ a reused st, ∃ r, step cfg a reused st = .over r := fun a reused st => by
    cases hs : step cfg a reused st with
    | over r => exact ⟨r, rfl⟩
    | again st' =>
      rcases (Lemmas.C10Exchange.step_again hs).2 with hc | ⟨hp, -⟩
      · rw [Lemmas.C10Exchange.canReplay_oneshot h (.inl hb)] at hc; cases hc
      · rw [hb] at hp; cases hp
  have hone : ∀ (st : St), (∀ r, wantsRetry cfg st.ra r = false) → (go cfg sc st).1.length ≤ 1 := by
    intro st hw
    cases sc with
    | nil => simp [go]
    | cons e rest =>
      obtain ⟨a, reused⟩ := e
      obtain ⟨r, hr⟩ := hstep a reused st
      unfold go
      simp [hr, hw r]
  unfold run
  cases hr : cfg.retries with
  | none =>
    simp only [hb]
    exact hone _ (fun r => by simp [wantsRetry, hr])
  | some n =>
    simp only [hb]
    split
    · simp
    · rename_i hn
      have hn0 : n = 0 := by simpa using hn
      exact hone _ (fun r => by simp [wantsRetry, hr, hn0])

/-- Attempts stay bounded also when attempts consist of several exchanges: with a retry count
`N ≥ 0` every exchange belongs to an attempt numbered `≤ N`. -/
theorem exchanges_attempt_le (cfg : Cfg) (N : Int) (hN : cfg.retries = some N) (h0 : 0 ≤ N)
    (sc : List (Act × Bool)) : ∀ ex ∈ (run cfg sc).1, (ex.attempt : Int) ≤ N := by
  rcases Lemmas.C10Exchange.run_cases cfg sc with hr | hr <;> rw [hr]
  · intro ex hex; simp at hex
  · exact Lemmas.C10Exchange.go_attempts_le cfg N hN h0 sc _ (by simpa using h0)

def exCfg (b : BodyKind) (honest : Bool) (n : Option Int) : Cfg := ⟨.h2, n, false, false, b, honest⟩

/-- as found: after a graceful GOAWAY the HTTP/2 transport replays `SetBody(io.Reader)` with the
drained reader, and the call succeeds with status 200 … -/
theorem asFound_oneshot_replayed_h2 :
    run (exCfg .once false none) [(.goAway .full, false), (.answer 200, false)] =
      ([⟨0, .full, false⟩, ⟨0, .drained, false⟩], .status 200 0) := by decide
/-- … as does `http.Client` on a 308 (also over HTTP/1.1) … -/
theorem asFound_oneshot_replayed_redirect :
    run { exCfg .once false (some 0) with proto := .h1 } [(.redirect 308, false), (.answer 200, true)] =
      ([⟨0, .full, false⟩, ⟨0, .drained, false⟩], .status 200 0) := by decide
/-- … and the HTTP/1.1 transport for an idempotent request on a closed keep-alive connection. -/
theorem asFound_oneshot_replayed_h1 :
    (run { exCfg .once false none with proto := .h1, idempotent := true }
      [(.hangUp .full, true), (.answer 200, false)]).1.map (·.sent) = [.full, .drained] := by decide
/-- repaired: the same scripts; the transport reports the error / the 308 is handed to the caller -/
example : run (exCfg .once true none) [(.goAway .full, false), (.answer 200, false)] =
    ([⟨0, .full, false⟩], .err 0) := by decide
example : run { exCfg .once true (some 0) with proto := .h1 } [(.redirect 308, false), (.answer 200, true)] =
    ([⟨0, .full, false⟩], .status 308 0) := by decide
/-- a replayable body: attempt 0 answered 503, attempt 1 is GOAWAY'd after the whole body was read
and replayed on another connection — three exchanges, all complete (the scenario of the trial change `seeded/C10-r3-1`) -/
example : run (exCfg .fresh true (some 2)) [(.answer 503, false), (.goAway .full, true), (.answer 200, false)] =
    ([⟨0, .full, false⟩, ⟨1, .full, false⟩, ⟨1, .full, false⟩], .status 200 1) := by decide
/-- a streamed multipart body: the transport does not replay it, the retry condition gets the
error and the NEXT attempt writes the body afresh -/
example : run (exCfg .pipe true (some 2)) [(.refused .headers, false), (.answer 200, true)] =
    ([⟨0, .part, false⟩, ⟨1, .full, false⟩], .status 200 1) := by decide
/-- digest: challenge, re-send with credentials, whose 307 answer is final -/
example : run { exCfg .fresh true none with proto := .h1, digest := true }
    [(.challenge, false), (.redirect 307, true), (.answer 200, true)] =
    ([⟨0, .full, false⟩, ⟨0, .full, true⟩], .status 307 0) := by decide
/-- the follow-up of a redirect carries the body but no `GetBody`: a REFUSED_STREAM then fails the attempt -/
example : run (exCfg .fresh true (some 1)) [(.redirect 308, false), (.refused .full, true), (.answer 200, true)] =
    ([⟨0, .full, false⟩, ⟨0, .full, false⟩, ⟨1, .full, false⟩], .status 200 1) := by decide

end Req.Props.C10Inner
