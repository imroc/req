import Req.Lemmas.C18Model
/-!
C18 — property theorems: classification and result binding
(`Req.Result`, the model of `defaultResultStateChecker`, `ResultState`, `parseResponseBody`,
`unmarshalBody`, `ToBytes`). The pipeline theorems are in `Req.Props.C18Pipeline`.
-/
namespace Req.Props.C18
open Req.Result

/-- The default checker is exactly the three status bands, for every integer status. -/
theorem default_bands (code : Int) :
    (defaultChecker code = .success ↔ 200 ≤ code ∧ code ≤ 299) ∧
    (defaultChecker code = .error ↔ 400 ≤ code) ∧
    (defaultChecker code = .unknown ↔ code ≤ 199 ∨ (300 ≤ code ∧ code ≤ 399)) := by
  unfold defaultChecker
  by_cases h1 : code > 199 ∧ code < 300 <;> by_cases h2 : code > 399 <;> simp [h1, h2] <;> omega

example : defaultChecker 204 = .success ∧ defaultChecker 399 = .unknown ∧ defaultChecker 400 = .error
    ∧ defaultChecker 199 = .unknown ∧ defaultChecker 300 = .unknown := by decide

/-- A response without an http response is in no state. -/
theorem classify_nil (custom : Option ResultState) (code : Int) :
    classify false custom code = .unknown := by
  simp [classify]

/-- A custom checker replaces the default on every status. -/
theorem classify_custom (s : ResultState) (code : Int) : classify true (some s) code = s := by
  simp [classify]

theorem classify_default (code : Int) : classify true none code = defaultChecker code := by
  simp [classify]

/-- `IsSuccessState` and `IsErrorState` are never both true. -/
theorem states_exclusive (hasHttp : Bool) (custom : Option ResultState) (code : Int) :
    ¬ (isSuccessState hasHttp custom code = true ∧ isErrorState hasHttp custom code = true) := by
  unfold isSuccessState isErrorState
  intro ⟨h1, h2⟩
  simp only [Bool.and_eq_true, beq_iff_eq] at h1 h2
  rw [h1.2] at h2
  exact absurd h2.2 (by decide)

/-- "carries content and unmarshals", as the code decides it: no error recorded so far, the body
is (or can be) read, and the unmarshaller chosen from the Content-Type accepts it. -/
def Ready (i : BindIn) (h : Http) : Prop :=
  i.respErr = none ∧ (i.bodyCached = true ∨ h.bodyOK = true) ∧ codecOK h = true

/-- The slot that belongs to a target is populated. -/
def populated (s : Slots) : Target → Prop
  | .success => s.result = true
  | t => s.error = some t

theorem populated_store (t' t : Target) : populated (store {} t') t ↔ t' = t := by
  cases t' <;> cases t <;> simp [populated, store]

/-- Starting from empty slots, the slot of `t` is populated exactly when `t` is the target the
response calls for and the body is ready to be unmarshalled into it. -/
theorem bound_iff (i : BindIn) (hs : i.slots = {}) (t : Target) :
    populated (parseBody i).slots t ↔ ∃ h, i.http = some h ∧ Wants i h t ∧ Ready i h := by
  have empty : ¬ populated ({} : Slots) t := by cases t <;> simp [populated]
  -- the slot of `t` is populated exactly in the binding case, when `t` is the selected target
  rcases parseBody_cases i with ⟨hn, hp⟩ | ⟨h, t', hh, hsel, ⟨e, he, hp⟩ | ⟨e, he, hb, ha, hp⟩ | ⟨hr, hp⟩ | ⟨he, _, hbad, hp⟩⟩ <;>
    rw [hp] <;> dsimp only [] <;> rw [hs]
  · refine iff_of_false empty ?_
    rintro ⟨h, hh, w, _⟩
    rcases hn with hn | hn
    · rw [hh] at hn; cases hn
    · rw [(select_iff i t).mpr ⟨h, hh, w⟩] at hn; cases hn
  · exact iff_of_false empty fun ⟨_, _, _, hr, _⟩ => by rw [he] at hr; cases hr
  · refine iff_of_false empty ?_
    rintro ⟨h', hh', _, _, hr | hr, _⟩
    · rw [hb] at hr; cases hr
    · cases hh.symm.trans hh'; rw [Http.bodyOK, ha] at hr; cases hr
  · rw [populated_store]
    constructor
    · rintro rfl
      obtain ⟨h', hh', w⟩ := (select_iff i t').mp hsel
      cases hh.symm.trans hh'
      exact ⟨h, hh, w, hr⟩
    · exact fun ⟨h', hh', w, _⟩ => Option.some.inj (hsel.symm.trans ((select_iff i t).mpr ⟨h', hh', w⟩))
  · refine iff_of_false empty ?_
    rintro ⟨h', hh', _, _, _, hr⟩
    cases hh.symm.trans hh'; rw [hbad] at hr; cases hr

/-- Starting from empty slots, the success result is populated exactly
when a target was supplied, the response is in the success state, it is not a 204, and the body
reads and unmarshals. -/
theorem success_bound_iff (i : BindIn) (hs : i.slots = {}) :
    (parseBody i).slots.result = true ↔
      ∃ h, i.http = some h ∧ i.successTarget = true ∧ stateOf h = .success ∧ h.status ≠ noContent
        ∧ Ready i h :=
  (bound_iff i hs .success).trans (by simp only [Wants, and_assoc])

/-- a 200 without Content-Type whose body is JSON, success target: bound -/
example : (parseBody { http := some { status := 200, ct := [], custom := none, readOK := true, jsonOK := true, xmlOK := false },
                       successTarget := true, errorTarget := true, commonErr := true, respErr := none,
                       bodyCached := true, slots := {} }).slots = { result := true, error := none } := by decide

/-- The request-level error target is populated exactly when it was
supplied, the response is in the error state, it is not a 204, and the body reads and unmarshals. -/
theorem error_bound_iff (i : BindIn) (hs : i.slots = {}) :
    (parseBody i).slots.error = some .errorReq ↔
      ∃ h, i.http = some h ∧ i.errorTarget = true ∧ stateOf h = .error ∧ h.status ≠ noContent
        ∧ Ready i h :=
  (bound_iff i hs .errorReq).trans (by simp only [Wants, and_assoc])

/-- … and an object of the client-level common error type exactly when, in addition, the
request carries NO error target of its own (request-level target before client-level type). -/
theorem error_common_bound_iff (i : BindIn) (hs : i.slots = {}) :
    (parseBody i).slots.error = some .errorCommon ↔
      ∃ h, i.http = some h ∧ i.errorTarget = false ∧ i.commonErr = true ∧ stateOf h = .error
        ∧ h.status ≠ noContent ∧ Ready i h :=
  (bound_iff i hs .errorCommon).trans (by simp only [Wants, and_assoc])

/-- a 404 with Content-Type "xml", no request-level error target: the common error type is bound -/
example : (parseBody { http := some { status := 404, ct := [120, 109, 108], custom := none, readOK := true, jsonOK := false, xmlOK := true },
                       successTarget := true, errorTarget := false, commonErr := true, respErr := none,
                       bodyCached := false, slots := {} }).slots = { result := false, error := some .errorCommon } := by decide

/-- `resp.error` never holds the success target. -/
theorem error_slot_kind (i : BindIn) (hs : i.slots = {}) : (parseBody i).slots.error ≠ some .success := by
  rcases parse_slots_or i with h | ⟨t, h⟩ <;> rw [h, hs]
  · simp
  · cases t <;> simp [store]

/-- `parseResponseBody` on a fresh response never populates
both the success result and the error result. -/
theorem never_both (i : BindIn) (hs : i.slots = {}) :
    ¬ ((parseBody i).slots.result = true ∧ (parseBody i).slots.error ≠ none) := by
  rcases parse_slots_or i with h | ⟨t, h⟩ <;> rw [h, hs]
  · simp
  · cases t <;> simp [store]

/-- `parseResponseBody` never empties the success result: once populated it stays populated. -/
theorem parse_slots_mono (i : BindIn) :
    (i.slots.result = true → (parseBody i).slots.result = true) := by
  intro h0
  rcases parse_slots_or i with h | ⟨t, h⟩ <;> rw [h]
  · exact h0
  · cases t <;> simp [store, h0]

/-- When a target is selected, nothing was
recorded before and the body reads but does not unmarshal, `parseResponseBody` returns the
unmarshalling error and leaves the slots untouched. -/
theorem unmarshal_failure_surfaces (i : BindIn) (h : Http) (t : Target)
    (hh : i.http = some h) (hsel : selectTarget i = some t) (he : i.respErr = none)
    (hread : i.bodyCached = true ∨ h.bodyOK = true) (hbad : codecOK h = false) :
    (parseBody i).err = some .unmarshal ∧ (parseBody i).slots = i.slots := by
  rcases parseBody_cases i with ⟨hn, _⟩ | ⟨h', t', hh', _, hc⟩
  · rcases hn with hn | hn
    · rw [hh] at hn; cases hn
    · rw [hsel] at hn; cases hn
  · cases hh.symm.trans hh'
    rcases hc with ⟨e, he', _⟩ | ⟨e, _, hb, ha, _⟩ | ⟨hr, _⟩ | ⟨_, _, _, hp⟩
    · rw [he] at he'; cases he'
    · rcases hread with hc | hk
      · rw [hb] at hc; cases hc
      · rw [Http.bodyOK, ha] at hk; cases hk
    · rw [hr.2.2] at hbad; cases hbad
    · rw [hp]; exact ⟨rfl, rfl⟩

/-- What `ToBytes` can fail with: the body read, or the client's response-body transformer. -/
theorem acqErr_cases (h : Http) (e : Err) (he : h.acqErr = some e) :
    (h.readOK = false ∧ e = .read) ∨ (h.readOK = true ∧ ∃ k, h.xf = .fail e k) := by
  unfold Http.acqErr at he
  cases hr : h.readOK
  · left; simp [hr] at he; exact ⟨rfl, he.symm⟩
  · right
    simp only [hr, Bool.not_true, Bool.false_eq_true, if_false] at he
    split at he
    · cases he; exact ⟨rfl, _, by assumption⟩
    · cases he

theorem bodyOK_false (h : Http) (hb : h.bodyOK = false) : ∃ e, h.acqErr = some e := by
  unfold Http.bodyOK at hb
  cases ha : h.acqErr with
  | none => simp [ha] at hb
  | some e => exact ⟨e, rfl⟩

/-- `parseResponseBody` returns an error ONLY when a target was selected; the error
is then the recorded one, a failure to read or transform the body (recorded by `ToBytes`), or
an unmarshalling failure — and nothing is bound. -/
theorem parse_err_cases (i : BindIn) (e : Err) (herr : (parseBody i).err = some e) :
    (∃ h t, i.http = some h ∧ selectTarget i = some t ∧
      (i.respErr = some e ∨
        (i.respErr = none ∧ ((i.bodyCached = false ∧ h.acqErr = some e) ∨ e = .unmarshal)))) ∧
    (parseBody i).slots = i.slots := by
  rcases parseBody_cases i with ⟨_, hp⟩ | ⟨h, t, hh, hsel, ⟨e', he, hp⟩ | ⟨e', he, hb, ha, hp⟩ | ⟨_, hp⟩ | ⟨he, _, _, hp⟩⟩ <;>
    rw [hp] at herr ⊢ <;> cases herr
  · exact ⟨⟨h, t, hh, hsel, .inl he⟩, rfl⟩
  · exact ⟨⟨h, t, hh, hsel, .inr ⟨he, .inl ⟨hb, ha⟩⟩⟩, rfl⟩
  · exact ⟨⟨h, t, hh, hsel, .inr ⟨he, .inr rfl⟩⟩, rfl⟩

/-- The unmarshaller is XML exactly when the Content-Type mentions "xml" and not "json" — in any
letter case; everything else (including no Content-Type at all) goes to JSON. -/
theorem codec_xml_iff (ct : Req.Proto.Bytes) :
    codecFor ct = .xml ↔ isJSONType ct = false ∧ isXMLType ct = true := by
  unfold codecFor
  cases isJSONType ct <;> cases isXMLType ct <;> simp

theorem lowerB_idem (b : UInt8) : lowerB (lowerB b) = lowerB b := by
  simp only [lowerB_eq_toLower, Ascii.toLower_idem]

theorem lowerBytes_idem (ct : Req.Proto.Bytes) : lowerBytes (lowerBytes ct) = lowerBytes ct := by
  unfold lowerBytes
  rw [List.map_map]
  apply List.map_congr_left
  intro b _
  exact lowerB_idem b

/-- The choice of the unmarshaller does not depend on the letter
case of the Content-Type: a value and its lower-cased form select the same one (media types are
case-insensitive, RFC 9110 8.3.1). -/
theorem codec_case_insensitive (ct : Req.Proto.Bytes) : codecFor (lowerBytes ct) = codecFor ct := by
  unfold codecFor isJSONType isXMLType
  rw [lowerBytes_idem]

/-- two values that differ in letter case only select the same unmarshaller -/
theorem codec_same_of_same_lower (a b : Req.Proto.Bytes) (h : lowerBytes a = lowerBytes b) : codecFor a = codecFor b := by
  unfold codecFor isJSONType isXMLType; rw [h]

/-- "text/xml" → xml; no Content-Type → json; "xml+json" → json -/
example : codecFor [116, 101, 120, 116, 47, 120, 109, 108] = .xml ∧ codecFor [] = .json
    ∧ codecFor [120, 109, 108, 43, 106, 115, 111, 110] = .json := by decide

/-- "application/XML", "TEXT/Xml" → xml; "Application/JSON" → json; "xml+JSON" → json -/
example : codecFor [97, 112, 112, 108, 105, 99, 97, 116, 105, 111, 110, 47, 88, 77, 76] = .xml
    ∧ codecFor [84, 69, 88, 84, 47, 88, 109, 108] = .xml
    ∧ codecFor [65, 112, 112, 108, 105, 99, 97, 116, 105, 111, 110, 47, 74, 83, 79, 78] = .json
    ∧ codecFor [120, 109, 108, 43, 74, 83, 79, 78] = .json := by decide

end Req.Props.C18
