import Req.H2.ConnSeq
/-!
C01 — request fidelity over SEQUENCES of requests on one connection with a stateful field codec:
requests that are refused / abandoned locally at any point before their HEADERS are written leave
no trace; every request that reaches the wire is decoded by the server to exactly its own field
list, whatever came before it on the connection. Stated for EVERY codec that keeps encoder and
decoder in step (`Codec`), every sequence, every mix of refusals.
-/
namespace Req.Props.C01ConnSeq
open Req.Proto Req.H2.ConnSeq

/-- a request that is not admitted (oversized header list,
invalid header / host / path, cancelled before its HEADERS) writes nothing and leaves the encoder
exactly as it was — in the code as it is (`checkFirst = true`). -/
theorem refused_request_leaves_codec_state (C : Codec) (e : C.Enc) (it : Item)
    (h : it.admitted = false) : clientStep C true e it = (e, []) := by
  simp [clientStep, h]

theorem step_sync (C : Codec) (e : C.Enc) (d : C.Dec) (it : Item) (h : C.Sync e d) (rest : List C.Block) :
    ∃ d', C.Sync (clientStep C true e it).1 d' ∧
      serverRun C d ((clientStep C true e it).2 ++ rest) =
        (serverRun C d' rest).map (described [it] ++ ·) := by
  unfold clientStep
  by_cases ha : it.admitted = true
  · simp only [ha, if_true]
    obtain ⟨d1, hd1, hs1⟩ := C.sync_step e d it.fields h
    cases ht : it.trailers with
    | none =>
      refine ⟨d1, hs1, ?_⟩
      simp only [List.cons_append, List.nil_append, serverRun, hd1, described, ha, if_true, ht,
        List.append_nil]
    | some ts =>
      obtain ⟨d2, hd2, hs2⟩ := C.sync_step (C.enc e it.fields).1 d1 ts hs1
      refine ⟨d2, hs2, ?_⟩
      simp only [List.cons_append, List.nil_append, serverRun, hd1, hd2, described, ha, if_true, ht,
        List.append_nil]
      cases serverRun C d2 rest <;> simp
  · have ha' : it.admitted = false := by simpa using ha
    simp only [ha', Bool.false_eq_true, if_false, Bool.not_true, Bool.false_and]
    exact ⟨d, h, by simp [described, ha']⟩

theorem described_cons (it : Item) (rest : List Item) :
    described (it :: rest) = described [it] ++ described rest := by
  simp [described]

/-- for every codec that stays in step, every sequence of requests on one
connection — admitted ones (with or without trailers) interleaved in any way with requests refused
or abandoned before their HEADERS were written — the server, decoding the blocks in arrival order,
obtains exactly the described field lists of the requests that reached the wire, in order: nothing
of a refused or earlier request leaks into a later one, and encoder and decoder are still in step
afterwards. -/
theorem conn_seq_fidelity (C : Codec) :
    ∀ (items : List Item) (e : C.Enc) (d : C.Dec), C.Sync e d →
      serverRun C d (clientRun C true e items).2 = some (described items) ∧
      ∃ d', C.Sync (clientRun C true e items).1 d' := by
  intro items
  induction items with
  | nil => intro e d h; exact ⟨by simp [clientRun, serverRun, described], d, h⟩
  | cons it rest ih =>
    intro e d h
    simp only [clientRun]
    obtain ⟨d1, hs1, hrun⟩ := step_sync C e d it h (clientRun C true (clientStep C true e it).1 rest).2
    obtain ⟨hrest, d2, hs2⟩ := ih (clientStep C true e it).1 d1 hs1
    refine ⟨?_, d2, hs2⟩
    rw [hrun, hrest, described_cons it rest]
    simp

theorem lookup_get (f : Field) : ∀ (t : List Field) (i : Nat), lookup f t = some i → t[i]? = some f := by
  intro t
  induction t with
  | nil => intro i h; simp [lookup] at h
  | cons x xs ih =>
    intro i h
    unfold lookup at h
    split at h
    next hx => simp only [Option.some.injEq] at h; subst h; simp [hx]
    next hx =>
      cases hl : lookup f xs with
      | none => simp [hl] at h
      | some j =>
        simp only [hl, Option.map_some, Option.some.injEq] at h
        subst h
        simpa using ih j hl

theorem toy_round : ∀ (fs t : List Field), toyDec t (toyEnc t fs).2 = some ((toyEnc t fs).1, fs) := by
  intro fs
  induction fs with
  | nil => intro t; simp [toyEnc, toyDec]
  | cons f fs ih =>
    intro t
    unfold toyEnc
    cases hl : lookup f t with
    | some i =>
      simp only [toyDec, lookup_get f t i hl]
      rw [ih t]; rfl
    | none =>
      simp only [toyDec]
      rw [ih (t ++ [f])]; rfl

/-- an append-only dynamic table with index references: a `Codec` (encoder and decoder are in step
when their tables are equal). -/
def Toy : Codec where
  Enc := List Field
  Dec := List Field
  Block := List Rep
  enc := toyEnc
  dec := toyDec
  Sync := fun e d => e = d
  sync_step := by
    intro e d fs h
    subst h
    exact ⟨(toyEnc e fs).1, toy_round fs e, rfl⟩

/-- non-vacuity: request 0 admitted, request 1 refused for its size (it shares a field with 0 and
brings a new one), request 2 admitted and referring to both: the server reads 0 and 2 exactly. -/
example :
    let a : Field := ([97], [49]); let b : Field := ([98], [50]); let c : Field := ([99], [51])
    serverRun Toy [] (clientRun Toy true [] [⟨[a], true, false, none⟩, ⟨[a, b], false, true, none⟩,
      ⟨[c, a], true, false, some [b]⟩]).2 = some [[a], [c, a], [b]] := by decide +kernel

/-- the single-pass variant (`checkFirst = false`) breaks it: when the encoder has already run for a
request that is then refused for its size, the decoder never sees that block and the two tables
drift apart: a later request's index reference resolves to ANOTHER entry — the server reads `c` where
the request said `b`, silently — or to none (COMPRESSION_ERROR, the connection dies). -/
theorem single_pass_leaks :
    let a : Field := ([97], [49]); let b : Field := ([98], [50]); let c : Field := ([99], [51])
    serverRun Toy [] (clientRun Toy false [] [⟨[a], true, false, none⟩, ⟨[a, b], false, true, none⟩,
      ⟨[c], true, false, none⟩, ⟨[b], true, false, none⟩]).2 = some [[a], [c], [c]] ∧
    serverRun Toy [] (clientRun Toy false [] [⟨[b], false, true, none⟩, ⟨[b], true, false, none⟩]).2 = none := by
  decide

end Req.Props.C01ConnSeq
