import Req.H1.Transfer
import Req.Lemmas.H1Hex
import Req.Lemmas.Ascii
/-!
C04 — the digit parsers accept EXACTLY their alphabets, for all byte strings: a chunk size is 1..16 of
the 22 bytes `0-9 a-f A-F` (none of the control bytes 0x10–0x19 that a `b |= 0x20` case fold would map
onto digits, none of `@`, `` ` ``, `G`, `g`, `/`, `:`); a Content-Length, after trimming ASCII white
space, one or more of the 10 bytes `0-9` (no sign, no `_`, no other script's digits) with a value below
2^63; a status code `ddd`, `+dd` or `-00` (what `strconv.Atoi` followed by `< 0` lets through); a
version `HTTP/d.d`.
-/
namespace Req.Props.C04
open Req.Proto Req.H1 Req.Ascii

def hexDigitBytes : List UInt8 :=
  [48,49,50,51,52,53,54,55,56,57, 65,66,67,68,69,70, 97,98,99,100,101,102]

theorem hex_digit_iff (c : UInt8) : (hexVal? c).isSome = true ↔ c ∈ hexDigitBytes := by
  rw [hexVal?_isSome]
  simp only [hexDigitBytes, List.mem_cons, List.not_mem_nil, or_false, ← UInt8.toNat_inj,
    UInt8.toNat_ofNat]
  omega

theorem hexVal_lt (c : UInt8) (d : Nat) (h : hexVal? c = some d) : d < 16 :=
  hexVal?_lt h

/-- Base-16 value of a digit string on top of `acc` (`none` digits count as 0; only used on
strings of digits). -/
def hexValueAcc (acc : Nat) (v : Bytes) : Nat :=
  v.foldl (fun n c => n * 16 + (match hexVal? c with | some d => d | none => 0)) acc

theorem parseHexAcc_iff (acc : Nat) (v : Bytes) (n : Nat) :
    parseHexAcc acc v = some n ↔ (∀ c ∈ v, c ∈ hexDigitBytes) ∧ n = hexValueAcc acc v := by
  induction v generalizing acc with
  | nil => simp [parseHexAcc, hexValueAcc, eq_comm]
  | cons c cs ih =>
    simp only [parseHexAcc, List.mem_cons, forall_eq_or_imp, hexValueAcc, List.foldl_cons]
    cases hc : hexVal? c with
    | none =>
      have : ¬ c ∈ hexDigitBytes := by
        rw [← hex_digit_iff, hc]; simp
      simp [this]
    | some d =>
      have : c ∈ hexDigitBytes := by
        rw [← hex_digit_iff, hc]; rfl
      simp only [this, true_and]
      exact ih (acc * 16 + d)

theorem parseHexUint_accepts_iff (v : Bytes) (n : Nat) :
    parseHexUint v = some n ↔
      (v ≠ [] ∧ v.length ≤ 16 ∧ (∀ c ∈ v, c ∈ hexDigitBytes) ∧ n = hexValueAcc 0 v) := by
  unfold parseHexUint
  cases v with
  | nil => simp
  | cons c cs =>
    by_cases hl : (c :: cs).length > 16
    · simp only [List.isEmpty_cons, Bool.false_eq_true, if_false, hl, if_true]
      constructor
      · intro h; cases h
      · intro ⟨_, h, _⟩; omega
    · simp only [List.isEmpty_cons, Bool.false_eq_true, if_false, hl]
      rw [parseHexAcc_iff]
      constructor
      · intro ⟨h1, h2⟩; exact ⟨by simp, by omega, h1, h2⟩
      · intro ⟨_, _, h1, h2⟩; exact ⟨h1, h2⟩

/-- The control bytes 0x10–0x19 (which `b |= 0x20` would turn into `0`–`9`) are rejected at
every position of a chunk-size field, whatever surrounds them. -/
theorem parseHexUint_rejects_folded_controls (pre post : Bytes) (c : UInt8)
    (hc : 16 ≤ c ∧ c ≤ 25) : parseHexUint (pre ++ c :: post) = none := by
  cases h : parseHexUint (pre ++ c :: post) with
  | none => rfl
  | some n =>
    exfalso
    obtain ⟨_, _, hall, _⟩ := (parseHexUint_accepts_iff _ n).mp h
    have hm := (hexVal?_isSome c).mp ((hex_digit_iff c).mpr (hall c (by simp)))
    simp only [UInt8.le_iff_toNat_le, UInt8.toNat_ofNat] at hc
    omega

example : parseHexUint [0x15] = none ∧ parseHexUint [0x10] = none ∧ parseHexUint [53] = some 5 ∧
    parseHexUint [65, 102] = some 175 := by decide +kernel

def decDigitBytes : List UInt8 := [48,49,50,51,52,53,54,55,56,57]

theorem dec_digit_iff (c : UInt8) : isDigit c = true ↔ c ∈ decDigitBytes := by
  simp only [isDigit_iff, decDigitBytes, List.mem_cons, List.not_mem_nil, or_false,
    ← UInt8.toNat_inj, UInt8.toNat_ofNat]
  omega

def decValue (cs : Bytes) : Nat := cs.foldl (fun n c => n * 10 + (c.toNat - 48)) 0

theorem parseDigits_accepts_iff (cs : Bytes) (n : Nat) :
    parseDigits cs = some n ↔ (cs ≠ [] ∧ (∀ c ∈ cs, c ∈ decDigitBytes) ∧ n = decValue cs) := by
  cases cs with
  | nil => simp [parseDigits]
  | cons c t =>
    simp only [parseDigits, decValue]
    by_cases hall : (c :: t).all isDigit = true
    · simp only [hall, if_true, Option.some.injEq]
      have : ∀ x ∈ c :: t, x ∈ decDigitBytes := by
        intro x hx
        rw [← dec_digit_iff]
        exact List.all_eq_true.mp hall x hx
      constructor
      · intro h; exact ⟨by simp, this, h.symm⟩
      · intro ⟨_, _, h⟩; exact h.symm
    · simp only [hall, Bool.false_eq_true, if_false]
      constructor
      · intro h; cases h
      · intro ⟨_, h, _⟩
        exfalso; apply hall
        rw [List.all_eq_true]
        intro x hx
        rw [dec_digit_iff]; exact h x hx

theorem parseContentLength_accepts_iff (v : Bytes) (n : Nat) :
    parseContentLength1 v = some n ↔
      (trimString v ≠ [] ∧ (∀ c ∈ trimString v, c ∈ decDigitBytes) ∧ n = decValue (trimString v) ∧
        n < 2 ^ 63) := by
  unfold parseContentLength1
  cases h : parseDigits (trimString v) with
  | none =>
    simp only
    constructor
    · intro h'; cases h'
    · intro ⟨a, b, c, _⟩
      have := (parseDigits_accepts_iff (trimString v) n).mpr ⟨a, b, c⟩
      rw [h] at this; cases this
  | some k =>
    obtain ⟨a, b, c⟩ := (parseDigits_accepts_iff (trimString v) k).mp h
    simp only
    by_cases hk : k < 2 ^ 63
    · simp only [hk, if_true, Option.some.injEq]
      constructor
      · intro e; subst e; exact ⟨a, b, c, hk⟩
      · intro ⟨_, _, e, _⟩; rw [e, c]
    · simp only [hk, if_false]
      constructor
      · intro h'; cases h'
      · intro ⟨_, _, e, hn⟩; rw [e, ← c] at hn; exact absurd hn hk

example : parseContentLength1 [43, 53] = none ∧ parseContentLength1 [45, 48] = none ∧
    parseContentLength1 [32, 53, 9] = some 5 ∧ parseContentLength1 [53, 95] = none := by decide +kernel

/-- The three-byte status codes `parseStatusLine` lets through (`len == 3`, `strconv.Atoi`,
`>= 0`): three digits, `+` and two digits, or `-00`. -/
def statusCodeOK (a b c : UInt8) : Bool :=
  (isDigit a && isDigit b && isDigit c) || (a == 43 && isDigit b && isDigit c) ||
  (a == 45 && b == 48 && c == 48)

theorem parseDigits_cons (a : UInt8) (t : Bytes) : parseDigits (a :: t) =
    if (a :: t).all isDigit then some (decValue (a :: t)) else none := rfl

/-- All 256³ three-byte codes: accepted (`Atoi` succeeds with a
non-negative value) iff `ddd`, `+dd` or `-00`. -/
theorem status_code_accepts_iff (a b c : UInt8) :
    (∃ n : Int, atoi [a, b, c] = some n ∧ 0 ≤ n) ↔ statusCodeOK a b c = true := by
  -- a number without sign or after `+` is non-negative; after `-` only zero is
  have plus : ∀ o : Option Nat,
      (∃ n : Int, o.map (fun n => (n : Int)) = some n ∧ 0 ≤ n) ↔ o.isSome := by
    intro o; cases o <;> simp [Int.natCast_nonneg]
  have minus : ∀ o : Option Nat,
      (∃ n : Int, o.map (fun n => -(n : Int)) = some n ∧ 0 ≤ n) ↔ o = some 0 := by
    intro o; cases o <;> simp <;> omega
  simp only [atoi, statusCodeOK]
  by_cases h45 : a = 45
  · rw [if_pos h45, minus, parseDigits_cons]
    subst h45
    simp only [show isDigit 45 = false from rfl, show ((45 : UInt8) == 43) = false from rfl,
      Bool.false_and, Bool.false_or, beq_self_eq_true, Bool.true_and, decValue, List.all_cons,
      List.all_nil, Bool.and_true, List.foldl_cons, List.foldl_nil, Bool.and_eq_true, isDigit_iff,
      beq_iff_eq, ← UInt8.toNat_inj, UInt8.toNat_ofNat]
    split <;> simp <;> omega
  · rw [if_neg h45]
    by_cases h43 : a = 43
    · rw [if_pos h43, plus, parseDigits_cons]
      subst h43
      simp [show isDigit 43 = false from rfl]
    · rw [if_neg h43, plus, parseDigits_cons]
      simp [h45, h43, and_assoc]

example : (∃ n : Int, atoi [43, 50, 48] = some n ∧ 0 ≤ n) ∧ ¬ (∃ n : Int, atoi [45, 48, 49] = some n ∧ 0 ≤ n) := by
  constructor
  · exact (status_code_accepts_iff _ _ _).mpr (by decide)
  · intro h; have := (status_code_accepts_iff _ _ _).mp h; revert this; decide

theorem http_version_accepts_iff (v : Bytes) (maj mi : Nat) :
    parseHTTPVersion v = some (maj, mi) ↔
      ∃ a b, v = [72, 84, 84, 80, 47, a, 46, b] ∧ a ∈ decDigitBytes ∧ b ∈ decDigitBytes ∧
        maj = a.toNat - 48 ∧ mi = b.toNat - 48 := by
  constructor
  · intro h
    unfold parseHTTPVersion at h
    split at h
    · next a b =>
      split at h
      · next hd =>
        simp only [Bool.and_eq_true] at hd
        simp only [Option.some.injEq, Prod.mk.injEq] at h
        exact ⟨a, b, rfl, (dec_digit_iff a).mp hd.1, (dec_digit_iff b).mp hd.2, h.1.symm, h.2.symm⟩
      · cases h
    · cases h
  · intro ⟨a, b, hv, ha, hb, hm, hn⟩
    subst hv
    simp [parseHTTPVersion, (dec_digit_iff a).mpr ha, (dec_digit_iff b).mpr hb, hm, hn]

end Req.Props.C04
