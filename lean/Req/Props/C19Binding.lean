import Req.Client.Scope
import Req.Lemmas.C19Scope
import Req.Lemmas.C19AMap
import Req.Lemmas.C19Binding
/-!
# C19 — "client-level settings apply to every later request": later = EXECUTED later

What the code does, per family of settings:

* merged at EXECUTION time (the middleware `parseRequestHeader` / `Cookie` / `URL` / `Body`, the
  middleware and wrapper chains, dump, every scalar transport / client setting): headers, cookies,
  path / query / form parameters, before / after middleware, round-trip wrappers, dump options, base
  URL, timeouts, … — a client-level setter reaches every request EXECUTED afterwards, whether the
  request was created (`c.R()`) before or after the setter;
* copied at `R()` time: the retry option (`retryOption: c.retryOption.Clone()` in `Client.R`) — a
  client-level retry setter reaches only requests CREATED afterwards.

On the value model (`Scope`) the first is a commutation: `R()` and a client-level setter outside the retry family,
in either order, end in the same state (`newReq_set_comm`), because `R()` carries the retry fields only and such a
setter writes none of them. The second is the frame fact that a setter changes only the record it is called on.
The divergence between the families is what the code does (lane `prog` checks it on real clients: its programs set
client-level settings between `R()` and the execution).
-/
namespace Req.Props.C19Binding
open Req.Scope

/-- a setter outside the retry family leaves the request that `R()` would make as it is: `R()` carries the
retry fields only, and the setter writes none of them -/
theorem requestOf_nonRetry (c : Nat) (st : Setter) (hst : st.retryFamily = false) (w : VOwner) :
    requestOf idealReq c ((st.prims c).foldl stepOwner w) = requestOf idealReq c w := by
  unfold requestOf
  congr 2
  funext f
  unfold deriveVal
  by_cases hr : isRetryField f = true
  · rw [foldl_stepOwner_val_other f _ _ fun p hp hf => by
      have := nonRetry_fields c st hst p hp f hf
      rw [hr] at this; cases this]
  · have : idealReq f = .absent := by
      simp only [isRetryField, Bool.or_eq_true, beq_iff_eq, not_or] at hr
      simp [idealReq, hr.1.1.1, hr.1.1.2, hr.1.2, hr.2]
    simp [this]

theorem newReq_set_comm (s : VState) (c : Nat) (hc : c < s.count) (st : Setter) (hst : st.retryFamily = false) :
    stepOp idealClone idealReq (stepOp idealClone idealReq s (.newReq c)) (.set c st) =
    stepOp idealClone idealReq (stepOp idealClone idealReq s (.set c st)) (.newReq c) := by
  have hc' : c < (s.updOwner c ((st.prims c).foldl stepOwner ·)).count := by rw [updOwner_count]; exact hc
  rw [stepOp_newReq _ _ s hc, stepOp_set, stepOp_set, stepOp_newReq _ _ _ hc', push_updOwner_old s _ hc,
    updOwner_self _ _ _ hc, requestOf_nonRetry c st hst]

/-- **Created before or after the setter — no difference.** For every client-level setter outside
the retry family: `R()` then the setter, and the setter then `R()`, end with the same number of
records, the same client record and the same request record. -/
theorem created_before_or_after_alike (s : VState) (c : Nat) (hc : c < s.count) (st : Setter)
    (hst : st.retryFamily = false) :
    let sA := stepOp idealClone idealReq (stepOp idealClone idealReq s (.newReq c)) (.set c st)
    let sB := stepOp idealClone idealReq (stepOp idealClone idealReq s (.set c st)) (.newReq c)
    sA.count = sB.count ∧ sA.owner c = sB.owner c ∧ sA.owner s.count = sB.owner s.count := by
  intro sA sB
  have : sA = sB := newReq_set_comm s c hc st hst
  rw [this]; exact ⟨rfl, rfl, rfl⟩

/-- … hence every execution of that request is observed identically (what the origin receives,
attempts, middleware / wrapper / retry log, dump routing). -/
theorem late_binding_observation (s : VState) (c : Nat) (hc : c < s.count) (st : Setter)
    (hst : st.retryFamily = false) (m md : Nat) (path : List Seg) (sc : Nat) :
    observe (stepOp idealClone idealReq (stepOp idealClone idealReq s (.newReq c)) (.set c st)) (.exec s.count m md path sc) =
    observe (stepOp idealClone idealReq (stepOp idealClone idealReq s (.set c st)) (.newReq c)) (.exec s.count m md path sc) := by
  rw [newReq_set_comm s c hc st hst]

/-- **The retry option is bound at `R()`.** Whatever client-level setter is called afterwards, an
existing request runs with the retry conditions, hooks, interval and count it had. -/
theorem retry_bound_at_R (tc tr : Table) (s : VState) (c r : Nat) (hr : r < s.count) (hne : r ≠ c) (st : Setter) (cl : VOwner) :
    let x' := execCtx cl ((stepOp tc tr s (.set c st)).owner r)
    let x := execCtx cl (s.owner r)
    x'.conds = x.conds ∧ x'.hooks = x.hooks ∧ x'.interval = x.interval ∧ x'.maxRetries = x.maxRetries ∧ x'.rafter = x.rafter := by
  intro x' x
  have : (stepOp tc tr s (.set c st)).owner r = s.owner r := by
    rw [stepOp_set]; exact updOwner_other _ _ _ _ hne.symm
  simp [x', x, this]

/-- The divergence, on `SetCommonRetryCount n`: the request created BEFORE the setter keeps the
client's old count, the request created AFTER it has `n`. -/
theorem retry_count_needs_a_new_request (s : VState) (c : Nat) (hc : c < s.count) (n : Nat) :
    ((stepOp idealClone idealReq (stepOp idealClone idealReq s (.newReq c)) (.set c (.retryCount n))).owner s.count).val F.retryCount
      = (s.owner c).val F.retryCount ∧
    (((stepOp idealClone idealReq (stepOp idealClone idealReq s (.set c (.retryCount n))) (.newReq c)).owner s.count).val F.retryCount).get 0
      = [n] := by
  have hcnt : (s.updOwner c (((Setter.retryCount n).prims c).foldl stepOwner ·)).count = s.count := updOwner_count _ _ _
  constructor
  · rw [stepOp_newReq _ _ s hc, stepOp_set, updOwner_other _ _ _ _ (Nat.ne_of_lt hc), push_owner_new]
    rfl
  · rw [stepOp_set, stepOp_newReq _ _ _ (hcnt ▸ hc), updOwner_self _ _ _ hc, ← hcnt, push_owner_new]
    -- the request copies the count the setter has just written
    show (((s.owner c).val F.retryCount).set 0 [n]).get 0 = [n]
    exact get_set_same _ _ _

/-- client 0 with a header; `R()` before / after `SetCommonHeader 2 7`: both requests are sent with it -/
example :
    let s := (runScope [.newClient, .set 0 (.hdrSet 1 5)]).1
    observe (stepOp idealClone idealReq (stepOp idealClone idealReq s (.newReq 0)) (.set 0 (.hdrSet 2 7))) (.exec 1 0 0 [] 0) =
    observe (stepOp idealClone idealReq (stepOp idealClone idealReq s (.set 0 (.hdrSet 2 7))) (.newReq 0)) (.exec 1 0 0 [] 0) := by
  decide +kernel

def headersOf : Obs → List (Nat × List Nat)
  | .exec _ ro _ _ _ => ro.headers
  | _ => []

/-- … and it does carry header 2 -/
example :
    let s := (runScope [.newClient, .set 0 (.hdrSet 1 5)]).1
    headersOf (observe (stepOp idealClone idealReq (stepOp idealClone idealReq s (.newReq 0)) (.set 0 (.hdrSet 2 7))) (.exec 1 0 0 [] 0))
      = [(1, [5]), (2, [7]), (hUserAgent, [vDefaultUA])] := by
  decide +kernel

/-- the retry family really is excluded: `SetCommonRetryCount` after `R()` does not reach the request -/
example :
    let s := (runScope [.newClient, .set 0 (.retryCondAdd 2)]).1
    observe (stepOp idealClone idealReq (stepOp idealClone idealReq s (.newReq 0)) (.set 0 (.retryCount 2))) (.exec 1 0 0 [] 0) ≠
    observe (stepOp idealClone idealReq (stepOp idealClone idealReq s (.set 0 (.retryCount 2))) (.newReq 0)) (.exec 1 0 0 [] 0) := by
  decide +kernel

end Req.Props.C19Binding
