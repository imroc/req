import Req.Props.C14Zstd
/-!
C14 — the zstd frame header's PARAMETER space: which windows the reader under
`Content-Encoding: zstd` accepts. The decoder `ZstdReader` builds (`zstd.NewReader(body)`, no
options) takes every window the format's descriptor byte can name up to klauspost's
`MaxWindowSize` = 2^29, and single-segment frames of any content size up to the same bound;
nothing smaller is a limit (seeded/C14-r5-3 adds `WithDecoderMaxWindow(8 MiB)`; mutation M31 1 MiB).
Above the bound a frame is refused before any of its bytes is delivered: the memory bound.

Tie: lanes `containers` / `containers_e2e` (kinds `window-large`, `window-max`, `window-above`:
descriptor bytes over the whole range, the model decides accept / refuse), `params` / `e2e_*`
(real encoder with `WithWindowSize` 1 KiB … 512 MiB, `WithSingleSegment`, 12 MiB payloads).
-/
namespace Req.Props.C14ZstdWindow
open Req.Proto Req.Compress Req.Compress.Zstd Req.Compress.Auto Req.Props.C14Zstd

variable (S : ZSums)

/-- of the 256 window descriptors exactly those with exponent ≤ 18 (any mantissa: 1 KiB …
480 MiB), and `0x98` (exponent 19, mantissa 0: 2^29), name a window the decoder accepts. -/
theorem window_accepted_iff : ∀ n < 256,
    (windowOf (UInt8.ofNat n) ≤ maxWindow ↔ (n / 8 ≤ 18 ∨ n = 152)) := by decide +kernel

example : windowOf 0 = 1024 := by decide
example : windowOf 104 = 8 * 1024 * 1024 := by decide          -- 8 MiB: the RFC 9659 advice
example : windowOf 112 = 16 * 1024 * 1024 := by decide         -- 16 MiB: `zstd --long=24`
example : windowOf 152 = maxWindow := by decide
example : ¬ windowOf 153 ≤ maxWindow := by decide

/-- a frame with a window descriptor, whatever window (≤ 2^29) it names, every
Frame_Content_Size layout, any split into raw blocks that fit the window: exactly the content,
then the body's own end. -/
theorem unzstd_any_window (hS : ∀ x, (S.sum x).length = 4) (fhd wd : UInt8) (f : Bytes)
    (bs : List Bytes) (l : Bytes)
    (hss : fhd &&& 32 = 0) (hres : fhd &&& 8 = 0) (hwin : windowOf wd ≤ maxWindow)
    (hf : f.length = fcsLen fhd)
    (hv : fcsLen fhd ≠ 0 →
      (if fcsLen fhd = 2 then leVal f + 256 else leVal f) = (bs.flatten ++ l).length)
    (hb : ∀ b ∈ bs, b.length ≤ maxBlock ∧ b.length ≤ windowOf wd)
    (hl : l.length ≤ maxBlock ∧ l.length ≤ windowOf wd) (fin : Term) :
    unzstd S fin ((Frame.data fhd wd f bs l).bytes S) = (bs.flatten ++ l, fin) := by
  have hw : ∀ t, frameWindow fhd wd t = windowOf wd := by
    intro t; simp [frameWindow, hss]
  have wf : DataWF fhd wd f bs l :=
    ⟨hres, hf, hv, by rw [hw]; exact hwin, by intro b hb'; rw [hw]; exact hb b hb', by rw [hw]; exact hl⟩
  have := unzstd_frames S hS [Frame.data fhd wd f bs l]
    (by intro x hx; simp at hx; subst hx; exact wf) fin
  simpa [wireOf, contentOf, Frame.content] using this

/-- a single-segment frame has no window descriptor: the content size is the window;
any size up to 2^29 is read (blocks of at most 128 KiB that fit the window, which is never
below 1 KiB). -/
theorem unzstd_single_segment_any_size (hS : ∀ x, (S.sum x).length = 4) (fhd wd : UInt8)
    (f : Bytes) (bs : List Bytes) (l : Bytes)
    (hss : fhd &&& 32 ≠ 0) (hres : fhd &&& 8 = 0)
    (hsize : (bs.flatten ++ l).length ≤ maxWindow)
    (hf : f.length = fcsLen fhd)
    (hv : (if fcsLen fhd = 2 then leVal f + 256 else leVal f) = (bs.flatten ++ l).length)
    (hb : ∀ b ∈ bs, b.length ≤ maxBlock ∧ b.length ≤ max (bs.flatten ++ l).length minWindow)
    (hl : l.length ≤ maxBlock ∧ l.length ≤ max (bs.flatten ++ l).length minWindow) (fin : Term) :
    unzstd S fin ((Frame.data fhd wd f bs l).bytes S) = (bs.flatten ++ l, fin) := by
  have hw : frameWindow fhd wd (bs.flatten ++ l).length = max (bs.flatten ++ l).length minWindow := by
    simp [frameWindow, hss]
  have hmax : max (bs.flatten ++ l).length minWindow ≤ maxWindow := by
    have : minWindow ≤ maxWindow := by decide
    exact Nat.max_le.mpr ⟨hsize, this⟩
  have wf : DataWF fhd wd f bs l :=
    ⟨hres, hf, fun _ => hv, by rw [hw]; exact hmax, by intro b hb'; rw [hw]; exact hb b hb',
      by rw [hw]; exact hl⟩
  have := unzstd_frames S hS [Frame.data fhd wd f bs l]
    (by intro x hx; simp at hx; subst hx; exact wf) fin
  simpa [wireOf, contentOf, Frame.content] using this

/-- after any complete frames, a frame whose descriptor names a window above 2^29 ends the body
in an error; nothing of it is delivered. The frame is spelt `… fhd :: wd :: r`, the header layout
without Dictionary_ID and Frame_Content_Size fields (`hd`, `hc`);
`Req.Compress.Zstd.run_window_exceeded_any` is the fact for every layout. -/
theorem unzstd_window_exceeded (hS : ∀ x, (S.sum x).length = 4) (fs : List Frame)
    (hok : ∀ f ∈ fs, Frame.OK f) (fhd wd : UInt8) (r : Bytes)
    (hss : fhd &&& 32 = 0) (hres : fhd &&& 8 = 0) (hd : dictLen fhd = 0) (hc : fcsLen fhd = 0)
    (hwin : maxWindow < windowOf wd) (fin : Term) :
    unzstd S fin (wireOf S fs ++ 0x28 :: 0xB5 :: 0x2F :: 0xFD :: fhd :: wd :: r) =
      (contentOf fs, Zstd.errCorrupt) := by
  have h := run_window_exceeded_any S fhd wd [] r hres hc.symm (by simpa [headerWindow, hss] using hwin)
  simp only [headerBytes, hss, hd, ne_eq, not_true_eq_false, if_false, List.replicate, List.append_nil,
    List.cons_append, List.nil_append] at h
  simpa [verdict, zframe, zphase] using unzstd_after_frames S hS fs hok (by simp) h
    (by simp [zphase]) rfl fin

/-- "hello" behind a 16 MiB window descriptor, check-summed, four-byte content size -/
example : unzstd xxh .eof ((Frame.data 0x84 112 [5, 0, 0, 0] [[104, 101]] [108, 108, 111]).bytes xxh) =
    ([104, 101, 108, 108, 111], .eof) :=
  unzstd_any_window xxh xxh_len 0x84 112 _ _ _ (by decide) (by decide) (by decide) (by decide)
    (by intro _; decide) (by intro b hb; simp at hb; subst hb; decide) (by decide) .eof

/-- the same bytes with descriptor 0x99 (2^29 + 2^26): refused -/
example : unzstd xxh .eof ([0x28, 0xB5, 0x2F, 0xFD, 0x04, 0x99, 1, 0, 0]) = ([], Zstd.errCorrupt) :=
  unzstd_window_exceeded xxh xxh_len [] (by intro f hf; cases hf) 0x04 0x99 [1, 0, 0] (by decide)
    (by decide) (by decide) (by decide) (by decide) .eof

end Req.Props.C14ZstdWindow
