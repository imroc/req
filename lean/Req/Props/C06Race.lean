import Req.Props.C06
import Req.Lemmas.C06RaceN
/-!
C06 — below lock granularity: the open finding `c06-settings-ack-race`, bounded by a
theorem.

`conn_conforms` treats "size a DATA frame / admit a new stream" and "write the frame" as one step.
`Req.H2.Race` is the two-phase refinement: `writeRaced id vals` sizes a DATA frame under `cc.mu`,
lets `processSettings` apply and acknowledge the SETTINGS frame `vals` (it holds `cc.mu` and
`cc.wmu`), and only then writes the frame under `cc.wmu`; `openRaced r vals` does the same between
the admission of a request (`awaitOpenSlotForStreamLocked` + `addStreamLocked`) and the write of
its header block. Every other operation is as before, so every run of `Conn` is a run of `Race`
(`rrun_plain`).

The race-tolerant reading of the strict peer (`Monitor.Tolerant`) checks everything the strict peer
checks, except that the first DATA frame of a stream after an acknowledgement is judged by the
stream window and the frame size in force before it, and the first new stream after an
acknowledgement by the stream limit in force before it.

Not in the refinement: other goroutines between the two phases (their frames commute with a
delayed DATA frame at the monitor; the peer's own frames only loosen what it accepts), the receive
side (WINDOW_UPDATEs are not delayed past anything they depend on), PING/PUSH_PROMISE. Several
SETTINGS frames in one window are `Req.Props.C06RaceN`, of which the theorems here are the
one-frame case.
-/
namespace Req.Props.C06
open Req.H2 Req.H2.Flow Req.H2.Conn Req.H2.Monitor Req.H2.Race Req.Lemmas.C06

/-- for every fingerprint and every refined operation list (any number of races, each with any
SETTINGS frame) the race-tolerant reading of the strict peer accepts the history, and no SETTINGS
frame is left unacknowledged. -/
theorem race_tolerated (cfg : Cfg) (hfix : cfg.fixes = Fixes.all) (ops : List ROp) (hops : ∀ op ∈ ops, op.ok) :
    ∃ t, Tolerant.run Tolerant.init (rrun cfg ops).2 = .ok t ∧ t.m.final = .ok () := by
  rw [rrun_eq_nrun]
  exact race_nrun cfg hfix _ fun op h => by
    obtain ⟨o, ho, rfl⟩ := List.mem_map.mp h
    exact hops o ho

/-- the strict peer accepts the history of the two-phase machine, or rejects
it with one of exactly three verdicts — a DATA frame above MAX_FRAME_SIZE, a DATA frame above
the stream's window, a new stream above MAX_CONCURRENT_STREAMS — each of them lowered by a
SETTINGS frame acknowledged between the decision and the write. Never the connection-level window,
stream ids, header-block contiguity, frames on closed streams, acknowledgements (nor the size of
HEADERS/CONTINUATION frames: `cc.maxFrameSize` is read under `cc.wmu`). Each of the three is
reachable: `race_can_break_*`. -/
theorem race_breaks_only (cfg : Cfg) (hfix : cfg.fixes = Fixes.all) (ops : List ROp) (hops : ∀ op ∈ ops, op.ok) :
    (∃ m, Send.run Send.init (rrun cfg ops).2 = .ok m ∧ m.final = .ok ()) ∨
    ∃ r, Send.run Send.init (rrun cfg ops).2 = .error r ∧
      (r = "frame-size" ∨ r = "stream-window-exceeded" ∨ r = "max-concurrent-streams") :=
  strict_verdict (race_tolerated cfg hfix ops hops)

/-- without a race the refined machine is the machine of `conn_conforms` -/
theorem rrunFrom_plain (ops : List Op) : ∀ (st : State) (hist : List Event),
    rrunFrom st hist (ops.map ROp.plain) = runFrom st hist ops := by
  induction ops with
  | nil => intro st hist; rfl
  | cons op rest ih =>
    intro st hist
    simp only [List.map_cons, rrunFrom, runFrom, rstep]
    exact ih _ _

theorem rrun_plain (cfg : Cfg) (ops : List Op) : rrun cfg (ops.map ROp.plain) = run cfg ops := by
  unfold rrun run
  exact rrunFrom_plain ops _ _

def strictVerdict (h : List Event) : String :=
  match Send.run Send.init h with
  | .ok _ => "ok"
  | .error r => r

def tolerantOk (h : List Event) : Bool :=
  match Tolerant.run Tolerant.init h with
  | .ok _ => true
  | .error _ => false

/-- MAX_FRAME_SIZE 32768, a 32768-octet frame is sized, the peer's SETTINGS lowering the limit to
16384 is acknowledged, the frame is written -/
def raceFrameSize : List ROp :=
  [.plain (.peer (.settings [(sMaxFrameSize, 32768)])), .plain (.openStream 40 60000 true), .plain (.feed 1 0),
   .writeRaced 1 [(sMaxFrameSize, 16384)]]

theorem race_can_break_frame_size :
    (rrun exampleCfg raceFrameSize).2.getLast? = some (.c (.data 1 32768 false)) ∧
    strictVerdict (rrun exampleCfg raceFrameSize).2 = "frame-size" ∧
    tolerantOk (rrun exampleCfg raceFrameSize).2 = true := by decide +kernel

/-- a 16384-octet frame is sized under a window of 65535, INITIAL_WINDOW_SIZE 4096 is acknowledged,
the frame is written -/
def raceStreamWindow : List ROp :=
  [.plain (.peer (.settings [])), .plain (.openStream 40 60000 true), .plain (.feed 1 0),
   .writeRaced 1 [(sInitialWindowSize, 4096)]]

theorem race_can_break_stream_window :
    (rrun exampleCfg raceStreamWindow).2.getLast? = some (.c (.data 1 16384 false)) ∧
    strictVerdict (rrun exampleCfg raceStreamWindow).2 = "stream-window-exceeded" ∧
    tolerantOk (rrun exampleCfg raceStreamWindow).2 = true := by decide +kernel

/-- a request is admitted under MAX_CONCURRENT_STREAMS = 1, MAX_CONCURRENT_STREAMS = 0 is
acknowledged, its HEADERS are written -/
def raceMaxConcurrent : List ROp :=
  [.plain (.peer (.settings [(sMaxConcurrentStreams, 1)])),
   .openRaced { hdrLen := 40, bodyLen := 0, known := true } [(sMaxConcurrentStreams, 0)]]

theorem race_can_break_max_concurrent :
    (rrun exampleCfg raceMaxConcurrent).2.getLast? = some (.c (.headers 1 40 true true)) ∧
    strictVerdict (rrun exampleCfg raceMaxConcurrent).2 = "max-concurrent-streams" ∧
    tolerantOk (rrun exampleCfg raceMaxConcurrent).2 = true := by decide +kernel

/-- the hypotheses of `race_breaks_only` on these three -/
example : ∀ op ∈ raceFrameSize ++ raceStreamWindow ++ raceMaxConcurrent, op.ok := by
  simp [raceFrameSize, raceStreamWindow, raceMaxConcurrent, ROp.ok, Op.ok, PFrame.ok, sInitialWindowSize,
    sMaxFrameSize, sMaxConcurrentStreams]

end Req.Props.C06
