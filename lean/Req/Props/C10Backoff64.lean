import Req.Lemmas.C10Backoff64
/-!
C10 — the built-in backoff interval with the ACTUAL float64 / int64 operations
(`Req.Backoff64`), for all `int64` bounds and every attempt number `≥ 0`.  Below 2^53 ns the
float computation is the integer model `Req.Backoff`; above, the bounds hold for the ROUNDED
arguments `float64(min)`, `float64(max)`, and the interval can leave `[min, max]` by up to half an
ulp (two `decide`d inputs).
The literals: `9007199254740992 = 2^53`, `18014398509481984 = 2^54`, `9223372036854775808 = 2^63`.
-/
namespace Req.Props.C10Backoff64
open Req.Backoff64 Req.Lemmas.C10Backoff Req.Lemmas.C10Backoff64

/-- For ALL `int64` arguments with `0 < min`, `2ns ≤ max` and every attempt number `≥ 1` — no
upper limit on durations or attempts — the real computation yields `half ≥ 1` and an interval `d`
with `half ≤ d < 2·half ≤ float64(max)`; `d` fits an `int64` (no overflow in
`halfTemp + rand.Int63n(halfTemp)`).  Against the rounded bounds: `2·half` is within 1 of
`float64(max)` when `float64(max) ≤ 2·float64(min)` (the cap is reached at the first retry), and
`float64(min) ≤ half` when `2·float64(min) ≤ float64(max)` (what `backoff64_within_bounds` uses). -/
theorem backoff64_bounds (mn mx : Int) (a j : Nat) (hmn : isInt64 mn) (hmx : isInt64 mx)
    (hmin : 0 < mn) (hmax : 2 ≤ mx) (ha : 1 ≤ a) :
    0 < half mn mx a ∧ half mn mx a ≤ interval mn mx a j ∧ interval mn mx a j < 2 * half mn mx a ∧
      2 * half mn mx a ≤ toF mx ∧ interval mn mx a j < 9223372036854775808 ∧
      (toF mx ≤ 2 * toF mn → 2 * half mn mx a + 1 ≥ toF mx) ∧
      (2 * toF mn ≤ toF mx → toF mn ≤ half mn mx a) := by
  have hb := toF_ge mn 1 (by decide) (Int.le_of_lt hmin) hmin
  have hc := toF_ge mx 2 (by decide) (by omega) hmax
  have hc63 := toF_le_pow63 mx (Int.le_trans hmx.2 (by decide))
  -- the magnitude of `min` plays no part: `float64(min) ≥ 1` is all that is used of it
  obtain ⟨-, -⟩ := hmn
  clear hmx hmin hmax
  have htc := temp_le (toF mn) (toF mx) a
  have hcase := temp_bounds (toF mn) (toF mx) a hb ha
  obtain ⟨-, -, hhalf⟩ | ⟨h, -⟩ := half_spec mn mx a hc63
  · obtain ⟨h1, h2⟩ := interval_of_pos mn mx a j (by omega)
    omega
  · omega

/-- The stated bounds hold exactly: `d ≤ max` whenever `max < 2^54` ns (208 days: `float64(max)`
is then at most 1 above `max`), and `min ≤ d` whenever moreover `min ≤ 2^53` and `2·min ≤ max`. -/
theorem backoff64_within_bounds (mn mx : Int) (a j : Nat) (hmn : isInt64 mn)
    (hmin : 0 < mn) (hmax : 2 ≤ mx) (hmx54 : mx < 18014398509481984) (ha : 1 ≤ a) :
    0 < interval mn mx a j ∧ interval mn mx a j ≤ mx ∧
      (mn ≤ 9007199254740992 → 2 * mn ≤ mx → mn ≤ interval mn mx a j) := by
  obtain ⟨h1, h2, h3, h4, -, -, h7⟩ :=
    backoff64_bounds mn mx a j hmn ⟨by omega, by omega⟩ hmin hmax ha
  have hnear := toF_close mx (by omega)
  refine ⟨by omega, by omega, fun hmn53 h2mn => ?_⟩
  rw [toF_exact mn (by omega) hmn53] at h7
  suffices 2 * mn ≤ toF mx by omega
  by_cases hsmall : mx ≤ 9007199254740992
  · rw [toF_exact mx (by omega) hsmall]; exact h2mn
  · -- `float64(max) ≥ max − 1 ≥ 2·min − 1`, and from 2^53 on `float64(max)` is even
    have := toF_even mx (by omega)
    omega

/-- Above 2^54 ns the float arithmetic can leave the configured bounds (by up to half an ulp):
`max = 2^54 + 6` is rounded UP to `2^54 + 8`, so `halfTemp = 2^53 + 4` and the largest jitter
gives `2^54 + 7 > max`; `min = 2^53 + 1` is rounded DOWN to `2^53`, so the smallest jitter gives
`2^53 < min`.  (Probability 2^-53 per call: not observable by running the code; the exact tie of
`halfTemp` is what lane `backoff64` checks.) -/
theorem backoff64_can_exceed_max :
    interval 18014398509481984 18014398509481990 1 9007199254740995 = 18014398509481991 := by decide +kernel
theorem backoff64_can_undershoot_min :
    interval 9007199254740993 1152921504606846976 1 0 = 9007199254740992 := by decide +kernel

/-- With the C10-4 guard the function is total on all of `int64 × int64 × ℕ`: never negative,
never beyond `int64`; and it answers 0 whenever `min ≤ 0` or `max < 2` — including the inputs
whose intermediate result is `−Inf` or `NaN` (`min < 0` resp. `min = 0` with an attempt number
`≥ 1024`), where `int64(·)` is implementation-defined: the amd64 value `−2^63` and every other
platform's value (saturation, 0 for NaN) are `≤ 0`. -/
theorem backoff64_total (mn mx : Int) (a j : Nat) (hmx : isInt64 mx) :
    0 ≤ interval mn mx a j ∧ interval mn mx a j < 9223372036854775808 := by
  have hc63 := toF_le_pow63 mx (by have := hmx.2; omega)
  obtain ⟨-, h2, hh⟩ | ⟨-, h⟩ := half_spec mn mx a hc63
  · have := interval_of_pos mn mx a j (by omega)
    have := temp_le (toF mn) (toF mx) a
    omega
  · rw [interval_of_nonpos mn mx a j h]; omega

/-- `min ≤ 0` (or `max < 2`) — nothing to randomise, the answer is 0, for
every attempt number, `−Inf`/`NaN` intermediates included. -/
theorem backoff64_zero (mn mx : Int) (a j : Nat) (hmx : isInt64 mx) (h : mn ≤ 0 ∨ mx < 2) :
    interval mn mx a j = 0 := by
  have hc63 := toF_le_pow63 mx (Int.le_trans hmx.2 (by decide))
  obtain ⟨hb, h2, -⟩ | ⟨-, hh⟩ := half_spec mn mx a hc63
  · -- a positive `half` needs `float64(min) > 0` and `float64(max) ≥ temp ≥ 2`
    have := temp_le (toF mn) (toF mx) a
    rcases h with h | h
    · have := toF_nonpos mn h; omega
    · by_cases hx : mx ≤ 0
      · have := toF_nonpos mx hx; omega
      · have := toF_exact mx (by omega) (by omega); omega
  · exact interval_of_nonpos mn mx a j hh

/-- For arguments of magnitude below 2^53 ns (104 days) the float computation IS the integer model
`Req.Backoff` (with the C10-4 guard), so `Req.Props.C10.backoff_bounds` speaks about the real
arithmetic there. -/
theorem backoff64_agrees_below_2p53 (mn mx : Int) (a j : Nat)
    (h1 : -9007199254740992 < mn) (h2 : mn < 9007199254740992)
    (h3 : -9007199254740992 < mx) (h4 : mx < 9007199254740992) :
    Req.Backoff.interval true mn mx a j = .ok (interval mn mx a j) := by
  have hmn := toF_exact mn (Int.le_of_lt h1) (Int.le_of_lt h2)
  have hmx := toF_exact mx (Int.le_of_lt h3) (Int.le_of_lt h4)
  have hs := half_spec mn mx a (by omega)
  rw [hmn, hmx] at hs
  unfold Req.Backoff.interval interval Req.Backoff.half
  simp only
  obtain ⟨-, ht, hh⟩ | ⟨ht, hh⟩ := hs
  · rw [Int.tdiv_eq_ediv_of_nonneg (by omega), ← hh, if_neg (by omega), if_neg (by omega)]
  · have : (Req.Backoff.temp mn mx a).tdiv 2 ≤ 0 :=
      tdiv_two_nonpos _ (ht.elim (fun h => Int.le_trans (temp_nonpos mn mx a h) (by decide)) id)
    rw [if_pos hh, if_pos this]; rfl

set_option exponentiation.threshold 2000 in
set_option maxRecDepth 10000 in
example : interval 100 1000 2 7 = 207 ∧ interval 100 1000 9 499 = 999 ∧ half 100 1000 9 = 500 := by decide
set_option exponentiation.threshold 2000 in
set_option maxRecDepth 10000 in
/-- `float64(MaxInt64) = 2^63`: `halfTemp = 2^62`, the largest possible interval is `MaxInt64` itself -/
example : half 1 9223372036854775807 5000 = 4611686018427387904 ∧
    interval 1 9223372036854775807 5000 4611686018427387903 = 9223372036854775807 := by decide
set_option exponentiation.threshold 2000 in
set_option maxRecDepth 10000 in
/-- `−Inf` and `NaN` intermediates: `min < 0` resp. `min = 0` with attempt 1024 -/
example : mulExp2 (toF (-5)) 1024 = .negInf ∧ mulExp2 (toF 0) 1024 = .nan ∧
    interval (-5) 100 1024 3 = 0 ∧ interval 0 100 1024 3 = 0 ∧ interval 0 100 1 3 = 0 := by decide
/-- rounding: `2^53 + 1 ↦ 2^53` (tie to even), `2^53 + 3 ↦ 2^53 + 4`, `MaxInt64 ↦ 2^63` -/
example : toF 9007199254740993 = 9007199254740992 ∧ toF 9007199254740995 = 9007199254740996 ∧
    toF 9223372036854775807 = 9223372036854775808 ∧ toF (-9223372036854775808) = -9223372036854775808 := by decide

end Req.Props.C10Backoff64
