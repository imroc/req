import Req.Client.RedirectLoop
import Req.Lemmas.C11Loop
import Req.Lemmas.C11Chain
/-!
C11 — the property over the WHOLE hop loop (`Req.Redirect.Loop`: net/http `Client.do` with the
`SetRedirectPolicy` closure as `CheckRedirect`, header copier, method/body rewriting, Referer, `Host`
override, cookie jar), for every script of replies of any length: any status codes, any Location
forms (absolute, network-path, path-only, unparsable, missing, with userinfo, empty host), any
Set-Cookie, any initial request.
-/
namespace Req.Props.C11Loop
open Req.Proto Req.Ascii Req.Redirect Req.Redirect.Loop Req.Lemmas.C11 Req.Lemmas.C11Loop

/-- In every run of the loop, the (k+1)-th request was
allowed by EVERY configured policy, evaluated on its `URL.Host` and on exactly the requests sent
before it. Contrapositive: an origin some policy refuses receives no request at all — no
Authorization, no Cookie (client-supplied or from the jar), no custom header, no body. -/
theorem credentials_never_reach_refused_host (cfg : Config) (ireq : Loop.Req) (script : List Reply)
    (k : Nat) (hk : k + 1 < (start cfg ireq script).1.length) :
    ∀ p, some p ∈ cfg.ps →
      p.check ((start cfg ireq script).1[k + 1]).url.host
        { first := ((start cfg ireq script).1[0]).toHop
          rest := (((start cfg ireq script).1.drop 1).take k).map Req.toHop } = .allow := by
  obtain ⟨later, hs, hg⟩ := start_gated cfg ireq script
  intro p hp
  have := hg p hp k (by simpa [hs] using hk)
  simpa [hs, Req.toHop] using this

/-- The first request goes where the caller said. -/
theorem first_request_url (cfg : Config) (ireq : Loop.Req) (script : List Reply) :
    ((start cfg ireq script).1[0]?).map (·.url) = some ireq.url := by
  obtain ⟨later, hs, _⟩ := start_nth cfg ireq script
  simp [hs]

/-- With SameHostRedirectPolicy anywhere in the composition, EVERY
request of every run goes to the hostname of the original URL (`getHostname` = the URL's hostname,
lower-cased, port and brackets removed: `hostname_spec`). -/
theorem same_host_every_request (cfg : Config) (hp : some sameHostRedirectPolicy ∈ cfg.ps)
    (ireq : Loop.Req) (script : List Reply) (k : Nat) (hk : k < (start cfg ireq script).1.length) :
    getHostname ((start cfg ireq script).1[k]).url.host = getHostname ireq.url.host :=
  start_same_key hp sameHost_check ireq script k hk

theorem same_domain_every_request (cfg : Config) (hp : some sameDomainRedirectPolicy ∈ cfg.ps)
    (ireq : Loop.Req) (script : List Reply) (k : Nat) (hk : k < (start cfg ireq script).1.length) :
    getDomain ((start cfg ireq script).1[k]).url.host = getDomain ireq.url.host :=
  start_same_key hp sameDomain_check ireq script k hk

/-- With AllowedHostRedirectPolicy(hosts…) in the composition every
REDIRECTED request goes to the hostname of one of the configured entries. -/
theorem allowed_host_every_request (cfg : Config) (hosts : List Bytes)
    (hp : some (allowedHostRedirectPolicy hosts) ∈ cfg.ps)
    (ireq : Loop.Req) (script : List Reply) (k : Nat) (hk : k + 1 < (start cfg ireq script).1.length) :
    getHostname ((start cfg ireq script).1[k + 1]).url.host ∈ hosts.map fun h => lower (getHostname h) := by
  have := credentials_never_reach_refused_host cfg ireq script k hk _ hp
  rwa [allowedHost_check, ite_allow_iff] at this

theorem allowed_domain_every_request (cfg : Config) (hosts : List Bytes)
    (hp : some (allowedDomainRedirectPolicy hosts) ∈ cfg.ps)
    (ireq : Loop.Req) (script : List Reply) (k : Nat) (hk : k + 1 < (start cfg ireq script).1.length) :
    getDomain ((start cfg ireq script).1[k + 1]).url.host ∈ hosts.map fun h => lower (getDomain h) := by
  have := credentials_never_reach_refused_host cfg ireq script k hk _ hp
  rwa [allowedDomain_check, ite_allow_iff] at this

/-- With MaxRedirectPolicy(n) anywhere in the composition no run — whatever the
statuses, Location forms, cookies — sends more than `max 1 n` requests. -/
theorem loop_bound (cfg : Config) (n : Int) (hp : some (maxRedirectPolicy n) ∈ cfg.ps)
    (ireq : Loop.Req) (script : List Reply) :
    ((start cfg ireq script).1.length : Int) ≤ max 1 n := by
  obtain ⟨later, hs, hg⟩ := start_gated cfg ireq script
  rw [hs, List.length_cons]
  simpa using (hg _ hp).max

/-- With NoRedirectPolicy anywhere only the original request is sent. -/
theorem loop_no_redirect (cfg : Config) (hp : some noRedirectPolicy ∈ cfg.ps)
    (ireq : Loop.Req) (script : List Reply) : (start cfg ireq script).1.length = 1 :=
  refuse_all_one_request cfg _ hp (fun _ _ => by simp [noRedirectPolicy]) ireq script

/-- The verdict of the installed closure — and the header map it
leaves — is the same for any two (request, via) pairs that agree on `URL.Host` and header map of the
request and of every via entry: the `Host` field (header override), userinfo, scheme, method, path,
body of ANY of the requests involved cannot change it. -/
theorem policy_reads_only_url_host (ps : List (Option Policy)) (req req' : Loop.Req)
    (prev prev' : List Loop.Req) (last last' : Loop.Req)
    (h1 : req.toHop = req'.toHop) (h2 : prev.map Req.toHop = prev'.map Req.toHop)
    (h3 : last.toHop = last'.toHop) :
    checkRedirect ps req prev last = checkRedirect ps req' prev' last' := by
  have hv : viaOf prev last = viaOf prev' last' := by
    rw [viaOf_eq, viaOf_eq]
    have : (prev ++ [last]).map Req.toHop = (prev' ++ [last']).map Req.toHop := by simp [h2, h3]
    generalize prev ++ [last] = l at this
    generalize prev' ++ [last'] = l' at this
    cases l <;> cases l' <;> simp_all [viaL]
  have hh : req.url.host = req'.url.host := congrArg Hop.host h1
  have hd : req.hdr = req'.hdr := congrArg Hop.hdr h1
  simp [checkRedirect, hv, hh, hd]

/-- Whatever `Host` header override is set (request level or common header), the authority the policies see
as the origin (`via[0].URL.Host`) is the one of the URL the caller addressed, minus an empty port; userinfo
and scheme are the caller's too. -/
theorem host_override_not_origin (cl : ApiClient) (a : ApiCall) :
    (initialRequest cl a).toHop.host = removeEmptyPort a.url.host ∧
    (initialRequest cl a).url.user = a.url.user ∧ (initialRequest cl a).url.scheme = a.url.scheme := by
  simp [initialRequest, Req.toHop]

/-- …and it is what the receiver reads in `Host`. -/
example :
    let a : ApiCall := { url := { host := [49, 46, 50, 46, 51, 46, 52] }, method := mGET,
                         headers := [(hHost, [[97, 46, 98]])] }
    (initialRequest {} a).hostField = [97, 46, 98] ∧ (initialRequest {} a).url.host = [49, 46, 50, 46, 51, 46, 52] := by
  decide

/-- For consecutive requests of a
run, with `r` the reply that led from one to the next: the next URL is the Location resolved against
the previous URL; the method is GET after 301/302/303 unless it was GET or HEAD, unchanged after
307/308; a body is attached only after 307/308 and only if the original request can replay it; the
`Host` field is carried over only when it was a real override and the Location has no scheme, and is
empty (= the new URL's host is used) otherwise. -/
theorem consecutive_requests (cfg : Config) (ireq : Loop.Req) (script : List Reply) (k : Nat)
    (hk : k + 1 < (start cfg ireq script).1.length) :
    ∃ r, script[k]? = some r ∧
      let a := (start cfg ireq script).1[k]
      let b := (start cfg ireq script).1[k + 1]
      resolve a.url r.loc = some b.url ∧
      (b.method = if (r.status = 301 ∨ r.status = 302 ∨ r.status = 303) ∧ a.method ≠ mGET ∧ a.method ≠ mHEAD
                  then mGET else a.method) ∧
      (b.body = true → (r.status = 307 ∨ r.status = 308) ∧ cfg.getBody = true) ∧
      (b.hostField = if a.hostField ≠ [] ∧ a.hostField ≠ a.url.host ∧ r.loc.isAbs = false
                     then a.hostField else []) := by
  obtain ⟨later, hs, hn⟩ := start_nth cfg ireq script
  obtain ⟨stj, curj, r, rm, ib, u, st', next, hst, h⟩ := hn k (by simpa [hs] using hk)
  obtain ⟨_, ha⟩ := List.getElem_of_getElem? h.sentj
  obtain ⟨_, hb⟩ := List.getElem_of_getElem? h.sent'
  obtain ⟨hrm, hib⟩ := redirectBehavior_some hst.hbeh
  refine ⟨r, h.reply, ?_⟩
  simp only [hs, List.getElem_cons_succ, ha, hb, sendMutate_url, sendMutate_method, sendMutate_hostField,
    sendMutate_body, hst.next_url]
  refine ⟨hst.hres, ?_, ?_, ?_⟩ <;> rw [hst.hnext]
  · exact hrm
  · simp only [nextRequest, Bool.and_eq_true]
    exact fun h => ⟨hib h.1, h.2⟩
  · simp only [nextRequest, sendMutate_hostField, sendMutate_url, Bool.and_eq_true, Bool.not_eq_true',
      List.isEmpty_eq_false_iff, bne_iff_ne, ne_eq, and_assoc]

/-- Map entries of header `k` under ANY spelling of the key (what a receiver attributes to `k`). -/
abbrev entries := @entriesFor

/-- Go's copier is sticky: under any composition of redirect.go's
policies, once some hop so far went to a host that is neither the first URL's host nor a subdomain
of it, a redirected request has NO header-map entry, under any spelling of the key, for
Authorization / Www-Authenticate / Cookie2 — on that hop and on every later one, including hops that
return to the first host — unless an AlwaysCopy policy lists the header. -/
theorem sensitive_headers_cross_origin (ds : List PolicyDesc) (cfg : Config)
    (hps : cfg.ps = ds.map PolicyDesc.denote) (ireq : Loop.Req) (script : List Reply) (k : Bytes)
    (hsens : isSensitive k = true) (hck : canonicalMIMEHeaderKey k ≠ hCookie)
    (hcl : copyListed ds k = false)
    (j : Nat) (hj : j + 1 < (start cfg ireq script).1.length)
    (hx : crossed ireq.url.host ((((start cfg ireq script).1.drop 1).take (j + 1)).map (·.url.host)) = true) :
    entriesFor ((start cfg ireq script).1[j + 1]).hdr k = [] ∧
    ((start cfg ireq script).1[j + 1]).hdr.values k = [] ∧
    wireValues ((start cfg ireq script).1[j + 1]).hdr k = [] := by
  obtain ⟨later, hs, hn⟩ := start_nth cfg ireq script
  obtain ⟨stj, curj, r, rm, ib, u, st', next, hst, h⟩ := hn j (by simpa [hs] using hj)
  obtain ⟨_, hb⟩ := List.getElem_of_getElem? h.sent'
  have he : entriesFor ((start cfg ireq script).1[j + 1]).hdr k = [] := by
    simp only [hs, List.getElem_cons_succ, hb]
    rw [entriesFor_sendMutate_ne _ _ _ _ hck]
    exact hst.stripped_entries hps hsens hcl (by rw [h.strip]; simpa [hs, firstHost] using hx)
  refine ⟨he, entriesFor_nil_values he, ?_⟩
  rw [wireValues_entriesFor, he]; rfl

/-- For every header other than Cookie and Referer, on every redirected request
of every run: no values if the header is sensitive, a cross-domain hop happened so far and no
AlwaysCopy policy lists it; exactly the original request's values otherwise. -/
theorem header_flow_loop (ds : List PolicyDesc) (cfg : Config)
    (hps : cfg.ps = ds.map PolicyDesc.denote) (ireq : Loop.Req) (script : List Reply) (k : Bytes)
    (hck : canonicalMIMEHeaderKey k ≠ hCookie) (hrf : canonicalMIMEHeaderKey k ≠ hReferer)
    (j : Nat) (hj : j + 1 < (start cfg ireq script).1.length) :
    ((start cfg ireq script).1[j + 1]).hdr.values k =
      if crossed ireq.url.host ((((start cfg ireq script).1.drop 1).take (j + 1)).map (·.url.host)) = true ∧
          isSensitive k = true ∧ copyListed ds k = false
      then [] else ireq.hdr.values k := by
  obtain ⟨later, hs, hn⟩ := start_nth cfg ireq script
  obtain ⟨stj, curj, r, rm, ib, u, st', next, hst, h⟩ := hn j (by simpa [hs] using hj)
  obtain ⟨_, hb⟩ := List.getElem_of_getElem? h.sent'
  have hal := hst.hallow
  -- the first request sent differs from `ireq` in its Cookie entries only
  have h0 : (viaOf stj.prev (sendMutate cfg stj.jar curj)).first.hdr.values k = ireq.hdr.values k := by
    rw [h.via]
    exact values_of_entriesFor_eq (entriesFor_sendMutate_ne _ _ _ _ hck)
  simp only [hs, List.getElem_cons_succ, hb, List.drop_succ_cons, List.drop_zero]
  rw [values_of_entriesFor_eq (entriesFor_sendMutate_ne _ _ _ _ hck), hst.next_hdr]
  simp only [checkRedirect, hps] at hal ⊢
  have hv : (nextRequest cfg stj (sendMutate cfg stj.jar curj) r u rm ib st'.copier).1.hdr.values k =
      if st'.strip = true ∧ isSensitive k = true then [] else ireq.hdr.values k := by
    rw [values_entriesFor, entriesFor_nextRequest _ _ _ _ _ _ _ _ _ hrf, ← hst.hstrip]
    split
    · rfl
    · rw [h.copier k hck, ← values_entriesFor]; rfl
  rw [compose_values ds _ _ _ k hal, h0, hv, h.strip]
  exact strip_then_copy _ _ _ _

/-- A header named in an AlwaysCopyHeaderRedirectPolicy (any position in
the `SetRedirectPolicy` arguments, any spelling) is carried with the original values on EVERY
redirected request, wherever the chain goes. Together with `credentials_never_reach_refused_host`
this is the exact division of labour: AlwaysCopy decides WHAT travels, the host policies decide
WHERE anything travels; a host a policy refuses gets no request, so no copied header either. -/
theorem always_copy_everywhere (ds : List PolicyDesc) (cfg : Config)
    (hps : cfg.ps = ds.map PolicyDesc.denote) (ireq : Loop.Req) (script : List Reply) (k : Bytes)
    (hck : canonicalMIMEHeaderKey k ≠ hCookie) (hrf : canonicalMIMEHeaderKey k ≠ hReferer)
    (hl : copyListed ds k = true)
    (j : Nat) (hj : j + 1 < (start cfg ireq script).1.length) :
    ((start cfg ireq script).1[j + 1]).hdr.values k = ireq.hdr.values k := by
  rw [header_flow_loop ds cfg hps ireq script k hck hrf j hj]
  simp [hl]

section Examples

def aCom : Bytes := [97, 46, 99, 111, 109]
def bCom : Bytes := [98, 46, 99, 111, 109]
def subACom : Bytes := [119, 119, 119, 46, 97, 46, 99, 111, 109]
def mPOST : Bytes := [80, 79, 83, 84]
def p1 : Bytes := [47, 49]
def tokHdr : Headers := [(hAuthorization, [[116]]), ([88, 45, 75], [[107]])]

/-- SameHost + Max(5), request to a.com with `Host: b.com` overridden, 302 to `http://b.com/1`:
refused, b.com gets nothing (the trial change `seeded/C11-r3-1` follows it). -/
example :
    let cfg : Config := { ps := [some sameHostRedirectPolicy, some (maxRedirectPolicy 5)] }
    let ireq : Loop.Req := { url := { host := aCom }, method := mGET, hostField := bCom, hdr := tokHdr }
    start cfg ireq [{ status := 302, loc := .abs .http none bCom p1 }] =
      ([ireq], .refused 302) := by decide

/-- …while a path-only redirect stays on a.com, is followed, and keeps the override in `Host`. -/
example :
    let cfg : Config := { ps := [some sameHostRedirectPolicy, some (maxRedirectPolicy 5)] }
    let ireq : Loop.Req := { url := { host := aCom }, method := mGET, hostField := bCom, hdr := tokHdr }
    ((start cfg ireq [{ status := 302, loc := .path p1 }]).1.map fun r => (r.url.host, r.hostField, r.url.path)) =
      [(aCom, bCom, [47]), (aCom, bCom, p1)] := by decide

/-- POST with a replayable body: 307 keeps method and body, the following 303 turns it into a
body-less GET; a.com → b.com → www.a.com with Max(5): Authorization is on the first request only
(sticky), the custom header everywhere, Referer names the previous URL. -/
example :
    let cfg : Config := { ps := [PolicyDesc.max 5].map PolicyDesc.denote, getBody := true, noBody := false }
    let ireq : Loop.Req := { url := { host := aCom }, method := mPOST, hdr := tokHdr, body := true }
    ((start cfg ireq [{ status := 307, loc := .abs .http none bCom p1 },
                      { status := 303, loc := .abs .https none subACom p1 }]).1.map fun r =>
        (r.method, r.body, r.hdr.values hAuthorization, r.hdr.values [120, 45, 107], (r.hdr.values hReferer).length)) =
      [(mPOST, true, [[116]], [[107]], 0), (mPOST, true, [], [[107]], 1), (mGET, false, [], [[107]], 1)] := by
  decide

/-- The same chain with AlwaysCopy("authorization") BEFORE an AllowedHost that admits b.com only:
b.com gets the token (listed), www.a.com gets no request at all — the copy never reaches the wire
of a refused host, whatever the order of the arguments. -/
example :
    let ds := [PolicyDesc.alwaysCopy [[97,117,116,104,111,114,105,122,97,116,105,111,110]],
               PolicyDesc.allowedHost [bCom]]
    let cfg : Config := { ps := ds.map PolicyDesc.denote }
    let ireq : Loop.Req := { url := { host := aCom }, method := mGET, hdr := tokHdr }
    let res := start cfg ireq [{ status := 302, loc := .abs .http none bCom p1 },
                              { status := 302, loc := .abs .http none subACom p1 }]
    (res.1.map fun r => (r.url.host, r.hdr.values hAuthorization)) = [(aCom, [[116]]), (bCom, [[116]])] ∧
      res.2 = .refused 302 := by decide

/-- Jar and copier: the initial request carries `Cookie: sid=1; x=2`; a.com re-sets `sid` while
redirecting to `/1` on itself: the copied Cookie header loses `sid`, the jar supplies the new value. -/
example :
    let cfg : Config := { ps := [] }
    let ck : Headers := [(hCookie, [[115,105,100,61,49,59,32,120,61,50]])]
    let ireq : Loop.Req := { url := { host := aCom }, method := mGET, hdr := ck }
    ((start cfg ireq [{ status := 302, loc := .path p1, setCookie := [([115,105,100], [57])] }]).1.map
        fun r => r.hdr.values hCookie) =
      [[[115,105,100,61,49,59,32,120,61,50]], [[120,61,50,59,32,115,105,100,61,57]]] := by decide

/-- An unparsable Location (`Loc.bad`: e.g. a non-numeric port) and an empty host end the run
without a further request under SameHost. -/
example :
    let cfg : Config := { ps := [some sameHostRedirectPolicy] }
    let ireq : Loop.Req := { url := { host := aCom }, method := mGET }
    start cfg ireq [{ status := 302, loc := .bad }] = ([ireq], .badLocation) ∧
    start cfg ireq [{ status := 302, loc := .abs .http none [] p1 }] = ([ireq], .refused 302) := by decide

end Examples

/-- Two clients whose `SetRedirectPolicy` arguments
(built from redirect.go's constructors, `nil` included) are permutations of each other send, for
every initial request and every script, the SAME requests: same number, same URLs, methods, `Host`
fields, bodies, and the same values under every header name. In particular
`SetRedirectPolicy(AlwaysCopyHeaderRedirectPolicy(h), SameHostRedirectPolicy())` delivers the copied
header to exactly the hosts `SetRedirectPolicy(SameHostRedirectPolicy(), AlwaysCopy…(h))` does: the
closure hands a request to the transport only after EVERY policy ran, so a copy made by an earlier
argument never reaches the wire of a host a later argument refuses. (Only WHICH error the caller
sees — a refusal or the last response — can depend on the order: `compose_first_refusal`.) -/
theorem policy_order_irrelevant_for_delivery (ds ds' : List PolicyDesc) (hperm : ds.Perm ds')
    (jar getBody noBody : Bool) (ireq : Loop.Req) (script : List Reply) :
    let a := (start { ps := ds.map PolicyDesc.denote, jar := jar, getBody := getBody, noBody := noBody } ireq script).1
    let b := (start { ps := ds'.map PolicyDesc.denote, jar := jar, getBody := getBody, noBody := noBody } ireq script).1
    a.length = b.length ∧
    ∀ k (hk : k < a.length) (hk' : k < b.length),
      a[k].url = b[k].url ∧ a[k].method = b[k].method ∧ a[k].hostField = b[k].hostField ∧
      a[k].body = b[k].body ∧ ∀ key, a[k].hdr.values key = b[k].hdr.values key := by
  have h := run_perm ds ds' hperm
    { ps := ds.map PolicyDesc.denote, jar := jar, getBody := getBody, noBody := noBody }
    { ps := ds'.map PolicyDesc.denote, jar := jar, getBody := getBody, noBody := noBody }
    rfl rfl rfl rfl rfl script
    { copier := Copier.init jar ireq.hdr } { copier := Copier.init jar ireq.hdr } ireq ireq
    .nil rfl rfl rfl (ReqEq.refl _)
  refine ⟨h.length_eq, ?_⟩
  intro k hk hk'
  have := h.get k hk hk'
  exact ⟨this.url, this.method, this.hostField, this.body, this.hdr⟩

/-- Order matters only for the kind of error: NoRedirect first gives the last response, Max(0)
first a refusal; either way one request. -/
example :
    let ireq : Loop.Req := { url := { host := aCom }, method := mGET }
    let sc : List Reply := [{ status := 302, loc := .abs .http none bCom p1 }]
    start { ps := [PolicyDesc.no, .max 0].map PolicyDesc.denote } ireq sc = ([ireq], .useLast 302) ∧
    start { ps := [PolicyDesc.max 0, .no].map PolicyDesc.denote } ireq sc = ([ireq], .refused 302) := by decide

/-- With a jar, once a cross-domain hop happened and no
AlwaysCopy policy lists Cookie, the Cookie entries of a redirected request are EXACTLY what `send`
writes from the jar's cookies for that URL host onto an empty header map, the jar having been fed only
by the Set-Cookie lines of the replies received so far in this call: nothing of the Cookie header
(or `SetCookies` cookies) the caller supplied survives, on that hop or any later one. -/
theorem client_cookie_dropped_cross_origin (ds : List PolicyDesc) (cfg : Config)
    (hps : cfg.ps = ds.map PolicyDesc.denote) (hjar : cfg.jar = true)
    (hcl : copyListed ds hCookie = false) (ireq : Loop.Req) (script : List Reply)
    (j : Nat) (hj : j + 1 < (start cfg ireq script).1.length)
    (hx : crossed ireq.url.host ((((start cfg ireq script).1.drop 1).take (j + 1)).map (·.url.host)) = true) :
    entriesFor ((start cfg ireq script).1[j + 1]).hdr hCookie =
      entriesFor (((jarAfter (exchanges ((start cfg ireq script).1.take (j + 1)) (script.take (j + 1)))).cookiesFor
        ((start cfg ireq script).1[j + 1]).url.host).foldl addCookie []) hCookie := by
  obtain ⟨later, hs, hn⟩ := start_nth cfg ireq script
  obtain ⟨stj, curj, r, rm, ib, u, st', next, hst, h⟩ := hn j (by simpa [hs] using hj)
  obtain ⟨_, hb⟩ := List.getElem_of_getElem? h.sent'
  -- before `send` adds the jar's cookies, the request has no Cookie entry at all
  have hpre : entriesFor next.hdr hCookie = entriesFor ([] : Headers) hCookie :=
    hst.stripped_entries hps hCookie_sensitive hcl (by rw [h.strip]; simpa [hs, firstHost] using hx)
  have : (sendMutate cfg st'.jar next).hdr = (st'.jar.cookiesFor next.url.host).foldl addCookie next.hdr := by
    simp [sendMutate, hjar]
  simp only [hs, List.getElem_cons_succ, List.take_succ_cons, hb]
  rw [this, foldl_addCookie_entries_congr _ hpre, sendMutate_url, h.jar hjar, jarAfter,
    exchanges_head_congr (sendMutate cfg [] ireq) ireq _ _ (by simp)]

/-- A cookie the jar returns for a host was set by a reply to a request
addressed to the same canonical host (host-only cookies: no Domain attribute in the model). With
`credentials_never_reach_refused_host`: a jar cookie reaches only hosts every policy allows, and only
the host that set it. -/
theorem jar_cookies_host_only (pairs : List (Bytes × List (Bytes × Bytes))) (host : Bytes) (c : Bytes × Bytes)
    (hc : c ∈ (jarAfter pairs).cookiesFor host) :
    ∃ p ∈ pairs, jarCanonicalHost p.1 = jarCanonicalHost host ∧ c ∈ p.2 := by
  unfold Jar.cookiesFor at hc
  split at hc
  · simp at hc
  · rename_i h hh
    obtain ⟨e, he, hce⟩ := List.mem_map.mp hc
    simp only [List.mem_filter, beq_iff_eq] at he
    obtain ⟨p, hp, h1, h2⟩ := jarAfter_prov pairs e he.1
    exact ⟨p, hp, by rw [h1, hh, he.2], by rw [← hce]; exact h2⟩

/-- a.com (Cookie: sid=1 from the caller) → b.com (sets t=2) → b.com/2: b.com gets no `sid`, and on
the second visit its own `t=2` from the jar. -/
example :
    let cfg : Config := { ps := [] }
    let ck : Headers := [(hCookie, [[115,105,100,61,49]])]
    let ireq : Loop.Req := { url := { host := aCom }, method := mGET, hdr := ck }
    ((start cfg ireq [{ status := 302, loc := .abs .http none bCom p1 },
                      { status := 302, loc := .path [47, 50], setCookie := [([116], [50])] }]).1.map
        fun r => r.hdr.values hCookie) = [[[115,105,100,61,49]], [], [[116,61,50]]] := by decide

end Req.Props.C11Loop
