import Req.Client.Resend
import Req.Props.C16
/-!
C16, the three wire renderings against ONE description of the request (method, URL, header map
with its two in-band order lists): an order list never changes the multiset of fields; what a peer
sees, line by line / field by field, has the listed names in list order, for any list and any
number of other headers; per ordinary name HTTP/1.1, HTTP/2 and HTTP/3 carry as many fields as the
caller gave values; the writer's own `Host` / `User-Agent` next to caller entries of those names;
the values of one name keep the caller's order.
-/
namespace Req.Props.C16Wire
open Req.Proto Req.Ascii Req.HeaderSort Req.H1 Req.H2 Req.Validate Req.Props.C16

/-- the header map without the two in-band order lists. -/
def stripOrder (h : Hdr) : Hdr := h.filter fun kv => !isBookkeeping kv.key

theorem hdrGet?_stripOrder (h : Hdr) (k : Bytes) (hk : isBookkeeping k = false) :
    hdrGet? (stripOrder h) k = hdrGet? h k := by
  unfold hdrGet? stripOrder
  rw [find?_filter_untouched (fun x => !isBookkeeping x) k (by simp [hk]) h]

theorem callerFields_stripOrder (h : Hdr) :
    callerFields (stripOrder h) reqWriteExcludeHeader = callerFields h reqWriteExcludeHeader := by
  unfold stripOrder
  rw [callerFields_filter fun k => !isBookkeeping k]
  exact List.filter_eq_self.mpr fun kv hkv => by simp [callerFields_not_bookkeeping hkv]

/-- **order_never_changes_multiset (HTTP/1.1)**: the multiset of header lines written with the
order lists in place equals the multiset written for the same request without them. -/
theorem order_never_changes_multiset_h1 (r : WReq) (host : Bytes) (f : Framing) :
    (linesOf (h1Fields r host f)).Perm
      (linesOf (h1Fields { r with header := stripOrder r.header } host f)) := by
  refine (wire_set_h1 r host f).trans (List.Perm.trans ?_ (wire_set_h1 _ host f).symm)
  rw [ownFieldsH1_congr (r := r) (r' := { r with header := stripOrder r.header }) host f rfl rfl
    (hdrGet?_stripOrder _ _ (by decide)) fun _ => hdrGet?_stripOrder _ _ (by decide)]
  simp only [callerFields_stripOrder]
  exact List.Perm.refl _

theorem stripOrder_excluded (kv : KV) (h : (!isBookkeeping kv.key) = false) : isExcluded kv.key = true :=
  (bookkeeping_excluded (by simpa using h)).2

theorem baseRegular_stripOrder (fl : Flavor) (r : FReq) :
    baseRegular fl { r with header := stripOrder r.header } = baseRegular fl r := by
  unfold baseRegular stripOrder
  simp only [headerGroups_filter fl _ stripOrder_excluded, didUA_filter _ stripOrder_excluded]
  rfl

/-- **order_never_changes_multiset (HTTP/2, HTTP/3)**: when both the request with its order lists
and the same request without them produce a header block, the two field lists are permutations
of each other. -/
theorem order_never_changes_multiset_h23 (fl : Flavor) (r : FReq) (fs fs' : List (Bytes × Bytes))
    (h : fields fl r = .ok fs) (h' : fields fl { r with header := stripOrder r.header } = .ok fs') :
    fs.Perm fs' := by
  obtain ⟨host, path, hh, hp, hperm⟩ := wire_set_h2 fl r fs h
  obtain ⟨host', path', hh', hp', hperm'⟩ := wire_set_h2 fl _ fs' h'
  -- host and path do not read the header map
  obtain rfl : host' = host := Except.ok.inj (hh'.symm.trans hh)
  obtain rfl : path' = path := Except.ok.inj (hp'.symm.trans hp)
  rw [baseRegular_stripOrder] at hperm'
  exact hperm.trans hperm'.symm

/-- non-vacuity: an order list that reorders three fields leaves the set alone. -/
example :
    (fields .h2 { method := [71, 69, 84], url := { scheme := [104], host := [104], path := [47] }, header :=
        [⟨[88, 45, 65], [[49]]⟩, ⟨[88, 45, 66], [[50]]⟩,
         ⟨headerOrderKey, [[120, 45, 98], [120, 45, 97]]⟩] }).toOption.map (·.map (·.1)) =
      some [sAuthority, sMethod, sPath, sScheme, [120, 45, 98], [120, 45, 97], sUserAgentL] := by
  decide +kernel

/-- the lines of one group share its position, so passing from groups to lines keeps the
positions non-decreasing -/
theorem pairwise_lines {idx : Bytes → Option Nat} (l : List KV)
    (h : (l.filterMap fun kv => idx kv.key).Pairwise (· ≤ ·)) :
    ((linesOf l).filterMap fun kv => idx kv.1).Pairwise (· ≤ ·) := by
  rw [List.pairwise_filterMap] at h ⊢
  unfold linesOf
  rw [List.pairwise_flatMap]
  constructor
  · intro kv _
    rw [List.pairwise_map]
    exact List.pairwise_of_forall_mem_list fun _ _ _ _ b hb b' hb' =>
      Nat.le_of_eq (Option.some.inj (hb.symm.trans hb'))
  · refine h.imp fun hR x hx y hy => ?_
    obtain ⟨_, _, rfl⟩ := List.mem_map.mp hx
    obtain ⟨_, _, rfl⟩ := List.mem_map.mp hy
    exact hR

theorem applyOrder_lines_listed (order : List Bytes) (l : List KV) :
    ((linesOf (applyOrder order l)).filterMap fun x => lastIndex order x.1).Pairwise (· ≤ ·) :=
  pairwise_lines _ (applyOrder_listed order l)

/-- **order_respected (HTTP/1.1, header lines)**: reading the header LINES of the request top to
bottom, the positions their names have in the order list (last occurrence, case-insensitive)
never decrease — for any list and any number of unlisted lines in between. -/
theorem order_respected_lines_h1 (r : WReq) (host : Bytes) (f : Framing)
    (hmode : (orderList r.header).isEmpty = false) :
    ((linesOf (h1Fields r host f)).filterMap
      (fun l => lastIndex (orderList r.header) l.1)).Pairwise (· ≤ ·) := by
  rw [h1Fields_eq]; exact applyOrder_lines_listed _ _

theorem wireOf_eq (kvs : List KV) : wireOf kvs = (linesOf kvs).map fun l => (lower l.1, l.2) := by
  unfold wireOf linesOf
  induction kvs with
  | nil => rfl
  | cons x xs ih => simp [List.flatMap_cons, ih, List.map_append, List.map_map, Function.comp]

/-- **order_respected (HTTP/2, HTTP/3, regular fields)** in arrival order. The index of a field
is looked up by the name its group was collected under (the caller's spelling; the order list is
matched case-insensitively). -/
theorem order_respected_lines_h23 (fl : Flavor) (r : FReq)
    (hmode : ¬ (orderList r.header).isEmpty) :
    ((linesOf (regularKVs fl r)).filterMap
      (fun l => lastIndex (orderList r.header) l.1)).Pairwise (· ≤ ·) :=
  applyOrder_lines_listed _ _

/-- **pseudo-header order** at field level. -/
theorem pseudo_respected_fields (fl : Flavor) (r : FReq) (host path : Bytes) :
    ((linesOf (pseudoKVs fl r host path)).filterMap
      (fun l => lastIndex (pseudoOrderList r.header) l.1)).Pairwise (· ≤ ·) :=
  applyOrder_lines_listed _ _

/-- order list with a duplicate, an unknown name and other case; three values under one name stay
together and in their order. -/
example :
    (linesOf (h1Fields
      { method := [71, 69, 84], url := {}, header :=
          [⟨[88, 45, 65], [[49], [50], [51]]⟩, ⟨[88, 45, 66], [[52]]⟩,
           ⟨headerOrderKey, [[120, 45, 98], [120, 45, 122], [88, 45, 65], [120, 45, 66]]⟩] }
      [104] ⟨false, false, 0⟩))
    = [(sHost, [104]), (sUserAgent, defaultUserAgent), ([88, 45, 65], [49]), ([88, 45, 65], [50]),
       ([88, 45, 65], [51]), ([88, 45, 66], [52])] := by decide +kernel

/-- lower-cased names some writer treats specially (writes itself, forbids, splits or uses as
bookkeeping). Every other name is "ordinary". -/
def special : List Bytes :=
  [sHostL, sUserAgentL, sContentLengthL, sTransferEncodingL, lower sTrailer, sConnectionL,
   sProxyConnectionL, sUpgradeL, sKeepAliveL, sCookieL, sAcceptEncodingL, headerOrderKey,
   pseudoHeaderOrderKey]

/-- a LOWER-CASED name that is not special and does not begin with `:` (58), so that no pseudo field
carries it (`basePseudo_not_ordinary`). `Req.Props.C01.ordinaryKey` is another predicate: it judges a
caller's key as spelled, by the writers' own tests (`validHeaderFieldName`, the two exclusion tables,
User-Agent, Cookie). -/
def ordinary (n : Bytes) : Bool := !special.contains n && n.head? != some 58

/-- the caller's lines with name `n` (any spelling). -/
def nameIs (n : Bytes) (l : Bytes × Bytes) : Bool := lower l.1 == n

/-! Selecting lines by a property `q` of their name selects the groups of those names
(`filter_linesOf`); the three selections used below are "lower-cased name is `n`" (`nameIs n`, and `·.1 == n` on the lower-cased
wire of HTTP/2 and HTTP/3) and "name is exactly `k`". -/

theorem filter_linesOf_name (n : Bytes) (l : List KV) :
    (linesOf l).filter (nameIs n) = linesOf (l.filter fun kv => lower kv.key == n) :=
  filter_linesOf (fun k => lower k == n) l

theorem filter_wireOf_name (n : Bytes) (l : List KV) :
    (wireOf l).filter (fun f => f.1 == n) = wireOf (l.filter fun kv => lower kv.key == n) := by
  rw [wireOf_eq, wireOf_eq, List.filter_map, ← filter_linesOf_name]
  rfl

theorem countP_linesOf_zero (q : Bytes → Bool) (l : List KV) (h : ∀ kv ∈ l, q kv.key = false) :
    (linesOf l).countP (fun x => q x.1) = 0 := by
  rw [List.countP_eq_length_filter, filter_linesOf, List.filter_eq_nil_iff.mpr (by simpa using h)]
  rfl

theorem countP_linesOf_name_zero (n : Bytes) (l : List KV) (h : ∀ kv ∈ l, (lower kv.key == n) = false) :
    (linesOf l).countP (nameIs n) = 0 :=
  countP_linesOf_zero (fun k => lower k == n) l h

theorem linesOf_map_values (g : Bytes → Bytes) (l : List KV) :
    linesOf (l.map fun kv => ⟨kv.key, kv.values.map g⟩) = (linesOf l).map fun x => (x.1, g x.2) := by
  simp [linesOf, List.flatMap_map, List.map_flatMap, Function.comp_def]

theorem callerFields_filter_kept (q : Bytes → Bool) (h : Hdr) (ex : List Bytes)
    (hq : ∀ kv ∈ h, q kv.key = true → ex.contains kv.key = false ∧ validHeaderFieldName kv.key = true) :
    (callerFields h ex).filter (fun kv => q kv.key) =
      (h.filter fun kv => q kv.key).map fun kv => ⟨kv.key, kv.values.map sanitizeValue⟩ := by
  unfold callerFields
  rw [List.filter_map, List.filter_filter]
  congr 1
  apply List.filter_congr
  intro kv hkv
  cases hk : q kv.key with
  | false => simp [hk]
  | true =>
    have := hq kv hkv hk
    have hex : ¬ kv.key ∈ ex := by simpa using this.1
    simp [hk, hex, this.2]

theorem ordinary_not_special {n : Bytes} (hn : ordinary n = true) {k : Bytes}
    (hk : special.contains (lower k) = true) : (lower k == n) = false := by
  cases hb : lower k == n with
  | false => rfl
  | true =>
    have : lower k = n := by simpa using hb
    rw [this] at hk
    have hin : n ∈ special := by simpa using hk
    simp [ordinary] at hn
    exact absurd hin hn.1

theorem exclude_h1_special : ∀ k ∈ reqWriteExcludeHeader, special.contains (lower k) = true := by decide
theorem ownKeys_special : ∀ k ∈ ownKeysH1, special.contains (lower k) = true := by decide
theorem excludeLower_special : ∀ k ∈ excludeLower, special.contains k = true := by decide

/-- **HTTP/1.1**: for an ordinary name `n`, the number of header lines on the wire whose name is
`n` (in any spelling) is the number of values the caller gave under all spellings of `n`. -/
theorem name_count_h1 (r : WReq) (host : Bytes) (f : Framing) (n : Bytes) (hn : ordinary n = true)
    (hvalid : ∀ kv ∈ r.header, validHeaderFieldName kv.key = true)
    (hextra : ∀ kv ∈ r.extra, (lower kv.key == n) = false) :
    (linesOf (h1Fields r host f)).countP (nameIs n) = (linesOf r.header).countP (nameIs n) := by
  rw [(wire_set_h1 r host f).countP_eq, List.countP_append, List.countP_append,
    countP_linesOf_name_zero n (ownFieldsH1 r host f) fun kv hkv =>
      ordinary_not_special hn (ownKeys_special _ (ownFieldsH1_keys r host f kv hkv)),
    countP_linesOf_name_zero n (callerFields r.extra []) fun kv hkv => by
      obtain ⟨kv0, h0, hk⟩ := callerFields_mem_src hkv
      exact hk ▸ hextra kv0 h0,
    Nat.zero_add, Nat.add_zero, List.countP_eq_length_filter, List.countP_eq_length_filter,
    filter_linesOf_name, filter_linesOf_name,
    callerFields_filter_kept (fun k => lower k == n), linesOf_map_values, List.length_map]
  intro kv hkv hk
  refine ⟨?_, hvalid kv hkv⟩
  cases hex : reqWriteExcludeHeader.contains kv.key with
  | false => rfl
  | true =>
    rw [ordinary_not_special hn (exclude_h1_special kv.key (by simpa using hex))] at hk
    cases hk

theorem isExcluded_special {k : Bytes} (h : isExcluded k = true) :
    special.contains (lower k) = true :=
  excludeLower_special _ (by simpa [isExcluded] using h)

/-- entries whose names no writer treats specially pass through unchanged: one line per value
(on HTTP/3 as one group per value, on HTTP/2 as the entry itself). -/
theorem linesOf_headerGroups (fl : Flavor) (h : Hdr)
    (hsp : ∀ kv ∈ h, special.contains (lower kv.key) = false) :
    linesOf (headerGroups fl h) = linesOf h := by
  induction h with
  | nil => rfl
  | cons x xs ih =>
    have hs := hsp x (List.mem_cons_self ..)
    have hno : ∀ {c : Bytes}, special.contains c = true → lower c = c → equalFold x.key c = false :=
      fun {c} hc hl => by
        cases hb : equalFold x.key c with
        | false => rfl
        | true => rw [equalFold_lower hb hl, hc] at hs; cases hs
    have hex : isExcluded x.key = false := by
      cases hb : isExcluded x.key with
      | false => rfl
      | true => rw [isExcluded_special hb] at hs; cases hs
    rw [headerGroups_cons, linesOf_append, ih fun kv hkv => hsp kv (List.mem_cons_of_mem _ hkv),
      Origin.linesOf_cons]
    congr 1
    cases fl <;>
      simp [headerGroups, linesOf, hex, hno (c := sUserAgentL) (by decide) (by decide),
        hno (c := sCookieL) (by decide) (by decide), List.flatMap_map, ← List.map_eq_flatMap]

/-- the regular fields the HTTP/2 / HTTP/3 encoders add themselves. -/
def ownFieldsH23 (fl : Flavor) (r : FReq) : List KV :=
  (if shouldSendReqContentLength r.method (actualContentLength fl r) then
      [⟨sContentLengthL, [Req.BStr.natToDec (actualContentLength fl r).toNat]⟩] else [])
  ++ (if r.addGzip then [⟨sAcceptEncodingL, [sGzip]⟩] else [])
  ++ (if didUA r.header then [] else [⟨sUserAgentL, [defaultUserAgent]⟩])

theorem baseRegular_eq (fl : Flavor) (r : FReq) :
    baseRegular fl r = headerGroups fl r.header ++ ownFieldsH23 fl r := by
  unfold baseRegular ownFieldsH23
  simp [List.append_assoc]

theorem basePseudo_not_ordinary {n : Bytes} (hn : ordinary n = true) (fl : Flavor) (r : FReq)
    (host path : Bytes) : ∀ g ∈ basePseudo fl r host path, (lower g.key == n) = false := by
  intro g hg
  have hcolon : (lower g.key).head? = some 58 := by
    unfold basePseudo at hg
    simp only [List.mem_append, List.mem_cons, List.not_mem_nil, or_false] at hg
    rcases hg with (rfl | rfl) | hg
    · rfl
    · rfl
    · split at hg
      · cases hg
      · simp only [List.mem_cons, List.not_mem_nil, or_false] at hg
        rcases hg with rfl | rfl <;> rfl
  cases hb : lower g.key == n with
  | false => rfl
  | true =>
    rw [eq_of_beq hb] at hcolon
    simp [ordinary, hcolon] at hn

theorem ownFieldsH23_not_ordinary {n : Bytes} (hn : ordinary n = true) (fl : Flavor) (r : FReq) :
    ∀ g ∈ ownFieldsH23 fl r, (lower g.key == n) = false := by
  intro g hg
  unfold ownFieldsH23 at hg
  simp only [List.mem_append] at hg
  apply ordinary_not_special hn
  rcases hg with (hg | hg) | hg
  · rw [List.mem_ite_l hg]; exact (by decide : special.contains (lower sContentLengthL) = true)
  · rw [List.mem_ite_l hg]; exact (by decide : special.contains (lower sAcceptEncodingL) = true)
  · rw [List.mem_ite_r hg]; exact (by decide : special.contains (lower sUserAgentL) = true)

theorem basePseudo_named {n : Bytes} (hn : ordinary n = true) (fl : Flavor) (r : FReq) (host path : Bytes) :
    (basePseudo fl r host path).filter (fun g => lower g.key == n) = [] :=
  List.filter_eq_nil_iff.mpr fun g hg => by simp [basePseudo_not_ordinary hn fl r host path g hg]

theorem baseRegular_named {n : Bytes} (hn : ordinary n = true) (fl : Flavor) (r : FReq) :
    (baseRegular fl r).filter (fun g => lower g.key == n) =
      headerGroups fl (r.header.filter fun kv => lower kv.key == n) := by
  have hown : (ownFieldsH23 fl r).filter (fun g => lower g.key == n) = [] :=
    List.filter_eq_nil_iff.mpr fun g hg => by simp [ownFieldsH23_not_ordinary hn fl r g hg]
  rw [baseRegular_eq, List.filter_append, headerGroups_filter_name, hown, List.append_nil]

/-- For an ordinary name `n` the fields named `n` are, as a
multiset, the wire image of the caller's entries named `n` (all spellings, every value once); and as
a sequence — map order, then value order — when those entries share one position in the order list
(a single spelling; spellings the list does not tell apart; no list). -/
theorem fields_named (fl : Flavor) (r : FReq) (fs : List (Bytes × Bytes)) (h : fields fl r = .ok fs)
    (n : Bytes) (hn : ordinary n = true) :
    (fs.filter fun f => f.1 == n).Perm (wireOf (r.header.filter fun kv => lower kv.key == n)) ∧
    ((∀ x ∈ r.header, ∀ y ∈ r.header, lower x.key = n → lower y.key = n →
        lastIndex (orderList r.header) x.key = lastIndex (orderList r.header) y.key) →
      fs.filter (fun f => f.1 == n) = wireOf (r.header.filter fun kv => lower kv.key == n)) := by
  obtain ⟨host, path, _, _, _, rfl, _⟩ := fields_ok h
  have hps : (pseudoKVs fl r host path).filter (fun g => lower g.key == n) = [] :=
    (basePseudo_named hn fl r host path ▸
      (applyOrder_perm _ (basePseudo fl r host path)).filter fun g : KV => lower g.key == n).eq_nil
  have hsp : ∀ kv ∈ r.header.filter (fun kv => lower kv.key == n), special.contains (lower kv.key) = false :=
    fun kv hkv => by
      simp only [ordinary, Bool.and_eq_true, Bool.not_eq_true'] at hn
      exact eq_of_beq (List.mem_filter.mp hkv).2 ▸ hn.1
  have hw : wireOf (headerGroups fl (r.header.filter fun kv => lower kv.key == n)) =
      wireOf (r.header.filter fun kv => lower kv.key == n) := by
    rw [wireOf_eq, linesOf_headerGroups fl _ hsp, ← wireOf_eq]
  rw [filter_wireOf_name, List.filter_append, hps, List.nil_append, ← hw, ← baseRegular_named hn]
  refine ⟨List.Perm.flatMap_right _ ((applyOrder_perm _ _).filter _), fun hpos => ?_⟩
  rw [regularKVs_eq, applyOrder_filter_same]
  have hkey : ∀ g ∈ baseRegular fl r, (lower g.key == n) = true →
      ∃ x ∈ r.header, lower x.key = n ∧ g.key = x.key := fun g hg hq => by
    have hgm : g ∈ headerGroups fl (r.header.filter fun kv => lower kv.key == n) :=
      baseRegular_named hn fl r ▸ List.mem_filter.mpr ⟨hg, hq⟩
    obtain ⟨x, hx, _, hgk | ⟨_, hc⟩⟩ := mem_headerGroups hgm
    · exact ⟨x, (List.mem_filter.mp hx).1, eq_of_beq (List.mem_filter.mp hx).2, hgk⟩
    · have := hsp x hx
      rw [equalFold_lower hc (by decide)] at this
      exact absurd this (by decide)
  intro a ha b hb hqa hqb
  obtain ⟨x, hx, hxn, ea⟩ := hkey a ha hqa
  obtain ⟨y, hy, hyn, eb⟩ := hkey b hb hqb
  rw [ea, eb]
  exact hpos x hx y hy hxn hyn

/-- **HTTP/2 and HTTP/3**: for an ordinary name `n`, the number of fields named `n` in the header
block is the number of values the caller gave under all spellings of `n`. -/
theorem name_count_h23 (fl : Flavor) (r : FReq) (fs : List (Bytes × Bytes)) (n : Bytes)
    (hn : ordinary n = true) (h : fields fl r = .ok fs) :
    fs.countP (fun f => f.1 == n) = (linesOf r.header).countP (nameIs n) := by
  rw [List.countP_eq_length_filter, (fields_named fl r fs h n hn).1.length_eq,
    List.countP_eq_length_filter, filter_linesOf_name, wireOf_eq, List.length_map]

/-- **One description, three stacks.** Take the same header map handed to the HTTP/1.1 writer, the
HTTP/2 encoder and the HTTP/3 encoder (`hsame`; method and URL play no part in these counts and no
hypothesis relates them). For every
ordinary header name, the three wires carry the SAME number of fields of that name — the number of
values the caller set under all spellings of the name; no stack drops, duplicates or merges a
value. (Hypotheses: the header names are valid field names — HTTP/2 and HTTP/3 refuse the request
otherwise, HTTP/1.1 omits the invalid name — and the HTTP/1.1 transport's extra headers
(`Accept-Encoding`, `Connection`) are not called `n`.) -/
theorem same_description_three_stacks
    (w : WReq) (r : FReq) (hsame : r.header = w.header) (host : Bytes) (f : Framing)
    (fs2 fs3 : List (Bytes × Bytes)) (n : Bytes) (hn : ordinary n = true)
    (hvalid : ∀ kv ∈ w.header, validHeaderFieldName kv.key = true)
    (hextra : ∀ kv ∈ w.extra, (lower kv.key == n) = false)
    (h2 : fields .h2 r = .ok fs2) (h3 : fields .h3 r = .ok fs3) :
    (linesOf (h1Fields w host f)).countP (nameIs n) = fs2.countP (fun f => f.1 == n) ∧
    fs2.countP (fun f => f.1 == n) = fs3.countP (fun f => f.1 == n) ∧
    fs3.countP (fun f => f.1 == n) = (linesOf w.header).countP (nameIs n) := by
  rw [name_count_h1 w host f n hn hvalid hextra, name_count_h23 .h2 r fs2 n hn h2,
    name_count_h23 .h3 r fs3 n hn h3, hsame]
  exact ⟨rfl, rfl, rfl⟩

/-- non-vacuity: `X-A` with two values and `x-a` with one: three fields named `x-a` on HTTP/2. -/
example :
    ((fields .h2 { method := [71, 69, 84], url := { scheme := [104], host := [104], path := [47] }, header :=
        [⟨[88, 45, 65], [[49], [50]]⟩, ⟨[120, 45, 97], [[51]]⟩] }).toOption.map
      (·.countP (fun f => f.1 == [120, 45, 97]))) = some 3 ∧ ordinary [120, 45, 97] = true := by
  decide +kernel

/-- a name the HTTP/1.1 writer excludes from the caller's map (exact spelling) is written by the
writer alone: the number of such lines is the number of lines the writer itself produces. -/
theorem excluded_key_count (r : WReq) (host : Bytes) (f : Framing) (k : Bytes)
    (hk : reqWriteExcludeHeader.contains k = true) (hextra : ∀ kv ∈ r.extra, (kv.key == k) = false) :
    (linesOf (h1Fields r host f)).countP (fun l => l.1 == k) =
      (linesOf (ownFieldsH1 r host f)).countP (fun l => l.1 == k) := by
  have h1 := countP_linesOf_zero (· == k) (callerFields r.header reqWriteExcludeHeader) fun kv hkv => by
    cases hb : kv.key == k with
    | false => rfl
    | true => rw [← eq_of_beq hb, (callerFields_mem_key hkv).1] at hk; cases hk
  have h2 := countP_linesOf_zero (· == k) (callerFields r.extra []) fun kv hkv => by
    obtain ⟨kv0, h0, hk0⟩ := callerFields_mem_src hkv
    exact hk0 ▸ hextra kv0 h0
  rw [(wire_set_h1 r host f).countP_eq, List.countP_append, List.countP_append, h1, h2]
  rfl

theorem countP_ownFieldsH1 (r : WReq) (host : Bytes) (f : Framing) (k : Bytes)
    (hk : k ∉ [sConnection, sContentLength, sTransferEncoding]) :
    (linesOf (ownFieldsH1 r host f)).countP (fun l => l.1 == k) =
      (if sHost == k then 1 else 0) +
      (if (hdrGet? r.header sUserAgent).isSome && (hdrFirst r.header sUserAgent).isEmpty then 0
        else if sUserAgent == k then 1 else 0) := by
  have hfr := countP_linesOf_zero (· == k) (framingFields r f) fun kv hkv => by
    cases hb : kv.key == k with
    | false => rfl
    | true => exact absurd (eq_of_beq hb ▸ framingFields_keys r f kv hkv) hk
  unfold ownFieldsH1
  simp only
  generalize hua : (if (hdrGet? r.header sUserAgent).isSome then hdrFirst r.header sUserAgent
    else defaultUserAgent) = ua
  have hcond : ((hdrGet? r.header sUserAgent).isSome && (hdrFirst r.header sUserAgent).isEmpty) =
      ua.isEmpty := by
    rw [← hua]
    cases (hdrGet? r.header sUserAgent).isSome
    · exact (by decide : false = defaultUserAgent.isEmpty)
    · rfl
  rw [linesOf_append, linesOf_append, List.countP_append, List.countP_append, hfr, hcond]
  cases ua.isEmpty <;> simp [linesOf]

/-- **`Host` exactly once**, whatever the caller put under `Host` in the header map (the caller's
override travels in `Request.Host`) and whatever the order list. -/
theorem host_exactly_once (r : WReq) (host : Bytes) (f : Framing)
    (hextra : ∀ kv ∈ r.extra, (kv.key == sHost) = false) :
    (linesOf (h1Fields r host f)).countP (fun l => l.1 == sHost) = 1 := by
  rw [excluded_key_count r host f sHost (by decide) hextra,
    countP_ownFieldsH1 r host f sHost (by decide)]
  simp [(by decide : (sUserAgent == sHost) = false)]

/-- **`User-Agent` at most once; the caller's empty value suppresses it**: with a `User-Agent`
entry whose first value is empty (or that has no value) no `User-Agent` line is written; otherwise
exactly one (the caller's first value, or the default). -/
theorem user_agent_once (r : WReq) (host : Bytes) (f : Framing)
    (hextra : ∀ kv ∈ r.extra, (kv.key == sUserAgent) = false) :
    (linesOf (h1Fields r host f)).countP (fun l => l.1 == sUserAgent) =
      if (hdrGet? r.header sUserAgent).isSome && (hdrFirst r.header sUserAgent).isEmpty then 0 else 1 := by
  rw [excluded_key_count r host f sUserAgent (by decide) hextra,
    countP_ownFieldsH1 r host f sUserAgent (by decide)]
  simp [(by decide : (sHost == sUserAgent) = false)]

/-- **the caller's `Accept-Encoding` suppresses the transport's**: when the caller set a
non-empty `Accept-Encoding` the transport adds none of its own (so the caller's values are the
only ones on the wire, by `wire_set_h1`). -/
theorem accept_encoding_caller_wins (dc dk : Bool) (r : WReq)
    (h : (Req.Resend.hget r.header Req.Resend.sAcceptEncoding).isEmpty = false) :
    ∀ kv ∈ Req.Resend.transportExtra dc dk r, (kv.key == Req.Resend.sAcceptEncoding) = false := by
  intro kv hkv
  unfold Req.Resend.transportExtra at hkv
  simp only [h, Bool.and_false, Bool.false_and, Bool.false_eq_true, if_false, List.nil_append] at hkv
  rw [List.mem_ite_l hkv]; decide

example :
    (linesOf (h1Fields { method := [71, 69, 84], url := {}, header :=
      [⟨sHost, [[120]]⟩, ⟨sUserAgent, [[]]⟩, ⟨[104, 111, 115, 116], [[121]]⟩] } [104] ⟨false, false, 0⟩))
    = [(sHost, [104]), ([104, 111, 115, 116], [121])] := by decide +kernel

theorem filter_eq_singleton {p : KV → Bool} {h : Hdr} {kv : KV} (hnd : (h.map (·.key)).Nodup)
    (hm : kv ∈ h) (hp : p kv = true) (huniq : ∀ x ∈ h, p x = true → x = kv) : h.filter p = [kv] := by
  have hn : (h.filter p).Nodup :=
    ((List.pairwise_map.mp hnd).imp fun hab e => hab (congrArg _ e)).filter p
  have hin : kv ∈ h.filter p := List.mem_filter.mpr ⟨hm, hp⟩
  have hall : ∀ x ∈ h.filter p, x = kv := fun x hx =>
    huniq x (List.mem_filter.mp hx).1 (List.mem_filter.mp hx).2
  generalize h.filter p = l at hn hin hall
  match l, hn, hin, hall with
  | [b], _, _, hall => rw [hall b (List.mem_singleton_self b)]
  | b :: c :: t, hn, _, hall =>
    have hb := hall b (List.mem_cons_self ..)
    have hc := hall c (List.mem_cons_of_mem _ (List.mem_cons_self ..))
    rw [hb, hc] at hn
    simp at hn

/-- **Multi-valued headers keep their values, once each and in the caller's order (HTTP/1.1)**:
for a key of the header map (a Go map: keys distinct) that is a valid field name, not one the
writer handles itself and not an extra-header name, the header lines with exactly that name are —
top to bottom — the caller's values in the caller's order (each sanitised), header-order mode or
not, wherever the sort puts the group. -/
theorem value_order_h1 (r : WReq) (host : Bytes) (f : Framing) (kv : KV)
    (hnd : (r.header.map (·.key)).Nodup) (hm : kv ∈ r.header)
    (hex : reqWriteExcludeHeader.contains kv.key = false)
    (hname : validHeaderFieldName kv.key = true)
    (hown : kv.key ∉ ownKeysH1) (hextra : ∀ e ∈ r.extra, (e.key == kv.key) = false) :
    (linesOf (h1Fields r host f)).filter (fun l => l.1 == kv.key) =
      kv.values.map fun v => (kv.key, sanitizeValue v) := by
  have h1 : (ownFieldsH1 r host f).filter (fun x => x.key == kv.key) = [] :=
    List.filter_eq_nil_iff.mpr fun a ha hk => hown (eq_of_beq hk ▸ ownFieldsH1_keys r host f a ha)
  have h2 : (callerFields r.header reqWriteExcludeHeader).filter (fun x => x.key == kv.key) =
      [⟨kv.key, kv.values.map sanitizeValue⟩] := by
    rw [callerFields_filter_kept (· == kv.key) _ _ fun a _ hk => by
        rw [eq_of_beq hk]; exact ⟨hex, hname⟩,
      filter_eq_singleton hnd hm (by simp) fun x hx hk => List.eq_of_key_eq hnd hx hm (eq_of_beq hk)]
    rfl
  have h3 : (callerFields r.extra []).filter (fun x => x.key == kv.key) = [] :=
    List.filter_eq_nil_iff.mpr fun a ha => by
      obtain ⟨e, he, hk⟩ := callerFields_mem_src ha
      simp [hk, hextra e he]
  -- the groups of that name are a permutation of one group: they are that group
  have hp := (h1Fields_perm r host f).filter (fun x => x.key == kv.key)
  rw [List.filter_append, List.filter_append, h1, h2, h3] at hp
  rw [filter_linesOf (· == kv.key), List.perm_singleton.mp hp]
  simp [linesOf]

example :
    (linesOf (h1Fields { method := [71, 69, 84], url := {}, header :=
      [⟨[88, 45, 77], [[51], [49], [50]]⟩, ⟨[88, 45, 65], [[57]]⟩,
       ⟨headerOrderKey, [[120, 45, 109], [120, 45, 97]]⟩] } [104] ⟨false, false, 0⟩)).filter
      (fun l => l.1 == [88, 45, 77]) = [([88, 45, 77], [51]), ([88, 45, 77], [49]), ([88, 45, 77], [50])] := by
  decide +kernel

/-- **Multi-valued headers on HTTP/2 and HTTP/3**: for a key with an ordinary name that has a
single spelling in the header map, the fields of that name in the header block are — in arrival
order — the caller's values in the caller's order, whatever the two order lists do: no pseudo
field and no field of the encoder's own has that name, and the sort never swaps two fields of one
name (`isort_filter_same_idx`; on HTTP/3 every value is a group of its own). -/
theorem value_order_h23 (fl : Flavor) (r : FReq) (fs : List (Bytes × Bytes)) (h : fields fl r = .ok fs)
    (kv : KV) (n : Bytes) (hn : ordinary n = true) (hnd : (r.header.map (·.key)).Nodup)
    (hm : kv ∈ r.header) (hk : lower kv.key = n)
    (huniq : ∀ kv' ∈ r.header, lower kv'.key = n → kv' = kv) :
    fs.filter (fun f => f.1 == n) = kv.values.map fun v => (n, v) := by
  rw [(fields_named fl r fs h n hn).2 fun x hx y hy hxn hyn => by rw [huniq x hx hxn, huniq y hy hyn],
    filter_eq_singleton hnd hm (by simp [hk]) fun x hx hq => huniq x hx (by simpa using hq), ← hk]
  simp [wireOf]

/-- **Multi-valued headers on HTTP/2**: `value_order_h23` on HTTP/2 — the fields of an ordinary name
that has a single spelling in the header map are the caller's values in the caller's order. -/
theorem value_order_h2 (r : FReq) (fs : List (Bytes × Bytes)) (h : fields .h2 r = .ok fs)
    (kv : KV) (n : Bytes) (hn : ordinary n = true) (hnd : (r.header.map (·.key)).Nodup)
    (hm : kv ∈ r.header) (hk : lower kv.key = n)
    (huniq : ∀ kv' ∈ r.header, lower kv'.key = n → kv' = kv) :
    fs.filter (fun f => f.1 == n) = kv.values.map fun v => (n, v) :=
  value_order_h23 .h2 r fs h kv n hn hnd hm hk huniq

example :
    ((fields .h2 { method := [71, 69, 84], url := { scheme := [104], host := [104], path := [47] }, header :=
        [⟨[88, 45, 77], [[51], [49], [50]]⟩, ⟨[88, 45, 65], [[57]]⟩,
         ⟨headerOrderKey, [[120, 45, 97], [120, 45, 109]]⟩] }).toOption.map
      (·.filter (fun f => f.1 == [120, 45, 109]))) =
      some [([120, 45, 109], [51]), ([120, 45, 109], [49]), ([120, 45, 109], [50])] := by decide +kernel

/-- fields a protocol forbids (connection-specific names, bookkeeping keys) are OMITTED, and that
is all that happens: the collected groups are those of the header map without them. -/
theorem forbidden_omitted (fl : Flavor) (h : Hdr) :
    headerGroups fl h = headerGroups fl (h.filter fun kv => !isExcluded kv.key) :=
  (headerGroups_filter fl _ (fun kv hp => by simpa using hp) h).symm

/-- **wire_multiset_exact (HTTP/1.1)**: `wire_set_h1`, statement for statement. -/
theorem wire_multiset_exact_h1 (r : WReq) (host : Bytes) (f : Framing) :
    (linesOf (h1Fields r host f)).Perm
      (linesOf (ownFieldsH1 r host f) ++ linesOf (callerFields r.header reqWriteExcludeHeader) ++
        linesOf (callerFields r.extra [])) := wire_set_h1 r host f

/-- **wire_multiset_exact (HTTP/2, HTTP/3)**: fields in the header block ≃ pseudo fields ⊎ the
groups collected from the caller's map without the forbidden / bookkeeping names ⊎ the encoder's
own fields — for every header-order list, every pseudo-header-order list, every map order. -/
theorem wire_multiset_exact_h23 (fl : Flavor) (r : FReq) (fs : List (Bytes × Bytes))
    (h : fields fl r = .ok fs) :
    ∃ host path, fieldHost r = .ok host ∧ fieldPath r host = .ok path ∧
      fs.Perm (wireOf (basePseudo fl r host path) ++
        (wireOf (headerGroups fl (r.header.filter fun kv => !isExcluded kv.key)) ++
          wireOf (ownFieldsH23 fl r))) := by
  obtain ⟨host, path, hh, hp, hperm⟩ := wire_set_h2 fl r fs h
  refine ⟨host, path, hh, hp, ?_⟩
  rw [baseRegular_eq, wireOf_append, forbidden_omitted] at hperm
  exact hperm

/-- on all three stacks, for ANY order list (duplicates, unknown names,
mixed case) and ANY number of other headers, the listed lines / fields appear in list order;
likewise the pseudo fields for any pseudo-header order list. -/
theorem order_respected_all (w : WReq) (host : Bytes) (f : Framing) (fl : Flavor) (r : FReq)
    (phost ppath : Bytes)
    (hw : (orderList w.header).isEmpty = false) (hr : ¬ (orderList r.header).isEmpty) :
    ((linesOf (h1Fields w host f)).filterMap
      (fun l => lastIndex (orderList w.header) l.1)).Pairwise (· ≤ ·) ∧
    ((linesOf (regularKVs fl r)).filterMap
      (fun l => lastIndex (orderList r.header) l.1)).Pairwise (· ≤ ·) ∧
    ((linesOf (pseudoKVs fl r phost ppath)).filterMap
      (fun l => lastIndex (pseudoOrderList r.header) l.1)).Pairwise (· ≤ ·) :=
  ⟨order_respected_lines_h1 w host f hw, order_respected_lines_h23 fl r hr,
    pseudo_respected_fields fl r phost ppath⟩

end Req.Props.C16Wire
