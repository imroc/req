import Req.Props.C15Live
import Req.Lemmas.Prescan
/-!
C15 — the contexts in which the text of a `<meta>` tag is NOT a declaration (comments, RCDATA / RAWTEXT elements,
scripts, quoted attribute values, `<plaintext>`), stated against the WHATWG rules on the TEXT
(`Req/Client/HtmlSpec.lean`: `CommentEnd`, `rawSplit`); the identity on bodies declared utf-8; and the irrelevance
of where the first network read ends.

Inside a comment the scanner's state is a function of the text read (`Req/Lemmas/Prescan.lean`); inside raw text the
scanner is compared with `rawSplit` for its three kinds of state at once (`raw_spec`); every such region brings the
scanner back to the data state (`hidden_skipped`), which is all the prescan sees of it (`prescan_ignores_hidden`).
-/
namespace Req.Props.C15
open Req.Proto Req.Decode Req.Prescan

/-- Strictly inside a comment text the scanner is in a comment state:
nothing the text contains is tokenized. -/
theorem comment_interior_opaque (P : Params) (t : Bytes) (h : CommentEnd t = true) (k : Nat) (hk : k < t.length) :
    scan P (.comment 0 true) (t.take k) = .commentBang ∨
    ∃ d b, scan P (.comment 0 true) (t.take k) = .comment d b := by
  rw [show scan P (.comment 0 true) (t.take k) = cstateR (t.take k).reverse from
    scan_comment P [] _ fun j _ hj => by
      have hj : j ≤ k := Nat.le_trans hj (by simp [List.length_take]; omega)
      simpa [List.take_take, Nat.min_eq_left hj] using (CommentEnd_spec t h).2 j (by omega)]
  exact cstateR_comment _

/-- After a complete comment text (`CommentEnd`: the WHATWG rule on the TEXT) the scanner is back in the data state. -/
theorem comment_skipped (P : Params) (t : Bytes) (h : CommentEnd t = true) :
    scan P (.comment 0 true) t = .data := by
  obtain ⟨hc, hpre⟩ := CommentEnd_spec t h
  have hne : t ≠ [] := by intro h0; subst h0; simp [commentCloses] at hc
  obtain ⟨t', c, rfl⟩ : ∃ t' c, t = t' ++ [c] := ⟨t.dropLast, t.getLast hne, (List.dropLast_concat_getLast hne).symm⟩
  have h1 : scan P (.comment 0 true) t' = cstateR t'.reverse := scan_comment P [] t' fun j _ hj => by
    simpa [List.take_append_of_le_length hj] using hpre j (by simp; omega)
  rw [commentCloses_eq, List.reverse_append] at hc
  rw [scan_append, h1]
  simp only [scan, List.foldl_cons, List.foldl_nil, step_comment]
  exact if_pos hc

def sCommentOpen : Bytes := [60, 33, 45, 45]

theorem scan_comment_open (P : Params) : scan P .data sCommentOpen = .comment 0 true := rfl

/-- the end tag `</tag>` -/
def endTag (tag : Bytes) : Bytes := [60, 47] ++ tag ++ [62]

/-- Script content without `</` and `<!` up to `</script>` is skipped, whatever else it contains. -/
theorem script_skipped (P : Params) (b : Bytes) (h1 : hasPair 60 47 b = false) (h2 : hasPair 60 33 b = false) :
    scan P (.script .data) (b ++ endTag sScript) = .data := by
  rw [scan_append]
  rcases lt_loop P (.script .data) (.script .lt) [47, 33] (fun _ => rfl) (by intro c hc; simp at hc; simp [step, scStep, hc]) b
    (by simpa using And.intro h1 h2) with h | h <;> rw [h] <;> rfl

/-- a start tag without attributes: `<tag>` -/
def startTag (tag : Bytes) : Bytes := [60] ++ tag ++ [62]

theorem scan_raw_open (P : Params) (tag : Bytes) (htag : tag ∈ rawTags) :
    scan P .data (startTag tag) = .raw tag := by
  simp only [rawTags, List.mem_cons, List.mem_nil_iff, or_false] at htag
  rcases htag with rfl | rfl | rfl | rfl | rfl | rfl | rfl | rfl <;> rfl

theorem scan_script_open (P : Params) : scan P .data (startTag sScript) = .script .data := rfl

/-- Inside a quoted attribute value nothing is tokenized until the same quote. -/
theorem quoted_value_opaque (P : Params) (t : Tag) (key val b : Bytes) (q : UInt8) (h : ∀ c ∈ b, c ≠ q) :
    scan P (.valQ t key q val) b = .valQ t key q (val ++ b) := by
  induction b generalizing val with
  | nil => simp [scan]
  | cons c cs ih =>
    have hc : c ≠ q := h c List.mem_cons_self
    have hs : step P (.valQ t key q val) c = .valQ t key q (val ++ [c]) := by simp [step, hc]
    simp only [scan, List.foldl_cons, hs]
    have := ih (val ++ [c]) (fun x hx => h x (List.mem_cons_of_mem _ hx))
    simpa [scan, List.append_assoc] using this

/-- A comment that is never closed hides everything after `<!--`. -/
theorem unterminated_comment_swallows (P : Params) (pre t : Bytes) (hpre : scan P .data pre = .data)
    (h : ∀ k, k ≤ t.length → commentCloses (t.take k) = false) :
    prescan P (pre ++ sCommentOpen ++ t) = none := by
  have h1 : scan P (.comment 0 true) t = cstateR t.reverse := scan_comment P [] t fun k _ hk => h k hk
  unfold prescan
  rw [scan_append, scan_append, hpre, scan_comment_open, h1]
  rcases cstateR_comment t.reverse with h2 | ⟨d, b, h2⟩ <;> rw [h2]

theorem plaintext_absorbing (P : Params) (b : Bytes) : scan P .plaintext b = .plaintext := by
  induction b with
  | nil => rfl
  | cons c cs ih => simpa [scan, step] using ih

/-- the scanner is inside the raw text of `tag` -/
def RawClass (tag : Bytes) (s : St) : Prop := s = .raw tag ∨ s = .rawLt tag ∨ ∃ i, s = .rawEnd tag i

/-- the scanner, started in `s` on the text `t`, gives the answer `o` of the specification -/
def Agrees (P : Params) (tag : Bytes) (o : Option (UInt8 × Bytes)) (s : St) (t : Bytes) : Prop :=
  match o with
  | some (e, rest) => scan P s t = scan P (afterRawEnd e) rest
  | none => RawClass tag (scan P s t)

theorem Agrees.cons_iff {P : Params} {tag : Bytes} {o : Option (UInt8 × Bytes)} {s : St} {c : UInt8} {cs : Bytes} :
    Agrees P tag o s (c :: cs) ↔ Agrees P tag o (step P s c) cs := by
  cases o <;> exact Iff.rfl

theorem nameAt_length (ts t : Bytes) (e : UInt8) (rest : Bytes) (h : nameAt ts t = some (e, rest)) :
    rest.length < t.length := by
  induction ts generalizing t with
  | nil =>
    cases t with
    | nil => simp [nameAt] at h
    | cons c cs =>
      simp only [nameAt] at h
      split at h
      · simp only [Option.some.injEq, Prod.mk.injEq] at h; rw [← h.2]; simp
      · simp at h
  | cons x xs ih =>
    cases t with
    | nil => simp [nameAt] at h
    | cons c cs =>
      simp only [nameAt] at h
      split at h
      · have := ih cs h; simp; omega
      · simp at h

/-- no byte of the name, lower or upper case (`x - 32` as in `ciMatch`), is `<` -/
def NameOk (tag : Bytes) : Prop := ∀ x ∈ tag, x ≠ 60 ∧ x - 32 ≠ 60

/-- The scanner against the specification, for the three kinds of state inside raw text at once: in `.raw` the
answer is `rawSplit` of the text; after `<` it is `rawSplit` of `<` and the text; with `i` bytes of the name
matched it is the rest of the name at the head of the text, or else `rawSplit` of the text.  One induction on
the text: a byte that ends a candidate end tag is read as `.raw` reads it (`hlike`). -/
theorem raw_spec (P : Params) (tag : Bytes) (hok : NameOk tag) (t : Bytes) :
    Agrees P tag (rawSplit tag t) (.raw tag) t ∧
    Agrees P tag (rawSplit tag (60 :: t)) (.rawLt tag) t ∧
    ∀ i, i ≤ tag.length →
      Agrees P tag (match nameAt (tag.drop i) t with | some r => some r | none => rawSplit tag t) (.rawEnd tag i) t := by
  induction t with
  | nil =>
    refine ⟨Or.inl rfl, Or.inr (Or.inl rfl), fun i _ => ?_⟩
    rw [nameAt_nil]
    exact Or.inr (Or.inr ⟨i, rfl⟩)
  | cons c cs ih =>
    obtain ⟨ihR, ihL, ihE⟩ := ih
    have hraw : Agrees P tag (rawSplit tag (c :: cs)) (.raw tag) (c :: cs) := by
      rw [Agrees.cons_iff]
      by_cases hc : c = 60
      · subst hc; exact ihL
      · rw [rawSplit_cons_ne tag c cs hc, show step P (.raw tag) c = .raw tag by simp [step, rawData, hc]]; exact ihR
    have hlike : ∀ s, step P s c = step P (.raw tag) c → Agrees P tag (rawSplit tag (c :: cs)) s (c :: cs) :=
      fun s h => by rw [Agrees.cons_iff, h, ← Agrees.cons_iff]; exact hraw
    refine ⟨hraw, ?_, fun i hi => ?_⟩
    · by_cases h47 : c = 47
      · subst h47
        rw [Agrees.cons_iff, show step P (.rawLt tag) 47 = .rawEnd tag 0 from rfl]
        have := ihE 0 (Nat.zero_le _)
        rw [List.drop_zero] at this
        cases hn : nameAt tag cs <;> rw [hn] at this <;> simpa [rawSplit, endTagAt, hn] using this
      · rw [show rawSplit tag (60 :: c :: cs) = rawSplit tag (c :: cs) by simp [rawSplit, endTagAt, h47]]
        exact hlike _ (by simp [step, h47])
    · rcases Nat.lt_or_ge i tag.length with hlt | hge
      · have hstep : step P (.rawEnd tag i) c = if ciMatch tag[i] c then .rawEnd tag (i + 1) else rawData tag c := by
          simp [step, rawEndStep, hlt, ciMatch]
        rw [List.drop_eq_getElem_cons hlt]
        by_cases hm : ciMatch tag[i] c = true
        · -- the byte matched the name: it is not `<`, the spec skips it too
          have hne : c ≠ 60 := by
            have := hok tag[i] (List.getElem_mem hlt)
            simp only [ciMatch, Bool.or_eq_true, beq_iff_eq] at hm
            rcases hm with rfl | rfl
            · exact this.1
            · exact this.2
          simp only [nameAt, hm, if_true]
          rw [rawSplit_cons_ne tag c cs hne, Agrees.cons_iff, hstep, if_pos hm]
          exact ihE (i + 1) hlt
        · simp only [nameAt, hm]
          exact hlike _ (by rw [hstep, if_neg hm]; rfl)
      · have hstep : step P (.rawEnd tag i) c = if isTagEnd c then afterRawEnd c else rawData tag c := by
          simp [step, rawEndStep, List.getElem?_eq_none hge]
        rw [List.drop_eq_nil_of_le hge]
        by_cases he : isTagEnd c = true
        · simp only [nameAt, he, if_true]
          exact congrArg (fun s => scan P s cs) (by rw [hstep, if_pos he])
        · simp only [nameAt, he]
          exact hlike _ (by rw [hstep, if_neg he]; rfl)

theorem rawTags_nameOk (tag : Bytes) (htag : tag ∈ rawTags) : NameOk tag :=
  (by decide +kernel : ∀ tag ∈ rawTags, ∀ x ∈ tag, x ≠ 60 ∧ x - 32 ≠ 60) tag htag

/-- The WHATWG RCDATA / RAWTEXT end tag rule: ∀ text after the start
tag of `title textarea style xmp iframe noembed noframes noscript`: if the text holds an end tag of
the element — `</name` in any case followed by white space, `/` or `>` — the scanner reaches the
FIRST such place having tokenized nothing before it (and goes on behind the delimiter as after
`</name`); if it holds none, the scanner is still inside the raw text at the end. -/
theorem rawtext_ends_at_first_end_tag (P : Params) (tag t : Bytes) (htag : tag ∈ rawTags) :
    match rawSplit tag t with
    | some (e, rest) => scan P (.raw tag) t = scan P (afterRawEnd e) rest
    | none => RawClass tag (scan P (.raw tag) t) :=
  (raw_spec P tag (rawTags_nameOk tag htag) t).1

/-- The element's own end tag is the first end tag in itself. -/
theorem raw_close (P : Params) (tag : Bytes) (hok : NameOk tag) :
    scan P (.raw tag) (endTag tag) = .data ∧ scan P (.rawLt tag) (endTag tag) = .data := by
  have h := (raw_spec P tag hok (endTag tag)).1
  have hs : rawSplit tag (endTag tag) = some (62, []) := by
    simp [endTag, rawSplit, endTagAt, nameAt_self tag 62 [] rfl]
  unfold Agrees at h
  rw [hs] at h
  exact ⟨h, h⟩

/-- From the start tag of a raw-text / RCDATA element to its end tag nothing is tokenized, for every content
without `</`. -/
theorem rawtext_skipped (P : Params) (tag b : Bytes) (htag : tag ∈ rawTags) (h : hasPair 60 47 b = false) :
    scan P (.raw tag) (b ++ endTag tag) = .data := by
  rw [scan_append]
  rcases lt_loop P (.raw tag) (.rawLt tag) [47] (fun _ => rfl) (by intro c hc; simp at hc; simp [step, hc]) b (by simpa using h)
    with h1 | h1 <;> rw [h1]
  · exact (raw_close P tag (rawTags_nameOk tag htag)).1
  · exact (raw_close P tag (rawTags_nameOk tag htag)).2

/-- The content of a raw-text element up to its first end tag is invisible to the prescan, when that end tag is
closed by `>` directly (`rawSplit … = some (62, rest)`). -/
theorem prescan_rawtext_spec (P : Params) (pre tag t rest : Bytes) (hpre : scan P .data pre = .data)
    (htag : tag ∈ rawTags) (h : rawSplit tag t = some (62, rest)) :
    prescan P (pre ++ startTag tag ++ t) = prescan P (pre ++ rest) := by
  have hs := rawtext_ends_at_first_end_tag P tag t htag
  rw [h] at hs
  unfold prescan
  rw [scan_append P .data (pre ++ startTag tag), scan_append P .data pre, hpre, scan_raw_open P tag htag, hs,
    scan_append, hpre]
  rfl

/-- A raw-text element that is never closed swallows the rest of the document. -/
theorem unterminated_rawtext_swallows (P : Params) (pre tag t : Bytes) (hpre : scan P .data pre = .data)
    (htag : tag ∈ rawTags) (h : rawSplit tag t = none) :
    prescan P (pre ++ startTag tag ++ t) = none := by
  have hs := rawtext_ends_at_first_end_tag P tag t htag
  rw [h] at hs
  unfold prescan
  rw [scan_append P .data (pre ++ startTag tag), scan_append P .data pre, hpre, scan_raw_open P tag htag]
  rcases hs with h2 | h2 | ⟨i, h2⟩ <;> rw [h2]

/-- A region of the document in which the text of a meta tag is not a declaration (WHATWG). -/
inductive Hidden : Bytes → Prop where
  | comment (t : Bytes) (h : CommentEnd t = true) : Hidden (sCommentOpen ++ t)
  | rawtext (tag b : Bytes) (htag : tag ∈ rawTags) (h : hasPair 60 47 b = false) :
      Hidden (startTag tag ++ (b ++ endTag tag))
  | script (b : Bytes) (h1 : hasPair 60 47 b = false) (h2 : hasPair 60 33 b = false) :
      Hidden (startTag sScript ++ (b ++ endTag sScript))
  /-- raw text by the WHATWG rule: `t` ends with its FIRST end tag `</name>` (any case) -/
  | rawspec (tag t : Bytes) (htag : tag ∈ rawTags) (h : rawSplit tag t = some (62, [])) :
      Hidden (startTag tag ++ t)

theorem hidden_skipped (P : Params) (x : Bytes) (h : Hidden x) : scan P .data x = .data := by
  cases h with
  | comment t h => rw [scan_append, scan_comment_open, comment_skipped P t h]
  | rawtext tag b htag h => rw [scan_append, scan_raw_open P tag htag, rawtext_skipped P tag b htag h]
  | script b h1 h2 => rw [scan_append, scan_script_open, script_skipped P b h1 h2]
  | rawspec tag t htag h =>
    have hs := rawtext_ends_at_first_end_tag P tag t htag
    rw [h] at hs
    rw [scan_append, scan_raw_open P tag htag, hs]
    rfl

theorem prescan_ignores_hidden (P : Params) (pre x post : Bytes) (hpre : scan P .data pre = .data) (hx : Hidden x) :
    prescan P (pre ++ x ++ post) = prescan P (pre ++ post) := by
  apply prescan_of_scan_eq
  rw [scan_append, hpre, hidden_skipped P x hx]

/-- A comment anywhere in the text flow is invisible to the prescan,
whatever it holds. -/
theorem prescan_ignores_comments (P : Params) (pre t post : Bytes) (hpre : scan P .data pre = .data)
    (ht : CommentEnd t = true) :
    prescan P (pre ++ sCommentOpen ++ t ++ post) = prescan P (pre ++ post) := by
  rw [List.append_assoc pre]
  exact prescan_ignores_hidden P pre _ post hpre (.comment t ht)

/-- `<title>…</title>`, `<textarea>…</textarea>`, `<style>…</style>`, … whose content holds no `</` are invisible
to the prescan (for any content up to the first end tag: `prescan_rawtext_spec`). -/
theorem prescan_ignores_rawtext (P : Params) (pre tag b post : Bytes) (hpre : scan P .data pre = .data)
    (htag : tag ∈ rawTags) (h : hasPair 60 47 b = false) :
    prescan P (pre ++ startTag tag ++ (b ++ endTag tag) ++ post) = prescan P (pre ++ post) := by
  rw [List.append_assoc pre]
  exact prescan_ignores_hidden P pre _ post hpre (.rawtext tag b htag h)

theorem prescan_ignores_script (P : Params) (pre b post : Bytes) (hpre : scan P .data pre = .data)
    (h1 : hasPair 60 47 b = false) (h2 : hasPair 60 33 b = false) :
    prescan P (pre ++ startTag sScript ++ (b ++ endTag sScript) ++ post) = prescan P (pre ++ post) := by
  rw [List.append_assoc pre]
  exact prescan_ignores_hidden P pre _ post hpre (.script b h1 h2)

/-- ANY number of comments, raw-text elements and scripts,
each followed by text without markup, in front of the rest of the document: the prescan answers as
if they were not there — no declaration is ever taken from inside them. -/
theorem prescan_ignores_comments_and_rawtext (P : Params) (regions : List (Bytes × Bytes)) (post : Bytes)
    (hr : ∀ x ∈ regions, Hidden x.1 ∧ ∀ c ∈ x.2, c ≠ 60) :
    prescan P ((regions.map fun x => x.1 ++ x.2).flatten ++ post) = prescan P post := by
  have : scan P .data (regions.map fun x => x.1 ++ x.2).flatten = .data := by
    induction regions with
    | nil => rfl
    | cons x xs ih =>
      have hx := hr x List.mem_cons_self
      simp only [List.map_cons, List.flatten_cons]
      rw [scan_append, scan_append, hidden_skipped P x.1 hx.1, scan_no_lt P x.2 hx.2]
      exact ih fun y hy => hr y (List.mem_cons_of_mem _ hy)
  have := prescan_of_scan_eq P _ [] (by rw [this]; rfl) post
  simpa using this

private def gbk' : Bytes := [103, 98, 107]
private def demoP' : Params := ⟨fun l => if l = gbk' then some gbk' else none, id⟩
-- `<meta charset="gbk">`
private def metaGbk' : Bytes := [60, 109, 101, 116, 97, 32, 99, 104, 97, 114, 115, 101, 116, 61, 34, 103, 98, 107, 34, 62]
-- ` <meta charset="gbk"> -->`, ` x--!>`, `>`
example : CommentEnd ([32] ++ metaGbk' ++ [32, 45, 45, 62]) = true := by decide +kernel
example : CommentEnd [32, 120, 45, 45, 33, 62] = true := by decide +kernel
example : CommentEnd [62] = true := by decide +kernel
example : CommentEnd [45, 45, 45, 62] = true := by decide +kernel
-- not complete: `->` after text, `-- >`; over-long: text after the first `-->`
example : CommentEnd [120, 45, 62] = false := by decide +kernel
example : CommentEnd [120, 45, 45, 32, 62] = false := by decide +kernel
example : CommentEnd [45, 45, 62, 120, 45, 45, 62] = false := by decide +kernel
example : prescan demoP' metaGbk' = some gbk' := by decide +kernel
example : prescan demoP' (sCommentOpen ++ ([32] ++ metaGbk' ++ [32, 45, 45, 62]) ++ [120]) = none := by decide +kernel
example : prescan demoP' (sCommentOpen ++ ([32] ++ metaGbk' ++ [32, 45, 45, 62]) ++ metaGbk') = some gbk' := by decide +kernel
example : hasPair 60 47 ([118, 97, 114, 32, 97, 61, 39] ++ metaGbk' ++ [39]) = false := by decide +kernel
example : prescan demoP' (startTag sScript ++ (metaGbk' ++ endTag sScript) ++ [120]) = none := by decide +kernel
example : prescan demoP' (startTag [116, 101, 120, 116, 97, 114, 101, 97] ++ (metaGbk' ++ endTag [116, 101, 120, 116, 97, 114, 101, 97])) = none := by decide +kernel
example : Hidden (sCommentOpen ++ ([32] ++ metaGbk' ++ [32, 45, 45, 62])) := .comment _ (by decide +kernel)
-- `<title>` … `</b></titl></titlex>` + look-alike + `</TITLE>`: near-miss end tags do not end the element
private def sTitle : Bytes := [116, 105, 116, 108, 101]
private def nearMiss : Bytes :=
  [60, 47, 98, 62, 60, 47, 116, 105, 116, 108, 62, 60, 47, 116, 105, 116, 108, 101, 120, 62] ++ metaGbk' ++ [60, 47, 84, 73, 84, 76, 69, 62]
example : rawSplit sTitle (nearMiss ++ [120]) = some (62, [120]) := by decide +kernel
example : rawSplit sTitle nearMiss = some (62, []) := by decide +kernel
example : Hidden (startTag sTitle ++ nearMiss) := .rawspec sTitle nearMiss (by decide +kernel) (by decide +kernel)
example : prescan demoP' (startTag sTitle ++ nearMiss ++ metaGbk') = some gbk' := by decide +kernel
example : rawSplit sTitle ([60, 47, 116, 105, 116, 108, 101] ++ metaGbk') = none := by decide +kernel
-- a quoted attribute value
example : prescan demoP' ([60, 97, 32, 98, 61, 34] ++ [60, 109, 101, 116, 97, 32, 99, 104, 97, 114, 115, 101, 116, 61, 103, 98, 107, 62] ++ [34, 62]) = none := by decide +kernel

variable {σ : Type}

/-- ∀ body — with or without a byte-order mark, well-formed UTF-8 or
not, text or binary — under a Content-Type whose charset says utf-8: read to EOF, the caller has
exactly the body (nothing stripped, nothing replaced), for every split and every buffer sequence. -/
theorem utf8_declared_is_identity (cfg : Config) (ae ct cs : Bytes) (lookup : Bytes → Option (Decoder σ))
    (find : Bytes → Option (Decoder σ)) (hutf : isUtf8Label (Req.Ascii.lower cs) = true)
    (src : Src) (bufs : List Nat)
    (heof : (respReads cfg ae ct (.charset cs) lookup find src bufs).term = some .eof) :
    (respReads cfg ae ct (.charset cs) lookup find src bufs).out = src.body :=
  rawReads_eof_of (utf8_identity cfg ae ct cs lookup find hutf src bufs) heof

/-- `utf8_declared_is_identity` with liveness: the body arrives completely after finitely many reads. -/
theorem utf8_declared_fully_delivered (cfg : Config) (ae ct cs : Bytes) (lookup : Bytes → Option (Decoder σ))
    (find : Bytes → Option (Decoder σ)) (hutf : isUtf8Label (Req.Ascii.lower cs) = true)
    (src : Src) (hsrc : src.term = .eof) (L : Nat) (hL : 0 < L) :
    ∃ n, (respReads cfg ae ct (.charset cs) lookup find src (List.replicate n L)).term = some .eof ∧
      (respReads cfg ae ct (.charset cs) lookup find src (List.replicate n L)).out = src.body := by
  obtain ⟨n, hn⟩ := response_reaches_end cfg ae ct (.charset cs) lookup find src L hL
  rw [hsrc] at hn
  exact ⟨n, hn, utf8_declared_is_identity cfg ae ct cs lookup find hutf src _ hn⟩

-- `UTF-8`, `utf8`, `x-utf-8-strict` are utf-8 labels; the body EF BB BF FF 00 (BOM + invalid + NUL) in
-- two segments comes back as it is even when a lookup would know a decoder for the label
example : isUtf8Label (Req.Ascii.lower [85, 84, 70, 45, 56]) = true := by decide +kernel
example : isUtf8Label (Req.Ascii.lower [117, 116, 102, 56]) = true := by decide +kernel
example : (respReads ⟨false, none⟩ [] [116, 101, 120, 116] (.charset [85, 84, 70, 45, 56]) (fun _ => some latin1) demoFind
    ⟨[[0xef, 0xbb], [0xbf, 0xff, 0x00]], .eof, false⟩ [2, 8, 8, 8]).out = [0xef, 0xbb, 0xbf, 0xff, 0x00] := by decide +kernel

/-- the body arrives in two network reads, the first one `k` bytes long -/
def cutSrc (body : Bytes) (k : Nat) (lwt : Bool) : Src := ⟨[body.take k, body.drop k], .eof, lwt⟩

theorem cutSrc_body (body : Bytes) (k : Nat) (lwt : Bool) : (cutSrc body k lwt).body = body := by
  simp [cutSrc, Src.body]

theorem sniffed_cutSrc (body : Bytes) (k L0 : Nat) (lwt : Bool) (Ls : List Nat)
    (hne : body.take (min k L0) ≠ []) :
    sniffed (cutSrc body k lwt) (L0 :: Ls) = some (body.take (min k L0)) := by
  have hL0 : L0 ≠ 0 := by intro h; simp [h] at hne
  have hout : ((cutSrc body k lwt).read L0).out = body.take (min k L0) ∧ ((cutSrc body k lwt).read L0).term = none := by
    simp only [cutSrc, Src.read, hL0, if_false]
    split <;> simp [List.take_take, Nat.min_comm]
  unfold sniffed
  have hns : noSniff ((cutSrc body k lwt).read L0) = false := by
    simp [noSniff, hout.1, hout.2, hne]
  simp [hns, hout.1]

/-- The declaration (byte-order mark or complete meta tag) lies
within the first `m` bytes of the body.  Then for EVERY offset `k ≥ m` at which the first network
read ends — between the bytes of a multi-byte character just as well — and every first caller
buffer of at least `m` bytes, the body read to EOF is the complete decode of the whole body by the
declared charset's decoder. -/
theorem first_read_boundary_irrelevant (P : Params) (decOf : Bytes → Decoder σ)
    (hlaw : ∀ n, (decOf n).Lawful) (body : Bytes) (m : Nat) (d : Decoder σ)
    (hm : findC P decOf (body.take m) = some d)
    (k L0 : Nat) (hk : m ≤ k) (hL : m ≤ L0) (lwt : Bool) (Ls : List Nat)
    (heof : (autoReads (findC P decOf) (cutSrc body k lwt) (L0 :: Ls)).term = some .eof) :
    (autoReads (findC P decOf) (cutSrc body k lwt) (L0 :: Ls)).out = d.decodeAll body := by
  have hmne : body.take m ≠ [] := by
    intro h0
    rw [h0] at hm
    simp [findC, findEncoding] at hm
  obtain ⟨rest, hrest⟩ : body.take m <+: body.take (min k L0) := List.take_prefix_take_left (by omega)
  have hne : body.take (min k L0) ≠ [] := by
    rw [← hrest]
    simp [hmne]
  have hs := sniffed_cutSrc body k L0 lwt Ls hne
  rw [← hrest] at hs
  simpa only [cutSrc_body] using
    declaration_in_sniffed_decides P decOf hlaw (cutSrc body k lwt) (L0 :: Ls) _ rest d hs hm heof

/-- `first_read_boundary_irrelevant` with liveness: finitely many reads with buffers of `L ≥ m` bytes deliver
the whole-body decode. -/
theorem first_read_boundary_fully_delivered (P : Params) (decOf : Bytes → Decoder σ)
    (hlaw : ∀ n, (decOf n).Lawful) (body : Bytes) (m : Nat) (d : Decoder σ)
    (hm : findC P decOf (body.take m) = some d) (k L : Nat) (hk : m ≤ k) (hL : m ≤ L) (lwt : Bool) :
    ∃ n, (autoReads (findC P decOf) (cutSrc body k lwt) (List.replicate n L)).term = some .eof ∧
      (autoReads (findC P decOf) (cutSrc body k lwt) (List.replicate n L)).out = d.decodeAll body := by
  have hm0 : 0 < m := by
    rcases Nat.eq_zero_or_pos m with h0 | h0
    · subst h0; simp [findC, findEncoding] at hm
    · exact h0
  obtain ⟨n, hn, _⟩ :=
    body_fully_delivered (findC P decOf) (findC_lawful P decOf hlaw) (cutSrc body k lwt) rfl L (by omega)
  cases n with
  | zero => simp [autoReads, reads] at hn
  | succ n' =>
    refine ⟨n' + 1, hn, ?_⟩
    rw [List.replicate_succ] at hn ⊢
    exact first_read_boundary_irrelevant P decOf hlaw body m d hm k L hk hL lwt _ hn

/-- `header_charset_always_applied` on `cutSrc`: a charset named by the Content-Type header is applied for every
cut offset and every buffer sequence. -/
theorem first_read_boundary_irrelevant_header (cfg : Config) (ct cs : Bytes) (lookup : Bytes → Option (Decoder σ))
    (find : Bytes → Option (Decoder σ)) (d : Decoder σ) (hl : d.Lawful)
    (hon : cfg.disable = false) (hsel : shouldDecode cfg ct = true)
    (hutf : isUtf8Label (Req.Ascii.lower cs) = false) (hlk : lookup (Req.Ascii.lower cs) = some d)
    (body : Bytes) (k : Nat) (lwt : Bool) (bufs : List Nat)
    (heof : (respReads cfg [] ct (.charset cs) lookup find (cutSrc body k lwt) bufs).term = some .eof) :
    (respReads cfg [] ct (.charset cs) lookup find (cutSrc body k lwt) bufs).out = d.decodeAll body := by
  have := header_charset_always_applied cfg ct cs lookup find d hl hon hsel hutf hlk (cutSrc body k lwt) bufs heof
  rwa [cutSrc_body] at this

-- the UTF-16LE body FF FE 68 00 3D D8 00 DE (BOM, 'h', U+1F600) cut at EVERY offset 2..8 — inside the
-- code unit of 'h', between and inside the surrogate halves — read with a 4-byte first buffer
example : (List.range 7).all (fun i =>
    (autoReads demoFind (cutSrc [0xff, 0xfe, 0x68, 0x00, 0x3d, 0xd8, 0x00, 0xde] (i + 2) false) [4, 3, 3, 3, 3, 3, 3]).out
      == [0xef, 0xbb, 0xbf, 0x68, 0xf0, 0x9f, 0x98, 0x80]) = true := by decide +kernel

end Req.Props.C15
