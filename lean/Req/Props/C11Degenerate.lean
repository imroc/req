import Req.Client.RedirectStore
import Req.Client.RedirectLoop
import Req.Lemmas.C11Store
import Req.Lemmas.C11Chain
import Req.Lemmas.C11Hdr
import Req.Lemmas.C11Loop
/-!
C11 — DEGENERATE policy arguments: nil entries at every position, constructors called with
an empty list, duplicates, a non-positive hop limit. For every such argument the property fixes what
must happen — "a redirect is followed only if EVERY configured policy permits it" quantifies over the
policies that were passed, wherever nil cells sit between them; a constructor given no name / no host
names NOTHING (AlwaysCopy() copies nothing, AllowedHost() allows nothing).
Model `Store.install` = the copy `SetRedirectPolicy` of client.go makes; spec `Store.firstRefusal ∘ nonNil`.
-/
namespace Req.Props.C11Degenerate
open Req.Proto Req.Ascii Req.Redirect Req.Redirect.Store Req.Redirect.Loop
open Req.Lemmas.C11 Req.Lemmas.C11Store

/-- For every non-empty argument list — nil cells anywhere, any
number of them — `SetRedirectPolicy` installs a closure over a list that holds the SAME cells in the
same order (so the same non-nil policies: none is dropped, whatever precedes it), and that closure
is first-refusal-wins over exactly the non-nil arguments. (The trial change `seeded/C11-r5-3`, a copy that
stops at the first nil, violates `nonNil stored = nonNil args`.) -/
theorem set_policy_keeps_all_non_nil (args : List (Option Policy)) (hne : args ≠ []) :
    ∃ stored, install args = some stored ∧ stored = args ∧ nonNil stored = nonNil args ∧
      ∀ req h via, compose stored req h via = firstRefusal (nonNil args) req h via := by
  refine ⟨copyArgs args, ?_, copyArgs_eq args, by rw [copyArgs_eq], ?_⟩
  · cases args with
    | nil => exact absurd rfl hne
    | cons a as => rfl
  · intro req h via
    rw [copyArgs_eq]
    exact compose_eq_firstRefusal args req h via

/-- `SetRedirectPolicy()` with no argument leaves `CheckRedirect` alone. -/
theorem set_policy_no_argument : install [] = none := rfl

/-- (nil, Max(2)): Max(2) is kept and refuses the third request. -/
example :
    (install [none, some (maxRedirectPolicy 2)]).map
      (fun st => (compose st [] [] ⟨⟨[], []⟩, [⟨[], []⟩]⟩).1) = some .deny := by decide

/-- A policy at ANY position of the argument list — any cells, nil or
not, before and after it — must allow a hop for the installed closure to allow it. -/
theorem non_nil_argument_enforced (pre post : List (Option Policy)) (p : Policy)
    (req : Bytes) (h : Headers) (via : Via)
    (hallow : (compose (pre ++ some p :: post) req h via).1 = .allow) :
    p.check req via = .allow :=
  (compose_allow_iff _ req h via).mp hallow p (by simp)

example : (compose [none, none, some noRedirectPolicy, none] [] [] ⟨⟨[], []⟩, []⟩).1 = .useLast := by decide

/-- Removing the nil cells (at whatever positions) changes neither the
verdict nor the resulting header map of any evaluation. -/
theorem nil_entries_irrelevant (ps : List (Option Policy)) (req : Bytes) (h : Headers) (via : Via) :
    compose ps req h via = compose (ps.filter Option.isSome) req h via := by
  rw [compose_eq_firstRefusal, compose_eq_firstRefusal, nonNil_filter_isSome]

/-- …and therefore nothing of a whole run of the hop loop: the same
requests (URLs, methods, headers, bodies) are sent and the call ends the same way, for every initial
request and script. -/
theorem nil_entries_irrelevant_loop (ps : List (Option Policy)) (jar getBody noBody : Bool)
    (ireq : Loop.Req) (script : List Reply) :
    start { ps := ps, jar := jar, getBody := getBody, noBody := noBody } ireq script =
      start { ps := ps.filter Option.isSome, jar := jar, getBody := getBody, noBody := noBody }
        ireq script := by
  unfold start
  exact run_congr_ps { ps := ps, jar := jar, getBody := getBody, noBody := noBody }
    { ps := ps.filter Option.isSome, jar := jar, getBody := getBody, noBody := noBody } rfl rfl rfl
    (fun req h via => nil_entries_irrelevant ps req h via) _ _ _

/-- With no header named the policy leaves every header map exactly
as it found it — no entry added under any key, whatever the original request carried — and allows.
(The trial change `seeded/C11-r5-2`, "no name = copy all", violates the first conjunct.) -/
theorem always_copy_empty_is_noop (req : Bytes) (h : Headers) (via : Via) :
    (alwaysCopyHeaderRedirectPolicy []).xform h via = h ∧
      (alwaysCopyHeaderRedirectPolicy []).check req via = .allow := ⟨rfl, rfl⟩

/-- The original request carries Authorization and Cookie; the stripped redirected request stays
stripped. -/
example :
    (alwaysCopyHeaderRedirectPolicy []).xform [] ⟨⟨[], [(hAuthorization, [[116]]), (hCookie, [[99]])]⟩, []⟩ = [] := by
  decide

/-- Nil and `AlwaysCopy()` arguments, at any positions and in any
number, do not change what the installed closure computes (verdict and header map). -/
theorem degenerate_args_irrelevant (ds : List PolicyDesc) (req : Bytes) (h : Headers) (via : Via) :
    compose (ds.map PolicyDesc.denote) req h via =
      compose ((normalize ds).map PolicyDesc.denote) req h via :=
  (compose_normalize ds req h via).symm

/-- A client configured with a list containing
`AlwaysCopyHeaderRedirectPolicy()` / nil entries sends, on every run, exactly the requests — header
for header, at the final AND every intermediate hop — that the client configured without them sends.
In particular no Authorization / Cookie that Go's cross-origin rule stripped comes back. -/
theorem always_copy_empty_is_noop_loop (ds : List PolicyDesc) (jar getBody noBody : Bool)
    (ireq : Loop.Req) (script : List Reply) :
    start { ps := ds.map PolicyDesc.denote, jar := jar, getBody := getBody, noBody := noBody } ireq script =
      start { ps := (normalize ds).map PolicyDesc.denote, jar := jar, getBody := getBody, noBody := noBody }
        ireq script := by
  unfold start
  exact run_congr_ps { ps := ds.map PolicyDesc.denote, jar := jar, getBody := getBody, noBody := noBody }
    { ps := (normalize ds).map PolicyDesc.denote, jar := jar, getBody := getBody, noBody := noBody }
    rfl rfl rfl (fun req h via => degenerate_args_irrelevant ds req h via) _ _ _

example : normalize [.nil, .alwaysCopy [], .sameHost, .nil, .alwaysCopy [[65]], .alwaysCopy []] =
    [.sameHost, .alwaysCopy [[65]]] := rfl

/-- `AllowedHostRedirectPolicy()` names no host: refuses all. -/
theorem allowed_host_empty_refuses_all (req : Bytes) (via : Via) :
    (allowedHostRedirectPolicy []).check req via = .deny := rfl

theorem allowed_domain_empty_refuses_all (req : Bytes) (via : Via) :
    (allowedDomainRedirectPolicy []).check req via = .deny := rfl

/-- A limit ≤ 0 never lets a redirect through (`len(via) ≥ 1`). -/
theorem max_nonpositive_refuses_all (n : Int) (hn : n ≤ 0) (req : Bytes) (via : Via) :
    (maxRedirectPolicy n).check req via = .deny := by
  cases hc : (maxRedirectPolicy n).check req via with
  | deny => rfl
  | allow =>
    have := (max_check_iff n req via).mp hc
    simp only [Via.length] at this
    omega
  | useLast => simp [maxRedirectPolicy] at hc; split at hc <;> simp at hc

/-- With `AllowedHost()` or `AllowedDomain()` anywhere in the argument
list (nil cells, other policies around it), every run sends the original request only. -/
theorem allowed_empty_one_request (cfg : Config)
    (hp : some (allowedHostRedirectPolicy []) ∈ cfg.ps ∨ some (allowedDomainRedirectPolicy []) ∈ cfg.ps)
    (ireq : Loop.Req) (script : List Reply) : (start cfg ireq script).1.length = 1 := by
  rcases hp with hp | hp
  · exact Req.Lemmas.C11Loop.refuse_all_one_request cfg _ hp (fun _ _ => by simp [allowedHostRedirectPolicy]) ireq script
  · exact Req.Lemmas.C11Loop.refuse_all_one_request cfg _ hp (fun _ _ => by simp [allowedDomainRedirectPolicy]) ireq script

theorem max_nonpositive_one_request (cfg : Config) (n : Int) (hn : n ≤ 0)
    (hp : some (maxRedirectPolicy n) ∈ cfg.ps)
    (ireq : Loop.Req) (script : List Reply) : (start cfg ireq script).1.length = 1 :=
  Req.Lemmas.C11Loop.refuse_all_one_request cfg _ hp
    (fun req via => by rw [max_nonpositive_refuses_all n hn]; simp) ireq script

/-- An allow-list is a set — repeating an entry (at any
positions) changes no verdict. -/
theorem allowed_host_duplicates_irrelevant (l : List Bytes) (req : Bytes) (via : Via) :
    (allowedHostRedirectPolicy (dedupList l)).check req via = (allowedHostRedirectPolicy l).check req via := by
  simp only [allowedHost_check, List.mem_map, mem_dedupList]

theorem allowed_domain_duplicates_irrelevant (l : List Bytes) (req : Bytes) (via : Via) :
    (allowedDomainRedirectPolicy (dedupList l)).check req via = (allowedDomainRedirectPolicy l).check req via := by
  simp only [allowedDomain_check, List.mem_map, mem_dedupList]

/-- Naming a header twice (in any spelling positions) copies
it once: the values of every header after the policy ran are those of the duplicate-free list. -/
theorem always_copy_duplicates_irrelevant (l : List Bytes) (req : Headers) (via : Via) (k : Bytes) :
    ((alwaysCopyHeaderRedirectPolicy (dedupList l)).xform req via).values k =
      ((alwaysCopyHeaderRedirectPolicy l).xform req via).values k := by
  have e1 := alwaysCopy_values (dedupList l) req via.first.hdr k
  have e2 := alwaysCopy_values l req via.first.hdr k
  simp only [alwaysCopyHeaderRedirectPolicy] at e1 e2 ⊢
  rw [e1, e2]
  simp only [mem_dedupList]

/-- `X-A, x-a, X-A` listed; original has one value: copied once. -/
example :
    ((alwaysCopyHeaderRedirectPolicy [[88,45,65],[120,45,97],[88,45,65]]).xform []
      ⟨⟨[], [([88,45,65], [[49]])]⟩, []⟩).values [88,45,65] = [[49]] := by decide

/-- Two argument lists with the same SET of non-nil policies
(any multiplicities, any order, any nil cells) allow exactly the same hops. -/
theorem duplicate_policies_same_decision (ps ps' : List (Option Policy))
    (hset : ∀ p, some p ∈ ps ↔ some p ∈ ps') (req : Bytes) (h h' : Headers) (via : Via) :
    (compose ps req h via).1 = .allow ↔ (compose ps' req h' via).1 = .allow := by
  rw [compose_allow_iff, compose_allow_iff]
  constructor
  · intro hall p hp; exact hall p ((hset p).mpr hp)
  · intro hall p hp; exact hall p ((hset p).mp hp)

end Req.Props.C11Degenerate
