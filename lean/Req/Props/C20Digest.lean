import Req.Client.DigestAuth
import Req.Client.Rfc7616
import Req.Lemmas.C20Digest
import Req.Lemmas.C20Accept
import Req.Lemmas.C20Quote
import Req.Lemmas.C20Select
import Req.Lemmas.C20Meaning
/-!
C20 — digest authentication, property theorems about `Req.DigestAuth`, the model of digest.go
(RFC 7230 quoted-strings read and written, qop lists, several field lines): from a parsed challenge
to the verdict of the verifier, the middleware, and the challenge as the server writes it
(`parse_faithful`, `digest_accepted_wire`). The statements are written with the definitions of
`Req/Lemmas/C20Tok.lean` (written form), `C20Meaning.lean` (meaning), `C20Select.lean` (`qopOptions`).
-/
namespace Req.Props.C20
open Req.Proto Req.DigestAuth Req.Rfc7616 Req.Ascii
open Req.Digest hiding authorize handle exchange parseChallenge Resp

/-- The server's record of a challenge that the client read as `c`: the same realm, nonce,
opaque, algorithm token, the qop OPTIONS it listed, the userhash flag. `Req.Rfc7616.issuedOf` differs
in `qops` only: `Req.Digest` can hold a single option, which it records as it stands. -/
def issuedOfC (c : Challenge) : Issued :=
  { realm := c.realm, nonce := c.nonce,
    opaq := if c.opaq.isEmpty then none else some c.opaq,
    algorithm := if c.algorithm.isEmpty then none else some c.algorithm,
    qops := qopOptions c.qop,
    userhash := c.userhash == b!"true" }

/-- Everything the header carries inside a quoted-string can be carried by a field value at all
(no control byte except HTAB). Quotes and backslashes are fine. -/
structure Sendable (c : Challenge) (user uri : Bytes) : Prop where
  user : c.userhash = b!"true" ∨ user.all isText = true
  realm : c.realm.all isText = true
  nonce : c.nonce.all isText = true
  uri : uri.all isText = true
  opaq : c.opaq.all isText = true

theorem authorize_ok {H : Alg → Bytes → Bytes} {c : Challenge} {cr : Cred} {rnd : Option Bytes} {hdr : Bytes}
    (ha : authorize H algOf c cr rnd = .ok hdr) :
    ∃ alg qop r, selectQop algOf c.algorithm c.qop = .ok qop ∧ algOf c.algorithm = some alg ∧
      rnd = some r ∧
      hdr = digestPrefix ++ commaJoin ((params (H alg) { c with qop := qop } cr (hex8 (cr.nc + 1))
        ((hex r).take 32)).map renderParam) := by
  unfold authorize at ha
  split at ha
  · cases ha
  · rename_i qop hsel
    split at ha
    · cases ha
    · cases ha
    · rename_i alg r halg
      cases ha
      exact ⟨alg, qop, r, hsel, halg, rfl, rfl⟩

theorem selected_qop {algorithm options qop : Bytes} (h : selectQop algOf algorithm options = .ok qop) :
    qop = [] ∨ qop = b!"auth" := by
  rcases (selectQop_ok h).2 with ⟨e, _, _⟩ | ⟨e, _, _⟩
  · exact Or.inl e
  · exact Or.inr e

theorem params_sendable (H : Alg → Bytes → Bytes) (hH : ∀ a x, (H a x).all isText = true)
    {c : Challenge} {user uri : Bytes} (pass method : Bytes) (hx : Sendable c user uri) {alg : Alg} {qop : Bytes}
    (hsel : selectQop algOf c.algorithm c.qop = .ok qop) (halg : algOf c.algorithm = some alg) (r : Bytes) :
    ∀ p ∈ params (H alg) { c with qop := qop } { user, pass, method, uri } b!"00000001" ((hex r).take 32),
      Param.ok isText p := by
  exact params_ok (H alg) { c with qop := qop } { user, pass, method, uri } b!"00000001"
    ((hex r).take 32) isText (hh := hH alg) (huser := hx.user) (hrealm := hx.realm) (hnonce := hx.nonce)
    (huri := hx.uri) (hop := hx.opaq) (halg := algOf_token halg) (hqop := selected_qop hsel)
    (hnc := by decide) (hcn := all_text_of_qd (all_take 32 (hex_all_qd r)))

/-- **digest_accepted**: for every hash function whose output a header field can carry (`hH`; real
output is hex: `exH_text`), challenge as the client read it, account,
method, request target and entropy: what `authorize` produces is accepted by the independent
RFC 7616 verifier that holds the same challenge — quotes, backslashes, commas, spaces and
non-ASCII bytes in the user name, realm, nonce, target and opaque included; a qop LIST is
answered with `auth`. The only hypothesis on the strings is that a header field can carry them
at all (`Sendable`: no control bytes; otherwise the transport refuses the request, see
`unsendable_refused`). -/
theorem digest_accepted (H : Alg → Bytes → Bytes) (hH : ∀ a x, (H a x).all isText = true)
    (c : Challenge) (user pass method uri body : Bytes) (rnd : Option Bytes) (hdr : Bytes)
    (hx : Sendable c user uri)
    (ha : authorize H algOf c { user, pass, method, uri } rnd = .ok hdr) :
    verify H specAlg { issued := issuedOfC c, method, uri, user, pass, body } hdr = true := by
  obtain ⟨alg, qop, r, hsel, halg, rfl, rfl⟩ := authorize_ok ha
  rw [show hex8 (({ user, pass, method, uri } : Cred).nc + 1) = b!"00000001" from hex8_one]
  have hpc := parseCredentials_renderParams _ (params_ne_nil (H alg) { c with qop := qop }
    { user, pass, method, uri } b!"00000001" ((hex r).take 32))
    (params_sendable H hH pass method hx hsel halg r)
  refine verify_params H alg { c with qop := qop } (issuedOfC c) user pass method uri body (hpc := hpc)
    (realm := rfl) (nonce := rfl) (opaq := rfl) (algorithm := rfl) (userhash := rfl)
    (hash := specAlg_effAlg halg) (qop := ?_)
  rcases (selectQop_ok hsel).2 with ⟨hq1, hq2, hs⟩ | ⟨hq1, _, hcont⟩
  · exact Or.inl ⟨hq1, by simp [issuedOfC, hq2, qopOptions], hs⟩
  · exact Or.inr ⟨hq1, by simpa [issuedOfC] using hcont⟩

/-- The header `authorize` writes from `Sendable` values is a legal field value: the transport will
not refuse it. -/
theorem sendable_header_text (H : Alg → Bytes → Bytes) (hH : ∀ a x, (H a x).all isText = true)
    (c : Challenge) (user pass method uri : Bytes) (rnd : Option Bytes) (hdr : Bytes)
    (hx : Sendable c user uri)
    (ha : authorize H algOf c { user, pass, method, uri } rnd = .ok hdr) : hdr.all isText = true := by
  obtain ⟨alg, qop, r, hsel, halg, rfl, rfl⟩ := authorize_ok ha
  rw [show hex8 (({ user, pass, method, uri } : Cred).nc + 1) = b!"00000001" from hex8_one]
  exact header_text _ (params_sendable H hH pass method hx hsel halg r)

/-- **answer_shape**: whatever the challenge offers, the answer is written from the parameter
list `params` with the qop option `auth` or none at all — never `auth-int`, never a list (so no
hash of a body is ever claimed) — and with the nonce count of a FIRST use. -/
theorem answer_shape (H : Alg → Bytes → Bytes) (c : Challenge) (cr : Cred) (rnd : Option Bytes) (hdr : Bytes)
    (ha : authorize H algOf c cr rnd = .ok hdr) :
    ∃ alg qop r, algOf c.algorithm = some alg ∧ rnd = some r ∧ (qop = [] ∨ qop = b!"auth") ∧
      hdr = digestPrefix ++ commaJoin ((params (H alg) { c with qop := qop } cr (hex8 (cr.nc + 1))
        ((hex r).take 32)).map renderParam) := by
  obtain ⟨alg, qop, r, hsel, halg, hr, hh⟩ := authorize_ok ha
  exact ⟨alg, qop, r, halg, hr, selected_qop hsel, hh⟩

/-- **nonce_count_is_one**: every header `createDigestAuth` returns is written from `params` with the
nonce count `00000001` and the qop `auth` or none: no call counts on from an earlier one (lane `seq`
exercises that the middleware keeps no nonce between calls). -/
theorem nonce_count_is_one (H : Alg → Bytes → Bytes) (lines : List Bytes) (user pass method uri : Bytes)
    (rnd : Option Bytes) (hdr : Bytes)
    (ha : createDigestAuth H algOf lines { user, pass, method, uri } rnd = .ok hdr) :
    ∃ (alg : Alg) (c : Challenge) (qop r : Bytes), (qop = [] ∨ qop = b!"auth") ∧
      hdr = digestPrefix ++ commaJoin ((params (H alg) { c with qop := qop } { user, pass, method, uri }
        b!"00000001" ((hex r).take 32)).map renderParam) := by
  rw [createDigestAuth_eq] at ha
  split at ha
  · cases ha
  · rename_i c _
    obtain ⟨alg, qop, r, _, _, hq, hh⟩ := answer_shape H c _ rnd hdr ha
    exact ⟨alg, c, qop, r, hq, hh.trans (by rw [show hex8 (0 + 1) = b!"00000001" from hex8_one])⟩

/-- A challenge the client can answer: registered algorithm, no qop or a qop list offering
`auth`, and not the unanswerable combination "-sess without qop". -/
def Supported (c : Challenge) : Prop :=
  (algOf c.algorithm).isSome = true ∧
  (c.qop = [] ∨ (qopOptions c.qop).contains b!"auth" = true) ∧
  ¬(isSess c.algorithm = true ∧ c.qop = [])

theorem supported_iff_answerable (c : Challenge) : Supported c ↔ answerable algOf c = true := by
  rw [answerable_iff, selectQop_eq, Supported]
  cases algOf c.algorithm with
  | none => simp
  | some a =>
    by_cases hc : b!"auth" ∈ qopOptions c.qop
    · have : c.qop ≠ [] := by rintro e; rw [e] at hc; exact absurd hc (by decide)
      simp [hc, this]
    · by_cases ho : c.qop = []
      · rw [ho] at hc
        by_cases hs : isSess c.algorithm = true <;> simp [hc, ho, hs]
      · simp [hc, ho]

/-- **bad_challenge_errors**: an unsupported challenge (unknown algorithm, qop options without
`auth` — `auth-int` alone included —, `-sess` without qop) yields an ERROR for every hash,
account, method, URI and entropy — never a header. -/
theorem bad_challenge_errors (H : Alg → Bytes → Bytes) (c : Challenge) (cr : Cred) (rnd : Option Bytes)
    (h : ¬Supported c) : ∃ e, authorize H algOf c cr rnd = .error e := by
  rw [supported_iff_answerable, answerable_iff] at h
  unfold authorize
  cases hs : selectQop algOf c.algorithm c.qop with
  | ok q => exact absurd ⟨q, hs⟩ h
  | error e => exact ⟨e, rfl⟩

/-- Which error: `algNotSupported` for an unknown algorithm, else the error of `selectQop`, one of
the two kinds. -/
theorem bad_challenge_kinds (H : Alg → Bytes → Bytes) (c : Challenge) (cr : Cred) (rnd : Option Bytes) :
    (algOf c.algorithm = none → authorize H algOf c cr rnd = .error .algNotSupported) ∧
    (∀ e, selectQop algOf c.algorithm c.qop = .error e → authorize H algOf c cr rnd = .error e ∧
      (e = .algNotSupported ∨ e = .qopNotSupported)) := by
  refine ⟨?_, ?_⟩
  · intro h
    have := (selectQop_error_kinds algOf c.algorithm c.qop).1 h
    simp [authorize, this]
  · intro e he
    exact ⟨by simp [authorize, he], (selectQop_error_kinds algOf c.algorithm c.qop).2 e he⟩

/-- `auth-int` alone is refused with `qopNotSupported` (digest.go does not implement it). -/
theorem auth_int_only_refused (H : Alg → Bytes → Bytes) (c : Challenge) (cr : Cred) (rnd : Option Bytes)
    (ha : (algOf c.algorithm).isSome = true) (hq : c.qop = b!"auth-int") :
    authorize H algOf c cr rnd = .error .qopNotSupported := by
  cases halg : algOf c.algorithm with
  | none => simp [halg] at ha
  | some a =>
    have : selectQop algOf c.algorithm c.qop = .error .qopNotSupported := by
      rw [selectQop_eq, halg, hq]
      rfl
    simp [authorize, this]

theorem supported_answered (H : Alg → Bytes → Bytes) (c : Challenge) (cr : Cred) (r : Bytes)
    (h : Supported c) : ∃ hdr, authorize H algOf c cr (some r) = .ok hdr := by
  obtain ⟨q, hq⟩ := (answerable_iff algOf c).mp ((supported_iff_answerable c).mp h)
  obtain ⟨⟨alg, halg⟩, _⟩ := selectQop_ok hq
  refine ⟨digestPrefix ++ commaJoin ((params (H alg) { c with qop := q } cr (hex8 (cr.nc + 1))
    ((hex r).take 32)).map renderParam), ?_⟩
  simp only [authorize, hq, halg]

/-- The entropy source failing is an error as well. -/
theorem no_entropy_errors (H : Alg → Bytes → Bytes) (c : Challenge) (cr : Cred) :
    ∃ e, authorize H algOf c cr none = .error e := by
  unfold authorize
  cases hs : selectQop algOf c.algorithm c.qop with
  | error e => exact ⟨e, rfl⟩
  | ok q =>
    cases halg : algOf c.algorithm with
    | none => exact ⟨_, rfl⟩
    | some a => exact ⟨_, rfl⟩

/-- `authorize` does not look at `domain` and `stale`: a challenge with `stale=true` is answered like
the same challenge without. -/
theorem stale_domain_ignored (H : Alg → Bytes → Bytes) (c : Challenge) (cr : Cred) (rnd : Option Bytes)
    (d s : Bytes) :
    authorize H algOf { c with domain := d, stale := s } cr rnd = authorize H algOf c cr rnd := by
  unfold authorize
  simp only
  cases selectQop algOf c.algorithm c.qop with
  | error e => rfl
  | ok q => rfl

/-- **non401_untouched**: any response that is not a 401 (or carries a transport error) is
left exactly as it is: no challenge is parsed, nothing is sent. -/
theorem non401_untouched (H : Alg → Bytes → Bytes) (user pass method uri : Bytes) (body : Body)
    (rnd : Option Bytes) (resp : DigestAuth.Resp) (h : resp.err = true ∨ resp.status ≠ 401) :
    handle H algOf user pass method uri body rnd resp = .untouched := by
  unfold handle
  rcases h with h | h <;> simp [h]

/-- in particular a 407 with `Proxy-Authenticate` (and even a `WWW-Authenticate` next to it) is
never answered with an `Authorization` header -/
theorem proxy_407_untouched (H : Alg → Bytes → Bytes) (user pass method uri : Bytes) (body : Body)
    (rnd : Option Bytes) (www : List Bytes) :
    handle H algOf user pass method uri body rnd { err := false, status := 407, wwwAuth := www } = .untouched :=
  non401_untouched H user pass method uri body rnd _ (Or.inr (by simp))

theorem non401_one_request (H : Alg → Bytes → Bytes) (server : Wire → DigestAuth.Resp) (user pass method uri : Bytes)
    (body : Body) (rnd : Option Bytes)
    (h : (server { method, uri, authorization := none, body := bodyBytes body }).status ≠ 401) :
    exchange H algOf server user pass method uri body rnd =
      ([{ method, uri, authorization := none, body := bodyBytes body }], .untouched) := by
  simp only [exchange, non401_untouched H user pass method uri body rnd _ (Or.inr h)]

/-- A malformed or unanswerable challenge header (whatever `createDigestAuth` rejects, including
no header at all) is an error, not a request. -/
theorem malformed_challenge_errors (H : Alg → Bytes → Bytes) (user pass method uri : Bytes) (body : Body)
    (rnd : Option Bytes) (resp : DigestAuth.Resp) (e : Err) (h401 : resp.err = false ∧ resp.status = 401)
    (h : createDigestAuth H algOf resp.wwwAuth { user, pass, method, uri } rnd = .error e) :
    handle H algOf user pass method uri body rnd resp = .failed e := by
  unfold handle
  simp only [h401.1, h401.2, bne_self_eq_false, Bool.or_self, Bool.false_eq_true, if_false, h]

theorem no_header_errors (H : Alg → Bytes → Bytes) (cr : Cred) (rnd : Option Bytes) :
    createDigestAuth H algOf [] cr rnd = .error .badChallenge := rfl

/-- **answered_once**: whatever the origin answers (any function `server`), a call puts at most
two requests on the wire; the second exists exactly when the middleware decided to re-send, it
is the first request plus the Authorization header — same method, same request target — and
the response to it is not examined again. -/
theorem answered_once (H : Alg → Bytes → Bytes) (server : Wire → DigestAuth.Resp) (user pass method uri : Bytes)
    (body : Body) (rnd : Option Bytes) :
    let x := exchange H algOf server user pass method uri body rnd
    let first : Wire := { method, uri, authorization := none, body := bodyBytes body }
    (x.1 = [first] ∧ ∀ hdr b, x.2 ≠ .resend hdr b) ∨
    (∃ hdr b, x.2 = .resend hdr b ∧
      x.1 = [first, { method, uri, authorization := some hdr, body := b }]) :=
  resend_shape _ (fun hdr b => { method, uri, authorization := some hdr, body := b }) _

theorem at_most_two_requests (H : Alg → Bytes → Bytes) (server : Wire → DigestAuth.Resp) (user pass method uri : Bytes)
    (body : Body) (rnd : Option Bytes) :
    (exchange H algOf server user pass method uri body rnd).1.length ≤ 2 := by
  rcases answered_once H server user pass method uri body rnd with ⟨h, _⟩ | ⟨_, _, _, h⟩ <;>
    rw [h] <;> simp

/-- **body_resent_intact**: when the request is sent again its body is the original body —
byte for byte, and a request without body stays without —, the Authorization value is the
one `createDigestAuth` computed from the field lines of the 401 and it is a legal field value. A
body that cannot be produced again (io.Reader) is never re-sent. -/
theorem body_resent_intact (H : Alg → Bytes → Bytes) (user pass method uri : Bytes) (body : Body)
    (rnd : Option Bytes) (resp : DigestAuth.Resp) (hdr : Bytes) (b : Option Bytes)
    (h : handle H algOf user pass method uri body rnd resp = .resend hdr b) :
    b = bodyBytes body ∧ (∀ s, body ≠ .stream s) ∧ resp.status = 401 ∧ resp.err = false ∧
    createDigestAuth H algOf resp.wwwAuth { user, pass, method, uri } rnd = .ok hdr ∧
    hdr.all isText = true := by
  unfold handle at h
  split at h
  · cases h
  · rename_i h401
    have h401' : resp.err = false ∧ resp.status = 401 := by
      simp only [Bool.or_eq_true, bne_iff_ne, ne_eq, not_or, Bool.not_eq_true, Decidable.not_not] at h401
      exact h401
    split at h
    · cases h
    · rename_i hdr' hc
      cases body with
      | none | replayable _ =>
        simp only at h
        split at h
        · rename_i hall
          simp only [Outcome.resend.injEq] at h
          exact ⟨h.2.symm, (by intro s e; cases e), h401'.2, h401'.1, h.1 ▸ hc, h.1 ▸ hall⟩
        · cases h
      | stream _ | setupFails => cases h

/-- A value no header field can carry (a control byte — CR, LF, NUL … — in the user name when it
is not hashed, or in the realm, nonce, target, opaque) makes the call FAIL: the transport refuses
the request, nothing is sent, in particular nothing is injected. -/
theorem unsendable_refused (H : Alg → Bytes → Bytes) (user pass method uri : Bytes) (b : Option Bytes)
    (rnd : Option Bytes) (resp : DigestAuth.Resp) (hdr : Bytes) (h401 : resp.err = false ∧ resp.status = 401)
    (hc : createDigestAuth H algOf resp.wwwAuth { user, pass, method, uri } rnd = .ok hdr)
    (hbad : hdr.all isText = false) :
    handle H algOf user pass method uri (match b with | none => .none | some x => .replayable x) rnd resp =
      .failed .invalidHeader := by
  unfold handle
  simp only [h401.1, h401.2, bne_self_eq_false, Bool.or_self, Bool.false_eq_true, if_false, hc]
  have hb : hdr.all isFieldByte = false := hbad
  cases b <;> simp [hb]

/-- **parse_faithful**: `parseChallenge` reads EVERY `WWW-Authenticate` value that is written
according to RFC 7235 section 4.1 — any number of challenges of any schemes, each `scheme`,
`scheme 1*SP token68` or `scheme 1*SP auth-param *( OWS "," OWS auth-param )`, parameters as
`token BWS "=" BWS ( token / quoted-string )` with any quoted-pairs, commas and `=` inside
quoted-strings, any SP/HTAB around the commas, empty list elements, scheme and parameter names in
any case (`Elem`, `ElemW`, `ParamW`, `ValW` in `lean/Req/Lemmas/C20Tok.lean`) — as what it MEANS
(`meaning`: the list of challenges with their parameters; a parameter name occurs once per
challenge, a Digest challenge has no token68 and no charset other than UTF-8): the answer is the
first Digest challenge of the meaning that can be answered (RFC 7616 section 3.7), else the error
`pick` assigns. -/
theorem parse_faithful (xs : List Elem) (hne : xs ≠ []) (hok : ∀ x ∈ xs, x.OK) (chs : List SChal)
    (hm : meaning (xs.map (·.e)) = some chs) :
    parseChallenge algOf (commaCat (xs.map Elem.render)) = pick algOf (chs.filterMap digestOf) := by
  have := parseChallenge_meaning algOf xs hne hok
  rwa [hm] at this

/-- … and the same for a response with SEVERAL `WWW-Authenticate` field lines (joined with
`", "` by `createDigestAuth`): the meaning is that of all elements of all lines in order. -/
theorem parse_faithful_lines (ls : List (List Elem)) (hne : ls ≠ []) (hl : ∀ l ∈ ls, l ≠ [])
    (hok : ∀ l ∈ ls, ∀ x ∈ l, x.OK) (chs : List SChal)
    (hm : meaning (ls.flatten.map (·.e)) = some chs) :
    parseChallenge algOf (commaJoin (ls.map lineRender)) = pick algOf (chs.filterMap digestOf) := by
  have := parseChallenge_meaning_lines algOf ls hne hl hok
  rwa [hm] at this

/-- The parameter list of a Digest challenge says what the server means: realm and nonce are
there, opaque and algorithm are there iff issued (and not empty), `qop` lists the offered
options (comma separated, optional white space), userhash is `true` iff the server supports it.
Every other parameter (domain, stale, charset, extensions) is free. -/
structure Describes (ps : List (Bytes × Bytes)) (sc : Issued) : Prop where
  realm : lastVal ps b!"realm" = some sc.realm
  nonce : lastVal ps b!"nonce" = some sc.nonce
  opaq : lastVal ps b!"opaque" = sc.opaq
  opaqNe : sc.opaq ≠ some []
  algorithm : lastVal ps b!"algorithm" = sc.algorithm
  algorithmNe : sc.algorithm ≠ some []
  qop : sc.qops = match lastVal ps b!"qop" with
        | none => []
        | some q => qopOptions q
  userhash : sc.userhash = (lastVal ps b!"userhash" == some b!"true")

theorem issuedOfC_challengeOfParams (ps : List (Bytes × Bytes)) (sc : Issued) (h : Describes ps sc) :
    issuedOfC (challengeOfParams ps) = sc := by
  obtain ⟨er, en, eo, ea, eu, eq⟩ := issued_of_fields (challengeOfParams ps) (lastVal ps)
    (fun k hk => field_challengeOfParams k hk ps) sc (realm := h.realm) (nonce := h.nonce)
    (opaq := h.opaq) (opaqNe := h.opaqNe) (algorithm := h.algorithm) (algorithmNe := h.algorithmNe)
    (userhash := h.userhash)
  have hq : qopOptions ((lastVal ps b!"qop").getD []) = sc.qops := by
    rw [h.qop]
    cases lastVal ps b!"qop" <;> rfl
  unfold issuedOfC
  rw [er, en, eo, ea, eu, eq, hq]

/-- a header that is a legal field value was made from values a field can carry -/
theorem sendable_of_header (H : Alg → Bytes → Bytes) (c : Challenge) (user pass method uri : Bytes)
    (rnd : Option Bytes) (hdr : Bytes)
    (ha : authorize H algOf c { user, pass, method, uri } rnd = .ok hdr) (hall : hdr.all isText = true) :
    Sendable c user uri := by
  obtain ⟨alg, qop, r, _, _, rfl, rfl⟩ := authorize_ok ha
  have hq := quoted_values_of_header _ hall
  refine ⟨?_, ?_, ?_, ?_, ?_⟩
  · by_cases huh : (c.userhash == b!"true") = true
    · exact Or.inl (eq_of_beq huh)
    · exact Or.inr (hq ⟨b!"username", user, true⟩ (by simp [params, huh]) rfl)
  · exact hq ⟨b!"realm", c.realm, true⟩
      (by simp only [params, List.mem_append, List.mem_cons, true_or, or_true]) rfl
  · exact hq ⟨b!"nonce", c.nonce, true⟩
      (by simp only [params, List.mem_append, List.mem_cons, true_or, or_true]) rfl
  · exact hq ⟨b!"uri", uri, true⟩
      (by simp only [params, List.mem_append, List.mem_cons, true_or, or_true]) rfl
  · cases ho : c.opaq with
    | nil => rfl
    | cons o os =>
      have := hq ⟨b!"opaque", c.opaq, true⟩ (by simp [params, ho]) rfl
      rw [ho] at this
      exact this

/-- **digest_accepted_wire** — the END-TO-END form for a request without body, with no exclusions
on the strings. The verifier holds what
the SERVER issued: for every hash function whose output a header field can carry (`hH`), every
response with any number of
`WWW-Authenticate` lines written in any way RFC 7235 allows (`Elem.OK`), every meaning of them
(`meaning`), account, method, target and entropy: IF the middleware re-sends at all, then the
challenge it answered is the FIRST Digest challenge of the response that can be answered, and the
Authorization value is accepted by the RFC 7616 verifier holding what the parameters of THAT
challenge describe (`Describes`). -/
theorem digest_accepted_wire (H : Alg → Bytes → Bytes) (hH : ∀ a x, (H a x).all isText = true)
    (ls : List (List Elem)) (hne : ls ≠ []) (hl : ∀ l ∈ ls, l ≠ []) (hok : ∀ l ∈ ls, ∀ x ∈ l, x.OK)
    (chs : List SChal) (hm : meaning (ls.flatten.map (·.e)) = some chs)
    (user pass method uri body : Bytes) (rnd : Option Bytes) (hdr : Bytes)
    (ha : handle H algOf user pass method uri .none rnd
      { err := false, status := 401, wwwAuth := ls.map lineRender } = .resend hdr none) :
    ∃ ch ∈ chs, isDigest ch.scheme = true ∧
      (chs.filterMap digestOf).find? (answerable algOf) = some (challengeOfParams ch.params) ∧
      ∀ sc, Describes ch.params sc →
        verify H specAlg { issued := sc, method, uri, user, pass, body } hdr = true := by
  obtain ⟨_, _, _, _, hc, hall⟩ := body_resent_intact H user pass method uri .none rnd _ hdr none ha
  rw [createDigestAuth_eq, parse_faithful_lines ls hne hl hok chs hm] at hc
  cases hp : pick algOf (chs.filterMap digestOf) with
  | error e => rw [hp] at hc; cases hc
  | ok c =>
    rw [hp] at hc
    simp only at hc
    have hfind := pick_ok hp
    have hmem : c ∈ chs.filterMap digestOf := List.mem_of_find?_eq_some hfind
    simp only [List.mem_filterMap] at hmem
    obtain ⟨ch, hch, hd⟩ := hmem
    unfold digestOf at hd
    split at hd
    · rename_i hdig
      simp only [Option.some.injEq] at hd
      subst hd
      refine ⟨ch, hch, hdig, hfind, ?_⟩
      intro sc hdesc
      have hs := sendable_of_header H _ user pass method uri rnd hdr hc hall
      have := digest_accepted H hH _ user pass method uri body rnd hdr hs hc
      rw [issuedOfC_challengeOfParams ch.params sc hdesc] at this
      exact this
    · cases hd

/-- what `parseChallenge` refuses, `createDigestAuth` refuses with the same error (no field line
at all: both say `badChallenge`) -/
theorem createDigestAuth_parse_error (H : Alg → Bytes → Bytes) (lines : List Bytes) (cr : Cred)
    (rnd : Option Bytes) (e : Err) (hbad : parseChallenge algOf (commaJoin lines) = .error e) :
    createDigestAuth H algOf lines cr rnd = .error e := by
  rw [createDigestAuth_eq, hbad]

/-- A response whose Digest challenges cannot be answered (or that has none) is never answered:
the outcome is an error. -/
theorem unanswerable_errors (H : Alg → Bytes → Bytes)
    (ls : List (List Elem)) (hne : ls ≠ []) (hl : ∀ l ∈ ls, l ≠ []) (hok : ∀ l ∈ ls, ∀ x ∈ l, x.OK)
    (chs : List SChal) (hm : meaning (ls.flatten.map (·.e)) = some chs)
    (hnone : (chs.filterMap digestOf).find? (answerable algOf) = none)
    (user pass method uri : Bytes) (body : Body) (rnd : Option Bytes) :
    ∃ e, handle H algOf user pass method uri body rnd
      { err := false, status := 401, wwwAuth := ls.map lineRender } = .failed e := by
  obtain ⟨e, he⟩ := pick_none (algOf' := algOf) hnone
  exact ⟨e, malformed_challenge_errors H user pass method uri body rnd _ e ⟨rfl, rfl⟩
    (createDigestAuth_parse_error H _ _ rnd e (by rw [parse_faithful_lines ls hne hl hok chs hm, he]))⟩

/-- **meaningless_refused**: a response whose field lines are well written element by element but
have NO meaning as a list of challenges — a parameter before any scheme, a parameter name for the
second time in one challenge (RFC 7235 section 2.1), a token68 on a Digest challenge, a charset
other than UTF-8 on a Digest challenge — is an ERROR: a malformed challenge is never answered,
whatever else the response contains. -/
theorem meaningless_refused (H : Alg → Bytes → Bytes)
    (ls : List (List Elem)) (hne : ls ≠ []) (hl : ∀ l ∈ ls, l ≠ []) (hok : ∀ l ∈ ls, ∀ x ∈ l, x.OK)
    (hm : meaning (ls.flatten.map (·.e)) = none)
    (user pass method uri : Bytes) (body : Body) (rnd : Option Bytes) :
    ∃ e, handle H algOf user pass method uri body rnd
      { err := false, status := 401, wwwAuth := ls.map lineRender } = .failed e := by
  have := parseChallenge_meaning_lines algOf ls hne hl hok
  rw [hm] at this
  obtain ⟨e, he⟩ := this
  exact ⟨e, malformed_challenge_errors H user pass method uri body rnd _ e ⟨rfl, rfl⟩
    (createDigestAuth_parse_error H _ _ rnd e he)⟩

/-- e.g. `Digest realm="a", nonce="n", Realm="b"` and `realm="a", Digest nonce="n"` -/
example : meaning [.schemeParam b!"Digest" b!" " ⟨b!"realm", [], [], plainQ b!"a"⟩,
      .param ⟨b!"nonce", [], [], plainQ b!"n"⟩, .param ⟨b!"Realm", [], [], plainQ b!"b"⟩] = none ∧
    meaning [.param ⟨b!"realm", [], [], plainQ b!"a"⟩,
      .schemeParam b!"Digest" b!" " ⟨b!"nonce", [], [], plainQ b!"n"⟩] = none := by
  constructor <;> rfl

/-- Conversely, when the first answerable Digest challenge exists, entropy is available and the
values can be carried by a header field, the request IS sent again (request without body). -/
theorem supported_resent (H : Alg → Bytes → Bytes)
    (ls : List (List Elem)) (hne : ls ≠ []) (hl : ∀ l ∈ ls, l ≠ []) (hok : ∀ l ∈ ls, ∀ x ∈ l, x.OK)
    (chs : List SChal) (hm : meaning (ls.flatten.map (·.e)) = some chs) (c : Challenge)
    (hfind : (chs.filterMap digestOf).find? (answerable algOf) = some c)
    (user pass method uri r : Bytes) :
    ∃ hdr, createDigestAuth H algOf (ls.map lineRender) { user, pass, method, uri } (some r) = .ok hdr ∧
      (hdr.all isText = true →
        handle H algOf user pass method uri .none (some r)
          { err := false, status := 401, wwwAuth := ls.map lineRender } = .resend hdr none) := by
  have hsup : Supported c := (supported_iff_answerable c).mpr (List.find?_some hfind)
  obtain ⟨hdr, hauth⟩ := supported_answered H c { user, pass, method, uri } r hsup
  have hparse := parse_faithful_lines ls hne hl hok chs hm
  rw [pick_of_find hfind] at hparse
  have hcreate : createDigestAuth H algOf (ls.map lineRender) { user, pass, method, uri } (some r) = .ok hdr := by
    rw [createDigestAuth_eq, hparse]
    exact hauth
  refine ⟨hdr, hcreate, ?_⟩
  intro hall
  have hb : hdr.all isFieldByte = true := hall
  unfold handle
  simp [hcreate, hb]

deriving instance DecidableEq for Except

/-- a concrete hash for the examples: hex of the pre-image -/
def exH : Alg → Bytes → Bytes := fun _ x => hex x

theorem exH_text : ∀ a x, (exH a x).all isText = true := fun _ x => all_text_of_qd (hex_all_qd x)

/-- first field line: `Basic realm="x, y",Negotiate abc==` -/
def exLine1 : List Elem := [
  ⟨[], .schemeParam b!"Basic" b!" " ⟨b!"realm", [], [], plainQ b!"x, y"⟩, []⟩,
  ⟨[], .scheme68 b!"Negotiate" b!" " b!"abc==", []⟩]

/-- second field line: a Digest challenge that cannot be answered (SHA-1), an empty element, then
`digest  REALM = "a\"b, \c"` (quoted-pairs, one of them gratuitous, a comma inside),
`nonce`, a qop LIST, `-sess` algorithm, userhash, opaque, stale, an unknown parameter -/
def exLine2 : List Elem := [
  ⟨[], .schemeParam b!"Digest" b!" " ⟨b!"realm", [], [], plainQ b!"old"⟩, []⟩,
  ⟨b!" ", .param ⟨b!"nonce", [], [], plainQ b!"n0"⟩, []⟩,
  ⟨b!" ", .param ⟨b!"algorithm", [], [], .tok b!"SHA-1"⟩, b!" "⟩,
  ⟨b!" ", .empty, []⟩,
  ⟨b!"\t", .schemeParam b!"digest" b!"  " ⟨b!"REALM", b!" ", b!" ",
      .quo [(97, false), (34, true), (98, false), (44, false), (32, false), (99, true)]⟩, b!" "⟩,
  ⟨[], .param ⟨b!"Nonce", [], [], plainQ b!"n=1"⟩, []⟩,
  ⟨b!" ", .param ⟨b!"qop", [], [], plainQ b!"auth-int, auth"⟩, []⟩,
  ⟨b!" ", .param ⟨b!"algorithm", [], b!"\t", .tok b!"SHA-256-sess"⟩, []⟩,
  ⟨b!" ", .param ⟨b!"userhash", [], [], .tok b!"true"⟩, []⟩,
  ⟨b!" ", .param ⟨b!"opaque", [], [], plainQ b!"o\\"⟩, []⟩,
  ⟨b!" ", .param ⟨b!"stale", [], [], .tok b!"true"⟩, []⟩,
  ⟨b!" ", .param ⟨b!"x-ext", [], [], plainQ b!"\"q\""⟩, []⟩]

example : lineRender exLine1 = b!"Basic realm=\"x, y\",Negotiate abc==" := by decide

set_option maxRecDepth 100000 in
example : lineRender exLine2 =
    b!"Digest realm=\"old\", nonce=\"n0\", algorithm=SHA-1 , ,\tdigest  REALM = \"a\\\"b, \\c\" ,Nonce=\"n=1\", qop=\"auth-int, auth\", algorithm=\tSHA-256-sess, userhash=true, opaque=\"o\\\\\", stale=true, x-ext=\"\\\"q\\\"\"" := by
  decide +kernel

theorem exOK : ∀ l ∈ [exLine1, exLine2], ∀ x ∈ l, x.OK := by decide +kernel

def exChals : List SChal := [
  { scheme := b!"Basic", params := [(b!"realm", b!"x, y")] },
  { scheme := b!"Negotiate", t68 := some b!"abc==" },
  { scheme := b!"Digest", params := [(b!"realm", b!"old"), (b!"nonce", b!"n0"), (b!"algorithm", b!"SHA-1")] },
  { scheme := b!"digest", params := [(b!"realm", b!"a\"b, c"), (b!"nonce", b!"n=1"), (b!"qop", b!"auth-int, auth"),
      (b!"algorithm", b!"SHA-256-sess"), (b!"userhash", b!"true"), (b!"opaque", b!"o\\"), (b!"stale", b!"true"),
      (b!"x-ext", b!"\"q\"")] }]

deriving instance DecidableEq for SChal

theorem exMeaning : meaning ([exLine1, exLine2].flatten.map (·.e)) = some exChals := by decide +kernel

def exIssued : Issued :=
  { realm := b!"a\"b, c", nonce := b!"n=1", opaq := some b!"o\\", algorithm := some b!"SHA-256-sess",
    qops := [b!"auth-int", b!"auth"], userhash := true }

theorem exDescribes : Describes
    [(b!"realm", b!"a\"b, c"), (b!"nonce", b!"n=1"), (b!"qop", b!"auth-int, auth"),
      (b!"algorithm", b!"SHA-256-sess"), (b!"userhash", b!"true"), (b!"opaque", b!"o\\"), (b!"stale", b!"true"),
      (b!"x-ext", b!"\"q\"")] exIssued where
  realm := by decide
  nonce := by decide
  opaq := by decide
  opaqNe := by decide
  algorithm := by decide
  algorithmNe := by decide
  qop := by decide
  userhash := by decide

def exChal : Challenge :=
  { realm := b!"a\"b, c", nonce := b!"n=1", qop := b!"auth-int, auth", algorithm := b!"SHA-256-sess",
    userhash := b!"true", opaq := b!"o\\", stale := b!"true" }

theorem exFind : (exChals.filterMap digestOf).find? (answerable algOf) = some exChal := by decide +kernel

def exRnd : Bytes := [0, 1, 2, 3, 4, 5, 6, 7, 8, 9, 10, 11, 12, 13, 14, 15]

/-- `digest_accepted_wire` is not vacuous: the response above (two field lines; Basic with a quoted
comma, a token68 challenge, an unanswerable Digest challenge, then one with quoted-pairs, a
comma in the realm, BWS, a qop list, mixed-case names, an empty element and an unknown parameter)
IS answered for the account `Mufasa` / a password and a target that contain quotes and
backslashes, and the answer is accepted by the verifier holding what the server issued. -/
example : ∃ hdr, handle exH algOf b!"Mu\"fasa\\" b!"Circle \"of\" Life" b!"GET" b!"/dir/index.html?a=\"b\"" .none (some exRnd)
      { err := false, status := 401, wwwAuth := [exLine1, exLine2].map lineRender } = .resend hdr none ∧
    verify exH specAlg
      { issued := exIssued, method := b!"GET", uri := b!"/dir/index.html?a=\"b\"", user := b!"Mu\"fasa\\",
        pass := b!"Circle \"of\" Life" } hdr = true := by
  obtain ⟨hdr, hcreate, hres⟩ := supported_resent exH [exLine1, exLine2] (by decide) (by decide) exOK exChals
    exMeaning exChal exFind b!"Mu\"fasa\\" b!"Circle \"of\" Life" b!"GET" b!"/dir/index.html?a=\"b\"" exRnd
  have hauth : authorize exH algOf exChal
      { user := b!"Mu\"fasa\\", pass := b!"Circle \"of\" Life", method := b!"GET", uri := b!"/dir/index.html?a=\"b\"" }
      (some exRnd) = .ok hdr := by
    rw [createDigestAuth_eq, parse_faithful_lines [exLine1, exLine2] (by decide) (by decide) exOK exChals exMeaning,
      pick_of_find exFind] at hcreate
    exact hcreate
  have htext := sendable_header_text exH exH_text exChal _ _ _ _ _ hdr
    ⟨Or.inl rfl, by decide, by decide, by decide, by decide⟩ hauth
  have hr := hres htext
  obtain ⟨ch, hch, _, hfind, hv⟩ := digest_accepted_wire exH exH_text [exLine1, exLine2] (by decide) (by decide) exOK
    exChals exMeaning _ _ _ _ [] _ hdr hr
  refine ⟨hdr, hr, ?_⟩
  rw [exFind] at hfind
  -- the challenge answered is the fourth one
  have hps : ch.params = [(b!"realm", b!"a\"b, c"), (b!"nonce", b!"n=1"), (b!"qop", b!"auth-int, auth"),
      (b!"algorithm", b!"SHA-256-sess"), (b!"userhash", b!"true"), (b!"opaque", b!"o\\"), (b!"stale", b!"true"),
      (b!"x-ext", b!"\"q\"")] := by
    simp only [exChals, List.mem_cons, List.not_mem_nil, or_false] at hch
    rcases hch with rfl | rfl | rfl | rfl
    · revert hfind; decide
    · revert hfind; decide
    · revert hfind; decide
    · rfl
  exact hv exIssued (hps ▸ exDescribes)

end Req.Props.C20
