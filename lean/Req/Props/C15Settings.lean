import Req.Lemmas.DecodeSettings
import Req.Props.C15
/-!
C15 — the decode settings over their whole life-cycle: setter calls in any order, `Clone` at any moment, further
calls on the original and on the copy (`Req/Client/DecodeSettings.lean`).
-/
namespace Req.Props.C15
open Req.Proto Req.Decode

/-- After ANY sequence of setter calls the switch is what the last `Enable`/`Disable` call said and the
content-type filter what the last `Set…` call said: the two never influence each other. -/
theorem applyOps_eq (c : Config) (ops : List SetOp) :
    applyOps c ops = ⟨lastToggle c.disable ops, lastFilter c.filter ops⟩ := by
  unfold applyOps
  induction ops generalizing c with
  | nil => cases c; rfl
  | cons op ops ih =>
    rw [List.foldl_cons, ih]
    cases op <;> rfl

theorem toggle_keeps_filter (c : Config) (op : SetOp) (h : op.isToggle = true) :
    (SetOp.apply c op).filter = c.filter := by
  cases op <;> first | rfl | simp [SetOp.isToggle] at h

theorem set_keeps_switch (c : Config) (op : SetOp) (h : op.isToggle = false) :
    (SetOp.apply c op).disable = c.disable := by
  cases op <;> first | rfl | simp [SetOp.isToggle] at h

/-- Every member of a family of clients has the configuration its own
lineage of setter calls produces from the default — for every sequence of calls and clonings. -/
theorem runFam_eq_lineages (ops : List FamOp) :
    runFam ops = (lineages ops).map (applyOps Config.default) := by
  unfold runFam lineages
  suffices h : ∀ (ls : List (List SetOp)),
      ops.foldl FamOp.apply (ls.map (applyOps Config.default)) =
        (ops.foldl FamOp.applyLin ls).map (applyOps Config.default) from by
    simpa [applyOps] using h [[]]
  induction ops with
  | nil => intro ls; rfl
  | cons op ops ih =>
    intro ls
    rw [List.foldl_cons, List.foldl_cons, ← fam_step, ih]

/-- A clone starts with exactly the configuration (switch AND filter) its origin has at that moment — the filter
also while decoding is switched off. -/
theorem clone_is_copy (ops : List FamOp) (i : Nat) (c : Config) (h : (runFam ops)[i]? = some c) :
    (runFam (ops ++ [.clone i]))[(runFam ops).length]? = some c := by
  unfold runFam at h ⊢
  rw [List.foldl_append]
  simp [FamOp.apply, h]

theorem on_other_member_invisible (cs : List Config) (i j : Nat) (op : SetOp) (h : i ≠ j) :
    (FamOp.apply cs (.on i op))[j]? = cs[j]? := by
  simp [FamOp.apply, h]

theorem clone_keeps_members (cs : List Config) (i j : Nat) (h : j < cs.length) :
    (FamOp.apply cs (.clone i))[j]? = cs[j]? := by
  simp only [FamOp.apply]
  cases cs[i]? with
  | none => rfl
  | some c => simp [List.getElem?_append_left h]

/-- `Disable; Set…(f); Clone; Enable on the clone` leaves the clone with filter `f` — whatever was called before
on the original (`pre`) and whichever `Set…` call it is. -/
theorem disabled_then_enabled_clone_keeps_filter (pre : List SetOp) (set : SetOp)
    (hset : set.isToggle = false) :
    let ops := pre.map (FamOp.on 0) ++ [.on 0 .disable, .on 0 set, .clone 0, .on 1 .enable]
    (runFam ops)[1]? = some ⟨false, lastFilter none (pre ++ [set])⟩ := by
  intro ops
  have hl : lineages ops = [pre ++ [.disable, set], pre ++ [.disable, set, .enable]] := by
    simp only [ops, lineages, List.foldl_append]
    have hp : ∀ (l : List SetOp), (pre.map (FamOp.on 0)).foldl FamOp.applyLin [l] = [l ++ pre] := by
      induction pre with
      | nil => intro l; simp
      | cons p ps ih => intro l; simp [FamOp.applyLin, ih]
    rw [hp]
    simp [FamOp.applyLin]
  -- both sides are the setter calls folded over `c`, the configuration after `pre`; a toggle does not touch the filter
  have hf : lastFilter none (pre ++ [set]) = (applyOps Config.default (pre ++ [set])).filter := by
    rw [applyOps_eq]; rfl
  rw [runFam_eq_lineages, hl, hf]
  simp only [List.map, List.getElem?_cons_succ, List.getElem?_cons_zero, applyOps, List.foldl_append]
  generalize pre.foldl SetOp.apply Config.default = c
  cases set <;> first | rfl | cases hset

variable {σ : Type}

/-- The settings tied to the reader: whatever sequence of calls and clonings led to the client that
performs the request — when the last toggle of its lineage is `Disable`, or the filter in force
after its lineage rejects the content type, every `Read` of the body is the underlying `Read`. -/
theorem unselected_after_ops (ops : List FamOp) (j : Nat) (lin : List SetOp)
    (hj : (lineages ops)[j]? = some lin) (ae ct : Bytes) (mp : MediaParse)
    (lookup : Bytes → Option (Decoder σ)) (find : Bytes → Option (Decoder σ))
    (h : lastToggle false lin = true ∨ shouldDecode ⟨false, lastFilter none lin⟩ ct = false)
    (src : Src) (bufs : List Nat) :
    ∃ cfg, (runFam ops)[j]? = some cfg ∧
      (respReads cfg ae ct mp lookup find src bufs).out = (reads Src.read src bufs).out ∧
      (respReads cfg ae ct mp lookup find src bufs).term = (reads Src.read src bufs).term := by
  refine ⟨applyOps Config.default lin, ?_, ?_⟩
  · rw [runFam_eq_lineages, List.getElem?_map, hj]; rfl
  · apply unselected_type_untouched
    rw [applyOps_eq]
    rcases h with h | h
    · left; exact h
    · right; right; simpa [shouldDecode, Config.default] using h

private def htmlOnly : SetOp := .setList [[104, 116, 109, 108]]   -- SetAutoDecodeContentType("html")
private def csv : Bytes := [116, 101, 120, 116, 47, 99, 115, 118]  -- "text/csv"

-- Disable; SetAutoDecodeContentType("html"); Clone; Enable on the clone: the clone is switched on
-- and rejects text/csv (which the default filter would select), the original stays off
example : ((runFam [.on 0 .disable, .on 0 htmlOnly, .clone 0, .on 1 .enable])[1]?.map
    fun c => (c.disable, shouldDecode c csv)) = some (false, false) := by decide +kernel
example : ((runFam [.on 0 .disable, .on 0 htmlOnly, .clone 0, .on 1 .enable])[0]?.map
    fun c => c.disable) = some true := by decide +kernel
example : shouldDecode Config.default csv = true := by decide +kernel
-- later calls on the original do not reach the clone, and vice versa
example : ((runFam [.clone 0, .on 0 .disable, .on 1 htmlOnly])[1]?.map fun c => (c.disable, shouldDecode c csv))
    = some (false, false) := by decide +kernel
example : ((runFam [.clone 0, .on 0 .disable, .on 1 htmlOnly])[0]?.map fun c => (c.disable, shouldDecode c csv))
    = some (true, true) := by decide +kernel
example : lineages [.on 0 .disable, .clone 0, .on 1 .enable, .on 0 .setAll, .clone 1]
    = [[.disable, .setAll], [.disable, .enable], [.disable, .enable]] := by
  simp [lineages, FamOp.applyLin]

end Req.Props.C15
