import Req.Lemmas.C02H1Transfer
/-!
C02 — the HTTP/1.1 head round trip in its general form: heads with or without a `Pragma` field.

`persistConn.readResponse` runs net/http's `fixPragmaCacheControl` on the header: a response that
carries `Pragma: no-cache` (first value) and no `Cache-Control` gets `Cache-Control: no-cache`
ADDED.  Here the final head may carry the field (the interim heads may not: `OHead.Interim`) and
the statement says exactly what the caller sees: every ordinary field as the origin sent it, and
under `Cache-Control` the one added value in that case.  `h1_head_roundtrip` (`Req.Props.C02Msg`,
which imports this file) is the case without a `Pragma` field (`OriginFraming.pragma`,
`pragmaAdds_none`); `OrdinaryKey` and `FinalCode`, which every HTTP/1.1 statement of C02 uses, are
defined here.  (HTTP/2 and HTTP/3 do not add the field, and `cross_protocol_message` assumes a
message without `pragma` (`H1Able.noPragma`): the three protocols differ there, by inheritance
from Go.)

Tie: lane `e2eh1` / `h1ReceiveView` (C04's `parseFinalHead` contains `fixPragmaCacheControl`;
C04's lanes generate Pragma heads).
-/
namespace Req.Props.C02
open Req.Proto Req.Ascii Req.C02 Req.H1

/-- The framing fields of the origin's head, position-free: what the field list holds under
the framing keys (`valuesOf`: values in wire order). `cl`: a Content-Length value in any
spelling the reader parses to `n`; `te`: `chunked` in any case; `tr`: a `Trailer` announcement.
`OriginFraming` (`Req.Props.C02Msg`) is this plus "no `Pragma` field". -/
structure OriginFramingP (o : OHead) (cc chunked : Bool) (te : Bytes) (cl : Option (Bytes × Nat))
    (tr : Option Bytes) : Prop where
  conn : valuesOf kConnection (fieldsOf o.fs) = if cc then [vClose] else []
  teVals : valuesOf kTransferEncoding (fieldsOf o.fs) = if chunked then [te] else []
  teLow : lower te = vChunked
  clVals : valuesOf kContentLength (fieldsOf o.fs) = (match cl with | some p => [p.1] | none => [])
  clParse : ∀ p, cl = some p → parseContentLength1 p.1 = some p.2
  trVals : valuesOf Req.H1.kTrailer (fieldsOf o.fs) = (match tr with | some v => [v] | none => [])

theorem OriginFramingP.entries {o : OHead} {cc chunked : Bool} {te : Bytes} {cl : Option (Bytes × Nat)}
    {tr : Option Bytes} (h : OriginFramingP o cc chunked te cl tr) :
    FrameEntries0 o.hmap cc chunked te cl tr := by
  obtain ⟨h2, h3, h4, h5, h6, h7⟩ := h
  refine ⟨?_, ?_, h4, ?_, h6, ?_⟩
  · cases cc <;> simp [OHead.hmap, get_hmapOf, h2]
  · cases chunked <;> simp [OHead.hmap, get_hmapOf, h3]
  · cases cl <;> simp [OHead.hmap, get_hmapOf, h5]
  · cases tr <;> simp [OHead.hmap, get_hmapOf, h7]

/-- The origin's field list makes `fixPragmaCacheControl` add `Cache-Control: no-cache`: the
first `Pragma` value is `no-cache` and there is no `Cache-Control` field. -/
def pragmaAdds (fs : List (Bytes × Bytes)) : Bool :=
  (match valuesOf kPragma fs with | v :: _ => v == vNoCache | [] => false) &&
    (valuesOf kCacheControl fs).isEmpty

theorem pragmaAdds_none {fs : List (Bytes × Bytes)} (h : valuesOf kPragma fs = []) : pragmaAdds fs = false := by
  rw [pragmaAdds, h]; rfl

theorem get_fixPragma_hmapOf (fs : List (Bytes × Bytes)) (k : Bytes) :
    (fixPragmaCacheControl (hmapOf fs)).get k =
      if k = kCacheControl ∧ pragmaAdds fs = true then some [vNoCache]
      else if valuesOf k fs = [] then none else some (valuesOf k fs) := by
  have hcc : (hmapOf fs).has kCacheControl = !(valuesOf kCacheControl fs).isEmpty := by
    simp only [HeaderMap.has]
    have := get_hmapOf fs kCacheControl
    simp only [HeaderMap.get] at this
    rw [this]
    cases hv : valuesOf kCacheControl fs <;> simp
  unfold fixPragmaCacheControl pragmaAdds
  rw [get_hmapOf fs kPragma]
  cases hp : valuesOf kPragma fs with
  | nil =>
    simp only [if_true, Bool.false_and, Bool.false_eq_true, and_false, if_false]
    exact get_hmapOf fs k
  | cons v vs =>
    simp only [List.cons_ne_nil, if_false, hcc, Bool.not_not]
    by_cases hadd : (v == vNoCache && (valuesOf kCacheControl fs).isEmpty) = true
    · simp only [hadd, if_true]
      by_cases hk : k = kCacheControl
      · subst hk
        simp [get_set]
      · simp only [hk, false_and, if_false]
        rw [get_set, if_neg hk]
        exact get_hmapOf fs k
    · have hadd' : (v == vNoCache && (valuesOf kCacheControl fs).isEmpty) = false := by
        simpa using hadd
      simp only [hadd', Bool.false_eq_true, if_false, and_false]
      exact get_hmapOf fs k

/-- A field name that is not one of the framing keys `readTransfer` rewrites. -/
def OrdinaryKey (k : Bytes) : Prop :=
  k ≠ kConnection ∧ k ≠ kTransferEncoding ∧ k ≠ kContentLength ∧ k ≠ Req.H1.kTrailer

/-- A status that ends the 1xx loop. -/
def FinalCode (code : Nat) : Prop := ¬ (100 ≤ code ∧ code ≤ 199 ∧ code ≠ 101)

/-- **h1_head_roundtrip with `Pragma` allowed in the final head.**  For every origin head (status
digits, reason phrase, field list, with or without `Pragma` / `Cache-Control` fields), preceded by
up to five interim responses (`parseFinalHead 6`: fuel for Go's `max1xxResponses = 5` interim heads
and the final one) and followed by ANY bytes `W`: the head reader returns the origin's status code;
`readTransfer`'s framing verdict is the origin's choice; exactly the heads were consumed; under
every ordinary field name the caller finds exactly the origin's values, in wire order — except
under `Cache-Control` when the origin's first `Pragma` value is `no-cache` and it sent no
`Cache-Control` field: then the one value `no-cache`, which `fixPragmaCacheControl` added. -/
theorem h1_head_roundtrip_pragma (isHead : Bool) (is : List OHead) (his : ∀ i ∈ is, i.Interim) (hn : is.length ≤ 5)
    (o : OHead) (ho : o.OK) (hfc : FinalCode o.code)
    (cc chunked : Bool) (te : Bytes) (cl : Option (Bytes × Nat)) (tr : Option Bytes)
    (hF : OriginFramingP o cc chunked te cl tr)
    (hexcl : chunked = true → cl = none) (htrc : tr.isSome = true → chunked = true)
    (hkeys : ∀ tv, tr = some tv → (declKeys tv).any badTrailerKey = false) (W : Bytes) :
    ∃ msg, Req.H1.parseFinalHead 6 isHead (interimsWire is ++ (o.wire ++ W)) = some (msg, W) ∧
      msg.sl.code = o.code ∧
      (∀ k, OrdinaryKey k → msg.header.get k =
        if k = kCacheControl ∧ pragmaAdds (fieldsOf o.fs) = true then some [vNoCache]
        else if valuesOf k (fieldsOf o.fs) = [] then none else some (valuesOf k (fieldsOf o.fs))) ∧
      msg.trailerDecl = trailerDeclOf tr ∧
      msg.framing =
        (if (isHead || !Req.H1.bodyAllowedForStatus o.code) = true then RespFraming.none
         else if chunked = true then RespFraming.chunked
         else framingOfCL cl) := by
  obtain ⟨msg, hph, hcode, hT⟩ := parseHead_origin_pragma isHead htrc hkeys o ho hF.entries W
  exact ⟨msg, parseFinalHead_origin isHead is his hn hph (by rw [hcode]; exact hfc), hcode,
    fun k hk => (hT.get k hk).trans (get_fixPragma_hmapOf _ k), hT.trailerDecl, hT.framing⟩

/-! Non-vacuity: `Pragma: no-cache` alone adds the field; with a `Cache-Control` it does not. -/
example : pragmaAdds [(kPragma, vNoCache), ([88, 45, 65], [49])] = true := by decide
example : pragmaAdds [(kPragma, vNoCache), (kCacheControl, [120])] = false := by decide
example : (fixPragmaCacheControl (hmapOf [(kPragma, vNoCache)])).get kCacheControl = some [vNoCache] := by decide

end Req.Props.C02
