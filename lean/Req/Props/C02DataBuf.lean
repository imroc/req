import Req.Lemmas.C02DataBuffer
/-!
C02 — the HTTP/2 body buffer `dataBuffer` (internal/http2/databuffer.go) IS a byte FIFO.

`Req.C02.DataBuffer` models the code as it is: a list of fixed-size chunk arrays (whatever a
recycled pool array contains), the read cursor into the first chunk, the write cursor into the
last chunk, `size`, the `expected` hint, `lastChunkOrAlloc`, the two loops.  The theorems are
for EVERY allocator that hands out non-empty arrays (any size classes, any garbage in the
arrays), every `expected` hint, every script of `Write(p)` / `Read(len k)` calls of any length:
no bound anywhere.  The HTTP/2 receive model `Req.C02.H2Recv` uses a flat byte list for the
pipe's buffer; `databuffer_fifo` is the argument for that choice (in prose: no theorem connects the
two models).

Tie: lane `h2databuf` (internal/http2) runs the real `dataBuffer` and this model (with Go's
size-class allocator `goAlloc`) on the same scripts and compares every read (length + content
hash), `Len()` after every op and the chunk lengths at the end.
-/
namespace Req.C02
open Req.Proto

/-- The specification: a flat byte queue. -/
def fifoStep (q : Bytes) : DOp → DObs × Bytes
  | .write p => (.wrote, q ++ p)
  | .read k => if q.isEmpty then (.got .errEmpty, q) else (.got (.ok (q.take k)), q.drop k)

def fifoRun : List DOp → Bytes → List DObs × Bytes
  | [], q => ([], q)
  | op :: ops, q =>
    let (o, q1) := fifoStep q op
    let (os, q2) := fifoRun ops q1
    (o :: os, q2)

/-- `Write(p)` from any reachable state: ends (Go: `len(p), nil`), appends exactly `p` behind
what is buffered, `Len()` grows by `len(p)` — whatever chunk sizes the allocator picks and
whatever the arrays contained. -/
theorem databuffer_write_appends (alloc : Int → Bytes) (halloc : ∀ x, 0 < (alloc x).length)
    (b : DataBuffer) (p : Bytes) (hw : b.WF) :
    ∃ b', b.write alloc p = some b' ∧ b'.WF ∧ b'.contents = b.contents ++ p ∧
      b'.size = b.size + p.length := by
  obtain ⟨b', h1, h2, h3⟩ := DataBuffer.writeLoop_spec alloc halloc (p.length + 1) p b hw (by omega)
  refine ⟨b', h1, h2, h3, ?_⟩
  rw [h2.size_eq, h3, List.length_append, hw.size_eq]

/-- `Read(p)` with `len(p) = k` from any reachable state: `errReadEmpty` exactly on an empty
buffer; otherwise the first `min k Len()` buffered bytes, in order, and exactly the rest stays
buffered — across any number of chunk boundaries. -/
theorem databuffer_read_prefix (b : DataBuffer) (k : Nat) (hw : b.WF) :
    (b.size = 0 → b.read k = (.errEmpty, b)) ∧
    (0 < b.size → ∃ b', b.read k = (.ok (b.contents.take k), b') ∧ b'.WF ∧
      b'.contents = b.contents.drop k ∧ b'.size = b.size - min k b.size) := by
  constructor
  · intro h; rw [DataBuffer.read, if_pos h]
  · intro h
    obtain ⟨b', h1, h2, h3, _⟩ := DataBuffer.readLoop_spec (b.chunks.length + 1) k [] b hw
      (.inr (.inr (Nat.lt_succ_self _)))
    refine ⟨b', ?_, h2, h3, ?_⟩
    · rw [DataBuffer.read, if_neg (Nat.ne_of_gt h), h1]; rfl
    · rw [h2.size_eq, h3, List.length_drop, ← hw.size_eq]
      rcases Nat.le_total k b.size with hk | hk
      · rw [Nat.min_eq_left hk]
      · rw [Nat.min_eq_right hk, Nat.sub_self, Nat.sub_eq_zero_of_le hk]

theorem databuffer_step_fifo (alloc : Int → Bytes) (halloc : ∀ x, 0 < (alloc x).length)
    (b : DataBuffer) (hw : b.WF) (op : DOp) :
    ∃ o b1, b.step alloc op = (o, b1) ∧ fifoStep b.contents op = (o, b1.contents) ∧ b1.WF := by
  cases op with
  | write p =>
    obtain ⟨b', h1, h2, h3, _⟩ := databuffer_write_appends alloc halloc b p hw
    exact ⟨.wrote, b', by rw [DataBuffer.step, h1], by rw [fifoStep, h3], h2⟩
  | read k =>
    obtain ⟨he, hn⟩ := databuffer_read_prefix b k hw
    rcases Nat.eq_zero_or_pos b.size with h0 | hpos
    · exact ⟨.got .errEmpty, b, by rw [DataBuffer.step, he h0], by rw [hw.contents_eq_nil h0]; rfl, hw⟩
    · obtain ⟨b', h1, h2, h3, _⟩ := hn hpos
      have hne : ¬ b.contents.isEmpty = true := fun h =>
        Nat.ne_of_gt hpos (hw.size_eq.trans (congrArg List.length (List.isEmpty_iff.1 h)))
      exact ⟨.got (.ok (b.contents.take k)), b', by rw [DataBuffer.step, h1], by rw [fifoStep, if_neg hne, h3], h2⟩

/-- **Refinement.**  For every script of writes and reads, from any reachable state, the chunked
buffer produces op for op what the flat byte queue holding the same bytes produces, and ends
holding the same bytes.  In particular no read ever breaks (`DBRead.broken`: index out of
range / endless loop) and the observations do not depend on the allocator or on `expected`. -/
theorem databuffer_fifo (alloc : Int → Bytes) (halloc : ∀ x, 0 < (alloc x).length) :
    ∀ (ops : List DOp) (b : DataBuffer), b.WF →
      (DataBuffer.run alloc ops b).1 = (fifoRun ops b.contents).1 ∧
      (DataBuffer.run alloc ops b).2.contents = (fifoRun ops b.contents).2 ∧
      (DataBuffer.run alloc ops b).2.WF := by
  intro ops
  induction ops with
  | nil => intro b hw; exact ⟨rfl, rfl, hw⟩
  | cons op ops ih =>
    intro b hw
    obtain ⟨o, b1, hs, hf, hw1⟩ := databuffer_step_fifo alloc halloc b hw op
    obtain ⟨i1, i2, i3⟩ := ih b1 hw1
    simp only [DataBuffer.run, fifoRun, hs, hf]
    exact ⟨by rw [i1], i2, i3⟩

theorem fifoRun_stream : ∀ (ops : List DOp) (q : Bytes),
    readOf (fifoRun ops q).1 ++ (fifoRun ops q).2 = q ++ writtenOf ops := by
  intro ops
  induction ops with
  | nil => intro q; exact (List.append_nil q).symm
  | cons op ops ih =>
    intro q
    cases op with
    | write p => exact (ih (q ++ p)).trans (List.append_assoc q p _)
    | read k =>
      rw [fifoRun, fifoStep]
      by_cases hq : q.isEmpty = true
      · rw [if_pos hq]; exact ih q
      · rw [if_neg hq]
        show (q.take k ++ readOf (fifoRun ops (q.drop k)).1) ++ _ = _
        rw [List.append_assoc, ih, ← List.append_assoc, List.take_append_drop]; rfl

/-- **No byte lost, duplicated or reordered.**  From the empty buffer, for every script: the
bytes handed out by the reads, followed by the bytes still buffered, are exactly the bytes
written, in order; `Len()` is the number of buffered bytes. -/
theorem databuffer_stream_exact (alloc : Int → Bytes) (halloc : ∀ x, 0 < (alloc x).length)
    (expected : Int) (ops : List DOp) :
    let res := DataBuffer.run alloc ops (DataBuffer.new expected)
    readOf res.1 ++ res.2.contents = writtenOf ops ∧ res.2.size = res.2.contents.length ∧
      readOf res.1 <+: writtenOf ops := by
  intro res
  obtain ⟨h1, h2, h3⟩ := databuffer_fifo alloc halloc ops (DataBuffer.new expected) (DataBuffer.WF_new expected)
  have heq : readOf res.1 ++ res.2.contents = writtenOf ops := by
    rw [h1, h2]; exact fifoRun_stream ops []
  exact ⟨heq, h3.size_eq, ⟨res.2.contents, heq⟩⟩

/-- The allocator and the `expected` hint are invisible: two buffers with different size classes,
different array garbage and different hints answer every script identically. -/
theorem databuffer_alloc_invisible (alloc₁ alloc₂ : Int → Bytes) (h₁ : ∀ x, 0 < (alloc₁ x).length)
    (h₂ : ∀ x, 0 < (alloc₂ x).length) (e₁ e₂ : Int) (ops : List DOp) :
    (DataBuffer.run alloc₁ ops (DataBuffer.new e₁)).1 = (DataBuffer.run alloc₂ ops (DataBuffer.new e₂)).1 :=
  ((databuffer_fifo alloc₁ h₁ ops _ (DataBuffer.WF_new e₁)).1).trans
    (databuffer_fifo alloc₂ h₂ ops _ (DataBuffer.WF_new e₂)).1.symm

/-! Non-vacuity: a tiny allocator (2-byte arrays full of garbage `9`), a script that spans
chunks and stops a read where the first chunk's read offset equals the last chunk's write
offset (`r = w` with several chunks buffered does not mean "caught up": a `Read` that took it for
that and rewound both cursors would lose bytes), evaluated on the executable model. -/
def tinyAlloc (_ : Int) : Bytes := [9, 9]

example : (DataBuffer.run tinyAlloc [.write [1, 2, 3], .read 1, .write [4, 5], .read 3, .read 9, .read 1]
    (DataBuffer.new 7)).1 =
    [.wrote, .got (.ok [1]), .wrote, .got (.ok [2, 3, 4]), .got (.ok [5]), .got .errEmpty] := by decide

example : ((DataBuffer.run tinyAlloc [.write [1, 2, 3], .read 1] (DataBuffer.new 0)).2.chunks,
    (DataBuffer.run tinyAlloc [.write [1, 2, 3], .read 1] (DataBuffer.new 0)).2.r,
    (DataBuffer.run tinyAlloc [.write [1, 2, 3], .read 1] (DataBuffer.new 0)).2.w) = ([[1, 2], [3, 9]], 1, 1) := by
  decide

example : (DataBuffer.new 3).WF ∧ ∀ x, 0 < (tinyAlloc x).length := ⟨DataBuffer.WF_new 3, fun _ => by simp [tinyAlloc]⟩

example : ∀ x, 0 < (goAlloc x).length := by
  intro x
  have pos {c : Prop} [Decidable c] {a b : Nat} (ha : 0 < a) (hb : 0 < b) : 0 < (if c then a else b) := by
    split <;> assumption
  rw [goAlloc, List.length_replicate, goChunkSize]
  repeat' apply pos
  all_goals decide

example : readOf (fifoRun [.write [1, 2, 3], .read 2] []).1 = [1, 2] ∧ (fifoRun [.write [1, 2, 3], .read 2] []).2 = [3] := by
  decide

end Req.C02
