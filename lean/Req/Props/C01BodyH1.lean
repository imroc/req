import Req.H1.BodyWrite
import Req.Lemmas.C01BodyH1
/-!
C01 — the HTTP/1.1 request body on the wire, for EVERY body-reader behaviour.

`Req.H1.BodyWrite` models `newTransferWriter` (framing decision incl. the one-byte probe) and
`transferWriter.writeBody` (`io.CopyBuffer` into the chunk writer / the connection / through
`io.LimitReader(body, ContentLength)` followed by the discarding copy and the length comparison)
over the `Reader` scripts shared with the HTTP/2 and HTTP/3 body models: all byte strings, all
sequences of read sizes (zero-length reads included), the four endings `(0,EOF)`, `(n,EOF)`,
`(0,err)`, `(n,err)`, every buffer length, every method, every declared length (absent, truthful,
smaller than what the reader yields = over-long reader, larger = under-long reader).

Tied to the real `newTransferWriter` + `transferWriter.writeBody` by the `h1body` lane (framing,
outcome, every byte written).
-/
namespace Req.Props.C01BodyH1
open Req.Proto Req.H1 Req.H1.BodyWrite Req.Lemmas.C01Body Req.Lemmas.C01BodyH1
open Req.H2.BodyWrite (Reader RErr Ending)

/-- the body bytes a plan stands for: the probed byte put back in front of what the reader still holds -/
def Plan.bytes (p : Plan) : Bytes := p.pre ++ p.reader.data

/-- what `newTransferWriter` guarantees about its plan for a reader holding `data` -/
structure PlanInv (p : Plan) (data : Bytes) (ending : Ending) : Prop where
  /-- the probe neither loses nor invents a byte -/
  bytes : Plan.bytes p = data
  /-- a body of declared length is not probed -/
  known : ∀ n, p.mode = .known n → p.pre = []
  /-- a body is dropped only when its first `Read` returned `(0, io.EOF)`: it is empty -/
  noBody : p.mode = .noBody → data = []
  ending : p.reader.ending = ending

theorem planUnknown_inv (method : Bytes) (r : Reader) : PlanInv (planUnknown method r) r.data r.ending := by
  unfold planUnknown
  simp only
  split
  · exact ⟨rfl, nofun, nofun, rfl⟩
  · split
    · rcases hr : r.read 1 with ⟨c, e, r1⟩
      have hs := read_spec hr
      simp only
      split
      next h =>
        simp only [Bool.and_eq_true, List.isEmpty_iff, beq_iff_eq] at h
        have hd := hs.data
        rw [h.1, hs.eof h.2] at hd
        exact ⟨by rw [← hd]; simp [Plan.bytes, hs.eof h.2], nofun, fun _ => hd.symm, hs.ending⟩
      next h => exact ⟨hs.data, nofun, nofun, hs.ending⟩
    · exact ⟨rfl, nofun, nofun, rfl⟩

/-- a body of unknown length is never given a declared one -/
theorem planUnknown_mode (method : Bytes) (r : Reader) (n : Nat) : (planUnknown method r).mode ≠ .known n := by
  unfold planUnknown
  simp only
  split
  · nofun
  · split
    · split <;> nofun
    · nofun

theorem plan_inv (method : Bytes) (cl : Option Nat) (r : Reader) : PlanInv (plan method cl r) r.data r.ending := by
  unfold plan
  split
  · exact ⟨rfl, (by intro _ _; rfl), (by intro h; cases h), rfl⟩
  · exact planUnknown_inv method r

theorem plan_bytes (method : Bytes) (cl : Option Nat) (r : Reader) :
    Plan.bytes (plan method cl r) = r.data := (plan_inv method cl r).bytes

/-- the payload pieces `writeBody` hands to the framing layer, whatever the outcome: a prefix of
the body, within the declared length when there is one, no empty piece. -/
theorem pieces_spec (buf : Nat) (p : Plan) (hk : ∀ n, p.mode = .known n → p.pre = []) :
    (pieces buf p).1.flatten <+: Plan.bytes p ∧
    (∀ n, p.mode = .known n → (pieces buf p).1.flatten.length ≤ n) ∧
    (∀ w ∈ (pieces buf p).1, w ≠ []) := by
  unfold pieces
  split
  · exact ⟨by simp, by simp, by simp⟩
  · rcases hc : ioCopy buf (fuelFor p.reader) (limitOf p.mode) p.reader with ⟨ws, o, r'⟩
    have i := ioCopy_spec buf _ _ _ hc
    simp only [copyAll, hc]
    refine ⟨?_, fun n hn => ?_, fun w hw => ?_⟩
    · rw [List.flatten_append, optChunk_flatten, Plan.bytes, ← i.data, ← List.append_assoc]
      exact List.prefix_append _ _
    · simpa [hk n hn] using i.within n (by rw [hn]; rfl)
    · rcases List.mem_append.mp hw with h | h
      · exact (optChunk_mem h).1 ▸ (optChunk_mem h).2
      · exact i.nonempty w h

/-- for every method, declared length, reader script and buffer:
the payload `writeBody` passes on (the concatenation of the chunk payloads when chunked, the raw
bytes otherwise) is a prefix of the reader's bytes — nothing altered, dropped in the middle,
duplicated or reordered — whatever the outcome. -/
theorem h1_body_is_reader_prefix (buf : Nat) (method : Bytes) (cl : Option Nat) (r : Reader) :
    (pieces buf (plan method cl r)).1.flatten <+: r.data := by
  have hk := (plan_inv method cl r).known
  have := (pieces_spec buf (plan method cl r) hk).1
  rwa [plan_bytes] at this

/-- a request with a declared `Content-Length` of `n > 0`:
for EVERY reader script (however many bytes it yields, in whatever reads, however it ends) and every
buffer length, the bytes `writeBody` puts on the connection behind the head are a prefix of the
FIRST `n` bytes of the reader: the surplus of an over-long reader never reaches the wire (where it
would be read as the start of a second request). -/
theorem h1_overlong_reader_never_on_wire (buf : Nat) (method : Bytes) (n : Nat) (r : Reader) :
    (writeBody buf (plan method (some (n + 1)) r)).1 <+: r.data.take (n + 1) := by
  have hp : plan method (some (n + 1)) r = ⟨.known (n + 1), [], r⟩ := rfl
  have hk : ∀ m, (plan method (some (n + 1)) r).mode = .known m → (plan method (some (n + 1)) r).pre = [] := by
    intro m _; rfl
  obtain ⟨h1, h2, _⟩ := pieces_spec buf (plan method (some (n + 1)) r) hk
  rw [plan_bytes] at h1
  have h2' := h2 (n + 1) rfl
  have hw : (writeBody buf (plan method (some (n + 1)) r)).1 = (pieces buf (plan method (some (n + 1)) r)).1.flatten := by
    unfold writeBody
    rw [hp]
  rw [hw]
  exact List.prefix_take_iff.mpr ⟨h1, h2'⟩

example : (writeBody 4 (plan [80, 79, 83, 84] (some 3)
    { data := [1, 2, 3, 71, 69, 84, 32, 47], sizes := [2, 0, 5], ending := .eofWithLast })) = ([1, 2, 3], .bodyLength) := by
  decide +kernel

/-- plan-level form of `h1_body_ok_exact` -/
theorem pieces_ok_exact (buf : Nat) (p : Plan) (data : Bytes) (ending : Ending)
    (hinv : PlanInv p data ending) (hok : (pieces buf p).2 = .ok) :
    (pieces buf p).1.flatten = data ∧ (∀ n, p.mode = .known n → data.length = n) := by
  have hb : p.pre ++ p.reader.data = data := hinv.bytes
  unfold pieces at hok ⊢
  split at hok
  next hm =>
    simp only [hm, if_true]
    exact ⟨by rw [hinv.noBody hm]; rfl, nofun⟩
  next hm =>
    simp only [hm, if_false]
    rcases hc : ioCopy buf (fuelFor p.reader) (limitOf p.mode) p.reader with ⟨ws, o, r'⟩
    have i := ioCopy_spec buf _ _ _ hc
    simp only [copyAll, hc] at hok ⊢
    rw [List.flatten_append, optChunk_flatten]
    cases hmode : p.mode with
    | noBody => exact absurd hmode hm
    | chunked | identity =>
      rw [hmode] at i hok
      have ho : o = .eof := by
        cases o with
        | eof => rfl
        | fail => cases hok
      subst ho
      exact ⟨by rw [i.all, hb], nofun⟩
    | known n =>
      rw [hmode] at i hok
      rw [hinv.known n hmode, List.nil_append] at hb ⊢
      obtain ⟨rfl, -, hlen⟩ := outcomeOf_known_ok.mp hok
      simp only [hinv.known n hmode, List.isEmpty_nil, if_true, List.nil_append] at hlen
      -- the copy stopped at the reader's end, or at the budget with nothing left to drain
      have hr' : r'.data = [] := by
        rcases i.eof rfl with h | h
        · exact h
        · exact List.eq_nil_of_length_eq_zero (by have := Option.some.inj h; omega)
      have i1 := i.data
      rw [hr', List.append_nil, hb] at i1
      refine ⟨i1, fun m hm' => ?_⟩
      cases hm'
      rw [← i1, ← hlen, hr']
      rfl

/-- `writeBody` returned nil ⇒ the payload is the reader's bytes exactly, and
a declared length is exactly the number of bytes the reader yielded. -/
theorem h1_body_ok_exact (buf : Nat) (method : Bytes) (cl : Option Nat) (r : Reader)
    (hok : (pieces buf (plan method cl r)).2 = .ok) :
    (pieces buf (plan method cl r)).1.flatten = r.data ∧
    (∀ n, (plan method cl r).mode = .known n → r.data.length = n) :=
  pieces_ok_exact buf _ r.data r.ending (plan_inv method cl r) hok

/-- a reader that yields more (or fewer) bytes than the declared
`Content-Length` never makes `writeBody` return nil: the round trip fails. -/
theorem h1_length_mismatch_fails (buf : Nat) (method : Bytes) (n : Nat) (r : Reader)
    (hne : r.data.length ≠ n + 1) : (pieces buf (plan method (some (n + 1)) r)).2 ≠ .ok := by
  intro hok
  exact hne ((h1_body_ok_exact buf method (some (n + 1)) r hok).2 (n + 1) rfl)

/-- plan-level form of `h1_honest_body_completes` -/
theorem pieces_honest (buf : Nat) (hbuf : 1 ≤ buf) (p : Plan) (data : Bytes) (ending : Ending)
    (hinv : PlanInv p data ending) (hend : ending = .eof ∨ ending = .eofWithLast)
    (hcl : ∀ n, p.mode = .known n → data.length = n) : (pieces buf p).2 = .ok := by
  have hb : p.pre ++ p.reader.data = data := hinv.bytes
  have hre : p.reader.ending = .eof ∨ p.reader.ending = .eofWithLast := hinv.ending ▸ hend
  unfold pieces
  split
  · rfl
  next hm =>
    have hprog := ioCopy_progress buf hbuf (fuelFor p.reader) (limitOf p.mode) p.reader (Nat.le_refl _) hre
    rcases hc : ioCopy buf (fuelFor p.reader) (limitOf p.mode) p.reader with ⟨ws, o, r'⟩
    have i := ioCopy_spec buf _ _ _ hc
    rw [hc] at hprog
    simp only [copyAll, hc]
    subst hprog
    cases hmode : p.mode with
    | noBody => exact absurd hmode hm
    | chunked | identity => rfl
    | known n =>
      rw [hinv.known n hmode, List.nil_append] at hb
      refine outcomeOf_known_ok.mpr ⟨rfl, ioCopy_progress 8192 (by omega) _ none r' (Nat.le_refl _) (i.ending ▸ hre), ?_⟩
      simp only [hinv.known n hmode, List.isEmpty_nil, if_true, List.nil_append]
      rw [← hcl n hmode, ← hb, ← i.data, List.length_append]

/-- progress / non-vacuity of `ok`: a reader that ends with `io.EOF`
(alone or together with its last bytes), whatever its read sizes, with a truthful or absent declared
length, is written completely and `writeBody` returns nil. -/
theorem h1_honest_body_completes (buf : Nat) (hbuf : 1 ≤ buf) (method : Bytes) (cl : Option Nat) (r : Reader)
    (hend : r.ending = .eof ∨ r.ending = .eofWithLast) (hcl : cl = none ∨ cl = some r.data.length) :
    (pieces buf (plan method cl r)).2 = .ok ∧ (pieces buf (plan method cl r)).1.flatten = r.data := by
  have hok : (pieces buf (plan method cl r)).2 = .ok := by
    refine pieces_honest buf hbuf _ r.data r.ending (plan_inv method cl r) hend ?_
    intro n hn
    rcases hcl with h | h
    · subst h
      exact absurd hn (planUnknown_mode method r n)
    · subst h
      cases hd : r.data.length with
      | zero =>
        rw [hd] at hn
        exact absurd hn (planUnknown_mode method r n)
      | succ k =>
        rw [hd] at hn
        cases hn
        rfl
  exact ⟨hok, (h1_body_ok_exact buf method cl r hok).1⟩

example : writeBody 4 (plan [71, 69, 84] none { data := [1, 2, 3, 4, 5, 6], sizes := [1, 0, 2], ending := .eofWithLast }) =
    ([49, 13, 10, 1, 13, 10, 50, 13, 10, 2, 3, 13, 10, 51, 13, 10, 4, 5, 6, 13, 10, 48, 13, 10, 13, 10], .ok) := by
  decide +kernel

end Req.Props.C01BodyH1
