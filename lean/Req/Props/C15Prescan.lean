import Req.Client.Sniff
import Req.Lemmas.Prescan
import Req.Props.C15
/-!
C15 — "how the body is split across network reads or caller reads can at most decide whether a meta-declared
charset is noticed, never produce any third result", with the CONCRETE scanner `Req.Prescan.prescan` and the whole
of `charsets.FindEncoding` (`findC`).
-/
namespace Req.Props.C15
open Req.Proto Req.Decode Req.Prescan

/-- What the scanner finds in a prefix of a document it finds in the whole document: a cut can hide a declaration,
it can never make the scanner report a DIFFERENT label (a truncated `charset=utf-1|6le`, attribute name, quoted
value, comment, script …). -/
theorem prescan_prefix (P : Params) (a b n : Bytes) (h : prescan P a = some n) :
    prescan P (a ++ b) = some n := by
  unfold prescan at h ⊢
  rw [scan_append]
  cases hs : scan P .data a with
  | found m =>
    rw [hs] at h
    simp only [Option.some.injEq] at h
    subst h
    rw [found_absorbing]
  | _ => rw [hs] at h; simp at h

variable {σ : Type}

/-- A byte-order mark that is a prefix of `a ++ b` but not of `a`: `a` is a proper prefix of the
mark. -/
theorem cut_bom_cases (bom a b : Bytes) (hb : bom ∈ boms.map Prod.fst)
    (h1 : bom.isPrefixOf (a ++ b) = true) (h2 : bom.isPrefixOf a = false) :
    a = [] ∨ a = [254] ∨ a = [255] ∨ a = [239] ∨ a = [239, 187] := by
  -- the mark and `a` are both prefixes of `a ++ b`, so one is a prefix of the other
  rcases List.prefix_or_prefix_of_prefix (List.isPrefixOf_iff_prefix.mp h1) (List.prefix_append a b) with h | h
  · rw [List.isPrefixOf_iff_prefix.mpr h] at h2; cases h2
  · rw [List.prefix_iff_eq_take] at h
    generalize a.length = n at h
    subst h
    simp only [boms, List.map, List.mem_cons, List.mem_nil_iff, or_false] at hb
    rcases hb with rfl | rfl | rfl <;> rcases n with _ | _ | _ | n <;> simp at h2 ⊢

theorem bomScan_congr (lookup : Bytes → Option (Enc σ)) (tbl : List (Bytes × Bytes)) (a a' : Bytes)
    (h : ∀ bom ∈ tbl.map Prod.fst, bom.isPrefixOf a = bom.isPrefixOf a') :
    bomScan lookup tbl a = bomScan lookup tbl a' := by
  induction tbl with
  | nil => rfl
  | cons e rest ih =>
    obtain ⟨bom, label⟩ := e
    have h0 := h bom (by simp)
    have hr := ih fun x hx => h x (by simp at hx ⊢; exact Or.inr hx)
    simp only [bomScan, h0, hr]

/-- What `FindEncoding` selects on a prefix of the document it selects on the whole document (byte-order marks
included: a cut through a mark leaves nothing a prescan could find). -/
theorem findC_prefix (P : Params) (decOf : Bytes → Decoder σ) (a b : Bytes) (d : Decoder σ)
    (h : findC P decOf a = some d) : findC P decOf (a ++ b) = some d := by
  unfold findC findEncoding at h ⊢
  by_cases ha : a = []
  · simp [ha] at h
  · have hab : a ++ b ≠ [] := by simp [ha]
    simp only [ha, hab, if_false] at h ⊢
    by_cases hall : ∀ bom ∈ boms.map Prod.fst, bom.isPrefixOf (a ++ b) = bom.isPrefixOf a
    · rw [bomScan_congr _ _ _ _ hall]
      cases hb : bomScan (lookupC P decOf) boms a with
      | some r => rw [hb] at h; exact h
      | none =>
        rw [hb] at h
        simp only [prescanC] at h ⊢
        cases hp : prescan P a with
        | none => rw [hp] at h; simp at h
        | some n =>
          rw [hp] at h
          rw [prescan_prefix P a b n hp]
          exact h
    · -- a mark straddles the cut: `a` holds no markup and no complete mark, nothing is found in it
      exfalso
      obtain ⟨bom, hb⟩ := Classical.not_forall.mp hall
      obtain ⟨hm, hne⟩ := Classical.not_imp.mp hb
      have h2 : bom.isPrefixOf a = false := by
        cases hx : bom.isPrefixOf a with
        | false => rfl
        | true =>
          have := List.isPrefixOf_iff_prefix.mpr ((List.isPrefixOf_iff_prefix.mp hx).trans (List.prefix_append a b))
          exact absurd (by rw [this, hx]) hne
      have h1 : bom.isPrefixOf (a ++ b) = true := by
        cases hx : bom.isPrefixOf (a ++ b) with
        | true => rfl
        | false => rw [hx, h2] at hne; exact absurd rfl hne
      have hcases := cut_bom_cases bom a b hm h1 h2
      have hpre : prescan P a = none := by
        rcases hcases with rfl | rfl | rfl | rfl | rfl <;> rfl
      have hnb : bomScan (lookupC P decOf) boms a = none := by
        rcases hcases with rfl | rfl | rfl | rfl | rfl <;> simp [boms, bomScan, List.isPrefixOf]
      rw [hnb] at h
      simp [prescanC, hpre] at h

theorem findC_is_decOf (P : Params) (decOf : Bytes → Decoder σ) (c : Bytes) (d : Decoder σ)
    (h : findC P decOf c = some d) : ∃ n, d = decOf n := by
  obtain ⟨e, rfl, ⟨_, he⟩ | he⟩ := findEncoding_from _ _ c d h <;>
    obtain ⟨n, _, rfl⟩ := Option.map_eq_some_iff.mp he <;> exact ⟨n, rfl⟩

theorem findC_lawful (P : Params) (decOf : Bytes → Decoder σ) (hlaw : ∀ n, (decOf n).Lawful) (c : Bytes)
    (d : Decoder σ) (h : findC P decOf c = some d) : d.Lawful := by
  obtain ⟨n, rfl⟩ := findC_is_decOf P decOf c d h
  exact hlaw n

/-- For every body, every split of it into network reads
(`src`), every sequence of caller reads (`bufs`): a body read to EOF is the original bytes or the
complete decode by the decoder `FindEncoding` finds on the WHOLE body.  The split decides at
most WHETHER that declaration is noticed. -/
theorem split_only_affects_meta_detection (P : Params) (decOf : Bytes → Decoder σ)
    (hlaw : ∀ n, (decOf n).Lawful) (src : Src) (bufs : List Nat)
    (heof : (autoReads (findC P decOf) src bufs).term = some .eof) :
    (autoReads (findC P decOf) src bufs).out = src.body ∨
    ∃ d, findC P decOf src.body = some d ∧ (autoReads (findC P decOf) src bufs).out = d.decodeAll src.body := by
  rcases two_outcomes (findC P decOf) (findC_lawful P decOf hlaw) src bufs heof with h | ⟨c, d, hs, hf, hout⟩
  · left; exact h
  · right
    obtain ⟨rest, hr⟩ := sniffed_is_prefix src bufs c hs
    exact ⟨d, by rw [hr]; exact findC_prefix P decOf c rest d hf, hout⟩

theorem declaration_in_sniffed_decides (P : Params) (decOf : Bytes → Decoder σ) (hlaw : ∀ n, (decOf n).Lawful)
    (src : Src) (bufs : List Nat) (a rest : Bytes) (d : Decoder σ) (hs : sniffed src bufs = some (a ++ rest))
    (ha : findC P decOf a = some d) (heof : (autoReads (findC P decOf) src bufs).term = some .eof) :
    (autoReads (findC P decOf) src bufs).out = d.decodeAll src.body := by
  have := outcome_by_sniff (findC P decOf) (findC_lawful P decOf hlaw) src bufs heof
  rwa [hs, Option.bind_some, findC_prefix P decOf a rest d ha] at this

/-- `split_only_affects_meta_detection` at the parameters the code runs the scanner with. -/
theorem two_outcomes_concrete (exotic : Bytes → Option Bytes) (decOf : Bytes → Decoder σ)
    (hlaw : ∀ n, (decOf n).Lawful) (src : Src) (bufs : List Nat)
    (heof : (autoReads (findC (realParams exotic) decOf) src bufs).term = some .eof) :
    (autoReads (findC (realParams exotic) decOf) src bufs).out = src.body ∨
    ∃ d, findC (realParams exotic) decOf src.body = some d ∧
      (autoReads (findC (realParams exotic) decOf) src bufs).out = d.decodeAll src.body :=
  split_only_affects_meta_detection _ decOf hlaw src bufs heof

/-- A header charset that neither the WHATWG label table nor
the IANA index resolves to an IMPLEMENTED encoding (unknown name, or a registered name without
an implementation such as `utf-7`, `utf-32`, `cesu-8`) leaves the body alone: every `Read` is
the underlying `Read` — no sniffing either. -/
theorem unsupported_charset_untouched (cfg : Config) (ae ct cs : Bytes) (whatwg : Bytes → Option Bytes)
    (decOf : Bytes → Decoder σ) (iana : Bytes → Iana σ) (find : Bytes → Option (Decoder σ))
    (hw : whatwg (Req.Ascii.lower cs) = none)
    (hi : ∀ d, iana (Req.Ascii.lower cs) ≠ .ok d) (src : Src) (bufs : List Nat) :
    (respReads cfg ae ct (.charset cs) (headerLookup whatwg decOf iana) find src bufs).out = (reads Src.read src bufs).out ∧
    (respReads cfg ae ct (.charset cs) (headerLookup whatwg decOf iana) find src bufs).term = (reads Src.read src bufs).term := by
  have hl : headerLookup whatwg decOf iana (Req.Ascii.lower cs) = none := by
    unfold headerLookup
    rw [hw]
    cases h : iana (Req.Ascii.lower cs) with
    | ok d => exact absurd h (hi d)
    | unimplemented => rfl
    | unknown => rfl
  have hselect : select cfg ae ct (.charset cs) (headerLookup whatwg decOf iana) = .untouched := by
    unfold select
    by_cases h1 : cfg.disable = true ∨ ae ≠ []
    · simp [h1]
    · by_cases h2 : shouldDecode cfg ct = false
      · simp [h1, h2]
      · by_cases h3 : isUtf8Label (Req.Ascii.lower cs) = true
        · simp [h1, h2, h3]
        · simp [h1, h2, h3, hl]
  simp only [respReads, hselect, wrapBody, bodyReads_raw, RR.map, and_self]

/-- A label of the WHATWG table always selects that table's encoding, whatever the IANA index would say (e.g.
`iso-8859-1` means windows-1252). -/
theorem whatwg_label_wins (whatwg : Bytes → Option Bytes) (decOf : Bytes → Decoder σ) (iana : Bytes → Iana σ)
    (cs n : Bytes) (h : whatwg cs = some n) : headerLookup whatwg decOf iana cs = some (decOf n) := by
  simp [headerLookup, h]

private def gbk : Bytes := [103, 98, 107]
private def u16le : Bytes := [117, 116, 102, 45, 49, 54, 108, 101]
/-- knows `gbk`, `utf-16le` and (as a trap) the truncated spelling `utf-1`. -/
private def demoP : Params :=
  ⟨fun l => if l = gbk then some gbk else if l = u16le then some u16le
            else if l = [117, 116, 102, 45, 49] then some [84, 82, 65, 80] else none, id⟩

-- `<meta charset=utf-16le>`
private def metaU16 : Bytes :=
  [60, 109, 101, 116, 97, 32, 99, 104, 97, 114, 115, 101, 116, 61, 117, 116, 102, 45, 49, 54, 108, 101, 62]
-- `<meta charset="gbk">x`
private def metaGbk : Bytes :=
  [60, 109, 101, 116, 97, 32, 99, 104, 97, 114, 115, 101, 116, 61, 34, 103, 98, 107, 34, 62, 120]

example : prescan demoP metaU16 = some sUtf8 := by decide +kernel   -- utf-16* means utf-8
example : prescan demoP metaGbk = some gbk := by decide +kernel
-- every proper prefix of the declaration (also `…charset=utf-1`, a label the table knows) finds nothing
example : (List.range metaU16.length).all (fun k => prescan demoP (metaU16.take k) == none) = true := by decide +kernel
example : (List.range 20).all (fun k => prescan demoP (metaGbk.take k) == none) = true := by decide +kernel
-- a declaration inside a comment, a script and a title is not one; after them it is
example : prescan demoP ([60, 33, 45, 45] ++ metaGbk ++ [45, 45, 62]) = none := by decide +kernel
example : prescan demoP ([60, 115, 99, 114, 105, 112, 116, 62] ++ metaGbk) = none := by decide +kernel
example : prescan demoP ([60, 116, 105, 116, 108, 101, 62, 60, 47, 116, 105, 116, 108, 101, 62] ++ metaGbk) = some gbk := by decide +kernel

end Req.Props.C15
