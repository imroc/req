import Req.Lemmas.C18Final
import Req.Props.C18Pipeline
/-!
C18 — property theorems: multi-exchange calls. A call may consist of several exchanges:
one per attempt of the retry loop, plus the authorized re-send of the digest middleware
(`tag = 2·attempt`, resp. `2·attempt + 1`). Everything the caller can ask the returned response
— status / state predicates, result and error slots, cached body, `Err` — belongs to ONE
exchange, the one whose http response the value carries; after a digest re-send that is the
re-sent exchange, never the 401.

Quantification: ALL stacks, hence every combination of auto-read on/off (`autoRead`),
`SetOutput` (`save`, `outFails`), success target, request-level error target, client-level
common error type, custom state checker (`Http.custom`), response-body transformer (`Http.xf`),
unmarshalling failure (`jsonOK`/`xmlOK`), read failure, retries (bounded or not), wrappers and
middleware of every kind.
-/
namespace Req.Props.C18
open Req.Result Req.Pipeline

/-- For the response `r` any call of the repaired code
returns, carrying the http response `h`:
(1) `h` is the script's answer to the exchange `r.tag` (provenance: the transport's answer in
attempt `r.tag / 2`, or the answer to a digest re-send of that attempt);
(2) a cached body is the body of that same exchange;
(3) whatever is bound in the result / error slots was selected, read and unmarshalled from `h`
(target supplied, state of `h`, `h` not a 204, `h` reads, transforms and unmarshals);
(4) when the call reports no error (and not merely because the `OnError` hook cleared one) the
slots are EXACTLY what `h` calls for.
(The state predicates are functions of `h` by definition: `stateOf h`.) -/
theorem binding_belongs_to_final_exchange (s : Stack) (r : Resp) (hr : callResp (run Fixes.all s) = some r)
    (h : Http) (hh : r.http = some h) :
    HttpOf s r.tag h ∧
    (r.bodyCached = true → r.bodyOf = r.tag) ∧
    (r.slots.result = true → SuccessRHS s h) ∧
    (r.slots.error = some .errorReq → ErrReqRHS s h) ∧
    (r.slots.error = some .errorCommon → ErrCommonRHS s h) ∧
    (r.err = none → s.hookAct ≠ .clear →
      (r.slots.result = true ↔ SuccessRHS s h) ∧
      (r.slots.error = some .errorReq ↔ ErrReqRHS s h) ∧
      (r.slots.error = some .errorCommon ↔ ErrCommonRHS s h)) := by
  obtain ⟨r0, hr0, hrr, _⟩ := callResp_callDo _ s r hr
  obtain ⟨e, he⟩ := afterHook_eq s r0
  have hc : Coh s r := by rw [hrr, he]; exact (callDo_coh s r0 hr0).set_err e
  obtain ⟨s1, s2⟩ := success_bound_call s r hr
  obtain ⟨e1, e2, _, e4⟩ := error_bound_call s r hr
  have ex : ∀ P : Http → Prop, (∃ h', r.http = some h' ∧ P h') ↔ P h := by
    intro P
    constructor
    · rintro ⟨h', hh', hp⟩; rw [hh] at hh'; cases hh'; exact hp
    · intro hp; exact ⟨h, hh, hp⟩
  refine ⟨hc.1 h hh, fun hb => hc.2 hb (by simp [hh]), ?_, ?_, ?_, ?_⟩
  · intro hres; exact (ex _).mp (s1 hres)
  · intro hres; exact (ex _).mp (e1 hres)
  · intro hres; exact (ex _).mp (e2 hres)
  · intro hne hcl
    obtain ⟨a, b⟩ := e4 hne hcl
    exact ⟨(s2 hne hcl).trans (ex _), a.trans (ex _), b.trans (ex _)⟩

/-- digest with auto-read off, an error target and a success target: 401 (error target bound,
body cached lazily) then 200 — the returned response carries exchange 1, its cached body and its
success result are those of exchange 1, the error result of the 401 is gone. -/
example : (callResp (run Fixes.all
      { successTarget := true, errorTarget := true, autoRead := false,
        transport := [.resp (exHttp 401 true)],
        reqResp := [[.digest true (.resp (exHttp 200 true))]] })).map
      (fun r => (r.tag, r.bodyCached, r.bodyOf, r.slots)) =
    some (1, true, 1, { result := true, error := none }) := by decide

/-- The same call on the code as found (`Fixes.none`): the 401's body and error result
survive on a response that says 200. -/
example : (callResp (run Fixes.none
      { successTarget := true, errorTarget := true, autoRead := false,
        transport := [.resp (exHttp 401 true)],
        reqResp := [[.digest true (.resp (exHttp 200 true))]] })).map
      (fun r => (r.tag, r.bodyCached, r.bodyOf, r.slots)) =
    some (1, true, 0, { result := false, error := some .errorReq }) := by decide

theorem autoRead_keeps (s : Stack) (r : Resp) : (autoRead s r).1.http = r.http ∧ (autoRead s r).1.tag = r.tag := by
  unfold autoRead
  split
  · split
    · split <;> exact ⟨rfl, rfl⟩
    · exact ⟨rfl, rfl⟩
  · exact ⟨rfl, rfl⟩

/-- Whenever the repaired digest middleware re-sends the request,
the response value afterwards carries the answer to THAT exchange (tag `2a + 1`) or — the
re-send failed — no http response at all: never the 401 again. -/
theorem digest_resend_is_final (s : Stack) (a : Nat) (ok : Bool) (re : TOut) (r r' : Resp)
    (hre : Ev.resend ∈ (digestStep Fixes.all s a ok re r).evs)
    (hr' : (digestStep Fixes.all s a ok re r).respO = some r') :
    r'.http = none ∨ (r'.tag = 2 * a + 1 ∧ ∃ h, re = .resp h ∧ r'.http = some h) := by
  rcases digestStep_cases Fixes.all s a ok re r with hd | ⟨hd, _⟩ | ⟨_, hd⟩ | ⟨_, _, hd⟩
  · rw [hd] at hre; cases hre
  · cases hd
  · rw [hd] at hre; simp [StepOut.evs] at hre
  · rw [hd] at hr'
    cases re with
    | fail e => cases hr'; exact .inl rfl
    | resp h2 =>
      simp only [digestResend, show Fixes.all.digestRebind = true from rfl, if_true, rebind_respO] at hr'
      cases hr'
      -- binding and saving touch neither `http` nor `tag`
      obtain ⟨k1, k2⟩ := autoRead_keeps s
        ({ forget Fixes.all r with http := some h2, tag := 2 * a + 1 } : Resp)
      obtain ⟨e, sv, hf⟩ := finish_resp .digestTail s a
        ({ forget Fixes.all r with http := some h2, tag := 2 * a + 1 } : Resp)
      rw [hf]
      exact .inr ⟨k2, h2, rfl, k1⟩

/-- The challenge a digest middleware is going to answer is not what the caller asked to save:
`handleDownload` leaves it alone. -/
theorem challenge_is_not_saved (s : Stack) (a : Nat) (r : Resp) (h : Http) (hh : r.http = some h)
    (hfix : s.fixDigestSave = true) (hch : digestChallenged s a h = true) : download s a r = (r, []) := by
  unfold download; simp [hh, hfix, hch]

/-- When the repaired digest middleware has re-sent the request
and goes on without error, the output holds the body of the re-sent exchange. -/
theorem digest_resend_saves_final (s : Stack) (a : Nat) (r1 r' : Resp) (evs : List Ev)
    (hfix : s.fixDigestSave = true) (hsave : s.save = true) (hh : r1.http ≠ none)
    (h : rebind s a r1 = .cont (some r') evs) : r'.savedOf = some r1.tag := by
  obtain ⟨k1, k2⟩ := autoRead_keeps s r1
  unfold rebind at h
  simp only at h
  split at h
  · cases h
  · rw [if_pos hfix] at h
    split at h
    · cases h
    · rename_i hse
      simp only [StepOut.cont.injEq, Option.some.injEq] at h
      obtain ⟨h, _⟩ := h
      subst h
      have hhttp : (parseResp s (autoRead s r1).1).resp.http = r1.http := by simp only [parseResp]; exact k1
      have htag : (parseResp s (autoRead s r1).1).resp.tag = r1.tag := by simp only [parseResp]; exact k2
      have hsv : saved s a (parseResp s (autoRead s r1).1).resp = true := by
        unfold saved
        rw [hse, hsave, hhttp]
        cases hx : r1.http with
        | none => exact absurd hx hh
        | some _ => rfl
      simp only [hsv, if_true, htag]

def exDigestSave (fixed : Bool) : Stack :=
  { save := true, fixDigestSave := fixed,
    transport := [.resp (exHttp 401 true)],
    reqResp := [[.digest true (.resp (exHttp 200 true))]] }

/-- repaired: the answer to the authorized request (exchange 1) is what gets saved … -/
example : (callResp (run Fixes.all (exDigestSave true))).map (fun r => (r.tag, r.err, r.savedOf)) = some (1, none, some 1) := by
  decide

/-- … as found, the output holds the 401 challenge (exchange 0) although the call returns the 200. -/
theorem as_found_digest_saves_challenge :
    (callResp (run Fixes.all (exDigestSave false))).map (fun r => (r.tag, r.err, r.savedOf)) = some (1, none, some 0) := by
  decide

end Req.Props.C18
