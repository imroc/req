import Req.Props.C01BodyH1
import Req.Props.C01
/-!
C01 — the reader-level model of the HTTP/1.1 body writer (`Req.H1.BodyWrite`) REFINES the
byte-level serialiser `serializeH1` (`Req.H1.framing` + `bodyBytes`, the functions `h1_fidelity` /
`h1_send_fidelity` are stated about): for every honest reader — whatever its read sizes, zero-length
reads and the way it signals its end — with a truthful or absent declared length, the bytes
`writeBody` produces are the bytes `bodyBytes` gives for the body `r.data` and SOME list of read
sizes; `h1_fidelity` quantifies over all such lists, so an independent origin reads exactly
`r.data`.
-/
namespace Req.Props.C01BodyH1
open Req.Proto Req.H1 Req.H1.BodyWrite Req.Lemmas.C01Body Req.Lemmas.C01BodyH1
open Req.H2.BodyWrite (Reader RErr Ending)

/-- `Request.ContentLength` as `plan` takes it -/
def clOf (c : Int) : Option Nat := if c ≤ 0 then none else some c.toNat

/-- for a reader that ends with `io.EOF` the probe of `newTransferWriter` finds `(0, io.EOF)` exactly
when the body is empty -/
theorem probe_eq (r : Reader) (hend : r.ending = .eof ∨ r.ending = .eofWithLast) :
    ((r.read 1).1.isEmpty && (r.read 1).2.1 == RErr.eof) = r.data.isEmpty := by
  rcases hr : r.read 1 with ⟨c, e, r1⟩
  have hs := read_spec hr
  cases hd : r.data with
  | nil =>
    obtain ⟨rfl, rfl, _⟩ := hs.atEnd hd hend
    rfl
  | cons x xs =>
    cases c with
    | cons _ _ => rfl
    | nil =>
      cases e with
      | eof => simp [← hs.data, hs.eof rfl] at hd
      | none | fail => rfl

theorem planUnknown_mode_honest (method : Bytes) (r : Reader)
    (hend : r.ending = .eof ∨ r.ending = .eofWithLast) :
    (planUnknown method r).mode =
      if methodOrGet method == sCONNECT then .identity
      else if methodUsuallyLacksBody (methodOrGet method) then
        (if r.data.isEmpty then .noBody else .chunked)
      else .chunked := by
  have hp := probe_eq r hend
  unfold planUnknown
  rcases hr : r.read 1 with ⟨c, e, r1⟩
  rw [hr] at hp
  simp only at hp ⊢
  rw [hp]
  simp only [apply_ite Plan.mode]

theorem writeBody_chunked (buf : Nat) (p : Plan) (data : Bytes) (hm : p.mode = .chunked)
    (hok : (pieces buf p).2 = .ok) (hfl : (pieces buf p).1.flatten = data)
    (hne : ∀ w ∈ (pieces buf p).1, w ≠ []) :
    (writeBody buf p).1 = chunkedBody data ((pieces buf p).1.map List.length) := by
  unfold writeBody chunkedBody
  simp only [hm, hok, if_true]
  rw [← hfl, splitReads_pieces _ hne]
  simp [List.append_assoc]

theorem writeBody_plain (buf : Nat) (p : Plan) (hm : p.mode ≠ .chunked) :
    (writeBody buf p).1 = (pieces buf p).1.flatten := by
  unfold writeBody
  cases h : p.mode with
  | chunked => exact absurd h hm
  | noBody => rfl
  | identity => rfl
  | known n => rfl

/-- the framing triple of `Req.H1.framing` that stands for a mode of `newTransferWriter` -/
def framingOfMode : Mode → Framing
  | .noBody => ⟨false, false, 0⟩
  | .chunked => ⟨true, true, -1⟩
  | .identity => ⟨true, false, -1⟩
  | .known n => ⟨true, false, n⟩

theorem framing_plan (w : WReq) (r : Reader) (hbody : w.hasBody = true) (hdata : w.body = r.data)
    (hend : r.ending = .eof ∨ r.ending = .eofWithLast)
    (hcl : w.contentLength = 0 ∨ w.contentLength = -1 ∨ w.contentLength = r.data.length) :
    framing w = .ok (framingOfMode (plan w.method (clOf w.contentLength) r).mode) := by
  unfold framing clOf
  simp only [hbody, Bool.not_true, Bool.and_false, Bool.false_eq_true, if_false]
  by_cases hpos : 0 < w.contentLength
  · obtain ⟨k, hk⟩ : ∃ k : Nat, w.contentLength = (k + 1 : Nat) := ⟨w.contentLength.toNat - 1, by omega⟩
    have h1 : (w.contentLength != 0) = true := by simp; omega
    simp only [h1, if_true, show ¬ w.contentLength < 0 by omega, show ¬ w.contentLength ≤ 0 by omega, if_false]
    rw [hk]
    rfl
  · have hcneg : (if (w.contentLength != 0) = true then w.contentLength else (-1 : Int)) = -1 := by
      have h0 : w.contentLength = 0 ∨ w.contentLength = -1 := by omega
      rcases h0 with h | h <;> simp [h]
    simp only [hcneg, show (-1 : Int) < 0 by omega, show w.contentLength ≤ 0 by omega, if_true]
    rw [show plan w.method none r = planUnknown w.method r from rfl, planUnknown_mode_honest _ _ hend, hdata]
    simp only [apply_ite framingOfMode, apply_ite (Except.ok (ε := WErr))]
    rfl

theorem h1_reader_refines_serialize (buf : Nat) (hbuf : 1 ≤ buf) (w : WReq) (r : Reader) (f : Framing)
    (hbody : w.hasBody = true) (hdata : w.body = r.data)
    (hend : r.ending = .eof ∨ r.ending = .eofWithLast)
    (hcl : w.contentLength = 0 ∨ w.contentLength = -1 ∨ w.contentLength = r.data.length)
    (hf : framing w = .ok f) :
    ∃ reads, bodyBytes { w with reads := reads } f =
      .ok (writeBody buf (plan w.method (clOf w.contentLength) r)).1 := by
  have hcl' : clOf w.contentLength = none ∨ clOf w.contentLength = some r.data.length := by
    unfold clOf
    rcases hcl with h | h | h
    · left; simp [h]
    · left; simp [h]
    · by_cases h0 : w.contentLength ≤ 0
      · left; simp [h0]
      · right; rw [if_neg h0, h]; simp
  obtain ⟨hok, hfl⟩ := h1_honest_body_completes buf hbuf w.method (clOf w.contentLength) r hend hcl'
  have hk := (plan_inv w.method (clOf w.contentLength) r).known
  have hne := (pieces_spec buf (plan w.method (clOf w.contentLength) r) hk).2.2
  have hlen := (h1_body_ok_exact buf w.method (clOf w.contentLength) r hok).2
  have hnb := (plan_inv w.method (clOf w.contentLength) r).noBody
  cases (framing_plan w r hbody hdata hend hcl).symm.trans hf
  generalize plan w.method (clOf w.contentLength) r = p at *
  cases hmode : p.mode with
  | chunked =>
    exact ⟨(pieces buf p).1.map List.length, by
      rw [writeBody_chunked buf p r.data hmode hok hfl hne]; simp [bodyBytes, framingOfMode, hdata]⟩
  | noBody =>
    exact ⟨[], by rw [writeBody_plain buf p (by rw [hmode]; nofun), hfl, hnb hmode]; rfl⟩
  | identity =>
    exact ⟨[], by rw [writeBody_plain buf p (by rw [hmode]; nofun), hfl]; simp [bodyBytes, framingOfMode, hdata]⟩
  | known n =>
    exact ⟨[], by
      rw [writeBody_plain buf p (by rw [hmode]; nofun), hfl]
      simp [bodyBytes, framingOfMode, hdata, ← hlen n hmode]⟩

/-- `h1_fidelity` for a body that is a READER: for every request that is
`Valid` (see Props/C01.lean / `h1_send_fidelity`) whose body is an honest reader — any read sizes,
zero-length reads, EOF alone or with the last bytes — of truthful or absent declared length, and
every copy-buffer length: the head followed by what the reader-level `writeBody` writes, followed by
ANY bytes, is read by the independent origin as exactly one request with the method, target, header
lines and EXACTLY the reader's bytes as body, the rest untouched. -/
theorem h1_reader_fidelity (buf : Nat) (hbuf : 1 ≤ buf) (w : WReq) (r : Reader) (host : Bytes) (f : Framing)
    (hbody : w.hasBody = true) (hdata : w.body = r.data)
    (hend : r.ending = .eof ∨ r.ending = .eofWithLast)
    (hcl : w.contentLength = 0 ∨ w.contentLength = -1 ∨ w.contentLength = r.data.length)
    (hh : wireHost w = .ok host) (hf : framing w = .ok f)
    (hctl : Req.BStr.containsCTL (requestTarget w host) = false)
    (hv : Req.H1.Origin.Valid w host f) (rest : Bytes) :
    Req.H1.Origin.parseRequestH1
      (requestLine w (requestTarget w host) ++ renderFields (h1Fields w host f) ++ crlf ++
        (writeBody buf (plan w.method (clOf w.contentLength) r)).1 ++ rest) =
      some (Req.Props.C01.view w host f, rest) := by
  obtain ⟨reads, hb⟩ := h1_reader_refines_serialize buf hbuf w r f hbody hdata hend hcl hf
  have hh' : wireHost { w with reads := reads } = .ok host := hh
  have hf' : framing { w with reads := reads } = .ok f := hf
  have hs : serializeH1 { w with reads := reads } =
      .ok (requestLine w (requestTarget w host) ++ renderFields (h1Fields w host f) ++ crlf ++
        (writeBody buf (plan w.method (clOf w.contentLength) r)).1) := by
    unfold serializeH1
    simp only [hh', hf', bind, Except.bind]
    have hc : Req.BStr.containsCTL (requestTarget { w with reads := reads } host) = false := hctl
    rw [if_neg (by rw [hc]; simp)]
    simp only [hb, pure, Except.pure]
    rfl
  -- `Valid` does not read `reads`
  have hv' : Req.H1.Origin.Valid { w with reads := reads } host f :=
    ⟨hv.method_ok, hv.target_ok, hv.ua_ok, hv.framing_hdr, hv.framing_extra, hv.framed⟩
  exact Req.Props.C01.h1_fidelity { w with reads := reads } _ host f hh' hf' hs hv' rest

/-- whole chunks with nothing behind them (the connection was closed): the origin's chunk reader
does not complete -/
theorem readChunks_truncated (ps : List Bytes) (hne : ∀ p ∈ ps, p ≠ []) :
    ∀ fuel, Req.H1.Origin.readChunks fuel (ps.flatMap chunk) = none := by
  induction ps with
  | nil => intro fuel; cases fuel <;> simp [Req.H1.Origin.readChunks, Req.H1.Origin.readLine]
  | cons p ps ih =>
    intro fuel
    cases fuel with
    | zero => rfl
    | succ f =>
      rw [List.flatMap_cons, Req.H1.Origin.readChunks_chunk _ _ (hne p (by simp)),
        ih (fun q hq => hne q (by simp [hq])) f]

/-- chunked framing, ANY reader that fails (a non-EOF error, alone
or together with bytes): `writeBody` leaves whole chunks on the wire and no terminating chunk; the
connection is then closed, and the independent origin does NOT read a complete body from what
arrived (RFC 9112 §8: incomplete message) — a failed upload is never taken for a complete one. The
HTTP/1.1 counterpart of `h2_no_end_stream_unless_done` / `h3_reset_not_accepted`. -/
theorem h1_failed_reader_not_accepted (buf : Nat) (method : Bytes) (cl : Option Nat) (r : Reader)
    (hm : (plan method cl r).mode = .chunked) (hfail : (pieces buf (plan method cl r)).2 ≠ .ok) :
    Req.H1.Origin.decodeBody .chunked (writeBody buf (plan method cl r)).1 = none := by
  have hk := (plan_inv method cl r).known
  have hne := (pieces_spec buf (plan method cl r) hk).2.2
  unfold writeBody Req.H1.Origin.decodeBody
  simp only [hm, hfail, if_false, List.append_nil]
  exact readChunks_truncated _ hne _

example : (pieces 4 (plan [80, 79, 83, 84] none { data := [1, 2, 3, 4, 5], sizes := [2], ending := .errorWithLast })).2 = .readError ∧
    (writeBody 4 (plan [80, 79, 83, 84] none { data := [1, 2, 3, 4, 5], sizes := [2], ending := .errorWithLast })).1 =
      [50, 13, 10, 1, 2, 13, 10, 51, 13, 10, 3, 4, 5, 13, 10] := by decide +kernel

end Req.Props.C01BodyH1
