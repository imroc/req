import Req.Props.C06Peer
import Req.Lemmas.C06Cut
/-!
C06 — operations inside somebody's frame write (`Req.H2.Cut`).

`conn_conforms` quantifies over operation lists at lock granularity. Two families of schedules of
the real code sit below that granularity because `cc.wmu` is held across a blocking write: a
request cancelled at some octet of its (multi-frame) header block, and a caller operation on
another stream (`Body.Close`, `Body.Read`, cancel) issued while a body writer is parked inside a
DATA frame. The script lane drives the real `ClientConn` into exactly these situations (a gate
between the connection and the socket parks the writer at a chosen octet) and compares the frames
with `Cut.xstep Variant.real`. What that model is worth: every such script is a run of the
atomic machine (`cut_is_run`), so every theorem about all runs holds of it. The three
counter-examples show that the alternatives `Variant.cancelBetweenFrames` and
`Variant.closeTryLock` are rejected.
-/
namespace Req.Props.C06
open Req.H2 Req.H2.Flow Req.H2.Conn Req.H2.Monitor Req.H2.Cut Req.Lemmas.C06

/-- a script with cancellations inside header blocks and operations under a held
`cc.wmu` is a run of the connection machine on an operation list (the two halves of each such
operation one after the other, `write`s and wake-ups inserted): same final state, same history. -/
theorem cut_is_run (cfg : Cfg) (xs : List XOp) :
    ∃ ops : List Op, ((∀ x ∈ xs, x.ok) → ∀ o ∈ ops, o.ok) ∧ run cfg ops = xrun Variant.real cfg xs := by
  obtain ⟨ops, h1, h2⟩ := xrunFrom_is_run xs (newConn cfg).1 ((newConn cfg).2.map Event.c)
  exact ⟨ops, h1, h2⟩

/-- the strict peer accepts every frame of every such script — whatever octet
of a header block the cancellation arrives at, whatever is going on while `cc.wmu` is held. -/
theorem cut_conforms (cfg : Cfg) (hfix : cfg.fixes = Fixes.all) (hcfg : cfg.ok)
    (xs : List XOp) (hxs : ∀ x ∈ xs, x.ok) :
    Monitor (xrun Variant.real cfg xs).2 = true := by
  obtain ⟨ops, h1, h2⟩ := cut_is_run cfg xs
  rw [← h2]
  exact conn_conforms cfg hfix hcfg ops (h1 hxs)

/-- in every such script the peer's connection-level send window by its own books equals
`cc.inflow.avail` (credit committed under `cc.mu` while `cc.wmu` was held is written, not dropped). -/
theorem cut_peer_window_exact (cfg : Cfg) (hfix : cfg.fixes = Fixes.all) (hcfg : cfg.ok)
    (xs : List XOp) (hxs : ∀ x ∈ xs, x.ok) :
    (xrun Variant.real cfg xs).1.closed = true ∨
    ∃ r, Recv.run Recv.init (xrun Variant.real cfg xs).2 = .ok r ∧
      r.connWin = (xrun Variant.real cfg xs).1.connIn.avail := by
  obtain ⟨ops, h1, h2⟩ := cut_is_run cfg xs
  rw [← h2]
  exact peer_window_exact cfg hfix hcfg ops (h1 hxs)

/-- `peer_window_exact` and `credit_conservation` together, in the peer's terms -/
theorem credit_accounted (cfg : Cfg) (hfix : cfg.fixes = Fixes.all) (hcfg : cfg.ok)
    (ops : List Op) (hops : ∀ op ∈ ops, op.ok) :
    (run cfg ops).1.closed = true ∨ (run cfg ops).1.panicked = true ∨
    ∃ r, Recv.run Recv.init (run cfg ops).2 = .ok r ∧
      r.connWin + (run cfg ops).1.connIn.unsent + sumBuffered (run cfg ops).1.streams =
        connInflowInit cfg.connFlow ∧ Fresh (run cfg ops).1.connIn := by
  rcases peer_window_exact cfg hfix hcfg ops hops with h | ⟨r, hr1, hr2⟩
  · exact Or.inl h
  · rcases credit_conservation cfg hfix ops hops with hp | ⟨hc, hf, _⟩
    · exact Or.inr (Or.inl hp)
    · exact Or.inr (Or.inr ⟨r, hr1, hr2 ▸ hc, hf⟩)

/-- the peer's window + what waits below the refresh threshold + what
sits unread in response bodies = what the client advertised. -/
theorem cut_credit_accounted (cfg : Cfg) (hfix : cfg.fixes = Fixes.all) (hcfg : cfg.ok)
    (xs : List XOp) (hxs : ∀ x ∈ xs, x.ok) :
    let st := (xrun Variant.real cfg xs).1
    st.closed = true ∨ st.panicked = true ∨
    ∃ r, Recv.run Recv.init (xrun Variant.real cfg xs).2 = .ok r ∧
      r.connWin + st.connIn.unsent + sumBuffered st.streams = connInflowInit cfg.connFlow ∧
      Fresh st.connIn := by
  obtain ⟨ops, h1, h2⟩ := cut_is_run cfg xs
  rw [← h2]
  exact credit_accounted cfg hfix hcfg ops (h1 hxs)

/-- a default connection; a request with a 40000-octet header block (three frames) cancelled
after one octet; an upload parked in its DATA frame while a response with 16384 unread octets
is closed -/
def exampleCut : List XOp :=
  [.plain (.peer (.settings [])), .openCancel { hdrLen := 40000, bodyLen := 0, known := true } 1,
   .plain (.openStream 50 100000 true), .plain (.openStream 50 0 true),
   .plain (.peer (.headers 5 false)), .plain (.peer (.data 5 16384 0 false)),
   .held 3 0 (.close 5)]

example : ∀ x ∈ exampleCut, x.ok := by
  intro x hx
  simp [exampleCut] at hx
  rcases hx with rfl | rfl | rfl | rfl | rfl | rfl | rfl <;> simp [XOp.ok, Op.ok, PFrame.ok]

example : clientFrames (xrun Variant.real exampleCfg exampleCut).2 =
    [.settings [(2, 0), (4, 4194304), (6, 10485760)], .windowUpdate 0 1073741824, .settingsAck,
     .headers 1 16384 true false, .continuation 1 16384 false, .continuation 1 7232 true, .rst 1,
     .headers 3 50 false true, .headers 5 50 true true,
     .data 3 16384 false, .rst 5, .windowUpdate 0 16384] := by decide +kernel

/-- what the client writes for a request that is cancelled
while its header block is being written does not depend on the octet at which the cancellation
arrives: `writeHeaders` holds `cc.wmu` from HEADERS to the last CONTINUATION and does not look.
(That the block is contiguous and complete on the wire is then `cut_conforms`.) -/
theorem block_contiguous_under_cancel (st : State) (r : Req) (cut cut' : Nat) :
    xstepE Variant.real st (.openCancel r cut) = xstepE Variant.real st (.openCancel r cut') := by
  simp [xstepE, Variant.real, writeBlock_real]

/-- what such a request writes is what opening and then cancelling gives at lock granularity -/
theorem open_cancel_frames (st : State) (r : Req) (cut : Nat) :
    (xstep Variant.real st (.openCancel r cut)).2 =
      (step st (.openReq r)).2 ++ (scriptStep (step st (.openReq r)).1 (.cancel st.nextStreamID)).2 := by
  simp only [xstep, xstepE, Variant.real, writeBlock_real, clientFrames_append, clientFrames_scriptEvents]
  cases hc : st.closed with
  | true => simp [step_closed hc, clientFrames]
  | false => simp [clientFrames_map_c]

theorem run_snoc (cfg : Cfg) (ops : List Op) (op : Op) :
    (run cfg (ops ++ [op])).1 = (step (run cfg ops).1 op).1 := by
  have hrun : ∀ l, run cfg l = runFrom (newConn cfg).1 ((newConn cfg).2.map Event.c) l := fun _ => rfl
  rw [hrun, hrun, runFrom_append, step_is_run]

/-- `Body.Close` on a response that has a body and was not closed
before — whatever has been received, whatever has been read, whether or not the peer has already
ended the stream, whether or not the stream is still in `cc.streams` — leaves the books like
this: the peer's connection-level send window (by the peer's own books: `Recv`) plus what waits
below the refresh threshold (`unsent`, less than 4096 and less than the window) plus what is
still buffered for OTHER streams is everything the client advertised. Nothing of the closed
response is held back. (`peer_window_exact` + `credit_conservation` across `Close` at any state.) -/
theorem close_returns_all_credit (cfg : Cfg) (hfix : cfg.fixes = Fixes.all) (hcfg : cfg.ok)
    (ops : List Op) (hops : ∀ op ∈ ops, op.ok) (id : Nat) (s : Stream)
    (hf : findStream (run cfg ops).1.streams id = some s)
    (h1 : s.gotHeaders = true) (h2 : s.noBody = false) (h3 : s.broken = false) :
    let st := (run cfg (ops ++ [.close id])).1
    st.closed = true ∨ st.panicked = true ∨
    ∃ r, Recv.run Recv.init (history (run cfg (ops ++ [.close id]))) = .ok r ∧
      r.connWin + st.connIn.unsent + sumBuffered (st.streams.filter (fun t => t.id ≠ id)) =
        connInflowInit cfg.connFlow ∧
      Fresh st.connIn := by
  intro st
  cases hc0 : (run cfg ops).1.closed with
  | true =>
    left
    show (run cfg (ops ++ [.close id])).1.closed = true
    rw [run_snoc, step_closed hc0]; exact hc0
  | false =>
    refine (credit_accounted cfg hfix hcfg _ (ops_ok_append hops fun o ho => by
      rw [List.mem_singleton.mp ho]; trivial)).imp_right (.imp_right fun ⟨r, hr1, hc, hfr⟩ => ⟨r, hr1, ?_, hfr⟩)
    -- nothing of the closed response is buffered any more
    have hz : ∀ t ∈ st.streams, t.id = id → t.buffered = 0 := by
      show ∀ t ∈ (run cfg (ops ++ [.close id])).1.streams, t.id = id → t.buffered = 0
      rw [run_snoc]
      exact close_step_buffered _ id s hc0 hf h1 h2 h3
    rw [← sumBuffered_filter_ne id st.streams hz]
    exact hc

/-- a download: 16384 octets received, 5000 read, the peer ends the stream, `Close` — and a
second response still unread: the hypotheses are satisfiable, the run is not trivial -/
def opsCloseEnded : List Op :=
  [.peer (.settings []), .openStream 50 0 true, .openStream 50 0 true,
   .peer (.headers 1 false), .peer (.headers 3 false), .peer (.data 3 7000 0 false),
   .peer (.data 1 16384 0 false), .read 1 5000, .peer (.data 1 100 0 true)]

example : (findStream (run exampleCfg opsCloseEnded).1.streams 1).map
    (fun s => (s.gotHeaders, s.noBody, s.broken, s.peerEnd, s.buffered)) = some (true, false, false, true, 11484) := by decide +kernel
example : (history (run exampleCfg (opsCloseEnded ++ [.close 1]))).getLast? = some (.c (.windowUpdate 0 11484)) := by decide +kernel
example : sumBuffered ((run exampleCfg (opsCloseEnded ++ [.close 1])).1.streams.filter (fun t => t.id ≠ 1)) = 7000 := by decide +kernel

/-- a loop that looks at the cancellation between the frames of a block (the alternative
`cancelBetweenFrames`): HEADERS without END_HEADERS, then RST_STREAM — the strict peer rejects
the history; the code as it is passes -/
theorem cancel_between_frames_counterexample :
    let xs : List XOp := [.plain (.peer (.settings [])), .openCancel { hdrLen := 40000, bodyLen := 0, known := true } 1]
    Monitor (xrun Variant.real exampleCfg xs).2 = true ∧
    Monitor (xrun { cancelBetweenFrames := true } exampleCfg xs).2 = false ∧
    clientFrames (xstepE { cancelBetweenFrames := true }
      (xrun Variant.real exampleCfg [.plain (.peer (.settings []))]).1
      (.openCancel { hdrLen := 40000, bodyLen := 0, known := true } 1)).2 =
      [.headers 1 16384 true false, .rst 1] := by decide +kernel

/-- an upload of 100 octets with 40000 octets of trailers, cancelled one octet into the second
frame of the trailer block -/
def exampleTrailerCut : List XOp :=
  [.plain (.peer (.settings [])), .plain (.openReq { hdrLen := 50, bodyLen := 100, known := true, trailer := some 40000 }),
   .feedCancel 1 0 16385]

/-- the same for the request's trailer block: the code as it is writes DATA, the whole trailer
block (END_STREAM, END_HEADERS on the last frame), then RST_STREAM; the alternative stops after
the second frame -/
theorem cancel_in_trailers_counterexample :
    clientFrames (xstepE Variant.real (xrun Variant.real exampleCfg (exampleTrailerCut.take 2)).1 (.feedCancel 1 0 16385)).2 =
      [.data 1 100 false, .headers 1 16384 true false, .continuation 1 16384 false, .continuation 1 7232 true, .rst 1] ∧
    Monitor (xrun Variant.real exampleCfg exampleTrailerCut).2 = true ∧
    clientFrames (xstepE { cancelBetweenFrames := true } (xrun Variant.real exampleCfg (exampleTrailerCut.take 2)).1 (.feedCancel 1 0 16385)).2 =
      [.data 1 100 false, .headers 1 16384 true false, .continuation 1 16384 false, .rst 1] ∧
    Monitor (xrun { cancelBetweenFrames := true } exampleCfg exampleTrailerCut).2 = false := by decide +kernel

/-- `Body.Close` that drops its WINDOW_UPDATE when `cc.wmu` is taken (the alternative
`closeTryLock`): the peer's window is 16384 octets below the client's books, for good; the code
as it is: equal -/
theorem close_trylock_counterexample :
    let r := xrun { closeTryLock := true } exampleCfg exampleCut
    let r' := xrun Variant.real exampleCfg exampleCut
    r.1.closed = false ∧ peerConnWin r.2 = r.1.connIn.avail - 16384 ∧
    r'.1.closed = false ∧ peerConnWin r'.2 = r'.1.connIn.avail := by decide +kernel

end Req.Props.C06

namespace Req.Props.C06
open Req.H2 Req.H2.Conn
/-- a 204 with Content-Length 10 whose stream stays open — 5000 octets of DATA are
read and credited at both levels like any other (no "more than declared" abort); a 200 with the
same declaration is aborted by the Read (RST_STREAM, connection-level credit only) -/
example : (history (run exampleCfg [.peer (.settings []), .openStream 51 0 true, .peer (.resp 1 false 204 (some 10)),
    .peer (.data 1 5000 0 false), .read 1 8192])).getLast? = some (.c (.windowUpdate 1 5000)) := by decide +kernel
example : (history (run exampleCfg [.peer (.settings []), .openStream 51 0 true, .peer (.resp 1 false 200 (some 10)),
    .peer (.data 1 5000 0 false), .read 1 8192])).getLast? = some (.c (.windowUpdate 0 5000)) := by decide +kernel
end Req.Props.C06
