import Req.Lemmas.C19Graph
/-!
# C19 on the object graph — a clone shares nothing mutable with its original

`Req/Client/Graph.lean` models the heap behind a client as a graph with one node per Go object
(nested structs, back-pointers and closures included) and `Clone` as a copy directed by a
per-field specification (`share` / `copy` / `fresh` / `toNew` / `zero`). For every graph, every
specification and every nesting depth — nothing is flattened — a specification that shares only
what is deeply immutable or listed as shared by design leaves nothing else reachable from both
the original and the copy (`clone_separates`), so that a write to any other object reachable from
one of them ("a change to either", as map insert, append in place, write through a pointer,
re-pointing a field) changes nothing reachable from the other. The premise on the specification
becomes a decidable check on a finite table of field rows (`rowsSafe`), which `Bridge/C19.lean`
decides for the regenerated table. Trusted: that those rows and `Conforms` describe the Go structs (lane `share`
judges the rows against the real heap).
-/
namespace Req.Props.C19Graph
open Req.Graph

/-- `Clone` only reads: every object that existed before is what it was. -/
theorem clone_reads_only (S : Spec) (fuel : Nat) (g : G) (r : Nat) (hwf : WFBelow g.next g) (hr : r < g.next) :
    ∀ i, i < g.next → (clone S fuel g r).1.node i = g.node i :=
  (clone_spec S fuel g r hwf hr).2.2.1

/-- **Separation.** After `Clone`, an object reachable from both the original `r` and the copy is
of a deeply immutable type, or lies at or below the target of a shared-by-design reference held by
a new object. -/
theorem clone_separates (S : Spec) (imm : Ty → Bool) (design : Ty → Label → Bool) (fuel : Nat) (g : G) (r : Nat)
    (hwf : WFBelow g.next g) (hr : r < g.next)
    (himm : ImmClosed imm g.next g) (hsafe : ShareSafe S imm design g.next g) :
    ∀ n, Reach (clone S fuel g r).1 r n → Reach (clone S fuel g r).1 (clone S fuel g r).2 n →
      imm ((clone S fuel g r).1.node n).ty = true ∨ ViaDesign design (clone S fuel g r).1 g.next n := by
  intro n h1 h2
  obtain ⟨hr', hlt, hagree, hnew⟩ := clone_spec S fuel g r hwf hr
  have hwf' : WFBelow g.next (clone S fuel g r).1 := by
    intro i hi e he
    rw [hagree i hi] at he
    exact hwf i hi e he
  have hold : n < g.next := reach_below hwf' hr h1
  rcases new_reach hnew hagree hwf himm hsafe (by rw [hr']; exact Nat.le_refl _) (by rw [hr']; exact hlt) h2 with ⟨hb, _⟩ | ⟨_, h⟩
  · omega
  · exact h

/-- **The copy initially is what the original is** (one level; the targets of `copy` fields are
copies made the same way): same type, same scalar content, the same reference-typed fields in the
same order — every field but those the specification drops — and every `share` field refers to the
very object the original's refers to. -/
theorem clone_root_faithful (S : Spec) (fuel : Nat) (g : G) (r : Nat) :
    let c := clone S (fuel + 1) g r
    let env : Ty → Option Nat := fun u => if u = (g.node r).ty then some g.next else none
    (c.1.node c.2).ty = (g.node r).ty ∧ (c.1.node c.2).val = (g.node r).val ∧
    (c.1.node c.2).out.map Prod.fst = ((g.node r).out.filter (kept S env (g.node r).ty)).map Prod.fst ∧
    (∀ e ∈ (g.node r).out, S (g.node r).ty e.1 = .share → e ∈ (c.1.node c.2).out) := by
  intro c env
  have hc : c = cloneNode S (fuel + 1) (fun _ => none) g r := rfl
  simp only [cloneNode] at hc
  have h2 : c.2 = g.next := by rw [hc]
  have hnode : c.1.node c.2 = ⟨(g.node r).ty, (g.node r).val,
      ((g.node r).out.foldl (cloneEdge S (g.node r).ty env (cloneNode S fuel env))
        (g.alloc ⟨(g.node r).ty, (g.node r).val, []⟩, [])).2⟩ := by
    rw [h2, hc]
    simp [G.set, env]
  rw [hnode]
  refine ⟨rfl, rfl, ?_, ?_⟩
  · simp only
    rw [foldl_labels]
    simp
  · intro e he hS
    exact foldl_shared S (g.node r).ty env _ _ _ e (Or.inr ⟨he, hS⟩)

/-- the objects that may be common to both: immutable ones and those under a shared-by-design reference -/
def Common (imm : Ty → Bool) (design : Ty → Label → Bool) (g' : G) (b n : Nat) : Prop :=
  imm (g'.node n).ty = true ∨ ViaDesign design g' b n

/-- **A change to the copy has no effect on the original.** Overwrite any object `n` reachable from
the copy that is not `Common` with ANY content `x`: every object reachable from the original is
unchanged, and exactly the same objects are reachable from it. -/
theorem original_unaffected (S : Spec) (imm : Ty → Bool) (design : Ty → Label → Bool) (fuel : Nat) (g : G) (r : Nat)
    (hwf : WFBelow g.next g) (hr : r < g.next)
    (himm : ImmClosed imm g.next g) (hsafe : ShareSafe S imm design g.next g)
    (n : Nat) (x : Node) (hn : Reach (clone S fuel g r).1 (clone S fuel g r).2 n)
    (hnc : ¬ Common imm design (clone S fuel g r).1 g.next n) :
    ∀ m, (Reach ((clone S fuel g r).1.set n x) r m ↔ Reach (clone S fuel g r).1 r m) ∧
      (Reach (clone S fuel g r).1 r m → ((clone S fuel g r).1.set n x).node m = (clone S fuel g r).1.node m) :=
  set_frame_iff _ r n x fun h => hnc (clone_separates S imm design fuel g r hwf hr himm hsafe n h hn)

/-- **A change to the original has no effect on the copy.** -/
theorem copy_unaffected (S : Spec) (imm : Ty → Bool) (design : Ty → Label → Bool) (fuel : Nat) (g : G) (r : Nat)
    (hwf : WFBelow g.next g) (hr : r < g.next)
    (himm : ImmClosed imm g.next g) (hsafe : ShareSafe S imm design g.next g)
    (n : Nat) (x : Node) (hn : Reach (clone S fuel g r).1 r n)
    (hnc : ¬ Common imm design (clone S fuel g r).1 g.next n) :
    ∀ m, (Reach ((clone S fuel g r).1.set n x) (clone S fuel g r).2 m ↔ Reach (clone S fuel g r).1 (clone S fuel g r).2 m) ∧
      (Reach (clone S fuel g r).1 (clone S fuel g r).2 m →
        ((clone S fuel g r).1.set n x).node m = (clone S fuel g r).1.node m) :=
  set_frame_iff _ _ n x fun h => hnc (clone_separates S imm design fuel g r hwf hr himm hsafe n hn h)

/-! ## From a finite table of field rows -/

/-- one reference-typed field of one struct type -/
structure FieldRow where
  owner : Ty
  label : Label
  treat : Treat
  /-- type of the object the field refers to -/
  target : Ty
  /-- the field is in the SharedByDesign list -/
  design : Bool
  deriving DecidableEq, Repr

def findRow (rows : List FieldRow) (t : Ty) (l : Label) : Option FieldRow :=
  rows.find? fun r => r.owner == t && r.label == l

/-- a field without a row is left out of the copy -/
def specOf (rows : List FieldRow) : Spec := fun t l =>
  match findRow rows t l with
  | some r => r.treat
  | none => .zero

def targetOf (rows : List FieldRow) (t : Ty) (l : Label) : Ty :=
  match findRow rows t l with
  | some r => r.target
  | none => 0

def designOf (rows : List FieldRow) (t : Ty) (l : Label) : Bool :=
  match findRow rows t l with
  | some r => r.design
  | none => false

def immOf (immTys : List Ty) (t : Ty) : Bool := immTys.contains t

/-- the decidable check: a shared field is shared by design or refers to an immutable type -/
def rowsSafe (rows : List FieldRow) (immTys : List Ty) : Bool :=
  rows.all fun r => r.treat != .share || r.design || immTys.contains r.target

/-- the graph is an instance of the schema: fields refer to objects of their declared type, and
objects of immutable types hold no references -/
structure Conforms (rows : List FieldRow) (immTys : List Ty) (g : G) : Prop where
  typed : ∀ i, i < g.next → ∀ e ∈ (g.node i).out, (g.node e.2).ty = targetOf rows (g.node i).ty e.1
  leaves : ∀ i, i < g.next → immOf immTys (g.node i).ty = true → (g.node i).out = []

theorem rows_clone_separates (rows : List FieldRow) (immTys : List Ty) (hsafe : rowsSafe rows immTys = true)
    (fuel : Nat) (g : G) (r : Nat) (hwf : WFBelow g.next g) (hr : r < g.next) (hc : Conforms rows immTys g) :
    ∀ n, Reach (clone (specOf rows) fuel g r).1 r n →
      Reach (clone (specOf rows) fuel g r).1 (clone (specOf rows) fuel g r).2 n →
      Common (immOf immTys) (designOf rows) (clone (specOf rows) fuel g r).1 g.next n := by
  apply clone_separates (specOf rows) (immOf immTys) (designOf rows) fuel g r hwf hr
  · intro i hi himm e he
    rw [hc.leaves i hi himm] at he
    simp at he
  · intro a ha e he hS
    unfold specOf at hS
    cases hf : findRow rows (g.node a).ty e.1 with
    | none => simp [hf] at hS
    | some row =>
      simp only [hf] at hS
      have hmem : row ∈ rows := List.mem_of_find?_eq_some hf
      unfold rowsSafe at hsafe
      rw [List.all_eq_true] at hsafe
      have := hsafe row hmem
      simp only [hS, bne_self_eq_false, Bool.false_or, Bool.or_eq_true] at this
      rcases this with hd | hi
      · left; simp [designOf, hf, hd]
      · right
        rw [hc.typed a ha e he]
        simp only [targetOf, hf, immOf]
        exact hi

/-! ## Non-vacuity: a client, its transport with an HTTP/2 transport pointing back, a shared logger -/

namespace Demo

/-- types: 0 scalar leaf (immutable), 1 logger, 2 client, 3 transport, 4 http2 transport, 5 header map -/
def rows : List FieldRow := [
  ⟨2, 0, .copy, 3, false⟩,      -- Client.Transport: Clone()
  ⟨2, 1, .share, 1, true⟩,      -- Client.log: shared by design
  ⟨2, 2, .share, 0, false⟩,     -- Client.BaseURL: a value
  ⟨3, 0, .copy, 5, false⟩,      -- Transport.Headers: Clone()
  ⟨3, 1, .copy, 4, false⟩,      -- Transport.t2: rebuilt
  ⟨4, 0, .toNew 3, 3, false⟩]   -- http2.Transport.Options = &tt.Options

/-- objects: 0 client, 1 transport, 2 http2 transport (→ 1), 3 headers, 4 logger, 5 base URL -/
def g : G := ⟨6, fun i =>
  match i with
  | 0 => ⟨2, 7, [(0, 1), (1, 4), (2, 5)]⟩
  | 1 => ⟨3, 8, [(0, 3), (1, 2)]⟩
  | 2 => ⟨4, 9, [(0, 1)]⟩
  | 3 => ⟨5, 10, []⟩
  | 4 => ⟨1, 11, []⟩
  | 5 => ⟨0, 12, []⟩
  | _ => ⟨0, 0, []⟩⟩

example : rowsSafe rows [0] = true := by decide +kernel

/-- the copy: new client 6 → new transport 7 → new headers 8 and new http2 transport 9, whose
back-pointer goes to the NEW transport; the logger and the base URL are the original's -/
example : (clone (specOf rows) 3 g 0).2 = 6 ∧
    ((clone (specOf rows) 3 g 0).1.node 6).out = [(0, 7), (1, 4), (2, 5)] ∧
    ((clone (specOf rows) 3 g 0).1.node 7).out = [(0, 8), (1, 9)] ∧
    ((clone (specOf rows) 3 g 0).1.node 9).out = [(0, 7)] ∧
    (clone (specOf rows) 3 g 0).1.next = 10 := by decide +kernel

/-- `clone_root_faithful` on the demo: all three reference fields of the client are kept, in order -/
example : ((clone (specOf rows) 3 g 0).1.node 6).out.map Prod.fst =
    ((g.node 0).out.filter (kept (specOf rows) (fun u => if u = 2 then some 6 else none) 2)).map Prod.fst := by decide +kernel

/-- with the back-pointer shared instead (`Options: t.t2.Options`), the table is not safe … -/
def badRows : List FieldRow := rows.map fun r => if r.owner = 4 then { r with treat := .share } else r

example : rowsSafe badRows [0] = false := by decide +kernel

/-- … and indeed the copy's http2 transport then points at the ORIGINAL transport -/
example : ((clone (specOf badRows) 3 g 0).1.node 9).out = [(0, 1)] := by decide +kernel

end Demo

end Req.Props.C19Graph
