import Req.Client.ResendEdit
import Req.Lemmas.C01Resend
/-!
C01 — the same `*Request` transmitted again after its description was changed.

* `resend_reflects_current_description` — for EVERY sequence of edits (any function on the
  caller-visible fields of the Request and its Client), retry attempts and further sends, every
  transmission of the code as it is equals `Merge.buildRequest` of the description current at that
  moment: the object carries no state besides its visible fields (`specRun` has none).
* `asIs_ignores_hidden_slot` — whatever an earlier pass might have left in a hidden slot, the code as
  it is does not read it.
* `cached_expansion_ignores_path_edit` — the variant `.cachedExpansion` (expansion kept on the
  Request, keyed by `RawURL`): after ANY edit that leaves `RawURL` alone — new path-parameter values at request or
  client level — the next pass still expands to the OLD string.
* `cached_expansion_breaks` — hence the variant violates the specification (concrete sequence).
* `unedited_retries_same_request` — WITHOUT an edit, a send followed by any
  number of retry attempts transmits the same request every time (the client defaults written into
  the Request by the first pass are not applied twice: `mergeHeaders_idem`; the client cookies are
  appended once).
-/
namespace Req.Props.C01Resend
open Req.Proto Req.Url Req.Merge Req.H1 Req.ResendEdit

theorem substParams_nil (t : Bytes) : substParams t [] [] = t := rfl

/-- filling the placeholders before `parseRequestURL` or inside it is the same. -/
theorem parseRequestURL_presubst (i : Url.Input) :
    parseRequestURL { i with rawURL := substParams i.rawURL i.rPath i.cPath, rPath := [], cPath := [] }
      = parseRequestURL i := by
  simp only [parseRequestURL, substParams_nil]

theorem expansion_asIs (o : Obj) :
    expansion .asIs o = substParams o.api.url.rawURL o.api.url.rPath o.api.url.cPath := by
  cases h : o.expanded <;> simp [expansion]

/-- one pass of the code as it is = the request of the current description, and its visible
effect on the object is `Desc.after`. -/
theorem transmit_asIs (o : Obj) :
    (transmit .asIs o).1 = (Desc.request ⟨o.api, o.attempt⟩) ∧
    (transmit .asIs o).2.api = (Desc.after ⟨o.api, o.attempt⟩).api ∧
    (transmit .asIs o).2.attempt = o.attempt := by
  refine ⟨?_, ?_, rfl⟩
  · simp only [transmit, expansion_asIs, Desc.request, buildRequest, headersAfter, cookiesAfter,
      mergeCookies]
    have hu := parseRequestURL_presubst o.api.url
    by_cases h : (o.attempt == 0) = true
    · simp only [h, if_true, hu, mergeHeaders, List.append_nil]
    · simp only [h, hu, mergeHeaders, List.append_nil, Bool.false_eq_true, if_false]
  · simp only [transmit, Desc.after, headersAfter, cookiesAfter]

/-- ∀ object (whatever its hidden slot holds), ∀ sequence
of edits / retries / sends: the transmissions of the code as it is are exactly those of the
specification over the visible fields — every send puts the CURRENT description on the wire. -/
theorem resend_reflects_current_description (ops : List Op) :
    ∀ o : Obj, run .asIs o ops = specRun ⟨o.api, o.attempt⟩ ops := by
  induction ops with
  | nil => intro o; rfl
  | cons op ops ih =>
    intro o
    cases op with
    | edit f =>
      simp only [run, step, specRun]
      exact ih _
    | retry =>
      obtain ⟨h1, h2, h3⟩ := transmit_asIs { o with attempt := o.attempt + 1 }
      simp only [run, step, specRun]
      rw [h1, ih, h2, h3]
      rfl
    | send =>
      obtain ⟨h1, h2, h3⟩ := transmit_asIs o
      simp only [run, step, specRun]
      rw [h1, ih, h2, h3]
      rfl

/-- the code as it is does not read the hidden slot. -/
theorem asIs_ignores_hidden_slot (o : Obj) (slot : Option (Bytes × Bytes)) (ops : List Op) :
    run .asIs { o with expanded := slot } ops = run .asIs o ops := by
  rw [resend_reflects_current_description, resend_reflects_current_description]

/-- a sent request's URL is a function of the CURRENT template and maps: two objects that agree on
their visible fields transmit the same thing, whatever they transmitted before. -/
theorem same_description_same_request (o₁ o₂ : Obj) (h : o₁.api = o₂.api) (ha : o₁.attempt = o₂.attempt)
    (ops : List Op) : run .asIs o₁ ops = run .asIs o₂ ops := by
  rw [resend_reflects_current_description, resend_reflects_current_description, h, ha]

/-- the variant `.cachedExpansion`: after a pass, ANY edit that keeps
`RawURL` — in particular new path-parameter values at request or client level — is invisible to the
next pass's expansion: it is still the string of the first pass. -/
theorem cached_expansion_ignores_path_edit (o : Obj) (hfresh : o.expanded = none) (f : Api → Api)
    (hraw : ∀ a : Api, (f a).url.rawURL = a.url.rawURL) :
    let o1 := (step .cachedExpansion o .send).1
    let o2 := (step .cachedExpansion o1 (.edit f)).1
    expansion .cachedExpansion o2 = substParams o.api.url.rawURL o.api.url.rPath o.api.url.cPath := by
  simp only [step, transmit, expansion, hfresh, hraw, beq_self_eq_true, if_true]

/-- the specification (and, by `resend_reflects_current_description`, the code as it is) expands
the CURRENT maps. -/
theorem asIs_expansion_follows_edit (o : Obj) (f : Api → Api) :
    let o1 := (step .asIs o .send).1
    let o2 := (step .asIs o1 (.edit f)).1
    expansion .asIs o2 = substParams o2.api.url.rawURL o2.api.url.rPath o2.api.url.cPath :=
  expansion_asIs _

theorem request_of_pos (api : Api) (a b : Nat) (ha : a ≠ 0) (hb : b ≠ 0) :
    Desc.request ⟨api, a⟩ = Desc.request ⟨api, b⟩ := by
  simp [Desc.request, ha, hb]

/-- a description whose client defaults are already written into the Request: retries repeat. -/
theorem settled_retries (n : Nat) : ∀ (api : Api) (k : Nat),
    mergeHeaders api.cHeaders api.rHeaders = api.rHeaders →
    specRun ⟨api, k⟩ (List.replicate n .retry) = List.replicate n (Desc.request ⟨api, k + 1⟩) := by
  induction n with
  | zero => intro api k _; rfl
  | succ n ih =>
    intro api k hfix
    have hafter : (Desc.after ⟨api, k + 1⟩) = ⟨api, k + 1⟩ := by
      simp [Desc.after, hfix]
    simp only [List.replicate_succ, specRun, hafter]
    rw [ih api (k + 1) hfix, request_of_pos api (k + 1 + 1) (k + 1) (by omega) (by omega)]

/-- a Request whose client-level header map has distinct keys
(a Go map), sent and then retried `n` times with NO edit in between, is the same `*http.Request`
`n + 1` times: the request of its description. -/
theorem unedited_retries_same_request (o : Obj) (hz : o.attempt = 0)
    (hd : ∀ c, o.api.cHeaders = some c → c.Pairwise fun a b => a.key ≠ b.key) (n : Nat) :
    run .asIs o (.send :: List.replicate n .retry)
      = List.replicate (n + 1) (Desc.request ⟨o.api, 0⟩) := by
  rw [resend_reflects_current_description, hz]
  have hidem := Req.Lemmas.C01Resend.mergeHeaders_idem o.api.cHeaders o.api.rHeaders hd
  simp only [specRun, List.replicate_succ, List.cons.injEq, true_and]
  have hfix : mergeHeaders (Desc.after ⟨o.api, 0⟩).api.cHeaders (Desc.after ⟨o.api, 0⟩).api.rHeaders
      = (Desc.after ⟨o.api, 0⟩).api.rHeaders := by
    simpa [Desc.after] using hidem
  have := settled_retries n (Desc.after ⟨o.api, 0⟩).api 0 hfix
  have hsame : Desc.request ⟨(Desc.after ⟨o.api, 0⟩).api, 0 + 1⟩ = Desc.request ⟨o.api, 0⟩ := by
    simp [Desc.request, Desc.after, buildRequest, hidem, mergeCookies]
  rw [hsame] at this
  exact this

/-- the template `/{k}`, request-level `k = a`, then edited to `k = b`. -/
def demo : Obj :=
  { api := { method := [71, 69, 84],
             url := { rawURL := [47, 123, 107, 125], rPath := [([107], [97])],
                      baseURL := [104, 116, 116, 112, 58, 47, 47, 104] } } }

def demoEdit (a : Api) : Api := { a with url := { a.url with rPath := [([107], [98])] } }

/-- non-vacuity of `cached_expansion_ignores_path_edit` and **cached_expansion_breaks**: with the
cache the second pass expands to `/a` although the Request now says `k = b` (the current
description expands to `/b`). -/
theorem cached_expansion_breaks :
    let o2 := (step .cachedExpansion (step .cachedExpansion demo .send).1 (.edit demoEdit)).1
    expansion .cachedExpansion o2 = [47, 97] ∧
    substParams o2.api.url.rawURL o2.api.url.rPath o2.api.url.cPath = [47, 98] ∧
    expansion .asIs (step .asIs (step .asIs demo .send).1 (.edit demoEdit)).1 = [47, 98] := by
  decide

/-- non-vacuity of `resend_reflects_current_description`: a send, an edit, a retry — two
transmissions. -/
example : (run .asIs demo [.send, .edit demoEdit, .retry]).length = 2 := by
  simp [run, step]

/-- non-vacuity of `unedited_retries_same_request`: `demo` has no client header map at all. -/
example : run .asIs demo [.send, .retry, .retry] = List.replicate 3 (Desc.request ⟨demo.api, 0⟩) :=
  unedited_retries_same_request demo rfl (by intro c h; cases h) 2

end Req.Props.C01Resend
