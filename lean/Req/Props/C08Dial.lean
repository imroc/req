import Req.Lemmas.CancelDial
/-!
# C08 — cancellation during the shared dial of the HTTP/2 connection pool
-/
namespace Req.Props.C08Dial
open Req.Cancel (CtxErr)
open Req.CancelDial

/-- a waiter whose own context has ended can leave in ONE step,
whatever the dial is doing (connecting, in its TLS handshake, finished), and that step gives it exactly
its context's error and touches neither the dial nor the other waiter. -/
theorem waiter_leaves_on_cancel_h2dial (s : St) (e : CtxErr) (hw : s.me = .waiting) (hc : s.ctx = some e) :
    guard s .meLeave = true ∧
    (apply s .meLeave).me = .returned (.ctxErr e) ∧
    (apply s .meLeave).dial = s.dial ∧ (apply s .meLeave).other = s.other ∧
    (apply s .meLeave).ctx = s.ctx := by
  refine ⟨by simp [CancelDial.guard, hw, hc], ?_⟩
  simp [CancelDial.apply, hc]

/-- non-vacuity: a joiner cancelled during the TLS handshake of somebody else's dial -/
example : let s : St := { dial := .handshaking, meStarter := false, ctx := some .canceled }
    guard s .meLeave = true ∧ (apply s .meLeave).me = .returned (.ctxErr .canceled) ∧
    (apply s .meLeave).dial = .handshaking := by decide

/-- a state in which no step is enabled has no waiter left
waiting with its context done (and nobody waiting on a finished dial). -/
theorem cancelled_waiter_never_parked_h2dial (s : St) (h : stuck s = true) :
    (s.ctx.isSome = true → s.me ≠ .waiting) ∧
    (s.dial.finished = true → s.me ≠ .waiting ∧ s.other ≠ .waiting) := by
  have ng := (Lemmas.Lts.all_not_guard Lemmas.CancelDial.mem_allActs).1 h
  refine ⟨fun hc hw => ?_, fun hf => ⟨fun hw => ?_, fun hw => ?_⟩⟩
  · simpa [CancelDial.guard, hw, hc] using ng .meLeave
  · simpa [CancelDial.guard, hw, hf] using ng .meTake
  · simpa [CancelDial.guard, hw, hf] using ng .otherTake

/-- every run of internal steps has at most 3 steps. -/
theorem dial_wait_bounded_h2dial {s t : St} {as : List Act} (run : Run s as t) : as.length ≤ 3 :=
  (Lemmas.CancelDial.run_lts run).length_le_of_le Lemmas.CancelDial.mu_dec Lemmas.CancelDial.mu_le

/-- the joiner's context ends and the joiner leaves; the dial is where
it was, and once its handshake completes the other waiter (the starter) gets the connection -/
theorem dial_continues_for_others_h2dial (s : St) (e : CtxErr) (hj : s.meStarter = false)
    (hw : s.me = .waiting) (hc : s.ctx = none) (ho : s.other = .waiting) (hd : s.dial = .handshaking) :
    let s1 := apply (evApply s (.cancel e)) .meLeave
    guard s1 .dialAbort = false ∧ s1.dial = .handshaking ∧
    evGuard s1 .hsDone = true ∧ guard (evApply s1 .hsDone) .otherTake = true ∧
    (apply (evApply s1 .hsDone) .otherTake).other = .returned .conn := by
  rcases s with ⟨dial, st, ctx, me, other⟩
  simp only at hj hw hc ho hd
  subst hj hw hc ho hd
  simp [CancelDial.apply, evApply, CancelDial.guard, evGuard, take, Dial.finished]

/-- when it is the starter's context that ends, the dial fails with
that context's error, the starter gets its context's error, the other waiter is sent round the loop
(`retry`) and never inherits the error. -/
theorem starter_cancel_redials_h2dial (s : St) (e : CtxErr) (hs : s.meStarter = true)
    (hd : s.dial.finished = false) (hc : s.ctx = none) (t : St)
    (ht : t ∈ finals 4 (evApply s (.cancel e))) (hw : s.me = .waiting) (ho : s.other = .waiting) :
    t.me = .returned (.ctxErr e) ∧ t.other = .returned .retry := by
  rcases s with ⟨dial, st, ctx, me, other⟩
  simp only at hs hd hc hw ho
  subst hs hc hw ho
  cases dial <;> simp only [Dial.finished, Bool.true_eq_false] at hd <;> cases e <;>
    revert t <;> decide

/-- sharpness: a joiner cancelled during the handshake of the
other request's dial; with the bare `<-call.done` nothing is enabled and it is still waiting -/
theorem bare_wait_strands_cancelled_waiter :
    let s : St := { dial := .handshaking, meStarter := false, ctx := some .canceled }
    stuckBy guardBare s = true ∧ s.me = .waiting ∧ stuck s = false := by decide

/-- the starter itself, once the dial no longer runs
under its context -/
theorem detached_dial_strands_starter :
    let s : St := { dial := .handshaking, meStarter := true, ctx := some .deadline }
    stuckBy guardDetached s = true ∧ s.me = .waiting ∧ stuckBy guardBare s = false := by decide

end Req.Props.C08Dial
