import Req.H1.ExpectContinue
/-!
C01 — a request that waits for `100 Continue` never leaves a hole on a connection that is
used again.

* `reused_connection_has_body` — for EVERY way the wait ends (timer, 100 Continue, a final status
  with or without `Connection: close`) and every `Request.Close`: if the connection may carry another
  request, the body was written. (`skip_on_kept_connection_swallows_next`: what `originSplit` makes
  of a connection on which the next request stands where the body was announced.)
* `origin_reads_body_then_next` — on a reused connection the origin, reading the announced number
  of bytes behind the head, gets exactly the framed body, and the next request starts where it
  stopped — for all heads, bodies and following requests.
* `closing_connection_carries_nothing_more` — when the body is skipped, nothing follows the head on
  that connection.
-/
namespace Req.Props.C01Expect
open Req.H1.Expect

/-- a final status that was answered with `respClose` -/
def Wake.agrees (respClose : Bool) : Wake → Prop
  | .final rc => rc = respClose
  | _ => True

theorem reused_connection_has_body (reqClose respClose : Bool) (w : Wake) (hw : Wake.agrees respClose w)
    (h : reusable reqClose respClose = true) : sendsBody reqClose w = true := by
  cases w with
  | timer => rfl
  | continue100 => rfl
  | final rc =>
    simp only [Wake.agrees] at hw
    subst hw
    simpa [sendsBody, reusable] using h

theorem origin_reads_body_then_next (reqClose respClose : Bool) (w : Wake) (hw : Wake.agrees respClose w)
    (h : reusable reqClose respClose = true) (head framed next : Bytes) :
    connBytes reqClose respClose w head framed next = head ++ framed ++ next ∧
    originSplit framed.length (framed ++ next) = (framed, next) := by
  have hb := reused_connection_has_body reqClose respClose w hw h
  constructor
  · simp [connBytes, hb, h]
  · simp [originSplit]

theorem closing_connection_carries_nothing_more (reqClose respClose : Bool) (w : Wake)
    (hw : Wake.agrees respClose w) (h : sendsBody reqClose w = false) (head framed next : Bytes) :
    connBytes reqClose respClose w head framed next = head := by
  cases w with
  | timer => simp [sendsBody] at h
  | continue100 => simp [sendsBody] at h
  | final rc =>
    simp only [Wake.agrees] at hw
    subst hw
    have hr : reusable reqClose rc = false := by simpa [sendsBody, reusable] using h
    simp [connBytes, h, hr]

/-- `originSplit`, behind a head that announces `framed.length` bytes, on `head ++ [] ++ next` (no
body, then the next request; these bytes are written out in the statement, not obtained from
`connBytes`): the first bytes of `next` are taken for the body. -/
theorem skip_on_kept_connection_swallows_next (head framed next : Bytes) :
    originSplit framed.length ((head ++ [] ++ next).drop head.length) =
      (next.take framed.length, next.drop framed.length) := by
  simp [originSplit]

end Req.Props.C01Expect
