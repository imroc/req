/-!
# C12 — the TLS handshakes of ONE connection (`persistConn.addTLS`, transport.go l.1992)

`dialConn` calls `addTLS` once per TLS hop of a connection: once for a direct https
connection and for an https target behind an `http://` / `socks5://` proxy (inside the
tunnel), TWICE behind an `https://` proxy — `addTLS(cm.proxyURL.Hostname(), forProxy)` for
the hop to the proxy (l.2135), then, after `CONNECT`, `addTLS(cm.tlsHost())` for the session
with the origin inside the tunnel (l.2291).

Every call starts from a FRESH clone of the client's configuration
(`cfg := cloneTLSConfig(pc.t.TLSClientConfig)`) and fills `ServerName` with the name of THAT
hop only if the client set none (`if cfg.ServerName == "" { cfg.ServerName = name }`). The
name a hop is verified against (and sent as SNI) is therefore a function of the client's
settings and of that hop's name alone — never of an earlier hop (`hop_name`, `namesFresh`).
`namesKept` is the variant that keeps one derived configuration per connection (seed
C12-r7-2): the first hop's name sticks (`kept_uses_first_name`), equal to the code exactly
when a `ServerName` override is set or all hops carry one name (`kept_eq_fresh_of_override`,
`kept_ne_fresh_example`).

Tied to the code by lane `c12proxy`, proxy kind `https` (in-process CONNECT proxy behind TLS,
addressed as `localhost`, certificate listing `localhost` + the override target only; origins
at `127.0.0.1`, certificate listing `127.0.0.1` + the override target only): `acceptConn`
for the two hops is what the lane's cells {private root, wrong root, wrong name, override,
insecure, client certificate} predict through `Dispatch.routeP`.
-/
namespace Req.Pool.TLSHops

set_option linter.unusedSectionVars false

variable {N : Type} [DecidableEq N]

/-- A server certificate: the names it lists and the CA that signed it. -/
structure Cert (N : Type) where
  names : List N
  ca : Nat

/-- `Transport.TLSClientConfig` as far as `addTLS` + `crypto/tls` verification read it. -/
structure ClientTLS (N : Type) where
  serverName : Option N   -- `ServerName` ("" = `none`)
  roots : List Nat        -- `RootCAs`
  insecure : Bool         -- `InsecureSkipVerify`

/-- The `ServerName` of the configuration one `addTLS` call handshakes with. -/
def hopName (c : ClientTLS N) (name : N) : N := c.serverName.getD name

/-- Verification of one hop. -/
def acceptHop (c : ClientTLS N) (name : N) (cert : Cert N) : Bool :=
  c.insecure || (c.roots.contains cert.ca && cert.names.contains (hopName c name))

/-- The names the hops of one connection are verified against, in order (the code). -/
def namesFresh (c : ClientTLS N) (hops : List N) : List N := hops.map (hopName c)

/-- The connection is usable iff every hop's certificate is accepted. -/
def acceptConn (c : ClientTLS N) (hops : List (N × Cert N)) : Bool :=
  hops.all fun h => acceptHop c h.1 h.2

/-- The variant with ONE configuration kept per connection: `cur` is its `ServerName`. -/
def namesKeptFrom (cur : Option N) : List N → List N
  | [] => []
  | n :: rest => let used := cur.getD n; used :: namesKeptFrom (some used) rest

def namesKept (c : ClientTLS N) (hops : List N) : List N := namesKeptFrom c.serverName hops

/-- ∀ settings, ∀ hop lists, ∀ positions: hop `k` is verified against the override if one is
set, else against ITS OWN name — whatever the other hops are called. -/
theorem hop_name (c : ClientTLS N) (hops : List N) (k : Nat) (h : k < hops.length) :
    (namesFresh c hops)[k]'(by simpa [namesFresh] using h) = c.serverName.getD hops[k] := by
  simp [namesFresh, hopName]

/-- Through an https proxy: accepted iff the proxy's certificate is acceptable for the
proxy's name AND the origin's for the origin's name (each under the override, if any). -/
theorem https_proxy_accept (c : ClientTLS N) (p o : N) (pc oc : Cert N) :
    acceptConn c [(p, pc), (o, oc)] = (acceptHop c p pc && acceptHop c o oc) := by
  simp [acceptConn]

/-- The origin's hop does not depend on the proxy: the same certificate is judged through an
https proxy exactly as on a direct connection / inside an http or socks5 tunnel. -/
theorem origin_hop_uniform (c : ClientTLS N) (p o : N) (pc oc : Cert N)
    (hp : acceptHop c p pc = true) :
    acceptConn c [(p, pc), (o, oc)] = acceptConn c [(o, oc)] := by
  simp [acceptConn, hp]

theorem namesKeptFrom_some (x : N) (hops : List N) :
    namesKeptFrom (some x) hops = hops.map fun _ => x := by
  induction hops with
  | nil => rfl
  | cons n rest ih => simp [namesKeptFrom, ih]

/-- The kept configuration verifies EVERY hop against the first name it was given. -/
theorem kept_uses_first_name (c : ClientTLS N) (n : N) (rest : List N) :
    namesKept c (n :: rest) = (n :: rest).map fun _ => c.serverName.getD n := by
  simp [namesKept, namesKeptFrom, namesKeptFrom_some]

/-- With a `ServerName` override both variants coincide (every hop uses the override). -/
theorem kept_eq_fresh_of_override (c : ClientTLS N) (x : N) (h : c.serverName = some x)
    (hops : List N) : namesKept c hops = namesFresh c hops := by
  simp [namesKept, namesFresh, hopName, h, namesKeptFrom_some]

/-- Without one they differ as soon as two hops carry different names: the lane's topology
(proxy `localhost`, origin `127.0.0.1`). -/
theorem kept_ne_fresh_example :
    namesFresh (⟨none, [0], false⟩ : ClientTLS String) ["localhost", "127.0.0.1"] = ["localhost", "127.0.0.1"] ∧
    namesKept (⟨none, [0], false⟩ : ClientTLS String) ["localhost", "127.0.0.1"] = ["localhost", "localhost"] := by
  decide +kernel

/-- … and then an acceptable origin certificate is rejected and one valid for the proxy's name
only is accepted: the two directions of the property. -/
example :
    let c : ClientTLS String := ⟨none, [0], false⟩
    let proxyCert : Cert String := ⟨["localhost", "c12.example"], 0⟩
    let originCert : Cert String := ⟨["127.0.0.1", "c12.example"], 0⟩
    acceptConn c [("localhost", proxyCert), ("127.0.0.1", originCert)] = true ∧
    acceptConn c [("localhost", proxyCert), ("127.0.0.1", proxyCert)] = false := by
  decide +kernel

end Req.Pool.TLSHops
