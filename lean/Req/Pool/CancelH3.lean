import Req.Pool.Cancel
/-!
# The HTTP/3 request lifecycle under cancellation (C08, round 5)

One request = one bidirectional QUIC stream (internal/http3/client.go), worked on by

* the **caller** goroutine in `SingleDestinationRoundTripper.RoundTrip` → `roundTrip` → `doRequest`:
  the handshake wait (`select` on `HandshakeComplete()` / `ctx.Done()`), `openRequestStream`
  (`OpenStreamSync` under the request's context: the wait for stream credit), `SendRequestHeader`,
  `str.ReadResponse()`, the error path `close(reqDone); <-done`, and — after the response was
  handed out — the pending `Body.Read` (`hijackableBody.Read`: an error closes `reqDone`);
* the **watcher** goroutine started right after the stream exists:
  `select { case <-ctx.Done(): str.CancelWrite(..); str.CancelRead(..)  case <-reqDone: }`
  (two steps: `waiting → mid → done`);
* the **upload** goroutine (`sendRequestBody`, only with a request body): `body.Read` → `str.Write`
  (blocks on QUIC flow control until the peer grants credit or the send side is cancelled) → …,
  `defer body.Close()`, `str.Close()`;
* the peer, the QUIC layer, timers and the application reading the response as ENVIRONMENT (`Ev`).

State = the three program counters plus what they communicate through: the two directions of the
stream (`send`, `recv`), `reqDone`, the context, and the counters the property speaks about (how often
the request body is closed).  `Act` = one step of one goroutine that needs neither the peer nor a
timer.  A blocked `str.Write` is the state `upl = .write` with `send = .open`: NO action of the upload
goroutine is enabled there — only the environment (`Ev.credit`) or somebody cancelling the send side
lets it go on.  That is the waiting point the watcher's `CancelWrite` exists for.

Model assumptions: reads of the request body return (data or EOF; the read-error path with `bodyErr`
is not modelled); 1xx responses are the event `peerInterim` (round 6); `RoundTripOpt`'s client cache (`removeClient`) is in the
abstract lifecycle (`Req/Pool/Cancel.lean`, `Conn.afterH3Fail`).

Tied to the real code by the lanes `blocked_h3` / `script_h3` (package req, driver lane `c08h3life`)
and `h3upload` (package http3: the REAL `sendRequestBody` on a scripted stream).
-/
namespace Req.CancelH3
open Req.Cancel (CtxErr)

/-- the error `roundTrip` came back with, before `RoundTrip` relabels it -/
inductive Err
  | ctx (e : CtxErr)   -- req.Context().Err()
  | h3cancel           -- *http3.Error{H3_REQUEST_CANCELLED, local}: the stream was cancelled on our side
  | peer               -- reset by the peer / connection lost
  deriving DecidableEq, Repr, Inhabited

inductive Ret | resp | err (e : Err)
  deriving DecidableEq, Repr, Inhabited

/-- program counter of the caller -/
inductive CPc
  | hs                 -- select { HandshakeComplete / ctx.Done }
  | openStr            -- openRequestStream(ctx): waiting for stream credit
  | sendHdr            -- SendRequestHeader
  | readResp           -- str.ReadResponse()
  | failSig (e : Err)  -- roundTrip's error path: about to `close(reqDone)`
  | failJoin (e : Err) -- `<-done`: waiting for the watcher
  | returned (r : Ret)
  deriving DecidableEq, Repr, Inhabited

/-- the watcher goroutine -/
inductive WPc | none | waiting | mid | done
  deriving DecidableEq, Repr, Inhabited

/-- the upload goroutine (`sendRequestBody` + `str.Close()`) -/
inductive UPc | none | read | write | close | fin | done
  deriving DecidableEq, Repr, Inhabited

/-- one direction of the stream -/
inductive Side
  | idle        -- no stream yet
  | open
  | fin         -- send: FIN written (`str.Close()`); recv: the peer's FIN was received
  | cancelled   -- CancelWrite / CancelRead on our side
  | reset       -- STOP_SENDING / RESET_STREAM from the peer
  deriving DecidableEq, Repr, Inhabited

structure St where
  hasBody : Bool := false
  ctx : Option CtxErr := none
  cpc : CPc := .hs
  wat : WPc := .none
  upl : UPc := .none
  send : Side := .idle
  recv : Side := .idle
  respHdr : Bool := false        -- the response HEADERS are on the stream
  reqDone : Bool := false        -- `reqDone` is closed
  closes : Nat := 0              -- req.Body.Close() calls
  callerClosed : Bool := false   -- ghost: one of them was `closeRequestBody(req)` by the caller
  readRes : Option Err := none   -- what the pending Body.Read returned
  writes : Nat := 0              -- stream writes of the upload accepted by QUIC
  deriving DecidableEq, Repr, Inhabited

def Side.cancelIfOpen : Side → Side
  | .open => .cancelled
  | x => x

def Side.resetIfOpen : Side → Side
  | .open => .reset
  | x => x

def Side.finIfOpen : Side → Side
  | .open => .fin
  | x => x

/-- `closeRequestBody(req)` -/
def closeBody (s : St) : St :=
  if s.hasBody then { s with closes := s.closes + 1, callerClosed := true } else s

/-- `RoundTrip`: `if err != nil && req.Context().Err() != nil { err = req.Context().Err() }` -/
def finalErr (s : St) (e : Err) : Err :=
  match s.ctx with
  | some c => .ctx c
  | none => e

/-- the error a read on a dead receive side reports -/
def recvErr (s : St) : Err := if s.recv == .reset then .peer else .h3cancel

inductive Act
  -- caller
  | cHsCancel      -- handshake wait: `<-ctx.Done()`: closeRequestBody, return ctx.Err()
  | cOpenCancel    -- openRequestStream(ctx) fails with the context's error: closeRequestBody
  | cSendHdr       -- SendRequestHeader; then start the upload goroutine / `str.Close()`
  | cRespOk        -- ReadResponse returns the response
  | cRespFail      -- ReadResponse fails on the dead receive side (CancelRead + CancelWrite)
  | cFailSig       -- `close(reqDone)`
  | cFailJoin      -- `<-done`; RoundTrip relabels the error when the context is done
  | cBodyReadFail  -- the pending Body.Read fails: `requestDone()`
  -- watcher
  | wFireW         -- `<-ctx.Done()`: str.CancelWrite
  | wFireR         -- str.CancelRead
  | wExit          -- `<-reqDone`
  -- upload goroutine
  | uRead          -- body.Read returns data
  | uEOF           -- body.Read returns io.EOF
  | uWriteFail     -- str.Write fails: the send side is not open any more
  | uClose         -- `defer body.Close()`
  | uFin           -- `str.Close()`
  deriving DecidableEq, Repr

def allActs : List Act :=
  [.cHsCancel, .cOpenCancel, .cSendHdr, .cRespOk, .cRespFail, .cFailSig, .cFailJoin, .cBodyReadFail,
   .wFireW, .wFireR, .wExit, .uRead, .uEOF, .uWriteFail, .uClose, .uFin]

def recvDead (s : St) : Bool := s.recv == .cancelled || s.recv == .reset

def guard (s : St) : Act → Bool
  | .cHsCancel => s.cpc == .hs && s.ctx.isSome
  | .cOpenCancel => s.cpc == .openStr && s.ctx.isSome
  | .cSendHdr => s.cpc == .sendHdr
  | .cRespOk => s.cpc == .readResp && s.respHdr && !recvDead s
  | .cRespFail => s.cpc == .readResp && recvDead s
  | .cFailSig => (match s.cpc with | .failSig _ => true | _ => false)
  | .cFailJoin => (match s.cpc with | .failJoin _ => true | _ => false) && s.wat == .done
  | .cBodyReadFail => s.cpc == .returned .resp && !s.reqDone && recvDead s
  | .wFireW => s.wat == .waiting && s.ctx.isSome
  | .wFireR => s.wat == .mid
  | .wExit => s.wat == .waiting && s.reqDone
  | .uRead => s.upl == .read
  | .uEOF => s.upl == .read
  | .uWriteFail => s.upl == .write && s.send != .open
  | .uClose => s.upl == .close
  | .uFin => s.upl == .fin

def apply (s : St) : Act → St
  | .cHsCancel => { closeBody s with cpc := .returned (.err (finalErr s .peer)) }
  | .cOpenCancel => { closeBody s with cpc := .returned (.err (finalErr s .peer)) }
  | .cSendHdr =>
    if s.send == .open then
      if s.hasBody then { s with upl := .read, cpc := .readResp }
      else { s with send := .fin, cpc := .readResp }
    else { closeBody s with cpc := .failSig (if s.send == .reset then .peer else .h3cancel) }
  | .cRespOk => { s with cpc := .returned .resp }
  | .cRespFail => { s with send := s.send.cancelIfOpen, cpc := .failSig (recvErr s) }
  | .cFailSig =>
    match s.cpc with
    | .failSig e => { s with reqDone := true, cpc := .failJoin e }
    | _ => s
  | .cFailJoin =>
    match s.cpc with
    | .failJoin e => { s with cpc := .returned (.err (finalErr s e)) }
    | _ => s
  | .cBodyReadFail => { s with reqDone := true, readRes := some (recvErr s) }
  | .wFireW => { s with send := s.send.cancelIfOpen, wat := .mid }
  | .wFireR => { s with recv := s.recv.cancelIfOpen, wat := .done }
  | .wExit => { s with wat := .done }
  | .uRead => { s with upl := .write }
  | .uEOF => { s with upl := .close }
  | .uWriteFail => { s with upl := .close }
  | .uClose => { s with closes := s.closes + 1, upl := .fin }
  | .uFin => { s with send := s.send.finIfOpen, upl := .done }

/-! ### environment -/

inductive Ev
  | cancel (e : CtxErr)
  | hsDone        -- the QUIC handshake completes
  | streamOpen    -- OpenStreamSync returns a stream; the watcher goroutine is started
  | credit        -- QUIC accepts the pending write (flow-control credit from the peer)
  | peerHeaders   -- the response HEADERS arrive
  | peerEnd       -- the peer's FIN arrives
  | peerReset     -- the peer resets the stream (STOP_SENDING + RESET_STREAM) / the connection dies
  | callerClose   -- the application closes the response body
  | callerEOF     -- the application reads the response body to its end
  | peerInterim   -- round 6: an informational 1xx response (100 Continue, 103 Early Hints) arrives and the
                  -- caller's `ReadResponse` loop in `doRequest` consumes it and goes back to `ReadResponse`
  deriving DecidableEq, Repr

def evGuard (s : St) : Ev → Bool
  | .cancel _ => s.ctx.isNone
  | .hsDone => s.cpc == .hs
  | .streamOpen => s.cpc == .openStr
  | .credit => s.upl == .write && s.send == .open
  | .peerHeaders => s.recv == .open && !s.respHdr
  | .peerEnd => s.recv == .open && s.respHdr
  | .peerReset => s.send != .idle
  | .callerClose => s.cpc == .returned .resp
  | .callerEOF => s.cpc == .returned .resp && s.recv == .fin
  | .peerInterim => s.cpc == .readResp && s.recv == .open && !s.respHdr

def evApply (s : St) : Ev → St
  | .cancel e => { s with ctx := some e }
  | .hsDone => { s with cpc := .openStr }
  | .streamOpen => { s with cpc := .sendHdr, wat := .waiting, send := .open, recv := .open }
  | .credit => { s with upl := .read, writes := s.writes + 1 }
  | .peerHeaders => { s with respHdr := true }
  | .peerEnd => { s with recv := .fin }
  | .peerReset => { s with send := s.send.resetIfOpen, recv := s.recv.resetIfOpen }
  | .callerClose => { s with reqDone := true, recv := s.recv.cancelIfOpen }
  | .callerEOF => { s with reqDone := true }
  | .peerInterim => s   -- nothing the request's goroutines talk through changes: in particular NOT `reqDone`

def init (hasBody : Bool) : St := { hasBody := hasBody }

inductive Reach : St → Prop
  | init (b) : Reach (init b)
  | ev {s} (e : Ev) : Reach s → evGuard s e = true → Reach (evApply s e)
  | act {s} (a : Act) : Reach s → guard s a = true → Reach (apply s a)

inductive Run : St → List Act → St → Prop
  | nil (s) : Run s [] s
  | cons {s a as s'} : guard s a = true → Run (apply s a) as s' → Run s (a :: as) s'

def stuck (s : St) : Bool := allActs.all fun a => !guard s a

def internalSuccs (s : St) : List St := (allActs.filter (guard s)).map (apply s)

/-- where the internal runs from `s` end, by exhaustive exploration (driver): the states in which they get
stuck, and, if the fuel runs out first, the state reached by then, stuck or not; with `fuel` ≥ 17 (the bound on
the length of runs proved in the lemmas) only stuck states -/
def finals : Nat → St → List St
  | 0, s => [s]
  | fuel + 1, s =>
    match internalSuccs s with
    | [] => [s]
    | l => l.flatMap (finals fuel)

def isReturned (s : St) : Bool := match s.cpc with | .returned _ => true | _ => false

/-- nothing works for the request any more: the caller is back, the watcher and the upload goroutine
are gone, neither direction of the stream is left open, the request body was closed exactly once -/
def released (s : St) : Bool :=
  isReturned s && (s.wat == .none || s.wat == .done) && (s.upl == .none || s.upl == .done) &&
  s.send != .open && s.recv != .open && s.closes == (if s.hasBody then 1 else 0)

/-! ### the variant of seed C08-r5-3: the watcher leaves the send side alone -/

/-- `apply` with the watcher's `CancelWrite` dropped -/
def applyNoCancelWrite (s : St) : Act → St
  | .wFireW => { s with wat := .mid }
  | a => apply s a

def finalsNoCW : Nat → St → List St
  | 0, s => [s]
  | fuel + 1, s =>
    match (allActs.filter (guard s)).map (applyNoCancelWrite s) with
    | [] => [s]
    | l => l.flatMap (finalsNoCW fuel)

/-! ### the variant of seed C08-r6-3: a response "that cannot have a body" signals `reqDone` — 1xx included -/

/-- `evApply` with the interim response closing `reqDone` -/
def evApplyInterimSignals (s : St) : Ev → St
  | .peerInterim => { s with reqDone := true }
  | e => evApply s e

end Req.CancelH3
