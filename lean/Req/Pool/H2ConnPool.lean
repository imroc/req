/-!
# C12 — the HTTP/2 connection pool is keyed by ORIGIN (`clientConnPool`, internal/http2/client_conn_pool.go)

`GetClientConn(req, addr, dialOnMiss)` (l.54) looks for a usable connection in
`p.conns[addr]` (`addr` = `host:port` of the request, `authorityAddr`) and, on a miss, dials
`addr` itself (`getStartDialLocked(ctx, addr)` → `t.dialClientConn` → TLS handshake with
`addr`'s host under the client's `tls.Config`), storing the result under `addr`
(`addConnLocked(addr, cc)`); `addConnIfNeeded(key, …)` (connections handed over by the
HTTP/1.1 dial path after ALPN chose h2) stores under the key of the origin dialled too.
Hence every connection listed under `addr` was dialled to `addr`, its certificate verified for
`addr`'s host under the client's settings (`WF`, `getConn_wf`), and every request is carried
by a connection to ITS origin (`served_by_own_origin`, `run_served_by_own_origin`) — whatever
other names the certificate of another open connection lists. `getCoalesced` is the
"share conns based on cert names" variant (seed C12-r7-3); `coalesced_serves_other_origin`.

Tied to the code by lane `c12seq`, sequence (g): origins 127.0.0.1:P (h2, certificate naming
127.0.0.1 and 127.0.0.2) and 127.0.0.2:P (h1-only / untrusted root) on one port.
-/
namespace Req.Pool.H2ConnPool

variable {A : Type} [DecidableEq A]

/-- An open HTTP/2 connection: the origin it was dialled to (whose certificate was verified
under the client's settings) and the origins its leaf certificate also lists. -/
structure Conn (A : Type) where
  dialled : A
  certNames : List A

/-- `p.conns`: key → connection (one per key is enough here). -/
abbrev Pool (A : Type) := List (A × Conn A)

def lookup (p : Pool A) (addr : A) : Option (Conn A) := (p.find? fun e => e.1 = addr).map (·.2)

/-- `GetClientConn(req, addr, dialOnMiss = true)`; `names` = what `addr`'s certificate lists. -/
def getConn (p : Pool A) (addr : A) (names : List A) : Conn A × Pool A :=
  match lookup p addr with
  | some c => (c, p)
  | none => let c : Conn A := ⟨addr, names⟩; (c, (addr, c) :: p)

/-- Every connection is listed under the origin it was dialled to. -/
def WF (p : Pool A) : Prop := ∀ e ∈ p, e.2.dialled = e.1

theorem lookup_wf {p : Pool A} (h : WF p) {addr : A} {c : Conn A} (hc : lookup p addr = some c) :
    c.dialled = addr := by
  unfold lookup at hc
  cases hf : p.find? (fun e => decide (e.1 = addr)) with
  | none => simp [hf] at hc
  | some e =>
    simp [hf] at hc
    have hm := List.mem_of_find?_eq_some hf
    have hp := List.find?_some hf
    simp at hp
    rw [← hc, h e hm, hp]

/-- ∀ pools, ∀ origins: the connection a request gets was dialled to the request's origin. -/
theorem served_by_own_origin {p : Pool A} (h : WF p) (addr : A) (names : List A) :
    (getConn p addr names).1.dialled = addr := by
  unfold getConn
  cases hl : lookup p addr with
  | none => simp
  | some c => simpa using lookup_wf h hl

theorem getConn_wf {p : Pool A} (h : WF p) (addr : A) (names : List A) :
    WF (getConn p addr names).2 := by
  unfold getConn
  cases hl : lookup p addr with
  | some c => simpa using h
  | none =>
    intro e he
    simp at he
    rcases he with rfl | he
    · rfl
    · exact h e he

/-- A sequence of requests (origin, names its certificate lists) from a pool. -/
def run (p : Pool A) : List (A × List A) → List (A × Conn A)
  | [] => []
  | (a, ns) :: rest => let r := getConn p a ns; (a, r.1) :: run r.2 rest

/-- ∀ request sequences on a fresh client: EVERY request is carried by a connection dialled to
(and verified for) its own origin. -/
theorem run_served_by_own_origin (reqs : List (A × List A)) :
    ∀ x ∈ run ([] : Pool A) reqs, x.2.dialled = x.1 := by
  suffices h : ∀ (p : Pool A), WF p → ∀ x ∈ run p reqs, x.2.dialled = x.1 from
    h [] (by intro e he; cases he)
  induction reqs with
  | nil => intro p _ x hx; cases hx
  | cons r rest ih =>
    intro p hp x hx
    obtain ⟨a, ns⟩ := r
    simp [run] at hx
    rcases hx with rfl | hx
    · exact served_by_own_origin hp a ns
    · exact ih _ (getConn_wf hp a ns) x hx

/-- The coalescing variant: on a miss, any open connection whose certificate lists `addr`. -/
def getCoalesced (p : Pool A) (addr : A) (names : List A) : Conn A × Pool A :=
  match lookup p addr with
  | some c => (c, p)
  | none =>
    match p.find? fun e => e.2.certNames.contains addr with
    | some e => (e.2, (addr, e.2) :: p)
    | none => let c : Conn A := ⟨addr, names⟩; (c, (addr, c) :: p)

/-- Lane c12seq (g): A = 127.0.0.1:P lists both addresses; the request to B = 127.0.0.2:P is then
carried by the connection to A — B's certificate and protocol offer are never looked at. -/
theorem coalesced_serves_other_origin :
    let p := (getConn ([] : Pool String) "127.0.0.1:P" ["127.0.0.1:P", "127.0.0.2:P"]).2
    (getCoalesced p "127.0.0.2:P" ["127.0.0.2:P"]).1.dialled = "127.0.0.1:P" ∧
    (getConn p "127.0.0.2:P" ["127.0.0.2:P"]).1.dialled = "127.0.0.2:P" := by
  decide +kernel

end Req.Pool.H2ConnPool
