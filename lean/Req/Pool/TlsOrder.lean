import Req.Pool.TlsPaths
/-!
# C12 — the ORDER of setters: TLS-configuration setters and handshake-hook setters on one client

`Req.Pool.TLS.run` follows the VALUE of the client's `tls.Config`; `Hooks` says which
functions are installed. Both are reached through setters that may come in any order:

    c.SetTLSFingerprintChrome().SetTLSClientConfig(cfg)      -- hook first, configuration later
    c.SetTLSClientConfig(cfg).SetTLSFingerprintChrome()      -- the other way round

`SetTLSClientConfig` REPLACES the pointer `Options.TLSClientConfig`; the helpers
(`SetRootCertFromString`, `SetCerts`, `EnableInsecureSkipVerify`, accessor mutation) change
the object IN PLACE (creating it when the pointer is nil). Whether the order matters is a
question of WHEN a reader dereferences the pointer — so this model is at pointer level:

* `PClient`: a heap of `tls.Config` objects, the pointer `cur` (`Options.TLSClientConfig`),
  the handshake slot (`Options.TLSHandshakeContext`: nothing, the closure of
  `Client.SetTLSFingerprint` together with the object `GetTLSClientConfig()` returned WHEN
  THE SETTER RAN, or a user function) and `DialTLSContext ≠ nil`.
* `FpRead`: when the fingerprint closure evaluates `c.GetTLSClientConfig()`:
  `atHandshake` (client.go l.1232: inside the closure, per handshake — the code) or
  `atSetter` (once, outside the closure — the variant whose stale reads are shown to break
  the property: `Props/C12Order.lean` `captured_config_goes_stale`).
* `pstep` / `prun`: setter sequences (`POp`: a TLS setter of `Req.Pool.TLS.Op`, or a hook
  setter `SetTLSFingerprint*` / `SetTLSHandshake(fn)` / `SetTLSHandshake(nil)` /
  `SetDialTLS(fn|nil)`). `Clone` continues with the copy: `Options.Clone` allocates a new
  object with the same values, `Client.Clone` re-creates the fingerprint closure for the copy
  (client.go l.1530).
* `view`: the value the pointer designates (`pstep_tls` in `Lemmas/TlsOrder.lean`: the pointer model refines `step`).
* `presentedCfg`: the configuration the governing handshake of a dial path presents.
-/
namespace Req.Pool.TLS

inductive FpRead | atHandshake | atSetter
  deriving DecidableEq, Repr

/-- `Options.TLSHandshakeContext`. -/
inductive HsSlot
  | builtin                      -- nil
  | fingerprint (captured : Option Nat)
      -- closure of `SetTLSFingerprint`; `captured` = address of the object the setter itself
      -- obtained from `GetTLSClientConfig()` (`none` when the setter does not call it)
  | user
  deriving DecidableEq, Repr

structure PClient where
  heap : List TlsCfg
  cur : Option Nat
  hs : HsSlot
  dialTLS : Bool
  deriving DecidableEq, Repr

/-- `C()`: `T()`'s initial configuration at address 0, no hooks. -/
def PClient.init : PClient := ⟨[initialCfg], some 0, .builtin, false⟩

/-- Every pointer designates an allocated object. -/
def PClient.WF (s : PClient) : Prop :=
  (∀ a, s.cur = some a → a < s.heap.length) ∧
  (∀ a, s.hs = .fingerprint (some a) → a < s.heap.length)

/-- The value `Options.TLSClientConfig` designates (`none` = nil pointer). -/
def view (s : PClient) : Option TlsCfg :=
  match s.cur with
  | none => none
  | some a => s.heap[a]?

/-- `GetTLSClientConfig()`: allocates `&tls.Config{NextProtos: {"h2","http/1.1"}}` when nil. -/
def ensure (s : PClient) : PClient × Nat :=
  match s.cur with
  | some a => (s, a)
  | none => ({ s with heap := s.heap ++ [lazyCfg], cur := some s.heap.length }, s.heap.length)

/-- An in-place setter applied to an existing object. -/
def mutate (o : Op) (c : TlsCfg) : TlsCfg :=
  match step (some c) o with
  | some c' => c'
  | none => c

inductive HookOp
  | fingerprint            -- SetTLSFingerprint* / Impersonate*
  | userHandshake          -- SetTLSHandshake(fn)
  | noHandshake            -- SetTLSHandshake(nil)
  | dialTLS (on : Bool)    -- SetDialTLS(fn) / SetDialTLS(nil)
  deriving DecidableEq, Repr

inductive POp
  | tls (o : Op)
  | hook (h : HookOp)
  deriving DecidableEq, Repr

/-- Installing the fingerprint closure. Reading at handshake time the setter does not touch
the configuration; reading at setter time it calls `GetTLSClientConfig()` (allocating when
nil) and keeps the object. -/
def installFp (m : FpRead) (s : PClient) : PClient :=
  match m with
  | .atHandshake => { s with hs := .fingerprint none }
  | .atSetter => let (s', a) := ensure s; { s' with hs := .fingerprint (some a) }

def isFp : HsSlot → Bool
  | .fingerprint _ => true
  | _ => false

def pstep (m : FpRead) (s : PClient) : POp → PClient
  | .hook .fingerprint => installFp m s
  | .hook .userHandshake => { s with hs := .user }
  | .hook .noHandshake => { s with hs := .builtin }
  | .hook (.dialTLS b) => { s with dialTLS := b }
  | .tls (.setConfig none) => { s with cur := none }
  | .tls (.setConfig (some c)) => { s with heap := s.heap ++ [c], cur := some s.heap.length }
  | .tls .use => s
  | .tls .clone =>
    -- Options.Clone: a new object with the same values (nil stays nil); the hooks are copied;
    -- a remembered fingerprint is installed again for the copy
    let s' : PClient :=
      match view s with
      | none => s
      | some c => { s with heap := s.heap ++ [c], cur := some s.heap.length }
    if isFp s.hs then installFp m s' else s'
  | .tls o =>
    let (s', a) := ensure s
    match s'.heap[a]? with
    | some c => { s' with heap := s'.heap.set a (mutate o c) }
    | none => s'

def prun (m : FpRead) (s : PClient) (ops : List POp) : PClient := ops.foldl (pstep m) s

/-- The TLS setters of a sequence, in order. -/
def tlsOps : List POp → List Op
  | [] => []
  | .tls o :: r => o :: tlsOps r
  | .hook _ :: r => tlsOps r

/-- The hook setters of a sequence, in order. -/
def hookOps : List POp → List HookOp
  | [] => []
  | .tls _ :: r => hookOps r
  | .hook h :: r => h :: hookOps r

def hookStep (h : Hooks) : HookOp → Hooks
  | .fingerprint => { h with handshake := some .fingerprint }
  | .userHandshake => { h with handshake := some .user }
  | .noHandshake => { h with handshake := none }
  | .dialTLS b => { h with dialTLS := b }

def hookRun (h : Hooks) (l : List HookOp) : Hooks := l.foldl hookStep h

def hooksOf (s : PClient) : Hooks :=
  ⟨s.dialTLS, match s.hs with | .builtin => none | .fingerprint _ => some .fingerprint | .user => some .user⟩

/-- The `tls.Config` value the governing handshake of path `p` starts from: the one the
pointer designates when the connection is made — except that a fingerprint closure that
fetched the configuration when it was installed keeps reading THAT object. -/
def readFor (m : FpRead) (s : PClient) (p : DialPath) : Option TlsCfg :=
  match m, governs (hooksOf s) p, s.hs with
  | .atSetter, .fingerprint, .fingerprint (some a) => s.heap[a]?
  | _, _, _ => view s

/-- The configuration presented on a new connection of path `p` (`none`: a user function
governs). -/
def presentedCfg (m : FpRead) (copied : List FpField) (s : PClient) (p : DialPath) (onlyH1 : Bool)
    (host : Nat) : Option TlsCfg :=
  pathCfg copied (hooksOf s) p onlyH1 host (readFor m s p)

end Req.Pool.TLS
