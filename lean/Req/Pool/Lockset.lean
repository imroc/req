/-!
# Lock-set discipline: abstract trace semantics and the static table check (C09)

Part 1 — an abstract trace semantics of threads, mutexes and memory accesses:
events `acq t l`, `rel t l`, `acc t x w`; a trace is well formed when every acquire finds the
lock free and every release is done by the holder (mutual exclusion, as `sync.Mutex` gives it).
Happens-before is the least transitive relation containing program order and
release → later acquire of the same lock.  A *race* on `x` is a pair of accesses to `x` by
different threads, at least one a write, not ordered by happens-before.

Part 2 — the executable check over the regenerated table `Generated.Locks.fields`
(`tools/gofacts/c09.go`): per anchored field, the intersection of the lock sets syntactically
held at every access site.

The classical theorem connecting them is `lockset_sound` in `Req/Props/C09.lean`, from static facts
`static_lockset_sound` in `Req/Lemmas/C09Lockset.lean`.
-/
namespace Req.Pool.Lockset

abbrev Tid := Nat
abbrev Lock := Nat
abbrev Loc := Nat

inductive Ev where
  | acq (t : Tid) (l : Lock)
  | rel (t : Tid) (l : Lock)
  | acc (t : Tid) (x : Loc) (w : Bool)
deriving DecidableEq, Repr

def Ev.tid : Ev → Tid
  | .acq t _ => t
  | .rel t _ => t
  | .acc t _ _ => t

/-- Who holds each lock. -/
abbrev Holders := Lock → Option Tid

def stepH (h : Holders) : Ev → Holders
  | .acq t l => fun l' => if l' = l then some t else h l'
  | .rel _ l => fun l' => if l' = l then none else h l'
  | .acc _ _ _ => h

def holders (tr : List Ev) : Holders := tr.foldl stepH (fun _ => none)

/-- An event is enabled in a holder state: a lock is acquired only when free, released only
by its holder. -/
def Enabled (h : Holders) : Ev → Prop
  | .acq _ l => h l = none
  | .rel t l => h l = some t
  | .acc _ _ _ => True

/-- Well-formed trace: every event is enabled in the state reached by the prefix before it. -/
def WF (tr : List Ev) : Prop :=
  ∀ i e, tr[i]? = some e → Enabled (holders (tr.take i)) e

/-- Thread `t` holds `l` when event number `i` executes. -/
def HoldsAt (tr : List Ev) (i : Nat) (t : Tid) (l : Lock) : Prop :=
  holders (tr.take i) l = some t

/-- Happens-before on event positions of a trace. -/
inductive HB (tr : List Ev) : Nat → Nat → Prop
  | po {i j : Nat} {e₁ e₂ : Ev} : i < j → tr[i]? = some e₁ → tr[j]? = some e₂ →
      e₁.tid = e₂.tid → HB tr i j
  | sync {i j : Nat} {t t' : Tid} {l : Lock} : i < j → tr[i]? = some (.rel t l) →
      tr[j]? = some (.acq t' l) → HB tr i j
  | trans {i j k : Nat} : HB tr i j → HB tr j k → HB tr i k

/-- Two conflicting accesses to `x` by different threads that are not ordered. -/
def Race (tr : List Ev) (x : Loc) : Prop :=
  ∃ i j t₁ t₂ w₁ w₂, i < j ∧ tr[i]? = some (.acc t₁ x w₁) ∧ tr[j]? = some (.acc t₂ x w₂) ∧
    t₁ ≠ t₂ ∧ (w₁ = true ∨ w₂ = true) ∧ ¬ HB tr i j

/-- Every access to `x` is made while holding `l`. -/
def Guarded (tr : List Ev) (x : Loc) (l : Lock) : Prop :=
  ∀ i t w, tr[i]? = some (.acc t x w) → HoldsAt tr i t l

/-- Static facts: for each location the lock sets of its access sites.  A trace conforms when
every access event to `x` holds all the locks of SOME site of `x` (the site it executes). -/
abbrev StaticFacts := Loc → List (List Lock)

def Conforms (facts : StaticFacts) (tr : List Ev) : Prop :=
  ∀ i t x w, tr[i]? = some (.acc t x w) → ∃ s ∈ facts x, ∀ l ∈ s, HoldsAt tr i t l

/-! ## The table check -/

/-- One syntactic access site: enclosing function (ASCII codes of `Recv.name`), whether it can
write, whether it sits in a setup-time setter, and the locks syntactically held. -/
structure Access where
  fn : List Nat
  write : Bool
  cfg : Bool
  held : List Nat
deriving DecidableEq, Repr

/-- Sites that take part in the discipline (setup-time setters excluded). -/
def live (as : List Access) : List Access := as.filter (fun a => !a.cfg)

/-- Locks held at every (non-setup) access site. -/
def commonLocks (as : List Access) : List Nat :=
  match live as with
  | [] => []
  | a :: rest => a.held.filter (fun l => rest.all (fun b => b.held.contains l))

/-- A field is guarded when some lock is common to all its (non-setup) access sites. -/
def guarded (as : List Access) : Bool :=
  (live as).isEmpty || !(commonLocks as).isEmpty

/-- The pairwise discipline ("written under `mu` AND `wmu`, read under either"): two sites are
compatible when neither can write or they hold a lock in common. -/
def pairOK (a b : Access) : Bool := (!a.write && !b.write) || a.held.any (fun l => b.held.contains l)

/-- Every two (non-setup) sites, at least one of which can write, share a lock. A field with a
lock common to all its sites satisfies this too; the converse fails for state guarded by two
mutexes of which readers take only one. -/
def pairGuarded (as : List Access) : Bool :=
  (live as).all (fun a => (live as).all (fun b => pairOK a b))

/-- Static facts with the write flag of each site. A trace conforms when every access event
executes SOME site of its location: it holds the site's locks, and a write event needs a site
that can write. -/
abbrev StaticFactsW := Loc → List (Bool × List Lock)

def ConformsW (facts : StaticFactsW) (tr : List Ev) : Prop :=
  ∀ i t x w, tr[i]? = some (.acc t x w) →
    ∃ s ∈ facts x, (w = true → s.1 = true) ∧ ∀ l ∈ s.2, HoldsAt tr i t l

def ofTuple (t : List Nat × Bool × Bool × List Nat) : Access := ⟨t.1, t.2.1, t.2.2.1, t.2.2.2⟩

/-- Drop the sites of field `fid` whose function is listed as a known open finding. -/
def dropOpen (known : List (Nat × List Nat)) (fid : Nat) (as : List Access) : List Access :=
  as.filter (fun a => !(known.contains (fid, a.fn)))

/-- Every field of the table is guarded, except at the listed known-open (field, function)
sites. -/
def allGuardedExcept (known : List (Nat × List Nat))
    (fields : List (Nat × List (List Nat × Bool × Bool × List Nat))) : Bool :=
  fields.all (fun f => guarded (dropOpen known f.1 (f.2.map ofTuple)))

/-- The static facts a table denotes (lock sets of the non-setup sites per field id). -/
def factsOf (fields : List (Nat × List (List Nat × Bool × Bool × List Nat))) : StaticFacts :=
  fun x => match fields.lookup x with
    | some as => (live (as.map ofTuple)).map (·.held)
    | none => []

def factsOfW (fields : List (Nat × List (List Nat × Bool × Bool × List Nat))) : StaticFactsW :=
  fun x => match fields.lookup x with
    | some as => (live (as.map ofTuple)).map (fun a => (a.write, a.held))
    | none => []

/-- Every field of the table satisfies the pairwise discipline. -/
def allPairGuarded (fields : List (Nat × List (List Nat × Bool × Bool × List Nat))) : Bool :=
  fields.all (fun f => pairGuarded (f.2.map ofTuple))

/-! ### verdict with offenders (for the facts lane) -/

def countHolding (as : List Access) (l : Nat) : Nat := (as.filter (fun a => a.held.contains l)).length

/-- The lock held at the most sites (ties: the smallest id); 0 when no site holds any lock. -/
def majorityLock (as : List Access) : Nat :=
  let cands := (as.flatMap (·.held)).eraseDups
  cands.foldl (fun best l =>
    if best = 0 then l
    else if countHolding as l > countHolding as best then l
    else if countHolding as l = countHolding as best ∧ l < best then l
    else best) 0

/-- Functions (first-appearance order, no duplicates) with a site not holding `l`. -/
def offenders (as : List Access) (l : Nat) : List (List Nat) :=
  ((as.filter (fun a => !(a.held.contains l))).map (·.fn)).eraseDups

inductive Verdict where
  | guarded (locks : List Nat)
  /-- no lock common to all sites, but every conflicting pair of sites shares one -/
  | pairwise
  | unguarded (lock : Nat) (fns : List (List Nat))
deriving DecidableEq, Repr

def verdict (as : List Access) : Verdict :=
  let ls := live as
  if guarded as then .guarded (commonLocks as)
  else if pairGuarded as then .pairwise
  else .unguarded (majorityLock ls) (offenders ls (majorityLock ls))

end Req.Pool.Lockset
