/-!
# Cancellation / timeout model (C08)

Three pieces, all small total functions over enumerations, `Bool` and `Nat`:

* `mapRoundTripError` — the decision logic of `persistConn.mapRoundTripError`
  (transport.go): which error `persistConn.roundTrip` reports.
* `finish` / the retry part — the decision of `Request.do` (request.go) after an attempt:
  stop on `context.Canceled`, otherwise retry while attempts are left, with a *sleeping*
  state between attempts.  Whether the sleep selects on the context is a parameter
  (`Cfg.sleepSelectsCtx`) whose value for the real tree is regenerated by `gofacts`
  (`Generated/C08Facts.lean`).
* the *lifecycle* of one request as a small-step system: phases × per-request resources,
  environment events (`Ev`: what the network / the peer / timers do) and internal actions
  (`Act`: one step of one of the goroutines working for the request), mirroring the select
  loops of
    - HTTP/1.1: `Transport.roundTrip`/`getConn`, `persistConn.roundTrip`, `writeLoop`,
      `readLoop` (transport.go),
    - HTTP/2: `ClientConn.roundTrip`, `clientStream.doRequest`/`writeRequest`/
      `cleanupWriteRequest`, `abortStream`/`closeReqBodyLocked` (internal/http2/transport.go),
    - HTTP/3: `RoundTripper.RoundTripOpt`, `SingleDestinationRoundTripper.roundTrip`
      (cancel watcher goroutine), `doRequest`, `sendRequestBody` (internal/http3).

"Promptly" is a bound on the number of *internal* steps (no timer, no peer needed);
wall-clock time and real goroutine exit are outside the model (sampled by the script lane).
-/
namespace Req.Cancel

/-! ## 1. mapRoundTripError -/

inductive CtxErr | canceled | deadline
  deriving DecidableEq, Repr, Inhabited

/-- classes of the `err` argument that `mapRoundTripError` distinguishes -/
inductive ErrKind
  | serverClosedIdle      -- err == errServerClosedIdle
  | readFromServer        -- transportReadFromServerError
  | other                 -- write error, closed conn, …
  deriving DecidableEq, Repr

structure MapIn where
  errNil         : Bool            -- err == nil
  canceled       : Option CtxErr   -- pc.canceled(): pc.canceledErr
  reqErr         : Bool            -- req.err != nil (request body read error set by writeLoop)
  kind           : ErrKind
  nothingWritten : Bool            -- pc.nwrite == startBytesWritten
  broken         : Bool            -- pc.isBroken()
  deriving DecidableEq, Repr

inductive MapOut
  | nil
  | canceled (e : CtxErr)   -- the cancellation cause, undecorated
  | reqErr                  -- the explicitly set request error
  | serverClosedIdle
  | nothingWritten          -- nothingWrittenError{err}
  | plain                   -- err, undecorated
  | brokenWrapped           -- "transport connection broken: %w"
  deriving DecidableEq, Repr

def mapRoundTripError (i : MapIn) : MapOut :=
  if i.errNil then .nil
  else match i.canceled with
    | some e => .canceled e
    | none =>
      if i.reqErr then .reqErr
      else match i.kind with
        | .serverClosedIdle => .serverClosedIdle
        | .readFromServer => if i.nothingWritten then .nothingWritten else .plain
        | .other =>
          if i.broken then (if i.nothingWritten then .nothingWritten else .brokenWrapped)
          else .plain

/-! ## 2. Lifecycle state -/

inductive Stack | h1 | h2 | h3
  deriving DecidableEq, Repr, Inhabited

/-- what the caller finally sees (class of `resp.Err` / of the pending body read error) -/
inductive Result
  | pending
  | ok
  | ctxErr (e : CtxErr)   -- errors.Is(err, context.Canceled / DeadlineExceeded)
  | h3Canceled            -- *http3.Error{H3_REQUEST_CANCELLED, local}: pending HTTP/3 body read
  | netErr                -- anything else
  deriving DecidableEq, Repr, Inhabited

inductive Phase
  | waitConn | dialing | handshaking
  | writingHeaders | writingBody (i : Nat) | awaitingHeaders
  | readingBody (j : Nat)
  | retrySleep | done
  deriving DecidableEq, Repr, Inhabited

def Phase.preConn : Phase → Bool
  | .waitConn | .dialing | .handshaking => true
  | _ => false

def Phase.inflight : Phase → Bool
  | .writingHeaders | .writingBody _ | .awaitingHeaders => true
  | _ => false

def Phase.body : Phase → Bool
  | .readingBody _ => true
  | _ => false

/-- this request's claim on a connection -/
inductive Conn
  | none     -- nothing
  | bgDial   -- a dial started for this request is running, detached from the request context
  | ready    -- the dial finished and sits in `wantConn.result`, not yet picked up
  | owned    -- h1: the persistConn is exclusively ours; h2/h3: we hold a stream slot
  | closed   -- h1: persistConn closed
  | pooled   -- back in the idle pool / shared connection still usable
  deriving DecidableEq, Repr, Inhabited

/-- HTTP/2 stream / HTTP/3 request stream -/
inductive Stream | none | open | reset | closed
  deriving DecidableEq, Repr, Inhabited

/-- give the connection / stream slot back -/
def Conn.release : Conn → Conn
  | .owned => .pooled
  | c => c

/-- `wantConn.cancel`: a connection that was delivered but not picked up goes to the idle pool -/
def Conn.unready : Conn → Conn
  | .ready => .pooled
  | c => c

/-- the connection claim after the caller gave up waiting for a connection: a delivered one
goes to the idle pool (`wantConn.cancel`); a running dial goes on, detached (h1/h2) — on h3 it
runs under the request context and dies with it -/
def Conn.afterGiveUp (h3 : Bool) : Conn → Conn
  | .bgDial => if h3 then .none else .bgDial
  | .ready => .pooled
  | c => c

/-- h3 `RoundTripOpt` after a failed round trip: `if !errors.Is(err, context.Canceled)
{ r.removeClient(hostname) }` — after a deadline the QUIC connection is dropped from the cache -/
def Conn.afterH3Fail (deadline : Bool) : Conn → Conn
  | .owned => if deadline then .closed else .pooled
  | c => c

/-- reset an open stream (RST_STREAM / CancelWrite+CancelRead) -/
def Stream.kill : Stream → Stream
  | .open => .reset
  | s => s

/-- per-attempt resources -/
structure Res where
  bodyOpen : Bool := false         -- request body handed to the transport and not closed yet
  closes   : Nat := 0              -- Close() calls on this attempt's body
  closing  : Bool := false         -- h2: goroutine started by closeReqBodyLocked is in flight
  writer   : Bool := false         -- h1 writeLoop of our conn / h2 doRequest goroutine / h3 body sender
  reader   : Bool := false         -- h1 readLoop of our conn
  watch    : Bool := false         -- h3 cancel-watcher goroutine
  stream   : Stream := .none
  conn     : Conn := .none
  connErr  : Option CtxErr := none -- h1 pc.canceledErr / h2 cs.abortErr
  rtAbort  : Bool := false         -- h2: roundTrip took its ctx.Done branch (abortStream called)
  pipeErr  : Bool := false         -- h2: response bufPipe closed with the error
  deriving DecidableEq, Repr, Inhabited

structure Cfg where
  stack           : Stack
  tls             : Bool := false
  bodyChunks      : Nat := 0       -- 0 = request without body
  respChunks      : Nat := 0       -- 0 = response without body
  maxRetries      : Nat := 0
  sleepSelectsCtx : Bool := true   -- THE FACT (Generated.C08Facts.retrySleepSelectsCtx)
  autoRead        : Bool := true   -- the response body is read inside the attempt (req's default):
                                   -- a failing body read is an attempt failure, subject to retry;
                                   -- false (DisableAutoReadResponse): the caller reads it after the
                                   -- call returned and gets the read error as it is
  clientTimer     : Bool := false  -- the cancellation is http.Client's Timeout: net/http's
                                   -- cancelTimerBody reports any later body-read error as a timeout
  deriving Repr

structure St where
  phase      : Phase := .waitConn
  ctx        : Option CtxErr := none   -- none = context live
  result     : Result := .pending
  attempt    : Nat := 0                -- Request.RetryAttempt
  sleepsDone : Nat := 0                -- inter-attempt sleeps that ran to completion
  res        : Res := {}
  deriving DecidableEq, Repr, Inhabited

def freshRes (cfg : Cfg) : Res := { bodyOpen := decide (0 < cfg.bodyChunks) }

def init (cfg : Cfg) : St := { res := freshRes cfg }

def Res.closeBody (r : Res) : Res :=
  if r.bodyOpen then { r with bodyOpen := false, closes := r.closes + 1 } else r

/-- nothing is held / running for the request any more -/
def Res.released (r : Res) : Bool :=
  !r.bodyOpen && !r.closing && !r.writer && !r.reader && !r.watch &&
  r.stream != .open && r.conn != .owned && r.conn != .ready

/-- `Request.do` after an attempt ended with `r` (default retry condition: retry on error):
stop on success, on `context.Canceled` (`contextCanceled`), or when no attempt is left. -/
def finish (cfg : Cfg) (s : St) (r : Result) : St :=
  if r = .ok ∨ r = .ctxErr .canceled ∨ cfg.maxRetries ≤ s.attempt then
    { s with phase := .done, result := r }
  else
    { s with phase := .retrySleep, result := r, attempt := s.attempt + 1 }

/-- a pending response-body read failed with `r` -/
def finishBody (cfg : Cfg) (s : St) (r : Result) : St :=
  if cfg.autoRead then finish cfg s r else { s with phase := .done, result := r }

def errResult : Option CtxErr → Result
  | some e => .ctxErr e
  | none => .netErr

/-- result of `persistConn.roundTrip` on a dead connection, through `mapRoundTripError` -/
def h1Result (connErr : Option CtxErr) : Result :=
  match mapRoundTripError { errNil := false, canceled := connErr, reqErr := false,
                            kind := .other, nothingWritten := false, broken := true } with
  | .canceled e => .ctxErr e
  | _ => .netErr

/-! ## 3. Internal actions (one step of one goroutine; no timer, no peer) -/

inductive Act
  | deliver          -- getConn: `r := <-w.result` — the caller picks the connection up
  | preConnCancel    -- getConn / RoundTripOpt select: `<-ctx.Done()` → return the cause
  | h1RtCancel       -- persistConn.roundTrip: `<-ctxDoneChan` → pc.cancelRequest(cause)
  | h1WriterFail     -- writeLoop: write on the closed conn fails; writeRequest closes the body
  | h1WriterExit     -- writeLoop: `<-pc.closech` → return
  | h1ReaderStop     -- readLoop: read error / closech → return
  | h1RtReturn       -- persistConn.roundTrip: pcClosed / write error → mapRoundTripError → return
  | h1ReaderCancel   -- readLoop (body phase): `<-rc.treq.ctx.Done()` → pc.cancelRequest
  | h1BodyReadFail   -- pending Body.Read on the closed conn → bodyEOFSignal.fn → pc.canceled()
  | h2RtCancel       -- ClientConn.roundTrip: `<-ctx.Done()` → cs.abortStream(err)
  | h2Closer         -- goroutine of closeReqBodyLocked: reqBody.Close(); close(reqBodyClosed)
  | h2RtReturn       -- cancelRequest: `<-bodyClosed`; return err
  | h2RtAbortReturn  -- ClientConn.roundTrip: `<-cs.abort` → waitDone(); return cs.abortErr
  | h2WriterAbort    -- doRequest: writeRequest returns ctx/abort error → cleanupWriteRequest
  | h2BodyReadFail   -- pending transportResponseBody.Read: bufPipe closed with the error
  | h3WatchFire      -- watcher goroutine: `<-ctx.Done()` → CancelWrite + CancelRead
  | h3WriterStop     -- sendRequestBody: Write on the cancelled stream fails → defer body.Close()
  | h3RtReturn       -- doRequest fails → close(reqDone); <-done; RoundTrip returns ctx.Err()
  | h3BodyReadFail   -- pending body Read on the cancelled stream
  | sleepWake        -- Request.do: the inter-attempt wait takes its `<-ctx.Done()` case
  deriving DecidableEq, Repr

def allActs : List Act :=
  [.deliver, .preConnCancel, .h1RtCancel, .h1WriterFail, .h1WriterExit, .h1ReaderStop, .h1RtReturn,
   .h1ReaderCancel, .h1BodyReadFail, .h2RtCancel, .h2Closer, .h2RtReturn, .h2RtAbortReturn,
   .h2WriterAbort, .h2BodyReadFail, .h3WatchFire, .h3WriterStop, .h3RtReturn, .h3BodyReadFail,
   .sleepWake]

/-- resources a request holds once it got its connection -/
def startInflight (cfg : Cfg) (s : St) : St :=
  let r := s.res
  match cfg.stack with
  | .h1 => { s with phase := .writingHeaders,
                    res := { r with conn := .owned, writer := true, reader := true } }
  | .h2 => { s with phase := .writingHeaders,
                    res := { r with conn := .owned, writer := true } }
  | .h3 => -- openRequestStream + watcher; SendRequestHeader never blocks (QUIC buffers it)
    { s with phase := if 0 < cfg.bodyChunks then .writingBody 0 else .awaitingHeaders,
             res := { r with conn := .owned, watch := true, stream := .open,
                             writer := decide (0 < cfg.bodyChunks) } }

def guard (cfg : Cfg) (s : St) : Act → Bool
  | .deliver => s.phase.preConn && s.res.conn == .ready
  | .preConnCancel => s.phase.preConn && s.ctx.isSome
  | .h1RtCancel => cfg.stack == .h1 && s.phase.inflight && s.ctx.isSome && s.res.conn == .owned
  | .h1WriterFail => cfg.stack == .h1 && s.res.writer && s.res.conn == .closed && s.res.bodyOpen
  | .h1WriterExit => cfg.stack == .h1 && s.res.writer && s.res.conn == .closed
  | .h1ReaderStop => cfg.stack == .h1 && s.res.reader && s.res.conn == .closed
  | .h1RtReturn => cfg.stack == .h1 && s.phase.inflight && s.res.conn == .closed && !s.res.writer
  | .h1ReaderCancel => cfg.stack == .h1 && s.phase.body && s.res.reader && s.ctx.isSome &&
      s.res.conn == .owned
  | .h1BodyReadFail => cfg.stack == .h1 && s.phase.body && s.res.conn == .closed
  | .h2RtCancel => cfg.stack == .h2 && s.phase.inflight && s.ctx.isSome && !s.res.rtAbort
  | .h2Closer => cfg.stack == .h2 && s.res.closing
  | .h2RtReturn => cfg.stack == .h2 && s.phase.inflight && s.res.rtAbort && !s.res.closing
  | .h2RtAbortReturn => cfg.stack == .h2 && s.phase.inflight && !s.res.rtAbort &&
      s.res.connErr.isSome && (!s.res.writer || s.ctx.isSome)
  | .h2WriterAbort => cfg.stack == .h2 && s.res.writer && (s.ctx.isSome || s.res.connErr.isSome) &&
      !s.res.closing
  | .h2BodyReadFail => cfg.stack == .h2 && s.phase.body && s.res.pipeErr
  | .h3WatchFire => cfg.stack == .h3 && s.res.watch && s.ctx.isSome
  | .h3WriterStop => cfg.stack == .h3 && s.res.writer && s.res.stream == .reset
  | .h3RtReturn => cfg.stack == .h3 && s.phase.inflight && s.res.stream == .reset && !s.res.watch
  | .h3BodyReadFail => cfg.stack == .h3 && s.phase.body && s.res.stream == .reset
  | .sleepWake => s.phase == .retrySleep && s.ctx.isSome && cfg.sleepSelectsCtx

def apply (cfg : Cfg) (s : St) : Act → St
  | .deliver => startInflight cfg s
  | .preConnCancel =>
    -- Transport.roundTrip: `closeBody(req); return nil, err`; `w.cancel` puts an already delivered
    -- connection back into the pool; a running dial goes on, detached
    let r := s.res.closeBody
    -- h3: the dial runs under the request context and dies with it; h1/h2: it goes on, detached
    let r := { r with conn := r.conn.afterGiveUp (cfg.stack == .h3) }
    finish cfg { s with res := r } (errResult s.ctx)
  | .h1RtCancel => { s with res := { s.res with connErr := s.ctx, conn := .closed } }
  | .h1WriterFail => { s with res := { s.res.closeBody with writer := false } }
  | .h1WriterExit => { s with res := { s.res with writer := false } }
  | .h1ReaderStop => { s with res := { s.res with reader := false } }
  | .h1RtReturn =>
    -- Transport.roundTrip closes the body if writeLoop never did (`!b.didClose`)
    finish cfg { s with res := s.res.closeBody } (h1Result s.res.connErr)
  | .h1ReaderCancel =>
    { s with res := { s.res with connErr := s.ctx, conn := .closed, reader := false } }
  | .h1BodyReadFail => finishBody cfg s (errResult s.res.connErr)
  | .h2RtCancel =>
    { s with res := { s.res with rtAbort := true,
                                 connErr := s.res.connErr.or s.ctx,
                                 closing := s.res.closing || s.res.bodyOpen } }
  | .h2Closer => { s with res := { s.res.closeBody with closing := false } }
  | .h2RtReturn => finish cfg s (errResult s.ctx)
  | .h2RtAbortReturn => finish cfg s (errResult s.res.connErr)
  | .h2WriterAbort =>
    -- cleanupWriteRequest: close the body if nobody claimed it, RST_STREAM(CANCEL) if the
    -- headers went out, forget the stream, bufPipe.CloseWithError, close(donec)
    let r := s.res.closeBody
    { s with res := { r with writer := false, pipeErr := true,
                             connErr := r.connErr.or s.ctx,
                             stream := r.stream.kill,
                             conn := r.conn.release } }
  | .h2BodyReadFail => finishBody cfg s (errResult s.res.connErr)
  | .h3WatchFire =>
    { s with res := { s.res with watch := false,
                                 stream := s.res.stream.kill } }
  | .h3WriterStop => { s with res := { s.res.closeBody with writer := false } }
  | .h3RtReturn =>
    -- RoundTripOpt: `if !errors.Is(err, context.Canceled) { r.removeClient(hostname) }` — after a
    -- deadline the QUIC connection is dropped from the cache (the next request dials again)
    finish cfg { s with res := { s.res with conn := s.res.conn.afterH3Fail (s.ctx == some .deadline) } }
      (errResult s.ctx)
  | .h3BodyReadFail =>
    finishBody cfg { s with res := { s.res with conn := s.res.conn.release } }
      (if cfg.clientTimer then errResult s.ctx else .h3Canceled)
  | .sleepWake => { s with phase := .done, result := errResult s.ctx }

/-! ## 4. Environment events -/

inductive Ev
  | cancel (e : CtxErr)  -- the request context is cancelled / its deadline passes
  | connIdle             -- an idle (reused) connection is delivered
  | dialStart            -- the dial goroutine starts
  | dialDone             -- TCP/QUIC dial finished
  | hsDone               -- TLS handshake finished
  | wrote                -- next piece of the request reached the network (headers, then chunk i)
  | gotHeaders           -- response headers arrived
  | gotBody              -- next response body chunk was consumed by the caller
  | attemptFails         -- the peer makes the attempt fail (connection closed / error status)
  | sleepElapse          -- the retry interval timer fires
  deriving DecidableEq, Repr

/-- the attempt completed successfully: hand everything back -/
def completeOk (cfg : Cfg) (s : St) : St :=
  let r := s.res
  let r := match cfg.stack with
    | .h1 => { r with conn := .pooled, writer := false, reader := false }
    | .h2 => { r.closeBody with conn := .pooled, writer := false, stream := .closed }
    | .h3 => { r with conn := .pooled, watch := false, stream := .closed }
  finish cfg { s with res := r } .ok

def evGuard (cfg : Cfg) (s : St) : Ev → Bool
  | .cancel _ => s.ctx.isNone && s.phase != .done
  | .connIdle => s.phase == .waitConn && s.res.conn == .none
  | .dialStart => s.phase == .waitConn && s.res.conn == .none
  | .dialDone => s.res.conn == .bgDial && s.phase != .handshaking
  | .hsDone => s.res.conn == .bgDial && s.phase == .handshaking
  | .wrote =>
    (s.phase == .writingHeaders || (match s.phase with | .writingBody _ => true | _ => false)) &&
    s.res.conn == .owned && s.res.writer && s.res.connErr.isNone &&
    (cfg.stack == .h1 || s.res.stream != .reset)
  | .gotHeaders => s.phase == .awaitingHeaders && s.res.conn == .owned && s.res.connErr.isNone &&
      (cfg.stack == .h1 || cfg.stack == .h2 || s.res.stream == .open) &&
      (cfg.stack != .h2 || (s.res.writer && !s.res.rtAbort))
  | .gotBody => s.phase.body && s.res.conn == .owned && s.res.connErr.isNone &&
      (cfg.stack != .h2 || (s.res.writer && !s.res.pipeErr)) &&
      (cfg.stack != .h3 || s.res.stream == .open)
  | .attemptFails => s.phase == .awaitingHeaders && s.res.conn == .owned && s.res.connErr.isNone &&
      s.ctx.isNone && !s.res.rtAbort && !s.res.closing
  | .sleepElapse => s.phase == .retrySleep && s.res.released

def evApply (cfg : Cfg) (s : St) : Ev → St
  | .cancel e => { s with ctx := some e }
  | .connIdle => { s with res := { s.res with conn := .ready } }
  | .dialStart => { s with phase := .dialing, res := { s.res with conn := .bgDial } }
  | .dialDone =>
    if s.phase == .dialing then
      if cfg.tls then { s with phase := .handshaking }
      else { s with res := { s.res with conn := .ready } }
    else { s with res := { s.res with conn := .pooled } }   -- nobody waits: putOrCloseIdleConn
  | .hsDone => { s with res := { s.res with conn := .ready } }
  | .wrote =>
    match s.phase with
    | .writingHeaders =>
      let r := if cfg.stack == .h2 then { s.res with stream := .open } else s.res
      if 0 < cfg.bodyChunks then { s with phase := .writingBody 0, res := r }
      else { s with phase := .awaitingHeaders, res := r }
    | .writingBody i =>
      if i + 1 < cfg.bodyChunks then { s with phase := .writingBody (i + 1) }
      else
        -- last chunk: h1 writeRequest / h3 sendRequestBody close the body; h2 keeps it until
        -- cleanupWriteRequest
        let r := match cfg.stack with
          | .h1 => s.res.closeBody
          | .h2 => s.res
          | .h3 => { s.res.closeBody with writer := false }
        { s with phase := .awaitingHeaders, res := r }
    | _ => s
  | .gotHeaders =>
    if 0 < cfg.respChunks then { s with phase := .readingBody 0 } else completeOk cfg s
  | .gotBody =>
    match s.phase with
    | .readingBody j =>
      if j + 1 < cfg.respChunks then { s with phase := .readingBody (j + 1) } else completeOk cfg s
    | _ => s
  | .attemptFails =>
    let r := s.res.closeBody
    let r := match cfg.stack with
      | .h1 => { r with conn := .closed, writer := false, reader := false }
      -- h2: RST_STREAM from the peer ends the stream, the shared connection stays usable
      | .h2 => { r with conn := r.conn.release, writer := false, stream := .closed }
      -- h3: the peer resets the stream; a non-context error drops the connection from the cache
      | .h3 => { r with conn := .closed, writer := false, watch := false, stream := .closed }
    finish cfg { s with res := r } .netErr
  | .sleepElapse =>
    match s.ctx with
    | some e =>
      -- the next attempt starts: Transport.roundTrip's first check `<-ctx.Done()` closes the
      -- fresh body and fails the attempt at once (nothing reaches the network)
      finish cfg { s with sleepsDone := s.sleepsDone + 1,
                          res := { (freshRes cfg).closeBody with conn := s.res.conn } } (.ctxErr e)
    | none => { s with sleepsDone := s.sleepsDone + 1, phase := .waitConn, res := freshRes cfg }

/-! ## 5. Runs -/

/-- internal successors of a state -/
def internalSuccs (cfg : Cfg) (s : St) : List St :=
  (allActs.filter (guard cfg s)).map (apply cfg s)

def stuck (cfg : Cfg) (s : St) : Bool := allActs.all fun a => !guard cfg s a

/-- a run of internal actions -/
inductive Run (cfg : Cfg) : St → List Act → St → Prop
  | nil (s) : Run cfg s [] s
  | cons {s a as s'} : guard cfg s a = true → Run cfg (apply cfg s a) as s' → Run cfg s (a :: as) s'

/-- reachable states: environment events and internal actions from the initial state -/
inductive Reach (cfg : Cfg) : St → Prop
  | init : Reach cfg (init cfg)
  | ev {s} (e : Ev) : Reach cfg s → evGuard cfg s e = true → Reach cfg (evApply cfg s e)
  | act {s} (a : Act) : Reach cfg s → guard cfg s a = true → Reach cfg (apply cfg s a)

/-- where the internal runs from `s` end, by exhaustive exploration (driver): the states in which they get
stuck, and, if the fuel runs out first, the state reached by then, stuck or not; with `fuel` ≥ 18 (the bound on
the length of runs proved in the lemmas) only stuck states -/
def finals (cfg : Cfg) : Nat → St → List St
  | 0, s => [s]
  | fuel + 1, s =>
    match internalSuccs cfg s with
    | [] => [s]
    | l => l.flatMap (finals cfg fuel)

/-- does the result identify the cancellation `e`? -/
def Result.identifies (e : CtxErr) : Result → Bool
  | .ctxErr e' => e' == e
  | .h3Canceled => true
  | _ => false

end Req.Cancel
