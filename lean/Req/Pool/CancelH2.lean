import Req.Pool.Cancel
/-!
# The HTTP/2 request lifecycle under cancellation (C08, refinement of `Req/Pool/Cancel.lean`)

One request = one `clientStream` on a shared `ClientConn` (internal/http2/transport.go), worked on by

* the **caller** goroutine in `ClientConn.roundTrip`: the select on `cs.respHeaderRecv` / `cs.abort` /
  `ctx.Done()`, `handleResponseHeaders`, `cancelRequest` (wait for the request body to be closed),
  `waitDone`;
* the **writer** goroutine `cs.doRequest` = `writeRequest` (wait for `cc.reqHeaderMu`, wait for a
  MAX_CONCURRENT_STREAMS slot in `awaitOpenSlotForStreamLocked`, `encodeAndWriteHeaders`, the
  100-continue wait, `writeRequestBody`: `body.Read` → `awaitFlowControl` → DATA …, END_STREAM, the
  final select on `cs.peerClosed` / `cs.abort` / `ctx.Done()`) followed by `cleanupWriteRequest`
  (claim + close the request body, wait for it to be closed, RST_STREAM rule, `abortStream`,
  `bufPipe.CloseWithError`, `forgetStreamID`, `close(cs.donec)`);
* the **closer** goroutine started by `closeReqBodyLocked` (from `abortStreamLocked`);
* the read loop / the peer / timers / the request body as ENVIRONMENT (`Ev`).

State = the program counters of caller and writer plus the `clientStream` fields they communicate
through. `Act` = one step of one of these goroutines that needs neither the peer nor a timer.
The model abstracts the number of body chunks (the writer loops `bodyRead → flow → data`) and
keeps what the property speaks about: the error the caller gets, how often the request body is
closed, which RST_STREAM frames are written, whether a DATA frame can still be started after the
cancellation, whether the stream slot is given back.

`cleanupRule` is the RST decision of `cleanupWriteRequest` as a table; `flowDecision` is
`awaitFlowControl`'s loop body; both are exercised against the real functions by the in-package
lane `TestVerif_C08_h2unit`, the step relation by the frame-script lane `TestVerif_C08_h2life`.
-/
namespace Req.CancelH2
open Req.Cancel

/-- RST_STREAM codes the model distinguishes -/
inductive Code | cancel | noError | local
  deriving DecidableEq, Repr, Inhabited

/-- what `writeRequest` returned / what `cs.abortErr` holds -/
inductive WErr
  | nil                  -- request written, response read, peer half-closed
  | ctx (e : CtxErr)     -- ctx.Err()
  | fromPeer             -- StreamError{Cause: errFromPeer}: the peer reset the stream
  | streamLocal          -- StreamError raised on our side (read loop found a protocol error)
  | closedBody           -- errClosedResponseBody: the caller closed the response body
  | other                -- write error, body read error, errReqBodyTooLong, h2 timeout, conn lost …
  deriving DecidableEq, Repr, Inhabited

/-! ## 1. The RST_STREAM rule of `cleanupWriteRequest` -/

structure CleanupIn where
  err : WErr
  sentHeaders : Bool
  sentEndStream : Bool
  peerClosed : Bool
  deriving DecidableEq, Repr

/-- `if err != nil && cs.sentEndStream { select { case <-cs.peerClosed: err = nil; default: } }` -/
def CleanupIn.effErr (i : CleanupIn) : WErr :=
  if i.err ≠ .nil ∧ i.sentEndStream ∧ i.peerClosed then .nil else i.err

/-- the RST_STREAM frame `cleanupWriteRequest` writes, if any -/
def cleanupRule (i : CleanupIn) : Option Code :=
  match i.effErr with
  | .nil => if i.sentHeaders ∧ ¬ i.sentEndStream then some .noError else none
  | .fromPeer => none
  | .streamLocal => if i.sentHeaders then some .local else none
  | _ => if i.sentHeaders then some .cancel else none

/-! ## 2. `awaitFlowControl`, one round of its loop -/

structure FlowIn where
  connClosed : Bool
  bodyClaimed : Bool     -- cs.reqBodyClosed != nil
  aborted : Bool         -- cs.abort closed
  ctxDone : Bool
  avail : Nat            -- cs.flow.available()
  maxBytes : Nat
  maxFrame : Nat
  deriving DecidableEq, Repr

inductive FlowOut
  | connClosed | stop | abortErr | ctxErr
  | take (n : Nat)
  | wait
  deriving DecidableEq, Repr

def flowDecision (i : FlowIn) : FlowOut :=
  if i.connClosed then .connClosed
  else if i.bodyClaimed then .stop
  else if i.aborted then .abortErr
  else if i.ctxDone then .ctxErr
  else if 0 < i.avail then .take (min (min i.avail i.maxBytes) i.maxFrame)
  else .wait

/-! ## 3. The lifecycle -/

/-- program counter of the writer goroutine (`doRequest`) -/
inductive WPc
  | hdrMu | slot | headers | cont | bodyRead | flow | data | endStream | peer
  | cleanup (e : WErr)       -- `cleanupWriteRequest(e)`: before the body claim
  | cuClose (e : WErr)       -- claimed the body itself, about to `reqBody.Close()`
  | cuWait (e : WErr)        -- `<-bodyClosed`
  | done
  deriving DecidableEq, Repr, Inhabited

/-- what `roundTrip` returned -/
inductive Ret | resp | err (e : WErr)
  deriving DecidableEq, Repr, Inhabited

/-- program counter of the caller in `ClientConn.roundTrip` -/
inductive RPc
  | select
  | waitBody (e : CtxErr)   -- `cancelRequest`: `<-bodyClosed`
  | waitDone                -- `<-cs.abort` taken: `waitDone()`
  | hdrWaitDone             -- `handleResponseHeaders` with no bodies: `waitDone()`
  | returned (r : Ret)
  deriving DecidableEq, Repr, Inhabited

structure St where
  hasBody : Bool := false
  expect : Bool := false             -- Expect: 100-continue and ExpectContinueTimeout != 0
  respNoBody : Bool := false         -- the response will have no body (END_STREAM on HEADERS)
  ctx : Option CtxErr := none
  abort : Option WErr := none        -- cs.abortErr once cs.abort is closed (abortOnce)
  claimed : Bool := false            -- cs.reqBodyClosed != nil
  closer : Bool := false             -- goroutine of closeReqBodyLocked in flight
  closedCh : Bool := false           -- cs.reqBodyClosed is closed
  closes : Nat := 0                  -- reqBody.Close() calls
  hasID : Bool := false              -- in cc.streams: holds a MAX_CONCURRENT_STREAMS slot
  hdrMuHeld : Bool := false          -- holds cc.reqHeaderMu
  sentHeaders : Bool := false
  sentEnd : Bool := false
  respHdr : Bool := false            -- cs.respHeaderRecv closed
  peerClosed : Bool := false
  pipeErr : Bool := false            -- response bufPipe closed with an error
  donec : Bool := false
  rsts : List Code := []             -- RST_STREAM frames written for this stream
  dataWrites : Nat := 0              -- DATA frames written
  cu : Option CleanupIn := none      -- what cleanupWriteRequest decided on (ghost)
  wpc : WPc := .hdrMu
  rpc : RPc := .select
  deriving DecidableEq, Repr, Inhabited

def errOfCtx (s : St) : WErr :=
  match s.abort, s.ctx with
  | some a, _ => a          -- `case <-cs.abort: return cs.abortErr` and the ctx case are both ready:
  | none, some e => .ctx e  -- either way the error is the cancellation (see `Act.wExit`)
  | none, none => .other

/-- `abortStreamLocked(err)`: `abortOnce`, `closeReqBodyLocked`, `cond.Broadcast` -/
def abortStream (s : St) (e : WErr) : St :=
  let s := { s with abort := s.abort.or (some e) }
  if s.hasBody ∧ ¬ s.claimed then { s with claimed := true, closer := true } else s

inductive Act
  -- writer
  | wHdrMuCancel     -- select on reqHeaderMu: `<-ctx.Done()`
  | wSlotAbort       -- awaitOpenSlotForStreamLocked woken: `<-cs.abort`
  | wHeaders         -- encodeAndWriteHeaders: abort/ctx check, else HEADERS
  | wContCancel      -- 100-continue wait: `<-cs.abort` / `<-ctx.Done()`
  | wReadChunk       -- body.Read returns data (model assumption: reads of the request body return)
  | wReadEOF         -- body.Read returns io.EOF
  | wBodyStop        -- body.Read fails on the closed body → errStopReqBodyWrite
  | wFlowExit        -- awaitFlowControl: claimed → stop; abort / ctx → error
  | wData            -- the DATA frame whose tokens were taken is written
  | wEndStream       -- after EOF: abortErr check, else END_STREAM
  | wPeerDone        -- final select: `<-cs.peerClosed`
  | wPeerAbort       -- final select: `<-cs.abort` / `<-ctx.Done()`
  | wCleanupClaim    -- cleanupWriteRequest: reservation, body claim
  | wCleanupClose    -- cleanupWriteRequest: reqBody.Close(); close(bodyClosed)
  | wCleanupFinish   -- `<-bodyClosed`; RST rule; abortStream; pipe; forgetStreamID; close(donec)
  -- caller
  | rHeaders         -- `<-cs.respHeaderRecv` (also when `<-cs.abort` is ready too)
  | rAbort           -- `<-cs.abort` with no response headers
  | rCtx             -- `<-ctx.Done()`: abortStream(ctx.Err())
  | rWaitBody        -- cancelRequest: body closed → return the ctx error
  | rWaitDone        -- waitDone(): donec / ctx → return cs.abortErr
  | rHdrWaitDone     -- handleResponseHeaders' waitDone()
  -- closer
  | closerRun
  deriving DecidableEq, Repr

def allActs : List Act :=
  [.wHdrMuCancel, .wSlotAbort, .wHeaders, .wContCancel, .wReadChunk, .wReadEOF, .wBodyStop, .wFlowExit, .wData, .wEndStream,
   .wPeerDone, .wPeerAbort, .wCleanupClaim, .wCleanupClose, .wCleanupFinish,
   .rHeaders, .rAbort, .rCtx, .rWaitBody, .rWaitDone, .rHdrWaitDone, .closerRun]

def cancelled (s : St) : Bool := s.abort.isSome || s.ctx.isSome

def guard (s : St) : Act → Bool
  | .wHdrMuCancel => s.wpc == .hdrMu && s.ctx.isSome
  | .wSlotAbort => s.wpc == .slot && s.abort.isSome
  | .wHeaders => s.wpc == .headers
  | .wContCancel => s.wpc == .cont && cancelled s
  | .wReadChunk => s.wpc == .bodyRead && s.closes == 0
  | .wReadEOF => s.wpc == .bodyRead && s.closes == 0
  | .wBodyStop => s.wpc == .bodyRead && s.claimed && s.closedCh
  | .wFlowExit => s.wpc == .flow && (s.claimed || cancelled s)
  | .wData => s.wpc == .data
  | .wEndStream => s.wpc == .endStream
  | .wPeerDone => s.wpc == .peer && s.peerClosed
  | .wPeerAbort => s.wpc == .peer && cancelled s
  | .wCleanupClaim => match s.wpc with | .cleanup _ => true | _ => false
  | .wCleanupClose => match s.wpc with | .cuClose _ => true | _ => false
  | .wCleanupFinish => (match s.wpc with | .cuWait _ => true | _ => false) && (!s.claimed || s.closedCh)
  | .rHeaders => s.rpc == .select && s.respHdr
  | .rAbort => s.rpc == .select && s.abort.isSome && !s.respHdr
  | .rCtx => s.rpc == .select && s.ctx.isSome
  | .rWaitBody => (match s.rpc with | .waitBody _ => true | _ => false) && (!s.claimed || s.closedCh)
  | .rWaitDone => s.rpc == .waitDone && (s.donec || s.ctx.isSome)
  | .rHdrWaitDone => s.rpc == .hdrWaitDone && (s.donec || s.ctx.isSome)
  | .closerRun => s.closer

/-- leave `writeRequest` with `e`; the `reqHeaderMu` token goes back -/
def toCleanup (s : St) (e : WErr) : St := { s with wpc := .cleanup e, hdrMuHeld := false }

def apply (s : St) : Act → St
  | .wHdrMuCancel => toCleanup s (errOfCtx s)
  | .wSlotAbort => toCleanup s (errOfCtx s)
  | .wHeaders =>
    if cancelled s then toCleanup s (errOfCtx s)
    else
      let s := { s with sentHeaders := true, hdrMuHeld := false }
      if !s.hasBody then { s with sentEnd := true, wpc := .peer }
      else if s.expect then { s with wpc := .cont }
      else { s with wpc := .bodyRead }
  | .wContCancel => toCleanup s (errOfCtx s)
  | .wReadChunk => { s with wpc := .flow }
  | .wReadEOF => { s with wpc := .endStream }
  | .wBodyStop => { s with wpc := .peer }
  | .wFlowExit => if s.claimed then { s with wpc := .peer } else toCleanup s (errOfCtx s)
  | .wData => { s with dataWrites := s.dataWrites + 1, wpc := .bodyRead }
  | .wEndStream =>
    match s.abort with
    | some a => toCleanup s a
    | none => { s with sentEnd := true, wpc := .peer }
  | .wPeerDone => toCleanup s .nil
  | .wPeerAbort => toCleanup s (errOfCtx s)
  | .wCleanupClaim =>
    match s.wpc with
    | .cleanup e =>
      if s.hasBody ∧ ¬ s.claimed then { s with claimed := true, wpc := .cuClose e }
      else { s with wpc := .cuWait e }
    | _ => s
  | .wCleanupClose =>
    match s.wpc with
    | .cuClose e => { s with closes := s.closes + 1, closedCh := true, wpc := .cuWait e }
    | _ => s
  | .wCleanupFinish =>
    match s.wpc with
    | .cuWait e =>
      let i : CleanupIn := ⟨e, s.sentHeaders, s.sentEnd, s.peerClosed⟩
      let s := if i.effErr ≠ .nil then abortStream s i.effErr else s
      { s with cu := some i, rsts := s.rsts ++ (cleanupRule i).toList,
               pipeErr := true, hasID := false, donec := true, wpc := .done }
    | _ => s
  | .rHeaders =>
    if s.respNoBody ∧ ¬ s.hasBody then { s with rpc := .hdrWaitDone } else { s with rpc := .returned .resp }
  | .rAbort => { s with rpc := .waitDone }
  | .rCtx =>
    match s.ctx with
    | some e => { abortStream s (.ctx e) with rpc := .waitBody e }
    | none => s
  | .rWaitBody =>
    match s.rpc with
    | .waitBody e => { s with rpc := .returned (.err (.ctx e)) }
    | _ => s
  | .rWaitDone => { s with rpc := .returned (.err (s.abort.getD .other)) }
  | .rHdrWaitDone =>
    if s.donec then { s with rpc := .returned .resp }
    else { s with rpc := .returned (.err (errOfCtx { s with abort := none })) }
  | .closerRun => { s with closer := false, closes := s.closes + 1, closedCh := true }

/-! ### environment -/

inductive Ev
  | cancel (e : CtxErr)
  | hdrMuFree        -- `cc.reqHeaderMu <- struct{}{}` succeeds
  | slotFree         -- a MAX_CONCURRENT_STREAMS slot is free: addStreamLocked
  | continue100      -- "100 Continue" arrives / ExpectContinueTimeout fires
  | flowTake         -- awaitFlowControl finds tokens and takes some
  | peerHeaders      -- response HEADERS processed by the read loop
  | peerEnd          -- END_STREAM processed: `close(cs.peerClosed)`
  | peerRst          -- RST_STREAM processed: abortStream(StreamError{Cause: errFromPeer})
  | callerClose      -- the caller closes the response body: abortStream(errClosedResponseBody)
  deriving DecidableEq, Repr

def evGuard (s : St) : Ev → Bool
  | .cancel _ => s.ctx.isNone
  | .hdrMuFree => s.wpc == .hdrMu
  | .slotFree => s.wpc == .slot && s.abort.isNone
  | .continue100 => s.wpc == .cont
  | .flowTake => s.wpc == .flow && !s.claimed && !cancelled s
  | .peerHeaders => s.sentHeaders && !s.respHdr && !s.donec && s.abort.isNone
  | .peerEnd => s.respHdr && !s.peerClosed && !s.donec && s.abort.isNone
  | .peerRst => s.sentHeaders && !s.donec && !s.peerClosed
  | .callerClose => (s.rpc == .returned .resp) && !s.donec

def evApply (s : St) : Ev → St
  | .cancel e => { s with ctx := some e }
  | .hdrMuFree => { s with wpc := .slot, hdrMuHeld := true }
  | .slotFree => { s with wpc := .headers, hasID := true }
  | .continue100 => { s with wpc := .bodyRead }
  | .flowTake => { s with wpc := .data }
  | .peerHeaders =>
    if s.respNoBody then { s with respHdr := true, peerClosed := true } else { s with respHdr := true }
  | .peerEnd => { s with peerClosed := true }
  | .peerRst => abortStream s .fromPeer
  | .callerClose => abortStream s .closedBody

def init (hasBody expect respNoBody : Bool) : St :=
  { hasBody := hasBody, expect := expect && hasBody, respNoBody := respNoBody }

inductive Reach : St → Prop
  | init (b e n) : Reach (init b e n)
  | ev {s} (e : Ev) : Reach s → evGuard s e = true → Reach (evApply s e)
  | act {s} (a : Act) : Reach s → guard s a = true → Reach (apply s a)

inductive Run : St → List Act → St → Prop
  | nil (s) : Run s [] s
  | cons {s a as s'} : guard s a = true → Run (apply s a) as s' → Run s (a :: as) s'

def stuck (s : St) : Bool := allActs.all fun a => !guard s a

def internalSuccs (s : St) : List St := (allActs.filter (guard s)).map (apply s)

/-- where the internal runs from `s` end, by exhaustive exploration (driver): the states in which they get
stuck, and, if the fuel runs out first, the state reached by then, stuck or not; with `fuel` ≥ 33 (the bound on
the length of runs proved in the lemmas) only stuck states -/
def finals : Nat → St → List St
  | 0, s => [s]
  | fuel + 1, s =>
    match internalSuccs s with
    | [] => [s]
    | l => l.flatMap (finals fuel)

/-- everything the request held is given back -/
def released (s : St) : Bool :=
  s.wpc == .done && s.donec && !s.closer && !s.hasID && !s.hdrMuHeld &&
  (match s.rpc with | .returned _ => true | _ => false) &&
  (!s.hasBody || (s.closes == 1 && s.closedCh))

/-- abstraction to the protocol-independent lifecycle's resource record -/
def absRes (s : St) : Res :=
  { bodyOpen := s.hasBody && s.closes == 0
    closes := s.closes
    closing := s.closer
    writer := s.wpc != .done
    stream := if s.hasID then (if s.sentHeaders then .open else .none)
              else if s.rsts ≠ [] then .reset else if s.donec then .closed else .none
    conn := if s.hasID then .owned else if s.donec then .pooled else .none
    connErr := match s.abort with | some (.ctx e) => some e | _ => none
    rtAbort := match s.rpc with | .waitBody _ => true | .returned (.err (.ctx _)) => true | _ => false
    pipeErr := s.pipeErr }

end Req.CancelH2
