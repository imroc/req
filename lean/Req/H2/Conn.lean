import Req.H2.Flow
/-!
C06 — model of one HTTP/2 `ClientConn` of `internal/http2/transport.go`: what the client
emits (frames) as a function of what the caller does (open a request, feed / write its body,
cancel, read / close the response body) and of what the peer sends (SETTINGS, SETTINGS ack,
WINDOW_UPDATE, RST_STREAM, GOAWAY, response HEADERS, DATA).

Every operation is one critical section of the real code under `cc.mu` / `cc.wmu` together with
the frame write that follows it, so an operation list is an interleaving of the real goroutines
at that granularity (see notes/C06.md for the two places where the real code releases the lock
between the decision and the write).

The model carries a `Fixes` vector: `Fixes.all` is the behaviour of the code with the
repairs of `fixes/C06-*.patch` applied; switching one off gives the behaviour of the unchanged
code for that defect, which is what the counter-example theorems and the lanes' classification
of known findings use.

Round 4 added: PING (acknowledged), PUSH_PROMISE (connection error), informational (1xx)
responses, HEAD requests, response Content-Length (`bytesRemain`, the over-long response),
request trailers, DATA frames that are dropped with a stream error (connection-level
accounting), and the wake-up table for SETTINGS_MAX_CONCURRENT_STREAMS.
-/
namespace Req.H2.Conn
open Req.H2 Req.H2.Flow

/-! ## Configuration (the caller's fingerprint) -/

structure Fixes where
  /-- the caller's SETTINGS_MAX_FRAME_SIZE does not seed `cc.maxFrameSize` (the peer's limit) -/
  maxFrame : Bool
  /-- stream receive windows start at the advertised SETTINGS_INITIAL_WINDOW_SIZE -/
  streamInflow : Bool
  /-- PRIORITY frames seed `nextStreamID` so that ids stay odd and increasing -/
  prioIds : Bool
  /-- the 5 priority bytes of a HEADERS frame count against the peer's MAX_FRAME_SIZE -/
  hdrPrio : Bool
  /-- C06-5: a `Read` that hits "response longer than its Content-Length" still returns the
  connection-level credit of the bytes it took out of the pipe -/
  readCredit : Bool := true
  /-- C06-6: a DATA frame dropped with a stream error (after END_STREAM, before HEADERS, on a
  HEAD response) is accounted for at connection level -/
  dataCredit : Bool := true
  /-- C06-7: request trailers are split with the MAX_FRAME_SIZE in force when they are written -/
  trailerFrame : Bool := true
  /-- C06-8: a request without a body announces no trailers and ends its stream on HEADERS -/
  trailerNoBody : Bool := true
  /-- C06-9: processing SETTINGS_MAX_CONCURRENT_STREAMS broadcasts on `cc.cond` -/
  mcsWake : Bool := true
  deriving DecidableEq, Repr, Inhabited

def Fixes.all : Fixes := { maxFrame := true, streamInflow := true, prioIds := true, hdrPrio := true }
def Fixes.legacy : Fixes :=
  { maxFrame := false, streamInflow := false, prioIds := false, hdrPrio := false, readCredit := false,
    dataCredit := false, trailerFrame := false, trailerNoBody := false, mcsWake := false }

structure Cfg where
  /-- `Transport.Settings` as (id, value) pairs; empty = defaults -/
  settings : List (Nat × Nat)
  /-- `Transport.ConnectionFlow` -/
  connFlow : Nat
  /-- stream ids of `Transport.PriorityFrames` -/
  prio : List Nat
  /-- `Transport.HeaderPriority` is not the zero value -/
  hdrPrio : Bool
  /-- `Transport.maxHeaderListSize()` (0 = do not advertise) -/
  maxHeaderList : Nat
  /-- `Transport.StrictMaxConcurrentStreams` -/
  strict : Bool
  fixes : Fixes
  deriving DecidableEq, Repr, Inhabited

/-- SETTINGS identifiers (RFC 9113 section 6.5.2). -/
def sHeaderTableSize : Nat := 1
def sEnablePush : Nat := 2
def sMaxConcurrentStreams : Nat := 3
def sInitialWindowSize : Nat := 4
def sMaxFrameSize : Nat := 5
def sMaxHeaderListSize : Nat := 6

/-- last value given for a setting id in a SETTINGS list (later entries win). -/
def lastSetting (l : List (Nat × Nat)) (id : Nat) : Option Nat :=
  l.foldl (fun acc p => if p.1 = id then some p.2 else acc) none

/-! ## Facts of `newClientConn` / `addStreamLocked` (bridged to the source in Bridge/C06.lean) -/

def transportDefaultConnFlow : Int := 1073741824
def transportDefaultStreamFlow : Int := 4194304
def initialMaxConcurrentStreams : Nat := 100
def defaultMaxConcurrentStreams : Nat := 1000
def initialWindowSize : Nat := 65535
def defaultMaxFrameSize : Nat := 16384

/-- the SETTINGS frame of the connection preface -/
def initialSettings (cfg : Cfg) : List (Nat × Nat) :=
  if cfg.settings.isEmpty then
    [(sEnablePush, 0), (sInitialWindowSize, 4194304)] ++
      (if cfg.maxHeaderList = 0 then [] else [(sMaxHeaderListSize, cfg.maxHeaderList)])
  else cfg.settings

/-- `cc.maxFrameSize` after `newClientConn` -/
def maxFrameSize0 (cfg : Cfg) : Nat :=
  if cfg.fixes.maxFrame then defaultMaxFrameSize
  else match lastSetting cfg.settings sMaxFrameSize with
    | some v => v
    | none => defaultMaxFrameSize

/-- the increment of the initial connection-level WINDOW_UPDATE -/
def connFlowAdvertised (connectionFlow : Int) : Int :=
  if connectionFlow < 1 then transportDefaultConnFlow else connectionFlow

/-- the argument of `cc.inflow.init` -/
def connInflowInit (connectionFlow : Int) : Int :=
  wrap32 (wrap32 (connFlowAdvertised connectionFlow) + 65535)

/-- the argument of `cs.inflow.init` in `addStreamLocked` -/
def streamInflow0 (cfg : Cfg) : Int :=
  if cfg.fixes.streamInflow then
    match lastSetting cfg.settings sInitialWindowSize with
    | some v => wrap32 v
    | none => transportDefaultStreamFlow
  else transportDefaultStreamFlow

/-- loop body of `for _, p := range t.PriorityFrames` on `cc.nextStreamID`, unchanged code -/
def prioSeedLegacy (_nextStreamID streamID : Int) : Int := wrapU32 (streamID + 2)

/-- the same with `fixes/C06-3`: skip past the named stream as before, but stay odd -/
def prioSeedFixed (_nextStreamID streamID : Int) : Int :=
  let next := wrapU32 (streamID + 2)
  if next % 2 = 0 then wrapU32 (next + 1) else next

def prioSeed (fx : Fixes) : Int → Int → Int :=
  if fx.prioIds then prioSeedFixed else prioSeedLegacy

/-- `cc.nextStreamID` after `newClientConn` -/
def nextStreamID0 (cfg : Cfg) : Nat :=
  (cfg.prio.foldl (fun (nx : Int) (id : Nat) => prioSeed cfg.fixes nx (id : Int)) 1).toNat

/-- `frameScratchBufferLen`: `cl` = declared content length or -1 -/
def scratchLen (cl maxFrameSize : Int) : Int :=
  let n := if maxFrameSize > 524288 then 524288 else maxFrameSize
  let n := if cl ≠ -1 ∧ cl + 1 < n then cl + 1 else n
  if n < 1 then 1 else n

/-- bytes taken by `awaitFlowControl` when `a = available() > 0` -/
def awaitTake (a maxBytes maxFrameSize : Int) : Int :=
  let take := if a > maxBytes then maxBytes else a
  if take > maxFrameSize then maxFrameSize else take

/-! ## Frames and operations -/

/-- frames written by the client -/
inductive Frame where
  | settings (vals : List (Nat × Nat))
  | settingsAck
  | windowUpdate (id : Nat) (inc : Int)
  | priority (id : Nat)
  /-- `len` = payload length (block fragment + 5 when a priority is attached) -/
  | headers (id len : Nat) (endStream endHeaders : Bool)
  | continuation (id len : Nat) (endHeaders : Bool)
  | data (id len : Nat) (endStream : Bool)
  | rst (id : Nat)
  /-- PING; `data` = the 8 opaque octets as a number -/
  | ping (ack : Bool) (data : Nat)
  deriving DecidableEq, Repr, Inhabited

/-- frames sent by the peer -/
inductive PFrame where
  | settings (vals : List (Nat × Nat))
  | settingsAck
  | windowUpdate (id inc : Nat)
  | rst (id code : Nat)
  | goaway (last : Nat)
  /-- a HEADERS frame (header block complete): `status` = the `:status` pseudo-header
  (0 = none: a trailer block; 100..199 = informational; anything else = the final response),
  `cl` = the value of a single well-formed Content-Length field -/
  | resp (id : Nat) (endStream : Bool) (status : Nat) (cl : Option Nat)
  /-- DATA with `len` bytes of data and `pad` bytes of padding overhead (pad length octet
  included; 0 = not padded) -/
  | data (id len pad : Nat) (endStream : Bool)
  | ping (ack : Bool) (data : Nat)
  /-- PUSH_PROMISE on stream `id` promising stream `promised` -/
  | pushPromise (id promised : Nat)
  deriving DecidableEq, Repr, Inhabited

/-- response HEADERS with status 200 and no Content-Length -/
@[match_pattern] def PFrame.headers (id : Nat) (endStream : Bool) : PFrame := .resp id endStream 200 none
/-- a trailer block -/
@[match_pattern] def PFrame.trailers (id : Nat) (endStream : Bool) : PFrame := .resp id endStream 0 none

/-- what the caller asks for: header block of `hdrLen` bytes, request body of `bodyLen` bytes
with a declared content length (`known`) or without, method HEAD or not, and `Request.Trailer`
(`none` = nil; `some n` = at least one key declared, the values encode to `n` bytes when the
upload ends) -/
structure Req where
  hdrLen : Nat
  bodyLen : Nat
  known : Bool
  head : Bool := false
  trailer : Option Nat := none
  deriving DecidableEq, Repr, Inhabited

inductive Op where
  /-- `RoundTrip` -/
  | openReq (r : Req)
  /-- the request body's `Read` hands the writer its next chunk: `n` bytes (0 = as much as the
  scratch buffer holds) -/
  | feed (id n : Nat)
  /-- one `awaitFlowControl` + DATA write of the stream's body writer -/
  | write (id : Nat)
  /-- the caller cancels the request -/
  | cancel (id : Nat)
  /-- `Response.Body.Read` with a buffer of `n` bytes -/
  | read (id n : Nat)
  /-- `Response.Body.Close` -/
  | close (id : Nat)
  /-- a `cc.cond.Broadcast()` with no other effect (any wake-up of the goroutines sleeping on
  `cc.cond`, spurious ones included): a `RoundTrip` waiting for a stream slot looks again -/
  | wake
  | peer (f : PFrame)
  deriving DecidableEq, Repr, Inhabited

/-- `RoundTrip` of a request that is neither HEAD nor carries trailers -/
@[match_pattern] def Op.openStream (hdrLen bodyLen : Nat) (known : Bool) : Op :=
  .openReq { hdrLen := hdrLen, bodyLen := bodyLen, known := known }

/-! ## State -/

structure Stream where
  id : Nat
  /-- still in `cc.streams` -/
  live : Bool
  /-- `cs.flow.n` -/
  out : Int
  known : Bool
  /-- request body bytes not yet handed to the writer -/
  bodyRemain : Nat
  /-- bytes in the scratch buffer not yet written -/
  chunk : Nat
  scratch : Nat
  /-- END_STREAM sent -/
  sentEnd : Bool
  inflow : Inflow
  gotHeaders : Bool
  /-- the response had END_STREAM on its HEADERS: `res.Body = noBody` -/
  noBody : Bool
  /-- bytes in `cs.bufPipe` -/
  buffered : Nat
  peerEnd : Bool
  /-- `Body.Close` was called (pipe broken) -/
  broken : Bool
  /-- `cs.isHead` -/
  head : Bool := false
  /-- `Request.Trailer` of a request with a body (see `Req.trailer`) -/
  trailer : Option Nat := none
  /-- the `maxFrameSize` local of `writeRequestBody`: `cc.maxFrameSize` when the upload began -/
  upMaxFrame : Nat := 16384
  /-- `cs.bytesRemain` (`none` = -1: no Content-Length) -/
  bytesRemain : Option Nat := none
  /-- `cs.readErr != nil` -/
  readErr : Bool := false
  /-- `cs.num1xx` -/
  num1xx : Nat := 0
  deriving DecidableEq, Repr, Inhabited

structure State where
  cfg : Cfg
  closed : Bool
  /-- a Go `panic` was reached (flow.go) -/
  panicked : Bool
  goAway : Bool
  doNotReuse : Bool
  /-- `cc.flow.n` -/
  connOut : Int
  connIn : Inflow
  maxFrameSize : Nat
  maxConcurrent : Nat
  initialWindowSize : Nat
  nextStreamID : Nat
  seenSettings : Bool
  wantSettingsAck : Bool
  /-- a `RoundTrip` blocked in `awaitOpenSlotForStreamLocked` (strict mode only) -/
  pendingOpen : Option Req
  streams : List Stream
  deriving DecidableEq, Repr, Inhabited

/-- `newClientConn`: initial state and the frames of the connection preface. -/
def newConn (cfg : Cfg) : State × List Frame :=
  ({ cfg := cfg, closed := false, panicked := false, goAway := false, doNotReuse := false,
     connOut := 65535,
     connIn := ⟨connInflowInit cfg.connFlow, 0⟩,
     maxFrameSize := maxFrameSize0 cfg,
     maxConcurrent := initialMaxConcurrentStreams,
     initialWindowSize := initialWindowSize,
     nextStreamID := nextStreamID0 cfg,
     seenSettings := false, wantSettingsAck := true, pendingOpen := none, streams := [] },
   [Frame.settings (initialSettings cfg),
    Frame.windowUpdate 0 (connFlowAdvertised cfg.connFlow)] ++
    -- `WritePriority` refuses stream 0 and ids above 2^31-1 (nothing is written)
    (cfg.prio.filter fun id => id ≠ 0 ∧ id < 2147483648).map Frame.priority)

/-! ## Helpers -/

def liveCount (l : List Stream) : Nat := (l.filter (·.live)).length

def findStream (l : List Stream) (id : Nat) : Option Stream := l.find? (·.id = id)

def setStream (l : List Stream) (s : Stream) : List Stream :=
  l.map fun t => if t.id = s.id then s else t

/-- `writeHeaders`: split a header block of `len` bytes into HEADERS + CONTINUATION. `fuel`
bounds the loop (the Go loop does not terminate for a frame size of 0). -/
def headerFrames (fuel : Nat) (id len : Nat) (endStream : Bool) (maxFrame : Nat) (prio fixPrio : Bool)
    (first : Bool) : List Frame :=
  match fuel with
  | 0 => []
  | fuel + 1 =>
    if len = 0 then []
    else
      let limit := if first ∧ prio ∧ fixPrio then maxFrame - 5 else maxFrame
      let chunk := if len > limit then limit else len
      let rest := len - chunk
      let f := if first then Frame.headers id (chunk + (if prio then 5 else 0)) endStream (rest = 0)
               else Frame.continuation id chunk (rest = 0)
      f :: headerFrames fuel id rest endStream maxFrame prio fixPrio false

/-- the stream leaves `cc.streams` (`forgetStreamID`); the connection closes when it was
marked not reusable and this was its last stream. -/
def forget (st : State) (s : Stream) : State :=
  let streams := setStream st.streams { s with live := false }
  let st := { st with streams := streams }
  if (st.goAway ∨ st.doNotReuse) ∧ liveCount streams = 0 then { st with closed := true } else st

/-- the request ends abnormally (`cleanupWriteRequest` with an error): RST_STREAM unless the
error came from the peer's own RST_STREAM or the stream is already closed on both sides. -/
def terminate (st : State) (s : Stream) (fromPeer : Bool) : State × List Frame :=
  let fs := if fromPeer ∨ (s.sentEnd ∧ s.peerEnd) then [] else [Frame.rst s.id]
  (forget st s, fs)

/-- after an update of stream `s`: store it and forget it when both sides are done. -/
def settle (st : State) (s : Stream) : State :=
  if s.live ∧ s.sentEnd ∧ s.peerEnd then forget st s
  else { st with streams := setStream st.streams s }

def panicState (st : State) : State × List Frame := ({ st with panicked := true, closed := true }, [])
def connError (st : State) : State × List Frame := ({ st with closed := true }, [])

def wuFrame (id : Nat) (inc : Int) : List Frame := if inc > 0 then [Frame.windowUpdate id inc] else []

/-! ## Client operations -/

/-- can a new request be started (`idleStateLocked`, non-strict reading of the limit) -/
def canTake (st : State) : Bool :=
  !st.goAway && !st.closed && !st.doNotReuse &&
  (st.cfg.strict || decide (liveCount st.streams + 1 ≤ st.maxConcurrent)) &&
  decide ((st.nextStreamID : Int) + (if st.pendingOpen.isSome then 2 else 0) < 2147483647)

/-- `cs.flow.add(int32(cc.initialWindowSize))` on a fresh stream (window 0). The addition
cannot fail for a legal SETTINGS_INITIAL_WINDOW_SIZE (`streamOut0_eq`); the Go code ignores the
result, so a failure would leave the window at 0. -/
def streamOut0 (iw : Nat) : Int := (addWindow 0 (wrap32 iw)).getD 0

/-- END_STREAM on the request's HEADERS frame: `endStream := !hasBody && !hasTrailers` in
`encodeAndWriteHeaders`; with C06-8 a request without a body has no trailers -/
def endOnHeaders (fx : Fixes) (hasBody : Bool) (trailer : Option Nat) : Bool :=
  !hasBody && (trailer.isNone || fx.trailerNoBody)

/-- `addStreamLocked` + `encodeAndWriteHeaders` + the start of `writeRequestBody`.
`writeRequest` sets `cs.sentEndStream` for every request without a body — also when the
HEADERS frame did not carry END_STREAM (unchanged code, request with declared trailers). -/
def doOpen (st : State) (r : Req) : State × List Frame :=
  let id := st.nextStreamID
  let hasBody := !(r.known && r.bodyLen == 0)
  let cl : Int := if r.known then r.bodyLen else -1
  let s : Stream :=
    { id := id, live := true,
      out := streamOut0 st.initialWindowSize,
      known := r.known, bodyRemain := r.bodyLen, chunk := 0,
      scratch := (scratchLen cl st.maxFrameSize).toNat,
      sentEnd := !hasBody,
      inflow := ⟨streamInflow0 st.cfg, 0⟩,
      gotHeaders := false, noBody := false, buffered := 0, peerEnd := false, broken := false,
      head := r.head, trailer := if hasBody then r.trailer else none,
      upMaxFrame := st.maxFrameSize }
  let fs := headerFrames (r.hdrLen + 1) id r.hdrLen (endOnHeaders st.cfg.fixes hasBody r.trailer)
    st.maxFrameSize st.cfg.hdrPrio st.cfg.fixes.hdrPrio true
  ({ st with nextStreamID := id + 2, streams := st.streams ++ [s] }, fs)

def openStream (st : State) (r : Req) : State × List Frame :=
  if st.pendingOpen.isSome then (st, [])             -- the lane never does this (reqHeaderMu)
  else if !canTake st then (st, [])                  -- errClientConnUnusable
  else if liveCount st.streams < st.maxConcurrent then doOpen st r
  else ({ st with pendingOpen := some r }, [])       -- wait for a slot

/-- a blocked `RoundTrip` proceeds as soon as a slot is free (or fails when the connection
became unusable). -/
def resumePending (st : State) : State × List Frame :=
  match st.pendingOpen with
  | none => (st, [])
  | some r =>
    let st0 := { st with pendingOpen := none }
    if st.closed then (st0, [])
    else if !canTake st0 then (st0, [])
    else if liveCount st.streams < st.maxConcurrent then doOpen st0 r
    else (st, [])

def feed (st : State) (id n : Nat) : State × List Frame :=
  match findStream st.streams id with
  | none => (st, [])
  | some s =>
    if s.live ∧ ¬ s.sentEnd ∧ s.chunk = 0 ∧ s.bodyRemain > 0 then
      let room := if s.scratch < s.bodyRemain then s.scratch else s.bodyRemain
      let c := if n = 0 ∨ n > room then room else n
      ({ st with streams := setStream st.streams { s with chunk := c, bodyRemain := s.bodyRemain - c } }, [])
    else (st, [])

/-- one iteration of the body writer: `awaitFlowControl` then `WriteData`; `none` when the
writer is blocked (no window, nothing to write, or finished). -/
def available (connOut out : Int) : Int := if connOut < out then connOut else out

/-- the DATA frame written when the stream has window and a non-empty scratch buffer -/
def dataStep (connOut : Int) (maxFrame : Nat) (s : Stream) : Int × Stream × Frame :=
  let take := awaitTake (available connOut s.out) s.chunk maxFrame
  let chunk' := s.chunk - take.toNat
  let last := decide (chunk' = 0) && decide (s.bodyRemain = 0) && s.known && s.trailer.isNone
  (connOut - take, { s with out := s.out - take, chunk := chunk', sentEnd := last },
   Frame.data s.id take.toNat last)

/-- after the last body byte: is an empty DATA frame with END_STREAM still to be written? (body
of unknown length without trailers; declared trailers that encode to nothing) -/
def endOwed (s : Stream) : Bool :=
  match s.trailer with
  | none => !s.known
  | some n => n == 0

def writeStep (connOut : Int) (maxFrame : Nat) (s : Stream) : Option (Int × Stream × Frame) :=
  if !s.live || s.sentEnd then none
  else if s.chunk = 0 then
    -- the body is written and END_STREAM is still owed: an empty DATA frame, unless there are
    -- trailers to send (`trailerStep`)
    if s.bodyRemain = 0 ∧ endOwed s then
      some (connOut, { s with sentEnd := true }, Frame.data s.id 0 true)
    else none
  else if available connOut s.out ≤ 0 then none
  else some (dataStep connOut maxFrame s)

/-- the end of `writeRequestBody` for a request with trailers: HEADERS (+ CONTINUATION) with
END_STREAM, split by `writeHeaders` with the frame size of the `maxFrameSize` local — read
again under `cc.wmu` with C06-7, else the value from the beginning of the upload. -/
def trailerStep (st : State) (s : Stream) : Option (Stream × List Frame) :=
  match s.trailer with
  | none => none
  | some n =>
    if s.live ∧ ¬ s.sentEnd ∧ s.chunk = 0 ∧ s.bodyRemain = 0 ∧ 0 < n then
      let mf := if st.cfg.fixes.trailerFrame then st.maxFrameSize else s.upMaxFrame
      some ({ s with sentEnd := true },
            headerFrames (n + 1) s.id n true mf st.cfg.hdrPrio st.cfg.fixes.hdrPrio true)
    else none

def write (st : State) (id : Nat) : State × List Frame :=
  match findStream st.streams id with
  | none => (st, [])
  | some s =>
    match trailerStep st s with
    | some (s', fs) => (settle st s', fs)
    | none =>
      match writeStep st.connOut st.maxFrameSize s with
      | none => (st, [])
      | some (c, s', f) => (settle { st with connOut := c } s', [f])

def cancel (st : State) (id : Nat) : State × List Frame :=
  match findStream st.streams id with
  | none => (st, [])
  | some s => if s.live then terminate st s false else (st, [])

/-- `k` bytes leave the pipe: credit at connection and stream level -/
def readCore (st : State) (s : Stream) (k : Nat) : State × List Frame :=
  match Inflow.add st.connIn k with
  | .panic => panicState st
  | .ok (ci, connAdd) =>
    match Inflow.add s.inflow k with
    | .panic => panicState st
    | .ok (si, streamAdd) =>
      ({ st with connIn := ci,
                 streams := setStream st.streams { s with inflow := si, buffered := s.buffered - k } },
       wuFrame 0 connAdd ++ wuFrame s.id streamAdd)

/-- `Body.Close` on a stream that may still be in `cc.streams` -/
def closeStream (st : State) (s s' : Stream) : State × List Frame :=
  if s.live then terminate st s' false
  else ({ st with streams := setStream st.streams s' }, [])

/-- return `n` bytes of connection-level credit after `r` (frames of `r` are written by another
goroutine; the rendering sorts them by stream) -/
def creditConn (r : State × List Frame) (n : Nat) : State × List Frame :=
  if n > 0 then
    match Inflow.add r.1.connIn n with
    | .panic => ({ r.1 with panicked := true, closed := true }, r.2)
    | .ok (ci, connAdd) => ({ r.1 with connIn := ci }, r.2 ++ wuFrame 0 connAdd)
  else r

/-- `Read` took `k` bytes out of the pipe, more than the declared Content-Length had left: the
caller gets the declared rest and an error, the stream is aborted (`cs.abortStream`), later
`Read`s fail at once. Unchanged code: returns before the flow-control code — the `k` bytes are
never credited at connection level; C06-5: they are. Nothing is credited at stream level (the
stream is over). -/
def readOverlong (st : State) (s : Stream) (k : Nat) : State × List Frame :=
  let r := closeStream st s { s with buffered := s.buffered - k, readErr := true }
  if st.cfg.fixes.readCredit then creditConn r k else r

/-- `k` bytes come out of the pipe: the `cs.bytesRemain` bookkeeping of `Read` -/
def readK (st : State) (s : Stream) (k : Nat) : State × List Frame :=
  match s.bytesRemain with
  | none => readCore st s k
  | some rem =>
    if k > rem then readOverlong st s k
    else readCore st { s with bytesRemain := some (rem - k) } k

def read (st : State) (id n : Nat) : State × List Frame :=
  match findStream st.streams id with
  | none => (st, [])
  | some s =>
    if s.gotHeaders ∧ ¬ s.noBody ∧ ¬ s.broken ∧ ¬ s.readErr ∧ s.buffered > 0 ∧ n > 0 then
      readK st s (if n < s.buffered then n else s.buffered)
    else (st, [])

def close (st : State) (id : Nat) : State × List Frame :=
  match findStream st.streams id with
  | none => (st, [])
  | some s =>
    if s.gotHeaders ∧ ¬ s.noBody ∧ ¬ s.broken then
      creditConn (closeStream st s { s with broken := true, buffered := 0 }) s.buffered
    else (st, [])

/-! ## Peer events -/

/-- effect of a SETTINGS_INITIAL_WINDOW_SIZE change on one stream: `cs.flow.add(delta)` for the
streams in `cc.streams`; the result of the addition is ignored by the Go code -/
def deltaStream (delta : Int) (s : Stream) : Stream :=
  if s.live then
    match addWindow s.out delta with
    | some w => { s with out := w }
    | none => s
  else s

/-- `processSettingsNoWrite` on one setting; `none` = connection error. -/
def applySetting (st : State) (seenMax : Bool) (p : Nat × Nat) : Option (State × Bool) :=
  if p.1 = sMaxFrameSize then
    -- RFC 9113 section 6.5.2: outside [2^14, 2^24) is a connection error (PROTOCOL_ERROR)
    if p.2 < 16384 ∨ p.2 > 16777215 then none
    else some ({ st with maxFrameSize := p.2 }, seenMax)
  else if p.1 = sMaxConcurrentStreams then some ({ st with maxConcurrent := p.2 }, true)
  else if p.1 = sInitialWindowSize then
    if p.2 > 2147483647 then none
    else
      some ({ st with streams := st.streams.map (deltaStream ((p.2 : Int) - (st.initialWindowSize : Int))),
                      initialWindowSize := p.2 }, seenMax)
  else some (st, seenMax)

def applySettings (st : State) (seenMax : Bool) : List (Nat × Nat) → Option (State × Bool)
  | [] => some (st, seenMax)
  | p :: ps =>
    match applySetting st seenMax p with
    | none => none
    | some (st', sm) => applySettings st' sm ps

def peerSettings (st : State) (vals : List (Nat × Nat)) : State × List Frame :=
  match applySettings st false vals with
  | none => connError st
  | some (st1, seenMax) =>
    let st2 :=
      if st1.seenSettings then st1
      else { st1 with seenSettings := true,
                      maxConcurrent := if seenMax then st1.maxConcurrent else defaultMaxConcurrentStreams }
    (st2, [Frame.settingsAck])

def peerSettingsAck (st : State) : State × List Frame :=
  if st.wantSettingsAck then ({ st with wantSettingsAck := false }, []) else connError st

def peerWindowUpdate (st : State) (id inc : Nat) : State × List Frame :=
  if id = 0 then
    if inc = 0 then connError st
    else match addWindow st.connOut inc with
      | some w => ({ st with connOut := w }, [])
      | none => connError st
  else
    match findStream st.streams id with
    | none => (st, [])
    | some s =>
      if !s.live then (st, [])
      else if inc = 0 then terminate st s false
      else match addWindow s.out inc with
        | some w => ({ st with streams := setStream st.streams { s with out := w } }, [])
        | none => terminate st s false

def peerRst (st : State) (id code : Nat) : State × List Frame :=
  match findStream st.streams id with
  | none => (st, [])
  | some s =>
    if !s.live then (st, [])
    else terminate { st with doNotReuse := st.doNotReuse || decide (code = 1) } s true

/-- abort every live stream above `last` (each writes its own RST_STREAM). -/
def abortAbove (last : Nat) : List Nat → State → State × List Frame
  | [], st => (st, [])
  | id :: rest, st =>
    match findStream st.streams id with
    | none => abortAbove last rest st
    | some s =>
      if s.live ∧ s.id > last then
        let (st1, f1) := terminate st s false
        let (st2, f2) := abortAbove last rest st1
        (st2, f1 ++ f2)
      else abortAbove last rest st

def peerGoAway (st : State) (last : Nat) : State × List Frame :=
  abortAbove last (st.streams.map (·.id)) { st with goAway := true }

/-- `bodyAllowedForStatus` (http2.go): a 1xx, 204 or 304 response never has a body -/
def bodyAllowedForStatus (status : Nat) : Bool :=
  !((decide (100 ≤ status) && decide (status ≤ 199)) || status == 204 || status == 304)

/-- `processHeaders` / `handleResponse` / `processTrailers`. Before the final response:
a block without `:status` is a stream error, an informational response is skipped (stream error
when it carries END_STREAM or is the sixth one), anything else is the final response — its body
is `noBody` when the stream ended or the request was HEAD, else `cs.bytesRemain` is the declared
Content-Length — unless the status never has a body (204, 304: `cs.bytesRemain = -1` since /repo
5224b93, no Content-Length accounting; DATA on such a response is read like any other). After the final response every HEADERS frame is a trailer block: connection
error unless it has END_STREAM and no pseudo-header. -/
def peerResp (st : State) (id : Nat) (endStream : Bool) (status : Nat) (cl : Option Nat) :
    State × List Frame :=
  match findStream st.streams id with
  | none => (st, [])
  | some s =>
    if !s.live then (st, [])
    else if s.peerEnd then terminate st s false
    else if !s.gotHeaders then
      if status = 0 then terminate st s false
      else if 100 ≤ status ∧ status ≤ 199 then
        if endStream ∨ 5 ≤ s.num1xx then terminate st s false
        else ({ st with streams := setStream st.streams { s with num1xx := s.num1xx + 1 } }, [])
      else
        (settle st { s with gotHeaders := true, noBody := endStream || s.head, peerEnd := endStream,
                            bytesRemain := if endStream || s.head || !bodyAllowedForStatus status then none else cl }, [])
    else if status ≠ 0 ∨ !endStream then connError st
    else (settle st { s with peerEnd := true }, [])

/-- a DATA frame of `flen` flow-controlled bytes that is dropped with a stream error
(`endStreamError`: DATA after END_STREAM, before the response HEADERS, on a HEAD response).
Unchanged code: no flow-control bookkeeping at all (the peer's and the client's connection
windows drift apart by `flen`); C06-6: taken from the connection window and handed straight
back, as for DATA on a forgotten stream. -/
def discardData (st : State) (s : Stream) (flen : Int) : State × List Frame :=
  let r := terminate st s false
  if st.cfg.fixes.dataCredit ∧ flen > 0 then
    let (ci, ok) := Inflow.take st.connIn flen
    match Inflow.add ci flen with
    | .panic => panicState st
    | .ok (ci', connAdd) =>
      if !ok then connError st
      else ({ r.1 with connIn := ci' }, r.2 ++ wuFrame 0 connAdd)
  else r

def peerData (st : State) (id len pad : Nat) (endStream : Bool) : State × List Frame :=
  let flen : Int := (len + pad : Nat)
  match (findStream st.streams id).filter (·.live) with
  | none =>
    if id ≥ st.nextStreamID then connError st
    else if flen > 0 then
      let (ci, ok) := Inflow.take st.connIn flen
      match Inflow.add ci flen with
      | .panic => panicState st
      | .ok (ci', connAdd) =>
        if !ok then connError st
        else ({ st with connIn := ci' }, wuFrame 0 connAdd)
    else (st, [])
  | some s =>
    if s.peerEnd ∨ ¬ s.gotHeaders ∨ (s.head ∧ 0 < len) then discardData st s flen
    else if flen > 0 then
      let (ci, si, ok) := takeInflows st.connIn s.inflow flen
      if !ok then connError st
      else
        match Inflow.add ci pad with
        | .panic => panicState st
        | .ok (ci', sendConn) =>
          match Inflow.add si pad with
          | .panic => panicState st
          | .ok (si', sendStream) =>
            let s' := { s with inflow := si', buffered := s.buffered + len, peerEnd := endStream }
            (settle { st with connIn := ci' } s', wuFrame 0 sendConn ++ wuFrame id sendStream)
    else (settle st { s with peerEnd := endStream }, [])

/-- `processPing`: a PING is answered with the same octets; an acknowledgement wakes whoever
called `ClientConn.Ping` (not a frame matter). -/
def peerPing (st : State) (ack : Bool) (data : Nat) : State × List Frame :=
  if ack then (st, []) else (st, [Frame.ping true data])

/-- `processPushPromise`: always a connection error (server push is never accepted). -/
def peerPushPromise (st : State) : State × List Frame := connError st

def peer (st : State) : PFrame → State × List Frame
  | .settings vals => peerSettings st vals
  | .settingsAck => peerSettingsAck st
  | .windowUpdate id inc => peerWindowUpdate st id inc
  | .rst id code => peerRst st id code
  | .goaway last => peerGoAway st last
  | .resp id e status cl => peerResp st id e status cl
  | .data id len pad e => peerData st id len pad e
  | .ping ack data => peerPing st ack data
  | .pushPromise _ _ => peerPushPromise st

/-! ## Well-formed operations

What the theorems assume about the environment: a request always has a non-empty header
block (`encodeHeaders` emits at least the pseudo-header fields) and a WINDOW_UPDATE increment is
a 31-bit number (the frame parser masks the reserved bit). Nothing is assumed about the peer's
SETTINGS: a SETTINGS_MAX_FRAME_SIZE outside the range RFC 9113 section 6.5.2 allows is rejected
by `processSettingsNoWrite` (since C07's repair) and by `applySetting`. -/

/-- a caller fingerprint that advertises legal values: SETTINGS_INITIAL_WINDOW_SIZE and the
connection window (65535 + the initial WINDOW_UPDATE) do not exceed 2^31-1 -/
def Cfg.ok (cfg : Cfg) : Prop :=
  (∀ v, lastSetting cfg.settings sInitialWindowSize = some v → v ≤ 2147483647) ∧
  connFlowAdvertised cfg.connFlow + 65535 ≤ 2147483647

def PFrame.ok : PFrame → Prop
  | .windowUpdate _ inc => inc ≤ 2147483647
  | _ => True

def Op.ok : Op → Prop
  | .openReq r => 0 < r.hdrLen
  | .peer f => f.ok
  | _ => True

/-! ## The machine -/

def apply (st : State) : Op → State × List Frame
  | .openReq r => openStream st r
  | .feed id n => feed st id n
  | .write id => write st id
  | .cancel id => cancel st id
  | .read id n => read st id n
  | .close id => close st id
  | .wake => (st, [])
  | .peer f => peer st f

/-- the Go functions that sleep on `cc.cond` (bridged to the source: Bridge/C06 `cond_waiters`):
graceful shutdown, the parked `RoundTrip` (`State.pendingOpen`), the body writers (`write`) -/
def condWaiters : List String :=
  ["ClientConn.Shutdown", "ClientConn.awaitOpenSlotForStreamLocked", "clientStream.awaitFlowControl"]

/-- the Go functions behind the table `wakes` / the wake-up condition of `step`, each of which
must reach a `cc.cond.Broadcast()` (bridged to the source: Bridge/C06 `wake_sites_broadcast`):
a stream leaves `cc.streams` (`liveCount` drops); a stream is aborted — cancel, `Body.Close`,
reset, stream error, GOAWAY; the upload is stopped; WINDOW_UPDATE; SETTINGS; the connection is
torn down (`st1.closed`) -/
def wakeSites : List String :=
  ["ClientConn.forgetStreamID", "clientStream.abortStreamLocked", "clientStream.abortRequestBodyWrite",
   "clientConnReadLoop.processWindowUpdate", "clientConnReadLoop.processSettingsNoWrite",
   "clientConnReadLoop.cleanup"]

/-- does the operation end with a `cc.cond.Broadcast()` (which is what lets a `RoundTrip`
blocked in `awaitOpenSlotForStreamLocked` look again)? A stream was forgotten or aborted, a
WINDOW_UPDATE was applied, or SETTINGS_INITIAL_WINDOW_SIZE was processed. (Unchanged code: a
SETTINGS frame that only raises the stream limit does not wake the waiter.) -/
def wakes (st st1 : State) (op : Op) : Bool :=
  match op with
  | .peer (.windowUpdate id _) =>
    id == 0 || (match findStream st.streams id with | some s => s.live | none => false)
  | .peer (.settings vals) =>
    -- SETTINGS_INITIAL_WINDOW_SIZE processed; with C06-9 also: the stream limit went up
    -- (SETTINGS_MAX_CONCURRENT_STREAMS raised, or the first SETTINGS frame replacing the initial
    -- 100 by the default 1000)
    vals.any (·.1 == sInitialWindowSize) ||
    (st.cfg.fixes.mcsWake && decide (st.maxConcurrent < st1.maxConcurrent))
  | .wake => true
  -- `transportResponseBody.Close` calls `abortStream` (which broadcasts) even when the stream
  -- has long left `cc.streams`
  | .close id =>
    (match findStream st.streams id with | some s => s.gotHeaders && !s.noBody | none => false) ||
    decide (liveCount st1.streams < liveCount st.streams)
  | _ => decide (liveCount st1.streams < liveCount st.streams)

/-- one operation; a closed connection does nothing any more. -/
def step (st : State) (op : Op) : State × List Frame :=
  if st.closed then (st, [])
  else
    let (st1, fs1) := apply st op
    -- (the read loop's `cleanup` broadcasts when the connection is torn down)
    if wakes st st1 op || decide (liveCount st1.streams < liveCount st.streams) || st1.closed then
      let (st2, fs2) := resumePending st1
      (st2, fs1 ++ fs2)
    else (st1, fs1)

/-- what the strict peer sees: its own frames and the client's, in order. -/
inductive Event where
  | c (f : Frame)
  | p (f : PFrame)
  deriving DecidableEq, Repr, Inhabited

def opEvents (op : Op) (fs : List Frame) : List Event :=
  (match op with | .peer f => [Event.p f] | _ => []) ++ fs.map Event.c

def runFrom (st : State) (hist : List Event) : List Op → State × List Event
  | [] => (st, hist)
  | op :: ops =>
    let (st', fs) := step st op
    runFrom st' (hist ++ (if st.closed then [] else opEvents op fs)) ops

/-- run an operation list on a fresh connection; the history starts with the preface frames. -/
def run (cfg : Cfg) (ops : List Op) : State × List Event :=
  let (st, fs) := newConn cfg
  runFrom st (fs.map Event.c) ops

def history (r : State × List Event) : List Event := r.2

/-! ## Pumped execution (what the deterministic script lane observes)

After every scripted operation the body writers run until they block; that is a particular
operation list of the machine above (`write` operations inserted), see `Req.Props.C06.script_covered`. -/

def pumpStream (fuel : Nat) (st : State) (id : Nat) : State × List Frame :=
  match fuel with
  | 0 => (st, [])
  | fuel + 1 =>
    let (st1, fs1) := step st (.write id)
    if fs1.isEmpty then (st1, [])
    else
      let (st2, fs2) := pumpStream fuel st1 id
      (st2, fs1 ++ fs2)

/-- enough iterations to empty the scratch buffer of stream `id` (each DATA frame takes ≥ 1 byte) -/
def pumpFuel (st : State) (id : Nat) : Nat :=
  match findStream st.streams id with
  | some s => s.chunk + 2
  | none => 0

def pumpAll (st : State) : List Nat → State × List Frame
  | [] => (st, [])
  | id :: ids =>
    let (st1, fs1) := pumpStream (pumpFuel st id) st id
    let (st2, fs2) := pumpAll st1 ids
    (st2, fs1 ++ fs2)

/-- a scripted operation as the script lane drives it: the operation, then a wake-up of
whoever sleeps on `cc.cond` (the lane broadcasts itself after every operation, so that which
operations happen to broadcast does not decide in which step a waiting `RoundTrip` goes ahead),
then the pump. A `RoundTrip` that was waiting for a slot can also start during the pump (a
finished upload frees the slot): its stream is pumped in a second pass (streams are only ever
appended). -/
def scriptStep (st : State) (op : Op) : State × List Frame :=
  let (st0, fs0) := step st op
  let (st1, fs1) := step st0 .wake
  let (st2, fs2) := pumpAll st1 (st1.streams.map (·.id))
  let (st3, fs3) := pumpAll st2 ((st2.streams.drop st1.streams.length).map (·.id))
  (st3, fs0 ++ fs1 ++ fs2 ++ fs3)

def scriptRun (st : State) : List Op → List (List Frame × Bool × Bool)
  | [] => []
  | op :: ops =>
    let (st', fs) := scriptStep st op
    (fs, st'.closed && !st.closed, st'.panicked && !st.panicked) :: scriptRun st' ops

end Req.H2.Conn
