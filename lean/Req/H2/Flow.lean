import Req.H2.FlowTypes
/-!
Hand model of `internal/http2/flow.go` (C06). Proved equal to the translation of the Go source
regenerated by `tools/gofacts` in `Bridge/C06.lean` (for arguments inside the Go types' ranges).

No wrap-around appears here except in `Outflow.add`, whose overflow test is *about* `int32`
wrap-around; everywhere else the bridging theorems show that no wrap can happen for
non-negative windows.
-/
namespace Req.H2.Flow
open Req.H2

/-- `inflowMinRefresh = 4 << 10` -/
def inflowMinRefresh : Int := 4096
/-- `maxWindow = 1<<31 - 1` -/
def maxWindow : Int := 2147483647

/-- `func (f *inflow) init(n int32)` -/
def Inflow.init (f : Inflow) (n : Int) : Inflow := { f with avail := n }

/-- `func (f *inflow) add(n int) (connAdd int32)`: the new state and the increment to put in
a WINDOW_UPDATE (0 = nothing to send yet). Panics on a negative `n` and when the window would
exceed 2^31-1. -/
def Inflow.add (f : Inflow) (n : Int) : Res (Inflow × Int) :=
  if n < 0 then .panic
  else
    let unsent := f.unsent + n
    if unsent + f.avail > maxWindow then .panic
    else if unsent < inflowMinRefresh ∧ unsent < f.avail then
      .ok ({ f with unsent := unsent }, 0)
    else
      .ok ({ avail := f.avail + unsent, unsent := 0 }, unsent)

/-- what a successful `add` returns: the window grows by exactly the increment announced, what was
consumed is announced or held back, and credit is held back only while it is below
`inflowMinRefresh` and below what the peer still has -/
theorem Inflow.add_spec {f f' : Inflow} {n inc : Int} (h : Inflow.add f n = .ok (f', inc)) :
    0 ≤ n ∧ f.avail + f.unsent + n ≤ 2147483647 ∧ f'.avail = f.avail + inc ∧ inc + f'.unsent = f.unsent + n ∧
    ((inc = 0 ∧ f'.unsent < 4096 ∧ f'.unsent < f.avail) ∨ f'.unsent = 0) := by
  unfold Inflow.add maxWindow inflowMinRefresh at h
  by_cases hn : n < 0
  · rw [if_pos hn] at h; cases h
  rw [if_neg hn] at h
  dsimp only at h
  by_cases hmax : f.unsent + n + f.avail > 2147483647
  · rw [if_pos hmax] at h; cases h
  rw [if_neg hmax] at h
  by_cases hold : f.unsent + n < 4096 ∧ f.unsent + n < f.avail
  · rw [if_pos hold] at h; cases h
    exact ⟨by omega, by omega, by simp, by simp, Or.inl ⟨rfl, hold⟩⟩
  · rw [if_neg hold] at h; cases h
    exact ⟨by omega, by omega, rfl, by simp, Or.inr rfl⟩

/-- `func (f *inflow) take(n uint32) bool` -/
def Inflow.take (f : Inflow) (n : Int) : Inflow × Bool :=
  if n > f.avail then (f, false) else ({ f with avail := f.avail - n }, true)

/-- `func takeInflows(f1, f2 *inflow, n uint32) bool` -/
def takeInflows (f1 f2 : Inflow) (n : Int) : Inflow × Inflow × Bool :=
  if n > f1.avail ∨ n > f2.avail then (f1, f2, false)
  else ({ f1 with avail := f1.avail - n }, { f2 with avail := f2.avail - n }, true)

theorem Inflow.take_spec {f f' : Inflow} {n : Int} (h : Inflow.take f n = (f', true)) :
    n ≤ f.avail ∧ f'.avail = f.avail - n ∧ f'.unsent = f.unsent := by
  unfold Inflow.take at h
  split at h
  · cases h
  · cases h; exact ⟨by omega, rfl, rfl⟩

theorem takeInflows_spec {f1 f2 a b : Inflow} {n : Int} (h : takeInflows f1 f2 n = (a, b, true)) :
    n ≤ f1.avail ∧ n ≤ f2.avail ∧ a.avail = f1.avail - n ∧ a.unsent = f1.unsent ∧
    b.avail = f2.avail - n ∧ b.unsent = f2.unsent := by
  unfold takeInflows at h
  split at h
  · cases h
  · cases h; exact ⟨by omega, by omega, rfl, rfl, rfl, rfl⟩

/-- `func (f *outflow) available() int32` -/
def Outflow.available (f : Outflow) : Int :=
  if f.conn_nonnil ∧ f.conn_n < f.n then f.conn_n else f.n

/-- `func (f *outflow) take(n int32)` -/
def Outflow.take (f : Outflow) (n : Int) : Res Outflow :=
  if n > Outflow.available f then .panic
  else if f.conn_nonnil then .ok { f with n := f.n - n, conn_n := f.conn_n - n }
  else .ok { f with n := f.n - n }

/-- `func (f *outflow) add(n int32) bool` — the `int32` sum wraps; the test
`(sum > n) == (f.n > 0)` detects exactly that (theorem `window_update_overflow`). -/
def Outflow.add (f : Outflow) (n : Int) : Outflow × Bool :=
  let sum := wrap32 (f.n + n)
  if (decide (sum > n)) == (decide (f.n > 0)) then ({ f with n := sum }, true) else (f, false)

/-- The arithmetic core of `Outflow.add` on a bare window value (what `H2.Conn` uses). -/
def addWindow (w n : Int) : Option Int :=
  let sum := wrap32 (w + n)
  if (decide (sum > n)) == (decide (w > 0)) then some sum else none

theorem Outflow.add_eq_addWindow (f : Outflow) (n : Int) :
    Outflow.add f n = match addWindow f.n n with
      | some s => ({ f with n := s }, true)
      | none => (f, false) := by
  unfold Outflow.add addWindow
  simp only
  split <;> simp_all

/-- `addWindow` succeeds exactly when the true sum is representable as an `int32`, and then
returns the true sum. -/
theorem addWindow_spec (w n : Int) (hw : In32 w) (hn : In32 n) :
    addWindow w n = if In32 (w + n) then some (w + n) else none := by
  unfold addWindow
  simp only
  generalize hs : wrap32 (w + n) = s
  unfold In32 at hw hn
  unfold wrap32 at hs
  by_cases h : In32 (w + n)
  · rw [if_pos h]
    unfold In32 at h
    have hs' : s = w + n := by omega
    subst hs'
    by_cases hw0 : w > 0
    · have : w + n > n := by omega
      simp [hw0, this]
    · have : ¬ (w + n > n) := by omega
      simp [hw0, this]
  · rw [if_neg h]
    unfold In32 at h
    by_cases hw0 : w > 0
    · have : ¬ (s > n) := by omega
      simp [hw0, this]
    · have : s > n := by omega
      simp [hw0, this]

end Req.H2.Flow
