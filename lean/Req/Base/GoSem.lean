/-!
Vocabulary of the modules that `tools/gofacts` TRANSLATES from Go source (`Generated.Pure*`): the
pure, loop-over-bytes helper functions of imroc/req (chunk-size parsing, ASCII folding, token
tables, status classes …) are regenerated as Lean definitions on every run and proved equal to the
hand-written model functions by the bridge theorems in `Bridge/Pure*.lean`.

Conventions of the translation (see `tools/gofacts/pure.go`):
* `byte` ↦ `UInt8`, `uint32` ↦ `UInt32`, `uint64` ↦ `UInt64` (Lean's fixed-width arithmetic wraps
  exactly like Go's), `bool` ↦ `Bool`, `[]byte` / `string` ↦ `List UInt8`;
* `int` ↦ `Int` WITHOUT wrap-around: the translator only accepts `int` expressions built from
  `len`, loop counters, conversions of bytes and literals with `+`/`-`, whose values stay far
  inside 64 bits;
* a Go run-time panic (index / slice out of range) is the value `Res.panic`; a `for cond {…}` loop is
  a recursion on explicit fuel and running out of fuel is the value `Res.diverge` — a bridge theorem
  `generated x = Res.ok (model x)` therefore also proves that the Go function neither panics nor
  loops for ever on `x`;
* a function whose last result is an `error` yields `Option T` (`none` = a non-nil error).
-/
namespace Req.GoSem

abbrev Bytes := List UInt8

/-- Outcome of a translated Go function that can panic or (as far as the translation knows) loop. -/
inductive Res (α : Type) where
  | ok (a : α)
  | panic
  | diverge
  deriving DecidableEq, Repr

/-- Go `len(s)` as an `int`. -/
@[inline] def len {α : Type} (s : List α) : Int := (s.length : Int)

/-- Go `s[i]` (`none` = index out of range). -/
def idx? {α : Type} (s : List α) (i : Int) : Option α :=
  if i < 0 then none else s[i.toNat]?

/-- Go `s[lo:hi]` (`none` = slice bounds out of range; capacity is not modelled: the translator
refuses `append` to and writes through slices). -/
def slice? {α : Type} (s : List α) (lo hi : Int) : Option (List α) :=
  if 0 ≤ lo ∧ lo ≤ hi ∧ hi ≤ len s then some ((s.take hi.toNat).drop lo.toNat) else none

theorem idx?_eq_getElem? {α : Type} (s : List α) (n : Nat) : idx? s (n : Int) = s[n]? := by
  unfold idx?
  have : ¬ ((n : Int) < 0) := by omega
  simp [this]

theorem slice?_to {α : Type} (s : List α) (n : Nat) (h : n ≤ s.length) :
    slice? s 0 (n : Int) = some (s.take n) := by
  unfold slice? len
  have : (0 : Int) ≤ 0 ∧ (0 : Int) ≤ (n : Int) ∧ (n : Int) ≤ (s.length : Int) := by omega
  simp [this]

theorem idx_app {α : Type} (pre : List α) (c : α) (post : List α) :
    idx? (pre ++ c :: post) (pre.length : Int) = some c := by
  rw [idx?_eq_getElem?]; simp

/-! The cursor vocabulary: the partial operations of Go at position `pre.length` of `pre ++ rest`,
as total equations in the list operations the models use. -/

theorem idx?_cursor {α : Type} (pre rest : List α) (k : Nat) :
    idx? (pre ++ rest) ((pre.length : Int) + (k : Int)) = rest[k]? := by
  rw [show ((pre.length : Int) + (k : Int)) = ((pre.length + k : Nat) : Int) by simp, idx?_eq_getElem?]
  simp [List.getElem?_append_right]

theorem idx?_before {α : Type} (pre rest : List α) :
    idx? (pre ++ rest) ((pre.length : Int) - 1) = pre.getLast? := by
  rcases List.eq_nil_or_concat pre with rfl | ⟨p, c, rfl⟩
  · simp [idx?]
  · have : (((p.concat c).length : Int) - 1) = ((p.length : Nat) : Int) := by simp
    rw [this, idx?_eq_getElem?]; simp

theorem slice?_cursor {α : Type} (pre rest : List α) (n : Nat) (h : n ≤ rest.length) :
    slice? (pre ++ rest) (pre.length : Int) ((pre.length : Int) + (n : Int)) = some (rest.take n) := by
  rw [show ((pre.length : Int) + (n : Int)) = ((pre.length + n : Nat) : Int) by simp]
  unfold slice? len
  have : (0 : Int) ≤ (pre.length : Int) ∧ (pre.length : Int) ≤ ((pre.length + n : Nat) : Int) ∧
      ((pre.length + n : Nat) : Int) ≤ ((pre ++ rest).length : Int) := by simp; omega
  simp only [this, and_self, if_true, Int.toNat_natCast]
  simp [List.take_append]

theorem slice_mid (pre mid post : Bytes) :
    slice? (pre ++ mid ++ post) (pre.length : Int) ((pre.length + mid.length : Nat) : Int) = some mid := by
  have := slice?_cursor pre (mid ++ post) mid.length (by simp)
  simpa [List.append_assoc] using this

theorem cursor_pos {α : Type} (pre : List α) : decide ((pre.length : Int) > 0) = pre.getLast?.isSome := by
  cases pre <;> simp <;> omega

theorem cursor_end {α : Type} (pre rest : List α) (n : Nat) (h : n ≤ rest.length) :
    (((pre.length : Int) + (n : Int)) != ((pre ++ rest).length : Int)) = rest[n]?.isSome := by
  by_cases hn : n = rest.length
  · subst hn; simp
  · have : n < rest.length := by omega
    simp [this]; omega

/-- A translated loop `L fuel i` whose counter `i` walks over `s` one position per iteration:
if each iteration at `pre.length` (with `pre ++ c :: rest = s`) either returns what `V` says, or
hands on to position `pre.length + 1` where `V` says the same, and the loop returns `V s []` at the
end of `s` with `k` units of fuel left, then it returns `V pre rest` from every position.
(`k = 0` for a `for i := …; i < len(s); i++` loop, `k = 1` for a `for cond {…}` loop.) -/
theorem cursor_loop {β : Type} (L : Nat → Int → Res β) (V : Bytes → Bytes → Res β) (s : Bytes) (k : Nat)
    (hend : L k (s.length : Int) = V s [])
    (hstep : ∀ f pre c rest, pre ++ c :: rest = s →
      L (f + 1) (pre.length : Int) = V pre (c :: rest) ∨
      (L (f + 1) (pre.length : Int) = L f ((pre.length : Int) + 1) ∧ V pre (c :: rest) = V (pre ++ [c]) rest)) :
    ∀ rest pre, pre ++ rest = s → L (rest.length + k) (pre.length : Int) = V pre rest := by
  intro rest
  induction rest with
  | nil => intro pre h; rw [List.append_nil] at h; subst h; simpa using hend
  | cons c r ih =>
    intro pre h
    rw [List.length_cons, Nat.add_right_comm]
    rcases hstep (r.length + k) pre c r h with h1 | ⟨h1, h2⟩
    · exact h1
    · have := ih (pre ++ [c]) (by simpa using h)
      rw [h1, h2, ← this]; simp

end Req.GoSem
