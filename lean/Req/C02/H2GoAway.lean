import Req.C02.H2Recv
/-!
C02 — **connection-level frames between the frames of a response**
(internal/http2/transport.go: `clientConnReadLoop.processGoAway`, `ClientConn.setGoAway`,
`processPing`, `processSettings`, `processWindowUpdate` on stream 0, the `default:` arm of
`readLoop.run` for extension frames).

`Req.C02.H2Recv` is ONE stream.  Here is the connection around it: the stream table
`cc.streams` (a Go map: stream id ↦ `clientStream`, modelled as a function), the merged
`cc.goAway`, and the read loop dispatching a frame either to the stream it names or to the
connection.

`setGoAway(f)`: remember the frame (an earlier error code that is not NO_ERROR sticks), then for
every stream in the table: `streamID <= f.LastStreamID` — the server says it received this
stream and will finish it: **left alone**; otherwise `abortStreamLocked` with
`errClientConnGotGoAway` (= "retry me on another connection"), or, for stream 1 after a GOAWAY
with an error code, with the non-retryable "Transport received GOAWAY from server ErrCode".
An abort is what `H2Stream.abort` models: `RoundTrip` fails if the head was not delivered yet;
otherwise the request goroutine closes the body pipe with the error (bytes buffered before stay
readable) and forgets the stream, so later frames of the stream are not delivered.

PING, PING ack, SETTINGS, WINDOW_UPDATE on stream 0 and unknown extension frames touch no
stream (flow-control credit is C06's, not modelled here).
-/
namespace Req.C02
open Req.Proto

/-- `cc.goAway` after the merge of `setGoAway`. -/
structure GoAway where
  last : Nat
  code : Nat                 -- 0 = NO_ERROR
deriving Repr, BEq, DecidableEq

structure H2Conn where
  streams : Nat → Option H2Stream     -- cc.streams
  goAway : Option GoAway

/-- "Merge the previous and current GoAway error frames": an earlier error code sticks. -/
def mergeGoAwayCode (old : Option GoAway) (code : Nat) : Nat :=
  match old with
  | some o => if o.code != 0 then o.code else code
  | none => code

/-- Which error a stream above last-stream-id is aborted with. -/
def goAwayAbortErr (id code : Nat) : H2Err :=
  if id = 1 ∧ code ≠ 0 then .goAwayErr else .goAwayRetry

/-- `ClientConn.setGoAway`. -/
def H2Conn.setGoAway (c : H2Conn) (last code : Nat) : H2Conn :=
  let code' := mergeGoAwayCode c.goAway code
  { streams := fun id =>
      match c.streams id with
      | none => none
      | some s => if id ≤ last then some s else some (s.abort (goAwayAbortErr id code')),
    goAway := some { last := last, code := code' } }

/-- Frames the read loop may find between the frames of a response. -/
inductive CEv
  | frame (id : Nat) (e : H2Ev)      -- HEADERS / DATA / RST_STREAM on stream `id`
  | goAway (last code : Nat)
  | neutral (kind : Nat)             -- PING, PING ack, SETTINGS, WINDOW_UPDATE(0), extension frame
deriving Repr, BEq, DecidableEq

def H2Conn.set (c : H2Conn) (id : Nat) (s : H2Stream) : H2Conn :=
  { c with streams := fun j => if j = id then some s else c.streams j }

/-- One frame through `readLoop.run`'s dispatch. A frame for a stream that is not in the table
(finished and forgotten) is dropped. -/
def H2Conn.event (c : H2Conn) : CEv → H2Conn
  | .frame id e =>
    match c.streams id with
    | some s => c.set id (s.event e)
    | none => c
  | .goAway last code => c.setGoAway last code
  | .neutral _ => c

/-- A connection whose only open stream is `id`. -/
def H2Conn.single (id : Nat) (s : H2Stream) : H2Conn :=
  { streams := fun j => if j = id then some s else none, goAway := none }

/-- Frames arriving on the connection interleaved with the caller's reads on the body of
stream `sid`. -/
inductive COp
  | ev (e : CEv)
  | read (k : Nat)
deriving Repr, BEq, DecidableEq

/-- One observation per `read` (as `H2Stream.runOps`). -/
def H2Conn.runOps (sid : Nat) (c : H2Conn) : List COp → List (Option (Bytes × Option H2Err)) × H2Conn
  | [] => ([], c)
  | .ev e :: ops => (c.event e).runOps sid ops
  | .read k :: ops =>
    match c.streams sid with
    | none => c.runOps sid ops
    | some s =>
      match s.read k with
      | none => let (os, c') := c.runOps sid ops; (none :: os, c')
      | some (o, s') => let (os, c'') := (c.set sid s').runOps sid ops; (some o :: os, c'')

/-- What stream `sid` sees of the connection's traffic once everything that does not concern it
is taken away. -/
def eraseOps (sid : Nat) : List COp → List H2Op
  | [] => []
  | .ev (.frame id e) :: ops => if id = sid then .ev e :: eraseOps sid ops else eraseOps sid ops
  | .ev _ :: ops => eraseOps sid ops
  | .read k :: ops => .read k :: eraseOps sid ops

/-- Every GOAWAY among the ops names a last-stream-id that is not below `sid`. -/
def KeepsStream (sid : Nat) : List COp → Prop
  | [] => True
  | .ev (.goAway last _) :: ops => sid ≤ last ∧ KeepsStream sid ops
  | _ :: ops => KeepsStream sid ops

end Req.C02
