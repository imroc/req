import Req.C02.Bufio
/-!
C02 — the LINE reader under the HTTP/1.1 head reader, for lines of ANY length.

`textprotoReader.readLineSlice` (textproto_reader.go) accumulates what `readLine` hands out
until a piece arrives that is not a prefix.  `readLine` is one of two functions with the same
control flow:

* `bufio.Reader.ReadLine` (no response-header dump), and
* the closure `newTextprotoReader` installs when the response header is dumped
  (`ds.ShouldDump()`): `ReadSlice('\n')`; on `ErrBufferFull` hand out the full buffer as a
  prefix — but if its last byte is CR, put that byte back (`UnreadByte`) so that a CR LF that
  straddles two buffer fills is still recognised by the next call; otherwise strip LF / CR LF.

Both are `Bufio.readLine` here (the dump closure differs only by the dump calls).  The put-back
matters exactly for lines whose CR lands on the last byte of a full buffer: line length
`cap - 1 + k · cap` counted from a compacted buffer.
-/
namespace Req.C02
open Req.Proto

/-- Strip the line end the way `ReadLine` does: a final LF, and a CR before it. -/
def stripEOL (line : Bytes) : Bytes :=
  if line.getLast? = some 10 then
    let l := line.dropLast
    if l.getLast? = some 13 then l.dropLast else l
  else line

/-- One `readLine()`: `(piece, isPrefix, err)`.  `fuel` bounds the fills of `ReadSlice`
(`cap + 2` is always enough). -/
def Bufio.readLine (fuel : Nat) (b : Bufio) : (Bytes × Bool × Option IOErr) × Bufio :=
  match b.readSlice fuel 10 with
  | ((line, some .bufferFull), b') =>
    if line.getLast? = some 13 then
      -- `b.r--` / `UnreadByte`: the CR is the only buffered byte now
      ((line.dropLast, true, none), { b' with buf := [13] })
    else ((line, true, none), b')
  | ((line, err), b') =>
    if line.isEmpty then (([], false, err), b')
    else ((stripEOL line, false, none), b')

/-- `textprotoReader.readLineSlice(-1)` (the loop under `ReadLine()`; the size limit `lim` of
`ReadMIMEHeader` is C03/C04's subject).  Result: the line, or the error. -/
def Bufio.readLineSlice : Nat → Bytes → Bufio → (Option Bytes × Option IOErr) × Bufio
  | 0, _, b => ((none, some .stuck), b)
  | fuel + 1, acc, b =>
    match b.readLine (b.cap + 2) with
    | ((_, _, some e), b') => ((none, some e), b')
    | ((l, more, none), b') =>
      if more then Bufio.readLineSlice fuel (acc ++ l) b'
      else ((some (acc ++ l), none), b')

/-- `ReadLine()` called `n` times (the lines of a head), stopping at the first error. -/
def Bufio.readLinesAny : Nat → Nat → Bufio → List Bytes × Option IOErr × Bufio
  | 0, _, b => ([], none, b)
  | n + 1, fuel, b =>
    match b.readLineSlice fuel [] with
    | ((some l, _), b') =>
      let (ls, e, b'') := Bufio.readLinesAny n fuel b'
      (l :: ls, e, b'')
    | ((none, e), b') => ([], e, b')

end Req.C02
