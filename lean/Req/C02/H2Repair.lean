import Req.C02.H2Recv
/-!
C02 — HTTP/2 length accounting for a status that never has a body
(fixes/C02-3-h2-nobody-status-length-accounting.patch, in /repo).

Without the repair `handleResponse` sets `cs.bytesRemain = res.ContentLength` for every response
whose HEADERS frame leaves the stream open.  A 204 / 304 never has a body, whatever Content-Length it carries
(RFC 9110 §8.6: a 304 may carry the length of the representation); when the origin ends such a
stream with a second frame (an empty DATA frame, or the trailer HEADERS Go's h2 server sends
when the handler announced trailers) `transportResponseBody.Read` reports
`io.ErrUnexpectedEOF` ("fewer bytes than declared") and, with auto-read, the whole request
fails.  The repair: `cs.bytesRemain = -1` for a status that cannot have a body.

`Req.C02.H2Recv` is shared with C03, whose invariant ties `bytesRemain` to
`res.contentLength`; the shared definition is therefore the reader without the repair and the
repaired behaviour, which /repo has, is expressed here, as a step applied to the stream state once
the head is in (lane `h2recv` judges with it).
-/
namespace Req.C02
open Req.Proto

/-- The repaired `handleResponse`: no length accounting for a status that never has a body. -/
def H2Stream.lenRepair (s : H2Stream) : H2Stream :=
  match s.res with
  | some r =>
    if r.body == .piped && !bodyAllowedForStatusH2 r.status then { s with bytesRemain := none } else s
  | none => s

end Req.C02
