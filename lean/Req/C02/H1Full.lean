import Req.H1.Response
import Req.C02.H1Msg
/-!
C02 — the HTTP/1.1 reader of theorem `h1_response_roundtrip_*` as ONE executable function:
`persistConn.readResponse` = C04's byte-exact head reader `Req.H1.parseFinalHead` (1xx loop,
`ReadMIMEHeader`, `readTransfer`), then the body automaton `Req.C02.H1Body` that the framing
verdict selects, over a `bufio.Reader` on a connection that delivers the bytes after the head
in the given segmentation, drained with reads of `k` bytes.

This is the function the lane `e2eh1` runs on the bytes the raw TCP peer wrote (driver lane
`c02h1full`); `Req.C02.parseResponse` (own head grammar) is a second opinion.
-/
namespace Req.C02
open Req.Proto

/-- Drop the first `n` bytes of a segmented stream, keeping the later segment boundaries. -/
def dropSegs : Nat → List Bytes → List Bytes
  | 0, segs => segs
  | _, [] => []
  | n + 1, s :: rest =>
    if s.length ≤ n + 1 then dropSegs (n + 1 - s.length) rest
    else s.drop (n + 1) :: rest

/-- `readTransfer`'s verdict as a body automaton (`none` = `http.NoBody`). -/
def framingOfH1 : Req.H1.RespFraming → Option Framing
  | .none => none
  | .length n => some (.length n)
  | .chunked => some .chunked
  | .untilClose => some .close

/-- The header map as a field list (key order of first insertion, values in wire order). -/
def flattenHeader (h : Req.H1.HeaderMap) : List (Bytes × Bytes) :=
  h.flatMap fun kv => kv.2.map fun v => (kv.1, v)

/-- Drain a body with reads of `k` bytes (`fuel` reads at most); the pieces are collected newest
first (appending to the front is O(1): the segmentation may be byte-wise). -/
def H1Body.drainR : Nat → Nat → H1Body → List Bytes → (List Bytes × Option IOErr) × H1Body
  | 0, _, bd, accR => ((accR, some .stuck), bd)
  | fuel + 1, k, bd, accR =>
    match bd.read k with
    | ((d, none), bd') => H1Body.drainR fuel k bd' (d :: accR)
    | ((d, some .eof), bd') => ((d :: accR, none), bd')
    | ((d, some e), bd') => ((d :: accR, some e), bd')

/-- What the caller observes for the connection content `segs` then `fin`. -/
def h1ReceiveView (isHead : Bool) (cap : Nat) (segs : List Bytes) (fin : NetEnd) (k : Nat) :
    Except H1Err View :=
  let w := segs.flatten
  match Req.H1.parseFinalHead 6 isHead w with
  | none => .error .unsupported          -- `readResponse` failed: which error is C04's subject
  | some (msg, r) =>
    match framingOfH1 msg.framing with
    | none =>
      .ok { status := msg.sl.code, fields := flattenHeader msg.header, trailer := [], body := [],
            bodyErr := none }
    | some f =>
      let bd := H1Body.new f (Bufio.new cap { segs := dropSegs (w.length - r.length) segs, fin := fin })
      let ((accR, e), bd') := H1Body.drainR (r.length + 2) k bd []
      .ok { status := msg.sl.code, fields := flattenHeader msg.header,
            trailer := (match bd'.trailer with | some t => t | none => []),
            body := piecesBytes accR, bodyErr := e }

end Req.C02
