import Req.C02.RespSM
/-!
C02 — the life of a `req.Response` over a MULTI-EXCHANGE call.

One `Request.Do` may consist of several HTTP exchanges:

* `http.Client.Do` follows redirects (the intermediate responses are closed by net/http and
  never reach `req.Response`),
* the digest middleware (`digest.go handleDigestAuthFunc`, installed at client level by
  `SetCommonDigestAuth` — then it runs inside `Client.roundTrip` after `parseResponseBody` and
  `handleDownload` — or at request level by `Request.SetDigestAuth` — then it runs in
  `Request.do` after `Client.roundTrip` returned) answers a 401 challenge by re-sending the
  request through `Transport.RoundTrip` and REPLACES `resp.Response` in place,
* `Request.do` retries (a fresh `Response` per attempt).

Modelled here: `request.go do` (retry loop, request-level response middleware),
`client.go roundTrip` (auto-read guard, restore, client-level response middleware),
`middleware.go parseResponseBody` (result / error slots) and `handleDownload`,
`digest.go handleDigestAuthFunc` (forget the 401, re-send, auto-read guard of its own, bind,
download).  The two copies of the "auto-read → bind → download" logic (`roundTrip` and the
digest middleware) are modelled SEPARATELY, as the code has them; that they agree is a theorem
(`Req.Props.C02.call_final_exchange` in `Req/Props/C02Call.lean`), not a definition.

The model follows /repo 835f2f1 (fixes/C18-3; the same defect as finding C02-2): `handleDownload`
does not save a 401 carrying a Digest challenge when digest auth is configured; the digest
middleware saves the answer to the authorized request (`saveResponse`) unless binding it failed.

Outside this model: a 401 without a usable challenge (C20), request bodies that cannot be
replayed (C20), unmarshal failures (C18), the retry interval / context cancellation (C08/C10).
-/
namespace Req.C02
open Req.Proto

/-- What the (scripted) transport answers to one request. `redirect`: a 3xx with a `Location`
that `http.Client` follows. -/
inductive Exch
  | terr                                   -- `RoundTrip` returns an error
  | resp (tag status : Nat) (redirect : Bool) (chunks : List Bytes) (fin : Fin)
deriving Repr, BEq, DecidableEq

inductive DigestAt | off | client | request
deriving Repr, BEq, DecidableEq

/-- Retry conditions of the lane: none added (default rule `err != nil`), a status rule
(`resp.Response != nil && StatusCode >= 500`, which REPLACES the default), or both added. -/
inductive RetryCond | dflt | status | either
deriving Repr, BEq, DecidableEq

structure CCfg where
  base : Cfg
  file : Bool              -- `SetOutputFile` (re-created by every download) vs `SetOutput(writer)`
  digest : DigestAt
  maxRetries : Nat         -- `SetRetryCount`; 0 = no retry
  cond : RetryCond
deriving Repr, BEq, DecidableEq

/-- The caller-visible part of a `req.Response` during / after a call. -/
structure CView where
  r : Resp
  tag : Nat                -- identifies the exchange `resp.Response` came from (a response header)
  hasResp : Bool           -- `resp.Response != nil`
  result : Option Bytes    -- `resp.result`: the bytes that were bound to the success target
  error : Option Bytes     -- `resp.error`
deriving Repr, BEq, DecidableEq

/-- `req.Response` during a call: the visible part and two ghosts: whether it is the answer to a
digest re-send, and the exchange it came from. -/
structure CR where
  v : CView
  resent : Bool            -- ghost: this is the answer to a digest re-send
  src : Exch               -- ghost: the exchange that produced `resp.Response`
deriving Repr, BEq, DecidableEq

/-- `resp = &Response{Request: r}` + the outcome of `httpClient.Do` / `Transport.RoundTrip`. -/
def CView.ofExch : Exch → CView
  | .terr =>
    { r := { status := 0, err := some .transport, cache := none, body := none, out := none },
      tag := 0, hasResp := false, result := none, error := none }
  | .resp tag st _ cks fin =>
    { r := { status := st, err := none, cache := none, body := some (Body.transport cks fin), out := none },
      tag := tag, hasResp := true, result := none, error := none }

/-- `http.Client.Do`: redirects are followed, the intermediate responses never surface. An
exhausted script is a transport error. -/
def doExch : List Exch → Exch × List Exch
  | [] => (.terr, [])
  | .resp _ _ true _ _ :: rest => doExch rest
  | e :: rest => (e, rest)

/-- `resp.ToBytes(); resp.Body = io.NopCloser(bytes.NewReader(resp.body))`. -/
def autoReadStep (v : CView) : CView :=
  let (_, r) := v.r.toBytes
  { v with r := { r with body := some (Body.restored (match r.cache with | some b => b | none => [])) } }

def successState (st : Nat) : Bool := decide (199 < st) && decide (st < 300)

/-- `parseResponseBody`: unmarshal into the success / error target and fill the slot
(`wantsBind`: a target applies to the status; then the state is success or error). -/
def bindBody (base : Cfg) (v : CView) : CView :=
  if !v.hasResp || !wantsBind base v.r.status then v
  else
    let ((d, e), r') := v.r.toBytes
    match e with
    | .ok => if successState v.r.status then { v with r := r', result := some d }
             else { v with r := r', error := some d }
    | _ => { v with r := r' }

/-- `parseResponseBody` returns an error: the body could not be read (or `resp.Err` was set). -/
def bindFails (base : Cfg) (v : CView) : Bool :=
  v.hasResp && wantsBind base v.r.status && decide (v.r.toBytes.1.2 ≠ .ok)

/-- `handleDownload`'s skip test (/repo 835f2f1): digest auth is configured (client or request
flag) and the response is a 401 with a Digest challenge (`isDigestChallenge`; in this model every
401 carries one). Neither `resp.Err` nor the origin of the response is looked at. -/
def awaitsDigest (cfg : CCfg) (c : CR) : Bool :=
  decide (cfg.digest ≠ .off) && c.v.hasResp && c.v.r.status == 401

/-- What a writer holds so far (`none`: never written to). -/
def accBytes : Option Bytes → Bytes
  | some a => a
  | none => []

/-- `handleDownload` within a call: `acc` is what the output holds so far. A file is created
anew (truncated) by every download; a writer just receives more bytes. `skip`: the response
is a pending digest challenge. -/
def download (base : Cfg) (file skip : Bool) (v : CView) (acc : Option Bytes) : CView × Option Bytes :=
  if !v.hasResp || !base.save || skip then (v, acc)
  else
    let r' := handleDownload base v.r
    ({ v with r := r' },
     match r'.out with
     | none => acc          -- unreachable: `save` is on
     | some data => some (if file then data else accBytes acc ++ data))

/-- `Client.roundTrip` from `httpClient.Do` to (and including) the built-in response
middlewares `parseResponseBody`, `handleDownload`. -/
def roundTripTail (cfg : CCfg) (e : Exch) (acc : Option Bytes) : CR × Option Bytes :=
  let v0 := CView.ofExch e
  let v1 := if autoRead cfg.base v0.r then autoReadStep v0 else v0
  let v2 := bindBody cfg.base v1
  let (v3, acc') := download cfg.base cfg.file (awaitsDigest cfg { v := v2, resent := false, src := e }) v2 acc
  ({ v := v3, resent := false, src := e }, acc')

/-- The auto-read guard of the digest middleware (no `resp.Err == nil`: the middleware has
returned already if there was an error). -/
def digestAutoRead (base : Cfg) (v : CView) : Bool :=
  !base.clientDisable && !base.save && !base.reqDisable && decide (v.r.status > 199)

/-- `handleDigestAuthFunc`. Returns the new state and whether the middleware returned an
error. The re-send goes through `Transport.RoundTrip`: redirects are NOT followed. `none` =
the middleware did nothing (not a challenge it answers). -/
def digestStep (cfg : CCfg) (c : CR) (acc : Option Bytes) (script : List Exch) :
    Option ((CR × Option Bytes × List Exch) × Bool) :=
  if c.v.r.err.isSome || !c.v.hasResp || c.v.r.status != 401 then none
  else
    let (e, script') : Exch × List Exch :=
      match script with
      | [] => (.terr, [])
      | e :: rest => (e, rest)
    -- resp.body, resp.result, resp.error = nil, nil, nil;
    -- resp.Response, err = RoundTrip(&req)
    let v0 := CView.ofExch e
    match e with
    | .terr => some (({ v := v0, resent := true, src := e }, acc, script'), true)
    | .resp .. =>
      -- the error of the auto-read `resp.ToBytes()` is dropped here (it stays in `resp.Err`)
      let v1 := if digestAutoRead cfg.base v0 then autoReadStep v0 else v0
      let v2 := bindBody cfg.base v1
      -- `if err = parseResponseBody(...); err != nil { return err }`: nothing is saved then
      if bindFails cfg.base v1 then some (({ v := v2, resent := true, src := e }, acc, script'), true)
      else
        -- `return saveResponse(client, resp)`: no skip test here
        let (v3, acc') := download cfg.base cfg.file false v2 acc
        some (({ v := v3, resent := true, src := e }, acc', script'), v2.r.err.isNone && v3.r.err.isSome)

/-- Outcome of one pass of the loop of `Request.do`. -/
structure Pass where
  c : CR
  acc : Option Bytes
  script : List Exch
  stop : Bool        -- a REQUEST-level response middleware returned an error: `do` returns at once
  errLocal : Bool    -- `do`'s local `err != nil` (what the default retry rule looks at)
deriving Repr, BEq, DecidableEq

/-- One pass of the loop of `Request.do`: `Client.roundTrip` (with the client-level digest
middleware inside; `roundTrip` returns `err = resp.Err`) and the request-level response
middleware (its error becomes `err`; if it returns nil, `err` stays what `roundTrip` returned
even when the middleware left something in `resp.Err`). -/
def attempt (cfg : CCfg) (acc : Option Bytes) (script : List Exch) : Pass :=
  let (e, script1) := doExch script
  let (c, acc1) := roundTripTail cfg e acc
  match cfg.digest with
  | .off => { c := c, acc := acc1, script := script1, stop := false, errLocal := c.v.r.err.isSome }
  | .client =>
    match digestStep cfg c acc1 script1 with
    | none => { c := c, acc := acc1, script := script1, stop := false, errLocal := c.v.r.err.isSome }
    | some ((c', acc', script'), _) =>
      { c := c', acc := acc', script := script', stop := false, errLocal := c'.v.r.err.isSome }
  | .request =>
    match digestStep cfg c acc1 script1 with
    | none => { c := c, acc := acc1, script := script1, stop := false, errLocal := c.v.r.err.isSome }
    | some ((c', acc', script'), failed) =>
      { c := c', acc := acc', script := script', stop := failed, errLocal := failed }

def needRetry (cond : RetryCond) (p : Pass) : Bool :=
  match cond with
  | .dflt => p.errLocal
  | .status => p.c.v.hasResp && decide (p.c.v.r.status ≥ 500)
  | .either => p.errLocal || (p.c.v.hasResp && decide (p.c.v.r.status ≥ 500))

/-- `Request.do`: `left` = retries still allowed. -/
def callLoop (cfg : CCfg) : Nat → Option Bytes → List Exch → CR × Option Bytes × List Exch
  | 0, acc, script => let p := attempt cfg acc script; (p.c, p.acc, p.script)
  | left + 1, acc, script =>
    let p := attempt cfg acc script
    if p.stop || !needRetry cfg.cond p then (p.c, p.acc, p.script)
    else callLoop cfg left p.acc p.script

/-- A whole call: the final `Response`, the content of the output, the unused script. -/
def call (cfg : CCfg) (script : List Exch) : CR × Option Bytes × List Exch :=
  callLoop cfg cfg.maxRetries none script

/-- The reference: a call that consists of the single exchange `e` (no digest, no retry). -/
def single (cfg : CCfg) (e : Exch) : CR :=
  (roundTripTail { cfg with digest := .off } e none).1

end Req.C02
