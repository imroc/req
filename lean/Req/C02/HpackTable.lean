/-!
C02 — the size bookkeeping of the HPACK decoder's dynamic table on an HTTP/2 client
connection.

`newClientConn` (internal/http2/transport.go) walks the caller's SETTINGS (`t.Settings`:
SetHTTP2SettingsFrame, Impersonate*), remembers the last HEADER_TABLE_SIZE (default 4096) and
builds the decoder with `hpack.NewDecoder(thatSize)`; the SAME list is then written to the origin
in the first SETTINGS frame.  `hpack.Decoder` keeps two numbers: `maxSize` (what the table may
hold now, changed by "dynamic table size update" instructions) and `allowedMaxSize` (the largest
value such an instruction may carry; anything above is a DecodingError, which the read loop turns
into the connection error COMPRESSION_ERROR — every response of the connection is lost).

Modelled: the two numbers, the entry sizes (newest first) with eviction, `NewDecoder`,
`SetMaxDynamicTableSize` (resizes, does not touch the allowed maximum),
`parseDynamicTableSizeUpdate` at the start of a header block, insertion of an entry, the settings
walk of `newClientConn` (a left fold, as the Go loop) and — separately, by recursion on the
frame's settings — what an origin that reads the SETTINGS frame is entitled to.
Not modelled: the HPACK wire encoding and the contents of the entries (trusted base).
-/
namespace Req.C02.HpackTable

/-- `hpack.dynamicTable`: sizes of the entries (newest first), the current limit and the limit a
size update may ask for. -/
structure DynTab where
  entries : List Nat
  maxSize : Nat
  allowedMax : Nat
  deriving Repr, DecidableEq

def total : List Nat → Nat
  | [] => 0
  | e :: r => e + total r

/-- `dynamicTable.evict`: the oldest entries go until the rest fits (= the longest newest-first
prefix that fits). -/
def keep (max : Nat) : List Nat → List Nat
  | [] => []
  | e :: r => if e ≤ max then e :: keep (max - e) r else []

/-- `hpack.NewDecoder(n, _)`. -/
def newDecoder (n : Nat) : DynTab := ⟨[], n, n⟩

/-- `dynamicTable.setMaxSize` (+ evict). -/
def DynTab.setMaxSize (d : DynTab) (v : Nat) : DynTab :=
  { d with maxSize := v, entries := keep v d.entries }

/-- `Decoder.SetMaxDynamicTableSize(v)`: the table is resized, `allowedMaxSize` stays. -/
def DynTab.setMaxDynamicTableSize (d : DynTab) (v : Nat) : DynTab := d.setMaxSize v

/-- `Decoder.parseDynamicTableSizeUpdate`; `first` = no field of this header block was decoded
yet.  `none` = DecodingError (COMPRESSION_ERROR for the connection). -/
def DynTab.sizeUpdate (d : DynTab) (first : Bool) (sz : Nat) : Option DynTab :=
  if !first && total d.entries > 0 then none
  else if sz > d.allowedMax then none
  else some (d.setMaxSize sz)

/-- `dynamicTable.add` (a literal with incremental indexing): add, then evict. -/
def DynTab.insert (d : DynTab) (e : Nat) : DynTab :=
  { d with entries := keep d.maxSize (e :: d.entries) }

/-- SETTINGS_HEADER_TABLE_SIZE. -/
def idHeaderTableSize : Nat := 1
def defaultTableSize : Nat := 4096

/-- The loop of `newClientConn` over `t.Settings` (id, value). -/
def announcedTableSize (settings : List (Nat × Nat)) : Nat :=
  settings.foldl (fun acc s => if s.1 = idHeaderTableSize then s.2 else acc) defaultTableSize

/-- The decoder `newClientConn` builds. -/
def clientDecoder (settings : List (Nat × Nat)) : DynTab := newDecoder (announcedTableSize settings)

/-- What the origin may use after reading the SETTINGS frame (RFC 9113 6.5: the values are
processed in the order they appear; unmentioned = the value before). -/
def peerLimit (cur : Nat) : List (Nat × Nat) → Nat
  | [] => cur
  | s :: r => peerLimit (if s.1 = idHeaderTableSize then s.2 else cur) r

/-- What arrives in header blocks, as far as the table is concerned. -/
inductive Op where
  | update (sz : Nat)   -- a size update at the start of a block
  | insert (e : Nat)    -- an indexed literal of that size
  deriving Repr, DecidableEq

def step (d : DynTab) : Op → Option DynTab
  | .update sz => d.sizeUpdate true sz
  | .insert e => some (d.insert e)

def run (d : DynTab) : List Op → Option DynTab
  | [] => some d
  | o :: r => match step d o with
    | none => none
    | some d' => run d' r

/-- The origin respects the limit it was given. -/
def compliant (limit : Nat) : List Op → Prop
  | [] => True
  | .update sz :: r => sz ≤ limit ∧ compliant limit r
  | .insert _ :: r => compliant limit r

/-- A wrong variant of `newClientConn`, for contrast: default decoder, then
`SetMaxDynamicTableSize` per HEADER_TABLE_SIZE setting (`allowedMaxSize` stays at the default). -/
def clientDecoderResizeOnly (settings : List (Nat × Nat)) : DynTab :=
  settings.foldl (fun d s => if s.1 = idHeaderTableSize then d.setMaxDynamicTableSize s.2 else d)
    (newDecoder defaultTableSize)

end Req.C02.HpackTable
