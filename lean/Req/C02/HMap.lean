import Req.H1.Response
/-! C02 — Go's `http.Header` built from a field list: `Req.H1.HeaderMap` is C04's association-list
model of the map (`get`, `set`, `add`, `del`). -/
namespace Req.C02
open Req.Proto Req.H1

/-- The values of key `k` in a field list, in wire order. -/
def valuesOf (k : Bytes) (kvs : List (Bytes × Bytes)) : List Bytes :=
  (kvs.filter fun kv => kv.1 == k).map (·.2)

/-- `ReadMIMEHeader`'s map for a field list: `m[k] = append(m[k], v)` in wire order. -/
def hmapAdd (m : HeaderMap) (kvs : List (Bytes × Bytes)) : HeaderMap :=
  kvs.foldl (fun m kv => m.add kv.1 kv.2) m

def hmapOf (kvs : List (Bytes × Bytes)) : HeaderMap := hmapAdd [] kvs

/-- Go's `h[k]`: `nil` for an absent key. -/
def getL (m : HeaderMap) (k : Bytes) : List Bytes :=
  match m.get k with
  | some vs => vs
  | none => []

end Req.C02
