import Req.C02.HMap
/-!
C02 — `Response.Trailer` as the Go MAP the caller sees.

* HTTP/1.1: `fixTrailer` (transfer.go) creates the map from the `Trailer` header — every
  announced key with a nil value — and `body.readTrailer` merges the received trailer section
  into it with `mergeSetHeader` (`dst[k] = vv` for every received key).
* HTTP/2: `handleResponse` creates the announced keys the same way, `copyTrailers` does
  `(*cs.resTrailer)[k] = vv` for every received key: the same merge.
* HTTP/3: `processTrailers` (headers.go) creates the announced keys; when the trailer HEADERS
  frame arrives `rsp.Trailer = hdr` REPLACES the map (conn.go).

`HeaderMap` is C04's association-list model of `http.Header` (`get`, `set`, `add`).
-/
namespace Req.C02
open Req.Proto Req.H1

/-- The map `fixTrailer` / `handleResponse` / `processTrailers` build from the announced keys:
`trailer[key] = nil` for each. -/
def declMap (keys : List Bytes) : HeaderMap := keys.foldl (fun m k => m.set k []) []

/-- `mergeSetHeader(&dst, src)` / the loop of `copyTrailers`: `dst[k] = vv` for every key of
`src` (a nil `dst` is the empty map here: lookups cannot tell them apart). -/
def mergeSet (dst src : HeaderMap) : HeaderMap := src.foldl (fun m e => m.set e.1 e.2) dst

/-- `Response.Trailer` over HTTP/1.1 and HTTP/2 once the body was read to its end:
announced keys, then the received trailer fields merged in. -/
def trailerMapMerged (decl : List Bytes) (recv : List (Bytes × Bytes)) : HeaderMap :=
  mergeSet (declMap decl) (hmapOf recv)

/-- `Response.Trailer` over HTTP/3: the announced keys until a trailer HEADERS frame arrives,
then exactly the received fields. -/
def trailerMapH3 (decl : List Bytes) : Option (List (Bytes × Bytes)) → HeaderMap
  | none => declMap decl
  | some recv => hmapOf recv

end Req.C02
