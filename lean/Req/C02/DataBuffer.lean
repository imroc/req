import Req.Driver.Proto
/-!
C02 — `dataBuffer` (internal/http2/databuffer.go): the buffer behind the HTTP/2 body
pipe.  A list of fixed-size chunks taken from size-class pools, a read cursor `r` into the FIRST
chunk, a write cursor `w` into the LAST chunk, the number of buffered bytes `size`, and the hint
`expected` (bytes still announced by Content-Length) that only influences which size class the
next chunk comes from.

The chunks are modelled as the arrays they are: a chunk has its full capacity from the moment
it is allocated, whatever a recycled pool array happens to contain (`alloc` returns the array,
garbage included), and `Write` overwrites `chunk[w : w+n]`.  The allocator is a PARAMETER
(`alloc : Int → Bytes`, the array handed out for a wanted size); `goAlloc` is the one of
`getDataBufferChunk` (1/2/4/8/16 KiB classes, zero-filled).
-/
namespace Req.C02
open Req.Proto

structure DataBuffer where
  chunks : List Bytes
  r : Nat            -- next byte to read is chunks[0][r]
  w : Nat            -- next byte to write is chunks[len(chunks)-1][w]
  size : Nat         -- total buffered bytes
  expected : Int     -- at least this many bytes are expected in future writes (ignored if ≤ 0)
deriving Repr, BEq, DecidableEq

def DataBuffer.new (expected : Int) : DataBuffer :=
  { chunks := [], r := 0, w := 0, size := 0, expected := expected }

/-- Length of the last chunk (`none`: no chunk). -/
def lastLen : List Bytes → Option Nat
  | [] => none
  | [c] => some c.length
  | _ :: c :: rest => lastLen (c :: rest)

/-- Apply `f` to the last chunk. -/
def modifyLast (f : Bytes → Bytes) : List Bytes → List Bytes
  | [] => []
  | [c] => [f c]
  | c :: d :: rest => c :: modifyLast f (d :: rest)

/-- `copy(chunk[w:], p)`: the array after the copy. -/
def copyAt (w : Nat) (p : Bytes) (chunk : Bytes) : Bytes :=
  chunk.take w ++ p.take (chunk.length - w) ++ chunk.drop (w + min p.length (chunk.length - w))

/-- `lastChunkOrAlloc(want)`: afterwards the last chunk has room at `w`. -/
def DataBuffer.lastChunkOrAlloc (alloc : Int → Bytes) (b : DataBuffer) (want : Int) : DataBuffer :=
  match lastLen b.chunks with
  | some L => if b.w < L then b else { b with chunks := b.chunks ++ [alloc want], w := 0 }
  | none => { b with chunks := [alloc want], w := 0 }

/-- The loop of `Write(p)`.  `none` = the loop did not end within the fuel (an allocator that
hands out empty arrays would spin). -/
def DataBuffer.writeLoop (alloc : Int → Bytes) : Nat → Bytes → DataBuffer → Option DataBuffer
  | 0, p, b => if p.isEmpty then some b else none
  | fuel + 1, p, b =>
    if p.isEmpty then some b else
    let want : Int := if b.expected > (p.length : Int) then b.expected else (p.length : Int)
    let b1 := b.lastChunkOrAlloc alloc want
    match lastLen b1.chunks with
    | none => none
    | some L =>
      let n := min p.length (L - b1.w)
      let b2 := { b1 with chunks := modifyLast (copyAt b1.w p) b1.chunks, w := b1.w + n,
                          size := b1.size + n, expected := b1.expected - (n : Int) }
      DataBuffer.writeLoop alloc fuel (p.drop n) b2

/-- `Write(p)`: always `len(p), nil` in Go. -/
def DataBuffer.write (alloc : Int → Bytes) (b : DataBuffer) (p : Bytes) : Option DataBuffer :=
  DataBuffer.writeLoop alloc (p.length + 1) p b

/-- `bytesFromFirstChunk` for a non-empty chunk list. -/
def DataBuffer.bytesFromFirstChunk (b : DataBuffer) (c : Bytes) (rest : List Bytes) : Bytes :=
  if rest.isEmpty then (c.take b.w).drop b.r else c.drop b.r

/-- The loop of `Read(p)` with `len(p) = k`.  `none`: the code would index an empty chunk list
(panic) or spin. -/
def DataBuffer.readLoop : Nat → Nat → Bytes → DataBuffer → Option (Bytes × DataBuffer)
  | 0, k, acc, b => if k = 0 ∨ b.size = 0 then some (acc, b) else none
  | fuel + 1, k, acc, b =>
    if k = 0 ∨ b.size = 0 then some (acc, b) else
    match b.chunks with
    | [] => none
    | c :: rest =>
      let d := (b.bytesFromFirstChunk c rest).take k
      let n := d.length
      let b1 := { b with r := b.r + n, size := b.size - n }
      let b2 := if b1.r = c.length then { b1 with chunks := rest, r := 0 } else b1
      DataBuffer.readLoop fuel (k - n) (acc ++ d) b2

inductive DBRead
  | errEmpty                       -- errReadEmpty
  | broken                         -- panic / endless loop
  | ok (data : Bytes)
deriving Repr, BEq, DecidableEq

/-- `Read(p)`, `len(p) = k`. -/
def DataBuffer.read (b : DataBuffer) (k : Nat) : DBRead × DataBuffer :=
  if b.size = 0 then (.errEmpty, b) else
  match DataBuffer.readLoop (b.chunks.length + 1) k [] b with
  | some (d, b') => (.ok d, b')
  | none => (.broken, b)

/-- All chunks concatenated, the last one cut at `w`. -/
def contentsAux (w : Nat) : List Bytes → Bytes
  | [] => []
  | [c] => c.take w
  | c :: d :: rest => c ++ contentsAux w (d :: rest)

/-- What the buffer holds: the abstraction function. -/
def DataBuffer.contents (b : DataBuffer) : Bytes := (contentsAux b.w b.chunks).drop b.r

/-- The size classes of `getDataBufferChunk`. -/
def goChunkSize (want : Int) : Nat :=
  if want ≤ 1024 then 1024 else if want ≤ 2048 then 2048 else if want ≤ 4096 then 4096
  else if want ≤ 8192 then 8192 else 16384

def goAlloc (want : Int) : Bytes := List.replicate (goChunkSize want) 0

/-- Operation scripts. -/
inductive DOp
  | write (p : Bytes)
  | read (k : Nat)
deriving Repr, BEq, DecidableEq

/-- One observation per op: a write yields nothing, a read its result. -/
inductive DObs
  | wrote
  | writeBroken
  | got (r : DBRead)
deriving Repr, BEq, DecidableEq

def DataBuffer.step (alloc : Int → Bytes) (b : DataBuffer) : DOp → DObs × DataBuffer
  | .write p => match b.write alloc p with
    | some b' => (.wrote, b')
    | none => (.writeBroken, b)
  | .read k => let (r, b') := b.read k; (.got r, b')

def DataBuffer.run (alloc : Int → Bytes) : List DOp → DataBuffer → List DObs × DataBuffer
  | [], b => ([], b)
  | op :: ops, b =>
    let (o, b1) := b.step alloc op
    let (os, b2) := DataBuffer.run alloc ops b1
    (o :: os, b2)

/-- Bytes written by a script / handed out by its reads. -/
def writtenOf : List DOp → Bytes
  | [] => []
  | .write p :: ops => p ++ writtenOf ops
  | .read _ :: ops => writtenOf ops

def readOf : List DObs → Bytes
  | [] => []
  | .got (.ok d) :: os => d ++ readOf os
  | _ :: os => readOf os

end Req.C02
