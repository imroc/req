import Req.Driver.Proto
import Req.C02.Reader
/-!
C02 — caller-side state machine of `req.Response` (response.go, client.go `roundTrip`
auto-read guard, middleware.go `handleDownload`).

The transport body is an `io.ReadCloser` that hands out its bytes in some segmentation
(`chunks`) and then ends with `io.EOF` or with an error.  The caller-side machine is
`Response{Err, body (cache), Response.Body}` plus the output writer of `SetOutput` /
`SetOutputFile`.  Observation operations: `ToBytes`/`ToString`, `Bytes`/`String`,
`Body.Read(n)`, `io.ReadAll(Body)`, `Body.Close()`.
-/
namespace Req.C02
open Req.Proto

/-- How a body stream ends after its bytes. -/
inductive Fin | eof | fail
deriving Repr, BEq, DecidableEq

/-- Result class of one `Read` / of `ToBytes`. -/
inductive RErr | ok | eof | fail | closed
  | transport      -- `RoundTrip` itself failed: there is no response (multi-exchange calls, `Call.lean`)
deriving Repr, BEq, DecidableEq

/-- Go's error convention: `ok` is the nil error. -/
def RErr.toOpt : RErr → Option RErr
  | .ok => none
  | e => some e

def Fin.toErr : Fin → RErr
  | .eof => .eof
  | .fail => .fail

/-- An `io.ReadCloser`. `nop = true` is `io.NopCloser(bytes.NewReader(b))` (Close is a
no-op); otherwise it is the transport's body: after `Close` every `Read` fails. -/
structure Body where
  chunks : List Bytes
  fin : Fin
  closed : Bool
  nop : Bool
deriving Repr, BEq, DecidableEq

/-- `Read(p)` with `len(p) = n`: at most one segment boundary is crossed per call.
An empty segment models a `(0, nil)` read. -/
def Body.read (b : Body) (n : Nat) : (Bytes × RErr) × Body :=
  if b.closed then (([], .closed), b) else
  match b.chunks with
  | [] => (([], b.fin.toErr), b)
  | c :: cs =>
    if c.length ≤ n then ((c, .ok), { b with chunks := cs })
    else ((c.take n, .ok), { b with chunks := c.drop n :: cs })

def Body.close (b : Body) : Body := if b.nop then b else { b with closed := true }

/-- `io.ReadAll` / `io.Copy` (the sizes they read with do not matter: `body_refines` in
Lemmas/C02Resp): everything up to the end, and the end error (`eof` is reported as success by
both Go functions). -/
def Body.readAll (b : Body) : (Bytes × RErr) × Body :=
  if b.closed then (([], .closed), b) else
  ((b.chunks.flatten, b.fin.toErr), { b with chunks := [] })

/-- `io.NopCloser(bytes.NewReader(bs))`. -/
def Body.restored (bs : Bytes) : Body :=
  { chunks := if bs.isEmpty then [] else [bs], fin := .eof, closed := false, nop := true }

/-- The transport body as RoundTrip returns it. -/
def Body.transport (chunks : List Bytes) (fin : Fin) : Body :=
  { chunks := chunks, fin := fin, closed := false, nop := false }

/-- `req.Response` as far as body observation goes. -/
structure Resp where
  status : Nat
  err : Option RErr          -- `r.Err`
  cache : Option Bytes       -- `r.body` (`none` = nil slice)
  body : Option Body         -- `r.Response.Body` (`none` = nil)
  out : Option Bytes         -- bytes written to the SetOutput writer / output file
deriving Repr, BEq, DecidableEq

/-- `Response.ToBytes` (response.go:234). Returns the bytes and the error class. -/
def Resp.toBytes (r : Resp) : (Bytes × RErr) × Resp :=
  match r.err with
  | some e => (([], e), r)
  | none =>
    match r.cache with
    | some c => ((c, .ok), r)
    | none =>
      match r.body with
      | none => (([], .ok), r)          -- `return []byte{}, nil`; nothing cached
      | some b =>
        let ((data, e), b') := b.readAll
        let b'' := b'.close
        match e with
        | .eof | .ok => ((data, .ok), { r with cache := some data, body := some b'' })
        | e => ((data, e), { r with cache := some data, body := some b'', err := some e })

structure Cfg where
  clientDisable : Bool       -- Client.DisableAutoReadResponse
  reqDisable : Bool          -- Request.DisableAutoReadResponse
  save : Bool                -- Request.SetOutput / SetOutputFile
  result : Bool              -- Request.SetSuccessResult (a result object to unmarshal into)
  errResult : Bool := false  -- Request.SetErrorResult / Client.SetCommonErrorResult
deriving Repr, BEq, DecidableEq

/-- client.go:1740 auto-read guard. -/
def autoRead (cfg : Cfg) (r : Resp) : Bool :=
  r.err.isNone && !cfg.clientDisable && !cfg.save && !cfg.reqDisable && decide (r.status > 199)

/-- middleware.go `handleDownload`: copy cached bytes or the live Body to the writer. -/
def handleDownload (cfg : Cfg) (r : Resp) : Resp :=
  if !cfg.save then r else
  match r.cache with
  | some c => { r with out := some c }
  | none =>
    match r.body with
    | none => { r with out := some [] }     -- unreachable: http.Client never returns a nil Body
    | some b =>
      let ((data, e), b') := b.readAll
      let r' := { r with out := some data, body := some b'.close }
      match e with
      | .eof | .ok => r'
      | e => { r' with err := some e }

/-- Does `parseResponseBody` unmarshal a response of this status?  In the success state
(200..299, `defaultResultStateChecker`) with a success-result object unless the status is 204;
in the error state (≥ 400) with an error-result object. -/
def wantsBind (cfg : Cfg) (st : Nat) : Bool :=
  (cfg.result && decide (199 < st) && decide (st < 300) && decide (st ≠ 204)) ||
  (cfg.errResult && decide (399 < st))

/-- middleware.go `parseResponseBody` with a result object set for the response's state: it
unmarshals, i.e. calls `ToBytes`. Whether the bytes unmarshal is outside this model (the
lanes use bodies / unmarshal functions that do). -/
def parseResponseBody (cfg : Cfg) (r : Resp) : Resp :=
  if wantsBind cfg r.status then r.toBytes.2 else r

/-- `Client.roundTrip` after `httpClient.Do` succeeded: auto-read + restore, then the
response middlewares `parseResponseBody` and `handleDownload`. -/
def afterRoundTrip (cfg : Cfg) (status : Nat) (tb : Body) : Resp :=
  let r0 : Resp := { status := status, err := none, cache := none, body := some tb, out := none }
  let r1 :=
    if autoRead cfg r0 then
      let (_, r) := r0.toBytes
      -- `bytes.NewReader(resp.body)`: a nil slice is the empty reader
      { r with body := some (Body.restored (match r.cache with | some c => c | none => [])) }
    else r0
  handleDownload cfg (parseResponseBody cfg r1)

inductive Op
  | toBytes | toString | bytes | string
  | read (n : Nat) | readAll | close
deriving Repr, BEq, DecidableEq

/-- What one op shows the caller. -/
inductive Obs
  | data (bs : Bytes) (e : RErr)      -- ToBytes / ToString / Read / ReadAll
  | cached (c : Option Bytes)          -- Bytes()  (nil vs bytes)
  | str (bs : Bytes)                   -- String()
  | unit
deriving Repr, BEq, DecidableEq

def Resp.step (r : Resp) : Op → Obs × Resp
  | .toBytes | .toString =>
    let ((d, e), r') := r.toBytes
    -- on error ToBytes returns (nil, err) only when the error was there before the read
    (.data d e, r')
  | .bytes => (.cached r.cache, r)
  | .string => (.str (match r.cache with | some c => c | none => []), r)   -- string(nil) = ""
  | .read n =>
    match r.body with
    | none => (.unit, r)
    | some b => let ((d, e), b') := b.read n; (.data d e, { r with body := some b' })
  | .readAll =>
    match r.body with
    | none => (.unit, r)
    | some b =>
      let ((d, e), b') := b.readAll
      (.data d (if e == .eof then .ok else e), { r with body := some b' })
  | .close =>
    match r.body with
    | none => (.unit, r)
    | some b => (.unit, { r with body := some b.close })

/-- Apply an op sequence; the trace pairs every op with what it showed the caller. -/
def Resp.run (r : Resp) : List Op → List (Op × Obs) × Resp
  | [] => ([], r)
  | op :: ops =>
    let (o, r') := r.step op
    let (os, r'') := r'.run ops
    ((op, o) :: os, r'')

/-- `Body.read` in the `Option` error convention of `runReads` (`none` = nil error). -/
def Body.readO (b : Body) (k : Nat) : (Bytes × Option RErr) × Body :=
  let ((d, e), b') := b.read k
  ((d, e.toOpt), b')

end Req.C02
