import Req.Lemmas.C09PoolLru
/-! No connection is lost track of (C09): every live connection is idle-listed, in transit, or
owned by a request. Together with `Excl` this is "in exactly one place" (`Places`), kept by every
move without any of the limits (`Places_move`). `tryPut_ok_places` says where one accepted call of
`tryPutIdleConn` leaves the connection, in any state. -/
namespace Req.Lemmas.C09PoolLeak
open Req.Pool.H1Pool Req.Lemmas.C09Pool Req.Lemmas.C09PoolExcl Req.Lemmas.C09PoolLru

def Placed (s : St) (c : Conn) : Prop :=
  (∃ k, c ∈ s.idle k) ∨ c ∈ s.transit ∨ ∃ w, (s.wst w).holds c = true

def Live (s : St) (c : Conn) : Prop := s.ckey c ≠ none ∧ s.closed c = false

def NoLeak (s : St) : Prop := ∀ c, Live s c → Placed s c
def NoLeakExcept (s : St) (x : Conn) : Prop := ∀ c, c ≠ x → Live s c → Placed s c

theorem NoLeak.except {s : St} (h : NoLeak s) (x : Conn) : NoLeakExcept s x := fun c _ hl => h c hl

theorem NoLeak_of_except {s : St} {x : Conn} (h : NoLeakExcept s x) (hx : Live s x → Placed s x) : NoLeak s := by
  intro c hl
  by_cases hc : c = x
  · subst hc; exact hx hl
  · exact h c hc hl

theorem Placed_of_frame {s s' : St} (hi : s'.idle = s.idle) (ht : s'.transit = s.transit)
    (hw : s'.wst = s.wst) (c : Conn) (h : Placed s c) : Placed s' c := by
  unfold Placed; rw [hi, ht, hw]; exact h

theorem Live_of_frame {s s' : St} (hk : s'.ckey = s.ckey) (hc : s'.closed = s.closed) (c : Conn)
    (h : Live s' c) : Live s c := by
  unfold Live at *; rw [hk, hc] at h; exact h

theorem NoLeak_of_frame {s s' : St} (hi : s'.idle = s.idle) (ht : s'.transit = s.transit)
    (hw : s'.wst = s.wst) (hk : s'.ckey = s.ckey) (hc : s'.closed = s.closed) (h : NoLeak s) : NoLeak s' :=
  fun c hl => Placed_of_frame hi ht hw c (h c (Live_of_frame hk hc c hl))

theorem closeConn_live (cfg : Cfg) (s : St) (c x : Conn) (h : Live (closeConn cfg s c) x) : Live s x ∧ (x = c → False) := by
  obtain ⟨h1, h2⟩ := h
  rw [closeConn_ckey] at h1
  have hnot : ¬ ((closeConn cfg s c).closed x = true) := by rw [h2]; simp
  rw [closeConn_closed] at hnot
  refine ⟨⟨h1, ?_⟩, ?_⟩
  · cases hx : s.closed x with
    | false => rfl
    | true => exact absurd (Or.inl hx) hnot
  · intro hxc; subst hxc; exact hnot (Or.inr ⟨rfl, h1⟩)

theorem NoLeak_closeConn (cfg : Cfg) (s : St) (c : Conn) (h : NoLeakExcept s c) : NoLeak (closeConn cfg s c) := by
  intro x hl
  obtain ⟨hl', hne⟩ := closeConn_live cfg s c x hl
  have hxc : x ≠ c := fun e => hne e
  exact Placed_of_frame (by simp) (by simp) (by simp) x (h x hxc hl')

theorem NoLeakExcept_closeConn (cfg : Cfg) (s : St) (c y : Conn) (h : NoLeakExcept s y) :
    NoLeakExcept (closeConn cfg s c) y := by
  intro x hxy hl
  obtain ⟨hl', _⟩ := closeConn_live cfg s c x hl
  exact Placed_of_frame (by simp) (by simp) (by simp) x (h x hxy hl')

theorem NoLeak_decConns (cfg : Cfg) (s : St) (k : Key) (h : NoLeak s) : NoLeak (decConns cfg s k) :=
  NoLeak_of_frame (by simp) (by simp) (by simp) (by simp) (by simp) h

theorem Placed_removeIdleLocked (s : St) (c x : Conn) (he : Excl s) (hne : x ≠ c) (h : Placed s x) :
    Placed (removeIdleLocked s c).1 x := by
  rcases h with ⟨k, hk⟩ | h | h
  · exact Or.inl ⟨k, (removeIdleLocked_idle_mem s c he k x).mpr ⟨hk, hne⟩⟩
  · exact Or.inr (Or.inl (by simpa using h))
  · exact Or.inr (Or.inr (by simpa using h))

theorem NoLeakExcept_removeIdleLocked (s : St) (c : Conn) (he : Excl s) (h : NoLeakExcept s c) :
    NoLeakExcept (removeIdleLocked s c).1 c :=
  fun x hx hl => Placed_removeIdleLocked s c x he hx (h x hx (Live_of_frame (by simp) (by simp) x hl))

theorem Placed_setWst (s : St) (w : Want) (v : WSt) (x : Conn) (hk : (s.wst w).holds x = true → v.holds x = true)
    (h : Placed s x) : Placed { s with wst := upd s.wst w v } x := by
  refine h.imp id (.imp id fun ⟨w', hw'⟩ => ⟨w', ?_⟩)
  simp only [upd]
  split
  · next e => subst e; exact hk hw'
  · exact hw'

theorem NoLeak_deliver (s : St) (w : Want) (c : Conn) (hw : s.wst w = .waiting) (h : NoLeakExcept s c) :
    NoLeak { s with wst := upd s.wst w (.gotConn c) } := fun x hl => by
  by_cases hxc : x = c
  · subst hxc; exact .inr (.inr ⟨w, by simp [upd, WSt.holds]⟩)
  · exact Placed_setWst s w _ x (fun hd => by rw [hw] at hd; cases hd) (h x hxc hl)

theorem NoLeakExcept_transit_erase (s : St) (c : Conn) (he : Excl s) (h : NoLeak s) :
    NoLeakExcept { s with transit := s.transit.erase c } c := by
  intro x hx hl
  rcases h x hl with hp | hp | hp
  · exact Or.inl hp
  · exact Or.inr (Or.inl ((List.Nodup.mem_erase_iff he.transitNodup).mpr ⟨hx, hp⟩))
  · exact Or.inr (Or.inr hp)

theorem NoLeakExcept_release (s : St) (w : Want) (c : Conn) (v : WSt)
    (hc : ∀ d, (s.wst w).holds d = true → d = c) (h : NoLeak s) :
    NoLeakExcept { s with wst := upd s.wst w v } c :=
  fun x hx hl => Placed_setWst s w v x (fun hd => absurd (hc x hd) hx) (h x hl)

theorem NoLeak_toTransit (s : St) (c : Conn) (h : NoLeakExcept s c) : NoLeak { s with transit := c :: s.transit } := by
  intro x hl
  by_cases hx : x = c
  · subst hx; exact Or.inr (Or.inl List.mem_cons_self)
  · rcases h x hx hl with hp | hp | hp
    · exact Or.inl hp
    · exact Or.inr (Or.inl (List.mem_cons_of_mem _ hp))
    · exact Or.inr (Or.inr hp)

/-- Every created connection is in exactly one place, or closed, and the LRU list holds the idle-listed
connections and otherwise only closed ones: the part of the pool invariant that needs none of the limits. -/
structure Places (s : St) : Prop where
  excl : Excl s
  lru : LruCore s
  leak : NoLeak s

section
variable {cfg : Cfg} {s : St}

theorem Places.close (h : Places s) (c : Conn) : Places (closeConn cfg s c) :=
  ⟨Excl_closeConn cfg s c h.excl, LruCore_closeConn cfg s c h.lru, NoLeak_closeConn cfg s c (h.leak.except c)⟩

/-- A closed connection is taken off the lists (`removeIdleConn`; the tail of an eviction). -/
theorem Places.remove (h : Places s) (c : Conn) (hk : s.ckey c ≠ none) (hcl : s.closed c = true) :
    Places (removeIdleLocked s c).1 :=
  ⟨Excl_removeIdleLocked s c h.excl, LruCore_removeIdleLocked s c hk h.excl h.lru,
    NoLeak_of_except (NoLeakExcept_removeIdleLocked s c h.excl (h.leak.except c)) fun hlx => by
      have := hlx.2
      rw [removeIdleLocked_closed, hcl] at this; cases this⟩

theorem Places.evict (h : Places s) :
    Places (evictOldest cfg s) ∧ (evictOldest cfg s).lru.length ≤ s.lru.length - 1 := by
  cases ho : s.lru.getLast? with
  | none =>
    have : evictOldest cfg s = s := by unfold evictOldest; rw [ho]
    rw [this]; exact ⟨h, by simp [List.getLast?_eq_none_iff.mp ho]⟩
  | some o =>
    have hm : o ∈ s.lru := List.mem_of_getLast? ho
    have hk := lru_created s o h.excl h.lru hm
    rw [evictOldest_eq cfg s o h.lru.lruNodup ho hk]
    refine ⟨(h.close o).remove o (by simpa using hk) ((closeConn_closed cfg s o o).mpr (.inr ⟨rfl, hk⟩)), ?_⟩
    rw [removeIdleLocked_lru _ o (by simpa using hk), closeConn_lru, List.length_erase_of_mem hm]
    exact Nat.le_refl _

/-- The routine that holds `c` appends it to the idle list of its key and to the LRU list. -/
theorem Places.append {c : Conn} {k : Key} (h : Places s) (hc : c ∈ s.transit) (hk : s.ckey c = some k)
    (hnl : c ∉ s.lru) :
    Places { s with transit := s.transit.erase c, idle := upd s.idle k (s.idle k ++ [c]), lru := c :: s.lru } := by
  have hmem := mem_append_idle s.idle k
  have hl := h.lru
  refine ⟨Excl_appendIdle _ c k (Free_after_transit_erase s c hc h.excl) hk (Excl_transit_erase s c h.excl), { hl with
      lruNodup := List.nodup_cons.mpr ⟨hnl, hl.lruNodup⟩
      idleInLru := fun k' x hx => ((hmem k' c x).mp hx).elim
        (fun hx => List.mem_cons_of_mem _ (hl.idleInLru k' x hx)) fun ⟨_, e2⟩ => by rw [e2]; exact List.mem_cons_self
      lruIdleOrClosed := fun x hx => (List.mem_cons.mp hx).elim
        (fun e => .inl ⟨k, (hmem k c x).mpr (.inr ⟨rfl, e⟩)⟩)
        fun hx => (hl.lruIdleOrClosed x hx).imp (fun ⟨k', hk'⟩ => ⟨k', (hmem k' c x).mpr (.inl hk')⟩) id },
    fun x hlx => ?_⟩
  by_cases hxc : x = c
  · exact .inl ⟨k, (hmem k c x).mpr (.inr ⟨rfl, hxc⟩)⟩
  · exact (NoLeakExcept_transit_erase s c h.excl h.leak x hxc hlx).imp
      (fun ⟨k', hk'⟩ => ⟨k', (hmem k' c x).mpr (.inl hk')⟩) id

/-- The tail of `tryPutIdleConn`: listed, and the oldest evicted when the LRU list is over
`MaxIdleConns`. -/
theorem Places.add {c : Conn} {k : Key} (h : Places s) (hc : c ∈ s.transit) (hk : s.ckey c = some k)
    (hnl : c ∉ s.lru) :
    Places (addIdle cfg { s with transit := s.transit.erase c } c k) ∧
      (LruLen cfg s → LruLen cfg (addIdle cfg { s with transit := s.transit.erase c } c k)) := by
  have p2 := h.append hc hk hnl
  unfold addIdle
  dsimp only
  split
  · next hover =>
    obtain ⟨p3, n3⟩ := p2.evict (cfg := cfg)
    exact ⟨p3, fun hlen hm => by have := hlen hm; simp only [List.length_cons] at n3; omega⟩
  · next hnot =>
    exact ⟨p2, fun _ hm => by
      show (c :: s.lru).length ≤ cfg.maxIdle
      have : ¬ ((c :: s.lru).length > cfg.maxIdle) := fun hgt => hnot ⟨hm, hgt⟩
      omega⟩

theorem Places_move {s' : St} (m : Move cfg s s') (h : Places s) : Places s' := by
  have he' := Excl_move m h.excl
  cases m with
  | prune k l' hp =>
    exact ⟨he', { h.lru with
        idleInLru := fun k' x hx => h.lru.idleInLru k' x (hp.mem hx)
        lruIdleOrClosed := fun x hx => (h.lru.lruIdleOrClosed x hx).elim
          (fun ⟨k', hk'⟩ => (hp.keep hk').imp (fun h => ⟨k', h⟩) id) .inr },
      fun x hl => (h.leak x hl).elim
        (fun ⟨k', hk'⟩ => (hp.keep hk').elim (fun h => .inl ⟨k', h⟩) (fun hc => by rw [hl.2] at hc; cases hc)) .inr⟩
  | handOver w c k l hi _ hw =>
    have hmem := handOver_mem hi h.excl
    exact ⟨he', { h.lru with
        lruNodup := h.lru.lruNodup.erase c
        idleInLru := fun k' x hx => by
          obtain ⟨h1, h2⟩ := (hmem k' x).mp hx
          exact (List.mem_erase_of_ne h2).mpr (h.lru.idleInLru k' x h1)
        lruIdleOrClosed := fun x hx => by
          obtain ⟨hne, hm⟩ := (List.Nodup.mem_erase_iff h.lru.lruNodup).mp hx
          exact (h.lru.lruIdleOrClosed x hm).imp (fun ⟨k', hk'⟩ => ⟨k', (hmem k' x).mpr ⟨hk', hne⟩⟩) id },
      NoLeak_deliver { s with idle := upd s.idle k l, lru := s.lru.erase c } w c hw fun x hxc hl =>
        (h.leak x hl).imp (fun ⟨k', hk'⟩ => ⟨k', (hmem k' x).mpr ⟨hk', hxc⟩⟩) id⟩
  | toErr w hw =>
    exact ⟨he', h.lru.frame,
      fun x hlx => Placed_setWst s w .gotErr x (fun hd => by rw [hw] at hd; cases hd) (h.leak x hlx)⟩
  | dialDrop w k hk hd =>
    exact ⟨he', LruCore_decConns cfg _ k h.lru.frame,
      NoLeak_decConns cfg _ k (NoLeak_of_frame (s := s) rfl rfl rfl rfl rfl h.leak)⟩
  | create w c k hk hc hd =>
    refine ⟨he', (LruCore_create s c k hc h.excl h.lru).frame, fun x hlx => ?_⟩
    by_cases hx : x = c
    · subst hx; exact .inr (.inl List.mem_cons_self)
    · have hl : Live s x := ⟨by have := hlx.1; simpa [upd, hx] using this, by have := hlx.2; simpa [upd, hx] using this⟩
      exact (h.leak x hl).imp id (.imp (List.mem_cons_of_mem _) id)
  | wstSame w v hv =>
    exact ⟨he', h.lru.frame, fun x hlx => Placed_setWst s w v x (fun hd => (hv x).trans hd) (h.leak x hlx)⟩
  | release w c v hc hv =>
    exact ⟨he', h.lru.frame,
      NoLeak_toTransit _ c (NoLeakExcept_release s w c v (fun d hd => ((hc d).mp hd).symm) h.leak)⟩
  | deliverTransit w c hc _ hw =>
    exact ⟨he', h.lru.frame, NoLeak_deliver { s with transit := s.transit.erase c } w c hw
      (NoLeakExcept_transit_erase s c h.excl h.leak)⟩
  | transitFront c hc =>
    exact ⟨he', h.lru.frame, fun x hl => (h.leak x hl).imp id (.imp (mem_cons_erase hc x).mpr id)⟩
  | dup c k hc hcl hd =>
    -- the "dup idle pconn" branch is dead: what a routine holds is not listed, and not closed
    exact absurd hd (not_or.mpr ⟨fun hi => h.excl.idleNotTransit k c hi hc, fun hl =>
      (h.lru.lruIdleOrClosed c hl).elim (fun ⟨k', hk'⟩ => h.excl.idleNotTransit k' c hk' hc)
        (fun hx => by rw [hcl] at hx; cases hx)⟩)
  | addIdle c k hc hk _ _ _ hnl => exact (h.add hc hk hnl).1
  | closeT c =>
    exact ⟨he', LruCore_closeConn cfg _ c h.lru.frame,
      NoLeak_closeConn cfg _ c (NoLeakExcept_transit_erase s c h.excl h.leak)⟩
  | close c => exact h.close c
  | remove c hk hcl => exact h.remove c hk hcl
  | idleTimeout c hm =>
    exact ⟨he', LruCore_closeConn cfg _ c (LruCore_removeIdleLocked s c (lru_created s c h.excl h.lru hm) h.excl h.lru),
      NoLeak_closeConn cfg _ c (NoLeakExcept_removeIdleLocked s c h.excl (h.leak.except c))⟩
  | flush =>
    exact ⟨he', { h.lru with
        lruNodup := List.nodup_nil
        idleInLru := fun k c hc => nomatch hc
        lruIdleOrClosed := fun c hc => nomatch hc },
      fun x hlx => (h.leak x hlx).elim
        (fun hk => .inr (.inl (List.mem_append.mpr (.inl ((listedIdle_mem s x h.excl).mpr hk)))))
        (fun hp => .inr (hp.imp (fun hp => List.mem_append.mpr (.inr hp)) id))⟩
  | _ => exact ⟨he', h.lru.frame, h.leak⟩

end

theorem NoLeak_put_or_transit (cfg : Cfg) (s : St) (c : Conn) (k : Key) (hf : Free s c)
    (hk : s.ckey c = some k) (he : Excl s) (hl : LruCore s) (h : NoLeakExcept s c) :
    NoLeak (if (tryPut cfg s c k).2 = .ok then (tryPut cfg s c k).1
            else { (tryPut cfg s c k).1 with transit := c :: (tryPut cfg s c k).1.transit }) := by
  have ms := putT_moves cfg { s with transit := c :: s.transit } c k hk List.mem_cons_self
  simp only [List.erase_cons_head] at ms
  exact (ms.keeps Places_move ⟨Excl_toTransit s c hf (by simp [hk]) he, hl.frame, NoLeak_toTransit s c h⟩).leak

theorem NoLeak_init : NoLeak {} := by
  intro c hl; exact absurd rfl hl.1

theorem evictOldest_keeps_or_closes (cfg : Cfg) (s : St) (c : Conn) (k : Key) (hk : s.ckey c = some k)
    (h : c ∈ s.idle k) :
    c ∈ (evictOldest cfg s).idle k ∨ (evictOldest cfg s).closed c = true := by
  unfold evictOldest
  split
  · exact Or.inl h
  · next oldest _ =>
    by_cases hco : c = oldest
    · right
      subst hco
      simp only [removeIdleLocked_closed]
      exact (closeConn_closed cfg _ c c).mpr (Or.inr ⟨rfl, by simp [hk]⟩)
    · left
      apply removeIdleLocked_mem_of_ne _ _ _ _ hco
      simpa using h

theorem addIdle_lists_or_closes (cfg : Cfg) (s : St) (c : Conn) (k : Key) (hk : s.ckey c = some k) :
    c ∈ (addIdle cfg s c k).idle k ∨ (addIdle cfg s c k).closed c = true := by
  unfold addIdle
  simp only
  split
  · exact evictOldest_keeps_or_closes cfg _ c k hk (by simp [upd])
  · left; simp [upd]

/-- What `tryPutIdleConn` did with a connection it accepted, in any state: handed to a waiting request, listed
idle, (listed and then) closed by the `MaxIdleConns` eviction — or the connection was already
listed (the "dup" internal error, unreachable: the caller holds it). -/
theorem tryPut_ok_places (cfg : Cfg) (s : St) (c : Conn) (k : Key) (hk : s.ckey c = some k)
    (hok : (tryPut cfg s c k).2 = .ok) :
    (∃ w, (tryPut cfg s c k).1.wst w = .gotConn c) ∨ c ∈ (tryPut cfg s c k).1.idle k ∨
    (tryPut cfg s c k).1.closed c = true ∨ (s.closed c = false ∧ c ∈ s.lru) := by
  have sp := tryPut_spec cfg s c k
  generalize tryPut cfg s c k = r at sp hok ⊢
  revert hok
  cases sp with
  | refused e he | full e he => exact fun hok => absurd hok he
  | delivered w q => exact fun _ => .inl ⟨w, by simp⟩
  | dup hcl hc => exact fun _ => hc.elim (fun h => .inr (.inl h)) fun h => .inr (.inr (.inr ⟨hcl, h⟩))
  | added =>
    exact fun _ => (addIdle_lists_or_closes cfg { s with idleWait := upd s.idleWait k [] } c k hk).elim
      (fun h => .inr (.inl h)) fun h => .inr (.inr (.inl h))

end Req.Lemmas.C09PoolLeak
