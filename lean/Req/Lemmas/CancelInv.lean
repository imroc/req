import Req.Lemmas.CancelMeasure
/-!
The structural invariant of the lifecycle model (C08) and its preservation by every internal
action (`inv_act`) and every environment event (`inv_ev`).

Every transition writes a few fields of the state and every clause of the invariant reads a few.
A transition's new state is a literal record update (after `closeBody_eq`, and `inv_finish` for the
retry decision), so a clause that reads none of the written fields is the old clause up to
unfolding projections: `{ hi with … }` copies those and only the clauses named in it are argued.
Transitions that share a move (close the body, leave the attempt, wait for a connection, advance
within the request) share its lemma.
-/
namespace Req.Cancel

structure InvH1 (s : St) : Prop where
  infl : s.phase.inflight = true → s.res.conn = .owned ∨ s.res.conn = .closed
  body : s.phase.body = true → s.res.conn = .owned ∨ s.res.conn = .closed
  /-- an owned `persistConn` has its `readLoop` and `writeLoop` running, for an attempt that is going on -/
  owned : s.res.conn = .owned →
    s.res.reader = true ∧ s.res.writer = true ∧ (s.phase.inflight = true ∨ s.phase.body = true)
  /-- `writeLoop` has closed the request body by the time the request is written -/
  bodyClosed : (s.phase.body = true ∨ s.phase = .awaitingHeaders ∨ s.phase = .done ∨ s.phase = .retrySleep) →
    s.res.bodyOpen = false
  loops : (s.res.writer = true ∨ s.res.reader = true) → s.res.conn = .owned ∨ s.res.conn = .closed
  /-- a connection closed under a running attempt has `pc.canceledErr` set: what `h1RtReturn` and `h1BodyReadFail` report -/
  closedErr : s.res.conn = .closed → (s.phase.inflight = true ∨ s.phase.body = true) →
    s.res.connErr.isSome = true
  /-- the HTTP/2 and HTTP/3 resources are not in use -/
  unused : s.res.closing = false ∧ s.res.watch = false ∧ s.res.stream = .none ∧
    s.res.rtAbort = false ∧ s.res.pipeErr = false

structure InvH2 (s : St) : Prop where
  /-- an open request body has somebody who will close it: `doRequest`, the goroutine of `closeReqBodyLocked`, or
  the caller still waiting for a connection -/
  bodyHeld : s.res.bodyOpen = true → s.res.writer = true ∨ s.res.closing = true ∨ s.phase.preConn = true
  streamW : s.res.stream = .open → s.res.writer = true
  ownedW : s.res.conn = .owned → s.res.writer = true
  bodyW : s.phase.body = true → s.res.pipeErr = false → s.res.writer = true
  /-- a response pipe closed with an error has `cs.abortErr` recorded: what `h2BodyReadFail` reports -/
  pipeErrC : s.res.pipeErr = true → s.res.connErr.isSome = true
  unused : s.res.reader = false ∧ s.res.watch = false

structure InvH3 (s : St) : Prop where
  str : (s.phase.inflight = true ∨ s.phase.body = true) → s.res.stream = .open ∨ s.res.stream = .reset
  /-- an open request stream has its cancel watcher -/
  openW : s.res.stream = .open → s.res.watch = true
  writerS : s.res.writer = true → s.res.stream = .open ∨ s.res.stream = .reset
  bodyHeld : s.res.bodyOpen = true → s.res.writer = true ∨ s.phase.preConn = true
  ownedPh : s.res.conn = .owned → s.phase.inflight = true ∨ s.phase.body = true
  /-- the request is sent in full before the caller waits for the response: the body sender is gone -/
  sent : (s.phase = .awaitingHeaders ∨ s.phase.body = true) → s.res.writer = false
  noWH : s.phase ≠ .writingHeaders
  unused : s.res.reader = false ∧ s.res.closing = false

/-- nothing of the transport is engaged for the request -/
structure Idle (r : Res) : Prop where
  writer : r.writer = false
  reader : r.reader = false
  watch : r.watch = false
  connO : r.conn ≠ .owned
  connC : r.conn ≠ .closed

structure InvC (cfg : Cfg) (s : St) : Prop where
  /-- a request with a body: the body is open, or was closed exactly once -/
  closes : s.res.closes + b2n s.res.bodyOpen = if 0 < cfg.bodyChunks then 1 else 0
  /-- an error recorded on the connection / stream is the context's -/
  connErrCtx : ∀ e, s.res.connErr = some e → s.ctx = some e
  /-- a delivered connection sits in `wantConn.result` only while the caller still waits for one -/
  readyPre : s.res.conn = .ready → s.phase.preConn = true
  bgPre : s.res.conn = .bgDial → s.phase ≠ .waitConn
  /-- while the caller waits for a connection nothing of the transport works for the request -/
  pre : s.phase.preConn = true → Idle s.res

structure Inv (cfg : Cfg) (s : St) : Prop extends InvC cfg s where
  h1 : cfg.stack = .h1 → InvH1 s
  h2 : cfg.stack = .h2 → InvH2 s
  h3 : cfg.stack = .h3 → InvH3 s


macro "inv_fin" : tactic => `(tactic| simp_all (config := {decide := true}))

/-- closes the goals of `constructor` on `Inv`, given `hs : cfg.stack = _`; no proof uses it -/
macro "inv_stack" hs:ident : tactic => `(tactic| (
    constructor
    case h1 => intro h; first | (simp [$hs:ident] at h; done) | (constructor <;> inv_fin)
    case h2 => intro h; first | (simp [$hs:ident] at h; done) | (constructor <;> inv_fin)
    case h3 => intro h; first | (simp [$hs:ident] at h; done) | (constructor <;> inv_fin)
    all_goals inv_fin))

variable {cfg : Cfg} {s : St}

theorem Inv.mk1 (hs : cfg.stack = .h1) (c : InvC cfg s) (h : InvH1 s) : Inv cfg s :=
  { c with
    h1 := fun _ => h
    h2 := fun h' => nomatch hs.symm.trans h'
    h3 := fun h' => nomatch hs.symm.trans h' }

theorem Inv.mk2 (hs : cfg.stack = .h2) (c : InvC cfg s) (h : InvH2 s) : Inv cfg s :=
  { c with
    h1 := fun h' => nomatch hs.symm.trans h'
    h2 := fun _ => h
    h3 := fun h' => nomatch hs.symm.trans h' }

theorem Inv.mk3 (hs : cfg.stack = .h3) (c : InvC cfg s) (h : InvH3 s) : Inv cfg s :=
  { c with
    h1 := fun h' => nomatch hs.symm.trans h'
    h2 := fun h' => nomatch hs.symm.trans h'
    h3 := fun _ => h }

theorem InvC.bodyCfg (hi : InvC cfg s) (h : s.res.bodyOpen = true) : 0 < cfg.bodyChunks := by
  have := hi.closes
  rw [h] at this
  split at this
  · assumption
  · simp [b2n] at this

theorem or_ctx {c x : Option CtxErr} (h : ∀ e, c = some e → x = some e) (e : CtxErr)
    (he : c.or x = some e) : x = some e := by
  cases c with
  | none => exact he
  | some e' => exact Option.some.inj he ▸ h e' rfl

/-- the invariant does not tell `done` from `retrySleep`, nor read result and attempt count -/
theorem inv_over {p q : Phase} {c : Option CtxErr} {re re' : Result} {n n' sd : Nat} {rs : Res}
    (hp : p = .done ∨ p = .retrySleep) (hq : q = .done ∨ q = .retrySleep)
    (h : Inv cfg ⟨p, c, re, n, sd, rs⟩) : Inv cfg ⟨q, c, re', n', sd, rs⟩ := by
  rcases hp with rfl | rfl <;> rcases hq with rfl | rfl <;> exact
    { h with
      bgPre := fun _ => nofun
      h1 := fun hs => { h.h1 hs with bodyClosed := fun _ => (h.h1 hs).bodyClosed (by simp) }
      h2 := fun hs => { h.h2 hs with }
      h3 := fun hs => { h.h3 hs with sent := fun h => h.elim nofun nofun, noWH := nofun } }

theorem inv_finish (r : Result) (h : Inv cfg { s with phase := .done }) : Inv cfg (finish cfg s r) := by
  unfold finish; split <;> exact inv_over (.inl rfl) (by simp) h

theorem inv_finishBody (r : Result) (h : Inv cfg { s with phase := .done }) :
    Inv cfg (finishBody cfg s r) := by
  unfold finishBody; split
  · exact inv_finish r h
  · exact inv_over (.inl rfl) (.inl rfl) h

theorem inv_closeBody (hi : Inv cfg s) :
    Inv cfg { s with res := s.res.closeBody } := by
  rw [closeBody_eq]
  exact { hi with
    pre := fun h => { hi.pre h with }
    h1 := fun hs => { hi.h1 hs with bodyClosed := fun _ => rfl }
    h2 := fun hs => { hi.h2 hs with bodyHeld := nofun }
    h3 := fun hs => { hi.h3 hs with bodyHeld := nofun } }

/-- the caller gives up waiting for a connection: it closes the body and leaves; a connection it was
handed and has not picked up is not left with it -/
theorem inv_giveUp (hi : Inv cfg s) (hp : s.phase.preConn = true) {c : Conn} (ho : c ≠ .owned)
    (hr : c ≠ .ready) : Inv cfg { s with phase := .done, res := { s.res.closeBody with conn := c } } := by
  have p := hi.pre hp
  have hi' := inv_closeBody hi
  rw [closeBody_eq] at hi' ⊢
  exact { hi' with
    readyPre := fun h => absurd h hr
    bgPre := fun _ => nofun
    pre := nofun
    h1 := fun hs => { hi'.h1 hs with
      infl := nofun
      body := nofun
      owned := fun h => absurd h ho
      bodyClosed := fun _ => rfl
      loops := by simp [p.writer, p.reader]
      closedErr := fun _ h => h.elim nofun nofun }
    h2 := fun hs => { hi'.h2 hs with
      bodyHeld := nofun
      ownedW := fun h => absurd h ho
      bodyW := nofun }
    h3 := fun hs => { hi'.h3 hs with
      str := fun h => h.elim nofun nofun
      bodyHeld := nofun
      ownedPh := fun h => absurd h ho
      sent := fun _ => p.writer
      noWH := nofun } }

/-- the caller leaves a phase after the connection wait; nothing of the attempt's resources moves -/
theorem inv_h2_return (hs : cfg.stack = .h2) (hi : Inv cfg s) (hp : s.phase.preConn = false) :
    Inv cfg { s with phase := .done } :=
  .mk2 hs
    { hi with
      readyPre := fun h => by simp [hi.readyPre h] at hp
      bgPre := fun _ => nofun
      pre := nofun }
    { hi.h2 hs with
      bodyHeld := fun h => by simpa [hp] using (hi.h2 hs).bodyHeld h
      bodyW := nofun }

/-- h1 `pc.cancelRequest`: the cause is recorded and the connection closed (by the caller, or by the
`readLoop`, which then leaves) -/
theorem inv_h1_cancel (hs : cfg.stack = .h1) (hi : Inv cfg s) (hc : s.ctx.isSome = true)
    (hp : s.phase.preConn = false) {r : Bool} :
    Inv cfg { s with res := { s.res with connErr := s.ctx, conn := .closed, reader := r } } :=
  .mk1 hs
    { hi with
      connErrCtx := fun _ h => h
      readyPre := nofun
      bgPre := nofun
      pre := fun h => by simp [hp] at h }
    { hi.h1 hs with
      infl := fun _ => .inr rfl
      body := fun _ => .inr rfl
      owned := nofun
      loops := fun _ => .inr rfl
      closedErr := fun _ _ => hc }

/-- h1: once the connection is closed nothing depends on which of `writeLoop`, `readLoop` still runs -/
theorem inv_h1_loops (hs : cfg.stack = .h1) (hi : Inv cfg s) (hc : s.res.conn = .closed) {w r : Bool} :
    Inv cfg { s with res := { s.res with writer := w, reader := r } } :=
  .mk1 hs
    { hi with pre := fun h => absurd hc (hi.pre h).connC }
    { hi.h1 hs with
      owned := by simp [hc]
      loops := fun _ => .inr hc }

/-- h1: the caller returns from (or fails a body read on) the closed connection -/
theorem inv_h1_return (hs : cfg.stack = .h1) (hi : Inv cfg s) (hc : s.res.conn = .closed)
    (hb : s.res.bodyOpen = false) : Inv cfg { s with phase := .done } :=
  .mk1 hs
    { hi with
      readyPre := by simp [hc]
      bgPre := fun _ => nofun
      pre := nofun }
    { hi.h1 hs with
      infl := nofun
      body := nofun
      owned := by simp [hc]
      bodyClosed := fun _ => hb
      closedErr := fun _ h => h.elim nofun nofun }

/-- h3: the caller returns; the stream slot is given back (or the connection dropped) -/
theorem inv_h3_return (hs : cfg.stack = .h3) (hi : Inv cfg s) (hp : s.phase.preConn = false) {c : Conn}
    (ho : c ≠ .owned) (hr : c = .ready → s.res.conn = .ready) :
    Inv cfg { s with phase := .done, res := { s.res with conn := c } } :=
  .mk3 hs
    { hi with
      readyPre := fun h => by simp [hi.readyPre (hr h)] at hp
      bgPre := fun _ => nofun
      pre := nofun }
    { hi.h3 hs with
      str := fun h => h.elim nofun nofun
      bodyHeld := fun h => by simpa [hp] using (hi.h3 hs).bodyHeld h
      ownedPh := fun h => absurd h ho
      sent := fun h => h.elim nofun nofun
      noWH := nofun }

/-- h3 `sendRequestBody` ends -/
theorem inv_h3_writerStop (hs : cfg.stack = .h3) (hi : Inv cfg s) (hb : s.res.bodyOpen = false) :
    Inv cfg { s with res := { s.res with writer := false } } :=
  .mk3 hs
    { hi with pre := fun h => { hi.pre h with writer := rfl } }
    { hi.h3 hs with
      writerS := nofun
      bodyHeld := by simp [hb]
      sent := fun _ => rfl }

theorem inv_act (a : Act) (hi : Inv cfg s) (hg : guard cfg s a = true) : Inv cfg (apply cfg s a) := by
  cases a <;>
    simp only [guard, Bool.and_eq_true, beq_iff_eq, Bool.not_eq_true', Bool.or_eq_true] at hg <;>
    simp only [apply]
  case deliver =>
    rcases stack_cases cfg.stack with hs | hs | hs <;> simp only [startInflight, hs]
    · exact .mk1 hs
        { hi with readyPre := nofun, bgPre := nofun, pre := nofun }
        { hi.h1 hs with
          infl := fun _ => .inl rfl
          body := fun _ => .inl rfl
          owned := fun _ => ⟨rfl, rfl, .inl rfl⟩
          bodyClosed := nofun
          loops := fun _ => .inl rfl
          closedErr := nofun }
    · exact .mk2 hs
        { hi with readyPre := nofun, bgPre := nofun, pre := nofun }
        { hi.h2 hs with
          bodyHeld := fun _ => .inl rfl
          streamW := fun _ => rfl
          ownedW := fun _ => rfl
          bodyW := fun _ _ => rfl }
    · split <;> rename_i hb <;> exact .mk3 hs
        { hi with readyPre := nofun, bgPre := nofun, pre := nofun }
        { hi.h3 hs with
          str := fun _ => .inl rfl
          openW := fun _ => rfl
          writerS := fun _ => .inl rfl
          bodyHeld := fun h => .inl (decide_eq_true (hi.bodyCfg h))
          ownedPh := fun _ => .inl rfl
          sent := by simp [hb]
          noWH := nofun }
  case preConnCancel =>
    obtain ⟨hpre, -⟩ := hg
    exact inv_finish _ (inv_giveUp hi hpre (by simp [(hi.pre hpre).connO]) (by simp))
  case h1RtCancel =>
    obtain ⟨⟨⟨hs, hinf⟩, hctx⟩, -⟩ := hg
    exact inv_h1_cancel hs hi hctx (infl_not_pre hinf)
  case h1WriterExit =>
    obtain ⟨⟨hs, -⟩, hcl⟩ := hg
    exact inv_h1_loops hs hi hcl
  case h1WriterFail =>
    obtain ⟨⟨⟨hs, -⟩, hcl⟩, -⟩ := hg
    exact inv_h1_loops hs (inv_closeBody hi) (by simpa using hcl)
  case h1ReaderStop =>
    obtain ⟨⟨hs, -⟩, hcl⟩ := hg
    exact inv_h1_loops hs hi hcl
  case h1RtReturn =>
    obtain ⟨⟨⟨hs, -⟩, hc⟩, -⟩ := hg
    have hi' := inv_closeBody hi
    exact inv_finish _ (inv_h1_return hs hi' (by simpa using hc) (by simp))
  case h1ReaderCancel =>
    obtain ⟨⟨⟨⟨hs, hbody⟩, -⟩, hctx⟩, -⟩ := hg
    exact inv_h1_cancel hs hi hctx (body_not_pre hbody)
  case h1BodyReadFail =>
    obtain ⟨⟨hs, hb⟩, hc⟩ := hg
    exact inv_finishBody _ (inv_h1_return hs hi hc ((hi.h1 hs).bodyClosed (.inl hb)))
  case h2RtCancel =>
    obtain ⟨⟨⟨hs, hinf⟩, hctx⟩, -⟩ := hg
    exact .mk2 hs
      { hi with
        connErrCtx := or_ctx hi.connErrCtx
        pre := fun h => (pre_infl h hinf).elim }
      { hi.h2 hs with
        bodyHeld := fun (h : s.res.bodyOpen = true) => .inr (.inl (by simp [h]))
        pipeErrC := fun _ => by simp [hctx] }
  case h2Closer =>
    obtain ⟨hs, -⟩ := hg
    rw [closeBody_eq]
    exact .mk2 hs
      { hi with
        pre := fun h => { hi.pre h with } }
      { hi.h2 hs with
        bodyHeld := nofun }
  case h2RtReturn =>
    obtain ⟨⟨⟨hs, hinf⟩, -⟩, -⟩ := hg
    exact inv_finish _ (inv_h2_return hs hi (infl_not_pre hinf))
  case h2RtAbortReturn =>
    obtain ⟨⟨⟨⟨hs, hinf⟩, -⟩, -⟩, -⟩ := hg
    exact inv_finish _ (inv_h2_return hs hi (infl_not_pre hinf))
  case h2BodyReadFail =>
    obtain ⟨⟨hs, hbody⟩, -⟩ := hg
    exact inv_finishBody _ (inv_h2_return hs hi (body_not_pre hbody))
  case h2WriterAbort =>
    obtain ⟨⟨⟨hs, hw⟩, hor⟩, -⟩ := hg
    have hi' := inv_closeBody hi
    rw [closeBody_eq] at hi' ⊢
    exact .mk2 hs
      { hi' with
        connErrCtx := or_ctx hi.connErrCtx
        readyPre := by simpa using hi.readyPre
        bgPre := by simpa using hi.bgPre
        pre := fun h => by simp [(hi.pre h).writer] at hw }
      { hi'.h2 hs with
        bodyHeld := nofun
        streamW := by simp
        ownedW := by simp
        bodyW := fun _ => nofun
        pipeErrC := fun _ => by simpa [Or.comm] using hor }
  case h3WatchFire =>
    obtain ⟨⟨hs, hw⟩, -⟩ := hg
    exact .mk3 hs
      { hi with pre := fun h => by simp [(hi.pre h).watch] at hw }
      { hi.h3 hs with
        str := fun h => .inr (by simpa using (hi.h3 hs).str h)
        openW := by simp
        writerS := fun h => .inr (by simpa using (hi.h3 hs).writerS h) }
  case h3WriterStop =>
    obtain ⟨⟨hs, -⟩, -⟩ := hg
    exact inv_h3_writerStop hs (inv_closeBody hi) (by simp)
  case h3RtReturn =>
    obtain ⟨⟨⟨hs, hinf⟩, -⟩, -⟩ := hg
    exact inv_finish _ (inv_h3_return hs hi (infl_not_pre hinf) (by simp) (by simp))
  case h3BodyReadFail =>
    obtain ⟨⟨hs, hbody⟩, -⟩ := hg
    exact inv_finishBody _ (inv_h3_return hs hi (body_not_pre hbody) (by simp) (by simp))
  case sleepWake =>
    obtain ⟨ph, c, re, n, sd, rs⟩ := s
    obtain ⟨⟨hph, -⟩, -⟩ := hg
    cases (hph : ph = .retrySleep)
    exact inv_over (.inr rfl) (.inl rfl) hi

theorem inv_fresh (c : Option CtxErr) (re : Result) (n sd : Nat) :
    Inv cfg ⟨.waitConn, c, re, n, sd, freshRes cfg⟩ where
  closes := by by_cases h : 0 < cfg.bodyChunks <;> simp [freshRes, h]
  connErrCtx := fun _ => nofun
  readyPre := nofun
  bgPre := nofun
  pre := fun _ => ⟨rfl, rfl, rfl, nofun, nofun⟩
  h1 := fun _ =>
    { infl := nofun, body := nofun, owned := nofun, bodyClosed := nofun
      loops := fun h => h.elim nofun nofun, closedErr := nofun, unused := ⟨rfl, rfl, rfl, rfl, rfl⟩ }
  h2 := fun _ =>
    { bodyHeld := fun _ => .inr (.inr rfl), streamW := nofun, ownedW := nofun, bodyW := nofun
      pipeErrC := nofun, unused := ⟨rfl, rfl⟩ }
  h3 := fun _ =>
    { str := fun h => h.elim nofun nofun, openW := nofun, writerS := nofun, bodyHeld := fun _ => .inr rfl
      ownedPh := nofun, sent := fun h => h.elim nofun nofun, noWH := nofun
      unused := ⟨rfl, rfl⟩ }

theorem inv_init (cfg : Cfg) : Inv cfg (init cfg) := inv_fresh ..

/-- while the caller waits for a connection, its claim moves among none / dialing / delivered -/
theorem inv_pre_conn (hi : Inv cfg s) (hp : s.phase.preConn = true) {c : Conn}
    (hc : c = .ready ∨ c = .bgDial) (hw : c = .bgDial → s.phase ≠ .waitConn) :
    Inv cfg { s with res := { s.res with conn := c } } := by
  have p := hi.pre hp
  rcases hc with rfl | rfl <;> exact
    { hi with
      readyPre := fun _ => hp
      bgPre := hw
      pre := fun h => { p with connO := nofun, connC := nofun }
      h1 := fun hs => { hi.h1 hs with
        infl := fun h => (pre_infl hp h).elim
        body := fun h => (pre_body hp h).elim
        owned := nofun
        loops := by simp [p.writer, p.reader]
        closedErr := nofun }
      h2 := fun hs => { hi.h2 hs with ownedW := nofun }
      h3 := fun hs => { hi.h3 hs with ownedPh := nofun } }

/-- the connection wait moves on to the dial / the handshake -/
theorem inv_pre_phase (hi : Inv cfg s) (hp : s.phase.preConn = true) {q : Phase}
    (hq : q = .dialing ∨ q = .handshaking) : Inv cfg { s with phase := q } := by
  have p := hi.pre hp
  rcases hq with rfl | rfl <;> exact
    { hi with
      readyPre := fun _ => rfl
      bgPre := fun _ => nofun
      pre := fun _ => p
      h1 := fun hs => { hi.h1 hs with
        infl := nofun
        body := nofun
        owned := fun h => absurd h p.connO
        bodyClosed := nofun
        closedErr := fun _ h => h.elim nofun nofun }
      h2 := fun hs => { hi.h2 hs with
        bodyHeld := fun _ => .inr (.inr rfl)
        bodyW := nofun }
      h3 := fun hs => { hi.h3 hs with
        str := fun h => h.elim nofun nofun
        bodyHeld := fun _ => .inr rfl
        ownedPh := fun h => absurd h p.connO
        sent := fun h => h.elim nofun nofun
        noWH := nofun } }

/-- the caller moves on among the phases of sending the request -/
theorem inv_infl_phase (hi : Inv cfg s) (hinf : s.phase.inflight = true) {q : Phase}
    (hq : q.inflight = true)
    (hb : cfg.stack = .h1 → q = .awaitingHeaders → s.res.bodyOpen = false)
    (hw : cfg.stack = .h3 → q ≠ .writingHeaders ∧ (q = .awaitingHeaders → s.res.writer = false)) :
    Inv cfg { s with phase := q } :=
  { hi with
    readyPre := fun h => (pre_infl (hi.readyPre h) hinf).elim
    bgPre := fun _ (h : q = _) => by subst h; cases hq
    pre := fun h => (pre_infl h hq).elim
    h1 := fun hs => { hi.h1 hs with
      infl := fun _ => (hi.h1 hs).infl hinf
      body := fun h => (infl_body hq h).elim
      owned := fun h => ⟨((hi.h1 hs).owned h).1, ((hi.h1 hs).owned h).2.1, .inl hq⟩
      bodyClosed := fun h => by
        rcases h with h | h | h | h
        · exact (infl_body hq h).elim
        · exact hb hs h
        all_goals have h : q = _ := h; subst h; cases hq
      closedErr := fun hc _ => (hi.h1 hs).closedErr hc (.inl hinf) }
    h2 := fun hs => { hi.h2 hs with
      bodyHeld := fun h => ((hi.h2 hs).bodyHeld h).imp_right (.imp_right fun p => (pre_infl p hinf).elim)
      bodyW := fun h => (infl_body hq h).elim }
    h3 := fun hs => { hi.h3 hs with
      str := fun _ => (hi.h3 hs).str (.inl hinf)
      bodyHeld := fun h => ((hi.h3 hs).bodyHeld h).imp_right fun p => (pre_infl p hinf).elim
      ownedPh := fun _ => .inl hq
      sent := fun h => h.elim (hw hs).2 fun h => (infl_body hq h).elim
      noWH := (hw hs).1 } }

/-- the attempt is over on h1: both loops are gone, the connection goes to the pool or is closed -/
theorem inv_h1_end (hs : cfg.stack = .h1) (hi : Inv cfg s) (hb : s.res.bodyOpen = false) {c : Conn}
    (hc : c = .pooled ∨ c = .closed) :
    Inv cfg { s with phase := .done, res := { s.res with conn := c, writer := false, reader := false } } := by
  rcases hc with rfl | rfl <;> exact .mk1 hs
    { hi with readyPre := nofun, bgPre := nofun, pre := nofun }
    { hi.h1 hs with
      infl := nofun
      body := nofun
      owned := nofun
      bodyClosed := fun _ => hb
      loops := fun h => h.elim nofun nofun
      closedErr := fun _ h => h.elim nofun nofun }

/-- the attempt is over on h2: `cleanupWriteRequest` has closed the body and forgotten the stream -/
theorem inv_h2_end (hs : cfg.stack = .h2) (hi : Inv cfg s) :
    Inv cfg { s with phase := .done,
                     res := { s.res.closeBody with conn := .pooled, writer := false, stream := .closed } } := by
  have hi' := inv_closeBody hi
  rw [closeBody_eq] at hi' ⊢
  exact .mk2 hs
    { hi' with readyPre := nofun, bgPre := nofun, pre := nofun }
    { hi'.h2 hs with
      bodyHeld := nofun
      streamW := nofun
      ownedW := nofun
      bodyW := nofun }

/-- the attempt is over on h3 (the request was sent in full): stream and watcher are gone -/
theorem inv_h3_end (hs : cfg.stack = .h3) (hi : Inv cfg s) (hw : s.res.writer = false)
    (hp : s.phase.preConn = false) {c : Conn} (hc : c = .pooled ∨ c = .closed) :
    Inv cfg { s with phase := .done, res := { s.res with conn := c, watch := false, stream := .closed } } := by
  rcases hc with rfl | rfl <;> exact .mk3 hs
    { hi with readyPre := nofun, bgPre := nofun, pre := nofun }
    { hi.h3 hs with
      str := fun h => h.elim nofun nofun
      openW := nofun
      writerS := by simp [hw]
      bodyHeld := fun h => by simpa [hw, hp] using (hi.h3 hs).bodyHeld h
      ownedPh := nofun
      sent := fun _ => hw
      noWH := nofun }

/-- the caller goes on to read (the next chunk of) the response body -/
theorem inv_body_phase (hi : Inv cfg s) (hph : s.phase = .awaitingHeaders ∨ s.phase.body = true)
    (hc : s.res.conn = .owned) (hw : cfg.stack = .h2 → s.res.writer = true)
    {j : Nat} :
    Inv cfg { s with phase := .readingBody j } :=
  have hp := ah_or_body_not_pre hph
  { hi with
    readyPre := by simp [hc]
    bgPre := fun _ => nofun
    pre := nofun
    h1 := fun hs => { hi.h1 hs with
      infl := nofun
      body := fun _ => .inl hc
      owned := fun h => ⟨((hi.h1 hs).owned h).1, ((hi.h1 hs).owned h).2.1, .inr rfl⟩
      bodyClosed := fun _ => (hi.h1 hs).bodyClosed (hph.elim (fun h => .inr (.inl h)) .inl)
      closedErr := by simp [hc] }
    h2 := fun hs => { hi.h2 hs with
      bodyHeld := fun h => by simpa [hp] using (hi.h2 hs).bodyHeld h
      bodyW := fun _ _ => hw hs }
    h3 := fun hs => { hi.h3 hs with
      str := fun _ => (hi.h3 hs).str (hph.elim (fun h => .inl (h ▸ rfl)) .inr)
      bodyHeld := fun h => by simpa [hp] using (hi.h3 hs).bodyHeld h
      ownedPh := fun _ => .inr rfl
      sent := fun _ => (hi.h3 hs).sent hph
      noWH := nofun } }

theorem inv_completeOk (hi : Inv cfg s) (hph : s.phase = .awaitingHeaders ∨ s.phase.body = true) :
    Inv cfg (completeOk cfg s) := by
  unfold completeOk
  rcases stack_cases cfg.stack with hs | hs | hs <;> simp only [hs] <;> refine inv_finish _ ?_
  · exact inv_h1_end hs hi ((hi.h1 hs).bodyClosed (hph.elim (fun h => .inr (.inl h)) .inl)) (.inl rfl)
  · exact inv_h2_end hs hi
  · exact inv_h3_end hs hi ((hi.h3 hs).sent hph) (ah_or_body_not_pre hph) (.inl rfl)

theorem inv_ev (e : Ev) (hi : Inv cfg s) (hg : evGuard cfg s e = true) : Inv cfg (evApply cfg s e) := by
  cases e <;>
    simp only [evGuard, Bool.and_eq_true, beq_iff_eq, Bool.not_eq_true', Bool.or_eq_true, bne_iff_ne,
      ne_eq] at hg <;>
    simp only [evApply]
  case cancel e =>
    exact { hi with
      connErrCtx := fun e' h => by simp [hi.connErrCtx e' h] at hg
      h1 := fun hs => { hi.h1 hs with }
      h2 := fun hs => { hi.h2 hs with }
      h3 := fun hs => { hi.h3 hs with } }
  case connIdle =>
    obtain ⟨hwait, -⟩ := hg
    exact inv_pre_conn hi (hwait ▸ rfl) (.inl rfl) nofun
  case dialStart =>
    obtain ⟨hwait, -⟩ := hg
    exact inv_pre_conn (inv_pre_phase hi (hwait ▸ rfl) (.inl rfl)) rfl (.inr rfl) fun _ => nofun
  case hsDone =>
    obtain ⟨-, hhs⟩ := hg
    exact inv_pre_conn hi (hhs ▸ rfl) (.inl rfl) nofun
  case dialDone =>
    obtain ⟨hc, hh⟩ := hg
    split
    · rename_i hd
      have hp : s.phase.preConn = true := eq_of_beq hd ▸ rfl
      split
      · exact inv_pre_phase hi hp (.inr rfl)
      · exact inv_pre_conn hi hp (.inl rfl) nofun
    · rename_i hd
      exact { hi with
        readyPre := nofun
        bgPre := nofun
        pre := fun h => by
          rcases preConn_cases h with h | h | h
          · exact (hi.bgPre hc h).elim
          · simp [show s.phase = _ from h] at hd
          · exact (hh h).elim
        h1 := fun hs => { hi.h1 hs with
          infl := fun h => by simpa [hc] using (hi.h1 hs).infl h
          body := fun h => by simpa [hc] using (hi.h1 hs).body h
          owned := nofun
          loops := fun h => by simpa [hc] using (hi.h1 hs).loops h
          closedErr := nofun }
        h2 := fun hs => { hi.h2 hs with ownedW := nofun }
        h3 := fun hs => { hi.h3 hs with ownedPh := nofun } }
  case gotHeaders =>
    obtain ⟨⟨⟨⟨hph, hc⟩, -⟩, -⟩, h2w⟩ := hg
    split
    · exact inv_body_phase hi (.inl hph) hc fun hs => (h2w.resolve_left (by simp [hs])).1
    · exact inv_completeOk hi (.inl hph)
  case gotBody =>
    obtain ⟨⟨⟨⟨hb, hc⟩, -⟩, h2w⟩, -⟩ := hg
    split
    · split
      · exact inv_body_phase hi (.inr hb) hc fun hs => (h2w.resolve_left (by simp [hs])).1
      · exact inv_completeOk hi (.inr hb)
    · exact hi
  case wrote =>
    obtain ⟨⟨⟨⟨-, -⟩, hw⟩, -⟩, -⟩ := hg
    split
    · rename_i hph
      have hinf : s.phase.inflight = true := hph ▸ rfl
      have hi' : Inv cfg { s with res := if cfg.stack == .h2 then { s.res with stream := .open } else s.res } := by
        split
        · rename_i h
          exact .mk2 (eq_of_beq h) { hi with pre := fun h => (pre_infl h hinf).elim }
            { hi.h2 (eq_of_beq h) with streamW := fun _ => hw }
        · exact hi
      split
      · exact inv_infl_phase hi' hinf rfl (fun _ => nofun) fun _ => ⟨nofun, nofun⟩
      · rename_i hb
        exact inv_infl_phase hi' hinf rfl
          (fun hs _ => by rw [hs]; exact Bool.eq_false_iff.2 fun h => hb (hi.bodyCfg h))
          fun hs => absurd hph (hi.h3 hs).noWH
    · rename_i i hph
      have hinf : s.phase.inflight = true := hph ▸ rfl
      split
      · exact inv_infl_phase hi hinf rfl (fun _ => nofun) fun _ => ⟨nofun, nofun⟩
      · rcases stack_cases cfg.stack with hs | hs | hs <;> simp only [hs]
        · exact inv_infl_phase (inv_closeBody hi) hinf rfl (fun _ _ => by simp)
            fun h => nomatch hs.symm.trans h
        · exact inv_infl_phase hi hinf rfl (fun h => nomatch hs.symm.trans h) fun h => nomatch hs.symm.trans h
        · exact inv_infl_phase
            (inv_h3_writerStop hs (inv_closeBody hi) (by simp))
            hinf rfl (fun h => nomatch hs.symm.trans h) fun _ => ⟨nofun, fun _ => rfl⟩
    · exact hi
  case attemptFails =>
    obtain ⟨⟨⟨⟨⟨hph, hc⟩, -⟩, -⟩, -⟩, -⟩ := hg
    have hi' := inv_closeBody hi
    have hp : s.phase.preConn = false := hph ▸ rfl
    rcases stack_cases cfg.stack with hs | hs | hs <;> simp only [hs] <;> refine inv_finish _ ?_
    · exact inv_h1_end hs hi' (by simp) (.inr rfl)
    · rw [show s.res.closeBody.conn = .owned by simp [hc]]
      exact inv_h2_end hs hi
    · exact inv_h3_end hs (inv_h3_writerStop hs hi' (by simp)) rfl hp (.inr rfl)
  case sleepElapse =>
    obtain ⟨-, hr⟩ := hg
    simp only [Res.released, Bool.and_eq_true, Bool.not_eq_true', bne_iff_ne, ne_eq] at hr
    obtain ⟨⟨-, ho⟩, hrd⟩ := hr
    split
    · -- the next attempt starts and fails `Transport.roundTrip`'s first context check: a fresh attempt that gives up at once
      exact inv_finish _ (inv_giveUp (inv_fresh s.ctx s.result s.attempt (s.sleepsDone + 1)) rfl ho hrd)
    · exact inv_fresh ..
end Req.Cancel
