import Req.Lemmas.C03H2Read
/-!
C03 — HTTP/2: whole runs (`H2X.run`: frames, connection events, caller reads and body close in any
order): the stream part of a step, `run_ind` / `Inv.run_ind`, the one induction along a run from which
every later theorem about runs is an instance, and the invariant along every run.
-/
namespace Req.C03
open Req.Proto Req.C02

-- `ese` = `endStreamError`, `ce` = `connError`, `es` = `endStream`
theorem ese_readClosed (s : H2Stream) (e : H2Err) : (s.endStreamError e).readClosed = s.readClosed := by
  simp [H2Stream.endStreamError, abort_eq]
theorem ce_readClosed (s : H2Stream) : s.connError.readClosed = s.readClosed := by
  unfold H2Stream.connError; simp only []; split <;> simp [abort_eq]
theorem ese_connDead (s : H2Stream) (e : H2Err) : (s.endStreamError e).connDead = s.connDead := by
  simp [H2Stream.endStreamError]
theorem es_connDead (s : H2Stream) : s.endStream.connDead = s.connDead := by
  unfold H2Stream.endStream; split <;> rfl
theorem ce_connDead (s : H2Stream) : s.connError.connDead = true := by
  unfold H2Stream.connError; simp only []; split <;> simp

theorem step_st (x : H2X) (e : H2XEv) :
    (x.step e).st = match e with
      | .headers fs es => x.st.processHeaders fs es
      | .data p pad es => x.st.processData p pad es
      | .rst _ => x.st.processRst
      | .goAway last _ => if x.st.connDead then x.st else if x.sid ≤ last then x.st else x.st.abort .connProto
      | .connLost => x.st.connError := by
  cases e with
  | headers fs es => rfl
  | data p pad es => rfl
  | rst c => rfl
  | connLost => rfl
  | goAway last code =>
    cases hc : x.st.connDead with
    | true => simp only [H2X.step, hc, if_true]
    | false =>
      simp only [H2X.step, hc, Bool.false_eq_true, if_false]
      by_cases hl : x.sid ≤ last <;> simp only [hl, if_true, if_false]

theorem Closed.step {E : Bool} {R : H2Stream → H2Stream → Prop} (c : Closed E R) {x : H2X}
    (hres : x.st.pastHeaders = false → x.st.res = none) (e : H2XEv) (hE : e.noES = false → E = true) :
    R x.st (x.step e).st := by
  rw [step_st]
  cases e with
  | headers fs es => exact c.processHeaders hres fs es fun h => hE (by simp [H2XEv.noES, h])
  | data p pad es => exact c.processData _ p pad es fun h => hE (by simp [H2XEv.noES, h])
  | rst c' => simp only [H2Stream.processRst]; split; exact c.refl _; exact c.abort _ _
  | connLost => exact c.connError _
  | goAway last code =>
    simp only []
    split
    · exact c.refl _
    · split
      · exact c.refl _
      · exact c.abort _ _

theorem Inv.step {x : H2X} {O D : Bytes} (h : Inv x.st O D) (e : H2XEv) :
    Inv (x.step e).st O (D ++ dataOf [e]) := by
  rw [step_st]
  cases e with
  | headers fs es => simpa [dataOf] using h.processHeaders fs es
  | data p pad es => simpa [dataOf] using h.processData p pad es
  | rst c => simpa [dataOf] using h.processRst
  | connLost => simpa [dataOf] using h.connError
  | goAway last code =>
    simp only [dataOf, List.append_nil]
    split
    · exact h
    · split
      · exact h
      · exact h.abort _ (by simp)

theorem dataOf_cons (e : H2XEv) (evs : List H2XEv) : dataOf (e :: evs) = dataOf [e] ++ dataOf evs := by
  cases e <;> simp [dataOf]

theorem dataOf_append (a b : List H2XEv) : dataOf (a ++ b) = dataOf a ++ dataOf b := by
  induction a with
  | nil => simp [dataOf]
  | cons e a ih => rw [List.cons_append, dataOf_cons, ih, dataOf_cons e a, List.append_assoc]

theorem evsOf_append (a b : List H2XOp) : evsOf (a ++ b) = evsOf a ++ evsOf b := by
  induction a with
  | nil => rfl
  | cons o a ih => cases o <;> simp [evsOf, ih]

theorem outOf_append (a b : List (Option (Bytes × Option H2Err))) : outOf (a ++ b) = outOf a ++ outOf b := by
  induction a with
  | nil => rfl
  | cons o a ih =>
    cases o with
    | none => simp [outOf, ih]
    | some v => obtain ⟨d, e⟩ := v; simp [outOf, ih]

theorem run_read_none (x : H2X) (k : Nat) (ops : List H2XOp) (h : x.st.read k = none) :
    x.run (.read k :: ops) = (none :: (x.run ops).1, (x.run ops).2) := by
  simp [H2X.run, h]

theorem run_read_some (x : H2X) (k : Nat) (ops : List H2XOp) (o : Bytes × Option H2Err) (st' : H2Stream)
    (h : x.st.read k = some (o, st')) :
    x.run (.read k :: ops) =
      (some o :: (({ x with st := st' } : H2X).run ops).1, (({ x with st := st' } : H2X).run ops).2) := by
  simp [H2X.run, h]

/-- The induction along a run.  `Q y O D rest` speaks of a state `y` reached on the way, the bytes
handed out (`O`) and the DATA received (`D`) so far, and the operations still to come; it is carried
over every event, body close and read, and every read shows the caller something in `φ`. -/
theorem run_ind {φ : Option (Bytes × Option H2Err) → Prop} {Q : H2X → Bytes → Bytes → List H2XOp → Prop}
    (hev : ∀ (y : H2X) O D e rest, Q y O D (.ev e :: rest) → Q (y.step e) O (D ++ dataOf [e]) rest)
    (hcl : ∀ (y : H2X) O D rest, Q y O D (.closeBody :: rest) → Q y.closeBody O D rest)
    (hbl : ∀ (y : H2X) O D k rest, y.st.read k = none → Q y O D (.read k :: rest) → φ none ∧ Q y O D rest)
    (hrd : ∀ (y : H2X) O D k d e st' rest, y.st.read k = some ((d, e), st') → Q y O D (.read k :: rest) →
      φ (some (d, e)) ∧ Q { y with st := st' } (O ++ d) D rest)
    {x : H2X} {O D : Bytes} (ops : List H2XOp) (h : Q x O D ops) :
    (∀ o ∈ (x.run ops).1, φ o) ∧ Q (x.run ops).2 (O ++ outOf (x.run ops).1) (D ++ dataOf (evsOf ops)) [] := by
  induction ops generalizing x O D with
  | nil => simpa [H2X.run, outOf, evsOf, dataOf] using h
  | cons o ops ih =>
    cases o with
    | ev e =>
      have := ih (hev x O D e ops h)
      rw [List.append_assoc, ← dataOf_cons] at this; exact this
    | closeBody => exact ih (x := x.closeBody) (hcl x O D ops h)
    | read k =>
      cases hr : x.st.read k with
      | none =>
        rw [run_read_none _ _ _ hr]
        obtain ⟨hp, hq⟩ := hbl x O D k ops hr h
        exact ⟨List.forall_mem_cons.mpr ⟨hp, (ih hq).1⟩, (ih hq).2⟩
      | some v =>
        obtain ⟨⟨d, e⟩, st'⟩ := v
        rw [run_read_some _ _ _ _ _ hr]
        obtain ⟨hp, hq⟩ := hrd x O D k d e st' ops hr h
        have h2 := (ih (x := { x with st := st' }) hq).2
        rw [List.append_assoc] at h2
        exact ⟨List.forall_mem_cons.mpr ⟨hp, (ih hq).1⟩, h2⟩

theorem run_append (x : H2X) (a b : List H2XOp) :
    x.run (a ++ b) = ((x.run a).1 ++ ((x.run a).2.run b).1, ((x.run a).2.run b).2) := by
  induction a generalizing x with
  | nil => simp [H2X.run]
  | cons o a ih =>
    cases o with
    | ev e => simp only [List.cons_append, H2X.run]; exact ih _
    | closeBody => simp only [List.cons_append, H2X.run]; exact ih _
    | read k =>
      simp only [List.cons_append]
      cases hr : x.st.read k with
      | none => rw [run_read_none _ _ _ hr, run_read_none _ _ _ hr, ih]; simp
      | some v =>
        obtain ⟨o, st'⟩ := v
        rw [run_read_some _ _ _ _ _ hr, run_read_some _ _ _ _ _ hr, ih]; simp

/-- `run_ind` with the stream invariant carried along: it is there in every hypothesis and holds
of the last state. -/
theorem Inv.run_ind {φ : Option (Bytes × Option H2Err) → Prop} {Q : H2X → Bytes → Bytes → List H2XOp → Prop}
    (hev : ∀ (y : H2X) O D e rest, Inv y.st O D → Q y O D (.ev e :: rest) → Q (y.step e) O (D ++ dataOf [e]) rest)
    (hcl : ∀ (y : H2X) O D rest, Inv y.st O D → Q y O D (.closeBody :: rest) → Q y.closeBody O D rest)
    (hbl : ∀ (y : H2X) O D k rest, Inv y.st O D → y.st.read k = none → Q y O D (.read k :: rest) →
      φ none ∧ Q y O D rest)
    (hrd : ∀ (y : H2X) O D k d e st' rest, Inv y.st O D → y.st.read k = some ((d, e), st') →
      Q y O D (.read k :: rest) → φ (some (d, e)) ∧ Q { y with st := st' } (O ++ d) D rest)
    {x : H2X} {O D : Bytes} (hi : Inv x.st O D) (ops : List H2XOp) (h : Q x O D ops) :
    (∀ o ∈ (x.run ops).1, φ o) ∧ Inv (x.run ops).2.st (O ++ outOf (x.run ops).1) (D ++ dataOf (evsOf ops)) ∧
      Q (x.run ops).2 (O ++ outOf (x.run ops).1) (D ++ dataOf (evsOf ops)) [] :=
  Req.C03.run_ind (Q := fun y O D rest => Inv y.st O D ∧ Q y O D rest)
    (fun y O D e rest ⟨hy, hq⟩ => ⟨hy.step e, hev y O D e rest hy hq⟩)
    (fun y O D rest ⟨hy, hq⟩ => ⟨hy.closeBody, hcl y O D rest hy hq⟩)
    (fun y O D k rest hr ⟨hy, hq⟩ => ⟨(hbl y O D k rest hy hr hq).1, hy, (hbl y O D k rest hy hr hq).2⟩)
    (fun y O D k d e st' rest hr ⟨hy, hq⟩ =>
      ⟨(hrd y O D k d e st' rest hy hr hq).1, hy.read k d e st' hr, (hrd y O D k d e st' rest hy hr hq).2⟩)
    ops ⟨hi, h⟩

theorem Inv.run {x : H2X} {O D : Bytes} (h : Inv x.st O D) (ops : List H2XOp) :
    Inv (x.run ops).2.st (O ++ outOf (x.run ops).1) (D ++ dataOf (evsOf ops)) :=
  (h.run_ind (φ := fun _ => True) (Q := fun _ _ _ _ => True) (fun _ _ _ _ _ _ _ => trivial)
    (fun _ _ _ _ _ _ => trivial) (fun _ _ _ _ _ _ _ _ => ⟨trivial, trivial⟩)
    (fun _ _ _ _ _ _ _ _ _ _ _ => ⟨trivial, trivial⟩) ops trivial).2.1

theorem Inv.reach (sid : Nat) (isHead : Bool) (ops : List H2XOp) :
    Inv ((H2X.init sid isHead).run ops).2.st (outOf ((H2X.init sid isHead).run ops).1) (dataOf (evsOf ops)) := by
  have := Inv.run (x := H2X.init sid isHead) (Inv.init isHead) ops
  simpa using this

end Req.C03
