import Req.Lemmas.C02Bufio
/-! `ReadSlice('\n')` (once, and `n` times for the lines of a head: `Bufio.readLines`), `io.ReadFull`,
`Peek` and `discardBuffered` on a `Bufio` whose unread wire `Bufio.rem` is known: what each returns
and what it leaves unread, for every segmentation.  The
loops of the model carry fuel; each hypothesis on it counts one round per byte still to be
buffered (every `fill` buffers at least one) and one more to find what was looked for. -/
namespace Req.C02
open Req.Proto

theorem indexOf_not_mem (c : UInt8) (l : Bytes) (h : c ∉ l) : indexOf c l = none := by
  induction l with
  | nil => rfl
  | cons x xs ih =>
    simp only [List.mem_cons, not_or] at h
    simp [indexOf, beq_false_of_ne (Ne.symm h.1), ih h.2]

theorem indexOf_append (c : UInt8) (l X : Bytes) (h : c ∉ l) : indexOf c (l ++ c :: X) = some l.length := by
  induction l with
  | nil => simp [indexOf]
  | cons x xs ih =>
    simp only [List.mem_cons, not_or] at h
    simp [indexOf, beq_false_of_ne (Ne.symm h.1), ih h.2]

/-- `ReadSlice('\n')` returns exactly the next line, however the connection segments it,
provided the line fits the buffer. -/
theorem Bufio.readSlice_line (fuel : Nat) (b : Bufio) (l R : Bytes) (hw : b.WF) (hf : b.Fits)
    (hrem : b.rem = l ++ 10 :: R) (hno : (10 : UInt8) ∉ l) (hfit : l.length + 1 ≤ b.cap)
    (hfuel : l.length + 2 ≤ fuel + b.buf.length) (hfuel0 : 0 < fuel) :
    ∃ b', b.readSlice fuel 10 = ((l ++ [10], none), b') ∧ b'.rem = R ∧ b'.WF ∧ b'.Fits ∧
      b'.cap = b.cap ∧ b'.net.fin = b.net.fin := by
  induction fuel generalizing b with
  | zero => omega
  | succ fuel ih =>
    unfold Bufio.readSlice
    by_cases hbl : b.buf.length ≤ l.length
    · -- the buffer holds a prefix of the line, no newline yet: fill and go on
      obtain ⟨a', hl, -⟩ := List.append_eq_append_of_length_le hrem.symm hbl
      have hnobuf : (10 : UInt8) ∉ b.buf := fun h => hno (hl ▸ List.mem_append_left _ h)
      obtain ⟨herr, hgrow, hrem', hw', hf', hcap', hfin'⟩ := Bufio.fill_spec b hw (by omega)
        (by rw [hrem, List.length_append, List.length_cons]; omega)
      have hnfull : ¬ b.buf.length ≥ b.cap := by omega
      simp only [indexOf_not_mem _ _ hnobuf, herr, hnfull, if_false]
      obtain ⟨b', h1, h2, h3, h4, h5, h6⟩ := ih b.fill hw' hf' (hrem'.trans hrem) (hcap' ▸ hfit)
        (by omega) (by omega)
      exact ⟨b', h1, h2, h3, h4, h5.trans hcap', h6.trans hfin'⟩
    · -- the whole line is buffered
      obtain ⟨c', hb, hR⟩ := List.append_eq_append_of_length_le hrem (by omega)
      cases c' with
      | nil => rw [hb, List.append_nil] at hbl; omega
      | cons x X =>
        obtain ⟨rfl, hR'⟩ := List.cons.inj hR
        have hlen : (l ++ [10]).length = l.length + 1 := List.length_append
        refine ⟨{ b with buf := X }, ?_, hR'.symm, hw, ?_, rfl, rfl⟩
        · rw [hb, indexOf_append _ _ _ hno]
          simp only [List.append_cons l 10 X, List.take_left' hlen, List.drop_left' hlen]
        · unfold Bufio.Fits at hf ⊢
          rw [hb, List.length_append, List.length_cons] at hf
          show X.length ≤ b.cap
          omega

/-- `io.ReadFull(br, buf[:n])` with `acc` already read, when the bytes still missing are all
on the wire: exactly those bytes, however they are segmented. -/
theorem Bufio.readFull_spec (fuel n : Nat) (acc : Bytes) (b : Bufio) (hw : b.WF) (hf : b.Fits)
    (hn : n ≤ acc.length + b.rem.length) (hfuel : n - acc.length < fuel) :
    ∃ b', b.readFull fuel n acc = ((acc ++ b.rem.take (n - acc.length), none), b') ∧
      b'.rem = b.rem.drop (n - acc.length) ∧ b'.WF ∧ b'.Fits ∧ b'.cap = b.cap ∧
      b'.net.fin = b.net.fin := by
  induction fuel generalizing acc b with
  | zero => omega
  | succ fuel ih =>
    unfold Bufio.readFull
    by_cases hge : acc.length ≥ n
    · have h0 : n - acc.length = 0 := by omega
      exact ⟨b, by rw [if_pos hge, h0, List.take_zero, List.append_nil], by rw [h0, List.drop_zero],
        hw, hf, rfl, rfl⟩
    · rcases hr : b.read (n - acc.length) with ⟨⟨d, e⟩, b1⟩
      obtain ⟨hw1, hcap1, hfin1, hsplit, hlen, hcase, _⟩ :=
        Bufio.read_spec b _ (by omega) hw d e b1 hr
      obtain ⟨rfl, hd⟩ := hcase (fun h0 => by rw [h0] at hn; exact hge hn)
      have hdl : 0 < d.length := List.length_pos_iff.mpr hd
      obtain ⟨b', hrun, hrem', hw', hf', hcap', hfin'⟩ :=
        ih (acc ++ d) b1 hw1 (Bufio.read_fits b _ hf d _ b1 hr)
          (by rw [hsplit] at hn; simp only [List.length_append] at hn ⊢; omega)
          (by rw [List.length_append]; omega)
      have hsub : n - (acc ++ d).length = n - acc.length - d.length := by
        rw [List.length_append]; omega
      refine ⟨b', ?_, ?_, hw', hf', hcap'.trans hcap1, hfin'.trans hfin1⟩
      · rw [if_neg hge]
        simp only
        rw [hrun, hsub, hsplit, List.take_append, List.take_of_length_le hlen, List.append_assoc]
      · rw [hrem', hsub, hsplit, List.drop_append, List.drop_of_length_le hlen, List.nil_append]

/-- The `io.ReadFull(cr.r, cr.buf[:2])` by which `chunkedReader.Read` takes the CRLF after a chunk's data
(`Chunked.readLoop`, `checkEnd`). -/
theorem Bufio.readFull_two (b : Bufio) (x y : UInt8) (R : Bytes) (hw : b.WF) (hf : b.Fits)
    (hrem : b.rem = x :: y :: R) :
    ∃ b', b.readFull 3 2 [] = (([x, y], none), b') ∧ b'.rem = R ∧ b'.WF ∧ b'.Fits ∧
      b'.cap = b.cap ∧ b'.net.fin = b.net.fin := by
  have h := Bufio.readFull_spec 3 2 [] b hw hf (by rw [hrem]; simp) (by simp)
  rw [hrem] at h
  exact h

/-- The fill loop of `Peek(n)`: afterwards at least `n` bytes are buffered (when the wire has
that many and they fit), nothing is lost. -/
theorem Bufio.fillUntil_spec (fuel n : Nat) (b : Bufio) (hw : b.WF) (hf : b.Fits)
    (hn : n ≤ b.rem.length) (hcap : n ≤ b.cap) (hfuel : n ≤ fuel + b.buf.length) :
    (Bufio.fillUntil fuel n b).rem = b.rem ∧ (Bufio.fillUntil fuel n b).WF ∧ (Bufio.fillUntil fuel n b).Fits ∧
    (Bufio.fillUntil fuel n b).cap = b.cap ∧ (Bufio.fillUntil fuel n b).net.fin = b.net.fin ∧
    n ≤ (Bufio.fillUntil fuel n b).buf.length := by
  induction fuel generalizing b with
  | zero =>
    unfold Bufio.fillUntil
    exact ⟨rfl, hw, hf, rfl, rfl, by omega⟩
  | succ fuel ih =>
    unfold Bufio.fillUntil
    split
    next hcond =>
      obtain ⟨_, hgrow, hrem', hw', hf', hcap', hfin'⟩ := Bufio.fill_spec b hw hcond.2.1 (by omega)
      obtain ⟨i1, i2, i3, i4, i5, i6⟩ := ih b.fill hw' hf' (by rw [hrem']; exact hn) (by rw [hcap']; exact hcap)
        (by omega)
      exact ⟨by rw [i1, hrem'], i2, i3, by rw [i4, hcap'], by rw [i5, hfin'], i6⟩
    next hcond =>
      refine ⟨rfl, hw, hf, rfl, rfl, ?_⟩
      -- the loop stopped: enough buffered (the other two exits are impossible here)
      refine Nat.le_of_not_lt fun h1 => hcond ⟨h1, ?_, ?_⟩
      · unfold Bufio.Fits at hf; omega
      · rw [hw.err_none (by omega)]; rfl

theorem Bufio.peek_spec (b : Bufio) (n : Nat) (hw : b.WF) (hf : b.Fits)
    (hn : n ≤ b.rem.length) (hcap : n ≤ b.cap) :
    ∃ b', b.peek n = ((b.rem.take n, none), b') ∧ b'.rem = b.rem ∧ b'.WF ∧ b'.Fits ∧ b'.cap = b.cap ∧
      b'.net.fin = b.net.fin ∧ n ≤ b'.buf.length := by
  obtain ⟨h1, h2, h3, h4, h5, h6⟩ := Bufio.fillUntil_spec (n + 1) n b hw hf hn hcap (by omega)
  refine ⟨Bufio.fillUntil (n + 1) n b, ?_, h1, h2, h3, h4, h5, h6⟩
  unfold Bufio.peek
  have hc : ¬ n > (Bufio.fillUntil (n + 1) n b).cap := by rw [h4]; omega
  have hl : ¬ (Bufio.fillUntil (n + 1) n b).buf.length < n := by omega
  simp only [hc, hl, if_false]
  have : (Bufio.fillUntil (n + 1) n b).buf.take n = b.rem.take n := by
    rw [← h1]
    simp only [Bufio.rem]
    rw [List.take_append_of_le_length h6]
  rw [this]

theorem Bufio.discardBuffered_rem (b : Bufio) (n : Nat) (h : n ≤ b.buf.length) :
    (b.discardBuffered n).rem = b.rem.drop n := by
  simp only [Bufio.discardBuffered, Bufio.rem]
  rw [List.drop_append_of_le_length h]

/-- `n` times `ReadSlice('\n')` — the primitive under `bufio.ReadLine` / `textproto.Reader`
with which the head reader consumes the status line, the field lines and the blank line. -/
def Bufio.readLines : Nat → Bufio → List Bytes × Bufio
  | 0, b => ([], b)
  | n + 1, b =>
    match b.readSlice (b.cap + 2) 10 with
    | ((l, none), b') =>
      let (ls, b'') := Bufio.readLines n b'
      (l :: ls, b'')
    | ((l, some _), b') => ([l], b')

/-- The wire form of a list of lines (each given without its final LF). -/
def linesWire (ls : List Bytes) : Bytes := (ls.map fun l => l ++ [10]).flatten

/-- **Line reading is independent of the segmentation**: whatever pieces the network delivers,
whatever is buffered already, `ReadSlice` hands out exactly the lines (each fitting the
buffer) and the reader then stands exactly behind them. -/
theorem Bufio.readLines_spec (ls : List Bytes) (b : Bufio) (R : Bytes) (hw : b.WF) (hf : b.Fits)
    (hrem : b.rem = linesWire ls ++ R) (hno : ∀ l ∈ ls, (10 : UInt8) ∉ l)
    (hfit : ∀ l ∈ ls, l.length + 1 ≤ b.cap) :
    ∃ b', Bufio.readLines ls.length b = (ls.map (fun l => l ++ [10]), b') ∧ b'.rem = R ∧ b'.WF ∧ b'.Fits ∧
      b'.cap = b.cap ∧ b'.net.fin = b.net.fin := by
  induction ls generalizing b with
  | nil => exact ⟨b, rfl, by simpa [linesWire] using hrem, hw, hf, rfl, rfl⟩
  | cons l ls ih =>
    have hrem' : b.rem = l ++ 10 :: (linesWire ls ++ R) := by
      rw [hrem]; simp [linesWire, List.append_assoc]
    have hl := hfit l (by simp)
    obtain ⟨b1, hr, hrem1, hw1, hf1, hcap1, hfin1⟩ :=
      Bufio.readSlice_line (b.cap + 2) b l _ hw hf hrem' (hno l (by simp)) hl (by omega) (by omega)
    obtain ⟨b', hrs, h2, h3, h4, h5, h6⟩ := ih b1 hw1 hf1 hrem1 (fun x hx => hno x (by simp [hx]))
      (fun x hx => by rw [hcap1]; exact hfit x (by simp [hx]))
    refine ⟨b', ?_, h2, h3, h4, by rw [h5, hcap1], by rw [h6, hfin1]⟩
    simp only [List.length_cons, Bufio.readLines, hr, hrs, List.map_cons]

end Req.C02
