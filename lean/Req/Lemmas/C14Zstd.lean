import Req.Client.CompressZstd
import Req.Lemmas.C14Auto
import Req.Lemmas.IfTree
/-!
Run lemmas for the zstd frame automaton (`Req.Client.CompressZstd`): what each piece of an
encoder's output does to the decoder. The file also defines what the zstd theorems are stated
with (`leVal`, `frameWindow`, `fcsOpt`, `DataWF`, the hypothesis of `Req.Props.C14Zstd.Frame.OK`)
and what only the lemmas here are stated with (`headerBytes`, `onBlockHdr`, `rawStart`,
`headerWindow`, `fcsRead`, `endCtx`).
-/
namespace Req.Compress.Zstd
open Req.Proto Req.Compress Req.Compress.Auto
open Req.Lemmas (ite_ind)

variable (S : ZSums)

theorem zrun_silent (b : UInt8) (inp : Bytes) (s s' : ZSt) (hp : zphase s = .working)
    (hs : zstep S s b = (s', none)) : (zframe S).run (b :: inp) s = (zframe S).run inp s' :=
  run_silent hp hs

theorem zfailed_stop (e : Term) (r : Bytes) : (zframe S).run r (.failed e) = (.failed e, [], r) :=
  run_stopped (zframe S) r (.failed e) (by intro hc; cases hc)

theorem zdone_stop (r : Bytes) : (zframe S).run r .done = (.done, [], r) :=
  run_stopped (zframe S) r .done (by intro hc; cases hc)

/-- where a step may land: not where a frame starts -/
def NotFresh (s : ZSt) : Prop := zfresh s = false

theorem startBlocks_not_fresh (fhd : UInt8) (w : Nat) (nz : Bool) (f : Option Nat) :
    NotFresh (startBlocks fhd w nz f) :=
  ite_ind NotFresh rfl (ite_ind NotFresh rfl rfl)

theorem afterDict_not_fresh (fhd : UInt8) (w : Nat) (nz : Bool) : NotFresh (afterDict fhd w nz) := by
  unfold afterDict; split
  · exact startBlocks_not_fresh _ _ _ _
  · rfl

theorem afterWin_not_fresh (fhd : UInt8) (w : Nat) : NotFresh (afterWin fhd w) := by
  unfold afterWin; split
  · exact afterDict_not_fresh _ _ _
  · rfl

theorem afterBlockZ_not_fresh (c : Ctx) (last : Bool) (held : Nat) :
    NotFresh (afterBlockZ c last held) := by
  refine ite_ind NotFresh (ite_ind NotFresh rfl (ite_ind NotFresh rfl rfl)) ?_
  split
  · exact ite_ind NotFresh rfl rfl
  · rfl

theorem zstep_not_fresh (s : ZSt) (b : UInt8) : zfresh (zstep S s b).1 = false := by
  let P (x : ZSt × Option UInt8) := NotFresh x.1
  cases s with
  | magic got =>
    exact ite_ind P (by cases got <;> rfl) (ite_ind P rfl (ite_ind P rfl rfl))
  | skipLen got =>
    refine ite_ind P rfl ?_
    split
    · split <;> rfl
    · rfl
  | skip k => cases k <;> rfl
  | fhd => exact ite_ind P rfl (ite_ind P (afterWin_not_fresh _ _) rfl)
  | win fhd => exact afterWin_not_fresh _ _
  | dict fhd w k nz =>
    cases k with
    | zero => exact afterDict_not_fresh _ _ _
    | succ k => rfl
  | fcs fhd w nz k wt v =>
    cases k with
    | zero => exact startBlocks_not_fresh _ _ _ _
    | succ k => rfl
  | bhdr c got =>
    simp only [zstep]
    refine ite_ind P rfl ?_        -- fewer than three header bytes so far
    split                          -- the header is complete
    · split                        -- Block_Type: raw / reserved / RLE, compressed
      · refine ite_ind P rfl ?_    -- Block_Size above the block or window bound
        split                      -- an empty block / a block with data
        · exact afterBlockZ_not_fresh _ _ _
        · rfl
      · rfl
      · rfl
    · rfl
  | raw c last k held =>
    cases k with
    | zero => exact afterBlockZ_not_fresh _ _ _
    | succ k => rfl
  | sum c got held =>
    exact ite_ind P rfl (ite_ind P rfl (ite_ind P rfl rfl))
  | done => rfl
  | failed e => rfl

theorem zframe_lawful : (zframe S).Lawful := by
  constructor
  · exact zstep_not_fresh S
  · intro s h
    cases s with
    | magic got => rfl
    | _ => simp [zframe, zfresh] at h

def leVal : Bytes → Nat
  | [] => 0
  | b :: t => b.toNat + 256 * leVal t

theorem leVal_leBytes (k n : Nat) (h : n < 256 ^ k) : leVal (leBytes k n) = n := by
  induction k generalizing n with
  | zero => simp at h; simp [leBytes, leVal, h]
  | succ k ih =>
    have : n / 256 < 256 ^ k := by rw [Nat.div_lt_iff_lt_mul (by decide)]; rwa [Nat.pow_succ] at h
    simp only [leBytes, leVal, ih _ this, UInt8.toNat_ofNat', Nat.reducePow]
    omega

theorem run_magic (r : Bytes) :
    (zframe S).run (0x28 :: 0xB5 :: 0x2F :: 0xFD :: r) (.magic []) = (zframe S).run r .fhd := by
  rw [zrun_silent S _ _ _ _ rfl rfl, zrun_silent S _ _ _ _ rfl rfl, zrun_silent S _ _ _ _ rfl rfl,
    zrun_silent S _ _ _ .fhd rfl rfl]

theorem run_dict_zeros (fhd : UInt8) (w : Nat) (k : Nat) (r : Bytes) :
    (zframe S).run (List.replicate (k + 1) 0 ++ r) (.dict fhd w k false) =
      (zframe S).run r (afterDict fhd w false) := by
  induction k with
  | zero =>
    simp only [List.replicate, List.cons_append, List.nil_append]
    rw [zrun_silent S _ _ _ (afterDict fhd w false) rfl (by simp [zstep])]
  | succ k ih =>
    rw [List.replicate_succ, List.cons_append,
      zrun_silent S _ _ (.dict fhd w (k + 1) false) (.dict fhd w k false) rfl (by simp [zstep]), ih]

theorem run_fcs_field (fhd : UInt8) (w : Nat) (nz : Bool) (f : Bytes) (k wt v : Nat) (r : Bytes)
    (hf : f.length = k + 1) :
    (zframe S).run (f ++ r) (.fcs fhd w nz k wt v) =
      (zframe S).run r (startBlocks fhd w nz
        (some (if fcsLen fhd = 2 then v + wt * leVal f + 256 else v + wt * leVal f))) := by
  induction f generalizing k wt v with
  | nil => simp at hf
  | cons b f ih =>
    cases k with
    | zero =>
      have hfn : f = [] := by
        have : f.length = 0 := by simpa using hf
        exact List.eq_nil_of_length_eq_zero this
      subst hfn
      rw [List.cons_append, List.nil_append,
        zrun_silent S b r (.fcs fhd w nz 0 wt v) _ rfl rfl]
      simp [leVal]
    | succ k =>
      have hfl : f.length = k + 1 := by simpa using hf
      rw [List.cons_append,
        zrun_silent S b _ (.fcs fhd w nz (k + 1) wt v) (.fcs fhd w nz k (wt * 256) (v + wt * b.toNat))
          rfl rfl, ih k (wt * 256) (v + wt * b.toNat) hfl]
      have e : v + wt * b.toNat + wt * 256 * leVal f = v + wt * leVal (b :: f) := by
        simp [leVal, Nat.mul_add, Nat.mul_assoc, Nat.add_assoc]
      rw [e]

theorem run_raw (c : Ctx) (last : Bool) (d : Bytes) (k held : Nat) (hd : d.length = k + 1) :
    (zframe S).run d (.raw c last k held) =
      (afterBlockZ { c with racc := d.reverse ++ c.racc } last (held + (k + 1)), d, []) := by
  induction d generalizing c k held with
  | nil => simp at hd
  | cons b d ih =>
    cases k with
    | zero =>
      have hdn : d = [] := List.eq_nil_of_length_eq_zero (by simpa using hd)
      subst hdn
      exact run_cons (A := zframe S) rfl rfl rfl
    | succ k =>
      refine run_cons (A := zframe S) rfl rfl ?_
      rw [ih { c with racc := b :: c.racc } k (held + 1) (by simpa using hd)]
      simp [Nat.add_assoc, Nat.add_comm 1]
      rfl

/-- what a complete block header means: `v` is its three bytes as a little-endian number -/
def onBlockHdr (c : Ctx) (v : Nat) : ZSt × Option UInt8 :=
  match v / 2 % 4 with
  | 0 =>
    if v / 8 > maxBlock || v / 8 > c.window then (.failed errCorrupt, none)
    else match v / 8 with
      | 0 => (afterBlockZ c (v % 2 == 1) 0, none)
      | k + 1 => (.raw c (v % 2 == 1) k 0, none)
  | 3 => (.failed errCorrupt, none)
  | _ => (.failed errUnmodelled, none)

theorem zstep_bhdr (c : Ctx) (h0 h1 h2 : UInt8) :
    zstep S (.bhdr c [h0, h1]) h2 = onBlockHdr c (leVal [h0, h1, h2]) := by
  have : leVal [h0, h1, h2] = h0.toNat + 256 * h1.toNat + 65536 * h2.toNat := by
    simp only [leVal]; omega
  rw [this]
  rfl

/-- the Last_Block bit as a number `t ≤ 1`, so that the arithmetic on the block header is about a
variable and not about an `if` -/
theorem lastBit (last : Bool) : ∃ t, (if last then 1 else 0) = t ∧ t ≤ 1 ∧ (t == 1) = last := by
  cases last <;> exact ⟨_, rfl, by decide, rfl⟩

/-- the state behind the header of a raw block of `n` bytes -/
def rawStart (c : Ctx) (last : Bool) : Nat → ZSt
  | 0 => afterBlockZ c last 0
  | k + 1 => .raw c last k 0

theorem onBlockHdr_raw (c : Ctx) (last : Bool) (n : Nat) (hn : n ≤ maxBlock) (hw : n ≤ c.window) :
    onBlockHdr c ((if last then 1 else 0) + 8 * n) = (rawStart c last n, none) := by
  obtain ⟨t, e, ht, hl⟩ := lastBit last
  -- Last_Block in bit 0, Block_Type 0 in bits 1-2, Block_Size from bit 3
  obtain ⟨h1, h2, h3⟩ : (t + 8 * n) / 2 % 4 = 0 ∧ (t + 8 * n) / 8 = n ∧ (t + 8 * n) % 2 = t := by omega
  rw [e, onBlockHdr]
  simp only [h1, h2, h3, hl, Nat.not_lt.mpr hn, Nat.not_lt.mpr hw, decide_false, Bool.or_self,
    Bool.false_eq_true, if_false]
  cases n <;> rfl

theorem run_rawBlock (c : Ctx) (last : Bool) (d : Bytes) (hn : d.length ≤ maxBlock)
    (hw : d.length ≤ c.window) :
    (zframe S).run (rawBlock last d) (.bhdr c []) =
      (afterBlockZ { c with racc := d.reverse ++ c.racc } last d.length, d, []) := by
  obtain ⟨b0, b1, b2, hb⟩ : ∃ b0 b1 b2, blockHdr last d.length = [b0, b1, b2] := ⟨_, _, _, rfl⟩
  have hv : leVal [b0, b1, b2] = (if last then 1 else 0) + 8 * d.length := by
    rw [← hb]
    obtain ⟨t, e, ht, _⟩ := lastBit last
    have : d.length ≤ 131072 := hn
    exact leVal_leBytes 3 _ (by rw [e]; omega)
  simp only [rawBlock, hb, List.cons_append, List.nil_append]
  rw [zrun_silent S _ _ (.bhdr c []) (.bhdr c [_]) rfl rfl,
    zrun_silent S _ _ (.bhdr c [_]) (.bhdr c [_, _]) rfl rfl,
    zrun_silent S _ _ (.bhdr c [_, _]) _ rfl
      (by rw [zstep_bhdr, hv, onBlockHdr_raw c last _ hn hw])]
  cases hl : d.length with
  | zero =>
    have : d = [] := List.eq_nil_of_length_eq_zero hl
    subst this
    rfl
  | succ k => simpa [rawStart] using run_raw S c last d k 0 hl

/-- the window a frame declares: its content size (at least 1 KiB) when single-segment, the
window descriptor otherwise -/
def frameWindow (fhd wd : UInt8) (total : Nat) : Nat :=
  if fhd &&& 32 ≠ 0 then max total minWindow else windowOf wd

def fcsOpt (fhd : UInt8) (total : Nat) : Option Nat :=
  if fcsLen fhd = 0 then none else some total

/-- what the format and the decoder allow in a data frame -/
structure DataWF (fhd wd : UInt8) (f : Bytes) (bs : List Bytes) (l : Bytes) : Prop where
  reserved : fhd &&& 8 = 0
  fcsLength : f.length = fcsLen fhd
  fcsValue : fcsLen fhd ≠ 0 →
    (if fcsLen fhd = 2 then leVal f + 256 else leVal f) = (bs.flatten ++ l).length
  window : frameWindow fhd wd (bs.flatten ++ l).length ≤ maxWindow
  blocks : ∀ b ∈ bs, b.length ≤ maxBlock ∧ b.length ≤ frameWindow fhd wd (bs.flatten ++ l).length
  last : l.length ≤ maxBlock ∧ l.length ≤ frameWindow fhd wd (bs.flatten ++ l).length

theorem ss_has_fcs (fhd : UInt8) (h : fhd &&& 32 ≠ 0) : fcsLen fhd ≠ 0 := by
  unfold fcsLen
  split <;> simp [h]

/-- the window the block loop works with, from the header fields as they were read: the `w` of
`startBlocks` (`frameWindow` is the same window given the content; `run_zheader` shows that they
agree on a well-formed frame) -/
def headerWindow (fhd : UInt8) (window : Nat) (fcs : Option Nat) : Nat :=
  if fhd &&& 32 ≠ 0 then max (fcs.getD 0) minWindow else window

theorem startBlocks_ok (fhd : UInt8) (window : Nat) (fcs : Option Nat)
    (hw : headerWindow fhd window fcs ≤ maxWindow) :
    startBlocks fhd window false fcs =
      .bhdr ⟨headerWindow fhd window fcs, fcs, fhd &&& 4 ≠ 0, []⟩ [] := by
  unfold startBlocks
  rw [if_neg (by simp)]
  exact if_neg (Nat.not_lt.mpr hw)

theorem startBlocks_big (fhd : UInt8) (window : Nat) (fcs : Option Nat)
    (hw : maxWindow < headerWindow fhd window fcs) :
    startBlocks fhd window false fcs = .failed errCorrupt := by
  unfold startBlocks
  rw [if_neg (by simp)]
  exact if_pos hw

/-- the Frame_Content_Size a header declares, from the bytes of its field as they were read
(`fcsOpt` is the same field given the content it is to declare) -/
def fcsRead (fhd : UInt8) (f : Bytes) : Option Nat :=
  if fcsLen fhd = 0 then none else some (if fcsLen fhd = 2 then leVal f + 256 else leVal f)

/-- a data frame up to its first block, as `Frame.bytes` writes it: magic number,
Frame_Header_Descriptor, Window_Descriptor unless single-segment, a zero Dictionary_ID,
Frame_Content_Size -/
def headerBytes (fhd wd : UInt8) (f : Bytes) : Bytes :=
  [0x28, 0xB5, 0x2F, 0xFD, fhd] ++ (if fhd &&& 32 ≠ 0 then [] else [wd]) ++
    List.replicate (dictLen fhd) 0 ++ f

/-- reading a frame header, whatever its fields say (reserved bit clear, a zero Dictionary_ID):
the decoder stands where `startBlocks` judges the header -/
theorem run_zheader_any (fhd wd : UInt8) (f : Bytes) (hres : fhd &&& 8 = 0)
    (hf : f.length = fcsLen fhd) (r : Bytes) :
    (zframe S).run (headerBytes fhd wd f ++ r) (.magic []) =
      (zframe S).run r (startBlocks fhd (if fhd &&& 32 ≠ 0 then 0 else windowOf wd) false
        (fcsRead fhd f)) := by
  unfold headerBytes
  have hres' : ¬(fhd &&& 8 ≠ 0) := by simp [hres]
  have hdict : ∀ w, (zframe S).run (List.replicate (dictLen fhd) 0 ++ (f ++ r)) (afterWin fhd w) =
      (zframe S).run r (startBlocks fhd w false (fcsRead fhd f)) := by
    intro w
    have : (zframe S).run (f ++ r) (afterDict fhd w false) =
        (zframe S).run r (startBlocks fhd w false (fcsRead fhd f)) := by
      unfold afterDict fcsRead
      cases hk : fcsLen fhd with
      | zero =>
        obtain rfl : f = [] := List.eq_nil_of_length_eq_zero (by rw [hf, hk])
        rfl
      | succ k =>
        rw [hk] at hf
        rw [run_fcs_field S fhd _ false f k 1 0 r hf, hk]
        simp
    rw [← this]
    unfold afterWin
    cases hd : dictLen fhd with
    | zero => rfl
    | succ k => exact run_dict_zeros S fhd _ k (f ++ r)
  by_cases hss : fhd &&& 32 ≠ 0
  · rw [if_pos hss, if_pos hss]
    simp only [List.cons_append, List.nil_append, List.append_assoc, List.append_nil]
    rw [run_magic, zrun_silent S fhd _ .fhd (afterWin fhd 0) rfl (by simp [zstep, hres', hss]), hdict]
  · rw [if_neg hss, if_neg hss]
    simp only [List.cons_append, List.nil_append, List.append_assoc]
    rw [run_magic, zrun_silent S fhd _ .fhd (.win fhd) rfl (by simp [zstep, hres', hss]),
      zrun_silent S wd _ (.win fhd) (afterWin fhd (windowOf wd)) rfl rfl, hdict]

theorem run_zheader (fhd wd : UInt8) (f : Bytes) (bs : List Bytes) (l : Bytes)
    (wf : DataWF fhd wd f bs l) (r : Bytes) :
    (zframe S).run (headerBytes fhd wd f ++ r) (.magic []) =
      (zframe S).run r (.bhdr ⟨frameWindow fhd wd (bs.flatten ++ l).length,
        fcsOpt fhd (bs.flatten ++ l).length, fhd &&& 4 ≠ 0, []⟩ []) := by
  have hfcs : fcsRead fhd f = fcsOpt fhd (bs.flatten ++ l).length := by
    unfold fcsRead fcsOpt
    split
    · rfl
    · rename_i h; rw [wf.fcsValue h]
  have hwin : headerWindow fhd (if fhd &&& 32 ≠ 0 then 0 else windowOf wd)
      (fcsOpt fhd (bs.flatten ++ l).length) = frameWindow fhd wd (bs.flatten ++ l).length := by
    unfold headerWindow frameWindow fcsOpt
    by_cases hss : fhd &&& 32 ≠ 0
    · simp [hss, ss_has_fcs fhd hss]
    · simp [hss]
  rw [run_zheader_any S fhd wd f wf.reserved wf.fcsLength, hfcs, startBlocks_ok _ _ _ (hwin ▸ wf.window), hwin]

/-- a header of any layout that asks for a window above the decoder's bound: refused before any
block is read -/
theorem run_window_exceeded_any (fhd wd : UInt8) (f r : Bytes) (hres : fhd &&& 8 = 0)
    (hf : f.length = fcsLen fhd)
    (hwin : maxWindow < headerWindow fhd (if fhd &&& 32 ≠ 0 then 0 else windowOf wd) (fcsRead fhd f)) :
    (zframe S).run (headerBytes fhd wd f ++ r) (.magic []) = (.failed errCorrupt, [], r) := by
  rw [run_zheader_any S fhd wd f hres hf, startBlocks_big _ _ _ hwin]
  exact zfailed_stop S _ r

theorem afterBlockZ_last_sum (c : Ctx) (held : Nat) (h1 : c.hasSum = true) :
    afterBlockZ c true held = .sum c [] held := by
  unfold afterBlockZ; simp [h1]

theorem afterBlockZ_last_nosum (c : Ctx) (held : Nat) (h1 : c.hasSum = false)
    (h2 : sizeOK c = true) : afterBlockZ c true held = .done := by
  unfold afterBlockZ; simp [h1, h2]

theorem run_blocks (c : Ctx) (bs : List Bytes)
    (hfit : ∀ b ∈ bs, b.length ≤ maxBlock ∧ b.length ≤ c.window)
    (hsize : ∀ f, c.fcs = some f → c.racc.length + bs.flatten.length ≤ f) :
    (zframe S).run (bs.map (rawBlock false)).flatten (.bhdr c []) =
      (.bhdr { c with racc := bs.flatten.reverse ++ c.racc } [], bs.flatten, []) := by
  induction bs generalizing c with
  | nil => rfl
  | cons b bs ih =>
    have hb := hfit b (by simp)
    have hab : afterBlockZ { c with racc := b.reverse ++ c.racc } false b.length =
        .bhdr { c with racc := b.reverse ++ c.racc } [] := by
      unfold afterBlockZ
      simp only [Bool.false_eq_true, if_false]
      cases hf : c.fcs with
      | none => rfl
      | some f =>
        have := hsize f hf
        simp only [List.flatten_cons, List.length_append] at this
        have hle : ¬((b.reverse ++ c.racc).length > f) := by
          simp only [List.length_append, List.length_reverse]; omega
        simp only [hle, if_false]
    have h1 := run_rawBlock S c false b hb.1 hb.2
    rw [hab] at h1
    have h2 := ih { c with racc := b.reverse ++ c.racc } (fun x hx => hfit x (by simp [hx])) (by
      intro f hf
      have := hsize f hf
      simp only [List.flatten_cons, List.length_append, List.length_reverse] at this ⊢
      omega)
    simpa using run_seq h1 h2

theorem run_sum (c : Ctx) (held : Nat) (r : Bytes) (hlen : (S.sum c.racc.reverse).length = 4)
    (hsz : sizeOK c = true) :
    (zframe S).run (S.sum c.racc.reverse ++ r) (.sum c [] held) = (.done, [], r) := by
  obtain ⟨a0, a1, a2, a3, ha⟩ : ∃ a0 a1 a2 a3, S.sum c.racc.reverse = [a0, a1, a2, a3] := by
    match hx : S.sum c.racc.reverse, hlen with
    | [a0, a1, a2, a3], _ => exact ⟨a0, a1, a2, a3, rfl⟩
  rw [ha]
  simp only [List.cons_append, List.nil_append]
  rw [zrun_silent S _ _ (.sum c [] held) (.sum c [_] held) rfl rfl,
    zrun_silent S _ _ (.sum c [_] held) (.sum c [_, _] held) rfl rfl,
    zrun_silent S _ _ (.sum c [_, _] held) (.sum c [_, _, _] held) rfl rfl,
    zrun_silent S _ _ (.sum c [a0, a1, a2] held) .done rfl (by simp [zstep, hsz, ha])]
  exact zdone_stop S r

/-- the context of the block loop once a well-formed frame's content is complete -/
def endCtx (fhd wd : UInt8) (bs : List Bytes) (l : Bytes) : Ctx :=
  ⟨frameWindow fhd wd (bs.flatten ++ l).length, fcsOpt fhd (bs.flatten ++ l).length,
    decide (fhd &&& 4 ≠ 0), l.reverse ++ bs.flatten.reverse⟩

theorem endCtx_content (fhd wd : UInt8) (bs : List Bytes) (l : Bytes) :
    (endCtx fhd wd bs l).racc.reverse = bs.flatten ++ l := by simp [endCtx]

theorem endCtx_sizeOK (fhd wd : UInt8) (bs : List Bytes) (l : Bytes) :
    sizeOK (endCtx fhd wd bs l) = true := by
  have hl : (endCtx fhd wd bs l).racc.length = (bs.flatten ++ l).length := by
    rw [← endCtx_content, List.length_reverse]
  unfold sizeOK
  cases h : (endCtx fhd wd bs l).fcs with
  | none => rfl
  | some g =>
    simp only [endCtx, fcsOpt] at h
    split at h <;> cases h
    simp [hl]

theorem run_zblocks (fhd wd : UInt8) (f : Bytes) (bs : List Bytes) (l : Bytes)
    (wf : DataWF fhd wd f bs l) :
    (zframe S).run ((bs.map (rawBlock false)).flatten ++ rawBlock true l)
        (.bhdr ⟨frameWindow fhd wd (bs.flatten ++ l).length, fcsOpt fhd (bs.flatten ++ l).length,
          fhd &&& 4 ≠ 0, []⟩ []) =
      (afterBlockZ (endCtx fhd wd bs l) true l.length, bs.flatten ++ l, []) := by
  refine run_seq (run_blocks S _ bs (fun b hb => wf.blocks b hb) ?_) ?_
  · intro g hg
    unfold fcsOpt at hg
    split at hg <;> cases hg
    simp only [List.length_nil, List.length_append]
    omega
  · rw [List.append_nil]
    exact run_rawBlock S _ true l wf.last.1 wf.last.2

theorem run_zframe (hS : ∀ x, (S.sum x).length = 4) (fhd wd : UInt8) (f : Bytes) (bs : List Bytes)
    (l : Bytes) (wf : DataWF fhd wd f bs l) (r : Bytes) :
    (zframe S).run ((Frame.data fhd wd f bs l).bytes S ++ r) (.magic []) =
      (.done, bs.flatten ++ l, r) := by
  have e : (Frame.data fhd wd f bs l).bytes S ++ r =
      headerBytes fhd wd f ++ (((bs.map (rawBlock false)).flatten ++ rawBlock true l) ++
        ((if fhd &&& 4 ≠ 0 then S.sum (bs.flatten ++ l) else []) ++ r)) := by
    simp [Frame.bytes, headerBytes, List.append_assoc]
  have ht : (zframe S).run ((if fhd &&& 4 ≠ 0 then S.sum (bs.flatten ++ l) else []) ++ r)
      (afterBlockZ (endCtx fhd wd bs l) true l.length) = (.done, [], r) := by
    by_cases hsum : fhd &&& 4 ≠ 0
    · have hs := run_sum S (endCtx fhd wd bs l) l.length r (hS _) (endCtx_sizeOK ..)
      rw [endCtx_content] at hs
      rw [afterBlockZ_last_sum _ _ (by simp [endCtx, hsum]), if_pos hsum, hs]
    · rw [afterBlockZ_last_nosum _ _ (by simp [endCtx, hsum]) (endCtx_sizeOK ..), if_neg hsum]
      exact zdone_stop S r
  rw [e, run_zheader S fhd wd f bs l wf, run_seq (run_zblocks S fhd wd f bs l wf) ht, List.append_nil]

theorem run_skip_data (p r : Bytes) (k : Nat) (hp : p.length = k + 1) :
    (zframe S).run (p ++ r) (.skip k) = (.done, [], r) := by
  induction p generalizing k with
  | nil => simp at hp
  | cons b p ih =>
    cases k with
    | zero =>
      have : p = [] := List.eq_nil_of_length_eq_zero (by simpa using hp)
      subst this
      rw [List.cons_append, List.nil_append, zrun_silent S b r (.skip 0) .done rfl rfl]
      exact zdone_stop S r
    | succ k =>
      rw [List.cons_append, zrun_silent S b _ (.skip (k + 1)) (.skip k) rfl rfl]
      exact ih k (by simpa using hp)

theorem zstep_skipLen (a0 a1 a2 a3 : UInt8) :
    zstep S (.skipLen [a0, a1, a2]) a3 =
      match leVal [a0, a1, a2, a3] with
      | 0 => (.done, none)
      | k + 1 => (.skip k, none) := by
  have : leVal [a0, a1, a2, a3] =
      a0.toNat + 256 * a1.toNat + 65536 * a2.toNat + 16777216 * a3.toNat := by
    simp only [leVal]; omega
  rw [this]
  rfl

theorem run_skippable (m0 : UInt8) (p r : Bytes) (hm : m0 &&& 0xF0 = 0x50)
    (hp : p.length < 4294967296) :
    (zframe S).run ((Frame.skippable m0 p).bytes S ++ r) (.magic []) = (.done, [], r) := by
  have hne : m0 ≠ 0x28 := by
    intro h; subst h; exact absurd hm (by decide)
  obtain ⟨a0, a1, a2, a3, ha⟩ : ∃ a0 a1 a2 a3, leBytes 4 p.length = [a0, a1, a2, a3] :=
    ⟨_, _, _, _, rfl⟩
  have hv : leVal [a0, a1, a2, a3] = p.length := ha ▸ leVal_leBytes 4 _ hp
  simp only [Frame.bytes, ha, List.cons_append, List.nil_append]
  rw [zrun_silent S _ _ (.magic []) (.magic [m0]) rfl rfl,
    zrun_silent S _ _ (.magic [m0]) (.magic [m0, 0x2A]) rfl rfl,
    zrun_silent S _ _ (.magic [m0, 0x2A]) (.magic [m0, 0x2A, 0x4D]) rfl rfl,
    zrun_silent S _ _ (.magic [m0, 0x2A, 0x4D]) (.skipLen []) rfl (by simp [zstep, hm, hne]),
    zrun_silent S _ _ (.skipLen []) (.skipLen [_]) rfl rfl,
    zrun_silent S _ _ (.skipLen [_]) (.skipLen [_, _]) rfl rfl,
    zrun_silent S _ _ (.skipLen [_, _]) (.skipLen [_, _, _]) rfl rfl]
  cases hl : p.length with
  | zero =>
    have : p = [] := List.eq_nil_of_length_eq_zero hl
    subst this
    rw [zrun_silent S _ _ (.skipLen [_, _, _]) .done rfl (by rw [zstep_skipLen, hv, hl])]
    exact zdone_stop S r
  | succ k =>
    rw [zrun_silent S _ _ (.skipLen [_, _, _]) (.skip k) rfl (by rw [zstep_skipLen, hv, hl])]
    exact run_skip_data S p r k hl

/-- four bytes that are neither the frame magic nor a skippable-frame magic: `ErrMagicMismatch` -/
theorem run_bad_zmagic (b0 b1 b2 b3 : UInt8) (r : Bytes)
    (h1 : [b0, b1, b2, b3] ≠ [0x28, 0xB5, 0x2F, 0xFD])
    (h2 : ¬([b1, b2, b3] = [0x2A, 0x4D, 0x18] ∧ b0 &&& 0xF0 = 0x50)) :
    (zframe S).run (b0 :: b1 :: b2 :: b3 :: r) (.magic []) = (.failed errCorrupt, [], r) := by
  rw [zrun_silent S _ _ (.magic []) (.magic [b0]) rfl rfl,
    zrun_silent S _ _ (.magic [b0]) (.magic [b0, b1]) rfl rfl,
    zrun_silent S _ _ (.magic [b0, b1]) (.magic [b0, b1, b2]) rfl rfl,
    zrun_silent S _ _ (.magic [b0, b1, b2]) (.failed errCorrupt) rfl (by
      have e : zstep S (.magic [b0, b1, b2]) b3 =
          if [b0, b1, b2, b3] = [0x28, 0xB5, 0x2F, 0xFD] then (.fhd, none)
          else if [b1, b2, b3] = [0x2A, 0x4D, 0x18] ∧ b0 &&& 0xF0 = 0x50 then (.skipLen [], none)
          else (.failed errCorrupt, none) := rfl
      rw [e, if_neg h1, if_neg h2])]
  exact zfailed_stop S _ r

/-- one to three stray bytes where a frame must start leave the reader collecting the magic -/
theorem run_magic_partial (g : Bytes) (got : Bytes) (h : got.length + g.length ≤ 3) :
    (zframe S).run g (.magic got) = (.magic (got ++ g), [], []) := by
  induction g generalizing got with
  | nil => simp; rfl
  | cons b g ih =>
    have hl : got.length + 1 < 4 := by simp at h; omega
    rw [zrun_silent S b g (.magic got) (.magic (got ++ [b])) rfl (by simp [zstep, hl]),
      ih (got ++ [b]) (by simp at h ⊢; omega)]
    simp

/-- the four check-sum bytes do not say what was computed: `ErrCRCMismatch` (or a size error) -/
theorem run_sum_bad (c : Ctx) (held : Nat) (t0 t1 t2 t3 : UInt8) (r : Bytes)
    (h : [t0, t1, t2, t3] ≠ S.sum c.racc.reverse) :
    (zframe S).run (t0 :: t1 :: t2 :: t3 :: r) (.sum c [] held) = (.failed errCorrupt, [], r) := by
  rw [zrun_silent S _ _ (.sum c [] held) (.sum c [t0] held) rfl rfl,
    zrun_silent S _ _ (.sum c [t0] held) (.sum c [t0, t1] held) rfl rfl,
    zrun_silent S _ _ (.sum c [t0, t1] held) (.sum c [t0, t1, t2] held) rfl rfl,
    zrun_silent S _ _ (.sum c [t0, t1, t2] held) (.failed errCorrupt) rfl (by
      simp only [zstep, List.length_cons, List.length_nil, List.cons_append, List.nil_append]
      cases sizeOK c <;> simp [h])]
  exact zfailed_stop S _ r

/-- a check-summed frame whose check sum is wrong: the whole content is released, then the
error -/
theorem run_zframe_bad_sum (fhd wd : UInt8) (f : Bytes) (bs : List Bytes) (l : Bytes)
    (wf : DataWF fhd wd f bs l) (hsum : fhd &&& 4 ≠ 0) (t0 t1 t2 t3 : UInt8) (r : Bytes)
    (hbad : [t0, t1, t2, t3] ≠ S.sum (bs.flatten ++ l)) :
    (zframe S).run (headerBytes fhd wd f ++
        ((bs.map (rawBlock false)).flatten ++ (rawBlock true l ++ (t0 :: t1 :: t2 :: t3 :: r))))
      (.magic []) = (.failed errCorrupt, bs.flatten ++ l, r) := by
  have ht := run_sum_bad S (endCtx fhd wd bs l) l.length t0 t1 t2 t3 r (by rwa [endCtx_content])
  rw [← afterBlockZ_last_sum _ _ (by simp [endCtx, hsum])] at ht
  rw [run_zheader S fhd wd f bs l wf, ← List.append_assoc,
    run_seq (run_zblocks S fhd wd f bs l wf) ht, List.append_nil]

end Req.Compress.Zstd
