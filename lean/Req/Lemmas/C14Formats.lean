import Req.Client.CompressFormats
import Req.Lemmas.C14Auto
import Req.Lemmas.IfTree
/-!
Run lemmas for the container automata of `Req.Client.CompressFormats`: what each piece of an
encoder's output does to the decoder. `okChunks` is half of `Req.Props.C14Formats.Member.OK`.
`okD` / `okG` (no `failed .eof` inside) is the invariant C03 needs of the member reader
(`Req.Lemmas.C03Enc`); it is here because `gstep` is walked once, for `Lands`, which gives both
that invariant and the `step_not_fresh` of `gzip1_lawful`.
-/
namespace Req.Compress.Fmt
open Req.Proto Req.Compress Req.Compress.Auto
open Req.Lemmas (ite_ind)

theorem xor_cancel (x y : UInt8) : x ^^^ (x ^^^ y) = y := by
  rw [← UInt8.xor_assoc, UInt8.xor_self, UInt8.zero_xor]

theorem le16_val (n : Nat) (h : n < 65536) :
    (UInt8.ofNat (n % 256)).toNat + 256 * (UInt8.ofNat (n / 256)).toNat = n := by
  simp [UInt8.toNat_ofNat']; omega

theorem deflate_lawful : deflate.Lawful := ⟨fun _ _ => rfl, fun _ h => by simp [deflate] at h⟩

theorem drun_silent (b : UInt8) (inp : Bytes) (s s' : DSt) (hp : dphase s = .working)
    (hs : dstep s b = (s', none)) : deflate.run (b :: inp) s = deflate.run inp s' :=
  run_silent hp hs

theorem run_data (f : Bool) (c : Bytes) (k : Nat) (h : c.length = k + 1) :
    deflate.run c (.data f k) = (afterBlock f, c, []) := by
  induction c generalizing k with
  | nil => simp at h
  | cons b c ih =>
    cases k with
    | zero =>
      have hc : c = [] := by simpa using h
      subst hc
      exact run_cons (A := deflate) rfl rfl rfl
    | succ k => exact run_cons (A := deflate) rfl rfl (ih k (by simpa using h))

theorem step_hdr (f : Bool) : dstep .hdr (if f then 1 else 0) = (.len1 f, none) := by
  cases f <;> decide

theorem step_len4_zero (f : Bool) (l0 l1 n0 n1 : UInt8) (hx : l0 ^^^ n0 = 255 ∧ l1 ^^^ n1 = 255)
    (h : l0.toNat + 256 * l1.toNat = 0) : dstep (.len4 f l0 l1 n0) n1 = (afterBlock f, none) := by
  simp [dstep, hx, h]

theorem step_len4_succ (f : Bool) (l0 l1 n0 n1 : UInt8) (hx : l0 ^^^ n0 = 255 ∧ l1 ^^^ n1 = 255)
    (k : Nat) (h : l0.toNat + 256 * l1.toNat = k + 1) :
    dstep (.len4 f l0 l1 n0) n1 = (.data f k, none) := by
  simp [dstep, hx, h]

theorem run_block (f : Bool) (c : Bytes) (hc : c.length < 65536) :
    deflate.run (block f c) .hdr = (afterBlock f, c, []) := by
  simp only [block, le16, List.map_cons, List.map_nil, List.cons_append, List.nil_append]
  rw [drun_silent _ _ .hdr (.len1 f) rfl (step_hdr f),
    drun_silent _ _ (.len1 f) (.len2 f _) rfl rfl,
    drun_silent _ _ (.len2 f _) (.len3 f _ _) rfl rfl,
    drun_silent _ _ (.len3 f _ _) (.len4 f _ _ _) rfl rfl]
  have hv := le16_val c.length hc
  have hx {a b : UInt8} : a ^^^ (a ^^^ 255) = 255 ∧ b ^^^ (b ^^^ 255) = 255 := ⟨xor_cancel a 255, xor_cancel b 255⟩
  cases hl : c.length with
  | zero =>
    have : c = [] := List.eq_nil_of_length_eq_zero hl
    subst this
    rw [drun_silent _ _ (.len4 f _ _ _) (afterBlock f) rfl (step_len4_zero f _ _ _ _ hx (by simp))]
    rfl
  | succ k =>
    rw [hl] at hv
    rw [drun_silent _ _ (.len4 f _ _ _) (.data f k) rfl (step_len4_succ f _ _ _ _ hx k hv)]
    exact run_data f c k hl

/-- what the encoder may be asked to store: every block at most 65535 bytes long -/
def okChunks (cs : List Bytes) (last : Bytes) : Prop :=
  (∀ c ∈ cs, c.length < 65536) ∧ last.length < 65536

theorem run_blocks_then (cs : List Bytes) (hcs : ∀ c ∈ cs, c.length < 65536) {tl o r : Bytes} {s : DSt}
    (h : deflate.run tl .hdr = (s, o, r)) :
    deflate.run ((cs.map (block false)).flatten ++ tl) .hdr = (s, cs.flatten ++ o, r) := by
  induction cs with
  | nil => exact h
  | cons c cs ih =>
    simp only [List.map_cons, List.flatten_cons, List.append_assoc]
    exact run_seq (run_block false c (hcs c (by simp))) (ih (fun x hx => hcs x (by simp [hx])))

theorem run_stored (cs : List Bytes) (last : Bytes) (h : okChunks cs last) :
    deflate.run (stored cs last) .hdr = (.done, cs.flatten ++ last, []) :=
  run_blocks_then cs h.1 (run_block true last h.2)

theorem stored_unit (cs : List Bytes) (last : Bytes) (h : okChunks cs last) :
    deflate.IsUnit (stored cs last) (cs.flatten ++ last) :=
  ⟨.done, run_stored cs last h, rfl⟩

/-- no failure inside that would read as a clean end of the stream: the states from which the
multistream reader never answers an error of its source with `io.EOF` (`Req.Lemmas.C03Enc`) -/
def okD : DSt → Prop
  | .failed e => e ≠ .eof
  | _ => True

def okG : GSt → Prop
  | .failed e => e ≠ .eof
  | .body d _ _ => okD d
  | _ => True

theorem afterBlock_ok (f : Bool) : okD (afterBlock f) := by
  unfold afterBlock; split <;> trivial

theorem dstep_ok (d : DSt) (b : UInt8) (h : okD d) : okD (dstep d b).1 := by
  cases d with
  | hdr =>
    simp only [dstep]
    split
    · simp [okD]
    · split <;> simp [okD, errCorrupt, errUnmodelled]
  | len1 f => simp [dstep, okD]
  | len2 f l0 => simp [dstep, okD]
  | len3 f l0 l1 => simp [dstep, okD]
  | len4 f l0 l1 n0 =>
    simp only [dstep]
    split
    · split
      · exact afterBlock_ok f
      · simp [okD]
    · simp [okD, errCorrupt]
  | data f k =>
    cases k with
    | zero => simp only [dstep]; exact afterBlock_ok f
    | succ k => simp [dstep, okD]
  | done => simp [dstep, okD]
  | failed e => simpa [dstep, okD] using h

variable (S : Sums)

/-- where a step of the member reader may land: never where a member starts, and never in a
failure that would read as a clean end -/
def Lands (s : GSt) : Prop := gfresh s = false ∧ okG s

theorem lands_corrupt : Lands (.failed errCorrupt) := ⟨rfl, by simp [okG, errCorrupt]⟩

theorem enterBody_lands : Lands enterBody := ⟨rfl, trivial⟩
theorem afterComment_lands (flg : UInt8) (hc : UInt32) : Lands (afterComment flg hc) :=
  ite_ind Lands ⟨rfl, trivial⟩ enterBody_lands
theorem afterName_lands (flg : UInt8) (hc : UInt32) : Lands (afterName flg hc) :=
  ite_ind Lands ⟨rfl, trivial⟩ (afterComment_lands flg hc)
theorem afterExtra_lands (flg : UInt8) (hc : UInt32) : Lands (afterExtra flg hc) :=
  ite_ind Lands ⟨rfl, trivial⟩ (afterName_lands flg hc)
theorem afterFixed_lands (flg : UInt8) (hc : UInt32) : Lands (afterFixed flg hc) :=
  ite_ind Lands ⟨rfl, trivial⟩ (afterExtra_lands flg hc)

/-- where the body state goes when `compress/flate` is in state `d`, with the check sum and
size of what was released so far -/
def bodyExit (d : DSt) (crc : UInt32) (size : Nat) : GSt :=
  match dphase d with
  | .done => .trailer crc size []
  | .failed e => .failed e
  | .working => .body d crc size

theorem gstep_body (d : DSt) (crc : UInt32) (size : Nat) (b : UInt8) :
    gstep S (.body d crc size) b =
      (bodyExit (dstep d b).1 (S.crc crc (optList (dstep d b).2)) (size + (optList (dstep d b).2).length),
        (dstep d b).2) := by
  simp only [gstep, bodyExit]
  generalize dstep d b = r
  obtain ⟨d1, o1⟩ := r
  cases o1 <;> cases dphase d1 <;> rfl

/-- one walk over `gstep`: from a state without `failed .eof` inside every step lands as `Lands`
says; from any state it lands in a state that is not fresh -/
theorem gstep_lands (s : GSt) (b : UInt8) :
    gfresh (gstep S s b).1 = false ∧ (okG s → okG (gstep S s b).1) := by
  have of : ∀ {s' : GSt}, Lands s' → gfresh s' = false ∧ (okG s → okG s') := fun h => ⟨h.1, fun _ => h.2⟩
  let L (x : GSt × Option UInt8) := Lands x.1
  cases s with
  | fixed i ok flg hc =>
    exact of (ite_ind L ⟨rfl, trivial⟩ (ite_ind L (afterFixed_lands _ _) lands_corrupt))
  | xlen1 flg hc => exact of ⟨rfl, trivial⟩
  | xlen2 flg hc lo =>
    simp only [gstep]; split
    · exact of (afterExtra_lands _ _)
    · exact of ⟨rfl, trivial⟩
  | extra flg hc k =>
    cases k with
    | zero => exact of (afterExtra_lands _ _)
    | succ k => exact of ⟨rfl, trivial⟩
  | name flg hc i =>
    exact of (ite_ind L (afterName_lands _ _) (ite_ind L ⟨rfl, trivial⟩ lands_corrupt))
  | comment flg hc i =>
    exact of (ite_ind L (afterComment_lands _ _) (ite_ind L ⟨rfl, trivial⟩ lands_corrupt))
  | hcrc1 hc => exact of ⟨rfl, trivial⟩
  | hcrc2 hc lo => exact of (ite_ind L enterBody_lands lands_corrupt)
  | body d crc size =>
    rw [gstep_body]
    refine ⟨?_, fun h => ?_⟩
    · unfold bodyExit; split <;> rfl
    · have hd := dstep_ok d b h
      revert hd
      unfold bodyExit
      generalize (dstep d b).1 = d'
      cases d' <;> exact id
  | trailer crc size got =>
    exact of (ite_ind L ⟨rfl, trivial⟩ (ite_ind L ⟨rfl, trivial⟩ lands_corrupt))
  | done => exact of ⟨rfl, trivial⟩
  | failed e => exact ⟨rfl, id⟩

theorem gstep_not_fresh (s : GSt) (b : UInt8) : gfresh (gstep S s b).1 = false := (gstep_lands S s b).1

theorem gzip1_lawful : (gzip1 S).Lawful := by
  constructor
  · exact gstep_not_fresh S
  · intro s h
    cases s with
    | fixed i ok flg hc => rfl
    | _ => simp [gzip1, gfresh] at h

theorem gzip1_init_working : (gzip1 S).phase (gzip1 S).init = .working := rfl
theorem gzip1_init_fresh : (gzip1 S).fresh (gzip1 S).init = true := rfl

theorem grun_silent (b : UInt8) (inp : Bytes) (s s' : GSt) (hp : gphase s = .working)
    (hs : gstep S s b = (s', none)) : (gzip1 S).run (b :: inp) s = (gzip1 S).run inp s' :=
  run_silent hp hs

theorem gfailed_stop (e : Term) (r : Bytes) :
    (gzip1 S).run r (.failed e) = (.failed e, [], r) :=
  run_stopped (gzip1 S) r (.failed e) (by intro hc; cases hc)

theorem crc_append (c : UInt32) (a b : Bytes) : S.crc c (a ++ b) = S.crc (S.crc c a) b := by
  simp [Sums.crc, List.foldl_append]

/-- the ten fixed header bytes, whatever they are: all ten are read before the magic and method
bytes are judged (`io.ReadFull(z.r, z.buf[:10])` comes first). The state reached is a parameter
`v` with its value as a hypothesis: a caller who knows the bytes names the branch
(`afterFixed …` / `.failed errCorrupt`) and discharges `hv` by `if_pos` / `if_neg`. -/
theorem run_fixed_any (b0 b1 b2 b3 b4 b5 b6 b7 b8 b9 : UInt8) (r : Bytes) (v : GSt)
    (hv : v = if b0 = 0x1f ∧ b1 = 0x8b ∧ b2 = 8
      then afterFixed b3 (S.crc 0 [b0, b1, b2, b3, b4, b5, b6, b7, b8, b9]) else .failed errCorrupt) :
    (gzip1 S).run (b0 :: b1 :: b2 :: b3 :: b4 :: b5 :: b6 :: b7 :: b8 :: b9 :: r) gInit =
      (gzip1 S).run r v := by
  rw [gInit, grun_silent S _ _ _ _ rfl rfl, grun_silent S _ _ _ _ rfl rfl, grun_silent S _ _ _ _ rfl rfl,
    grun_silent S _ _ _ _ rfl rfl, grun_silent S _ _ _ _ rfl rfl, grun_silent S _ _ _ _ rfl rfl,
    grun_silent S _ _ _ _ rfl rfl, grun_silent S _ _ _ _ rfl rfl, grun_silent S _ _ _ _ rfl rfl]
  -- the state after nine bytes is written out: left as the nest of `okNext (0 + 1 + …)` the nine
  -- steps produced, unfolding the tenth step on it is very slow
  refine grun_silent S b9 r (.fixed 9 (b0 == 0x1f && b1 == 0x8b && b2 == 8) b3
    (S.crc 0 [b0, b1, b2, b3, b4, b5, b6, b7, b8])) v rfl ?_
  rw [hv]
  simp only [gstep, okNext, Nat.lt_irrefl, if_false, Bool.and_eq_true, beq_iff_eq, and_assoc]
  split <;> rfl

theorem run_fixed (h : GzHeader) (r : Bytes) :
    (gzip1 S).run (h.fixedPart ++ r) gInit =
      (gzip1 S).run r (afterFixed h.flg (S.crc 0 h.fixedPart)) :=
  run_fixed_any S _ _ _ _ _ _ _ _ _ _ r _ (by rw [if_pos ⟨rfl, rfl, rfl⟩]; rfl)

/-- FHCRC, FEXTRA, FNAME, FCOMMENT are bits 1 to 4 of FLG -/
theorem flg_bits (t c e n k : Bool) :
    ((flgOf t c e n k &&& 2 ≠ 0) ↔ c = true) ∧ ((flgOf t c e n k &&& 4 ≠ 0) ↔ e = true) ∧
    ((flgOf t c e n k &&& 8 ≠ 0) ↔ n = true) ∧ ((flgOf t c e n k &&& 16 ≠ 0) ↔ k = true) := by
  revert t c e n k; decide +kernel

theorem GzHeader.flg_hcrc (h : GzHeader) : h.flg &&& 2 ≠ 0 ↔ h.hcrc = true := (flg_bits ..).1
theorem GzHeader.flg_extra (h : GzHeader) : h.flg &&& 4 ≠ 0 ↔ h.extra.isSome = true :=
  (flg_bits ..).2.1
theorem GzHeader.flg_name (h : GzHeader) : h.flg &&& 8 ≠ 0 ↔ h.name.isSome = true :=
  (flg_bits ..).2.2.1
theorem GzHeader.flg_comment (h : GzHeader) : h.flg &&& 16 ≠ 0 ↔ h.comment.isSome = true :=
  (flg_bits ..).2.2.2

theorem run_extra_data (flg : UInt8) (hc : UInt32) (k : Nat) (e r : Bytes) (h : e.length = k + 1) :
    (gzip1 S).run (e ++ r) (.extra flg hc k) = (gzip1 S).run r (afterExtra flg (S.crc hc e)) := by
  induction e generalizing hc k with
  | nil => simp at h
  | cons b e ih =>
    cases k with
    | zero =>
      have he : e = [] := by simpa using h
      subst he
      rw [List.cons_append, grun_silent S _ _ _ _ rfl rfl]
      rfl
    | succ k =>
      have he : e.length = k + 1 := by simpa using h
      rw [List.cons_append, grun_silent S _ _ (.extra flg hc (k + 1)) (.extra flg (S.crcUpd hc b) k) rfl rfl,
        ih _ k he]
      rfl

theorem step_xlen2_zero (flg : UInt8) (hc : UInt32) (lo b : UInt8) (h : lo.toNat + 256 * b.toNat = 0) :
    gstep S (.xlen2 flg hc lo) b = (afterExtra flg (S.crcUpd hc b), none) := by
  simp [gstep, h]

theorem step_xlen2_succ (flg : UInt8) (hc : UInt32) (lo b : UInt8) (k : Nat)
    (h : lo.toNat + 256 * b.toNat = k + 1) :
    gstep S (.xlen2 flg hc lo) b = (.extra flg (S.crcUpd hc b) k, none) := by
  simp [gstep, h]

theorem run_extra (flg : UInt8) (hc : UInt32) (e r : Bytes) (he : e.length < 65536) :
    (gzip1 S).run (le16 e.length ++ e ++ r) (.xlen1 flg hc) =
      (gzip1 S).run r (afterExtra flg (S.crc hc (le16 e.length ++ e))) := by
  simp only [le16, List.cons_append, List.nil_append]
  rw [grun_silent S _ _ _ _ rfl rfl]
  have hv := le16_val e.length he
  cases hl : e.length with
  | zero =>
    have : e = [] := List.eq_nil_of_length_eq_zero hl
    subst this
    rw [grun_silent S _ _ (.xlen2 flg _ _) _ rfl (step_xlen2_zero S flg _ _ _ (by simp))]
    rfl
  | succ k =>
    rw [hl] at hv
    rw [grun_silent S _ _ (.xlen2 flg _ _) _ rfl (step_xlen2_succ S flg _ _ _ k hv),
      run_extra_data S flg _ k e r hl]
    rfl

/-- a NUL-terminated header string as `readString` reads it (FNAME, FCOMMENT) -/
theorem run_string (st : UInt32 → Nat → GSt) (after : UInt32 → GSt)
    (hstep : ∀ hc i b, gstep S (st hc i) b =
      if b = 0 then (after (S.crcUpd hc b), none)
      else if i + 1 < stringLimit then (st (S.crcUpd hc b) (i + 1), none)
      else (.failed errCorrupt, none))
    (hph : ∀ hc i, gphase (st hc i) = .working)
    (hc : UInt32) (i : Nat) (n r : Bytes) (hz : noZero n) (hl : i + n.length < stringLimit) :
    (gzip1 S).run (n ++ 0 :: r) (st hc i) = (gzip1 S).run r (after (S.crc hc (n ++ [0]))) := by
  induction n generalizing hc i with
  | nil =>
    rw [List.nil_append, grun_silent S _ _ _ (after (S.crcUpd hc 0)) (hph ..)
      (by rw [hstep, if_pos rfl])]
    rfl
  | cons b n ih =>
    have hb : b ≠ 0 := hz b (by simp)
    have hl' : i + 1 + n.length < stringLimit := by simp at hl; omega
    have hi : i + 1 < stringLimit := by omega
    rw [List.cons_append, grun_silent S _ _ _ (st (S.crcUpd hc b) (i + 1)) (hph ..)
      (by rw [hstep, if_neg hb, if_pos hi]), ih _ (i + 1) (fun x hx => hz x (by simp [hx])) hl']
    rfl

theorem run_hcrc (hc : UInt32) (r : Bytes) :
    (gzip1 S).run ((le32 hc).take 2 ++ r) (.hcrc1 hc) = (gzip1 S).run r enterBody := by
  simp only [le32, List.take, List.cons_append, List.nil_append]
  rw [grun_silent S _ _ _ _ rfl rfl,
    grun_silent S _ _ (.hcrc2 hc _) enterBody rfl (by simp [gstep, le32])]

theorem run_optExtra (h : GzHeader) (wf : h.WF) (hc : UInt32) (r : Bytes) :
    (gzip1 S).run (optExtra h.extra ++ r) (afterFixed h.flg hc) =
      (gzip1 S).run r (afterExtra h.flg (S.crc hc (optExtra h.extra))) := by
  cases he : h.extra with
  | none =>
    have : ¬ (h.flg &&& 4 ≠ 0) := by
      rw [h.flg_extra, he]; simp
    rw [afterFixed, if_neg this]
    rfl
  | some e =>
    have : h.flg &&& 4 ≠ 0 := by
      rw [h.flg_extra, he]; simp
    rw [afterFixed, if_pos this]
    simp only [optExtra]
    exact run_extra S h.flg hc e r (wf.extra e he)

/-- an optional header string behind its flag bit `c`: absent, the reader is already where the
string would have left it -/
theorem run_optString (st : UInt32 → Nat → GSt) (after : UInt32 → GSt)
    (hstep : ∀ hc i b, gstep S (st hc i) b =
      if b = 0 then (after (S.crcUpd hc b), none)
      else if i + 1 < stringLimit then (st (S.crcUpd hc b) (i + 1), none)
      else (.failed errCorrupt, none))
    (hph : ∀ hc i, gphase (st hc i) = .working)
    (fld : Option Bytes) (hw : okString fld) {c : Prop} [Decidable c] (hbit : c ↔ fld.isSome = true)
    (hc : UInt32) (r : Bytes) :
    (gzip1 S).run (optString fld ++ r) (if c then st hc 0 else after hc : GSt) =
      (gzip1 S).run r (after (S.crc hc (optString fld))) := by
  cases fld with
  | none =>
    rw [if_neg (by rw [hbit]; simp)]
    rfl
  | some n =>
    rw [if_pos (by rw [hbit]; rfl)]
    simp only [optString, List.append_assoc, List.cons_append, List.nil_append]
    exact run_string S st after hstep hph hc 0 n r hw.1 (by simpa using hw.2)

theorem run_optName (h : GzHeader) (wf : h.WF) (hc : UInt32) (r : Bytes) :
    (gzip1 S).run (optString h.name ++ r) (afterExtra h.flg hc) =
      (gzip1 S).run r (afterName h.flg (S.crc hc (optString h.name))) :=
  run_optString S (.name h.flg) (afterName h.flg) (fun _ _ _ => rfl) (fun _ _ => rfl) h.name wf.name
    h.flg_name hc r

theorem run_optComment (h : GzHeader) (wf : h.WF) (hc : UInt32) (r : Bytes) :
    (gzip1 S).run (optString h.comment ++ r) (afterName h.flg hc) =
      (gzip1 S).run r (afterComment h.flg (S.crc hc (optString h.comment))) :=
  run_optString S (.comment h.flg) (afterComment h.flg) (fun _ _ _ => rfl) (fun _ _ => rfl) h.comment
    wf.comment h.flg_comment hc r

theorem run_optHcrc (h : GzHeader) (hc : UInt32) (r : Bytes) :
    (gzip1 S).run ((if h.hcrc then (le32 hc).take 2 else []) ++ r) (afterComment h.flg hc) =
      (gzip1 S).run r enterBody := by
  cases he : h.hcrc with
  | false =>
    have : ¬ (h.flg &&& 2 ≠ 0) := by
      rw [h.flg_hcrc, he]; simp
    rw [afterComment, if_neg this]
    rfl
  | true =>
    have : h.flg &&& 2 ≠ 0 := by
      rw [h.flg_hcrc, he]
    rw [afterComment, if_pos this]
    exact run_hcrc S hc r

/-- the part of the header the FHCRC field covers: read, with its CRC-32 carried along -/
theorem run_covered (h : GzHeader) (wf : h.WF) (r : Bytes) :
    (gzip1 S).run (h.covered ++ r) gInit =
      (gzip1 S).run r (afterComment h.flg (S.crc 0 h.covered)) := by
  simp only [GzHeader.covered, List.append_assoc]
  rw [run_fixed, run_optExtra S h wf, run_optName S h wf, run_optComment S h wf]
  simp only [← crc_append, List.append_assoc]

theorem run_header (h : GzHeader) (wf : h.WF) (r : Bytes) :
    (gzip1 S).run (h.bytes S ++ r) gInit = (gzip1 S).run r enterBody := by
  rw [GzHeader.bytes, List.append_assoc, run_covered S h wf]
  exact run_optHcrc S h _ r

theorem crc_optList (c : UInt32) (o : Option UInt8) :
    (match o with | some x => S.crcUpd c x | none => c) = S.crc c (optList o) := by
  cases o <;> rfl

theorem size_optList (n : Nat) (o : Option UInt8) :
    (match o with | some _ => n + 1 | none => n) = n + (optList o).length := by
  cases o <;> rfl

/-- the DEFLATE stream inside a member: the body state runs `compress/flate`; what that releases
goes out unchanged and into the running CRC-32 and size, and where it stops the member goes on
(trailer, or its error) -/
theorem run_body {w o rest o'' r'' : Bytes} {d d' : DSt} {crc : UInt32} {size : Nat} {s'' : GSt}
    (hd : dphase d = .working) (h : deflate.run w d = (d', o, rest))
    (h' : (gzip1 S).run rest (bodyExit d' (S.crc crc o) (size + o.length)) = (s'', o'', r'')) :
    (gzip1 S).run w (.body d crc size) = (s'', o ++ o'', r'') := by
  induction w generalizing d crc size o with
  | nil =>
    cases h
    simpa [bodyExit, hd, Sums.crc] using h'
  | cons b w ih =>
    rw [run_cons_working deflate b w d hd, show deflate.step d b = dstep d b from rfl] at h
    cases h
    rw [List.append_assoc]
    refine run_cons rfl (gstep_body S d crc size b) ?_
    by_cases h1 : dphase (dstep d b).1 = .working
    · have e : ∀ c n, bodyExit (dstep d b).1 c n = .body (dstep d b).1 c n := fun c n => by
        simp [bodyExit, h1]
      rw [e]
      refine ih h1 rfl ?_
      simpa [crc_append, Nat.add_assoc] using h'
    · rw [run_stopped deflate w (dstep d b).1 h1] at h' ⊢
      simp only [List.append_nil] at h' ⊢
      exact h'

/-- the eight trailer bytes: `t` completes what was collected in `got`; the member is done if
they are the CRC-32 and the size of what was decoded, `gzip.ErrChecksum` otherwise. `v` / `hv`
as in `run_fixed_any`; here the form is needed: with the `if` inside the result triple a caller's
`rw [if_pos …]` fails, the term is not type-correct at instance transparency (`GSt` against
`(gzip1 S).σ`). -/
theorem run_trailer_any (crc : UInt32) (size : Nat) (got t r : Bytes) (h : got.length + t.length = 8)
    (ht : t ≠ []) (v : GSt)
    (hv : v = if got ++ t = le32 crc ++ le32 (UInt32.ofNat size) then .done else .failed errCorrupt) :
    (gzip1 S).run (t ++ r) (.trailer crc size got) = (v, [], r) := by
  induction t generalizing got with
  | nil => exact absurd rfl ht
  | cons b t ih =>
    rw [List.cons_append]
    by_cases hn : t = []
    · subst hn
      have hl : ¬(got.length + 1 < 8) := by simp at h; omega
      have hp : gphase v ≠ .working := by rw [hv]; split <;> simp [gphase]
      rw [grun_silent S b _ _ v rfl (by simp only [gstep, if_neg hl, hv]; split <;> rfl)]
      exact run_stopped (gzip1 S) r v hp
    · have hl : got.length + 1 < 8 := by
        have := List.length_pos_iff.mpr hn
        simp at h; omega
      rw [grun_silent S b _ _ (.trailer crc size (got ++ [b])) rfl (by simp only [gstep, if_pos hl])]
      exact ih (got ++ [b]) (by simp at h ⊢; omega) hn (by rw [hv, List.append_assoc]; rfl)

theorem run_trailer (crc : UInt32) (size : Nat) (r : Bytes) :
    (gzip1 S).run (le32 crc ++ le32 (UInt32.ofNat size) ++ r) (.trailer crc size []) =
      (.done, [], r) :=
  run_trailer_any S crc size [] _ r rfl (by simp [le32]) .done (by simp)

theorem run_body_done {w o : Bytes} {d : DSt} (crc : UInt32) (size : Nat) (hd : dphase d = .working)
    (h : deflate.run w d = (.done, o, [])) :
    (gzip1 S).run w (.body d crc size) = (.trailer (S.crc crc o) (size + o.length) [], o, []) := by
  have := run_body S hd h (crc := crc) (size := size) (s'' := .trailer _ _ []) (o'' := []) (r'' := []) rfl
  rwa [List.append_nil] at this

theorem run_body_failed {w o rest : Bytes} {d : DSt} {e : Term} (crc : UInt32) (size : Nat)
    (hd : dphase d = .working) (h : deflate.run w d = (.failed e, o, rest)) :
    (gzip1 S).run w (.body d crc size) = (.failed e, o, rest) := by
  have := run_body S hd h (crc := crc) (size := size) (gfailed_stop S e rest)
  rwa [List.append_nil] at this

theorem run_member_body (h : GzHeader) (wf : h.WF) (cs : List Bytes) (last : Bytes)
    (hc : okChunks cs last) :
    (gzip1 S).run (h.bytes S ++ stored cs last) gInit =
      (.trailer (S.crc 0 (cs.flatten ++ last)) (cs.flatten ++ last).length [], cs.flatten ++ last, []) := by
  have hb := run_body_done S 0 0 rfl (run_stored cs last hc)
  rw [Nat.zero_add] at hb
  rw [run_header S h wf, enterBody, hb]

theorem run_member (h : GzHeader) (wf : h.WF) (cs : List Bytes) (last : Bytes)
    (hc : okChunks cs last) (r : Bytes) :
    (gzip1 S).run (gzMember S h cs last ++ r) gInit = (.done, cs.flatten ++ last, r) := by
  simpa [gzMember] using run_seq (run_member_body S h wf cs last hc) (run_trailer S _ _ r)

theorem member_unit (h : GzHeader) (wf : h.WF) (cs : List Bytes) (last : Bytes)
    (hc : okChunks cs last) :
    (gzip1 S).IsUnit (gzMember S h cs last) (cs.flatten ++ last) := by
  refine ⟨.done, ?_, rfl⟩
  have := run_member S h wf cs last hc []
  rw [List.append_nil] at this
  exact this

/-- ten bytes that are not `1f 8b 08 …`: `gzip.ErrHeader`, nothing delivered -/
theorem run_bad_magic (b0 b1 b2 b3 b4 b5 b6 b7 b8 b9 : UInt8) (r : Bytes)
    (h : ¬(b0 = 0x1f ∧ b1 = 0x8b ∧ b2 = 8)) :
    (gzip1 S).run (b0 :: b1 :: b2 :: b3 :: b4 :: b5 :: b6 :: b7 :: b8 :: b9 :: r) gInit =
      (.failed errCorrupt, [], r) :=
  (run_fixed_any S b0 b1 b2 b3 b4 b5 b6 b7 b8 b9 r _ (by rw [if_neg h])).trans (gfailed_stop S _ r)

/-- one to nine stray bytes where a member must start leave the reader inside the fixed part -/
theorem run_fixed_partial (i : Nat) (ok : Bool) (flg : UInt8) (hc : UInt32) (g : Bytes)
    (hg : i + g.length ≤ 9) :
    ∃ ok' flg' hc', (gzip1 S).run g (.fixed i ok flg hc) = (.fixed (i + g.length) ok' flg' hc', [], []) := by
  induction g generalizing i ok flg hc with
  | nil => exact ⟨ok, flg, hc, rfl⟩
  | cons b g ih =>
    have hi : i < 9 := by simp at hg; omega
    obtain ⟨ok', flg', hc', h⟩ := ih (i + 1) (okNext i ok b) (if i = 3 then b else flg) (S.crcUpd hc b)
      (by simp at hg; omega)
    refine ⟨ok', flg', hc', ?_⟩
    rw [grun_silent S b g (.fixed i ok flg hc)
      (.fixed (i + 1) (okNext i ok b) (if i = 3 then b else flg) (S.crcUpd hc b)) rfl
      (by simp [gstep, hi]), h]
    simp [Nat.add_assoc, Nat.add_comm 1]

/-- the eight trailer bytes do not say what was computed: `gzip.ErrChecksum` -/
theorem run_trailer_bad (crc : UInt32) (size : Nat) (t0 t1 t2 t3 t4 t5 t6 t7 : UInt8) (r : Bytes)
    (h : [t0, t1, t2, t3, t4, t5, t6, t7] ≠ le32 crc ++ le32 (UInt32.ofNat size)) :
    (gzip1 S).run (t0 :: t1 :: t2 :: t3 :: t4 :: t5 :: t6 :: t7 :: r) (.trailer crc size []) =
      (.failed errCorrupt, [], r) :=
  run_trailer_any S crc size [] [t0, t1, t2, t3, t4, t5, t6, t7] r rfl (by simp) _ (by rw [List.nil_append, if_neg h])

/-- FHCRC present and wrong: `gzip.ErrHeader` -/
theorem run_hcrc_bad (hc : UInt32) (x y : UInt8) (r : Bytes) (h : [x, y] ≠ (le32 hc).take 2) :
    (gzip1 S).run (x :: y :: r) (.hcrc1 hc) = (.failed errCorrupt, [], r) := by
  rw [grun_silent S _ _ _ _ rfl rfl,
    grun_silent S _ _ (.hcrc2 hc x) (.failed errCorrupt) rfl (by simp [gstep, h])]
  exact gfailed_stop S _ r

theorem run_header_bad_hcrc (h : GzHeader) (wf : h.WF) (hh : h.hcrc = true) (x y : UInt8) (r : Bytes)
    (hne : [x, y] ≠ (le32 (S.crc 0 h.covered)).take 2) :
    (gzip1 S).run (h.covered ++ x :: y :: r) gInit = (.failed errCorrupt, [], r) := by
  rw [run_covered S h wf, afterComment, if_pos (h.flg_hcrc.mpr hh)]
  exact run_hcrc_bad S _ x y r hne

theorem dfailed_stop (e : Term) (r : Bytes) : deflate.run r (.failed e) = (.failed e, [], r) :=
  run_stopped deflate r (.failed e) (by intro hc; cases hc)

/-- block type 11 -/
theorem run_reserved_type (b : UInt8) (r : Bytes) (h : (b >>> 1) &&& 3 = 3) :
    deflate.run (b :: r) .hdr = (.failed errCorrupt, [], r) := by
  rw [drun_silent b r .hdr (.failed errCorrupt) rfl (by simp [dstep, h])]
  exact dfailed_stop _ r

/-- NLEN is not the complement of LEN -/
theorem run_bad_nlen (b l0 l1 n0 n1 : UInt8) (r : Bytes) (hb : (b >>> 1) &&& 3 = 0)
    (h : ¬(l0 ^^^ n0 = 255 ∧ l1 ^^^ n1 = 255)) :
    deflate.run (b :: l0 :: l1 :: n0 :: n1 :: r) .hdr = (.failed errCorrupt, [], r) := by
  rw [drun_silent b _ .hdr (.len1 (b &&& 1 == 1)) rfl (by simp [dstep, hb]),
    drun_silent _ _ (.len1 _) (.len2 _ _) rfl rfl, drun_silent _ _ (.len2 _ _) (.len3 _ _ _) rfl rfl,
    drun_silent _ _ (.len3 _ _ _) (.len4 _ _ _ _) rfl rfl,
    drun_silent n1 r (.len4 _ l0 l1 n0) (.failed errCorrupt) rfl (by simp [dstep, h])]
  exact dfailed_stop _ r

end Req.Compress.Fmt
