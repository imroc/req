import Req.H2.WriteSeq
/-!
HTTP/2 framer, C05: the frame header is read back; over all `Write*` entry points at once (`WOp`): every
writer is its refusals or else `frameBytes` of its four parts (`writeA_eq`, read off the `Plan` of the
call), on `Wf` arguments no refusal fires and the parts fit the header (`plan_accepts`, `hdr_fits`), hence
the wire form (`write_wire`); the typed parser on the written payload (`parsePayload_wf`), the step of
the order automaton (`orderStep_wf`) and from these `ReadFrame` on the written bytes (`read_one`,
`write_read_back`, of which the per-type `*_parse_write` of `Req.Props.C05` are the instances); the order
automaton accepts exactly the contiguous header blocks.
-/
namespace Req.Lemmas.C05.H2
open Req.H2.Frame Req.Proto

attribute [local simp] tData tHeaders tPriority tRSTStream tSettings tPushPromise tPing tGoAway
  tWindowUpdate tContinuation flagEndStream flagAck flagEndHeaders flagPadded flagPriority
  errProtocol errFlowControl errFrameSize errCompression two24 two31

theorem u8_toNat (x : Nat) : (u8 x).toNat = x % 256 := by simp [u8]

section dispatch
variable {fh : FrameHeader} {p : Bytes}

theorem parsePayload_data (h : fh.type = tData) : parsePayload fh p = parseData fh p := by
  unfold parsePayload; rw [h]; rfl
theorem parsePayload_headers (h : fh.type = tHeaders) : parsePayload fh p = parseHeaders fh p := by
  unfold parsePayload; rw [h]; rfl
theorem parsePayload_priority (h : fh.type = tPriority) : parsePayload fh p = parsePriority fh p := by
  unfold parsePayload; rw [h]; rfl
theorem parsePayload_rstStream (h : fh.type = tRSTStream) :
    parsePayload fh p = parseRSTStream fh p := by
  unfold parsePayload; rw [h]; rfl
theorem parsePayload_settings (h : fh.type = tSettings) : parsePayload fh p = parseSettings fh p := by
  unfold parsePayload; rw [h]; rfl
theorem parsePayload_pushPromise (h : fh.type = tPushPromise) :
    parsePayload fh p = parsePushPromise fh p := by
  unfold parsePayload; rw [h]; rfl
theorem parsePayload_ping (h : fh.type = tPing) : parsePayload fh p = parsePing fh p := by
  unfold parsePayload; rw [h]; rfl
theorem parsePayload_goAway (h : fh.type = tGoAway) : parsePayload fh p = parseGoAway fh p := by
  unfold parsePayload; rw [h]; rfl
theorem parsePayload_windowUpdate (h : fh.type = tWindowUpdate) :
    parsePayload fh p = parseWindowUpdate fh p := by
  unfold parsePayload; rw [h]; rfl
theorem parsePayload_continuation (h : fh.type = tContinuation) :
    parsePayload fh p = parseContinuation fh p := by
  unfold parsePayload; rw [h]; rfl
theorem parsePayload_unknown (h : 10 ≤ fh.type) : parsePayload fh p = .ok (.unknown fh p) := by
  unfold parsePayload
  repeat rw [if_neg (Nat.ne_of_gt (Nat.lt_of_lt_of_le (by decide) h))]

end dispatch

theorem rd32_be32 (v : Nat) (h : v < 4294967296) :
    rd32 (u8 (v / 16777216)) (u8 (v / 65536)) (u8 (v / 256)) (u8 v) = v := by
  simp only [rd32, u8_toNat]
  -- `omega` is much faster on iterated quotients by 256 than on one quotient per power of 256
  rw [show v / 16777216 = v / 256 / 256 / 256 by simp only [Nat.div_div_eq_div_mul],
    show v / 65536 = v / 256 / 256 by simp only [Nat.div_div_eq_div_mul]]
  omega

/-- `readFrameHeader` on a written header: the reserved bit of the stream id is dropped. -/
theorem parseHeader_headerBytes (l t f s : Nat) (rest : Bytes)
    (hl : l < two24) (ht : t < 256) (hf : f < 256) (hs : s < 4294967296) :
    parseHeader (headerBytes l t f s ++ rest) = some (⟨l, t, f, s % two31⟩, rest) := by
  simp only [two24] at hl
  simp only [headerBytes, be32, List.cons_append, List.nil_append, parseHeader, rd32_be32 s hs,
    u8_toNat]
  rw [show l / 65536 = l / 256 / 256 by simp only [Nat.div_div_eq_div_mul]]
  congr 3 <;> omega

theorem frameHeader_roundtrip (l t f s : Nat) (rest : Bytes)
    (hl : l < two24) (ht : t < 256) (hf : f < 256) (hs : s < two31) :
    parseHeader (headerBytes l t f s ++ rest) = some (⟨l, t, f, s⟩, rest) := by
  rw [parseHeader_headerBytes l t f s rest hl ht hf (Nat.lt_trans hs (by decide)),
    Nat.mod_eq_of_lt hs]

theorem readFrame_frame (r : Reader) (t fl sid : Nat) (payload rest : Bytes)
    (ht : t < 256) (hf : fl < 256) (hs : sid < two31) (hl : payload.length < two24)
    (hm : payload.length ≤ r.maxReadSize) :
    readFrame r (headerBytes payload.length t fl sid ++ (payload ++ rest)) =
      afterPayload r ⟨payload.length, t, fl, sid⟩ payload rest := by
  unfold readFrame
  rw [frameHeader_roundtrip _ _ _ _ _ hl ht hf hs]
  simp only
  rw [if_neg (by omega)]
  rw [if_neg (by simp)]
  simp

theorem frameBytes_ok (t f s : Nat) (payload : Bytes) (h : payload.length < two24) :
    frameBytes t f s payload = .ok (headerBytes payload.length t f s ++ payload) := by
  simp only [frameBytes]; rw [if_neg (by omega)]

theorem reader_eta (r : Reader) (l : Nat) (h : r.lastHeaderStream = l) :
    { r with lastHeaderStream := l } = r := by
  cases r; cases h; rfl

theorem validStreamID_of (sid : Nat) (h : ValidSid sid) : validStreamID sid = true := by
  simp [validStreamID, ValidSid] at *; omega

theorem validStreamIDOrZero_of {p : Priority} (h : WfPriority p) :
    validStreamIDOrZero p.streamDep = true := by
  have := h.1; simp [validStreamIDOrZero] at *; omega

theorem orBit31_small (d : Nat) (h : d < 2147483648) : orBit31 d = d + 2147483648 := by
  unfold orBit31
  rw [if_neg (by simp only [two31]; omega)]

/-- the exclusive bit in both orientations: `takePrio` tests `v ≠ v % 2^31`, `parsePriority`
`v % 2^31 ≠ v`. -/
theorem prio_decode (p : Priority) (hp : WfPriority p) :
    let v := if p.exclusive then orBit31 p.streamDep else p.streamDep
    v < 4294967296 ∧ v % 2147483648 = p.streamDep ∧ (decide (v % 2147483648 ≠ v) = p.exclusive)
      ∧ (decide (v ≠ v % 2147483648) = p.exclusive) := by
  obtain ⟨h1, h2⟩ := hp
  simp only [two31] at h1
  cases he : p.exclusive
  · simp; omega
  · simp [orBit31_small _ h1]; omega

theorem encodeSettings_length (ss : List (Nat × Nat)) : (encodeSettings ss).length = 6 * ss.length := by
  induction ss with
  | nil => rfl
  | cons s ss ih => obtain ⟨a, b⟩ := s; simp [encodeSettings, be16, be32, ih]; omega

theorem decode_encodeSettings (ss : List (Nat × Nat)) (h : ∀ s ∈ ss, s.1 < 65536 ∧ s.2 < 4294967296) :
    decodeSettings (encodeSettings ss) = ss := by
  induction ss with
  | nil => rfl
  | cons s ss ih =>
    obtain ⟨a, b⟩ := s
    have hab := h (a, b) (by simp)
    simp only [encodeSettings, be16, be32, List.cons_append, List.nil_append, decodeSettings]
    rw [ih (fun s hs => h s (by simp [hs])), rd32_be32 b hab.2]
    simp only [u8_toNat]
    congr 2
    have := hab.1
    simp only at this
    omega

theorem take_append_sub (a b : Bytes) : (a ++ b).take ((a ++ b).length - b.length) = a := by
  simp

theorem isZero_eq (p : Priority) (h : p.isZero = true) : p = Priority.zero := by
  obtain ⟨d, e, w⟩ := p
  simp [Priority.isZero, Priority.zero] at *
  obtain ⟨⟨h1, h2⟩, h3⟩ := h
  simp [h1, h2, h3]

/-- what `Flags.Has` reads back from the flags byte `WriteHeaders` computes -/
structure HeadersFlagsBits (p : HeadersParam) : Prop where
  lt : headersFlags p < 256
  padded : hasFlag (headersFlags p) flagPadded = (p.padLength != 0)
  priority : hasFlag (headersFlags p) flagPriority = (!p.priority.isZero)
  endHeaders : hasFlag (headersFlags p) flagEndHeaders = p.endHeaders
  endStream : hasFlag (headersFlags p) flagEndStream = p.endStream

theorem headersFlags_bits (p : HeadersParam) : HeadersFlagsBits p := by
  refine ⟨?_, ?_, ?_, ?_, ?_⟩ <;> unfold headersFlags <;>
    cases (p.padLength != 0) <;> cases p.endStream <;> cases p.endHeaders <;>
    cases (!p.priority.isZero) <;> decide

/-- what `Flags.Has` reads back from the flags byte `WritePushPromise` computes -/
structure PushPromiseFlagsBits (p : PushPromiseParam) : Prop where
  lt : pushPromiseFlags p < 256
  padded : hasFlag (pushPromiseFlags p) flagPadded = (p.padLength != 0)
  endHeaders : hasFlag (pushPromiseFlags p) flagEndHeaders = p.endHeaders

theorem pushPromiseFlags_bits (p : PushPromiseParam) : PushPromiseFlagsBits p := by
  refine ⟨?_, ?_, ?_⟩ <;> unfold pushPromiseFlags <;>
    cases (p.padLength != 0) <;> cases p.endHeaders <;> decide

theorem takePad_eq (pd : Bool) (p : Bytes) :
    takePad pd p = if p.length < b2n pd 1 then .error .unexpectedEOF
      else .ok (if pd then (p.headD 0).toNat else 0, p.drop (b2n pd 1)) := by
  cases pd <;> cases p <;> rfl

theorem takePrio_short {pr : Bool} {p : Bytes} (h : p.length < b2n pr 5) :
    takePrio pr p = .error .unexpectedEOF := by
  cases pr
  · cases h
  · rcases p with _ | ⟨a, _ | ⟨b, _ | ⟨c, _ | ⟨d, _ | ⟨w, r⟩⟩⟩⟩⟩ <;> try rfl
    simp only [b2n, if_true, List.length_cons] at h; omega

theorem takePrio_ok {pr : Bool} {p : Bytes} (h : b2n pr 5 ≤ p.length) :
    ∃ prio, takePrio pr p = .ok (prio, p.drop (b2n pr 5)) := by
  cases pr
  · exact ⟨_, rfl⟩
  · rcases p with _ | ⟨a, _ | ⟨b, _ | ⟨c, _ | ⟨d, _ | ⟨w, r⟩⟩⟩⟩⟩ <;> try exact ⟨_, rfl⟩
    all_goals simp [b2n] at h

/-- the optional Pad Length octet, as `WriteHeaders` / `WritePushPromise` write it, is read back. -/
theorem takePad_written (n : Nat) (rest : Bytes) (h : n < 256) :
    takePad (n != 0) ((if n != 0 then [u8 n] else []) ++ rest) = .ok (n, rest) := by
  by_cases h0 : n = 0
  · simp [h0, takePad]
  · simp [h0, takePad, u8_toNat]; omega

theorem takePrio_prioBytes (pr : Priority) (rest : Bytes) (h : WfPriority pr) :
    takePrio true (prioBytes pr ++ rest) = .ok (pr, rest) := by
  obtain ⟨h1, h2, _, h4⟩ := prio_decode pr h
  rw [h2] at h4
  simp only [takePrio, prioBytes, be32, List.cons_append, List.nil_append, if_true, rd32_be32 _ h1, h2,
    h4, u8_toNat, Nat.mod_eq_of_lt h.2]

/-- the optional priority octets, as `WriteHeaders` writes them, are read back. -/
theorem takePrio_written (pr : Priority) (rest : Bytes) (h : WfPriority pr) :
    takePrio (!pr.isZero) ((if !pr.isZero then prioBytes pr else []) ++ rest) = .ok (pr, rest) := by
  cases hz : pr.isZero
  · exact takePrio_prioBytes pr rest h
  · simp [takePrio, isZero_eq pr hz]

theorem parseHeaders_payload (p : HeadersParam) (h : WfHeaders p) :
    parseHeaders ⟨(headersPayload p).length, tHeaders, headersFlags p, p.streamID⟩ (headersPayload p) =
      .ok (.headers ⟨(headersPayload p).length, tHeaders, headersFlags p, p.streamID⟩ p.priority
        p.blockFragment) := by
  obtain ⟨hs, hpl, hpr, hlen⟩ := h
  have hne : p.streamID ≠ 0 := by have := hs.1; omega
  unfold parseHeaders headersPayload
  simp only [hne, if_false, (headersFlags_bits p).padded, (headersFlags_bits p).priority, List.append_assoc,
    takePad_written _ _ hpl, takePrio_written _ _ hpr]
  simp

theorem headersPayload_length (p : HeadersParam) :
    (headersPayload p).length =
      b2n (p.padLength != 0) 1 + b2n (!p.priority.isZero) 5 + p.blockFragment.length + p.padLength := by
  unfold headersPayload
  cases (p.padLength != 0) <;> cases (!p.priority.isZero) <;> simp [b2n, prioBytes, be32] <;> omega

theorem pushPromisePayload_length (p : PushPromiseParam) :
    (pushPromisePayload p).length =
      b2n (p.padLength != 0) 1 + 4 + p.blockFragment.length + p.padLength := by
  unfold pushPromisePayload
  cases (p.padLength != 0) <;> simp [b2n, be32] <;> omega

theorem b2n_le (b : Bool) (v : Nat) : b2n b v ≤ v := by cases b <;> simp [b2n]

theorem headersPayload_lt {p : HeadersParam} (h : WfHeaders p) : (headersPayload p).length < two24 := by
  have := b2n_le (p.padLength != 0) 1; have := b2n_le (!p.priority.isZero) 5; have := h.2.2.2
  rw [headersPayload_length]; omega

/-- one `if … { return err }` of a writer in front of the rest `k` of the function. -/
def orRefuse (o : Option WErr) (k : Except WErr Bytes) : Except WErr Bytes :=
  match o with
  | some e => .error e
  | none => k

theorem orRefuse_none (k : Except WErr Bytes) : orRefuse none k = k := rfl

theorem orRefuse_nil (k : Except WErr Bytes) : orRefuse (firstErr []) k = k := rfl

/-- a list of guarded refusals is the writers' chain of `if … { return err }`. -/
theorem orRefuse_cons (c : Bool) (e : WErr) (rest : List (Bool × WErr)) (k : Except WErr Bytes) :
    orRefuse (firstErr ((c, e) :: rest)) k = if c then .error e else orRefuse (firstErr rest) k := by
  cases c <;> rfl

/-- what a plan amounts to when the Framer state is forgotten. -/
def Plan.stateless (p : Plan) : Except WErr Bytes :=
  orRefuse p.pre (orRefuse p.mid (frameBytes p.t p.fl p.sid (p.first ++ p.last)))

theorem plan_stateless (a : Bool) (op : WOp) : Plan.stateless (op.plan a) = op.writeA a := by
  cases op <;>
    simp only [WOp.plan, WOp.writeA, Plan.stateless, orRefuse_cons, orRefuse_nil, orRefuse_none, writeData,
      writeHeaders, writePriority, writeRSTStream, writeSettings, writeSettingsAck, writePushPromise,
      writePing, writeGoAway, writeWindowUpdate, writeContinuation, writeRawFrame, List.append_nil,
      List.append_assoc, decide_eq_true_eq]

theorem writeA_false (op : WOp) : op.writeA false = op.write := by
  cases op <;> rfl

theorem plan_parts (al : Bool) (op : WOp) :
    (op.plan al).t = op.typ ∧ (op.plan al).fl = op.flags ∧ (op.plan al).sid = op.sid ∧
      (op.plan al).first ++ (op.plan al).last = op.payload := by
  cases op <;> simp [WOp.plan, WOp.typ, WOp.flags, WOp.sid, WOp.payload, headersFlags, headersPayload,
    pushPromiseFlags, pushPromisePayload]

/-- every writer, `AllowIllegalWrites` on or off: its refusals, else the frame of its four parts. -/
theorem writeA_eq (al : Bool) (op : WOp) :
    op.writeA al =
      orRefuse (op.plan al).pre (orRefuse (op.plan al).mid (frameBytes op.typ op.flags op.sid op.payload)) := by
  obtain ⟨e1, e2, e3, e4⟩ := plan_parts al op
  rw [← plan_stateless, Plan.stateless, e1, e2, e3, e4]

theorem plan_accepts (op : WOp) (h : op.Wf) : (op.plan false).pre = none ∧ (op.plan false).mid = none := by
  cases op with
  | data sid es d pad =>
    obtain ⟨hs, hp⟩ := h
    cases pad with
    | none => simp [WOp.plan, firstErr, validStreamID_of sid hs]
    | some p =>
      obtain ⟨hp1, hp2, hp3⟩ := hp
      have hany : p.any (· != 0) = false := by
        simp only [List.any_eq_false, List.all_eq_true] at *
        intro x hx; have := hp2 x hx; simp_all
      have : ¬ p.length > 255 := by omega
      simp [WOp.plan, firstErr, validStreamID_of sid hs, this, hany]
  | headers p => simp [WOp.plan, firstErr, validStreamID_of _ h.1, validStreamIDOrZero_of h.2.2.1]
  | priority sid p => simp [WOp.plan, firstErr, validStreamID_of _ h.1, validStreamIDOrZero_of h.2]
  | rstStream sid c => simp [WOp.plan, firstErr, validStreamID_of _ h.1]
  | pushPromise p => simp [WOp.plan, firstErr, validStreamID_of _ h.1, validStreamID_of _ h.2.1]
  | windowUpdate sid i =>
    obtain ⟨hs, h1, h2⟩ := h
    have a1 : ¬ i < 1 := by omega
    have a2 : ¬ i > 2147483647 := by omega
    simp [WOp.plan, firstErr, a1, a2]
  | continuation sid eh f => simp [WOp.plan, firstErr, validStreamID_of _ h.1]
  | _ => simp [WOp.plan]

theorem hdr_fits (op : WOp) (h : op.Wf) :
    op.payload.length < two24 ∧ op.typ < 256 ∧ op.flags < 256 ∧ op.sid < two31 := by
  cases op with
  | data sid es d pad =>
    obtain ⟨hs, hp⟩ := h
    refine ⟨?_, by simp [WOp.typ], by cases es <;> cases pad <;> simp [WOp.flags, b2n], hs.2⟩
    cases pad with
    | none => simpa [WOp.payload] using hp
    | some p => have := hp.2.2; simp only [two24] at this; simp [WOp.payload]; omega
  | headers p => exact ⟨headersPayload_lt h, by simp [WOp.typ], (headersFlags_bits p).lt, h.1.2⟩
  | priority sid p => exact ⟨by simp [WOp.payload, prioBytes, be32], by simp [WOp.typ], by simp [WOp.flags], h.1.2⟩
  | rstStream sid c => exact ⟨by simp [WOp.payload, be32], by simp [WOp.typ], by simp [WOp.flags], h.1.2⟩
  | settings ss =>
    exact ⟨by rw [show (WOp.settings ss).payload = encodeSettings ss from rfl, encodeSettings_length]; exact h.2.1,
      by simp [WOp.typ], by simp [WOp.flags], by simp [WOp.sid]⟩
  | settingsAck => exact ⟨by simp [WOp.payload], by simp [WOp.typ], by simp [WOp.flags], by simp [WOp.sid]⟩
  | pushPromise p =>
    obtain ⟨hs, hpid, hpl, hlen⟩ := h
    refine ⟨?_, by simp [WOp.typ], (pushPromiseFlags_bits p).lt, hs.2⟩
    have := b2n_le (p.padLength != 0) 1
    rw [show (WOp.pushPromise p).payload = pushPromisePayload p from rfl, pushPromisePayload_length]
    simp only [two24] at hlen ⊢; omega
  | ping ack d =>
    have hd : d.length = 8 := h
    exact ⟨by simp [WOp.payload, hd], by simp [WOp.typ], by cases ack <;> simp [WOp.flags, b2n], by simp [WOp.sid]⟩
  | goAway m c d =>
    have := h.2.2; simp only [two24] at this
    exact ⟨by simp [WOp.payload, be32]; omega, by simp [WOp.typ], by simp [WOp.flags], by simp [WOp.sid]⟩
  | windowUpdate sid i => exact ⟨by simp [WOp.payload, be32], by simp [WOp.typ], by simp [WOp.flags], h.1⟩
  | continuation sid eh f => exact ⟨h.2, by simp [WOp.typ], by cases eh <;> simp [WOp.flags, b2n], h.1.2⟩
  | raw t fl sid p => exact ⟨h.2.2.2.2, h.2.1, h.2.2.1, h.2.2.2.1⟩

theorem write_wire (a : WOp) (h : a.Wf) :
    a.write = .ok (headerBytes a.payload.length a.typ a.flags a.sid ++ a.payload) := by
  rw [← writeA_false, writeA_eq, (plan_accepts a h).1, (plan_accepts a h).2, orRefuse_none, orRefuse_none,
    frameBytes_ok _ _ _ _ (hdr_fits a h).1]

theorem parsePayload_wf (a : WOp) (h : a.Wf) :
    parsePayload ⟨a.payload.length, a.typ, a.flags, a.sid⟩ a.payload = .ok a.frame := by
  cases a with
  | data sid es d pad =>
    obtain ⟨hs, hp⟩ := h
    have hne : sid ≠ 0 := by have := hs.1; omega
    rw [parsePayload_data rfl]
    cases pad with
    | none => cases es <;> simp [parseData, hne, hasFlag, b2n, WOp.payload, WOp.flags, WOp.frame, WOp.sid, WOp.typ]
    | some p =>
      have hpad : (u8 p.length).toNat = p.length := by rw [u8_toNat]; have := hp.1; omega
      cases es <;> simp [parseData, hne, hasFlag, hpad, WOp.payload, WOp.flags, WOp.frame, WOp.sid, WOp.typ, b2n]
  | headers p => rw [parsePayload_headers rfl]; exact parseHeaders_payload p h
  | priority sid p =>
    have hne : sid ≠ 0 := by have := h.1.1; omega
    obtain ⟨h1, h2, h3, _⟩ := prio_decode p h.2
    rw [h2] at h3
    rw [parsePayload_priority rfl]
    simp only [WOp.payload, parsePriority, WOp.sid, if_neg hne, prioBytes, be32, List.cons_append, List.nil_append,
      rd32_be32 _ h1, h2, h3, u8_toNat, Nat.mod_eq_of_lt h.2.2]
    rfl
  | rstStream sid c =>
    have hne : sid ≠ 0 := by have := h.1.1; omega
    rw [parsePayload_rstStream rfl]
    simp [WOp.payload, WOp.sid, WOp.frame, WOp.typ, WOp.flags, parseRSTStream, be32, hne, rd32_be32 c h.2]
  | settings ss =>
    obtain ⟨h1, h2, h3⟩ := h
    rw [parsePayload_settings rfl]
    simp only [WOp.payload, WOp.flags, WOp.sid, parseSettings, decode_encodeSettings ss h1,
      encodeSettings_length]
    simp [hasFlag, WOp.frame, WOp.payload, WOp.typ, WOp.flags, WOp.sid, encodeSettings_length]
    split
    · next v hv =>
        have := h3 v (by simp [hv])
        rw [if_neg (by omega)]
    · rfl
  | settingsAck => rfl
  | pushPromise p =>
    obtain ⟨hs, hpid, hpl, _⟩ := h
    have hne : p.streamID ≠ 0 := by have := hs.1; omega
    have hpidv : rd32 (u8 (p.promiseID / 16777216)) (u8 (p.promiseID / 65536)) (u8 (p.promiseID / 256))
        (u8 p.promiseID) % 2147483648 = p.promiseID := by
      have := hpid.2
      simp only [two31] at this
      rw [rd32_be32 _ (by omega)]; omega
    rw [parsePayload_pushPromise rfl]
    simp only [WOp.payload, WOp.flags, WOp.sid, parsePushPromise, if_neg hne, (pushPromiseFlags_bits p).padded,
      pushPromisePayload, List.append_assoc, takePad_written _ _ hpl]
    simp [be32, hpidv, WOp.frame, WOp.payload, WOp.flags, WOp.sid, WOp.typ, pushPromisePayload]
  | ping ack d =>
    rw [parsePayload_ping rfl]
    have hd : d.length = 8 := h
    simp [WOp.payload, WOp.sid, WOp.frame, WOp.typ, WOp.flags, parsePing, hd]
  | goAway m c d =>
    rw [parsePayload_goAway rfl]
    have e1 := rd32_be32 (m % two31) (by simp only [two31]; omega)
    simp only [two31] at e1
    simp [WOp.payload, WOp.sid, WOp.frame, WOp.typ, WOp.flags, parseGoAway, be32, e1, rd32_be32 c h.2.1]
  | windowUpdate sid i =>
    rw [parsePayload_windowUpdate rfl]
    have h3 : i % 2147483648 = i := by have := h.2; omega
    have h4 : i ≠ 0 := by have := h.2; omega
    simp [WOp.payload, WOp.sid, WOp.frame, WOp.typ, WOp.flags, parseWindowUpdate, be32,
      rd32_be32 i (by have := h.2; omega), h3, h4]
  | continuation sid eh f =>
    have hne : sid ≠ 0 := by have := h.1.1; omega
    rw [parsePayload_continuation rfl]
    simp [WOp.payload, WOp.sid, WOp.frame, WOp.typ, WOp.flags, parseContinuation, hne]
  | raw t fl sid p => exact parsePayload_unknown h.1

theorem orderStep_wf (a : WOp) (h : a.Wf) :
    orderStep a.inBlock ⟨a.payload.length, a.typ, a.flags, a.sid⟩ = some a.leaves := by
  cases a with
  | headers p =>
    have hne : p.streamID ≠ 0 := by have := h.1.1; omega
    simp only [WOp.inBlock, WOp.leaves, WOp.typ, WOp.flags, WOp.sid, orderStep, (headersFlags_bits p).endHeaders]
    cases p.endHeaders <;> simp
  | continuation sid eh f =>
    have hne : sid ≠ 0 := by have := h.1.1; omega
    cases eh <;> simp [WOp.inBlock, WOp.leaves, WOp.typ, WOp.flags, WOp.sid, orderStep, hne, hasFlag, b2n]
  | raw t fl sid p =>
    have := h.1
    have h1 : t ≠ 1 := by omega
    have h9 : t ≠ 9 := by omega
    simp [WOp.inBlock, WOp.leaves, WOp.typ, orderStep, h1, h9]
  | _ => simp [WOp.inBlock, WOp.leaves, WOp.typ, orderStep]

/-- `ReadFrame` on one written frame, for a reader in ANY header-block state: the frame, unless
`checkFrameOrder` refuses its header. -/
theorem read_one (a : WOp) (h : a.Wf) (r : Reader) (rest : Bytes)
    (hlegal : r.allowIllegalReads = false) (hfit : a.payload.length ≤ r.maxReadSize) :
    readFrame r (headerBytes a.payload.length a.typ a.flags a.sid ++ a.payload ++ rest) =
      match orderStep r.lastHeaderStream a.hdr with
      | none => (.error (.conn errProtocol), r, rest)
      | some l => (.ok a.frame, { r with lastHeaderStream := l }, rest) := by
  obtain ⟨hl, ht, hf, hs⟩ := hdr_fits a h
  rw [List.append_assoc, readFrame_frame r _ _ _ _ _ ht hf hs hl hfit]
  unfold WOp.hdr afterPayload
  rw [parsePayload_wf a h]
  simp only [checkFrameOrder, hlegal]
  cases orderStep r.lastHeaderStream ⟨a.payload.length, a.typ, a.flags, a.sid⟩ <;> simp

theorem write_read_back (a : WOp) (h : a.Wf) :
    ∃ out, a.write = .ok out ∧ out.length - 9 = a.payload.length ∧
      ∀ (r : Reader) (rest : Bytes), Ready r a.payload.length a.inBlock →
        readFrame r (out ++ rest) = (.ok a.frame, { r with lastHeaderStream := a.leaves }, rest) := by
  refine ⟨_, write_wire a h, by simp [headerBytes, be32], fun r rest hr => ?_⟩
  rw [read_one a h r rest hr.legal hr.fits, hr.state, WOp.hdr, orderStep_wf a h]

theorem write_read_back_idle (a : WOp) (h : a.Wf) (hi : a.inBlock = 0) (hl : a.leaves = 0) :
    ∃ out, a.write = .ok out ∧ out.length - 9 = a.payload.length ∧
      ∀ (r : Reader) (rest : Bytes), Ready r a.payload.length 0 →
        readFrame r (out ++ rest) = (.ok a.frame, r, rest) := by
  obtain ⟨out, hw, hlen, hrd⟩ := write_read_back a h
  refine ⟨out, hw, hlen, fun r rest hr => ?_⟩
  rw [hrd r rest (hi ▸ hr), hl, reader_eta r 0 hr.state]

theorem data_parse_write (sid : Nat) (endStream : Bool) (data : Bytes) (pad : Option Bytes)
    (h : WfData sid data pad) :
    ∃ out, writeData false sid endStream data pad = .ok out ∧
      ∀ (r : Reader) (rest : Bytes), Ready r (out.length - 9) 0 →
        readFrame r (out ++ rest) =
          (.ok (.data ⟨out.length - 9, tData, b2n endStream flagEndStream + b2n pad.isSome flagPadded, sid⟩
            data), r, rest) := by
  obtain ⟨out, hw, hlen, hrd⟩ := write_read_back_idle (.data sid endStream data pad) h rfl rfl
  refine ⟨out, hw, ?_⟩
  rw [hlen]
  exact hrd

theorem orderStep_open (l : Nat) (fh : FrameHeader) (hl : l ≠ 0) :
    orderStep l fh =
      if fh.type = tContinuation ∧ fh.streamID = l then
        some (if hasFlag fh.flags flagEndHeaders then 0 else l)
      else none := by
  unfold orderStep
  by_cases hc : fh.type = tContinuation
  · by_cases hs : fh.streamID = l
    · simp [hc, hs, hl]
    · simp [hc, hs, hl]
  · simp [hc, hl]

theorem orderStep_closed (fh : FrameHeader) :
    orderStep 0 fh =
      if fh.type = tContinuation then none
      else if fh.type = tHeaders ∧ hasFlag fh.flags flagEndHeaders = false then some fh.streamID
      else some 0 := by
  unfold orderStep
  by_cases hc : fh.type = tContinuation
  · simp [hc]
  · by_cases hh : fh.type = tHeaders
    · cases hf : hasFlag fh.flags flagEndHeaders <;> simp [hh]
    · simp [hc, hh]

theorem stateOf_cont {fh : FrameHeader} (hc : fh.type = tContinuation) (l : Nat)
    (hs : fh.streamID = l) :
    stateOf (some fh) = if hasFlag fh.flags flagEndHeaders then 0 else l := by
  subst hs
  cases hf : hasFlag fh.flags flagEndHeaders <;> simp [stateOf, opensBlock, hc, hf]

theorem stateOf_other {fh : FrameHeader} (hc : fh.type ≠ tContinuation) :
    stateOf (some fh) =
      if fh.type = tHeaders ∧ hasFlag fh.flags flagEndHeaders = false then fh.streamID else 0 := by
  simp [stateOf, opensBlock, hc]

theorem order_automaton_gen (fs : List FrameHeader) (prev : Option FrameHeader)
    (hprev : ∀ p, prev = some p → opensBlock p → p.streamID ≠ 0)
    (hsid : ∀ fh ∈ fs, (fh.type = tHeaders ∨ fh.type = tContinuation) → fh.streamID ≠ 0) :
    (runOrder (stateOf prev) fs).isSome ↔ Contiguous prev fs := by
  induction fs generalizing prev with
  | nil => simp [runOrder, Contiguous]
  | cons fh fs ih =>
    have hfh := hsid fh (by simp)
    have ih' := ih (some fh) (by intro p hp ho; cases hp; exact hfh ho.1)
      (fun f hf => hsid f (by simp [hf]))
    simp only [runOrder, Contiguous]
    by_cases ho : ∃ p, prev = some p ∧ opensBlock p
    · -- inside the block of `p`: only a CONTINUATION on the same stream goes on
      obtain ⟨p, rfl, hop⟩ := ho
      rw [show stateOf (some p) = p.streamID from if_pos hop, orderStep_open _ _ (hprev p rfl hop)]
      by_cases hc : fh.type = tContinuation ∧ fh.streamID = p.streamID
      · rw [if_pos hc, ← stateOf_cont hc.1 _ hc.2]
        simp [ih', hc, hop]
      · rw [if_neg hc]
        simp only [Option.isSome_none, Bool.false_eq_true, false_iff]
        intro h
        exact hc ⟨h.1.mpr ⟨p, rfl, hop⟩, h.2.1 (h.1.mpr ⟨p, rfl, hop⟩) p rfl⟩
    · -- outside a block: anything but a CONTINUATION
      have hl : stateOf prev = 0 := by
        cases prev with
        | none => rfl
        | some p => exact if_neg fun hop => ho ⟨p, rfl, hop⟩
      rw [hl, orderStep_closed]
      by_cases hc : fh.type = tContinuation
      · simp [hc, ho]
      · rw [if_neg hc]
        have : (if fh.type = tHeaders ∧ hasFlag fh.flags flagEndHeaders = false then some fh.streamID
            else some 0) = some (stateOf (some fh)) := by rw [stateOf_other hc]; split <;> rfl
        rw [this]
        simp [ih', hc, ho]

theorem order_automaton (fs : List FrameHeader)
    (hsid : ∀ fh ∈ fs, (fh.type = tHeaders ∨ fh.type = tContinuation) → fh.streamID ≠ 0) :
    (runOrder 0 fs).isSome ↔ Contiguous none fs :=
  order_automaton_gen fs none (by simp) hsid

end Req.Lemmas.C05.H2
