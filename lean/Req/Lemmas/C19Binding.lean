import Req.Client.Scope
import Req.Lemmas.C19Scope
/-!
# C19 — helper lemmas for the binding-time theorems (`Props/C19Binding.lean`)

A primitive writes only its `Prim.fields` (`stepOwner_val_other`); a setter outside the retry family
writes no retry field (`nonRetry_fields`).
-/
namespace Req.Scope

/-- the fields a primitive may write -/
def Prim.fields : Prim → List Field
  | .set _ f _ _ => [f]
  | .add _ f _ _ => [f]
  | .replace _ f _ => [f]
  | .clear _ f => [f]
  | .append _ f _ => [f]
  | .copyFrom _ dst _ => [dst]
  | .wrap _ sl ch _ _ => [sl, ch]
  | _ => []

theorem setVal_val_other (w : VOwner) (f g : Field) (m : AMap) (h : g ≠ f) : (w.setVal f m).val g = w.val g := by
  simp [VOwner.setVal, h]

theorem stepOwner_val_other (w : VOwner) (p : Prim) (g : Field) (h : g ∉ p.fields) : (stepOwner w p).val g = w.val g := by
  cases p <;> simp only [Prim.fields, List.mem_cons, List.not_mem_nil, or_false, not_or] at h <;>
    simp only [stepOwner]
  case set f k vs => split <;> simp [VOwner.setVal, h]
  case add f k vs => split <;> simp [VOwner.setVal, h]
  case replace f m => simp [VOwner.setVal, h]
  case clear f => simp [VOwner.setVal, h]
  case append f xs => split <;> simp [VOwner.setVal, h]
  case copyFrom d sr => simp [VOwner.setVal, h]
  case wrap sl ch xs b =>
    split
    · simp only [VOwner.setVal, h.2, if_false]
      split <;> simp [h.1]
    · rfl

theorem foldl_stepOwner_val_other (g : Field) : ∀ (ps : List Prim) (w : VOwner), (∀ p ∈ ps, g ∉ p.fields) →
    (ps.foldl stepOwner w).val g = w.val g := by
  intro ps
  induction ps with
  | nil => intro w _; rfl
  | cons p ps ih =>
    intro w h
    simp only [List.foldl_cons]
    rw [ih (stepOwner w p) (fun q hq => h q (by simp [hq])), stepOwner_val_other w p g (h p (by simp))]

def isRetryField (f : Field) : Bool := f == F.retryConds || f == F.retryHooks || f == F.retryCount || f == F.retryInterval

/-- the retry family of the settings API (and a `scalar` aimed at a retry field) -/
def Setter.retryFamily : Setter → Bool
  | .retryCount _ | .retryInterval _ | .retryCondSet _ | .retryCondAdd _ | .retryHookSet _ | .retryHookAdd _ => true
  | .scalar f _ => isRetryField f
  | _ => false

theorem nonRetry_fields (o : Nat) (st : Setter) (h : st.retryFamily = false) :
    ∀ p ∈ st.prims o, ∀ f ∈ p.fields, isRetryField f = false := by
  intro p hp
  -- in Boolean form the fact about one primitive is closed by evaluation, whatever `o` and the values are
  suffices hb : p.fields.all (fun f => !isRetryField f) = true from
    fun f hf => by simpa using List.all_eq_true.1 hb f hf
  cases st <;> simp only [Setter.retryFamily, reduceCtorEq] at h <;>
    simp only [Setter.prims, List.mem_cons, List.mem_append, List.not_mem_nil, or_false] at hp
  case dumpWithout mask =>
    rcases hp with (((hp | hp) | hp) | hp) | rfl
    any_goals rw [List.mem_ite_l hp]
    all_goals rfl
  case scalar f v => subst hp; simpa [Prim.fields] using h
  all_goals
    repeat' rcases hp with rfl | hp
    all_goals first | rfl | exact hp ▸ rfl

end Req.Scope
