import Req.Pool.TlsOrder
/-! The pointer-level client (`Req.Pool.TLS.pstep`) refines the value-level setter semantics
`Req.Pool.TLS.step` (`pstep_tls`), and hook setters do not touch the configuration (`pstep_hook`).
`PClient.WF s` is a pair: `.1` — the pointer `s.cur` designates an allocated object, `.2` — so does
the address a fingerprint closure captured. -/
namespace Req.Pool.TLS

theorem PClient.init_wf : PClient.init.WF := by
  constructor
  · intro a h; simp [PClient.init] at h; subst h; simp [PClient.init]
  · intro a h; simp [PClient.init] at h

theorem view_some_of_wf {s : PClient} (h : s.WF) {a : Nat} (hc : s.cur = some a) :
    view s = some (s.heap[a]'(h.1 a hc)) := by
  simp [view, hc, h.1 a hc]

/-- `GetTLSClientConfig()` returns the object the pointer designates afterwards; it holds the
value `getCfg` of the value-level model; nothing else changes. -/
theorem ensure_spec (s : PClient) (h : s.WF) :
    (ensure s).1.cur = some (ensure s).2
    ∧ (ensure s).1.heap[(ensure s).2]? = some (getCfg (view s))
    ∧ (ensure s).1.hs = s.hs ∧ (ensure s).1.dialTLS = s.dialTLS
    ∧ (ensure s).1.WF ∧ s.heap.length ≤ (ensure s).1.heap.length := by
  cases hc : s.cur with
  | some a =>
    have ha := h.1 a hc
    simp [ensure, hc, view, getCfg, ha]
    exact h
  | none =>
    simp [ensure, hc, view, getCfg]
    constructor
    · intro a ha; simp at ha; subst ha; simp
    · intro a ha; have := h.2 a ha; simp; omega

theorem wf_alloc (s : PClient) (c : TlsCfg) (k : HsSlot) (d : Bool)
    (hk : ∀ a, k = .fingerprint (some a) → a < s.heap.length) :
    ({ heap := s.heap ++ [c], cur := some s.heap.length, hs := k, dialTLS := d } : PClient).WF := by
  constructor
  · intro a ha; simp at ha; subst ha; simp
  · intro a ha; have := hk a ha; simp; omega

/-- Every in-place setter is `mutate` of the object `GetTLSClientConfig()` returns. -/
theorem step_inplace (c : Option TlsCfg) (o : Op)
    (h1 : ∀ n, o ≠ .setConfig n) (h2 : o ≠ .clone) (h3 : o ≠ .use) :
    step c o = some (mutate o (getCfg c)) := by
  cases o with
  | setConfig n => exact absurd rfl (h1 n)
  | clone => exact absurd rfl h2
  | use => exact absurd rfl h3
  | _ => simp [step, mutate, getCfg]

theorem pstep_inplace (m : FpRead) (s : PClient) (o : Op)
    (h1 : ∀ n, o ≠ .setConfig n) (h2 : o ≠ .clone) (h3 : o ≠ .use) :
    pstep m s (.tls o) =
      (match (ensure s).1.heap[(ensure s).2]? with
       | some c => { (ensure s).1 with heap := (ensure s).1.heap.set (ensure s).2 (mutate o c) }
       | none => (ensure s).1) := by
  cases o with
  | setConfig n => exact absurd rfl (h1 n)
  | clone => exact absurd rfl h2
  | use => exact absurd rfl h3
  | _ => rfl

theorem installFp_handshake (s : PClient) : installFp .atHandshake s = { s with hs := .fingerprint none } := rfl

theorem pstep_tls (s : PClient) (h : s.WF) (o : Op) :
    (pstep .atHandshake s (.tls o)).WF
    ∧ view (pstep .atHandshake s (.tls o)) = step (view s) o
    ∧ hooksOf (pstep .atHandshake s (.tls o)) = hooksOf s := by
  by_cases hset : ∃ n, o = .setConfig n
  · obtain ⟨n, rfl⟩ := hset
    cases n with
    | none =>
      refine ⟨⟨?_, ?_⟩, ?_, ?_⟩
      · intro a ha; simp [pstep] at ha
      · intro a ha; exact h.2 a (by simpa [pstep] using ha)
      · simp [pstep, view, step]
      · simp [pstep, hooksOf]
    | some c => exact ⟨wf_alloc s c _ _ h.2, by simp [pstep, view, step], by simp [pstep, hooksOf]⟩
  by_cases hcl : o = .clone
  · subst hcl
    -- the copy: a new object with the same value, or nothing for a nil pointer; hooks unchanged
    obtain ⟨s', hp, w, v, ehs, ed⟩ : ∃ s',
        pstep .atHandshake s (.tls .clone) = (if isFp s.hs then installFp .atHandshake s' else s') ∧
        s'.WF ∧ view s' = view s ∧ s'.hs = s.hs ∧ s'.dialTLS = s.dialTLS := by
      cases hv : view s with
      | none => exact ⟨s, by simp [pstep, hv], h, hv, rfl, rfl⟩
      | some c =>
        exact ⟨{ s with heap := s.heap ++ [c], cur := some s.heap.length }, by simp [pstep, hv],
          wf_alloc s c _ _ (fun a ha => h.2 a ha), by simp [view], rfl, rfl⟩
    rw [hp]
    -- installing the fingerprint again touches neither the configuration nor, being there already, the hooks
    cases hh : s.hs with
    | fingerprint cap =>
      exact ⟨⟨w.1, fun a ha => by cases ha⟩, v, by simp [isFp, installFp_handshake, hooksOf, ed, hh]⟩
    | builtin => exact ⟨w, v, by simp [isFp, hooksOf, ehs, ed, hh]⟩
    | user => exact ⟨w, v, by simp [isFp, hooksOf, ehs, ed, hh]⟩
  by_cases hus : o = .use
  · subst hus
    exact ⟨h, by simp [pstep, step], rfl⟩
  · have h1 : ∀ n, o ≠ .setConfig n := fun n hn => hset ⟨n, hn⟩
    obtain ⟨ecur, eget, ehs, edial, ewf, _⟩ := ensure_spec s h
    rw [pstep_inplace _ s o h1 hcl hus, eget, step_inplace _ o h1 hcl hus]
    have halt : (ensure s).2 < (ensure s).1.heap.length := ewf.1 _ ecur
    refine ⟨⟨?_, ?_⟩, ?_, ?_⟩
    · intro a ha; have := ewf.1 a (by simpa using ha); simpa using this
    · intro a ha; have := ewf.2 a (by simpa using ha); simpa using this
    · simp [view, ecur, halt]
    · simp [hooksOf, ehs, edial]

theorem pstep_hook (s : PClient) (h : s.WF) (k : HookOp) :
    (pstep .atHandshake s (.hook k)).WF
    ∧ view (pstep .atHandshake s (.hook k)) = view s
    ∧ hooksOf (pstep .atHandshake s (.hook k)) = hookStep (hooksOf s) k := by
  cases k with
  | fingerprint =>
    refine ⟨⟨h.1, ?_⟩, rfl, by simp [pstep, installFp, hooksOf, hookStep]⟩
    intro a ha; simp [pstep, installFp] at ha
  | userHandshake | noHandshake =>
    refine ⟨⟨h.1, ?_⟩, rfl, by simp [pstep, hooksOf, hookStep]⟩
    intro a ha; simp [pstep] at ha
  | dialTLS b =>
    exact ⟨⟨h.1, h.2⟩, rfl, by simp [pstep, hooksOf, hookStep]⟩

/-- Whole sequences: the value is the TLS setters folded with `step`, the hooks are the hook
setters folded with `hookStep` — each family by itself, wherever the others stand. -/
theorem prun_split (ops : List POp) (s : PClient) (h : s.WF) :
    (prun .atHandshake s ops).WF
    ∧ view (prun .atHandshake s ops) = run (view s) (tlsOps ops)
    ∧ hooksOf (prun .atHandshake s ops) = hookRun (hooksOf s) (hookOps ops) := by
  induction ops generalizing s with
  | nil => exact ⟨h, rfl, rfl⟩
  | cons op rest ih =>
    cases op with
    | tls o =>
      obtain ⟨w, v, k⟩ := pstep_tls s h o
      obtain ⟨w', v', k'⟩ := ih (pstep .atHandshake s (.tls o)) w
      refine ⟨w', ?_, ?_⟩
      · simpa [prun, tlsOps, run, v] using v'
      · simpa [prun, hookOps, k] using k'
    | hook k =>
      obtain ⟨w, v, kk⟩ := pstep_hook s h k
      obtain ⟨w', v', k'⟩ := ih (pstep .atHandshake s (.hook k)) w
      refine ⟨w', ?_, ?_⟩
      · simpa [prun, tlsOps, v] using v'
      · simpa [prun, hookOps, hookRun, kk] using k'

end Req.Pool.TLS
