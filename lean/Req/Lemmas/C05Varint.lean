import Req.H3.Varint
/-! QUIC varints (C05). The notion everything goes through is the `l`-byte encoding `enc l n` of a
value below the capacity of `l` bytes: `Parse` reads it back (`parse_enc`), `Append` writes the one of
the value's length class (`append_enc`), `AppendWithLen` the one asked for (`appendWithLen_enc`). -/
namespace Req.Lemmas.C05.Varint
open Req.H3.Varint Req.Proto

theorem u8_toNat (x : Nat) : (u8 x).toNat = x % 256 := by simp [u8]

theorem parse_len1 (b0 : UInt8) (tl : Bytes) (h : b0.toNat / 64 = 0) :
    parse (b0 :: tl) = .ok (b0.toNat % 64, tl) := by
  simp [parse, h]

theorem parse_len2 (b0 b1 : UInt8) (tl : Bytes) (h : b0.toNat / 64 = 1) :
    parse (b0 :: b1 :: tl) = .ok (b1.toNat + b0.toNat % 64 * 256, tl) := by
  simp [parse, h]

theorem parse_len4 (b0 b1 b2 b3 : UInt8) (tl : Bytes) (h : b0.toNat / 64 = 2) :
    parse (b0 :: b1 :: b2 :: b3 :: tl) =
      .ok (b3.toNat + b2.toNat * 256 + b1.toNat * 65536 + b0.toNat % 64 * 16777216, tl) := by
  simp [parse, h]

theorem parse_len8 (b0 b1 b2 b3 b4 b5 b6 b7 : UInt8) (tl : Bytes) (h : b0.toNat / 64 = 3) :
    parse (b0 :: b1 :: b2 :: b3 :: b4 :: b5 :: b6 :: b7 :: tl) =
      .ok (b7.toNat + b6.toNat * 256 + b5.toNat * 65536 + b4.toNat * 16777216
              + b3.toNat * 4294967296 + b2.toNat * 1099511627776 + b1.toNat * 281474976710656
              + b0.toNat % 64 * 72057594037927936, tl) := by
  simp [parse, h]

/-- the two length bits of an `l`-byte varint. -/
def tag (l : Nat) : Nat := if l = 1 then 0 else if l = 2 then 1 else if l = 4 then 2 else 3

/-- the `l`-byte encoding of `n`: the length bits on top of the big-endian value. -/
def enc (l n : Nat) : Bytes := u8 (n / 256 ^ (l - 1) + tag l * 64) :: beBytes n (l - 1)

theorem enc_length (l n : Nat) (h : 1 ≤ l) : (enc l n).length = l := by
  have : ∀ k, (beBytes n k).length = k := fun k => by induction k <;> simp [beBytes, *]
  simp [enc, this]; omega

/-- `Parse` reads the `l`-byte encoding of every value below the capacity of `l` bytes, minimal or
not. The quotients are rewritten to iterated `/ 256` before `omega`: one quotient per power of 256
is much slower. -/
theorem parse_enc (l n : Nat) (rest : Bytes) (hl : l = 1 ∨ l = 2 ∨ l = 4 ∨ l = 8)
    (hn : n < capacity l) : parse (enc l n ++ rest) = .ok (n, rest) := by
  rcases hl with rfl | rfl | rfl | rfl <;>
    simp only [capacity, Nat.reduceEqDiff, if_true, if_false] at hn <;>
    simp only [enc, tag, beBytes, Nat.reduceEqDiff, if_true, if_false, Nat.reduceSub, Nat.reducePow,
      Nat.reduceMul, Nat.div_one, Nat.zero_mul, Nat.add_zero, List.cons_append, List.nil_append]
  · rw [parse_len1 _ _ (by rw [u8_toNat]; omega), u8_toNat]; congr 2; omega
  · rw [parse_len2 _ _ _ (by rw [u8_toNat]; omega)]; simp only [u8_toNat]; congr 2; omega
  · rw [parse_len4 _ _ _ _ _ (by rw [u8_toNat]; omega)]; simp only [u8_toNat]; congr 2
    rw [show n / 16777216 = n / 256 / 256 / 256 by simp only [Nat.div_div_eq_div_mul],
      show n / 65536 = n / 256 / 256 by simp only [Nat.div_div_eq_div_mul]]
    omega
  · rw [parse_len8 _ _ _ _ _ _ _ _ _ (by rw [u8_toNat]; omega)]; simp only [u8_toNat]; congr 2
    rw [show n / 72057594037927936 = n / 256 / 256 / 256 / 256 / 256 / 256 / 256 by
        simp only [Nat.div_div_eq_div_mul],
      show n / 281474976710656 = n / 256 / 256 / 256 / 256 / 256 / 256 by
        simp only [Nat.div_div_eq_div_mul],
      show n / 1099511627776 = n / 256 / 256 / 256 / 256 / 256 by simp only [Nat.div_div_eq_div_mul],
      show n / 4294967296 = n / 256 / 256 / 256 / 256 by simp only [Nat.div_div_eq_div_mul],
      show n / 16777216 = n / 256 / 256 / 256 by simp only [Nat.div_div_eq_div_mul],
      show n / 65536 = n / 256 / 256 by simp only [Nat.div_div_eq_div_mul]]
    omega

/-- `Append` writes the encoding of the length class of the value (and panics with `Len`). -/
theorem append_enc (n : Nat) : append n = (len n).map fun l => enc l n := by
  unfold append len
  by_cases h1 : n ≤ maxVarInt1
  · rw [if_pos h1, if_pos h1]; simp [enc, tag, beBytes]
  rw [if_neg h1, if_neg h1]
  by_cases h2 : n ≤ maxVarInt2
  · rw [if_pos h2, if_pos h2]; simp [enc, tag, beBytes]
  rw [if_neg h2, if_neg h2]
  by_cases h3 : n ≤ maxVarInt4
  · rw [if_pos h3, if_pos h3]; simp [enc, tag, beBytes]
  rw [if_neg h3, if_neg h3]
  by_cases h4 : n ≤ maxVarInt8
  · rw [if_pos h4, if_pos h4]; simp [enc, tag, beBytes]
  rw [if_neg h4, if_neg h4]; rfl

theorem varint_len (n : Nat) :
    (len n = some 1 ↔ n ≤ 63) ∧
    (len n = some 2 ↔ 64 ≤ n ∧ n ≤ 16383) ∧
    (len n = some 4 ↔ 16384 ≤ n ∧ n ≤ 1073741823) ∧
    (len n = some 8 ↔ 1073741824 ≤ n ∧ n ≤ 4611686018427387903) ∧
    (len n = none ↔ 4611686018427387904 ≤ n) := by
  simp only [len, maxVarInt1, maxVarInt2, maxVarInt4, maxVarInt8]
  by_cases h1 : n ≤ 63
  · simp [h1]; omega
  by_cases h2 : n ≤ 16383
  · simp [h1, h2]; omega
  by_cases h3 : n ≤ 1073741823
  · simp [h1, h2, h3]; omega
  by_cases h4 : n ≤ 4611686018427387903
  · simp [h1, h2, h3, h4]; omega
  · simp [h1, h2, h3, h4]; omega

/-- the length class of a value: it fits the class and no shorter one. -/
theorem len_class (n : Nat) (h : n < 2 ^ 62) :
    ∃ l, len n = some l ∧ (l = 1 ∨ l = 2 ∨ l = 4 ∨ l = 8) ∧ n < capacity l ∧ n < 256 ^ l ∧
      ∀ L, n < capacity L → l ≤ L := by
  obtain ⟨h1, h2, h4, h8, -⟩ := varint_len n
  have hc : ∀ L, n < capacity L → L = 1 ∧ n < 64 ∨ L = 2 ∧ n < 16384 ∨ L = 4 ∧ n < 1073741824 ∨ L = 8 := by
    intro L hL; unfold capacity at hL
    by_cases e1 : L = 1; · rw [if_pos e1] at hL; exact .inl ⟨e1, hL⟩
    by_cases e2 : L = 2; · rw [if_neg e1, if_pos e2] at hL; exact .inr (.inl ⟨e2, hL⟩)
    by_cases e4 : L = 4; · rw [if_neg e1, if_neg e2, if_pos e4] at hL; exact .inr (.inr (.inl ⟨e4, hL⟩))
    by_cases e8 : L = 8; · exact .inr (.inr (.inr e8))
    rw [if_neg e1, if_neg e2, if_neg e4, if_neg e8] at hL; cases hL
  by_cases c1 : n ≤ 63
  · exact ⟨1, h1.mpr c1, .inl rfl, by simp [capacity]; omega, by omega, fun L hL => by have := hc L hL; omega⟩
  by_cases c2 : n ≤ 16383
  · exact ⟨2, h2.mpr ⟨by omega, c2⟩, .inr (.inl rfl), by simp [capacity]; omega, by omega,
      fun L hL => by have := hc L hL; omega⟩
  by_cases c4 : n ≤ 1073741823
  · exact ⟨4, h4.mpr ⟨by omega, c4⟩, .inr (.inr (.inl rfl)), by simp [capacity]; omega, by omega,
      fun L hL => by have := hc L hL; omega⟩
  · exact ⟨8, h8.mpr ⟨by omega, by omega⟩, .inr (.inr (.inr rfl)), by simp [capacity]; omega, by omega,
      fun L hL => by have := hc L hL; omega⟩

theorem varint_roundtrip (n : Nat) (h : n < 2^62) (rest : Bytes) :
    ∃ bs, append n = some bs ∧ parse (bs ++ rest) = .ok (n, rest) := by
  obtain ⟨l, hl, hl4, hc, -, -⟩ := len_class n h
  exact ⟨enc l n, by rw [append_enc, hl]; rfl, parse_enc l n rest hl4 hc⟩

theorem lt_of_append (n : Nat) (bs : Bytes) (h : append n = some bs) : n < 2^62 := by
  refine Nat.lt_of_not_le fun hn => ?_
  rw [append_enc, (varint_len n).2.2.2.2.mpr hn] at h; cases h

theorem append_length {n : Nat} {bs : Bytes} (h : append n = some bs) :
    len n = some bs.length ∧ 1 ≤ bs.length := by
  obtain ⟨l, hl, hl4, -, -, -⟩ := len_class n (lt_of_append n bs h)
  rw [append_enc, hl] at h; cases h
  rw [enc_length l n (by omega)]; exact ⟨hl, by omega⟩

theorem read_append (n : Nat) (bs rest : Bytes) (h : append n = some bs) :
    Req.H3.Varint.read (bs ++ rest) = .ok (n, rest) := by
  obtain ⟨bs', h1, h2⟩ := varint_roundtrip n (lt_of_append n bs h) rest
  rw [h] at h1; cases h1
  unfold Req.H3.Varint.read
  rw [h2]

/-- the zero bytes `AppendWithLen` pads a shorter value with are the high bytes of that value. -/
theorem beBytes_pad (n l k : Nat) (h : n < 256 ^ l) :
    beBytes n (k + l) = List.replicate k (0 : UInt8) ++ beBytes n l := by
  induction k with
  | zero => simp
  | succ k ih =>
    rw [show k + 1 + l = (k + l) + 1 by omega, beBytes, ih, List.replicate_succ, List.cons_append,
      Nat.div_eq_of_lt (Nat.lt_of_lt_of_le h (Nat.pow_le_pow_right (by decide) (by omega)))]
    rfl

theorem appendWithLen_enc (n L : Nat) (hL : L = 1 ∨ L = 2 ∨ L = 4 ∨ L = 8) (hn : n < capacity L) :
    appendWithLen n L = some (enc L n) := by
  have h62 : n < 2 ^ 62 := by
    rcases hL with rfl | rfl | rfl | rfl <;> simp [capacity] at hn <;> omega
  obtain ⟨l, hl, hl4, -, hpow, hle⟩ := len_class n h62
  have hlL := hle L hn
  unfold appendWithLen
  rw [if_neg (by omega), hl]
  simp only
  by_cases e : l = L
  · rw [if_pos e, append_enc, hl, e]; rfl
  · rw [if_neg e, if_neg (by omega), enc, show L - 1 = (L - l - 1) + l by omega, beBytes_pad n l _ hpow,
      Nat.div_eq_of_lt (Nat.lt_of_lt_of_le hpow (Nat.pow_le_pow_right (by decide) (by omega)))]
    rcases hL with rfl | rfl | rfl | rfl <;> first | omega | rfl

theorem parse_nonminimal_ok (n l : Nat) (rest : Bytes)
    (hl : l = 1 ∨ l = 2 ∨ l = 4 ∨ l = 8) (hn : n < capacity l) :
    ∃ bs, appendWithLen n l = some bs ∧ bs.length = l ∧ parse (bs ++ rest) = .ok (n, rest) :=
  ⟨enc l n, appendWithLen_enc n l hl hn, enc_length l n (by omega), parse_enc l n rest hl hn⟩

theorem parse_sound (b rest : Bytes) (v : Nat) (h : parse b = .ok (v, rest)) :
    ∃ pre, b = pre ++ rest ∧ (pre.length = 1 ∨ pre.length = 2 ∨ pre.length = 4 ∨ pre.length = 8) ∧
      v < capacity pre.length := by
  unfold parse at h
  split at h
  · cases h
  next b0 tl =>
  have hb := b0.toNat_lt
  simp only at h
  split at h
  · cases h; exact ⟨[b0], rfl, Or.inl rfl, by simp [capacity]; omega⟩
  split at h
  · split at h
    · next b1 r => cases h; refine ⟨[b0, b1], rfl, Or.inr (Or.inl rfl), ?_⟩
                   have := b1.toNat_lt; simp [capacity]; omega
    · cases h
  split at h
  · split at h
    · next b1 b2 b3 r =>
      cases h; refine ⟨[b0, b1, b2, b3], rfl, Or.inr (Or.inr (Or.inl rfl)), ?_⟩
      have := b1.toNat_lt; have := b2.toNat_lt; have := b3.toNat_lt; simp [capacity]; omega
    · cases h
  · split at h
    · next b1 b2 b3 b4 b5 b6 b7 r =>
      cases h; refine ⟨[b0, b1, b2, b3, b4, b5, b6, b7], rfl, Or.inr (Or.inr (Or.inr rfl)), ?_⟩
      have := b1.toNat_lt; have := b2.toNat_lt; have := b3.toNat_lt; have := b4.toNat_lt
      have := b5.toNat_lt; have := b6.toNat_lt; have := b7.toNat_lt; simp [capacity]; omega
    · cases h

theorem read_ok_parse (b : Bytes) (v : Nat) (r : Bytes) (h : Req.H3.Varint.read b = .ok (v, r)) :
    parse b = .ok (v, r) := by
  unfold Req.H3.Varint.read at h
  split at h
  · next x hx => cases h; exact hx
  · cases h

/-- every read consumes at least one byte: what the fuel arguments about `parseNext` and the
SETTINGS loop rest on. -/
theorem read_lt (b : Bytes) (v : Nat) (r : Bytes) (h : Req.H3.Varint.read b = .ok (v, r)) :
    r.length < b.length := by
  obtain ⟨pre, hb, hl, _⟩ := parse_sound b r v (read_ok_parse b v r h)
  rw [hb]; simp only [List.length_append]
  rcases hl with h | h | h | h <;> omega

end Req.Lemmas.C05.Varint
