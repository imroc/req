import Req.C02.H2Recv
import Req.Lemmas.C02Head
/-!
One field list over HTTP/2 and HTTP/3: `handleResponse` and `parseHeaders` /
`updateResponseFromHeaders` hand the caller every plain field under its canonical name, with its
value, in the origin's order.  `toWField` is the HTTP/1.1 spelling of such a field; written that way
the list is a field block of `Lemmas/C02Head` with the same fields (`toWField_ok`, `fieldsOf_toWField`).
-/
namespace Req.C02
open Req.Proto Req.Ascii

-- ":status", "Trailer", "content-length"
def kStatus : Bytes := [58, 115, 116, 97, 116, 117, 115]
def kTrailer : Bytes := [84, 114, 97, 105, 108, 101, 114]
def kContentLengthLower : Bytes := [99, 111, 110, 116, 101, 110, 116, 45, 108, 101, 110, 103, 116, 104]

/-- An ordinary response field as HTTP/2 and HTTP/3 carry it: lower-case token name that is
not a pseudo field, not connection-specific, not `te`, `content-length` or `trailer` (those
have their own handling), and a valid value. -/
def PlainField (kv : Bytes × Bytes) : Prop :=
  kv.1.any isUpper = false ∧ validFieldName kv.1 = true ∧ isPseudo kv.1 = false ∧
  invalidH3Names.contains kv.1 = false ∧ (kv.1 == [116, 101]) = false ∧
  (kv.1 == kContentLengthLower) = false ∧ (canonicalMIMEHeaderKey kv.1 == kTrailer) = false ∧
  validFieldValue kv.2 = true

def canonKV (kv : Bytes × Bytes) : Bytes × Bytes := (canonicalMIMEHeaderKey kv.1, kv.2)

/-- Plain fields are regular fields whose canonical name is not `Trailer`: what `handleResponse`
and `updateResponseFromHeaders` copy into the header unchanged. -/
theorem PlainField.regular {kv : Bytes × Bytes} (h : PlainField kv) :
    isPseudo kv.1 = false ∧ canonicalMIMEHeaderKey kv.1 ≠ kTrailer := by
  obtain ⟨_lower, _name, notPseudo, _notConn, _notTe, _notCL, notTrailer, _value⟩ := h
  exact ⟨notPseudo, by simpa using notTrailer⟩

theorem filter_key_ne {k : Bytes} {l : Fields} (h : ∀ kv ∈ l, kv.1 ≠ k) :
    l.filter (·.1 != k) = l ∧ l.filter (·.1 == k) = [] :=
  ⟨List.filter_eq_self.mpr fun kv hkv => by simpa using h kv hkv,
   List.filter_eq_nil_iff.mpr fun kv hkv => by simpa using h kv hkv⟩

theorem canon_key_ne {k : Bytes} {l : Fields} (h : ∀ kv ∈ l, canonicalMIMEHeaderKey kv.1 ≠ k) :
    ∀ kv ∈ l.map canonKV, kv.1 ≠ k := by
  intro kv hkv
  obtain ⟨kv0, h0, rfl⟩ := List.mem_map.mp hkv
  exact h kv0 h0

/-- HTTP/2: `handleResponse`'s view of `:status` followed by regular fields none of which is
`Trailer`. -/
theorem h2_head_regular (l : Fields)
    (hl : ∀ kv ∈ l, isPseudo kv.1 = false ∧ canonicalMIMEHeaderKey kv.1 ≠ kTrailer) (sv : Bytes) :
    h2StatusValue ((kStatus, sv) :: l) = some sv ∧ h2Fields ((kStatus, sv) :: l) = l.map canonKV ∧
    h2Declared ((kStatus, sv) :: l) = [] := by
  have hreg : h2Regular ((kStatus, sv) :: l) = l.map canonKV := by
    have hps : (!isPseudo kStatus) = false := by decide
    have : l.filter (fun kv => !isPseudo kv.1) = l :=
      List.filter_eq_self.mpr fun kv hkv => by rw [(hl kv hkv).1]; rfl
    rw [h2Regular, List.filter_cons_of_neg (by simpa using hps), this]
    rfl
  obtain ⟨hk, hd⟩ := filter_key_ne (canon_key_ne fun kv hkv => (hl kv hkv).2)
  refine ⟨rfl, ?_, ?_⟩
  · rw [h2Fields, hreg]
    exact hk
  · rw [h2Declared, hreg]
    exact congrArg (List.map (·.2)) hd

/-- `content-length` in the HEADERS field list of an origin that announces the length. -/
def clField : Option Bytes → Fields
  | some cb => [(kContentLengthLower, cb)]
  | none => []

/-- One step of `parseHeaders`' field loop on a regular field that passes the name and value
checks: `content-length` is remembered, any other field goes into the header. -/
theorem h3_go_regular (name value : Bytes) (rest : Fields) (saw : Bool) (status cl : Option Bytes) (acc : Fields)
    (h : name.any isUpper = false ∧ validFieldName name = true ∧ isPseudo name = false ∧
      invalidH3Names.contains name = false ∧ (name == [116, 101]) = false)
    (hv : validFieldValue value = true) :
    h3ParseHead.go ((name, value) :: rest) saw status cl acc =
      if name == kContentLengthLower then
        match cl with
        | none => h3ParseHead.go rest true status (some value) acc
        | some c => if c == value then h3ParseHead.go rest true status cl acc else none
      else h3ParseHead.go rest true status cl (canonKV (name, value) :: acc) := by
  obtain ⟨h1, h2, h3, h4, h5⟩ := h
  rw [h3ParseHead.go.eq_def]
  simp only [h1, h2, h3, h4, h5, hv, Bool.false_eq_true, if_false, Bool.not_true, false_and]
  rfl

theorem h3_go_plain (fs : Fields) (hfs : ∀ kv ∈ fs, PlainField kv) (saw : Bool) (status cl : Option Bytes)
    (acc : Fields) :
    h3ParseHead.go fs saw status cl acc = some (status, cl, acc.reverse ++ fs.map canonKV) := by
  induction fs generalizing saw acc with
  | nil => simp [h3ParseHead.go]
  | cons kv rest ih =>
    obtain ⟨name, value⟩ := kv
    obtain ⟨h1, h2, h3, h4, h5, h6, _, h8⟩ := hfs _ List.mem_cons_self
    rw [h3_go_regular name value rest saw status cl acc ⟨h1, h2, h3, h4, h5⟩ h8, h6, if_neg Bool.false_ne_true,
      ih (fun kv' h' => hfs kv' (List.mem_cons_of_mem _ h')), List.reverse_cons, List.append_assoc]
    rfl

/-- HTTP/3: `parseHeaders` + `updateResponseFromHeaders` on `:status`, optionally
`content-length`, then plain fields. -/
theorem h3_head_plain_cl (fs : Fields) (hfs : ∀ kv ∈ fs, PlainField kv) (sv : Bytes) (code : Nat)
    (hne : sv ≠ []) (hsv : natOfDigits sv = some code) (hval : validFieldValue sv = true)
    (declare : Option Bytes) (n : Nat)
    (hdecl : ∀ cb, declare = some cb → natOfDigits cb = some n ∧ validFieldValue cb = true) :
    h3ParseHead ((kStatus, sv) :: (clField declare ++ fs)) =
      some { status := code, fields := fs.map canonKV, contentLength := declare.map fun _ => n,
             trailerKeys := [] } := by
  have hgo : h3ParseHead.go ((kStatus, sv) :: (clField declare ++ fs)) false none none [] =
      some (some sv, declare, fs.map canonKV) := by
    have hup : kStatus.any isUpper = false := by decide
    have hps : isPseudo kStatus = true := by decide
    have heq : (kStatus == [58, 115, 116, 97, 116, 117, 115]) = true := by decide
    rw [h3ParseHead.go.eq_def]
    simp only [hup, hval, hps, heq, Bool.false_eq_true, if_false, Bool.not_true, if_true]
    cases declare with
    | none => exact h3_go_plain fs hfs false (some sv) none []
    | some cb =>
      rw [clField, List.singleton_append, h3_go_regular _ cb _ _ _ _ _ (by decide) (hdecl cb rfl).2,
        if_pos (beq_self_eq_true _)]
      exact h3_go_plain fs hfs true (some sv) (some cb) []
  have hemp : sv.isEmpty = false := by simpa using hne
  obtain ⟨hk, hd⟩ := filter_key_ne (canon_key_ne fun kv hkv => (hfs kv hkv).regular.2)
  have hk' : (fs.map canonKV).filter (fun x => x.1 != [84, 114, 97, 105, 108, 101, 114]) = fs.map canonKV := hk
  have hd' : (fs.map canonKV).filter (fun x => x.1 == [84, 114, 97, 105, 108, 101, 114]) = [] := hd
  unfold h3ParseHead
  rw [hgo]
  cases declare with
  | none => simp only [hemp, parseStatus, hsv, Bool.false_eq_true, if_false, hk', hd', List.map_nil, Option.map_none]
  | some cb =>
    have hcb := (hdecl cb rfl).1
    have hcbne : cb.isEmpty = false := by
      cases cb with
      | nil => simp [natOfDigits] at hcb
      | cons a as => rfl
    simp only [hemp, hcbne, parseStatus, hsv, hcb, Bool.false_eq_true, if_false, hk', hd', List.map_nil,
      Option.map_some]

/-- The HTTP/1.1 spelling of a field: `name ": " value`. -/
def toWField (kv : Bytes × Bytes) : WField := ⟨kv.1, [32], kv.2, []⟩

theorem toWField_ok {fs : Fields} (h : ∀ kv ∈ fs, PlainField kv ∧ ValueOK kv.2) : ∀ f ∈ fs.map toWField, f.OK := by
  refine List.forall_mem_map.mpr fun kv hkv => ?_
  obtain ⟨⟨_, h2, _⟩, hv⟩ := h kv hkv
  unfold validFieldName at h2
  simp only [Bool.and_eq_true, Bool.not_eq_true'] at h2
  refine ⟨?_, h2.2, hv, by intro x hx; simp [toWField] at hx; subst hx; decide, by simp [toWField]⟩
  intro h0
  simp [toWField] at h0
  simp [h0] at h2

theorem fieldsOf_toWField (fs : Fields) : fieldsOf (fs.map toWField) = fs.map canonKV := by
  simp [fieldsOf, toWField, canonKV, List.map_map, Function.comp_def]

end Req.C02
