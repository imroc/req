import Req.Lemmas.BufLine
import Req.Lemmas.H1Line
/-! The bufio model `Req.H1.BufLine` against the whole-stream line model `Req.H1` (LineSplit): `cutNL` is
`splitLF` with the LF kept, `dropEOL` of a cut line is `stripCR` of the split line. -/
namespace Req.H1.BufLine
open Req.Proto Req.H1

theorem cutNL_eq_splitLF (s : Bytes) : cutNL s = (splitLF s).map fun p => (p.1 ++ [10], p.2) := by
  induction s with
  | nil => rfl
  | cons c s ih =>
    simp only [cutNL, splitLF, ih]
    by_cases hc : c = 10
    · simp [hc]
    · simp only [hc, if_false]
      cases splitLF s <;> rfl

theorem cutNL_prefix {x l r : Bytes} (h : cutNL x = some (l, r)) (y : Bytes) :
    cutNL (x ++ y) = some (l, r ++ y) := by
  rw [cutNL_eq_splitLF] at h ⊢
  cases hs : splitLF x with
  | none => simp [hs] at h
  | some p =>
    rw [hs] at h
    rw [splitLF_append hs y]
    simp only [Option.map_some, Option.some.injEq, Prod.mk.injEq] at h ⊢
    exact ⟨h.1, by rw [h.2]⟩

theorem cutNL_splitLF {s l r : Bytes} (h : cutNL s = some (l, r)) :
    ∃ a, l = a ++ [10] ∧ splitLF s = some (a, r) := by
  rw [cutNL_eq_splitLF] at h
  cases hs : splitLF s with
  | none => simp [hs] at h
  | some p =>
    simp only [hs, Option.map_some, Option.some.injEq, Prod.mk.injEq] at h
    exact ⟨p.1, h.1.symm, by rw [← h.2]⟩

theorem cutNL_none {s : Bytes} (h : cutNL s = none) : splitLF s = none ∧ ∀ c ∈ s, c ≠ 10 := by
  have : splitLF s = none := by simpa [cutNL_eq_splitLF] using h
  exact ⟨this, splitLF_eq_none.mp this⟩

theorem stripCR_eq (a : Bytes) : stripCR a = if lastIs 13 a then a.dropLast else a := by
  induction a with
  | nil => simp [stripCR, lastIs]
  | cons c t ih =>
    cases t with
    | nil =>
      by_cases hc : c = 13 <;> simp [stripCR, lastIs, hc, CR]
    | cons d t =>
      have hl : lastIs 13 (c :: d :: t) = lastIs 13 (d :: t) := by simp [lastIs]
      show c :: stripCR (d :: t) = _
      rw [ih, hl]
      by_cases h : lastIs 13 (d :: t) = true
      · rw [if_pos h, if_pos h]; rfl
      · rw [if_neg h, if_neg h]

theorem dropEOL_snoc (a : Bytes) : dropEOL (a ++ [10]) = stripCR a := by
  unfold dropEOL
  have h1 : lastIs 10 (a ++ [10]) = true := by simp [lastIs]
  rw [if_pos h1, List.dropLast_concat, stripCR_eq]

theorem dropEOL_noLF {s : Bytes} (h : ∀ c ∈ s, c ≠ 10) : dropEOL s = s := by
  unfold dropEOL
  split
  · next hl =>
    exfalso
    simp only [lastIs, beq_iff_eq] at hl
    exact h 10 (List.mem_of_getLast? hl) rfl
  · rfl

end Req.H1.BufLine
