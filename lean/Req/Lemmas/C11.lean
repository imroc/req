import Req.Client.Redirect
import Req.Client.Authority
import Req.Lemmas.Ascii
/-! Byte-string facts under C11's host lemmas; nothing here is about redirects: `lower`, `splitLast` / `splitOn` /
`joinWith`, the spec's `pieces` / `glue` as the same functions, Go's dec-octet check.
Bytes are numerals in every C11 statement: 46 `.`, 58 `:`, 91 `[`, 93 `]`, 37 `%`, 45 `-`. -/
namespace Req.Lemmas.C11
open Req.Proto Req.Ascii Req.Redirect

theorem toLower_eq_dot : ∀ x : UInt8, (toLower x = 46) = (x = 46) := toLower_eq_fixed rfl

theorem toLower_eq_open : ∀ x : UInt8, (toLower x = 91) = (x = 91) := toLower_eq_fixed rfl

theorem toLower_eq_close : ∀ x : UInt8, (toLower x = 93) = (x = 93) := toLower_eq_fixed rfl

@[simp] theorem lower_nil : lower [] = [] := rfl
@[simp] theorem lower_cons (x : UInt8) (s : Bytes) : lower (x :: s) = toLower x :: lower s := rfl
@[simp] theorem lower_append (a b : Bytes) : lower (a ++ b) = lower a ++ lower b := by
  simp [lower]

theorem lower_idem (s : Bytes) : lower (lower s) = lower s := by
  induction s with
  | nil => rfl
  | cons x s ih => simp [ih, toLower_idem]

theorem lower_of_digits (s : Bytes) (h : s.all isDigit = true) : lower s = s := by
  induction s with
  | nil => rfl
  | cons x s ih =>
    simp only [List.all_cons, Bool.and_eq_true] at h
    simp [ih h.2, toLower_of_isDigit x h.1]

theorem all_isDigit_lower (s : Bytes) : (lower s).all isDigit = s.all isDigit := by
  induction s with
  | nil => rfl
  | cons x s ih => simp [ih, isDigit_toLower]

theorem mem_lower_of_fixed {c : UInt8} (hc : isAlpha c = false) (s : Bytes) : c ∈ lower s ↔ c ∈ s := by
  simp [lower, toLower_eq_fixed hc]

theorem colon_mem_lower (s : Bytes) : (58 : UInt8) ∈ lower s ↔ (58 : UInt8) ∈ s := mem_lower_of_fixed rfl s
theorem dot_mem_lower (s : Bytes) : (46 : UInt8) ∈ lower s ↔ (46 : UInt8) ∈ s := mem_lower_of_fixed rfl s

theorem splitLast_none {c : UInt8} {s : Bytes} (h : c ∉ s) : splitLast c s = none := by
  induction s with
  | nil => rfl
  | cons x s ih =>
    simp only [List.mem_cons, not_or] at h
    simp [splitLast, ih h.2, Ne.symm h.1]

theorem splitLast_append {c : UInt8} (a p : Bytes) (h : c ∉ p) :
    splitLast c (a ++ c :: p) = some (a, p) := by
  induction a with
  | nil => simp [splitLast, splitLast_none h]
  | cons x a ih => simp [splitLast, ih]

theorem splitLast_concat {c x : UInt8} (hx : x ≠ c) (s : Bytes) :
    splitLast c (s ++ [x]) = (splitLast c s).map fun ap => (ap.1, ap.2 ++ [x]) := by
  induction s with
  | nil => simp [splitLast, hx]
  | cons y s ih =>
    simp only [List.cons_append, splitLast, ih]
    cases h : splitLast c s with
    | none => by_cases hy : y = c <;> simp [hy]
    | some ap => simp

theorem splitOn_ne_nil (c : UInt8) (s : Bytes) : splitOn c s ≠ [] := by
  induction s with
  | nil => simp [splitOn]
  | cons x s ih =>
    unfold splitOn
    split
    · simp
    · split <;> simp

theorem splitOn_no_sep {c : UInt8} {s : Bytes} (h : c ∉ s) : splitOn c s = [s] := by
  induction s with
  | nil => rfl
  | cons x s ih =>
    simp only [List.mem_cons, not_or] at h
    simp [splitOn, Ne.symm h.1, ih h.2]

theorem splitOn_append_sep {c : UInt8} (l rest : Bytes) (h : c ∉ l) :
    splitOn c (l ++ c :: rest) = l :: splitOn c rest := by
  induction l with
  | nil => simp [splitOn]
  | cons x l ih =>
    simp only [List.mem_cons, not_or] at h
    simp [splitOn, Ne.symm h.1, ih h.2]

theorem splitOn_joinWith {c : UInt8} (ls : List Bytes) (hne : ls ≠ [])
    (h : ∀ l ∈ ls, c ∉ l) : splitOn c (joinWith c ls) = ls := by
  induction ls with
  | nil => exact absurd rfl hne
  | cons l ls ih =>
    cases ls with
    | nil => simpa [joinWith] using splitOn_no_sep (h l (by simp))
    | cons q qs =>
      simp only [joinWith]
      rw [splitOn_append_sep l _ (h l (by simp))]
      rw [ih (by simp) (fun l' hl' => h l' (List.mem_cons_of_mem _ hl'))]

theorem splitOn_lower (s : Bytes) : splitOn 46 (lower s) = (splitOn 46 s).map lower := by
  induction s with
  | nil => rfl
  | cons x s ih =>
    simp only [lower_cons, splitOn, ih, toLower_eq_dot]
    by_cases hx : x = 46
    · simp [hx]
    · simp only [hx, if_false]
      cases h : splitOn 46 s with
      | nil => exact absurd h (splitOn_ne_nil _ _)
      | cons p ps => simp

theorem joinWith_lower (ls : List Bytes) :
    joinWith 46 (ls.map lower) = lower (joinWith 46 ls) := by
  induction ls with
  | nil => rfl
  | cons l ls ih =>
    cases ls with
    | nil => rfl
    | cons q qs =>
      simp only [List.map_cons, joinWith, lower_append, lower_cons] at ih ⊢
      rw [ih]
      rfl

theorem mem_joinWith {c x : UInt8} (hx : x ≠ c) (ls : List Bytes) :
    x ∈ joinWith c ls → ∃ l ∈ ls, x ∈ l := by
  induction ls with
  | nil => simp [joinWith]
  | cons l ls ih =>
    cases ls with
    | nil => simp [joinWith]
    | cons q qs =>
      simp only [joinWith, List.mem_append, List.mem_cons]
      rintro (h | h | h)
      · exact ⟨l, by simp, h⟩
      · exact absurd h hx
      · obtain ⟨l', hl', hx'⟩ := ih h
        exact ⟨l', Or.inr (List.mem_cons.mp hl'), hx'⟩

/-- The spec's `pieces`/`glue` and the model's `splitOn`/`joinWith` are the same functions
(written twice so that the spec does not import the model). -/
theorem pieces_eq_splitOn (c : UInt8) (s : Bytes) : Req.Authority.pieces c s = splitOn c s := by
  induction s with
  | nil => rfl
  | cons x s ih =>
    unfold Req.Authority.pieces splitOn
    rw [ih]
    split
    · rfl
    · cases splitOn c s <;> rfl

theorem glue_eq_joinWith (c : UInt8) (ls : List Bytes) : Req.Authority.glue c ls = joinWith c ls := by
  induction ls with
  | nil => rfl
  | cons l ls ih =>
    cases ls with
    | nil => rfl
    | cons q qs => simp [Req.Authority.glue, joinWith, ih]

theorem getLast?_joinWith {c : UInt8} (ls : List Bytes) (hne : ls ≠ [])
    (hl : ls.getLast? ≠ some []) :
    (joinWith c ls).getLast? = (ls.getLast?.bind List.getLast?) := by
  induction ls with
  | nil => exact absurd rfl hne
  | cons l ls ih =>
    cases ls with
    | nil => simp [joinWith]
    | cons q qs =>
      have hl' : (q :: qs).getLast? ≠ some [] := by simpa [List.getLast?_cons_cons] using hl
      -- the text after the separator is not empty: its last byte is the last byte of the whole
      have hsome : ((q :: qs).getLast?.bind List.getLast?).isSome = true := by
        cases hq : (q :: qs).getLast? with
        | none => simp at hq
        | some z => cases z with
          | nil => exact absurd hq hl'
          | cons x xs => simp
      rw [joinWith, List.getLast?_cons_cons, List.getLast?_append, List.getLast?_cons,
        ih (by simp) hl']
      obtain ⟨z, hz⟩ := Option.isSome_iff_exists.mp hsome
      simp [hz]

open Req.Authority in
/-- `net.ParseIP`'s field check (1–3 digits, no leading zero, ≤ 255) accepts exactly the
`dec-octet` alternatives of RFC 3986. -/
theorem octetField_eq_decOctet (s : Bytes) : isOctetField s = isDecOctet s := by
  rw [Bool.eq_iff_iff]
  match s with
  | [] => simp [isOctetField, isDecOctet]
  | [a] =>
    simp [isOctetField, isDecOctet, octetValue, isDigit_iff]
    omega
  | [a, b] =>
    simp [isOctetField, isDecOctet, octetValue, isDigit_iff, UInt8.le_iff_toNat_le, ← UInt8.toNat_inj]
    omega
  | [a, b, c] =>
    simp [isOctetField, isDecOctet, octetValue, isDigit_iff, UInt8.le_iff_toNat_le, ← UInt8.toNat_inj]
    omega
  | a :: b :: c :: d :: r =>
    simp [isOctetField, isDecOctet]

open Req.Authority in
theorem decOctet_digits (s : Bytes) (h : isDecOctet s = true) : s.all isDigit = true := by
  rw [← octetField_eq_decOctet] at h
  simp only [isOctetField, Bool.and_eq_true] at h
  exact h.1.1.2

open Req.Authority in
theorem decOctet_ne_nil (s : Bytes) (h : isDecOctet s = true) : s ≠ [] := by
  intro hs; subst hs; simp [isDecOctet] at h

end Req.Lemmas.C11
