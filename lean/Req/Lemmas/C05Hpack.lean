import Req.H2.Hpack
/-!
Lemmas for `Req.Props.C05Hpack`: HPACK integer / string / literal-field round trips.
-/
namespace Req.Lemmas.C05.Hpack
open Req.Proto Req.H2.Hpack

theorem u8_toNat (x : Nat) : (u8 x).toNat = x % 256 := by simp [u8]

theorem two_pow_add_seven (m : Nat) : 2 ^ (m + 7) = 128 * 2 ^ m := by
  rw [Nat.pow_add]; simp [Nat.mul_comm]

theorem mod_add_div_128_mul (j P : Nat) : (j % 128) * P + (j / 128) * (128 * P) = j * P := by
  have h := Nat.div_add_mod j 128
  calc (j % 128) * P + (j / 128) * (128 * P)
      = (j % 128) * P + (128 * (j / 128)) * P := by
        rw [Nat.mul_comm (j / 128) (128 * P), Nat.mul_assoc, Nat.mul_comm P (j / 128), ← Nat.mul_assoc]
    _ = (j % 128 + 128 * (j / 128)) * P := by rw [Nat.add_mul]
    _ = j * P := by rw [Nat.add_comm, h]

/-- a continuation octet with the top bit set: the loop goes on one shift higher, and the bound on
what is left to read is kept. -/
theorem decodeCont_more (j acc m : Nat) (xs : Bytes) (h : j ≥ 128) (hb : j * 2 ^ m < 2 ^ 63) :
    decodeCont acc m (u8 (128 + j % 128) :: xs) = decodeCont (acc + j % 128 * 2 ^ m) (m + 7) xs ∧
      j / 128 * 2 ^ (m + 7) < 2 ^ 63 := by
  have hpos : 0 < 2 ^ m := Nat.two_pow_pos _
  have h1 : 128 * 2 ^ m ≤ j * 2 ^ m := Nat.mul_le_mul_right _ h
  have hm : ¬ m + 7 ≥ 63 := fun hge => by
    have := Nat.pow_le_pow_right (show 0 < 2 by decide) hge
    rw [two_pow_add_seven m] at this; omega
  have e1 : (u8 (128 + j % 128)).toNat = 128 + j % 128 := by rw [u8_toNat]; omega
  refine ⟨?_, ?_⟩
  · rw [decodeCont, e1, if_neg (by omega), if_neg hm,
      show (128 + j % 128) % 128 = j % 128 by omega]
  · rw [two_pow_add_seven, ← Nat.mul_assoc]
    have : j / 128 * 128 * 2 ^ m ≤ j * 2 ^ m := Nat.mul_le_mul_right _ (Nat.div_mul_le_self j 128)
    omega

theorem decodeCont_last (j acc m : Nat) (xs : Bytes) (h : j < 128) :
    decodeCont acc m (u8 j :: xs) = .ok (acc + j * 2 ^ m, xs) := by
  have e1 : (u8 j).toNat = j := by rw [u8_toNat]; omega
  rw [decodeCont, e1, if_pos (by omega), Nat.mod_eq_of_lt h]

/-- the continuation octets are read back: value `j` at shift `m`, as long as `j·2^m < 2^63`. -/
theorem groups_decode : ∀ (fuel j acc m : Nat) (rest : Bytes), j ≤ fuel → j * 2 ^ m < 2 ^ 63 →
    decodeCont acc m (groups fuel j ++ rest) = .ok (acc + j * 2 ^ m, rest) := by
  intro fuel
  induction fuel with
  | zero =>
    intro j acc m rest hj _
    exact decodeCont_last j acc m rest (by omega)
  | succ n ih =>
    intro j acc m rest hj hb
    unfold groups
    by_cases h : j ≥ 128
    · obtain ⟨e, hb'⟩ := decodeCont_more j acc m (groups n (j / 128) ++ rest) h hb
      rw [if_pos h, List.cons_append, e, ih (j / 128) _ (m + 7) rest (by omega) hb', two_pow_add_seven,
        Nat.add_assoc, mod_add_div_128_mul]
    · rw [if_neg h]; exact decodeCont_last j acc m rest (by omega)

/-- the prefix octet carries `k` in its low `n` bits under the pattern bits `hi`. -/
theorem prefix_octet {n hi k : Nat} (hhi : hi % 2 ^ n = 0) (hhi2 : hi + 2 ^ n ≤ 256) (hk : k < 2 ^ n) :
    (u8 (hi + k)).toNat % 2 ^ n = k := by
  rw [u8_toNat, Nat.mod_eq_of_lt (a := hi + k) (by omega), Nat.add_mod, hhi, Nat.zero_add, Nat.mod_mod,
    Nat.mod_eq_of_lt hk]

/-- `hi` is the pattern of the representation above the `n`-bit prefix: a multiple of `2^n` (`hhi`)
that fits the octet with the prefix (`hhi2`, which also gives `n ≤ 8`). The bound `2^63` on what the
continuation octets carry is `decodeCont`'s overflow test `m + 7 ≥ 63`. -/
theorem int_roundtrip (n hi i : Nat) (rest : Bytes)
    (hhi : hi % 2 ^ n = 0) (hhi2 : hi + 2 ^ n ≤ 256) (hi' : i < 2 ^ n - 1 + 2 ^ 63) :
    readInt n (encodeInt n hi i ++ rest) = .ok (i, rest) := by
  have hpos : 0 < 2 ^ n := Nat.two_pow_pos _
  unfold encodeInt
  by_cases hlt : i < 2 ^ n - 1
  · rw [if_pos hlt, List.singleton_append, readInt, prefix_octet hhi hhi2 (by omega)]
    exact if_pos hlt
  · rw [if_neg hlt, List.cons_append, readInt, prefix_octet hhi hhi2 (by omega),
      if_neg (Nat.lt_irrefl _),
      groups_decode (i - (2 ^ n - 1)) (i - (2 ^ n - 1)) _ 0 rest (Nat.le_refl _) (by simp; omega)]
    simp
    omega

theorem groups_length_pos (fuel j : Nat) : 1 ≤ (groups fuel j).length := by
  cases fuel <;> simp [groups]
  split <;> simp

theorem proper_prefix_singleton {pre : Bytes} {x : UInt8} (hp : pre <+: [x]) (hne : pre ≠ [x]) :
    pre = [] := by
  cases pre with
  | nil => rfl
  | cons y ys =>
    obtain ⟨rfl, h2⟩ := List.cons_prefix_cons.mp hp
    exact absurd (by rw [List.prefix_nil.mp h2]) hne

theorem groups_prefix_needMore : ∀ (fuel j acc m : Nat) (pre : Bytes), j ≤ fuel → j * 2 ^ m < 2 ^ 63 →
    pre <+: groups fuel j → pre ≠ groups fuel j → decodeCont acc m pre = .error .needMore := by
  intro fuel
  induction fuel with
  | zero =>
    intro j acc m pre _ _ hp hne
    rw [proper_prefix_singleton hp hne]; rfl
  | succ n ih =>
    intro j acc m pre hj hb hp hne
    unfold groups at hp hne
    by_cases h : j ≥ 128
    · rw [if_pos h] at hp hne
      cases pre with
      | nil => rfl
      | cons x xs =>
        obtain ⟨rfl, h2⟩ := List.cons_prefix_cons.mp hp
        obtain ⟨e, hb'⟩ := decodeCont_more j acc m xs h hb
        rw [e]
        exact ih (j / 128) _ (m + 7) xs (by omega) hb' h2 fun hx => hne (by rw [hx])
    · rw [if_neg h] at hp hne
      rw [proper_prefix_singleton hp hne]; rfl
theorem encodeInt7_first (len : Nat) : ∃ b t, encodeInt 7 0 len = b :: t ∧ b.toNat / 128 = 0 := by
  unfold encodeInt
  by_cases h : len < 2 ^ 7 - 1
  · refine ⟨u8 (0 + len), [], by simp [h], ?_⟩
    rw [u8_toNat]
    simp at h
    omega
  · refine ⟨u8 (0 + (2 ^ 7 - 1)), groups (len - (2 ^ 7 - 1)) (len - (2 ^ 7 - 1)), by simp [h], ?_⟩
    rw [u8_toNat]

theorem string_roundtrip (s rest : Bytes) (hs : s.length < 2 ^ 63) :
    decodeString (encodeString s ++ rest) = .ok (s, rest) := by
  unfold encodeString
  obtain ⟨b, t, hbt, hb⟩ := encodeInt7_first s.length
  have hrt := int_roundtrip 7 0 s.length (s ++ rest) (by decide) (by decide) (by simp; omega)
  unfold decodeString
  rw [List.append_assoc]
  rw [hbt] at hrt ⊢
  simp only [List.cons_append] at hrt ⊢
  have : ¬ b.toNat / 128 = 1 := by omega
  simp only [this, ↓reduceIte, hrt, liftInt]
  rw [if_neg (by simp)]
  simp

theorem field_roundtrip (f : Field) (rest : Bytes) (h1 : f.name.length < 2 ^ 63)
    (h2 : f.value.length < 2 ^ 63) : decodeField (encodeField f ++ rest) = .ok (f, rest) := by
  unfold encodeField decodeField
  simp only [List.cons_append, List.append_assoc]
  have hb : ∀ b : Bool, ((if b then (16 : UInt8) else 0).toNat ≥ 128) = False ∧
      ((if b then (16 : UInt8) else 0).toNat ≥ 64) = False ∧
      ((if b then (16 : UInt8) else 0).toNat ≥ 32) = False ∧
      ((if b then (16 : UInt8) else 0).toNat % 16 ≠ 0) = False ∧
      decide ((if b then (16 : UInt8) else 0).toNat / 16 = 1) = b := by
    intro b; cases b <;> decide
  obtain ⟨a1, a2, a3, a4, a5⟩ := hb f.never
  simp only [a1, a2, a3, a4, a5, ↓reduceIte]
  rw [string_roundtrip f.name _ h1]
  simp only
  rw [string_roundtrip f.value _ h2]

theorem encodeField_length (f : Field) : 3 ≤ (encodeField f).length := by
  unfold encodeField encodeString
  obtain ⟨b, t, hbt, _⟩ := encodeInt7_first f.name.length
  obtain ⟨b', t', hbt', _⟩ := encodeInt7_first f.value.length
  rw [hbt, hbt']
  simp only [List.length_cons, List.length_append]
  omega

theorem loop_roundtrip : ∀ (fs : List Field) (fuel : Nat),
    (∀ f ∈ fs, f.name.length < 2 ^ 63 ∧ f.value.length < 2 ^ 63) → fs.length < fuel →
    decodeLoop fuel (encodeBlock fs) = .ok fs := by
  intro fs
  induction fs with
  | nil =>
    intro fuel _ hf
    cases fuel with
    | zero => omega
    | succ n => simp [decodeLoop, encodeBlock]
  | cons f fs ih =>
    intro fuel hw hf
    cases fuel with
    | zero => omega
    | succ n =>
      have hne : (encodeBlock (f :: fs)).isEmpty = false := by
        have := encodeField_length f
        simp only [encodeBlock, List.map_cons, List.flatten_cons]
        cases h : encodeField f with
        | nil => rw [h] at this; simp at this
        | cons _ _ => simp
      rw [decodeLoop, hne]
      simp only [Bool.false_eq_true, ↓reduceIte]
      have hb : encodeBlock (f :: fs) = encodeField f ++ encodeBlock fs := by
        simp [encodeBlock]
      obtain ⟨w1, w2⟩ := hw f (by simp)
      rw [hb, field_roundtrip f _ w1 w2]
      simp only
      rw [ih n (fun x hx => hw x (by simp [hx])) (by simp at hf; omega)]

theorem encodeBlock_length (fs : List Field) : fs.length ≤ (encodeBlock fs).length := by
  induction fs with
  | nil => simp [encodeBlock]
  | cons f fs ih =>
    have := encodeField_length f
    have hb : encodeBlock (f :: fs) = encodeField f ++ encodeBlock fs := by simp [encodeBlock]
    rw [hb]; simp only [List.length_append, List.length_cons]; omega

end Req.Lemmas.C05.Hpack
