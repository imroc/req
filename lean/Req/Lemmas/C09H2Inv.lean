import Req.Pool.H2Mux
import Req.Lemmas.C09H2Core
/-!
Invariants of the HTTP/2 demultiplexer model, proved over the abstract transitions `CStep`
(C09H2Core) and transported to `run` by `step_core`.
-/
namespace Req.Lemmas.C09H2Inv
open Req.Pool.H2Mux Req.Lemmas.C09H2Rel Req.Lemmas.C09H2Core

/-- before `addStreamLocked` -/
def early (p : Phase) : Prop := p = .idle ∨ p = .wantMu ∨ p = .holdMu ∨ p = .pending

structure Inv (c : Core) : Prop where
  keysNodup : (c.streams.map Prod.fst).Nodup
  tableId : ∀ i k, (i, k) ∈ c.streams → c.id k = i
  tableNZ : ∀ i k, (i, k) ∈ c.streams → i ≠ 0
  idLt : ∀ k, c.id k < c.nextId
  idInj : ∀ k k', c.id k ≠ 0 → c.id k = c.id k' → k = k'
  earlyId : ∀ k, early (c.phase k) → c.id k = 0
  /-- from `addStreamLocked` to `forgetStreamID` a caller is in `cc.streams` -/
  live : ∀ k, c.id k ≠ 0 → c.phase k ≠ .done → (c.id k, k) ∈ c.streams
  noPanic : c.forgetPanic = false
  mu : ∀ k, holds (c.phase k) ↔ c.hdrMu = some k
  wireSorted : c.hdrWire.Pairwise (· < ·)
  wireLt : ∀ i ∈ c.hdrWire, i < c.nextId
  /-- the id of the caller between `addStreamLocked` and its HEADERS is above everything written: why `wireSorted`
  survives the write -/
  wireOpened : ∀ k, c.phase k = .opened → ∀ i ∈ c.hdrWire, i < c.id k
  /-- `cc.pendingRequests` counts the holder of `reqHeaderMu` while it sleeps for a slot, and nobody else -/
  pend : c.pendingReq = (match c.hdrMu with
    | some k => if c.phase k = .pending then 1 else 0
    | none => 0)
  gotOwn : ∀ k it, it ∈ c.got k → it.sid = c.id k ∧ it.sid ≠ 0 ∧
    ∃ f, c.rx[it.seq]? = some f ∧ f.sid? = some it.sid ∧ f.tag = it.tag
  gotSorted : ∀ k, ((c.got k).map Item.seq).Pairwise (· ≥ ·)
  /-- `rl` = the frame the read loop has looked up and not yet processed, with the caller it found. The clause
  speaks of `id`, which `forgetStreamID` leaves alone, and not of the table: it holds also when the stream is
  forgotten between the lookup and `process`. -/
  rlOwn : ∀ f k, c.rl = some (f, some k) → f.sid? = some (c.id k) ∧ c.id k ≠ 0
  /-- the position `process` stamps on the items it logs (`rx.length - 1`) is that of the frame in `rl` -/
  rlLast : ∀ f t, c.rl = some (f, t) → c.rx[c.rx.length - 1]? = some f

theorem Inv_init : Inv (core {}) := by
  refine ⟨by simp [core], ?_, ?_, ?_, ?_, ?_, ?_, rfl, ?_, by simp [core], ?_, ?_, rfl, ?_, ?_, ?_, ?_⟩
  all_goals simp [core, holds, early]

/-- the owner of `reqHeaderMu` is unique -/
theorem Inv.holder {c : Core} (h : Inv c) {k j : Caller} (hk : holds (c.phase k)) (hj : holds (c.phase j)) :
    j = k := by
  have a := (h.mu k).mp hk
  have b := (h.mu j).mp hj
  rw [a] at b; exact (Option.some.inj b).symm

theorem pendDec_zero {c : Core} (h : Inv c) {k : Caller} (hk : holds (c.phase k)) : pendDec c k = 0 := by
  have hp := h.pend
  rw [(h.mu k).mp hk] at hp
  simp only at hp
  unfold pendDec
  split
  · next hpk => rw [hp, if_pos hpk]
  · next hpk => rw [hp, if_neg hpk]

theorem not_holds_of_plain {p p' : Phase} (h : plain p p') : ¬ holds p ∧ ¬ holds p' ∧ p ≠ .done ∧ p' ≠ .done ∧
    (early p' → early p) := by
  rcases h with ⟨a, b⟩ | ⟨a, b⟩ | ⟨a, b⟩ | ⟨a, b⟩ <;> subst a <;> subst b <;> simp [holds, early]

/-- One caller changes phase, and with it who holds `reqHeaderMu` and how many callers wait for a
stream slot: what the clauses that read `phase` ask of the new phase. -/
theorem Inv.setPhase {c : Core} (h : Inv c) (k : Caller) (p' : Phase) (m' : Option Caller) (n' : Nat)
    (hearly : early p' → c.id k = 0) (hdone : c.phase k = .done → p' = .done) (hopen : p' ≠ .opened)
    (hpend : n' = match m' with
      | some j => if upd c.phase k p' j = .pending then 1 else 0
      | none => 0)
    (hk : holds p' ↔ m' = some k) (hoth : ∀ j, j ≠ k → (c.hdrMu = some j ↔ m' = some j)) :
    Inv { c with phase := upd c.phase k p', hdrMu := m', pendingReq := n' } := by
  refine { h with earlyId := ?_, live := ?_, mu := ?_, wireOpened := ?_, pend := hpend }
  · intro j hj
    simp only [upd_apply] at hj
    split at hj
    · next e => subst e; exact hearly hj
    · exact h.earlyId j hj
  · intro j hid hph
    simp only [upd_apply] at hph
    split at hph
    · next e => subst e; exact h.live _ hid fun hd => hph (hdone hd)
    · exact h.live j hid hph
  · intro j
    simp only [upd_apply]
    split
    · next e => subst e; exact hk
    · next e => exact (h.mu j).trans (hoth j e)
  · intro j hj
    simp only [upd_apply] at hj
    split at hj
    · exact absurd hj hopen
    · exact h.wireOpened j hj

theorem Inv.movePhase {c : Core} (h : Inv c) (k : Caller) (p' : Phase) (nh : ¬ holds (c.phase k)) (nh' : ¬ holds p')
    (hearly : early p' → c.id k = 0) (hdone : c.phase k = .done → p' = .done) :
    Inv { c with phase := upd c.phase k p' } := by
  have hk : c.hdrMu ≠ some k := fun e => nh ((h.mu k).mpr e)
  refine h.setPhase k p' c.hdrMu c.pendingReq hearly hdone (fun e => nh' (.inr (.inr e))) ?_
    ⟨fun x => absurd x nh', fun x => absurd x hk⟩ (fun _ _ => Iff.rfl)
  rw [h.pend]
  cases hm : c.hdrMu with
  | none => rfl
  | some k0 =>
    have : k0 ≠ k := fun e => hk (e ▸ hm)
    simp [upd_apply, this]

theorem Inv.appendWire {c : Core} (h : Inv c) (i : Nat) (hlt : i < c.nextId) (hgt : ∀ x ∈ c.hdrWire, x < i)
    (hno : ∀ j, c.phase j ≠ .opened) : Inv { c with hdrWire := c.hdrWire ++ [i] } :=
  { h with
    wireSorted := List.pairwise_append.mpr ⟨h.wireSorted, List.pairwise_singleton _ _,
      fun a ha b hb => by rw [List.mem_singleton.mp hb]; exact hgt a ha⟩
    wireLt := fun x hx => (List.mem_append.mp hx).elim (h.wireLt x) fun hx => by
      rw [List.mem_singleton.mp hx]; exact hlt
    wireOpened := fun j hj => absurd hj (hno j) }

theorem Inv_cstep {b} {c c' : Core} (h : Inv c) (st : CStep b c c') : Inv c' := by
  cases st with
  | quiet => exact h
  | phase k p' hpl =>
    obtain ⟨nh, nh', nd, _, he⟩ := not_holds_of_plain hpl
    exact h.movePhase k p' nh nh' (fun e => h.earlyId k (he e)) (fun e => absurd e nd)
  | acquire k h1 h2 =>
    refine h.setPhase k .holdMu (some k) c.pendingReq (fun _ => h.earlyId k (by simp [early, h1]))
      (fun e => by rw [h1] at e; cases e) (by simp) ?_ ⟨fun _ => rfl, fun _ => by simp [holds]⟩
      (fun j e => ⟨fun x => (nomatch h2.symm.trans x), fun x => absurd (Option.some.inj x).symm e⟩)
    have := h.pend
    rw [h2] at this
    simp [upd_apply, this]
  | exitHeld k hh =>
    have hmk := (h.mu k).mp hh
    exact h.setPhase k .exiting none _ (by simp [early])
      (fun e => by rcases hh with x | x | x <;> rw [x] at e <;> cases e) (by simp) (pendDec_zero h hh)
      ⟨fun x => by simp [holds] at x, nofun⟩
      (fun j e => ⟨fun x => absurd (Option.some.inj (hmk.symm.trans x)).symm e, nofun⟩)
  | admit k _ hph =>
    have hh : holds (c.phase k) := by rcases hph with e | e <;> simp [holds, e]
    have hk0 : c.id k = 0 := h.earlyId k (by rcases hph with e | e <;> simp [early, e])
    have hmk := (h.mu k).mp hh
    have hnext : 0 < c.nextId := Nat.lt_of_le_of_lt (Nat.zero_le _) (h.idLt k)
    have hnotin : ∀ j, (c.nextId, j) ∉ c.streams := fun j hj => by
      have := h.tableId _ _ hj
      have := h.idLt j
      omega
    have hkEmpty : ∀ i, (i, k) ∉ c.streams := fun i hi => by
      have := h.tableId _ _ hi
      exact h.tableNZ _ _ hi (by omega)
    refine { keysNodup := ?_, tableId := ?_, tableNZ := ?_, idLt := ?_, idInj := ?_, earlyId := ?_, live := ?_,
             noPanic := h.noPanic, mu := ?_, wireSorted := h.wireSorted, wireLt := ?_, wireOpened := ?_,
             pend := ?_, gotOwn := ?_, gotSorted := h.gotSorted, rlOwn := ?_, rlLast := h.rlLast }
    · simp only [List.map_cons, List.nodup_cons]
      refine ⟨?_, h.keysNodup⟩
      intro hm
      obtain ⟨⟨i, j⟩, hij, e⟩ := List.mem_map.mp hm
      simp only at e; subst e
      exact hnotin j hij
    · intro i j hij
      simp only [upd_apply]
      rcases List.mem_cons.mp hij with e | hm
      · cases e; simp
      · split
        · next e => subst e; exact absurd hm (hkEmpty i)
        · exact h.tableId i j hm
    · intro i j hij
      rcases List.mem_cons.mp hij with e | hm
      · cases e; omega
      · exact h.tableNZ i j hm
    · intro j
      simp only [upd_apply]
      split
      · omega
      · have := h.idLt j; omega
    · intro a b hne heq
      simp only [upd_apply] at hne heq
      split at heq
      · next ea =>
        split at heq
        · next eb => rw [ea, eb]
        · have := h.idLt b; omega
      · next ea =>
        rw [if_neg ea] at hne
        split at heq
        · have := h.idLt a; omega
        · exact h.idInj a b hne heq
    · intro j hj
      simp only [upd_apply] at hj ⊢
      split at hj
      · simp [early] at hj
      · next e => rw [if_neg e]; exact h.earlyId j hj
    · intro j hid hphj
      simp only [upd_apply] at hid hphj ⊢
      split
      · next e => subst e; exact List.mem_cons_self
      · next e =>
        rw [if_neg e] at hid hphj
        exact List.mem_cons_of_mem _ (h.live j hid hphj)
    · intro j
      simp only [upd_apply]
      split
      · next e => subst e; simp [holds, hmk]
      · exact h.mu j
    · intro i hi
      have := h.wireLt i hi
      show i < c.nextId + 2
      omega
    · intro j hj i hi
      simp only [upd_apply] at hj ⊢
      split
      · exact h.wireLt i hi
      · next e =>
        rw [if_neg e] at hj
        exact absurd (h.holder hh (by simp [holds, hj])) e
    · show pendDec c k = _
      rw [pendDec_zero h hh, hmk]
      simp [upd_apply]
    · intro j it hit
      simp only [upd_apply]
      split
      · next e =>
        subst e
        have := h.gotOwn _ it hit
        omega
      · exact h.gotOwn j it hit
    · intro f j hrl
      simp only [upd_apply]
      split
      · next e => subst e; exact absurd hk0 (h.rlOwn f _ hrl).2
      · exact h.rlOwn f j hrl
  | park k hph =>
    have hh : holds (c.phase k) := by rcases hph with e | e <;> simp [holds, e]
    have hmk := (h.mu k).mp hh
    refine h.setPhase k .pending c.hdrMu _ (fun _ => h.earlyId k (by rcases hph with e | e <;> simp [early, e]))
      (fun e => by rcases hph with x | x <;> rw [x] at e <;> cases e) (by simp) ?_
      ⟨fun _ => hmk, fun _ => by simp [holds]⟩ (fun _ _ => Iff.rfl)
    rw [pendDec_zero h hh, hmk]
    simp [upd_apply]
  | wrote k hph =>
    have hh : holds (c.phase k) := by simp [holds, hph]
    have hmk := (h.mu k).mp hh
    have h1 := h.setPhase k .sent none c.pendingReq (by simp [early]) (fun e => by rw [hph] at e; cases e) (by simp)
      (by rw [h.pend, hmk]; simp [hph]) ⟨fun x => by simp [holds] at x, nofun⟩
      (fun j e => ⟨fun x => absurd (Option.some.inj (hmk.symm.trans x)).symm e, nofun⟩)
    -- nobody is `opened` any more: `k` was the holder
    exact h1.appendWire (c.id k) (h.idLt k) (h.wireOpened k hph) fun j hj => nomatch (h1.mu j).mp (.inr (.inr hj))
  | forgot k hph =>
    have h1 := h.movePhase k .done (by simp [holds, hph]) (by simp [holds]) (by simp [early]) (fun _ => rfl)
    by_cases hid : c.id k = 0
    · simp only [if_pos hid]; exact h1
    · -- a finishing caller with an id is still in the table: its entry goes, and no panic
      have hl : (c.streams.lookup (c.id k)).isSome = true := by
        cases hl : c.streams.lookup (c.id k) with
        | some _ => rfl
        | none => exact absurd (h.live k hid (by simp [hph])) (List.lookup_none_not_mem hl _)
      simp only [if_neg hid, if_pos hl]
      refine { h1 with keysNodup := List.filter_keys_nodup _ h.keysNodup,
                       tableId := fun i j hij => h.tableId i j (List.mem_filter.mp hij).1,
                       tableNZ := fun i j hij => h.tableNZ i j (List.mem_filter.mp hij).1, live := ?_ }
      intro j hidj hphj
      simp only [upd_apply] at hphj
      split at hphj
      · exact absurd rfl hphj
      · next e =>
        exact List.mem_filter.mpr ⟨h.live j hidj hphj, by simpa using fun e' => e (h.idInj j k hidj e')⟩
  | read f tgt h1 h2 =>
    refine { h with gotOwn := ?_, rlOwn := ?_, rlLast := ?_ }
    · intro k it hit
      obtain ⟨a, b, g, hg, c1, c2⟩ := h.gotOwn k it hit
      refine ⟨a, b, g, ?_, c1, c2⟩
      have hlt : it.seq < c.rx.length := (List.getElem?_eq_some_iff.1 hg).1
      show (c.rx ++ [f])[it.seq]? = some g
      rw [List.getElem?_append_left hlt]; exact hg
    · intro g k hrl
      have e : (f, tgt) = (g, some k) := (Option.some.inj hrl)
      cases e
      obtain ⟨i, hi, hl⟩ := h2 k rfl
      have hm : (i, k) ∈ c.streams := List.lookup_mem hl
      rw [h.tableId i k hm]
      exact ⟨hi, h.tableNZ i k hm⟩
    · intro g t hrl
      have e : (f, tgt) = (g, t) := (Option.some.inj hrl)
      cases e
      show (c.rx ++ [f])[(c.rx ++ [f]).length - 1]? = some f
      simp
  | processed f tgt got' h1 h2 =>
    have hlast := h.rlLast f tgt h1
    have hne : 0 < c.rx.length := by
      rcases Nat.eq_zero_or_pos c.rx.length with x | x
      · rw [List.getElem?_eq_none (by omega)] at hlast; cases hlast
      · exact x
    refine { h with gotOwn := ?_, gotSorted := ?_, rlOwn := ?_, rlLast := ?_ }
    · intro k it hit
      obtain ⟨new, e, hp⟩ := h2 k
      have hit : it ∈ got' k := hit
      rw [e] at hit
      rcases List.mem_append.mp hit with hn | ho
      · obtain ⟨ht, hs, hq, htag⟩ := hp it hn
        obtain ⟨r1, r2⟩ := h.rlOwn f k (by rw [h1, ht])
        have hsid : it.sid = c.id k := by
          rw [r1] at hs; exact (Option.some.inj hs).symm
        refine ⟨hsid, by rw [hsid]; exact r2, f, ?_, hs, htag.symm⟩
        rw [hq]; exact hlast
      · exact h.gotOwn k it ho
    · intro k
      obtain ⟨new, e, hp⟩ := h2 k
      show ((got' k).map Item.seq).Pairwise (· ≥ ·)
      rw [e, List.map_append, List.pairwise_append]
      refine ⟨?_, h.gotSorted k, ?_⟩
      · rw [List.pairwise_map]
        apply List.Pairwise.imp_of_mem (R := fun _ _ => True)
        · intro a b ha hb _
          rw [(hp a ha).2.2.1, (hp b hb).2.2.1]
          exact Nat.le_refl _
        · exact List.pairwise_of_forall (fun _ _ => trivial)
      · intro a ha b hb
        obtain ⟨x, hx, rfl⟩ := List.mem_map.mp ha
        obtain ⟨y, hy, rfl⟩ := List.mem_map.mp hb
        rw [(hp x hx).2.2.1]
        obtain ⟨_, _, g, hg, _⟩ := h.gotOwn k y hy
        have : y.seq < c.rx.length := (List.getElem?_eq_some_iff.1 hg).1
        show c.rx.length - 1 ≥ y.seq
        omega
    · intro g k hrl; cases hrl
    · intro g t hrl; cases hrl

/-- A stream id, once assigned to a caller, is that caller's for ever; `nextStreamID` only grows. -/
theorem id_stable_cstep {b} {c c' : Core} (h : Inv c) (st : CStep b c c') (k : Caller) (hid : c.id k ≠ 0) :
    c'.id k = c.id k ∧ c.nextId ≤ c'.nextId := by
  cases st with
  | admit j _ hph =>
    have hj0 : c.id j = 0 := h.earlyId j (by rcases hph with e | e <;> simp [early, e])
    refine ⟨?_, Nat.le_add_right _ _⟩
    simp only [upd_apply]
    split
    · next e => subst e; exact absurd hj0 hid
    · rfl
  | _ => exact ⟨rfl, Nat.le_refl _⟩

theorem Inv_step (cfg : Cfg) (s : St) (op : Op) (h : Inv (core s)) : Inv (core (step cfg s op).1) :=
  Inv_cstep h (step_core cfg s op)

theorem Inv_run (cfg : Cfg) (s : St) (ops : List Op) (h : Inv (core s)) : Inv (core (run cfg s ops)) := by
  induction ops generalizing s with
  | nil => exact h
  | cons op ops ih => exact ih _ (Inv_step cfg s op h)

theorem id_stable_run (cfg : Cfg) (s : St) (ops : List Op) (h : Inv (core s)) (k : Caller)
    (hid : (s.cs k).id ≠ 0) :
    ((run cfg s ops).cs k).id = (s.cs k).id ∧ s.nextId ≤ (run cfg s ops).nextId := by
  induction ops generalizing s with
  | nil => exact ⟨rfl, Nat.le_refl _⟩
  | cons op ops ih =>
    obtain ⟨a, b⟩ := id_stable_cstep h (step_core cfg s op) k hid
    have a' : ((step cfg s op).1.cs k).id = (s.cs k).id := a
    have b' : s.nextId ≤ (step cfg s op).1.nextId := b
    obtain ⟨c1, c2⟩ := ih _ (Inv_step cfg s op h) (by rw [a']; exact hid)
    exact ⟨by rw [← a']; exact c1, Nat.le_trans b' c2⟩

theorem run_append (cfg : Cfg) (s : St) (a b : List Op) : run cfg s (a ++ b) = run cfg (run cfg s a) b := by
  induction a generalizing s with
  | nil => rfl
  | cons op a ih => exact ih _

end Req.Lemmas.C09H2Inv
