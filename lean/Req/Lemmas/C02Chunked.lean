import Req.C02.H1Body
import Req.Lemmas.C02BufioLine
import Req.Lemmas.C02Reader
/-!
`chunkedReader` refines "the concatenation of the chunk data" for every segmentation of the
wire and every caller read size.

The wire is described by the chunks the origin wrote.  A chunk-size line may be ANY line the
reader's own line parser maps to the chunk's length (upper/lower-case hex, leading zeros,
chunk extensions, trailing blanks): `WChunk.OK`.
-/
namespace Req.C02
open Req.Proto

/-- One chunk as written: the size line up to (not including) its terminating LF — normally
`<hex>[;ext]\r` — and the data. -/
structure WChunk where
  line : Bytes
  data : Bytes
deriving Repr

/-- What `readChunkLine` + `parseHexUint` make of a size line. -/
def sizeOfLine (line : Bytes) : Except IOErr Nat :=
  parseHexUint (removeChunkExtension (trimTrailingWhitespace (line ++ [10])))

/-- A chunk the reader accepts: the size line, LF included, is shorter than `maxLineLength`
(`readChunkLine` answers `ErrLineTooLong` from there on) and fits the `bufio.Reader`
(`ReadSlice` would answer `ErrBufferFull`, which `readChunkLine` turns into the same error). -/
def WChunk.OK (cap : Nat) (c : WChunk) : Prop :=
  (10 : UInt8) ∉ c.line ∧ c.data ≠ [] ∧ sizeOfLine c.line = .ok c.data.length ∧
  c.line.length + 1 < maxLineLength ∧ c.line.length + 1 ≤ cap

def WChunk.wire (c : WChunk) : Bytes := c.line ++ 10 :: (c.data ++ [13, 10])

/-- The last-chunk line (`0\r`, possibly `0;ext\r`, `000\r` …). -/
def LastOK (cap : Nat) (last : Bytes) : Prop :=
  (10 : UInt8) ∉ last ∧ sizeOfLine last = .ok 0 ∧ last.length + 1 < maxLineLength ∧ last.length + 1 ≤ cap

/-- The unread wire when the reader stands before the chunks `cs`: they, the last-chunk
line, and whatever follows (`tail`: trailer section, next response). -/
def wireFrom (cs : List WChunk) (last tail : Bytes) : Bytes :=
  (cs.map WChunk.wire).flatten ++ (last ++ 10 :: tail)

def dataOf (cs : List WChunk) : Bytes := (cs.map (·.data)).flatten

/-- Where the reader stands (state, unread wire) and the data it still has to hand out. -/
inductive CPos (cap : Nat) (last tail : Bytes) : Chunked → Bytes → Bytes → Prop
  | header (cs : List WChunk) (hcs : ∀ c ∈ cs, c.OK cap) :
      CPos cap last tail { n := 0, err := none, checkEnd := false } (wireFrom cs last tail) (dataOf cs)
  | data (d : Bytes) (cs : List WChunk) (hd : d ≠ []) (hcs : ∀ c ∈ cs, c.OK cap) :
      CPos cap last tail { n := d.length, err := none, checkEnd := false }
        (d ++ 13 :: 10 :: wireFrom cs last tail) (d ++ dataOf cs)
  | footer (cs : List WChunk) (hcs : ∀ c ∈ cs, c.OK cap) :
      CPos cap last tail { n := 0, err := none, checkEnd := true } (13 :: 10 :: wireFrom cs last tail) (dataOf cs)
  | done :
      CPos cap last tail { n := 0, err := some .eof, checkEnd := false } tail []

theorem wireFrom_cons (c : WChunk) (cs : List WChunk) (last tail : Bytes) :
    wireFrom (c :: cs) last tail = c.line ++ 10 :: (c.data ++ 13 :: 10 :: wireFrom cs last tail) := by
  simp [wireFrom, WChunk.wire]

/-- The position after `d0` of the chunk data `d0 ++ d'` was copied: in the data, or before the
footer when the chunk is used up. -/
theorem CPos.afterData {cap : Nat} {last tail : Bytes} (d' : Bytes) (cs : List WChunk)
    (hcs : ∀ c ∈ cs, c.OK cap) :
    CPos cap last tail { n := d'.length, err := none, checkEnd := d'.length = 0 }
      (d' ++ 13 :: 10 :: wireFrom cs last tail) (d' ++ dataOf cs) := by
  cases d' with
  | nil => exact CPos.footer cs hcs
  | cons x xs => exact CPos.data (x :: xs) cs (List.cons_ne_nil _ _) hcs

theorem CPos.of_err {cap : Nat} {last tail rem E : Bytes} {cr : Chunked} (h : CPos cap last tail cr rem E)
    (e : IOErr) (he : cr.err = some e) : e = .eof ∧ rem = tail ∧ E = [] := by
  cases h <;> cases he
  exact ⟨rfl, rfl, rfl⟩

/-- Iterations one loop still needs from a position, apart from the three per byte copied. -/
def posWeight (cr : Chunked) : Nat :=
  if cr.err.isSome then 0 else if cr.checkEnd then 3 else if cr.n = 0 then 2 else 1

theorem posWeight_le (cr : Chunked) : posWeight cr ≤ 3 := by
  unfold posWeight; split <;> (try split) <;> (try split) <;> omega

theorem posWeight_done : posWeight { n := 0, err := some .eof, checkEnd := false } = 0 := rfl

theorem posWeight_footer : posWeight { n := 0, err := none, checkEnd := true } = 3 := rfl

theorem posWeight_header : posWeight { n := 0, err := none, checkEnd := false } = 2 := rfl

theorem posWeight_data {n : Nat} (h : n ≠ 0) :
    posWeight { n := n, err := none, checkEnd := false } = 1 := by
  simp [posWeight, h]

theorem beginChunk_line (cr : Chunked) (b : Bufio) (line R : Bytes) (n : Nat) (hw : b.WF) (hf : b.Fits)
    (hno : (10 : UInt8) ∉ line) (hsz : sizeOfLine line = .ok n) (hmax : line.length + 1 < maxLineLength)
    (hcap : line.length + 1 ≤ b.cap) (hrem : b.rem = line ++ 10 :: R) :
    ∃ b', cr.beginChunk b = ({ cr with n := n, err := if n = 0 then some .eof else none }, b') ∧
      b'.rem = R ∧ b'.WF ∧ b'.Fits ∧ b'.cap = b.cap ∧ b'.net.fin = b.net.fin := by
  obtain ⟨b', hrs, hb'⟩ :=
    Bufio.readSlice_line (b.cap + 2) b line R hw hf hrem hno hcap (by omega) (by omega)
  refine ⟨b', ?_, hb'⟩
  have hlen : ¬ (line ++ [10]).length ≥ maxLineLength := by
    rw [List.length_append, List.length_singleton]; omega
  unfold sizeOfLine at hsz
  simp only [Chunked.beginChunk, hrs, hlen, if_false, hsz]

theorem piecesBytes_cons (d : Bytes) (accR : List Bytes) : piecesBytes (d :: accR) = piecesBytes accR ++ d := by
  simp [piecesBytes]

/-- What the loop of one `chunkedReader.Read` (room for `k` bytes, `got` copied before, pieces
`accR`) returns when it starts with `exp` still expected: it has copied a further prefix `x` of
`exp` (at most `k` bytes), stands at a position again, and — when it started with nothing copied
and room in the caller's buffer — comes back empty-handed only behind the last chunk. -/
structure LoopOut (cap : Nat) (last tail : Bytes) (k got : Nat) (accR : List Bytes) (exp : Bytes)
    (r : (List Bytes × Chunked) × Bufio) (x exp' : Bytes) : Prop where
  pieces : piecesBytes r.1.1 = piecesBytes accR ++ x
  split : exp = x ++ exp'
  pos : CPos cap last tail r.1.2 r.2.rem exp'
  wf : r.2.WF
  fits : r.2.Fits
  cap_eq : r.2.cap = cap
  le : x.length ≤ k
  progress : got = 0 → 0 < k → x = [] → r.1.2.err = some .eof

def LoopPost (cap : Nat) (last tail : Bytes) (k got : Nat) (accR : List Bytes) (exp : Bytes)
    (r : (List Bytes × Chunked) × Bufio) : Prop :=
  ∃ x exp', LoopOut cap last tail k got accR exp r x exp'

theorem LoopPost.stop {cap : Nat} {last tail : Bytes} {k got : Nat} {accR : List Bytes} {exp : Bytes}
    {cr : Chunked} {b : Bufio} (hpos : CPos cap last tail cr b.rem exp) (hw : b.WF) (hf : b.Fits)
    (hcap : b.cap = cap) (hp : got = 0 → 0 < k → cr.err = some .eof) :
    LoopPost cap last tail k got accR exp ((accR, cr), b) :=
  ⟨[], exp, { pieces := (List.append_nil _).symm, split := rfl, pos := hpos, wf := hw, fits := hf, cap_eq := hcap,
              le := Nat.zero_le _, progress := fun h1 h2 _ => hp h1 h2 }⟩

theorem LoopPost.data {cap : Nat} {last tail : Bytes} {k got : Nat} {accR : List Bytes} {exp d : Bytes}
    {r : (List Bytes × Chunked) × Bufio} (hd : d ≠ []) (hk : d.length ≤ k)
    (h : LoopPost cap last tail (k - d.length) (got + d.length) (d :: accR) exp r) :
    LoopPost cap last tail k got accR (d ++ exp) r := by
  obtain ⟨x, exp', h⟩ := h
  have hxk := h.le
  exact ⟨d ++ x, exp',
    { pieces := by rw [h.pieces, piecesBytes_cons, List.append_assoc], split := by rw [h.split, List.append_assoc],
      pos := h.pos, wf := h.wf, fits := h.fits, cap_eq := h.cap_eq, le := by rw [List.length_append]; omega,
      progress := fun _ _ hx => absurd (List.append_eq_nil_iff.mp hx).1 hd }⟩

/-- The loop of one `chunkedReader.Read`, from any position.  Every iteration either returns,
or moves footer → header → data / last chunk without copying, or copies at least one byte. -/
theorem readLoop_spec (cap : Nat) (last tail : Bytes) (hl : LastOK cap last) (fuel : Nat) :
    ∀ (cr : Chunked) (b : Bufio) (k got : Nat) (accR : List Bytes) (exp : Bytes),
      CPos cap last tail cr b.rem exp → b.WF → b.Fits → b.cap = cap → 3 * k + posWeight cr < fuel →
      LoopPost cap last tail k got accR exp (Chunked.readLoop fuel cr b k got accR) := by
  induction fuel with
  | zero => intro _ _ _ _ _ _ _ _ _ _ h; omega
  | succ fuel ih =>
    intro cr b k got accR exp hpos hw hf hcap hfuel
    have stop := LoopPost.stop (k := k) (got := got) (accR := accR) hpos hw hf hcap
    generalize hrem : b.rem = rem at hpos
    unfold Chunked.readLoop
    cases hpos with
    | done => exact stop fun _ _ => rfl
    | footer cs hcs =>
      simp only [Option.isSome_none, Bool.false_eq_true, if_false, if_true]
      by_cases hbr : got > 0 ∧ b.buffered < 2
      · rw [if_pos hbr]
        exact stop fun hg _ => by omega
      · obtain ⟨b1, hrf, hrem1, hw1, hf1, hcap1, _⟩ := Bufio.readFull_two b 13 10 _ hw hf hrem
        rw [if_neg hbr]
        simp only [hrf, beq_self_eq_true, if_true]
        exact ih _ b1 k got accR _ (hrem1 ▸ CPos.header cs hcs) hw1 hf1 (hcap1.trans hcap)
          (by rw [posWeight_footer] at hfuel; rw [posWeight_header]; omega)
    | header cs hcs =>
      simp only [Option.isSome_none, Bool.false_eq_true, if_false, if_true]
      by_cases hbr : got > 0 ∧ (!chunkHeaderAvailable b) = true
      · rw [if_pos hbr]
        exact stop fun hg _ => by omega
      · rw [if_neg hbr]
        cases cs with
        | nil =>
          obtain ⟨hno, hsz, hmax, hc⟩ := hl
          obtain ⟨b1, hbc, hrem1, hw1, hf1, hcap1, _⟩ := beginChunk_line
            { n := 0, err := none, checkEnd := false } b last tail 0 hw hf hno hsz hmax (hcap ▸ hc) hrem
          rw [hbc, if_pos rfl]
          exact ih _ b1 k got accR _ (hrem1 ▸ CPos.done) hw1 hf1 (hcap1.trans hcap)
            (by rw [posWeight_header] at hfuel; rw [posWeight_done]; omega)
        | cons c cs' =>
          obtain ⟨hno, hd, hsz, hmax, hc⟩ := hcs c List.mem_cons_self
          obtain ⟨b1, hbc, hrem1, hw1, hf1, hcap1, _⟩ := beginChunk_line
            { n := 0, err := none, checkEnd := false } b c.line _ _ hw hf hno hsz hmax (hcap ▸ hc)
            (hrem.trans (wireFrom_cons c cs' last tail))
          have hn0 : c.data.length ≠ 0 := fun h0 => hd (List.length_eq_zero_iff.mp h0)
          rw [hbc, if_neg hn0]
          exact ih _ b1 k got accR _
            (hrem1 ▸ CPos.data c.data cs' hd fun c' h' => hcs c' (List.mem_cons_of_mem _ h'))
            hw1 hf1 (hcap1.trans hcap)
            (by rw [posWeight_header] at hfuel; rw [posWeight_data hn0]; omega)
    | data d cs hd hcs =>
      have hdl : 0 < d.length := List.length_pos_iff.mpr hd
      have hn0 : d.length ≠ 0 := by omega
      simp only [Option.isSome_none, Bool.false_eq_true, if_false, hn0]
      by_cases hk : k = 0
      · rw [if_pos hk]
        exact stop fun _ h0 => by omega
      · rw [if_neg hk]
        rcases hr : b.read (min k d.length) with ⟨⟨d0, e0⟩, b1⟩
        obtain ⟨hw1, hcap1, _, hsplit, hlen, hcase, _⟩ :=
          Bufio.read_spec b _ (by omega) hw d0 e0 b1 hr
        obtain ⟨rfl, hd0⟩ := hcase (by rw [hrem]; exact List.append_ne_nil_of_left_ne_nil hd _)
        -- what was read is a prefix of the chunk data
        obtain ⟨d', rfl, hrem1⟩ := List.append_eq_append_of_length_le (hrem ▸ hsplit) (by omega)
        have hd0l : 0 < d0.length := List.length_pos_iff.mpr hd0
        simp only [List.length_append, Nat.add_sub_cancel_left]
        have := posWeight_le { n := d'.length, err := none, checkEnd := d'.length = 0 }
        rw [posWeight_data hn0] at hfuel
        rw [List.append_assoc]
        exact LoopPost.data hd0 (by omega) <|
          ih _ b1 _ _ _ _ (hrem1 ▸ CPos.afterData d' cs hcs) hw1 (Bufio.read_fits b _ hf d0 _ b1 hr)
            (hcap1.trans hcap) (by omega)

/-! ### `body` over the chunked reader, with the trailer section -/

/-- `readTrailer` consumes the trailer section `tail = <section> ++ rest` and yields `t`. -/
def TrailerOK (cap : Nat) (tail rest : Bytes) (t : Option Trailer) : Prop :=
  ∀ b : Bufio, b.rem = tail → b.WF → b.Fits → b.cap = cap →
    ∃ b', readTrailer b = (.ok t, b') ∧ b'.rem = rest

theorem trailerOK_empty (cap : Nat) (hcap : 2 ≤ cap) (rest : Bytes) :
    TrailerOK cap (13 :: 10 :: rest) rest none := by
  intro b hrem hw hf hc
  obtain ⟨b1, hp, hrem1, _, _, _, _, hbuf⟩ := Bufio.peek_spec b 2 hw hf (by rw [hrem]; simp) (by omega)
  refine ⟨b1.discardBuffered 2, ?_, ?_⟩
  · unfold readTrailer
    rw [hp, hrem]
    have : (([13, 10] : Bytes) == [13, 10]) = true := by decide
    simp [this]
  · rw [Bufio.discardBuffered_rem _ _ hbuf, hrem1, hrem]
    rfl

/-- Between two reads of a chunked body: the reader stands at a position of the wire, no
error yet, trailers still to be read. -/
structure ChunkAt (cap : Nat) (last tail : Bytes) (bd : H1Body) (E : Bytes) (cr : Chunked) : Prop where
  src : bd.src = .chunked cr
  noErr : cr.err = none
  pos : CPos cap last tail cr bd.br.rem E
  hdr : bd.hdr = true
  sawEOF : bd.sawEOF = false
  closed : bd.closed = false
  wf : bd.br.WF
  fits : bd.br.Fits
  cap_eq : bd.br.cap = cap

def ChunkRel (cap : Nat) (last tail : Bytes) (bd : H1Body) (E : Bytes) : Prop :=
  ∃ cr, ChunkAt cap last tail bd E cr

/-- One `Read` of a chunked body at a position with `E` still to hand out: without error a prefix
of `E` (non-empty if room was offered) and a position again; the only error is `io.EOF`, it comes
with the last bytes, after the trailer section was read as `t` and with the connection reader at
`rest`.  `chunked_exact` packs this into `ExactR`. -/
theorem chunked_read (cap : Nat) (last tail rest : Bytes) (t : Option Trailer)
    (hl : LastOK cap last) (ht : TrailerOK cap tail rest t)
    (bd : H1Body) (E : Bytes) (k : Nat) (hrel : ChunkRel cap last tail bd E)
    (d : Bytes) (e : Option IOErr) (bd' : H1Body) (h : bd.read k = ((d, e), bd')) :
    (e = none → ∃ E', E = d ++ E' ∧ ChunkRel cap last tail bd' E' ∧ (0 < k → d ≠ [])) ∧
    (∀ x, e = some x → x = .eof ∧ E = d ∧ bd'.trailer = t ∧ bd'.br.rem = rest) := by
  obtain ⟨cr, ⟨hsrc, hcre, hpos, hhdr, hsaw, hcl, hw, hf, hcap⟩⟩ := hrel
  obtain ⟨x, E', ⟨hp, hE, hpos', hw', hf', hcap', hxk, hprog⟩⟩ :=
    readLoop_spec cap last tail hl (Chunked.fuel k) cr bd.br k 0 [] E hpos hw hf hcap
      (by have := posWeight_le cr; unfold Chunked.fuel; omega)
  rcases hrun : Chunked.readLoop (Chunked.fuel k) cr bd.br k 0 [] with ⟨⟨accR', cr'⟩, b'⟩
  rw [hrun] at hp hpos' hw' hf' hcap' hprog
  have hx : piecesBytes accR' = x := hp
  simp only [H1Body.read, hcl, Bool.false_eq_true, if_false, H1Body.readLocked, hsaw, hsrc,
    Chunked.read, hrun, hx] at h
  cases herr : cr'.err with
  | none =>
    simp only [herr, Prod.mk.injEq] at h
    obtain ⟨⟨rfl, rfl⟩, rfl⟩ := h
    refine ⟨fun _ => ⟨_, hE, ⟨cr', ?_⟩, fun hk hd0 => by rw [hprog rfl hk hd0] at herr; cases herr⟩,
      fun _ hx' => nomatch hx'⟩
    exact { src := rfl, noErr := herr, pos := hpos', hdr := hhdr, sawEOF := rfl, closed := rfl,
            wf := hw', fits := hf', cap_eq := hcap' }
  | some e' =>
    -- the last chunk was reached in this call: read the trailer section, report EOF
    obtain ⟨rfl, hrem', rfl⟩ := hpos'.of_err e' herr
    obtain ⟨b2, hrt, hrem2⟩ := ht b' hrem' hw' hf' hcap'
    simp only [herr, hhdr, if_true, hrt, Prod.mk.injEq] at h
    obtain ⟨⟨rfl, rfl⟩, rfl⟩ := h
    exact ⟨fun h0 => (nomatch h0), fun _ hx' => ⟨(Option.some.inj hx').symm, by rw [hE, List.append_nil], rfl, hrem2⟩⟩

theorem chunked_exact (cap : Nat) (last tail rest : Bytes) (t : Option Trailer)
    (hl : LastOK cap last) (ht : TrailerOK cap tail rest t) :
    ExactR H1Body.read (ChunkRel cap last tail) IOErr.eof (fun bd => bd.trailer = t ∧ bd.br.rem = rest)
      (fun _ E => E.length) :=
  .of_read fun hrel h => chunked_read cap last tail rest t hl ht _ _ _ hrel _ _ _ h

end Req.C02
