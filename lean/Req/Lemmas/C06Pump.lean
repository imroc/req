import Req.H2.Cut
import Req.Lemmas.C06Ops
/-!
C06 — the pumped execution observed by the deterministic script lane (`scriptStep`: one
scripted operation, then every body writer runs until it blocks) is a run of the connection
machine on an operation list with `write` operations inserted. Hence every theorem quantified
over all operation lists covers what the lane compares.
-/
namespace Req.Lemmas.C06
open Req.H2 Req.H2.Conn Req.H2.Cut

theorem runFrom_append (a b : List Op) :
    ∀ (st : State) (hist : List Event),
    runFrom st hist (a ++ b) = runFrom (runFrom st hist a).1 (runFrom st hist a).2 b := by
  induction a with
  | nil => intro st hist; rfl
  | cons op rest ih => intro st hist; simp only [List.cons_append, runFrom]; exact ih _ _

/-- `r` is what some run of the machine makes of `st` — the final state, and the events appended to
whatever history went before — by operations that all satisfy `p` -/
def IsRun (p : Op → Prop) (st : State) (r : State × List Event) : Prop :=
  ∀ hist, ∃ ops : List Op, (∀ o ∈ ops, p o) ∧ runFrom st hist ops = (r.1, hist ++ r.2)

theorem IsRun.nil {p : Op → Prop} (st : State) : IsRun p st (st, []) :=
  fun hist => ⟨[], nofun, by rw [List.append_nil]; rfl⟩

theorem IsRun.step {p : Op → Prop} (st : State) {op : Op} (h : p op) : IsRun p st ((step st op).1, stepEvents st op) :=
  fun _ => ⟨[op], fun _ ho => List.mem_singleton.mp ho ▸ h, rfl⟩

theorem IsRun.trans {p : Op → Prop} {st : State} {r1 r2 : State × List Event} (h1 : IsRun p st r1)
    (h2 : IsRun p r1.1 r2) : IsRun p st (r2.1, r1.2 ++ r2.2) := fun hist => by
  obtain ⟨a, ha, ra⟩ := h1 hist
  obtain ⟨b, hb, rb⟩ := h2 (hist ++ r1.2)
  exact ⟨a ++ b, fun o ho => (List.mem_append.mp ho).elim (ha o) (hb o),
    by rw [runFrom_append, ra, rb, List.append_assoc]⟩

def isWrite (o : Op) : Prop := ∃ id, o = Op.write id

theorem pumpStream_is_run (id : Nat) :
    ∀ (fuel : Nat) (st : State), IsRun isWrite st ((pumpStream fuel st id).1, (pumpStream fuel st id).2.map Event.c) := by
  intro fuel
  induction fuel with
  | zero => intro st; exact .nil st
  | succ fuel ih =>
    intro st
    have h1 : IsRun isWrite st ((step st (.write id)).1, (step st (.write id)).2.map Event.c) :=
      stepEvents_noPeer st (.write id) nofun ▸ .step st ⟨id, rfl⟩
    simp only [pumpStream]
    split
    · rename_i he
      rw [List.isEmpty_iff.mp he] at h1; exact h1
    · simp only [List.map_append]
      exact h1.trans (ih _)

theorem pumpAll_is_run (ids : List Nat) :
    ∀ st : State, IsRun isWrite st ((pumpAll st ids).1, (pumpAll st ids).2.map Event.c) := by
  induction ids with
  | nil => exact .nil
  | cons id rest ih =>
    intro st
    simp only [pumpAll, List.map_append]
    exact (pumpStream_is_run id _ st).trans (ih _)

/-- a pumped script step is a run of the machine on the operation, a wake-up and `write`
operations — state and history -/
theorem scriptStep_is_run (st : State) (hist : List Event) (op : Op) :
    ∃ ws : List Op, (∀ o ∈ ws, ∃ id, o = Op.write id) ∧
      runFrom st hist (op :: Op.wake :: ws) = ((scriptStep st op).1, hist ++ scriptEvents st op) := by
  generalize hst1 : (step (step st op).1 Op.wake).1 = st1
  generalize hh1 : hist ++ stepEvents st op ++ stepEvents (step st op).1 Op.wake = hist1
  obtain ⟨ws, hw, hr⟩ := ((pumpAll_is_run (st1.streams.map (·.id)) st1).trans (pumpAll_is_run
    (((pumpAll st1 (st1.streams.map (·.id))).1.streams.drop st1.streams.length).map (·.id)) _)) hist1
  refine ⟨ws, hw, ?_⟩
  have hwake : stepEvents (step st op).1 Op.wake = (step (step st op).1 Op.wake).2.map Event.c :=
    stepEvents_noPeer _ _ (by intro f h; cases h)
  have e1 : runFrom st hist (op :: Op.wake :: ws) = runFrom st1 hist1 ws := by
    simp only [runFrom]
    unfold stepEvents at hh1
    rw [hst1, hh1]
  rw [e1, hr]
  simp only [scriptStep, scriptEvents, hst1]
  rw [← hh1, hwake]
  unfold stepEvents
  simp [List.append_assoc]

end Req.Lemmas.C06
