import Req.Pool.H3Map
import Req.Lemmas.ListFacts
/-! Invariants of the HTTP/3 client-cache model (C09). -/
namespace Req.Lemmas.C09H3
open Req.Pool.H3Map

/-- number of requests of `l` that hold client `c` -/
def holders (rst : Nat → RSt) (c : Nat) (l : List Nat) : Nat :=
  (l.filter (fun r => rst r = .holding c)).length

structure Inv (s : St) : Prop where
  keysNodup : (s.clients.map Prod.fst).Nodup
  regHost : ∀ h c, (h, c) ∈ s.clients → (s.cl c).host = some h
  created : ∀ c, (s.cl c).host ≠ none → c < s.next
  fresh : ∀ c, s.next ≤ c → s.cl c = {}
  reqsNodup : s.reqs.Nodup
  started : ∀ r, s.rst r ≠ .fresh ↔ r ∈ s.reqs
  pairing : ∀ r c, s.rst r = .holding c → (s.cl c).host = s.rhost r ∧ s.rhost r ≠ none
  /-- `≤` and not `=`: a request that returns a dial error, or starts over after a cancelled dial (`retryDial`),
  does not give its count back (`step`, the two comments on `useCount`); an `Int` because `useCount` is one. -/
  count : ∀ c, (holders s.rst c s.reqs : Int) ≤ (s.cl c).useCount

theorem Inv_init : Inv {} := by
  refine ⟨by simp, by intro h c hc; simp at hc, by intro c hc; simp at hc, by intro c _; rfl, by simp,
    by intro r; simp, by intro r c hr; simp at hr, by intro c; simp [holders]⟩

theorem upd_apply {β} (f : Nat → β) (k j : Nat) (v : β) : upd f k v j = if j = k then v else f j := rfl

theorem mem_erase {m : List (Nat × Nat)} {h : Nat} {p : Nat × Nat} (hp : p ∈ erase m h) : p ∈ m :=
  (List.mem_filter.mp hp).1

theorem holders_upd_notmem (rst : Nat → RSt) (c : Nat) (l : List Nat) (r : Nat) (v : RSt) (hr : r ∉ l) :
    holders (upd rst r v) c l = holders rst c l := by
  unfold holders
  congr 1
  apply List.filter_congr
  intro x hx
  have : x ≠ r := fun e => hr (e ▸ hx)
  simp [upd, this]

theorem holders_cons (rst : Nat → RSt) (c : Nat) (l : List Nat) (r : Nat) :
    holders rst c (r :: l) = (if rst r = .holding c then 1 else 0) + holders rst c l := by
  unfold holders
  simp only [List.filter_cons]
  split <;> simp_all <;> omega

theorem holders_release (rst : Nat → RSt) (c c' : Nat) (l : List Nat) (r : Nat) (v : RSt) (hn : l.Nodup) (hr : r ∈ l)
    (hc : rst r = .holding c) (hv : ∀ d, v ≠ .holding d) :
    holders (upd rst r v) c' l + (if c' = c then 1 else 0) = holders rst c' l := by
  induction l with
  | nil => cases hr
  | cons a l ih =>
    rw [holders_cons, holders_cons]
    have hn' := List.nodup_cons.mp hn
    rcases List.mem_cons.mp hr with e | hm
    · subst e
      rw [holders_upd_notmem _ _ _ _ _ hn'.1]
      simp only [upd, if_true, hc, hv c', if_false, RSt.holding.injEq, eq_comm (a := c)]
      omega
    · have hne : a ≠ r := fun e => hn'.1 (e ▸ hm)
      have := ih hn'.2 hm
      simp only [upd, hne, if_false]
      omega

/-- A client that some request holds exists (its number is below `next`). -/
theorem Inv.holder_lt {s : St} (h : Inv s) {r : Nat} {c : Nat} (hr : s.rst r = .holding c) : c < s.next := by
  obtain ⟨a, b⟩ := h.pairing r c hr
  exact h.created c (by rw [a]; exact b)

/-- `dropStale` only removes an entry. -/
theorem Inv_dropStale (s : St) (hst : Nat) (h : Inv s) : Inv (dropStale s hst) := by
  unfold dropStale
  split
  · dsimp only
    split
    · exact { h with keysNodup := List.filter_keys_nodup _ h.keysNodup,
                     regHost := fun a c hm => h.regHost a c (mem_erase hm) }
    · exact h
  · exact h

theorem dropStale_frame (s : St) (hst : Nat) :
    (dropStale s hst).cl = s.cl ∧ (dropStale s hst).next = s.next ∧ (dropStale s hst).rst = s.rst ∧
    (dropStale s hst).rhost = s.rhost ∧ (dropStale s hst).reqs = s.reqs := by
  unfold dropStale
  split
  · dsimp only
    split <;> exact ⟨rfl, rfl, rfl, rfl, rfl⟩
  · exact ⟨rfl, rfl, rfl, rfl, rfl⟩

/-- Request `r` stops holding `c` (it is over, or starts over as `fresh` and leaves `reqs`); meanwhile the map may
shrink, `useCount c` may drop by one, and the client records may change in fields the invariant does not read. -/
theorem Inv_letGo {s : St} (h : Inv s) (r c : Nat) (hr : s.rst r = .holding c) (v : RSt) (hv : ∀ d, v ≠ .holding d)
    (m : List (Nat × Nat)) (hsub : ∀ p, p ∈ m → p ∈ s.clients) (hnd : (m.map Prod.fst).Nodup)
    (cl' : Nat → Cl) (hh : ∀ c', (cl' c').host = (s.cl c').host)
    (hu : ∀ c', (s.cl c').useCount ≤ (cl' c').useCount + (if c' = c then 1 else 0))
    (hf : ∀ c', s.next ≤ c' → cl' c' = s.cl c')
    (reqs' : List Nat) (hreqs : reqs' = if v = .fresh then s.reqs.erase r else s.reqs) :
    Inv { s with clients := m, cl := cl', rst := upd s.rst r v, reqs := reqs' } := by
  have hm : r ∈ s.reqs := (h.started r).mp (by rw [hr]; nofun)
  have hsl : reqs'.Sublist s.reqs := by
    rw [hreqs]; split
    · exact List.erase_sublist
    · exact .refl _
  refine ⟨hnd, fun a c' hm => (hh c').trans (h.regHost a c' (hsub _ hm)), fun c' hc => h.created c' (hh c' ▸ hc),
    fun c' hc => (hf c' hc).trans (h.fresh c' hc), h.reqsNodup.sublist hsl, fun r' => ?_, fun r' c' hr' => ?_, fun c' => ?_⟩
  · subst hreqs; simp only [upd_apply]
    split
    · next e =>
      subst e
      split
      · next ev => simp [ev, h.reqsNodup.mem_erase_iff]
      · next ev => simp [ev, hm]
    · next e =>
      rw [h.started r']
      split
      · rw [h.reqsNodup.mem_erase_iff]; simp [e]
      · rfl
  · simp only [upd_apply] at hr'
    split at hr'
    · exact absurd hr' (hv c')
    · exact hh c' ▸ h.pairing r' c' hr'
  · have h1 := holders_release s.rst c c' s.reqs r v h.reqsNodup hm hr hv
    have h4 := h.count c'
    have h2 : holders (upd s.rst r v) c' reqs' ≤ holders (upd s.rst r v) c' s.reqs :=
      List.Sublist.length_le (List.Sublist.filter _ hsl)
    have h3 := hu c'
    show (holders (upd s.rst r v) c' reqs' : Int) ≤ (cl' c').useCount
    split at h3 <;> rename_i hcc
    · rw [if_pos hcc] at h1; omega
    · rw [if_neg hcc] at h1; omega

/-- The map shrinks and the client records change in fields the invariant does not read. -/
theorem Inv_cl {s : St} (h : Inv s) (m : List (Nat × Nat)) (hsub : ∀ p, p ∈ m → p ∈ s.clients)
    (hnd : (m.map Prod.fst).Nodup) (cl' : Nat → Cl) (hh : ∀ c, (cl' c).host = (s.cl c).host)
    (hu : ∀ c, (cl' c).useCount = (s.cl c).useCount) (hf : ∀ c, s.next ≤ c → cl' c = s.cl c) :
    Inv { s with clients := m, cl := cl' } :=
  ⟨hnd, fun a c hm => (hh c).trans (h.regHost a c (hsub _ hm)), fun c hc => h.created c (hh c ▸ hc),
   fun c hc => (hf c hc).trans (h.fresh c hc), h.reqsNodup, h.started, fun r c hr => hh c ▸ h.pairing r c hr,
   fun c => hu c ▸ h.count c⟩

theorem Inv_updCl {s : St} (h : Inv s) (c : Nat) (x : Cl) (hh : x.host = (s.cl c).host)
    (hu : x.useCount = (s.cl c).useCount) (hlt : c < s.next) : Inv { s with cl := upd s.cl c x } := by
  refine Inv_cl h s.clients (fun _ hp => hp) h.keysNodup _ (fun c' => ?_) (fun c' => ?_) (fun c' hc => if_neg (by omega))
  all_goals rw [upd_apply]; split
  · next e => rw [e]; exact hh
  · rfl
  · next e => rw [e]; exact hu
  · rfl

/-- Request `r` (not started yet) starts holding client `c` of host `hst`; `useCount c` goes up by one. -/
theorem Inv_acquire {t : St} (h : Inv t) (r c hst : Nat) (hfr : t.rst r = .fresh) (hhost : (t.cl c).host = some hst)
    (cl' : Nat → Cl) (hh : ∀ c', (cl' c').host = (t.cl c').host)
    (hu : ∀ c', (cl' c').useCount = (t.cl c').useCount + (if c' = c then 1 else 0))
    (hf : ∀ c', t.next ≤ c' → cl' c' = t.cl c') :
    Inv { t with cl := cl', rhost := upd t.rhost r (some hst), rst := upd t.rst r (.holding c), reqs := r :: t.reqs } := by
  have hrn : r ∉ t.reqs := fun hm => (h.started r).mpr hm hfr
  refine ⟨h.keysNodup, fun a c' hm => (hh c').trans (h.regHost a c' hm), fun c' hc => h.created c' (hh c' ▸ hc),
    fun c' hc => (hf c' hc).trans (h.fresh c' hc), List.nodup_cons.mpr ⟨hrn, h.reqsNodup⟩, ?_, ?_, ?_⟩
  · intro r'
    simp only [upd_apply]
    split
    · next e => subst e; simp
    · next e => rw [h.started r']; simp [e]
  · intro r' c' hr'
    simp only [upd_apply] at hr' ⊢
    split at hr'
    · next e => subst e; cases hr'; simp [hh, hhost]
    · next e => rw [if_neg e, hh]; exact h.pairing r' c' hr'
  · intro c'
    show (holders (upd t.rst r (.holding c)) c' (r :: t.reqs) : Int) ≤ (cl' c').useCount
    rw [holders_cons, holders_upd_notmem _ _ _ _ _ hrn, hu]
    have hc := h.count c'
    simp only [upd, if_true, RSt.holding.injEq, eq_comm (a := c)]
    split <;> omega

/-- A client for host `hst`, not in the map yet, is created with number `next` and nobody holding it. -/
theorem Inv_newClient {t : St} (h : Inv t) (hst : Nat) (hnot : ∀ c, (hst, c) ∉ t.clients) (x : Cl)
    (hx : x.host = some hst) (hx0 : x.useCount = 0) :
    Inv { t with clients := (hst, t.next) :: t.clients, next := t.next + 1, cl := upd t.cl t.next x } := by
  have hold0 : holders t.rst t.next t.reqs = 0 := by
    have := h.count t.next
    rw [h.fresh _ (Nat.le_refl _)] at this
    simp at this
    omega
  refine ⟨?_, ?_, ?_, ?_, h.reqsNodup, h.started, ?_, ?_⟩
  · simp only [List.map_cons, List.nodup_cons]
    refine ⟨?_, h.keysNodup⟩
    intro hm
    obtain ⟨⟨a, c'⟩, hp, e⟩ := List.mem_map.mp hm
    simp only at e; subst e
    exact hnot c' hp
  · intro a c' hm'
    simp only [upd_apply]
    rcases List.mem_cons.mp hm' with e | hm''
    · cases e; simp [hx]
    · have := h.created c' (by rw [h.regHost a c' hm'']; simp)
      rw [if_neg (by omega)]
      exact h.regHost a c' hm''
  · intro c' hc'
    simp only [upd_apply] at hc'
    show c' < t.next + 1
    split at hc'
    · next e => subst e; omega
    · have := h.created c' hc'; omega
  · intro c' hc'
    have hc'' : t.next + 1 ≤ c' := hc'
    simp only [upd_apply]
    rw [if_neg (by omega)]
    exact h.fresh c' (by omega)
  · intro r' c' hr'
    have hlt := h.holder_lt hr'
    simp only [upd_apply]
    rw [if_neg (by omega)]
    exact h.pairing r' c' hr'
  · intro c'
    simp only [upd_apply]
    split
    · next e => subst e; rw [hold0, hx0]; exact Int.le_refl _
    · exact h.count c'

theorem Inv_step (s : St) (op : Op) (h : Inv s) : Inv (step s op).1 := by
  cases op with
  | get r hst onlyCached =>
    simp only [step]
    split
    · exact h
    · next hfresh =>
      have h1 := Inv_dropStale s hst h
      have hfr1 : (dropStale s hst).rst r = .fresh := by
        rw [(dropStale_frame s hst).2.2.1]; exact Classical.not_not.mp hfresh
      generalize dropStale s hst = s1 at h1 hfr1 ⊢
      split
      · next c hl =>
        refine Inv_acquire h1 r c hst hfr1 (h1.regHost hst c (List.lookup_mem hl)) _ (fun c' => ?_) (fun c' => ?_)
          (fun c' hc => if_neg ?_)
        · simp only [addUse, upd_apply]; split
          · next e => rw [e]
          · rfl
        · simp only [addUse, upd_apply]
          by_cases e : c' = c
          · subst e; simp
          · simp [e]
        · have := h1.created c (by rw [h1.regHost hst c (List.lookup_mem hl)]; simp)
          omega
      · next hl =>
        split
        · exact h1
        · have h2 := Inv_newClient h1 hst (List.lookup_none_not_mem hl) { host := some hst, useCount := 0, creator := r } rfl rfl
          refine Inv_acquire h2 r s1.next hst hfr1 (by simp [upd_apply]) _ (fun c' => ?_) (fun c' => ?_)
            (fun c' hc => ?_)
          all_goals simp only [upd_apply]
          · split <;> rfl
          · split
            · rfl
            · exact (Int.add_zero _).symm
          · have hc : s1.next + 1 ≤ c' := hc
            rw [if_neg (by omega), if_neg (by omega)]
  | retryDial r =>
    simp only [step]
    split
    · next c hr =>
      split
      · exact h
      · exact Inv_letGo h r c hr .fresh nofun s.clients (fun _ hp => hp) h.keysNodup s.cl (fun _ => rfl)
          (fun c' => by split <;> omega) (fun _ _ => rfl) _ rfl
    · exact h
  | dialDone c res =>
    simp only [step]
    split
    · exact h
    · next hc =>
      have hhost : (s.cl c).host ≠ none := by
        intro e; exact hc (Or.inl (by simp [e]))
      exact Inv_updCl h c _ rfl rfl (h.created c hhost)
  | connDies c =>
    simp only [step]
    split
    · exact h
    · next hc =>
      have hok : (s.cl c).dial = .ok := Classical.not_not.mp hc
      have hclt : c < s.next := by
        rcases Nat.lt_or_ge c s.next with x | x
        · exact x
        · rw [h.fresh c x] at hok; cases hok
      exact Inv_updCl h c _ rfl rfl hclt
  | giveUp r =>
    simp only [step]
    split
    · next c hr =>
      split
      · exact h
      · exact release h r c hr s.clients (fun _ hp => hp) h.keysNodup
    · exact h
  | dialFailed r =>
    simp only [step]
    split
    · next c hst hr hh =>
      split
      · exact h
      · exact Inv_letGo h r c hr .over nofun _ (fun _ => mem_erase) (List.filter_keys_nodup _ h.keysNodup) s.cl (fun _ => rfl)
          (fun c' => by split <;> omega) (fun _ _ => rfl) _ rfl
    · exact h
  | finish r connErr =>
    simp only [step]
    split
    · next c hst hr hh =>
      split
      · exact h
      · split
        · exact release h r c hr (erase s.clients hst) (fun _ hp => mem_erase hp) (List.filter_keys_nodup _ h.keysNodup)
        · exact release h r c hr s.clients (fun _ hp => hp) h.keysNodup
    · exact h
  | closeIdle =>
    refine Inv_cl h _ (fun _ hp => (List.mem_filter.mp hp).1)
      (List.filter_keys_nodup _ h.keysNodup) _
      (fun c => by split <;> rfl) (fun c => by split <;> rfl) (fun c hc => if_neg ?_)
    rw [Bool.not_eq_true, List.any_eq_false]
    intro p hp
    have := h.created p.2 (by rw [h.regHost p.1 p.2 (List.mem_filter.mp hp).1]; simp)
    simp; omega
  | close =>
    refine Inv_cl h [] (fun _ hp => nomatch hp) List.nodup_nil _
      (fun c => by split <;> rfl) (fun c => by split <;> rfl) (fun c hc => if_neg ?_)
    rw [Bool.not_eq_true, List.any_eq_false]
    intro p hp
    have := h.created p.2 (by rw [h.regHost p.1 p.2 hp]; simp)
    simp; omega
where
  /-- request `r` lets go of `c` (`useCount--`), the map possibly shrinks -/
  release {s : St} (h : Inv s) (r : Nat) (c : Nat) (hr : s.rst r = .holding c)
      (m : List (Nat × Nat)) (hsub : ∀ p, p ∈ m → p ∈ s.clients) (hnd : (m.map Prod.fst).Nodup) :
      Inv { addUse { s with clients := m } c (-1) with rst := upd s.rst r .over } := by
    refine Inv_letGo h r c hr .over nofun m hsub hnd _ (fun c' => ?_) (fun c' => ?_)
      (fun c' hc => if_neg (by have := h.holder_lt hr; omega)) _ rfl
    all_goals simp only [upd_apply]; split
    · next e => rw [e]
    · rfl
    · next e => subst e; simp only [addUse]; omega
    · simp

theorem Inv_run (s : St) (ops : List Op) (h : Inv s) : Inv (run s ops) := by
  induction ops generalizing s with
  | nil => exact h
  | cons op ops ih => exact ih _ (Inv_step s op h)

end Req.Lemmas.C09H3
