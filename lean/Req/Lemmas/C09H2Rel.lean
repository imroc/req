import Req.Pool.H2Mux
import Req.Lemmas.ListFacts
/-!
`Rel P s s'`: `s'` differs from `s` only in fields that do not decide routing, admission order or
the wire order, except that a caller `k` may have been given new items satisfying `P k`.
All the helpers of the read loop (`abortLocked`, `broadcast`, `endStream`, `readerCleanup`,
`setGoAway`, the `process*` functions) are `Rel`-steps, so they leave the `core` projection
(C09H2Core) as it is up to the logged items.
-/
/-! The model's `upd`, for all the C09H2 files, under the namespace where most of its uses are. -/
namespace Req.Lemmas.C09H2Inv
open Req.Pool.H2Mux

theorem upd_apply {β} (f : Nat → β) (k j : Nat) (v : β) : upd f k v j = if j = k then v else f j := rfl

theorem upd_self {β} (f : Nat → β) (k : Nat) : upd f k (f k) = f := by
  funext j; rw [upd_apply]; split
  · next h => rw [h]
  · rfl

end Req.Lemmas.C09H2Inv

namespace Req.Lemmas.C09H2Rel
open Req.Pool.H2Mux

structure Rel (P : Caller → Item → Prop) (s s' : St) : Prop where
  streams : s'.streams = s.streams
  nextId : s'.nextId = s.nextId
  rx : s'.rx = s.rx
  hdrWire : s'.hdrWire = s.hdrWire
  hdrMu : s'.hdrMu = s.hdrMu
  pendingReq : s'.pendingReq = s.pendingReq
  forgetPanic : s'.forgetPanic = s.forgetPanic
  rl : s'.rl = s.rl
  id : ∀ k, (s'.cs k).id = (s.cs k).id
  phase : ∀ k, (s'.cs k).phase = (s.cs k).phase
  got : ∀ k, ∃ new, (s'.cs k).got = new ++ (s.cs k).got ∧ ∀ it ∈ new, P k it

theorem Rel.of_eq {P} {s t : St} (hcs : t.cs = s.cs) (h1 : t.streams = s.streams) (h2 : t.nextId = s.nextId)
    (h3 : t.rx = s.rx) (h4 : t.hdrWire = s.hdrWire) (h5 : t.hdrMu = s.hdrMu) (h6 : t.pendingReq = s.pendingReq)
    (h7 : t.forgetPanic = s.forgetPanic) (h8 : t.rl = s.rl) : Rel P s t :=
  ⟨h1, h2, h3, h4, h5, h6, h7, h8, fun _ => by rw [hcs], fun _ => by rw [hcs],
   fun _ => ⟨[], by rw [hcs]; rfl, nofun⟩⟩

theorem Rel.refl (P) (s : St) : Rel P s s := .of_eq rfl rfl rfl rfl rfl rfl rfl rfl rfl

theorem Rel.trans {P} {a b c : St} (h1 : Rel P a b) (h2 : Rel P b c) : Rel P a c where
  streams := h2.streams.trans h1.streams
  nextId := h2.nextId.trans h1.nextId
  rx := h2.rx.trans h1.rx
  hdrWire := h2.hdrWire.trans h1.hdrWire
  hdrMu := h2.hdrMu.trans h1.hdrMu
  pendingReq := h2.pendingReq.trans h1.pendingReq
  forgetPanic := h2.forgetPanic.trans h1.forgetPanic
  rl := h2.rl.trans h1.rl
  id := fun k => (h2.id k).trans (h1.id k)
  phase := fun k => (h2.phase k).trans (h1.phase k)
  got := fun k => by
    obtain ⟨n1, e1, p1⟩ := h1.got k
    obtain ⟨n2, e2, p2⟩ := h2.got k
    refine ⟨n2 ++ n1, by rw [e2, e1, List.append_assoc], ?_⟩
    intro it hit
    rcases List.mem_append.mp hit with h | h
    · exact p2 it h
    · exact p1 it h

@[simp] theorem setCS_cs_same (s : St) (k : Caller) (c : CS) : (setCS s k c).cs k = c := if_pos rfl

theorem setCS_cs_other (s : St) (k j : Caller) (c : CS) (h : j ≠ k) : (setCS s k c).cs j = s.cs j := by
  simp [setCS, C09H2Inv.upd_apply, h]

theorem rel_setCS (P) (s : St) (k : Caller) (c : CS) (hid : c.id = (s.cs k).id)
    (hph : c.phase = (s.cs k).phase)
    (hgot : ∃ new, c.got = new ++ (s.cs k).got ∧ ∀ it ∈ new, P k it) : Rel P s (setCS s k c) := by
  have key : ∀ j, ((setCS s k c).cs j).id = (s.cs j).id ∧ ((setCS s k c).cs j).phase = (s.cs j).phase ∧
      ∃ new, ((setCS s k c).cs j).got = new ++ (s.cs j).got ∧ ∀ it ∈ new, P j it := by
    intro j
    by_cases h : j = k
    · subst h; rw [setCS_cs_same]; exact ⟨hid, hph, hgot⟩
    · rw [setCS_cs_other s k j c h]; exact ⟨rfl, rfl, [], rfl, nofun⟩
  exact ⟨rfl, rfl, rfl, rfl, rfl, rfl, rfl, rfl, fun j => (key j).1, fun j => (key j).2.1, fun j => (key j).2.2⟩

theorem rel_setCS_same (P) (s : St) (k : Caller) (c : CS) (hid : c.id = (s.cs k).id)
    (hph : c.phase = (s.cs k).phase) (hgot : c.got = (s.cs k).got) : Rel P s (setCS s k c) :=
  rel_setCS P s k c hid hph ⟨[], hgot, nofun⟩

theorem rel_broadcast (P) (s : St) : Rel P s (broadcast s) := .of_eq rfl rfl rfl rfl rfl rfl rfl rfl rfl

theorem Rel.thenBroadcast {P} {s t : St} (h : Rel P s t) : Rel P s (broadcast t) :=
  h.trans (rel_broadcast P t)

theorem rel_abortLocked (P) (s : St) (k : Caller) (e : Err) : Rel P s (abortLocked s k e) :=
  .thenBroadcast (rel_setCS_same P s k _ rfl rfl rfl)

theorem Rel.thenAbort {P} {s t : St} (k : Caller) (e : Err) (h : Rel P s t) :
    Rel P s (abortLocked t k e) := h.trans (rel_abortLocked P t k e)

theorem rel_endStreamError (P) (s : St) (k : Caller) (e : Err) : Rel P s (endStreamError s k e) :=
  .thenAbort k e (rel_setCS_same P s k _ rfl rfl rfl)

theorem Rel.thenEndStreamError {P} {s t : St} (k : Caller) (e : Err) (h : Rel P s t) :
    Rel P s (endStreamError t k e) := h.trans (rel_endStreamError P t k e)

theorem Rel.thenLog {P} {s t : St} (k : Caller) (c : CS) (it : Item) (hid : c.id = (t.cs k).id)
    (hph : c.phase = (t.cs k).phase) (hgot : c.got = (t.cs k).got) (hp : P k it) (h : Rel P s t) :
    Rel P s (setCS t k (logItem c it)) :=
  h.trans (rel_setCS P t k _ hid hph
    ⟨[it], congrArg (it :: ·) hgot, fun x hx => by rw [List.mem_singleton.mp hx]; exact hp⟩)

theorem Rel.ite {P} {s a b : St} {p : Prop} [Decidable p] (ha : p → Rel P s a) (hb : ¬ p → Rel P s b) :
    Rel P s (if p then a else b) :=
  iteInduction ha hb

theorem Rel.thenEndStream {P} {s t : St} (k : Caller) (sid seq tag : Nat)
    (hp : P k ⟨sid, seq, tag, .eof⟩) (h : Rel P s t) : Rel P s (endStream t k sid seq tag) :=
  .ite (fun _ => h) fun _ => .thenLog k _ _ rfl rfl rfl hp h

theorem rel_foldl (P) {α} (f : St → α → St) (hf : ∀ s a, Rel P s (f s a)) (l : List α) (s : St) :
    Rel P s (l.foldl f s) := by
  induction l generalizing s with
  | nil => exact Rel.refl P s
  | cons a l ih => exact (hf s a).trans (ih (f s a))

theorem rel_readerCleanup (P) (s : St) (code : Option Nat) : Rel P s (readerCleanup s code) := by
  have h1 : Rel P s { s with readerDead := true, closed := true, goAwaySent := code } :=
    .of_eq rfl rfl rfl rfl rfl rfl rfl rfl rfl
  refine (h1.trans (rel_foldl P _ (fun a p => ?_) _ _)).thenBroadcast
  exact .ite (fun _ => .refl P a) fun _ => rel_abortLocked P a p.2 .conn

theorem Rel.thenReaderCleanup {P} {s t : St} (code : Option Nat) (h : Rel P s t) :
    Rel P s (readerCleanup t code) := h.trans (rel_readerCleanup P t code)

theorem rel_setGoAway (P) (s : St) (last code : Nat) : Rel P s (setGoAway s last code) := by
  have h1 : ∀ g, Rel P s { s with goAway := g } := fun _ => .of_eq rfl rfl rfl rfl rfl rfl rfl rfl rfl
  refine (h1 _).trans (rel_foldl P _ (fun a p => ?_) _ _)
  exact .ite (fun _ => .refl P a) fun _ => rel_abortLocked P a p.2 _

theorem rel_processHeaders (P) (s : St) (k : Caller) (sid : Nat) (kind : HKind) (fin : Bool) (tag seq : Nat)
    (hp : ∀ w, P k ⟨sid, seq, tag, w⟩) : Rel P s (processHeaders s k sid kind fin tag seq) := by
  unfold processHeaders
  refine .ite (fun _ => rel_endStreamError _ s k _) fun _ => .ite (fun _ => ?_) fun _ => ?_
  · split
    · exact .thenEndStreamError k _ (rel_setCS_same _ s k _ rfl rfl rfl)
    · exact .ite (fun _ => .thenEndStreamError k _ (rel_setCS_same _ s k _ rfl rfl rfl)) fun _ =>
        .ite (fun _ => .thenEndStreamError k _ (rel_setCS_same _ s k _ rfl rfl rfl)) fun _ =>
          .thenLog k _ _ rfl rfl rfl (hp _) (.refl _ s)
    · exact .ite (fun _ => .thenEndStream k sid seq tag (hp _) (.thenLog k _ _ rfl rfl rfl (hp _) (.refl _ s)))
        fun _ => .thenLog k _ _ rfl rfl rfl (hp _) (.refl _ s)
  · exact .ite (fun _ => rel_readerCleanup _ s _) fun _ =>
      .ite (fun _ => .thenReaderCleanup _ (rel_setCS_same _ s k _ rfl rfl rfl)) fun _ =>
        .ite (fun _ => .thenReaderCleanup _ (rel_setCS_same _ s k _ rfl rfl rfl)) fun _ =>
          .thenEndStream k sid seq tag (hp _)
            (.thenLog k _ _ rfl rfl rfl (hp _) (rel_setCS_same _ s k _ rfl rfl rfl))

theorem rel_processData (P) (s : St) (k : Caller) (sid : Nat) (len : Nat) (fin : Bool) (tag seq : Nat)
    (hp : ∀ w, P k ⟨sid, seq, tag, w⟩) : Rel P s (processData s k sid len fin tag seq) := by
  have h1 : Rel P s (if len > 0 then setCS s k (logItem (s.cs k) ⟨sid, seq, tag, .data len⟩) else s) :=
    .ite (fun _ => .thenLog k _ _ rfl rfl rfl (hp _) (.refl _ s)) fun _ => .refl _ _
  unfold processData
  exact .ite (fun _ => rel_endStreamError _ s k _) fun _ => .ite (fun _ => rel_endStreamError _ s k _) fun _ =>
    .ite (fun _ => rel_endStreamError _ s k _) fun _ => .ite (fun _ => rel_endStreamError _ s k _) fun _ =>
      .ite (fun _ => .thenEndStream k sid seq tag (hp _) h1) fun _ => h1

theorem rel_processReset (P) (s : St) (k : Caller) (sid code seq : Nat) (hp : ∀ w, P k ⟨sid, seq, code, w⟩) :
    Rel P s (processReset s k sid code seq) := by
  unfold processReset
  exact .thenLog k _ _ rfl rfl rfl (hp _)
    (.thenAbort k _ (.ite (fun _ => .of_eq rfl rfl rfl rfl rfl rfl rfl rfl rfl) fun _ => .refl _ _))

/-- What processing frame `f`, looked up as `tgt`, at position `seq` may deliver. -/
def PFrame (f : Frame) (tgt : Option Caller) (seq : Nat) : Caller → Item → Prop :=
  fun k it => tgt = some k ∧ f.sid? = some it.sid ∧ it.seq = seq ∧ it.tag = f.tag

theorem rel_process (s : St) (f : Frame) (tgt : Option Caller) :
    Rel (PFrame f tgt (s.rx.length - 1)) s (process s f tgt) := by
  have h1 : ∀ P m b, Rel P s { s with maxConc := m, seenSettings := b } :=
    fun _ _ _ => .of_eq rfl rfl rfl rfl rfl rfl rfl rfl rfl
  unfold process
  dsimp only
  split
  · exact .refl _ _
  · exact rel_processHeaders _ s _ _ _ _ _ _ fun _ => ⟨rfl, rfl, rfl, rfl⟩
  · exact .ite (fun _ => rel_readerCleanup _ _ _) fun _ => .refl _ _
  · exact rel_processData _ s _ _ _ _ _ _ fun _ => ⟨rfl, rfl, rfl, rfl⟩
  · exact .refl _ _
  · exact rel_processReset _ s _ _ _ _ fun _ => ⟨rfl, rfl, rfl, rfl⟩
  · exact .ite (fun _ => .refl _ _) fun _ => .ite (fun _ => rel_readerCleanup _ _ _) fun _ => rel_broadcast _ _
  · exact .ite (fun _ => .thenAbort _ _ (rel_setCS_same _ s _ _ rfl rfl rfl)) fun _ => rel_broadcast _ _
  · exact rel_readerCleanup _ _ _
  · exact rel_setGoAway _ _ _ _
  · repeat' split
    all_goals first
      | exact (h1 _ _ _).thenBroadcast
      | exact h1 _ _ _
      | exact (Rel.refl _ _).thenBroadcast
      | exact .refl _ _
  · exact rel_readerCleanup _ _ _

end Req.Lemmas.C09H2Rel
