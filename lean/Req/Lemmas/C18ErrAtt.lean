import Req.Lemmas.C18Order
/-!
C18 lemmas: attempts that end WITHOUT an http response (the transport failed, GetBody
failed, a wrapper short-circuited or dropped the response). The request-level response
middleware loop of `do` still runs, and what it does depends on the script of the middleware
alone: `ranUntilRet`, `firstRet`, `recErr`, with which `response_mw_runs_on_error_attempts`
(`Props/C18Pipeline`) is stated.
-/
namespace Req.Pipeline
open Req.Result

/-- How many request-level response middleware run when none of them meets an http response:
all of them, up to and including the first one that returns an error. -/
def ranUntilRet : List RAct → Nat
  | [] => 0
  | .mw (.ret _) :: _ => 1
  | _ :: rest => 1 + ranUntilRet rest

/-- The error returned by the first request-level response middleware that returns one. -/
def firstRet : List RAct → Option Err
  | [] => none
  | .mw (.ret e) :: _ => some e
  | _ :: rest => firstRet rest

/-- `resp.Err` after the middleware that ran: the last `resp.Err = …` assignment wins. -/
def recErr : List RAct → Option Err → Option Err
  | [], cur => cur
  | .mw (.ret _) :: _, cur => cur
  | .mw (.set e) :: rest, _ => recErr rest (some e)
  | .mw .clear :: rest, _ => recErr rest none
  | _ :: rest, cur => recErr rest cur

theorem digestStep_nohttp (s : Stack) (a : Nat) (ok : Bool) (re : TOut) (r : Resp) (h : r.http = none) :
    digestStep Fixes.all s a ok re r = .cont (some r) [] := by
  unfold digestStep
  split
  · rfl
  · simp [h, Fixes.all]

theorem ranUntilRet_le (acts : List RAct) : ranUntilRet acts ≤ acts.length := by
  induction acts with
  | nil => simp [ranUntilRet]
  | cons act rest ih =>
    cases act with
    | mw m => cases m <;> simp [ranUntilRet] <;> omega
    | digest ok re => simp [ranUntilRet]; omega

theorem ranUntilRet_all (acts : List RAct) (h : firstRet acts = none) : ranUntilRet acts = acts.length := by
  induction acts with
  | nil => simp [ranUntilRet]
  | cons act rest ih =>
    cases act with
    | mw m =>
      cases m <;> simp_all [ranUntilRet, firstRet] <;> omega
    | digest ok re => simp_all [ranUntilRet, firstRet]; omega

theorem reqRespLoop_cons_cont (s : Stack) (a i : Nat) (act : RAct) (rest : List RAct) (r r1 : Resp) (err : Option Err)
    (evs : List Ev) (h : stageStep Fixes.all s a (some r) act = .cont (some r1) evs) :
    reqRespLoop Fixes.all s a i (act :: rest) (some r) err =
      { reqRespLoop Fixes.all s a (i + 1) rest (some r1) err with
        evs := .rResp i :: evs ++ (reqRespLoop Fixes.all s a (i + 1) rest (some r1) err).evs } := by
  simp only [reqRespLoop, h]
  rfl

/-- A request-level middleware other than one that returns an error, on a response WITHOUT
http response (repaired code): the loop goes on, still without http response; `recErr`,
`firstRet` and `ranUntilRet` step over it. -/
theorem stageStep_nohttp (s : Stack) (a : Nat) (act : RAct) (r : Resp) (h : r.http = none)
    (hact : ∀ e, act ≠ .mw (.ret e)) :
    ∃ r' evs, stageStep Fixes.all s a (some r) act = .cont (some r') evs ∧ r'.http = none ∧
      ∀ rest, recErr (act :: rest) r.err = recErr rest r'.err ∧ firstRet (act :: rest) = firstRet rest ∧
        ranUntilRet (act :: rest) = 1 + ranUntilRet rest := by
  cases act with
  | digest ok re => exact ⟨r, [], digestStep_nohttp s a ok re r h, h, fun _ => ⟨rfl, rfl, rfl⟩⟩
  | mw m =>
    cases m with
    | nop => exact ⟨r, [], rfl, h, fun _ => ⟨rfl, rfl, rfl⟩⟩
    | ret e => exact absurd rfl (hact e)
    | set e => exact ⟨_, _, rfl, h, fun _ => ⟨rfl, rfl, rfl⟩⟩
    | clear => exact ⟨_, _, rfl, h, fun _ => ⟨rfl, rfl, rfl⟩⟩

theorem reqRespLoop_nohttp (s : Stack) (a : Nat) (acts : List RAct) :
    ∀ (i : Nat) (r : Resp) (err : Option Err), r.http = none →
      ((reqRespLoop Fixes.all s a i acts (some r) err).evs.filter Ev.isRResp
          = (List.range' i (ranUntilRet acts)).map .rResp) ∧
      (reqRespLoop Fixes.all s a i acts (some r) err).crash = false ∧
      (∀ e, firstRet acts = some e →
        (reqRespLoop Fixes.all s a i acts (some r) err).returned = true ∧
        (reqRespLoop Fixes.all s a i acts (some r) err).err = some e) ∧
      (firstRet acts = none →
        (reqRespLoop Fixes.all s a i acts (some r) err).returned = false ∧
        (reqRespLoop Fixes.all s a i acts (some r) err).err = err) ∧
      (∃ r', (reqRespLoop Fixes.all s a i acts (some r) err).resp = some r' ∧ r'.http = none ∧
        r'.err = recErr acts r.err) := by
  induction acts with
  | nil => exact fun i r err h => ⟨rfl, rfl, fun _ he => (nomatch he), fun _ => ⟨rfl, rfl⟩, r, rfl, h, rfl⟩
  | cons act rest ih =>
    intro i r err h
    by_cases hret : ∃ e, act = .mw (.ret e)
    · obtain ⟨e, rfl⟩ := hret
      exact ⟨rfl, rfl, fun e' he' => Option.some.inj he' ▸ ⟨rfl, rfl⟩, fun hn => (nomatch hn), r, rfl, h, rfl⟩
    · obtain ⟨r', evs, hstep, hn, heq⟩ := stageStep_nohttp s a act r h fun e he => hret ⟨e, he⟩
      obtain ⟨hrec, hfirst, hran⟩ := heq rest
      obtain ⟨h1, h2, h3, h4, r'', h5, h6, h7⟩ := ih (i + 1) r' err hn
      have hq := stageStep_inStep Fixes.all s a (some r) act
      rw [hstep] at hq
      rw [reqRespLoop_cons_cont s a i _ rest r _ err _ hstep, hran, hfirst, hrec]
      refine ⟨?_, h2, h3, h4, r'', h5, h6, h7⟩
      simp only [List.filter_cons, List.filter_append, Ev.isRResp, if_true]
      rw [filter_nil_of_forall (l := evs) fun e he => Ev.inStep_not_rresp (hq e he), h1, Nat.add_comm 1,
        List.range'_succ]
      rfl

/-- An attempt whose transport (or GetBody) failed has no http response when it leaves
`Client.roundTrip` (nor, by `runWrappers_keeps` and `nilGuard_keeps`, after the wrappers and
the nil guard: none of them makes one up). -/
theorem clientRoundTrip_nohttp (s : Stack) (a : Nat)
    (h : s.getBodyAt a = true ∨ ∃ e, s.transportAt a = .fail e) :
    ∀ r, (clientRoundTrip s a).resp = some r → r.http = none := by
  cases hg : s.getBodyAt a
  · rw [clientRoundTrip_eq s a hg]
    rintro _ ⟨⟩
    obtain ⟨e, he⟩ := h.resolve_left (by rw [hg]; exact Bool.false_ne_true)
    have hex : (exchange s a).1.http = none := by unfold exchange; rw [he]
    obtain ⟨e', sv, hf⟩ := finish_resp .clientLoop s a (exchange s a).1
    rw [clientLoop_fst, hf, autoRead_nohttp s _ hex]
    exact hex
  · rw [clientRoundTrip_getBody s a hg]; rintro _ ⟨⟩; rfl

end Req.Pipeline
