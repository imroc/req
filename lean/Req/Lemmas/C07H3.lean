import Req.H3.Frame
import Req.Lemmas.C05Varint
import Req.Lemmas.IfTree
/-! `ParseNext` of the HTTP/3 frame parser model never hands back more than it was given. -/
namespace Req.Lemmas.C07.H3
open Req.Proto Req.H3.Varint Req.H3.Frame Req.Lemmas.C05.Varint

theorem parseSettingsFrame_rest_le (l : Nat) (input : Bytes) :
    (parseSettingsFrame l input).2.length ≤ input.length := by
  unfold parseSettingsFrame
  split
  · simp
  · split
    · simp
    · split <;> simp

theorem truncated_snd (x : Except Err Frame × Bytes) : (truncated x).2 = x.2 := by
  unfold truncated
  split <;> rfl

theorem parseNext_rest_le (fuel : Nat) (input : Bytes) :
    (parseNext fuel input).2.length ≤ input.length := by
  induction fuel generalizing input with
  | zero => exact Nat.le_refl _
  | succ n ih =>
    unfold parseNext
    split
    · exact Nat.zero_le _
    · next t r1 h1 =>
      have l1 := read_lt input t r1 h1
      split
      · exact Nat.zero_le _
      · next l r2 h2 =>
        have l2 := read_lt r1 l r2 h2
        have hr : r2.length ≤ input.length := by omega
        let P (x : Except Err Frame × Bytes) := x.2.length ≤ input.length
        refine ite_ind P hr <| ite_ind P hr <| ite_ind P ?_ <| ite_ind P hr <|
          ite_ind P (Nat.zero_le _) ?_
        · show (truncated _).2.length ≤ _
          rw [truncated_snd]
          exact Nat.le_trans (parseSettingsFrame_rest_le l r2) hr
        · have := ih (r2.drop l)
          simp only [List.length_drop] at this
          omega

end Req.Lemmas.C07.H3
