import Req.Pool.Lockset
/-! For the lock-set theorem (C09). In a well-formed trace the holder of a lock changes only where the free lock is
acquired or its holder releases it (`holders_step`); so between a position where `t₁` holds `l` and a later one where
`t₂` holds it lie a release by `t₁` and, after it, an acquire by `t₂` (`handoff_between`): the `sync` edge of
happens-before that orders two accesses made under `l` (`lockset_ordered`). Hence no race on a location whose
conflicting accesses each share some lock (`no_race_of_shared`), which both disciplines instantiate from static
facts; `guarded_gives_common` and `pairGuarded_gives_shared` say that the executable table checks deliver what those
ask for. -/
namespace Req.Lemmas.C09Lockset
open Req.Pool.Lockset

theorem holders_step (tr : List Ev) (hwf : WF tr) (l : Lock) (i : Nat) :
    holders (tr.take (i + 1)) l = holders (tr.take i) l ∨
    (∃ t, tr[i]? = some (.acq t l) ∧ holders (tr.take i) l = none ∧ holders (tr.take (i + 1)) l = some t) ∨
    (∃ t, tr[i]? = some (.rel t l) ∧ holders (tr.take i) l = some t ∧ holders (tr.take (i + 1)) l = none) := by
  cases he : tr[i]? with
  | none => left; simp [holders, List.take_add_one, he]
  | some e =>
    have hs : holders (tr.take (i + 1)) = stepH (holders (tr.take i)) e := by
      simp [holders, List.take_add_one, List.foldl_append, he]
    have hen := hwf i e he
    rw [hs]
    cases e with
    | acc => left; rfl
    | acq t l' =>
      by_cases hl : l = l'
      · subst hl; exact .inr (.inl ⟨t, rfl, hen, by simp [stepH]⟩)
      · left; simp [stepH, hl]
    | rel t l' =>
      by_cases hl : l = l'
      · subst hl; exact .inr (.inr ⟨t, rfl, hen, by simp [stepH]⟩)
      · left; simp [stepH, hl]

theorem first_change (P : Nat → Prop) (i : Nat) : ∀ j, i ≤ j → P i → ¬ P j →
    ∃ r, i ≤ r ∧ r < j ∧ P r ∧ ¬ P (r + 1) := by
  intro j
  induction j with
  | zero => intro h0 hi hj; cases Nat.le_zero.1 h0; exact absurd hi hj
  | succ j ih =>
    intro hij hi hj
    have hle : i ≤ j := Nat.le_of_lt_succ <| Nat.lt_of_le_of_ne hij fun h => hj (by subst h; exact hi)
    by_cases hp : P j
    · exact ⟨j, hle, by omega, hp, hj⟩
    · obtain ⟨r, h1, h2, h3⟩ := ih hle hi hp
      exact ⟨r, h1, by omega, h3⟩

theorem release_between (tr : List Ev) (hwf : WF tr) (l : Lock) (t : Tid) (i j : Nat) (hij : i ≤ j)
    (h1 : holders (tr.take i) l = some t) (h2 : holders (tr.take j) l ≠ some t) :
    ∃ r, i ≤ r ∧ r < j ∧ tr[r]? = some (.rel t l) := by
  obtain ⟨r, hir, hrj, hr, hr'⟩ := first_change (fun r => holders (tr.take r) l = some t) i j hij h1 h2
  refine ⟨r, hir, hrj, ?_⟩
  rcases holders_step tr hwf l r with h | ⟨t', _, h, _⟩ | ⟨t', he, h, _⟩
  · exact absurd (h ▸ hr) hr'
  · rw [h] at hr; cases hr
  · rw [h] at hr; cases hr; exact he

theorem handoff_between (tr : List Ev) (hwf : WF tr) (l : Lock) (t₁ t₂ : Tid) (hne : t₁ ≠ t₂)
    (i j : Nat) (hij : i ≤ j) (h1 : holders (tr.take i) l = some t₁) (h2 : holders (tr.take j) l = some t₂) :
    ∃ r a, i ≤ r ∧ r < a ∧ a < j ∧ tr[r]? = some (.rel t₁ l) ∧ tr[a]? = some (.acq t₂ l) := by
  obtain ⟨a, hia, haj, ha, ha'⟩ := first_change (fun r => holders (tr.take r) l ≠ some t₂) i j hij
    (by rw [h1]; exact fun h => hne (Option.some.inj h)) (fun h => h h2)
  have ha' := Classical.not_not.1 ha'
  rcases holders_step tr hwf l a with h | ⟨t, he, h, h'⟩ | ⟨t, _, _, h'⟩
  · exact absurd (h ▸ ha') ha
  · obtain ⟨r, hir, hra, hr⟩ := release_between tr hwf l t₁ i a hia h1 (by rw [h]; exact nofun)
    rw [h'] at ha'; cases ha'
    exact ⟨r, a, hir, hra, haj, hr, he⟩
  · rw [h'] at ha'; cases ha'

theorem lockset_ordered (tr : List Ev) (hwf : WF tr) (l : Lock) (i j : Nat) (t₁ t₂ : Tid)
    (x₁ x₂ : Loc) (w₁ w₂ : Bool) (hij : i < j) (hne : t₁ ≠ t₂)
    (hi : tr[i]? = some (.acc t₁ x₁ w₁)) (hj : tr[j]? = some (.acc t₂ x₂ w₂))
    (h1 : HoldsAt tr i t₁ l) (h2 : HoldsAt tr j t₂ l) : HB tr i j := by
  obtain ⟨r, a, hr, hra, haj, her, hea⟩ := handoff_between tr hwf l t₁ t₂ hne i j (Nat.le_of_lt hij) h1 h2
  have hir : i < r := Nat.lt_of_le_of_ne hr fun h => by subst h; rw [hi] at her; cases her
  exact HB.trans (HB.po hir hi her rfl) (HB.trans (HB.sync hra her hea) (HB.po haj hea hj rfl))

theorem no_race_of_shared (tr : List Ev) (hwf : WF tr) (x : Loc)
    (h : ∀ i j t₁ t₂ w₁ w₂, tr[i]? = some (.acc t₁ x w₁) → tr[j]? = some (.acc t₂ x w₂) →
      (w₁ = true ∨ w₂ = true) → ∃ l, HoldsAt tr i t₁ l ∧ HoldsAt tr j t₂ l) : ¬ Race tr x := by
  rintro ⟨i, j, t₁, t₂, w₁, w₂, hij, hi, hj, hne, hw, hnhb⟩
  obtain ⟨l, h1, h2⟩ := h i j t₁ t₂ w₁ w₂ hi hj hw
  exact hnhb (lockset_ordered tr hwf l i j t₁ t₂ x x w₁ w₂ hij hne hi hj h1 h2)

theorem static_lockset_sound (facts : StaticFacts) (tr : List Ev) (hwf : WF tr)
    (hc : Conforms facts tr) (x : Loc) (l : Lock) (hall : ∀ s ∈ facts x, l ∈ s) : ¬ Race tr x := by
  apply no_race_of_shared tr hwf x
  intro i j t₁ t₂ w₁ w₂ hi hj _
  obtain ⟨a, ha, hah⟩ := hc i t₁ x w₁ hi
  obtain ⟨b, hb, hbh⟩ := hc j t₂ x w₂ hj
  exact ⟨l, hah l (hall a ha), hbh l (hall b hb)⟩

theorem static_lockset_sound_pairwise (facts : StaticFactsW) (tr : List Ev) (hwf : WF tr)
    (hc : ConformsW facts tr) (x : Loc)
    (hall : ∀ a ∈ facts x, ∀ b ∈ facts x, (a.1 = true ∨ b.1 = true) → ∃ l, l ∈ a.2 ∧ l ∈ b.2) :
    ¬ Race tr x := by
  apply no_race_of_shared tr hwf x
  intro i j t₁ t₂ w₁ w₂ hi hj hw
  obtain ⟨a, ha, haw, hah⟩ := hc i t₁ x w₁ hi
  obtain ⟨b, hb, hbw, hbh⟩ := hc j t₂ x w₂ hj
  obtain ⟨l, hla, hlb⟩ := hall a ha b hb (hw.imp haw hbw)
  exact ⟨l, hah l hla, hbh l hlb⟩

theorem pairGuarded_gives_shared (as : List Access) (hg : pairGuarded as = true)
    (a b : Access) (ha : a ∈ live as) (hb : b ∈ live as) (hw : a.write = true ∨ b.write = true) :
    ∃ l, l ∈ a.held ∧ l ∈ b.held := by
  unfold pairGuarded at hg
  have h1 := List.all_eq_true.mp (List.all_eq_true.mp hg a ha) b hb
  unfold pairOK at h1
  simp only [Bool.or_eq_true, Bool.and_eq_true, Bool.not_eq_true', List.any_eq_true,
    List.contains_iff_mem] at h1
  rcases h1 with ⟨h2, h3⟩ | ⟨l, hl, hl'⟩
  · rcases hw with h | h
    · rw [h] at h2; cases h2
    · rw [h] at h3; cases h3
  · exact ⟨l, hl, by simpa using hl'⟩

theorem guarded_gives_common (as : List Access) (hg : guarded as = true) (hne : live as ≠ []) :
    ∃ l, ∀ a ∈ live as, l ∈ a.held := by
  cases hl : live as with
  | nil => exact absurd hl hne
  | cons a rest =>
    simp only [guarded, commonLocks, hl, List.isEmpty_cons, Bool.false_or, Bool.not_eq_true',
      List.isEmpty_eq_false_iff] at hg
    obtain ⟨l, hm⟩ := List.exists_mem_of_ne_nil _ hg
    rw [List.mem_filter] at hm
    refine ⟨l, fun b hb => ?_⟩
    rcases List.mem_cons.mp hb with rfl | hb
    · exact hm.1
    · simpa using List.all_eq_true.mp hm.2 b hb
end Req.Lemmas.C09Lockset
