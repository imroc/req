/-! `DecidableEq (Except ε α)`: the codec models return `Except`, and the test vectors of C05 are
closed by `decide`. -/
namespace Req.Props.C05

deriving instance DecidableEq for Except

end Req.Props.C05
