import Req.Pool.CancelH2
import Req.Lemmas.Lts
/-! Lemmas for the HTTP/2 lifecycle model (C08): a measure that every internal step decreases, the
structural invariant preserved by events and steps, the analysis of stuck states, and what a run
after a cancellation records as the error (`RecordsCancel`). -/
namespace Req.Lemmas.CancelH2
open Req.Cancel (CtxErr)
open Req.CancelH2 Req.Lemmas.Lts

/-- `abortStream` without its case split: the closer goroutine starts iff there is a body nobody has claimed -/
theorem abortStream_eq (s : St) (e : WErr) :
    abortStream s e = { s with abort := s.abort.or (some e), claimed := s.claimed || s.hasBody,
                               closer := s.closer || (s.hasBody && !s.claimed) } := by
  unfold abortStream
  cases hb : s.hasBody <;> cases hc : s.claimed <;> simp

theorem guard_claim {s : St} (h : CancelH2.guard s .wCleanupClaim = true) : ∃ e, s.wpc = .cleanup e := by
  simp only [CancelH2.guard] at h
  split at h
  · exact ⟨_, ‹_›⟩
  · cases h

theorem guard_close {s : St} (h : CancelH2.guard s .wCleanupClose = true) : ∃ e, s.wpc = .cuClose e := by
  simp only [CancelH2.guard] at h
  split at h
  · exact ⟨_, ‹_›⟩
  · cases h

theorem guard_finish {s : St} (h : CancelH2.guard s .wCleanupFinish = true) : ∃ e, s.wpc = .cuWait e := by
  simp only [CancelH2.guard, Bool.and_eq_true] at h
  have h1 := h.1
  split at h1
  · exact ⟨_, ‹_›⟩
  · cases h1

theorem guard_waitBody {s : St} (h : CancelH2.guard s .rWaitBody = true) : ∃ e, s.rpc = .waitBody e := by
  simp only [CancelH2.guard, Bool.and_eq_true] at h
  have h1 := h.1
  split at h1
  · exact ⟨_, ‹_›⟩
  · cases h1

/-- The body loop `bodyRead → flow → data → bodyRead` is ranked `8 > 7`, `9 > 8`: only `bodyRead → flow`
and `data → bodyRead` are steps of the writer (`Act`), `flow → data` is the environment's `flowTake`, so the
rank may go up there. Likewise `hdrMu → slot → headers` are events (`hdrMuFree`, `slotFree`); their
ranks only have to lie above `cleanup`'s, where the writer goes from each of them. -/
def wRank : WPc → Nat
  | .hdrMu => 13 | .slot => 12 | .headers => 11 | .cont => 10 | .data => 9 | .bodyRead => 8
  | .flow => 7 | .endStream => 6 | .peer => 5 | .cleanup _ => 4 | .cuClose _ => 3 | .cuWait _ => 2
  | .done => 0

def rRank : RPc → Nat
  | .select => 3 | .waitBody _ => 1 | .waitDone => 1 | .hdrWaitDone => 1 | .returned _ => 0

def mu (s : St) : Nat := 2 * wRank s.wpc + 2 * rRank s.rpc + (if s.closer then 1 else 0)

/-- `2 * 13 + 2 * 3 + 1`: the largest ranks and a closer in flight -/
def K : Nat := 33

theorem mu_le (s : St) : mu s ≤ K := by
  unfold mu K
  have h1 : wRank s.wpc ≤ 13 := by cases s.wpc <;> exact Nat.le_of_ble_eq_true rfl
  have h2 : rRank s.rpc ≤ 3 := by cases s.rpc <;> exact Nat.le_of_ble_eq_true rfl
  split <;> omega

/-- a step that lowers the rank of a program counter lowers `mu`, even if it starts the closer -/
theorem mu_lt {s t : St} (h : wRank t.wpc + rRank t.rpc < wRank s.wpc + rRank s.rpc) :
    mu t < mu s := by
  unfold mu
  have : (if t.closer = true then 1 else 0) ≤ 1 := by split <;> decide
  omega

/-- the rank comparisons are closed by evaluation (`rfl`) -/
theorem mu_writer {s t : St} {p q : WPc} (hp : t.wpc = p) (hr : t.rpc = s.rpc) (hq : s.wpc = q)
    (h : (wRank p).blt (wRank q) = true) : mu t < mu s :=
  mu_lt (by rw [hp, hr, hq]; exact Nat.add_lt_add_right (Nat.le_of_ble_eq_true h) _)

theorem mu_caller {s t : St} {r q : RPc} (hr : t.rpc = r) (hp : t.wpc = s.wpc) (hq : s.rpc = q)
    (h : (rRank r).blt (rRank q) = true) : mu t < mu s :=
  mu_lt (by rw [hp, hr, hq]; exact Nat.add_lt_add_left (Nat.le_of_ble_eq_true h) _)

theorem mu_dec (s : St) (a : Act) (h : CancelH2.guard s a = true) : mu (apply s a) < mu s := by
  cases a
  case wCleanupClaim =>
    obtain ⟨e, hw⟩ := guard_claim h
    simp only [apply, hw]
    split <;> exact mu_writer rfl rfl hw rfl
  case wCleanupClose =>
    obtain ⟨e, hw⟩ := guard_close h
    simp only [apply, hw]
    exact mu_writer rfl rfl hw rfl
  case wCleanupFinish =>
    obtain ⟨e, hw⟩ := guard_finish h
    simp only [apply, hw]
    exact mu_writer rfl (by split <;> simp only [abortStream_eq]) hw rfl
  case rCtx =>
    simp only [CancelH2.guard, Bool.and_eq_true, beq_iff_eq] at h
    simp only [apply]
    split
    · exact mu_caller rfl (by rw [abortStream_eq]) h.1 rfl
    · next hn => rw [hn] at h; cases h.2
  case rWaitBody =>
    obtain ⟨e, hr⟩ := guard_waitBody h
    simp only [apply, hr]
    exact mu_caller rfl rfl hr rfl
  case closerRun =>
    unfold mu
    rw [show s.closer = true from h]
    exact Nat.lt_succ_self _
  all_goals simp only [CancelH2.guard, Bool.and_eq_true, beq_iff_eq, Bool.or_eq_true] at h
  case wHdrMuCancel | wSlotAbort | wContCancel | wReadChunk | wReadEOF | wPeerDone | wPeerAbort =>
    exact mu_writer rfl rfl h.1 rfl
  case wBodyStop => exact mu_writer rfl rfl h.1.1 rfl
  case wData => exact mu_writer rfl rfl h rfl
  case wHeaders | wEndStream => simp only [apply]; (repeat' split) <;> exact mu_writer rfl rfl h rfl
  case wFlowExit => simp only [apply]; split <;> exact mu_writer rfl rfl h.1 rfl
  case rHeaders | rHdrWaitDone => simp only [apply]; split <;> exact mu_caller rfl rfl h.1 rfl
  case rAbort => exact mu_caller rfl rfl h.1.1 rfl
  case rWaitDone => exact mu_caller rfl rfl h.1 rfl

theorem run_lts {s s' : St} {as : List Act} (h : Run s as s') : Lts.Run CancelH2.guard apply s as s' := by
  induction h with
  | nil s => exact .nil s
  | cons g _ ih => exact .cons g ih

/-- 1 while `cleanupWriteRequest` has claimed the body itself and is about to close it -/
def cuTerm : WPc → Nat
  | .cuClose _ => 1
  | _ => 0

def isCuWaitOrDone : WPc → Bool
  | .cuWait _ => true
  | .done => true
  | _ => false

structure Inv (s : St) : Prop where
  /-- the request body is closed by exactly one party: `reqBodyClosed != nil` ⇔ exactly one of
  {already closed, closer goroutine in flight, cleanupWriteRequest about to close it} -/
  bodyAcct : s.closes + (if s.closer then 1 else 0) + cuTerm s.wpc = (if s.claimed then 1 else 0)
  claimedBody : s.claimed = true → s.hasBody = true
  closedIff : s.closedCh = true ↔ 0 < s.closes
  cuClaimed : isCuWaitOrDone s.wpc = true → s.hasBody = true → s.claimed = true
  donecIff : s.donec = true ↔ s.wpc = .done
  doneNoID : s.wpc = .done → s.hasID = false
  hdrMuInv : s.hdrMuHeld = true → s.wpc = .slot ∨ s.wpc = .headers
  /-- the caller leaves its `select` on response headers or with the stream aborted (`<-cs.abort`, or its own
  `abortStream` on `<-ctx.Done()`) -/
  rLeft : s.rpc ≠ .select → s.respHdr = true ∨ s.abort.isSome = true
  respSent : s.respHdr = true → s.sentHeaders = true
  preHdr : s.wpc = .hdrMu ∨ s.wpc = .slot ∨ s.wpc = .headers → s.sentHeaders = false
  peerResp : s.peerClosed = true → s.respHdr = true
  /-- `cu` (ghost) records what `cleanupWriteRequest` saw when it ended: the RST_STREAM frames on the wire are what
  `cleanupRule` gives for it, and none before -/
  rstsCu : s.rsts = (match s.cu with | some i => (cleanupRule i).toList | none => [])
  cuIff : s.cu.isSome = true ↔ s.wpc = .done
  cuFields : ∀ i, s.cu = some i → i.sentHeaders = s.sentHeaders ∧ i.sentEndStream = s.sentEnd
  donePipe : s.wpc = .done → s.pipeErr = true

theorem inv_init (b e n : Bool) : Inv (init b e n) := by
  constructor <;> simp [init, cuTerm, isCuWaitOrDone]

theorem cuTerm_zero_of_ne (p : WPc) (h : ∀ e, p ≠ .cuClose e) : cuTerm p = 0 := by
  cases p <;> simp_all [cuTerm]

/-- the program counters between HEADERS and the body claim of `cleanupWriteRequest` -/
def sending : WPc → Bool
  | .cont | .bodyRead | .flow | .data | .endStream | .peer | .cleanup _ => true
  | _ => false

theorem sending_spec {p : WPc} (h : sending p = true) :
    cuTerm p = 0 ∧ isCuWaitOrDone p = false ∧ p ≠ .done ∧ p ≠ .hdrMu ∧ p ≠ .slot ∧ p ≠ .headers := by
  cases p <;> simp [sending] at h <;> simp [cuTerm, isCuWaitOrDone]

theorem Inv.cu_none {s : St} (h : Inv s) (hd : s.wpc ≠ .done) : s.cu = none := by
  cases hc : s.cu with
  | none => rfl
  | some i => exact absurd (h.cuIff.mp (by rw [hc]; rfl)) hd

theorem Inv.cu_done {s : St} (h : Inv s) (hd : s.wpc = .done) :
    ∃ i, s.cu = some i ∧ s.rsts = (cleanupRule i).toList := by
  have hc := h.cuIff.mpr hd
  have hr := h.rstsCu
  cases hcu : s.cu with
  | none => rw [hcu] at hc; cases hc
  | some i => rw [hcu] at hr; exact ⟨i, rfl, hr⟩

theorem Inv.closes_le {s : St} (h : Inv s) : s.closes ≤ 1 := by
  have := h.bodyAcct
  have : (if s.claimed = true then 1 else 0) ≤ 1 := by split <;> decide
  omega

theorem Inv.rsts_le {s : St} (h : Inv s) : s.rsts.length ≤ 1 := by
  rw [h.rstsCu]
  cases s.cu with
  | none => exact Nat.zero_le 1
  | some i =>
    show (cleanupRule i).toList.length ≤ 1
    cases cleanupRule i
    · exact Nat.zero_le 1
    · exact Nat.le_refl 1

/-! The invariant is preserved by updates of the fields one party writes, given the clauses that read
them; the other clauses are carried over unchanged by `{ h with … }`. -/

theorem Inv.not_locked {s : St} (h : Inv s) {q : WPc} (hq : s.wpc = q) (h1 : q ≠ .slot) (h2 : q ≠ .headers) :
    ¬ s.hdrMuHeld = true :=
  fun hm => (h.hdrMuInv hm).elim (hq ▸ h1) (hq ▸ h2)

/-- a step of the writer short of finishing: the clauses of the new state that read a field it may
write are asked for, under their names; the others follow -/
theorem inv_writer {s : St} (h : Inv s) {q : WPc} (hq : s.wpc = q) (hd : q ≠ .done) {p : WPc} (hp : p ≠ .done)
    {cl ch lk sh se id : Bool} {cs n : Nat}
    (bodyAcct : cs + (if s.closer then 1 else 0) + cuTerm p = (if cl then 1 else 0))
    (claimedBody : cl = true → s.hasBody = true) (closedIff : ch = true ↔ 0 < cs)
    (cuClaimed : isCuWaitOrDone p = true → s.hasBody = true → cl = true)
    (hdrMuInv : lk = true → p = .slot ∨ p = .headers)
    (respSent : s.sentHeaders = true → sh = true)
    (preHdr : p = .hdrMu ∨ p = .slot ∨ p = .headers → sh = false) :
    Inv { s with wpc := p, claimed := cl, closedCh := ch, closes := cs, hdrMuHeld := lk,
                 sentHeaders := sh, sentEnd := se, hasID := id, dataWrites := n } :=
  have hd : s.wpc ≠ .done := hq ▸ hd
  { h with
    bodyAcct := bodyAcct
    claimedBody := claimedBody
    closedIff := closedIff
    cuClaimed := cuClaimed
    donecIff := ⟨fun hd' => absurd (h.donecIff.mp hd') hd, fun hp' => absurd hp' hp⟩
    doneNoID := fun hp' => absurd hp' hp
    hdrMuInv := hdrMuInv
    respSent := fun hr => respSent (h.respSent hr)
    preHdr := preHdr
    cuIff := ⟨fun hc' => absurd (h.cuIff.mp hc') hd, fun hp' => absurd hp' hp⟩
    cuFields := fun i hi => by rw [h.cu_none hd] at hi; cases hi
    donePipe := fun hp' => absurd hp' hp }

theorem inv_toSending {s : St} (h : Inv s) {q : WPc} (hq : s.wpc = q) (h0 : cuTerm q = 0)
    (hd : q ≠ .done) {p : WPc} (hp : sending p = true) {sh se : Bool}
    (hsh : s.sentHeaders = true → sh = true) :
    Inv { s with wpc := p, hdrMuHeld := false, sentHeaders := sh, sentEnd := se } :=
  have ⟨h1, h2, h3, h4, h5, h6⟩ := sending_spec hp
  inv_writer h hq hd h3
    (bodyAcct := by have := h.bodyAcct; rw [hq, h0] at this; rwa [h1])
    (claimedBody := h.claimedBody) (closedIff := h.closedIff)
    (cuClaimed := fun hx => by rw [h2] at hx; cases hx) (hdrMuInv := nofun) (respSent := hsh)
    (preHdr := fun hx => hx.elim (absurd · h4) (·.elim (absurd · h5) (absurd · h6)))

theorem inv_toCleanup {s : St} (h : Inv s) (e : WErr) {q : WPc} (hq : s.wpc = q)
    (h0 : cuTerm q = 0) (hd : q ≠ .done) : Inv (toCleanup s e) :=
  inv_toSending h hq h0 hd (p := .cleanup e) rfl id

theorem inv_sending {s : St} (h : Inv s) {q : WPc} (hq : s.wpc = q) (hs : sending q = true) {p : WPc}
    (hp : sending p = true) {se : Bool} {n : Nat} :
    Inv { s with wpc := p, sentEnd := se, dataWrites := n } :=
  have ⟨h1, h2, h3, h4, h5, h6⟩ := sending_spec hp
  have ⟨g1, _, g3, _, g5, g6⟩ := sending_spec hs
  inv_writer h hq g3 h3
    (bodyAcct := by have := h.bodyAcct; rw [hq, g1] at this; rwa [h1])
    (claimedBody := h.claimedBody) (closedIff := h.closedIff)
    (cuClaimed := fun hx => by rw [h2] at hx; cases hx)
    (hdrMuInv := fun hm => absurd hm (h.not_locked hq g5 g6)) (respSent := id)
    (preHdr := fun hx => hx.elim (absurd · h4) (·.elim (absurd · h5) (absurd · h6)))

theorem inv_rpc {s : St} (h : Inv s) (r : RPc)
    (hr : r ≠ .select → s.respHdr = true ∨ s.abort.isSome = true) : Inv { s with rpc := r } :=
  { h with rLeft := hr }

theorem inv_rpc_left {s : St} (h : Inv s) (r : RPc) {q : RPc} (hq : s.rpc = q) (hs : q ≠ .select) :
    Inv { s with rpc := r } :=
  inv_rpc h r fun _ => h.rLeft (hq ▸ hs)

theorem inv_peer {s : St} (h : Inv s) (rh pc : Bool) (h1 : s.respHdr = true → rh = true)
    (h2 : rh = true → s.sentHeaders = true) (h3 : pc = true → rh = true) :
    Inv { s with respHdr := rh, peerClosed := pc } :=
  { h with
    rLeft := fun hr => (h.rLeft hr).imp_left h1
    respSent := h2
    peerResp := h3 }

theorem inv_abortStream {s : St} (h : Inv s) (e : WErr) : Inv (abortStream s e) := by
  have hab : s.abort.isSome = true → (s.abort.or (some e)).isSome = true := by
    cases s.abort <;> simp
  have h' : Inv { s with abort := s.abort.or (some e) } :=
    { h with rLeft := fun hr => (h.rLeft hr).imp_right hab }
  unfold abortStream
  simp only
  split
  · next hc =>
    -- nobody has claimed the body: nobody has closed or is closing it
    refine { h' with bodyAcct := ?_, claimedBody := fun _ => hc.1, cuClaimed := fun _ _ => rfl }
    have := h.bodyAcct
    rw [if_neg hc.2] at this
    show s.closes + 1 + cuTerm s.wpc = 1
    omega
  · exact h'

theorem inv_finish {t : St} (h : Inv t) {e : WErr} (hw : t.wpc = .cuWait e) {i : CleanupIn}
    (hi : i.sentHeaders = t.sentHeaders ∧ i.sentEndStream = t.sentEnd) :
    Inv { t with cu := some i, rsts := t.rsts ++ (cleanupRule i).toList, pipeErr := true,
                 hasID := false, donec := true, wpc := .done } :=
  have hd : t.wpc ≠ .done := by rw [hw]; nofun
  { h with
    bodyAcct := by have := h.bodyAcct; rwa [hw] at this
    cuClaimed := fun _ => h.cuClaimed (by rw [hw]; rfl)
    donecIff := ⟨fun _ => rfl, fun _ => rfl⟩
    doneNoID := fun _ => rfl
    hdrMuInv := (absurd · (h.not_locked hw nofun nofun))
    preHdr := fun hx => nomatch hx
    rstsCu := by
      have := h.rstsCu
      rw [h.cu_none hd] at this
      show t.rsts ++ _ = _
      rw [this]; rfl
    cuIff := ⟨fun _ => rfl, fun _ => rfl⟩
    cuFields := fun j hj => by cases hj; exact hi
    donePipe := fun _ => rfl }

theorem inv_act {s : St} {a : Act} (h : Inv s) (hg : CancelH2.guard s a = true) : Inv (apply s a) := by
  cases a
  case wCleanupClaim =>
    obtain ⟨e, hw⟩ := guard_claim hg
    have hmu := h.not_locked hw nofun nofun
    have hb := h.bodyAcct
    simp only [apply, hw]
    rw [hw] at hb
    split
    · next hc =>
      rw [if_neg hc.2] at hb
      exact inv_writer h hw nofun (p := .cuClose e) nofun
        (bodyAcct := by show _ + 1 = 1; simp only [cuTerm] at hb; omega) (claimedBody := fun _ => hc.1)
        (closedIff := h.closedIff) (cuClaimed := nofun) (hdrMuInv := (absurd · hmu)) (respSent := id)
        (preHdr := nofun)
    · next hc =>
      exact inv_writer h hw nofun (p := .cuWait e) nofun (bodyAcct := hb) (claimedBody := h.claimedBody)
        (closedIff := h.closedIff)
        (cuClaimed := fun _ hb' => Decidable.byContradiction fun hn => hc ⟨hb', hn⟩)
        (hdrMuInv := (absurd · hmu)) (respSent := id) (preHdr := nofun)
  case wCleanupClose =>
    obtain ⟨e, hw⟩ := guard_close hg
    have hb := h.bodyAcct
    simp only [apply, hw]
    rw [hw] at hb
    have hcl : s.claimed = true := by
      cases hc : s.claimed with
      | true => rfl
      | false => rw [hc, if_neg Bool.false_ne_true] at hb; simp only [cuTerm] at hb; omega
    exact inv_writer h hw nofun (p := .cuWait e) nofun
      (bodyAcct := by simp only [cuTerm] at hb ⊢; omega) (claimedBody := h.claimedBody)
      (closedIff := ⟨fun _ => Nat.succ_pos _, fun _ => rfl⟩) (cuClaimed := fun _ _ => hcl)
      (hdrMuInv := (absurd · (h.not_locked hw nofun nofun))) (respSent := id)
      (preHdr := nofun)
  case wCleanupFinish =>
    obtain ⟨e, hw⟩ := guard_finish hg
    simp only [apply, hw]
    split
    · exact inv_finish (inv_abortStream h _) (by rw [abortStream_eq]; exact hw)
        (by rw [abortStream_eq]; exact ⟨rfl, rfl⟩)
    · exact inv_finish h hw ⟨rfl, rfl⟩
  case rCtx =>
    simp only [CancelH2.guard, Bool.and_eq_true, beq_iff_eq] at hg
    simp only [apply]
    split
    · exact inv_rpc (inv_abortStream h _) _ fun _ => .inr (by rw [abortStream_eq]; cases s.abort <;> rfl)
    · exact h
  case rWaitBody =>
    obtain ⟨e, hr⟩ := guard_waitBody hg
    simp only [apply, hr]
    exact inv_rpc_left h _ hr nofun
  case closerRun =>
    have hb := h.bodyAcct
    rw [show s.closer = true from hg, if_pos rfl] at hb
    exact { h with
      bodyAcct := by show s.closes + 1 + 0 + cuTerm s.wpc = if s.claimed = true then 1 else 0; omega
      closedIff := ⟨fun _ => Nat.succ_pos _, fun _ => rfl⟩ }
  all_goals simp only [CancelH2.guard, Bool.and_eq_true, beq_iff_eq, Bool.or_eq_true] at hg
  case wHdrMuCancel | wSlotAbort | wContCancel | wPeerDone | wPeerAbort =>
    exact inv_toCleanup h _ hg.1 rfl nofun
  case wHeaders =>
    simp only [apply]
    split
    · exact inv_toCleanup h _ hg rfl nofun
    · split
      · exact inv_toSending h hg rfl nofun (p := .peer) rfl (fun _ => rfl)
      · split
        · exact inv_toSending h hg rfl nofun (p := .cont) rfl (fun _ => rfl)
        · exact inv_toSending h hg rfl nofun (p := .bodyRead) rfl (fun _ => rfl)
  case wReadChunk => exact inv_sending h hg.1 rfl (p := .flow) rfl
  case wReadEOF => exact inv_sending h hg.1 rfl (p := .endStream) rfl
  case wBodyStop => exact inv_sending h hg.1.1 rfl (p := .peer) rfl
  case wFlowExit =>
    simp only [apply]
    split
    · exact inv_sending h hg.1 rfl (p := .peer) rfl
    · exact inv_toCleanup h _ hg.1 rfl nofun
  case wData => exact inv_sending h hg rfl (p := .bodyRead) rfl
  case wEndStream =>
    simp only [apply]
    split
    · exact inv_toCleanup h _ hg rfl nofun
    · exact inv_sending h hg rfl (p := .peer) rfl
  case rHeaders =>
    simp only [apply]
    split <;> exact inv_rpc h _ fun _ => .inl hg.2
  case rAbort => exact inv_rpc h _ fun _ => .inr hg.1.2
  case rWaitDone => exact inv_rpc_left h _ hg.1 nofun
  case rHdrWaitDone =>
    simp only [apply]
    split <;> exact inv_rpc_left h _ hg.1 nofun

theorem inv_ev (s : St) (e : Ev) (h : Inv s) (hg : evGuard s e = true) : Inv (evApply s e) := by
  cases e <;> simp only [evGuard, Bool.and_eq_true, beq_iff_eq, Bool.not_eq_true'] at hg
  case cancel => exact { h with }
  case hdrMuFree =>
    have hb := h.bodyAcct
    rw [hg] at hb
    exact inv_writer h hg nofun (p := .slot) nofun (bodyAcct := hb) (claimedBody := h.claimedBody)
      (closedIff := h.closedIff) (cuClaimed := nofun) (hdrMuInv := fun _ => .inl rfl) (respSent := id)
      (preHdr := fun _ => h.preHdr (.inl hg))
  case slotFree =>
    have hb := h.bodyAcct
    rw [hg.1] at hb
    exact inv_writer h hg.1 nofun (p := .headers) nofun (bodyAcct := hb)
      (claimedBody := h.claimedBody) (closedIff := h.closedIff) (cuClaimed := nofun)
      (hdrMuInv := fun _ => .inr rfl) (respSent := id) (preHdr := fun _ => h.preHdr (.inr (.inl hg.1)))
  case continue100 => exact inv_sending h hg rfl (p := .bodyRead) rfl
  case flowTake => exact inv_sending h hg.1.1 rfl (p := .data) rfl
  case peerHeaders =>
    simp only [evApply]
    split
    · exact inv_peer h true true (fun _ => rfl) (fun _ => hg.1.1.1) (fun _ => rfl)
    · exact inv_peer h true _ (fun _ => rfl) (fun _ => hg.1.1.1) (fun _ => rfl)
  case peerEnd => exact inv_peer h _ true id h.respSent fun _ => hg.1.1.1
  case peerRst | callerClose => exact inv_abortStream h _

theorem reach_inv (s : St) (h : Reach s) : Inv s := by
  induction h with
  | init b e n => exact inv_init b e n
  | ev e _ hg ih => exact inv_ev _ e ih hg
  | act a _ hg ih => exact inv_act ih hg

theorem apply_ctx (s : St) (a : Act) : (apply s a).ctx = s.ctx := by
  cases a
  case wCleanupFinish | rCtx => simp only [apply]; (repeat' split) <;> simp only [abortStream_eq]
  case wEndStream | wCleanupClaim | wCleanupClose | rWaitBody => simp only [apply]; (repeat' split) <;> rfl
  case wHeaders | wFlowExit | rHeaders | rHdrWaitDone =>
    simp only [apply, apply_ite St.ctx, toCleanup, ite_self]
  all_goals rfl

theorem mem_allActs (a : Act) : a ∈ allActs := by
  cases a <;> decide

/-- with the context done and no step enabled, the writer and the caller have finished and no closer
goroutine is left -/
theorem stuck_finished (s : St) (hi : Inv s) (hc : s.ctx.isSome = true) (hs : stuck s = true) :
    s.wpc = .done ∧ s.closer = false ∧ ∃ r, s.rpc = .returned r := by
  have no : ∀ a, CancelH2.guard s a = true → False := fun a h => by
    rw [(all_not_guard mem_allActs).1 hs a] at h; cases h
  have hcan : cancelled s = true := by rw [cancelled, hc, Bool.or_true]
  have hcloser : s.closer = false := by
    cases hcl : s.closer with
    | false => rfl
    | true => exact (no .closerRun hcl).elim
  have hb := hi.bodyAcct
  rw [hcloser, if_neg Bool.false_ne_true] at hb
  -- a claimed body is closed: else cleanup is about to close it
  have hcc : (!s.claimed || s.closedCh) = true := by
    cases hcl : s.claimed with
    | false => rfl
    | true =>
      cases hch : s.closedCh with
      | true => rfl
      | false =>
        have hz : s.closes = 0 := Nat.eq_zero_of_not_pos fun hp => by
          have := hi.closedIff.mpr hp; rw [hch] at this; cases this
        rw [hcl, hz, if_pos rfl] at hb
        have ⟨e, hw⟩ : ∃ e, s.wpc = .cuClose e := Classical.byContradiction fun hn => by
          rw [cuTerm_zero_of_ne _ fun e he => hn ⟨e, he⟩] at hb; cases hb
        exact (no .wCleanupClose (by rw [CancelH2.guard, hw])).elim
  have hret : ∃ r, s.rpc = .returned r := by
    cases hr : s.rpc with
    | returned r => exact ⟨r, rfl⟩
    | select => exact (no .rCtx (by rw [CancelH2.guard, hr, hc]; rfl)).elim
    | waitDone => exact (no .rWaitDone (by rw [CancelH2.guard, hr, hc, Bool.or_true]; rfl)).elim
    | hdrWaitDone => exact (no .rHdrWaitDone (by rw [CancelH2.guard, hr, hc, Bool.or_true]; rfl)).elim
    | waitBody e => exact (no .rWaitBody (by rw [CancelH2.guard, hr, hcc]; rfl)).elim
  refine ⟨?_, hcloser, hret⟩
  cases hw : s.wpc with
  | done => rfl
  | hdrMu => exact (no .wHdrMuCancel (by rw [CancelH2.guard, hw, hc]; rfl)).elim
  | slot =>
    -- the caller has left its select without response headers: the stream is aborted
    obtain ⟨r, hr⟩ := hret
    have hab := (hi.rLeft (by rw [hr]; nofun)).resolve_left fun hx => by
      have := hi.respSent hx; rw [hi.preHdr (.inr (.inl hw))] at this; cases this
    exact (no .wSlotAbort (by rw [CancelH2.guard, hw, hab]; rfl)).elim
  | headers => exact (no .wHeaders (by rw [CancelH2.guard, hw]; rfl)).elim
  | cont => exact (no .wContCancel (by rw [CancelH2.guard, hw, hcan]; rfl)).elim
  | bodyRead =>
    cases hz : s.closes with
    | zero => exact (no .wReadChunk (by rw [CancelH2.guard, hw, hz]; rfl)).elim
    | succ n =>
      have hch := hi.closedIff.mpr (by rw [hz]; exact Nat.succ_pos n)
      have hcl : s.claimed = true := by
        cases hcl : s.claimed with
        | true => rfl
        | false => rw [hcl, hz, if_neg Bool.false_ne_true] at hb; omega
      exact (no .wBodyStop (by rw [CancelH2.guard, hw, hcl, hch]; rfl)).elim
  | flow => exact (no .wFlowExit (by rw [CancelH2.guard, hw, hcan, Bool.or_true]; rfl)).elim
  | data => exact (no .wData (by rw [CancelH2.guard, hw]; rfl)).elim
  | endStream => exact (no .wEndStream (by rw [CancelH2.guard, hw]; rfl)).elim
  | peer => exact (no .wPeerAbort (by rw [CancelH2.guard, hw, hcan]; rfl)).elim
  | cleanup e => exact (no .wCleanupClaim (by rw [CancelH2.guard, hw])).elim
  | cuClose e => exact (no .wCleanupClose (by rw [CancelH2.guard, hw])).elim
  | cuWait e => exact (no .wCleanupFinish (by rw [CancelH2.guard, hw, hcc]; rfl)).elim

theorem stuck_released (s : St) (hi : Inv s) (hc : s.ctx.isSome = true) (hs : stuck s = true) :
    released s = true := by
  obtain ⟨hdone, hcloser, r, hr⟩ := stuck_finished s hi hc hs
  have hmu : s.hdrMuHeld = false := Bool.eq_false_iff.mpr
    (hi.not_locked hdone nofun nofun)
  unfold released
  rw [hdone, hi.donecIff.mpr hdone, hcloser, hi.doneNoID hdone, hmu, hr]
  cases hb : s.hasBody with
  | false => rfl
  | true =>
    have hacct := hi.bodyAcct
    rw [hi.cuClaimed (by rw [hdone]; rfl) hb, hcloser, hdone] at hacct
    have h1 : s.closes = 1 := hacct
    rw [h1, hi.closedIff.mpr (by rw [h1]; decide)]
    rfl

/-- the error `cleanupWriteRequest` runs with, once the writer has got there -/
def cuErr : WPc → Option WErr
  | .cleanup x | .cuClose x | .cuWait x => some x
  | _ => none

theorem cuErr_none {p : WPc} (h : ∀ x, p ≠ .cleanup x ∧ p ≠ .cuClose x ∧ p ≠ .cuWait x) :
    cuErr p = none := by
  cases p with
  | cleanup x => exact absurd rfl (h x).1
  | cuClose x => exact absurd rfl (h x).2.1
  | cuWait x => exact absurd rfl (h x).2.2
  | _ => rfl

/-- along the internal steps after a cancellation that found the caller in its select, with no
response headers and no earlier abort: everything that gets recorded is the cancellation -/
structure RecordsCancel (e : CtxErr) (s : St) : Prop where
  ctx : s.ctx = some e
  noHdr : s.respHdr = false
  noPeer : s.peerClosed = false
  ab : s.abort = none ∨ s.abort = some (.ctx e)
  cu : cuErr s.wpc = none ∨ cuErr s.wpc = some (.ctx e)
  rp : s.rpc = .select ∨ s.abort = some (.ctx e) ∧
    (s.rpc = .waitBody e ∨ s.rpc = .waitDone ∨ s.rpc = .returned (.err (.ctx e)))
  done : ∀ i, s.cu = some i → i.err = .ctx e ∧ s.abort = some (.ctx e)

theorem RecordsCancel.errOfCtx_eq {e : CtxErr} {s : St} (h : RecordsCancel e s) : errOfCtx s = .ctx e := by
  unfold errOfCtx
  rcases h.ab with ha | ha <;> simp [ha, h.ctx]

theorem RecordsCancel.abort {e : CtxErr} {s : St} (h : RecordsCancel e s) :
    RecordsCancel e (abortStream s (.ctx e)) ∧ (abortStream s (.ctx e)).abort = some (.ctx e) := by
  rw [abortStream_eq]
  have hab : s.abort.or (some (.ctx e)) = some (.ctx e) := by
    rcases h.ab with ha | ha <;> rw [ha] <;> rfl
  exact ⟨{ h with ab := .inr hab, rp := h.rp.imp_right fun hr => ⟨hab, hr.2⟩,
                  done := fun i hi => ⟨(h.done i hi).1, hab⟩ }, hab⟩

theorem RecordsCancel.left {e : CtxErr} {s : St} (h : RecordsCancel e s) {q : RPc} (hq : s.rpc = q) (hs : q ≠ .select) :
    s.abort = some (.ctx e) ∧
      (s.rpc = .waitBody e ∨ s.rpc = .waitDone ∨ s.rpc = .returned (.err (.ctx e))) :=
  h.rp.resolve_left (hq ▸ hs)

theorem RecordsCancel.act {e : CtxErr} {s : St} {a : Act} (h : RecordsCancel e s) (hg : CancelH2.guard s a = true) :
    RecordsCancel e (apply s a) := by
  have herr : some (errOfCtx s) = some (.ctx e) := congrArg some (RecordsCancel.errOfCtx_eq h)
  cases a
  case wCleanupClaim =>
    obtain ⟨x, hw⟩ := guard_claim hg
    have hcu := h.cu
    simp only [apply, hw]
    rw [hw] at hcu
    split <;> exact { h with cu := hcu }
  case wCleanupClose =>
    obtain ⟨x, hw⟩ := guard_close hg
    have hcu := h.cu
    simp only [apply, hw]
    rw [hw] at hcu
    exact { h with cu := hcu }
  case wCleanupFinish =>
    obtain ⟨x, hw⟩ := guard_finish hg
    have hx : some x = some (.ctx e) := by
      have := h.cu; rw [hw] at this; exact this.resolve_left nofun
    cases hx
    have heff : CleanupIn.effErr ⟨.ctx e, s.sentHeaders, s.sentEnd, s.peerClosed⟩ = .ctx e := by
      simp [CleanupIn.effErr, h.noPeer]
    have hA := RecordsCancel.abort h
    simp only [apply, hw]
    rw [heff, if_pos nofun]
    exact { hA.1 with cu := .inl rfl, done := fun i hi => by cases hi; exact ⟨rfl, hA.2⟩ }
  case rCtx =>
    have hA := RecordsCancel.abort h
    simp only [apply, h.ctx]
    exact { hA.1 with rp := .inr ⟨hA.2, .inl rfl⟩ }
  case rWaitBody =>
    obtain ⟨e', hr⟩ := guard_waitBody hg
    obtain ⟨hab, hrp⟩ := h.left hr nofun
    simp only [apply, hr]
    rw [hr] at hrp
    have he : e' = e := by rcases hrp with hx | hx | hx <;> cases hx; rfl
    subst he
    exact { h with rp := .inr ⟨hab, .inr (.inr rfl)⟩ }
  case closerRun => exact { h with }
  all_goals simp only [CancelH2.guard, Bool.and_eq_true, beq_iff_eq, Bool.or_eq_true] at hg
  case wHdrMuCancel | wSlotAbort | wContCancel | wPeerAbort => exact { h with cu := .inr herr }
  case wHeaders =>
    simp only [apply]
    split
    · exact { h with cu := .inr herr }
    · split
      · exact { h with cu := .inl rfl }
      · split <;> exact { h with cu := .inl rfl }
  case wReadChunk | wReadEOF | wBodyStop | wData => exact { h with cu := .inl rfl }
  case wFlowExit =>
    simp only [apply]
    split
    · exact { h with cu := .inl rfl }
    · exact { h with cu := .inr herr }
  case wEndStream =>
    simp only [apply]
    split
    · next a ha => exact { h with cu := .inr (ha.symm.trans (h.ab.resolve_left (by rw [ha]; nofun))) }
    · exact { h with cu := .inl rfl }
  case wPeerDone => rw [h.noPeer] at hg; cases hg.2
  case rHeaders => rw [h.noHdr] at hg; cases hg.2
  case rAbort =>
    have hab := h.ab.resolve_left (by intro hn; rw [hn] at hg; cases hg.1.2)
    exact { h with rp := .inr ⟨hab, .inr (.inl rfl)⟩ }
  case rWaitDone =>
    obtain ⟨hab, -⟩ := h.left hg.1 nofun
    exact { h with rp := .inr ⟨hab, .inr (.inr (by
      show RPc.returned (.err (s.abort.getD .other)) = _; rw [hab]; rfl))⟩ }
  case rHdrWaitDone =>
    obtain ⟨-, hrp⟩ := h.left hg.1 nofun
    rw [hg.1] at hrp
    exact nomatch hrp

end Req.Lemmas.CancelH2
