import Req.Lemmas.C03H2Run
/-!
C03 — HTTP/2: what the connection pool may do with the connection after the events of a stream
(`canTakeNewRequest`, `inPool` never improve; connection-fatal events; stream-level failures).
-/
namespace Req.C03
open Req.Proto Req.C02

theorem step_connDead (x : H2X) (e : H2XEv) (h : x.st.connDead = true) : (x.step e).st.connDead = true := by
  rw [step_st]
  cases e with
  | headers fs es => simp [H2Stream.processHeaders, h]
  | data p pad es => simp [H2Stream.processData, h]
  | rst c => simp [H2Stream.processRst, h]
  | connLost => exact ce_connDead _
  | goAway last code => simp [h]

theorem step_goAway_dead (x : H2X) (last code : Nat) (h : x.st.connDead = true) : x.step (.goAway last code) = x := by
  simp only [H2X.step, h, if_true]

theorem step_goAway_live (x : H2X) (last code : Nat) (h : x.st.connDead = false) :
    (x.step (.goAway last code)).inPool = false ∧ (x.step (.goAway last code)).goAway.isSome = true := by
  simp only [H2X.step, h, Bool.false_eq_true, if_false]
  split <;> exact ⟨rfl, rfl⟩

/-- Connection-level facts never improve: a connection that stopped taking requests stays so. -/
theorem canTake_step (x : H2X) (e : H2XEv) (h : (x.step e).canTakeNewRequest = true) :
    x.canTakeNewRequest = true := by
  have hd := step_connDead x e
  simp only [H2X.canTakeNewRequest, Bool.and_eq_true, Bool.not_eq_true', Option.isNone_iff_eq_none] at h ⊢
  obtain ⟨⟨hg, hcd⟩, hdn⟩ := h
  have hcd0 : x.st.connDead = false := by
    cases hc : x.st.connDead with
    | false => rfl
    | true => rw [hd hc] at hcd; simp at hcd
  cases e with
  | headers fs es => exact ⟨⟨hg, hcd0⟩, hdn⟩
  | data p pad es => exact ⟨⟨hg, hcd0⟩, hdn⟩
  | rst c =>
    simp only [H2X.step, Bool.or_eq_false_iff] at hdn
    exact ⟨⟨hg, hcd0⟩, hdn.1⟩
  | connLost => exact ⟨⟨hg, hcd0⟩, hdn⟩
  | goAway last code => have := (step_goAway_live x last code hcd0).2; simp [hg] at this

theorem inPool_step (x : H2X) (e : H2XEv) (h : (x.step e).inPool = true) : x.inPool = true := by
  cases e with
  | headers fs es => exact (Bool.and_eq_true _ _ ▸ h).1
  | data p pad es => exact (Bool.and_eq_true _ _ ▸ h).1
  | rst c => exact h
  | connLost => cases h
  | goAway last code =>
    cases hc : x.st.connDead with
    | true => rwa [step_goAway_dead x last code hc] at h
    | false => rw [(step_goAway_live x last code hc).1] at h; cases h

/-- Connection-fatal events: GOAWAY seen by a live read loop, or the loop ending. -/
def H2XEv.fatal : H2XEv → Bool
  | .goAway _ _ => true
  | .connLost => true
  | _ => false

theorem fatal_step (x : H2X) (e : H2XEv) (hf : e.fatal = true) :
    (x.step e).canTakeNewRequest = false ∧ ((x.step e).inPool = false ∨ x.st.connDead = true) := by
  cases e with
  | headers fs es => cases hf
  | data p pad es => cases hf
  | rst c => cases hf
  | connLost =>
    refine ⟨?_, Or.inl rfl⟩
    simp [H2X.canTakeNewRequest, H2X.step, ce_connDead]
  | goAway last code =>
    cases hc : x.st.connDead with
    | true => rw [step_goAway_dead x last code hc]; exact ⟨by simp [H2X.canTakeNewRequest, hc], Or.inr rfl⟩
    | false =>
      obtain ⟨h1, h2⟩ := step_goAway_live x last code hc
      refine ⟨?_, Or.inl h1⟩
      cases hg : (x.step (.goAway last code)).goAway with
      | none => rw [hg] at h2; cases h2
      | some g => simp [H2X.canTakeNewRequest, hg]

/-- A connection whose read loop is gone is out of the pool: kept by every event. -/
theorem deadOut_step (x : H2X) (e : H2XEv) (hp : x.st.connDead = true → x.inPool = false)
    (hd : (x.step e).st.connDead = true) : (x.step e).inPool = false := by
  cases hc : x.st.connDead with
  | true =>
    cases hip : (x.step e).inPool with
    | false => rfl
    | true => have := inPool_step x e hip; rw [hp hc] at this; simp at this
  | false =>
    cases e with
    | headers fs es => simp only [H2X.step] at hd ⊢; simp [hd]
    | data p pad es => simp only [H2X.step] at hd ⊢; simp [hd]
    | rst c =>
      simp only [H2X.step, H2Stream.processRst, hc] at hd
      split at hd <;> simp [hc] at hd
    | connLost => rfl
    | goAway last code => exact (step_goAway_live x last code hc).1

/-- After a connection-fatal event, whatever follows, the connection takes no new request and
is out of the pool. -/
theorem fatal_run (x : H2X) (ops : List H2XOp) (hf : ∃ e ∈ evsOf ops, H2XEv.fatal e = true)
    (hp : x.st.connDead = true → x.inPool = false) :
    (x.run ops).2.canTakeNewRequest = false ∧ (x.run ops).2.inPool = false := by
  -- until the fatal event: the dead-is-out invariant; from it on: both flags are down, and stay down
  refine ((run_ind (φ := fun _ => True) (O := []) (D := [])
    (Q := fun y _ _ rest => (y.st.connDead = true → y.inPool = false) ∧
      ((∃ e ∈ evsOf rest, H2XEv.fatal e = true) ∨ (y.canTakeNewRequest = false ∧ y.inPool = false)))
    ?_ ?_ (fun _ _ _ _ _ _ h => ⟨trivial, h⟩) ?_ ops ⟨hp, .inl hf⟩).2.2).resolve_left (fun ⟨_, h, _⟩ => nomatch h)
  · intro y _ _ e rest ⟨hp, h⟩
    refine ⟨deadOut_step y e hp, ?_⟩
    rcases h with ⟨e', he', hf⟩ | ⟨h1, h2⟩
    · rcases List.mem_cons.mp he' with rfl | he'
      · obtain ⟨a, b⟩ := fatal_step y e' hf
        exact .inr ⟨a, b.elim id fun hd => deadOut_step y e' hp (step_connDead y e' hd)⟩
      · exact .inl ⟨e', he', hf⟩
    · exact .inr ⟨Bool.eq_false_iff.mpr fun hc => Bool.eq_false_iff.mp h1 (canTake_step y e hc),
        Bool.eq_false_iff.mpr fun hc => Bool.eq_false_iff.mp h2 (inPool_step y e hc)⟩
  · intro y _ _ _ ⟨hp, h⟩
    exact ⟨by simpa [H2X.closeBody] using hp,
      h.imp id fun ⟨a, b⟩ => ⟨by simpa [H2X.canTakeNewRequest, H2X.closeBody] using a, b⟩⟩
  · intro y _ _ k d e st' _ hr ⟨hp, h⟩
    have hc := (read_rdsame hr).connDead
    exact ⟨trivial, by simpa [hc] using hp,
      h.imp id fun ⟨a, b⟩ => ⟨by simpa [H2X.canTakeNewRequest, hc] using a, b⟩⟩

/-- Stream-level events: HEADERS, DATA, RST_STREAM with a code other than PROTOCOL_ERROR. -/
def H2XEv.streamLevel : H2XEv → Bool
  | .headers _ _ => true
  | .data _ _ _ => true
  | .rst c => c != ErrCodeProtocol
  | _ => false

/-- A failure of the stream alone (any RST_STREAM code but PROTOCOL_ERROR, a short or over-long
body, the caller giving up) leaves the connection in the pool and able to take the next request,
as long as the read loop itself did not fail. -/
theorem stream_level_run (x : H2X) (ops : List H2XOp) (hs : ∀ e ∈ evsOf ops, H2XEv.streamLevel e = true)
    (h0 : x.canTakeNewRequest = true) (h1 : x.inPool = true)
    (hfin : (x.run ops).2.st.connDead = false) :
    (x.run ops).2.canTakeNewRequest = true ∧ (x.run ops).2.inPool = true := by
  -- the read loop alive at the end was alive all along (`step_connDead`)
  refine (run_ind (φ := fun _ => True) (O := []) (D := [])
    (Q := fun y _ _ rest => (∀ e ∈ evsOf rest, H2XEv.streamLevel e = true) ∧
      (y.st.connDead = false → y.canTakeNewRequest = true ∧ y.inPool = true))
    ?_ ?_ (fun _ _ _ _ _ _ h => ⟨trivial, h⟩) ?_ ops ⟨hs, fun _ => ⟨h0, h1⟩⟩).2.2 hfin
  · intro y _ _ e rest ⟨hs, hq⟩
    refine ⟨fun e' h => hs e' (List.mem_cons_of_mem _ h), fun hd => ?_⟩
    have he := hs e (List.mem_cons_self ..)
    have hd0 : y.st.connDead = false := by
      cases hc : y.st.connDead with
      | false => rfl
      | true => rw [step_connDead y e hc] at hd; cases hd
    obtain ⟨h0, h1⟩ := hq hd0
    simp only [H2X.canTakeNewRequest, Bool.and_eq_true, Bool.not_eq_true', Option.isNone_iff_eq_none] at h0 ⊢
    cases e with
    | headers fs es => simp only [H2X.step] at hd ⊢; simp [h0.1.1, h0.2, h1, hd]
    | data p pad es => simp only [H2X.step] at hd ⊢; simp [h0.1.1, h0.2, h1, hd]
    | rst c =>
      have hc : (c == ErrCodeProtocol) = false := by simpa [H2XEv.streamLevel] using he
      simp only [H2X.step, hc, Bool.and_false, Bool.or_false] at hd ⊢
      exact ⟨⟨⟨h0.1.1, hd⟩, h0.2⟩, h1⟩
    | connLost => cases he
    | goAway last code => cases he
  · intro y _ _ _ ⟨hs, hq⟩
    exact ⟨hs, fun hd => by simpa [H2X.canTakeNewRequest, H2X.closeBody] using hq (by simpa [H2X.closeBody] using hd)⟩
  · intro y _ _ k d e st' _ hr ⟨hs, hq⟩
    have hc := (read_rdsame hr).connDead
    refine ⟨trivial, hs, fun hd => ?_⟩
    simp only at hd
    simpa [H2X.canTakeNewRequest, hc] using hq (hc ▸ hd)

end Req.C03
