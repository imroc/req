import Req.H2.BodyWrite
/-! `Req.H2.BodyWrite`. A `Read` is known through `ReadSpec` (`read_spec`) alone, here and in the
HTTP/1.1 and HTTP/3 files; `writeBody` through `loop_spec` (content, END_STREAM), `loop_forall` (each
frame), `loop_avails` (windows) and `loop_progress` (the fuel suffices for a reader that ends with
`io.EOF`). -/
namespace Req.Lemmas.C01Body
open Req.Proto Req.H2.BodyWrite

theorem take_eq (a rem mf : Nat) : take a rem mf = min a (min rem mf) := by
  -- each of the two `if`s of `awaitTake` is a minimum
  have hmin : ∀ x y : Nat, (if (x : Int) > y then (y : Int) else x) = ((min x y : Nat) : Int) := by
    intro x y; split <;> omega
  unfold take Req.H2.Conn.awaitTake
  simp only [hmin, Int.toNat_natCast, Nat.min_assoc]

theorem take_le (a rem mf : Nat) : take a rem mf ≤ a ∧ take a rem mf ≤ rem ∧ take a rem mf ≤ mf := by
  rw [take_eq]
  exact ⟨Nat.min_le_left .., Nat.le_trans (Nat.min_le_right ..) (Nat.min_le_left ..),
    Nat.le_trans (Nat.min_le_right ..) (Nat.min_le_right ..)⟩

theorem take_pos {a rem mf : Nat} (ha : 0 < a) (hr : 0 < rem) (hm : 0 < mf) : 0 < take a rem mf := by
  rw [take_eq]
  exact Nat.lt_min.mpr ⟨ha, Nat.lt_min.mpr ⟨hr, hm⟩⟩

theorem want_le (r : Reader) (buf : Nat) : r.want buf ≤ buf := by
  unfold Reader.want
  split <;> omega

/-- what one `Read(p)`, `len(p) = buf`, that returned `(chunk, e)` and left the reader `r1` has done;
the copy loops of the three protocols and the probe of `newTransferWriter` know a `Read` through this
only. `sizes.length + data.length` (`measure_le`, `measure`) is what the fuel of every copy loop
counts down: `fuelFor r` is that number plus 2. -/
structure ReadSpec (r : Reader) (buf : Nat) (chunk : Bytes) (e : RErr) (r1 : Reader) : Prop where
  data : chunk ++ r1.data = r.data
  ending : r1.ending = r.ending
  len : chunk.length ≤ buf
  eof : e = .eof → r1.data = []
  measure_le : r1.sizes.length + r1.data.length ≤ r.sizes.length + r.data.length
  measure : 1 ≤ buf → r.data ≠ [] → r1.sizes.length + r1.data.length < r.sizes.length + r.data.length
  honest : r.ending = .eof ∨ r.ending = .eofWithLast → e ≠ .fail
  atEnd : r.data = [] → (r.ending = .eof ∨ r.ending = .eofWithLast) → chunk = [] ∧ e = .eof ∧ r1 = r

theorem read_spec {r : Reader} {buf : Nat} {chunk : Bytes} {e : RErr} {r1 : Reader}
    (h : r.read buf = (chunk, e, r1)) : ReadSpec r buf chunk e r1 := by
  unfold Reader.read at h
  split at h
  next hd =>
    cases h
    have hd := List.isEmpty_iff.mp hd
    have he : r.ending = .eof ∨ r.ending = .eofWithLast →
        (if r.ending = .error ∨ r.ending = .errorWithLast then RErr.fail else .eof) = .eof :=
      fun hend => by rcases hend with h | h <;> simp [h]
    exact ⟨by simp, rfl, Nat.zero_le _, fun _ => hd, Nat.le_refl _, fun _ hne => absurd hd hne,
      fun hend => by rw [he hend]; nofun, fun _ hend => ⟨rfl, he hend, rfl⟩⟩
  next hd =>
    cases h
    have hpos : 0 < r.data.length := List.length_pos_iff.mpr fun h => hd (by simp [h])
    have hw := want_le r buf
    refine ⟨List.take_append_drop .., rfl, by simp only [List.length_take]; omega, fun he => ?_, ?_,
      fun hb _ => ?_, fun hend => ?_, fun h => absurd (by simp [h]) hd⟩
    · by_cases hr : (List.drop (r.want buf) r.data).isEmpty = true
      · exact List.isEmpty_iff.mp hr
      · simp [hr] at he
    · simp only [List.length_drop, List.length_tail]; omega
    · simp only [List.length_drop, List.length_tail]
      unfold Reader.want at hw ⊢
      cases r.sizes with
      | nil => simp only [List.length_nil]; omega
      | cons s ss => simp only [List.length_cons]; omega
    · split
      · rcases hend with h | h <;> simp [h]
      · simp

/-- a `Read` followed by one that returned no bytes is a `Read` (the double check of `writeRequestBody`) -/
theorem ReadSpec.then_nil {r r1 r2 : Reader} {buf b2 : Nat} {chunk : Bytes} {e e1 : RErr}
    (h1 : ReadSpec r buf chunk e r1) (h2 : ReadSpec r1 b2 [] e1 r2) (he : e = .none) :
    ReadSpec r buf chunk e1 r2 := by
  have hd : r2.data = r1.data := h2.data
  refine ⟨by rw [hd]; exact h1.data, h2.ending.trans h1.ending, h1.len, h2.eof,
    Nat.le_trans h2.measure_le h1.measure_le,
    fun hb hne => Nat.lt_of_le_of_lt h2.measure_le (h1.measure hb hne),
    fun hend => h2.honest (h1.ending ▸ hend), fun hd0 hend => ?_⟩
  obtain ⟨_, he', _⟩ := h1.atEnd hd0 hend
  rw [he] at he'; cases he'

theorem optChunk_flatten (c : Bytes) :
    (if c.isEmpty = true then ([] : List Bytes) else [c]).flatten = c := by
  split
  next h => simp [List.isEmpty_iff.mp h]
  next h => simp

theorem optChunk_mem {c w : Bytes} (hw : w ∈ (if c.isEmpty = true then ([] : List Bytes) else [c])) :
    w = c ∧ c ≠ [] := by
  split at hw
  · cases hw
  next h => exact ⟨List.mem_singleton.mp hw, fun hc => h (by simp [hc])⟩

def NoEnd (fs : List Sent) : Prop := ∀ s ∈ fs, s.frame.endStream = false

/-- END_STREAM on exactly one frame, and it is the last one -/
def EndsOnce (fs : List Sent) : Prop :=
  ∃ init s, fs = init ++ [s] ∧ s.frame.endStream = true ∧ NoEnd init

theorem noEnd_nil : NoEnd [] := by intro s hs; cases hs

theorem noEnd_append {a b : List Sent} (ha : NoEnd a) (hb : NoEnd b) : NoEnd (a ++ b) := by
  intro s hs
  rcases List.mem_append.mp hs with h | h
  · exact ha s h
  · exact hb s h

theorem noEnd_cons {s : Sent} {l : List Sent} (hs : s.frame.endStream = false) (hl : NoEnd l) :
    NoEnd (s :: l) := by
  intro x hx
  rcases List.mem_cons.mp hx with h | h
  · rw [h]; exact hs
  · exact hl x h

theorem endsOnce_prepend {a b : List Sent} (ha : NoEnd a) (hb : EndsOnce b) : EndsOnce (a ++ b) := by
  obtain ⟨init, s, rfl, hs, hi⟩ := hb
  exact ⟨a ++ init, s, by simp, hs, noEnd_append ha hi⟩

theorem payloads_append (a b : List Frame) : payloads (a ++ b) = payloads a ++ payloads b := by
  simp [payloads]

theorem frames_append (a b : List Sent) : frames (a ++ b) = frames a ++ frames b := by
  simp [frames]

theorem sendChunk_nil (mf : Nat) (last : Bool) (av : List Nat) : sendChunk mf last [] av = ([], some av) := by
  cases av <;> simp [sendChunk]

/-- `last && !rem.isEmpty` is the test `writeRequestBody` makes before it adds a closing frame -/
theorem sendChunk_spec (mf : Nat) (last : Bool) (av : List Nat) (rem : Bytes) :
      (∃ tail, payloads (frames (sendChunk mf last rem av).1) ++ tail = rem ∧
        ((sendChunk mf last rem av).2.isSome → tail = [])) ∧
      ((sendChunk mf last rem av).2 = none → NoEnd (sendChunk mf last rem av).1) ∧
      ((last && !rem.isEmpty) = false → NoEnd (sendChunk mf last rem av).1) ∧
      ((sendChunk mf last rem av).2.isSome → (last && !rem.isEmpty) = true →
        EndsOnce (sendChunk mf last rem av).1) := by
  fun_induction sendChunk mf last rem av with
  | case1 | case2 => simp [payloads, frames, NoEnd]
  | case3 _ _ _ _ _ _ ih => exact ih
  | case4 b bs a av n hn rest fs r hsc ih =>
    rw [hsc] at ih
    obtain ⟨⟨tail, htail, hdone⟩, hblocked, hnolast, hends⟩ := ih
    -- the frame cut here carries END_STREAM only when nothing is left
    have hflag : rest ≠ [] → NoEnd [(⟨a, .data ((b :: bs).take n) (last && rest.isEmpty)⟩ : Sent)] :=
      fun he => noEnd_cons (by simp [Frame.endStream, he]) noEnd_nil
    simp only [List.isEmpty_cons, Bool.not_false, Bool.and_true]
    refine ⟨⟨tail, ?_, hdone⟩, fun hr => ?_, fun hl => ?_, fun hr hl => ?_⟩
    · simp only [frames, payloads, List.map_cons, List.flatten_cons, Frame.payload] at htail ⊢
      rw [List.append_assoc, htail, List.take_append_drop]
    · refine noEnd_append (hflag fun he => ?_) (hblocked hr)
      rw [he, sendChunk_nil] at hsc
      cases hsc
      cases hr
    · exact noEnd_cons (by simp [Frame.endStream, hl]) (hnolast (by simp [hl]))
    · by_cases he : rest = []
      · rw [he, sendChunk_nil] at hsc
        cases hsc
        exact ⟨[], _, rfl, by simp [Frame.endStream, hl, he], noEnd_nil⟩
      · exact endsOnce_prepend (hflag he) (hends hr (by simp [hl, he]))

theorem finish_send (hasCL : Bool) (chunk : Bytes) (remain : Int) (e : RErr) (r : Reader)
    (c : Bytes) (s : Bool) (remain' : Int) (r' : Reader)
    (h : finish hasCL chunk remain e r = .send c s remain' r') :
    c = chunk ∧ s = (e == .eof) ∧ remain' = remain ∧ r' = r ∧ (hasCL = true → 0 ≤ remain) := by
  unfold finish at h
  split at h
  · exact absurd h (by simp)
  next h1 =>
    split at h
    · exact absurd h (by simp)
    · simp only [Step.send.injEq] at h
      obtain ⟨rfl, rfl, rfl, rfl⟩ := h
      refine ⟨rfl, rfl, rfl, rfl, ?_⟩
      intro hc
      simp only [hc, Bool.true_and, decide_eq_true_eq] at h1
      omega

theorem finish_stop (hasCL : Bool) (chunk : Bytes) (remain : Int) (e : RErr) (r : Reader) (o : Outcome)
    (h : finish hasCL chunk remain e r = .stop o) : o ≠ .done := by
  unfold finish at h
  split at h
  · simp only [Step.stop.injEq] at h; rw [← h]; simp
  · split at h
    · simp only [Step.stop.injEq] at h; rw [← h]; simp
    · exact absurd h (by simp)

theorem readStep_stop (cfg : Cfg) (remain : Int) (r : Reader) (o : Outcome)
    (h : readStep cfg remain r = .stop o) : o ≠ .done := by
  unfold readStep at h
  simp only at h
  split at h
  · split at h
    · exact finish_stop _ _ _ _ _ _ h
    · exact finish_stop _ _ _ _ _ _ h
  · exact finish_stop _ _ _ _ _ _ h

theorem readStep_send (cfg : Cfg) (remain : Int) (r : Reader) (chunk : Bytes) (sawEOF : Bool)
    (remain' : Int) (r' : Reader) (h : readStep cfg remain r = .send chunk sawEOF remain' r') :
    ∃ e, ReadSpec r cfg.buf chunk e r' ∧ sawEOF = (e == .eof) ∧
      (cfg.cl.isSome → remain' = remain - chunk.length ∧ 0 ≤ remain') := by
  unfold readStep at h
  rcases hr : r.read cfg.buf with ⟨chunk0, e, r1⟩
  rcases hr1 : r1.read 1 with ⟨c1, e1, r2⟩
  have hs := read_spec hr
  have hs1 := read_spec hr1
  simp only [hr, hr1] at h
  split at h
  next hcl =>
    split at h
    next hp =>
      -- the double-check read happened, and returned no byte (else `remainLen < 0`)
      obtain ⟨rfl, rfl, rfl, rfl, hge⟩ := finish_send _ _ _ _ _ _ _ _ _ h
      have hge := hge rfl
      simp only [Bool.and_eq_true, beq_iff_eq] at hp
      have hc1 : c1 = [] := List.eq_nil_of_length_eq_zero (by omega)
      subst hc1
      exact ⟨e1, hs.then_nil hs1 hp.2, rfl, fun _ => ⟨by simp, by simpa using hge⟩⟩
    next hp =>
      obtain ⟨rfl, rfl, rfl, rfl, hge⟩ := finish_send _ _ _ _ _ _ _ _ _ h
      exact ⟨e, hs, rfl, fun _ => ⟨rfl, hge rfl⟩⟩
  next hcl =>
    obtain ⟨rfl, rfl, rfl, rfl, _⟩ := finish_send _ _ _ _ _ _ _ _ _ h
    exact ⟨e, hs, rfl, fun h' => absurd h' hcl⟩

theorem closing_endStream (cfg : Cfg) : (closing cfg).frame.endStream = true := by
  unfold closing; split <;> rfl

theorem closing_payload (cfg : Cfg) : (closing cfg).frame.payload = [] := by
  unfold closing; split <;> rfl

/-- conjuncts 1, 2 and 4 together are `h2_body_exact`, conjunct 1 alone `h2_data_is_body_prefix`,
conjunct 3 `h2_no_end_stream_unless_done` (Props/C01Body.lean). -/
theorem loop_spec (cfg : Cfg) :
    ∀ (fuel : Nat) (remain : Int) (r : Reader) (av : List Nat),
      (∃ tail, payloads (frames (loop cfg fuel remain r av).1) ++ tail = r.data ∧
        ((loop cfg fuel remain r av).2 = .done → tail = [])) ∧
      ((loop cfg fuel remain r av).2 = .done → EndsOnce (loop cfg fuel remain r av).1) ∧
      ((loop cfg fuel remain r av).2 ≠ .done → NoEnd (loop cfg fuel remain r av).1) ∧
      (cfg.cl.isSome → (loop cfg fuel remain r av).2 = .done → (r.data.length : Int) ≤ remain) := by
  intro fuel
  induction fuel with
  | zero =>
    intro remain r av
    simp only [loop]
    exact ⟨⟨r.data, by simp [payloads, frames], by simp⟩, by simp, fun _ => noEnd_nil, by simp⟩
  | succ fuel ih =>
    intro remain r av
    simp only [loop]
    cases hstep : readStep cfg remain r with
    | stop o =>
      simp only
      have hno : o ≠ .done := readStep_stop cfg remain r o hstep
      exact ⟨⟨r.data, by simp [payloads, frames], fun h => absurd h hno⟩,
        fun h => absurd h hno, fun _ => noEnd_nil, fun _ h => absurd h hno⟩
    | send chunk sawEOF remain' r' =>
      simp only
      obtain ⟨e, hrd, hse, hcl⟩ := readStep_send cfg remain r chunk sawEOF remain' r' hstep
      have hdata := hrd.data
      have heofd : sawEOF = true → r'.data = [] := fun h => hrd.eof (by simpa [hse] using h)
      obtain ⟨⟨t1, ht1, ht1d⟩, hb1, hnl1, he1⟩ :=
        sendChunk_spec cfg.maxFrame (sawEOF && !cfg.hasTrailers) av chunk
      generalize hsc : sendChunk cfg.maxFrame (sawEOF && !cfg.hasTrailers) chunk av = res at *
      obtain ⟨fs, ro⟩ := res
      simp only at ht1 ht1d hb1 hnl1 he1
      cases ro with
      | none =>
        simp only
        refine ⟨⟨t1 ++ r'.data, ?_, by simp⟩, by simp, fun _ => hb1 rfl, by simp⟩
        rw [← List.append_assoc, ht1, hdata]
      | some av' =>
        simp only
        obtain rfl : t1 = [] := ht1d rfl
        rw [List.append_nil] at ht1
        cases sawEOF with
        | true =>
          simp only [if_true]
          have hchunk : chunk = r.data := by rw [← hdata, heofd rfl, List.append_nil]
          have hlen : cfg.cl.isSome → (r.data.length : Int) ≤ remain := by
            intro h
            obtain ⟨h1, h2⟩ := hcl h
            rw [← hchunk]; omega
          split
          next hlast =>
            exact ⟨⟨[], by simp [ht1, hchunk], by simp⟩, fun _ => he1 rfl hlast, by simp, fun h _ => hlen h⟩
          next hlast =>
            have hno : NoEnd fs := hnl1 (by simpa using hlast)
            refine ⟨⟨[], ?_, by simp⟩, fun _ => ⟨fs, _, rfl, closing_endStream cfg, hno⟩, by simp, fun h _ => hlen h⟩
            rw [frames_append, payloads_append, ht1, hchunk]
            simp [frames, payloads, closing_payload]
        | false =>
          simp only [Bool.false_eq_true, if_false]
          obtain ⟨⟨t2, ht2, ht2d⟩, hd2, hn2, hc2⟩ := ih remain' r' av'
          generalize hl : loop cfg fuel remain' r' av' = res2 at *
          obtain ⟨fs', o⟩ := res2
          simp only at ht2 ht2d hd2 hn2 hc2 ⊢
          have hnofs : NoEnd fs := hnl1 rfl
          refine ⟨⟨t2, ?_, ht2d⟩, ?_, ?_, ?_⟩
          · rw [frames_append, payloads_append, List.append_assoc, ht2, ht1, hdata]
          · intro ho
            exact endsOnce_prepend hnofs (hd2 ho)
          · intro ho
            exact noEnd_append hnofs (hn2 ho)
          · intro h ho
            obtain ⟨h1, h2⟩ := hcl h
            have := hc2 h ho
            rw [← hdata, List.length_append]
            omega

/-- every frame `sendChunk` cuts is a non-empty DATA frame within the window it saw and within the
peer's maximum frame size. -/
theorem sendChunk_forall (mf : Nat) (last : Bool) {P : Sent → Prop}
    (h : ∀ a p e, 0 < p.length → p.length ≤ a → p.length ≤ mf → P ⟨a, .data p e⟩)
    (av : List Nat) (rem : Bytes) : ∀ s ∈ (sendChunk mf last rem av).1, P s := by
  fun_induction sendChunk mf last rem av with
  | case1 | case2 => simp
  | case3 _ _ _ _ _ _ ih => exact ih
  | case4 b bs a av n hn rest fs r hsc ih =>
    rw [hsc] at ih
    obtain ⟨hle1, _, hle3⟩ : n ≤ a ∧ n ≤ (b :: bs).length ∧ n ≤ mf := take_le ..
    intro s hs
    rcases List.mem_cons.mp hs with rfl | hs
    · apply h <;> simp only [List.length_take] <;> omega
    · exact ih s hs

/-- every frame of `loop` is such a DATA frame, or the closing frame. -/
theorem loop_forall (cfg : Cfg) {P : Sent → Prop}
    (h : ∀ a p e, 0 < p.length → p.length ≤ a → p.length ≤ cfg.maxFrame → P ⟨a, .data p e⟩)
    (hc : P (closing cfg)) :
    ∀ (fuel : Nat) (remain : Int) (r : Reader) (av : List Nat),
      ∀ s ∈ (loop cfg fuel remain r av).1, P s := by
  intro fuel
  induction fuel with
  | zero => intro remain r av; simp [loop]
  | succ fuel ih =>
    intro remain r av
    simp only [loop]
    cases readStep cfg remain r with
    | stop o => simp
    | send chunk sawEOF remain' r' =>
      simp only
      have h1 := sendChunk_forall cfg.maxFrame (sawEOF && !cfg.hasTrailers) h av chunk
      generalize sendChunk cfg.maxFrame (sawEOF && !cfg.hasTrailers) chunk av = res at *
      obtain ⟨fs, ro⟩ := res
      cases ro with
      | none => exact h1
      | some av' =>
        simp only
        split
        · split
          · exact h1
          · intro s hs
            rcases List.mem_append.mp hs with hs | hs
            · exact h1 s hs
            · exact List.mem_singleton.mp hs ▸ hc
        · have h2 := ih remain' r' av'
          generalize loop cfg fuel remain' r' av' = res2 at *
          intro s hs
          rcases List.mem_append.mp hs with hs | hs
          · exact h1 s hs
          · exact h2 s hs

theorem originRead_endsOnce (cl : Option Nat) :
    ∀ (init : List Sent) (s : Sent) (acc : Bytes), NoEnd init → s.frame.endStream = true →
      originRead cl (frames (init ++ [s])) acc =
        if clMatches cl (acc ++ payloads (frames (init ++ [s]))).length
        then some (acc ++ payloads (frames (init ++ [s]))) else none := by
  intro init
  induction init with
  | nil =>
    intro s acc _ hs
    simp only [List.nil_append, frames, List.map_cons, List.map_nil, originRead, hs, if_true, payloads,
      List.flatten_cons, List.flatten_nil, List.append_nil, List.isEmpty_nil, Bool.true_and]
  | cons x xs ih =>
    intro s acc hno hs
    have hx : x.frame.endStream = false := hno x (by simp)
    have hxs : NoEnd xs := fun y hy => hno y (by simp [hy])
    have := ih s (acc ++ x.frame.payload) hxs hs
    simp only [List.cons_append, frames, List.map_cons, originRead, hx, Bool.false_eq_true, if_false]
    simp only [frames] at this
    rw [this]
    simp [payloads, List.append_assoc]

/-- with a positive window at every look and at least as many looks as bytes, a chunk is written
completely; what is left of the schedule is still long enough for the rest of the body -/
theorem sendChunk_progress (mf : Nat) (hmf : 1 ≤ mf) (last : Bool) (av : List Nat) (rem : Bytes)
    (hpos : ∀ a ∈ av, 0 < a) (hlen : rem.length ≤ av.length) :
      ∃ av', (sendChunk mf last rem av).2 = some av' ∧ (∀ a ∈ av', 0 < a) ∧
        av.length ≤ av'.length + rem.length := by
  fun_induction sendChunk mf last rem av with
  | case1 av => exact ⟨av, rfl, hpos, by simp⟩
  | case2 => simp at hlen
  | case3 b bs a av n hn ih =>
    exact absurd hn (Nat.ne_of_gt (take_pos (hpos a (by simp)) (Nat.succ_pos _) hmf))
  | case4 b bs a av n hn rest fs r hsc ih =>
    rw [hsc] at ih
    obtain ⟨av', h1, h2, h3⟩ := ih (fun x hx => hpos x (by simp [hx]))
      (by simp only [rest, List.length_drop, List.length_cons] at hlen ⊢; omega)
    exact ⟨av', h1, h2, by simp only [rest, List.length_drop, List.length_cons] at h3 ⊢; omega⟩

theorem finish_ok (hasCL : Bool) (chunk : Bytes) (remain : Int) (e : RErr) (r : Reader)
    (h1 : hasCL = true → 0 ≤ remain) (h2 : e ≠ .fail) :
    finish hasCL chunk remain e r = .send chunk (e == .eof) remain r := by
  have : (hasCL && decide (remain < 0)) = false := by
    cases hasCL
    · rfl
    · simpa using h1 rfl
  simp [finish, this, h2]

theorem readStep_ok (cfg : Cfg) (remain : Int) (r : Reader)
    (hend : r.ending = .eof ∨ r.ending = .eofWithLast)
    (hcl : cfg.cl.isSome → remain = r.data.length) :
    ∃ chunk sawEOF remain' r', readStep cfg remain r = .send chunk sawEOF remain' r' := by
  unfold readStep
  rcases hr : r.read cfg.buf with ⟨chunk0, e, r1⟩
  simp only
  rcases hr1 : r1.read 1 with ⟨c1, e1, r2⟩
  simp only
  have hs := read_spec hr
  have hs1 := read_spec hr1
  have hlen : r.data.length = chunk0.length + r1.data.length := by rw [← hs.data]; simp
  split
  next hc =>
    have hrem := hcl hc
    split
    next hp =>
      -- the declared length is used up: the double-check read finds the reader at its end
      simp only [Bool.and_eq_true, beq_iff_eq] at hp
      obtain ⟨rfl, rfl, rfl⟩ := hs1.atEnd (List.eq_nil_of_length_eq_zero (by omega)) (hs.ending ▸ hend)
      exact ⟨_, _, _, _, finish_ok _ _ _ _ _ (fun _ => by simp; omega) (by simp)⟩
    next => exact ⟨_, _, _, _, finish_ok _ _ _ _ _ (fun _ => by omega) (hs.honest hend)⟩
  next hc => exact ⟨_, _, _, _, finish_ok _ _ _ _ _ nofun (hs.honest hend)⟩

theorem loop_progress (cfg : Cfg) (hmf : 1 ≤ cfg.maxFrame) (hb : 1 ≤ cfg.buf) :
    ∀ (fuel : Nat) (remain : Int) (r : Reader) (av : List Nat),
      fuelFor r ≤ fuel →
      (r.ending = .eof ∨ r.ending = .eofWithLast) →
      (cfg.cl.isSome → remain = r.data.length) →
      (∀ a ∈ av, 0 < a) → r.data.length ≤ av.length →
      (loop cfg fuel remain r av).2 = .done := by
  intro fuel
  induction fuel with
  | zero => intro remain r av h; simp [fuelFor] at h
  | succ fuel ih =>
    intro remain r av hfuel hend hcl hpos hlen
    unfold fuelFor at hfuel
    obtain ⟨chunk, sawEOF, remain', r', hstep⟩ := readStep_ok cfg remain r hend hcl
    obtain ⟨e, hs, rfl, hcl'⟩ := readStep_send cfg remain r chunk sawEOF remain' r' hstep
    have hdl : r.data.length = chunk.length + r'.data.length := by rw [← hs.data]; simp
    obtain ⟨av', hsome, hpos', hav'⟩ := sendChunk_progress cfg.maxFrame hmf ((e == .eof) && !cfg.hasTrailers) av chunk hpos (by omega)
    simp only [loop, hstep]
    generalize hsc : sendChunk cfg.maxFrame ((e == .eof) && !cfg.hasTrailers) chunk av = res at *
    obtain ⟨fs, ro⟩ := res
    simp only at hsome
    subst hsome
    simp only
    by_cases hsaw : (e == RErr.eof) = true
    · simp only [hsaw, if_true]
      split <;> rfl
    · simp only [hsaw, Bool.false_eq_true, if_false]
      have hm := hs.measure hb fun h => hsaw (by simp [(hs.atEnd h hend).2.1])
      have := ih remain' r' av' (by unfold fuelFor; omega) (hs.ending ▸ hend)
        (fun h => by have := (hcl' h).1; have := hcl h; omega) hpos' (by omega)
      generalize loop cfg fuel remain' r' av' = res2 at *
      obtain ⟨fs', o⟩ := res2
      exact this

theorem dataAvails_append (a b : List Sent) : dataAvails (a ++ b) = dataAvails a ++ dataAvails b := by
  simp [dataAvails]

/-- the frames `sendChunk` cuts use the looks of the schedule in order, each at most once; what it
returns is the unused rest -/
theorem sendChunk_avails (mf : Nat) (last : Bool) (av : List Nat) (rem : Bytes) :
      (∀ av', (sendChunk mf last rem av).2 = some av' →
        ∃ used, av = used ++ av' ∧ (dataAvails (sendChunk mf last rem av).1).Sublist used) ∧
      ((sendChunk mf last rem av).2 = none → (dataAvails (sendChunk mf last rem av).1).Sublist av) := by
  fun_induction sendChunk mf last rem av with
  | case1 av => exact ⟨fun av' h => ⟨[], by simpa using h, by simp [dataAvails]⟩, nofun⟩
  | case2 => simp [dataAvails]
  | case3 b bs a av n hn ih =>
    exact ⟨fun av' h => (ih.1 av' h).elim fun used hu => ⟨a :: used, by simp [hu.1], hu.2.cons a⟩,
      fun h => (ih.2 h).cons a⟩
  | case4 b bs a av n hn rest fs r hsc ih =>
    rw [hsc] at ih
    have hd : dataAvails (⟨a, .data ((b :: bs).take n) (last && rest.isEmpty)⟩ :: fs) = a :: dataAvails fs := by
      unfold dataAvails
      rw [List.filter_cons_of_pos (by cases hn' : n <;> simp_all [Frame.payload])]
      rfl
    simp only [hd]
    exact ⟨fun av' h => (ih.1 av' h).elim fun used hu => ⟨a :: used, by simp [hu.1], hu.2.cons_cons a⟩,
      fun h => (ih.2 h).cons_cons a⟩

theorem closing_avails (cfg : Cfg) : dataAvails [closing cfg] = [] := by
  simp [dataAvails, closing_payload]

theorem loop_avails (cfg : Cfg) :
    ∀ (fuel : Nat) (remain : Int) (r : Reader) (av : List Nat),
      (dataAvails (loop cfg fuel remain r av).1).Sublist av := by
  intro fuel
  induction fuel with
  | zero => intro remain r av; simp [loop, dataAvails]
  | succ fuel ih =>
    intro remain r av
    simp only [loop]
    cases hstep : readStep cfg remain r with
    | stop o => simp [dataAvails]
    | send chunk sawEOF remain' r' =>
      simp only
      obtain ⟨h1, h2⟩ := sendChunk_avails cfg.maxFrame (sawEOF && !cfg.hasTrailers) av chunk
      generalize sendChunk cfg.maxFrame (sawEOF && !cfg.hasTrailers) chunk av = res at *
      obtain ⟨fs, ro⟩ := res
      cases ro with
      | none => exact h2 rfl
      | some av' =>
        obtain ⟨used, hu, hs⟩ := h1 av' rfl
        simp only
        have hsub : (dataAvails fs).Sublist av := by
          rw [hu]; exact hs.trans (List.sublist_append_left used av')
        split
        · split
          · exact hsub
          · rw [dataAvails_append, closing_avails, List.append_nil]; exact hsub
        · have := ih remain' r' av'
          generalize loop cfg fuel remain' r' av' = res2 at *
          obtain ⟨fs', o⟩ := res2
          simp only at this ⊢
          rw [dataAvails_append, hu]
          exact List.Sublist.append hs this

end Req.Lemmas.C01Body
