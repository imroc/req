import Req.H1.RequestWrite
import Req.Lemmas.HeaderSort
import Req.Lemmas.ListFacts
import Req.Lemmas.C01BStr
/-!
The field groups the HTTP/1.1 writer collects (`h1Fields`) and the header lines they render to
(`linesOf`, one per value). `h1Fields` is `applyOrder` over three parts (`h1Fields_eq`): the fields the
writer adds itself (`ownFieldsH1`), the caller's fields and the transport's extra fields, each of the
two written through `headerWriteSubset` (`callerFields`, up to order: `writeSubset_perm`). So the lines
on the wire are a permutation of the lines of the three parts (`h1Fields_perm`, `linesOf_h1Fields_perm`).
`callerFields`, `ownFieldsH1` and `ownKeysH1` are the terms in which C16 states what is on the wire;
they and the lemmas about them carry the namespace of those theorems, `Req.Props.C16`.
-/

namespace Req.H1.Origin
open Req.Proto Req.HeaderSort

theorem linesOf_cons (kv : KV) (t : Hdr) : linesOf (kv :: t) = kv.values.map (fun v => (kv.key, v)) ++ linesOf t := by
  simp [linesOf]

theorem linesOf_nil : linesOf [] = [] := rfl

end Req.H1.Origin

namespace Req.H1
open Req.Proto Req.HeaderSort

theorem linesOf_perm {a b : List KV} (h : a.Perm b) : (linesOf a).Perm (linesOf b) :=
  List.Perm.flatMap_right _ h

theorem linesOf_append (a b : List KV) : linesOf (a ++ b) = linesOf a ++ linesOf b := by
  simp [linesOf]

theorem mem_linesOf {h : List KV} {k v : Bytes} (hm : (k, v) ∈ linesOf h) :
    ∃ kv ∈ h, kv.key = k ∧ v ∈ kv.values := by
  unfold linesOf at hm
  obtain ⟨kv, hkv, hv⟩ := List.mem_flatMap.mp hm
  obtain ⟨v', hv', heq⟩ := List.mem_map.mp hv
  cases heq
  exact ⟨kv, hkv, rfl, hv'⟩

theorem filter_linesOf (q : Bytes → Bool) (l : List KV) :
    (linesOf l).filter (fun x => q x.1) = linesOf (l.filter fun kv => q kv.key) := by
  induction l with
  | nil => rfl
  | cons x xs ih =>
    rw [Origin.linesOf_cons, List.filter_append, ih, List.filter_cons]
    cases hq : q x.key with
    | false =>
      rw [List.filter_eq_nil_iff.mpr fun y hy => by
        obtain ⟨v, _, rfl⟩ := List.mem_map.mp hy; simp [hq]]
      rfl
    | true =>
      rw [List.filter_eq_self.mpr fun y hy => by
        obtain ⟨v, _, rfl⟩ := List.mem_map.mp hy; exact hq]
      rfl

/-- how the theorems speak of Go's map iteration order: a header map is an association list with
distinct keys, another iteration order a permutation of it; a lookup does not see the difference. -/
theorem hdrGet?_perm {a b : Hdr} (hp : a.Perm b) (hnd : (a.map (·.key)).Nodup) (k : Bytes) :
    hdrGet? a k = hdrGet? b k := by
  unfold hdrGet?
  congr 1
  induction hp with
  | nil => rfl
  | cons x _ ih =>
    simp only [List.map_cons, List.nodup_cons] at hnd
    simp only [List.find?_cons]
    split
    · rfl
    · exact ih hnd.2
  | swap x y l =>
    simp only [List.map_cons, List.nodup_cons, List.mem_cons, not_or] at hnd
    simp only [List.find?_cons]
    cases hx : x.key == k <;> cases hy : y.key == k <;> simp
    have ex : x.key = k := by simpa using hx
    have ey : y.key = k := by simpa using hy
    exact absurd (ey.trans ex.symm) hnd.1.1
  | trans h1 _ ih1 ih2 =>
    rw [ih1 hnd]
    exact ih2 ((h1.map _).nodup_iff.mp hnd)

theorem find?_filter_untouched (p : Bytes → Bool) (key : Bytes) (hp : p key = true) (l : Hdr) :
    (l.filter fun kv => p kv.key).find? (·.key == key) = l.find? (·.key == key) := by
  rw [List.find?_filter]
  congr 1
  funext kv
  cases hk : kv.key == key with
  | false => simp
  | true => simp [eq_of_beq hk, hp]

end Req.H1

namespace Req.Props.C16
open Req.HeaderSort
open Req.Proto Req.H1 Req.Validate Req.BStr

/-- The caller's fields as the property describes them, no ordering involved: every key the
writer does not handle itself (`exclude`, exact spelling) and that is a valid field name, with
each value sanitised (CR/LF → space, surrounding white space removed). -/
def callerFields (h : Hdr) (exclude : List Bytes) : Hdr :=
  (h.filter fun kv => !exclude.contains kv.key && validHeaderFieldName kv.key).map fun kv =>
    ⟨kv.key, kv.values.map sanitizeValue⟩

theorem writeSubset_perm (h : Hdr) (exclude : List Bytes) (mode : Bool) :
    (writeSubset h exclude mode).Perm (callerFields h exclude) := by
  unfold writeSubset callerFields
  simp only
  apply List.Perm.map
  have hp : (if mode = true then List.filter (fun kv => !exclude.contains kv.key) h
      else isortBy (fun a b => le a.key b.key) (List.filter (fun kv => !exclude.contains kv.key) h)).Perm
      (List.filter (fun kv => !exclude.contains kv.key) h) := by
    split
    · exact List.Perm.refl _
    · exact isortBy_perm _ _
  have := List.Perm.filter (fun kv : KV => validHeaderFieldName kv.key) hp
  rw [List.filter_filter] at this
  refine this.trans ?_
  apply List.Perm.of_eq
  congr 1
  funext kv
  simp [Bool.and_comm]

theorem callerFields_mem_key {h : Hdr} {ex : List Bytes} {kv : KV} (hm : kv ∈ callerFields h ex) :
    ex.contains kv.key = false ∧ validHeaderFieldName kv.key = true := by
  unfold callerFields at hm
  obtain ⟨kv0, h0, rfl⟩ := List.mem_map.mp hm
  have := (List.mem_filter.mp h0).2
  simpa using this

theorem callerFields_mem_src {h : Hdr} {ex : List Bytes} {kv : KV} (hm : kv ∈ callerFields h ex) :
    ∃ kv0 ∈ h, kv.key = kv0.key := by
  unfold callerFields at hm
  obtain ⟨kv0, h0, rfl⟩ := List.mem_map.mp hm
  exact ⟨kv0, (List.mem_filter.mp h0).1, rfl⟩

theorem callerFields_filter (p : Bytes → Bool) (h : Hdr) (ex : List Bytes) :
    callerFields (h.filter fun kv => p kv.key) ex = (callerFields h ex).filter fun kv => p kv.key := by
  unfold callerFields
  rw [List.filter_filter, List.filter_map, List.filter_filter]
  congr 1
  apply List.filter_congr
  intro kv _
  simp [Function.comp, Bool.and_comm]

theorem callerFields_append (a b : Hdr) (ex : List Bytes) :
    callerFields (a ++ b) ex = callerFields a ex ++ callerFields b ex := by
  simp [callerFields]

/-- the fields the writer adds itself: Host, User-Agent (caller's first value, or the default, or
none when blank), `Connection: close`, Content-Length / Transfer-Encoding. -/
def ownFieldsH1 (r : WReq) (host : Bytes) (f : Framing) : Hdr :=
  let ua := if (hdrGet? r.header sUserAgent).isSome then hdrFirst r.header sUserAgent
            else defaultUserAgent
  [⟨sHost, [host]⟩] ++ (if ua.isEmpty then [] else [⟨sUserAgent, [ua]⟩]) ++ framingFields r f

theorem ownFieldsH1_congr {r r' : WReq} (host : Bytes) (f : Framing)
    (hm : r'.method = r.method) (hc : r'.close = r.close)
    (hua : hdrGet? r'.header sUserAgent = hdrGet? r.header sUserAgent)
    (hcn : r.close = true → hdrGet? r'.header sConnection = hdrGet? r.header sConnection) :
    ownFieldsH1 r' host f = ownFieldsH1 r host f := by
  unfold ownFieldsH1 framingFields hdrFirst
  rw [hua, hm, hc]
  cases hcl : r.close with
  | false => rfl
  | true => rw [hcn hcl]

theorem h1Fields_eq (r : WReq) (host : Bytes) (f : Framing) :
    h1Fields r host f = applyOrder (orderList r.header)
      (ownFieldsH1 r host f ++ writeSubset r.header reqWriteExcludeHeader (!(orderList r.header).isEmpty)
        ++ writeSubset r.extra [] (!(orderList r.header).isEmpty)) := by
  unfold h1Fields applyOrder ownFieldsH1
  simp only
  cases (orderList r.header).isEmpty <;> rfl

theorem h1Fields_perm (r : WReq) (host : Bytes) (f : Framing) :
    (h1Fields r host f).Perm
      (ownFieldsH1 r host f ++ callerFields r.header reqWriteExcludeHeader ++ callerFields r.extra []) := by
  rw [h1Fields_eq]
  exact (applyOrder_perm _ _).trans
    (((List.Perm.refl _).append (writeSubset_perm _ _ _)).append (writeSubset_perm _ _ _))

theorem linesOf_h1Fields_perm (r : WReq) (host : Bytes) (f : Framing) :
    (linesOf (h1Fields r host f)).Perm
      (linesOf (ownFieldsH1 r host f) ++ linesOf (callerFields r.header reqWriteExcludeHeader) ++
        linesOf (callerFields r.extra [])) := by
  have h := linesOf_perm (h1Fields_perm r host f)
  rwa [linesOf_append, linesOf_append] at h

/-- the names of the fields the HTTP/1.1 writer adds itself -/
def ownKeysH1 : List Bytes := [sHost, sUserAgent, sConnection, sContentLength, sTransferEncoding]

theorem framingFields_keys (r : WReq) (f : Framing) :
    ∀ kv ∈ framingFields r f, kv.key ∈ [sConnection, sContentLength, sTransferEncoding] := by
  intro kv hkv
  unfold framingFields at hkv
  rcases List.mem_append.mp hkv with hkv | hkv
  · rw [List.mem_ite_l hkv]; exact List.mem_cons_self ..
  · rcases List.mem_ite_lr hkv with h | h <;> rw [h]
    · exact List.mem_cons_of_mem _ (List.mem_cons_self ..)
    · exact List.mem_cons_of_mem _ (List.mem_cons_of_mem _ (List.mem_cons_self ..))

theorem ownFieldsH1_keys (r : WReq) (host : Bytes) (f : Framing) :
    ∀ kv ∈ ownFieldsH1 r host f, kv.key ∈ ownKeysH1 := by
  intro kv hkv
  unfold ownFieldsH1 at hkv
  simp only [List.mem_append, List.mem_singleton] at hkv
  rcases hkv with (hkv | hkv) | hkv
  · rw [hkv]; exact (by decide : sHost ∈ ownKeysH1)
  · rw [List.mem_ite_r hkv]; exact (by decide : sUserAgent ∈ ownKeysH1)
  · exact List.mem_cons_of_mem _ (List.mem_cons_of_mem _ (framingFields_keys r f kv hkv))

theorem callerFields_perm {a b : Hdr} (hp : a.Perm b) (ex : List Bytes) :
    (callerFields a ex).Perm (callerFields b ex) :=
  List.Perm.map _ (List.Perm.filter _ hp)

end Req.Props.C16
