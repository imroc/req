import Req.Client.ValuesHeap
import Req.Lemmas.C19AMap
/-! Maps of slices with capacity (`ValuesHeap`): reads after writes and allocations, the abstraction of `put` /
`filter`, preservation of the separation invariant `Sep` by `put` (`sep_put`) and by giving a key a new array
(`put_alloc`), and the shape of the capped flat layout. -/
namespace Req.ValuesHeap
open Req.Scope

theorem range_getD (xs : List Nat) : (List.range xs.length).map (fun j => xs.getD j 0) = xs := by
  apply List.ext_getElem
  · simp
  · intro i h1 h2
    simp [List.getD_eq_getElem?_getD, List.getElem?_eq_getElem h2]

theorem readSl_congr (st st' : Store) (s : Sl)
    (h : ∀ j, j < s.len → st'.cell s.arr (s.off + j) = st.cell s.arr (s.off + j)) : readSl st' s = readSl st s := by
  unfold readSl
  apply List.map_congr_left
  intro j hj
  exact h j (List.mem_range.mp hj)

theorem readSl_alloc (st : Store) (xs : List Nat) (s : Sl) (h : s.arr < st.next) :
    readSl (alloc st xs) s = readSl st s := by
  apply readSl_congr
  intro j _
  have : ¬ s.arr = st.next := by omega
  simp [alloc, this]

theorem readSl_alloc_new (st : Store) (xs : List Nat) (c : Nat) :
    readSl (alloc st xs) ⟨st.next, 0, xs.length, c⟩ = xs := by
  unfold readSl alloc
  simp only [if_true, Nat.zero_add]
  exact range_getD xs

theorem readSl_writeAt_apart (st : Store) (s t : Sl) (vs : List Nat) (hfit : s.len + vs.length ≤ s.cap)
    (hlen : t.len ≤ t.cap) (h : Apart s t) :
    readSl (writeAt st s.arr (s.off + s.len) vs) t = readSl st t := by
  apply readSl_congr
  intro j hj
  have : ¬ (t.arr = s.arr ∧ s.off + s.len ≤ t.off + j ∧ t.off + j < s.off + s.len + vs.length) := by
    intro ⟨h1, h2, h3⟩
    rcases h with h | h | h
    · exact h h1.symm
    · omega
    · omega
  simp [writeAt, this]

theorem readSl_writeAt_self (st : Store) (s : Sl) (vs : List Nat) :
    readSl (writeAt st s.arr (s.off + s.len) vs) { s with len := s.len + vs.length } = readSl st s ++ vs := by
  unfold readSl
  simp only []
  rw [List.range_add, List.map_append, List.map_map]
  congr 1
  · apply List.map_congr_left
    intro j hj
    have hj' := List.mem_range.mp hj
    have : ¬ (True ∧ s.off + s.len ≤ s.off + j ∧ s.off + j < s.off + s.len + vs.length) := by omega
    simp only [writeAt]
    rw [if_neg this]
  · have h : (List.range vs.length).map
        ((fun j => (writeAt st s.arr (s.off + s.len) vs).cell s.arr (s.off + j)) ∘ fun x => s.len + x) =
        (List.range vs.length).map (fun j => vs.getD j 0) := by
      apply List.map_congr_left
      intro j hj
      have hj' := List.mem_range.mp hj
      have h1 : s.off + s.len ≤ s.off + (s.len + j) ∧ s.off + (s.len + j) < s.off + s.len + vs.length := by omega
      have h2 : s.off + (s.len + j) - (s.off + s.len) = j := by omega
      simp only [Function.comp, writeAt]
      rw [if_pos ⟨trivial, h1⟩, h2]
    rw [h, range_getD]

theorem has_absMap (st : Store) (m : MapS) (k : Nat) : AMap.has (absMap st m) k = m.any (fun e => e.1 == k) := by
  induction m with
  | nil => rfl
  | cons e m ih =>
    show AMap.has ((e.1, readSl st e.2) :: absMap st m) k = _
    rw [has_cons, ih]; simp

theorem get_absMap (st : Store) (m : MapS) (k : Nat) :
    AMap.get (absMap st m) k = match lookup m k with
      | some s => readSl st s
      | none => [] := by
  induction m with
  | nil => rfl
  | cons e m ih =>
    show AMap.get ((e.1, readSl st e.2) :: absMap st m) k = _
    rw [get_cons, ih]
    unfold lookup
    by_cases h : e.1 = k
    · simp [List.find?, h]
    · have : (e.1 == k) = false := by simpa using h
      simp [List.find?, this, h]

theorem lookup_mem (m : MapS) (k : Nat) (s : Sl) (h : lookup m k = some s) : (k, s) ∈ m := by
  obtain ⟨e, hf, rfl⟩ := Option.map_eq_some_iff.1 h
  have hk : e.1 = k := by simpa using List.find?_some hf
  exact hk ▸ List.mem_of_find?_eq_some hf

theorem lookup_none (m : MapS) (k : Nat) (h : lookup m k = none) : m.any (fun e => e.1 == k) = false := by
  unfold lookup at h
  rw [Option.map_eq_none_iff, List.find?_eq_none] at h
  exact List.any_eq_false.2 h

theorem mem_put (m : MapS) (k : Nat) (s : Sl) (e : Nat × Sl) (h : e ∈ put m k s) :
    (e ∈ m ∧ e.1 ≠ k) ∨ e = (k, s) := by
  unfold put at h
  split at h
  · obtain ⟨x, hx, rfl⟩ := List.mem_map.1 h
    by_cases hk : x.1 = k
    · exact Or.inr (by simp [hk])
    · exact Or.inl (by simpa [hk] using hx)
  · rename_i hany
    rcases List.mem_append.1 h with h | h
    · exact Or.inl ⟨h, fun hk => hany (List.any_eq_true.2 ⟨e, h, by simpa using hk⟩)⟩
    · exact Or.inr (by simpa using h)

theorem absMap_put (st st' : Store) (m : MapS) (k : Nat) (s : Sl)
    (h : ∀ e ∈ m, e.1 ≠ k → readSl st' e.2 = readSl st e.2) :
    absMap st' (put m k s) = (absMap st m).set k (readSl st' s) := by
  unfold put AMap.set
  rw [has_absMap]
  split
  · simp only [absMap, List.map_map]
    apply List.map_congr_left
    intro e he
    by_cases hk : e.1 = k
    · simp [hk]
    · simp [hk, h e he hk]
  · rename_i hany
    simp only [absMap, List.map_append, List.map_cons, List.map_nil]
    congr 1
    apply List.map_congr_left
    intro e he
    rw [h e he fun hk => hany (List.any_eq_true.2 ⟨e, he, by simpa using hk⟩)]

theorem absMap_filter (st : Store) (m : MapS) (k : Nat) :
    absMap st (m.filter fun e => e.1 != k) = (absMap st m).del k := by
  unfold absMap AMap.del
  rw [List.filter_map]
  rfl

theorem apart_symm (a b : Sl) (h : Apart a b) : Apart b a := by
  rcases h with h | h | h
  · exact Or.inl (fun e => h e.symm)
  · exact Or.inr (Or.inr h)
  · exact Or.inr (Or.inl h)

theorem sep_put (st st' : Store) (m : MapS) (k : Nat) (s : Sl) (hs : Sep st m) (hnext : st.next ≤ st'.next)
    (hfresh : s.arr < st'.next) (hfit : s.len ≤ s.cap) (hap : ∀ e ∈ m, e.1 ≠ k → Apart e.2 s) :
    Sep st' (put m k s) := by
  constructor
  · intro e he
    rcases mem_put m k s e he with ⟨h1, _⟩ | rfl
    · exact Nat.lt_of_lt_of_le (hs.fresh e h1) hnext
    · exact hfresh
  · intro e he
    rcases mem_put m k s e he with ⟨h1, _⟩ | rfl
    · exact hs.fits e h1
    · exact hfit
  · intro e1 h1 e2 h2 hne
    rcases mem_put m k s e1 h1 with ⟨m1, k1⟩ | rfl
    · rcases mem_put m k s e2 h2 with ⟨m2, _⟩ | rfl
      · exact hs.apart e1 m1 e2 m2 hne
      · exact hap e1 m1 k1
    · rcases mem_put m k s e2 h2 with ⟨m2, k2⟩ | rfl
      · exact apart_symm _ _ (hap e2 m2 k2)
      · exact absurd rfl hne

/-- key `k` gets a new array holding `xs`, of any capacity from its length up -/
theorem put_alloc (st : Store) (m : MapS) (hs : Sep st m) (k : Nat) (xs : List Nat) (c : Nat) (hc : xs.length ≤ c) :
    Sep (alloc st xs) (put m k ⟨st.next, 0, xs.length, c⟩) ∧
    absMap (alloc st xs) (put m k ⟨st.next, 0, xs.length, c⟩) = (absMap st m).set k xs := by
  refine ⟨sep_put st _ m k _ hs (Nat.le_succ _) (Nat.lt_succ_self _) hc
    fun e he _ => Or.inl (Nat.ne_of_lt (hs.fresh e he)), ?_⟩
  rw [absMap_put st _ m k _ fun e he _ => readSl_alloc st _ e.2 (hs.fresh e he), readSl_alloc_new]

/-- shape of the capped flat layout: every slice in array `a`, at or after `off`, capacity = length -/
theorem flat_capped_shape (a total : Nat) : ∀ (m : AMap) (off : Nat) (e : Nat × Sl),
    e ∈ flat true a off total m → e.2.arr = a ∧ off ≤ e.2.off ∧ e.2.cap = e.2.len := by
  intro m
  induction m with
  | nil => intro off e he; simp [flat] at he
  | cons x m ih =>
    intro off e he
    obtain ⟨k, vs⟩ := x
    simp only [flat, List.mem_cons] at he
    rcases he with rfl | he
    · simp
    · have := ih (off + vs.length) e he
      exact ⟨this.1, by omega, this.2.2⟩

theorem flat_capped_apart (a total : Nat) : ∀ (m : AMap) (off : Nat) (e1 e2 : Nat × Sl),
    e1 ∈ flat true a off total m → e2 ∈ flat true a off total m → e1.1 ≠ e2.1 → Apart e1.2 e2.2 := by
  intro m
  induction m with
  | nil => intro off e1 e2 h1; simp [flat] at h1
  | cons x m ih =>
    intro off e1 e2 h1 h2 hne
    obtain ⟨k, vs⟩ := x
    simp only [flat, List.mem_cons] at h1 h2
    rcases h1 with rfl | h1
    · rcases h2 with rfl | h2
      · exact absurd rfl hne
      · have := flat_capped_shape a total m (off + vs.length) e2 h2
        right; left
        show off + vs.length ≤ e2.2.off
        exact this.2.1
    · rcases h2 with rfl | h2
      · have := flat_capped_shape a total m (off + vs.length) e1 h1
        right; right
        show off + vs.length ≤ e1.2.off
        exact this.2.1
      · exact ih (off + vs.length) e1 e2 h1 h2 hne

end Req.ValuesHeap
