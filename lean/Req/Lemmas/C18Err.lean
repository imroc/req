import Req.Lemmas.C18Order
/-!
C18 — the error contract of the pipeline, by three devices. `Step cur cur' R'` says what one stage
does to the error carried (it leaves it, or an error it raised replaces it); the stages of an
attempt compose by `Step.trans`, and `Carry.of_step` turns the chain into the contract `Carry` of
`attempt_seen` — for `Stack.Loud` stacks, where no stage suppresses an error. `Kept s I` is a
property of responses that every stage keeps; `Kept.trivial` gives "no nil dereference".
`Kept.doLoop_induct` is the induction along `do`'s loop under the two nil guards, on which
`keeps_doLoop` and `doLoop_seen` rest. The specification vocabulary `raisedOf`, `Carry`, `orE`,
`Stack.Loud`, `RT.carried`, `Att.seen`, `allRaised` of `Props/C18Pipeline` is defined here.
-/
namespace Req.Pipeline
open Req.Result

/-! ### no nil dereference in the repaired code

`StepOut.crash` has no response, so "leaves a non-nil response" also says "does not crash". -/

theorem stageStep_some (fx : Fixes) (hfx : fx.digestRebind = true) (s : Stack) (a : Nat) (r : Resp) (act : RAct) :
    ∃ r', (stageStep fx s a (some r) act).respO = some r' := by
  cases act with
  | mw m => cases m <;> exact ⟨_, rfl⟩
  | digest ok re =>
    show ∃ r', (digestStep fx s a ok re r).respO = some r'
    rcases digestStep_cases fx s a ok re r with h | ⟨h, _⟩ | ⟨_, h⟩ | ⟨_, _, h⟩
    · rw [h]; exact ⟨_, rfl⟩
    · rw [hfx] at h; cases h
    · rw [h]; exact ⟨_, rfl⟩
    · rw [h]
      cases re with
      | fail e => exact ⟨_, rfl⟩
      | resp h2 => simp only [digestResend, hfx, if_true]; exact ⟨_, rebind_respO _ _ _⟩

/-- The repaired request-level loop on a non-nil response does not crash and leaves a non-nil
response; a property of the response that every middleware keeps holds at the end. -/
theorem reqRespLoop_inv (fx : Fixes) (hfx : fx.digestRebind = true) (s : Stack) (a : Nat) (I : Resp → Prop)
    (acts : List RAct)
    (step : ∀ act ∈ acts, ∀ r, I r → ∀ r', (stageStep fx s a (some r) act).respO = some r' → I r') :
    ∀ i r err, I r → (reqRespLoop fx s a i acts (some r) err).crash = false ∧
      ∃ r', (reqRespLoop fx s a i acts (some r) err).resp = some r' ∧ I r' := by
  induction acts with
  | nil => exact fun i r err h => ⟨rfl, r, rfl, h⟩
  | cons act rest ih =>
    intro i r err hr
    obtain ⟨r1, h1⟩ := stageStep_some fx hfx s a r act
    have hI := step act List.mem_cons_self r hr r1 h1
    simp only [reqRespLoop]
    generalize stageStep fx s a (some r) act = st at h1
    rcases st with ⟨_, evs⟩ | ⟨_, e, evs⟩ | _ <;> cases h1
    · exact ih (fun act h => step act (List.mem_cons_of_mem _ h)) _ _ _ hI
    · exact ⟨rfl, r1, rfl, hI⟩

theorem nilGuard_some (resp : Option Resp) (err : Option Err) : ∃ r, nilGuard resp err = some r := ⟨_, rfl⟩

/-- The error values that entered the pipeline according to the log. -/
def raisedOf (evs : List Ev) : List Err :=
  evs.filterMap fun | .raised e => some e | _ => none

@[simp] theorem raisedOf_nil : raisedOf [] = [] := rfl
@[simp] theorem raisedOf_append (a b : List Ev) : raisedOf (a ++ b) = raisedOf a ++ raisedOf b :=
  List.filterMap_append
@[simp] theorem raisedOf_cons (x : Ev) (l : List Ev) :
    raisedOf (x :: l) = match x with
      | .raised e => e :: raisedOf l
      | _ => raisedOf l := by
  cases x <;> rfl

theorem raisedOf_udReq_map (l : List Nat) : raisedOf (l.map Ev.udReq) = [] := by
  induction l with
  | nil => rfl
  | cons _ _ ih => exact ih

def orE (a b : Option Err) : Option Err :=
  match a with
  | some e => some e
  | none => b

@[simp] theorem orE_some (e : Err) (b : Option Err) : orE (some e) b = some e := rfl
@[simp] theorem orE_none (b : Option Err) : orE none b = b := rfl
@[simp] theorem orE_none_right (a : Option Err) : orE a none = a := by cases a <;> rfl
theorem orE_self (a : Option Err) : orE a a = a := by cases a <;> rfl

/-- `cur` is the error currently carried and `R` the errors raised so far: something was raised
→ an error is carried; the carried error is one of those raised. -/
def Carry (cur : Option Err) (R : List Err) : Prop :=
  (R ≠ [] → cur ≠ none) ∧ (∀ e, cur = some e → e ∈ R)

/-- One stage: it leaves the carried error alone (raising nothing, or losing against an error
already carried), or the error it raises becomes the carried one. -/
def Step (cur cur' : Option Err) (R' : List Err) : Prop :=
  (cur' = cur ∧ (R' = [] ∨ cur ≠ none)) ∨ (∃ e, cur' = some e ∧ e ∈ R')

theorem Carry.nil : Carry none [] := ⟨by simp, by simp⟩

theorem Step.refl (cur : Option Err) : Step cur cur [] := Or.inl ⟨rfl, Or.inl rfl⟩

theorem Step.raise (cur : Option Err) (e : Err) : Step cur (some e) [e] := Or.inr ⟨e, rfl, by simp⟩

/-- From nothing carried: the chain of stages gives the contract. -/
theorem Carry.of_step {cur : Option Err} {R : List Err} (st : Step none cur R) : Carry cur R := by
  rcases st with ⟨rfl, h⟩ | ⟨e, rfl, he⟩
  · exact ⟨fun hne => absurd (h.resolve_right fun h => h rfl) hne, nofun⟩
  · exact ⟨fun _ => Option.some_ne_none _, fun _ he' => Option.some.inj he' ▸ he⟩

theorem Step.some_of_some {cur cur' : Option Err} {R' : List Err} (st : Step cur cur' R') (h : cur ≠ none) : cur' ≠ none := by
  rcases st with ⟨rfl, _⟩ | ⟨e, rfl, _⟩
  · exact h
  · simp

theorem Step.trans {a b c : Option Err} {R1 R2 : List Err} (s1 : Step a b R1) (s2 : Step b c R2) : Step a c (R1 ++ R2) := by
  rcases s2 with ⟨rfl, h2⟩ | ⟨e, rfl, he⟩
  · rcases s1 with ⟨rfl, h1⟩ | ⟨e, rfl, he⟩
    · left; refine ⟨rfl, ?_⟩
      rcases h1 with rfl | h1
      · rcases h2 with rfl | h2
        · left; rfl
        · right; exact h2
      · right; exact h1
    · right; exact ⟨e, rfl, List.mem_append_left _ he⟩
  · right; exact ⟨e, rfl, List.mem_append_right _ he⟩

/-- An error returned on top of what is recorded: the recorded one wins, else the new one is seen. -/
theorem Step.orE_raise (cur : Option Err) (e : Err) : Step cur (orE cur (some e)) [e] := by
  cases cur with
  | none => exact Step.raise _ _
  | some x => exact Or.inl ⟨rfl, Or.inr (by simp)⟩

/-! loud = the stage does not deliberately suppress an error -/

def WAct.loud : WAct → Bool
  | .swallow | .nilNil => false
  | _ => true

def RespAct.loud : RespAct → Bool
  | .clear => false
  | _ => true

def RAct.loud : RAct → Bool
  | .mw m => m.loud
  | .digest _ _ => true

/-- No stage of the stack clears `resp.Err`, swallows the inner error or answers `(nil, nil)`. -/
def Stack.Loud (s : Stack) : Prop :=
  (∀ l ∈ s.wrappers, ∀ w ∈ l, w.loud = true) ∧
  (∀ l ∈ s.clientResp, ∀ m ∈ l, m.loud = true) ∧
  (∀ l ∈ s.reqResp, ∀ m ∈ l, m.loud = true)

theorem forall_mem_map_getD {α} {p : α → Prop} {d : α} (hd : p d) {ls : List (List α)}
    (h : ∀ l ∈ ls, ∀ x ∈ l, p x) (a : Nat) : ∀ x ∈ ls.map (·.getD a d), p x := by
  refine List.forall_mem_map.mpr fun l hl => ?_
  rw [List.getD_eq_getElem?_getD]
  cases hx : l[a]? with
  | none => exact hd
  | some x => exact h l hl x (List.mem_of_getElem? hx)

theorem exchange_step (s : Stack) (a : Nat) : Step none (exchange s a).1.err (raisedOf (exchange s a).2) := by
  unfold exchange
  split
  · exact Step.raise _ _
  · exact Step.refl _

theorem autoRead_step (s : Stack) (r : Resp) : Step r.err (autoRead s r).1.err (raisedOf (autoRead s r).2) := by
  unfold autoRead
  split
  · split
    · split
      · exact Step.refl _
      · exact Step.raise _ _
    · exact Step.refl _
  · exact Step.refl _

theorem raisedOf_unmEv (c : Option Codec) : raisedOf (unmEv c) = [] := by
  cases c <;> simp [unmEv]

theorem parseBody_ret_respErr (i : BindIn) (e : Err) (h : (parseBody i).err = some e) :
    orE (parseBody i).respErr (some e) = some e := by
  rcases parseBody_cases i with ⟨_, hp⟩ | ⟨_, _, _, _, ⟨e', he, hp⟩ | ⟨e', _, _, _, hp⟩ | ⟨_, hp⟩ | ⟨he, _, _, hp⟩⟩ <;>
    rw [hp] at h ⊢ <;> cases h
  · simp only [he, orE_some]
  · rfl
  · simp only [he, orE_none]

/-- Binding is one stage: what `do` would see afterwards is the recorded error, else the returned one. -/
theorem parseResp_step (s : Stack) (r : Resp) :
    Step r.err (orE (parseResp s r).resp.err (parseResp s r).ret) (raisedOf (parseResp s r).evs) := by
  unfold parseResp
  simp only [raisedOf_append, raisedOf_unmEv, List.nil_append]
  rw [show r.err = (bindIn s r).respErr from rfl]
  rcases parseBody_cases (bindIn s r) with
    ⟨_, hp⟩ | ⟨_, _, _, _, ⟨e, he, hp⟩ | ⟨e, he, _, _, hp⟩ | ⟨hr, hp⟩ | ⟨he, _, _, hp⟩⟩ <;> rw [hp] <;> dsimp only []
  · rw [orE_none_right]; cases (bindIn s r).respErr <;> exact Step.refl _
  · rw [he]; exact Step.refl _
  · rw [he]; exact Step.raise _ _
  · rw [hr.1]; exact Step.refl _
  · rw [he]; exact Step.raise _ _

theorem clientAct_step (r : Resp) (act : RespAct) (hl : act.loud = true) :
    Step r.err (clientAct r act).1.err (raisedOf (clientAct r act).2) := by
  cases act with
  | nop => exact Step.refl _
  | ret e => exact Step.raise _ _
  | set e => exact Step.raise _ _
  | clear => cases hl

theorem clientLoop_step (acts : List RespAct) (hl : ∀ m ∈ acts, m.loud = true) :
    ∀ i r, Step r.err (clientLoop i acts r).1.err (raisedOf (clientLoop i acts r).2) := by
  induction acts with
  | nil => intro i r; exact Step.refl _
  | cons act rest ih =>
    intro i r
    simp only [clientLoop, raisedOf_cons, raisedOf_append]
    exact (clientAct_step r act (hl act List.mem_cons_self)).trans (ih (fun m hm => hl m (List.mem_cons_of_mem _ hm)) _ _)

theorem raisedOf_raisedEv (o : Option Err) : raisedOf (raisedEv o) = o.toList := by cases o <;> rfl

theorem finish_step (site : Site) (s : Stack) (a : Nat) (r1 : Resp) :
    Step r1.err (orE (finish site s a r1).resp.err (finish site s a r1).ret) (raisedOf (finish site s a r1).evs) := by
  have hpe : ∀ e, (parseResp s (autoRead s r1).1).ret = some e →
      orE (parseResp s (autoRead s r1).1).resp.err (some e) = some e := fun e => parseBody_ret_respErr _ e
  rw [finish_eq]
  dsimp only []
  simp only [raisedOf_append, raisedOf_raisedEv]
  refine ((autoRead_step s r1).trans (parseResp_step s (autoRead s r1).1)).trans ?_
  generalize (parseResp s (autoRead s r1).1).ret = pret at hpe ⊢
  generalize (parseResp s (autoRead s r1).1).resp = pr at hpe ⊢
  generalize hq : cond _ _ _ = q
  have hq1 : q.1.err = (site.record pr pret).err := by
    rw [← hq]; exact cond_saveStep_err _ s a _
  cases site
  · -- client loop: every failure is recorded, a later one replaces an earlier one
    rcases q with ⟨r4, _ | e'⟩ <;> rcases pret with _ | e <;>
      simp only [Site.record, Site.combine, Option.toList, orE_some] at hq1 ⊢
    · rw [hq1]; exact Step.refl _
    · rw [hq1, hpe e rfl]; exact Step.refl _
    · exact Step.raise _ _
    · exact Step.raise _ _
  · -- digest tail: nothing is recorded, the first failure is handed on
    rcases q with ⟨r4, _ | e'⟩ <;> rcases pret with _ | e <;>
      simp only [Site.record, Site.combine, Option.toList] at hq1 ⊢ <;> rw [hq1]
    · exact Step.refl _
    · exact Step.refl _
    · rw [orE_none_right]; exact Step.orE_raise _ _
    · rw [hpe e rfl]; exact .inl ⟨rfl, .inr (Option.some_ne_none _)⟩

theorem finish_clientLoop_seen (s : Stack) (a : Nat) (r1 : Resp) :
    orE (finish .clientLoop s a r1).resp.err (finish .clientLoop s a r1).ret = (finish .clientLoop s a r1).resp.err := by
  have h := (finish_clientLoop_err s a r1).2
  cases hr : (finish .clientLoop s a r1).ret with
  | none => exact orE_none_right _
  | some e => rw [h (by rw [hr]; rfl), hr]; rfl

/-- The error a `(resp, err)` pair carries: the one recorded in the response if any, else `err`. -/
def RT.carried (rt : RT) : Option Err := orE (rt.resp.bind (·.err)) rt.err

theorem clientRoundTrip_step (s : Stack) (a : Nat) (hl : ∀ m ∈ s.clientAt a, m.loud = true) :
    Step none (clientRoundTrip s a).carried (raisedOf (clientRoundTrip s a).evs) := by
  cases hg : s.getBodyAt a
  · rw [clientRoundTrip_eq s a hg]
    simp only [RT.carried, Option.bind_some, orE_self, raisedOf_cons, raisedOf_append]
    have st := finish_step .clientLoop s a (exchange s a).1
    rw [finish_clientLoop_seen] at st
    exact ((exchange_step s a).trans st).trans (clientLoop_step _ hl 0 _)
  · rw [clientRoundTrip_getBody s a hg]
    exact Step.raise _ _

theorem runWrappers_step (a : Nat) (core : RT) (hc : Step none core.carried (raisedOf core.evs))
    (ws : List (Nat × WAct)) (hl : ∀ w ∈ ws, w.2.loud = true) :
    Step none (runWrappers a core ws).carried (raisedOf (runWrappers a core ws).evs) := by
  induction ws with
  | nil => exact hc
  | cons w rest ih =>
    obtain ⟨i, act⟩ := w
    have ih := ih (fun w hw => hl w (List.mem_cons_of_mem _ hw))
    have hact : act.loud = true := hl (i, act) List.mem_cons_self
    cases act with
    | pass => simpa [runWrappers, RT.carried] using ih
    | shortNil e => exact Step.raise _ _
    | shortFresh e => exact Step.raise _ _
    | nilNil => cases hact
    | swallow => cases hact
    | postErr e =>
      simp only [runWrappers, raisedOf_cons, raisedOf_append, raisedOf_nil]
      refine ih.trans ?_
      unfold RT.carried
      rcases (runWrappers a core rest).resp.bind (·.err) with _ | e0
      · exact Step.raise _ _
      · exact .inl ⟨rfl, .inr (Option.some_ne_none _)⟩
    | postNil e =>
      simp only [runWrappers, raisedOf_cons, raisedOf_append, raisedOf_nil]
      exact ih.trans (Step.raise _ e)
    | postSet e =>
      simp only [runWrappers, raisedOf_cons, raisedOf_append, raisedOf_nil]
      refine ih.trans (.inr ⟨e, ?_, by simp⟩)
      unfold RT.carried
      cases (runWrappers a core rest).resp <;> simp

theorem wrapChain_loud (acts : List WAct) (hl : ∀ w ∈ acts, w.loud = true) :
    ∀ w ∈ wrapChain acts, w.2.loud = true := by
  intro w hw
  unfold wrapChain at hw
  rw [List.mem_reverse] at hw
  exact hl _ (List.of_mem_zip hw).2

theorem nilGuard_carried (rt : RT) : ∃ r, nilGuard rt.resp rt.err = some r ∧ r.err = rt.carried := by
  unfold nilGuard RT.carried
  refine ⟨_, rfl, ?_⟩
  rcases rt.resp with _ | r
  · cases rt.err <;> simp
  · cases hre : r.err <;> cases hrt : rt.err <;> simp [hre]

/-- The error the caller would see if `do` returned right after this middleware. -/
def StepOut.seen : StepOut → Option Err
  | .cont r _ => r.bind (·.err)
  | .stop r e _ => orE (r.bind (·.err)) (some e)
  | .crash => none

theorem rebind_step (s : Stack) (a : Nat) (r : Resp) : Step r.err (rebind s a r).seen (raisedOf (rebind s a r).evs) := by
  have st := finish_step .digestTail s a r
  rw [rebind_eq]
  dsimp only []
  split <;> rename_i hret <;> rw [hret] at st
  · simpa [StepOut.seen, StepOut.evs] using st
  · simpa [StepOut.seen, StepOut.evs] using st

theorem forget_err (fx : Fixes) (r : Resp) : (forget fx r).err = r.err := by
  unfold forget; split <;> rfl

theorem digestResend_step (fx : Fixes) (hfx : fx.digestRebind = true) (s : Stack) (a : Nat) (r : Resp) (re : TOut)
    (hr : r.err = none) :
    Step r.err (digestResend fx s a r re).seen (raisedOf (digestResend fx s a r re).evs) := by
  cases re with
  | fail e =>
    simp only [digestResend, StepOut.seen, StepOut.evs, Option.bind_some, hr, orE_none, raisedOf_cons, raisedOf_nil]
    exact Step.raise _ _
  | resp h =>
    simp only [digestResend, hfx, if_true]
    exact rebind_step s a { r with http := some h, tag := 2 * a + 1 }

theorem digestStep_step (fx : Fixes) (hfx : fx.digestRebind = true) (s : Stack) (a : Nat) (ok : Bool) (re : TOut) (r : Resp) :
    Step r.err (digestStep fx s a ok re r).seen (raisedOf (digestStep fx s a ok re r).evs) := by
  rcases digestStep_cases fx s a ok re r with h | ⟨h, _⟩ | ⟨he, h⟩ | ⟨he, _, h⟩
  · rw [h]; exact Step.refl _
  · rw [hfx] at h; cases h
  · rw [h]
    simp only [StepOut.seen, StepOut.evs, Option.bind_some, he, orE_none, raisedOf_cons, raisedOf_nil]
    exact Step.raise _ _
  · rw [h]
    have := digestResend_step fx hfx s a (forget fx r) re ((forget_err fx r).trans he)
    rwa [forget_err] at this

theorem stageStep_step (fx : Fixes) (hfx : fx.digestRebind = true) (s : Stack) (a : Nat) (r : Resp) (act : RAct)
    (hl : act.loud = true) :
    Step r.err (stageStep fx s a (some r) act).seen (raisedOf (stageStep fx s a (some r) act).evs) := by
  cases act with
  | mw m =>
    cases m with
    | nop => exact Step.refl _
    | ret e => exact Step.orE_raise _ _
    | set e => exact Step.raise _ _
    | clear => cases hl
  | digest ok re => exact digestStep_step fx hfx s a ok re r

/-- What the caller would see if `do` returned with this attempt state: `do`'s deferred function. -/
def Att.seen (t : Att) : Option Err := orE (t.resp.bind (·.err)) t.err

theorem reqRespLoop_step (fx : Fixes) (h1 : fx.keepErr = true) (h2 : fx.digestRebind = true) (s : Stack) (a : Nat)
    (acts : List RAct) (hl : ∀ m ∈ acts, m.loud = true) :
    ∀ i r err, (err ≠ none → r.err ≠ none) →
      Step r.err (reqRespLoop fx s a i acts (some r) err).seen (raisedOf (reqRespLoop fx s a i acts (some r) err).evs) := by
  induction acts with
  | nil =>
    intro i r err hinv
    simp only [reqRespLoop, Att.seen, Option.bind_some, raisedOf_nil]
    rcases hre : r.err with _ | e0
    · have : err = none := Decidable.not_not.mp fun hne => hinv hne hre
      rw [this]; exact Step.refl _
    · exact Step.refl _
  | cons act rest ih =>
    intro i r err hinv
    have hst := stageStep_step fx h2 s a r act (hl act List.mem_cons_self)
    obtain ⟨r1, hr1⟩ := stageStep_some fx h2 s a r act
    simp only [reqRespLoop]
    generalize stageStep fx s a (some r) act = st at hst hr1
    rcases st with ⟨_, evs⟩ | ⟨_, e, evs⟩ | _ <;> cases hr1
    · simp only [h1, if_true, raisedOf_cons, raisedOf_append]
      exact hst.trans (ih (fun m hm => hl m (List.mem_cons_of_mem _ hm)) (i + 1) r1 err
        fun hne => hst.some_of_some (hinv hne))
    · simpa [Att.seen, StepOut.seen, StepOut.evs] using hst

/-- One attempt of the repaired code, no suppressing stage: if any stage raised an error the
attempt carries one; the carried error was raised in this attempt — or, when a request
middleware failed, may be the error already recorded in the response `do` held. -/
theorem attempt_seen (s : Stack) (hl : s.Loud) (a : Nat) (prev : Option Resp) :
    (raisedOf (attempt Fixes.all s a prev).evs ≠ [] → (attempt Fixes.all s a prev).seen ≠ none) ∧
    (∀ e, (attempt Fixes.all s a prev).seen = some e →
      e ∈ raisedOf (attempt Fixes.all s a prev).evs ∨ prev.bind (·.err) = some e) := by
  rcases attempt_cases Fixes.all s a prev with ⟨k, e, h⟩ | ⟨_, _, h⟩ <;> rw [h]
  · simp only [Att.seen, raisedOf_append, raisedOf_udReq_map, raisedOf_cons, raisedOf_nil, List.nil_append]
    rcases prev.bind (·.err) with _ | e0 <;> simp
  · obtain ⟨hlw, hlc, hlr⟩ := hl
    simp only [show Fixes.all.nilGuard = true from rfl, if_true]
    have hcore := clientRoundTrip_step s a (forall_mem_map_getD (p := (RespAct.loud · = true)) rfl hlc a)
    have hw : Step none (roundTrip s a).carried _ :=
      runWrappers_step a _ hcore (wrapChain (s.wrapAt a)) (wrapChain_loud _ (forall_mem_map_getD (p := (WAct.loud · = true)) rfl hlw a))
    obtain ⟨r, hr, hrerr⟩ := nilGuard_carried (roundTrip s a)
    rw [hr]
    have hinv : (roundTrip s a).err ≠ none → r.err ≠ none := by
      rw [hrerr, RT.carried]
      cases (roundTrip s a).resp.bind (·.err) with
      | none => exact id
      | some e => exact fun _ => Option.some_ne_none _
    have hloop := reqRespLoop_step Fixes.all rfl rfl s a (s.reqRespAt a)
      (forall_mem_map_getD (p := (RAct.loud · = true)) rfl hlr a) 0 r _ hinv
    rw [← hrerr] at hw
    have hfin := Carry.of_step (hw.trans hloop)
    simp only [Att.seen, raisedOf_append, raisedOf_udReq_map, raisedOf_cons, List.nil_append] at hfin ⊢
    exact ⟨hfin.1, fun e he => .inl (hfin.2 e he)⟩

/-- `do`'s deferred function has the body of the nil guard. -/
theorem deferred_err (resp : Option Resp) (err : Option Err) :
    ∃ r, deferred resp err = some r ∧ r.err = orE (resp.bind (·.err)) err :=
  nilGuard_carried ⟨resp, err, []⟩

def allRaised (atts : List Att) : List Err := atts.flatMap fun t => raisedOf t.evs

theorem runWrappers_keeps {I : Resp → Prop} (herr : ∀ r e, I r → I { r with err := e })
    (hempty : ∀ r, r.http = none → r.slots = {} → I r) (a : Nat) (core : RT)
    (hc : ∀ r, core.resp = some r → I r) (ws : List (Nat × WAct)) :
    ∀ r, (runWrappers a core ws).resp = some r → I r := by
  induction ws with
  | nil => exact hc
  | cons w rest ih =>
    obtain ⟨i, act⟩ := w
    cases act <;> simp only [runWrappers]
    case pass | postErr | swallow => exact ih
    case shortNil | nilNil | postNil => exact fun _ h => by cases h
    case shortFresh => rintro _ ⟨⟩; exact hempty _ rfl rfl
    case postSet =>
      intro r hr
      obtain ⟨r0, hr0, rfl⟩ := Option.map_eq_some_iff.mp hr
      exact herr _ _ (ih r0 hr0)

/-- The nil guard (and `do`'s deferred function, which has the same body) makes up an empty
response or records the error. -/
theorem nilGuard_keeps {I : Resp → Prop} (herr : ∀ r e, I r → I { r with err := e }) (resp : Option Resp)
    (err : Option Err) (hsynth : resp = none → I { origin := .synth }) (h : ∀ r, resp = some r → I r) :
    ∀ r, nilGuard resp err = some r → I r := by
  have key : ∀ r0, I r0 → I (if err ≠ none ∧ r0.err = none then { r0 with err := err } else r0) := by
    intro r0 h0
    split
    · exact herr _ _ h0
    · exact h0
  unfold nilGuard
  rintro _ ⟨⟩
  cases resp with
  | none => exact key _ (hsynth rfl)
  | some r => exact key _ (h r rfl)

/-- A property of `*Response` values that the pipeline keeps: it does not depend on `Err` or on
what was saved, holds of a response that carries neither an http response nor results, and holds
of the response of an exchange — the transport's, or the digest re-send's, which starts from
nothing read and nothing bound — once that is read and bound. The `keeps_*` lemmas hold for every
code variant with the nil guard and the digest guard; at `fun _ => True` they say that such a
variant dereferences no nil response. -/
structure Kept (s : Stack) (I : Resp → Prop) : Prop where
  err : ∀ r e, I r → I { r with err := e }
  saved : ∀ r x, I r → I { r with savedOf := x }
  empty : ∀ r, r.http = none → r.slots = {} → I r
  exchange : ∀ a, I (parseResp s (autoRead s (exchange s a).1).1).resp
  resend : ∀ a (r : Resp) ok h, RAct.digest ok (.resp h) ∈ s.reqRespAt a → r.err = none →
    I (parseResp s (autoRead s { r with bodyCached := false, slots := {}, http := some h, tag := 2 * a + 1 }).1).resp

theorem Kept.trivial (s : Stack) : Kept s fun _ => True :=
  ⟨fun _ _ _ => ⟨⟩, fun _ _ _ => ⟨⟩, fun _ _ _ => ⟨⟩, fun _ => ⟨⟩, fun _ _ _ _ _ _ => ⟨⟩⟩

namespace Kept
variable {s : Stack} {I : Resp → Prop} (k : Kept s I)
include k

theorem keeps_clientLoop (acts : List RespAct) (i : Nat) (r : Resp) (h : I r) : I (clientLoop i acts r).1 := by
  rw [clientLoop_fst]; exact k.err _ _ h

theorem keeps_applyHook (r : Resp) (h : HookAct) (hr : I r) : I (applyHook r h) := by
  obtain ⟨e, he⟩ := applyHook_eq r h
  rw [he]; exact k.err _ _ hr

theorem keeps_finish (site : Site) (a : Nat) (r : Resp) (h : I (parseResp s (autoRead s r).1).resp) :
    I (finish site s a r).resp := by
  obtain ⟨e, sv, hf⟩ := finish_resp site s a r
  rw [hf]; exact k.saved _ sv (k.err _ e h)

theorem keeps_clientRoundTrip (a : Nat) : ∀ r, (clientRoundTrip s a).resp = some r → I r := by
  cases hg : s.getBodyAt a
  · rw [clientRoundTrip_eq s a hg]
    rintro _ ⟨⟩
    exact k.keeps_clientLoop _ _ _ (k.keeps_finish _ a _ (k.exchange a))
  · rw [clientRoundTrip_getBody s a hg]; rintro _ ⟨⟩; exact k.empty _ rfl rfl

variable {fx : Fixes} (h1 : fx.nilGuard = true) (h2 : fx.digestRebind = true)

include h2 in
theorem keeps_stageStep (a : Nat) (r : Resp) (act : RAct) (h : I r) (hmem : act ∈ s.reqRespAt a) :
    ∀ r', (stageStep fx s a (some r) act).respO = some r' → I r' := by
  cases act with
  | mw m => cases m <;> rintro _ ⟨⟩ <;> first | exact h | exact k.err _ _ h
  | digest ok re =>
    show ∀ r', (digestStep fx s a ok re r).respO = some r' → I r'
    rcases digestStep_cases fx s a ok re r with hd | ⟨hd, _⟩ | ⟨_, hd⟩ | ⟨he, _, hd⟩
    · rw [hd]; rintro _ ⟨⟩; exact h
    · rw [h2] at hd; cases hd
    · rw [hd]; rintro _ ⟨⟩; exact h
    · rw [hd, forget, if_pos h2]
      cases re with
      | fail e => rintro _ ⟨⟩; exact k.empty _ rfl rfl
      | resp h' =>
        simp only [digestResend, h2, if_true, rebind_respO]
        rintro _ ⟨⟩
        exact k.keeps_finish _ a _ (k.resend a r ok h' hmem he)

include h1 h2 in
/-- An attempt dereferences no nil response and leaves a response with the property — unless it
returned from the request phase, where `resp` is what `do` held. -/
theorem keeps_attempt (a : Nat) (prev : Option Resp) :
    (attempt fx s a prev).crash = false ∧
    ((∃ r, (attempt fx s a prev).resp = some r ∧ I r) ∨
     ((attempt fx s a prev).resp = prev ∧ (attempt fx s a prev).err ≠ none ∧
      (attempt fx s a prev).returned = true)) := by
  rcases attempt_cases fx s a prev with ⟨_, e, h⟩ | ⟨_, _, h⟩ <;> rw [h]
  · exact ⟨rfl, .inr ⟨rfl, Option.some_ne_none _, rfl⟩⟩
  · simp only [h1, if_true]
    have hg := nilGuard_keeps k.err _ (roundTrip s a).err (fun _ => k.empty _ rfl rfl)
      (runWrappers_keeps k.err k.empty a _ (k.keeps_clientRoundTrip a) (wrapChain (s.wrapAt a)))
    obtain ⟨r, hr⟩ := nilGuard_some (roundTrip s a).resp (roundTrip s a).err
    obtain ⟨hc, r', hr', hI⟩ := reqRespLoop_inv fx h2 s a I (s.reqRespAt a)
      (fun act hm r hr => k.keeps_stageStep h2 a r act hr hm) 0 r (roundTrip s a).err (hg r hr)
    rw [hr]
    exact ⟨hc, .inl ⟨r', hr', hI⟩⟩

include h1 h2 in
/-- Induction along `do`'s loop with the two guards, where no attempt crashes and one that has not
returned leaves a response with the property. The loop ends with the attempt at hand —
returning what the attempt left, or because the context is done when the wait begins — or goes
on with the cleaned-up response. -/
theorem doLoop_induct {P : Option Resp → DoOut → Prop}
    (exhausted : ∀ prev, P prev exhaustedOut)
    (stop : ∀ a prev, P prev (stopOut (attempt fx s a prev)))
    (wait : ∀ a prev r, (attempt fx s a prev).resp = some r → I r →
      P prev (waitOut (attempt fx s a prev) (applyHook r (s.retryHookAt a))))
    (next : ∀ a prev r o, (attempt fx s a prev).resp = some r → I r →
      P (some (cleanup (applyHook r (s.retryHookAt a)))) o →
      P prev { o with atts := attempt fx s a prev :: o.atts }) :
    ∀ n a prev, P prev (doLoop fx s n a prev) := by
  intro n
  induction n with
  | zero => exact fun _ => exhausted
  | succ n ih =>
    intro a prev
    obtain ⟨hc, hr⟩ := k.keeps_attempt h1 h2 a prev
    simp only [doLoop]
    rw [if_neg (hc ▸ Bool.false_ne_true)]
    by_cases hret : (attempt fx s a prev).returned = true
    · rw [if_pos hret]; exact stop a prev
    obtain ⟨r, hr, hI⟩ := hr.resolve_right fun h => hret h.2.2
    rw [if_neg hret, hr]
    by_cases hcr : cannotRetry s a (attempt fx s a prev).err = true
    · rw [if_pos hcr]; exact stop a prev
    rw [if_neg hcr]
    by_cases hn : needRetry s a (attempt fx s a prev).err = true
    · rw [if_pos hn]
      by_cases hx : s.ctxDoneAt a = true
      · simp only [hx, if_true]; exact wait a prev r hr hI
      · simp only [hx]; exact next a prev r _ hr hI (ih _ _)
    · rw [if_neg hn]; exact stop a prev

include h1 h2 in
/-- `do` dereferences no nil response, returns one unless the script ran out, and what it
returns has the property — or, a request middleware failed on a retry, is the previous attempt's
response after the retry clean-up (`J`), with an error. -/
theorem keeps_doLoop {J : Resp → Prop} (jerr : ∀ r e, J r → J { r with err := e }) (ij : ∀ r, I r → J (cleanup r)) :
    ∀ fuel a prev, (∀ r, prev = some r → J r) →
      (doLoop fx s fuel a prev).crash = false ∧
      ((doLoop fx s fuel a prev).exhausted = false → (doLoop fx s fuel a prev).resp.isSome = true) ∧
      ∀ r, (doLoop fx s fuel a prev).resp = some r → I r ∨ (J r ∧ r.err ≠ none) := by
  refine k.doLoop_induct h1 h2
    (P := fun prev o => (∀ r, prev = some r → J r) → o.crash = false ∧
      (o.exhausted = false → o.resp.isSome = true) ∧ ∀ r, o.resp = some r → I r ∨ (J r ∧ r.err ≠ none))
    (exhausted := ?exhausted) (stop := ?stop) (wait := ?wait) (next := ?next)
  case exhausted => exact fun _ _ => ⟨rfl, fun h => Bool.noConfusion h, fun _ h => nomatch h⟩
  case stop =>
    intro a prev hp
    refine ⟨rfl, fun _ => rfl, fun r hr => ?_⟩
    rcases (k.keeps_attempt h1 h2 a prev).2 with ⟨r0, hr0, hI⟩ | ⟨e1, e2, _⟩
    · rw [stopOut, hr0] at hr
      exact .inl (nilGuard_keeps k.err (some r0) _ (fun h => nomatch h) (fun _ h => Option.some.inj h ▸ hI) r hr)
    · obtain ⟨r', hr', herr⟩ := deferred_err (attempt fx s a prev).resp (attempt fx s a prev).err
      rw [stopOut, hr'] at hr
      cases hr
      rw [e1] at hr' herr
      cases prev with
      | none => exact .inl (nilGuard_keeps k.err none _ (fun _ => k.empty _ rfl rfl) (fun _ h => nomatch h) r hr')
      | some p =>
        refine .inr ⟨nilGuard_keeps jerr (some p) _ (fun h => nomatch h) hp r hr', ?_⟩
        rw [herr, Option.bind_some]
        cases p.err with
        | some e => exact Option.some_ne_none _
        | none => exact e2
  case wait =>
    intro a prev r0 _ hI _
    refine ⟨rfl, fun _ => rfl, ?_⟩
    rintro _ ⟨⟩
    exact .inl (k.err _ _ (k.keeps_applyHook r0 _ hI))
  case next =>
    intro a prev r0 o _ hI ih _
    refine ih ?_
    rintro _ ⟨⟩
    exact ij _ (k.keeps_applyHook r0 _ hI)

include h1 h2 in
theorem keeps_callDo {J : Resp → Prop} (jerr : ∀ r e, J r → J { r with err := e }) (ij : ∀ r, I r → J (cleanup r)) :
    (callDo fx s).crash = false ∧ ((callDo fx s).exhausted = false → (callDo fx s).resp.isSome = true) ∧
    ∀ r, (callDo fx s).resp = some r → I r ∨ (J r ∧ r.err ≠ none) := by
  rcases callDo_cases fx s with ⟨e, _, h⟩ | h <;> rw [h]
  · exact ⟨rfl, fun _ => rfl, by rintro _ ⟨⟩; exact .inl (k.empty _ rfl rfl)⟩
  · exact k.keeps_doLoop h1 h2 jerr ij _ _ none fun _ h => nomatch h

end Kept

theorem callDo_guarded (fx : Fixes) (h1 : fx.nilGuard = true) (h2 : fx.digestRebind = true) (s : Stack) :
    (callDo fx s).crash = false ∧ ((callDo fx s).exhausted = false → (callDo fx s).resp.isSome = true) :=
  have h := (Kept.trivial s).keeps_callDo h1 h2 (J := fun _ => True) (fun _ _ _ => ⟨⟩) fun _ _ => ⟨⟩
  ⟨h.1, h.2.1⟩

/-- `do` of the repaired code, no suppressing stage: the response it returns records an error
whenever a stage of the LAST attempt raised one, and the recorded error is one that a stage
raised during the call (or was already recorded in the response handed in, or is the context's
error assigned by the wait before a retry). -/
theorem doLoop_seen (s : Stack) (hl : s.Loud) (hrh : ∀ a, s.retryHookAt a = .nop) :
    ∀ fuel a prev, (doLoop Fixes.all s fuel a prev).exhausted = false →
      ∃ r tl, (doLoop Fixes.all s fuel a prev).resp = some r ∧
      (doLoop Fixes.all s fuel a prev).atts.getLast? = some tl ∧
      (raisedOf tl.evs ≠ [] → r.err ≠ none) ∧
      (∀ e, r.err = some e → e ∈ allRaised (doLoop Fixes.all s fuel a prev).atts ∨ prev.bind (·.err) = some e ∨ e = .ctxDone) := by
  refine (Kept.trivial s).doLoop_induct (fx := Fixes.all) rfl rfl
    (P := fun prev o => o.exhausted = false → ∃ r tl, o.resp = some r ∧ o.atts.getLast? = some tl ∧
      (raisedOf tl.evs ≠ [] → r.err ≠ none) ∧
      ∀ e, r.err = some e → e ∈ allRaised o.atts ∨ prev.bind (·.err) = some e ∨ e = .ctxDone)
    (exhausted := ?exhausted) (stop := ?stop) (wait := ?wait) (next := ?next)
  case exhausted => exact fun _ h => Bool.noConfusion h
  case stop =>
    intro a prev _
    obtain ⟨r, h1, h2⟩ := deferred_err (attempt Fixes.all s a prev).resp (attempt Fixes.all s a prev).err
    obtain ⟨c1, c2⟩ := attempt_seen s hl a prev
    refine ⟨r, _, h1, rfl, by rw [h2]; exact c1, fun e he => ?_⟩
    rw [h2] at he
    rcases c2 e he with h | h
    · exact .inl (by simpa [allRaised, stopOut] using h)
    · exact .inr (.inl h)
  case wait =>
    intro a prev r _ _ _
    exact ⟨_, _, rfl, rfl, fun _ => Option.some_ne_none _, fun e he => .inr (.inr (Option.some.inj he).symm)⟩
  case next =>
    intro a prev r0 o hr0 _ ih hex
    obtain ⟨r, tl, i1, i2, i3, i4⟩ := ih hex
    obtain ⟨_, c2⟩ := attempt_seen s hl a prev
    refine ⟨r, tl, i1, by rw [List.getLast?_cons, i2]; rfl, i3, fun e he => ?_⟩
    rcases i4 e he with h | h | h
    · exact .inl (by rw [allRaised, List.flatMap_cons]; exact List.mem_append_right _ h)
    · -- the error came in with the response of this attempt
      rw [hrh a] at h
      have hs : (attempt Fixes.all s a prev).seen = some e := by
        rw [Att.seen, hr0, show (some r0).bind (·.err) = some e from h]; rfl
      rcases c2 e hs with h' | h'
      · exact .inl (by rw [allRaised, List.flatMap_cons]; exact List.mem_append_left _ h')
      · exact .inr (.inl h')
    · exact .inr (.inr h)

end Req.Pipeline
