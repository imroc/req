import Req.H1.RoundTrip
import Req.Lemmas.H1Fidelity
import Req.Lemmas.Pct
/-! Lemmas that derive the hypotheses of `h1_fidelity` from the checks the code really makes
(`Transport.roundTrip`'s validation, `URL.EscapedPath`, the control-byte check of `writeRequest`). -/
namespace Req.Lemmas.H1Valid
open Req.Proto Req.Ascii Req.BStr Req.Url Req.Pct Req.Validate Req.H1 Req.HeaderSort

/-- a printable ASCII byte other than SP -/
def visible (b : UInt8) : Bool := 33 ≤ b && b ≤ 126

/-- the per-byte test of `validEncoded` -/
def encOK (m : Mode) (c : UInt8) : Bool :=
  if c == 33 || c == 36 || c == 38 || c == 39 || c == 40 || c == 41 || c == 42 || c == 43 ||
     c == 44 || c == 59 || c == 61 || c == 58 || c == 64 || c == 91 || c == 93 || c == 37
  then true
  else !shouldEscape c m

theorem validEncoded_eq (m : Mode) (s : Bytes) : validEncoded m s = s.all (encOK m) := rfl

theorem encOK_visible {b : UInt8} (h : encOK .path b = true) : visible b = true := by
  simpa [h] using Req.U8.all (fun b => !encOK .path b || visible b) (by decide +kernel) b

theorem hostByte_visible {b : UInt8} (h : validHostByte b = true) : visible b = true := by
  simpa [h] using Req.U8.all (fun b => !validHostByte b || visible b) (by decide +kernel) b

theorem visible_ne {b : UInt8} (h : visible b = true) : b ≠ 32 ∧ b ≠ 13 ∧ b ≠ 10 := by
  refine ⟨?_, ?_, ?_⟩ <;> rintro rfl <;> exact absurd h (by decide)

theorem validMethod_bytes (m : Bytes) (h : validMethod m = true) :
    ∀ b ∈ m, b ≠ 32 ∧ b ≠ 13 := by
  unfold validMethod at h
  simp only [Bool.and_eq_true] at h
  exact fun b hb => ⟨List.all_ne h.2 (by decide) b hb, List.all_ne h.2 (by decide) b hb⟩

theorem escape_path_visible (s : Bytes) : ∀ b ∈ escape .path s, visible b = true :=
  escape_forall (by decide) nofun (fun _ h => encOK_visible (by simp [encOK, h])) s

/-- `URL.EscapedPath` is free of SP, control bytes and non-ASCII bytes, whatever `Path` / `RawPath`
hold. -/
theorem escapedPath_visible (u : Url) : ∀ b ∈ escapedPath u, visible b = true := by
  intro b hb
  unfold escapedPath at hb
  split at hb
  next h =>
    simp only [Bool.and_eq_true] at h
    exact encOK_visible (List.all_eq_true.mp (validEncoded_eq .path _ ▸ h.1.2) b hb)
  next h =>
    split at hb
    · simp only [List.mem_singleton] at hb; rw [hb]; decide
    · exact escape_path_visible u.path b hb

theorem requestURI_ne_nil (u : Url) (ho : u.opaq.isEmpty = true) : requestURI u ≠ [] := by
  unfold requestURI
  simp only [ho, if_true]
  split
  · split <;> simp
  · split
    · simp
    next h =>
      intro hc
      exact h (by simp [hc])

theorem requestURI_mem (u : Url) (b : UInt8) (hb : b ∈ requestURI u) :
    visible b = true ∨ b ∈ u.rawQuery ∨ (u.opaq ≠ [] ∧ (b ∈ u.opaq ∨ b ∈ u.scheme)) := by
  unfold requestURI at hb
  simp only at hb
  generalize hr : (if u.opaq.isEmpty = true then _ else _) = r at hb
  have hpath : b ∈ r → visible b = true ∨ (u.opaq ≠ [] ∧ (b ∈ u.opaq ∨ b ∈ u.scheme)) := by
    subst hr
    intro hx
    split at hx
    · left
      split at hx
      · simp only [List.mem_singleton] at hx; rw [hx]; decide
      · exact escapedPath_visible u b hx
    next ho =>
      have ho : u.opaq ≠ [] := fun e => ho (by simp [e])
      split at hx
      · simp only [List.mem_append, List.mem_singleton] at hx
        rcases hx with (h | h) | h
        · exact .inr ⟨ho, .inr h⟩
        · rw [h]; exact .inl (by decide)
        · exact .inr ⟨ho, .inl h⟩
      · exact .inr ⟨ho, .inl hx⟩
  split at hb
  · simp only [List.mem_append, List.mem_singleton] at hb
    rcases hb with (h | h) | h
    · exact (hpath h).imp_right .inr
    · rw [h]; exact .inl (by decide)
    · exact .inr (.inl h)
  · exact (hpath hb).imp_right .inr

/-- a byte of `URL.RequestURI()` that is not visible ASCII comes from `RawQuery` (or from
`Opaque` / `Scheme` of an opaque URL): the path part is always escaped. -/
theorem requestURI_invisible (u : Url) (b : UInt8) (hb : b ∈ requestURI u) (hv : visible b = false) :
    b ∈ u.rawQuery ∨ b ∈ u.opaq ∨ b ∈ u.scheme := by
  rcases requestURI_mem u b hb with h | h | h
  · rw [h] at hv; cases hv
  · exact .inl h
  · exact .inr h.2

/-- the test of `serializeH1` is the one `Bridge.PureHttp.stringContainsCTLByte_bridge` ties to the Go
function -/
theorem containsCTL_eq (s : Bytes) : containsCTL s = s.any isCTL := rfl

theorem containsCTL_false {s : Bytes} (h : containsCTL s = false) : ∀ b ∈ s, b ≠ 13 ∧ b ≠ 10 := by
  intro b hb
  rw [containsCTL_eq] at h
  have := List.any_eq_false.mp h b hb
  constructor <;> rintro rfl <;> exact absurd this (by decide)

theorem hdrFirst_mem (h : Hdr) (k : Bytes) (hne : hdrFirst h k ≠ []) :
    ∃ kv ∈ h, hdrFirst h k ∈ kv.values := by
  unfold hdrFirst hdrGet? at *
  cases hf : h.find? (fun x => x.key == k) with
  | none => simp [hf] at hne
  | some kv =>
    simp only [hf, Option.map_some] at hne ⊢
    have hm : kv ∈ h := List.mem_of_find?_eq_some hf
    cases hv : kv.values with
    | nil => simp [hv] at hne
    | cons v vs => exact ⟨kv, hm, by simp [hv]⟩

theorem headersValid_value (h : Hdr) (hv : headersValid (headerPairs h) = true) :
    ∀ kv ∈ h, validHeaderFieldName kv.key = true ∧ ∀ v ∈ kv.values, validHeaderFieldValue v = true := by
  intro kv hkv
  unfold headersValid headerPairs at hv
  have := List.all_eq_true.mp hv (kv.key, kv.values) (List.mem_map.mpr ⟨kv, hkv, rfl⟩)
  simp only [Bool.and_eq_true] at this
  exact ⟨this.1, fun v hv' => List.all_eq_true.mp this.2 v hv'⟩

theorem send_ok_parts (r : WReq) (wire : Bytes) (h : sendH1 r = .ok wire) :
    roundTripChecks r = .ok () ∧ serializeH1 r = .ok wire := by
  unfold sendH1 at h
  cases hc : roundTripChecks r with
  | error e => simp [hc] at h
  | ok u =>
    simp only [hc] at h
    cases hs : serializeH1 r with
    | error e => simp [hs] at h
    | ok w => simp only [hs, Except.ok.injEq] at h; subst h; exact ⟨rfl, rfl⟩

theorem checks_ok (r : WReq) (h : roundTripChecks r = .ok ()) :
    headersValid (headerPairs r.header) = true ∧ (r.method = [] ∨ validMethod r.method = true) ∧
      r.url.host ≠ [] := by
  unfold roundTripChecks at h
  split at h
  · exact absurd h (by simp)
  next h1 =>
    split at h
    · exact absurd h (by simp)
    next h2 =>
      split at h
      · exact absurd h (by simp)
      next h3 =>
        refine ⟨by simpa using h1, ?_, ?_⟩
        · simp only [Bool.and_eq_true, Bool.not_eq_true', not_and, Bool.not_eq_false] at h2
          cases hm : r.method with
          | nil => exact Or.inl rfl
          | cons a b =>
            right
            rw [← hm]
            apply h2
            simp [hm]
        · intro hc; exact h3 (by simp [hc])

theorem methodOrGet_bytes (m : Bytes) (hm : m = [] ∨ validMethod m = true) :
    ∀ b ∈ methodOrGet m, b ≠ 32 ∧ b ≠ 13 := by
  rcases hm with rfl | hm
  · decide
  · have hne : m.isEmpty = false := by
      unfold validMethod at hm
      simp only [Bool.and_eq_true, Bool.not_eq_true'] at hm
      exact hm.1
    unfold methodOrGet
    rw [if_neg (by simp [hne])]
    exact validMethod_bytes m hm

/-- the host `writeRequest` puts on the wire is visible ASCII (or empty). -/
theorem wireHost_visible (r : WReq) (host : Bytes) (h : wireHost r = .ok host) :
    ∀ b ∈ host, visible b = true :=
  fun b hb => hostByte_visible (List.all_eq_true.mp (Origin.wireHost_valid r host h) b hb)

end Req.Lemmas.H1Valid
