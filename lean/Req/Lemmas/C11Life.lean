import Req.Client.RedirectLifetime
/-! C11: the forward client-family state machine agrees with the look-back specification. -/
namespace Req.Lemmas.C11
open Req.Redirect.Lifetime

theorem lifetime_run_spec {α : Type} (dflt : α) (h : List (Op α)) :
    (run dflt h).length = nClients h ∧ ∀ j, (run dflt h)[j]? = resolve dflt h j := by
  induction h with
  | nil =>
    refine ⟨rfl, ?_⟩
    intro j
    cases j <;> simp [run, resolve]
  | cons op h ih =>
    obtain ⟨hl, hr⟩ := ih
    cases op with
    | set i ps empty =>
      cases empty with
      | true =>
        refine ⟨by simpa [run, step, nClients] using hl, ?_⟩
        intro j
        simp [run, step, resolve, hr]
      | false =>
        refine ⟨by simpa [run, step, nClients] using hl, ?_⟩
        intro j
        simp only [run, step, Bool.false_eq_true, if_false, resolve, true_and]
        rw [List.getElem?_set]
        by_cases hij : i = j
        · subst hij
          by_cases hlt : i < nClients h
          · simp [hlt, hl]
          · simp [hlt, hl, ← hr]
        · simp [hij, hr]
    | clone i =>
      simp only [run, step, nClients, resolve]
      by_cases hlt : i < nClients h
      · have hi : i < (run dflt h).length := by omega
        have hget : (run dflt h)[i]? = some (run dflt h)[i] := List.getElem?_eq_getElem hi
        rw [hget]
        refine ⟨by simp [hlt, hl], ?_⟩
        intro j
        simp only [hlt, true_and]
        by_cases hj : j = nClients h
        · subst hj
          simp [← hl, ← hr, hget]
        · simp only [hj, if_false, ← hr]
          rw [List.getElem?_append]
          by_cases hjl : j < (run dflt h).length
          · simp [hjl]
          · have : j - (run dflt h).length ≠ 0 := by omega
            simp [hjl, this]
      · have hnone : (run dflt h)[i]? = none := by
          apply List.getElem?_eq_none; omega
        rw [hnone]
        refine ⟨by simp [hlt, hl], ?_⟩
        intro j
        simp [hlt, hr]

end Req.Lemmas.C11
