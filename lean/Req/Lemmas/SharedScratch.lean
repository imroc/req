import Req.Client.SharedScratch
/-!
Writers sharing scratch objects (`Req.SharedScratch`) under the discipline of the code (`hold = true`):
`Inv` says that every writer owns what its phase says (`Own`), two writers never hold one object, and
the free list is duplicate-free and allocated; `inv_step` / `inv_run` keep it along every schedule.
`remaining` counts the steps a writer still needs in pool mode (`remaining_run`).
-/
namespace Req.SharedScratch

@[simp] theorem upd_same {β : Type} (f : Nat → β) (i : Nat) (v : β) : upd f i v i = v := by simp [upd]
@[simp] theorem upd_other {β : Type} (f : Nat → β) (i j : Nat) (v : β) (h : j ≠ i) : upd f i v j = f j := by
  simp [upd, h]

/-- writer `i` holds object `id` and has read `pos` items from it. -/
structure Holds {α : Type} (reqs : Nat → List α) (s : State α) (i id pos : Nat) : Prop where
  content : s.slots id = reqs i
  notFree : id ∉ s.free
  allocated : id < s.next
  output : s.out i = (reqs i).take pos

/-- what writer `i` has got so far: nothing; an object filled with its own request; everything. -/
def Own {α : Type} (reqs : Nat → List α) (s : State α) (i : Nat) : Prop :=
  match s.phase i with
  | .idle => s.out i = []
  | .holding id pos => Holds reqs s i id pos
  | .done => s.out i = reqs i

/-- What the discipline of the code maintains. -/
structure Inv {α : Type} (reqs : Nat → List α) (s : State α) : Prop where
  own : ∀ i, Own reqs s i
  excl : ∀ i j id p q, s.phase i = .holding id p → s.phase j = .holding id q → i = j
  freeLt : ∀ f, f ∈ s.free → f < s.next
  nodup : s.free.Nodup

theorem Inv.held {α : Type} {reqs : Nat → List α} {s : State α} (h : Inv reqs s) {i id pos : Nat}
    (hi : s.phase i = .holding id pos) : Holds reqs s i id pos := by
  have := h.own i
  simpa only [Own, hi] using this

theorem inv_init {α : Type} (reqs : Nat → List α) : Inv reqs (init : State α) := by
  constructor <;> simp [init, Own]

/-- a step of another writer leaves writer `j`'s clause alone when it keeps `j`'s phase and output
and, for the object `j` holds, its content, its absence from the free list and its being allocated. -/
theorem Own.frame {α : Type} {reqs : Nat → List α} {s s' : State α} {j : Nat} (h : Own reqs s j)
    (hp : s'.phase j = s.phase j) (ho : s'.out j = s.out j)
    (hk : ∀ id pos, s.phase j = .holding id pos → id ∉ s.free → id < s.next →
      s'.slots id = s.slots id ∧ id ∉ s'.free ∧ id < s'.next) : Own reqs s' j := by
  unfold Own at h ⊢
  rw [hp, ho]
  cases hj : s.phase j with
  | idle => simpa only [hj] using h
  | done => simpa only [hj] using h
  | holding id pos =>
    simp only [hj] at h ⊢
    obtain ⟨hslot, hfree, hnext⟩ := hk id pos hj h.notFree h.allocated
    exact { content := hslot ▸ h.content, notFree := hfree, allocated := hnext, output := ho.trans h.output }

/-- writer takes object `f`, leaving `fr` free and `nx` as the next fresh id: `f` is the head of the
free list or fresh. -/
structure Acquired {α : Type} (s : State α) (f : Nat) (fr : List Nat) (nx : Nat) : Prop where
  source : f ∈ s.free ∨ f = s.next
  notFree : f ∉ fr
  allocated : f < nx
  next_le : s.next ≤ nx
  nodup : fr.Nodup
  sub : ∀ g ∈ fr, g ∈ s.free

/-- an idle writer's step: nothing (the mutex is taken), or it takes an object `f` nobody holds —
the head of the free list or a fresh one — and fills it. -/
theorem step_idle {α : Type} (cap : Option Nat) (reqs : Nat → List α) (s : State α) (i : Nat)
    (h : Inv reqs s) (hi : s.phase i = .idle) :
    step true cap reqs s i = s ∨ ∃ f fr nx, Acquired s f fr nx ∧
      step true cap reqs s i = { s with slots := upd s.slots f (reqs i), free := fr, next := nx,
                                        phase := upd s.phase i (.holding f 0) } := by
  unfold step
  simp only [hi, if_true]
  cases hf : s.free with
  | cons f fs =>
    have hnd := h.nodup
    rw [hf] at hnd
    exact Or.inr ⟨f, fs, s.next,
      { source := Or.inl (hf ▸ List.mem_cons_self ..), notFree := (List.nodup_cons.mp hnd).1,
        allocated := h.freeLt f (hf ▸ List.mem_cons_self ..), next_le := Nat.le_refl _,
        nodup := (List.nodup_cons.mp hnd).2, sub := fun g hg => hf ▸ List.mem_cons_of_mem _ hg }, rfl⟩
  | nil =>
    simp only
    split
    · exact Or.inr ⟨s.next, [], s.next + 1,
        { source := Or.inr rfl, notFree := List.not_mem_nil, allocated := Nat.lt_succ_self _,
          next_le := Nat.le_succ _, nodup := List.nodup_nil, sub := fun g hg => nomatch hg }, rfl⟩
    · exact Or.inl rfl

theorem excl_upd {phase : Nat → Phase}
    (hex : ∀ i j id p q, phase i = .holding id p → phase j = .holding id q → i = j)
    (i : Nat) (ph : Phase) (hnew : ∀ id p, ph = .holding id p → ∀ j q, j ≠ i → phase j ≠ .holding id q) :
    ∀ j k id p q, upd phase i ph j = .holding id p → upd phase i ph k = .holding id q → j = k := by
  intro j k id p q hj hk
  by_cases ej : j = i <;> by_cases ek : k = i
  · rw [ej, ek]
  · subst ej; rw [upd_same] at hj; rw [upd_other _ _ _ _ ek] at hk; exact absurd hk (hnew id p hj k q ek)
  · subst ek; rw [upd_same] at hk; rw [upd_other _ _ _ _ ej] at hj; exact absurd hj (hnew id q hk j p ej)
  · rw [upd_other _ _ _ _ ej] at hj; rw [upd_other _ _ _ _ ek] at hk; exact hex j k id p q hj hk

theorem inv_step {α : Type} (cap : Option Nat) (reqs : Nat → List α) (s : State α) (i : Nat)
    (h : Inv reqs s) : Inv reqs (step true cap reqs s i) := by
  cases hi : s.phase i with
  | done => simpa only [step, hi] using h
  | idle =>
    rcases step_idle cap reqs s i h hi with e | ⟨f, fr, nx, ha, e⟩
    · rwa [e]
    rw [e]
    -- no writer holds `f`
    have hnot : ∀ j id pos, s.phase j = .holding id pos → id ≠ f := fun j id pos hj e => by
      have hh := h.held hj
      rcases ha.source with hf | hf
      · exact hh.notFree (e ▸ hf)
      · exact Nat.lt_irrefl _ (hf ▸ e ▸ hh.allocated)
    refine ⟨fun j => ?_, excl_upd h.excl i _ fun id p e j q _ hj => ?_, fun g hg => ?_, ha.nodup⟩
    · by_cases ej : j = i
      · subst ej
        have ho : s.out j = [] := by simpa only [Own, hi] using h.own j
        simp only [Own, upd_same]
        exact { content := upd_same .., notFree := ha.notFree, allocated := ha.allocated, output := ho }
      · refine (h.own j).frame (upd_other _ _ _ _ ej) rfl fun id pos hj h1 h2 => ?_
        exact ⟨upd_other _ _ _ _ (hnot j id pos hj), fun hm => h1 (ha.sub id hm),
          Nat.lt_of_lt_of_le h2 ha.next_le⟩
    · cases e; exact hnot j _ q hj rfl
    · exact Nat.lt_of_lt_of_le (h.freeLt g (ha.sub g hg)) ha.next_le
  | holding id pos =>
    have hh := h.held hi
    unfold step
    simp only [hi, if_true]
    split
    next hlt =>
      -- one more item read from the object into the writer's own output
      refine ⟨fun j => ?_, excl_upd h.excl i _ fun id' p e j q ej hj => ?_, h.freeLt, h.nodup⟩
      · by_cases ej : j = i
        · subst ej
          simp only [Own, upd_same]
          exact { hh with output := by simp [hh.content, hh.output, ← List.take_add] }
        · exact (h.own j).frame (upd_other _ _ _ _ ej) (upd_other _ _ _ _ ej) fun _ _ _ h1 h2 =>
            ⟨rfl, h1, h2⟩
      · cases e; exact ej (h.excl j i _ q pos hj hi)
    next hge =>
      -- the object goes back; the output is the whole request
      refine ⟨fun j => ?_, excl_upd h.excl i _ fun _ _ e => Phase.noConfusion e, fun g hg => ?_, ?_⟩
      · by_cases ej : j = i
        · subst ej
          simp [Own, hh.output, List.take_of_length_le (Nat.le_of_not_lt hge)]
        · refine (h.own j).frame (upd_other _ _ _ _ ej) rfl fun id' pos' hj h1 h2 => ⟨rfl, ?_, h2⟩
          intro hm
          rcases List.mem_cons.mp hm with rfl | hm
          · exact ej (h.excl j i id' pos' pos hj hi)
          · exact h1 hm
      · rcases List.mem_cons.mp hg with rfl | hg
        · exact hh.allocated
        · exact h.freeLt g hg
      · exact List.nodup_cons.mpr ⟨hh.notFree, h.nodup⟩

theorem inv_run {α : Type} (cap : Option Nat) (reqs : Nat → List α) (sched : List Nat) (s : State α)
    (h : Inv reqs s) : Inv reqs (run true cap reqs s sched) := by
  induction sched generalizing s with
  | nil => exact h
  | cons i t ih => exact ih _ (inv_step cap reqs s i h)

/-- steps writer `i` still needs. -/
def remaining (reqs : Nat → List α) (s : State α) (i : Nat) : Nat :=
  match s.phase i with
  | .idle => (reqs i).length + 2
  | .holding _ pos => ((reqs i).length - pos) + 1
  | .done => 0

theorem step_phase_other (hold : Bool) (cap : Option Nat) (reqs : Nat → List α) (s : State α) (i j : Nat)
    (h : i ≠ j) : (step hold cap reqs s j).phase i = s.phase i := by
  unfold step
  split
  · split
    · simp [h]
    · split
      · simp [h]
      · rfl
  · split
    · simp [h]
    · simp [h]
  · rfl

theorem step_remaining_self (hold : Bool) (reqs : Nat → List α) (s : State α) (i : Nat) :
    remaining reqs (step hold none reqs s i) i = remaining reqs s i - 1 := by
  unfold remaining step
  cases hp : s.phase i with
  | idle => cases hf : s.free <;> simp [mayAlloc]
  | holding id pos => by_cases hlt : pos < (reqs i).length <;> simp [hlt] <;> omega
  | done => simp [hp]

theorem remaining_run (hold : Bool) (reqs : Nat → List α) (sched : List Nat) (s : State α) (i : Nat) :
    remaining reqs (run hold none reqs s sched) i = remaining reqs s i - sched.count i := by
  induction sched generalizing s with
  | nil => simp [run]
  | cons j t ih =>
    have : run hold none reqs s (j :: t) = run hold none reqs (step hold none reqs s j) t := rfl
    rw [this, ih]
    by_cases e : j = i
    · subst e
      rw [step_remaining_self]
      simp
      omega
    · have e' : i ≠ j := fun h => e h.symm
      have : remaining reqs (step hold none reqs s j) i = remaining reqs s i := by
        unfold remaining
        rw [step_phase_other hold none reqs s i j e']
      rw [this]
      simp [e]

theorem done_of_remaining_zero (reqs : Nat → List α) (s : State α) (i : Nat)
    (h : remaining reqs s i = 0) : s.phase i = .done := by
  unfold remaining at h
  split at h <;> first | omega | assumption

end Req.SharedScratch
