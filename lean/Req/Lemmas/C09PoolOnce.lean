import Req.Lemmas.C09PoolExcl
/-! A want is delivered at most once (C09): `wantConn.done` is monotone and the delivered
connection never changes. -/
namespace Req.Lemmas.C09PoolOnce
open Req.Pool.H1Pool Req.Lemmas.C09Pool Req.Lemmas.C09PoolExcl

/-- `s'` is a legal successor of `s` as far as want states go. -/
def WstOK (s s' : St) : Prop :=
  ∀ w, (s.wst w ≠ .waiting → s'.wst w ≠ .waiting) ∧
       ∀ c, (s'.wst w).holds c = true → (s.wst w).holds c = true ∨ s.wst w = .waiting

theorem WstOK_of_eq {s s' : St} (h : s'.wst = s.wst) : WstOK s s' := by
  intro w; rw [h]; exact ⟨id, fun c hc => Or.inl hc⟩

theorem WstOK_trans {a b c : St} (h1 : WstOK a b) (h2 : WstOK b c) : WstOK a c := by
  intro w
  refine ⟨fun h => (h2 w).1 ((h1 w).1 h), ?_⟩
  intro x hx
  rcases (h2 w).2 x hx with h | h
  · exact (h1 w).2 x h
  · by_cases ha : a.wst w = .waiting
    · exact Or.inr ha
    · exact absurd h ((h1 w).1 ha)

theorem WstOK_upd_waiting (s : St) (w0 : Want) (v : WSt) (hw : s.wst w0 = .waiting) (hv : v ≠ .waiting)
    {s' : St} (h : s'.wst = upd s.wst w0 v) : WstOK s s' := by
  intro w
  rw [h]
  simp only [upd]
  split
  · next he => subst he; exact ⟨fun _ => hv, fun c _ => Or.inr hw⟩
  · exact ⟨id, fun c hc => Or.inl hc⟩

theorem WstOK_upd_shrink (s : St) (w0 : Want) (v : WSt) (hv : v ≠ .waiting)
    (hsub : ∀ c, v.holds c = true → (s.wst w0).holds c = true)
    {s' : St} (h : s'.wst = upd s.wst w0 v) : WstOK s s' := by
  intro w
  rw [h]
  simp only [upd]
  split
  · next he => subst he; exact ⟨fun _ => hv, fun c hc => Or.inl (hsub c hc)⟩
  · exact ⟨id, fun c hc => Or.inl hc⟩

@[simp] theorem evictOldest_wst' (cfg : Cfg) (s : St) : (evictOldest cfg s).wst = s.wst := by
  unfold evictOldest; split <;> simp
@[simp] theorem addIdle_wst (cfg : Cfg) (s : St) (c : Conn) (k : Key) : (addIdle cfg s c k).wst = s.wst := by
  unfold addIdle; simp only; split <;> simp

theorem WstOK_move {cfg : Cfg} {s s' : St} (m : Move cfg s s') : WstOK s s' := by
  cases m with
  | handOver w c k l _ _ hw => exact WstOK_upd_waiting s w (.gotConn c) hw (by simp) rfl
  | deliverTransit w c _ _ hw => exact WstOK_upd_waiting s w (.gotConn c) hw (by simp) rfl
  | toErr w hw => exact WstOK_upd_waiting s w .gotErr hw (by simp) rfl
  | wstSame w v hv hnw => exact WstOK_upd_shrink s w v hnw (fun d hd => by rw [← hv]; exact hd) rfl
  | release w c v _ hv hnw => exact WstOK_upd_shrink s w v hnw (fun d hd => by rw [hv] at hd; cases hd) rfl
  | addIdle c k => exact WstOK_of_eq (addIdle_wst cfg _ c k)
  | dialDrop | closeT | close | remove | idleTimeout => exact WstOK_of_eq (by simp)
  | _ => exact WstOK_of_eq rfl

theorem WstOK_step (cfg : Cfg) (s : St) (op : Op) : WstOK s (step cfg s op).1 :=
  (step_moves cfg s op).keeps (P := WstOK s) (fun m h => WstOK_trans h (WstOK_move m)) (WstOK_of_eq rfl)

theorem WstOK_run (cfg : Cfg) (s : St) (ops : List Op) : WstOK s (run cfg s ops) :=
  run_moves (P := WstOK s) (fun m h => WstOK_trans h (WstOK_move m)) s ops (WstOK_of_eq rfl)

end Req.Lemmas.C09PoolOnce
