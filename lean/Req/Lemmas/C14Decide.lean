import Req.Client.Compress
/-!
What the decision functions and the header operations of `Req.Client.Compress` compute: that
the three actions are all there are, when `decideH3` takes which branch, that the three stacks'
functions agree behind their early exits, and how `hdel` acts on `hvalues`.
-/
namespace Req.Compress
open Req.Proto

theorem Action.eq_untouched_iff (x : Action) :
    x = .untouched ↔ x ≠ .gunzip ∧ ∀ a, x ≠ .decompress a := by
  cases x <;> simp

theorem decideH3_gunzip (i : RespIn) :
    decideH3 i = .gunzip ↔ i.addedGzip = true ∧ isGzipFold i.ce = true := by
  unfold decideH3
  by_cases hg : (i.addedGzip && isGzipFold i.ce) = true
  · rw [if_pos hg]; simpa using hg
  · rw [if_neg hg]
    refine iff_of_false ?_ (by simpa using hg)
    by_cases ha : (i.autoDecompress && !i.isHead) = true
    · rw [if_pos ha]; cases select i.ce <;> simp
    · rw [if_neg ha]; simp

theorem decideH3_decompress (i : RespIn) (a : Alg) :
    decideH3 i = .decompress a ↔ i.isHead = false ∧
      ¬(i.addedGzip = true ∧ isGzipFold i.ce = true) ∧ i.autoDecompress = true ∧
      select i.ce = some a := by
  unfold decideH3
  by_cases hg : (i.addedGzip && isGzipFold i.ce) = true
  · rw [if_pos hg]
    exact iff_of_false (by simp) (fun h => h.2.1 (by simpa using hg))
  · rw [if_neg hg]
    have hg' : ¬(i.addedGzip = true ∧ isGzipFold i.ce = true) := by simpa using hg
    by_cases ha : (i.autoDecompress && !i.isHead) = true
    · rw [if_pos ha]
      have ha' : i.autoDecompress = true ∧ i.isHead = false := by simpa using ha
      cases select i.ce <;> simp [hg', ha']
    · rw [if_neg ha]
      exact iff_of_false (by simp) (fun h => ha (by simp [h.1, h.2.2.1]))

theorem hvalues_hdel_self (h : Header) (k : Bytes) : hvalues (hdel h k) k = [] := by
  unfold hvalues hdel
  rw [List.filter_filter]
  have : (List.filter (fun a => (a.1 == k && a.1 != k)) h) = [] := by
    rw [List.filter_eq_nil_iff]; intro a _; cases h : a.1 == k <;> simp_all
  simp [this]

theorem hdel_comm (h : Header) (k k' : Bytes) : hdel (hdel h k) k' = hdel (hdel h k') k := by
  unfold hdel; simp only [List.filter_filter]; congr 1; funext a; exact Bool.and_comm _ _

theorem hvalues_hdel_other (h : Header) (k k' : Bytes) (hne : k' ≠ k) :
    hvalues (hdel h k) k' = hvalues h k' := by
  unfold hvalues hdel
  rw [List.filter_filter]
  congr 1
  apply List.filter_congr
  intro a _
  cases h1 : a.1 == k' <;> simp_all

theorem decideH1_eq_decideH2 (i : RespIn) : decideH1 i = decideH2 i := by
  unfold decideH1 decideH2
  cases h1 : i.isHead <;> cases h2 : i.hasBody <;> simp

theorem decideH2_eq_decideH3 (i : RespIn) (hb : i.hasBody = true)
    (hh : i.isHead = true → i.addedGzip = false) : decideH2 i = decideH3 i := by
  unfold decideH2 decideH3 decideCore
  cases h1 : i.isHead
  · simp [hb]
  · simp [hh h1]

end Req.Compress
