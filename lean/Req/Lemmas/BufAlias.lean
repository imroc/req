import Req.H1.BufAlias
import Req.Lemmas.BufLine
/-! The aliasing reader `Req.H1.BufAlias` (the buffer as an explicit array, lines as views into it) against the
value-semantics reader `Req.H1.BufLine`, primitive by primitive: a view read at the moment the call returns
holds what the value reader returns, and the unread bytes, pending error and rest of the script are the same. -/
namespace Req.H1.BufAlias
open Req.Proto Req.H1 Req.H1.BufLine

/-- A view of the last consumed bytes, or of a prefix of them. -/
theorem deref_mid (a : ARd) {p x : Bytes} (h : a.pre = p ++ x) {k : Nat} (hk : k ≤ x.length) :
    a.deref ⟨p.length, k⟩ = x.take k := by
  simp only [ARd.deref, ARd.arr, h, List.append_assoc, List.drop_left',
    List.take_append_of_le_length hk]

theorem areadSliceLoop_view (B f : Nat) (a : ARd) :
    (areadSliceLoop B f a).2.rd = (readSliceLoop B f a.rd).2 ∧
    (areadSliceLoop B f a).1.2 = (readSliceLoop B f a.rd).1.err ∧
    ∃ p, (areadSliceLoop B f a).2.pre = p ++ (readSliceLoop B f a.rd).1.line ∧
      (areadSliceLoop B f a).1.1 = ⟨p.length, (readSliceLoop B f a.rd).1.line.length⟩ := by
  induction f generalizing a with
  | zero => exact ⟨rfl, rfl, a.pre, by simp [areadSliceLoop, readSliceLoop]⟩
  | succ f ih =>
    unfold areadSliceLoop readSliceLoop
    cases hc : cutNL a.rd.buf with
    | some p =>
      obtain ⟨line, rest⟩ := p
      have hb := cutNL_append hc
      exact ⟨by simp [consume, ← hb], rfl, a.pre, by simp [consume, ← hb], rfl⟩
    | none =>
      cases he : a.rd.err with
      | some e => exact ⟨by simp [consume, clearErr, he], rfl, a.pre, by simp [consume, clearErr], rfl⟩
      | none =>
        simp only
        split
        · exact ⟨by simp [consume, he], rfl, a.pre, by simp [consume], rfl⟩
        · exact ih (afill B a)

theorem readSlice_view (B : Nat) (a : ARd) :
    (areadSlice B a).2.rd = (readSlice B a.rd).2 ∧
    (areadSlice B a).1.2 = (readSlice B a.rd).1.err ∧
    (areadSlice B a).2.deref (areadSlice B a).1.1 = (readSlice B a.rd).1.line ∧
    ∃ p, (areadSlice B a).2.pre = p ++ (readSlice B a.rd).1.line ∧
      (areadSlice B a).1.1 = ⟨p.length, (readSlice B a.rd).1.line.length⟩ := by
  obtain ⟨h1, h2, p, h3, h4⟩ := areadSliceLoop_view B (B + 2) a
  refine ⟨h1, h2, ?_, p, h3, h4⟩
  unfold areadSlice
  rw [h4, deref_mid _ h3 (Nat.le_refl _), List.take_length]
  rfl

theorem dropEOL_eq_take (l : Bytes) : dropEOL l = l.take (eolLen l) := by
  unfold dropEOL eolLen
  split
  · split
    · rw [List.dropLast_eq_take, List.dropLast_eq_take, List.take_take, List.length_take,
        Nat.min_eq_left (Nat.sub_le _ _), Nat.min_eq_left (Nat.sub_le _ _), Nat.sub_sub]
    · exact List.dropLast_eq_take
  · exact List.take_length.symm

theorem eolLen_le (l : Bytes) : eolLen l ≤ l.length := by
  unfold eolLen; split <;> (try split) <;> omega

theorem readLine_view (B : Nat) (a : ARd) :
    (areadLine B a).2.rd = (BufLine.readLine B a.rd).2 ∧
    (areadLine B a).1.isPrefix = (BufLine.readLine B a.rd).1.isPrefix ∧
    (areadLine B a).1.err = (BufLine.readLine B a.rd).1.err ∧
    (areadLine B a).2.deref (areadLine B a).1.v = (BufLine.readLine B a.rd).1.line := by
  obtain ⟨h1, h2, hv, p, h3, h4⟩ := readSlice_view B a
  unfold areadLine BufLine.readLine
  generalize areadSlice B a = ra at *
  generalize readSlice B a.rd = rq at *
  obtain ⟨⟨v, e⟩, a1⟩ := ra
  obtain ⟨q, st1⟩ := rq
  simp only at h1 h2 hv h3 h4 ⊢
  subst h2 h4
  rw [hv]
  split
  · split
    · next hcr =>
      -- "\r" put back: b.r--; the array is not written
      have hl := lastIs_dropLast hcr
      have hpre : a1.pre = (p ++ q.line.dropLast) ++ [13] := by rw [h3, List.append_assoc, hl]
      refine ⟨by simp [unreadRaw, hpre, h1], rfl, rfl, ?_⟩
      have : (unreadRaw a1).pre = p ++ q.line.dropLast := by simp [unreadRaw, hpre]
      have := deref_mid (unreadRaw a1) this (Nat.le_refl _)
      rwa [List.take_length, List.length_dropLast] at this
    · exact ⟨h1, rfl, rfl, hv⟩
  · by_cases h0 : q.line = []
    · rw [if_pos (by simp [h0]), if_pos h0]
      exact ⟨h1, rfl, rfl, by rw [hv, h0]⟩
    · rw [if_neg (by simpa using h0), if_neg h0]
      exact ⟨h1, rfl, rfl, by rw [deref_mid a1 h3 (eolLen_le _), dropEOL_eq_take]⟩

theorem areadByteLoop_view (B f : Nat) (a : ARd) :
    (areadByteLoop B f a).1 = (readByteLoop B f a.rd).1 ∧
    (areadByteLoop B f a).2.rd = (readByteLoop B f a.rd).2 := by
  induction f generalizing a with
  | zero => simp [areadByteLoop, readByteLoop]
  | succ f ih =>
    unfold areadByteLoop readByteLoop
    cases hb : a.rd.buf with
    | cons c rest => simp [consume, hb]
    | nil =>
      simp only
      cases he : a.rd.err with
      | some e => simp [clearErr, hb]
      | none => exact ih (afill B a)

theorem askipSpaceLoop_view (B f : Nat) (acc : Bytes) (a : ARd) :
    (askipSpaceLoop B f acc a).1 = (skipSpaceLoop B f acc a.rd).1 ∧
    (askipSpaceLoop B f acc a).2.rd = (skipSpaceLoop B f acc a.rd).2 := by
  induction f generalizing acc a with
  | zero => simp [askipSpaceLoop, skipSpaceLoop]
  | succ f ih =>
    obtain ⟨h1, h2⟩ := areadByteLoop_view B 2 a
    rw [skipSpaceLoop_succ, readByte, ← h1, ← h2]
    unfold askipSpaceLoop areadByte
    generalize areadByteLoop B 2 a = ra
    obtain ⟨r, a1⟩ := ra
    cases r with
    | error e => exact ⟨rfl, rfl⟩
    | ok c =>
      simp only
      split
      · exact ih (acc ++ [c]) a1
      · exact ⟨rfl, rfl⟩

theorem skipSpace_view (B : Nat) (a : ARd) :
    (askipSpace B a).1 = (skipSpace B a.rd).1 ∧ (askipSpace B a).2.rd = (skipSpace B a.rd).2 :=
  askipSpaceLoop_view B _ [] a

theorem peek2_no_refill (B : Nat) (a : ARd) (h : 1 < a.rd.buf.length) : apeek2 B a = a := by
  have : apeekLoop B 3 a = a := by
    unfold apeekLoop
    rw [if_neg (by omega)]
  unfold apeek2
  simp only [this]
  rw [if_neg (by omega)]

theorem peekOK_nonblank {c : UInt8} {t : Bytes} (h : peekOK (c :: t) = true) :
    isSpTab c = false := by
  cases hs : isSpTab c
  · rfl
  · have : c = 32 ∨ c = 9 := by simpa [isSpTab] using hs
    have h32 : isASCIILetter 32 = false := rfl
    have h9 : isASCIILetter 9 = false := rfl
    rcases this with rfl | rfl <;> cases t <;> simp [peekOK, h32, h9] at h

end Req.H1.BufAlias
