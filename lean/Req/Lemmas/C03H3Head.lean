import Req.Lemmas.C03H3Spec
/-!
C03 — HTTP/3: the response head (`requestStream.ReadResponse` in the loop of `doRequest`, model of
C02) leaves the body reader at a frame boundary: it touches neither the DATA-frame position nor
the trailer flag nor the end marker of the stream — however many informational responses it skips.
First: how the result of the original frame parser (`parseNext`, which the head reader uses) relates
to the repaired one's (`PRel`, `parseNext_rel`); what is known of `parseNextR` carries over.
-/
namespace Req.C03
open Req.Proto Req.C02

/-- How the repaired parser's result relates to the original's; where the two stand at different
places (the repaired parser has read the SETTINGS payload) the end marker is still the same. -/
inductive PRel : Except H3Err H3Frame × Net → Except H3Err H3Frame × Net → Prop
  | data (l : Nat) (n : Net) : PRel (.ok (.data l), n) (.ok (.data l), n)
  | headers (l : Nat) (n : Net) : PRel (.ok (.headers l), n) (.ok (.headers l), n)
  | settings (n n' : Net) : n'.fin = n.fin → PRel (.ok .settings, n) (.ok .settings, n')
  | settingsErr (n n' : Net) (e : H3Err) : n'.fin = n.fin → e ≠ .eof → PRel (.ok .settings, n) (.error e, n')
  | err (e : H3Err) (n : Net) : PRel (.error e, n) (.error e, n)
  | eofTrunc (n : Net) : PRel (.error .eof, n) (.error .unexpectedEOF, n)

theorem PRel.fin {a b : Except H3Err H3Frame × Net} (h : PRel a b) : a.2.fin = b.2.fin := by
  cases h <;> first | rfl | exact Eq.symm ‹_›

theorem PRel.trunc (e : H3Err) (c : Bool) (n : Net) : PRel (.error e, n) (.error (truncatedFrame e c), n) := by
  unfold truncatedFrame
  split
  · rename_i h; cases (h3err_beq_eof _).mp h.1; exact .eofTrunc n
  · exact .err e n

theorem parseNext_rel (fuel : Nat) (n : Net) : PRel (parseNext fuel n) (parseNextR fuel n) := by
  induction fuel generalizing n with
  | zero => exact .err _ _
  | succ fuel ih =>
    unfold parseNext parseNextR
    rcases hv1 : n.readVarint with ⟨r1, n1⟩
    cases r1 with
    | error e => exact .trunc e _ n1
    | ok t =>
      simp only []
      rcases hv2 : n1.readVarint with ⟨r2, n2⟩
      cases r2 with
      | error e => exact .trunc e true n2
      | ok l =>
        simp only []
        by_cases h0 : t = 0
        · simp only [h0, if_true]; exact .data _ _
        by_cases h1 : t = 1
        · simp only [h1, if_true]; simp; exact .headers _ _
        by_cases h4 : t = 4
        · simp only [h4]
          simp only [show (4 : Nat) ≠ 0 by decide, show (4 : Nat) ≠ 1 by decide, if_false, if_true]
          have hf := Net.readN_fin (l + 1) l [] n2
          rcases hr : Net.readN (l + 1) l [] n2 with ⟨⟨p, oe⟩, n3⟩
          rw [hr] at hf
          cases oe with
          | none => exact .settings _ _ hf
          | some e => cases e <;> exact .settingsErr _ _ _ hf (by simp)
        simp only [h0, h1, h4, if_false]
        split
        · exact .err _ _
        · rcases hr : Net.readN (l + 1) l [] n2 with ⟨⟨p, oe⟩, n3⟩
          cases oe with
          | none => exact ih n3
          | some e =>
            cases e
            case reset => exact .err _ _
            all_goals exact .eofTrunc _

theorem parseNext_fin (fuel : Nat) (n : Net) : (parseNext fuel n).2.fin = n.fin :=
  (parseNext_rel fuel n).fin.trans (parseNextR_fin fuel n)

/-- The fields the head reader never touches. -/
structure HeadSame (s s' : H3Stream) : Prop where
  remInFrame : s'.remInFrame = s.remInFrame
  parsedTrailer : s'.parsedTrailer = s.parsedTrailer
  fin : s'.net.fin = s.net.fin
  maxHeaderBytes : s'.maxHeaderBytes = s.maxHeaderBytes

theorem readResponse_same (s : H3Stream) : HeadSame s s.readResponse.2 := by
  unfold H3Stream.readResponse
  have hp := parseNext_fin (s.net.size + 1) s.net
  rcases hpn : parseNext (s.net.size + 1) s.net with ⟨r, n'⟩
  rw [hpn] at hp
  cases r with
  | error e => exact ⟨rfl, rfl, hp, rfl⟩
  | ok f =>
    cases f with
    | data l => exact ⟨rfl, rfl, hp, rfl⟩
    | settings => exact ⟨rfl, rfl, hp, rfl⟩
    | headers l =>
      simp only []
      split
      · exact ⟨rfl, rfl, hp, rfl⟩
      · have h3 := Net.readN_fin (l + 1) l [] n'
        rcases hr : Net.readN (l + 1) l [] n' with ⟨⟨p, oe⟩, n3⟩
        rw [hr] at h3
        cases oe with
        | some e => exact ⟨rfl, rfl, h3.trans hp, rfl⟩
        | none =>
          simp only []
          split
          · exact ⟨rfl, rfl, h3.trans hp, rfl⟩
          · split <;> exact ⟨rfl, rfl, h3.trans hp, rfl⟩

theorem HeadSame.trans {a b c : H3Stream} (h1 : HeadSame a b) (h2 : HeadSame b c) : HeadSame a c :=
  ⟨h2.remInFrame.trans h1.remInFrame, h2.parsedTrailer.trans h1.parsedTrailer, h2.fin.trans h1.fin,
   h2.maxHeaderBytes.trans h1.maxHeaderBytes⟩

theorem readFinalResponse_same (fuel n1xx : Nat) (s : H3Stream) :
    HeadSame s (H3Stream.readFinalResponse fuel n1xx s).2 := by
  induction fuel generalizing n1xx s with
  | zero => exact ⟨rfl, rfl, rfl, rfl⟩
  | succ fuel ih =>
    unfold H3Stream.readFinalResponse
    have h := readResponse_same s
    rcases hr : s.readResponse with ⟨r, s'⟩
    rw [hr] at h
    cases r with
    | error e => exact h
    | ok hd =>
      simp only []
      split
      · split
        · exact h
        · exact h.trans (ih _ _)
      · exact h

/-- A response that can have a body (not to HEAD, not 1xx / 204 / 304): the declared length is what is owed. -/
theorem new_declared (isHead : Bool) (h : H3Head) (s : H3Stream) (n : Nat)
    (hb : ¬(isHead = true ∨ (100 ≤ h.status ∧ h.status ≤ 199) ∨ h.status = 204 ∨ h.status = 304))
    (hcl : h.contentLength = some n) :
    (H3Body.new isHead h s).hasCL = true ∧ (H3Body.new isHead h s).remaining = n := by
  unfold H3Body.new
  rw [if_neg hb, hcl]
  exact ⟨rfl, rfl⟩

end Req.C03
