import Req.C02.Call
import Req.Lemmas.C02Resp
/-! C02 — a call of several exchanges (`Req.C02.Call`: redirects, digest re-send, retries) ends
on a response that was processed like the single exchange `single` (`EndsPass`, `callLoop_ends`). -/
namespace Req.C02
open Req.Proto

def Resp.noOut (r : Resp) : Resp := { r with out := none }

/-- The caller-visible state up to what the download recorded (`r.out`). -/
def CView.core (v : CView) : CView := { v with r := v.r.noOut }

structure Resp.ToBytesKeeps (r : Resp) (res : (Bytes × RErr) × Resp) : Prop where
  status : res.2.status = r.status
  out : res.2.out = r.out
  /-- a failed read is recorded in `Err` -/
  fail_err : res.1.2 ≠ .ok → res.2.err.isSome = true
  /-- if errors came with a filled cache before, they do afterwards -/
  errCached : (r.err.isSome = true → r.cache.isSome = true) → res.2.err.isSome = true → res.2.cache.isSome = true

theorem Resp.toBytes_keeps (r : Resp) : r.ToBytesKeeps r.toBytes := by
  unfold Resp.toBytes
  split
  next e he => exact ⟨rfl, rfl, fun _ => by rw [he]; rfl, id⟩
  split
  next c hc => exact ⟨rfl, rfl, fun h => absurd rfl h, fun _ _ => by rw [hc]; rfl⟩
  split
  · exact ⟨rfl, rfl, fun h => absurd rfl h, id⟩
  · next b _ =>
    rcases b.readAll with ⟨⟨d, e⟩, b'⟩
    cases e <;> exact ⟨rfl, rfl, by simp, fun _ _ => rfl⟩

structure DownloadKeeps (r r' : Resp) : Prop where
  status : r'.status = r.status
  cache : r'.cache = r.cache
  err : r.err.isSome = true → r'.err.isSome = true
  /-- with a filled cache it changes nothing but the download record -/
  noOut : r.cache.isSome = true → r'.noOut = r.noOut

theorem handleDownload_keeps (base : Cfg) (r : Resp) : DownloadKeeps r (handleDownload base r) := by
  unfold handleDownload
  split
  · exact ⟨rfl, rfl, id, fun _ => rfl⟩
  split
  · exact ⟨rfl, rfl, id, fun _ => rfl⟩
  next hc =>
  have hno : r.cache.isSome = true → False := fun h => by rw [hc] at h; cases h
  split
  · exact ⟨rfl, rfl, id, fun h => (hno h).elim⟩
  · next b _ =>
    rcases b.readAll with ⟨⟨d, e⟩, b'⟩
    cases e <;> exact ⟨rfl, rfl, by simp, fun h => (hno h).elim⟩

section
variable (base : Cfg) (file skip : Bool) (v : CView) (acc : Option Bytes)

theorem download_fst :
    (download base file skip v acc).1 =
      { v with r := if !v.hasResp || !base.save || skip then v.r else handleDownload base v.r } := by
  unfold download
  split <;> rfl

theorem download_skip : download base file true v acc = (v, acc) := by
  simp [download]

theorem download_status : (download base file skip v acc).1.r.status = v.r.status := by
  rw [download_fst]
  split
  · rfl
  · exact (handleDownload_keeps base v.r).status

theorem download_cache : (download base file skip v acc).1.r.cache = v.r.cache := by
  rw [download_fst]
  split
  · rfl
  · exact (handleDownload_keeps base v.r).cache

theorem download_r (h : v.hasResp = true) :
    (download base file false v acc).1.r = handleDownload base v.r := by
  rw [download_fst]
  cases hs : base.save
  · simp [h, handleDownload, hs]
  · simp [h]

theorem download_core (hc : v.hasResp = true → v.r.cache.isSome = true) :
    (download base file skip v acc).1.core = v.core := by
  rw [download_fst]
  split
  · rfl
  · next h =>
    have hh : v.hasResp = true := by cases hv : v.hasResp <;> simp_all
    exact congrArg (fun r => { v with r := r }) ((handleDownload_keeps base v.r).noOut (hc hh))

theorem download_acc (hv : v.r.out = none) (d : Bytes)
    (hd : (download base file skip v acc).1.r.out = some d) :
    (download base file skip v acc).2 = some (if file then d else accBytes acc ++ d) := by
  revert hd
  unfold download
  split
  · intro hd; rw [hv] at hd; cases hd
  · intro hd; simp only at hd ⊢; rw [hd]

theorem bindBody_eq :
    bindBody base v =
      { v with
        r := if v.hasResp && wantsBind base v.r.status then v.r.toBytes.2 else v.r
        result :=
          if v.hasResp && wantsBind base v.r.status && decide (v.r.toBytes.1.2 = .ok) && successState v.r.status
          then some v.r.toBytes.1.1 else v.result
        error :=
          if v.hasResp && wantsBind base v.r.status && decide (v.r.toBytes.1.2 = .ok) && !successState v.r.status
          then some v.r.toBytes.1.1 else v.error } := by
  rcases v with ⟨r, tag, hasResp, result, error⟩
  unfold bindBody
  cases hasResp <;> cases wantsBind base r.status <;> try rfl
  rcases r.toBytes with ⟨⟨d, e⟩, r'⟩
  cases e <;> cases successState r.status <;> rfl

theorem bindBody_r (h : v.hasResp = true) : (bindBody base v).r = parseResponseBody base v.r := by
  rw [bindBody_eq, h]
  rfl

theorem bindBody_hasResp : (bindBody base v).hasResp = v.hasResp := by
  rw [bindBody_eq]

theorem bindBody_out : (bindBody base v).r.out = v.r.out := by
  rw [bindBody_eq]
  split
  · exact v.r.toBytes_keeps.out
  · rfl

end

theorem download_err_some (base : Cfg) (file skip : Bool) (v : CView) (acc : Option Bytes)
    (h : v.r.err.isSome) : (download base file skip v acc).1.r.err.isSome := by
  rw [download_fst]
  split
  · exact h
  · exact (handleDownload_keeps base v.r).err h

/-- The view before `parseResponseBody`: the outcome of the exchange, auto-read if the guard says so. -/
def preBind (base : Cfg) (e : Exch) : CView :=
  if autoRead base (CView.ofExch e).r then autoReadStep (CView.ofExch e) else CView.ofExch e

theorem preBind_eq (base : Cfg) (e : Exch) :
    preBind base e =
      { CView.ofExch e with
        r := if autoRead base (CView.ofExch e).r then (autoReadStep (CView.ofExch e)).r else (CView.ofExch e).r } := by
  unfold preBind
  split <;> rfl

theorem roundTripTail_eq (cfg : CCfg) (e : Exch) (acc : Option Bytes) :
    roundTripTail cfg e acc =
      let w := bindBody cfg.base (preBind cfg.base e)
      let d := download cfg.base cfg.file (awaitsDigest cfg { v := w, resent := false, src := e }) w acc
      ({ v := d.1, resent := false, src := e }, d.2) := by
  simp only [roundTripTail, preBind]

theorem awaitsDigest_off (cfg : CCfg) (c : CR) : awaitsDigest { cfg with digest := .off } c = false := by
  simp [awaitsDigest]

theorem single_v (cfg : CCfg) (e : Exch) :
    (single cfg e).v = (download cfg.base cfg.file false (bindBody cfg.base (preBind cfg.base e)) none).1 := by
  simp only [single, roundTripTail_eq, awaitsDigest_off]

theorem single_src (cfg : CCfg) (e : Exch) : (single cfg e).src = e := by
  simp [single, roundTripTail]

/-- Whenever an error is recorded on a response, `ToBytes` has filled the cache before. -/
def ErrCached (v : CView) : Prop := v.hasResp = true → v.r.err.isSome = true → v.r.cache.isSome = true

theorem preBind_errCached (base : Cfg) (e : Exch) : ErrCached (preBind base e) := by
  cases e with
  | terr => exact nofun
  | resp tag st rd cks fin =>
    unfold preBind
    split
    · exact fun _ => (CView.ofExch (.resp tag st rd cks fin)).r.toBytes_keeps.errCached (absurd · Bool.false_ne_true)
    · exact fun _ => (absurd · Bool.false_ne_true)

theorem bindBody_errCached (base : Cfg) (v : CView) (h : ErrCached v) : ErrCached (bindBody base v) := by
  intro hh
  rw [bindBody_eq] at hh ⊢
  simp only
  split
  · exact v.r.toBytes_keeps.errCached (h hh)
  · exact h hh

theorem bindFails_err (base : Cfg) (v : CView) (hf : bindFails base v = true) :
    (bindBody base v).r.err.isSome = true := by
  simp only [bindFails, Bool.and_eq_true, decide_eq_true_eq] at hf
  rw [bindBody_eq]
  simp only [hf.1.1, hf.1.2, Bool.and_self, if_true]
  exact v.r.toBytes_keeps.fail_err hf.2

/-- How a pass over the final exchange `c.src` ends, the output holding `acc` before: the
response is bound and downloaded as in a single-exchange call — or not downloaded (a Digest
challenge, a failed bind in the digest middleware), and then it records an error. -/
def EndsPass (cfg : CCfg) (acc : Option Bytes) (c : CR) (acc' : Option Bytes) : Prop :=
  ∃ skip, (skip = true → (bindBody cfg.base (preBind cfg.base c.src)).r.err.isSome = true) ∧
    download cfg.base cfg.file skip (bindBody cfg.base (preBind cfg.base c.src)) acc = (c.v, acc')

theorem EndsPass.view {cfg : CCfg} {acc acc' : Option Bytes} {c : CR} (h : EndsPass cfg acc c acc') :
    c.v.core = (single cfg c.src).v.core ∧ (c.v.r.err = none → c.v = (single cfg c.src).v) := by
  obtain ⟨skip, herr, hd⟩ := h
  have hv : c.v = (download cfg.base cfg.file skip (bindBody cfg.base (preBind cfg.base c.src)) acc).1 := by
    rw [hd]
  rw [single_v]
  cases skip
  · rw [hv, download_fst, download_fst]
    exact ⟨rfl, fun _ => rfl⟩
  · rw [download_skip] at hv
    rw [hv, download_core _ _ _ _ _
      fun hh => bindBody_errCached _ _ (preBind_errCached _ _) hh (herr rfl)]
    exact ⟨rfl, fun hn => by rw [hn] at herr; exact absurd (herr rfl) nofun⟩

theorem preBind_keeps (base : Cfg) (e : Exch) :
    (preBind base e).r.status = (CView.ofExch e).r.status ∧ (preBind base e).r.out = none := by
  have : (CView.ofExch e).r.out = none := by cases e <;> rfl
  unfold preBind
  split
  · exact ⟨(CView.ofExch e).r.toBytes_keeps.status, (CView.ofExch e).r.toBytes_keeps.out.trans this⟩
  · exact ⟨rfl, this⟩

theorem EndsPass.out {cfg : CCfg} {acc acc' : Option Bytes} {c : CR} (h : EndsPass cfg acc c acc')
    (d : Bytes) (hd : c.v.r.out = some d) : acc' = some (if cfg.file then d else accBytes acc ++ d) := by
  obtain ⟨skip, _, he⟩ := h
  have := download_acc cfg.base cfg.file skip _ acc
    ((bindBody_out cfg.base _).trans (preBind_keeps cfg.base c.src).2) d
  rw [he] at this
  exact this hd

/-- `handleDigestAuthFunc` answers exactly a 401 without error. What it installs is the answer
processed like a single exchange — unless binding it failed (then nothing is saved and an error
is recorded). -/
theorem digestStep_spec (cfg : CCfg) (c : CR) (acc : Option Bytes) (script : List Exch) :
    if c.v.r.err.isSome || !c.v.hasResp || c.v.r.status != 401 then digestStep cfg c acc script = none
    else ∃ c' acc' script' f, digestStep cfg c acc script = some ((c', acc', script'), f) ∧
      EndsPass cfg acc c' acc' := by
  by_cases hc : (c.v.r.err.isSome || !c.v.hasResp || c.v.r.status != 401) = true
  · rw [if_pos hc]
    exact if_pos hc
  · have hterr : EndsPass cfg acc { v := CView.ofExch .terr, resent := true, src := .terr } acc :=
      ⟨false, nofun, rfl⟩
    rw [if_neg hc]
    unfold digestStep
    rw [if_neg hc]
    rcases script with _ | ⟨_ | ⟨tag, st, rd, cks, fin⟩, rest⟩
    · exact ⟨_, _, _, _, rfl, hterr⟩
    · exact ⟨_, _, _, _, rfl, hterr⟩
    · -- on a fresh response (no error) the middleware's auto-read guard is `roundTrip`'s
      have hp : (if digestAutoRead cfg.base (CView.ofExch (.resp tag st rd cks fin))
          then autoReadStep (CView.ofExch (.resp tag st rd cks fin))
          else CView.ofExch (.resp tag st rd cks fin)) = preBind cfg.base (.resp tag st rd cks fin) := rfl
      simp only [hp]
      split
      · next hbf => exact ⟨_, _, _, _, rfl, true, fun _ => bindFails_err _ _ hbf, download_skip ..⟩
      · exact ⟨_, _, _, _, rfl, false, nofun, rfl⟩

theorem attempt_ends (cfg : CCfg) (acc : Option Bytes) (script : List Exch) :
    EndsPass cfg acc (attempt cfg acc script).c (attempt cfg acc script).acc := by
  unfold attempt
  rcases doExch script with ⟨e, script1⟩
  simp only [roundTripTail_eq]
  generalize hw : bindBody cfg.base (preBind cfg.base e) = w
  cases hp : awaitsDigest cfg { v := w, resent := false, src := e }
  · -- not a pending challenge: downloaded (if asked to), and the digest middleware does nothing
    have hends : EndsPass cfg acc
        { v := (download cfg.base cfg.file false w acc).1, resent := false, src := e }
        (download cfg.base cfg.file false w acc).2 := ⟨false, nofun, by rw [hw]⟩
    cases hdg : cfg.digest
    · exact hends
    all_goals
      have hds := digestStep_spec cfg { v := (download cfg.base cfg.file false w acc).1, resent := false, src := e }
        (download cfg.base cfg.file false w acc).2 script1
      rw [if_pos] at hds
      · simp only [hds]; exact hends
      · simp only [awaitsDigest, hdg, ne_eq, reduceCtorEq, not_false_eq_true, decide_true, Bool.true_and] at hp
        rw [download_status, download_fst]
        cases hh : w.hasResp
        · simp
        · simp only [hh, Bool.true_and, beq_eq_false_iff_ne] at hp
          simp [hp]
  · -- a pending challenge: not downloaded
    simp only [download_skip]
    simp only [awaitsDigest, Bool.and_eq_true, decide_eq_true_eq, beq_iff_eq] at hp
    have hds := digestStep_spec cfg { v := w, resent := false, src := e } acc script1
    split at hds
    · -- the middleware leaves it alone: an error is recorded
      next hc =>
      have : EndsPass cfg acc { v := w, resent := false, src := e } acc :=
        ⟨true, fun _ => by rw [hw]; simpa [hp.1.2, hp.2] using hc, by rw [hw, download_skip]⟩
      simp only [hds]
      cases cfg.digest <;> exact this
    · obtain ⟨c', acc', script', f, hds, this⟩ := hds
      simp only [hds]
      cases hdg : cfg.digest
      · exact absurd hdg hp.1.1
      · exact this
      · exact this

/-- The whole call ends like one pass (`attempt_ends`, whatever the number of retries); `acc0` is
what the output held when the last pass began. -/
theorem callLoop_ends (cfg : CCfg) (left : Nat) (acc : Option Bytes) (script : List Exch) :
    ∃ acc0, EndsPass cfg acc0 (callLoop cfg left acc script).1 (callLoop cfg left acc script).2.1 ∧
      (left = 0 → acc0 = acc) := by
  induction left generalizing acc script with
  | zero => exact ⟨acc, attempt_ends cfg acc script, fun _ => rfl⟩
  | succ n ih =>
    unfold callLoop
    simp only
    split
    · exact ⟨acc, attempt_ends cfg acc script, nofun⟩
    · obtain ⟨acc0, h, _⟩ := ih (attempt cfg acc script).acc (attempt cfg acc script).script
      exact ⟨acc0, h, nofun⟩

theorem single_terr (cfg : CCfg) : (single cfg .terr).v = CView.ofExch .terr := by
  rw [single_v]
  rfl

/-- The single-exchange reference is `afterRoundTrip`, the model that
`Req.Props.C02.observe_paths_agree` and its components speak of. -/
theorem single_r (cfg : CCfg) (tag st : Nat) (rd : Bool) (cks : List Bytes) (fin : Fin) :
    (single cfg (.resp tag st rd cks fin)).v.r = afterRoundTrip cfg.base st (Body.transport cks fin) := by
  have hh : (preBind cfg.base (.resp tag st rd cks fin)).hasResp = true := by rw [preBind_eq]; rfl
  rw [single_v, download_r _ _ _ _ ((bindBody_hasResp _ _).trans hh), bindBody_r _ _ hh, preBind_eq]
  rfl

/-- `ToBytes` on the response as `Do` returned it (nothing read yet): the bytes are the whole
transport body (also when the body ends in a failure: then an error is reported with them). -/
theorem toBytes_fresh (st : Nat) (cks : List Bytes) (fin : Fin) :
    ({ status := st, err := none, cache := none, body := some (Body.transport cks fin), out := none } : Resp).toBytes.1.1
      = cks.flatten ∧
    (({ status := st, err := none, cache := none, body := some (Body.transport cks fin), out := none } : Resp).toBytes.1.2
      = .ok ↔ fin = .eof) ∧
    ({ status := st, err := none, cache := none, body := some (Body.transport cks fin), out := none } : Resp).toBytes.2.cache
      = some cks.flatten := by
  rw [Resp.toBytes_unread st (Body.transport cks fin) none rfl]
  exact ⟨rfl, by cases fin <;> simp [Body.transport], rfl⟩

/-- What `ToBytes` in `parseResponseBody` sees in a single-exchange call: the whole body, and
success exactly if the body ends in EOF. -/
theorem preBind_toBytes (base : Cfg) (tag st : Nat) (rd : Bool) (cks : List Bytes) (fin : Fin) :
    ((preBind base (.resp tag st rd cks fin)).r.toBytes.1.2 = .ok ↔ fin = .eof) ∧
    ((preBind base (.resp tag st rd cks fin)).r.toBytes.1.2 = .ok →
      (preBind base (.resp tag st rd cks fin)).r.toBytes.1.1 = cks.flatten) ∧
    (∀ b, (preBind base (.resp tag st rd cks fin)).r.cache = some b → b = cks.flatten) ∧
    (preBind base (.resp tag st rd cks fin)).r.toBytes.2.cache = some cks.flatten := by
  unfold preBind
  split
  · -- auto-read met the untouched transport body; the second `ToBytes` finds its cache
    simp only [autoReadStep, CView.ofExch, Resp.toBytes_unread st (Body.transport cks fin) none rfl]
    cases fin <;> simp [Resp.toBytes, Body.transport]
  · obtain ⟨h1, h2, h3⟩ := toBytes_fresh st cks fin
    exact ⟨h2, fun _ => h1, nofun, h3⟩

theorem wantsBind_success {base : Cfg} {st : Nat} (h : wantsBind base st = true) (hs : successState st = true) :
    base.result = true ∧ st ≠ 204 := by
  simp only [wantsBind, successState, Bool.and_eq_true, Bool.or_eq_true, decide_eq_true_eq] at h hs
  -- `wantsBind` = success target ∧ 199 < st < 300 ∧ st ≠ 204, or error target ∧ 399 < st
  rcases h with ⟨⟨⟨hresult, _⟩, _⟩, h204⟩ | h
  · exact ⟨hresult, h204⟩
  · omega

theorem wantsBind_error {base : Cfg} {st : Nat} (h : wantsBind base st = true) (hs : successState st = false) :
    base.errResult = true ∧ 399 < st := by
  simp only [wantsBind, successState, Bool.and_eq_true, Bool.or_eq_true, decide_eq_true_eq,
    Bool.and_eq_false_imp, decide_eq_false_iff_not] at h hs
  rcases h with ⟨⟨⟨_, hgt⟩, hlt⟩, _⟩ | h
  · exact absurd hlt (hs hgt)
  · exact h

/-- **A single exchange.** Status and header are the exchange's; whatever is cached is its whole
body; the slot of the target that applies to the status holds that body if it ends in EOF, and
nothing else is ever in a slot. -/
theorem single_resp (cfg : CCfg) (tag st : Nat) (rd : Bool) (cks : List Bytes) (fin : Fin) :
    let v := (single cfg (.resp tag st rd cks fin)).v
    v.hasResp = true ∧ v.r.status = st ∧ v.tag = tag ∧
    (∀ b, v.r.cache = some b → b = cks.flatten) ∧
    v.result = (if wantsBind cfg.base st && decide (fin = .eof) && successState st
      then some cks.flatten else none) ∧
    v.error = (if wantsBind cfg.base st && decide (fin = .eof) && !successState st
      then some cks.flatten else none) := by
  obtain ⟨hok, hd, hc, hc'⟩ := preBind_toBytes cfg.base tag st rd cks fin
  have hst : (preBind cfg.base (.resp tag st rd cks fin)).r.status = st := (preBind_keeps _ _).1
  obtain ⟨hresp, htag, hresult, herror⟩ : (preBind cfg.base (.resp tag st rd cks fin)).hasResp = true ∧
      (preBind cfg.base (.resp tag st rd cks fin)).tag = tag ∧
      (preBind cfg.base (.resp tag st rd cks fin)).result = none ∧
      (preBind cfg.base (.resp tag st rd cks fin)).error = none := by
    rw [preBind_eq]
    exact ⟨rfl, rfl, rfl, rfl⟩
  simp only [single_v, download_status, download_cache]
  generalize preBind cfg.base (.resp tag st rd cks fin) = p at *
  simp only [download_fst, bindBody_eq, hst, hresp, htag, hresult, herror, Bool.true_and,
    decide_eq_decide.2 hok]
  refine ⟨trivial, ?_, trivial, ?_, ?_, ?_⟩
  · split
    · exact p.r.toBytes_keeps.status.trans hst
    · exact hst
  · split
    · exact fun b hb => Option.some.inj (hc'.symm.trans hb).symm
    · exact hc
  all_goals
    split
    · next h =>
      simp only [Bool.and_eq_true, decide_eq_true_eq] at h
      rw [hd (hok.2 h.1.2)]
    · rfl

theorem Resp.toBytes_noOut (r : Resp) : r.noOut.toBytes = (r.toBytes.1, r.toBytes.2.noOut) := by
  rcases r with ⟨st, _ | e, _ | c, _ | b, out⟩ <;> try rfl
  unfold Resp.toBytes Resp.noOut
  simp only
  rcases b.readAll with ⟨⟨d, e⟩, b'⟩
  cases e <;> rfl

theorem Resp.step_noOut (r : Resp) (op : Op) : r.noOut.step op = ((r.step op).1, (r.step op).2.noOut) := by
  rcases r with ⟨st, err, cache, body, out⟩
  cases op with
  | toBytes | toString => simp only [Resp.step, Resp.toBytes_noOut]
  | bytes | string => rfl
  | read | readAll | close => cases body <;> rfl

theorem Resp.run_noOut (r : Resp) (ops : List Op) : (r.noOut.run ops).1 = (r.run ops).1 := by
  induction ops generalizing r with
  | nil => rfl
  | cons op ops ih =>
    simp only [Resp.run, Resp.step_noOut]
    rw [ih]

theorem CView.eq_of_core_eq {v s : CView} (h : v.core = s.core) :
    ∃ o, v = { s with r := { s.r with out := o } } := by
  rcases v with ⟨⟨_, _, _, _, o⟩, _, _, _, _⟩
  cases h
  exact ⟨o, rfl⟩

end Req.C02
