import Req.C02.RespSM
import Req.Lemmas.C02Reader
/-! C02 — the caller-side `req.Response` machine (`Req.C02.RespSM`): a body stream hands out its
bytes in order whatever the read sizes (`body_refines`, `body_exact`); after auto-read every observation shows
the cached bytes (`auto_run`).  `afterRoundTrip_eq` is `Client.roundTrip` on an untouched body written
out by who reads it; the theorems about one exchange and about a whole call both start from it. -/
namespace Req.C02
open Req.Proto

def BodyRel (b : Body) (E : Bytes) : Prop := b.closed = false ∧ b.fin = .eof ∧ b.chunks.flatten = E

theorem Fin.toErr_toOpt (f : Fin) : f.toErr.toOpt = some f.toErr := by
  cases f <;> rfl

/-- What one `Read(p)`, `len(p) = k`, on an open body does: `b'` after handing out `d` with error `e`. -/
structure Body.ReadO (b : Body) (k : Nat) (d : Bytes) (e : Option RErr) (b' : Body) : Prop where
  split : b.chunks.flatten = d ++ b'.chunks.flatten
  closed : b'.closed = false
  fin : b'.fin = b.fin
  nop : b'.nop = b.nop
  /-- an error only at the end of the stream, and then the stream's own end -/
  err : ∀ x, e = some x → b.chunks = [] ∧ d = [] ∧ x = b.fin.toErr
  /-- without empty segments a non-empty read makes progress and leaves none -/
  prog : e = none → 0 < k → (∀ c ∈ b.chunks, c ≠ []) → d ≠ [] ∧ ∀ c ∈ b'.chunks, c ≠ []
  zero : e = none → k = 0 → (∀ c ∈ b.chunks, c ≠ []) → b'.chunks = b.chunks

theorem Body.readO_spec (b : Body) (k : Nat) (hc : b.closed = false) (d : Bytes) (e : Option RErr)
    (b' : Body) (h : b.readO k = ((d, e), b')) : Body.ReadO b k d e b' := by
  obtain ⟨chunks, bfin, bclosed, bnop⟩ := b
  obtain rfl : bclosed = false := hc
  unfold Body.readO Body.read at h
  simp only [Bool.false_eq_true, if_false] at h
  cases chunks with
  | nil =>
    simp only [Fin.toErr_toOpt, Prod.mk.injEq] at h
    obtain ⟨⟨rfl, rfl⟩, rfl⟩ := h
    exact { split := rfl, closed := rfl, fin := rfl, nop := rfl,
            err := fun x hx => ⟨rfl, rfl, (Option.some.inj hx).symm⟩, prog := nofun, zero := nofun }
  | cons c cs =>
    simp only at h
    split at h
    next hle =>
      simp only [Prod.mk.injEq] at h
      obtain ⟨⟨rfl, rfl⟩, rfl⟩ := h
      refine { split := rfl, closed := rfl, fin := rfl, nop := rfl, err := nofun, prog := ?_, zero := ?_ }
      · intro _ _ hne
        exact ⟨hne c List.mem_cons_self, fun c' hc' => hne c' (List.mem_cons_of_mem _ hc')⟩
      · intro _ hk0 hne
        subst hk0
        exact absurd (List.length_eq_zero_iff.mp (Nat.le_zero.mp hle)) (hne c List.mem_cons_self)
    next hgt =>
      simp only [Prod.mk.injEq] at h
      obtain ⟨⟨rfl, rfl⟩, rfl⟩ := h
      refine { split := by simp [← List.append_assoc, List.take_append_drop], closed := rfl, fin := rfl,
               nop := rfl, err := nofun, prog := ?_, zero := ?_ }
      · intro _ hk hne
        refine ⟨fun h => (List.take_eq_nil_iff.1 h).elim (Nat.ne_of_gt hk) (hne c List.mem_cons_self), ?_⟩
        intro c' hc'
        rcases List.mem_cons.1 hc' with rfl | hc'
        · exact fun h => hgt (List.drop_eq_nil_iff.1 h)
        · exact hne c' (List.mem_cons_of_mem _ hc')
      · intro _ hk0 _
        rw [hk0]
        rfl

/-- A transport body may hold empty segments, so a read may return nothing without an error: no
progress is claimed here. -/
theorem body_refines : RefinesR Body.readO BodyRel (· = RErr.eof) where
  step_ok := fun b E k d b' ⟨hc, hf, hE⟩ h =>
    have hr := Body.readO_spec b k hc d none b' h
    ⟨_, hE ▸ hr.split, hr.closed, hr.fin.trans hf, rfl⟩
  step_end := fun b E k d e b' ⟨hc, _, hE⟩ h => by
    obtain ⟨hck, hd, _⟩ := (Body.readO_spec b k hc d (some e) b' h).err e rfl
    subst hE
    exact ⟨⟨[], by simp [hck, hd]⟩, fun _ => by simp [hck, hd]⟩

/-- `BodyRel` without empty segments (the restored body): every non-empty read makes progress. -/
def BodyRelNE (b : Body) (E : Bytes) : Prop := BodyRel b E ∧ ∀ c ∈ b.chunks, c ≠ []

theorem body_exact : ExactR Body.readO BodyRelNE RErr.eof (fun _ => True) (fun _ E => E.length) :=
  .of_read fun {b E k d e b'} ⟨⟨hc, hf, hE⟩, hne⟩ h => by
    have hr := Body.readO_spec b k hc d e b' h
    subst hE
    refine ⟨fun he => ⟨_, hr.split, ⟨⟨hr.closed, hr.fin.trans hf, rfl⟩, ?_⟩, fun hk => (hr.prog he hk hne).1⟩,
      fun x hx => ?_⟩
    · by_cases hk : 0 < k
      · exact (hr.prog he hk hne).2
      · rw [hr.zero he (Nat.eq_zero_of_not_pos hk) hne]; exact hne
    · obtain ⟨hck, hd, hex⟩ := hr.err x hx
      exact ⟨by rw [hex, hf]; rfl, by simp [hck, hd], trivial⟩

theorem body_only_eof (b : Body) (k : Nat) (hc : b.closed = false) (hf : b.fin = .eof)
    (d : Bytes) (e : RErr) (b' : Body) (h : b.readO k = ((d, some e), b')) : e = .eof := by
  obtain ⟨_, _, this⟩ := (Body.readO_spec b k hc d (some e) b' h).err e rfl
  rw [this, hf]; rfl

theorem Body.readAll_open (b : Body) (hc : b.closed = false) :
    b.readAll = ((b.chunks.flatten, b.fin.toErr), { b with chunks := [] }) := by
  simp [Body.readAll, hc]

theorem Resp.toBytes_idle (r : Resp) (h : r.err.isSome = true ∨ r.cache.isSome = true) : r.toBytes.2 = r := by
  unfold Resp.toBytes
  cases he : r.err with
  | some e => rfl
  | none =>
    cases hc : r.cache with
    | some c => rfl
    | none => rw [he, hc] at h; simp at h

/-- `ToBytes` when it really reads (no error, nothing cached, an open body): everything left in the stream is
returned and cached, the body is drained and closed, a failing end is returned and recorded. -/
theorem Resp.toBytes_unread (st : Nat) (b : Body) (out : Option Bytes) (hc : b.closed = false) :
    (⟨st, none, none, some b, out⟩ : Resp).toBytes =
      ((b.chunks.flatten, if b.fin = .eof then .ok else .fail),
       ⟨st, if b.fin = .eof then none else some .fail, some b.chunks.flatten,
        some ({ b with chunks := [] } : Body).close, out⟩) := by
  cases hf : b.fin <;> simp [Resp.toBytes, Body.readAll_open b hc, hf, Fin.toErr]

/-- `Client.roundTrip` on an open body nobody has touched: who reads it (auto-read, a target that applies, a
download), and what the response holds afterwards. -/
theorem afterRoundTrip_eq (cfg : Cfg) (st : Nat) (tb : Body) (hc : tb.closed = false) :
    afterRoundTrip cfg st tb =
      let auto := autoRead cfg ⟨st, none, none, some tb, none⟩
      let reads := auto || wantsBind cfg st || cfg.save
      { status := st
        err := if reads = true ∧ tb.fin = .fail then some .fail else none
        cache := if auto || wantsBind cfg st then some tb.chunks.flatten else none
        body := some (if auto then Body.restored tb.chunks.flatten
                      else if reads then ({ tb with chunks := [] } : Body).close else tb)
        out := if cfg.save then some tb.chunks.flatten else none } := by
  have hrd := Resp.toBytes_unread st tb none hc
  unfold afterRoundTrip
  simp only
  cases ha : autoRead cfg ⟨st, none, none, some tb, none⟩
  · -- no auto-read: `parseResponseBody` reads for a target, else `handleDownload` reads for the output
    simp only [Bool.false_eq_true, if_false, parseResponseBody, Bool.false_or]
    cases hb : wantsBind cfg st <;> cases hs : cfg.save <;> cases hf : tb.fin <;>
      simp [hrd, handleDownload, hs, Body.readAll_open tb hc, hf, Fin.toErr]
  · -- auto-read fills the cache (which rules out a download): `parseResponseBody` and `handleDownload` find nothing to do
    have hs : cfg.save = false := by
      simp only [autoRead, Bool.and_eq_true, Bool.not_eq_true'] at ha; exact ha.1.1.2
    simp only [if_true, hrd, parseResponseBody]
    rw [Resp.toBytes_idle _ (.inr rfl), ite_self]
    cases hf : tb.fin <;> simp [handleDownload, hs]

/-- The state `Client.roundTrip` leaves behind when it auto-reads a body that ends with EOF. -/
theorem afterRoundTrip_auto (cfg : Cfg) (st : Nat) (cks : List Bytes)
    (h1 : cfg.clientDisable = false) (h2 : cfg.reqDisable = false) (h3 : cfg.save = false)
    (hst : 199 < st) :
    afterRoundTrip cfg st (Body.transport cks .eof) =
      { status := st, err := none, cache := some cks.flatten,
        body := some (Body.restored cks.flatten), out := none } := by
  rw [afterRoundTrip_eq cfg st (Body.transport cks .eof) rfl]
  simp [autoRead, h1, h2, h3, hst, Body.transport]

/-- The bytes the caller pulled out of `Response.Body` during a run, in order. -/
def streamedOf : List (Op × Obs) → Bytes
  | [] => []
  | (.read _, .data d _) :: rest => d ++ streamedOf rest
  | (.readAll, .data d _) :: rest => d ++ streamedOf rest
  | _ :: rest => streamedOf rest

/-- What the cache-reading ops must show after auto-read. -/
def okAuto (B : Bytes) : Op × Obs → Prop
  | (.toBytes, o) => o = .data B .ok
  | (.toString, o) => o = .data B .ok
  | (.bytes, o) => o = .cached (some B)
  | (.string, o) => o = .str B
  | _ => True

/-- Auto-read state: bytes cached, `Body` = the re-readable copy of which `consumed` bytes
were already streamed. -/
def AutoInv (B : Bytes) (r : Resp) (consumed : Bytes) : Prop :=
  r.err = none ∧ r.cache = some B ∧
  ∃ bd, r.body = some bd ∧ bd.nop = true ∧ bd.closed = false ∧ consumed ++ bd.chunks.flatten = B

theorem auto_step (B : Bytes) (r : Resp) (consumed : Bytes) (hinv : AutoInv B r consumed) (op : Op) :
    okAuto B (op, (r.step op).1) ∧
    AutoInv B (r.step op).2 (consumed ++ streamedOf [(op, (r.step op).1)]) := by
  obtain ⟨he, hcache, bd, hb, hnop, hcl, hsplit⟩ := hinv
  cases op with
  | toBytes | toString =>
    simp only [Resp.step, Resp.toBytes, he, hcache, okAuto, streamedOf, List.append_nil, true_and]
    exact ⟨he, hcache, bd, hb, hnop, hcl, hsplit⟩
  | bytes | string =>
    simp only [Resp.step, hcache, okAuto, streamedOf, List.append_nil, true_and]
    exact ⟨he, hcache, bd, hb, hnop, hcl, hsplit⟩
  | close =>
    simp only [Resp.step, hb, okAuto, streamedOf, List.append_nil, true_and]
    refine ⟨he, hcache, bd.close, rfl, ?_, ?_, ?_⟩ <;> simp [Body.close, hnop, hcl, hsplit]
  | read n =>
    simp only [Resp.step, hb, okAuto, true_and]
    rcases hr : bd.read n with ⟨⟨d, e⟩, bd'⟩
    have hro : bd.readO n = ((d, e.toOpt), bd') := by
      simp [Body.readO, hr]
    have hr' := Body.readO_spec bd n hcl d _ bd' hro
    simp only [streamedOf, List.append_nil]
    refine ⟨he, hcache, bd', rfl, by rw [hr'.nop, hnop], hr'.closed, ?_⟩
    rw [List.append_assoc, ← hr'.split, hsplit]
  | readAll =>
    simp only [Resp.step, hb, okAuto, true_and]
    simp only [Body.readAll, hcl, Bool.false_eq_true, if_false, streamedOf, List.append_nil]
    refine ⟨he, hcache, _, rfl, hnop, rfl, ?_⟩
    simp [hsplit]

theorem streamedOf_cons (x : Op × Obs) (rest : List (Op × Obs)) :
    streamedOf (x :: rest) = streamedOf [x] ++ streamedOf rest := by
  rcases x with ⟨op, o⟩
  cases op <;> cases o <;> simp [streamedOf]

/-- After auto-read, EVERY interleaving of observation ops sees the cached bytes, and what
is streamed from the restored `Body` in between is a prefix of the same bytes. -/
theorem auto_run (B : Bytes) (ops : List Op) (r : Resp) (consumed : Bytes)
    (hinv : AutoInv B r consumed) :
    (∀ x ∈ (r.run ops).1, okAuto B x) ∧
    ∃ t, B = consumed ++ streamedOf (r.run ops).1 ++ t := by
  induction ops generalizing r consumed with
  | nil =>
    obtain ⟨_, _, bd, _, _, _, hsplit⟩ := hinv
    exact ⟨by simp [Resp.run], bd.chunks.flatten, by simp [Resp.run, streamedOf, hsplit]⟩
  | cons op ops ih =>
    obtain ⟨hok, hinv'⟩ := auto_step B r consumed hinv op
    obtain ⟨hall, t, ht⟩ := ih (r.step op).2 _ hinv'
    simp only [Resp.run]
    refine ⟨?_, t, ?_⟩
    · intro x hx
      simp only [List.mem_cons] at hx
      rcases hx with rfl | hx
      · exact hok
      · exact hall x hx
    · rw [streamedOf_cons, ht]
      simp [List.append_assoc]

theorem afterRoundTrip_stream (cfg : Cfg) (st : Nat) (cks : List Bytes) (fin : Fin)
    (hs : cfg.save = false)
    (h : cfg.clientDisable = true ∨ cfg.reqDisable = true ∨ st ≤ 199)
    (hres : wantsBind cfg st = false) :
    afterRoundTrip cfg st (Body.transport cks fin) =
      { status := st, err := none, cache := none, body := some (Body.transport cks fin), out := none } := by
  have ha : autoRead cfg ⟨st, none, none, some (Body.transport cks fin), none⟩ = false := by
    rcases h with h | h | h <;> simp [autoRead, h]
  rw [afterRoundTrip_eq cfg st (Body.transport cks fin) rfl]
  simp [ha, hs, hres]

end Req.C02
