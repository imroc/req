import Req.Client.ProgressClock
/-!
The two progress automata of `Req.Progress` along a run. Writer (`callbackWriter`): the reports are a
sublist of the running counts `countsW`, which are increasing and bounded (`runW_spec`); with a known
total the last report is the total (`runW_final`). Reader (`callbackReader`): one invariant, `lastRead`
is the last report (`runR_spec`); a run that ends with everything reported ends with the count
(`runR_last`), which `io.EOF` (`runR_final`) and `Close` (`runRC_spec`) both bring about.
-/
namespace Req.Progress

theorem runW_cons (st : WState) (e : WEvent) (es : List WEvent) :
    runW st (e :: es) = (stepW st e).2.toList ++ runW (stepW st e).1 es := rfl
theorem runR_cons (st : RState) (e : REvent) (es : List REvent) :
    runR st (e :: es) = (stepR st e).2.toList ++ runR (stepR st e).1 es := rfl
theorem bytesW_cons (e : WEvent) (es : List WEvent) :
    bytesW (e :: es) = (if e.n ≤ 0 then 0 else e.n) + bytesW es := rfl
theorem countsW_cons (w : Int) (e : WEvent) (es : List WEvent) :
    countsW w (e :: es) = if e.n ≤ 0 then countsW w es else (w + e.n) :: countsW (w + e.n) es := rfl

theorem bytesW_nonneg (evs : List WEvent) : 0 ≤ bytesW evs := by
  induction evs with
  | nil => exact Int.le_refl 0
  | cons e es ih => rw [bytesW_cons]; split <;> omega

theorem stepW_spec (st : WState) (e : WEvent) :
    (e.n ≤ 0 ∧ stepW st e = (st, none)) ∨
    (0 < e.n ∧ stepW st e = (⟨st.written + e.n, st.total⟩, some (st.written + e.n))) ∨
    (0 < e.n ∧ st.written + e.n ≠ st.total ∧ stepW st e = (⟨st.written + e.n, st.total⟩, none)) := by
  unfold stepW
  by_cases hn : e.n ≤ 0
  · simp [hn]
  · by_cases ht : st.written + e.n = st.total <;> cases hc : e.elapsed <;> simp [hn, ht] <;> omega

theorem runW_sublist (st : WState) (evs : List WEvent) :
    (runW st evs).Sublist (countsW st.written evs) := by
  induction evs generalizing st with
  | nil => exact .slnil
  | cons e es ih =>
    rw [runW_cons, countsW_cons]
    rcases stepW_spec st e with ⟨hn, h⟩ | ⟨hp, h⟩ | ⟨hp, -, h⟩ <;> rw [h]
    · rw [if_pos hn]; exact ih st
    · rw [if_neg (by omega)]; exact (ih _).cons_cons _
    · rw [if_neg (by omega)]; exact (ih _).cons _

theorem countsW_bounds (w : Int) (evs : List WEvent) :
    ∀ x ∈ countsW w evs, w < x ∧ x ≤ w + bytesW evs := by
  induction evs generalizing w with
  | nil => nofun
  | cons e es ih =>
    intro x hx
    have hnn := bytesW_nonneg es
    rw [countsW_cons] at hx
    rw [bytesW_cons]
    split at hx
    · have := ih w x hx; omega
    · rcases List.mem_cons.mp hx with rfl | hx
      · omega
      · have := ih _ x hx; omega

theorem countsW_increasing (w : Int) (evs : List WEvent) :
    (countsW w evs).Pairwise (· < ·) := by
  induction evs generalizing w with
  | nil => exact .nil
  | cons e es ih =>
    rw [countsW_cons]
    split
    · exact ih w
    · exact .cons (fun x hx => (countsW_bounds _ es x hx).1) (ih _)

/-- The reports of the writer are strictly increasing and lie above the count it started with,
never above the bytes written. -/
theorem runW_spec (st : WState) (evs : List WEvent) :
    (runW st evs).Pairwise (· < ·) ∧
    ∀ x ∈ runW st evs, st.written < x ∧ x ≤ st.written + bytesW evs :=
  -- they are some of the running counts, which have both properties
  have hs := runW_sublist st evs
  ⟨(countsW_increasing _ _).sublist hs, fun x hx => countsW_bounds _ _ x (hs.subset hx)⟩

theorem runW_of_no_bytes (st : WState) (evs : List WEvent) (h : bytesW evs = 0) : runW st evs = [] := by
  induction evs generalizing st with
  | nil => rfl
  | cons e es ih =>
    have hnn := bytesW_nonneg es
    rw [bytesW_cons] at h
    have hn : e.n ≤ 0 := by split at h <;> omega
    rw [if_pos hn] at h
    rw [runW_cons, show stepW st e = (st, none) by simp [stepW, hn]]
    exact ih st (by omega)

theorem runW_final (st : WState) (evs : List WEvent)
    (htot : st.total = st.written + bytesW evs) (hpos : 0 < bytesW evs) :
    (runW st evs).getLast? = some st.total := by
  induction evs generalizing st with
  | nil => cases hpos
  | cons e es ih =>
    have hnn := bytesW_nonneg es
    rw [runW_cons]
    rw [bytesW_cons] at htot hpos
    rcases stepW_spec st e with ⟨hn, h⟩ | ⟨hp, h⟩ | ⟨hp, hne, h⟩ <;> rw [h]
    · rw [if_pos hn] at htot hpos
      exact ih st (by omega) (by omega)
    · rw [if_neg (by omega)] at htot hpos
      by_cases hes : bytesW es = 0
      · rw [runW_of_no_bytes _ es hes]
        simp; omega
      · have := ih ⟨st.written + e.n, st.total⟩ (by simp only; omega) (by omega)
        simp only at this ⊢
        rw [List.getLast?_append, this]; simp
    · rw [if_neg (by omega)] at htot hpos
      exact ih ⟨st.written + e.n, st.total⟩ (by simp only; omega) (by omega)

theorem bytesR_cons (e : REvent) (es : List REvent) : bytesR (e :: es) = bytesR [e] + bytesR es := by
  simp [bytesR]

theorem countsR_cons (r : Int) (e : REvent) (es : List REvent) :
    countsR r (e :: es) = (r + bytesR [e]) :: countsR (r + bytesR [e]) es := by
  rw [countsR]; split <;> simp [bytesR, *]

theorem bytesR_nonneg (evs : List REvent) : 0 ≤ bytesR evs := by
  induction evs with
  | nil => exact Int.le_refl 0
  | cons e es ih => rw [bytesR]; split <;> omega

/-- Everything `stepR` can do: the count moves on by the bytes of the call; either nothing is
reported and `lastRead` stays (at `io.EOF` only when everything had been reported), or the new
count is reported and remembered. -/
theorem stepR_spec (st : RState) (e : REvent) :
    (stepR st e).1.read = st.read + bytesR [e] ∧
    (((stepR st e).2 = none ∧ (stepR st e).1.lastRead = st.lastRead ∧
        (e.eof = true → e.n ≤ 0 ∧ st.read ≤ st.lastRead)) ∨
      ((stepR st e).2 = some (stepR st e).1.read ∧ (stepR st e).1.lastRead = (stepR st e).1.read ∧
        (st.lastRead ≤ st.read → st.lastRead < (stepR st e).1.read))) := by
  unfold stepR bytesR bytesR
  by_cases hn : e.n ≤ 0
  · by_cases hlt : st.read > st.lastRead <;> cases he : e.eof <;> simp [hn, hlt] <;> omega
  · cases he : e.eof <;> cases hc : e.elapsed <;> simp [hn] <;> omega

theorem runR_sublist (st : RState) (evs : List REvent) :
    (runR st evs).Sublist (countsR st.read evs) := by
  induction evs generalizing st with
  | nil => exact .slnil
  | cons e es ih =>
    obtain ⟨hA, hB⟩ := stepR_spec st e
    rw [runR_cons, countsR_cons, ← hA]
    rcases hB with ⟨ho, -⟩ | ⟨ho, -⟩ <;> rw [ho]
    · exact (ih _).cons _
    · exact (ih _).cons_cons _

/-- One induction along a run of the reader.  `lastRead` is the last report: what is reported is
strictly increasing and lies above the `lastRead` the run started with, `lastRead` at the end is
the last report (the value the run started with if nothing is reported), `read` the true count. -/
theorem runR_spec (st : RState) (evs : List REvent) (hinv : st.lastRead ≤ st.read) :
    (runR st evs).Pairwise (· < ·) ∧
    (∀ x ∈ runR st evs, st.lastRead < x ∧ x ≤ (finalR st evs).lastRead) ∧
    (finalR st evs).lastRead = ((runR st evs).getLast?).getD st.lastRead ∧
    st.lastRead ≤ (finalR st evs).lastRead ∧ (finalR st evs).lastRead ≤ (finalR st evs).read ∧
    (finalR st evs).read = st.read + bytesR evs := by
  induction evs generalizing st with
  | nil => exact ⟨.nil, nofun, rfl, Int.le_refl _, hinv, (Int.add_zero _).symm⟩
  | cons e es ih =>
    obtain ⟨hA, hB⟩ := stepR_spec st e
    have h0 := bytesR_nonneg [e]
    obtain ⟨i1, i2, i3, i4, i5, i6⟩ := ih (stepR st e).1 (by omega)
    rw [finalR, runR_cons, bytesR_cons, i6]
    rcases hB with ⟨ho, hl, -⟩ | ⟨ho, hl, hlt⟩ <;> rw [ho]
    · exact ⟨i1, fun x hx => ⟨by have := (i2 x hx).1; omega, (i2 x hx).2⟩, by rw [i3, hl]; rfl,
        by omega, by omega, by omega⟩
    · have := hlt hinv
      refine ⟨.cons (fun x hx => by have := (i2 x hx).1; omega) i1, fun x hx => ?_, ?_,
        by omega, by omega, by omega⟩
      · rcases List.mem_cons.mp hx with rfl | hx
        · omega
        · exact ⟨by have := (i2 x hx).1; omega, (i2 x hx).2⟩
      · rw [i3, hl]
        cases runR (stepR st e).1 es with
        | nil => rfl
        | cons y ys => simp [List.getLast?_cons]

/-- A run that ends with everything reported ends with the count as its last report. -/
theorem runR_last (st : RState) (evs : List REvent) (hinv : st.lastRead ≤ st.read)
    (hall : (finalR st evs).read ≤ (finalR st evs).lastRead)
    (hpos : st.lastRead < st.read + bytesR evs) :
    (runR st evs).getLast? = some (st.read + bytesR evs) := by
  obtain ⟨-, -, h3, -, h5, h6⟩ := runR_spec st evs hinv
  cases hg : (runR st evs).getLast? with
  | none => rw [hg] at h3; simp at h3; omega
  | some y => rw [hg] at h3; simp at h3; congr 1; omega

theorem finalR_append (st : RState) (a b : List REvent) :
    finalR st (a ++ b) = finalR (finalR st a) b := by
  induction a generalizing st with
  | nil => rfl
  | cons e es ih => exact ih _

theorem finalR_of_empty_reads (st : RState) (evs : List REvent) (h : ∀ e ∈ evs, e.n ≤ 0)
    (heq : st.read ≤ st.lastRead) : finalR st evs = st := by
  induction evs generalizing st with
  | nil => rfl
  | cons e es ih =>
    rw [List.forall_mem_cons] at h
    have hs : stepR st e = (st, none) := by
      have : ¬ st.read > st.lastRead := by omega
      simp [stepR, h.1, this]
    rw [finalR, hs]
    exact ih st h.2 heq

theorem bytesR_of_empty_reads (post : List REvent) (hpost : ∀ x ∈ post, x.n ≤ 0) : bytesR post = 0 := by
  induction post with
  | nil => rfl
  | cons p ps ih =>
    rw [List.forall_mem_cons] at hpost
    simp [bytesR, ih hpost.2, hpost.1]

theorem bytesR_append (a b : List REvent) : bytesR (a ++ b) = bytesR a + bytesR b := by
  induction a with
  | nil => simp [bytesR]
  | cons x xs ih => rw [List.cons_append, bytesR_cons, bytesR_cons x xs, ih]; omega

theorem runR_final (st : RState) (pre post : List REvent) (e : REvent)
    (hinv : st.lastRead ≤ st.read) (heof : e.eof = true) (hpost : ∀ x ∈ post, x.n ≤ 0)
    (hpos : st.lastRead < st.read + bytesR (pre ++ e :: post)) :
    (runR st (pre ++ e :: post)).getLast? = some (st.read + bytesR (pre ++ e :: post)) := by
  refine runR_last st _ hinv ?_ hpos
  obtain ⟨-, -, -, -, h5, -⟩ := runR_spec st pre hinv
  obtain ⟨hA, hB⟩ := stepR_spec (finalR st pre) e
  -- after the read that saw `io.EOF` everything is reported, and the empty reads change nothing
  have hall : (stepR (finalR st pre) e).1.read ≤ (stepR (finalR st pre) e).1.lastRead := by
    rcases hB with ⟨-, hl, hle⟩ | ⟨-, hl, -⟩
    · have := hle heof
      have h0 : bytesR [e] = 0 := bytesR_of_empty_reads [e] (by simpa using this.1)
      omega
    · omega
  rw [finalR_append, finalR, finalR_of_empty_reads _ post hpost hall]
  exact hall

/-- All reads, then `Close`, from a fresh reader: strictly increasing, never above the bytes
read, and the last report is the number of bytes read — `Close` reports it if the reads did not. -/
theorem runRC_spec (evs : List REvent) :
    (runRC ⟨0, 0⟩ evs).Pairwise (· < ·) ∧ (∀ x ∈ runRC ⟨0, 0⟩ evs, 0 < x ∧ x ≤ bytesR evs) ∧
    (0 < bytesR evs → (runRC ⟨0, 0⟩ evs).getLast? = some (bytesR evs)) := by
  obtain ⟨h1, h2, h3, h4, h5, h6⟩ := runR_spec ⟨0, 0⟩ evs (Int.le_refl 0)
  simp only [Int.zero_add] at h2 h3 h4 h6
  unfold runRC closeR
  split
  next hlt =>
    refine ⟨List.pairwise_append.mpr ⟨h1, by simp, fun a ha b hb => ?_⟩, fun x hx => ?_,
      fun _ => by simp [h6]⟩
    · rw [List.mem_singleton.mp hb]; have := (h2 a ha).2; omega
    · rcases List.mem_append.mp hx with hx | hx
      · have := h2 x hx; omega
      · rw [List.mem_singleton.mp hx]; omega
  next hge =>
    simp only [Option.toList_none, List.append_nil]
    exact ⟨h1, fun x hx => by have := h2 x hx; omega,
      fun hpos => by simpa using runR_last ⟨0, 0⟩ evs (Int.le_refl 0) (by omega) (by simpa using hpos)⟩

end Req.Progress
