import Req.C03.H3Cut
import Req.Lemmas.C02H3
/-!
C03 — HTTP/3 lemmas on the repaired body reader (`Req.C03.readR`, `bodyReadR`), over the readers of the
raw stream as functions of its bytes and end marker (`Net.readVarint_total`, `Net.readN_total` of
`Lemmas/C02H3`): what each layer returns (the normal form `ParseNF` of one round of the frame parser, `parseTrailerR_spec`, the
normal form `ReadRNF` of `stream.Read`, `bodyReadR_eq`: `body.Read` is the stream's read under the pure
error mapping `bodyErr`); from these: the end marker of the stream never changes, a stream
that ends by a reset never reports `io.EOF`, reads never exceed what was asked for, the
Content-Length accounting of `body.Read`, and a run taken apart read by read (`bodyRunR_cons`).
-/
namespace Req.C03
open Req.Proto Req.C02

theorem readN_err (fuel k : Nat) (acc : List Bytes) (n : Net) (e : H3Err)
    (h : (Net.readN fuel k acc n).1.2 = some e) : e = n.fin.toH3 ∨ e = .stuck := by
  obtain ⟨p, n', _, ⟨h', _⟩ | ⟨h', _⟩ | ⟨h', _⟩⟩ := Net.readN_total fuel k acc n <;> rw [h'] at h <;> cases h
  · exact .inl rfl
  · exact .inr rfl

theorem toH3_reset_ne_eof (f : NetEnd) (h : f = .reset) : f.toH3 ≠ .eof := by subst h; simp [NetEnd.toH3]

theorem h3err_beq_eof (a : H3Err) : (a == .eof) = true ↔ a = .eof := by cases a <;> decide
theorem some_beq_eof (x : H3Err) : ((some x : Option H3Err) == some .eof) = decide (x = .eof) := by
  cases x <;> rfl
theorem netend_beq (a b : NetEnd) : (a == b) = true ↔ a = b := by cases a <;> cases b <;> decide

theorem truncated_true_ne_eof (e : H3Err) : truncatedFrame e true ≠ .eof := by
  unfold truncatedFrame
  split
  · simp
  · rename_i h; intro hx; subst hx; exact h ⟨(h3err_beq_eof _).mpr rfl, rfl⟩

/-- Frame types the parser skips on a request stream: all but 0 DATA, 1 HEADERS, 4 SETTINGS and the
types reserved from HTTP/2 (2, 6, 8, 9), which it refuses as `H3_FRAME_UNEXPECTED`; the Boolean form
of `Req.C02.skippable` (`skipT_iff_skippable`). -/
def skipT (t : Nat) : Bool := !(t = 0 ∨ t = 1 ∨ t = 4 ∨ t = 2 ∨ t = 6 ∨ t = 8 ∨ t = 9)

theorem skipT_iff (t : Nat) :
    skipT t = true ↔ t ≠ 0 ∧ t ≠ 1 ∧ t ≠ 4 ∧ ¬(t = 2 ∨ t = 6 ∨ t = 8 ∨ t = 9) := by
  simp only [skipT, Bool.not_eq_true', decide_eq_false_iff_not, not_or]

theorem skipT_iff_skippable (t : Nat) : skipT t = true ↔ skippable t := by
  simp only [skipT, skippable, Bool.not_eq_true', decide_eq_false_iff_not, not_or]

/-- One round of the repaired `frameParser.ParseNext`, read off the BYTES of the stream (in whatever
segments they arrive): what `decHdr` finds there decides the result. -/
inductive ParseNF (fuel : Nat) (n : Net) : Except H3Err H3Frame × Net → Prop
  | empty (n' : Net) : n.segs.flatten = [] → n'.fin = n.fin → ParseNF fuel n (.error n.fin.toH3, n')
  | cutHdr (e : H3Err) (n' : Net) : n.segs.flatten ≠ [] → decHdr n.segs.flatten = none → e ≠ .eof → n'.fin = n.fin →
      ParseNF fuel n (.error e, n')
  | data (l : Nat) (n2 : Net) : decHdr n.segs.flatten = some (0, l, n2.segs.flatten) → n2.fin = n.fin →
      ParseNF fuel n (.ok (.data l), n2)
  | headers (l : Nat) (n2 : Net) : decHdr n.segs.flatten = some (1, l, n2.segs.flatten) → n2.fin = n.fin →
      ParseNF fuel n (.ok (.headers l), n2)
  | settings (t l : Nat) (rest : Bytes) (n' : Net) : decHdr n.segs.flatten = some (t, l, rest) → t ≠ 0 → t ≠ 1 →
      skipT t = false → n'.fin = n.fin → ParseNF fuel n (.ok .settings, n')
  | refused (t l : Nat) (rest : Bytes) (e : H3Err) (n' : Net) : decHdr n.segs.flatten = some (t, l, rest) → t ≠ 0 →
      t ≠ 1 → skipT t = false → e ≠ .eof → n'.fin = n.fin → ParseNF fuel n (.error e, n')
  | skip (t l : Nat) (rest : Bytes) (n3 : Net) : decHdr n.segs.flatten = some (t, l, rest) → skipT t = true →
      l ≤ rest.length → n3.segs.flatten = rest.drop l → n3.fin = n.fin → ParseNF fuel n (parseNextR fuel n3)
  | cutSkip (t l : Nat) (rest : Bytes) (e : H3Err) (n' : Net) : decHdr n.segs.flatten = some (t, l, rest) →
      skipT t = true → rest.length < l → e ≠ .eof → n'.fin = n.fin → ParseNF fuel n (.error e, n')

theorem parseNextR_nf (fuel : Nat) (n : Net) : ParseNF fuel n (parseNextR (fuel + 1) n) := by
  unfold parseNextR
  obtain ⟨n1, hf1, ⟨t, hv1, hd1⟩ | ⟨hv1, hd1, he1⟩⟩ := Net.readVarint_total n <;> rw [hv1]
  · simp only []
    obtain ⟨n2, hf2', ⟨l, hv2, hd2⟩ | ⟨hv2, hd2, he2⟩⟩ := Net.readVarint_total n1 <;> rw [hv2] <;>
      have hf2 := hf2'.trans hf1
    · -- the frame header is there: dispatch on the type
      have hd : decHdr n.segs.flatten = some (t, l, n2.segs.flatten) := decHdr_eq_some.mpr ⟨_, hd1, hd2⟩
      simp only []
      by_cases h0 : t = 0
      · subst h0; rw [if_pos rfl]; exact .data l n2 hd hf2
      rw [if_neg h0]
      by_cases h1 : t = 1
      · subst h1; rw [if_pos rfl]; exact .headers l n2 hd hf2
      rw [if_neg h1]
      obtain ⟨p, n3, hf3', hN⟩ := Net.readN_total (l + 1) l [] n2
      have hf3 := hf3'.trans hf2
      by_cases h4 : t = 4
      · rw [if_pos h4]
        have hs : skipT t = false := Bool.eq_false_iff.mpr fun h => ((skipT_iff t).mp h).2.2.1 h4
        rcases hN with ⟨hr, _⟩ | ⟨hr, _⟩ | ⟨_, hfu⟩
        · rw [hr]; exact .settings t l _ n3 hd h0 h1 hs hf3
        · rw [hr]; cases n2.fin <;> exact .refused t l _ _ n3 hd h0 h1 hs (by simp) hf3
        · omega
      rw [if_neg h4]
      by_cases hu : t = 2 ∨ t = 6 ∨ t = 8 ∨ t = 9
      · rw [if_pos hu]
        exact .refused t l _ _ n2 hd h0 h1 (Bool.eq_false_iff.mpr fun h => ((skipT_iff t).mp h).2.2.2 hu) (by simp) hf2
      rw [if_neg hu]
      have hs : skipT t = true := (skipT_iff t).mpr ⟨h0, h1, h4, hu⟩
      rcases hN with ⟨hr, hle, _, hfl⟩ | ⟨hr, hlt⟩ | ⟨_, hfu⟩
      · rw [hr]; exact .skip t l _ n3 hd hs hle hfl hf3
      · rw [hr]; cases n2.fin <;> exact .cutSkip t l _ _ n3 hd hs hlt (by simp) hf3
      · omega
    · -- the stream ends inside the length varint
      exact .cutHdr _ n2 (by intro h0; rw [h0] at hd1; cases hd1)
        (by unfold decHdr; rw [hd1]; simp only []; rw [hd2]) (truncated_true_ne_eof _) hf2
  · -- the stream ends inside the type varint, or before it
    simp only []
    by_cases hemp : n.segs.flatten = []
    · have : truncatedFrame n.fin.toH3 (decide (n1.size < n.size)) = n.fin.toH3 := by
        simp [truncatedFrame, Net.size_eq, hemp, he1]
      rw [this]; exact .empty n1 hemp hf1
    · have hsz : n1.size < n.size := by
        rw [Net.size_eq, Net.size_eq, he1]; exact List.length_pos_iff.mpr hemp
      simp only [hsz, decide_true]
      exact .cutHdr _ n1 hemp (by unfold decHdr; rw [hd1]) (truncated_true_ne_eof _) hf1

/-- The frame parser never changes the end marker, and on a stream that ends by a reset it never
reports `io.EOF`. -/
theorem parseNextR_end (fuel : Nat) (n : Net) :
    (parseNextR fuel n).2.fin = n.fin ∧
    (n.fin = .reset → ∀ e, (parseNextR fuel n).1 = .error e → e ≠ .eof) := by
  induction fuel generalizing n with
  | zero => exact ⟨rfl, fun _ e h => by cases h; simp⟩
  | succ fuel ih =>
    have hnf := parseNextR_nf fuel n
    generalize parseNextR (fuel + 1) n = r at hnf
    cases hnf with
    | empty n' _ hf => exact ⟨hf, fun hr e h => by cases h; exact toH3_reset_ne_eof _ hr⟩
    | cutHdr e n' _ _ hne hf => exact ⟨hf, fun _ e' h => by cases h; exact hne⟩
    | data l n2 _ hf => exact ⟨hf, fun _ e h => by cases h⟩
    | headers l n2 _ hf => exact ⟨hf, fun _ e h => by cases h⟩
    | settings t l rest n' _ _ _ _ hf => exact ⟨hf, fun _ e h => by cases h⟩
    | refused t l rest e n' _ _ _ _ hne hf => exact ⟨hf, fun _ e' h => by cases h; exact hne⟩
    | skip t l rest n3 _ _ _ _ hf => exact ⟨(ih n3).1.trans hf, fun hr => (ih n3).2 (hf.trans hr)⟩
    | cutSkip t l rest e n' _ _ _ hne hf => exact ⟨hf, fun _ e' h => by cases h; exact hne⟩

theorem parseNextR_fin (fuel : Nat) (n : Net) : (parseNextR fuel n).2.fin = n.fin := (parseNextR_end fuel n).1

theorem readFullErrR_ne_eof (e : H3Err) : readFullErrR e ≠ .eof := by
  unfold readFullErrR; split
  · simp
  · rename_i h; intro hx; subst hx; exact h ((h3err_beq_eof _).mpr rfl)

/-- What `parseTrailerR` does: the end marker, the DATA-frame position and the trailer flag stay,
the error is never `io.EOF`, and success means the `l` bytes of the field section were there and
were consumed. -/
theorem parseTrailerR_spec (s : H3Stream) (l : Nat) :
    (parseTrailerR s l).2.net.fin = s.net.fin ∧ (parseTrailerR s l).2.remInFrame = s.remInFrame ∧
    (parseTrailerR s l).2.parsedTrailer = s.parsedTrailer ∧ (parseTrailerR s l).1 ≠ some .eof ∧
    ((parseTrailerR s l).1 = none → l ≤ s.net.segs.flatten.length ∧
      (parseTrailerR s l).2.net.segs.flatten = s.net.segs.flatten.drop l) := by
  unfold parseTrailerR
  split
  · exact ⟨rfl, rfl, rfl, by simp, by simp⟩
  · obtain ⟨p, n', hf, ⟨hr, hle, _, hfl⟩ | ⟨hr, _⟩ | ⟨_, hfu⟩⟩ := Net.readN_total (l + 1) l [] s.net
    · rw [hr]; simp only []
      split
      · exact ⟨hf, rfl, rfl, by simp, by simp⟩
      · split
        · exact ⟨hf, rfl, rfl, by simp, by simp⟩
        · exact ⟨hf, rfl, rfl, by simp, fun _ => ⟨hle, hfl⟩⟩
    · rw [hr]; exact ⟨hf, rfl, rfl, by simpa using readFullErrR_ne_eof _, by simp⟩
    · omega

theorem readInFrame_fin (s : H3Stream) (k : Nat) : (readInFrame s k).2.net.fin = s.net.fin := by
  unfold readInFrame
  have := Net.read_fin s.net (min k s.remInFrame)
  rcases hr : s.net.read (min k s.remInFrame) with ⟨od, n'⟩
  rw [hr] at this
  cases od <;> exact this

theorem readInFrame_len (s : H3Stream) (k : Nat) : (readInFrame s k).1.1.length ≤ k := by
  unfold readInFrame
  rcases hr : s.net.read (min k s.remInFrame) with ⟨od, n'⟩
  cases od with
  | none => simp
  | some d =>
    have := (Net.read_some _ _ _ _ hr).2.1
    simp only []; omega

/-- What an `io.EOF` from inside a DATA frame means: the frame is complete and the stream ended by FIN. -/
theorem readInFrame_eof (s : H3Stream) (k : Nat) (h : (readInFrame s k).1.2 = some .eof) :
    s.net.fin = .eof ∧ s.remInFrame = 0 ∧ s.net.segs.flatten = [] := by
  unfold readInFrame at h
  rcases hr : s.net.read (min k s.remInFrame) with ⟨od, n'⟩
  rw [hr] at h
  cases od with
  | some d => simp at h
  | none =>
    simp only [] at h
    have hemp := (Net.read_none _ _ _ hr).1
    cases hf : s.net.fin with
    | reset => rw [hf] at h; simp [NetEnd.toH3, netend_beq] at h
    | eof =>
      rw [hf] at h
      by_cases hr0 : s.remInFrame > 0
      · simp [hr0, netend_beq] at h
      · exact ⟨rfl, by omega, hemp⟩

/-- At a frame boundary `frameParser.ParseNext` returned `r` and left the stream at `n'`. -/
structure Parsed (s : H3Stream) (r : Except H3Err H3Frame) (n' : Net) : Prop where
  rem : s.remInFrame = 0
  eq : parseNextR (s.net.size + 1) s.net = (r, n')

theorem Parsed.fin {s : H3Stream} {r : Except H3Err H3Frame} {n' : Net} (h : Parsed s r n') : n'.fin = s.net.fin := by
  have := parseNextR_fin (s.net.size + 1) s.net; rwa [h.eq] at this

theorem Parsed.reset {s : H3Stream} {e : H3Err} {n' : Net} (h : Parsed s (.error e) n') (hf : s.net.fin = .reset) :
    e ≠ .eof :=
  (parseNextR_end (s.net.size + 1) s.net).2 hf e (by rw [h.eq])

/-- Normal form of `stream.Read`: inside a DATA frame it reads from the frame; at a frame boundary
it parses the next frame header and acts on it. -/
inductive ReadRNF (s : H3Stream) (k : Nat) : (Bytes × Option H3Err) × H3Stream → Prop
  | inFrame : s.remInFrame ≠ 0 → ReadRNF s k (readInFrame s k)
  | err (e : H3Err) (n' : Net) : Parsed s (.error e) n' → ReadRNF s k (([], some e), { s with net := n' })
  | dataLate (l : Nat) (n' : Net) : Parsed s (.ok (.data l)) n' → s.parsedTrailer = true →
      ReadRNF s k (([], some .dataAfterTrailers), { s with net := n' })
  | data (l : Nat) (n' : Net) : Parsed s (.ok (.data l)) n' → s.parsedTrailer = false →
      ReadRNF s k (readInFrame { s with net := n', remInFrame := l } k)
  | headersLate (l : Nat) (n' : Net) : Parsed s (.ok (.headers l)) n' → s.parsedTrailer = true →
      ReadRNF s k (([], some .headersAfterTrailers), { s with net := n' })
  | trailer (l : Nat) (n' : Net) : Parsed s (.ok (.headers l)) n' → s.parsedTrailer = false →
      ReadRNF s k (([], (parseTrailerR { s with net := n', parsedTrailer := true } l).1),
        (parseTrailerR { s with net := n', parsedTrailer := true } l).2)
  | settings (n' : Net) : Parsed s (.ok .settings) n' → ReadRNF s k (([], some .frameUnexpected), { s with net := n' })

theorem readR_nf (s : H3Stream) (k : Nat) : ReadRNF s k (readR s k) := by
  unfold readR
  by_cases hrem : s.remInFrame ≠ 0
  · rw [if_pos hrem]; exact .inFrame hrem
  rw [if_neg hrem]
  rcases hp : parseNextR (s.net.size + 1) s.net with ⟨r, n'⟩
  have hP : Parsed s r n' := ⟨by omega, hp⟩
  cases r with
  | error e => exact .err e n' hP
  | ok f =>
    cases f with
    | settings => exact .settings n' hP
    | data l =>
      simp only []
      by_cases hpt : s.parsedTrailer = true
      · rw [if_pos hpt]; exact .dataLate l n' hP hpt
      · rw [if_neg hpt]; exact .data l n' hP (by simpa using hpt)
    | headers l =>
      simp only []
      by_cases hpt : s.parsedTrailer = true
      · rw [if_pos hpt]; exact .headersLate l n' hP hpt
      · rw [if_neg hpt]; exact .trailer l n' hP (by simpa using hpt)

theorem readR_fin (s : H3Stream) (k : Nat) : (readR s k).2.net.fin = s.net.fin := by
  have hnf := readR_nf s k
  generalize readR s k = r at hnf
  cases hnf with
  | inFrame _ => exact readInFrame_fin s k
  | data l n' hp _ => exact (readInFrame_fin _ k).trans hp.fin
  | trailer l n' hp _ => exact (parseTrailerR_spec _ l).1.trans hp.fin
  | _ => exact Parsed.fin ‹_›

theorem readR_len (s : H3Stream) (k : Nat) : (readR s k).1.1.length ≤ k := by
  have hnf := readR_nf s k
  generalize readR s k = r at hnf
  cases hnf with
  | inFrame _ => exact readInFrame_len s k
  | data l n' _ _ => exact readInFrame_len _ k
  | _ => exact Nat.zero_le k

/-- **A reset stream never reports `io.EOF`** (stream reset with any code, connection close). -/
theorem readR_reset (s : H3Stream) (k : Nat) (hf : s.net.fin = .reset) : (readR s k).1.2 ≠ some .eof := by
  have hnf := readR_nf s k
  generalize readR s k = r at hnf
  cases hnf with
  | inFrame _ => intro h; have := (readInFrame_eof s k h).1; rw [hf] at this; cases this
  | err e n' hp => intro h; exact hp.reset hf (Option.some.inj h)
  | data l n' hp _ =>
    intro h; have := (readInFrame_eof _ k h).1
    rw [show _ = n'.fin from rfl, hp.fin, hf] at this; cases this
  | trailer l n' _ _ => exact (parseTrailerR_spec _ l).2.2.2.1
  | _ => intro h; cases h

/-- What `body.Read` makes of the stream reader's error, in the state `b'` after the read. -/
def bodyErr (b' : H3Body) (e : Option H3Err) : Option H3Err :=
  if b'.violation then some .tooMuchData
  else if e == some .eof ∧ b'.hasCL ∧ b'.remaining > 0 then some .unexpectedEOF else e

/-- The size `body.Read` passes down. -/
def bodyK (b : H3Body) (k : Nat) : Nat := if b.hasCL then min k b.remaining else k

/-- The state after a stream read that handed out `d` and left the stream at `s'`. -/
def bodyNext (b : H3Body) (r : (Bytes × Option H3Err) × H3Stream) : H3Body :=
  { b with str := r.2, remaining := b.remaining - r.1.1.length }

/-- `body.Read` past the violation check, given what the stream reader returned. -/
def bodyStep (b : H3Body) (r : (Bytes × Option H3Err) × H3Stream) : (Bytes × Option H3Err) × H3Body :=
  ((r.1.1, bodyErr (bodyNext b r) r.1.2), bodyNext b r)

theorem bodyWrap_eq (b : H3Body) (r : (Bytes × Option H3Err) × H3Stream) :
    (match r with
      | ((d, e), str') =>
        let b' : H3Body := { b with str := str', remaining := b.remaining - d.length }
        if b'.violation then ((d, some H3Err.tooMuchData), b')
        else if e == some .eof ∧ b'.hasCL ∧ b'.remaining > 0 then ((d, some .unexpectedEOF), b')
        else ((d, e), b')) = bodyStep b r := by
  obtain ⟨⟨d, e⟩, s'⟩ := r
  unfold bodyStep bodyErr bodyNext
  simp only []
  split
  · rfl
  · split <;> rfl

theorem bodyReadR_eq (b : H3Body) (k : Nat) (hv : b.violation = false) :
    bodyReadR b k = bodyStep b (readR b.str (bodyK b k)) := by
  unfold bodyReadR
  rw [if_neg (by simp [hv])]
  exact bodyWrap_eq b _

theorem bodyReadR_viol (b : H3Body) (k : Nat) (hv : b.violation = true) :
    bodyReadR b k = (([], some .tooMuchData), b) := by
  unfold bodyReadR; simp [hv]

theorem bodyK_le (b : H3Body) (k : Nat) : bodyK b k ≤ k ∧ (b.hasCL = true → bodyK b k ≤ b.remaining) := by
  unfold bodyK; split <;> simp_all <;> omega

theorem bodyErr_none {b' : H3Body} {e : Option H3Err} (h : bodyErr b' e = none) : e = none := by
  unfold bodyErr at h; split at h
  · cases h
  · split at h
    · cases h
    · exact h

theorem bodyErr_some (b' : H3Body) (x : H3Err) :
    bodyErr b' (some x) = some (if b'.violation then .tooMuchData
      else if x = .eof ∧ b'.hasCL = true ∧ b'.remaining > 0 then .unexpectedEOF else x) := by
  unfold bodyErr
  split
  · rfl
  · simp only [some_beq_eof, decide_eq_true_eq]; split <;> rfl

theorem bodyErr_eof {b' : H3Body} {e : Option H3Err} (h : bodyErr b' e = some .eof) :
    e = some .eof ∧ (b'.hasCL = true → b'.remaining = 0) := by
  unfold bodyErr at h; split at h
  · cases h
  · split at h
    · cases h
    · rename_i hn
      subst h
      exact ⟨rfl, fun hc => by simp [hc] at hn; exact hn (by decide)⟩

theorem bodyReadR_fin (b : H3Body) (k : Nat) : (bodyReadR b k).2.str.net.fin = b.str.net.fin := by
  cases hv : b.violation with
  | true => rw [bodyReadR_viol b k hv]
  | false => rw [bodyReadR_eq b k hv]; exact readR_fin _ _

theorem bodyReadR_hasCL (b : H3Body) (k : Nat) : (bodyReadR b k).2.hasCL = b.hasCL := by
  cases hv : b.violation with
  | true => rw [bodyReadR_viol b k hv]
  | false => rw [bodyReadR_eq b k hv]; rfl

theorem bodyReadR_reset (b : H3Body) (k : Nat) (hf : b.str.net.fin = .reset) :
    (bodyReadR b k).1.2 ≠ some .eof := by
  cases hv : b.violation with
  | true => rw [bodyReadR_viol b k hv]; simp
  | false => rw [bodyReadR_eq b k hv]; exact fun h => readR_reset _ _ hf (bodyErr_eof h).1

/-- Length accounting of one read: never more than is still owed; a clean end only when
nothing is owed any more. -/
theorem bodyReadR_acct (b : H3Body) (k : Nat) (hcl : b.hasCL = true) :
    (bodyReadR b k).1.1.length ≤ b.remaining ∧
    (bodyReadR b k).2.remaining = b.remaining - (bodyReadR b k).1.1.length ∧
    ((bodyReadR b k).1.2 = some .eof → (bodyReadR b k).2.remaining = 0) := by
  cases hv : b.violation with
  | true => rw [bodyReadR_viol b k hv]; simp
  | false =>
    rw [bodyReadR_eq b k hv]
    have := readR_len b.str (bodyK b k)
    have := (bodyK_le b k).2 hcl
    exact ⟨show (readR b.str (bodyK b k)).1.1.length ≤ _ by omega, rfl, fun h => (bodyErr_eof h).2 hcl⟩

theorem bodyRunR_nil (b : H3Body) : bodyRunR b [] = ([], b) := rfl

theorem bodyRunR_cons (b : H3Body) (k : Nat) (ks : List Nat) :
    bodyRunR b (k :: ks) =
      match (bodyReadR b k).1.2 with
      | none => (((bodyReadR b k).1.1, none) :: (bodyRunR (bodyReadR b k).2 ks).1, (bodyRunR (bodyReadR b k).2 ks).2)
      | some e => ([((bodyReadR b k).1.1, some e)], (bodyReadR b k).2) := by
  unfold bodyRunR
  rw [runReads]
  rcases hr : bodyReadR b k with ⟨⟨d, e⟩, b'⟩
  cases e <;> rfl

end Req.C03
