import Req.Lemmas.C20Verify
/-!
Helper lemmas for C20 `digest_accepted`: what the verifier's parameter lookup finds in the
header `authorize` writes, that every parameter `authorize` writes is well formed (`params_ok`, for
any class of bytes), and the verdict on such a header (`verify_params`); both models of `digest.go`
use them. `issuedOf`, the server record in which `Req.Props.C20Legacy.digest_accepted` is stated, is
defined here.
-/
namespace Req.Rfc7616
open Req.Proto Req.Digest Req.Ascii

/-- The server's record of a challenge that the client read as `c`: the same realm, nonce,
opaque, algorithm token, the (single, comma-free) qop option, userhash flag. -/
def issuedOf (c : Challenge) : Issued :=
  { realm := c.realm, nonce := c.nonce,
    opaq := if c.opaq.isEmpty then none else some c.opaq,
    algorithm := if c.algorithm.isEmpty then none else some c.algorithm,
    qops := if c.qop.isEmpty then [] else [c.qop],
    userhash := c.userhash == b!"true" }

theorem colons_eq_colonJoin : ∀ l : List Bytes, colons l = colonJoin l
  | [] => rfl
  | [_] => rfl
  | x :: y :: r => by
    have := colons_eq_colonJoin (y :: r)
    simp only [colons, colonJoin, this, List.append_assoc, List.singleton_append]

/-! The three lookups below test whether a block holds `k` before they look at the block's
condition, so that a block without `k` is passed over by computation whatever its condition. -/

theorem get_append (l r : List Param) (k : Bytes) :
    get (pairs (l ++ r)) k =
      match get (pairs l) k with
      | some v => some v
      | none => get (pairs r) k := by
  induction l with
  | nil => rfl
  | cons p l ih =>
    simp only [pairs, List.cons_append, List.map_cons, get] at ih ⊢
    split
    · rfl
    · exact ih

theorem get_if (p : Prop) [Decidable p] (l : List Param) (k : Bytes) :
    get (pairs (if p then l else [])) k =
      match get (pairs l) k with
      | some v => if p then some v else none
      | none => none := by
  split <;> split <;> simp_all [pairs, get]

theorem get_unless (p : Prop) [Decidable p] (l : List Param) (k : Bytes) :
    get (pairs (if p then [] else l)) k =
      match get (pairs l) k with
      | some v => if p then none else some v
      | none => none := by
  split <;> split <;> simp_all [pairs, get]

theorem get_none_of_sublist {l₁ l₂ : Params} (h : l₁.Sublist l₂) {k : Bytes} (hn : get l₂ k = none) :
    get l₁ k = none := by
  induction h with
  | slnil => rfl
  | cons a _ ih =>
    unfold get at hn
    split at hn
    · cases hn
    · exact ih hn
  | cons_cons a _ ih =>
    unfold get at hn ⊢
    split at hn
    · cases hn
    · rename_i hne
      rw [if_neg hne]
      exact ih hn

theorem namesDistinct_of_sublist {l₁ l₂ : Params} (h : l₁.Sublist l₂) (hd : namesDistinct l₂ = true) :
    namesDistinct l₁ = true := by
  induction h with
  | slnil => rfl
  | cons a _ ih =>
    simp only [namesDistinct, Bool.and_eq_true] at hd
    exact ih hd.2
  | cons_cons a hs ih =>
    simp only [namesDistinct, Bool.and_eq_true, Option.isNone_iff_eq_none] at hd ⊢
    exact ⟨get_none_of_sublist hs hd.1, ih hd.2⟩

theorem ite_nil_sublist {α} (p : Prop) [Decidable p] (l : List α) : (if p then l else []).Sublist l := by
  split
  · exact List.Sublist.refl l
  · exact List.nil_sublist l

theorem nil_ite_sublist {α} (p : Prop) [Decidable p] (l : List α) : (if p then [] else l).Sublist l := by
  split
  · exact List.nil_sublist l
  · exact List.Sublist.refl l

section gets
variable (h : Bytes → Bytes) (c : Challenge) (cr : Cred) (nc cn : Bytes)

theorem get_username : get (pairs (params h c cr nc cn)) b!"username" =
    some (if c.userhash == b!"true" then h (colonJoin [cr.user, c.realm]) else cr.user) := by
  simp only [params, get_append, get_if, get_unless]
  rfl

theorem get_realm : get (pairs (params h c cr nc cn)) b!"realm" = some c.realm := by
  simp only [params, get_append, get_if, get_unless]
  rfl

theorem get_nonce : get (pairs (params h c cr nc cn)) b!"nonce" = some c.nonce := by
  simp only [params, get_append, get_if, get_unless]
  rfl

theorem get_uri : get (pairs (params h c cr nc cn)) b!"uri" = some cr.uri := by
  simp only [params, get_append, get_if, get_unless]
  rfl

theorem get_response : get (pairs (params h c cr nc cn)) b!"response" = some (response h c cr nc cn) := by
  simp only [params, get_append, get_if, get_unless]
  rfl

theorem get_opaque : get (pairs (params h c cr nc cn)) b!"opaque" = (issuedOf c).opaq := by
  simp only [params, issuedOf, get_append, get_if, get_unless]
  cases c.opaq.isEmpty <;> rfl

theorem get_algorithm : get (pairs (params h c cr nc cn)) b!"algorithm" = (issuedOf c).algorithm := by
  simp only [params, issuedOf, get_append, get_if, get_unless]
  cases c.algorithm.isEmpty <;> rfl

theorem get_userhash : get (pairs (params h c cr nc cn)) b!"userhash" =
    if c.userhash == b!"true" then some c.userhash else none := by
  simp only [params, get_append, get_if, get_unless]
  cases c.userhash == b!"true" <;> rfl

theorem get_qop : get (pairs (params h c cr nc cn)) b!"qop" =
    if c.qop.isEmpty then none else some c.qop := by
  simp only [params, get_append, get_if, get_unless]
  rfl

theorem get_nc : get (pairs (params h c cr nc cn)) b!"nc" =
    if c.qop.isEmpty then none else some nc := by
  simp only [params, get_append, get_if, get_unless]
  rfl

theorem get_cnonce : get (pairs (params h c cr nc cn)) b!"cnonce" =
    if c.qop.isEmpty then none else some cn := by
  simp only [params, get_append, get_if, get_unless]
  rfl

/-- the names are a subsequence of those written when every optional block is there -/
theorem names_distinct : namesDistinct (pairs (params h c cr nc cn)) = true :=
  namesDistinct_of_sublist
    (List.Sublist.map _ (((((ite_nil_sublist _ _).append (List.Sublist.refl _)).append
      (nil_ite_sublist _ _)).append (nil_ite_sublist _ _)).append (nil_ite_sublist _ _)))
    rfl

theorem params_ne_nil : params h c cr nc cn ≠ [] := by
  simp only [params]
  split <;> simp

end gets
section ok
variable (h : Bytes → Bytes) (c : Challenge) (cr : Cred) (nc cn : Bytes)

variable (q : UInt8 → Bool)

theorem ok_quoted (n v : Bytes) (hn : n ≠ []) (ht : n.all isTokenByte = true) (hv : v.all q = true) :
    Param.ok q ⟨n, v, true⟩ := ⟨hn, ht, by simp only [if_true]; exact hv⟩

theorem ok_bare (n v : Bytes) (hn : n ≠ []) (ht : n.all isTokenByte = true) (hv : v ≠ [])
    (hvt : v.all isTokenByte = true) : Param.ok q ⟨n, v, false⟩ :=
  ⟨hn, ht, by simp only [Bool.false_eq_true, if_false]; exact ⟨hv, hvt⟩⟩

theorem response_all (hh : ∀ x, (h x).all q = true) : (response h c cr nc cn).all q = true := by
  unfold response
  simp only
  split <;> exact hh _

/-- every parameter `authorize` writes is well formed, for any class `q` of bytes (qdtext for the
code as found, field-value bytes for the repaired code) that holds the hash output and the
account's and the challenge's strings -/
theorem params_ok (hh : ∀ x, (h x).all q = true)
    (huser : c.userhash = b!"true" ∨ cr.user.all q = true)
    (hrealm : c.realm.all q = true) (hnonce : c.nonce.all q = true)
    (huri : cr.uri.all q = true) (hop : c.opaq.all q = true)
    (halg : c.algorithm = [] ∨ (c.algorithm ≠ [] ∧ c.algorithm.all isTokenByte = true))
    (hqop : c.qop = [] ∨ c.qop = b!"auth")
    (hnc : nc ≠ [] ∧ nc.all isTokenByte = true) (hcn : cn.all q = true) :
    ∀ p ∈ params h c cr nc cn, Param.ok q p := by
  intro p hp
  -- the parameters one by one, those of an optional block with the block's condition
  simp only [params, List.mem_append, List.mem_ite_nil_left, List.mem_ite_nil_right, List.mem_cons,
    List.not_mem_nil, or_false] at hp
  rcases hp with (((⟨huh, rfl⟩ | rfl | rfl | rfl | rfl | rfl) | ⟨hne, rfl⟩) | ⟨_, rfl⟩) | ⟨hne, rfl | rfl | rfl⟩
  · rw [eq_of_beq huh]
    exact ok_bare q _ _ (by decide) (by decide) (by decide) (by decide)
  · refine ok_quoted q _ _ (by decide) (by decide) ?_
    split
    · exact hh _
    · rename_i hn
      exact huser.resolve_left fun e => hn (by rw [e]; rfl)
  · exact ok_quoted q _ _ (by decide) (by decide) hrealm
  · exact ok_quoted q _ _ (by decide) (by decide) hnonce
  · exact ok_quoted q _ _ (by decide) (by decide) huri
  · exact ok_quoted q _ _ (by decide) (by decide) (response_all h c cr nc cn q hh)
  · obtain ⟨e1, e2⟩ := halg.resolve_left fun e => hne (by rw [e]; rfl)
    exact ok_bare q _ _ (by decide) (by decide) e1 e2
  · exact ok_quoted q _ _ (by decide) (by decide) hop
  · rw [hqop.resolve_left fun e => hne (by rw [e]; rfl)]
    exact ok_bare q _ _ (by decide) (by decide) (by decide) (by decide)
  · exact ok_bare q _ _ (by decide) (by decide) hnc.1 hnc.2
  · exact ok_quoted q _ _ (by decide) (by decide) hcn

end ok
/-- the verdict on a header that carries the parameter list `params`, for a server record `sc` that
agrees with the challenge `c` the list was computed from -/
theorem verify_params (H : Alg → Bytes → Bytes) (alg : Alg) (c : Challenge) (sc : Issued)
    (user pass method uri body cn hdr : Bytes)
    (hpc : parseCredentials hdr =
      some (pairs (params (H alg) c { user, pass, method, uri } b!"00000001" cn)))
    (realm : sc.realm = c.realm) (nonce : sc.nonce = c.nonce) (opaq : sc.opaq = (issuedOf c).opaq)
    (algorithm : sc.algorithm = (issuedOf c).algorithm)
    (userhash : sc.userhash = (c.userhash == b!"true"))
    (hash : specAlg (effAlg sc.algorithm) = some (alg, isSess c.algorithm))
    (qop : (c.qop = [] ∧ sc.qops = [] ∧ isSess c.algorithm = false) ∨
      (c.qop = b!"auth" ∧ b!"auth" ∈ sc.qops)) :
    verify H specAlg { issued := sc, method, uri, user, pass, body } hdr = true := by
  rw [algorithm] at hash
  -- the verifier finds every parameter it asks for (`get_*`) and recomputes the response over
  -- `colons`, where the client wrote `response` over `colonJoin`: with `colons_eq_colonJoin` the two
  -- are one term; what remains are the cases of qop, userhash and `-sess`
  unfold verify
  simp only [hpc, names_distinct, get_username, get_realm, get_nonce, get_uri, get_response,
    get_opaque, get_algorithm, get_userhash, get_qop, get_nc, get_cnonce, Bool.true_and,
    realm, nonce, opaq, algorithm, userhash, hash, beq_self_eq_true, colons_eq_colonJoin]
  rcases qop with ⟨hq, hqs, hs⟩ | ⟨hq, hmem⟩
  · by_cases huh : (c.userhash == b!"true") = true <;>
      simp [hq, hqs, hs, huh, response]
  · by_cases huh : (c.userhash == b!"true") = true <;>
      cases hs : isSess c.algorithm <;>
      simp [hq, hs, huh, response, hmem]
end Req.Rfc7616
