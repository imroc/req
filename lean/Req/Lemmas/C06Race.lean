import Req.H2.Race
import Req.Lemmas.C06Recv
/-!
C06 — the monitors' side of the two-phase refinement (`Req.H2.Race`, `Req.H2.RaceN`).

The race-tolerant reading follows the strict one wherever the strict one accepts, and where it
forgives, the strict verdict is one of exactly three: `frame-size`, `stream-window-exceeded` (both
on a DATA frame), `max-concurrent-streams` (on the HEADERS of a new stream).

The simulation itself is in `Req.Lemmas.C06RaceN`. Its core is a commutation fact at the monitor:
booking a DATA frame (`debit`) commutes with acknowledging a SETTINGS frame. Beside it: what the
tolerant monitor notes at an acknowledgement, and how it then judges a delayed DATA frame and a
delayed header block.
-/
namespace Req.Lemmas.C06
open Req.H2 Req.H2.Flow Req.H2.Conn Req.H2.Monitor Req.H2.Race

theorem tolerant_client_of_strict {t : Tolerant} {f : Frame} {m' : Send} (h : t.m.client f = .ok m') :
    ∃ t', Tolerant.client t f = .ok t' ∧ t'.m = m' := by
  cases f <;> simp only [Tolerant.client, h] <;> exact ⟨_, rfl, rfl⟩

theorem tolerant_run_of_strict : ∀ (evs : List Event) {t : Tolerant} {m' : Send},
    Send.run t.m evs = .ok m' → ∃ t', Tolerant.run t evs = .ok t' ∧ t'.m = m' := by
  intro evs
  induction evs with
  | nil => intro t m' h; cases h; exact ⟨t, rfl, rfl⟩
  | cons e es ih =>
    intro t m' h
    cases e with
    | c f =>
      simp only [Send.run, Send.step] at h
      cases hc : t.m.client f with
      | error r => rw [hc] at h; cases h
      | ok m1 =>
        rw [hc] at h
        obtain ⟨t1, h1, h2⟩ := tolerant_client_of_strict hc
        simp only [Tolerant.run, h1]
        exact ih (t := t1) (by rw [h2]; exact h)
    | p f =>
      simp only [Send.run, Send.step] at h
      simp only [Tolerant.run]
      exact ih (t := { t with m := Send.peer t.m f }) h

def raceVerdict (r : String) : Prop :=
  r = "frame-size" ∨ r = "stream-window-exceeded" ∨ r = "max-concurrent-streams"

theorem findM_map {β : Type} (f : MStream → β) (p : β → Bool) (id : Nat)
    (hf : ∀ s, p (f s) = decide (s.id = id)) (l : List MStream) :
    (l.map f).find? p = (findM l id).map f :=
  find?_map_key f p _ hf l

theorem findM_setM {l : List MStream} {id : Nat} {s s' : MStream} (hf : findM l id = some s)
    (hid : s'.id = s.id) : findM (setM l s') id = some s' := by
  have hs := (findM_mem hf).2
  rw [setM, findM, findM_map _ _ id (fun t => by split <;> simp_all) l, hf, Option.map_some, if_pos hid.symm]

theorem client_some_error (m : Send) {v : Nat} (h : m.hdrOpen = some v) (f : Frame)
    (hf : ∀ id len eh, f ≠ .continuation id len eh) : m.client f = .error "header-block-interrupted" := by
  cases f with
  | continuation id len eh => exact absurd rfl (hf id len eh)
  | _ => simp [Send.client, h]

theorem ite_err_of_err {α : Type} {c : Prop} [Decidable c] {a r : String} {x : α} :
    (if c then (Except.error a : Except String α) else Except.ok x) = Except.error r → r = a := by
  intro h
  split at h
  · cases h; rfl
  · cases h

/-- what accepting `DATA id len es` does to the monitor's books -/
def debit (m : Send) (id len : Nat) (es : Bool) : Send :=
  match findM m.streams id with
  | none => m
  | some s => { m with connWin := m.connWin - len,
                       streams := setM m.streams { s with win := s.win - len, cEnd := es } }

theorem client_data_ok {m m' : Send} {id len : Nat} {es : Bool} (h : m.client (.data id len es) = .ok m') :
    m.hdrOpen = none ∧ len ≤ m.maxFrame ∧ ∃ s, findM m.streams id = some s ∧ (s.cEnd || s.cRst) = false ∧
      ¬ (len > 0 ∧ (len : Int) > m.connWin) ∧ ¬ (len > 0 ∧ (len : Int) > s.win) ∧ m' = debit m id len es := by
  cases hh : m.hdrOpen with
  | some v => rw [client_some_error _ hh _ (by intro a b c hx; cases hx)] at h; cases h
  | none =>
    refine ⟨rfl, ?_⟩
    simp only [Send.client, hh, Bool.not_true, Bool.false_eq_true, if_false] at h
    by_cases h1 : len > m.maxFrame
    · rw [if_pos h1] at h; cases h
    · rw [if_neg h1] at h
      refine ⟨by omega, ?_⟩
      cases hf : findM m.streams id with
      | none => simp only [hf] at h; cases h
      | some s =>
        simp only [hf] at h
        by_cases h2 : (s.cEnd || s.cRst) = true
        · rw [if_pos h2] at h; cases h
        · rw [if_neg h2] at h
          by_cases h3 : len > 0 ∧ (len : Int) > m.connWin
          · rw [if_pos h3] at h; cases h
          · rw [if_neg h3] at h
            by_cases h4 : len > 0 ∧ (len : Int) > s.win
            · rw [if_pos h4] at h; cases h
            · rw [if_neg h4] at h
              cases h
              refine ⟨s, rfl, by simpa using h2, h3, h4, ?_⟩
              simp only [debit, hf, hh]

theorem client_data_verdict {m : Send} {id len : Nat} {es : Bool} {s : MStream} {r : String}
    (hh : m.hdrOpen = none) (hf : findM m.streams id = some s) (h2 : (s.cEnd || s.cRst) = false)
    (h3 : ¬ (len > 0 ∧ (len : Int) > m.connWin)) (h : m.client (.data id len es) = .error r) :
    raceVerdict r := by
  simp only [Send.client, hh, hf, h2, if_neg h3, Bool.not_true, Bool.false_eq_true, if_false] at h
  split at h
  · cases h; exact .inl rfl
  · split at h <;> cases h
    exact .inr (.inl rfl)

theorem tolerant_forgives_only {t t' : Tolerant} {f : Frame} {r : String}
    (ht : Tolerant.client t f = .ok t') (hs : t.m.client f = .error r) : raceVerdict r := by
  cases f with
  | data id len es =>
    simp only [Tolerant.client, hs] at ht
    split at ht
    · rename_i w mf s hg hf
      -- the lenient reading (more generous window and frame size) accepts the frame
      split at ht
      · cases ht
      · rename_i ml hl
        obtain ⟨hh, -, s', hf', h2, h3, -⟩ := client_data_ok hl
        have hf'' := hf'.symm.trans (findM_setM (s' := { s with win := if w > s.win then w else s.win }) hf rfl)
        cases hf''
        exact client_data_verdict (m := t.m) hh hf h2 h3 hs
    · cases ht
  | headers id len es eh =>
    simp only [Tolerant.client, hs] at ht
    split at ht
    · rename_i old hgc
      split at ht
      · cases ht
      · rename_i ml hl
        cases hh : t.m.hdrOpen with
        | some v =>
          rw [client_some_error _ (by simpa using hh) _ (by intro a b c hx; cases hx)] at hl
          cases hl
        | none =>
          simp only [Send.client, hh, Bool.not_true, Bool.false_eq_true, if_false] at hs hl
          by_cases h1 : len > t.m.maxFrame
          · exfalso
            rw [if_pos h1] at hl
            cases hl
          · rw [if_neg h1] at hs hl
            by_cases h2 : id > t.m.lastId
            · rw [if_pos h2] at hs hl
              by_cases h3 : id % 2 = 0
              · exfalso
                rw [if_pos h3] at hl
                cases hl
              · rw [if_neg h3] at hs
                have := ite_err_of_err hs
                rw [this]; exact Or.inr (Or.inr rfl)
            · exfalso
              rw [if_neg h2] at hs hl
              -- the two readings agree on a known stream
              cases hf : findM t.m.streams id with
              | none => simp only [hf] at hl; cases hl
              | some s =>
                simp only [hf] at hs hl
                by_cases h4 : (s.cEnd || s.cRst) = true
                · rw [if_pos h4] at hl; cases hl
                · rw [if_neg h4] at hs hl
                  by_cases h5 : (!es) = true
                  · rw [if_pos h5] at hl; cases hl
                  · rw [if_neg h5] at hs; cases hs
    · cases ht
  -- every other frame the tolerant reading judges as the strict one does
  | _ => simp only [Tolerant.client, hs] at ht; cases ht

theorem strict_of_tolerant : ∀ (h : List Event) {t t' : Tolerant}, Tolerant.run t h = .ok t' →
    Send.run t.m h = .ok t'.m ∨ ∃ r, Send.run t.m h = .error r ∧ raceVerdict r := by
  intro h
  induction h with
  | nil => intro t t' ht; cases ht; exact Or.inl rfl
  | cons e es ih =>
    intro t t' ht
    cases e with
    | p f =>
      simp only [Tolerant.run] at ht
      simp only [Send.run, Send.step]
      exact ih (t := { t with m := Send.peer t.m f }) ht
    | c f =>
      simp only [Tolerant.run] at ht
      cases hc : Tolerant.client t f with
      | error r => rw [hc] at ht; cases ht
      | ok t1 =>
        rw [hc] at ht
        simp only [Send.run, Send.step]
        cases hs : t.m.client f with
        | error r => exact Or.inr ⟨r, rfl, tolerant_forgives_only hc hs⟩
        | ok m1 =>
          obtain ⟨_, h1, rfl⟩ := tolerant_client_of_strict hs
          cases hc.symm.trans h1
          exact ih ht

def addWin (d : Int) (s : MStream) : MStream := { s with win := s.win + d }

theorem findM_map_addWin (d : Int) (l : List MStream) (id : Nat) :
    findM (l.map (addWin d)) id = (findM l id).map (addWin d) :=
  findM_map _ _ id (fun _ => rfl) l

theorem setM_map_addWin (d : Int) (l : List MStream) (s : MStream) :
    setM (l.map (addWin d)) (addWin d s) = (setM l s).map (addWin d) := by
  unfold setM
  rw [List.map_map, List.map_map]
  apply List.map_congr_left
  intro x _
  simp only [Function.comp]
  have h1 : (addWin d x).id = x.id := rfl
  have h2 : (addWin d s).id = s.id := rfl
  rw [h1, h2]
  split <;> rfl

theorem map_addWin_zero (l : List MStream) : l.map (addWin 0) = l := by
  have : ∀ x : MStream, addWin 0 x = x := by intro x; simp [addWin]
  induction l with
  | nil => rfl
  | cons a l ih => simp only [List.map_cons, this, ih]

/-- the streams after acknowledging a SETTINGS frame: every window moved by the same amount -/
theorem ackSetting_shape (m : Send) (p : Nat × Nat) :
    ∃ d : Int, (ackSetting m p).streams = m.streams.map (addWin d) ∧ (ackSetting m p).connWin = m.connWin ∧
      (ackSetting m p).hdrOpen = m.hdrOpen ∧ (ackSetting m p).lastId = m.lastId ∧
      (ackSetting m p).pending = m.pending := by
  unfold ackSetting
  split
  · exact ⟨0, (map_addWin_zero _).symm, rfl, rfl, rfl, rfl⟩
  · split
    · exact ⟨0, (map_addWin_zero _).symm, rfl, rfl, rfl, rfl⟩
    · split
      · exact ⟨_, rfl, rfl, rfl, rfl, rfl⟩
      · exact ⟨0, (map_addWin_zero _).symm, rfl, rfl, rfl, rfl⟩

theorem map_addWin_addWin (a b : Int) (l : List MStream) :
    (l.map (addWin a)).map (addWin b) = l.map (addWin (a + b)) := by
  rw [List.map_map]
  apply List.map_congr_left
  intro x _
  simp only [Function.comp, addWin]
  congr 1
  omega

theorem foldl_ack_shape (vals : List (Nat × Nat)) : ∀ m : Send,
    ∃ d : Int, (vals.foldl ackSetting m).streams = m.streams.map (addWin d) ∧
      (vals.foldl ackSetting m).connWin = m.connWin ∧ (vals.foldl ackSetting m).hdrOpen = m.hdrOpen ∧
      (vals.foldl ackSetting m).lastId = m.lastId ∧ (vals.foldl ackSetting m).pending = m.pending := by
  induction vals with
  | nil => intro m; exact ⟨0, (map_addWin_zero _).symm, rfl, rfl, rfl, rfl⟩
  | cons p ps ih =>
    intro m
    simp only [List.foldl_cons]
    obtain ⟨d1, a1, a2, a3, a4, a5⟩ := ackSetting_shape m p
    obtain ⟨d2, b1, b2, b3, b4, b5⟩ := ih (ackSetting m p)
    refine ⟨d1 + d2, ?_, b2.trans a2, b3.trans a3, b4.trans a4, b5.trans a5⟩
    rw [b1, a1, map_addWin_addWin]

theorem debit_ackSetting (m : Send) (p : Nat × Nat) (id len : Nat) (es : Bool) :
    debit (ackSetting m p) id len es = ackSetting (debit m id len es) p := by
  unfold ackSetting
  split
  · unfold debit; simp only; split <;> rfl
  · split
    · unfold debit; simp only; split <;> rfl
    · split
      · -- SETTINGS_INITIAL_WINDOW_SIZE: every window moves by the same delta
        rename_i h1 h2 h3
        have hmap : ∀ l : List MStream, (l.map fun s => { s with win := s.win + ((p.2 : Int) - (m.initWin : Int)) }) =
            l.map (addWin ((p.2 : Int) - (m.initWin : Int))) := fun l => rfl
        unfold debit
        simp only [hmap, findM_map_addWin]
        cases hf : findM m.streams id with
        | none => rfl
        | some s =>
          simp only [Option.map_some, hmap]
          have : ({ addWin ((p.2 : Int) - (m.initWin : Int)) s with
                     win := (addWin ((p.2 : Int) - (m.initWin : Int)) s).win - (len : Int), cEnd := es } : MStream) =
              addWin ((p.2 : Int) - (m.initWin : Int)) { s with win := s.win - (len : Int), cEnd := es } := by
            simp only [addWin]
            congr 1
            omega
          rw [this, setM_map_addWin]
      · rfl

theorem debit_foldl (vals : List (Nat × Nat)) (id len : Nat) (es : Bool) : ∀ m : Send,
    debit (vals.foldl ackSetting m) id len es = vals.foldl ackSetting (debit m id len es) := by
  induction vals with
  | nil => intro m; rfl
  | cons p ps ih => intro m; simp only [List.foldl_cons]; rw [ih, debit_ackSetting]

theorem peer_settings_invalid (m : Send) {vals : List (Nat × Nat)} (h : vals.any invalidSetting = true) :
    m.peer (.settings vals) = m := by
  rw [peer_settings_eq, if_pos h]

theorem peer_settings_valid (m : Send) {vals : List (Nat × Nat)} (h : vals.any invalidSetting = false) :
    m.peer (.settings vals) = { m with pending := m.pending ++ [vals] } := by
  rw [peer_settings_eq, if_neg (by rw [h]; decide)]

/-- the grace values the tolerant monitor notes at an acknowledgement -/
def graceOf (t : Tolerant) (m0 : Send) (s : MStream) : Nat × Int × Nat :=
  match t.grace.find? (·.1 == s.id) with
  | some (_, w, mf) => (s.id, (if w > s.win then w else s.win), (if mf > m0.maxFrame then mf else m0.maxFrame))
  | none => (s.id, s.win, m0.maxFrame)

theorem graceOf_ge (t : Tolerant) (m0 : Send) (s : MStream) :
    (graceOf t m0 s).1 = s.id ∧ s.win ≤ (graceOf t m0 s).2.1 ∧ m0.maxFrame ≤ (graceOf t m0 s).2.2 := by
  unfold graceOf
  split
  · refine ⟨rfl, ?_, ?_⟩
    · simp only; split <;> omega
    · simp only; split <;> omega
  · exact ⟨rfl, Int.le_refl _, Nat.le_refl _⟩

theorem find_grace_map (g : MStream → Nat × Int × Nat) (hg : ∀ s, (g s).1 = s.id)
    (l : List MStream) (id : Nat) (s : MStream) (h : findM l id = some s) :
    (l.map g).find? (·.1 == id) = some (g s) := by
  rw [findM_map g _ id (fun s => by rw [hg]; exact Bool.eq_iff_iff.mpr (by simp)) l, h]; rfl

/-- `a` is at most `b` as a stream limit (`none` = unlimited) -/
def concLe (a b : Option Nat) : Prop := ∀ k, b = some k → ∃ j, a = some j ∧ j ≤ k

/-- the tolerant monitor's step over "SETTINGS, acknowledgement": the books are those of the strict
monitor; for every stream it knows, grace values are noted, at least the window and frame size in force
and at least what was noted before; the noted stream limit likewise -/
theorem tolerant_settings_ack (t : Tolerant) (hp : t.m.pending = []) (hh : t.m.hdrOpen = none)
    {vals : List (Nat × Nat)} (hv : vals.any invalidSetting = false) :
    ∃ t2, Tolerant.run t [Event.p (.settings vals), Event.c .settingsAck] = .ok t2 ∧
      t2.m = vals.foldl ackSetting t.m ∧
      (∀ id s, findM t.m.streams id = some s → ∃ w mf, t2.grace.find? (·.1 == id) = some (id, w, mf) ∧
        s.win ≤ w ∧ t.m.maxFrame ≤ mf ∧ ∀ e, t.grace.find? (·.1 == id) = some e → e.2.1 ≤ w ∧ e.2.2 ≤ mf) ∧
      ∃ conc, t2.graceConc = some conc ∧ concLe t.m.maxConc conc ∧
        ∀ old, t.graceConc = some old → concLe old conc := by
  have hm : ({ t.m with pending := [], hdrOpen := none } : Send) = t.m := by
    cases htm : t.m; rw [htm] at hp hh; simp_all
  have hm2 : ({ t.m with pending := [] } : Send) = t.m := by
    cases htm : t.m; rw [htm] at hp; simp_all
  simp only [Tolerant.run, peer_settings_valid _ hv, hp, List.nil_append]
  simp only [Tolerant.client, Send.client, hh, hm]
  refine ⟨_, rfl, rfl, fun id s hs => ?_, _, rfl, ?_, ?_⟩
  · have hid := (findM_mem hs).2
    obtain ⟨g1, g2, g3⟩ := graceOf_ge t t.m s
    refine ⟨_, _, (find_grace_map (graceOf t t.m) (fun x => (graceOf_ge t t.m x).1) _ _ _ hs).trans
      (by rw [← hid, ← g1]), g2, g3, fun e he => ?_⟩
    obtain ⟨i, w0, mf0⟩ := e
    unfold graceOf; rw [hid, he]
    constructor <;> simp only <;> split <;> omega
  · intro k hk
    rcases hg : t.graceConc with _ | _ | a <;> rw [hg] at hk
    · exact ⟨k, hk, Nat.le_refl k⟩
    · cases hk
    · cases hj : t.m.maxConc with
      | none => rw [hj] at hk; cases hk
      | some b => rw [hj] at hk; cases hk; exact ⟨b, rfl, by split <;> omega⟩
  · intro old hg k hk
    rw [hg] at hk
    cases old with
    | none => cases hk
    | some a =>
      cases hj : t.m.maxConc with
      | none => rw [hj] at hk; cases hk
      | some b => rw [hj] at hk; cases hk; exact ⟨a, rfl, by split <;> omega⟩

/-- the grace values for stream `id` are at least what was in force in `m` -/
def Graced (m : Send) (id : Nat) (t : Tolerant) : Prop :=
  ∀ s, findM m.streams id = some s →
    ∃ w mf, t.grace.find? (·.1 == id) = some (id, w, mf) ∧ s.win ≤ w ∧ m.maxFrame ≤ mf

/-- a DATA frame that the strict monitor accepted *before* an acknowledgement is accepted by the
tolerant monitor *after* it, with the same books as if it had come first -/
theorem tolerant_data_after_ack {t2 : Tolerant} {m m1 : Send} {id len : Nat} {es : Bool}
    (hm : m.client (.data id len es) = .ok m1) (vals : List (Nat × Nat))
    (hA : t2.m = vals.foldl ackSetting m)
    (hG : Graced m id t2) :
    ∃ t3, Tolerant.client t2 (.data id len es) = .ok t3 ∧ t3.m = vals.foldl ackSetting m1 := by
  obtain ⟨hh, hlen, s, hf, hfl, h3, h4, hm1⟩ := client_data_ok hm
  obtain ⟨d, a1, a2, a3, a4, a5⟩ := foldl_ack_shape vals m
  have hfa : findM t2.m.streams id = some (addWin d s) := by
    rw [hA, a1, findM_map_addWin, hf]; rfl
  have hgoal : vals.foldl ackSetting m1 = debit t2.m id len es := by
    rw [hm1, ← debit_foldl, hA]
  rw [hgoal]
  cases hs : t2.m.client (.data id len es) with
  | ok x =>
    obtain ⟨_, _, _, _, _, _, _, hx⟩ := client_data_ok hs
    refine ⟨{ t2 with m := x, grace := t2.grace.filter (·.1 != id) }, ?_, hx⟩
    simp only [Tolerant.client, hs]
  | error r =>
    obtain ⟨w, mf, hg, hw, hmf⟩ := hG s hf
    have hcw : t2.m.connWin = m.connWin := by rw [hA, a2]
    obtain ⟨hce, hcr⟩ := Bool.or_eq_false_iff.mp hfl
    -- the lenient reading accepts
    have hl := client_data (es := es) (len := len)
      (m := { t2.m with maxFrame := if mf > t2.m.maxFrame then mf else t2.m.maxFrame,
                        streams := setM t2.m.streams { addWin d s with win := if w > (addWin d s).win then w else (addWin d s).win } })
      (by rw [hA, a3]; exact hh) (findM_setM hfa rfl) hce hcr (by simp only; split <;> omega) (by simp only; omega)
      (by simp only [addWin]; by_cases hx : w > s.win + d <;> simp only [hx, if_true, if_false] <;> omega)
    refine ⟨{ t2 with m := debit t2.m id len es, grace := t2.grace.filter (·.1 != id) }, ?_, rfl⟩
    simp only [Tolerant.client, hs, hg, hfa, hl, debit]

/-- what the refined induction carries: the monitor owes nothing; as long as the connection is
up, the simulation invariant holds for the tolerant monitor's books -/
structure RaceInv (st : State) (t : Tolerant) : Prop where
  pending : t.m.pending = []
  hdr : t.m.hdrOpen = none
  sinv : st.closed = false → SInv (view st) t.m

theorem RaceInv.of_sinv {st : State} {t : Tolerant} {m : Send} (hm : t.m = m) (hi : SInv (view st) m) :
    RaceInv st t :=
  ⟨hm ▸ hi.pending, hm ▸ hi.hdr, fun _ => hm ▸ hi⟩

theorem race_strict {st : State} {t : Tolerant} {m' : Send} {evs : List Event}
    (h : Send.run t.m evs = .ok m') (hi : SInv (view st) m') :
    ∃ t', Tolerant.run t evs = .ok t' ∧ RaceInv st t' := by
  obtain ⟨t', h3, h4⟩ := tolerant_run_of_strict _ h
  exact ⟨t', h3, .of_sinv h4 hi⟩

theorem race_plain {st : State} {t : Tolerant} (h : RaceInv st t) (op : Op) (hok : op.ok) :
    ∃ t', Tolerant.run t (rstep st (.plain op)).2 = .ok t' ∧ RaceInv (rstep st (.plain op)).1 t' := by
  simp only [rstep]
  cases hc : st.closed with
  | true =>
    have : step st op = (st, []) := step_closed hc op
    simp only [this, if_true]
    exact ⟨t, rfl, h⟩
  | false =>
    simp only [Bool.false_eq_true, if_false]
    obtain ⟨m', h1, h2⟩ := sim_step (h.sinv hc) op hok
    rw [stepEvents_open hc] at h1
    exact race_strict h1 h2

theorem tolerant_run_append (a b : List Event) (t x : Tolerant) (h : Tolerant.run t a = .ok x) :
    Tolerant.run t (a ++ b) = Tolerant.run x b :=
  run_append_ok (run := Tolerant.run)
    (step := fun t e => match e with | .c f => t.client f | .p f => .ok { t with m := Send.peer t.m f })
    (fun _ => rfl) (fun t e _ => by
      cases e with
      | c f => show _ = (t.client f).bind _; rw [Tolerant.run]; cases t.client f <;> rfl
      | p f => rfl) b h

theorem openCount_map_addWin (d : Int) (l : List MStream) : openCount (l.map (addWin d)) = openCount l := by
  induction l with
  | nil => rfl
  | cons a l ih =>
    unfold openCount at *
    simp only [List.map_cons, List.filter]
    have : (addWin d a).closed = a.closed := rfl
    rw [this]
    split <;> simp [ih]

theorem conc_check_false (old : Option Nat) (n : Nat) :
    (∀ k, old = some k → n + 1 ≤ k) →
    (match old with | some k => decide (n + 1 > k) | none => false) = false := by
  intro h
  cases old with
  | none => rfl
  | some k => have := h k rfl; simp; omega

/-- one more stream fits under the stream limit in force, or under the one the tolerant monitor has
noted since the last new stream -/
def ConcRoom (t : Tolerant) : Prop :=
  (∀ k, t.m.maxConc = some k → openCount t.m.streams + 1 ≤ k) ∨
  ∃ old, t.graceConc = some old ∧ ∀ k, old = some k → openCount t.m.streams + 1 ≤ k

/-- a new stream's header block under the tolerant reading: accepted when the stream limit in
force at admission time (the most generous one since the last new stream) had room -/
theorem theaders_run {t : Tolerant} (hdr : t.m.hdrOpen = none) (id len : Nat) (es prio : Bool) (mf : Nat)
    (hmf : t.m.maxFrame = mf) (h16 : 16384 ≤ mf) (hlen : 0 < len) (hid : id > t.m.lastId) (hodd : id % 2 = 1)
    (hconc : ConcRoom t) :
    ∃ t', Tolerant.run t ((headerFrames (len + 1) id len es mf prio true true).map Event.c) = .ok t' ∧
      t'.m = openedMon t.m id es := by
  obtain ⟨chunk, hc2, hc3, hc, he⟩ := headerFrames_first id len es prio mf h16 hlen
  rw [he, List.map_cons]
  -- the state after the first frame, whichever way it was accepted
  have hfirst : ∃ t1, Tolerant.client t (Frame.headers id (chunk + (if prio = true then 5 else 0)) es (decide (len - chunk = 0))) =
      .ok t1 ∧ t1.m = firstHdrMon t.m id es (decide (len - chunk = 0)) := by
    rcases client_headers_new hdr es (decide (len - chunk = 0)) (hmf ▸ hc) hid hodd with hs | ⟨k, hk, hfull, hs⟩
    · simp only [Tolerant.client, hs]; exact ⟨_, rfl, rfl⟩
    · rcases hconc with hroom | ⟨old, hgc, hold⟩
      · exact absurd (hroom k hk) (Nat.not_le.mpr hfull)
      · -- refused under the limit in force: judged again under the one noted
        rcases client_headers_new (m := { t.m with maxConc := old }) hdr es (decide (len - chunk = 0)) (hmf ▸ hc) hid hodd
          with hl | ⟨k', hk', hfull', _⟩
        · simp only [Tolerant.client, hs, hgc, hl]; exact ⟨_, rfl, rfl⟩
        · exact absurd (hold k' hk') (Nat.not_le.mpr hfull')
  obtain ⟨t1, ht1, hm1⟩ := hfirst
  simp only [Tolerant.run, ht1]
  have hrun := block_rest id es mf prio (by omega) len (len - chunk) (by omega) (next := firstHdrMon t.m id es)
    (fun _ => rfl) (fun _ => hmf) (fun _ => rfl)
  rw [← hm1] at hrun
  exact tolerant_run_of_strict _ hrun

end Req.Lemmas.C06
