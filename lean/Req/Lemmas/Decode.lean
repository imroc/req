import Req.Client.Decode
/-! C15 (charset auto-decoding): the scripted source by cases (`Src.read_cases`); lawful decoders (`Decoder.lawful_of_feed_append`: one criterion for
every construction; byte-wise automata, UTF-16 against its whole-input loop); the invariant `DecInv` of a `transform.Reader` over a lawful decoder — what was
fed, what was handed out — with `decReads_eof`; `reads_lift`: a reader embedded in a larger state reads as it does on its
own, so the sniffing reader is, from its first data chunk on, the plain or the decoding reader (`autoReads_sniff_none`,
`autoReads_sniff_some`), and before that chunk it changes nothing (`fresh_run`); and `autoReads_fresh`: read to EOF it delivers the body or its whole-body decode by the decoder
picked for that chunk. -/
namespace Req.Decode
open Req.Proto

theorem Src.read_cases (s : Src) (L : Nat) :
    (s.segs = [] ∧ s.read L = ⟨s, [], some s.term⟩) ∨
    (s.segs ≠ [] ∧ L = 0 ∧ s.read L = ⟨s, [], none⟩) ∨
    ∃ seg rest, s.segs = seg :: rest ∧ 0 < L ∧
      ((seg.length ≤ L ∧ s.read L = ⟨{ s with segs := rest }, seg,
          if rest = [] ∧ s.lastWithTerm = true then some s.term else none⟩) ∨
       (L < seg.length ∧ s.read L = ⟨{ s with segs := seg.drop L :: rest }, seg.take L, none⟩)) := by
  unfold Src.read
  cases hs : s.segs with
  | nil => exact Or.inl ⟨rfl, rfl⟩
  | cons seg rest =>
    refine Or.inr ?_
    by_cases hL : L = 0
    · exact Or.inl ⟨List.cons_ne_nil _ _, hL, by simp [hL]⟩
    · refine Or.inr ⟨seg, rest, rfl, Nat.pos_of_ne_zero hL, ?_⟩
      by_cases hd : seg.length ≤ L
      · exact Or.inl ⟨hd, by simp [hL, List.drop_eq_nil_of_le hd, List.take_of_length_le hd]⟩
      · exact Or.inr ⟨Nat.lt_of_not_le hd, by simp [hL, hd]⟩

/-- what is left in the scripted source: bytes + segments (an empty segment is a read of 0 bytes) -/
def srcMu (s : Src) : Nat := s.body.length + s.segs.length

/-- What the readers above it use of a scripted `Read`: it hands out a prefix of the body, of at most `L` bytes; a
terminal condition is the source's own (never a crash) and comes when nothing is left; a read with a non-empty buffer
that reports none makes the source smaller. -/
theorem Src.read_spec (s : Src) (L : Nat) :
    (s.read L).out ++ (s.read L).st.body = s.body ∧ (s.read L).out.length ≤ L ∧ (s.read L).st.term = s.term ∧
    (∀ t, (s.read L).term = some t → t = s.term ∧ (s.read L).st.body = []) ∧
    srcMu (s.read L).st ≤ srcMu s ∧ ((s.read L).term = none → 0 < L → srcMu (s.read L).st < srcMu s) := by
  rcases Src.read_cases s L with ⟨hs, e⟩ | ⟨_, h0, e⟩ | ⟨seg, rest, hs, _, ⟨hl, e⟩ | ⟨hl, e⟩⟩ <;> rw [e]
  · exact ⟨by simp, Nat.zero_le _, rfl, fun t h => ⟨(Option.some.inj h).symm, by simp [Src.body, hs]⟩, Nat.le_refl _,
      (fun h => nomatch h)⟩
  · exact ⟨rfl, Nat.zero_le _, rfl, (fun t h => nomatch h), Nat.le_refl _, fun _ h => by omega⟩
  · have hmu : srcMu { s with segs := rest } < srcMu s := by simp [srcMu, Src.body, hs]; omega
    refine ⟨by simp [Src.body, hs], hl, rfl, fun t h => ?_, Nat.le_of_lt hmu, fun _ _ => hmu⟩
    by_cases hr : rest = [] ∧ s.lastWithTerm = true
    · rw [if_pos hr] at h; exact ⟨(Option.some.inj h).symm, by simp [Src.body, hr.1]⟩
    · rw [if_neg hr] at h; cases h
  · have hmu : srcMu { s with segs := seg.drop L :: rest } < srcMu s := by simp [srcMu, Src.body, hs]; omega
    exact ⟨by simp only [Src.body, hs, List.flatten_cons, ← List.append_assoc, List.take_append_drop],
      by simp [List.length_take, Nat.min_le_left], rfl, (fun t h => nomatch h), Nat.le_of_lt hmu, fun _ _ => hmu⟩

theorem Src.read_body (s : Src) (L : Nat) : (s.read L).out ++ (s.read L).st.body = s.body := (Src.read_spec s L).1

theorem Src.read_len (s : Src) (L : Nat) : (s.read L).out.length ≤ L := (Src.read_spec s L).2.1

theorem Src.read_term_body (s : Src) (L : Nat) (h : (s.read L).term ≠ none) : (s.read L).st.body = [] :=
  match ht : (s.read L).term with
  | none => absurd ht h
  | some t => ((Src.read_spec s L).2.2.2.1 t ht).2

namespace Decoder
variable {σ : Type}

theorem feedAll_snoc (d : Decoder σ) (s : σ) (cs : List Bytes) (c : Bytes) :
    d.feedAll s (cs ++ [c]) =
      ((d.feed (d.feedAll s cs).1 c).1, (d.feedAll s cs).2 ++ (d.feed (d.feedAll s cs).1 c).2) := by
  induction cs generalizing s with
  | nil => simp [feedAll]
  | cons x xs ih => simp [feedAll, ih, List.append_assoc]

/-- A decoder whose `feed` treats two chunks as their concatenation is lawful as soon as ONE chunk followed by the
flush gives the whole-input decode: every chunking is then the one-chunk run. -/
theorem lawful_of_feed_append (d : Decoder σ)
    (happ : ∀ s a b, d.feed s (a ++ b) =
      ((d.feed (d.feed s a).1 b).1, (d.feed s a).2 ++ (d.feed (d.feed s a).1 b).2))
    (hnil : d.feed d.init [] = (d.init, []))
    (hone : ∀ w, (d.feed d.init w).2 ++ d.flush (d.feed d.init w).1 = d.decodeAll w) : d.Lawful := by
  have key : ∀ (cs : List Bytes) (s : σ) (c : Bytes), d.feedAll s (c :: cs) = d.feed s (c ++ cs.flatten) := by
    intro cs
    induction cs with
    | nil => intro s c; simp [feedAll]
    | cons c' cs ih => intro s c; rw [feedAll, ih, List.flatten_cons, happ s c]
  intro chunks
  cases chunks with
  | nil => simpa [feedAll, hnil] using hone []
  | cons c cs => rw [key]; exact hone _

end Decoder

theorem runB_append {σ : Type} (stepB : σ → UInt8 → σ × Bytes) (s : σ) (a b : Bytes) :
    runB stepB s (a ++ b) =
      ((runB stepB (runB stepB s a).1 b).1, (runB stepB s a).2 ++ (runB stepB (runB stepB s a).1 b).2) := by
  induction a generalizing s with
  | nil => simp [runB]
  | cons x xs ih => simp [runB, ih, List.append_assoc]

theorem ofBytewise_lawful {σ : Type} (init : σ) (stepB : σ → UInt8 → σ × Bytes) (flush : σ → Bytes)
    (spec : Bytes → Bytes)
    (h : ∀ input, (runB stepB init input).2 ++ flush (runB stepB init input).1 = spec input) :
    (ofBytewise init stepB flush spec).Lawful :=
  Decoder.lawful_of_feed_append _ (runB_append stepB) rfl h

theorem charmap_run (cp : UInt8 → Nat) (s : Bytes) (input : Bytes) :
    runB (fun st b => (st, utf8 (cp b))) s input = (s, input.flatMap fun b => utf8 (cp b)) := by
  induction input generalizing s with
  | nil => simp [runB]
  | cons x xs ih => simp [runB, ih]

/-- What may be pending between two bytes. -/
def U16Valid (be : Bool) : Bytes → Prop
  | [] => True
  | [_] => True
  | [a, b] => isSurr (unit16 be a b) = true
  | [a, b, _] => isSurr (unit16 be a b) = true
  | _ => False

/-- The whole-input loop resumed with `pend` in front of `input`. -/
def u16Spec (be : Bool) (pend input : Bytes) : Bytes :=
  match pend with
  | [] => utf16Go be none input
  | [a] => utf16Go be none (a :: input)
  | [a, b] => utf16Go be (some (unit16 be a b)) input
  | [a, b, c] => utf16Go be (some (unit16 be a b)) (c :: input)
  | _ => []

theorem utf16_step (be : Bool) (pend : Bytes) (x : UInt8) (xs : Bytes) (hv : U16Valid be pend) :
    U16Valid be (utf16Step be pend x).1 ∧
    (utf16Step be pend x).2 ++ u16Spec be (utf16Step be pend x).1 xs = u16Spec be pend (x :: xs) := by
  match pend, hv with
  | [], _ => simp [utf16Step, U16Valid, u16Spec]
  | [a], _ => by_cases hs : isSurr (unit16 be a x) = true <;> simp [utf16Step, U16Valid, u16Spec, utf16Go, hs]
  | [a, b], hv => simpa [utf16Step, U16Valid, u16Spec] using hv
  | [a, b, c], hv =>
    by_cases hl : isLow (unit16 be c x) = true
    · simp [utf16Step, U16Valid, u16Spec, utf16Go, hl]
    · by_cases hs : isSurr (unit16 be c x) = true <;> simp [utf16Step, U16Valid, u16Spec, utf16Go, hl, hs]
  | _ :: _ :: _ :: _ :: _, hv => exact absurd hv (by simp [U16Valid])

theorem utf16_run (be : Bool) (input pend : Bytes) (hv : U16Valid be pend) :
    (runB (utf16Step be) pend input).2 ++ utf16Flush (runB (utf16Step be) pend input).1 =
      u16Spec be pend input := by
  induction input generalizing pend with
  | nil =>
    match pend, hv with
    | [], _ | [a], _ | [a, b], _ | [a, b, c], _ => simp [runB, utf16Flush, u16Spec, utf16Go]
    | _ :: _ :: _ :: _ :: _, hv => exact absurd hv (by simp [U16Valid])
  | cons x xs ih =>
    obtain ⟨hv', hs⟩ := utf16_step be pend x xs hv
    rw [← hs, ← ih _ hv']
    simp [runB, List.append_assoc]

/-- the result of a `Read` seen from a state that contains the reader's -/
def RR.map {α β : Type} (f : α → β) (r : RR α) : RR β := ⟨f r.st, r.out, r.term⟩

theorem reads_cons_lift {α α' β : Type} (rd : α → β → RR α) (rd' : α' → β → RR α') (ι : α' → α) (a : α) (a' : α') (b : β)
    (bs : List β) (h1 : rd a b = (rd' a' b).map ι)
    (hr : ∀ a'', reads rd (ι a'') bs = (reads rd' a'' bs).map ι) :
    reads rd a (b :: bs) = (reads rd' a' (b :: bs)).map ι := by
  unfold reads
  rw [h1]
  show (match (rd' a' b).term with | some t => _ | none => _) = _
  cases (rd' a' b).term with
  | some t => rfl
  | none => simp only [RR.map, hr]

/-- A reader embedded in a larger state reads there as it does on its own. -/
theorem reads_lift {α α' β : Type} (rd : α → β → RR α) (rd' : α' → β → RR α') (ι : α' → α)
    (h : ∀ a' b, rd (ι a') b = (rd' a' b).map ι) :
    ∀ (bufs : List β) (a' : α'), reads rd (ι a') bufs = (reads rd' a' bufs).map ι := by
  intro bufs
  induction bufs with
  | nil => intro a'; rfl
  | cons b bs ih => exact fun a' => reads_cons_lift rd rd' ι _ a' b bs (h a' b) ih

theorem reads_cons_some {α β : Type} (rd : α → β → RR α) (a : α) (b : β) (bs : List β) (t : Term)
    (h : (rd a b).term = some t) : reads rd a (b :: bs) = ⟨(rd a b).st, (rd a b).out, some t⟩ := by
  simp [reads, h]

theorem reads_cons_none {α β : Type} (rd : α → β → RR α) (a : α) (b : β) (bs : List β)
    (h : (rd a b).term = none) :
    reads rd a (b :: bs) =
      ⟨(reads rd (rd a b).st bs).st, (rd a b).out ++ (reads rd (rd a b).st bs).out,
       (reads rd (rd a b).st bs).term⟩ := by
  simp [reads, h]

theorem reads_cons_eof {α β : Type} (rd : α → β → RR α) (a : α) (b : β) (bs : List β)
    (h : (reads rd a (b :: bs)).term = some .eof) :
    ((rd a b).term = some .eof ∧ (reads rd a (b :: bs)).out = (rd a b).out) ∨
    ((rd a b).term = none ∧ (reads rd (rd a b).st bs).term = some .eof ∧
      (reads rd a (b :: bs)).out = (rd a b).out ++ (reads rd (rd a b).st bs).out) := by
  cases ht : (rd a b).term with
  | some t =>
    rw [reads_cons_some rd a b bs t ht] at h ⊢
    exact Or.inl ⟨h, rfl⟩
  | none =>
    rw [reads_cons_none rd a b bs ht] at h ⊢
    exact Or.inr ⟨rfl, h, rfl⟩

variable {σ : Type}

/-- a `transform.Reader` together with its source, as one reader -/
abbrev decRead (p : DecR σ × Src) (L : Nat) : RR (DecR σ × Src) := p.1.read p.2 L

/-- Invariant of a `DecR` over `src`: `chunks` have been fed, `del` has been handed out,
`total` is everything the decoder was/will be given. -/
structure DecInv (d : Decoder σ) (total del : Bytes) (r : DecR σ) (src : Src) (chunks : List Bytes) : Prop where
  hd : r.d = d
  hst : r.st = (d.feedAll d.init chunks).1
  hout : del ++ r.out = (d.feedAll d.init chunks).2 ++ (if r.fin = some .eof then d.flush r.st else [])
  hbody : chunks.flatten ++ (r.pre ++ src.body) = total
  hfin : r.fin ≠ none → r.pre = [] ∧ src.body = []

theorem DecR.pull_pre (r : DecR σ) (src : Src) (h : r.pre ≠ []) :
    r.pull src =
      ({ r with st := (r.d.feed r.st (r.pre.take transformBufSize)).1,
                pre := r.pre.drop transformBufSize,
                out := (r.d.feed r.st (r.pre.take transformBufSize)).2 }, src) := by
  unfold DecR.pull; rw [if_pos h]

theorem DecR.pull_none (r : DecR σ) (src : Src) (h : r.pre = [])
    (ht : (src.read transformBufSize).term = none) :
    r.pull src =
      ({ r with st := (r.d.feed r.st (src.read transformBufSize).out).1,
                out := (r.d.feed r.st (src.read transformBufSize).out).2 },
       (src.read transformBufSize).st) := by
  unfold DecR.pull; rw [if_neg (by simp [h])]; simp only [ht]

/-- `hf` is needed: a source `Read` without terminal condition leaves `fin` as it is. -/
theorem DecR.pull_src (r : DecR σ) (src : Src) (h : r.pre = []) (hf : r.fin = none) :
    r.pull src =
      ({ r with st := (r.d.feed r.st (src.read transformBufSize).out).1,
                out := (r.d.feed r.st (src.read transformBufSize).out).2 ++
                  (if (src.read transformBufSize).term = some .eof
                    then r.d.flush (r.d.feed r.st (src.read transformBufSize).out).1 else []),
                fin := (src.read transformBufSize).term },
       (src.read transformBufSize).st) := by
  obtain ⟨_, _, _, _, _⟩ := r
  cases hf
  unfold DecR.pull
  rw [if_neg (by simpa using h)]
  cases ht : (src.read transformBufSize).term with
  | none => simp [ht]
  | some t => cases t <;> simp [ht]

theorem DecInv.pull {d : Decoder σ} {total del : Bytes} {r : DecR σ} {src : Src} {chunks : List Bytes}
    (inv : DecInv d total del r src chunks) (hout : r.out = []) (hfin : r.fin = none) :
    ∃ chunks', DecInv d total del (r.pull src).1 (r.pull src).2 chunks' := by
  have hd := inv.hd
  have hdel : del = (d.feedAll d.init chunks).2 := by
    have := inv.hout
    simpa [hout, hfin] using this
  by_cases hpre : r.pre ≠ []
  · refine ⟨chunks ++ [r.pre.take transformBufSize], ?_⟩
    rw [DecR.pull_pre r src hpre]
    constructor
    · exact hd
    · simp [Decoder.feedAll_snoc, hd, inv.hst]
    · simp [Decoder.feedAll_snoc, hd, inv.hst, hfin, hdel]
    · have := inv.hbody
      simp only [List.flatten_append, List.flatten_cons, List.flatten_nil, List.append_nil,
        List.append_assoc]
      rw [← List.append_assoc (List.take _ _), List.take_append_drop]
      exact this
    · intro h; simp [hfin] at h
  · have hpre' : r.pre = [] := by simpa using hpre
    refine ⟨chunks ++ [(src.read transformBufSize).out], ?_⟩
    rw [DecR.pull_src r src hpre' hfin]
    constructor
    · exact hd
    · simp [Decoder.feedAll_snoc, hd, inv.hst]
    · simp [Decoder.feedAll_snoc, hd, inv.hst, hdel, List.append_assoc]
    · have := inv.hbody
      rw [hpre', List.nil_append, ← Src.read_body src transformBufSize] at this
      simpa [List.append_assoc, hpre'] using this
    · exact fun h => ⟨hpre', Src.read_term_body _ _ h⟩

theorem DecInv.deliver {d : Decoder σ} {total del : Bytes} {r : DecR σ} {src : Src} {chunks : List Bytes}
    (inv : DecInv d total del r src chunks) (hl : d.Lawful) (L : Nat) :
    ((r.deliver src L).term = some .eof → del ++ (r.deliver src L).out = d.decodeAll total) ∧
    ((r.deliver src L).term = none →
      DecInv d total (del ++ (r.deliver src L).out) (r.deliver src L).st.1 (r.deliver src L).st.2 chunks) := by
  unfold DecR.deliver
  simp only []
  constructor
  · intro ht
    by_cases hdrop : r.out.drop L = []
    · simp only [hdrop, if_true] at ht
      have htake : r.out.take L = r.out := by
        have := List.take_append_drop L r.out
        rw [hdrop, List.append_nil] at this
        exact this
      have h1 := inv.hout
      obtain ⟨hp, hb⟩ := inv.hfin (by simp [ht])
      have h2 := inv.hbody
      rw [hp, hb] at h2
      simp only [List.append_nil] at h2
      rw [htake, h1, ht, if_pos rfl, inv.hst, hl chunks, h2]
    · simp [hdrop] at ht
  · intro _
    constructor
    · exact inv.hd
    · exact inv.hst
    · simp only [List.append_assoc, List.take_append_drop]; exact inv.hout
    · exact inv.hbody
    · exact inv.hfin

theorem DecR.read_cases (r : DecR σ) (src : Src) (L : Nat) :
    r.read src L = r.deliver src L ∧ (r.out ≠ [] ∨ r.fin ≠ none) ∨
    r.read src L = (r.pull src).1.deliver (r.pull src).2 L ∧ r.out = [] ∧ r.fin = none := by
  unfold DecR.read
  by_cases h : r.out ≠ [] ∨ r.fin ≠ none
  · exact Or.inl ⟨if_pos h, h⟩
  · exact Or.inr ⟨if_neg h, by simpa [not_or] using h⟩

theorem DecInv.read {d : Decoder σ} {total del : Bytes} {r : DecR σ} {src : Src} {chunks : List Bytes}
    (inv : DecInv d total del r src chunks) (hl : d.Lawful) (L : Nat) :
    ((r.read src L).term = some .eof → del ++ (r.read src L).out = d.decodeAll total) ∧
    ((r.read src L).term = none →
      ∃ chunks', DecInv d total (del ++ (r.read src L).out) (r.read src L).st.1 (r.read src L).st.2 chunks') := by
  rcases DecR.read_cases r src L with ⟨e, _⟩ | ⟨e, ho, hf⟩ <;> rw [e]
  · exact ⟨(inv.deliver hl L).1, fun h => ⟨chunks, (inv.deliver hl L).2 h⟩⟩
  · obtain ⟨chunks', inv'⟩ := inv.pull ho hf
    exact ⟨(inv'.deliver hl L).1, fun h => ⟨chunks', (inv'.deliver hl L).2 h⟩⟩

theorem DecR.read_len (r : DecR σ) (src : Src) (L : Nat) : (r.read src L).out.length ≤ L := by
  unfold DecR.read DecR.deliver
  split <;> simp [List.length_take, Nat.min_le_left]

theorem decReads_eof {d : Decoder σ} (hl : d.Lawful) {total : Bytes} :
    ∀ (bufs : List Nat) (del : Bytes) (p : DecR σ × Src) (chunks : List Bytes),
      DecInv d total del p.1 p.2 chunks →
      (reads decRead p bufs).term = some .eof →
      del ++ (reads decRead p bufs).out = d.decodeAll total := by
  intro bufs
  induction bufs with
  | nil => intro del p chunks _ h; simp [reads] at h
  | cons L Ls ih =>
    intro del p chunks inv h
    have step := inv.read hl L
    rcases reads_cons_eof _ _ _ _ h with ⟨ht, ho⟩ | ⟨ht, h', ho⟩ <;> rw [ho]
    · exact step.1 ht
    · obtain ⟨chunks', inv'⟩ := step.2 ht
      rw [← List.append_assoc]
      exact ih _ _ chunks' inv' h'

theorem rawReads_eof : ∀ (bufs : List Nat) (src : Src),
    (reads Src.read src bufs).term = some .eof → (reads Src.read src bufs).out = src.body := by
  intro bufs
  induction bufs with
  | nil => intro src h; simp [reads] at h
  | cons L Ls ih =>
    intro src h
    have hb := Src.read_body src L
    rcases reads_cons_eof _ _ _ _ h with ⟨ht, ho⟩ | ⟨ht, h', ho⟩ <;> rw [ho]
    · rwa [Src.read_term_body src L (by simp [ht]), List.append_nil] at hb
    · rwa [ih _ h']

theorem rawReads_eof_of {ρ : Type} {r : RR ρ} {src : Src} {bufs : List Nat}
    (h : r.out = (reads Src.read src bufs).out ∧ r.term = (reads Src.read src bufs).term)
    (heof : r.term = some .eof) : r.out = src.body := by
  rw [h.1]
  exact rawReads_eof bufs src (h.2 ▸ heof)

/-- `enc.NewDecoder().Reader(io.MultiReader(bytes.NewReader(pre), src))` before its first `Read` -/
def DecR.start (d : Decoder σ) (pre : Bytes) : DecR σ := ⟨d, d.init, pre, [], none⟩

theorem DecInv.start (d : Decoder σ) (pre : Bytes) (src : Src) :
    DecInv d (pre ++ src.body) [] (DecR.start d pre) src [] :=
  { hd := rfl, hst := rfl, hout := rfl, hbody := rfl, hfin := fun hc => absurd rfl hc }

/-- the sniffing reader after a first data chunk in which nothing was found -/
def State.raw (s : Src) : State σ := ⟨s, true, none, none⟩

/-- the sniffing reader after a first data chunk that selected a decoder -/
def State.dec (p : DecR σ × Src) : State σ := ⟨p.2, true, some p.1, none⟩

theorem bodyReads_raw (find : Bytes → Option (Decoder σ)) (bufs : List Nat) (s : Src) :
    reads (Body.read find) (.raw s) bufs = (reads Src.read s bufs).map .raw :=
  reads_lift _ _ Body.raw (fun _ _ => rfl) bufs s

theorem bodyReads_hdr (find : Bytes → Option (Decoder σ)) (bufs : List Nat) (p : DecR σ × Src) :
    reads (Body.read find) (.hdr p.1 p.2) bufs = (reads decRead p bufs).map fun p => .hdr p.1 p.2 :=
  reads_lift _ _ (fun p => Body.hdr p.1 p.2) (fun _ _ => rfl) bufs p

theorem bodyReads_auto (find : Bytes → Option (Decoder σ)) (bufs : List Nat) (a : State σ) :
    reads (Body.read find) (.auto a) bufs = (reads (autoRead find) a bufs).map .auto :=
  reads_lift _ _ Body.auto (fun _ _ => rfl) bufs a

theorem noSniff_true {r : RR Src} (h : noSniff r = true) (ht : r.term = none) : r.out = [] := by
  unfold noSniff at h
  simp [ht] at h
  exact h

/-! The sniffing reader before detection.  A read without data leaves it as it is; its first data chunk turns it — for
the whole rest of the run, this read included, on the same buffers — into the plain reader of the source, or into the
decoding reader over (sniffed chunk, rest of the source). -/

theorem autoRead_skip (find : Bytes → Option (Decoder σ)) (src : Src) (L : Nat) (h : noSniff (src.read L) = true) :
    autoRead find (State.init src) L = (src.read L).map State.init := by
  simp [autoRead, readWith, peekRead, State.init, RR.map, h]

theorem autoReads_sniff_none (find : Bytes → Option (Decoder σ)) (src : Src) (L : Nat) (Ls : List Nat)
    (h : noSniff (src.read L) = false) (hf : find (src.read L).out = none) :
    reads (autoRead find) (State.init src) (L :: Ls) = (reads Src.read src (L :: Ls)).map State.raw :=
  reads_cons_lift _ _ State.raw _ src L Ls
    (by simp [autoRead, readWith, peekRead, State.init, State.raw, RR.map, h, hf]) (reads_lift _ _ State.raw (fun _ _ => rfl) Ls)

theorem autoReads_sniff_some (find : Bytes → Option (Decoder σ)) (src : Src) (L : Nat) (Ls : List Nat) (d : Decoder σ)
    (h : noSniff (src.read L) = false) (hf : find (src.read L).out = some d) :
    reads (autoRead find) (State.init src) (L :: Ls) =
      (reads decRead (DecR.start d (src.read L).out, (src.read L).st) (L :: Ls)).map State.dec :=
  reads_cons_lift _ decRead State.dec _ (DecR.start d (src.read L).out, (src.read L).st) L Ls
    (by simp [autoRead, readWith, peekRead, State.init, State.dec, DecR.start, RR.map, h, hf]) (reads_lift _ _ State.dec (fun _ _ => rfl) Ls)

/-- The run of a fresh sniffing reader up to its first data chunk: either no chunk is ever shown to the sniffer and the
reader, still fresh, has read as the source reads; or the reads before that chunk returned nothing, and the run is the
run of a fresh reader whose FIRST read is the sniffing one, over a source with the same body. -/
theorem fresh_run (find : Bytes → Option (Decoder σ)) : ∀ (bufs : List Nat) (src : Src),
    (sniffed src bufs = none ∧
      reads (autoRead find) (State.init src) bufs = (reads Src.read src bufs).map State.init) ∨
    ∃ src' L Ls, src'.body = src.body ∧ noSniff (src'.read L) = false ∧
      sniffed src bufs = some (src'.read L).out ∧
      reads (autoRead find) (State.init src) bufs = reads (autoRead find) (State.init src') (L :: Ls) := by
  intro bufs
  induction bufs with
  | nil => intro src; exact Or.inl ⟨rfl, rfl⟩
  | cons L Ls ih =>
    intro src
    cases hns : noSniff (src.read L) with
    | false => exact Or.inr ⟨src, L, Ls, rfl, hns, by simp [sniffed, hns], rfl⟩
    | true =>
      have hpk := autoRead_skip find src L hns
      cases ht : (src.read L).term with
      | some t =>
        refine Or.inl ⟨by simp [sniffed, hns, ht], ?_⟩
        rw [reads_cons_some _ _ _ _ t (by rw [hpk]; exact ht), reads_cons_some _ _ _ _ t ht, hpk]; rfl
      | none =>
        have ho := noSniff_true hns ht
        have hb := Src.read_body src L
        rw [ho, List.nil_append] at hb
        rw [show sniffed src (L :: Ls) = sniffed (src.read L).st Ls by simp [sniffed, hns, ht],
          reads_cons_none _ _ _ _ (by rw [hpk]; exact ht), reads_cons_none _ _ _ _ ht, hpk]
        rcases ih (src.read L).st with ⟨h1, h2⟩ | ⟨src', L', Ls', h1, h2, h3, h4⟩
        · exact Or.inl ⟨h1, by simp [RR.map, h2, ho]⟩
        · exact Or.inr ⟨src', L', Ls', h1.trans hb, h2, h3, by simp [RR.map, h4, ho]⟩

theorem sniffed_is_prefix (src : Src) (bufs : List Nat) (c : Bytes) (h : sniffed src bufs = some c) :
    ∃ rest, src.body = c ++ rest := by
  -- `sniffed` does not depend on the sniffer: `fresh_run` for the one that never finds anything
  rcases fresh_run (σ := Unit) (fun _ => none) bufs src with ⟨hs, _⟩ | ⟨src', L, Ls, hb, _, hs, _⟩ <;> rw [hs] at h
  · cases h
  · cases h; exact ⟨_, by rw [← hb, Src.read_body]⟩

/-- A fresh sniffing reader read to EOF delivers the body, or the whole-body decode by the decoder the sniffer
picked for the first data chunk. -/
theorem autoReads_fresh (find : Bytes → Option (Decoder σ))
    (hlaw : ∀ c d, find c = some d → d.Lawful) (bufs : List Nat) (src : Src)
    (h : (reads (autoRead find) (State.init src) bufs).term = some .eof) :
    (reads (autoRead find) (State.init src) bufs).out =
      match (sniffed src bufs).bind find with
      | none => src.body
      | some d => d.decodeAll src.body := by
  rcases fresh_run find bufs src with ⟨hs, e⟩ | ⟨src', L, Ls, hb, hns, hs, e⟩ <;> rw [e] at h ⊢ <;> rw [hs]
  · exact rawReads_eof bufs src h
  · rw [Option.bind_some, ← hb]
    cases hf : find (src'.read L).out with
    | none =>
      rw [autoReads_sniff_none find src' L Ls hns hf] at h ⊢
      exact rawReads_eof _ src' h
    | some d =>
      rw [autoReads_sniff_some find src' L Ls d hns hf] at h ⊢
      rw [← Src.read_body src' L]
      exact decReads_eof (hlaw _ _ hf) (L :: Ls) [] (_, _) [] (DecInv.start d _ _) h

/-- `peekRead` never fills `peek`: the `peekDrain` path of `Read` is never entered. -/
theorem fresh_peek_none (find : Bytes → Option (Decoder σ)) (bufs : List Nat) (src : Src) :
    (reads (autoRead find) (State.init src) bufs).st.peek = none := by
  rcases fresh_run find bufs src with ⟨_, e⟩ | ⟨src', L, Ls, _, hns, _, e⟩ <;> rw [e]
  · rfl
  · cases hf : find (src'.read L).out with
    | none => rw [autoReads_sniff_none find src' L Ls hns hf]; rfl
    | some d => rw [autoReads_sniff_some find src' L Ls d hns hf]; rfl

theorem peekDrain_len (a : State σ) (pk : Bytes) (L : Nat) : (peekDrain a pk L).out.length ≤ L := by
  unfold peekDrain
  split
  · simp [List.length_take, Nat.min_le_left]
  · split
    · rename_i h; simp [h]
    · split
      · simp
      · rename_i r _
        have := DecR.read_len r a.src (L - pk.length)
        simp only [List.length_append]
        omega

end Req.Decode
