import Req.Base.Ascii
/-! ASCII case mapping as linear arithmetic over `toNat`: a byte fact about `toLower` / `toUpper` is
read off `toLower_toNat` / `toUpper_toNat` by `omega`. -/
namespace Req.Ascii

theorem isUpper_iff (x : UInt8) : isUpper x = true ↔ 65 ≤ x.toNat ∧ x.toNat ≤ 90 := by
  simp [isUpper, UInt8.le_iff_toNat_le]

theorem isLower_iff (x : UInt8) : isLower x = true ↔ 97 ≤ x.toNat ∧ x.toNat ≤ 122 := by
  simp [isLower, UInt8.le_iff_toNat_le]

theorem isDigit_iff (c : UInt8) : isDigit c = true ↔ 48 ≤ c.toNat ∧ c.toNat ≤ 57 := by
  simp [isDigit, UInt8.le_iff_toNat_le]

theorem toLower_toNat (x : UInt8) :
    (65 ≤ x.toNat ∧ x.toNat ≤ 90 ∧ (toLower x).toNat = x.toNat + 32) ∨
    (¬(65 ≤ x.toNat ∧ x.toNat ≤ 90) ∧ (toLower x).toNat = x.toNat) := by
  unfold toLower
  by_cases h : isUpper x = true
  · have h' := (isUpper_iff x).mp h
    rw [if_pos h, UInt8.toNat_add]
    exact .inl ⟨h'.1, h'.2, Nat.mod_eq_of_lt (by show _ + 32 < 256; omega)⟩
  · rw [if_neg h]; exact .inr ⟨mt (isUpper_iff x).mpr h, rfl⟩

theorem toUpper_toNat (x : UInt8) :
    (97 ≤ x.toNat ∧ x.toNat ≤ 122 ∧ (toUpper x).toNat = x.toNat - 32) ∨
    (¬(97 ≤ x.toNat ∧ x.toNat ≤ 122) ∧ (toUpper x).toNat = x.toNat) := by
  unfold toUpper
  by_cases h : isLower x = true
  · have h' := (isLower_iff x).mp h
    rw [if_pos h,
      UInt8.toNat_sub_of_le _ _ (UInt8.le_iff_toNat_le.mpr (Nat.le_trans (by decide) h'.1))]
    exact .inl ⟨h'.1, h'.2, rfl⟩
  · rw [if_neg h]; exact .inr ⟨mt (isLower_iff x).mpr h, rfl⟩

theorem toLower_idem (x : UInt8) : toLower (toLower x) = toLower x := by
  have := toLower_toNat x; have := toLower_toNat (toLower x)
  rw [← UInt8.toNat_inj]; omega

theorem toUpper_idem (x : UInt8) : toUpper (toUpper x) = toUpper x := by
  have := toUpper_toNat x; have := toUpper_toNat (toUpper x)
  rw [← UInt8.toNat_inj]; omega

theorem toLower_toUpper (x : UInt8) : toLower (toUpper x) = toLower x := by
  rcases toUpper_toNat x with h | ⟨-, h⟩
  · have := toLower_toNat x; have := toLower_toNat (toUpper x)
    rw [← UInt8.toNat_inj]; omega
  · rw [UInt8.toNat_inj.mp h]

theorem equalFold_lower {k c : Req.Proto.Bytes} (h : equalFold k c = true) (hc : lower c = c) :
    lower k = c := by
  unfold equalFold at h
  have : lower k = lower c := by simpa using h
  rw [this, hc]

theorem not_alpha_iff (c : UInt8) :
    isAlpha c = false ↔ ¬(65 ≤ c.toNat ∧ c.toNat ≤ 90) ∧ ¬(97 ≤ c.toNat ∧ c.toNat ≤ 122) := by
  rw [isAlpha, Bool.or_eq_false_iff, ← Bool.not_eq_true, ← Bool.not_eq_true, isLower_iff,
    isUpper_iff, and_comm]

theorem toLower_eq_fixed {c : UInt8} (hc : isAlpha c = false) (x : UInt8) :
    (toLower x = c) = (x = c) := by
  have := toLower_toNat x; have := (not_alpha_iff c).mp hc
  rw [← UInt8.toNat_inj, ← UInt8.toNat_inj, eq_iff_iff]; omega

theorem toUpper_eq_fixed {c : UInt8} (hc : isAlpha c = false) (x : UInt8) :
    (toUpper x = c) = (x = c) := by
  have := toUpper_toNat x; have := (not_alpha_iff c).mp hc
  rw [← UInt8.toNat_inj, ← UInt8.toNat_inj, eq_iff_iff]; omega

theorem isDigit_toLower (x : UInt8) : isDigit (toLower x) = isDigit x := by
  have := toLower_toNat x
  rw [Bool.eq_iff_iff, isDigit_iff, isDigit_iff]; omega

theorem toLower_of_isDigit (x : UInt8) (h : isDigit x = true) : toLower x = x := by
  have := toLower_toNat x
  rw [isDigit_iff] at h; rw [← UInt8.toNat_inj]; omega

theorem toLower_ascii_iff (c : UInt8) : toLower c < 128 ↔ c < 128 := by
  have := toLower_toNat c
  simp only [UInt8.lt_iff_toNat_lt, UInt8.toNat_ofNat]
  omega

/-- `toLower a = b` byte for byte: the same byte (not an upper-case letter), or `a` is the upper-case
letter 32 below `b`. -/
theorem toLower_eq_iff (a b : UInt8) :
    toLower a = b ↔ (isUpper a = false ∧ a = b) ∨ (isUpper a = true ∧ a + 32 = b) := by
  unfold toLower
  cases h : isUpper a <;> simp

theorem toLower_noUpper (c : UInt8) (h : isUpper c = false) : toLower c = c := by
  simp [toLower, h]

theorem lower_canonGo (up : Bool) (s : Req.Proto.Bytes) : lower (canonGo up s) = lower s := by
  induction s generalizing up with
  | nil => rfl
  | cons c cs ih =>
    have := ih (c == 45)
    simp only [lower] at this
    cases up
    · simp [canonGo, lower, toLower_idem, this]
    · simp [canonGo, lower, toLower_toUpper, this]

theorem lower_canonical (k : Req.Proto.Bytes) : lower (canonicalMIMEHeaderKey k) = lower k := by
  unfold canonicalMIMEHeaderKey
  split
  · exact lower_canonGo true k
  · rfl

theorem lower_noUpper (s : Req.Proto.Bytes) (h : s.any isUpper = false) : lower s = s := by
  induction s with
  | nil => rfl
  | cons c cs ih =>
    simp only [List.any_cons, Bool.or_eq_false_iff] at h
    simp only [lower, List.map_cons, toLower_noUpper c h.1]
    congr 1
    exact ih h.2

theorem canonical_eq_lower (k target : Req.Proto.Bytes) (hk : k.any isUpper = false)
    (h : canonicalMIMEHeaderKey k = target) : k = lower target := by
  have := lower_canonical k
  rw [h, lower_noUpper k hk] at this
  exact this.symm

end Req.Ascii
