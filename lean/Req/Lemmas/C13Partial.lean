import Req.Client.DumpPartial
import Req.Lemmas.C13Sites
/-! HTTP/2 uploads cut short (`Req.Client.DumpPartial`): the frames written before the abort are the first `k`
frames of the complete upload's cut. -/
namespace Req.Client.DumpPartial
open Req.Proto Req.Client.DumpSites

theorem sendRead_spec (maxFrame : Nat) : ∀ (fuel : Nat) (remain : Bytes) (gs : List Nat) (k : Nat),
    sendRead maxFrame fuel remain gs k =
      if (cutRead maxFrame fuel remain gs).1.length ≤ k
      then ((cutRead maxFrame fuel remain gs).1,
            some ((cutRead maxFrame fuel remain gs).2, k - (cutRead maxFrame fuel remain gs).1.length))
      else ((cutRead maxFrame fuel remain gs).1.take k, none) := by
  intro fuel
  induction fuel with
  | zero => intro remain gs k; simp [sendRead, cutRead]
  | succ fuel ih =>
    intro remain gs k
    unfold sendRead cutRead
    by_cases he : remain.isEmpty
    · simp [he]
    · simp only [he, Bool.false_eq_true, ↓reduceIte]
      cases k with
      | zero => simp
      | succ k =>
        simp only [ih]
        simp only [List.length_cons, Nat.add_le_add_iff_right]
        split
        · simp
        · simp

theorem sendBody_frames (maxFrame : Nat) (pieces : List Bytes) : ∀ (gs : List Nat) (k : Nat),
    (sendBody maxFrame pieces gs k).frames = (dataFrames maxFrame pieces gs).take k ∧
    ((sendBody maxFrame pieces gs k).aborted = false →
      (sendBody maxFrame pieces gs k).frames = dataFrames maxFrame pieces gs) := by
  induction pieces with
  | nil => intro gs k; simp [sendBody, dataFrames]
  | cons p ps ih =>
    intro gs k
    unfold sendBody dataFrames
    rw [sendRead_spec]
    generalize cutRead maxFrame p.length p gs = c
    obtain ⟨fs, gs'⟩ := c
    by_cases hl : fs.length ≤ k
    · simp only [hl, ↓reduceIte]
      obtain ⟨i1, i2⟩ := ih gs' (k - fs.length)
      constructor
      · rw [i1, List.take_append, List.take_of_length_le hl]
      · intro ha
        rw [i2 ha]
    · simp only [hl, ↓reduceIte]
      constructor
      · rw [List.take_append]
        have : k - fs.length = 0 := by omega
        simp [this]
      · intro ha; simp at ha

theorem flatten_take_prefix (l : List Bytes) (k : Nat) : (l.take k).flatten <+: l.flatten := by
  refine ⟨(l.drop k).flatten, ?_⟩
  rw [← List.flatten_append, List.take_append_drop]

end Req.Client.DumpPartial
