import Req.Lemmas.C06Ops
/-!
C06 — helper lemmas for the wake-up discipline: a `RoundTrip` parked in
`awaitOpenSlotForStreamLocked` (`State.pendingOpen`) sleeps on `cc.cond`; every operation that
can make its condition true ends in a `cc.cond.Broadcast()` (`Conn.wakes`, or a stream left
`cc.streams`, or the connection was torn down). Stated as an invariant: in no reachable state is
there a parked request that could go ahead if it only looked (`enabled`).

Handlers that do not broadcast leave the "control part" of the state alone (`Same`): the stream
limit, GOAWAY, doNotReuse, the next stream id, the parked request itself. Here: the relation and
what the moves every handler is made of do to it; the walk is in `Req.Lemmas.C06WakeW`.
-/
namespace Req.Lemmas.C06
open Req.H2 Req.H2.Flow Req.H2.Conn

/-- a RoundTrip is parked and would open its stream if it were woken now: the connection is
usable, a slot is free -/
def enabled (st : State) : Bool :=
  st.pendingOpen.isSome && !st.closed && canTake { st with pendingOpen := none } &&
  decide (liveCount st.streams < st.maxConcurrent)

/-- whoever is woken either goes ahead, gives up, or finds its condition still false -/
theorem resume_not_enabled (st : State) : enabled (resumePending st).1 = false :=
  resumePending_cases (fun x => enabled x.1 = false) st
    (fun hp => by simp [enabled, hp])
    (fun _ _ _ hl => by simp [enabled, hl])
    (fun _ _ => by simp [enabled])
    (fun _ _ _ _ _ => by simp [enabled, doOpen])

/-- the part of the state the parked request's condition depends on, streams aside -/
structure Same (st st1 : State) : Prop where
  pendingOpen : st1.pendingOpen = st.pendingOpen
  goAway : st1.goAway = st.goAway
  maxConcurrent : st1.maxConcurrent = st.maxConcurrent
  nextStreamID : st1.nextStreamID = st.nextStreamID
  cfg : st1.cfg = st.cfg
  doNotReuse : st1.doNotReuse = st.doNotReuse ∨ st1.doNotReuse = true

theorem same_refl (st : State) : Same st st := ⟨rfl, rfl, rfl, rfl, rfl, Or.inl rfl⟩

theorem same_trans {a b c : State} (h1 : Same a b) (h2 : Same b c) : Same a c :=
  ⟨h2.pendingOpen.trans h1.pendingOpen, h2.goAway.trans h1.goAway, h2.maxConcurrent.trans h1.maxConcurrent,
   h2.nextStreamID.trans h1.nextStreamID, h2.cfg.trans h1.cfg,
   by rcases h2.doNotReuse with h | h
      · rcases h1.doNotReuse with h' | h'
        · exact Or.inl (h.trans h')
        · exact Or.inr (h.trans h')
      · exact Or.inr h⟩

theorem enabled_mono {st st1 : State} (hp : st1.pendingOpen = st.pendingOpen) (hg : st1.goAway = st.goAway)
    (hn : st1.nextStreamID = st.nextStreamID) (hcfg : st1.cfg = st.cfg)
    (hd : st1.doNotReuse = st.doNotReuse ∨ st1.doNotReuse = true) (hc : st.closed = false)
    (hm : st1.maxConcurrent ≤ st.maxConcurrent) (hl : liveCount st.streams ≤ liveCount st1.streams)
    (he : enabled st1 = true) : enabled st = true := by
  unfold enabled canTake at *
  simp only [Bool.and_eq_true, Bool.not_eq_true', decide_eq_true_eq, Bool.or_eq_true, Option.isSome_none,
    Bool.false_eq_true, if_false] at he ⊢
  obtain ⟨⟨⟨h1, h2⟩, ⟨⟨⟨⟨h3, h4⟩, h5⟩, h6⟩, h7⟩⟩, h8⟩ := he
  rw [hp] at h1
  rw [hg] at h3
  rw [hn] at h7
  rw [hcfg] at h6
  have hd : st.doNotReuse = false := by
    rcases hd with h | h
    · rw [← h]; exact h5
    · rw [h] at h5; cases h5
  refine ⟨⟨⟨h1, hc⟩, ⟨⟨⟨⟨h3, hc⟩, hd⟩, ?_⟩, h7⟩⟩, by omega⟩
  rcases h6 with h6 | h6
  · exact Or.inl h6
  · exact Or.inr (by omega)

theorem same_enabled {st st1 : State} (hs : Same st st1) (hc : st.closed = false)
    (hl : liveCount st.streams ≤ liveCount st1.streams) (he : enabled st1 = true) : enabled st = true :=
  enabled_mono hs.pendingOpen hs.goAway hs.nextStreamID hs.cfg hs.doNotReuse hc
    (Nat.le_of_eq hs.maxConcurrent) hl he

theorem same_forget (st : State) (s : Stream) : Same st (forget st s) := by
  unfold forget; simp only; split <;> exact ⟨rfl, rfl, rfl, rfl, rfl, Or.inl rfl⟩

theorem same_terminate (st : State) (s : Stream) (b : Bool) : Same st (terminate st s b).1 := by
  unfold terminate; exact same_forget st s

theorem same_settle (st : State) (s : Stream) : Same st (settle st s) := by
  unfold settle; split
  · exact same_forget st s
  · exact ⟨rfl, rfl, rfl, rfl, rfl, Or.inl rfl⟩

/-- `st1` is `st` with fields outside the control part changed: each clause holds by `rfl` unless
said otherwise -/
theorem same_of_eq {st st1 : State} (pendingOpen : st1.pendingOpen = st.pendingOpen := by rfl)
    (goAway : st1.goAway = st.goAway := by rfl) (maxConcurrent : st1.maxConcurrent = st.maxConcurrent := by rfl)
    (nextStreamID : st1.nextStreamID = st.nextStreamID := by rfl) (cfg : st1.cfg = st.cfg := by rfl)
    (doNotReuse : st1.doNotReuse = st.doNotReuse := by rfl) : Same st st1 :=
  ⟨pendingOpen, goAway, maxConcurrent, nextStreamID, cfg, Or.inl doNotReuse⟩

/-- what `processSettings` leaves alone -/
structure SameS (st st1 : State) : Prop where
  pendingOpen : st1.pendingOpen = st.pendingOpen
  goAway : st1.goAway = st.goAway
  nextStreamID : st1.nextStreamID = st.nextStreamID
  cfg : st1.cfg = st.cfg
  doNotReuse : st1.doNotReuse = st.doNotReuse
  closed : st1.closed = st.closed
  live : liveCount st1.streams = liveCount st.streams

theorem sames_applySettings {vals : List (Nat × Nat)} {st st' : State} {sm sm' : Bool}
    (h : applySettings st sm vals = some (st', sm')) : SameS st st' := by
  obtain ⟨mf, mc, iw, o, rfl⟩ := applySettings_touch h
  exact ⟨rfl, rfl, rfl, rfl, rfl, rfl, liveCount_map_out _ o⟩

theorem sames_peerSettings (st : State) (vals : List (Nat × Nat)) :
    (peerSettings st vals).1.closed = true ∨ SameS st (peerSettings st vals).1 := by
  refine peerSettings_cases (fun x => x.1.closed = true ∨ SameS st x.1) st vals (fun _ => Or.inl rfl)
    (fun _ _ h _ => Or.inr (sames_applySettings h)) (fun _ _ h _ => Or.inr ?_)
  have a := sames_applySettings h
  exact ⟨a.pendingOpen, a.goAway, a.nextStreamID, a.cfg, a.doNotReuse, a.closed, a.live⟩

theorem goAway_forget (st : State) (s : Stream) : (forget st s).goAway = st.goAway := (same_forget st s).goAway

end Req.Lemmas.C06
