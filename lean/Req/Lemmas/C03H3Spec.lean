import Req.Lemmas.C03H3
/-!
C03 — HTTP/3: a byte-level specification of what the body reader may hand out and where it may
end cleanly — with NO assumption on the bytes of the stream:

* `dataFrom bs` / `dataIn rem bs` — the DATA bytes a byte string holds from a frame boundary (from
  inside a DATA frame) on: payloads of complete DATA frames, the received part of a cut one;
* `Whole tr bs` — the bytes are a whole number of frames in an order the reader accepts;
* `readR_spec`, `bodyReadR_spec` — one read of the repaired reader refines them, for every
  segmentation of the stream and every read size; `bodyReadR_refines` says so in the terms of C02's
  reader interface `RefinesR`, whose theorems about whole runs `Props/C03H3.lean` instantiates;
* `not_whole_cut` — a well-formed frame sequence cut strictly inside a frame is not `Whole`.
-/
namespace Req.C03
open Req.Proto Req.C02

/-- **The bytes are a whole number of frames in an order the body reader accepts**: DATA and
skipped frames, then optionally one (trailers) HEADERS frame, then only skipped frames; every
frame complete. `tr` = the trailers were already seen. -/
inductive Whole : Bool → Bytes → Prop
  | nil (tr : Bool) : Whole tr []
  | data (bs rest : Bytes) (l : Nat) : decHdr bs = some (0, l, rest) → l ≤ rest.length →
      Whole false (rest.drop l) → Whole false bs
  | trailer (bs rest : Bytes) (l : Nat) : decHdr bs = some (1, l, rest) → l ≤ rest.length →
      Whole true (rest.drop l) → Whole false bs
  | skip (tr : Bool) (bs rest : Bytes) (t l : Nat) : decHdr bs = some (t, l, rest) → skipT t = true →
      l ≤ rest.length → Whole tr (rest.drop l) → Whole tr bs

/-- The DATA bytes a byte string holds from a frame boundary on: payloads of complete DATA frames,
the received part of a cut one; reading stops at the first frame that is neither DATA nor skipped. -/
def dataFrom (bs : Bytes) : Bytes :=
  match _h : decHdr bs with
  | none => []
  | some (t, l, rest) =>
    if t = 0 then rest.take l ++ (if l ≤ rest.length then dataFrom (rest.drop l) else [])
    else if skipT t ∧ l ≤ rest.length then dataFrom (rest.drop l)
    else []
termination_by bs.length
decreasing_by
  all_goals
    have := decHdr_length bs t l rest _h
    simp only [List.length_drop]
    omega

/-- From inside a DATA frame with `rem` payload bytes still to come. -/
def dataIn (rem : Nat) (bs : Bytes) : Bytes :=
  bs.take rem ++ (if rem ≤ bs.length then dataFrom (bs.drop rem) else [])

theorem dataIn_zero (bs : Bytes) : dataIn 0 bs = dataFrom bs := by simp [dataIn]

example : dataFrom [0, 2, 97, 98, 33, 1, 7, 0, 3, 99] = [97, 98, 99] := by
  rw [dataFrom]; simp [decHdr, decVarint, decVarintTail]
  rw [dataFrom]; simp [decHdr, decVarint, decVarintTail, skipT]
  rw [dataFrom]; simp [decHdr, decVarint, decVarintTail]

theorem dataFrom_none (bs : Bytes) (h : decHdr bs = none) : dataFrom bs = [] := by
  rw [dataFrom]; split <;> simp_all

theorem dataFrom_some {bs rest : Bytes} {t l : Nat} (h : decHdr bs = some (t, l, rest)) :
    dataFrom bs = if t = 0 then rest.take l ++ (if l ≤ rest.length then dataFrom (rest.drop l) else [])
      else if skipT t ∧ l ≤ rest.length then dataFrom (rest.drop l) else [] := by
  rw [dataFrom]; split
  · simp_all
  · rename_i h'; cases h.symm.trans h'; rfl

theorem dataFrom_data (bs rest : Bytes) (l : Nat) (h : decHdr bs = some (0, l, rest)) :
    dataFrom bs = dataIn l rest := by
  rw [dataFrom_some h]; rfl

theorem dataFrom_skip (bs rest : Bytes) (t l : Nat) (h : decHdr bs = some (t, l, rest)) (hs : skipT t = true)
    (hl : l ≤ rest.length) : dataFrom bs = dataFrom (rest.drop l) := by
  rw [dataFrom_some h, if_neg ((skipT_iff t).mp hs).1, if_pos ⟨hs, hl⟩]

theorem dataFrom_stop (bs rest : Bytes) (t l : Nat) (h : decHdr bs = some (t, l, rest)) (h0 : t ≠ 0)
    (hs : ¬(skipT t = true ∧ l ≤ rest.length)) : dataFrom bs = [] := by
  rw [dataFrom_some h, if_neg h0, if_neg hs]

/-- What the result of `ParseNext` at a frame boundary says about the bytes that were there. -/
structure ScanSpec (tr : Bool) (bs : Bytes) (fin : NetEnd) (r : Except H3Err H3Frame) (n' : Net) : Prop where
  fin : n'.fin = fin
  eof : r = .error .eof → Whole tr bs
  data : ∀ l, r = .ok (.data l) → dataFrom bs = dataIn l n'.segs.flatten ∧
    (l ≤ n'.segs.flatten.length → Whole false (n'.segs.flatten.drop l) → tr = false → Whole false bs)
  headers : ∀ l, r = .ok (.headers l) →
    (l ≤ n'.segs.flatten.length → Whole true (n'.segs.flatten.drop l) → tr = false → Whole false bs)
  nodata : (∀ l, r ≠ .ok (.data l)) → dataFrom bs = []

theorem ScanSpec.stop {tr : Bool} {bs : Bytes} {fin : NetEnd} {e : H3Err} {n' : Net} (hf : n'.fin = fin)
    (hne : e ≠ .eof) (hd : dataFrom bs = []) : ScanSpec tr bs fin (.error e) n' :=
  ⟨hf, fun h => by cases h; exact absurd rfl hne, (fun _ h => by cases h), (fun _ h => by cases h), fun _ => hd⟩

theorem parseNextR_scan (tr : Bool) (fuel : Nat) (n : Net) (hf : n.size < fuel) :
    ScanSpec tr n.segs.flatten n.fin (parseNextR fuel n).1 (parseNextR fuel n).2 := by
  induction fuel generalizing n with
  | zero => omega
  | succ fuel ih =>
    have hnf := parseNextR_nf fuel n
    generalize parseNextR (fuel + 1) n = r at hnf
    cases hnf with
    | empty n' hemp hfin =>
      exact ⟨hfin, fun _ => by rw [hemp]; exact Whole.nil tr, (fun _ h => by cases h), (fun _ h => by cases h),
        fun _ => dataFrom_none _ (by rw [hemp]; rfl)⟩
    | cutHdr e n' _ hd hne hfin => exact .stop hfin hne (dataFrom_none _ hd)
    | data l n2 hd hfin =>
      exact ⟨hfin, (fun h => by cases h), fun l' h => by
          cases h; exact ⟨dataFrom_data _ _ _ hd, fun hl hw _ => Whole.data _ _ l hd hl hw⟩,
        (fun _ h => by cases h), fun h => absurd rfl (h l)⟩
    | headers l n2 hd hfin =>
      exact ⟨hfin, (fun h => by cases h), (fun _ h => by cases h), fun l' h => by
          cases h; exact fun hl hw _ => Whole.trailer _ _ l hd hl hw,
        fun _ => dataFrom_stop _ _ _ _ hd (by simp) (by simp [skipT])⟩
    | settings t l rest n' hd h0 _ hs hfin =>
      exact ⟨hfin, (fun h => by cases h), (fun _ h => by cases h), (fun _ h => by cases h),
        fun _ => dataFrom_stop _ _ _ _ hd h0 (by simp [hs])⟩
    | refused t l rest e n' hd h0 _ hs hne hfin => exact .stop hfin hne (dataFrom_stop _ _ _ _ hd h0 (by simp [hs]))
    | cutSkip t l rest e n' hd hs hl hne hfin =>
      exact .stop hfin hne (dataFrom_stop _ _ _ _ hd ((skipT_iff t).mp hs).1 (by simp; omega))
    | skip t l rest n3 hd hs hl hfl3 hfin3 =>
      have hlen := decHdr_length _ _ _ _ hd
      have := ih n3 (by rw [Net.size_eq] at hf ⊢; rw [hfl3, List.length_drop]; omega)
      rw [hfl3, hfin3] at this
      have hsk := dataFrom_skip _ _ _ _ hd hs hl
      exact ⟨this.fin, fun h => Whole.skip tr _ rest t l hd hs hl (this.eof h),
        fun l' h => ⟨hsk.trans (this.data l' h).1, fun h1 h2 h3 => by
          subst h3; exact Whole.skip false _ rest t l hd hs hl ((this.data l' h).2 h1 h2 rfl)⟩,
        fun l' h h1 h2 h3 => by
          subst h3; exact Whole.skip false _ rest t l hd hs hl (this.headers l' h h1 h2 rfl),
        fun h => hsk.trans (this.nodata h)⟩

/-- The DATA bytes the reader can still hand out. -/
def expS (s : H3Stream) : Bytes :=
  if s.parsedTrailer then [] else dataIn s.remInFrame s.net.segs.flatten

/-- From the reader's position on, the stream is a whole number of frames. -/
def WholeS (s : H3Stream) : Prop :=
  s.remInFrame ≤ s.net.segs.flatten.length ∧ Whole s.parsedTrailer (s.net.segs.flatten.drop s.remInFrame)

-- once the trailers were read the reader is at a frame boundary
def InvS (s : H3Stream) : Prop := s.parsedTrailer = true → s.remInFrame = 0

theorem dataIn_split (r : Nat) (d bs' : Bytes) (h : d.length ≤ r) :
    dataIn r (d ++ bs') = d ++ dataIn (r - d.length) bs' := by
  unfold dataIn
  have h1 : (d ++ bs').take r = d ++ bs'.take (r - d.length) := by
    rw [List.take_append]; simp [List.take_of_length_le h]
  have h2 : (d ++ bs').drop r = bs'.drop (r - d.length) := by
    rw [List.drop_append]; simp [List.drop_of_length_le h]
  have h3 : (r ≤ (d ++ bs').length) ↔ (r - d.length ≤ bs'.length) := by
    simp only [List.length_append]; omega
  rw [h1, h2, List.append_assoc]
  congr 2
  by_cases hc : r ≤ (d ++ bs').length
  · rw [if_pos hc, if_pos (h3.mp hc)]
  · rw [if_neg hc, if_neg (fun x => hc (h3.mpr x))]

theorem readInFrame_spec (s : H3Stream) (k : Nat) (hpt : s.parsedTrailer = false) :
    let r := readInFrame s k
    r.2.parsedTrailer = false ∧
    (r.1.2 = none → expS s = r.1.1 ++ expS r.2 ∧ (WholeS r.2 → WholeS s)) ∧
    (r.1.2 ≠ none → r.1.1 = []) ∧
    (r.1.2 = some .eof → WholeS s ∧ expS s = []) := by
  unfold readInFrame
  rcases hr : s.net.read (min k s.remInFrame) with ⟨od, n'⟩
  cases od with
  | some d =>
    obtain ⟨hfl, hle, _, _⟩ := Net.read_some _ _ _ _ hr
    have hd : d.length ≤ s.remInFrame := by omega
    simp only []
    refine ⟨hpt, fun _ => ⟨?_, ?_⟩, by simp, by simp⟩
    · simp only [expS, hpt, Bool.false_eq_true, if_false]
      rw [hfl]; exact dataIn_split _ _ _ hd
    · intro ⟨h1, h2⟩
      simp only [] at h1 h2
      refine ⟨by rw [hfl, List.length_append]; omega, ?_⟩
      rw [hpt] at h2 ⊢
      rw [hfl, List.drop_append]
      simpa [List.drop_of_length_le hd] using h2
  | none =>
    obtain ⟨hemp, _, _⟩ := Net.read_none _ _ _ hr
    simp only []
    refine ⟨hpt, by simp, by simp, ?_⟩
    intro h
    simp only [Option.some.injEq] at h
    have hr0 : s.remInFrame = 0 := by
      by_cases hc : s.net.fin == .eof ∧ s.remInFrame > 0
      · simp [hc] at h
      · cases hf : s.net.fin with
        | reset => simp [hf, NetEnd.toH3, netend_beq] at h
        | eof => simp only [hf, netend_beq, true_and] at hc; omega
    refine ⟨⟨by rw [hr0]; omega, ?_⟩, ?_⟩
    · rw [hemp, hr0]; simp; exact Whole.nil _
    · simp only [expS, hpt, Bool.false_eq_true, if_false, hr0, hemp, dataIn_zero]
      exact dataFrom_none _ (by simp [decHdr, decVarint])

theorem Parsed.scan {s : H3Stream} {r : Except H3Err H3Frame} {n' : Net} (h : Parsed s r n') :
    ScanSpec s.parsedTrailer s.net.segs.flatten s.net.fin r n' := by
  have := parseNextR_scan s.parsedTrailer (s.net.size + 1) s.net (by omega); rwa [h.eq] at this

/-- **One `stream.Read` against the specification**: data handed out is the next part of the DATA
bytes the stream holds; an error comes without data; a clean `io.EOF` only where the rest of the
stream is a whole number of frames. -/
theorem readR_spec (s : H3Stream) (k : Nat) (hi : InvS s) :
    InvS (readR s k).2 ∧
    ((readR s k).1.2 = none → expS s = (readR s k).1.1 ++ expS (readR s k).2 ∧ (WholeS (readR s k).2 → WholeS s)) ∧
    ((readR s k).1.2 ≠ none → (readR s k).1.1 = []) ∧
    ((readR s k).1.2 = some .eof → WholeS s ∧ expS s = []) := by
  have hnf := readR_nf s k
  generalize readR s k = res at hnf
  -- at a frame boundary: what the reader still owes and "whole frames from here on", in terms of the bytes
  have hexp0 : s.remInFrame = 0 → expS s = if s.parsedTrailer then [] else dataFrom s.net.segs.flatten := by
    intro hr0; simp [expS, hr0, dataIn_zero]
  have hwhole0 : s.remInFrame = 0 → Whole s.parsedTrailer s.net.segs.flatten → WholeS s := by
    intro hr0 h; exact ⟨by rw [hr0]; omega, by rw [hr0]; simpa using h⟩
  cases hnf with
  | inFrame hrem =>
    have hpt : s.parsedTrailer = false := by
      cases h : s.parsedTrailer with
      | false => rfl
      | true => exact absurd (hi h) hrem
    obtain ⟨a, b, c, d⟩ := readInFrame_spec s k hpt
    exact ⟨fun h => by rw [a] at h; simp at h, b, c, d⟩
  | err e n' hp =>
    refine ⟨hi, by simp, by simp, ?_⟩
    intro h; simp at h; subst h
    refine ⟨hwhole0 hp.rem (hp.scan.eof rfl), ?_⟩
    rw [hexp0 hp.rem, hp.scan.nodata (by intro l h; simp at h)]; simp
  | settings n' hp => exact ⟨hi, by simp, by simp, by simp⟩
  | dataLate l n' hp _ => exact ⟨fun _ => hp.rem, by simp, by simp, by simp⟩
  | headersLate l n' hp _ => exact ⟨fun _ => hp.rem, by simp, by simp, by simp⟩
  | data l n' hp hpt =>
    obtain ⟨hd, hw⟩ := hp.scan.data l rfl
    obtain ⟨a, b, c, d⟩ := readInFrame_spec ({ s with net := n', remInFrame := l } : H3Stream) k hpt
    have hexp1 : expS ({ s with net := n', remInFrame := l } : H3Stream) = expS s := by
      rw [hexp0 hp.rem]; simp [expS, hpt, hd]
    have hw1 : WholeS ({ s with net := n', remInFrame := l } : H3Stream) → WholeS s := by
      intro ⟨h1, h2⟩
      have h2' : Whole false (n'.segs.flatten.drop l) := by
        have : ({ s with net := n', remInFrame := l } : H3Stream).parsedTrailer = false := hpt
        rw [this] at h2; exact h2
      exact hwhole0 hp.rem (by rw [hpt]; exact hw h1 h2' hpt)
    refine ⟨fun h => by rw [a] at h; simp at h, ?_, c, fun h => ⟨hw1 (d h).1, hexp1.symm.trans (d h).2⟩⟩
    intro h
    obtain ⟨e1, e2⟩ := b h
    exact ⟨hexp1.symm.trans e1, fun x => hw1 (e2 x)⟩
  | trailer l n' hp hpt =>
    have hnd : dataFrom s.net.segs.flatten = [] := hp.scan.nodata (by intro l' h; simp at h)
    have hw := hp.scan.headers l rfl
    obtain ⟨_, k1, k2, k3, k4⟩ := parseTrailerR_spec ({ s with net := n', parsedTrailer := true } : H3Stream) l
    generalize parseTrailerR ({ s with net := n', parsedTrailer := true } : H3Stream) l = pr at k1 k2 k3 k4
    refine ⟨fun _ => k1.trans hp.rem, ?_, by simp, fun h => absurd h k3⟩
    intro he
    obtain ⟨hl, hfl'⟩ := k4 he
    refine ⟨by rw [hexp0 hp.rem]; simp [hpt, hnd, expS, show pr.2.parsedTrailer = true from k2], ?_⟩
    intro ⟨h1, h2⟩
    rw [k1.trans hp.rem, show pr.2.parsedTrailer = true from k2, hfl'] at h2
    simp only [List.drop_zero] at h2
    exact hwhole0 hp.rem (by rw [hpt]; exact hw hl h2 hpt)

theorem bodyReadR_spec (b : H3Body) (k : Nat) (hi : InvS b.str) :
    InvS (bodyReadR b k).2.str ∧
    ((bodyReadR b k).1.2 = none →
      expS b.str = (bodyReadR b k).1.1 ++ expS (bodyReadR b k).2.str ∧
      (WholeS (bodyReadR b k).2.str → WholeS b.str)) ∧
    (∃ t, expS b.str = (bodyReadR b k).1.1 ++ t) ∧
    ((bodyReadR b k).1.2 = some .eof → WholeS b.str ∧ expS b.str = [] ∧ (bodyReadR b k).1.1 = []) := by
  cases hv : b.violation with
  | true => rw [bodyReadR_viol b k hv]; exact ⟨hi, by simp, ⟨expS b.str, by simp⟩, by simp⟩
  | false =>
    rw [bodyReadR_eq b k hv, bodyStep]
    obtain ⟨a, bb, c, d⟩ := readR_spec b.str (bodyK b k) hi
    refine ⟨a, fun h => bb (bodyErr_none h), ?_, fun h => ?_⟩
    · cases he : (readR b.str (bodyK b k)).1.2 with
      | none => exact ⟨_, (bb he).1⟩
      | some e => rw [c (by simp [he])]; exact ⟨expS b.str, by simp⟩
    · have he := (bodyErr_eof h).1
      exact ⟨(d he).1, (d he).2, c (by simp [he])⟩

/-- `bodyReadR` against the reader interface of C02 (`RefinesR`): in state `b` the reader still has
to hand out exactly `expS b.str`; `b0` is where the run started, and a whole number of frames from
`b` on is one from `b0` on. -/
theorem bodyReadR_refines (b0 : H3Body) :
    RefinesR bodyReadR (fun b E => InvS b.str ∧ expS b.str = E ∧ (WholeS b.str → WholeS b0.str)) (· = .eof) where
  step_ok := fun b E k d b' ⟨hi, hE, hw⟩ hr => by
    obtain ⟨a, bb, _, _⟩ := bodyReadR_spec b k hi
    rw [hr] at a bb
    obtain ⟨h1, h2⟩ := bb rfl
    exact ⟨_, hE ▸ h1, a, rfl, fun w => hw (h2 w)⟩
  step_end := fun b E k d e b' ⟨hi, hE, _⟩ hr => by
    obtain ⟨_, _, c, dd⟩ := bodyReadR_spec b k hi
    rw [hr] at c dd
    refine ⟨hE ▸ c, fun he => ?_⟩
    obtain ⟨_, h2, h3⟩ := dd (by rw [he])
    rw [← hE, h2]; exact h3.symm

/-- `Whole` inverted: no bytes, or a frame header, its whole payload, and whole frames after it. -/
theorem Whole.inv {tr : Bool} {bs : Bytes} (h : Whole tr bs) :
    bs = [] ∨ ∃ t l rest tr', decHdr bs = some (t, l, rest) ∧ l ≤ rest.length ∧ Whole tr' (rest.drop l) := by
  cases h with
  | nil => exact .inl rfl
  | data _ _ _ hd hl hw => exact .inr ⟨_, _, _, _, hd, hl, hw⟩
  | trailer _ _ _ hd hl hw => exact .inr ⟨_, _, _, _, hd, hl, hw⟩
  | skip _ _ _ _ _ hd _ hl hw => exact .inr ⟨_, _, _, _, hd, hl, hw⟩

/-- Inverting `Whole` on bytes whose frame header is known. -/
theorem Whole.next {tr : Bool} {bs rest : Bytes} {t l : Nat} (h : Whole tr bs) (hd : decHdr bs = some (t, l, rest)) :
    l ≤ rest.length ∧ ∃ tr', Whole tr' (rest.drop l) := by
  rcases h.inv with rfl | ⟨_, _, _, _, hd', hl, hw⟩
  · simp [decHdr, decVarint] at hd
  · cases hd.symm.trans hd'; exact ⟨hl, _, hw⟩

theorem decHdr_frames (f : WFrame) (hok : f.OK) (frs : List WFrame) (tail : Bytes) :
    decHdr (framesWire (f :: frs) ++ tail) = some (f.typ, f.payload.length, f.payload ++ (framesWire frs ++ tail)) := by
  rw [← hok (f.payload ++ (framesWire frs ++ tail)), framesWire_cons, List.append_assoc, List.append_assoc]

/-- **A stream cut strictly inside a frame is not a whole number of frames**: whatever complete
frames came before, wherever inside the frame (its header or its payload) the cut falls. -/
theorem not_whole_cut (frs : List WFrame) (hfrs : ∀ f ∈ frs, f.OK) (g : WFrame) (hg : g.OK) (j : Nat)
    (hj0 : 0 < j) (hj : j < g.wire.length) (tr : Bool) :
    ¬Whole tr (framesWire frs ++ g.wire.take j) := by
  induction frs generalizing tr with
  | cons f frs ih =>
    intro hw
    obtain ⟨_, tr', hw'⟩ := hw.next (decHdr_frames f (hfrs f (by simp)) frs _)
    simp only [List.drop_left] at hw'
    exact ih (fun f' hf' => hfrs f' (by simp [hf'])) tr' hw'
  | nil =>
    intro hw
    simp only [framesWire, List.map_nil, List.flatten_nil, List.nil_append] at hw
    rcases hw.inv with h0 | ⟨t, l, rest, _, hd, hl, _⟩
    · have := congrArg List.length h0
      simp only [List.length_take, List.length_nil] at this
      omega
    · -- a header that decodes from the cut decodes alike from the whole frame: it is the frame's own,
      -- and the payload it announces would have to lie before the cut
      have := decHdr_append _ (g.wire.drop j) _ _ _ hd
      rw [List.take_append_drop, WFrame.wire, hg] at this
      simp only [Option.some.injEq, Prod.mk.injEq] at this
      obtain ⟨_, rfl, h3⟩ := this
      have := congrArg List.length h3
      simp only [WFrame.wire, List.length_append, List.length_drop] at this hj
      omega

/-- Complete body frames in front are read through: their DATA payloads, then whatever follows. -/
theorem dataFrom_frames (frs : List WFrame) (hfrs : ∀ f ∈ frs, BodyFrameOK f) (tail : Bytes) :
    dataFrom (framesWire frs ++ tail) = h3DataOf frs ++ dataFrom tail := by
  induction frs with
  | nil => simp [framesWire, h3DataOf]
  | cons f frs ih =>
    obtain ⟨hok, hty⟩ := hfrs f (by simp)
    have hd := decHdr_frames f hok frs tail
    have ih' := ih (fun g hg => hfrs g (by simp [hg]))
    rcases hty with h0 | hsk
    · rw [dataFrom_data _ _ _ (h0 ▸ hd), h3DataOf_cons_data f frs h0]
      simp [dataIn, ih', List.append_assoc]
    · rw [dataFrom_skip _ _ _ _ hd ((skipT_iff_skippable _).2 hsk) (by simp)]
      have : h3DataOf (f :: frs) = h3DataOf frs := by simp [h3DataOf, hsk.1]
      rw [this]
      simpa using ih'

/-- A complete sequence of body frames is a whole number of frames. -/
theorem whole_frames (frs : List WFrame) (hfrs : ∀ f ∈ frs, BodyFrameOK f) : Whole false (framesWire frs) := by
  induction frs with
  | nil => exact Whole.nil false
  | cons f frs ih =>
    obtain ⟨hok, hty⟩ := hfrs f (by simp)
    have hd : decHdr (framesWire (f :: frs)) = some (f.typ, f.payload.length, f.payload ++ framesWire frs) := by
      simpa using decHdr_frames f hok frs []
    have ih' := ih (fun g hg => hfrs g (by simp [hg]))
    rcases hty with h0 | hsk
    · exact Whole.data _ _ _ (h0 ▸ hd) (by simp) (by simpa using ih')
    · exact Whole.skip false _ _ _ _ hd ((skipT_iff_skippable _).2 hsk) (by simp) (by simpa using ih')

end Req.C03
