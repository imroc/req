import Req.Client.Retry
/-! One pass of the repaired retry loop (`Req.Retry.iteration`) against the specification `wants`
(`iteration_spec`): what it logs and returns when it goes round again or ends the loop (`StopPass`); and the
induction principle `loop_induct` over the whole loop. -/
namespace Req.Lemmas.C10Loop
open Req.Retry

variable {σ W : Type}

theorem runAfter_stop (v : Variant) (o : Obs) (ra : Nat) (fs : List (Obs → Bool)) (i : Nat) (err : Option Err) :
    (runAfter (W := W) v o ra fs i err).2.2 = fs.any (· o) := by
  induction fs generalizing i err with
  | nil => simp [runAfter]
  | cons f fs ih =>
    unfold runAfter
    by_cases h : f o <;> simp [h, ih]

theorem runAfter_err_repaired (v : Variant) (hv : v.keepErr = true) (o : Obs) (ra : Nat)
    (fs : List (Obs → Bool)) (i : Nat) (err : Option Err)
    (h : fs.any (· o) = false) : (runAfter (W := W) v o ra fs i err).2.1 = err := by
  induction fs generalizing i err with
  | nil => simp [runAfter]
  | cons f fs ih =>
    simp only [List.any_cons, Bool.or_eq_false_iff] at h
    unfold runAfter
    simp [h.1, hv, ih _ _ h.2]

theorem runAfter_err_abort (v : Variant) (o : Obs) (ra : Nat)
    (fs : List (Obs → Bool)) (i : Nat) (err : Option Err)
    (h : fs.any (· o) = true) : ∃ j, (runAfter (W := W) v o ra fs i err).2.1 = some (ra, .after j) := by
  induction fs generalizing i err with
  | nil => simp at h
  | cons f fs ih =>
    unfold runAfter
    by_cases hf : f o
    · exact ⟨i, by simp [hf]⟩
    · simp only [List.any_cons, hf, Bool.false_or] at h
      obtain ⟨j, hj⟩ := ih (i + 1) (if v.keepErr then err else none) h
      exact ⟨j, by simp [hf, hj]⟩

theorem evalConds_snd (o : Obs) (cs : List (Nat × (Obs → Bool))) :
    (evalConds (W := W) o cs).2 = cs.any (fun c => c.2 o) := by
  induction cs with
  | nil => simp [evalConds]
  | cons c cs ih =>
    obtain ⟨id, f⟩ := c
    unfold evalConds
    by_cases h : f o <;> simp [h, ih]

theorem roundTrip_repaired (v : Variant) (hv : v.nilRespGuard = true) (ra : Nat) (o : Outcome)
    (ho : o ≠ .beforeErr) :
    roundTrip v ra o = (some ⟨ra, o.view, o.errKind.map (ra, ·)⟩, o.errKind.map (ra, ·)) := by
  cases o <;> simp_all [roundTrip, Outcome.view, Outcome.errKind]

/-- What a callback observes in iteration `ra` with outcome `o` (repaired code). -/
def obsOf (o : Outcome) (ra : Nat) : Obs := ⟨ra, o.view, o.errKind⟩

/-- The `*Response` of iteration `ra` with outcome `o` (repaired code). -/
def respOf (o : Outcome) (ra : Nat) : Resp := ⟨ra, o.view, o.errKind.map (ra, ·)⟩

theorem need_eq (p : Policy σ) (o : Outcome) (ra : Nat) :
    need p o ra = (if p.conds.isEmpty then (([] : List (Event W)), o.errKind.isSome)
      else evalConds (obsOf o ra) p.conds.reverse).2 := by
  unfold need
  split
  · rfl
  · rw [evalConds_snd, List.any_reverse]; rfl

/-- The error kind a callback is shown is the round-trip error's own. -/
theorem errKind_of_pair (ra : Nat) (e : Option ErrKind) :
    Option.map (fun x : Err => x.2) (Option.map (fun k => (ra, k)) e) = e := by
  cases e <;> rfl

theorem runAfter_repaired (v : Variant) (hv : v.keepErr = true) (p : Policy σ) (o : Outcome) (ra : Nat) :
    (runAfter (W := W) v ⟨ra, o.view, o.errKind⟩ ra p.after 0 (o.errKind.map (ra, ·))).2.2 = aborted p o ra ∧
    (aborted p o ra = false →
      (runAfter (W := W) v ⟨ra, o.view, o.errKind⟩ ra p.after 0 (o.errKind.map (ra, ·))).2.1
        = o.errKind.map (ra, ·)) :=
  ⟨by rw [runAfter_stop]; rfl, fun hab => runAfter_err_repaired v hv _ _ _ _ _ hab⟩

theorem wires_append (a b : List (Event W)) : wires (a ++ b) = wires a ++ wires b := by
  induction a with
  | nil => rfl
  | cons e t ih => cases e <;> simp [wires, ih]

theorem calls_append (a b : List (Event W)) : calls (a ++ b) = calls a ++ calls b := by
  induction a with
  | nil => rfl
  | cons e t ih => cases e <;> simp [calls, ih]

theorem iterations_append (a b : List (Event W)) : iterations (a ++ b) = iterations a + iterations b := by
  simp [iterations, List.countP_append]

/-- Events that are neither `before`, `wire`, `hook` nor `interval`. -/
def Quiet (l : List (Event W)) : Prop :=
  ∀ e ∈ l, (∃ j ob, e = .after j ob) ∨ (∃ id ob r, e = .cond id ob r)

theorem Quiet.wires {l : List (Event W)} (h : Quiet l) : wires l = [] := by
  induction l with
  | nil => rfl
  | cons e t ih =>
    have ht : Quiet t := fun x hx => h x (List.mem_cons_of_mem _ hx)
    rcases h e (List.mem_cons_self ..) with ⟨j, ob, rfl⟩ | ⟨id, ob, r, rfl⟩ <;> simp [Retry.wires, ih ht]

theorem Quiet.calls {l : List (Event W)} (h : Quiet l) : calls l = [] := by
  induction l with
  | nil => rfl
  | cons e t ih =>
    have ht : Quiet t := fun x hx => h x (List.mem_cons_of_mem _ hx)
    rcases h e (List.mem_cons_self ..) with ⟨j, ob, rfl⟩ | ⟨id, ob, r, rfl⟩ <;> simp [Retry.calls, ih ht]

theorem Quiet.iterations {l : List (Event W)} (h : Quiet l) : iterations l = 0 :=
  List.countP_eq_zero.mpr fun e he => by
    rcases h e he with ⟨_, _, rfl⟩ | ⟨_, _, _, rfl⟩ <;> exact Bool.false_ne_true

theorem Quiet.cons {e : Event W} {t : List (Event W)}
    (he : (∃ j ob, e = .after j ob) ∨ (∃ id ob r, e = .cond id ob r)) (ht : Quiet t) : Quiet (e :: t) :=
  fun x hx => (List.mem_cons.mp hx).elim (· ▸ he) (ht x)

theorem Quiet.append {a b : List (Event W)} (ha : Quiet a) (hb : Quiet b) : Quiet (a ++ b) :=
  fun e he => (List.mem_append.mp he).elim (ha e) (hb e)

theorem quiet_runAfter (v : Variant) (o : Obs) (ra : Nat) (fs : List (Obs → Bool)) (i : Nat) (err : Option Err) :
    Quiet (runAfter (W := W) v o ra fs i err).1 := by
  induction fs generalizing i err with
  | nil => exact fun _ he => nomatch he
  | cons f fs ih =>
    unfold runAfter
    by_cases h : f o = true
    · rw [if_pos h]; exact .cons (.inl ⟨_, _, rfl⟩) fun _ he => nomatch he
    · rw [if_neg h]; exact .cons (.inl ⟨_, _, rfl⟩) (ih _ _)

theorem quiet_evalConds (o : Obs) (cs : List (Nat × (Obs → Bool))) : Quiet (evalConds (W := W) o cs).1 := by
  induction cs with
  | nil => exact fun _ he => nomatch he
  | cons c cs ih =>
    unfold evalConds
    by_cases h : c.2 o = true
    · rw [if_pos h]; exact .cons (.inr ⟨_, _, _, rfl⟩) fun _ he => nomatch he
    · rw [if_neg h]; exact .cons (.inr ⟨_, _, _, rfl⟩) ih

theorem quiet_conds (p : Policy σ) (ob : Obs) (b : Bool) :
    Quiet (if p.conds.isEmpty then (([] : List (Event W)), b) else evalConds ob p.conds.reverse).1 := by
  split
  · intro e he; simp at he
  · exact quiet_evalConds _ _

theorem hooks_wires (l : List (Nat × (Obs → σ → σ))) (ob : Obs) :
    wires (l.map fun h => (Event.hook h.1 ob : Event W)) = [] := by
  induction l with
  | nil => rfl
  | cons h t ih => simp [wires, ih]

theorem hooks_iterations (l : List (Nat × (Obs → σ → σ))) (ob : Obs) :
    iterations (l.map fun h => (Event.hook h.1 ob : Event W)) = 0 :=
  List.countP_eq_zero.mpr fun e he => by
    obtain ⟨_, _, rfl⟩ := List.mem_map.mp he; exact Bool.false_ne_true

theorem hooks_calls (l : List (Nat × (Obs → σ → σ))) (ob : Obs) :
    calls (l.map fun h => (Event.hook h.1 ob : Event W)) = l.map fun h => Call.hook h.1 ob.attempt := by
  induction l with
  | nil => rfl
  | cons h t ih => simp [calls, ih]

theorem cannotRetry_eq_false {p : Policy σ} {o : Outcome} {ra : Nat} :
    cannotRetry p o ra = false ↔
      o ≠ .cancelled ∧ p.enabled = true ∧ (p.maxRetries < 0 ∨ (ra : Int) < p.maxRetries) := by
  have h : (p.maxRetries ≤ (ra : Int) → ¬ 0 ≤ p.maxRetries) ↔ (p.maxRetries < 0 ∨ (ra : Int) < p.maxRetries) := by
    omega
  simp only [cannotRetry, Bool.or_eq_false_iff, Bool.and_eq_false_imp, beq_eq_false_iff_ne, ne_eq,
    Bool.not_eq_eq_eq_not, Bool.not_false, decide_eq_true_eq, decide_eq_false_iff_not, and_assoc, h]

theorem wants_eq (p : Policy σ) (o : Outcome) (ra : Nat) :
    wants p o ra = (o != .beforeErr && !aborted p o ra && !cannotRetry p o ra && need p o ra && !o.ctxDone) := by
  have h : (decide (p.maxRetries < 0) || decide ((ra : Int) < p.maxRetries))
      = !(decide (p.maxRetries ≤ (ra : Int)) && decide (0 ≤ p.maxRetries)) := by
    rw [Bool.eq_iff_iff]; simp; omega
  simp only [wants, cannotRetry, h, bne, Bool.not_or, Bool.not_not, Bool.and_assoc]

theorem wants_iff (p : Policy σ) (o : Outcome) (ra : Nat) :
    wants p o ra = true ↔
      o ≠ .beforeErr ∧ aborted p o ra = false ∧ o ≠ .cancelled ∧ p.enabled = true ∧
      (p.maxRetries < 0 ∨ (ra : Int) < p.maxRetries) ∧ need p o ra = true ∧ o.ctxDone = false := by
  simp [wants, and_assoc]

/-- The state carried into the next pass: the middleware's result, then the hooks last-to-first. -/
def nextState (p : Policy σ) (mw : Nat → σ → σ × W) (o : Outcome) (ra : Nat) (st : σ) : σ :=
  p.hooks.reverse.foldl (fun s h => h.2 (obsOf o (ra + 1)) s) (mw ra st).1

/-- The calls of one retry: hooks in reverse registration order, then the interval function,
all with the new attempt number. -/
def block (p : Policy σ) (attempt : Nat) : List Call :=
  (p.hooks.reverse.map fun h => Call.hook h.1 attempt) ++ [.interval attempt]

/-- The wait before the next attempt found the context done: hooks and the interval function
have run, no further attempt follows: `wants` (in the form of `wants_eq`) with the last conjunct flipped. -/
def interrupted (p : Policy σ) (o : Outcome) (ra : Nat) : Bool :=
  o != .beforeErr && !aborted p o ra && !cannotRetry p o ra && need p o ra && o.ctxDone

/-- What a pass that ends the loop logs and returns. -/
structure StopPass (p : Policy σ) (mw : Nat → σ → σ × W) (o : Outcome) (ra : Nat) (st : σ) (prev : Option Resp)
    (ev : List (Event W)) (fin : Final) : Prop where
  one : iterations ev = 1
  hcalls : calls ev = if interrupted p o ra then block p (ra + 1) else []
  hwires : wires ev = if o = .beforeErr then [] else [(ra, (mw ra st).2)]
  hbefore : o = .beforeErr → fin = .done prev (some (ra, .before))
  hdone : o ≠ .beforeErr → interrupted p o ra = false → ∃ err, fin = .done (some (respOf o ra)) err ∧
    (err = o.errKind.map (ra, ·) ∨ (aborted p o ra = true ∧ ∃ j, err = some (ra, .after j)))
  hwait : interrupted p o ra = true →
    fin = .done (some { respOf o ra with err := some (ra, .waitCtx) }) (some (ra, .waitCtx))

/-- A pass that returns before hooks and interval function are reached. -/
theorem StopPass.early (p : Policy σ) (mw : Nat → σ → σ × W) {o : Outcome} (ra : Nat) (st : σ) (prev : Option Resp)
    (ho : o ≠ .beforeErr) (hi : interrupted p o ra = false) {q : List (Event W)} (hq : Quiet q) (err : Option Err)
    (herr : err = o.errKind.map (ra, ·) ∨ (aborted p o ra = true ∧ ∃ j, err = some (ra, .after j))) :
    StopPass p mw o ra st prev ([Event.before ra, .wire ra (mw ra st).2] ++ q) (.done (some (respOf o ra)) err) where
  one := by rw [iterations_append, hq.iterations]; rfl
  hcalls := by rw [hi, calls_append, hq.calls]; rfl
  hwires := by rw [if_neg ho, wires_append, hq.wires]; rfl
  hbefore := fun h => absurd h ho
  hdone := fun _ _ => ⟨err, rfl, herr⟩
  hwait := fun h => by rw [hi] at h; cases h

theorem iteration_spec (p : Policy σ) (mw : Nat → σ → σ × W) (o : Outcome) (ra : Nat) (st : σ) (prev : Option Resp) :
    ∃ ev r, iteration R p mw o ra st prev = (ev, r) ∧
      match r with
      | .inl fin => wants p o ra = false ∧ StopPass p mw o ra st prev ev fin
      | .inr x => wants p o ra = true ∧ x = (nextState p mw o ra st, some (respOf o ra)) ∧
          iterations ev = 1 ∧ wires ev = [(ra, (mw ra st).2)] ∧ calls ev = block p (ra + 1) := by
  by_cases ho : o = .beforeErr
  · subst ho
    have hi : interrupted p .beforeErr ra = false := by simp [interrupted]
    exact ⟨[.before ra], .inl (.done prev (some (ra, .before))), by simp [iteration], by simp [wants],
      { one := rfl, hcalls := (by rw [hi]; rfl), hwires := rfl, hbefore := fun _ => rfl,
        hdone := fun h => absurd rfl h, hwait := fun h => by rw [hi] at h; cases h }⟩
  have hne : (o != Outcome.beforeErr) = true := by simpa using ho
  obtain ⟨hstop, herr⟩ := runAfter_repaired (W := W) R rfl p o ra
  have hneed := need_eq (W := W) p o ra
  have hq1 := quiet_runAfter (W := W) R (obsOf o ra) ra p.after 0 (o.errKind.map (ra, ·))
  have hq2 := quiet_conds (W := W) p (obsOf o ra) o.errKind.isSome
  unfold iteration
  simp only [ho, ↓reduceIte, roundTrip_repaired R rfl ra o ho, viewOf, Option.bind_some, errKind_of_pair, obsOf]
    at hneed hq1 hq2 ⊢
  rw [wants_eq, hne]
  generalize hae : runAfter (W := W) R ⟨ra, o.view, o.errKind⟩ ra p.after 0 (o.errKind.map (ra, ·)) = a
    at hstop herr hq1
  rw [hstop]
  by_cases hab : aborted p o ra = true
  · rw [if_pos hab]
    refine ⟨_, _, rfl, by simp [hab], .early p mw ra st prev ho (by simp [interrupted, hab]) hq1 _ (.inr ⟨hab, ?_⟩)⟩
    rw [← hae]
    apply runAfter_err_abort
    simpa [aborted] using hab
  have hab' : aborted p o ra = false := by simpa using hab
  rw [if_neg hab, herr hab']
  by_cases hc : cannotRetry p o ra = true
  · rw [if_pos hc]
    exact ⟨_, _, rfl, by simp [hc], .early p mw ra st prev ho (by simp [interrupted, hc]) hq1 _ (.inl rfl)⟩
  have hc' : cannotRetry p o ra = false := by simpa using hc
  rw [if_neg hc]
  simp only [errKind_of_pair, Option.isSome_map]
  generalize (if p.conds.isEmpty = true then (([] : List (Event W)), o.errKind.isSome)
    else evalConds ⟨ra, o.view, o.errKind⟩ p.conds.reverse) = c at hneed hq2 ⊢
  rw [← hneed]
  by_cases hn : need p o ra = true
  · rw [hn]
    simp only [Bool.not_true, Bool.false_eq_true, ↓reduceIte]
    -- hooks and interval function run: the events are the same whether or not the wait is interrupted
    generalize hev : [Event.before ra, .wire ra (mw ra st).2] ++ a.1 ++ c.1 ++
      (p.hooks.reverse.map fun h => Event.hook h.1 ⟨ra + 1, o.view, o.errKind⟩) ++
      [.interval p.interval (ra + 1) o.view] = ev
    have h1 : iterations ev = 1 := by
      rw [← hev]
      simp only [iterations_append, hq1.iterations, hq2.iterations, hooks_iterations]; rfl
    have h2 : wires ev = [(ra, (mw ra st).2)] := by
      rw [← hev]
      simp only [wires_append, hq1.wires, hq2.wires, hooks_wires]; rfl
    have h3 : calls ev = block p (ra + 1) := by
      rw [← hev]
      simp only [calls_append, hq1.calls, hq2.calls, hooks_calls]; rfl
    by_cases hd : o.ctxDone = true
    · have hi : interrupted p o ra = true := by simp [interrupted, hne, hab', hc', hn, hd]
      rw [if_pos hd]
      exact ⟨_, _, rfl, by simp [hd],
        { one := h1, hcalls := by rw [hi, h3]; rfl, hwires := by rw [h2, if_neg ho], hbefore := fun h => absurd h ho,
          hdone := fun _ h' => (by rw [hi] at h'; cases h'), hwait := fun _ => rfl }⟩
    · rw [if_neg hd]
      exact ⟨_, _, rfl, by simp [hab', hc', hd], rfl, h1, h2, h3⟩
  · have hn' : need p o ra = false := by simpa using hn
    rw [hn']
    simp only [Bool.not_false, ↓reduceIte]
    exact ⟨_, _, rfl, by simp, .early p mw ra st prev ho (by simp [interrupted, hn']) (hq1.append hq2) _ (.inl rfl)⟩

theorem retry_iff_step (p : Policy σ) (mw : Nat → σ → σ × W) (o : Outcome) (ra : Nat) (st : σ) (prev : Option Resp) :
    (∃ x, (iteration R p mw o ra st prev).2 = .inr x) ↔ wants p o ra = true := by
  obtain ⟨ev, r, hev, hr⟩ := iteration_spec p mw o ra st prev
  rw [hev]
  cases r with
  | inl fin => exact ⟨fun ⟨_, h⟩ => (nomatch h), fun h => absurd (hr.1.symm.trans h) nofun⟩
  | inr x => exact ⟨fun _ => hr.1, fun _ => ⟨x, rfl⟩⟩

/-- Induction over the repaired loop: a pass after which the specification `wants` no further attempt
ends it (`StopPass`), any other pass is followed by the loop on the rest of the script. -/
theorem loop_induct (p : Policy σ) (mw : Nat → σ → σ × W)
    {motive : List Outcome → Nat → σ → Option Resp → Prop}
    (nil : ∀ ra st prev, motive [] ra st prev)
    (stop : ∀ o rest ra st prev ev fin, wants p o ra = false → StopPass p mw o ra st prev ev fin →
      loop R p mw (o :: rest) ra st prev = (ev, fin) → motive (o :: rest) ra st prev)
    (cont : ∀ o rest ra st prev ev, wants p o ra = true → iterations ev = 1 →
      wires ev = [(ra, (mw ra st).2)] → calls ev = block p (ra + 1) →
      loop R p mw (o :: rest) ra st prev =
        (ev ++ (loop R p mw rest (ra + 1) (nextState p mw o ra st) (some (respOf o ra))).1,
          (loop R p mw rest (ra + 1) (nextState p mw o ra st) (some (respOf o ra))).2) →
      motive rest (ra + 1) (nextState p mw o ra st) (some (respOf o ra)) → motive (o :: rest) ra st prev)
    (script : List Outcome) (ra : Nat) (st : σ) (prev : Option Resp) : motive script ra st prev := by
  induction script generalizing ra st prev with
  | nil => exact nil ra st prev
  | cons o rest ih =>
    obtain ⟨ev, r, hev, hr⟩ := iteration_spec p mw o ra st prev
    cases r with
    | inl fin => exact stop o rest ra st prev ev fin hr.1 hr.2 (by simp only [loop, hev])
    | inr x =>
      obtain ⟨hw, rfl, hi, hwi, hc⟩ := hr
      exact cont o rest ra st prev ev hw hi hwi hc (by simp only [loop, hev]) (ih _ _ _)

theorem loop_final (p : Policy σ) (mw : Nat → σ → σ × W) (script : List Outcome) (ra : Nat) (st : σ)
    (prev : Option Resp) : (loop R p mw script ra st prev).2 = .exhausted ∨
      ∃ resp err, (loop R p mw script ra st prev).2 = .done resp err := by
  induction script, ra, st, prev using loop_induct p mw with
  | nil => exact .inl rfl
  | stop o _ ra _ _ _ fin _ hs hl =>
    rw [hl]
    by_cases ho : o = .beforeErr
    · exact .inr ⟨_, _, hs.hbefore ho⟩
    · cases hin : interrupted p o ra with
      | true => exact .inr ⟨_, _, hs.hwait hin⟩
      | false => obtain ⟨e, he, -⟩ := hs.hdone ho hin; exact .inr ⟨_, _, he⟩
  | cont _ _ _ _ _ _ _ _ _ _ hl ih => rw [hl]; exact ih

end Req.Lemmas.C10Loop
