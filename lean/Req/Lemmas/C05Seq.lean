import Req.H2.WriteSeq
import Req.Lemmas.C05H2
/-! Lemmas for `Req.Props.C05Seq`: the write half of the Framer as a state machine (every call is the
stateless writer, whatever state earlier calls left), and reading a written sequence back. -/
namespace Req.Lemmas.C05.Seq
open Req.H2.Frame Req.Proto

theorem hdr_len (t fl sid : Nat) : ([0, 0, 0, u8 t, u8 fl] ++ be32 sid : Bytes).length = 9 := by
  simp [be32]

/-- the buffer is what `startWrite` and the `put`s of a writer leave: the nine header bytes with a
zero length, then the payload; `endWrite` fills the length in. -/
theorem endWrite_eq (s : Sink) (out : Bytes) (t fl sid : Nat) (payload : Bytes) :
    endWrite s { wbuf := [0, 0, 0, u8 t, u8 fl] ++ be32 sid ++ payload, out := out } =
      if payload.length ≥ two24 then
        (.refused .frameTooLarge, { wbuf := [0, 0, 0, u8 t, u8 fl] ++ be32 sid ++ payload, out := out })
      else (s.result (headerBytes payload.length t fl sid ++ payload),
            { wbuf := headerBytes payload.length t fl sid ++ payload,
              out := out ++ s.taken (headerBytes payload.length t fl sid ++ payload) }) := by
  have hl : ([0, 0, 0, u8 t, u8 fl] ++ be32 sid ++ payload : Bytes).length - 9 = payload.length := by
    simp [be32]
  simp only [endWrite, hl]
  split
  · rfl
  · simp [headerBytes, be32]

theorem plan_run (p : Plan) (s : Sink) (w : Writer) :
    (p.run s w).1 = (match Req.Lemmas.C05.H2.Plan.stateless p with
                      | .ok b => s.result b
                      | .error e => .refused e) ∧
    (p.run s w).2.out = w.out ++ (match Req.Lemmas.C05.H2.Plan.stateless p with
                                  | .ok b => s.taken b
                                  | .error _ => []) := by
  unfold Plan.run Req.Lemmas.C05.H2.Plan.stateless Req.Lemmas.C05.H2.orRefuse
  cases hpre : p.pre with
  | some e => simp
  | none =>
    cases hmid : p.mid with
    | some e => simp [put, startWrite]
    | none =>
      simp only [put, startWrite, List.take_zero, List.nil_append, List.append_assoc]
      have := endWrite_eq s w.out p.t p.fl p.sid (p.first ++ p.last)
      simp only [List.append_assoc] at this
      rw [this]
      unfold frameBytes
      split <;> simp

theorem firstErr_nil : firstErr [] = none := rfl

theorem refused_bytes (c : Call) (h : c.accepted = false) : c.bytes = [] := by
  unfold Call.accepted at h
  unfold Call.bytes Call.frame
  cases hw : c.op.writeA c.allow with
  | ok b => rw [hw] at h; cases h
  | error e => cases c.sink <;> simp [Sink.taken]

theorem filter_bytes (calls : List Call) :
    ((calls.filter Call.accepted).map Call.bytes).flatten = (calls.map Call.bytes).flatten := by
  induction calls with
  | nil => rfl
  | cons c cs ih =>
    by_cases h : c.accepted = true
    · simp [h, ih]
    · have h' : c.accepted = false := by simpa using h
      simp [h', ih, refused_bytes c h']

theorem wire_eq_flatten (ops : List WOp) : wire ops = (ops.map fun a => wire [a]).flatten := by
  induction ops with
  | nil => rfl
  | cons a as ih => rw [List.map_cons, List.flatten_cons, ← ih]; simp [wire]

theorem bytes_eq_wire (c : Call) (ha : c.allow = false) (hs : c.sink = .full) (hwf : c.op.Wf) :
    c.bytes = wire [c.op] := by
  unfold Call.bytes Call.frame
  rw [ha, Req.Lemmas.C05.H2.writeA_false, Req.Lemmas.C05.H2.write_wire c.op hwf, hs]
  simp [wire, Sink.taken]

theorem readAll_ok {n : Nat} {r r' : Reader} {input rest : Bytes} {f : Frame}
    (h : readFrame r input = (.ok f, r', rest)) :
    readAll (n + 1) r input = .ok f :: readAll n r' rest := by
  rw [readAll, h]

theorem readAll_terminal {n : Nat} {r r' : Reader} {input rest : Bytes} {e : RErr}
    (h : readFrame r input = (.error e, r', rest)) (ht : e.terminal = true) :
    readAll (n + 1) r input = [.error e] := by
  rw [readAll, h]; simp only [ht, if_true]

/-- one `read_one` per frame (the end result `Req.Props.C05.sequence_read_back`). -/
theorem readAll_wire (ops : List WOp) (hwf : ∀ a ∈ ops, a.Wf) (r : Reader) (rest : Bytes)
    (k : Nat) (hlegal : r.allowIllegalReads = false)
    (hfit : ∀ a ∈ ops, a.payload.length ≤ r.maxReadSize) :
    readAll (ops.length + k) r (wire ops ++ rest) =
      match runOrder r.lastHeaderStream (ops.map WOp.hdr) with
      | some l => readSpec r.lastHeaderStream ops ++ readAll k { r with lastHeaderStream := l } rest
      | none => readSpec r.lastHeaderStream ops := by
  induction ops generalizing r with
  | nil =>
    simp only [List.length_nil, Nat.zero_add, wire, List.nil_append, List.map_nil, runOrder, readSpec]
  | cons a as ih =>
    have h1 := Req.Lemmas.C05.H2.read_one a (hwf a (by simp)) r (wire as ++ rest) hlegal (hfit a (by simp))
    rw [List.length_cons, Nat.add_right_comm, wire, List.append_assoc, List.map_cons, runOrder, readSpec]
    cases ho : orderStep r.lastHeaderStream a.hdr with
    | none => rw [ho] at h1; exact readAll_terminal h1 rfl
    | some l =>
      rw [ho] at h1
      rw [readAll_ok h1, ih (fun b hb => hwf b (by simp [hb])) { r with lastHeaderStream := l } hlegal
        (fun b hb => hfit b (by simp [hb]))]
      cases hq : runOrder l (as.map WOp.hdr) <;> simp only [hq, List.cons_append]

theorem readSpec_of_runOrder (ops : List WOp) (l l' : Nat)
    (h : runOrder l (ops.map WOp.hdr) = some l') : readSpec l ops = ops.map fun a => .ok a.frame := by
  induction ops generalizing l with
  | nil => rfl
  | cons a as ih =>
    simp only [List.map_cons, runOrder, readSpec] at h ⊢
    cases ho : orderStep l a.hdr with
    | none => rw [ho] at h; cases h
    | some l1 => rw [ho] at h; simp only [ih l1 h]

theorem typ_continuation_iff (a : WOp) (h : a.Wf) :
    a.typ = tContinuation ↔ ∃ sid eh f, a = .continuation sid eh f := by
  cases a <;> simp [WOp.typ, tData, tHeaders, tPriority, tRSTStream, tSettings, tPushPromise, tPing,
    tGoAway, tWindowUpdate, tContinuation]
  case raw t fl sid p =>
    have := h.1
    omega

end Req.Lemmas.C05.Seq
