/-!
Cutting a list by a class of elements `p`. At the left end: `takeWhile p` / `dropWhile p` of a prefix
of the class in front of a rest that does not begin with the class (a token before its delimiter,
blanks before a value). Trimming: `dropWhile p` on the left, the same on the reversed list on the
right, `trimBy p` on both sides (the shape of `textproto.TrimString`, of OWS trimming, of
`strings.Trim` with a cut set). The ends of a list are spoken of through `head?` and `getLast?`, so
that the empty list needs no case of its own.
-/
namespace Req.Trim
variable {α : Type _} {p : α → Bool} {pad pre post l : List α}

theorem dropWhile_pad (hpad : ∀ x ∈ pad, p x = true) (hl : ∀ a ∈ l.head?, p a = false) :
    (pad ++ l).dropWhile p = l := by
  rw [List.dropWhile_append_of_pos hpad]
  cases l with
  | nil => rfl
  | cons a l => exact List.dropWhile_cons_of_neg (by rw [hl a rfl]; decide)

theorem takeWhile_pad (hpad : ∀ x ∈ pad, p x = true) (hl : ∀ a ∈ l.head?, p a = false) :
    (pad ++ l).takeWhile p = pad := by
  rw [List.takeWhile_append_of_pos hpad]
  cases l with
  | nil => simp
  | cons a l => rw [List.takeWhile_cons_of_neg (by rw [hl a rfl]; decide), List.append_nil]

theorem takeWhile_ne_append [BEq α] [LawfulBEq α] {x : α} (h : x ∉ l) (r : List α) :
    (l ++ x :: r).takeWhile (· != x) = l :=
  takeWhile_pad (l := x :: r) (fun _ ha => bne_iff_ne.mpr (ne_of_mem_of_not_mem ha h)) (by simp)

theorem takeWhile_all (hl : ∀ x ∈ l, p x = true) : l.takeWhile p = l := by
  simpa using takeWhile_pad (l := []) hl nofun

theorem dropWhile_all (hl : ∀ x ∈ l, p x = true) : l.dropWhile p = [] := by
  simpa using dropWhile_pad (l := []) hl nofun

theorem dropWhile_id (hl : ∀ a ∈ l.head?, p a = false) : l.dropWhile p = l :=
  dropWhile_pad (pad := []) nofun hl

theorem head_dropWhile (l : List α) : ∀ a ∈ (l.dropWhile p).head?, p a = false := fun a ha => by
  have := List.head?_dropWhile_not p l
  rwa [Option.mem_def.mp ha] at this

theorem dropWhile_congr {q : α → Bool} (h : ∀ b ∈ l, p b = q b) : l.dropWhile p = l.dropWhile q := by
  induction l with
  | nil => rfl
  | cons c t ih =>
    rw [List.dropWhile_cons, List.dropWhile_cons, h c (by simp), ih fun b hb => h b (by simp [hb])]

theorem dropWhile_reverse_pad (hpad : ∀ x ∈ pad, p x = true) (hl : ∀ a ∈ l.getLast?, p a = false) :
    ((l ++ pad).reverse.dropWhile p).reverse = l := by
  rw [List.reverse_append, dropWhile_pad (fun x hx => hpad x (List.mem_reverse.mp hx))
    (by rwa [List.head?_reverse]), List.reverse_reverse]

theorem dropWhile_reverse_id (hl : ∀ a ∈ l.getLast?, p a = false) : (l.reverse.dropWhile p).reverse = l := by
  rw [dropWhile_id (by rwa [List.head?_reverse]), List.reverse_reverse]

theorem dropWhile_reverse_split (p : α → Bool) (l : List α) :
    ∃ suf, l = (l.reverse.dropWhile p).reverse ++ suf ∧ ∀ x ∈ suf, p x = true :=
  ⟨(l.reverse.takeWhile p).reverse,
    by rw [← List.reverse_append, List.takeWhile_append_dropWhile, List.reverse_reverse],
    fun x hx => List.all_eq_true.mp List.all_takeWhile x (List.mem_reverse.mp hx)⟩

/-- `v` without its longest prefix and its longest suffix of elements of the class `p`. By unfolding
this is `Req.C02.trimOWS`, `Req.Auth.trimOws`, `Req.Compress.Lines.trimOWS`, `Req.H1.trimOWS`,
`Req.H1.trimString`, `Req.Redirect.Loop.trimString`, `Req.H3.Fields.trimString`, `Req.Driver.L.C16.trimBlanks`
and `Req.Digest.trim p`, so a lemma below applies to them as it stands (name the class,
`(p := isOWS)`, where the model writes it as a `fun`). `Req.H1.Origin.trimOWS` and
`Req.Validate.trimString` walk the left end by a recursion of their own: `trimOWS_eq`, `trimString_eq`
in `Lemmas/Trim.lean`; `Req.Labels.trimSpace` and `Req.AltSvcParse.trimSpace` have the same shape (a
`trimLeft` of their own) and no such equation. `Req.Multipart.trim` cuts the right end first and `Req.Digest.trimSpace` cuts
runes, not bytes: neither is an instance. -/
def trimBy (p : α → Bool) (v : List α) : List α := ((v.dropWhile p).reverse.dropWhile p).reverse

theorem trimBy_pad (hpre : ∀ x ∈ pre, p x = true) (hpost : ∀ x ∈ post, p x = true)
    (hh : ∀ a ∈ l.head?, p a = false) (hl : ∀ a ∈ l.getLast?, p a = false) :
    trimBy p (pre ++ l ++ post) = l := by
  unfold trimBy
  cases l with
  | nil =>
    rw [List.append_nil, dropWhile_all (l := pre ++ post) (by
      simpa [or_imp, forall_and] using And.intro hpre hpost)]
    rfl
  | cons a l =>
    rw [List.append_assoc, dropWhile_pad (l := a :: l ++ post) hpre hh, dropWhile_reverse_pad hpost hl]

theorem trimBy_of_ends (hh : ∀ a ∈ l.head?, p a = false) (hl : ∀ a ∈ l.getLast?, p a = false) :
    trimBy p l = l := by
  rw [trimBy, dropWhile_id hh, dropWhile_reverse_id hl]

theorem trimBy_split (p : α → Bool) (v : List α) :
    ∃ pre post, v = pre ++ trimBy p v ++ post ∧ (∀ x ∈ pre, p x = true) ∧ (∀ x ∈ post, p x = true) := by
  obtain ⟨post, h, hpost⟩ := dropWhile_reverse_split p (v.dropWhile p)
  exact ⟨v.takeWhile p, post, by rw [List.append_assoc, trimBy, ← h, List.takeWhile_append_dropWhile],
    List.all_eq_true.mp List.all_takeWhile, hpost⟩

theorem trimBy_ends (p : α → Bool) (v : List α) :
    (∀ a ∈ (trimBy p v).head?, p a = false) ∧ (∀ a ∈ (trimBy p v).getLast?, p a = false) := by
  refine ⟨fun a ha => head_dropWhile v a ?_, fun a ha => head_dropWhile _ a (by
    rwa [trimBy, List.getLast?_reverse] at ha)⟩
  -- `trimBy p v` is a prefix of `v.dropWhile p`
  obtain ⟨post, h, _⟩ := dropWhile_reverse_split p (v.dropWhile p)
  rw [h, List.head?_append, ← trimBy, Option.mem_def.mp ha]
  rfl

theorem trimBy_idem (p : α → Bool) (v : List α) : trimBy p (trimBy p v) = trimBy p v :=
  trimBy_of_ends (trimBy_ends p v).1 (trimBy_ends p v).2

theorem trimBy_subset (p : α → Bool) (v : List α) : trimBy p v ⊆ v := fun _ hb =>
  List.dropWhile_subset _ (List.mem_reverse.mp (List.dropWhile_subset _ (List.mem_reverse.mp hb)))

theorem mem_trimBy {v : List α} {c : α} (hc : c ∈ v) (hp : p c = false) : c ∈ trimBy p v := by
  obtain ⟨pre, post, h, hpre, hpost⟩ := trimBy_split p v
  have hn : ∀ w : List α, (∀ x ∈ w, p x = true) → c ∉ w := fun w hw hm => by simp [hw c hm] at hp
  rw [h] at hc
  simpa [hn pre hpre, hn post hpost] using hc

theorem trimBy_congr {q : α → Bool} {v : List α} (h : ∀ b ∈ v, p b = q b) : trimBy p v = trimBy q v := by
  unfold trimBy
  rw [dropWhile_congr h, dropWhile_congr fun b hb =>
    h b (List.dropWhile_subset _ (List.mem_reverse.mp hb))]

end Req.Trim
