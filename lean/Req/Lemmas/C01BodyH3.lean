import Req.H3.BodyWrite
import Req.Lemmas.C01Body
import Req.Lemmas.C05H3
/-! `Req.H3.BodyWrite`: `copy_spec` and `copy_progress` for the writer; `originLoop_wire` with
`wire_some` for the origin reading the DATA frames back (C05's `h3_frameHeader_roundtrip` per frame). -/
namespace Req.Lemmas.C01BodyH3
open Req.Proto Req.H2.BodyWrite Req.H3.BodyWrite Req.H3.Frame Req.Lemmas.C01Body

theorem copy_spec (buf : Nat) (fuel : Nat) (r : Reader) :
      (∃ tail, (copy buf fuel r).1.flatten ++ tail = r.data ∧ ((copy buf fuel r).2 = .closed → tail = [])) ∧
      (∀ w ∈ (copy buf fuel r).1, w ≠ [] ∧ w.length ≤ buf) := by
  fun_induction copy buf fuel r with
  | case1 r => exact ⟨⟨r.data, by simp, by simp⟩, by simp⟩
  | case2 fuel r chunk r1 _ ws' o hc hr ih =>
    rw [hc] at ih
    obtain ⟨⟨tail, ht, htd⟩, hw⟩ := ih
    have hs := read_spec hr
    refine ⟨⟨tail, ?_, htd⟩, fun w hw' => ?_⟩
    · rw [List.flatten_append, optChunk_flatten, List.append_assoc, ht, hs.data]
    · rcases List.mem_append.mp hw' with h | h
      · exact (optChunk_mem h).1 ▸ ⟨(optChunk_mem h).2, hs.len⟩
      · exact hw w h
  | case3 fuel r chunk r1 _ hr =>
    have hs := read_spec hr
    refine ⟨⟨[], ?_, fun _ => rfl⟩, fun w hw' => (optChunk_mem hw').1 ▸ ⟨(optChunk_mem hw').2, hs.len⟩⟩
    rw [optChunk_flatten, List.append_nil, ← hs.data, hs.eof rfl, List.append_nil]
  | case4 fuel r => exact ⟨⟨r.data, by simp, by simp⟩, by simp⟩

theorem copy_progress (buf : Nat) (hb : 1 ≤ buf) (fuel : Nat) (r : Reader)
    (hfuel : fuelFor r ≤ fuel)
    (hend : r.ending = .eof ∨ r.ending = .eofWithLast) : (copy buf fuel r).2 = .closed := by
  unfold fuelFor at hfuel
  fun_induction copy buf fuel r with
  | case1 => omega
  | case2 fuel r chunk r1 _ ws' o hc hr ih =>
    have hs := read_spec hr
    have hm := hs.measure hb fun h => nomatch (hs.atEnd h hend).2.1
    rw [hc] at ih
    exact ih (by omega) (hs.ending ▸ hend)
  | case3 => rfl
  | case4 fuel r chunk r1 hr => exact absurd rfl ((read_spec hr).honest hend)

theorem dataFrame_parse (w rest : Bytes) (hw : w.length < 2 ^ 62) :
    ∃ x, dataFrame w = some x ∧ x ≠ [] ∧ parseNext 1 (x ++ rest) = (.ok (.data w.length), w ++ rest) := by
  obtain ⟨⟨out, ho, hp⟩, _⟩ := Req.Lemmas.C05.H3.h3_frameHeader_roundtrip w.length (w ++ rest) 0 hw
  refine ⟨out ++ w, by simp [dataFrame, ho], ?_, by rw [List.append_assoc]; exact hp⟩
  intro h
  have ho' : out = [] := by
    cases out with
    | nil => rfl
    | cons a b => simp at h
  rw [ho'] at hp
  have h2 := (Req.Lemmas.C05.H3.h3_frameHeader_roundtrip w.length [] 0 hw).1
  obtain ⟨out2, ho2, hp2⟩ := h2
  rw [ho] at ho2
  simp only [Option.some.injEq] at ho2
  rw [← ho2, ho'] at hp2
  simp [parseNext, Req.H3.Varint.read, Req.H3.Varint.parse] at hp2

theorem originLoop_wire (cl : Option Nat) :
    ∀ (ws : List Bytes) (fuel : Nat) (s acc : Bytes), wire ws = some s → (∀ w ∈ ws, w.length < 2 ^ 62) →
      ws.length + 1 ≤ fuel →
      originLoop cl fuel s acc =
        if clMatches cl (acc ++ ws.flatten).length then some (acc ++ ws.flatten) else none := by
  intro ws
  induction ws with
  | nil =>
    intro fuel s acc hs _ hf
    simp only [wire, Option.some.injEq] at hs
    subst hs
    cases fuel with
    | zero => omega
    | succ fuel => simp [originLoop]
  | cons w ws ih =>
    intro fuel s acc hs hlt hf
    cases fuel with
    | zero => omega
    | succ fuel =>
      simp only [wire] at hs
      cases hws : wire ws with
      | none => simp [hws] at hs
      | some y =>
        obtain ⟨x, hx, hxne, hp⟩ := dataFrame_parse w y (hlt w (by simp))
        simp only [hx, hws, Option.some.injEq] at hs
        subst hs
        have hne : (x ++ y).isEmpty = false := by
          cases x with
          | nil => exact absurd rfl hxne
          | cons _ _ => rfl
        simp only [originLoop, hne, Bool.false_eq_true, if_false, hp]
        have : ¬ (w ++ y).length < w.length := by simp
        simp only [this, if_false, List.drop_left, List.take_left]
        rw [ih fuel y (acc ++ w) hws (fun v hv => hlt v (by simp [hv])) (by simp at hf; omega)]
        simp [List.append_assoc]

theorem wire_some (ws : List Bytes) (h : ∀ w ∈ ws, w.length < 2 ^ 62) :
    ∃ s, wire ws = some s ∧ ws.length ≤ s.length := by
  induction ws with
  | nil => exact ⟨[], rfl, by simp⟩
  | cons w ws ih =>
    obtain ⟨y, hy, hl⟩ := ih (fun v hv => h v (by simp [hv]))
    obtain ⟨x, hx, hxne, _⟩ := dataFrame_parse w [] (h w (by simp))
    refine ⟨x ++ y, by simp [wire, hx, hy], ?_⟩
    have : 0 < x.length := List.length_pos_iff.mpr hxne
    simp only [List.length_cons, List.length_append]
    omega

end Req.Lemmas.C01BodyH3
