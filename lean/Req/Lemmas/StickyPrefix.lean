/-!
Accounting over a writer whose failure is sticky.

A run is a fold of `step` over items; item `x` offers the bytes `data x`. While the state has not
failed, a step adds an accepted prefix `(data x).take n` to the account, and accepting less than
was offered means failure; once failed, nothing more is accepted. Then over the whole run the
account grows by a PREFIX of everything offered — nothing twice, nothing out of order, nothing
after the failure — and by all of it if the run ends without failure. The buffered HTTP/1.1
request writer with its dump wrappers and the HTTP/3 request-body stream are instances.
-/
namespace Req.Lemmas

theorem foldl_acc_prefix {σ ι α : Type} (step : σ → ι → σ) (acc : σ → List α) (failed : σ → Bool)
    (data : ι → List α)
    (hstep : ∀ s x, failed s = false → ∃ n, acc (step s x) = acc s ++ (data x).take n ∧
      (n < (data x).length → failed (step s x) = true))
    (hstuck : ∀ s x, failed s = true → failed (step s x) = true ∧ acc (step s x) = acc s)
    (xs : List ι) (s : σ) :
    ∃ y, acc (xs.foldl step s) = acc s ++ y ∧ y <+: xs.flatMap data ∧
      (failed s = true → y = [] ∧ failed (xs.foldl step s) = true) ∧
      (failed (xs.foldl step s) = false → y = xs.flatMap data) := by
  induction xs generalizing s with
  | nil => exact ⟨[], by simp, by simp, fun h => ⟨rfl, h⟩, fun _ => rfl⟩
  | cons x xs ih =>
    obtain ⟨y, h1, h2, h3, h4⟩ := ih (step s x)
    rw [List.foldl_cons, List.flatMap_cons]
    cases hf : failed s with
    | true =>
      obtain ⟨hf', ha⟩ := hstuck s x hf
      obtain ⟨rfl, hend⟩ := h3 hf'
      exact ⟨[], by rw [h1, ha], List.nil_prefix, fun _ => ⟨rfl, hend⟩, fun h => by rw [hend] at h; cases h⟩
    | false =>
      obtain ⟨n, ha, hshort⟩ := hstep s x hf
      -- a short count is a failure, after which the rest adds nothing and the run ends failed
      have short : n < (data x).length → y = [] ∧ failed (xs.foldl step (step s x)) = true :=
        fun hn => h3 (hshort hn)
      refine ⟨(data x).take n ++ y, by rw [h1, ha, List.append_assoc], ?_, (nomatch ·), fun hend => ?_⟩
      · rcases Nat.lt_or_ge n (data x).length with hn | hn
        · rw [(short hn).1, List.append_nil]
          exact (List.take_prefix _ _).trans (List.prefix_append _ _)
        · rw [List.take_of_length_le hn]
          exact (List.prefix_append_right_inj _).mpr h2
      · rcases Nat.lt_or_ge n (data x).length with hn | hn
        · rw [(short hn).2] at hend; cases hend
        · rw [List.take_of_length_le hn, h4 hend]

end Req.Lemmas
