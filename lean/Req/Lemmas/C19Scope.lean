import Req.Client.Scope
import Req.Lemmas.ListFacts
/-!
Helper lemmas for C19 on the value model. A value state changes in two ways: one record is rewritten
by a function of that record (`updOwner`), or a record is appended (`push`). A settings primitive is the
first kind (`stepV_static`, `stepOwner`), and so is a run of them aimed at one record (`runV_static`);
every operation of the API is one of the two, with the argument given by `stepOp_set`, `stepOp_clone`,
`stepOp_newReq`, `stepOp_newClient`, `stepOp_exec`, `stepOp_nil`. The frame, scope and binding-time theorems
of `Props/C19*.lean` are read off these equations and the few laws of `updOwner` / `push`. On values a table
matters only through which fields it carries (`stepOp_congr`).
-/
namespace Req.Scope

theorem updOwner_other (s : VState) (o b : Nat) (g : VOwner → VOwner) (h : o ≠ b) :
    (s.updOwner o g).owner b = s.owner b := by
  unfold VState.updOwner
  split
  · simp [Ne.symm h]
  · rfl

theorem updOwner_count (s : VState) (o : Nat) (g : VOwner → VOwner) : (s.updOwner o g).count = s.count := by
  unfold VState.updOwner
  split <;> rfl

theorem updOwner_self (s : VState) (o : Nat) (g : VOwner → VOwner) (h : o < s.count) :
    (s.updOwner o g).owner o = g (s.owner o) := by
  simp [VState.updOwner, h]

theorem updOwner_ge (s : VState) (o : Nat) (g : VOwner → VOwner) (ho : ¬ o < s.count) : s.updOwner o g = s := by
  simp [VState.updOwner, ho]

theorem updOwner_id (s : VState) (o : Nat) : s.updOwner o (fun w => w) = s := by
  unfold VState.updOwner
  split
  · congr 1; funext i; split <;> simp_all
  · rfl

theorem updOwner_updOwner (s : VState) (o : Nat) (g1 g2 : VOwner → VOwner) :
    (s.updOwner o g1).updOwner o g2 = s.updOwner o (fun w => g2 (g1 w)) := by
  by_cases ho : o < s.count
  · simp only [VState.updOwner, ho, if_true]
    congr 1; funext i; split <;> rfl
  · rw [updOwner_ge s o g1 ho, updOwner_ge s o g2 ho, updOwner_ge s o _ ho]

theorem updOwner_congr (s : VState) (o : Nat) {g1 g2 : VOwner → VOwner} (h : g1 (s.owner o) = g2 (s.owner o)) :
    s.updOwner o g1 = s.updOwner o g2 := by
  unfold VState.updOwner; rw [h]

theorem setVal_same (w : VOwner) (f : Field) : w.setVal f (w.val f) = w := by
  cases w with
  | mk parent val =>
    unfold VOwner.setVal
    congr 1
    funext g
    by_cases hg : g = f <;> simp [hg]

theorem updOwner_comm (s : VState) {a b : Nat} (hne : a ≠ b) (g1 g2 : VOwner → VOwner) :
    (s.updOwner a g1).updOwner b g2 = (s.updOwner b g2).updOwner a g1 := by
  unfold VState.updOwner
  by_cases ha : a < s.count <;> by_cases hb : b < s.count <;> simp only [ha, hb, if_true, if_false]
  congr 1; funext i
  by_cases h1 : i = a <;> by_cases h2 : i = b <;> simp_all

/-- The other way a value state changes (beside `updOwner`): a record is appended. The model has no such function:
`stepV` writes the appended state out in its `newClient` and `derive` cases (`stepV_derive`). -/
def VState.push (s : VState) (w : VOwner) : VState :=
  ⟨s.count + 1, fun i => if i = s.count then w else s.owner i⟩

theorem push_owner_old (s : VState) (w : VOwner) {b : Nat} (hb : b < s.count) : (s.push w).owner b = s.owner b :=
  if_neg (Nat.ne_of_lt hb)

theorem push_owner_new (s : VState) (w : VOwner) : (s.push w).owner s.count = w := if_pos rfl

theorem push_updOwner_new (s : VState) (w : VOwner) (g : VOwner → VOwner) :
    (s.push w).updOwner s.count g = s.push (g w) := by
  simp only [VState.updOwner, VState.push, Nat.lt_succ_self, if_true]
  congr 1; funext i; split <;> rfl

theorem push_updOwner_old (s : VState) (w : VOwner) {o : Nat} (ho : o < s.count) (g : VOwner → VOwner) :
    (s.push w).updOwner o g = (s.updOwner o g).push w := by
  simp only [VState.updOwner, VState.push, ho, Nat.lt_succ_of_lt ho, if_true, Nat.ne_of_lt ho, if_false]
  congr 1; funext i
  by_cases h1 : i = s.count
  · simp [h1, Nat.ne_of_gt ho]
  · simp [h1]

theorem updOwner_parent (s : VState) (o : Nat) (g : VOwner → VOwner) (hg : ∀ w, (g w).parent = w.parent) (b : Nat) :
    ((s.updOwner o g).owner b).parent = (s.owner b).parent := by
  unfold VState.updOwner
  split
  · simp only
    by_cases hb : b = o
    · subst hb; simp [hg]
    · simp [hb]
  · rfl

/-- the record a settings primitive is aimed at (`none`: the primitive appends a record, or is a `jarStore`,
whose target depends on the state) -/
def staticTarget : Prim → Option Nat
  | .jarStore _ _ => none
  | .newClient => none
  | .derive _ _ _ => none
  | .set o _ _ _ => some o
  | .add o _ _ _ => some o
  | .replace o _ _ => some o
  | .clear o _ => some o
  | .append o _ _ => some o
  | .copyFrom o _ _ => some o
  | .wrap o _ _ _ _ => some o

/-- effect of a settings primitive on the record it is aimed at -/
def stepOwner (w : VOwner) : Prim → VOwner
  | .set _ f k vs => if kind f = .box then w.setVal f ((w.val f).set k vs) else w
  | .add _ f k vs => if kind f = .box then w.setVal f ((w.val f).addMany k vs) else w
  | .replace _ f m => w.setVal f (norm (kind f) m)
  | .clear _ f => w.setVal f []
  | .append _ f xs => if kind f = .slice then w.setVal f (appendV (w.val f) xs) else w
  | .copyFrom _ dst src => w.setVal dst (norm (kind dst) (w.val src))
  | .wrap _ sl ch xs _ =>
    if kind sl = .slice ∧ kind ch = .box ∧ ¬ xs.isEmpty then
      let w1 := if (w.val ch).toList.isEmpty then w.setVal sl (AMap.ofList xs)
                else w.setVal sl (appendV (w.val sl) xs)
      w1.setVal ch ((w1.val ch).set 0 ((w1.val ch).toList ++ xs))
    else w
  | _ => w

theorem stepV_static {p : Prim} {o : Nat} (h : staticTarget p = some o) (s : VState) :
    stepV s p = s.updOwner o (stepOwner · p) := by
  cases p <;> cases h <;> simp only [stepV, stepOwner]
  case set | add | append | wrap => split <;> first | rfl | exact (updOwner_id s _).symm

theorem stepOwner_parent (w : VOwner) (p : Prim) : (stepOwner w p).parent = w.parent := by
  cases p <;> simp only [stepOwner]
  case set | add | append => split <;> rfl
  case wrap =>
    split
    · simp only [VOwner.setVal]; split <;> rfl
    · rfl
  all_goals rfl

theorem foldl_stepOwner_parent : ∀ (ps : List Prim) (w : VOwner), (ps.foldl stepOwner w).parent = w.parent := by
  intro ps
  induction ps with
  | nil => intro w; rfl
  | cons p ps ih => intro w; rw [List.foldl_cons, ih, stepOwner_parent]

theorem stepV_count_le (s : VState) (p : Prim) : s.count ≤ (stepV s p).count := by
  cases h : staticTarget p with
  | some o => rw [stepV_static h, updOwner_count]; exact Nat.le_refl _
  | none =>
    cases p
    case newClient => exact Nat.le_succ _
    case derive => simp only [stepV]; split <;> simp
    case jarStore =>
      simp only [stepV]
      split
      · split <;> simp [updOwner_count]
      · exact Nat.le_refl _
    all_goals cases h

theorem stepV_parent (s : VState) (p : Prim) (b : Nat) (hb : b < s.count) :
    ((stepV s p).owner b).parent = (s.owner b).parent := by
  cases h : staticTarget p with
  | some o => rw [stepV_static h]; exact updOwner_parent _ _ _ (fun w => stepOwner_parent w p) b
  | none =>
    cases p
    case newClient => simp [stepV, Nat.ne_of_lt hb]
    case derive =>
      simp only [stepV]
      split
      · simp [Nat.ne_of_lt hb]
      · rfl
    case jarStore =>
      simp only [stepV]
      split
      · split
        · exact updOwner_parent _ _ _ (by intro w; rfl) b
        · rfl
      · rfl
    all_goals cases h

theorem runV_count_le : ∀ (ps : List Prim) (s : VState), s.count ≤ (runV s ps).count := by
  intro ps
  induction ps with
  | nil => intro s; exact Nat.le_refl _
  | cons p ps ih =>
    intro s
    simp only [runV, List.foldl_cons]
    exact Nat.le_trans (stepV_count_le s p) (ih (stepV s p))

theorem runV_parent (b : Nat) : ∀ (ps : List Prim) (s : VState), b < s.count →
    ((runV s ps).owner b).parent = (s.owner b).parent := by
  intro ps
  induction ps with
  | nil => intro s _; rfl
  | cons p ps ih =>
    intro s hb
    simp only [runV, List.foldl_cons]
    have h2 := ih (stepV s p) (Nat.lt_of_lt_of_le hb (stepV_count_le s p))
    simp only [runV] at h2
    rw [h2, stepV_parent s p b hb]

theorem setter_static (o : Nat) (st : Setter) : ∀ p ∈ st.prims o, staticTarget p = some o := by
  intro p hp
  cases st <;> simp only [Setter.prims, List.mem_cons, List.mem_append, List.not_mem_nil, or_false] at hp
  case dumpWithout mask =>
    rcases hp with (((hp | hp) | hp) | hp) | rfl
    any_goals rw [List.mem_ite_l hp]
    all_goals rfl
  all_goals
    repeat' rcases hp with rfl | hp
    all_goals first | rfl | exact hp ▸ rfl

theorem runV_static (o : Nat) : ∀ (ps : List Prim) (s : VState), (∀ p ∈ ps, staticTarget p = some o) →
    runV s ps = s.updOwner o (ps.foldl stepOwner ·) := by
  intro ps
  induction ps with
  | nil => intro s _; exact (updOwner_id s o).symm
  | cons p ps ih =>
    intro s h
    have := ih (stepV s p) fun q hq => h q (List.mem_cons_of_mem _ hq)
    simp only [runV, List.foldl_cons] at this ⊢
    rw [this, stepV_static (h p (List.mem_cons_self ..)), updOwner_updOwner]

theorem stepV_derive (s : VState) {i : Nat} (hi : i < s.count) (t : Table) (req : Bool) :
    stepV s (.derive i t req) = s.push ⟨if req then some i else none, deriveVal t (s.owner i)⟩ := by
  simp only [stepV, hi, if_true]; rfl

theorem runV_push (s : VState) (w : VOwner) (ps : List Prim) (h : ∀ p ∈ ps, staticTarget p = some s.count) :
    runV (s.push w) ps = s.push (ps.foldl stepOwner w) := by
  rw [runV_static s.count ps _ h, push_updOwner_new]

theorem stepOp_set (tc tr : Table) (s : VState) (o : Nat) (st : Setter) :
    stepOp tc tr s (.set o st) = s.updOwner o ((st.prims o).foldl stepOwner ·) := by
  rw [← runV_static o _ s (setter_static o st)]
  simp [stepOp, observe, compile]

/-- the record `Clone` (table `t`) makes from record `w`: what the table carries, the closure chains rebuilt from
the wrapper slices, a jar from the factory. The record index `0` in the primitives is a dummy: `stepOwner` does not
read it (`compile` has the index of the new record there, which is how `stepOp_clone` ends in `rfl`). -/
def cloned (t : Table) (w : VOwner) : VOwner :=
  [Prim.copyFrom 0 F.wrapChain F.wrappers, .copyFrom 0 F.tWrapChain F.tWrappers, .copyFrom 0 F.jar F.jarFactory].foldl
    stepOwner ⟨none, deriveVal t w⟩

theorem stepOp_clone (tc tr : Table) (s : VState) {i : Nat} (hi : i < s.count) :
    stepOp tc tr s (.clone i) = s.push (cloned tc (s.owner i)) := by
  have : stepOp tc tr s (.clone i) = runV (stepV s (.derive i tc false))
      [.copyFrom s.count F.wrapChain F.wrappers, .copyFrom s.count F.tWrapChain F.tWrappers,
       .copyFrom s.count F.jar F.jarFactory] := by
    simp [stepOp, observe, compile, hi, runV]
  rw [this, stepV_derive s hi, runV_push]
  · rfl
  · intro p hp; simp at hp; rcases hp with rfl | rfl | rfl <;> rfl

/-- the record `R()` (table `t`) makes from record `w` of client `c`: what the table carries, all dump parts on
(record index `0`: a dummy, as in `cloned`) -/
def requestOf (t : Table) (c : Nat) (w : VOwner) : VOwner :=
  [Prim.set 0 F.dumpReqH 0 [1], .set 0 F.dumpReqB 0 [1], .set 0 F.dumpRespH 0 [1], .set 0 F.dumpRespB 0 [1]].foldl
    stepOwner ⟨some c, deriveVal t w⟩

theorem stepOp_newReq (tc tr : Table) (s : VState) {c : Nat} (hc : c < s.count) :
    stepOp tc tr s (.newReq c) = s.push (requestOf tr c (s.owner c)) := by
  have : stepOp tc tr s (.newReq c) = runV (stepV s (.derive c tr true))
      [.set s.count F.dumpReqH 0 [1], .set s.count F.dumpReqB 0 [1], .set s.count F.dumpRespH 0 [1],
       .set s.count F.dumpRespB 0 [1]] := by
    simp [stepOp, observe, compile, hc, runV]
  rw [this, stepV_derive s hc, runV_push]
  · rfl
  · intro p hp; simp at hp; rcases hp with rfl | rfl | rfl | rfl <;> rfl

theorem stepOp_newClient (tc tr : Table) (s : VState) :
    stepOp tc tr s .newClient = s.push (stepOwner ⟨none, initVal⟩ (.copyFrom 0 F.jar F.jarFactory)) := by
  have : stepOp tc tr s .newClient = runV (s.push ⟨none, initVal⟩) [.copyFrom s.count F.jar F.jarFactory] := by
    simp [stepOp, observe, compile, runV, stepV, VState.push]
  rw [this, runV_push]
  · rfl
  · intro p hp; simp at hp; subst hp; rfl

/-- a successful execution whose response sets cookie `sc` stores it in the jar of the request's client -/
theorem stepOp_exec (tc tr : Table) (s : VState) (r m md : Nat) (path : List Seg) (sc : Nat) :
    stepOp tc tr s (.exec r m md path sc) =
      if observe s (.exec r m md path sc) = .err ∨ sc = 0 ∨ ¬ r < s.count then s else
      match (s.owner r).parent with
      | some c => s.updOwner c fun w => w.setVal F.jar ((w.val F.jar).add 0 sc)
      | none => s := by
  unfold stepOp
  by_cases he : observe s (.exec r m md path sc) = .err
  · simp [he]
  by_cases hsc : sc = 0
  · simp [hsc, compile, runV]
  by_cases hr : r < s.count
  · simp only [he, hsc, hr, compile, runV, List.foldl_cons, List.foldl_nil, stepV, if_true, if_false, or_self, not_true]
    cases (s.owner r).parent <;> rfl
  · simp [he, hsc, hr, compile, runV, stepV]

/-- an operation that compiles to no primitive (`GetCookies`, a probe, `Clone` / `R()` of no record) changes nothing -/
theorem stepOp_nil (tc tr : Table) (s : VState) (op : Op) (h : compile tc tr s.count op = []) : stepOp tc tr s op = s := by
  unfold stepOp; split
  · rfl
  · rw [h]; rfl

theorem stepOp_count_le (tc tr : Table) (s : VState) (op : Op) : s.count ≤ (stepOp tc tr s op).count := by
  unfold stepOp
  split
  · exact Nat.le_refl _
  · exact runV_count_le _ s

/-- `deriveVal` asks a table only whether a field is `absent`: `assigned` and `fresh` are the same copy on values -/
theorem deriveVal_congr (t t' : Table) (hcl : ∀ f, t f = .absent ↔ t' f = .absent) (w : VOwner) :
    deriveVal t w = deriveVal t' w := by
  funext f
  unfold deriveVal
  have := hcl f
  cases ht : t f <;> cases ht' : t' f <;> simp [ht, ht'] at this ⊢

theorem stepOp_congr (tc tr tc' tr' : Table) (hc : ∀ f, tc f = .absent ↔ tc' f = .absent)
    (hr : ∀ f, tr f = .absent ↔ tr' f = .absent) (s : VState) (op : Op) :
    stepOp tc tr s op = stepOp tc' tr' s op := by
  cases op with
  | clone i =>
    by_cases hi : i < s.count
    · rw [stepOp_clone _ _ _ hi, stepOp_clone _ _ _ hi, cloned, cloned, deriveVal_congr tc tc' hc]
    · rw [stepOp_nil tc tr s (.clone i) (if_neg hi), stepOp_nil tc' tr' s (.clone i) (if_neg hi)]
  | newReq i =>
    by_cases hi : i < s.count
    · rw [stepOp_newReq _ _ _ hi, stepOp_newReq _ _ _ hi, requestOf, requestOf, deriveVal_congr tr tr' hr]
    · rw [stepOp_nil tc tr s (.newReq i) (if_neg hi), stepOp_nil tc' tr' s (.newReq i) (if_neg hi)]
  | _ => rfl

theorem runWith_congr (tc tr tc' tr' : Table) (hc : ∀ f, tc f = .absent ↔ tc' f = .absent)
    (hr : ∀ f, tr f = .absent ↔ tr' f = .absent) : ∀ (ops : List Op) (s : VState),
    runWith tc tr s ops = runWith tc' tr' s ops := by
  intro ops
  induction ops with
  | nil => intro s; rfl
  | cons op ops ih =>
    intro s
    simp only [runWith]
    rw [stepOp_congr tc tr tc' tr' hc hr s op, ih]

end Req.Scope
