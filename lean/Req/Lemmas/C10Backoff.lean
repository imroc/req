import Req.Client.Backoff
/-! Arithmetic of `Req.Backoff`: `temp = min(max, min·2^attempt)`, halving by `Int.tdiv`, the jitter. -/
namespace Req.Lemmas.C10Backoff
open Req.Backoff

theorem two_pow_mono {a b : Nat} (h : a ≤ b) : (2 : Int) ^ a ≤ 2 ^ b := by
  exact_mod_cast Nat.pow_le_pow_right (by decide : 2 > 0) h

/-- `Int.tdiv · 2` in terms that `omega` understands. -/
theorem tdiv_two (v : Int) : (0 ≤ v ∧ v.tdiv 2 = v / 2) ∨ (v < 0 ∧ v.tdiv 2 = -(-v / 2)) := by
  by_cases h : 0 ≤ v
  · exact .inl ⟨h, Int.tdiv_eq_ediv_of_nonneg h⟩
  · refine .inr ⟨by omega, ?_⟩
    rw [← Int.tdiv_eq_ediv_of_nonneg (by omega), ← Int.neg_tdiv, Int.neg_neg]

theorem tdiv_two_nonpos (v : Int) (h : v ≤ 1) : v.tdiv 2 ≤ 0 := by
  rcases tdiv_two v with h' | h' <;> omega

theorem temp_le (mn mx : Int) (a : Nat) : temp mn mx a ≤ mx := by
  unfold temp
  simp only
  split <;> omega

/-- From the first retry on, a positive `min` has been doubled at least once unless `max` cut it short. -/
theorem temp_bounds (mn mx : Int) (a : Nat) (hb : 0 < mn) (ha : 1 ≤ a) :
    temp mn mx a = mx ∨ 2 * mn ≤ temp mn mx a := by
  have hp : (2 : Int) ^ 1 ≤ 2 ^ a := two_pow_mono ha
  have hx : mn * 2 ^ 1 ≤ mn * (2 : Int) ^ a := Int.mul_le_mul_of_nonneg_left hp (Int.le_of_lt hb)
  unfold temp
  simp only
  split <;> omega

theorem temp_nonpos (mn mx : Int) (a : Nat) (hb : mn ≤ 0) : temp mn mx a ≤ 0 := by
  have hx : mn * (2 : Int) ^ a ≤ 0 :=
    Int.mul_nonpos_of_nonpos_of_nonneg hb (Int.le_of_lt (Int.pow_pos (by decide)))
  unfold temp
  simp only
  split <;> omega

/-- `rand.Int63n(h)` stays below `h`. -/
theorem jitter_lt (h : Int) (j : Nat) (hp : 0 < h) : ((j % h.toNat : Nat) : Int) < h := by
  have : j % h.toNat < h.toNat := Nat.mod_lt _ (by omega)
  omega

end Req.Lemmas.C10Backoff
