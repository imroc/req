import Req.Lemmas.C09PoolExcl
/-! Slot accounting of the pool model (C09): `connsPerHost[k]` = live connections + running dials,
hence the "connCount underflow" panic of `decConnsPerHost` is unreachable. -/
namespace Req.Lemmas.C09PoolCount
open Req.Pool.H1Pool Req.Lemmas.C09Pool Req.Lemmas.C09PoolExcl

/-- `List.countP`, as a recursion of its own: core has no `countP_erase`, and the accounting turns on that
lemma (`cnt_erase`). -/
def cnt (p : Nat → Bool) : List Nat → Nat
  | [] => 0
  | a :: l => (if p a then 1 else 0) + cnt p l

theorem cnt_congr (p q : Nat → Bool) (l : List Nat) (h : ∀ x ∈ l, p x = q x) : cnt p l = cnt q l := by
  induction l with
  | nil => rfl
  | cons a t ih =>
    simp only [cnt]
    rw [h a List.mem_cons_self, ih (fun x hx => h x (List.mem_cons_of_mem _ hx))]

theorem cnt_erase (p : Nat → Bool) (l : List Nat) (w : Nat) (hw : w ∈ l) :
    cnt p (l.erase w) + (if p w then 1 else 0) = cnt p l := by
  induction l with
  | nil => cases hw
  | cons a t ih =>
    by_cases hwa : a = w
    · subst hwa; simp [cnt]; omega
    · have hw' : w ∈ t := by
        rcases List.mem_cons.mp hw with h | h
        · exact absurd h.symm hwa
        · exact h
      have hbeq : (a == w) = false := by simpa using hwa
      rw [List.erase_cons, hbeq]
      simp only [cnt, Bool.false_eq_true, if_false]
      have := ih hw'
      omega

theorem cnt_pos_of_mem (p : Nat → Bool) (l : List Nat) (x : Nat) (hx : x ∈ l) (hp : p x = true) : 0 < cnt p l := by
  have := cnt_erase p l x hx
  rw [hp, if_pos rfl] at this
  omega

theorem cnt_flip (p q : Nat → Bool) (l : List Nat) (c : Nat) (hnd : l.Nodup) (hc : c ∈ l)
    (hother : ∀ x, x ≠ c → q x = p x) :
    cnt q l + (if p c then 1 else 0) = cnt p l + (if q c then 1 else 0) := by
  have hq := cnt_erase q l c hc
  have hp := cnt_erase p l c hc
  have : cnt q (l.erase c) = cnt p (l.erase c) :=
    cnt_congr q p _ fun x hx => hother x (hnd.mem_erase_iff.mp hx).1
  omega

def liveCnt (ckey : Conn → Option Key) (closed : Conn → Bool) (k : Key) (l : List Conn) : Nat :=
  cnt (fun c => ckey c == some k && !closed c) l
def dialCnt (wkey : Want → Option Key) (k : Key) (l : List Want) : Nat :=
  cnt (fun w => wkey w == some k) l

theorem dialCnt_cons (wkey : Want → Option Key) (k k' : Key) (w : Want) (l : List Want) (hk : wkey w = some k) :
    dialCnt wkey k' (w :: l) = (if k' = k then 1 else 0) + dialCnt wkey k' l := by
  simp [dialCnt, cnt, hk, eq_comm (a := k')]

theorem dialCnt_erase (wkey : Want → Option Key) (k k' : Key) (w : Want) (l : List Want) (hk : wkey w = some k)
    (hw : w ∈ l) : dialCnt wkey k' (l.erase w) + (if k' = k then 1 else 0) = dialCnt wkey k' l := by
  have := cnt_erase (fun w => wkey w == some k') l w hw
  simpa [dialCnt, hk, eq_comm (a := k')] using this

structure Acct (s : St) : Prop where
  bal : ∀ k, s.cph k = liveCnt s.ckey s.closed k s.conns + dialCnt s.wkey k s.dialing
  noUnderflow : s.underflow = false
  dialWaitKey : ∀ k w, w ∈ s.dialWait k → s.wkey w = some k
  dialingCreated : ∀ w, w ∈ s.dialing → s.wkey w ≠ none

/-- The state handed to `decConnsPerHost(k)`: one slot of key `k` has just been vacated. -/
structure DecPre (s : St) (k : Key) : Prop where
  bal : ∀ k', s.cph k' =
    liveCnt s.ckey s.closed k' s.conns + dialCnt s.wkey k' s.dialing + (if k' = k then 1 else 0)
  noUnderflow : s.underflow = false
  dialWaitKey : ∀ k' w, w ∈ s.dialWait k' → s.wkey w = some k'
  dialingCreated : ∀ w, w ∈ s.dialing → s.wkey w ≠ none

theorem dialWaitKey_upd {s : St} (h : ∀ k w, w ∈ s.dialWait k → s.wkey w = some k) (k : Key) (q : List Want)
    (hq : ∀ x ∈ q, s.wkey x = some k) : ∀ k' w, w ∈ upd s.dialWait k q k' → s.wkey w = some k' := by
  intro k' x hx
  simp only [upd] at hx
  split at hx
  · next he => subst he; exact hq x hx
  · exact h k' x hx

theorem popUntilWaiting_mem (wst : Want → WSt) (l : List Want) :
    (∀ w, (popUntilWaiting wst l).1 = some w → w ∈ l) ∧ (∀ x, x ∈ (popUntilWaiting wst l).2 → x ∈ l) := by
  induction l with
  | nil => simp [popUntilWaiting]
  | cons a q ih =>
    unfold popUntilWaiting
    split
    · constructor
      · intro w hw; simp at hw; subst hw; exact List.mem_cons_self
      · intro x hx; exact List.mem_cons_of_mem _ hx
    · constructor
      · intro w hw; exact List.mem_cons_of_mem _ (ih.1 w hw)
      · intro x hx; exact List.mem_cons_of_mem _ (ih.2 x hx)

theorem Acct_decConns (cfg : Cfg) (hpos : cfg.maxConnsPerHost > 0) (s : St) (k : Key) (h : DecPre s k) :
    Acct (decConns cfg s k) := by
  have hq := fun x hx => h.dialWaitKey k x ((popUntilWaiting_mem s.wst (s.dialWait k)).2 x hx)
  unfold decConns
  split
  · next hle => omega
  · split
    · next hz => have := h.bal k; rw [if_pos rfl] at this; omega
    · split
      · next w q heq =>
        -- the slot goes to a waiting want of the same key
        rw [heq] at hq
        have hwk : s.wkey w = some k :=
          h.dialWaitKey k w ((popUntilWaiting_mem s.wst (s.dialWait k)).1 w (by rw [heq]))
        refine ⟨fun k' => ?_, h.noUnderflow, dialWaitKey_upd h.dialWaitKey k q hq, fun x hx => ?_⟩
        · simp only [startDial]
          rw [dialCnt_cons _ k k' w _ hwk]
          have := h.bal k'
          omega
        · rcases List.mem_cons.mp hx with rfl | hx
          · exact fun e => nomatch hwk.symm.trans e
          · exact h.dialingCreated x hx
      · next q heq =>
        rw [heq] at hq
        refine ⟨fun k' => ?_, h.noUnderflow, dialWaitKey_upd h.dialWaitKey k q hq, h.dialingCreated⟩
        have := h.bal k'
        simp only [upd]
        split
        · next hkk => subst hkk; rw [if_pos rfl] at this; omega
        · next hkk => rw [if_neg hkk] at this; omega

theorem Acct.frame {s s' : St} (h : Acct s) (h1 : s'.cph = s.cph := by rfl) (h2 : s'.ckey = s.ckey := by rfl)
    (h3 : s'.closed = s.closed := by rfl) (h4 : s'.conns = s.conns := by rfl) (h5 : s'.wkey = s.wkey := by rfl)
    (h6 : s'.dialing = s.dialing := by rfl) (h7 : s'.underflow = s.underflow := by rfl)
    (h8 : s'.dialWait = s.dialWait := by rfl) : Acct s' where
  bal := by rw [h1, h2, h3, h4, h5, h6]; exact h.bal
  noUnderflow := by rw [h7]; exact h.noUnderflow
  dialWaitKey := by rw [h8, h5]; exact h.dialWaitKey
  dialingCreated := by rw [h6, h5]; exact h.dialingCreated

theorem liveCnt_close (ckey : Conn → Option Key) (closed : Conn → Bool) (k k' : Key) (l : List Conn)
    (c : Conn) (hnd : l.Nodup) (hc : c ∈ l) (hk : ckey c = some k) (hnc : closed c = false) :
    liveCnt ckey (upd closed c true) k' l + (if k' = k then 1 else 0) = liveCnt ckey closed k' l := by
  have := cnt_flip (fun x => ckey x == some k' && !closed x) (fun x => ckey x == some k' && !upd closed c true x)
    l c hnd hc fun x hx => by simp [upd, hx]
  simpa [liveCnt, hk, hnc, upd, eq_comm (a := k')] using this

theorem liveCnt_create (ckey : Conn → Option Key) (closed : Conn → Bool) (k k' : Key) (l : List Conn)
    (c : Conn) (hc : c ∉ l) :
    liveCnt (upd ckey c (some k)) (upd closed c false) k' (c :: l)
      = (if k' = k then 1 else 0) + liveCnt ckey closed k' l := by
  unfold liveCnt
  simp only [cnt, upd_same]
  have : cnt (fun x => upd ckey c (some k) x == some k' && !upd closed c false x) l
       = cnt (fun x => ckey x == some k' && !closed x) l := by
    apply cnt_congr
    intro x hx
    have hxc : x ≠ c := by intro e; subst e; exact hc hx
    simp [upd, hxc]
  rw [this]
  simp [eq_comm (a := k')]

theorem Acct_closeConn (cfg : Cfg) (hpos : cfg.maxConnsPerHost > 0) (s : St) (c : Conn)
    (hnd : s.conns.Nodup) (hcr : ∀ c, c ∈ s.conns ↔ s.ckey c ≠ none) (h : Acct s) :
    Acct (closeConn cfg s c) := by
  unfold closeConn
  split
  · exact h
  · next hncl =>
    have hnc : s.closed c = false := by simpa using hncl
    split
    · exact h
    · next k hk =>
      apply Acct_decConns cfg hpos
      refine ⟨fun k' => ?_, h.noUnderflow, h.dialWaitKey, h.dialingCreated⟩
      have := liveCnt_close s.ckey s.closed k k' s.conns c hnd ((hcr c).mpr (by rw [hk]; nofun)) hk hnc
      have := h.bal k'
      simp only
      omega

theorem Acct_removeIdleLocked (s : St) (c : Conn) (h : Acct s) : Acct (removeIdleLocked s c).1 := by
  rw [removeIdleLocked_fst]
  split
  · exact h
  · exact h.frame

theorem cleanFront_subset (wst : Want → WSt) (l : List Want) : ∀ x, x ∈ cleanFront wst l → x ∈ l := by
  induction l with
  | nil => simp [cleanFront]
  | cons a q ih =>
    unfold cleanFront
    split
    · intros; assumption
    · intro x hx; exact List.mem_cons_of_mem _ (ih x hx)

theorem DecPre_of_erase (s : St) (w : Want) (k : Key) (hw : w ∈ s.dialing) (hwk : s.wkey w = some k)
    (h : Acct s) : DecPre { s with dialing := s.dialing.erase w } k := by
  refine ⟨fun k' => ?_, h.noUnderflow, h.dialWaitKey, fun x hx => h.dialingCreated x (List.mem_of_mem_erase hx)⟩
  have := dialCnt_erase s.wkey k k' w s.dialing hwk hw
  have := h.bal k'
  simp only
  omega

theorem Acct_create (s : St) (w : Want) (c : Conn) (k : Key) (hwk : s.wkey w = some k)
    (hck : s.ckey c = none) (hmem' : w ∈ s.dialing) (he : Excl s) (h : Acct s) :
    Acct { s with ckey := upd s.ckey c (some k), closed := upd s.closed c false,
                  conns := c :: s.conns, dialing := s.dialing.erase w } := by
  have hcnot : c ∉ s.conns := fun hm => (he.connsCreated c).mp hm hck
  refine ⟨fun k' => ?_, h.noUnderflow, h.dialWaitKey, fun x hx => h.dialingCreated x (List.mem_of_mem_erase hx)⟩
  have := liveCnt_create s.ckey s.closed k k' s.conns c hcnot
  have := dialCnt_erase s.wkey k k' w s.dialing hwk hmem'
  have := h.bal k'
  simp only
  omega

theorem Acct_wantNew (s : St) (w : Want) (k : Key) (hnone : s.wkey w = none) (h : Acct s) :
    Acct { s with wkey := upd s.wkey w (some k) } := by
  have hnotin : w ∉ s.dialing := fun hm => h.dialingCreated w hm hnone
  refine ⟨?_, h.noUnderflow, ?_, ?_⟩
  · intro k'
    have : dialCnt (upd s.wkey w (some k)) k' s.dialing = dialCnt s.wkey k' s.dialing := by
      unfold dialCnt
      apply cnt_congr
      intro x hx
      have : x ≠ w := by intro e; subst e; exact hnotin hx
      simp [upd, this]
    simp only
    rw [this]; exact h.bal k'
  · intro k' x hx
    have e := h.dialWaitKey k' x hx
    have : x ≠ w := by intro e'; subst e'; rw [hnone] at e; cases e
    simp only [upd, this, if_false]; exact e
  · intro x hx
    have : x ≠ w := by intro e; subst e; exact hnotin hx
    simp only [upd, this, if_false]; exact h.dialingCreated x hx

theorem Acct_takeSlot (s : St) (w : Want) (k : Key) (hwk : s.wkey w = some k) (h : Acct s) :
    Acct { s with cph := upd s.cph k (s.cph k + 1), dip := cleanCanceled s.cancelNil s.dip ++ [w],
                  dialing := w :: s.dialing } := by
  refine ⟨fun k' => ?_, h.noUnderflow, h.dialWaitKey, fun x hx => ?_⟩
  · have := h.bal k'
    simp only [upd]
    rw [dialCnt_cons _ k k' w _ hwk]
    split
    · next hkk => subst hkk; omega
    · omega
  · rcases List.mem_cons.mp hx with rfl | hx
    · exact fun e => nomatch hwk.symm.trans e
    · exact h.dialingCreated x hx

theorem Acct_waitSlot (s : St) (w : Want) (k : Key) (hwk : s.wkey w = some k) (h : Acct s) :
    Acct { s with dialWait := upd s.dialWait k (cleanFront s.wst (s.dialWait k) ++ [w]) } :=
  ⟨h.bal, h.noUnderflow, dialWaitKey_upd h.dialWaitKey k _ fun x hx => (List.mem_append.mp hx).elim
    (fun hx => h.dialWaitKey k x (cleanFront_subset _ _ x hx)) fun hx => List.mem_singleton.mp hx ▸ hwk,
   h.dialingCreated⟩

theorem Acct_init : Acct {} :=
  ⟨by intro k; simp [liveCnt, dialCnt, cnt], rfl, by intro k w hw; simp at hw, by intro w hw; simp at hw⟩

end Req.Lemmas.C09PoolCount
