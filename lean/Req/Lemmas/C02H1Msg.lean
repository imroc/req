import Req.C02.H1Body
import Req.Lemmas.C02Reader
import Req.Lemmas.C02H1Simple
import Req.Lemmas.C02Chunked
/-!
C02 — the three HTTP/1.1 body automata started from ANY state of the connection reader
(whatever the head reader left buffered, whatever segmentation the rest of the wire arrives
in): one uniform statement `BodyExact`, each framing an instance of `ExactR.run`.
-/
namespace Req.C02
open Req.Proto

/-- The caller reads exactly `B`: for EVERY sequence of read sizes the bytes handed out are a
prefix of `B`; a run that ends with an error ends with `io.EOF`, and then the bytes are exactly
`B`, `Response.Trailer` received `t`, and the connection reader stands exactly at `rest`; with
positive read sizes and more reads than bytes the run does end.  Unfolded, this is
`ReadsExactly H1Body.read bd B .eof (fun bd' => bd'.trailer = t ∧ bd'.br.rem = rest) B.length`, which
is how the three theorems below and `BodyExact.complete` produce and use it. -/
def BodyExact (bd : H1Body) (B : Bytes) (t : Option Trailer) (rest : Bytes) : Prop :=
  ∀ ks : List Nat,
    (∃ u, B = outBytes (bd.runReads ks).1 ++ u) ∧
    (∀ e, lastErr (bd.runReads ks).1 = some e →
      e = .eof ∧ outBytes (bd.runReads ks).1 = B ∧ (bd.runReads ks).2.trailer = t ∧
      (bd.runReads ks).2.br.rem = rest) ∧
    ((∀ k ∈ ks, 0 < k) → B.length < ks.length → ∃ e, lastErr (bd.runReads ks).1 = some e)

theorem BodyExact.complete {bd : H1Body} {B : Bytes} {t : Option Trailer} {rest : Bytes}
    (h : BodyExact bd B t rest) (ks : List Nat) (hpos : ∀ k ∈ ks, 0 < k) (hlen : B.length < ks.length) :
    outBytes (bd.runReads ks).1 = B ∧ lastErr (bd.runReads ks).1 = some .eof ∧
      (bd.runReads ks).2.trailer = t ∧ (bd.runReads ks).2.br.rem = rest :=
  ReadsExactly.complete (read := H1Body.read) (Q := fun bd' => bd'.trailer = t ∧ bd'.br.rem = rest) h ks hpos hlen

theorem bodyExact_length (br : Bufio) (body rest : Bytes) (hn : 0 < body.length)
    (hrem : br.rem = body ++ rest) (hw : br.WF) :
    BodyExact (H1Body.new (.length body.length) br) body none rest :=
  (limited_exact rest).run ⟨rfl, List.length_pos_iff.mp hn, hrem, rfl, rfl, hw, rfl⟩

theorem bodyExact_close (br : Bufio) (body : Bytes) (hrem : br.rem = body) (hw : br.WF)
    (hfin : br.net.fin = .eof) :
    BodyExact (H1Body.new .close br) body none [] :=
  close_exact.run ⟨⟨rfl, rfl, rfl, hw, hfin⟩, rfl, hrem⟩

theorem bodyExact_chunked (br : Bufio) (cs : List WChunk) (hcs : ∀ c ∈ cs, c.OK br.cap)
    (last : Bytes) (hl : LastOK br.cap last) (tail rest : Bytes) (t : Option Trailer)
    (ht : TrailerOK br.cap tail rest t)
    (hrem : br.rem = wireFrom cs last tail) (hw : br.WF) (hf : br.Fits) :
    BodyExact (H1Body.new .chunked br) (dataOf cs) t rest :=
  (chunked_exact br.cap last tail rest t hl ht).run
    ⟨Chunked.init,
      { src := rfl, noErr := rfl, pos := hrem ▸ CPos.header cs hcs, hdr := rfl, sawEOF := rfl,
        closed := rfl, wf := hw, fits := hf, cap_eq := rfl }⟩

end Req.C02
