import Req.Base.Base64
/-! Helper lemmas for the base64 round trip (C20): the alphabet table read back, a byte
re-assembled from the 6-bit groups it was cut into, and the decoder on a quantum of alphabet bytes. -/
namespace Req.Base64
open Req.Proto

theorem value_alpha : ∀ n, n < 64 → value (alpha n) = some n := by decide +kernel

theorem alpha_ne_pad : ∀ n, n < 64 → (alpha n == pad) = false := by decide +kernel

theorem ofNat_eq (a : UInt8) (n : Nat) (h : n = a.toNat) : UInt8.ofNat n = a := by
  rw [h, UInt8.ofNat_toNat]

theorem sliceDiv {y k : Nat} (x : Nat) (h : y < k) : (x * k + y) / k = x := by
  rw [Nat.add_comm, Nat.add_mul_div_right _ _ (Nat.zero_lt_of_lt h), Nat.div_eq_of_lt h, Nat.zero_add]

/-- the high bits of a byte -/
theorem top (a : UInt8) {k m : Nat} (h : 256 = k * m := by rfl) : a.toNat / m < k :=
  Nat.div_lt_of_lt_mul (by rw [Nat.mul_comm, ← h]; exact a.toNat_lt)

theorem sliceLt {y k : Nat} (x m : Nat) (h : y < k) (hm : 0 < m := by decide) : x % m * k + y < m * k :=
  Nat.lt_of_lt_of_le (Nat.add_lt_add_left h _)
    (by rw [← Nat.succ_mul]; exact Nat.mul_le_mul_right k (Nat.mod_lt x hm))

theorem byte1 (a b : UInt8) :
    UInt8.ofNat (a.toNat / 4 * 4 + (a.toNat % 4 * 16 + b.toNat / 16) / 16) = a :=
  ofNat_eq _ _ (by rw [sliceDiv _ (top b), Nat.div_add_mod'])

/-- `byte1` in the last quantum of a text of length 3n+1: there is no next byte, its share of the
second sextet is 0 -/
theorem byte1' (a : UInt8) :
    UInt8.ofNat (a.toNat / 4 * 4 + (a.toNat % 4 * 16) / 16) = a :=
  ofNat_eq _ _ (by rw [Nat.mul_div_cancel _ (by decide), Nat.div_add_mod'])

theorem byte2 (a b c : UInt8) :
    UInt8.ofNat ((a.toNat % 4 * 16 + b.toNat / 16) % 16 * 16 + (b.toNat % 16 * 4 + c.toNat / 64) / 4) = b :=
  ofNat_eq _ _ (by rw [Nat.mul_add_mod_of_lt (top b), sliceDiv _ (top c), Nat.div_add_mod'])

/-- `byte2` in the last quantum of a text of length 3n+2: no third byte -/
theorem byte2' (a b : UInt8) :
    UInt8.ofNat ((a.toNat % 4 * 16 + b.toNat / 16) % 16 * 16 + (b.toNat % 16 * 4) / 4) = b :=
  ofNat_eq _ _ (by rw [Nat.mul_add_mod_of_lt (top b), Nat.mul_div_cancel _ (by decide), Nat.div_add_mod'])

theorem byte3 (b c : UInt8) :
    UInt8.ofNat ((b.toNat % 16 * 4 + c.toNat / 64) % 4 * 64 + c.toNat % 64) = c :=
  ofNat_eq _ _ (by rw [Nat.mul_add_mod_of_lt (top c), Nat.div_add_mod'])

theorem decode_full {s0 s1 s2 s3 : Nat} (h0 : s0 < 64) (h1 : s1 < 64) (h2 : s2 < 64) (h3 : s3 < 64) (rest : Bytes) :
    decode (alpha s0 :: alpha s1 :: alpha s2 :: alpha s3 :: rest) = (decode rest).map (quad s0 s1 s2 s3 ++ ·) := by
  simp only [decode, alpha_ne_pad _ h3, Bool.and_false, Bool.false_eq_true, if_false, value_alpha _ h0,
    value_alpha _ h1, value_alpha _ h2, value_alpha _ h3]
  cases decode rest <;> rfl

/-- the last quantum of a text of length 3n+2 -/
theorem decode_three {s0 s1 s2 : Nat} (h0 : s0 < 64) (h1 : s1 < 64) (h2 : s2 < 64) (hz : s2 % 4 = 0) :
    decode [alpha s0, alpha s1, alpha s2, pad] =
      some [UInt8.ofNat (s0 * 4 + s1 / 16), UInt8.ofNat (s1 % 16 * 16 + s2 / 4)] := by
  simp only [decode, List.isEmpty_nil, beq_self_eq_true, Bool.and_self, if_true, alpha_ne_pad _ h2,
    Bool.false_eq_true, if_false, value_alpha _ h0, value_alpha _ h1, value_alpha _ h2, hz]

/-- the last quantum of a text of length 3n+1 -/
theorem decode_two {s0 s1 : Nat} (h0 : s0 < 64) (h1 : s1 < 64) (hz : s1 % 16 = 0) :
    decode [alpha s0, alpha s1, pad, pad] = some [UInt8.ofNat (s0 * 4 + s1 / 16)] := by
  simp only [decode, List.isEmpty_nil, beq_self_eq_true, Bool.and_self, if_true, value_alpha _ h0,
    value_alpha _ h1, hz]

end Req.Base64
