import Req.Client.DigestAuth
/-!
Helper lemmas for C20 about `Req.DigestAuth`: what `selectQop`, `pick` and `createDigestAuth` return.
`qopOptions`, with which `Supported`, `Describes` and `issuedOfC` of `Req/Props/C20Digest.lean` are
stated, is defined here.
-/
namespace Req.DigestAuth
open Req.Proto Req.Ascii Req.Digest

/-- the qop options a challenge offers, as a list of tokens -/
def qopOptions (options : Bytes) : List Bytes :=
  if options.isEmpty then [] else (split 44 options).map (trim isOws)

theorem any_beq_eq_contains {α β} [BEq β] [LawfulBEq β] (f : α → β) (a : β) (l : List α) :
    (l.any fun o => f o == a) = (l.map f).contains a := by
  rw [List.contains_eq_any_beq, List.any_map]
  exact List.any_congr rfl fun _ => BEq.comm

theorem selectQop_eq (algOf' : Bytes → Option Alg) (algorithm options : Bytes) :
    selectQop algOf' algorithm options =
      match algOf' algorithm with
      | none => .error .algNotSupported
      | some _ =>
        if (qopOptions options).contains b!"auth" = true then .ok b!"auth"
        else if options = [] then (if isSess algorithm = true then .error .qopNotSupported else .ok [])
        else .error .qopNotSupported := by
  unfold selectQop
  cases halg : algOf' algorithm with
  | none => rfl
  | some alg =>
    simp only
    by_cases ha : ((split 44 options).any fun o => trim isOws o == b!"auth") = true
    · have hne : options ≠ [] := by
        intro e
        subst e
        revert ha
        decide
      have hne' : options.isEmpty = false := by
        cases options with
        | nil => exact absurd rfl hne
        | cons _ _ => rfl
      have hc : (qopOptions options).contains b!"auth" = true := by
        unfold qopOptions
        simp only [hne', Bool.false_eq_true, if_false]
        rw [← any_beq_eq_contains]; exact ha
      simp only [ha, if_true, List.isEmpty_cons, Bool.and_false, Bool.false_and, Bool.false_eq_true, if_false, hc]
    · have hc : (qopOptions options).contains b!"auth" = false := by
        unfold qopOptions
        split
        · rfl
        · rw [← any_beq_eq_contains]; simpa using ha
      simp only [ha, Bool.false_eq_true, if_false, List.isEmpty_nil, Bool.and_true, Bool.true_and, hc]
      cases options with
      | nil => simp
      | cons x xs => simp

theorem selectQop_ok {algOf' : Bytes → Option Alg} {algorithm options qop : Bytes}
    (h : selectQop algOf' algorithm options = .ok qop) :
    (∃ alg, algOf' algorithm = some alg) ∧
    ((qop = [] ∧ options = [] ∧ isSess algorithm = false) ∨
     (qop = b!"auth" ∧ options ≠ [] ∧ (qopOptions options).contains b!"auth" = true)) := by
  rw [selectQop_eq] at h
  cases halg : algOf' algorithm with
  | none => rw [halg] at h; cases h
  | some alg =>
    rw [halg] at h
    refine ⟨⟨alg, rfl⟩, ?_⟩
    simp only at h
    by_cases hc : (qopOptions options).contains b!"auth" = true
    · rw [if_pos hc] at h
      cases h
      exact Or.inr ⟨rfl, by rintro rfl; exact absurd hc (by decide), hc⟩
    · rw [if_neg hc] at h
      by_cases ho : options = []
      · rw [if_pos ho] at h
        by_cases hs : isSess algorithm = true
        · rw [if_pos hs] at h; cases h
        · rw [if_neg hs] at h
          cases h
          exact Or.inl ⟨rfl, ho, by simpa using hs⟩
      · rw [if_neg ho] at h; cases h

theorem selectQop_error_kinds (algOf' : Bytes → Option Alg) (algorithm options : Bytes) :
    (algOf' algorithm = none → selectQop algOf' algorithm options = .error .algNotSupported) ∧
    (∀ e, selectQop algOf' algorithm options = .error e → e = .algNotSupported ∨ e = .qopNotSupported) := by
  rw [selectQop_eq]
  cases algOf' algorithm with
  | none => exact ⟨fun _ => rfl, fun e h => (by cases h; exact Or.inl rfl)⟩
  | some a =>
    refine ⟨fun h => (by cases h), fun e h => ?_⟩
    simp only at h
    split at h
    · cases h
    · split at h
      · split at h <;> cases h
        exact Or.inr rfl
      · cases h; exact Or.inr rfl

theorem answerable_iff (algOf' : Bytes → Option Alg) (c : Challenge) :
    answerable algOf' c = true ↔ ∃ q, selectQop algOf' c.algorithm c.qop = .ok q := by
  unfold answerable
  split
  · rename_i q h; exact ⟨fun _ => ⟨q, h⟩, fun _ => rfl⟩
  · rename_i e h
    constructor
    · intro hh; cases hh
    · rintro ⟨q, hq⟩; rw [hq] at h; cases h

theorem pick_cons (algOf' : Bytes → Option Alg) (c0 : Challenge) (rest : List Challenge) :
    pick algOf' (c0 :: rest) =
      match selectQop algOf' c0.algorithm c0.qop with
      | .ok _ => .ok c0
      | .error e =>
        match rest.find? (answerable algOf') with
        | some c => .ok c
        | none => .error e := rfl

theorem pick_of_find {algOf' : Bytes → Option Alg} {l : List Challenge} {c : Challenge}
    (h : l.find? (answerable algOf') = some c) : pick algOf' l = .ok c := by
  cases l with
  | nil => simp at h
  | cons c0 rest =>
    rw [pick_cons]
    cases hs : selectQop algOf' c0.algorithm c0.qop with
    | ok q =>
      simp only [List.find?_cons, answerable, hs] at h
      cases h
      rfl
    | error e =>
      simp only [List.find?_cons, answerable, hs] at h
      simp only [h]

theorem pick_none {algOf' : Bytes → Option Alg} {l : List Challenge}
    (h : l.find? (answerable algOf') = none) : ∃ e, pick algOf' l = .error e := by
  cases l with
  | nil => exact ⟨_, rfl⟩
  | cons c0 rest =>
    rw [pick_cons]
    cases hs : selectQop algOf' c0.algorithm c0.qop with
    | ok q => simp [answerable, hs] at h
    | error e =>
      simp only [List.find?_cons, answerable, hs] at h
      exact ⟨e, by simp only [h]⟩

/-- `pick` returns the FIRST answerable challenge of the list. -/
theorem pick_ok {algOf' : Bytes → Option Alg} {l : List Challenge} {c : Challenge}
    (h : pick algOf' l = .ok c) : l.find? (answerable algOf') = some c := by
  cases hf : l.find? (answerable algOf') with
  | some c' => rw [pick_of_find hf] at h; cases h; rfl
  | none => obtain ⟨e, he⟩ := pick_none hf; rw [he] at h; cases h

/-- `createDigestAuth` looks at the field lines only through `parseChallenge` of the joined text (no
line at all: both say `badChallenge`) -/
theorem createDigestAuth_eq (H : Alg → Bytes → Bytes) (algOf' : Bytes → Option Alg) (lines : List Bytes)
    (cr : Cred) (rnd : Option Bytes) :
    createDigestAuth H algOf' lines cr rnd =
      match parseChallenge algOf' (commaJoin lines) with
      | .error e => .error e
      | .ok c => authorize H algOf' c cr rnd := by
  unfold createDigestAuth
  cases h : commaJoin lines with
  | nil => rfl
  | cons _ _ => rfl

end Req.DigestAuth
