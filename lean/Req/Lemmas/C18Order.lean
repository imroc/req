import Req.Lemmas.C18Model
/-!
C18 — the shape of the per-attempt invocation log: classes of events (`quiet ⊆ inStep ⊆ inReqLoop`,
`quiet ⊆ inRT`) that each level of the pipeline stays inside, and what the filters `isExch` / `isRResp`
leave of a round trip, of the request-level loop and of an attempt. The event predicates
`Ev.late`, `Ev.isExch`, `Ev.isRResp`, `Ev.isUdReq` and the projections `Out.atts`, `Out.isCrash` that
`request_mw_order`, `response_mw_every_attempt` and `pipeline_never_panics` (`Props/C18Pipeline`) are
stated with are defined here.
-/
namespace Req.Pipeline
open Req.Result

def Ev.isRaised : Ev → Bool
  | .raised _ => true
  | _ => false

def Ev.isUdReq : Ev → Bool
  | .udReq _ => true
  | _ => false

def Ev.isCResp : Ev → Bool
  | .cResp _ => true
  | _ => false

def Ev.isRResp : Ev → Bool
  | .rResp _ => true
  | _ => false

/-- The exchange and the client-level response middleware that follow it. -/
def Ev.isExch : Ev → Bool
  | .send => true
  | .cResp _ => true
  | _ => false

/-- What the leaf steps of the pipeline log: bookkeeping entries and unmarshaller calls, no
invocation of user code or of the transport. -/
def Ev.quiet : Ev → Bool
  | .raised _ | .unm _ => true
  | _ => false

/-- Events a single request-level middleware can add besides its own `rResp` entry. -/
def Ev.inStep : Ev → Bool
  | .raised _ | .unm _ | .resend => true
  | _ => false

/-- Events that can appear inside a round trip (wrappers + Client.roundTrip). -/
def Ev.inRT : Ev → Bool
  | .send | .raised _ | .unm _ | .cResp _ | .wrap _ => true
  | _ => false

/-- Events that can appear in the request-level response loop. -/
def Ev.inReqLoop : Ev → Bool
  | .rResp _ | .raised _ | .unm _ | .resend => true
  | _ => false

/-- Events after the request-middleware phase of an attempt. -/
def Ev.late (e : Ev) : Bool := e.inRT || e.inReqLoop

def StepOut.evs : StepOut → List Ev
  | .cont _ evs => evs
  | .stop _ _ evs => evs
  | .crash => []

/-- The response a request-level middleware leaves (`none` also when it dereferenced nil). -/
def StepOut.respO : StepOut → Option Resp
  | .cont r _ => r
  | .stop r _ _ => r
  | .crash => none

/-! ### how the event classes lie to one another

`quiet ⊆ inStep ⊆ inReqLoop`, `quiet ⊆ inRT`; the request-level loop logs no exchange, a round
trip and a single middleware no `rResp`. -/

theorem Ev.quiet_inRT {e : Ev} (h : e.quiet = true) : e.inRT = true := by
  cases e <;> first | rfl | exact h

theorem Ev.quiet_inStep {e : Ev} (h : e.quiet = true) : e.inStep = true := by
  cases e <;> first | rfl | exact h

theorem Ev.inStep_inReqLoop {e : Ev} (h : e.inStep = true) : e.inReqLoop = true := by
  cases e <;> first | rfl | exact h

theorem Ev.inReqLoop_not_exch {e : Ev} (h : e.inReqLoop = true) : e.isExch = false := by
  cases e <;> first | rfl | cases h

theorem Ev.quiet_not_exch {e : Ev} (h : e.quiet = true) : e.isExch = false :=
  inReqLoop_not_exch (inStep_inReqLoop (quiet_inStep h))

theorem Ev.inRT_not_rresp {e : Ev} (h : e.inRT = true) : e.isRResp = false := by
  cases e <;> first | rfl | cases h

theorem Ev.inStep_not_rresp {e : Ev} (h : e.inStep = true) : e.isRResp = false := by
  cases e <;> first | rfl | cases h

theorem filter_nil_of_forall {p : Ev → Bool} {l : List Ev} (h : ∀ e ∈ l, p e = false) : l.filter p = [] :=
  List.filter_eq_nil_iff.mpr fun e he => by simp [h e he]

theorem udReq_filter_exch (k : Nat) : ((List.range k).map Ev.udReq).filter Ev.isExch = [] :=
  filter_nil_of_forall (List.forall_mem_map.mpr fun _ _ => rfl)

theorem udReq_filter_rresp (k : Nat) : ((List.range k).map Ev.udReq).filter Ev.isRResp = [] :=
  filter_nil_of_forall (List.forall_mem_map.mpr fun _ _ => rfl)

theorem exchange_quiet (s : Stack) (a : Nat) : ∀ e ∈ (exchange s a).2, e.quiet = true := by
  unfold exchange
  split <;> simp [Ev.quiet]

theorem autoRead_quiet (s : Stack) (r : Resp) : ∀ e ∈ (autoRead s r).2, e.quiet = true := by
  unfold autoRead
  split
  · split
    · split <;> simp [Ev.quiet]
    · simp
  · simp

theorem parseResp_quiet (s : Stack) (r : Resp) : ∀ e ∈ (parseResp s r).evs, e.quiet = true := by
  simp only [parseResp, List.forall_mem_append]
  constructor
  · cases (parseBody (bindIn s r)).codec <;> simp [unmEv, Ev.quiet]
  · unfold newErrEv
    split <;> simp [Ev.quiet]

theorem finish_quiet (site : Site) (s : Stack) (a : Nat) (r : Resp) :
    ∀ e ∈ (finish site s a r).evs, e.quiet = true := by
  rw [finish_eq]
  simp only [List.forall_mem_append]
  refine ⟨⟨autoRead_quiet s r, parseResp_quiet s _⟩, ?_⟩
  generalize (cond _ _ _ : Resp × Option Err).2 = sv
  cases sv
  · exact fun _ h => (List.not_mem_nil h).elim
  · exact List.forall_mem_singleton.mpr rfl

theorem clientAct_quiet (r : Resp) (act : RespAct) : ∀ e ∈ (clientAct r act).2, e.quiet = true := by
  cases act <;> simp [clientAct, Ev.quiet]

theorem clientLoop_inRT (i : Nat) (acts : List RespAct) (r : Resp) :
    ∀ e ∈ (clientLoop i acts r).2, e.inRT = true := by
  induction acts generalizing i r with
  | nil => exact fun _ h => (List.not_mem_nil h).elim
  | cons act rest ih =>
    simp only [clientLoop, List.forall_mem_cons, List.forall_mem_append]
    exact ⟨⟨rfl, fun e he => Ev.quiet_inRT (clientAct_quiet r act e he)⟩, ih _ _⟩

theorem clientLoop_exch (i : Nat) (acts : List RespAct) (r : Resp) :
    (clientLoop i acts r).2.filter Ev.isExch = (List.range' i acts.length).map .cResp := by
  induction acts generalizing i r with
  | nil => rfl
  | cons act rest ih =>
    simp only [clientLoop, List.filter_cons, List.filter_append, Ev.isExch, if_true]
    rw [filter_nil_of_forall fun e he => Ev.quiet_not_exch (clientAct_quiet r act e he), ih]
    rfl

theorem clientRoundTrip_inRT (s : Stack) (a : Nat) : ∀ e ∈ (clientRoundTrip s a).evs, e.inRT = true := by
  cases hg : s.getBodyAt a
  · rw [clientRoundTrip_eq s a hg]
    simp only [List.forall_mem_cons, List.forall_mem_append]
    exact ⟨⟨⟨rfl, fun e he => Ev.quiet_inRT (exchange_quiet _ _ e he)⟩,
      fun e he => Ev.quiet_inRT (finish_quiet _ _ _ _ e he)⟩, clientLoop_inRT _ _ _⟩
  · rw [clientRoundTrip_getBody s a hg]; exact List.forall_mem_singleton.mpr rfl

theorem clientRoundTrip_exch (s : Stack) (a : Nat) :
    (clientRoundTrip s a).evs.filter Ev.isExch =
      if s.getBodyAt a then [] else .send :: (List.range s.clientResp.length).map .cResp := by
  cases hg : s.getBodyAt a
  · rw [clientRoundTrip_eq s a hg]
    simp only [List.filter_cons, List.filter_append, Ev.isExch, if_true]
    rw [filter_nil_of_forall fun e he => Ev.quiet_not_exch (exchange_quiet _ _ e he),
      filter_nil_of_forall fun e he => Ev.quiet_not_exch (finish_quiet _ _ _ _ e he), clientLoop_exch]
    simp [Stack.clientAt, List.range_eq_range']
  · rw [clientRoundTrip_getBody s a hg]; rfl

theorem runWrappers_inRT (a : Nat) (core : RT) (hc : ∀ e ∈ core.evs, e.inRT = true) (ws : List (Nat × WAct)) :
    ∀ e ∈ (runWrappers a core ws).evs, e.inRT = true := by
  induction ws with
  | nil => exact hc
  | cons w rest ih =>
    obtain ⟨i, act⟩ := w
    cases act <;> simp only [runWrappers, List.forall_mem_cons, List.forall_mem_append, List.not_mem_nil,
      false_imp_iff, implies_true, and_true]
    case pass | swallow => exact ⟨rfl, ih⟩
    case shortNil | shortFresh => exact ⟨rfl, rfl⟩
    case nilNil => rfl
    case postErr | postNil | postSet => exact ⟨⟨rfl, ih⟩, rfl⟩

/-- A wrapper that calls the inner round-tripper keeps its exchange; one that does not has none. -/
theorem runWrappers_exch (a : Nat) (core : RT) (ws : List (Nat × WAct)) :
    (runWrappers a core ws).evs.filter Ev.isExch = core.evs.filter Ev.isExch ∨
    (runWrappers a core ws).evs.filter Ev.isExch = [] := by
  induction ws with
  | nil => exact .inl rfl
  | cons w rest ih =>
    obtain ⟨i, act⟩ := w
    cases act <;> simp only [runWrappers] <;>
      first
        | exact .inr rfl
        | (simp only [List.filter_cons, List.filter_append, Ev.isExch, List.filter_nil, List.append_nil,
            Bool.false_eq_true, if_false]
           exact ih)

theorem roundTrip_inRT (s : Stack) (a : Nat) : ∀ e ∈ (roundTrip s a).evs, e.inRT = true :=
  runWrappers_inRT a _ (clientRoundTrip_inRT s a) _

theorem roundTrip_exch (s : Stack) (a : Nat) :
    (roundTrip s a).evs.filter Ev.isExch = [] ∨
    (roundTrip s a).evs.filter Ev.isExch = .send :: (List.range s.clientResp.length).map .cResp := by
  rcases runWrappers_exch a (clientRoundTrip s a) (wrapChain (s.wrapAt a)) with h | h
  · rw [roundTrip, h, clientRoundTrip_exch]
    split
    · exact .inl rfl
    · exact .inr rfl
  · exact .inl h

theorem rebind_inStep (s : Stack) (a : Nat) (r : Resp) : ∀ e ∈ (rebind s a r).evs, e.inStep = true := by
  have hq := finish_quiet .digestTail s a r
  rw [rebind_eq]
  dsimp only []
  split <;> exact List.forall_mem_cons.mpr ⟨rfl, fun e he => Ev.quiet_inStep (hq e he)⟩

theorem rebind_respO (s : Stack) (a : Nat) (r : Resp) :
    (rebind s a r).respO = some (finish .digestTail s a r).resp := by
  rw [rebind_eq]
  dsimp only []
  split <;> rfl

theorem digestResend_inStep (fx : Fixes) (s : Stack) (a : Nat) (r : Resp) (re : TOut) :
    ∀ e ∈ (digestResend fx s a r re).evs, e.inStep = true := by
  cases re with
  | fail e => simp [digestResend, StepOut.evs, Ev.inStep]
  | resp h =>
    simp only [digestResend]
    split
    · exact rebind_inStep _ _ _
    · simp [StepOut.evs, Ev.inStep]

theorem digestStep_inStep (fx : Fixes) (s : Stack) (a : Nat) (ok : Bool) (re : TOut) (r : Resp) :
    ∀ e ∈ (digestStep fx s a ok re r).evs, e.inStep = true := by
  rcases digestStep_cases fx s a ok re r with h | ⟨_, h⟩ | ⟨_, h⟩ | ⟨_, _, h⟩ <;> rw [h]
  · exact fun _ h => (List.not_mem_nil h).elim
  · exact fun _ h => (List.not_mem_nil h).elim
  · exact List.forall_mem_singleton.mpr rfl
  · exact digestResend_inStep _ _ _ _ _

theorem stageStep_inStep (fx : Fixes) (s : Stack) (a : Nat) (resp : Option Resp) (act : RAct) :
    ∀ e ∈ (stageStep fx s a resp act).evs, e.inStep = true := by
  cases act with
  | mw m => cases m <;> simp [stageStep, StepOut.evs, Ev.inStep]
  | digest ok re =>
    cases resp with
    | none => simp [stageStep, StepOut.evs]
    | some r => exact digestStep_inStep fx s a ok re r

/-- `j` is how many request-level middleware ran: all of them unless one `return`ed or crashed. -/
theorem reqRespLoop_rresp (fx : Fixes) (s : Stack) (a : Nat) (acts : List RAct) :
    ∀ i resp err, ∃ j, j ≤ acts.length ∧ (acts ≠ [] → 0 < j) ∧
      (reqRespLoop fx s a i acts resp err).evs.filter Ev.isRResp = (List.range' i j).map .rResp ∧
      (j < acts.length → (reqRespLoop fx s a i acts resp err).returned = true ∨
                          (reqRespLoop fx s a i acts resp err).crash = true) := by
  induction acts with
  | nil => exact fun i resp err => ⟨0, Nat.le_refl _, fun h => absurd rfl h, rfl, fun h => (Nat.not_lt_zero _ h).elim⟩
  | cons act rest ih =>
    intro i resp err
    have hstep := stageStep_inStep fx s a resp act
    have one : 1 ≤ (act :: rest).length := Nat.succ_le_succ (Nat.zero_le _)
    simp only [reqRespLoop]
    generalize stageStep fx s a resp act = st at hstep ⊢
    rcases st with ⟨r1, evs⟩ | ⟨r1, e, evs⟩ | _
    · obtain ⟨j, h1, _, h3, h4⟩ := ih (i + 1) r1 (if fx.keepErr then err else none)
      refine ⟨j + 1, Nat.succ_le_succ h1, fun _ => Nat.succ_pos _, ?_, fun hj => h4 (Nat.lt_of_succ_lt_succ hj)⟩
      simp only [List.filter_cons, Ev.isRResp, if_true, List.filter_append]
      rw [filter_nil_of_forall (l := evs) fun e he => Ev.inStep_not_rresp (hstep e he), h3]
      rfl
    · refine ⟨1, one, fun _ => Nat.one_pos, ?_, fun _ => .inl rfl⟩
      simp only [List.filter_cons, Ev.isRResp, if_true]
      rw [filter_nil_of_forall (l := evs) fun e he => Ev.inStep_not_rresp (hstep e he)]
      rfl
    · exact ⟨1, one, fun _ => Nat.one_pos, rfl, fun _ => .inr rfl⟩

theorem reqRespLoop_inReqLoop (fx : Fixes) (s : Stack) (a : Nat) (acts : List RAct) :
    ∀ i resp err, ∀ e ∈ (reqRespLoop fx s a i acts resp err).evs, e.inReqLoop = true := by
  induction acts with
  | nil => exact fun _ _ _ _ h => (List.not_mem_nil h).elim
  | cons act rest ih =>
    intro i resp err
    have hstep := stageStep_inStep fx s a resp act
    simp only [reqRespLoop]
    generalize stageStep fx s a resp act = st at hstep ⊢
    rcases st with ⟨r1, evs⟩ | ⟨r1, e', evs⟩ | _ <;>
      simp only [List.forall_mem_cons, List.forall_mem_append, List.not_mem_nil, false_imp_iff, implies_true, and_true]
    · exact ⟨⟨rfl, fun e he => Ev.inStep_inReqLoop (hstep e he)⟩, ih _ _ _⟩
    · exact ⟨rfl, fun e he => Ev.inStep_inReqLoop (hstep e he)⟩
    · rfl

theorem late_filter_rresp (s : Stack) (a n : Nat) (evs : List Ev) :
    ((List.range n).map Ev.udReq ++ .builtin :: (roundTrip s a).evs ++ evs).filter Ev.isRResp = evs.filter Ev.isRResp := by
  simp only [List.filter_append, List.filter_cons, udReq_filter_rresp, Ev.isRResp, List.nil_append,
    Bool.false_eq_true, if_false]
  rw [filter_nil_of_forall fun e he => Ev.inRT_not_rresp (roundTrip_inRT s a e he), List.nil_append]

theorem attempt_exchange (fx : Fixes) (s : Stack) (a : Nat) (prev : Option Resp) :
    (attempt fx s a prev).evs.filter Ev.isExch = [] ∨
    (attempt fx s a prev).evs.filter Ev.isExch = .send :: (List.range s.clientResp.length).map .cResp := by
  rcases attempt_cases fx s a prev with ⟨k, e, h⟩ | ⟨_, _, h⟩ <;> rw [h]
  · exact .inl (by simp [udReq_filter_exch, Ev.isExch])
  · simp only [List.filter_append, List.filter_cons, udReq_filter_exch, Ev.isExch, List.nil_append,
      Bool.false_eq_true, if_false]
    rw [filter_nil_of_forall fun e he => Ev.inReqLoop_not_exch (reqRespLoop_inReqLoop fx s a _ _ _ _ e he),
      List.append_nil]
    exact roundTrip_exch s a

theorem attempt_rresp (fx : Fixes) (s : Stack) (a : Nat) (prev : Option Resp)
    (hb : .builtin ∈ (attempt fx s a prev).evs) :
    ∃ j, j ≤ s.reqResp.length ∧ (s.reqResp ≠ [] → 0 < j) ∧
      (attempt fx s a prev).evs.filter Ev.isRResp = (List.range j).map .rResp ∧
      (j < s.reqResp.length → (attempt fx s a prev).returned = true ∨ (attempt fx s a prev).crash = true) := by
  rcases attempt_cases fx s a prev with ⟨k, e, h⟩ | ⟨_, _, h⟩
  · rw [h] at hb; simp at hb
  rw [h]
  simp only []
  generalize (if fx.nilGuard = true then _ else _ : Option Resp) = resp
  obtain ⟨j, hj1, hj2, hj3, hj4⟩ := reqRespLoop_rresp fx s a (s.reqRespAt a) 0 resp (roundTrip s a).err
  have hlen : (s.reqRespAt a).length = s.reqResp.length := List.length_map _
  rw [hlen] at hj1 hj4
  refine ⟨j, hj1, fun hne => hj2 fun h => hne (List.map_eq_nil_iff.mp h), ?_, hj4⟩
  rw [late_filter_rresp, hj3, List.range_eq_range']

def Out.atts : Out → List Att
  | .crash a => a
  | .ret _ _ _ a => a
  | .mustPanic _ _ a => a
  | .exhausted a => a

def Out.isCrash : Out → Bool
  | .crash _ => true
  | _ => false

theorem run_atts (fx : Fixes) (s : Stack) : (run fx s).atts = (callDo fx s).atts := by
  unfold run
  generalize callDo fx s = d
  obtain ⟨atts, resp, err, crash, exh⟩ := d
  cases crash <;> cases exh <;> cases resp <;> try rfl
  generalize s.entry = en
  cases en <;> try rfl
  simp only [Bool.false_eq_true, if_false]
  split <;> rfl

end Req.Pipeline
