import Req.Lemmas.H1Mime
/-!
The chunked body reader: the chunk-size line specified once (`readChunkLine_eq_some`), one round of the
chunk loop as an equation (`chunkLoop_step`), then extension stability and prefix monotonicity of the
loop, of the trailer reader and of `readBody`.
-/
namespace Req.H1
open Req.Proto

/-- A chunk-size line is read iff the stream has an LF within the buffer and the line limit. -/
theorem readChunkLine_eq_some {B : Nat} {s line r : Bytes} :
    readChunkLine B s = some (line, r) ↔
      ∃ a, splitLF s = some (a, r) ∧ line = a ++ [LF] ∧ a.length + 1 ≤ B ∧ a.length + 1 < maxLineLength := by
  unfold readChunkLine
  split
  · simp [*]
  · next a rest hs =>
    simp only [hs, Option.some.injEq, Prod.mk.injEq]
    split
    · next hc =>
      simp only [Option.some.injEq, Prod.mk.injEq]
      exact ⟨fun ⟨h1, h2⟩ => ⟨a, ⟨rfl, h2⟩, h1.symm, hc⟩, fun ⟨a', ⟨h1, h2⟩, h3, _⟩ => ⟨h1 ▸ h3.symm, h2⟩⟩
    · next hc => exact ⟨nofun, fun ⟨a', ⟨h1, _⟩, _, h4⟩ => absurd (h1 ▸ h4) hc⟩

theorem readChunkLine_append {B : Nat} {s line r : Bytes}
    (h : readChunkLine B s = some (line, r)) (t : Bytes) :
    readChunkLine B (s ++ t) = some (line, r ++ t) :=
  let ⟨a, hs, hl, hb⟩ := readChunkLine_eq_some.1 h
  readChunkLine_eq_some.2 ⟨a, splitLF_append hs t, hl, hb⟩

theorem readChunkLine_length {B : Nat} {s line r : Bytes}
    (h : readChunkLine B s = some (line, r)) : r.length < s.length := by
  obtain ⟨a, hs, -⟩ := readChunkLine_eq_some.1 h
  have := splitLF_length hs
  omega

theorem readChunkLine_shape {B : Nat} {s line r : Bytes} (h : readChunkLine B s = some (line, r)) :
    (∃ pre, line = pre ++ [LF]) ∧ s.length = line.length + r.length ∧ line.length < 4096 ∧
      line.length ≤ B := by
  obtain ⟨a, hs, rfl, h1, h2⟩ := readChunkLine_eq_some.1 h
  have := splitLF_length hs
  simp only [List.length_append, List.length_cons, List.length_nil, maxLineLength] at h2 ⊢
  exact ⟨⟨a, rfl⟩, by omega, by omega, by omega⟩

/-- One round of the chunk loop behind a readable size line.  `ex1` is `chunkedReader.excess` after
this line (net/http/internal `beginChunk`): the line with its LF plus the CRLF behind the data are
charged, `16 + 2·n` is refunded, in wrapping `int64`, clamped at 0; above 16 KiB the chunk is refused. -/
theorem chunkLoop_step {fuel B : Nat} {ex : Int} {s line r : Bytes} {n : Nat}
    (hline : readChunkLine B s = some (line, r))
    (hsz : parseHexUint (chunkSizeField line) = some n) (ex1 : Int)
    (hex : ex1 = max (wrap64 (ex + (line.length : Int) + 2 - (16 + 2 * (n : Int)))) 0) :
    chunkLoop (fuel + 1) B ex s =
      if n = 0 then ([], some r)
      else if ex1 > 16 * 1024 then ([], none)
      else if r.length < n then (r, none)
      else if (r.drop n).take 2 = [13, 10] then
        (r.take n ++ (chunkLoop fuel B ex1 (r.drop (n + 2))).1,
          (chunkLoop fuel B ex1 (r.drop (n + 2))).2)
      else (r.take n, none) := by
  subst hex
  rw [chunkLoop]
  simp only [hline, hsz]
  refine ite_congr rfl (fun _ => rfl) fun _ => ite_congr rfl (fun _ => rfl) fun _ =>
    ite_congr rfl (fun _ => rfl) fun _ => ?_
  have hd : r.drop (n + 2) = (r.drop n).drop 2 := by rw [List.drop_drop]
  rw [hd]
  split
  · next r3 h => rw [h]; rfl
  · next h =>
    rw [if_neg]
    intro h2
    exact h _ ((List.take_append_drop 2 _).symm.trans (by rw [h2]; rfl))

/-- The chunked reader on an extension `s ++ t` of the stream: what it handed out on `s` is a prefix
of what it hands out now, and if it had reached the last-chunk line on `s` it reads the same data and
stops at the same place. -/
theorem chunkLoop_ext (fuel B : Nat) (ex : Int) (s t : Bytes) (fuel' : Nat) (hf : fuel ≤ fuel') :
    (chunkLoop fuel B ex s).1 <+: (chunkLoop fuel' B ex (s ++ t)).1 ∧
    ∀ r, (chunkLoop fuel B ex s).2 = some r →
      chunkLoop fuel' B ex (s ++ t) = ((chunkLoop fuel B ex s).1, some (r ++ t)) := by
  induction fuel generalizing ex s fuel' with
  | zero => simp [chunkLoop]
  | succ fuel ih =>
    obtain ⟨f', rfl⟩ : ∃ f', fuel' = f' + 1 := ⟨fuel' - 1, by omega⟩
    simp only [chunkLoop]
    cases hl : readChunkLine B s with
    | none => simp
    | some p =>
      obtain ⟨line, r1⟩ := p
      rw [readChunkLine_append hl t]
      cases hn : parseHexUint (chunkSizeField line) with
      | none => simp [hn]
      | some n =>
        simp only [hn]
        generalize max (wrap64 (ex + (line.length : Int) + 2 - (16 + 2 * (n : Int)))) 0 = ex1
        by_cases h0 : n = 0
        · simp [h0]
        rw [if_neg h0, if_neg h0]
        split
        · simp
        by_cases hlen : r1.length < n
        · -- the stream ended inside the chunk: everything left was handed out
          rw [if_pos hlen]
          refine ⟨?_, by simp⟩
          have : r1 <+: (r1 ++ t).take n := by
            rw [List.take_append, List.take_of_length_le (Nat.le_of_lt hlen)]
            exact List.prefix_append _ _
          split
          · exact List.prefix_append r1 t
          · split
            · exact this.trans (List.prefix_append _ _)
            · exact this
        · have hle : n ≤ r1.length := Nat.le_of_not_lt hlen
          rw [if_neg hlen, if_neg (by simp; omega), List.drop_append_of_le_length hle,
            List.take_append_of_le_length hle]
          split
          · next r3 heq =>
            obtain ⟨ih1, ih2⟩ := ih ex1 r3 f' (by omega)
            simp only [heq, List.cons_append]
            exact ⟨(List.prefix_append_right_inj _).mpr ih1, fun r hr => by rw [ih2 r hr]⟩
          · refine ⟨?_, by simp⟩
            split
            · exact List.prefix_append _ _
            · exact List.prefix_refl _

theorem chunkLoop_append {fuel B : Nat} {ex : Int} {s d r : Bytes}
    (h : chunkLoop fuel B ex s = (d, some r)) (t : Bytes) (fuel' : Nat) (hf : fuel ≤ fuel') :
    chunkLoop fuel' B ex (s ++ t) = (d, some (r ++ t)) := by
  have := (chunkLoop_ext fuel B ex s t fuel' hf).2 r (by rw [h])
  rwa [h] at this

theorem hasDCRLF_append {a : Bytes} (h : hasDCRLF a = true) (b : Bytes) :
    hasDCRLF (a ++ b) = true := by
  induction a with
  | nil => simp [hasDCRLF] at h
  | cons c cs ih =>
    simp only [hasDCRLF, List.cons_append, Bool.or_eq_true] at h ⊢
    rcases h with h | h
    · left
      have h4 : ((c :: cs).take 4) = [CR, LF, CR, LF] := by simpa using h
      have hlen : 4 ≤ (c :: cs).length := by
        have := congrArg List.length h4
        simp at this
        simp; omega
      have : ((c :: cs) ++ b).take 4 = (c :: cs).take 4 := List.take_append_of_le_length hlen
      simp only [List.cons_append] at this
      rw [this, h4]
      simp
    · right; exact ih h

theorem readTrailer_append {B : Nat} {decl tr : HeaderMap} {s r : Bytes}
    (h : readTrailer B decl s = some (tr, r)) (t : Bytes) :
    readTrailer B decl (s ++ t) = some (tr, r ++ t) := by
  unfold readTrailer at h
  split at h
  · next r0 =>
    simp only [Option.some.injEq, Prod.mk.injEq] at h
    obtain ⟨rfl, rfl⟩ := h
    simp [readTrailer]
  · next hne =>
    split at h
    · simp at h
    · next hlen =>
      split at h
      · simp at h
      · next hd =>
        cases hm : readMIMEHeader s with
        | none => simp [hm] at h
        | some p =>
          obtain ⟨hdr, r'⟩ := p
          simp only [hm, Option.some.injEq, Prod.mk.injEq] at h
          obtain ⟨rfl, rfl⟩ := h
          have hd' : hasDCRLF (s.take B) = true := by simpa using hd
          have hlen2 : 2 ≤ s.length := by omega
          -- s has at least two bytes and does not start with CR LF; neither does s ++ t
          match s, hne, hlen2, hd', hm with
          | a :: b :: cs, hne, _, hd', hm =>
            have hab : ¬ (a = 13 ∧ b = 10) := by
              intro ⟨ha, hb⟩
              subst ha; subst hb
              exact hne cs rfl
            have htk : ((a :: b :: cs) ++ t).take B = (a :: b :: cs).take B ++ t.take (B - (a :: b :: cs).length) :=
              List.take_append
            have hd2 : hasDCRLF (((a :: b :: cs) ++ t).take B) = true := by
              rw [htk]; exact hasDCRLF_append hd' _
            have hm2 := readMIMEHeader_append hm t
            unfold readTrailer
            split
            · next r0 heq =>
              simp only [List.cons_append, List.cons.injEq] at heq
              exact absurd ⟨heq.1, heq.2.1⟩ hab
            · simp only [List.cons_append] at hd2 hm2 ⊢
              simp [hd2, hm2]

/-- A body that was read to its end (`io.EOF`) under a framing other than "until close" is read
identically from any extension of the stream. -/
theorem readBody_append {B : Nat} {m : Msg} {s : Bytes}
    (hok : (readBody B m s).ok = true) (hf : m.framing ≠ .untilClose) (t : Bytes) :
    readBody B m (s ++ t) = { readBody B m s with rest := (readBody B m s).rest ++ t } := by
  unfold readBody at hok ⊢
  cases hfr : m.framing with
  | none => simp
  | untilClose => exact absurd hfr hf
  | length n =>
    simp only [hfr] at hok ⊢
    split at hok
    · next hle =>
      have hle' : n ≤ s.length + t.length := by omega
      simp [hle, hle', List.take_append_of_le_length hle, List.drop_append_of_le_length hle]
    · simp at hok
  | chunked =>
    simp only [hfr] at hok ⊢
    cases hd : decodeChunked B s with
    | mk d e =>
      cases e with
      | none => simp [hd] at hok
      | some r =>
        simp only [hd] at hok ⊢
        have hd' : decodeChunked B (s ++ t) = (d, some (r ++ t)) := by
          unfold decodeChunked at hd ⊢
          exact chunkLoop_append hd t _ (by simp)
        simp only [hd']
        cases htr : readTrailer B (declMap m.trailerDecl) r with
        | none => simp [htr] at hok
        | some p =>
          obtain ⟨tr, rest⟩ := p
          simp [readTrailer_append htr t]

theorem readBody_chunked_data {B : Nat} {m : Msg} (s : Bytes) (hf : m.framing = .chunked) :
    (readBody B m s).data = (decodeChunked B s).1 := by
  unfold readBody
  simp only [hf]
  cases hd : decodeChunked B s with
  | mk d e =>
    cases e with
    | none => rfl
    | some r =>
      simp only
      cases readTrailer B (declMap m.trailerDecl) r with
      | none => rfl
      | some p => rfl

theorem readBody_data_prefix (B : Nat) (m : Msg) (s t : Bytes) :
    (readBody B m s).data <+: (readBody B m (s ++ t)).data := by
  cases hfr : m.framing with
  | none => simp [readBody, hfr]
  | untilClose => simp [readBody, hfr]
  | length n =>
    unfold readBody
    simp only [hfr]
    split
    · next hle =>
      have hle' : n ≤ s.length + t.length := by omega
      simp [hle', List.take_append_of_le_length hle]
    · next hlt =>
      have hle : s.length ≤ n := by omega
      have : s <+: (s ++ t).take n := by
        rw [List.take_append, List.take_of_length_le hle]
        exact List.prefix_append _ _
      split
      · exact this
      · exact List.prefix_append _ _
  | chunked =>
    rw [readBody_chunked_data s hfr, readBody_chunked_data (s ++ t) hfr]
    exact (chunkLoop_ext (s.length + 1) B 0 s t ((s ++ t).length + 1) (by simp)).1

end Req.H1
