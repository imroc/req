import Req.Client.Form
import Req.Lemmas.Pct
/-!
The form round trip of `Req.Form`: `queryEscape` / `queryUnescape` are the `net/url` model of C01
(`queryEscape_eq_pct`, `queryUnescape_eq_pct`), whose round trip they inherit; escaped text is
`Safe` (free of `&` `=` `;`), so `splitOn` / `cut` find exactly the separators the encoder wrote
(`segs_encodePairs`); `valuesOf` through `sortKeys`, `flatten` and `add` (`add` appends at the FIRST
match, hence `Nodup` keys).
-/
namespace Req.Form
open Req.Proto

theorem toNat_div16_lt (c : UInt8) : c.toNat / 16 < 16 := by
  have := c.toNat_lt; omega

theorem toNat_mod16_lt (c : UInt8) : c.toNat % 16 < 16 := Nat.mod_lt _ (by decide)

/-! `queryEscape` / `queryUnescape` are `Req.Pct.escape` / `unescape` in mode `queryComponent`, the model of
`net/url` that C01 uses: what is proved there about escaping holds here. -/

theorem escByte_eq_pct : ∀ c, escByte c = Req.Pct.escByte .queryComponent c := by
  apply Req.U8.forall_uint8
  decide +kernel

theorem queryEscape_eq_pct (s : Bytes) : queryEscape s = Req.Pct.escape .queryComponent s := by
  simp only [queryEscape, Req.Pct.escape, funext escByte_eq_pct]

/-- the two models take the same bytes for hex digits, with the same values -/
theorem unhex_eq_pct : ∀ c, unhex c = (if Req.Pct.ishex c then some (Req.Pct.unhex c).toNat else none) ∧
    (Req.Pct.unhex c).toNat < 16 := by
  apply Req.U8.forall_uint8
  decide +kernel

theorem hexval_eq_pct (x y : UInt8) (hx : x.toNat < 16) (hy : y.toNat < 16) :
    UInt8.ofNat (16 * x.toNat + y.toNat) = (x <<< 4) ||| y := by
  have : ∀ i j : Fin 16, UInt8.ofNat (16 * i.val + j.val) = (UInt8.ofNat i.val <<< 4) ||| UInt8.ofNat j.val := by
    decide +kernel
  simpa using this ⟨_, hx⟩ ⟨_, hy⟩

theorem queryUnescape_eq_pct (s : Bytes) : queryUnescape s = Req.Pct.unescape .queryComponent s := by
  fun_induction queryUnescape s with
  | case1 => rfl
  | case2 c h37 a b rest x y hb ha ih =>
    obtain ⟨ea, la⟩ := unhex_eq_pct a
    obtain ⟨eb, lb⟩ := unhex_eq_pct b
    rw [ea] at ha; rw [eb] at hb
    split at ha <;> split at hb <;> try contradiction
    cases ha; cases hb
    rw [Req.Pct.unescape.eq_def]
    simp [*, hexval_eq_pct _ _ la lb]
  | case3 c h37 a b rest hno =>
    rw [Req.Pct.unescape.eq_def]
    cases h1 : Req.Pct.ishex a <;> cases h2 : Req.Pct.ishex b
    case true.true =>
      exact (hno _ _ (by rw [(unhex_eq_pct a).1, if_pos h1]) (by rw [(unhex_eq_pct b).1, if_pos h2])).elim
    all_goals simp [h37, h1, h2]
  | case4 c rest h37 hno =>
    rw [Req.Pct.unescape.eq_def]
    match rest, hno with
    | [], _ => simp [h37]
    | [_], _ => simp [h37]
    | a :: b :: r, hno => exact (hno a b r rfl).elim
  | case5 c rest h37 h43 ih =>
    rw [Req.Pct.unescape.eq_def]
    simp [h37, h43, ih]
  | case6 c rest h37 h43 ih =>
    rw [Req.Pct.unescape.eq_def]
    simp [h37, h43, ih]

theorem unescape_escape (s : Bytes) : queryUnescape (queryEscape s) = some s := by
  rw [queryUnescape_eq_pct, queryEscape_eq_pct]
  exact Req.Pct.unescape_escape _ (by decide) (by decide) s

/-- free of the structural bytes `&` `=` `;` of a query string -/
def Safe (s : Bytes) : Prop := ∀ x ∈ s, x ≠ 38 ∧ x ≠ 61 ∧ x ≠ 59

theorem escape_safe (s : Bytes) : Safe (queryEscape s) := fun x hx => by
  obtain ⟨c, -, hc⟩ := List.mem_flatMap.mp hx
  exact Req.U8.forall_uint8 (fun c => ∀ x ∈ escByte c, x ≠ 38 ∧ x ≠ 61 ∧ x ≠ 59) (by decide +kernel) c x hc

theorem flatMap_self {α} (f : α → List α) (s : List α) (h : ∀ c ∈ s, f c = [c]) : s.flatMap f = s := by
  induction s with
  | nil => rfl
  | cons c cs ih =>
    rw [List.forall_mem_cons] at h
    rw [List.flatMap_cons, h.1, ih h.2]; rfl

theorem splitOn_ne_nil (sep : UInt8) (s : Bytes) : splitOn sep s ≠ [] := by
  induction s with
  | nil => simp [splitOn]
  | cons c cs ih =>
    unfold splitOn
    split
    · simp
    · split <;> simp

theorem splitOn_notin (sep : UInt8) (a : Bytes) (h : sep ∉ a) : splitOn sep a = [a] := by
  induction a with
  | nil => rfl
  | cons c cs ih =>
    rw [List.mem_cons, not_or] at h
    simp [splitOn, ih h.2, Ne.symm h.1]

theorem splitOn_append (sep : UInt8) (a r : Bytes) (h : sep ∉ a) :
    splitOn sep (a ++ sep :: r) = a :: splitOn sep r := by
  induction a with
  | nil => simp [splitOn]
  | cons c cs ih =>
    rw [List.mem_cons, not_or] at h
    simp [splitOn, ih h.2, Ne.symm h.1]

theorem cut_append (sep : UInt8) (a r : Bytes) (h : sep ∉ a) :
    cut sep (a ++ sep :: r) = (a, some r) := by
  induction a with
  | nil => simp [cut]
  | cons c cs ih =>
    rw [List.mem_cons, not_or] at h
    simp [cut, ih h.2, Ne.symm h.1]

theorem encPair_no_amp_semicolon (p : Pair) : (38 : UInt8) ∉ encPair p ∧ (59 : UInt8) ∉ encPair p := by
  have key : ∀ x ∈ encPair p, x ≠ 38 ∧ x ≠ 59 := by
    intro x h
    simp only [encPair, List.mem_append, List.mem_cons] at h
    rcases h with h | rfl | h
    · exact ⟨(escape_safe _ _ h).1, (escape_safe _ _ h).2.2⟩
    · decide
    · exact ⟨(escape_safe _ _ h).1, (escape_safe _ _ h).2.2⟩
  exact ⟨fun h => (key _ h).1 rfl, fun h => (key _ h).2 rfl⟩

theorem parseSeg_encPair (p : Pair) : parseSeg (encPair p) = .pair p.1 p.2 := by
  have hne : (encPair p).isEmpty = false := by simp [encPair]
  have hcut : cut 61 (encPair p) = (queryEscape p.1, some (queryEscape p.2)) :=
    cut_append 61 _ _ fun h => (escape_safe _ _ h).2.1 rfl
  simp [parseSeg, (encPair_no_amp_semicolon p).2, hne, hcut, unescape_escape]

theorem segs_encodePairs (ps : List Pair) :
    ((splitOn 38 (encodePairs ps)).map parseSeg).filterMap segPair = ps ∧
    ((splitOn 38 (encodePairs ps)).map parseSeg).any Seg.isBad = false := by
  induction ps with
  | nil => simp [encodePairs, splitOn, parseSeg, segPair, Seg.isBad]
  | cons p ps ih =>
    cases ps with
    | nil =>
      simp [encodePairs, splitOn_notin 38 _ ((encPair_no_amp_semicolon p).1), parseSeg_encPair, segPair, Seg.isBad]
    | cons q qs =>
      simp only [encodePairs]
      rw [splitOn_append 38 _ _ ((encPair_no_amp_semicolon p).1)]
      simp only [List.map_cons, parseSeg_encPair, List.filterMap_cons, segPair, List.any_cons, Seg.isBad]
      refine ⟨by rw [ih.1], ?_⟩
      rw [ih.2]; simp

theorem pairUp_flat (ps : List Pair) :
    pairUp (ps.flatMap (fun p => [p.1, p.2])) = some ps := by
  induction ps with
  | nil => simp [pairUp]
  | cons p ps ih => simp [pairUp, ih]

theorem pairUp_odd (args : List Bytes) (h : args.length % 2 = 1) : pairUp args = none := by
  induction args using pairUp.induct with
  | case1 => simp at h
  | case2 => simp [pairUp]
  | case3 k v rest ih =>
    have : rest.length % 2 = 1 := by simp at h; omega
    simp [pairUp, ih this]

theorem pairUp_isEmpty : ∀ (l : List Bytes) (ps : List Pair), pairUp l = some ps → ps.isEmpty = l.isEmpty
  | [], ps, h => by simp [pairUp] at h; subst h; rfl
  | [_], ps, h => by simp [pairUp] at h
  | k :: v :: rest, ps, h => by
    simp only [pairUp, Option.map_eq_some_iff] at h
    obtain ⟨r, -, rfl⟩ := h
    rfl

theorem bytesLt_irrefl (a : Bytes) : bytesLt a a = false := by
  induction a with
  | nil => simp [bytesLt]
  | cons c cs ih => simp [bytesLt, ih]

theorem filter_ins (k : Bytes) (x : Bytes × List Bytes) (ys : Values) :
    (ins x ys).filter (fun kvs => kvs.1 == k) = (x :: ys).filter (fun kvs => kvs.1 == k) := by
  induction ys with
  | nil => simp [ins]
  | cons y ys ih =>
    unfold ins
    split
    next hlt =>
      have hne : y.1 ≠ x.1 := by
        intro e; rw [e, bytesLt_irrefl] at hlt; exact absurd hlt (by decide)
      rw [List.filter_cons, ih]
      by_cases hy : (y.1 == k) = true
      · have hyk : y.1 = k := by simpa using hy
        have hx : (x.1 == k) = false := by
          rw [Bool.eq_false_iff]; intro hx
          have : x.1 = k := by simpa using hx
          exact hne (hyk.trans this.symm)
        simp [hy, hx]
      · simp [List.filter_cons, hy]
    next => rfl

theorem filter_sortKeys (k : Bytes) (m : Values) :
    (sortKeys m).filter (fun kvs => kvs.1 == k) = m.filter (fun kvs => kvs.1 == k) := by
  induction m with
  | nil => simp [sortKeys]
  | cons x xs ih =>
    have : sortKeys (x :: xs) = ins x (sortKeys xs) := by simp [sortKeys]
    rw [this, filter_ins, List.filter_cons, List.filter_cons, ih]

theorem valuesOf_sortKeys (m : Values) (k : Bytes) : valuesOf (sortKeys m) k = valuesOf m k := by
  simp [valuesOf, filter_sortKeys]

theorem valuesOfPairs_flatten (m : Values) (k : Bytes) :
    valuesOfPairs (flatten m) k = valuesOf m k := by
  induction m with
  | nil => simp [valuesOfPairs, flatten, valuesOf]
  | cons x xs ih =>
    have hf : flatten (x :: xs) = x.2.map (fun v => (x.1, v)) ++ flatten xs := by
      simp [flatten]
    simp only [valuesOfPairs] at ih
    simp only [valuesOfPairs, hf, List.filter_append, List.map_append, ih]
    by_cases hx : (x.1 == k) = true <;>
      simp [valuesOf, hx, List.filter_map, Function.comp_def]

theorem valuesOf_cons (x : Bytes × List Bytes) (m : Values) (k : Bytes) :
    valuesOf (x :: m) k = (if x.1 == k then x.2 else []) ++ valuesOf m k := by
  unfold valuesOf
  by_cases h : (x.1 == k) = true <;> simp [h]

theorem valuesOf_notin (m : Values) (k : Bytes) (h : k ∉ m.map (·.1)) : valuesOf m k = [] := by
  induction m with
  | nil => simp [valuesOf]
  | cons x xs ih =>
    simp only [List.map_cons, List.mem_cons, not_or] at h
    have hx : (x.1 == k) = false := by
      rw [Bool.eq_false_iff]; intro e
      have e' : x.1 = k := by simpa using e
      exact h.1 e'.symm
    rw [valuesOf_cons, hx, ih h.2]; simp

theorem keys_add (m : Values) (k v : Bytes) :
    (add m k v).map (·.1) = if k ∈ m.map (·.1) then m.map (·.1) else m.map (·.1) ++ [k] := by
  induction m with
  | nil => simp [add]
  | cons x xs ih =>
    unfold add
    by_cases h : (x.1 == k) = true
    · have : x.1 = k := by simpa using h
      simp [this]
    · have hne : x.1 ≠ k := by simpa using h
      simp only [h, Bool.false_eq_true, ↓reduceIte, List.map_cons, ih, List.mem_cons]
      by_cases hk : k ∈ xs.map (·.1)
      · simp [hk]
      · have : ¬ (k = x.1 ∨ k ∈ xs.map (·.1)) := by
          intro hor; rcases hor with e | e
          · exact hne e.symm
          · exact hk e
        simp [hk]
        exact fun e => hne e.symm

theorem nodup_add (m : Values) (k v : Bytes) (h : (m.map (·.1)).Nodup) :
    ((add m k v).map (·.1)).Nodup := by
  rw [keys_add]
  split
  · exact h
  next hk =>
    rw [List.nodup_append]
    exact ⟨h, by simp, by intro a ha b hb; simp at hb; subst hb; exact fun e => hk (e ▸ ha)⟩

theorem valuesOf_add (m : Values) (k v k' : Bytes) (h : (m.map (·.1)).Nodup) :
    valuesOf (add m k v) k' = valuesOf m k' ++ (if k == k' then [v] else []) := by
  induction m with
  | nil =>
    by_cases hk : (k == k') = true <;> simp [add, valuesOf, hk]
  | cons x xs ih =>
    simp only [List.map_cons, List.nodup_cons] at h
    unfold add
    by_cases hx : (x.1 == k) = true
    · have hxk : x.1 = k := by simpa using hx
      simp only [hx, ↓reduceIte, valuesOf_cons]
      by_cases hk' : (k == k') = true
      · have : k = k' := by simpa using hk'
        subst this
        have hnot : valuesOf xs k = [] := valuesOf_notin xs k (hxk ▸ h.1)
        simp [hx, hnot]
      · have : (x.1 == k') = false := by
          rw [Bool.eq_false_iff]; intro e
          have : x.1 = k' := by simpa using e
          exact hk' (by simp [← hxk, this])
        simp [hk', this]
    · simp only [hx, Bool.false_eq_true, ↓reduceIte, valuesOf_cons, ih h.2, List.append_assoc]

theorem valuesOf_addMany (m : Values) (k : Bytes) (vs : List Bytes) (k' : Bytes)
    (h : (m.map (·.1)).Nodup) :
    ((vs.foldl (fun a v => add a k v) m).map (·.1)).Nodup ∧
    valuesOf (vs.foldl (fun a v => add a k v) m) k' = valuesOf m k' ++ (if k == k' then vs else []) := by
  induction vs generalizing m with
  | nil => simp [h]
  | cons v vs ih =>
    obtain ⟨h1, h2⟩ := ih (add m k v) (nodup_add m k v h)
    refine ⟨h1, ?_⟩
    rw [List.foldl_cons, h2, valuesOf_add m k v k' h]
    by_cases hk : (k == k') = true <;> simp [hk]

theorem valuesOf_addAll (dst src : Values) (k' : Bytes) (h : (dst.map (·.1)).Nodup) :
    ((addAll dst src).map (·.1)).Nodup ∧
    valuesOf (addAll dst src) k' = valuesOf dst k' ++ valuesOf src k' := by
  induction src generalizing dst with
  | nil => simp [addAll, valuesOf, h]
  | cons x xs ih =>
    obtain ⟨h1, h2⟩ := valuesOf_addMany dst x.1 x.2 k' h
    obtain ⟨h3, h4⟩ := ih _ h1
    refine ⟨by simpa [addAll] using h3, ?_⟩
    have : addAll dst (x :: xs) = addAll (x.2.foldl (fun a v => add a x.1 v) dst) xs := by simp [addAll]
    rw [this, h4, h2, valuesOf_cons, List.append_assoc]

end Req.Form
