import Req.Client.Rfc7616
import Req.Lemmas.C20Bytes
/-!
Helper lemmas for C20: the credentials automaton of the RFC 7616 verifier on a parameter name and
on a token value (`name=value`); quoted values are in `Req/Lemmas/C20Quote.lean`. Also the two notions
both are stated with: `isQd` (qdtext; `Req.Props.C20Legacy.Expressible` is written with it) and
`Param.ok`, a parameter of `authorize` that the automaton can read.
-/
namespace Req.Rfc7616
open Req.Proto Req.Ascii Req.Digest

/-- qdtext: what may stand unescaped inside a quoted-string. -/
def isQd (c : UInt8) : Bool := isText c && c != 34 && c != 92

theorem run_nil (s : St) : run s [] = s := rfl
theorem run_cons (s : St) (c : UInt8) (cs : Bytes) : run s (c :: cs) = run (step s c) cs := rfl
theorem run_append (s : St) (a b : Bytes) : run s (a ++ b) = run (run s a) b := by
  simp [run, List.foldl_append]

theorem qd_text {c : UInt8} (h : isQd c = true) : isText c = true ∧ (c == 34) = false ∧ (c == 92) = false := by
  simp only [isQd, Bool.and_eq_true, bne_iff_ne, ne_eq] at h
  refine ⟨h.1.1, ?_, ?_⟩
  · simpa using h.1.2
  · simpa using h.2

/-- a state that collects token bytes (`.name`, `.tok`) collects a whole run of them -/
theorem run_acc (mk : Bytes → St) (hmk : ∀ v c, isTokenByte c = true → step (mk v) c = mk (v ++ [c])) :
    ∀ (s v rest : Bytes), s.all isTokenByte = true → run (mk v) (s ++ rest) = run (mk (v ++ s)) rest := by
  intro s
  induction s with
  | nil => intro v rest _; simp
  | cons c cs ih =>
    intro v rest h
    simp only [List.all_cons, Bool.and_eq_true] at h
    rw [List.cons_append, run_cons, hmk v c h.1, ih (v ++ [c]) rest h.2]
    simp

theorem run_name (ps : Params) : ∀ (s n rest : Bytes), s.all isTokenByte = true →
    run (.name ps n) (s ++ rest) = run (.name ps (n ++ s)) rest :=
  run_acc (.name ps) fun v c h => by simp only [step, h, if_true]

theorem run_tok (ps : Params) (n : Bytes) : ∀ (s v rest : Bytes), s.all isTokenByte = true →
    run (.tok ps n v) (s ++ rest) = run (.tok ps n (v ++ s)) rest :=
  run_acc (.tok ps n) fun v c h => by simp only [step, h, if_true]

theorem run_start_name (ps : Params) (n rest : Bytes) (hn : n ≠ []) (ht : n.all isTokenByte = true) :
    run (.start ps) (n ++ rest) = run (.name ps n) rest := by
  cases n with
  | nil => exact absurd rfl hn
  | cons c cs =>
    simp only [List.all_cons, Bool.and_eq_true] at ht
    simp only [List.cons_append, run_cons, step, tok_not_ows ht.1, ht.1, if_true, Bool.false_eq_true, if_false]
    rw [run_name ps cs [c] rest ht.2]
    simp

theorem run_bare_param (ps : Params) (n v rest : Bytes) (hn : n ≠ []) (ht : n.all isTokenByte = true)
    (hv : v ≠ []) (hvt : v.all isTokenByte = true) :
    run (.start ps) (bare n v ++ rest) = run (.tok ps n v) rest := by
  have e : bare n v ++ rest = n ++ (61 :: (v ++ rest)) := by
    simp [bare, List.append_assoc]
  rw [e, run_start_name ps n _ hn ht]
  have h61 : isTokenByte 61 = false := by decide
  cases v with
  | nil => exact absurd rfl hv
  | cons c cs =>
    simp only [List.all_cons, Bool.and_eq_true] at hvt
    have h34 : (c == 34) = false := beq_eq_false_iff_ne.mpr (tok_not_delim c hvt.1).1
    simp only [List.cons_append, run_cons, step, h61, Bool.false_eq_true, if_false, beq_self_eq_true, if_true,
      tok_not_ows hvt.1, h34, hvt.1]
    rw [run_tok ps n cs [c] rest hvt.2]
    simp

/-- Well-formedness of one auth-param whose quoted value consists of `q` bytes. -/
def Param.ok (q : UInt8 → Bool) (p : Param) : Prop :=
  p.name ≠ [] ∧ p.name.all isTokenByte = true ∧
  (if p.quotedForm then p.value.all q = true
   else p.value ≠ [] ∧ p.value.all isTokenByte = true)

/-- what the verifier's automaton is to read off a written parameter list -/
def pairs (l : List Param) : Params := l.map fun p => (p.name, p.value)

end Req.Rfc7616
