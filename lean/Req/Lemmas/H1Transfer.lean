import Req.H1.Transfer
/-! What `fixLength` and the framing chain of `readTransfer` compute, in closed form.  Both depend on
three things only: `noBody` (a response to HEAD, or a status that forbids a body), the
Transfer-Encoding verdict `chunked`, and the parsed `Content-Length` `n?` (`lengthOf`, `framingFor`, read
against each other in `framingFor_iff`).  `Accepted` is an accepted `readTransfer` in that form
(`readTransfer_accepted`). -/
namespace Req.H1
open Req.Proto

/-- The status tests of `fixLength` are `bodyAllowedForStatus`. -/
theorem fixLength_status_chain {α : Type} (code : Nat) (isHead : Bool) (A B : α) :
    (if isHead = true then A else if code / 100 = 1 then A else if code = 204 ∨ code = 304 then A else B) =
      if (isHead || !bodyAllowedForStatus code) = true then A else B := by
  have hd : (100 ≤ code ∧ code ≤ 199) ↔ code / 100 = 1 := by omega
  simp only [bodyAllowedForStatus, Bool.not_not, Bool.or_eq_true, Bool.and_eq_true, decide_eq_true_eq, hd]
  cases isHead
  · by_cases h1 : code / 100 = 1
    · simp only [h1, if_true, true_or, or_true, Bool.false_eq_true, if_false]
    · simp only [h1, if_false, false_or, Bool.false_eq_true]
  · rfl

/-- `-1` = not declared. -/
def lengthOf (noBody chunked : Bool) (n? : Option Nat) : Int :=
  if noBody then 0 else if chunked then -1 else match n? with | some n => (n : Int) | none => -1

def framingFor (noBody chunked : Bool) (n? : Option Nat) : RespFraming :=
  if noBody then .none else if chunked then .chunked else
    match n? with | none => .untilClose | some 0 => .none | some (n + 1) => .length (n + 1)

@[simp] theorem lengthOf_noBody (chunked : Bool) (n? : Option Nat) : lengthOf true chunked n? = 0 := rfl
@[simp] theorem lengthOf_chunked (n? : Option Nat) : lengthOf false true n? = -1 := rfl
@[simp] theorem framingFor_noBody (chunked : Bool) (n? : Option Nat) : framingFor true chunked n? = .none := rfl

/-- The two tables side by side: each framing by the reported length. -/
theorem framingFor_iff (noBody chunked : Bool) (n? : Option Nat) :
    (framingFor noBody chunked n? = .none ↔ lengthOf noBody chunked n? = 0) ∧
    (framingFor noBody chunked n? = .chunked ↔ noBody = false ∧ chunked = true) ∧
    (∀ n, framingFor noBody chunked n? = .length n ↔
      noBody = false ∧ chunked = false ∧ 0 < n ∧ lengthOf noBody chunked n? = n) ∧
    (framingFor noBody chunked n? = .untilClose ↔
      noBody = false ∧ chunked = false ∧ lengthOf noBody chunked n? = -1) := by
  unfold framingFor lengthOf
  cases noBody <;> cases chunked <;> try simp
  match n? with
  | none => simp
  | some 0 => simp; omega
  | some (k + 1) => simp; exact ⟨by omega, fun n => by omega, by omega⟩

theorem fixLength_some {code : Nat} {isHead chunked : Bool} {h2 h3 : HeaderMap} {rl : Int}
    (hfl : fixLength code isHead h2 chunked = some (rl, h3)) :
    ∃ (n? : Option Nat) (h1 : HeaderMap),
      rl = lengthOf (isHead || !bodyAllowedForStatus code) chunked n? ∧
      h3 = if (isHead || !bodyAllowedForStatus code) then h1
           else if chunked || n?.isNone then h1.del kContentLength else h1 := by
  unfold fixLength at hfl
  simp only at hfl
  split at hfl
  · simp at hfl
  · next cls h1 _ =>
    split at hfl
    · simp at hfl
    · next n? _ =>
      rw [fixLength_status_chain] at hfl
      refine ⟨n?, h1, ?_⟩
      generalize (isHead || !bodyAllowedForStatus code) = nb at hfl ⊢
      cases nb <;> cases chunked <;> cases n? <;>
        simp only [lengthOf, Bool.false_eq_true, if_false, if_true, Option.some.injEq, Prod.mk.injEq] at hfl ⊢ <;>
        exact ⟨hfl.1.symm, by simp [← hfl.2]⟩

/-- The framing chain of `readTransfer` over the reported length, in closed form. -/
theorem readTransfer_framing_chain (noBody chunked cc ba : Bool) (n? : Option Nat) (hba : noBody = false → ba = true) :
    (if chunked = true then (if noBody = true then RespFraming.none else RespFraming.chunked)
      else if lengthOf noBody chunked n? = 0 then RespFraming.none
      else if lengthOf noBody chunked n? > 0 then RespFraming.length (lengthOf noBody chunked n?).toNat
      else if (cc || (decide (lengthOf noBody chunked n? = -1) && !chunked && ba)) = true then
        RespFraming.untilClose
      else RespFraming.none) = framingFor noBody chunked n? := by
  unfold lengthOf framingFor
  cases noBody with
  | true => cases chunked <;> rfl
  | false =>
    cases chunked with
    | true => rfl
    | false =>
      rw [hba rfl]
      match n? with
      | none => simp
      | some 0 => rfl
      | some (n + 1) =>
        have h0 : ¬ ((n + 1 : Nat) : Int) = 0 := by omega
        have h1 : ((n + 1 : Nat) : Int) > 0 := by omega
        simp only [Bool.false_eq_true, if_false, h0, h1, if_true]
        rfl

/-- The second disjunct of `readTransfer`'s `close` is "the body runs until close". -/
theorem framingFor_untilClose (noBody chunked : Bool) (n? : Option Nat) :
    decide (framingFor noBody chunked n? = .untilClose) =
      (decide (lengthOf noBody chunked n? = -1) && !chunked && !noBody) := by
  rw [Bool.eq_iff_iff]
  simp [(framingFor_iff noBody chunked n?).2.2.2, and_comm]

/-- `parseTransferEncoding` on HTTP/1.1 and later when the field is present: one value that folds to
`chunked`, or an error. -/
theorem parseTransferEncoding_of_get {major minor : Nat} {h : HeaderMap} {raw : List Bytes}
    (hget : h.get kTransferEncoding = some raw) (hv : major > 1 ∨ (major = 1 ∧ minor ≥ 1)) :
    parseTransferEncoding major minor h =
      match (generalizing := false) raw with
      | [v] => if Req.Ascii.lower v == vChunked then some (true, h.del kTransferEncoding) else none
      | _ => none := by
  have : (!(decide (major > 1) || (decide (major = 1) && decide (minor ≥ 1)))) = false := by
    rcases hv with h1 | ⟨h1, h2⟩ <;> simp [*]
  unfold parseTransferEncoding
  rw [hget]
  simp only [this, Bool.false_eq_true, if_false]
  rcases raw with _ | ⟨v, _ | _⟩ <;> rfl

theorem HeaderMap.get_del (h : HeaderMap) (k' k : Bytes) :
    (h.del k').get k = if k = k' then none else h.get k := by
  unfold HeaderMap.del HeaderMap.get
  induction h with
  | nil => simp
  | cons p ps ih =>
    by_cases hp : p.1 = k'
    · rw [List.filter_cons_of_neg (by simpa using hp), ih, List.lookup_cons]
      split
      · rfl
      · next hk => rw [show (k == p.1) = false from by simpa [hp] using hk]
    · rw [List.filter_cons_of_pos (by simpa using hp), List.lookup_cons, List.lookup_cons, ih]
      cases hkp : k == p.1
      · rfl
      · exact (if_neg (by rw [eq_of_beq hkp]; exact hp)).symm

/-- What an accepting `readTransfer` did, over the Transfer-Encoding verdict `chunked` and the parsed
Content-Length `n?`.  `len` is stated for non-HEAD only: for HEAD `readTransfer` reports the
Content-Length re-parsed from the header (`-1` without one), not `lengthOf`.  `noCL` is the header-side effect of chunked framing. -/
structure Accepted (isHead : Bool) (sl : StatusLine) (h0 : HeaderMap) (m : Msg)
    (chunked : Bool) (n? : Option Nat) : Prop where
  status : m.sl = sl
  te : m.teChunked = chunked
  len : isHead = false → m.contentLength = lengthOf (!bodyAllowedForStatus sl.code) chunked n?
  framing : m.framing = framingFor (isHead || !bodyAllowedForStatus sl.code) chunked n?
  close : m.close = ((shouldClose sl.major sl.minor h0).1 ||
    decide (framingFor (isHead || !bodyAllowedForStatus sl.code) chunked n? = .untilClose))
  noCL : isHead = false → bodyAllowedForStatus sl.code = true → chunked = true →
    HeaderMap.get m.header kContentLength = none

theorem readTransfer_accepted {isHead : Bool} {sl : StatusLine} {h0 : HeaderMap} {m : Msg}
    (h : readTransfer isHead sl h0 = some m) : ∃ chunked n?, Accepted isHead sl h0 m chunked n? := by
  unfold readTransfer at h
  simp only at h
  split at h
  · simp at h
  · next chunked h2 hte =>
    split at h
    · simp at h
    · next rl h3 hfl =>
      obtain ⟨n?, h1, rfl, rfl⟩ := fixLength_some hfl
      split at h
      · simp at h
      · next cl hcl =>
        split at h
        · simp at h
        · next tr h4 htr =>
          simp only [Option.some.injEq] at h
          subst h
          have hba : (isHead || !bodyAllowedForStatus sl.code) = false → bodyAllowedForStatus sl.code = true := by
            cases isHead <;> simp
          refine ⟨chunked, n?, rfl, rfl, ?_, readTransfer_framing_chain _ _ _ _ _ hba, ?_, ?_⟩
          · intro hH; subst hH; simp at hcl; exact hcl.symm
          · simp only [framingFor_untilClose]
            cases isHead <;> cases bodyAllowedForStatus sl.code <;> simp
          · -- chunked with a body: `fixLength` deleted Content-Length, `fixTrailer` does not bring it back
            intro hH hb hc
            subst hH hc
            simp only [hb, Bool.not_true, Bool.or_false, Bool.false_eq_true, if_false, Bool.true_or, if_true] at htr
            unfold fixTrailer at htr
            have h3n : (h1.del kContentLength).get kContentLength = none := by rw [HeaderMap.get_del, if_pos rfl]
            split at htr
            · simp only [Option.some.injEq, Prod.mk.injEq] at htr
              rw [← htr.2]; exact h3n
            · simp only [Bool.not_true, Bool.false_eq_true, if_false] at htr
              split at htr
              · simp at htr
              · simp only [Option.some.injEq, Prod.mk.injEq] at htr
                rw [← htr.2]
                rw [HeaderMap.get_del, h3n, ite_self]

end Req.H1
