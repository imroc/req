import Req.Lemmas.C06Send
/-!
C06 — helper lemmas for the two small monitor machines of `Req.H2.Monitor`:

* `Ping`: the model answers every PING of the peer in the same step and never writes a PING
  acknowledgement otherwise (a walk over every handler: `pf_apply`);
* `Push`: after a PUSH_PROMISE the model's connection is closed, so it writes nothing any more.
-/
namespace Req.Lemmas.C06
open Req.H2 Req.H2.Flow Req.H2.Conn Req.H2.Monitor

def notPing : Frame → Bool
  | .ping _ _ => false
  | _ => true

/-- a frame list without PING frames -/
def PF (fs : List Frame) : Prop := fs.all notPing = true

theorem pf_nil : PF [] := rfl

theorem pf_append {a b : List Frame} (ha : PF a) (hb : PF b) : PF (a ++ b) := by
  unfold PF at *; simp [List.all_append, ha, hb]

theorem pf_wu (id : Nat) (inc : Int) : PF (wuFrame id inc) := by
  unfold wuFrame; split <;> rfl

theorem pf_headerFrames (id : Nat) (es : Bool) (mf : Nat) (prio fix : Bool) :
    ∀ (fuel len : Nat) (first : Bool), PF (headerFrames fuel id len es mf prio fix first) := by
  intro fuel
  induction fuel with
  | zero => intro len first; rfl
  | succ fuel ih =>
    intro len first
    simp only [headerFrames]
    split
    · rfl
    · have := ih (len - (if len > (if first = true ∧ prio = true ∧ fix = true then mf - 5 else mf)
          then (if first = true ∧ prio = true ∧ fix = true then mf - 5 else mf) else len)) false
      unfold PF at *
      simp only [List.all_cons, this, Bool.and_true]
      cases first <;> rfl

theorem pf_terminate (st : State) (s : Stream) (b : Bool) : PF (terminate st s b).2 := by
  unfold terminate; simp only; split <;> rfl

theorem pf_creditConn (r : State × List Frame) (n : Nat) (h : PF r.2) : PF (creditConn r n).2 :=
  creditConn_cases (fun x => PF x.2) r n (fun _ => h) h (fun _ _ _ _ => pf_append h (pf_wu _ _))

theorem pf_closeStream (st : State) (s s' : Stream) : PF (closeStream st s s').2 :=
  closeStream_cases (fun x => PF x.2) st s s' (fun _ => pf_terminate _ _ _) (fun _ => rfl)

theorem pf_readCore (st : State) (s : Stream) (k : Nat) : PF (readCore st s k).2 :=
  readCore_cases (fun x => PF x.2) st s k rfl (fun _ _ _ _ _ _ => pf_append (pf_wu _ _) (pf_wu _ _))

theorem pf_readOverlong (st : State) (s : Stream) (k : Nat) : PF (readOverlong st s k).2 :=
  readOverlong_cases (fun x => PF x.2) st s k (fun _ => pf_creditConn _ _ (pf_closeStream _ _ _))
    (fun _ => pf_closeStream _ _ _)

theorem pf_doOpen (st : State) (r : Req) : PF (doOpen st r).2 := pf_headerFrames _ _ _ _ _ _ _ _

theorem pf_resumePending (st : State) : PF (resumePending st).2 :=
  resumePending_cases (fun x => PF x.2) st (fun _ => rfl) (fun _ _ _ _ => rfl) (fun _ _ => rfl)
    (fun _ _ _ _ _ => pf_doOpen _ _)

theorem pf_write (st : State) (id : Nat) : PF (write st id).2 :=
  write_cases (fun x => PF x.2) st id rfl (fun _ _ _ _ _ _ _ => pf_headerFrames _ _ _ _ _ _ _ _)
    (fun _ _ _ _ _ _ _ _ => rfl)

theorem pf_discardData (st : State) (s : Stream) (flen : Int) : PF (discardData st s flen).2 :=
  discardData_cases (fun x => PF x.2) st s flen rfl rfl (fun _ => pf_terminate _ _ _)
    (fun _ _ _ _ _ _ _ => pf_append (pf_terminate _ _ _) (pf_wu _ _))

theorem pf_abortAbove (last : Nat) (ids : List Nat) : ∀ st : State, PF (abortAbove last ids st).2 :=
  abortAbove_induction (P := fun _ r => PF r.2) last (fun _ => rfl)
    (fun _ _ _ _ _ _ hr => pf_append (pf_terminate _ _ _) hr) ids

theorem pf_peer (st : State) (f : PFrame) (h : ∀ d, f ≠ .ping false d) : PF (Conn.peer st f).2 := by
  cases f with
  | settings vals =>
    exact peerSettings_cases (fun x => PF x.2) st vals (fun _ => rfl) (fun _ _ _ _ => rfl) (fun _ _ _ _ => rfl)
  | settingsAck => exact peerSettingsAck_cases (fun x => PF x.2) st (fun _ => rfl) rfl
  | windowUpdate id inc =>
    exact peerWindowUpdate_cases (fun x => PF x.2) st id inc rfl rfl (fun _ _ _ => rfl)
      (fun _ _ _ _ => pf_terminate _ _ _) (fun _ _ _ _ _ _ => rfl)
  | rst id code => exact peerRst_cases (fun x => PF x.2) st id code rfl (fun _ _ _ => pf_terminate _ _ _)
  | goaway last => exact pf_abortAbove _ _ _
  | resp id es status cl =>
    exact peerResp_cases (fun x => PF x.2) st id es status cl rfl rfl (fun _ _ _ => pf_terminate _ _ _)
      (fun _ _ _ => rfl) (fun _ _ _ _ => rfl) (fun _ _ _ _ _ => rfl)
  | data id len pad es =>
    exact peerData_cases (fun x => PF x.2) st id len pad es (fun _ => rfl) rfl rfl (fun _ _ _ _ _ => pf_wu _ _)
      (fun _ _ _ => pf_discardData _ _ _) (fun _ _ _ _ _ _ _ _ _ _ _ _ _ => pf_append (pf_wu _ _) (pf_wu _ _))
      (fun _ _ _ _ _ => rfl)
  | ping ack d =>
    cases ack with
    | true => rfl
    | false => exact absurd rfl (h d)
  | pushPromise id p => rfl

theorem pf_apply (st : State) (op : Op) (h : ∀ d, op ≠ .peer (.ping false d)) : PF (apply st op).2 := by
  cases op with
  | openReq r =>
    exact openStream_cases (fun x => PF x.2) st r rfl (fun _ _ => pf_doOpen _ _) (fun _ _ => rfl)
  | feed id n => exact feed_cases (fun x => PF x.2) st id n rfl (fun _ _ _ => rfl)
  | write id => exact pf_write _ _
  | cancel id => exact cancel_cases (fun x => PF x.2) st id rfl (fun _ _ _ => pf_terminate _ _ _)
  | read id n =>
    exact read_cases (fun x => PF x.2) st id n rfl (fun s k _ _ _ =>
      readK_cases (fun x => PF x.2) st s k (fun _ => pf_readCore _ _ _)
        (fun _ _ _ => pf_readOverlong _ _ _))
  | close id =>
    exact close_cases (fun x => PF x.2) st id (fun _ => rfl) (fun _ _ => pf_creditConn _ _ (pf_closeStream _ _ _))
  | wake => rfl
  | peer f => exact pf_peer st f (fun d hd => h d (by rw [hd]))

theorem pf_newConn (cfg : Cfg) : PF (newConn cfg).2 := by
  simp only [newConn]
  unfold PF
  simp only [List.cons_append, List.nil_append, List.all_cons, notPing, Bool.true_and, List.all_map]
  rw [List.all_eq_true]
  intro x _
  rfl

theorem ping_run_append {m m' : Ping} {a : List Event} (b : List Event) (h : Ping.run m a = .ok m') :
    Ping.run m (a ++ b) = Ping.run m' b :=
  run_append_ok (step := Ping.step) (fun _ => rfl) (fun m e _ => by rw [Ping.run]; cases m.step e <;> rfl) b h

theorem ping_run_pf (m : Ping) : ∀ {fs : List Frame}, PF fs → Ping.run m (fs.map Event.c) = .ok m := by
  intro fs
  induction fs with
  | nil => intro _; rfl
  | cons f fs ih =>
    intro h
    unfold PF at h
    simp only [List.all_cons, Bool.and_eq_true] at h
    simp only [List.map_cons, Ping.run]
    have : m.step (Event.c f) = .ok m := by
      cases f <;> first | rfl | (simp [notPing] at h)
    rw [this]
    exact ih h.2

/-- a handler's frames, followed by frames without PING, leave the Ping machine where it was: the
peer's PING is answered at once, and nothing else concerns it -/
theorem ping_apply (st : State) (op : Op) {fs : List Frame} (hfs : PF fs) :
    Ping.run Ping.init (opEvents op ((apply st op).2 ++ fs)) = .ok Ping.init := by
  by_cases hp : ∃ d, op = .peer (.ping false d)
  · obtain ⟨d, rfl⟩ := hp
    have : Ping.run Ping.init [Event.p (.ping false d), Event.c (.ping true d)] = .ok Ping.init := by
      simp [Ping.run, Ping.step, Ping.init]
    exact (ping_run_append _ this).trans (ping_run_pf _ hfs)
  · have hne : ∀ d, op ≠ .peer (.ping false d) := fun d hd => hp ⟨d, hd⟩
    have hrun := ping_run_pf Ping.init (pf_append (pf_apply st op hne) hfs)
    cases op with
    | peer f =>
      have : Ping.init.step (Event.p f) = .ok Ping.init := by
        cases f with
        | ping ack d =>
          cases ack with
          | true => rfl
          | false => exact absurd rfl (hne d)
        | _ => rfl
      simp only [opEvents, List.singleton_append, Ping.run, this]
      exact hrun
    | _ => exact hrun

theorem ping_step {st : State} (op : Op) (hc : st.closed = false) :
    Ping.run Ping.init (opEvents op (step st op).2) = .ok Ping.init :=
  step_cases (fun x => Ping.run Ping.init (opEvents op x.2) = .ok Ping.init) st op
    (fun hc' => by rw [hc] at hc'; cases hc')
    (fun _ _ => by have := ping_apply st op pf_nil; rwa [List.append_nil] at this)
    (fun _ => ping_apply st op (pf_resumePending _))

theorem push_run_append {m m' : Push} {a : List Event} (b : List Event) (h : Push.run m a = .ok m') :
    Push.run m (a ++ b) = Push.run m' b :=
  run_append_ok (step := Push.step) (fun _ => rfl) (fun m e _ => by rw [Push.run]; cases m.step e <;> rfl) b h

theorem push_run_clients (m : Push) (hm : m.seen = false) :
    ∀ fs : List Frame, ∃ m', Push.run m (fs.map Event.c) = .ok m' ∧ m'.seen = false := by
  intro fs
  induction fs generalizing m with
  | nil => exact ⟨m, rfl, hm⟩
  | cons f fs ih =>
    simp only [List.map_cons, Push.run]
    have : ∃ m1, m.step (Event.c f) = .ok m1 ∧ m1.seen = false := by
      simp only [Push.step, hm, Bool.false_eq_true, if_false]
      cases f with
      | settings vals =>
        simp only
        split
        · exact ⟨_, rfl, rfl⟩
        · exact ⟨_, rfl, hm⟩
      | _ => exact ⟨_, rfl, hm⟩
    obtain ⟨m1, h1, h2⟩ := this
    rw [h1]
    exact ih m1 h2

theorem push_step {st : State} (op : Op) (hc : st.closed = false) (q : Push) (hq : q.seen = false) :
    ∃ q', Push.run q (opEvents op (step st op).2) = .ok q' ∧
      (q'.seen = true → (step st op).1.closed = true) := by
  cases op with
  | peer f =>
    by_cases hp : ∃ id p, f = .pushPromise id p
    · obtain ⟨id, p, rfl⟩ := hp
      -- the connection is closed and nothing is written
      have hstep : (step st (.peer (.pushPromise id p))).2 = [] ∧ (step st (.peer (.pushPromise id p))).1.closed = true :=
        step_cases (fun x => x.2 = [] ∧ x.1.closed = true) st _ (fun h => by rw [hc] at h; cases h)
          (fun _ _ => ⟨rfl, rfl⟩)
          (fun _ => by
            obtain ⟨h1, _, h3⟩ := resumePending_closed (st := (connError st).1) rfl
            exact ⟨h3, h1⟩)
      rw [hstep.1]
      exact ⟨{ q with seen := q.seen || (q.off && q.acked) }, rfl, fun _ => hstep.2⟩
    · have hnp : ∃ q1, q.step (Event.p f) = .ok q1 ∧ q1.seen = false := by
        cases f with
        | pushPromise id p => exact absurd ⟨id, p, rfl⟩ hp
        | _ => exact ⟨_, rfl, hq⟩
      obtain ⟨q1, h1, h2⟩ := hnp
      obtain ⟨q2, h3, h4⟩ := push_run_clients q1 h2 (step st (.peer f)).2
      refine ⟨q2, ?_, fun hx => by rw [h4] at hx; cases hx⟩
      simp only [opEvents, List.singleton_append, Push.run, h1]
      exact h3
  | _ =>
    obtain ⟨q2, h3, h4⟩ := push_run_clients q hq (step st _).2
    exact ⟨q2, h3, fun hx => by rw [h4] at hx; cases hx⟩

/-- both small machines accept every run: no PING is left unanswered, and nothing follows a
refused PUSH_PROMISE -/
theorem ping_push_runFrom (ops : List Op) :
    ∀ {st : State} {q : Push} {hist : List Event},
    Ping.run Ping.init hist = .ok Ping.init → Push.run Push.init hist = .ok q →
    (q.seen = true → st.closed = true) →
    Ping.run Ping.init (runFrom st hist ops).2 = .ok Ping.init ∧
    ∃ q', Push.run Push.init (runFrom st hist ops).2 = .ok q' := by
  intro st q hist h1 h2 h3
  have := runFrom_induction (P := fun st hist => Ping.run Ping.init hist = .ok Ping.init ∧
    ∃ q, Push.run Push.init hist = .ok q ∧ (q.seen = true → st.closed = true)) ops
    (fun st hist op _ ⟨h1, q, h2, h3⟩ => ?_) st hist ⟨h1, q, h2, h3⟩
  · exact ⟨this.1, this.2.imp fun _ h => h.1⟩
  cases hc : st.closed with
  | true =>
    rw [step_closed hc, stepEvents_closed hc, List.append_nil]
    exact ⟨h1, q, h2, fun _ => hc⟩
  | false =>
    rw [stepEvents_open hc]
    have hq : q.seen = false := by
      cases hx : q.seen with
      | false => rfl
      | true => rw [h3 hx] at hc; cases hc
    obtain ⟨q', hq1, hq2⟩ := push_step (st := st) op hc q hq
    exact ⟨(ping_run_append _ h1).trans (ping_step op hc), q', (push_run_append _ h2).trans hq1, hq2⟩

theorem ping_push_run (cfg : Cfg) (ops : List Op) :
    Ping.run Ping.init (history (run cfg ops)) = .ok Ping.init ∧
    ∃ q, Push.run Push.init (history (run cfg ops)) = .ok q := by
  unfold history run
  obtain ⟨q0, hq0, hq0s⟩ := push_run_clients Push.init rfl (newConn cfg).2
  exact ping_push_runFrom ops (st := (newConn cfg).1) (ping_run_pf Ping.init (pf_newConn cfg)) hq0
    (fun hx => by rw [hq0s] at hx; cases hx)

end Req.Lemmas.C06
