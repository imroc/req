import Req.Client.Exchange
/-! The exchanges of one attempt (`Req.Exchange`): when `step` sends the request again within the attempt
(`step_again`), the invariant that a one-shot body is only offered untouched (`Untouched`), and what `go` records
along a peer script. -/
namespace Req.Lemmas.C10Exchange
open Req.Exchange

/-- A one-shot reader is only ever offered while it is untouched. -/
def Untouched (cfg : Cfg) (st : St) : Prop := (cfg.body = .once ∨ cfg.body = .pipe) → st.first = true

/-- When the request goes out again within the attempt: the attempt counter stays, and either net/http holds a
`GetBody` it may call, or the digest middleware is re-sending a streamed multipart body through a new pipe. -/
theorem step_again {cfg : Cfg} {a : Act} {reused : Bool} {st st' : St} (hs : step cfg a reused st = .again st') :
    st'.ra = st.ra ∧ (canReplay cfg = true ∨ cfg.body = .pipe ∧ st'.first = true) := by
  unfold step at hs
  split at hs
  · cases hs
  · cases a with
    | answer c => cases hs
    | redirect c =>
      simp only at hs
      split at hs
      · cases hs
      · split at hs
        · rename_i h; cases hs; exact ⟨rfl, .inl h⟩
        · cases hs
    | challenge =>
      simp only at hs
      split at hs
      · cases hs
      · cases hb : cfg.body <;> simp only [hb] at hs <;> cases hs
        · exact ⟨rfl, .inl (by simp [canReplay, hb])⟩
        · exact ⟨rfl, .inl (by simp [canReplay, hb])⟩
        · exact ⟨rfl, .inr ⟨rfl, rfl⟩⟩
    | goAway c | refused c | hangUp c =>
      simp only at hs
      split at hs
      · rename_i h
        cases hs
        simp only [canResend, Bool.and_eq_true] at h
        exact ⟨rfl, .inl (by simp only [h])⟩
      · cases hs

theorem canReplay_oneshot {cfg : Cfg} (h : cfg.honestGetBody = true) (hb : cfg.body = .once ∨ cfg.body = .pipe) :
    canReplay cfg = false := by
  rcases hb with hb | hb <;> simp [canReplay, hb, h]

theorem untouched_again (cfg : Cfg) (h : cfg.honestGetBody = true) (a : Act) (reused : Bool) (st st' : St)
    (hs : step cfg a reused st = .again st') : Untouched cfg st' := fun hb =>
  (step_again hs).2.elim (fun hc => by rw [canReplay_oneshot h hb] at hc; cases hc) (·.2)

/-- What an exchange carries when the one-shot invariant holds: the complete body, unless the
peer itself cut the exchange short. -/
theorem sentOf_untouched (cfg : Cfg) (a : Act) (st : St) (hi : Untouched cfg st) :
    sentOf cfg a st = (if cfg.body = .none then .none else if a.cut = .full then .full else .part) := by
  unfold sentOf
  cases hb : cfg.body with
  | none => simp
  | fresh => simp
  | once => simp [hi (Or.inl hb)]
  | pipe => simp [hi (Or.inr hb)]

theorem go_cons (cfg : Cfg) (a : Act) (reused : Bool) (rest : List (Act × Bool)) (st : St) :
    (go cfg ((a, reused) :: rest) st).1 = ⟨st.ra, sentOf cfg a st, st.digestDone⟩ ::
      match step cfg a reused st with
      | .again st' => (go cfg rest st').1
      | .over res =>
        if wantsRetry cfg st.ra res then (go cfg rest ⟨st.ra + 1, 0, false, true, false⟩).1 else [] := by
  conv => lhs; unfold go
  cases step cfg a reused st with
  | again st' => rfl
  | over res => simp only; split <;> rfl

theorem go_exchanges (cfg : Cfg) (h : cfg.honestGetBody = true) (sc : List (Act × Bool)) (st : St)
    (hi : Untouched cfg st) :
    ∀ (i : Nat) (ex : Ex), (go cfg sc st).1[i]? = some ex →
      ∃ (a : Act) (r : Bool), sc[i]? = some (a, r) ∧
        ex.sent = (if cfg.body = .none then .none else if a.cut = .full then .full else .part) := by
  induction sc generalizing st with
  | nil => intro i ex hex; simp [go] at hex
  | cons e rest ih =>
    obtain ⟨a, reused⟩ := e
    intro i ex hex
    rw [go_cons] at hex
    cases i with
    | zero => cases hex; exact ⟨a, reused, rfl, sentOf_untouched cfg a st hi⟩
    | succ j =>
      simp only [List.getElem?_cons_succ] at hex ⊢
      split at hex
      · next st' hs => exact ih st' (untouched_again cfg h a reused st st' hs) j ex hex
      · split at hex
        · exact ih _ (fun _ => rfl) j ex hex
        · cases hex

theorem run_cases (cfg : Cfg) (sc : List (Act × Bool)) :
    run cfg sc = ([], .refused) ∨ run cfg sc = go cfg sc ⟨0, 0, false, true, false⟩ := by
  unfold run
  cases cfg.retries <;> cases cfg.body <;> simp
  rename_i n
  by_cases h : n = 0 <;> simp [h]

theorem go_attempts_le (cfg : Cfg) (N : Int) (hN : cfg.retries = some N) (h0 : 0 ≤ N)
    (sc : List (Act × Bool)) (st : St) (hst : (st.ra : Int) ≤ N) :
    ∀ ex ∈ (go cfg sc st).1, (ex.attempt : Int) ≤ N := by
  induction sc generalizing st with
  | nil => intro ex hex; simp [go] at hex
  | cons e rest ih =>
    obtain ⟨a, reused⟩ := e
    intro ex hex
    rw [go_cons, List.mem_cons] at hex
    rcases hex with rfl | hex
    · exact hst
    · split at hex
      · next st' hs => exact ih st' (by rw [(step_again hs).1]; exact hst) ex hex
      · split at hex
        · next hw =>
          refine ih _ ?_ ex hex
          simp only [wantsRetry, hN, Bool.and_eq_true, Bool.or_eq_true, decide_eq_true_eq] at hw
          have := hw.1
          simp only
          omega
        · cases hex

end Req.Lemmas.C10Exchange
