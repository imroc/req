import Req.Lemmas.CancelH3Inv
/-! Stuck states of the HTTP/3 lifecycle model after a cancellation, and the error the caller gets. -/
namespace Req.Lemmas.CancelH3
open Req.Cancel (CtxErr)
open Req.CancelH3 Req.Lemmas.Lts

/-- From the cancel point on: either nobody has closed `reqDone` yet (then the watcher is still there to
fire), or both directions of the stream are shut / about to be shut by the watcher's second step. -/
def WatcherOrShut (s : St) : Prop := s.reqDone = false ∨ (s.send ≠ .open ∧ (s.recv ≠ .open ∨ s.wat = .mid))

/-- every error the caller has got is the context's error `e` -/
def ErrIsCtx (e : CtxErr) (s : St) : Prop := ∀ x, s.cpc = .returned (.err x) → x = .ctx e

theorem watcherOrShut_act {s : St} {a : Act} (h : Inv s) (hG : WatcherOrShut s) (g : guard s a = true) : WatcherOrShut (apply s a) := by
  cases a <;> simp only [CancelH3.guard, recvDead, Bool.and_eq_true, Bool.or_eq_true, beq_iff_eq] at g <;>
    simp only [CancelH3.apply, closeBody_eq, cancelIfOpen_eq, finIfOpen_eq, WatcherOrShut] at hG ⊢
  case cSendHdr => have := h.hdr g; grind
  case cRespFail => grind
  case cFailSig => have := h.fail; grind [failing]
  case cBodyReadFail => have := h.dead; grind
  case wFireW => grind
  case wFireR => have := h.mid g; grind
  case wExit => grind
  case uFin => grind
  case cFailJoin => split <;> exact hG
  all_goals exact hG

theorem errIsCtx_act {e : CtxErr} {s : St} {a : Act} (hc : s.ctx = some e) (hJ : ErrIsCtx e s) (g : guard s a = true) :
    ErrIsCtx e (apply s a) := by
  intro x
  cases a <;> simp only [CancelH3.guard, recvDead, Bool.and_eq_true, Bool.or_eq_true, beq_iff_eq] at g <;>
    simp only [CancelH3.apply, closeBody_eq, finalErr, hc]
  case cHsCancel => grind
  case cOpenCancel => grind
  case cSendHdr => grind
  case cRespOk => grind
  case cRespFail => grind
  case cFailSig => grind
  case cFailJoin => grind
  all_goals exact hJ x

theorem apply_ctx {s : St} {a : Act} : (apply s a).ctx = s.ctx := by
  cases a <;> simp only [CancelH3.apply, closeBody_eq]
  case cSendHdr => split <;> (try split) <;> rfl
  case cFailSig => split <;> rfl
  case cFailJoin => split <;> rfl

/-- A stuck cancelled state is released. With the context done, `wFireW`/`wFireR` not enabled leave the watcher at
`none`/`done`, the upload steps not enabled leave the upload goroutine at `none`/`done` or blocked in a write; then by
cases on where the caller is: each point before `returned` has a step of its own enabled. -/
theorem stuck_released {s : St} (h : Inv s) (hG : WatcherOrShut s) (hc : s.ctx.isSome = true) (hs : stuck s = true) :
    released s = true := by
  have ng : ∀ a, guard s a = false := (all_not_guard fun a => by cases a <;> decide).1 hs
  have hw : s.wat = .none ∨ s.wat = .done := by
    have w1 := ng .wFireW; have w2 := ng .wFireR
    simp only [CancelH3.guard, hc, Bool.and_true, beq_eq_false_iff_ne, ne_eq] at w1 w2
    revert w1 w2; cases s.wat <;> simp
  have hu : s.upl = .none ∨ s.upl = .done ∨ s.upl = .write := by
    have u1 := ng .uRead; have u3 := ng .uClose; have u4 := ng .uFin
    simp only [CancelH3.guard, beq_eq_false_iff_ne, ne_eq] at u1 u3 u4
    revert u1 u3 u4; cases s.upl <;> simp
  cases hcpc : s.cpc with
  | hs => simpa [CancelH3.guard, hcpc, hc] using ng .cHsCancel
  | openStr => simpa [CancelH3.guard, hcpc, hc] using ng .cOpenCancel
  | sendHdr => simpa [CancelH3.guard, hcpc] using ng .cSendHdr
  | failSig e => simpa [CancelH3.guard, hcpc] using ng .cFailSig
  | failJoin e =>
    have := h.fail (by simp [hcpc, failing])
    have := ng .cFailJoin
    simp [CancelH3.guard, hcpc] at this
    grind
  | readResp =>
    -- the watcher is done, so the receive side is not open: `cRespFail` if it is dead, `cRespOk` after the FIN
    have c4 := ng .cRespOk; have c5 := ng .cRespFail
    simp only [CancelH3.guard, recvDead, hcpc, beq_self_eq_true, Bool.true_and, Bool.and_eq_false_imp,
      Bool.not_eq_eq_eq_not, Bool.not_false, Bool.or_eq_false_iff, Bool.or_eq_true, beq_eq_false_iff_ne,
      beq_iff_eq, ne_eq] at c4 c5
    have := h.respStr (.inl hcpc)
    have := h.done
    have := h.reqDone
    have := h.str
    have := h.eof
    have : s.recv = .idle ∨ s.recv = .open ∨ s.recv = .fin ∨ s.recv = .cancelled ∨ s.recv = .reset := by
      cases s.recv <;> simp
    grind [joining, isReturned]
  | returned r =>
    have hsend : s.send ≠ .open ∧ s.recv ≠ .open := by
      have := h.noStr; have := h.done; grind [WatcherOrShut]
    have hupl : s.upl = .none ∨ s.upl = .done := by
      have u2 := ng .uWriteFail
      simp only [CancelH3.guard, Bool.and_eq_false_imp, beq_iff_eq, bne_eq_false_iff_eq] at u2
      grind
    have hcl : s.closes = if s.hasBody then 1 else 0 := by
      have := h.closes; have := h.callerClosed; have := h.uplBody; have := h.uplStarted; have := h.uplOnErr; have := h.respStr; have := h.noStr
      cases r <;> grind [failing, retErr]
    simp only [released, isReturned, hcpc, Bool.and_eq_true, Bool.or_eq_true, beq_iff_eq, bne_iff_ne, ne_eq]
    exact ⟨⟨⟨⟨⟨trivial, hw⟩, hupl⟩, hsend.1⟩, hsend.2⟩, hcl⟩

/-- what holds from the cancel with error `c` on, whatever internal steps and peer events follow -/
structure Cancelled (c : CtxErr) (s : St) : Prop where
  inv : Inv s
  watcherOrShut : WatcherOrShut s
  ctx : s.ctx = some c
  err : ErrIsCtx c s

theorem Cancelled.act {c : CtxErr} {s : St} {a : Act} (h : Cancelled c s) (g : guard s a = true) :
    Cancelled c (apply s a) :=
  ⟨inv_act h.inv g, watcherOrShut_act h.inv h.watcherOrShut g, apply_ctx.trans h.ctx, errIsCtx_act h.ctx h.err g⟩

theorem cancel_point {s : St} (hr : Reach s) (e : CtxErr) (hc : s.ctx = none) (hd : s.reqDone = false) :
    Cancelled e (evApply s (.cancel e)) := by
  have hI := reach_inv hr
  refine ⟨inv_ev hI (by simp [evGuard, hc]), .inl hd, rfl, fun x hx => ?_⟩
  have h1 := hI.errRet
  rw [show s.cpc = .returned (.err x) from hx] at h1
  simp [retErr, hd, hc] at h1

theorem Cancelled.run {c : CtxErr} {s s' : St} {as : List Act} (h : Cancelled c s) (r : Run s as s') :
    Cancelled c s' :=
  (run_lts r).keeps Cancelled.act h

theorem Cancelled.run_releases {c : CtxErr} {s s' : St} {as : List Act} (h : Cancelled c s) (r : Run s as s') :
    as.length ≤ K ∧
    (stuck s' = true →
      released s' = true ∧ (s'.cpc = .returned (.err (.ctx c)) ∨ s'.cpc = .returned .resp)) := by
  have h' := h.run r
  refine ⟨(run_lts r).length_le_of_le mu_dec mu_le, fun hs => ?_⟩
  have hrel := stuck_released h'.inv h'.watcherOrShut (by simp [h'.ctx]) hs
  refine ⟨hrel, ?_⟩
  cases hcpc : s'.cpc with
  | returned r =>
    cases r with
    | resp => exact .inr rfl
    | err x => exact .inl (by rw [h'.err x hcpc])
  | _ => simp [released, isReturned, hcpc] at hrel

end Req.Lemmas.CancelH3
