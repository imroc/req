import Req.H2.WriteBlock
import Req.Lemmas.C05Seq
/-!
Lemmas for `header_block_fragmentation` / `header_block_reassembled` (Req.Props.C05Frag):
`ClientConn.writeHeaders` cuts a header block into HEADERS + CONTINUATION frames whose fragments
concatenate to the block; each piece is one `Framer` call (`fragOp`), so the frame reader returns
them one by one as it does for every written sequence (`Req.Lemmas.C05.Seq.readAll_wire`).
-/
namespace Req.Lemmas.C05.Frag
open Req.Proto Req.H2.Frame Req.Lemmas.C05.H2

theorem chunks_flatten (max : Nat) (hm : 1 ≤ max) :
    ∀ (fuel : Nat) (b : Bytes), b.length ≤ fuel → (chunks max fuel b).flatten = b := by
  intro fuel
  induction fuel with
  | zero => intro b hb; have : b = [] := List.length_eq_zero_iff.mp (by omega); subst this; rfl
  | succ n ih =>
    intro b hb
    unfold chunks
    split
    next he => simp at he; subst he; rfl
    next he =>
      have hlen : (b.drop max).length ≤ n := by
        have : b.length ≠ 0 := by intro h0; exact he (by simp [List.length_eq_zero_iff.mp h0])
        simp only [List.length_drop]; omega
      simp only [List.flatten_cons, ih _ hlen, List.take_append_drop]

theorem chunks_bound (max : Nat) (hm : 1 ≤ max) :
    ∀ (fuel : Nat) (b : Bytes), ∀ c ∈ chunks max fuel b, c.length ≤ max ∧ c ≠ [] := by
  intro fuel
  induction fuel with
  | zero => intro b c hc; simp [chunks] at hc
  | succ n ih =>
    intro b c hc
    unfold chunks at hc
    split at hc
    · simp at hc
    next he =>
      rcases List.mem_cons.mp hc with rfl | hc
      · refine ⟨by simp only [List.length_take]; omega, ?_⟩
        intro h0
        have : b.length ≠ 0 := by intro h0; exact he (by simp [List.length_eq_zero_iff.mp h0])
        have h1 : (b.take max).length = 0 := by rw [h0]; rfl
        simp only [List.length_take] at h1; omega
      · exact ih _ c hc

theorem chunks_length_le (max : Nat) (hm : 1 ≤ max) :
    ∀ (fuel : Nat) (b : Bytes), (chunks max fuel b).length ≤ b.length := by
  intro fuel
  induction fuel with
  | zero => intro b; simp [chunks]
  | succ n ih =>
    intro b
    unfold chunks
    split
    · simp
    next he =>
      have : b.length ≠ 0 := by intro h0; exact he (by simp [List.length_eq_zero_iff.mp h0])
      have := ih (b.drop max)
      simp only [List.length_cons, List.length_drop] at *
      omega

theorem chunks_ne_nil (max fuel : Nat) (b : Bytes) (hb : b ≠ []) (hf : 1 ≤ fuel) :
    chunks max fuel b ≠ [] := by
  cases fuel with
  | zero => omega
  | succ n =>
    unfold chunks
    have : b.isEmpty = false := by cases b <;> simp_all
    simp [this]

theorem contFrags_concat (cs : List Bytes) (c : Bytes) :
    contFrags (cs ++ [c]) = cs.map (⟨false, false, ·⟩) ++ [⟨false, true, c⟩] := by
  induction cs with
  | nil => rfl
  | cons d ds ih =>
    cases ds with
    | nil => rfl
    | cons e es => simp only [List.cons_append, contFrags, List.map_cons] at ih ⊢; rw [ih]

theorem contFrags_chunks (cs : List Bytes) : (contFrags cs).map (·.chunk) = cs := by
  rcases cs.eq_nil_or_concat with rfl | ⟨ds, c, rfl⟩
  · rfl
  · simp [contFrags_concat, Function.comp_def]

theorem contFrags_length (cs : List Bytes) : (contFrags cs).length = cs.length := by
  rw [← contFrags_chunks cs, List.length_map, contFrags_chunks]

theorem contFrags_isHeaders (cs : List Bytes) :
    (contFrags cs).map (·.isHeaders) = List.replicate cs.length false := by
  rcases cs.eq_nil_or_concat with rfl | ⟨ds, c, rfl⟩
  · rfl
  · simp [contFrags_concat, Function.comp_def, List.map_const', List.replicate_succ']

theorem contFrags_endHeaders (cs : List Bytes) (h : cs ≠ []) :
    (contFrags cs).map (·.endHeaders) = List.replicate (cs.length - 1) false ++ [true] := by
  rcases cs.eq_nil_or_concat with rfl | ⟨ds, c, rfl⟩
  · exact absurd rfl h
  · simp [contFrags_concat, Function.comp_def, List.map_const']

theorem mem_contFrags {cs : List Bytes} {f : BlockFrag} (h : f ∈ contFrags cs) :
    f.isHeaders = false ∧ f.chunk ∈ cs := by
  have h1 : f.isHeaders ∈ (contFrags cs).map (·.isHeaders) := List.mem_map_of_mem h
  have h2 : f.chunk ∈ (contFrags cs).map (·.chunk) := List.mem_map_of_mem h
  rw [contFrags_isHeaders] at h1
  rw [contFrags_chunks] at h2
  exact ⟨(List.mem_replicate.mp h1).2, h2⟩

theorem fragments_shape (prio : Priority) (maxFrame : Nat) (block : Bytes) (hb : block ≠ [])
    (hp : prio.isZero = false → 5 ≤ maxFrame) :
    ∃ c0 cs, fragments prio maxFrame block = .ok (⟨true, cs.isEmpty, c0⟩ :: contFrags cs) ∧
      c0 = block.take (if prio.isZero then maxFrame else maxFrame - 5) ∧
      cs = chunks maxFrame block.length (block.drop (if prio.isZero then maxFrame else maxFrame - 5)) := by
  have hbe : block.isEmpty = false := by cases block <;> simp_all
  have hnp : (!prio.isZero && decide (maxFrame < 5)) = false := by
    cases hz : prio.isZero
    · have := hp hz; simp; omega
    · simp
  refine ⟨_, _, ?_, rfl, rfl⟩
  unfold fragments
  simp only [hbe, hnp, Bool.false_eq_true, ↓reduceIte]

theorem fragmentation (prio : Priority) (maxFrame : Nat) (block : Bytes) (hb : block ≠ [])
    (hm : 1 ≤ maxFrame) (hp : prio.isZero = false → 5 ≤ maxFrame) :
    ∃ fr, fragments prio maxFrame block = .ok fr ∧
      (fr.map (·.chunk)).flatten = block ∧
      fr.map (·.isHeaders) = true :: List.replicate (fr.length - 1) false ∧
      fr.map (·.endHeaders) = List.replicate (fr.length - 1) false ++ [true] ∧
      (∀ f ∈ fr, f.chunk.length + (if f.isHeaders && !prio.isZero then 5 else 0) ≤ maxFrame) ∧
      (∀ f ∈ fr, f.isHeaders = false → f.chunk ≠ []) := by
  obtain ⟨c0, rest, hfr, hc0, hrest⟩ := fragments_shape prio maxFrame block hb hp
  have hmem : ∀ c ∈ rest, c.length ≤ maxFrame ∧ c ≠ [] := fun c hc =>
    chunks_bound maxFrame hm _ _ c (hrest ▸ hc)
  refine ⟨_, hfr, ?_, ?_, ?_, ?_, ?_⟩
  · simp only [List.map_cons, contFrags_chunks, List.flatten_cons]
    rw [hc0, hrest, chunks_flatten maxFrame hm _ _ (by simp only [List.length_drop]; omega),
      List.take_append_drop]
  · simp only [List.map_cons, contFrags_isHeaders, List.length_cons, contFrags_length,
      Nat.add_sub_cancel]
  · simp only [List.map_cons, List.length_cons, contFrags_length, Nat.add_sub_cancel]
    cases hr : rest with
    | nil => simp [contFrags]
    | cons c cs =>
      have := contFrags_endHeaders (c :: cs) (by simp)
      simp only [List.length_cons, Nat.add_sub_cancel] at this
      simp only [this, List.isEmpty_cons, List.length_cons, List.replicate_succ, List.cons_append]
  · intro f hf
    rcases List.mem_cons.mp hf with rfl | hf
    · simp only [hc0, List.length_take, Bool.true_and]
      cases hz : prio.isZero
      · have := hp hz
        simp only [Bool.false_eq_true, ↓reduceIte, Bool.not_false]; omega
      · simp only [↓reduceIte, Bool.not_true, Bool.false_eq_true]; omega
    · obtain ⟨h1, h2⟩ := mem_contFrags hf
      have := (hmem _ h2).1
      simp [h1]; omega
  · intro f hf hh
    rcases List.mem_cons.mp hf with rfl | hf
    · simp at hh
    · exact (hmem _ (mem_contFrags hf).2).2

theorem fragBytes_cont (sid : Nat) (es : Bool) (prio : Priority) (eh : Bool) (c : Bytes) :
    fragBytes sid es prio ⟨false, eh, c⟩ =
      match writeContinuation false sid eh c with
      | .ok b => b
      | .error _ => [] := rfl

theorem headersFlags_nopad (p : HeadersParam) (hp0 : p.padLength = 0) :
    headersFlags p = b2n p.endStream flagEndStream + b2n p.endHeaders flagEndHeaders
      + b2n (!p.priority.isZero) flagPriority := by
  simp [headersFlags, hp0, b2n]

/-- the `Framer` call `writeHeaders` makes for one piece of the block. -/
def fragOp (sid : Nat) (es : Bool) (prio : Priority) (f : BlockFrag) : WOp :=
  if f.isHeaders then .headers ⟨sid, f.chunk, es, f.endHeaders, 0, prio⟩
  else .continuation sid f.endHeaders f.chunk

section fragOp
variable {sid : Nat} {es : Bool} {prio : Priority}

theorem fragOp_payload_length (f : BlockFrag) :
    (fragOp sid es prio f).payload.length =
      f.chunk.length + (if f.isHeaders && !prio.isZero then 5 else 0) := by
  obtain ⟨ih, eh, c⟩ := f
  cases ih
  · simp [fragOp, WOp.payload]
  · simp only [fragOp, WOp.payload, if_true, headersPayload_length]
    cases prio.isZero <;> simp [b2n] <;> omega

/-- room for the Pad Length and priority octets `WfHeaders` reserves. -/
theorem fragOp_wf (hs : ValidSid sid) (hpr : WfPriority prio) (f : BlockFrag)
    (hl : f.chunk.length + 6 < two24) : (fragOp sid es prio f).Wf := by
  obtain ⟨ih, eh, c⟩ := f
  cases ih
  · exact ⟨hs, by simp only [two24] at hl ⊢; omega⟩
  · exact ⟨hs, Nat.zero_lt_succ _, hpr, by simp only [two24] at hl ⊢; omega⟩

theorem fragFrame_eq (f : BlockFrag) : fragFrame sid es prio f = (fragOp sid es prio f).frame := by
  obtain ⟨ih, eh, c⟩ := f
  cases ih
  · rfl
  · simp only [fragFrame, fragOp, if_true, WOp.frame, WOp.payload, WOp.flags, WOp.typ, WOp.sid,
      headersPayload_length, headersFlags_nopad ⟨sid, c, es, eh, 0, prio⟩ rfl]
    cases prio.isZero <;> simp [b2n]

theorem fragBytes_eq (f : BlockFrag) (h : (fragOp sid es prio f).Wf) :
    fragBytes sid es prio f = wire [fragOp sid es prio f] := by
  have hw := write_wire _ h
  obtain ⟨ih, eh, c⟩ := f
  cases ih <;> simp only [fragOp, Bool.false_eq_true, if_false, if_true] at hw ⊢ <;>
    simp only [fragBytes, Bool.false_eq_true, if_false, if_true, wire, List.append_nil] <;>
    (simp only [WOp.write] at hw; rw [hw])

theorem flatMap_fragBytes (fr : List BlockFrag) (h : ∀ f ∈ fr, (fragOp sid es prio f).Wf) :
    fr.flatMap (fragBytes sid es prio) = wire (fr.map (fragOp sid es prio)) := by
  rw [Req.Lemmas.C05.Seq.wire_eq_flatten, List.map_map, List.flatMap_def]
  congr 1
  exact List.map_congr_left fun f hf => fragBytes_eq f (h f hf)

end fragOp

theorem runOrder_cont (sid : Nat) (es : Bool) (prio : Priority) (hs : ValidSid sid) :
    ∀ cs : List Bytes, cs ≠ [] → (∀ c ∈ cs, c.length < two24) →
      runOrder sid (((contFrags cs).map (fragOp sid es prio)).map WOp.hdr) = some 0
  | [], h, _ => absurd rfl h
  | [c], _, hc => by
    have := orderStep_wf (.continuation sid true c) ⟨hs, hc c (by simp)⟩
    simp only [WOp.inBlock, WOp.leaves, if_true] at this
    simp only [contFrags, List.map_cons, List.map_nil, runOrder, fragOp, Bool.false_eq_true, if_false,
      WOp.hdr, this]
  | c :: c2 :: cs, _, hc => by
    have := orderStep_wf (.continuation sid false c) ⟨hs, hc c (by simp)⟩
    have ih := runOrder_cont sid es prio hs (c2 :: cs) (by simp) fun x hx => hc x (by simp [hx])
    simp only [WOp.inBlock, WOp.leaves, Bool.false_eq_true, if_false] at this
    simp only [contFrags, List.map_cons, runOrder, fragOp, Bool.false_eq_true, if_false, WOp.hdr,
      this] at ih ⊢
    exact ih

theorem block_read (sid : Nat) (es : Bool) (prio : Priority) (maxFrame : Nat) (block : Bytes)
    (hs : ValidSid sid) (hpr : WfPriority prio) (hb : block ≠ []) (hm : 1 ≤ maxFrame)
    (hp : prio.isZero = false → 5 ≤ maxFrame) (hsz : maxFrame + 6 < two24)
    (r : Reader) (hr : Ready r maxFrame 0) (rest : Bytes) (k : Nat) :
    ∃ fr out, fragments prio maxFrame block = .ok fr ∧
      writeBlock sid es prio maxFrame block = .ok out ∧
      readAll (fr.length + k) r (out ++ rest) =
        fr.map (fun f => Except.ok (fragFrame sid es prio f)) ++ readAll k r rest := by
  obtain ⟨fr, hfr, _, _, _, hbound, _⟩ := fragmentation prio maxFrame block hb hm hp
  refine ⟨fr, fr.flatMap (fragBytes sid es prio), hfr, by simp only [writeBlock, hfr], ?_⟩
  have hlen : ∀ f ∈ fr, (fragOp sid es prio f).payload.length ≤ maxFrame := fun f hf => by
    rw [fragOp_payload_length]; exact hbound f hf
  have hwf : ∀ f ∈ fr, (fragOp sid es prio f).Wf := fun f hf =>
    fragOp_wf hs hpr f (by have := hbound f hf; simp only [two24] at hsz ⊢; omega)
  -- the order automaton along the block: HEADERS opens it unless it is alone, the last piece closes it
  have hord : runOrder 0 ((fr.map (fragOp sid es prio)).map WOp.hdr) = some 0 := by
    obtain ⟨c0, cs, hfr', -, -⟩ := fragments_shape prio maxFrame block hb hp
    rw [hfr] at hfr'; cases hfr'
    have h0 := orderStep_wf _ (hwf _ (List.mem_cons_self ..))
    simp only [fragOp, if_true, WOp.inBlock, WOp.leaves] at h0
    simp only [List.map_cons, runOrder, fragOp, if_true, WOp.hdr, h0]
    cases cs with
    | nil => rfl
    | cons c cs =>
      exact runOrder_cont sid es prio hs (c :: cs) (by simp) fun x hx => by
        have hx' : x ∈ (contFrags (c :: cs)).map (·.chunk) := by rw [contFrags_chunks]; exact hx
        obtain ⟨f, hf, rfl⟩ := List.mem_map.mp hx'
        have := hbound f (List.mem_cons_of_mem _ hf)
        simp only [two24] at hsz ⊢; omega
  have h := Req.Lemmas.C05.Seq.readAll_wire (fr.map (fragOp sid es prio))
    (by simpa using hwf) r rest k hr.legal
    (by intro a ha; obtain ⟨f, hf, rfl⟩ := List.mem_map.mp ha; exact Nat.le_trans (hlen f hf) hr.fits)
  rw [hr.state, hord, Req.Lemmas.C05.Seq.readSpec_of_runOrder _ _ _ hord] at h
  rw [flatMap_fragBytes fr hwf, ← List.length_map (fragOp sid es prio), h]
  simp only [reader_eta r 0 hr.state, List.map_map, Function.comp_def, fragFrame_eq]

end Req.Lemmas.C05.Frag
