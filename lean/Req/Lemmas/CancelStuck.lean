import Req.Lemmas.CancelInv
import Req.Lemmas.Lts
/-! Reachable states satisfy the invariant; stuck cancelled states are done and released;
the result of a cancelled request identifies the cancellation; what steps and events leave alone
(`apply_ctx`, `apply_sleepsDone`, `ev_frame`). -/
namespace Req.Cancel

theorem reach_inv (cfg : Cfg) (s : St) (h : Reach cfg s) : Inv cfg s := by
  induction h with
  | init => exact inv_init cfg
  | ev e _ hg ih => exact inv_ev e ih hg
  | act a _ hg ih => exact inv_act a ih hg

theorem released_iff (r : Res) :
    r.released = true ↔ r.bodyOpen = false ∧ r.closing = false ∧ r.writer = false ∧ r.reader = false ∧
      r.watch = false ∧ r.stream ≠ .open ∧ r.conn ≠ .owned ∧ r.conn ≠ .ready := by
  simp [Res.released, and_assoc]

theorem mem_allActs (a : Act) : a ∈ allActs := by cases a <;> decide

theorem run_lts {cfg : Cfg} {s s' : St} {as : List Act} (h : Run cfg s as s') :
    Lemmas.Lts.Run (guard cfg) (apply cfg) s as s' := by
  induction h with
  | nil s => exact .nil s
  | cons g _ ih => exact .cons g ih

variable {cfg : Cfg} {s : St}

/-- a cancelled state in which no internal action is enabled: the call is over, nothing is held.
Whatever is still running or held has a step to take: the caller out of its wait, its sleep or its
round trip, each goroutine out of its loop. -/
theorem stuck_released (hi : Inv cfg s) (hc : s.ctx.isSome = true) (hf : cfg.sleepSelectsCtx = true)
    (hs : ∀ a, guard cfg s a = false) : s.phase = .done ∧ s.res.released = true := by
  have ng : ∀ {a}, ¬guard cfg s a = true := fun h => by simp [hs _] at h
  have hpre : s.phase.preConn = false := Bool.eq_false_iff.2 fun hp =>
    ng (a := .preConnCancel) (by simp [guard, hp, hc])
  have hsl : s.phase ≠ .retrySleep := fun hp => ng (a := .sleepWake) (by simp [guard, hp, hc, hf])
  have hrd : s.res.conn ≠ .ready := fun h => by simp [hi.readyPre h] at hpre
  rcases stack_cases cfg.stack with hst | hst | hst
  · have h := hi.h1 hst
    have ho : s.res.conn ≠ .owned := fun ho => (h.owned ho).2.2.elim
      (fun hp => ng (a := .h1RtCancel) (by simp [guard, hst, hp, hc, ho]))
      (fun hp => ng (a := .h1ReaderCancel) (by simp [guard, hst, hp, (h.owned ho).1, hc, ho]))
    have hw : s.res.writer = false := Bool.eq_false_iff.2 fun hw => (h.loops (.inl hw)).elim ho
      fun hcl => ng (a := .h1WriterExit) (by simp [guard, hst, hw, hcl])
    have hr : s.res.reader = false := Bool.eq_false_iff.2 fun hr => (h.loops (.inr hr)).elim ho
      fun hcl => ng (a := .h1ReaderStop) (by simp [guard, hst, hr, hcl])
    have hd := phase_done hpre hsl
      (fun hp => (h.infl hp).elim ho fun hcl => ng (a := .h1RtReturn) (by simp [guard, hst, hp, hcl, hw]))
      (fun hp => (h.body hp).elim ho fun hcl => ng (a := .h1BodyReadFail) (by simp [guard, hst, hp, hcl]))
    obtain ⟨u1, u2, u3, -⟩ := h.unused
    simp [hd, Res.released, h.bodyClosed (.inr (.inr (.inl hd))), u1, u2, u3, hw, hr, ho, hrd]
  · have h := hi.h2 hst
    have hcl : s.res.closing = false := Bool.eq_false_iff.2 fun hcl =>
      ng (a := .h2Closer) (by simp [guard, hst, hcl])
    have hw : s.res.writer = false := Bool.eq_false_iff.2 fun hw =>
      ng (a := .h2WriterAbort) (by simp [guard, hst, hw, hc, hcl])
    have hd := phase_done hpre hsl
      (fun hp => by
        cases ha : s.res.rtAbort
        · exact ng (a := .h2RtCancel) (by simp [guard, hst, hp, hc, ha])
        · exact ng (a := .h2RtReturn) (by simp [guard, hst, hp, ha, hcl]))
      (fun hp => by
        cases he : s.res.pipeErr
        · simp [h.bodyW hp he] at hw
        · exact ng (a := .h2BodyReadFail) (by simp [guard, hst, hp, he]))
    have hb : s.res.bodyOpen = false := Bool.eq_false_iff.2 fun hb => by
      simpa [hw, hcl, hpre] using h.bodyHeld hb
    have hso : s.res.stream ≠ .open := fun h' => by simp [h.streamW h'] at hw
    have ho : s.res.conn ≠ .owned := fun h' => by simp [h.ownedW h'] at hw
    simp [hd, Res.released, hb, hcl, hw, h.unused.1, h.unused.2, hso, ho, hrd]
  · have h := hi.h3 hst
    have hwa : s.res.watch = false := Bool.eq_false_iff.2 fun hwa =>
      ng (a := .h3WatchFire) (by simp [guard, hst, hwa, hc])
    have hso : s.res.stream ≠ .open := fun h' => by simp [h.openW h'] at hwa
    have hw : s.res.writer = false := Bool.eq_false_iff.2 fun hw => (h.writerS hw).elim hso
      fun hr => ng (a := .h3WriterStop) (by simp [guard, hst, hw, hr])
    have hd := phase_done hpre hsl
      (fun hp => (h.str (.inl hp)).elim hso fun hr => ng (a := .h3RtReturn) (by simp [guard, hst, hp, hr, hwa]))
      (fun hp => (h.str (.inr hp)).elim hso fun hr => ng (a := .h3BodyReadFail) (by simp [guard, hst, hp, hr]))
    have hb : s.res.bodyOpen = false := Bool.eq_false_iff.2 fun hb => by
      simpa [hw, hpre] using h.bodyHeld hb
    have ho : s.res.conn ≠ .owned := fun h' => by simpa [hd] using h.ownedPh h'
    obtain ⟨u1, u2⟩ := h.unused
    simp [hd, Res.released, hb, u2, hw, u1, hwa, hso, ho, hrd]

@[simp] theorem finish_result (cfg : Cfg) (s : St) (r : Result) : (finish cfg s r).result = r := by
  unfold finish; split <;> rfl

@[simp] theorem finishBody_result (cfg : Cfg) (s : St) (r : Result) : (finishBody cfg s r).result = r := by
  unfold finishBody; split
  · exact finish_result cfg s r
  · rfl

/-- once cancelled with `e`, a finished call reports an error that identifies `e` -/
def PostOK (e : CtxErr) (s : St) : Prop := s.phase = .done → s.result.identifies e = true

theorem h1Result_some (e : CtxErr) : h1Result (some e) = .ctxErr e := by
  simp [h1Result, mapRoundTripError]

/-- an error recorded on the connection / stream of a cancelled request is the context's -/
theorem connErr_eq {e : CtxErr} (hi : Inv cfg s) (hc : s.ctx = some e)
    (h : s.res.connErr.isSome = true) : s.res.connErr = some e := by
  obtain ⟨e', he⟩ := Option.isSome_iff_exists.1 h
  rw [he, ← hc, hi.connErrCtx e' he]

theorem post_act (a : Act) {e : CtxErr} (hi : Inv cfg s) (hc : s.ctx = some e)
    (hg : guard cfg s a = true) (hp : PostOK e s) : PostOK e (apply cfg s a) := by
  have ce := connErr_eq hi hc
  unfold PostOK at *
  cases a <;> simp only [guard, Bool.and_eq_true, beq_iff_eq, Bool.not_eq_true', Bool.or_eq_true] at hg <;>
    simp only [apply]
  case h1RtCancel | h1WriterFail | h1WriterExit | h1ReaderStop | h1ReaderCancel | h2RtCancel | h2Closer |
      h2WriterAbort | h3WatchFire | h3WriterStop => exact hp
  case deliver =>
    rcases stack_cases cfg.stack with h | h | h <;> simp [startInflight, h] <;> split <;> simp
  case preConnCancel | h2RtReturn | h3RtReturn | sleepWake => simp [hc, errResult, Result.identifies]
  case h3BodyReadFail => split <;> simp [hc, errResult, Result.identifies]
  case h1RtReturn =>
    obtain ⟨⟨⟨hs, hinf⟩, hcl⟩, -⟩ := hg
    simp [ce ((hi.h1 hs).closedErr hcl (.inl hinf)), h1Result_some, Result.identifies]
  case h1BodyReadFail =>
    obtain ⟨⟨hs, hbody⟩, hcl⟩ := hg
    simp [ce ((hi.h1 hs).closedErr hcl (.inr hbody)), errResult, Result.identifies]
  case h2RtAbortReturn =>
    obtain ⟨⟨-, herr⟩, -⟩ := hg
    simp [ce herr, errResult, Result.identifies]
  case h2BodyReadFail =>
    obtain ⟨⟨hs, -⟩, hpipe⟩ := hg
    simp [ce ((hi.h2 hs).pipeErrC hpipe), errResult, Result.identifies]

theorem startInflight_ctx (cfg : Cfg) (s : St) : (startInflight cfg s).ctx = s.ctx := by
  unfold startInflight; split <;> rfl

theorem startInflight_sleepsDone (cfg : Cfg) (s : St) :
    (startInflight cfg s).sleepsDone = s.sleepsDone := by
  unfold startInflight; split <;> rfl

theorem apply_ctx (cfg : Cfg) (s : St) (a : Act) : (apply cfg s a).ctx = s.ctx := by
  cases a <;> simp only [apply, finish_ctx, finishBody_ctx, startInflight_ctx]

theorem apply_sleepsDone (cfg : Cfg) (s : St) (a : Act) : (apply cfg s a).sleepsDone = s.sleepsDone := by
  cases a <;> simp only [apply, finish_sleepsDone, finishBody_sleepsDone, startInflight_sleepsDone]

theorem ev_frame (cfg : Cfg) (s : St) (e : Ev) :
    ((evApply cfg s e).ctx = s.ctx ∨ ∃ c, e = .cancel c) ∧
    ((evApply cfg s e).sleepsDone = s.sleepsDone ∨
      e = .sleepElapse ∧ (evApply cfg s e).sleepsDone = s.sleepsDone + 1) := by
  cases e
  case cancel c => exact ⟨.inr ⟨c, rfl⟩, .inl rfl⟩
  case sleepElapse =>
    refine ⟨.inl ?_, .inr ⟨rfl, ?_⟩⟩ <;> simp only [evApply] <;> split <;> simp
  case connIdle | dialStart | hsDone => exact ⟨.inl rfl, .inl rfl⟩
  case attemptFails => exact ⟨.inl (by simp [evApply]), .inl (by simp [evApply])⟩
  case dialDone => refine ⟨.inl ?_, .inl ?_⟩ <;> simp only [evApply] <;> split <;> (try split) <;> rfl
  case wrote =>
    refine ⟨.inl ?_, .inl ?_⟩ <;> simp only [evApply] <;> split <;> (try split) <;> rfl
  case gotHeaders =>
    refine ⟨.inl ?_, .inl ?_⟩ <;> simp only [evApply, completeOk] <;> split <;> simp
  case gotBody =>
    refine ⟨.inl ?_, .inl ?_⟩ <;> simp only [evApply, completeOk] <;> split <;> (try split) <;> simp

theorem ev_sleepsDone (cfg : Cfg) (s : St) (e : Ev) (hg : evGuard cfg s e = true) :
    (evApply cfg s e).sleepsDone = s.sleepsDone ∨
    (e = .sleepElapse ∧ (evApply cfg s e).sleepsDone = s.sleepsDone + 1 ∧ s.phase = .retrySleep) :=
  (ev_frame cfg s e).2.imp_right fun ⟨he, h⟩ => ⟨he, h, by
    subst he
    simp only [evGuard, Bool.and_eq_true, beq_iff_eq] at hg
    exact hg.1⟩

theorem ev_ctx_isSome (cfg : Cfg) (s : St) (e : Ev) (hc : s.ctx.isSome = true) :
    (evApply cfg s e).ctx.isSome = true := by
  rcases (ev_frame cfg s e).1 with h | ⟨c, rfl⟩
  · rw [h]; exact hc
  · rfl

end Req.Cancel
