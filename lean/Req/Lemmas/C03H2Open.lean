import Req.Lemmas.C03H2Run
/-!
C03 — HTTP/2: what no transition undoes (`Mono`), streams that can no longer end cleanly (`Dead`,
`run_dead`), what a clean `io.EOF` from a body read implies, runs without END_STREAM (`Open`,
`run_open`), and runs after the surplus beyond the declared length has arrived (`BufGrow`,
`Surplus`, `run_surplus`).
-/
namespace Req.C03
open Req.Proto Req.C02

/-- What no transition of the stream ever undoes. -/
structure Mono (s s' : H2Stream) : Prop where
  isHead : s'.isHead = s.isHead
  readClosed : s.readClosed = true → s'.readClosed = true
  res : ∀ r, s.res = some r → s'.res = some r
  err : ∀ x, s.pipe.err = some x → s'.pipe.err = some x
  readErr : ∀ x, s.readErr = some x → s'.readErr = some x
  breakErr : ∀ x, s.pipe.breakErr = some x → s'.pipe.breakErr = some x

theorem Mono.refl (s : H2Stream) : Mono s s := ⟨rfl, id, fun _ h => h, fun _ h => h, fun _ h => h, fun _ h => h⟩

theorem Mono.trans {a b c : H2Stream} (h1 : Mono a b) (h2 : Mono b c) : Mono a c :=
  ⟨h2.isHead.trans h1.isHead, fun h => h2.readClosed (h1.readClosed h), fun r h => h2.res r (h1.res r h),
   fun x h => h2.err x (h1.err x h), fun x h => h2.readErr x (h1.readErr x h),
   fun x h => h2.breakErr x (h1.breakErr x h)⟩

theorem Mono.ofCtl {s s1 : H2Stream} (hc : CtlEq s s1) : Mono s s1 :=
  ⟨hc.isHead, by rw [hc.readClosed]; exact id, by rw [hc.res]; exact fun _ h => h,
   by rw [hc.pipe]; exact fun _ h => h, by rw [hc.readErr]; exact fun _ h => h,
   by rw [hc.pipe]; exact fun _ h => h⟩

theorem Mono.abort (s : H2Stream) (e : H2Err) : Mono s (s.abort e) := by
  rw [abort_eq, closeWithError_eq]
  exact ⟨rfl, id, fun _ h => h, fun x h => by simp [h], fun _ h => h, fun _ h => h⟩

theorem Mono.endStreamError (s : H2Stream) (e : H2Err) : Mono s (s.endStreamError e) := by
  unfold H2Stream.endStreamError
  exact (⟨rfl, id, fun _ h => h, fun _ h => h, fun _ h => h, fun _ h => h⟩ :
    Mono s { s with readAborted := true }).trans (Mono.abort _ e)

theorem Mono.connError (s : H2Stream) : Mono s s.connError := by
  unfold H2Stream.connError
  have h1 : Mono s { s with connDead := true } := ⟨rfl, id, fun _ h => h, fun _ h => h, fun _ h => h, fun _ h => h⟩
  simp only []
  split
  · exact h1
  · exact h1.trans (Mono.abort _ _)

theorem Mono.endStream (s : H2Stream) : Mono s s.endStream := by
  unfold H2Stream.endStream
  split
  · exact Mono.refl s
  · rw [closeWithError_eq]; exact ⟨rfl, fun _ => rfl, fun _ h => h, fun x h => by simp [h], fun _ h => h, fun _ h => h⟩

theorem Mono.closed : Closed true Mono where
  refl := Mono.refl
  trans := Mono.trans
  ctl := Mono.ofCtl
  abort := Mono.abort
  endStreamError := Mono.endStreamError
  connError := Mono.connError
  endStream _ := Mono.endStream
  push _ _ _ := ⟨rfl, id, fun _ h => h, fun _ h => h, fun _ h => h, fun _ h => h⟩
  head s r hr _ _ := ⟨rfl, id, (by rw [hr]; intro _ hx; cases hx), fun _ h => h, fun _ h => h, fun _ h => h⟩
  piped s r hr _ _ := by
    rw [setBuffer_eq]; exact ⟨rfl, id, (by rw [hr]; intro _ hx; cases hx), fun _ h => h, fun _ h => h, fun _ h => h⟩

theorem Mono.processHeaders {s : H2Stream} {O D : Bytes} (h : Inv s O D) (fs : Fields) (es : Bool) :
    Mono s (s.processHeaders fs es) :=
  Mono.closed.processHeaders h.res_none fs es fun _ => rfl

theorem Mono.ofRd {s s' : H2Stream} (h : RdSame s s') : Mono s s' :=
  ⟨h.isHead, by rw [h.readClosed]; exact id, by rw [h.res]; exact fun _ h => h, h.errKeep, h.readErrKeep,
   by rw [h.breakErr]; exact fun _ h => h⟩

theorem Mono.closeBody (s : H2Stream) :
    Mono s (({ s with pipe := s.pipe.breakWithError .closedBody } : H2Stream).abort .closedBody) := by
  refine Mono.trans ?_ (Mono.abort _ _)
  unfold Pipe.breakWithError
  split
  · exact Mono.refl s
  · rename_i hb
    exact ⟨rfl, id, fun _ h => h, fun _ h => h, fun _ h => h, fun x hx => by simp [hx] at hb⟩

theorem Mono.step {x : H2X} {O D : Bytes} (h : Inv x.st O D) (e : H2XEv) : Mono x.st (x.step e).st :=
  Mono.closed.step h.res_none e fun _ => rfl

/-! ### a stream that can no longer end cleanly -/

def Dead (s : H2Stream) : Prop :=
  (∃ e, s.readErr = some e) ∨ (∃ e, s.pipe.breakErr = some e) ∨ (∃ e, s.pipe.err = some e ∧ e ≠ .eof)

theorem Dead.mono {s s' : H2Stream} (hd : Dead s) (hm : Mono s s') : Dead s' := by
  rcases hd with ⟨e, he⟩ | ⟨e, he⟩ | ⟨e, he, hne⟩
  · exact Or.inl ⟨e, hm.readErr e he⟩
  · exact Or.inr (Or.inl ⟨e, hm.breakErr e he⟩)
  · exact Or.inr (Or.inr ⟨e, hm.err e he, hne⟩)

theorem read_ok_data {s s' : H2Stream} {k : Nat} {d : Bytes} (hr : s.read k = some ((d, none), s')) :
    d = s.pipe.buf.take k ∧ s.pipe.buf ≠ [] ∧ s' = took s k := by
  have hnf := read_nf s k
  rw [hr] at hnf
  cases hnf with
  | data _ _ _ hne _ => exact ⟨rfl, hne, rfl⟩

/-- A read on a dead stream never blocks and never reports a clean end. -/
theorem read_dead {s : H2Stream} {O D : Bytes} (h : Inv s O D) (hd : Dead s) (k : Nat) :
    ∃ d e s', s.read k = some ((d, e), s') ∧ e ≠ some .eof := by
  have hnf := read_nf s k
  generalize s.read k = r at hnf
  cases hnf with
  | blocked hre hb he _ =>
    rcases hd with ⟨e, h1⟩ | ⟨e, h1⟩ | ⟨e, h1, _⟩
    · simp [hre] at h1
    · simp [hb] at h1
    · simp [he] at h1
  | sticky e he => exact ⟨_, _, _, rfl, by intro hx; simp at hx; subst hx; exact h.noEofR he⟩
  | broken b _ hb => exact ⟨_, _, _, rfl, by intro hx; simp at hx; subst hx; exact h.noEofB hb⟩
  | ended x hre hb _ hx _ =>
    refine ⟨_, _, _, rfl, ?_⟩
    intro hxe; simp at hxe; subst hxe
    rcases hd with ⟨e, h1⟩ | ⟨e, h1⟩ | ⟨e, h1, hne⟩
    · simp [hre] at h1
    · simp [hb] at h1
    · rw [hx] at h1; simp at h1; exact hne h1.symm
  | _ => exact ⟨_, _, _, rfl, by simp⟩

/-- A read that reports a clean end: the pipe was closed by END_STREAM and, if a length was
declared, exactly that many bytes have been handed out. -/
theorem read_eof_spec {s : H2Stream} {O D : Bytes} (h : Inv s O D) (k : Nat) (d : Bytes) (s' : H2Stream)
    (hr : s.read k = some ((d, some .eof), s')) :
    s.pipe.err = some .eof ∧ d = [] ∧ ¬(s.pipe.hasBuf = true ∧ s.pipe.buf ≠ []) ∧
      ∀ r n, s.res = some r → r.body = .piped → r.contentLength = some n → O.length = n := by
  have hnf := read_nf s k
  rw [hr] at hnf
  cases hnf with
  | sticky e he => exact absurd he h.noEofR
  | broken b _ hb => exact absurd hb h.noEofB
  | ended x hre hb hnb hx hxe =>
    refine ⟨hx, rfl, hnb, ?_⟩
    intro r n hres hp hcl
    have hrem := h.remain r hres hp hre
    have hbd := h.bound r n hres hp hcl
    rw [hcl] at hrem; simp at hrem
    rcases hxe rfl with h0 | h0
    · rw [h0] at hrem; simp at hrem
    · rw [h0] at hrem; simp at hrem; omega

theorem runReads_data {s s' : H2Stream} {k : Nat} {d : Bytes} (hr : s.read k = some ((d, none), s')) (ks : List Nat) :
    s.runReads (k :: ks) = ((d, none) :: (s'.runReads ks).1, (s'.runReads ks).2) := by
  rw [H2Stream.runReads, hr]

theorem runReads_err {s s' : H2Stream} {k : Nat} {d : Bytes} {e : H2Err} (hr : s.read k = some ((d, some e), s'))
    (ks : List Nat) : s.runReads (k :: ks) = ([(d, some e)], s') := by
  rw [H2Stream.runReads, hr]

/-- Reads of positive size, more of them than bytes buffered: one read of data keeps it so. -/
theorem took_lt {s : H2Stream} {k : Nat} {ks : List Nat} (hne : s.pipe.buf ≠ []) (hk : 0 < k)
    (hlen : s.pipe.buf.length < (k :: ks).length) : (took s k).pipe.buf.length < ks.length := by
  have := List.length_pos_iff.mpr hne
  simp only [took, List.length_drop, List.length_cons] at hlen ⊢; omega

/-- Drain a dead stream: it ends with an error, and that error is not `io.EOF`. -/
theorem drain_dead {s : H2Stream} {O D : Bytes} (h : Inv s O D) (hd : Dead s) (ks : List Nat)
    (hpos : ∀ k ∈ ks, 0 < k) (hlen : s.pipe.buf.length < ks.length) :
    ∃ d e, (s.runReads ks).1.getLast? = some (d, some e) ∧ e ≠ .eof := by
  induction ks generalizing s O with
  | nil => simp at hlen
  | cons k ks ih =>
    obtain ⟨d, e, s', hr, hne⟩ := read_dead h hd k
    cases e with
    | some e => rw [runReads_err hr]; exact ⟨d, e, rfl, fun hx => hne (hx ▸ rfl)⟩
    | none =>
      obtain ⟨_, hne1, rfl⟩ := read_ok_data hr
      obtain ⟨d', e', hl, hne'⟩ := ih (h.read k d none _ hr) (hd.mono (Mono.ofRd (read_rdsame hr)))
        (fun k hk => hpos k (by simp [hk])) (took_lt hne1 (hpos k (by simp)) hlen)
      rw [runReads_data hr]
      exact ⟨d', e', by rw [List.getLast?_cons, hl]; rfl, hne'⟩

/-- No END_STREAM so far: the read side is open and a non-HEAD response has a piped body. -/
structure Open (s : H2Stream) : Prop where
  readClosed : s.readClosed = false
  piped : s.isHead = false → ∀ r, s.res = some r → r.body = .piped

theorem Open.init : Open (H2Stream.init false) := ⟨rfl, by simp [H2Stream.init]⟩

theorem Open.ctl {s s1 : H2Stream} (h : Open s) (hc : CtlEq s s1) : Open s1 :=
  ⟨by rw [hc.readClosed]; exact h.readClosed, by rw [hc.isHead, hc.res]; exact h.piped⟩

theorem Open.abort {s : H2Stream} (h : Open s) (e : H2Err) : Open (s.abort e) :=
  ⟨by simpa using h.readClosed, by simpa using h.piped⟩

theorem Open.endStreamError {s : H2Stream} (h : Open s) (e : H2Err) : Open (s.endStreamError e) := by
  unfold H2Stream.endStreamError
  exact Open.abort (s := { s with readAborted := true }) ⟨h.readClosed, h.piped⟩ e

theorem Open.connError {s : H2Stream} (h : Open s) : Open s.connError := by
  unfold H2Stream.connError
  simp only []
  split
  · exact ⟨h.readClosed, h.piped⟩
  · exact Open.abort (s := { s with connDead := true }) ⟨h.readClosed, h.piped⟩ _

theorem Open.closed : Closed false fun s s' => Open s → Open s' where
  refl _ := id
  trans h1 h2 := h2 ∘ h1
  ctl hc h := h.ctl hc
  abort _ e h := h.abort e
  endStreamError _ e h := h.endStreamError e
  connError _ h := h.connError
  endStream h := nomatch h
  push _ _ _ h := ⟨h.readClosed, h.piped⟩
  head _ _ _ hh _ h := ⟨h.readClosed, fun hd => nomatch hh hd⟩
  piped _ r _ hb _ h := ⟨h.readClosed, fun _ r' hr' => by cases hr'; exact hb⟩

theorem Open.step {x : H2X} {O D : Bytes} (hi : Inv x.st O D) (h : Open x.st) (e : H2XEv) (hes : e.noES = true) :
    Open (x.step e).st :=
  Open.closed.step hi.res_none e (fun h' => by rw [hes] at h'; cases h') h

theorem Open.read {s s' : H2Stream} (h : Open s) (hs : RdSame s s') : Open s' :=
  ⟨by rw [hs.readClosed]; exact h.readClosed, by rw [hs.isHead, hs.res]; exact h.piped⟩

theorem Open.closeBody {s : H2Stream} (h : Open s) :
    Open (({ s with pipe := s.pipe.breakWithError .closedBody } : H2Stream).abort .closedBody) :=
  Open.abort (s := { s with pipe := s.pipe.breakWithError .closedBody }) ⟨h.readClosed, h.piped⟩ _

/-- No observation of a run is a clean end of the body. -/
def NoCleanEOF (obs : List (Option (Bytes × Option H2Err))) : Prop :=
  ∀ d, some (d, some H2Err.eof) ∉ obs

/-- The observation of one read is not a clean end of the body. -/
def NotEOF (o : Option (Bytes × Option H2Err)) : Prop := ∀ d, o ≠ some (d, some H2Err.eof)

theorem NotEOF.none : NotEOF none := fun _ h => nomatch h

theorem NotEOF.of_ne {d : Bytes} {e : Option H2Err} (h : e ≠ some .eof) : NotEOF (some (d, e)) :=
  fun _ hx => h (by cases hx; rfl)

theorem noCleanEOF_of {obs : List (Option (Bytes × Option H2Err))} (h : ∀ o ∈ obs, NotEOF o) : NoCleanEOF obs :=
  fun d hm => h _ hm d rfl

/-- While no frame carries END_STREAM, whatever else happens, no read ends cleanly. -/
theorem run_open {x : H2X} {O D : Bytes} (hi : Inv x.st O D) (ho : Open x.st) (ops : List H2XOp)
    (hes : ∀ e ∈ evsOf ops, e.noES = true) :
    NoCleanEOF (x.run ops).1 ∧ Open (x.run ops).2.st := by
  obtain ⟨h1, _, h2, _⟩ := hi.run_ind (φ := NotEOF)
    (Q := fun y _ _ rest => Open y.st ∧ ∀ e ∈ evsOf rest, e.noES = true)
    (fun y _ _ e _ hy ⟨ho, hes⟩ =>
      ⟨ho.step hy e (hes e (List.mem_cons_self ..)), fun e' h => hes e' (List.mem_cons_of_mem _ h)⟩)
    (fun _ _ _ _ _ ⟨ho, hes⟩ => ⟨ho.closeBody, hes⟩) (fun _ _ _ _ _ _ _ h => ⟨.none, h⟩)
    (fun y _ _ k d e st' _ hy hr ⟨ho, hes⟩ => by
      refine ⟨.of_ne fun he => ?_, ho.read (read_rdsame hr), hes⟩
      subst he
      have := hy.eofClosed (read_eof_spec hy k d st' hr).1
      rw [ho.readClosed] at this; cases this)
    ops ⟨ho, hes⟩
  exact ⟨noCleanEOF_of h1, h2⟩

/-- On a dead stream nothing that follows makes a read end cleanly. -/
theorem run_dead {x : H2X} {O D : Bytes} (hi : Inv x.st O D) (hd : Dead x.st) (ops : List H2XOp) :
    NoCleanEOF (x.run ops).1 ∧ Dead (x.run ops).2.st := by
  obtain ⟨h1, _, h2⟩ := hi.run_ind (φ := NotEOF) (Q := fun y _ _ _ => Dead y.st)
    (fun y _ _ e _ hy hd => hd.mono (Mono.step hy e)) (fun _ _ _ _ _ hd => hd.mono (Mono.closeBody _))
    (fun _ _ _ _ _ _ _ h => ⟨.none, h⟩)
    (fun y _ _ k d e st' _ hy hr hd => by
      obtain ⟨_, _, _, hr', hne⟩ := read_dead hy hd k
      cases hr.symm.trans hr'
      exact ⟨.of_ne hne, hd.mono (Mono.ofRd (read_rdsame hr))⟩)
    ops hd
  exact ⟨noCleanEOF_of h1, h2⟩

/-- Frames and connection events never shrink the pipe. -/
structure BufGrow (s s' : H2Stream) : Prop where
  hasBuf : s.pipe.hasBuf = true → s'.pipe.hasBuf = true
  buf : ∃ t, s'.pipe.buf = s.pipe.buf ++ t

theorem BufGrow.refl (s : H2Stream) : BufGrow s s := ⟨id, [], by simp⟩
theorem BufGrow.trans {a b c : H2Stream} (h1 : BufGrow a b) (h2 : BufGrow b c) : BufGrow a c := by
  obtain ⟨t1, e1⟩ := h1.buf; obtain ⟨t2, e2⟩ := h2.buf
  exact ⟨fun h => h2.hasBuf (h1.hasBuf h), t1 ++ t2, by rw [e2, e1, List.append_assoc]⟩
theorem BufGrow.ofPipe {s s' : H2Stream} (hb : s'.pipe.buf = s.pipe.buf) (hh : s'.pipe.hasBuf = s.pipe.hasBuf) :
    BufGrow s s' := ⟨by rw [hh]; exact id, [], by simp [hb]⟩
theorem BufGrow.abort (s : H2Stream) (e : H2Err) : BufGrow s (s.abort e) := BufGrow.ofPipe (by simp) (by simp)
theorem BufGrow.endStreamError (s : H2Stream) (e : H2Err) : BufGrow s (s.endStreamError e) := by
  unfold H2Stream.endStreamError; exact BufGrow.ofPipe (by simp) (by simp)
theorem BufGrow.connError (s : H2Stream) : BufGrow s s.connError := by
  unfold H2Stream.connError; simp only []; split
  · exact BufGrow.ofPipe rfl rfl
  · exact BufGrow.ofPipe (by simp) (by simp)
theorem BufGrow.endStream (s : H2Stream) : BufGrow s s.endStream := by
  unfold H2Stream.endStream; split
  · exact BufGrow.refl s
  · exact BufGrow.ofPipe (by simp) (by simp)

theorem BufGrow.closed : Closed true BufGrow where
  refl := BufGrow.refl
  trans := BufGrow.trans
  ctl hc := BufGrow.ofPipe (by rw [hc.pipe]) (by rw [hc.pipe])
  abort := BufGrow.abort
  endStreamError := BufGrow.endStreamError
  connError := BufGrow.connError
  endStream _ := BufGrow.endStream
  push _ p _ := ⟨id, p, rfl⟩
  head _ _ _ _ _ := BufGrow.ofPipe rfl rfl
  piped s _ _ _ _ := by rw [setBuffer_eq]; exact ⟨fun hh => by simp [hh], [], by simp⟩

theorem BufGrow.step {x : H2X} {O D : Bytes} (hi : Inv x.st O D) (e : H2XEv) : BufGrow x.st (x.step e).st :=
  BufGrow.closed.step hi.res_none e fun _ => rfl

/-- The pipe holds (or held) more than the declared length still allows: the surplus has arrived. -/
def Surplus (s : H2Stream) (O : Bytes) : Prop :=
  Dead s ∨ ∃ r n, s.res = some r ∧ r.body = .piped ∧ r.contentLength = some n ∧
    s.pipe.hasBuf = true ∧ O.length + s.pipe.buf.length > n

theorem Surplus.mono {s s' : H2Stream} {O : Bytes} (hs : Surplus s O) (hm : Mono s s') (hg : BufGrow s s') :
    Surplus s' O := by
  rcases hs with hd | ⟨r, n, hres, hp, hcl, hhb, hgt⟩
  · exact .inl (hd.mono hm)
  · obtain ⟨t, ht⟩ := hg.buf
    exact .inr ⟨r, n, hm.res r hres, hp, hcl, hg.hasBuf hhb, by rw [ht, List.length_append]; omega⟩

theorem Surplus.step {x : H2X} {O D : Bytes} (hi : Inv x.st O D) (hs : Surplus x.st O) (e : H2XEv) :
    Surplus (x.step e).st O :=
  hs.mono (Mono.step hi e) (BufGrow.step hi e)

theorem Dead.closeBody (x : H2X) : Dead x.closeBody.st := by
  right; left
  simp only [H2X.closeBody, abort_eq, closeWithError_eq]
  unfold Pipe.breakWithError
  split
  · rename_i h; cases hb : x.st.pipe.breakErr with
    | none => simp [hb] at h
    | some b => exact ⟨b, rfl⟩
  · exact ⟨_, rfl⟩

/-- A read once the surplus has arrived: it does not end cleanly, and the surplus stays. -/
theorem Surplus.read {s s' : H2Stream} {O D d : Bytes} {e : Option H2Err} {k : Nat} (hi : Inv s O D)
    (hs : Surplus s O) (hr : s.read k = some ((d, e), s')) : e ≠ some .eof ∧ Surplus s' (O ++ d) := by
  rcases hs with hd | ⟨r, n, hres, hp, hcl, hhb, hgt⟩
  · obtain ⟨_, _, _, hr', hne⟩ := read_dead hi hd k
    cases hr.symm.trans hr'
    exact ⟨hne, .inl (hd.mono (Mono.ofRd (read_rdsame hr)))⟩
  have hbd := hi.bound r n hres hp hcl
  have hne : s.pipe.buf ≠ [] := by intro h0; rw [h0] at hgt; simp at hgt; omega
  refine ⟨fun he => ?_, ?_⟩
  · subst he; exact (read_eof_spec hi k d s' hr).2.2.1 ⟨hhb, hne⟩
  have hnf := read_nf s k
  rw [hr] at hnf
  cases hnf with
  | sticky e he => exact Or.inl (Or.inl ⟨e, he⟩)
  | broken b _ hb => exact Or.inl (Or.inr (Or.inl ⟨b, hb⟩))
  | brokenShort _ hb => exact Or.inl (Or.inr (Or.inl ⟨_, hb⟩))
  | data _ _ _ _ _ =>
    refine Or.inr ⟨r, n, hres, hp, hcl, hhb, ?_⟩
    simp only [took, List.length_append, List.length_take, List.length_drop]; omega
  | over rem _ _ _ _ _ _ => exact Or.inl (Or.inl ⟨_, rfl⟩)
  | ended y _ _ hnb _ _ => exact absurd ⟨hhb, hne⟩ hnb
  | short rem _ _ hnb _ _ _ => exact absurd ⟨hhb, hne⟩ hnb

/-- Once the surplus has arrived no read ever ends cleanly, whatever follows. -/
theorem run_surplus {x : H2X} {O D : Bytes} (hi : Inv x.st O D) (hs : Surplus x.st O) (ops : List H2XOp) :
    NoCleanEOF (x.run ops).1 :=
  noCleanEOF_of (hi.run_ind (φ := NotEOF) (Q := fun y O _ _ => Surplus y.st O)
    (fun _ _ _ e _ hy hs => Surplus.step hy hs e) (fun y _ _ _ _ _ => .inl (Dead.closeBody y))
    (fun _ _ _ _ _ _ _ h => ⟨.none, h⟩)
    (fun _ _ _ _ _ _ _ _ hy hr hs => ⟨.of_ne (hs.read hy hr).1, (hs.read hy hr).2⟩) ops hs).1

end Req.C03
