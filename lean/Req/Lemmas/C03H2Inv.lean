import Req.Lemmas.C03H2
/-!
C03 — HTTP/2: the inductive invariant `Inv s O D` of one client stream.

`O` = the bytes the body reads handed to the caller so far, `D` = the concatenated payloads of
every DATA frame the read loop was given so far (accepted or not).  The invariant holds initially
and is preserved by every frame, every connection event, every caller read of any size and by
closing the body — in any order.
-/
namespace Req.C03
open Req.Proto Req.C02

/-! `closeWithError`, `abort` and `setBuffer` as record updates with the condition inside the fields:
behind these equations the successor state is a literal update of `s`, and a clause of `Inv` that
reads none of the updated fields holds of it by the same proof term. -/
@[simp] theorem closeWithError_eq (p : Pipe) (e : H2Err) (fn : Bool) :
    p.closeWithError e fn =
      { p with err := if p.err.isSome then p.err else some e, readFn := if p.err.isSome then p.readFn else fn } := by
  unfold Pipe.closeWithError; split <;> rfl

@[simp] theorem abort_eq (s : H2Stream) (e : H2Err) :
    s.abort e = { s with headErr := if s.res.isNone ∧ s.headErr.isNone then some e else s.headErr,
                         pipe := s.pipe.closeWithError e false } := by
  unfold H2Stream.abort; split <;> rfl

@[simp] theorem setBuffer_eq (p : Pipe) :
    p.setBuffer = { p with hasBuf := if p.err.isSome ∨ p.breakErr.isSome then p.hasBuf else true } := by
  unfold Pipe.setBuffer; split <;> rfl

theorem closeWithError_err_isSome (e : H2Err) (p : Pipe) (fn : Bool) : ((p.closeWithError e fn).err).isSome = true := by
  rw [closeWithError_eq]; simp only; split <;> simp_all

/-- Nothing has gone wrong on the stream and END_STREAM has not been seen. -/
def Live (s : H2Stream) : Prop :=
  s.pipe.err = none ∧ s.pipe.breakErr = none ∧ s.readAborted = false ∧ s.connDead = false ∧
  s.readClosed = false

structure Inv (s : H2Stream) (O D : Bytes) : Prop where
  -- a pipe without buffer (before the head, after close) holds nothing
  bufNil : s.pipe.hasBuf = false → s.pipe.buf = []
  -- what was handed out is a prefix of the DATA received
  outPfx : O <+: D
  -- … and so is what is still buffered behind it, until a read has failed
  allPfx : s.readErr = none → O ++ s.pipe.buf <+: D
  -- while nothing has gone wrong every DATA byte is handed out or buffered
  liveEq : Live s → O ++ s.pipe.buf = D
  -- io.EOF is never the sticky read error, never the break error
  noEofR : s.readErr ≠ some .eof
  noEofB : s.pipe.breakErr ≠ some .eof
  -- only `endStream` closes the pipe with io.EOF
  eofClosed : s.pipe.err = some .eof → s.readClosed = true
  -- before the response head: no buffer, nothing handed out
  resNone : s.res = none → s.pipe.hasBuf = false ∧ O = []
  -- `pastHeaders` and `res` go together, except on a stream the loop has reset
  headSeen : s.pastHeaders = true → s.res.isSome = true ∨ s.readAborted = true
  resPast : s.res.isSome = true → s.pastHeaders = true
  -- `setBuffer` is called for piped bodies only
  hasBufPiped : s.pipe.hasBuf = true → ∃ r, s.res = some r ∧ r.body = .piped
  -- `bytesRemain` is the declared length minus what was handed out, which never exceeds it
  remain : ∀ r, s.res = some r → r.body = .piped → s.readErr = none →
    s.bytesRemain = r.contentLength.map (· - O.length)
  bound : ∀ r n, s.res = some r → r.body = .piped → r.contentLength = some n → O.length ≤ n
  -- a failed read leaves the pipe closed or broken
  readErrDead : s.readErr.isSome = true → s.pipe.err.isSome = true ∨ s.pipe.breakErr.isSome = true
  -- END_STREAM is accepted only behind a response head
  closedRes : s.readClosed = true → s.res.isSome = true
  -- a live stream with a piped body has its buffer
  liveBuf : Live s → ∀ r, s.res = some r → r.body = .piped → s.pipe.hasBuf = true

theorem Inv.init (isHead : Bool) : Inv (H2Stream.init isHead) [] [] := by
  constructor <;> simp [H2Stream.init, Pipe.empty, Live]

theorem Inv.res_none {s : H2Stream} {O D : Bytes} (h : Inv s O D) (hph : s.pastHeaders = false) : s.res = none := by
  cases hr : s.res with
  | none => rfl
  | some x => have := h.resPast (by simp [hr]); simp [hph] at this

theorem Inv.res_some {s : H2Stream} {O D : Bytes} (h : Inv s O D) (hph : s.pastHeaders = true) (hig : ¬Ignored s) :
    s.res.isSome = true :=
  (h.headSeen hph).resolve_right fun hr => hig (.inl hr)

theorem Inv.ctl {s s1 : H2Stream} {O D : Bytes} (h : Inv s O D) (hc : CtlEq s s1)
    (hp : s1.pastHeaders = true → s1.res.isSome = true ∨ s1.readAborted = true)
    (hq : s1.res.isSome = true → s1.pastHeaders = true) : Inv s1 O D := by
  have hl : Live s1 ↔ Live s := by
    simp only [Live, hc.pipe, hc.readAborted, hc.connDead, hc.readClosed]
  constructor
  case bufNil => rw [hc.pipe]; exact h.bufNil
  case outPfx => exact h.outPfx
  case allPfx => rw [hc.pipe, hc.readErr]; exact h.allPfx
  case liveEq => rw [hc.pipe, hl]; exact h.liveEq
  case noEofR => rw [hc.readErr]; exact h.noEofR
  case noEofB => rw [hc.pipe]; exact h.noEofB
  case eofClosed => rw [hc.pipe, hc.readClosed]; exact h.eofClosed
  case resNone => rw [hc.pipe, hc.res]; exact h.resNone
  case headSeen => exact hp
  case resPast => exact hq
  case hasBufPiped => rw [hc.pipe, hc.res]; exact h.hasBufPiped
  case remain => rw [hc.res, hc.readErr, hc.bytesRemain]; exact h.remain
  case bound => rw [hc.res]; exact h.bound
  case readErrDead => rw [hc.pipe, hc.readErr]; exact h.readErrDead
  case closedRes => rw [hc.readClosed, hc.res]; exact h.closedRes
  case liveBuf => rw [hl, hc.res, hc.pipe]; exact h.liveBuf

theorem Inv.abort {s : H2Stream} {O D : Bytes} (h : Inv s O D) (e : H2Err) (he : e ≠ .eof) :
    Inv (s.abort e) O D := by
  have hcl : (if s.pipe.err.isSome then s.pipe.err else some e).isSome = true := by split <;> simp_all
  have hnl : ∀ {p : Pipe}, p.err = none → p.err = (if s.pipe.err.isSome then s.pipe.err else some e) → False :=
    fun h0 h1 => by rw [← h1, h0] at hcl; cases hcl
  rw [abort_eq, closeWithError_eq]
  exact
    { h with
      liveEq := fun hl => (hnl hl.1 rfl).elim
      eofClosed := fun hx => by
        simp only at hx; split at hx
        · exact h.eofClosed hx
        · cases hx; exact absurd rfl he
      readErrDead := fun _ => .inl hcl
      liveBuf := fun hl => (hnl hl.1 rfl).elim }

/-- Setting `readAborted`: the stream is not live any more, and `headSeen` holds by that flag. -/
theorem Inv.aborted {s : H2Stream} {O D : Bytes} (h : Inv s O D) : Inv { s with readAborted := true } O D :=
  { h with
    liveEq := fun hl => by simp [Live] at hl
    headSeen := fun _ => .inr rfl
    liveBuf := fun hl => by simp [Live] at hl }

theorem Inv.endStreamError {s : H2Stream} {O D : Bytes} (h : Inv s O D) (e : H2Err) (he : e ≠ .eof) :
    Inv (s.endStreamError e) O D :=
  h.aborted.abort e he

theorem Inv.connError {s : H2Stream} {O D : Bytes} (h : Inv s O D) : Inv s.connError O D := by
  have h1 : Inv ({ s with connDead := true } : H2Stream) O D :=
    { h with
      liveEq := fun hl => by simp [Live] at hl
      liveBuf := fun hl => by simp [Live] at hl }
  unfold H2Stream.connError
  simp only []
  split
  · exact h1
  · exact h1.abort _ (by simp)

/-- `endStream` once the response head is there. -/
theorem Inv.endStream {s : H2Stream} {O D : Bytes} (h : Inv s O D) (hres : s.res.isSome = true) :
    Inv s.endStream O D := by
  unfold H2Stream.endStream
  split
  · exact h
  · rw [closeWithError_eq]
    exact
      { h with
        liveEq := fun hl => by simp [Live] at hl
        eofClosed := fun _ => rfl
        readErrDead := fun _ => .inl (by simp only; split <;> simp_all)
        closedRes := fun _ => hres
        liveBuf := fun hl => by simp [Live] at hl }

/-- More DATA arrived but was not accepted: `D` grows, the stream is no longer live. -/
theorem Inv.grow {s : H2Stream} {O D : Bytes} (h : Inv s O D) (p : Bytes) (hnl : ¬Live s) :
    Inv s O (D ++ p) :=
  { h with
    outPfx := h.outPfx.trans (List.prefix_append _ _)
    allPfx := fun hr => (h.allPfx hr).trans (List.prefix_append _ _)
    liveEq := fun hl => absurd hl hnl }

theorem Inv.push {s : H2Stream} {O D : Bytes} (h : Inv s O D) (p : Bytes) (hw : Writable s)
    (hig : ¬Ignored s) (hrc : s.readClosed = false) : Inv (pushData s p) O (D ++ p) := by
  have hl : Live s := by
    simp only [Ignored, not_or, Bool.not_eq_true] at hig
    exact ⟨hw.1, hw.2.1, hig.1, hig.2, hrc⟩
  have heq := h.liveEq hl
  exact
    { h with
      bufNil := fun hb => by simp [pushData, hw.2.2] at hb
      outPfx := h.outPfx.trans (List.prefix_append _ _)
      allPfx := fun _ => by simp only [pushData]; rw [← List.append_assoc, heq]; exact List.prefix_refl _
      liveEq := fun _ => by simp only [pushData]; rw [← List.append_assoc, heq]
      liveBuf := fun _ => h.liveBuf hl }

theorem Inv.headPiped {s : H2Stream} {O D : Bytes} (h : Inv s O D) (r : H2Res)
    (hph : s.pastHeaders = false) (hb : r.body = .piped) :
    Inv { s with pastHeaders := true, res := some r, pipe := s.pipe.setBuffer, bytesRemain := r.contentLength } O D := by
  obtain ⟨hnb, hO⟩ := h.resNone (h.res_none hph)
  have hbuf := h.bufNil hnb
  subst hO
  rw [setBuffer_eq]
  exact
    { h with
      bufNil := fun _ => hbuf
      resNone := fun hx => nomatch hx
      headSeen := fun _ => .inl rfl
      resPast := fun _ => rfl
      hasBufPiped := fun _ => ⟨r, rfl, hb⟩
      remain := fun r' hr' _ _ => by cases hr'; simp
      bound := fun _ _ _ _ _ => Nat.zero_le _
      closedRes := fun _ => rfl
      liveBuf := fun hl _ _ _ => by
        have h1 := hl.1; have h2 := hl.2.1; simp only at h1 h2 ⊢; simp [h1, h2] }

theorem Inv.headBodiless {s : H2Stream} {O D : Bytes} (h : Inv s O D) (r : H2Res)
    (hph : s.pastHeaders = false) (hb : r.body ≠ .piped) :
    Inv { s with pastHeaders := true, res := some r } O D := by
  obtain ⟨hnb, _⟩ := h.resNone (h.res_none hph)
  exact
    { h with
      resNone := fun hx => nomatch hx
      headSeen := fun _ => .inl rfl
      resPast := fun _ => rfl
      hasBufPiped := fun hx => by rw [hnb] at hx; cases hx
      remain := fun r' hr' hb' => by cases hr'; exact absurd hb' hb
      bound := fun r' _ hr' hb' => by cases hr'; exact absurd hb' hb
      closedRes := fun _ => rfl
      liveBuf := fun _ r' hr' hb' => by cases hr'; exact absurd hb' hb }

/-- `transportResponseBody.Close`. -/
theorem Inv.closeBody {s : H2Stream} {O D : Bytes} (h : Inv s O D) :
    Inv (({ s with pipe := s.pipe.breakWithError .closedBody } : H2Stream).abort .closedBody) O D := by
  refine Inv.abort ?_ _ (by simp)
  unfold Pipe.breakWithError
  split
  · exact h
  · exact
      { h with
        bufNil := fun _ => rfl
        allPfx := fun _ => by simpa using h.outPfx
        liveEq := fun hl => by simp [Live] at hl
        noEofB := by simp
        resNone := fun hr => ⟨rfl, (h.resNone hr).2⟩
        hasBufPiped := fun hx => by simp at hx
        readErrDead := fun _ => .inr rfl
        liveBuf := fun hl => by simp [Live] at hl }

theorem not_live_of_ignored {s : H2Stream} (h : Ignored s) : ¬Live s := by
  intro hl; rcases h with h | h
  · simp [hl.2.2.1] at h
  · simp [hl.2.2.2.1] at h

theorem Inv.processData {s : H2Stream} {O D : Bytes} (h : Inv s O D) (p : Bytes) (pad es : Bool) :
    Inv (s.processData p pad es) O (D ++ p) := by
  have hnf := processData_nf s p pad es
  generalize s.processData p pad es = s' at hnf
  cases hnf with
  | ignored hig => exact h.grow p (not_live_of_ignored hig)
  | rejected e he hig =>
    have h1 := h.endStreamError e he
    exact h1.grow p (by intro hl; simp [H2Stream.endStreamError, abort_eq, Live] at hl)
  | empty hp hig hrc hph =>
    subst hp
    simp only [List.append_nil]
    split
    · exact h.endStream (h.res_some hph hig)
    · exact h
  | accepted hp hig hrc hph hw =>
    have h1 := h.push p hw hig hrc
    split
    · exact h1.endStream (h.res_some hph hig)
    · exact h1

theorem Inv.processHeaders {s : H2Stream} {O D : Bytes} (h : Inv s O D) (fs : Fields) (es : Bool) :
    Inv (s.processHeaders fs es) O D := by
  have hnf := processHeaders_nf s fs es
  generalize s.processHeaders fs es = s' at hnf
  have hresEq : ∀ s1, CtlEq s s1 → s.pastHeaders = true → s1.pastHeaders = true →
      Inv s1 O D := by
    intro s1 hc hp hp1
    refine h.ctl hc (fun _ => ?_) (fun _ => hp1)
    rw [hc.res, hc.readAborted]; exact h.headSeen hp
  cases hnf with
  | ignored _ => exact h
  | rejected s1 e hc he hig hpp =>
    -- the intermediate state may have `pastHeaders` without a head; `endStreamError` repairs that
    refine Inv.abort (s := { s1 with readAborted := true }) ?_ e he
    refine h.aborted.ctl ⟨hc.pipe, hc.readErr, hc.bytesRemain, hc.readClosed, rfl, hc.connDead, hc.isHead, hc.res,
      hc.headErr⟩ (fun _ => .inr rfl) fun hr => hpp (h.resPast ?_)
    rw [← hc.res]; exact hr
  | connErr s1 hc hig hrc hph hp1 => exact (hresEq s1 hc hph hp1).connError
  | trailers s1 hc hig hrc hph hp1 hes =>
    exact (hresEq s1 hc hph hp1).endStream (hc.res ▸ h.res_some hph hig)
  | interim s1 hc hig hrc hph hp1 hes =>
    refine h.ctl hc (fun hx => ?_) (fun hr => ?_)
    · simp [hp1] at hx
    · rw [hc.res] at hr; have := h.resPast hr; simp [hph] at this
  | bodiless r hig hrc hph hb hh _ =>
    have h1 := h.headBodiless r hph hb
    split
    · exact h1.endStream rfl
    · exact h1
  | piped r hig hrc hph hb hh hes => exact h.headPiped r hph hb

theorem Inv.processRst {s : H2Stream} {O D : Bytes} (h : Inv s O D) : Inv s.processRst O D := by
  unfold H2Stream.processRst
  split
  · exact h
  · exact h.abort _ (by simp)

end Req.C03
