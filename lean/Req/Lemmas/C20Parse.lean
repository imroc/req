import Req.Lemmas.C20Digest
import Req.Lemmas.C20Bytes
import Req.Lemmas.C20Field
/-!
Helper lemmas for `Req.Props.C20Legacy.parse_faithful`, about `Req.Digest.parseChallenge` (the model
of digest.go without RFC 7230 quoted-string handling): it reads a challenge written in any parameter
order, with any optional white space around the commas and around the whole value, in token or
quoted form, exactly as it was meant — provided no value contains a comma or a quote.

This file also holds the vocabulary in which `Req/Props/C20Legacy.lean` states that: a parameter and a
list element as written (`ParamOK`, `Item`, `ItemOK`), the whole value (`renderChallenge`,
`WellWritten`), and what it denotes (`challengeOf`, `lastValue`).

From the switch over the parameter names (`C20Field.lean`): no field of a parsed challenge contains
a comma (`parseChallenge_noComma`), and the fields of `challengeOf` are the last values written
(`field_challengeOf`).
-/
namespace Req.Digest
open Req.Proto Req.Ascii

theorem trim_pad_none {p : UInt8 → Bool} (lead trail X : Bytes) (hl : lead.all p = true)
    (ht : trail.all p = true) (hX : ∀ x ∈ X, p x = false) : trim p (lead ++ X ++ trail) = X :=
  trim_pad lead trail X hl ht (fun a ha => hX a (List.mem_of_mem_head? ha))
    fun z hz => hX z (List.mem_of_getLast? hz)

theorem splitByte_append (sep : UInt8) (x y : Bytes) (h : sep ∉ x) :
    splitByte sep (x ++ y) = (x ++ (splitByte sep y).1, (splitByte sep y).2) := by
  induction x with
  | nil => rfl
  | cons c cs ih =>
    simp [splitByte, head_ne_of_not_mem h, ih (fun m => h (List.mem_cons_of_mem _ m))]

theorem split_commaCat : ∀ pieces : List Bytes, pieces ≠ [] → (∀ p ∈ pieces, 44 ∉ p) →
    split 44 (commaCat pieces) = pieces
  | [], h, _ => absurd rfl h
  | [x], _, hp => by
    have := splitByte_append 44 x [] (hp x (by simp))
    simp only [List.append_nil, splitByte] at this
    simp only [split, commaCat, this]
  | x :: y :: r, _, hp => by
    have ih := split_commaCat (y :: r) (by simp) (fun p hp' => hp p (List.mem_cons_of_mem _ hp'))
    unfold split at ih ⊢
    rw [commaCat, splitByte_append 44 x _ (hp x (by simp))]
    simp only [splitByte, beq_self_eq_true, if_true, List.append_nil]
    rw [ih]

theorem trimLeftSpace_plain (a : UInt8) (rest : Bytes) (h : plain a = true) :
    trimLeftSpace (a :: rest) = a :: rest := by
  have h1 := plain_ne_of_ge 0xC2 (by decide) h
  have h2 := plain_ne_of_ge 0xE1 (by decide) h
  have h3 := plain_ne_of_ge 0xE2 (by decide) h
  have h4 := plain_ne_of_ge 0xE3 (by decide) h
  -- 0xC2 and 0xE1..0xE3 are the lead bytes of the two- and three-byte blanks (`isWs2`, `isWs3`)
  unfold trimLeftSpace
  simp only [plain_notSpace h, Bool.false_eq_true, if_false]
  cases rest with
  | nil => rfl
  | cons b rest2 =>
    simp only [isWs2, h1, Bool.false_and, Bool.false_eq_true, if_false]
    cases rest2 with
    | nil => rfl
    | cons c rest3 => simp [isWs3, h2, h3, h4]

theorem trimLeftSpaceRev_plain (z : UInt8) (rest : Bytes) (h : plain z = true) :
    trimLeftSpaceRev (z :: rest) = z :: rest := by
  have h85 := plain_ne_of_ge 0x85 (by decide) h
  have hA0 := plain_ne_of_ge 0xA0 (by decide) h
  -- read from the end, `z` would be the LAST byte of a blank: 0x85, 0xA0 (`isWs2`), 0x80..0x8A,
  -- 0x9F, 0xA8, 0xA9, 0xAF (`isWs3`), all of them ≥ 0x80
  unfold trimLeftSpaceRev
  simp only [plain_notSpace h, Bool.false_eq_true, if_false]
  cases rest with
  | nil => rfl
  | cons b rest2 =>
    simp only [isWs2, h85, hA0, Bool.or_self, Bool.and_false, Bool.false_eq_true, if_false]
    cases rest2 with
    | nil => rfl
    | cons a rest3 =>
      have : isWs3 a b z = false := by
        have h80 := plain_ne_of_ge 0x80 (by decide) h
        have h9F := plain_ne_of_ge 0x9F (by decide) h
        have hA8 := plain_ne_of_ge 0xA8 (by decide) h
        have hA9 := plain_ne_of_ge 0xA9 (by decide) h
        have hAF := plain_ne_of_ge 0xAF (by decide) h
        have hge : ¬ ((0x80 : UInt8) ≤ z) := UInt8.not_le.mpr (plain_lt h)
        simp [isWs3, h80, h9F, hA8, hA9, hAF, hge]
      simp [this]

theorem drop_space_prefix (f : Bytes → Bytes)
    (hf : ∀ c rest, isAsciiSpace c = true → f (c :: rest) = f rest) (pre X : Bytes)
    (hp : pre.all isAsciiSpace = true) (hX : f X = X) : f (pre ++ X) = X := by
  induction pre with
  | nil => exact hX
  | cons c cs ih =>
    simp only [List.all_cons, Bool.and_eq_true] at hp
    rw [List.cons_append, hf c _ hp.1, ih hp.2]

theorem trimLeftSpace_ows (pre X : Bytes) (hp : pre.all isAsciiSpace = true)
    (hX : ∀ a ∈ X.head?, plain a = true) : trimLeftSpace (pre ++ X) = X :=
  drop_space_prefix trimLeftSpace (fun c rest hc => by rw [trimLeftSpace.eq_def]; simp only [hc, if_true]) pre X hp (by
    cases X with
    | nil => rfl
    | cons a r => exact trimLeftSpace_plain a r (hX a rfl))

theorem trimLeftSpaceRev_ows (pre X : Bytes) (hp : pre.all isAsciiSpace = true)
    (hX : ∀ a ∈ X.head?, plain a = true) : trimLeftSpaceRev (pre ++ X) = X :=
  drop_space_prefix trimLeftSpaceRev (fun c rest hc => by rw [trimLeftSpaceRev.eq_def]; simp only [hc, if_true]) pre X hp (by
    cases X with
    | nil => rfl
    | cons a r => exact trimLeftSpaceRev_plain a r (hX a rfl))

theorem trimSpace_pad (pre post X : Bytes) (hne : X ≠ [])
    (hpre : pre.all isAsciiSpace = true) (hpost : post.all isAsciiSpace = true)
    (ha : ∀ a ∈ X.head?, plain a = true) (hz : ∀ z ∈ X.getLast?, plain z = true) :
    trimSpace (pre ++ X ++ post) = X := by
  unfold trimSpace
  have h1 : trimLeftSpace (pre ++ X ++ post) = X ++ post := by
    rw [List.append_assoc]
    apply trimLeftSpace_ows pre _ hpre
    intro a h
    apply ha
    cases X with
    | nil => exact absurd rfl hne
    | cons x xs => simpa using h
  rw [h1, List.reverse_append]
  rw [trimLeftSpaceRev_ows post.reverse X.reverse (by simpa using hpost)
    (by intro z h; apply hz; simpa [List.head?_reverse] using h)]
  exact List.reverse_reverse X

theorem setField_ok {c c' : Challenge} {k v : Bytes} (h : setField c k v = .ok c') :
    c' = store c k (trim isQuote v) := by
  rw [setField_eq] at h
  split at h
  · rename_i hk
    cases eq_of_beq hk
    split at h <;> cases h
    rfl
  · split at h <;> cases h
    rfl

theorem setField_store (c : Challenge) (k v : Bytes) (hk : k ∈ knownKeys)
    (hcs : k = b!"charset" → isUtf8Name (trim isQuote v) = true) :
    setField c k v = .ok (store c k (trim isQuote v)) := by
  rw [setField_eq, if_pos hk]
  split
  · rename_i h
    cases eq_of_beq h
    rw [if_pos (hcs rfl)]
    rfl
  · rfl

def NoComma (c : Challenge) : Prop := ∀ k ∈ storedKeys, 44 ∉ field k c

theorem store_noComma {c : Challenge} {v : Bytes} (hc : NoComma c) (hv : 44 ∉ v) (k' : Bytes) :
    NoComma (store c k' v) := by
  intro k hk
  rw [field_store k k' v c hk]
  split
  · exact hv
  · exact hc k hk

theorem parseFields_noComma : ∀ (ps : List Bytes) (c c' : Challenge), (∀ p ∈ ps, 44 ∉ p) → NoComma c →
    parseFields ps c = .ok c' → NoComma c' := by
  intro ps
  induction ps with
  | nil => intro c c' _ hc h; cases h; exact hc
  | cons p ps ih =>
    intro c c' hps hc h
    unfold parseFields at h
    split at h
    · cases h
    · rename_i k v hkv
      split at h
      · rename_i c1 hc1
        have hv : 44 ∉ trim isQuote v :=
          fun m => hps p List.mem_cons_self (mem_trimSpace (mem_cutEq hkv (Req.Trim.trimBy_subset _ _ m)))
        exact ih c1 c' (fun q hq => hps q (List.mem_cons_of_mem _ hq))
          (setField_ok hc1 ▸ store_noComma hc hv k) h
      · cases h

theorem parseChallenge_noComma {raw : Bytes} {c : Challenge} (h : parseChallenge raw = .ok c) :
    NoComma c := by
  unfold parseChallenge at h
  simp only at h
  split at h
  · exact parseFields_noComma _ {} c (split_no_sep 44 _) (by unfold NoComma; decide) h
  · cases h

/-- the value as it stands after the `=` -/
def rawValue (p : Param) : Bytes := if p.quotedForm then 34 :: p.value ++ [34] else p.value

theorem render_eq (p : Param) : p.render = p.name ++ 61 :: rawValue p := by
  unfold Param.render rawValue quoted bare
  split <;> simp

/-- a parameter as a server may write it and digest.go can read it -/
def ParamOK (p : Param) : Prop :=
  p.name ∈ knownKeys ∧
  (if p.quotedForm then (34 ∉ p.value ∧ 44 ∉ p.value)
   else (p.value ≠ [] ∧ p.value.all isTokenByte = true)) ∧
  (p.name = b!"charset" → isUtf8Name p.value = true)

theorem cutEq_append : ∀ (n raw : Bytes), 61 ∉ n → cutEq (n ++ 61 :: raw) = some (n, raw) := by
  intro n
  induction n with
  | nil => intro raw _; simp [cutEq]
  | cons c cs ih =>
    intro raw h
    have hc : (c == 61) = false := head_ne_of_not_mem h
    simp [cutEq, hc, ih raw (fun m => h (List.mem_cons_of_mem _ m))]

theorem isQuote_false {x : UInt8} (h : x ≠ 34) : isQuote x = false := by simpa [isQuote] using h

theorem trim_rawValue (p : Param) (hp : ParamOK p) : trim isQuote (rawValue p) = p.value := by
  obtain ⟨_, hv, _⟩ := hp
  unfold rawValue
  split at hv
  · rename_i hq
    rw [if_pos hq]
    exact trim_pad_none [34] [34] p.value (by decide) (by decide)
      fun x hx => isQuote_false fun e => hv.1 (e ▸ hx)
  · rename_i hq
    rw [if_neg hq]
    have := trim_pad_none (p := isQuote) [] [] p.value rfl rfl
      fun x hx => isQuote_false fun e => absurd (List.all_eq_true.mp hv.2 x hx) (e ▸ by decide)
    simpa using this

theorem render_ne_nil (p : Param) : p.render ≠ [] := by
  rw [render_eq]; simp

theorem render_head_plain (p : Param) (hp : ParamOK p) : ∀ a ∈ p.render.head?, plain a = true := by
  obtain ⟨hk, _, _⟩ := hp
  obtain ⟨hne, hl⟩ := knownKeys_lower _ hk
  intro a ha
  rw [render_eq] at ha
  cases hn : p.name with
  | nil => exact absurd hn hne
  | cons x xs =>
    rw [hn] at ha hl
    simp only [List.cons_append, List.head?_cons, Option.mem_def, Option.some.injEq] at ha
    subst ha
    simp only [List.all_cons, Bool.and_eq_true] at hl
    exact lower_plain _ hl.1

theorem render_last_plain (p : Param) (hp : ParamOK p) : ∀ z ∈ p.render.getLast?, plain z = true := by
  obtain ⟨_, hv, _⟩ := hp
  intro z hz
  rw [render_eq] at hz
  unfold rawValue at hz
  split at hv
  · rename_i hq
    simp only [hq, if_true] at hz
    have e : p.name ++ 61 :: (34 :: p.value ++ [34]) = (p.name ++ 61 :: 34 :: p.value) ++ [34] := by simp
    rw [e, List.getLast?_concat] at hz
    simp only [Option.mem_def, Option.some.injEq] at hz
    subst hz
    decide
  · rename_i hq
    simp only [hq, Bool.false_eq_true, if_false] at hz
    rw [List.append_cons, List.getLast?_append_ne _ _ hv.1] at hz
    exact tok_plain _ (List.all_eq_true.mp hv.2 z (List.mem_of_getLast? hz))

theorem knownKey_no (k : UInt8) (hk : isLower k = false) {n : Bytes} (hn : n ∈ knownKeys) : k ∉ n :=
  List.not_mem_of_all (knownKeys_lower n hn).2 hk

theorem render_no_comma (p : Param) (hp : ParamOK p) : 44 ∉ p.render := by
  obtain ⟨hk, hv, _⟩ := hp
  rw [render_eq]
  unfold rawValue
  intro hm
  simp only [List.mem_append, List.mem_cons] at hm
  rcases hm with hm | hm | hm
  · exact knownKey_no 44 (by decide) hk hm
  · exact absurd hm (by decide)
  · split at hv
    · rename_i hq
      simp [hq] at hm
      exact hv.2 hm
    · rename_i hq
      simp only [hq, Bool.false_eq_true, if_false] at hm
      exact List.not_mem_of_all hv.2 (by decide) hm

/-- one element of the challenge list: a parameter with optional white space around it -/
structure Item where
  pre : Bytes
  p : Param
  post : Bytes

def Item.render (i : Item) : Bytes := i.pre ++ i.p.render ++ i.post

def ItemOK (i : Item) : Prop :=
  i.pre.all Req.Rfc7616.isOws = true ∧ i.post.all Req.Rfc7616.isOws = true ∧ ParamOK i.p

theorem item_no_comma (i : Item) (hi : ItemOK i) : 44 ∉ i.render := by
  obtain ⟨h1, h2, h3⟩ := hi
  unfold Item.render
  intro hm
  simp only [List.mem_append] at hm
  rcases hm with (hm | hm) | hm
  · exact List.not_mem_of_all h1 (by decide) hm
  · exact render_no_comma _ h3 hm
  · exact List.not_mem_of_all h2 (by decide) hm

theorem parseFields_items (items : List Item) (c : Challenge) (h : ∀ i ∈ items, ItemOK i) :
    parseFields (items.map Item.render) c =
      .ok (items.foldl (fun c i => store c i.p.name i.p.value) c) := by
  induction items generalizing c with
  | nil => rfl
  | cons i is ih =>
    obtain ⟨hpre, hpost, hp⟩ := h i List.mem_cons_self
    have ⟨hkey, _, hcharset⟩ := hp
    -- the element is trimmed to the parameter, cut at its `=`, and the value loses its quotes
    have ht : trimSpace i.render = i.p.render :=
      trimSpace_pad i.pre i.post i.p.render (render_ne_nil _) (List.all_imp ows_space hpre) (List.all_imp ows_space hpost)
        (render_head_plain _ hp) (render_last_plain _ hp)
    have hc : cutEq i.p.render = some (i.p.name, rawValue i.p) := by
      rw [render_eq]
      exact cutEq_append _ _ (knownKey_no 61 (by decide) hkey)
    have htv := trim_rawValue i.p hp
    simp only [List.map_cons, parseFields, List.foldl_cons, ht, hc,
      setField_store c _ _ hkey (by intro e; rw [htv]; exact hcharset e), htv]
    exact ih _ (fun j hj => h j (List.mem_cons_of_mem _ hj))

/-- A challenge as a server writes it: white space, `Digest `, more white space, the elements
separated by commas, white space. -/
def renderChallenge (lead sp : Bytes) (items : List Item) (trail : Bytes) : Bytes :=
  lead ++ (digestPrefix ++ sp ++ commaCat (items.map Item.render)) ++ trail

structure WellWritten (lead sp : Bytes) (items : List Item) (trail : Bytes) : Prop where
  wsLead : lead.all isWs = true
  wsSp : sp.all isWs = true
  wsTrail : trail.all isWs = true
  ok : ∀ i ∈ items, ItemOK i
  nonempty : items ≠ []
  /-- white space before the first / after the last element is part of `sp` / `trail` -/
  first : ∀ i ∈ items.head?, i.pre = []
  last : ∀ i ∈ items.getLast?, i.post = []

/-- the challenge a list of elements denotes for digest.go: later parameters overwrite earlier
(`Req.DigestAuth.challengeOfParams` is the same over (name, value) pairs) -/
def challengeOf (items : List Item) : Challenge :=
  items.foldl (fun c i => store c i.p.name i.p.value) {}

/-- the value of the LAST parameter called `k` (`Req.DigestAuth.lastVal` is the same over (name, value)
pairs: `lastValue_eq_lastVal`) -/
def lastValue : List Item → Bytes → Option Bytes
  | [], _ => none
  | i :: is, k =>
    match lastValue is k with
    | some v => some v
    | none => if i.p.name == k then some i.p.value else none

theorem lastValue_eq_lastVal (items : List Item) (k : Bytes) :
    lastValue items k = Req.DigestAuth.lastVal (items.map fun i => (i.p.name, i.p.value)) k := by
  induction items with
  | nil => rfl
  | cons i is ih =>
    simp only [lastValue, List.map_cons, Req.DigestAuth.lastVal, ih]
    cases Req.DigestAuth.lastVal (is.map fun i => (i.p.name, i.p.value)) k <;> rfl

theorem field_challengeOf (k : Bytes) (hk : k ∈ storedKeys) (items : List Item) :
    field k (challengeOf items) = (lastValue items k).getD [] := by
  have := Req.DigestAuth.field_foldl_pairs k hk (items.map fun i => (i.p.name, i.p.value)) {}
  rw [List.foldl_map, field_empty k hk, ← lastValue_eq_lastVal] at this
  exact this

end Req.Digest
