import Req.Lemmas.H1Mime
/-!
The response head: `parseHead` taken apart once (`parseHead_eq_some`), and the loop over informational
responses `parseFinalHead` one round at a time (`parseFinalHead_succ`) and by induction
(`parseFinalHead_ind`); from these, extension stability of both and that every accepted head comes out
of `readTransfer`.
-/
namespace Req.H1
open Req.Proto

/-- An accepted head is a status line, a header block and a framing decision, each accepted. -/
theorem parseHead_eq_some {isHead : Bool} {s r : Bytes} {m : Msg} :
    parseHead isHead s = some (m, r) ↔
      ∃ line r1 sl hd, readLine s = some (line, r1) ∧ parseStatusLine line = some sl ∧
        readMIMEHeader r1 = some (hd, r) ∧
        readTransfer isHead sl (fixPragmaCacheControl hd) = some m := by
  constructor
  · intro h
    unfold parseHead at h
    split at h
    · cases h
    · next line r1 hl =>
      split at h
      · cases h
      · next sl hs =>
        split at h
        · cases h
        · next hd r2 hm =>
          split at h
          · cases h
          · next m' ht =>
            cases h
            exact ⟨line, r1, sl, hd, hl, hs, hm, ht⟩
  · rintro ⟨line, r1, sl, hd, hl, hs, hm, ht⟩
    simp only [parseHead, hl, hs, hm, ht]

theorem parseHead_append {isHead : Bool} {s r : Bytes} {m : Msg}
    (h : parseHead isHead s = some (m, r)) (t : Bytes) :
    parseHead isHead (s ++ t) = some (m, r ++ t) :=
  let ⟨_, _, _, _, hl, hs, hm, ht⟩ := parseHead_eq_some.1 h
  parseHead_eq_some.2 ⟨_, _, _, _,
    readLine_stable_of_rest hl (fun hnil => by subst hnil; cases hm) t, hs, readMIMEHeader_append hm t, ht⟩

theorem parseHead_readTransfer {isHead : Bool} {s r : Bytes} {m : Msg}
    (h : parseHead isHead s = some (m, r)) :
    ∃ sl h0, readTransfer isHead sl h0 = some m :=
  let ⟨_, _, sl, _, _, _, _, ht⟩ := parseHead_eq_some.1 h
  ⟨sl, _, ht⟩

theorem parseFinalHead_succ {fuel : Nat} {isHead : Bool} {s r : Bytes} {m : Msg}
    (hp : parseHead isHead s = some (m, r)) :
    parseFinalHead (fuel + 1) isHead s =
      if 100 ≤ m.sl.code ∧ m.sl.code ≤ 199 ∧ m.sl.code ≠ 101 then parseFinalHead fuel isHead r
      else some (m, r) := by
  simp only [parseFinalHead, hp]

/-- What holds of a head that ends the loop, and passes back over a skipped informational one,
holds of the head `parseFinalHead` returns. -/
theorem parseFinalHead_ind {isHead : Bool} {P : Nat → Bytes → Msg → Bytes → Prop}
    (last : ∀ {fuel s m r}, parseHead isHead s = some (m, r) →
      ¬ (100 ≤ m.sl.code ∧ m.sl.code ≤ 199 ∧ m.sl.code ≠ 101) → P (fuel + 1) s m r)
    (skip : ∀ {fuel s m1 r1 m r}, parseHead isHead s = some (m1, r1) →
      (100 ≤ m1.sl.code ∧ m1.sl.code ≤ 199 ∧ m1.sl.code ≠ 101) → P fuel r1 m r → P (fuel + 1) s m r) :
    ∀ {fuel s m r}, parseFinalHead fuel isHead s = some (m, r) → P fuel s m r
  | 0, _, _, _, h => by cases h
  | fuel + 1, s, m, r, h => by
    unfold parseFinalHead at h
    split at h
    · cases h
    · next m1 r1 hp =>
      split at h
      · next hc => exact skip hp hc (parseFinalHead_ind last skip h)
      · next hc => cases h; exact last hp hc

theorem parseFinalHead_readTransfer {fuel : Nat} {isHead : Bool} {s r : Bytes} {m : Msg}
    (h : parseFinalHead fuel isHead s = some (m, r)) :
    ∃ sl h0, readTransfer isHead sl h0 = some m :=
  parseFinalHead_ind (P := fun _ _ m _ => ∃ sl h0, readTransfer isHead sl h0 = some m)
    (fun hp _ => parseHead_readTransfer hp) (fun _ _ ih => ih) h

theorem _root_.Req.Lemmas.H1Framing.parseFinalHead_not_1xx {fuel : Nat} {isHead : Bool} {s r : Bytes} {m : Msg}
    (h : parseFinalHead fuel isHead s = some (m, r)) :
    ¬ (100 ≤ m.sl.code ∧ m.sl.code ≤ 199 ∧ m.sl.code ≠ 101) :=
  parseFinalHead_ind (P := fun _ _ m _ => ¬ (100 ≤ m.sl.code ∧ m.sl.code ≤ 199 ∧ m.sl.code ≠ 101))
    (fun _ hc => hc) (fun _ _ ih => ih) h

theorem parseFinalHead_append {fuel : Nat} {isHead : Bool} {s r : Bytes} {m : Msg}
    (h : parseFinalHead fuel isHead s = some (m, r)) (t : Bytes) :
    parseFinalHead fuel isHead (s ++ t) = some (m, r ++ t) :=
  parseFinalHead_ind (P := fun fuel s m r => parseFinalHead fuel isHead (s ++ t) = some (m, r ++ t))
    (fun hp hc => by rw [parseFinalHead_succ (parseHead_append hp t), if_neg hc])
    (fun hp hc ih => by rw [parseFinalHead_succ (parseHead_append hp t), if_pos hc, ih]) h

end Req.H1
