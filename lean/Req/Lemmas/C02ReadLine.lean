import Req.C02.ReadLine
import Req.Lemmas.C02BufioLine
import Req.Lemmas.ListFacts
/-! `ReadSlice` on a line that does not fit the buffer, and the accumulation loop of
`textprotoReader.readLineSlice` over it (put-back of a CR on the last byte of a full buffer). -/
namespace Req.C02
open Req.Proto

/-- Drop one trailing CR.  `Req.H1.stripCR` (C04's whole-stream line reader) does the same by recursion
on the list; no lemma relates the two. -/
def stripCR (x : Bytes) : Bytes := if x.getLast? = some 13 then x.dropLast else x

theorem stripEOL_line (l : Bytes) : stripEOL (l ++ [10]) = stripCR l := by
  simp [stripEOL, stripCR]

theorem stripCR_append (acc l : Bytes) (h : l = [] → acc.getLast? ≠ some 13) :
    acc ++ stripCR l = stripCR (acc ++ l) := by
  cases hl : l with
  | nil =>
    have := h hl
    simp [stripCR, this]
  | cons x xs =>
    have hne : x :: xs ≠ [] := by simp
    simp only [stripCR, List.getLast?_append_ne _ _ hne]
    split
    · rw [List.dropLast_append_of_ne_nil hne]
    · rfl

/-- `ReadSlice('\n')` when the next `cap` bytes hold no newline: the whole buffer is handed out
with `ErrBufferFull`, however the connection segments it. -/
theorem Bufio.readSlice_full (fuel : Nat) (b : Bufio) (P Q : Bytes) (hw : b.WF) (hf : b.Fits)
    (hrem : b.rem = P ++ Q) (hno : (10 : UInt8) ∉ P) (hP : P.length = b.cap) (hQ : Q ≠ [])
    (hfuel : b.cap + 1 ≤ fuel + b.buf.length) (hfuel0 : 0 < fuel) :
    ∃ b', b.readSlice fuel 10 = ((P, some .bufferFull), b') ∧ b'.buf = [] ∧ b'.rem = Q ∧ b'.WF ∧
      b'.cap = b.cap ∧ b'.net.fin = b.net.fin := by
  induction fuel generalizing b with
  | zero => omega
  | succ fuel ih =>
    unfold Bufio.readSlice
    obtain ⟨t, hPt, hseg⟩ := List.append_eq_append_of_length_le hrem.symm (hP ▸ hf)
    have hnobuf : (10 : UInt8) ∉ b.buf := by
      intro h; apply hno; rw [hPt]; exact List.mem_append_left _ h
    rw [indexOf_not_mem _ _ hnobuf]
    have hmore : b.buf.length < b.rem.length := by
      rw [Bufio.rem, hseg, List.length_append, List.length_append]
      exact Nat.lt_add_of_pos_right (Nat.add_pos_right _ (List.length_pos_iff.mpr hQ))
    have herr := hw.err_none hmore
    simp only [herr]
    by_cases hfull : b.buf.length ≥ b.cap
    · simp only [hfull, if_true]
      have ht : t = [] := by
        have h1 : P.length = b.buf.length + t.length := by rw [hPt]; simp
        exact List.eq_nil_of_length_eq_zero (by omega)
      subst ht
      simp only [List.append_nil] at hPt
      simp only [List.nil_append] at hseg
      exact ⟨{ b with buf := [] }, by rw [hPt, herr], rfl, by simp [Bufio.rem, hseg], hw, rfl, rfl⟩
    · simp only [hfull, if_false]
      obtain ⟨_, hgrow, hrem', hw', hf', hcap', hfin'⟩ := Bufio.fill_spec b hw (by omega) hmore
      obtain ⟨b', h1, h2, h3, h4, h5, h6⟩ := ih b.fill hw' hf' (by rw [hrem', hrem]) (by rw [hcap']; exact hP)
        (by rw [hcap']; omega) (by omega)
      exact ⟨b', h1, h2, h3, h4, by rw [h5, hcap'], by rw [h6, hfin']⟩

/-- `readLine` on a line that does not fit the buffer hands out a prefix piece `p` and leaves the
rest `l'` of the line unread.  A CR on the last byte of the full buffer is put back (`l'` then starts
with it), so no piece boundary separates a CR from its LF. -/
theorem Bufio.readLine_full (b : Bufio) (l R : Bytes) (hw : b.WF) (hf : b.Fits) (hcap : 2 ≤ b.cap)
    (hrem : b.rem = l ++ 10 :: R) (hno : (10 : UInt8) ∉ l) (hlen : b.cap ≤ l.length) :
    ∃ p l' b', b.readLine (b.cap + 2) = ((p, true, none), b') ∧ p ++ l' = l ∧ l'.length < l.length ∧
      (l' = [] → p ≠ [] ∧ p.getLast? ≠ some 13) ∧ b'.rem = l' ++ 10 :: R ∧ b'.WF ∧ b'.Fits ∧
      b'.cap = b.cap ∧ b'.net.fin = b.net.fin := by
  have hPlen : (l.take b.cap).length = b.cap := by rw [List.length_take]; omega
  obtain ⟨b', h1, h2, h3, h4, h5, h6⟩ := Bufio.readSlice_full (b.cap + 2) b (l.take b.cap)
    (l.drop b.cap ++ 10 :: R) hw hf (by rw [hrem, ← List.append_assoc, List.take_append_drop])
    (fun h => hno (List.mem_of_mem_take h)) hPlen (by simp) (by omega) (by omega)
  have hPne : l.take b.cap ≠ [] := List.ne_nil_of_length_pos (by omega)
  unfold Bufio.readLine
  rw [h1]
  by_cases hcr : (l.take b.cap).getLast? = some 13
  · -- the CR is put back
    have hPd := List.dropLast_append_of_getLast? hcr
    have hseg : b'.net.segs.flatten = l.drop b.cap ++ 10 :: R := by
      rw [← h3, Bufio.rem, h2, List.nil_append]
    refine ⟨(l.take b.cap).dropLast, 13 :: l.drop b.cap, { b' with buf := [13] }, by simp only [hcr, if_true],
      ?_, ?_, fun h => (nomatch h), ?_, h4, ?_, h5, h6⟩
    · rw [← List.singleton_append, ← List.append_assoc, hPd, List.take_append_drop]
    · simp only [List.length_cons, List.length_drop]; omega
    · simp only [Bufio.rem, hseg, List.cons_append, List.nil_append]
    · show 1 ≤ b'.cap; omega
  · refine ⟨l.take b.cap, l.drop b.cap, b', by simp only [hcr, if_false], List.take_append_drop _ _, ?_,
      fun _ => ⟨hPne, hcr⟩, h3, h4, ?_, h5, h6⟩
    · rw [List.length_drop]; omega
    · unfold Bufio.Fits; rw [h2]; exact Nat.zero_le _

/-- The accumulation loop of `readLineSlice` on a line of ANY length: the pieces `readLine`
hands out add up to exactly the line, the line end removed; the reader stands exactly behind the
line feed. -/
theorem Bufio.readLineSlice_spec : ∀ (fuel : Nat) (acc l R : Bytes) (b : Bufio), b.WF → b.Fits →
    2 ≤ b.cap → b.rem = l ++ 10 :: R → (10 : UInt8) ∉ l → (l = [] → acc.getLast? ≠ some 13) →
    l.length < fuel →
    ∃ b', b.readLineSlice fuel acc = ((some (stripCR (acc ++ l)), none), b') ∧ b'.rem = R ∧ b'.WF ∧
      b'.Fits ∧ b'.cap = b.cap ∧ b'.net.fin = b.net.fin := by
  intro fuel
  induction fuel with
  | zero => intro acc l R b _ _ _ _ _ _ h; omega
  | succ fuel ih =>
    intro acc l R b hw hf hcap hrem hno hinv hfuel
    unfold Bufio.readLineSlice
    by_cases hfit : l.length + 1 ≤ b.cap
    · -- the rest of the line fits the buffer: the last piece
      obtain ⟨b', h1, h2⟩ := Bufio.readSlice_line (b.cap + 2) b l R hw hf hrem hno hfit
        (by omega) (by omega)
      have hrl : b.readLine (b.cap + 2) = ((stripCR l, false, none), b') := by
        unfold Bufio.readLine
        rw [h1]
        simp [stripEOL_line]
      rw [hrl]
      exact ⟨b', by simp only [Bool.false_eq_true, if_false, stripCR_append acc l hinv], h2⟩
    · -- a full buffer without a line feed: a prefix piece, then the rest of the line
      obtain ⟨p, l', b1, hrl, rfl, hlen, hp, hrem1, hw1, hf1, hcap1, hfin1⟩ :=
        Bufio.readLine_full b l R hw hf hcap hrem hno (by omega)
      obtain ⟨b', g1, g2, g3, g4, g5, g6⟩ := ih (acc ++ p) l' R b1 hw1 hf1 (by omega) hrem1
        (fun h => hno (List.mem_append_right _ h))
        (fun h => by rw [List.getLast?_append_ne _ _ (hp h).1]; exact (hp h).2) (by omega)
      rw [hrl]
      exact ⟨b', by simp only [if_true, g1, List.append_assoc], g2, g3, g4, g5.trans hcap1, g6.trans hfin1⟩

end Req.C02
