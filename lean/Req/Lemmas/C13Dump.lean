import Req.Client.Dump
import Req.Lemmas.ListFacts
/-! The dump plumbing (`Req.Client.Dump`): events and a writer's content as `filter` / `map` / `flatMap`; the
writer wrappers as a `tee` (transparent, with a side state fed by the calls and their results); the
asynchronous queue `Chan.run` one enabled step at a time, with its induction principle and the conservation
of events; the life-cycle fold. -/
namespace Req.Client.Dump
open Req.Proto

theorem dumperEvents_eq (o : Opts) (e : Exchange) :
    dumperEvents o e =
      (Part.all.filter fun p => o.enabled p && !(e.part p).isEmpty).map fun p => ⟨o.resolve p, p, e.part p⟩ := by
  rw [← List.filterMap_eq_map, List.filterMap_filter]
  rfl

theorem contentP_eq_flatMap (w : Writer) (l : List PartEvent) :
    contentP w l = l.flatMap fun e => if e.writer = w then e.data else [] := by
  induction l with
  | nil => rfl
  | cons x xs ih => simp [contentP, ih]

/-- The shape the writer wrappers share: every call goes to `w` as it is and its result comes
back as it is; on the side, `g` folds the call and its result into a state of the wrapper's own. -/
def tee {σ τ : Type} (w : WriterM σ) (g : τ → Bytes → IORes → τ) : WriterM (σ × τ) where
  write := fun s p => ((w.write s.1 p).1, ((w.write s.1 p).2, g s.2 p (w.write s.1 p).1))

/-- the side state after the calls `ps` were answered `rs` -/
def fed {τ : Type} (g : τ → Bytes → IORes → τ) : τ → List Bytes → List IORes → τ
  | t, p :: ps, r :: rs => fed g (g t p r) ps rs
  | t, _, _ => t

/-- A tee is transparent, and its side state depends on the calls and their results alone. -/
theorem tee_runAll {σ τ : Type} (w : WriterM σ) (g : τ → Bytes → IORes → τ) (s : σ) (t : τ)
    (ps : List Bytes) :
    (tee w g).runAll (s, t) ps = ((w.runAll s ps).1, (w.runAll s ps).2, fed g t ps (w.runAll s ps).1) := by
  induction ps generalizing s t with
  | nil => rfl
  | cons p ps ih =>
    have e : (tee w g).write (s, t) p = ((w.write s p).1, (w.write s p).2, g t p (w.write s p).1) := rfl
    simp only [WriterM.runAll, fed, e, ih]

theorem wrapWriter_eq_tee {σ : Type} (w : WriterM σ) :
    wrapWriter w = tee w fun d p r => d ++ p.take r.n := rfl

theorem chan_step_cases {cap : Nat} {c c' : Chan} {st : Step} (h : c.step cap st = some c') :
    (∃ e, c.todo = e :: c'.todo ∧ c' = { c with todo := c'.todo, queue := c.queue ++ [e] }) ∨
    (c.started = true ∧ ∃ e, c.queue = e :: c'.queue ∧
      c' = { c with queue := c'.queue, written := c.written ++ [e] }) := by
  cases st with
  | send =>
    simp only [Chan.step] at h
    split at h
    · cases h
    · split at h <;> cases h
      exact .inl ⟨_, by assumption, rfl⟩
  | recv =>
    simp only [Chan.step] at h
    split at h
    · split at h <;> cases h
      exact .inr ⟨by assumption, _, by assumption, rfl⟩
    · cases h

theorem chan_run_induct (cap : Nat) (P : Chan → Prop)
    (hstep : ∀ c c' st, P c → c.step cap st = some c' → P c') (sched : List Step) (c : Chan) (h : P c) :
    P (c.run cap sched) := by
  induction sched generalizing c with
  | nil => exact h
  | cons s ss ih =>
    simp only [Chan.run]
    cases hs : c.step cap s with
    | none => exact ih c h
    | some c' => exact ih c' (hstep c c' s h hs)

theorem chan_run_inv (cap : Nat) (c : Chan) (sched : List Step) :
    (c.run cap sched).written ++ (c.run cap sched).queue ++ (c.run cap sched).todo
      = c.written ++ c.queue ++ c.todo := by
  refine chan_run_induct cap (fun x => x.written ++ x.queue ++ x.todo = c.written ++ c.queue ++ c.todo)
    (fun x x' st hx hs => ?_) sched c rfl
  rcases chan_step_cases hs with ⟨e, ht, hx'⟩ | ⟨_, e, hq, hx'⟩
  · rw [← hx, ht, hx']; simp
  · rw [← hx, hq, hx']; simp

theorem lifeFold_started (ops : List LifeOp) (st : Option DumperSt)
    (hst : ∀ x, st = some x → x.started = true) :
    ∀ y, ops.foldl lifeStep st = some y → y.started = true :=
  -- every operation launches a `Start` loop or keeps the dumper it finds
  List.foldlRecOn (motive := fun st => ∀ y, st = some y → y.started = true) ops lifeStep hst
    fun st hst op _ x hx => by
      cases st with
      | none => cases op <;> simp [lifeStep] at hx <;> subst hx <;> rfl
      | some d0 => cases op <;> simp [lifeStep] at hx <;> subst hx <;> simp [hst d0 rfl]

end Req.Client.Dump
