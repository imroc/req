import Req.Lemmas.H1Body
import Req.Lemmas.TrimBy
import Req.Lemmas.H1Hex
/-!
Hex print/parse round trip and the chunked writer/reader round trip.  The bound `2 ^ 61` on a chunk's
length keeps the refund `16 + 2·n` inside `int64`; `18 ≤ B` is a size line of sixteen hex digits and CRLF.
-/
namespace Req.H1
open Req.Proto

theorem toHexAcc_digits (fuel n : Nat) (acc : Bytes) (h : ∀ c ∈ acc, IsHexDigit c) :
    ∀ c ∈ toHexAcc fuel n acc, IsHexDigit c := by
  induction fuel generalizing n acc with
  | zero => simpa [toHexAcc] using h
  | succ fuel ih =>
    simp only [toHexAcc]
    split
    · next hn =>
      intro c hc
      rcases List.mem_cons.mp hc with rfl | hc
      · exact ⟨n, hn, rfl⟩
      · exact h c hc
    · apply ih
      intro c hc
      rcases List.mem_cons.mp hc with rfl | hc
      · exact ⟨n % 16, Nat.mod_lt _ (by decide), rfl⟩
      · exact h c hc

theorem parseHexAcc_toHexAcc (fuel n : Nat) (acc : Bytes) (h : n < 16 ^ fuel) :
    parseHexAcc 0 (toHexAcc fuel n acc) = parseHexAcc n acc := by
  induction fuel generalizing n acc with
  | zero =>
    have : n = 0 := by simpa using h
    simp [toHexAcc, this]
  | succ fuel ih =>
    simp only [toHexAcc]
    split
    · next hn => simp [parseHexAcc, hexVal_hexDigitByte n hn]
    · next hn =>
      have hdiv : n / 16 < 16 ^ fuel := by
        rw [Nat.div_lt_iff_lt_mul (by decide)]
        rw [Nat.pow_succ] at h
        exact h
      rw [ih (n / 16) _ hdiv]
      simp only [parseHexAcc, hexVal_hexDigitByte (n % 16) (Nat.mod_lt _ (by decide))]
      congr 1
      omega

theorem toHexAcc_length (fuel n k : Nat) (acc : Bytes) (hk : 1 ≤ k) (h : n < 16 ^ k) :
    (toHexAcc fuel n acc).length ≤ k + acc.length := by
  induction fuel generalizing n k acc with
  | zero => simp [toHexAcc]
  | succ fuel ih =>
    simp only [toHexAcc]
    split
    · simp; omega
    · next hn =>
      have hk2 : 2 ≤ k := by
        rcases Nat.lt_or_ge k 2 with h1 | h1
        · have : k = 1 := by omega
          subst this
          simp at h
          omega
        · exact h1
      have hdiv : n / 16 < 16 ^ (k - 1) := by
        rw [Nat.div_lt_iff_lt_mul (by decide)]
        have : 16 ^ k = 16 ^ (k - 1) * 16 := by
          rw [← Nat.pow_succ]; congr 1; omega
        rw [← this]; exact h
      have := ih (n / 16) (k - 1) (hexDigitByte (n % 16) :: acc) (by omega) hdiv
      simp at this
      omega

theorem lt_sixteen_pow_succ (n : Nat) : n < 16 ^ (n + 1) := by
  have h1 : n < 2 ^ n := Nat.lt_two_pow_self
  have h2 : 2 ^ n ≤ 2 ^ (4 * (n + 1)) := Nat.pow_le_pow_right (by decide) (by omega)
  have h3 : (2 : Nat) ^ (4 * (n + 1)) = 16 ^ (n + 1) := by
    rw [Nat.pow_mul]
  omega

theorem toHex_ne_nil (n : Nat) : toHex n ≠ [] := by
  unfold toHex
  simp only [toHexAcc]
  split
  · simp
  · intro h
    have hlen : ∀ (fuel m : Nat) (acc : Bytes), acc ≠ [] → toHexAcc fuel m acc ≠ [] := by
      intro fuel
      induction fuel with
      | zero => intro m acc ha; simpa [toHexAcc] using ha
      | succ f ihf =>
        intro m acc ha
        simp only [toHexAcc]
        split
        · simp
        · exact ihf _ _ (by simp)
    exact hlen n (n / 16) [hexDigitByte (n % 16)] (by simp) h

theorem toHex_digits (n : Nat) : ∀ c ∈ toHex n, IsHexDigit c :=
  toHexAcc_digits _ _ [] (by simp)

/-- A uint64 prints as at most sixteen hex digits. -/
theorem toHex_length_le {n : Nat} (h : n < 2 ^ 64) : (toHex n).length ≤ 16 := by
  have := toHexAcc_length (n + 1) n 16 [] (by decide) (by
    have : (16 : Nat) ^ 16 = 2 ^ 64 := by decide
    omega)
  simpa [toHex] using this

/-- What `%x` prints, `parseHexUint` reads back, for every uint64. -/
theorem parseHexUint_toHex (n : Nat) (h : n < 2 ^ 64) : parseHexUint (toHex n) = some n := by
  unfold parseHexUint
  have hne := toHex_ne_nil n
  have hlen := toHex_length_le h
  have hparse : parseHexAcc 0 (toHex n) = some n := by
    unfold toHex
    rw [parseHexAcc_toHexAcc _ _ _ (lt_sixteen_pow_succ n)]
    rfl
  have h1 : (toHex n).isEmpty = false := by
    cases hx : toHex n with
    | nil => exact absurd hx hne
    | cons _ _ => rfl
  have h2 : ¬ (toHex n).length > 16 := by omega
  simp [h1, h2, hparse]

/-- The size field of the line `hex CR LF` is `hex`. -/
theorem chunkSizeField_hexLine {hx : Bytes} (hd : ∀ c ∈ hx, IsHexDigit c) :
    chunkSizeField (hx ++ [CR, LF]) = hx := by
  have hplain : ∀ c ∈ hx, c ≠ LF ∧ c ≠ 59 ∧ isASCIISpace c = false := by
    intro c hc
    obtain ⟨d, hd16, rfl⟩ := hd c hc
    exact hexDigitByte_plain d hd16
  have htrim : trimTrailingWS (hx ++ [CR, LF]) = hx :=
    Req.Trim.dropWhile_reverse_pad (by decide) fun c hc => (hplain c (List.mem_of_getLast? hc)).2.2
  unfold chunkSizeField
  simp only [htrim]
  rw [cutByte_eq_none.2 fun c hc => (hplain c hc).2.1]

theorem wrap64_id {z : Int} (h1 : -(2 ^ 63) ≤ z) (h2 : z < 2 ^ 63) : wrap64 z = z := by
  unfold wrap64
  have : (z + 2 ^ 63) % 2 ^ 64 = z + 2 ^ 63 := Int.emod_eq_of_lt (by omega) (by omega)
  omega

/-- Below 2^61 data bytes the `int64` balance does not wrap. -/
theorem wrap64_excess {ex : Int} {L n : Nat} (hex0 : 0 ≤ ex) (hex1 : ex ≤ 16 * 1024)
    (hL : L < 4096) (hn : n < 2 ^ 61) :
    wrap64 (ex + (L : Int) + 2 - (16 + 2 * (n : Int))) = ex + (L : Int) + 2 - (16 + 2 * (n : Int)) := by
  apply wrap64_id <;> omega

theorem readChunkLine_hexLine {B : Nat} {hx : Bytes} (hd : ∀ c ∈ hx, IsHexDigit c)
    (hlen : hx.length ≤ 16) (hB : 18 ≤ B) (r : Bytes) :
    readChunkLine B (hx ++ [CR, LF] ++ r) = some (hx ++ [CR, LF], r) := by
  refine readChunkLine_eq_some.2 ⟨hx ++ [CR], ?_, by simp, by simp [maxLineLength]; omega⟩
  rw [← splitLF_of_noLF (a := hx ++ [CR]) _ r]
  · simp
  · intro c hc
    rcases List.mem_append.mp hc with hc | hc
    · obtain ⟨d, hd16, rfl⟩ := hd c hc
      exact (hexDigitByte_plain d hd16).1
    · rw [List.mem_singleton.mp hc]; decide

/-- Reading one written chunk: the data comes out and the loop continues behind it with the
overhead counter back at zero. -/
theorem chunkLoop_encodeChunk {fuel B : Nat} {d : Bytes} (hd : d ≠ []) (hsz : d.length < 2 ^ 61)
    (hB : 18 ≤ B) (tail : Bytes) :
    chunkLoop (fuel + 1) B 0 (encodeChunk d ++ tail) =
      ((d ++ (chunkLoop fuel B 0 tail).1), (chunkLoop fuel B 0 tail).2) := by
  have hne : d.isEmpty = false := by
    cases d with
    | nil => exact absurd rfl hd
    | cons _ _ => rfl
  have hdig := toHex_digits d.length
  have hlen16 := toHex_length_le (n := d.length) (by omega)
  have hline : readChunkLine B (encodeChunk d ++ tail) =
      some (toHex d.length ++ [CR, LF], d ++ [CR, LF] ++ tail) := by
    have := readChunkLine_hexLine (B := B) hdig hlen16 hB (d ++ [CR, LF] ++ tail)
    simpa [encodeChunk, hne, List.append_assoc] using this
  have hparse : parseHexUint (chunkSizeField (toHex d.length ++ [CR, LF])) = some d.length := by
    rw [chunkSizeField_hexLine hdig]
    exact parseHexUint_toHex _ (by omega)
  have hpos : 0 < d.length := List.length_pos_iff.mpr hd
  -- the overhead counter stays at zero
  have hL : (toHex d.length ++ [CR, LF]).length ≤ 18 := by simp; omega
  have hrel : (toHex d.length ++ [CR, LF]).length + 2 ≤ 16 + 2 * d.length := by
    rcases Nat.lt_or_ge d.length 2 with h1 | h2
    · have h1' : d.length = 1 := by omega
      have : toHex 1 = [49] := by decide
      simp [h1', this]
    · omega
  have hcr : ((d ++ [CR, LF] ++ tail).drop d.length).take 2 = [13, 10] := by simp [List.append_assoc]
  have hdrop : (d ++ [CR, LF] ++ tail).drop (d.length + 2) = tail := by
    rw [← List.drop_drop]; simp [List.append_assoc]
  have htake : (d ++ [CR, LF] ++ tail).take d.length = d := by simp [List.append_assoc]
  have hex : (0 : Int) = max (wrap64 (0 + ((toHex d.length ++ [CR, LF]).length : Int) + 2 - (16 + 2 * (d.length : Int)))) 0 := by
    rw [wrap64_excess (Int.le_refl 0) (by omega) (by omega) hsz]; omega
  rw [chunkLoop_step hline hparse 0 hex, if_neg (by omega), if_neg (by decide),
    if_neg (by simp), if_pos hcr, hdrop, htake]

/-- The last-chunk line `0 CR LF`: the reader stops, the trailer section follows. -/
theorem chunkLoop_last {fuel B : Nat} (hB : 18 ≤ B) (rest : Bytes) :
    chunkLoop (fuel + 1) B 0 ([48, CR, LF] ++ rest) = ([], some rest) := by
  have hdig : ∀ c ∈ ([48] : Bytes), IsHexDigit c := by
    intro c hc; simp at hc; subst hc; exact ⟨0, by decide, by decide⟩
  have hparse : parseHexUint (chunkSizeField ([48] ++ [CR, LF])) = some 0 := by
    rw [chunkSizeField_hexLine hdig]; decide
  exact (chunkLoop_step (readChunkLine_hexLine (B := B) hdig (by simp) hB rest) hparse _ rfl).trans (if_pos rfl)

/-- For every split of a body into non-empty chunks, and whatever follows the last-chunk line, the
reader returns the concatenation and stops exactly behind the last-chunk line. -/
theorem chunkLoop_encodeChunked {B : Nat} (hB : 18 ≤ B) (chunks : List Bytes)
    (hne : ∀ c ∈ chunks, c ≠ []) (hsz : ∀ c ∈ chunks, c.length < 2 ^ 61) (rest : Bytes)
    (fuel : Nat) (hf : chunks.length < fuel) :
    chunkLoop fuel B 0 (encodeChunked chunks ++ rest) = (chunks.flatten, some rest) := by
  induction chunks generalizing fuel with
  | nil =>
    obtain ⟨f, rfl⟩ : ∃ f, fuel = f + 1 := ⟨fuel - 1, by simp at hf; omega⟩
    simpa [encodeChunked] using chunkLoop_last (fuel := f) hB rest
  | cons d ds ih =>
    obtain ⟨f, rfl⟩ : ∃ f, fuel = f + 1 := ⟨fuel - 1, by simp at hf; omega⟩
    have hd : d ≠ [] := hne d (by simp)
    have hdz : d.length < 2 ^ 61 := hsz d (by simp)
    have hrec := ih (fun c hc => hne c (by simp [hc])) (fun c hc => hsz c (by simp [hc])) f
      (by simp at hf; omega)
    have hshape : encodeChunked (d :: ds) ++ rest = encodeChunk d ++ (encodeChunked ds ++ rest) := by
      simp [encodeChunked, List.append_assoc]
    rw [hshape, chunkLoop_encodeChunk hd hdz hB, hrec]
    simp

theorem encodeChunk_length {d : Bytes} (hd : d ≠ []) : 1 ≤ (encodeChunk d).length := by
  cases d with
  | nil => exact absurd rfl hd
  | cons c cs => simp [encodeChunk]; omega

theorem encodeChunked_length (chunks : List Bytes) (hne : ∀ c ∈ chunks, c ≠ []) :
    chunks.length < (encodeChunked chunks).length := by
  induction chunks with
  | nil => simp [encodeChunked]
  | cons d ds ih =>
    have h1 := encodeChunk_length (hne d (by simp))
    have h2 := ih (fun c hc => hne c (by simp [hc]))
    simp [encodeChunked] at h2 ⊢
    omega

theorem HeaderMap.get_del_self (h : HeaderMap) (k : Bytes) : (HeaderMap.del h k).get k = none := by
  unfold HeaderMap.del HeaderMap.get
  induction h with
  | nil => rfl
  | cons p ps ih =>
    simp only [List.filter]
    split
    · next hp =>
      simp only [List.lookup]
      have : (k == p.1) = false := by
        have : (p.1 != k) = true := hp
        simp only [bne_iff_ne, ne_eq] at this
        simp [beq_eq_false_iff_ne]
        exact fun h => this h.symm
      simp [this, ih]
    · exact ih

theorem HeaderMap.get_del_none (h : HeaderMap) (k k' : Bytes) (hn : HeaderMap.get h k = none) :
    (HeaderMap.del h k').get k = none := by
  unfold HeaderMap.del HeaderMap.get at *
  induction h with
  | nil => rfl
  | cons p ps ih =>
    simp only [List.lookup] at hn
    split at hn
    · simp at hn
    · next hkp =>
      simp only [List.filter]
      split
      · simp only [List.lookup, hkp]
        exact ih hn
      · exact ih hn

end Req.H1
