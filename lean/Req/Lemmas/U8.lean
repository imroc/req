/-! A fact about every byte from its 256 instances: the two forms in which the instances are
handed to the kernel (`decide +kernel` on `∀ i : Fin 256, …`; a Boolean `List.all`). -/
namespace Req.U8

theorem forall_uint8 (P : UInt8 → Prop) (h : ∀ i : Fin 256, P (UInt8.ofFin i)) : ∀ x, P x :=
  fun x => h x.toFin

theorem all (f : UInt8 → Bool)
    (h : (List.range 256).all (fun n => f (UInt8.ofNat n)) = true) : ∀ c, f c = true := by
  intro c
  have h2 := List.all_eq_true.mp h c.toNat (by simp [List.mem_range]; exact UInt8.toNat_lt c)
  simpa using h2

end Req.U8
