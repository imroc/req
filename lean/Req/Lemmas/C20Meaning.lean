import Req.Lemmas.C20Tok
import Req.Lemmas.C20Field
/-!
For `Req.Props.C20.parse_faithful` and the theorems stated like it (`Req/Props/C20Digest.lean`,
`C20Multi.lean`, `C20MultiLines.lean`), about `Req.DigestAuth.parseChallenge`.

The specification they are stated with is defined here: what a written list of elements MEANS
(RFC 7235: a list of challenges, each a scheme with either a token68 or parameters whose names are
case-insensitive and occur once) — `SChal`, `meanParam`, `meanStep`, `meanElems`, `meaning` —, what a
Digest challenge of the meaning is for the client (`challengeOfParams`, `digestOf`), and a field
line as written (`lineRender`). This is our reading of RFC 7235 and is trusted.

The lemmas: the loop of `parseChallenge` computes exactly the Digest challenges of that meaning and
fails exactly on the lists without one (`Inv`, `Sim`, `sim_parseElems`, `parseChallenge_meaning`), and
several field lines joined by `createDigestAuth` are one such list (`joinLines`, `commaJoin_lines`).
-/
namespace Req.DigestAuth
open Req.Proto Req.Ascii Req.Digest

/-- a challenge as the server means it -/
structure SChal where
  scheme : Bytes
  t68 : Option Bytes := none
  /-- (name in lower case, value) in the order written -/
  params : List (Bytes × Bytes) := []

def isDigest (s : Bytes) : Bool := equalFold s b!"Digest"

def names (ch : SChal) : List Bytes := ch.params.map (·.1)

/-- add a parameter to the most recent challenge. `none`: outside any challenge, a name for the
second time (RFC 7235 section 2.1), or a charset other than UTF-8 on a Digest challenge
(RFC 7616 section 3.3) -/
def meanParam (acc : List SChal) (p : ParamW) : Option (List SChal) :=
  match acc with
  | [] => none
  | ch :: rest =>
    if (names ch).contains (lower p.name) then none
    else if isDigest ch.scheme && lower p.name == b!"charset" && !isUtf8Name p.val.value then none
    else some ({ ch with params := ch.params ++ [(lower p.name, p.val.value)] } :: rest)

/-- the challenges read so far, most recent first -/
def meanStep (acc : List SChal) : ElemW → Option (List SChal)
  | .empty => some acc
  | .scheme s => some ({ scheme := s } :: acc)
  | .scheme68 s _ t => if isDigest s then none else some ({ scheme := s, t68 := some t } :: acc)
  | .schemeParam s _ p => meanParam ({ scheme := s } :: acc) p
  | .param p => meanParam acc p

def meanElems : List ElemW → List SChal → Option (List SChal)
  | [], acc => some acc
  | w :: ws, acc =>
    match meanStep acc w with
    | some acc' => meanElems ws acc'
    | none => none

/-- **the meaning of a written list**: its challenges in the order sent -/
def meaning (ws : List ElemW) : Option (List SChal) := (meanElems ws []).map List.reverse

/-- what a Digest challenge with these parameters is for the client (unknown parameters are
ignored, RFC 7616 section 3.3) -/
def challengeOfParams (ps : List (Bytes × Bytes)) : Challenge :=
  ps.foldl (fun c kv => store c kv.1 kv.2) {}

def digestOf (ch : SChal) : Option Challenge :=
  if isDigest ch.scheme then some (challengeOfParams ch.params) else none

/-- the loop variables agree with the meaning read so far. `addParam` puts each new name in front of
`seen`, so `seen` is the names of the current challenge in reverse. -/
def Inv (st : PState) (acc : List SChal) : Prop :=
  st.rev = acc.filterMap digestOf ∧
  match acc with
  | [] => st.seen = none ∧ st.cur = false
  | ch :: _ => st.seen = some (names ch).reverse ∧ st.cur = isDigest ch.scheme

theorem inv_newChal (st : PState) (acc : List SChal) (s : Bytes) (t : Option Bytes) (h : Inv st acc) :
    Inv (newChal st s) ({ scheme := s, t68 := t } :: acc) := by
  refine ⟨?_, rfl, rfl⟩
  by_cases hd : equalFold s b!"Digest" = true <;>
    simp [newChal, digestOf, isDigest, challengeOfParams, hd, h.1]

/-- a result of the loop and a result of the meaning agree: both fail, or both succeed in states
related by `Inv` -/
def Sim : Except Err PState → Option (List SChal) → Prop
  | .ok st, some acc => Inv st acc
  | .error _, none => True
  | _, _ => False

theorem Sim.elim {r : Except Err PState} {o : Option (List SChal)} {P : Prop} (h : Sim r o)
    (err : ∀ e, r = .error e → o = none → P)
    (ok : ∀ st acc, r = .ok st → o = some acc → Inv st acc → P) : P := by
  cases r <;> cases o
  · exact err _ rfl rfl
  · exact False.elim h
  · exact False.elim h
  · exact ok _ _ rfl rfl h

theorem sim_param (st : PState) (acc : List SChal) (p : ParamW) (h : Inv st acc) :
    Sim (putParam st (lower p.name) p.val.value) (meanParam acc p) := by
  cases acc with
  | nil => simp only [putParam, h.2.1, meanParam]; trivial
  | cons ch rest =>
    obtain ⟨hrev, hseen, hcur⟩ := h
    -- the loop looks the name up in `seen`, the meaning in the names as written: same elements
    have hc : (names ch).reverse.contains (lower p.name) = (names ch).contains (lower p.name) := by simp
    simp only [putParam, meanParam, hseen, hc]
    split
    · trivial
    simp only [hcur, hrev, List.filterMap_cons, digestOf]
    cases hd : isDigest ch.scheme with
    | false => exact ⟨by simp [digestOf, hd], by simp [names], by simp [hd]⟩
    | true =>
      simp only [Bool.not_true, Bool.false_eq_true, if_false, if_true, Bool.true_and, setParam_eq]
      by_cases hn : (lower p.name == b!"charset") = true
      · cases hu : isUtf8Name p.val.value with
        | false => simp only [hn, if_true, Bool.false_eq_true, if_false, Bool.not_false, Bool.and_self]; trivial
        | true =>
          simp only [hn, if_true, Bool.not_true, Bool.and_false, Bool.false_eq_true, if_false]
          refine ⟨?_, by simp [names], by simp [hd]⟩
          simp only [List.filterMap_cons, digestOf, hd, if_true, challengeOfParams, List.foldl_append,
            List.foldl_cons, List.foldl_nil, eq_of_beq hn]
          -- `charset` is no field: `store c "charset" v` computes to `c`, as `setParam` leaves it
          rfl
      · simp only [hn, Bool.false_eq_true, if_false, Bool.false_and]
        refine ⟨?_, by simp [names], by simp [hd]⟩
        simp only [List.filterMap_cons, digestOf, hd, if_true, challengeOfParams, List.foldl_append,
          List.foldl_cons, List.foldl_nil]

theorem sim_stepElem (st : PState) (acc : List SChal) (x : Elem) (hx : x.OK) (h : Inv st acc) :
    Sim (stepElem st x.render) (meanStep acc x.e) := by
  obtain ⟨pre, e, post⟩ := x
  have ht := trim_render ⟨pre, e, post⟩ hx
  cases e with
  | empty =>
    unfold stepElem
    simp only [show trim isOws (Elem.render ⟨pre, .empty, post⟩) = [] from ht, List.isEmpty_nil, if_true]
    exact h
  | param p =>
    have hp : p.OK := hx.elem
    rw [stepElem_param st _ p.name p.tail ht hp.name (by rw [trimLeft_tail p hp]; rfl),
      addParam_eq st p.name p.tail p.val.value (paramValue_tail p hp)]
    exact sim_param st acc p h
  | scheme s =>
    have hs : TokenOK s := hx.elem
    rw [stepElem_token st _ s [] (by rw [List.append_nil]; exact ht) hs (by intro a ha; cases ha)]
    exact inv_newChal st acc s none h
  | schemeParam s sp p =>
    obtain ⟨hs, hsp, hp⟩ : TokenOK s ∧ SpOK sp ∧ p.OK := hx.elem
    obtain ⟨a, r, hr, ha⟩ := token_head p.name hp.name
    have hph : p.render.head? = some a := by unfold ParamW.render; rw [hr]; rfl
    rw [stepElem_scheme st _ s sp p.render a ht hs hsp hph (tok_not_ows ha)
      (tok_not_delim a ha).2.2, param_not_token68 p hp, cutToken_param p hp,
      addParam_eq _ p.name p.tail p.val.value (paramValue_tail p hp)]
    exact sim_param _ _ p (inv_newChal st acc s none h)
  | scheme68 s sp t =>
    obtain ⟨hs, hsp, h68⟩ : TokenOK s ∧ SpOK sp ∧ isToken68 t = true := hx.elem
    obtain ⟨_, a, r, hr, ha⟩ := token68_bytes t h68
    rw [stepElem_scheme st _ s sp t a ht hs hsp (by rw [hr]; rfl)
      (t68_plain _ (Or.inl ha)).1 (t68_ne_eq a ha), h68]
    simp only [meanStep, if_true]
    by_cases hd : isDigest s = true
    · rw [if_pos hd, if_pos (show equalFold s b!"Digest" = true from hd)]; trivial
    · rw [if_neg hd, if_neg (show ¬equalFold s b!"Digest" = true from hd)]; exact inv_newChal st acc s (some t) h

theorem sim_parseElems : ∀ (xs : List Elem) (st : PState) (acc : List SChal), (∀ x ∈ xs, x.OK) → Inv st acc →
    Sim (parseElems (xs.map Elem.render) st) (meanElems (xs.map (·.e)) acc)
  | [], _, _, _, h => h
  | x :: xs, st, acc, hok, h => by
    simp only [List.map_cons, parseElems, meanElems]
    refine (sim_stepElem st acc x (hok x (by simp)) h).elim (fun e hst hm => ?_) fun st' acc' hst hm hs => ?_
    · rw [hst, hm]; trivial
    · rw [hst, hm]; exact sim_parseElems xs _ _ (fun y hy => hok y (List.mem_cons_of_mem _ hy)) hs

/-- **the tokenizer on a written list**: `parseChallenge` answers from the Digest challenges of its
meaning, and refuses a list without one -/
theorem parseChallenge_meaning (algOf' : Bytes → Option Alg) (xs : List Elem) (hne : xs ≠ [])
    (hok : ∀ x ∈ xs, x.OK) :
    match meaning (xs.map (·.e)) with
    | some chs => parseChallenge algOf' (commaCat (xs.map Elem.render)) = pick algOf' (chs.filterMap digestOf)
    | none => ∃ e, parseChallenge algOf' (commaCat (xs.map Elem.render)) = .error e := by
  unfold parseChallenge meaning
  rw [splitList_commaCat _ (by simpa using hne) (by
    intro p hp
    simp only [List.mem_map] at hp
    obtain ⟨x, hx, rfl⟩ := hp
    exact scan_elem x (hok x hx))]
  refine (sim_parseElems xs {} [] hok ⟨rfl, rfl, rfl⟩).elim (fun e hst hm => ?_) fun st acc hst hm hs => ?_
  · rw [hst, hm]; exact ⟨_, rfl⟩
  · rw [hst, hm]; simp only [Option.map_some, hs.1, List.filterMap_reverse]

/-- one field line: a non-empty list of elements -/
def lineRender (l : List Elem) : Bytes := commaCat (l.map Elem.render)

/-- `strings.Join(lines, ", ")` puts a space in front of the first element of every further line -/
def padFirst : List Elem → List Elem
  | [] => []
  | x :: r => { x with pre := 32 :: x.pre } :: r

theorem render_padFirst (l : List Elem) (h : l ≠ []) :
    commaCat ((padFirst l).map Elem.render) = 32 :: lineRender l := by
  cases l with
  | nil => exact absurd rfl h
  | cons x r =>
    unfold lineRender
    cases r with
    | nil => simp [padFirst, commaCat, Elem.render]
    | cons y r' => simp [padFirst, commaCat, Elem.render]

theorem padFirst_ne_nil (l : List Elem) (h : l ≠ []) : padFirst l ≠ [] := by
  cases l with
  | nil => exact absurd rfl h
  | cons _ _ => simp [padFirst]

theorem padFirst_ok (l : List Elem) (h : ∀ x ∈ l, x.OK) : ∀ x ∈ padFirst l, x.OK := by
  cases l with
  | nil => intro x hx; cases hx
  | cons y r =>
    intro x hx
    simp only [padFirst, List.mem_cons] at hx
    rcases hx with rfl | hx
    · have := h y (by simp)
      exact ⟨by simp [this.1, isOws], this.2.1, this.2.2⟩
    · exact h x (List.mem_cons_of_mem _ hx)

theorem padFirst_e (l : List Elem) : (padFirst l).map (·.e) = l.map (·.e) := by
  cases l <;> rfl

/-- the lines as ONE element list, following `commaJoin`: every further line gets the space of `", "` -/
def joinLines : List (List Elem) → List Elem
  | [] => []
  | [l] => l
  | l :: m :: r => l ++ padFirst (joinLines (m :: r))

theorem joinLines_ne_nil : ∀ (ls : List (List Elem)), ls ≠ [] → (∀ l ∈ ls, l ≠ []) → joinLines ls ≠ []
  | [], h, _ => absurd rfl h
  | [l], _, h => h l (by simp)
  | l :: _ :: _, _, h => by simp [joinLines, h l (by simp)]

/-- the joined field value is the rendering of ONE element list -/
theorem commaJoin_lines : ∀ (ls : List (List Elem)), ls ≠ [] → (∀ l ∈ ls, l ≠ []) →
    commaJoin (ls.map lineRender) = commaCat ((joinLines ls).map Elem.render)
  | [], h, _ => absurd rfl h
  | [l], _, _ => rfl
  | l :: m :: r, _, hne => by
    have hr := fun x hx => hne x (List.mem_cons_of_mem l hx)
    have hj := joinLines_ne_nil (m :: r) (by simp) hr
    rw [joinLines, List.map_append, commaCat_append _ _ (by simpa using hne l (by simp))
      (by simpa using padFirst_ne_nil _ hj), render_padFirst _ hj, lineRender,
      ← commaJoin_lines (m :: r) (by simp) hr]
    rfl

theorem joinLines_ok : ∀ (ls : List (List Elem)), (∀ l ∈ ls, ∀ x ∈ l, x.OK) → ∀ x ∈ joinLines ls, x.OK
  | [], _ => nofun
  | [l], h => h l (by simp)
  | l :: m :: r, h => by
    intro x hx
    rcases List.mem_append.mp hx with hx | hx
    · exact h l (by simp) x hx
    · exact padFirst_ok _ (joinLines_ok (m :: r) fun k hk => h k (List.mem_cons_of_mem _ hk)) x hx

theorem joinLines_e : ∀ (ls : List (List Elem)), (joinLines ls).map (·.e) = ls.flatten.map (·.e)
  | [] => rfl
  | [l] => by simp [joinLines]
  | l :: m :: r => by
    rw [joinLines, List.map_append, padFirst_e, joinLines_e (m :: r), List.flatten_cons (l := l), List.map_append]

theorem parseChallenge_meaning_lines (algOf' : Bytes → Option Alg) (ls : List (List Elem)) (hne : ls ≠ [])
    (hl : ∀ l ∈ ls, l ≠ []) (hok : ∀ l ∈ ls, ∀ x ∈ l, x.OK) :
    match meaning (ls.flatten.map (·.e)) with
    | some chs => parseChallenge algOf' (commaJoin (ls.map lineRender)) = pick algOf' (chs.filterMap digestOf)
    | none => ∃ e, parseChallenge algOf' (commaJoin (ls.map lineRender)) = .error e := by
  rw [commaJoin_lines ls hne hl, ← joinLines_e]
  exact parseChallenge_meaning algOf' _ (joinLines_ne_nil ls hne hl) (joinLines_ok ls hok)

theorem field_challengeOfParams (k : Bytes) (hk : k ∈ storedKeys) (ps : List (Bytes × Bytes)) :
    field k (challengeOfParams ps) = (lastVal ps k).getD [] :=
  (field_foldl_pairs k hk ps {}).trans (by rw [field_empty k hk])

end Req.DigestAuth
