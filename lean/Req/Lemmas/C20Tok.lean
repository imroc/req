import Req.Client.DigestAuth
import Req.Lemmas.C20Bytes
/-!
Helper lemmas for `Req.Props.C20.parse_faithful` (the repaired code): the tokenizer of `parseChallenge` reads
every `WWW-Authenticate` value written according to RFC 7235 section 4.1 (`1#challenge`,
`challenge = auth-scheme [ 1*SP ( token68 / #auth-param ) ]`,
`auth-param = token BWS "=" BWS ( token / quoted-string )`, quoted-string with quoted-pairs,
OWS around the commas, empty list elements) as the list of elements it was written from.

In this file: the written form — `ValW`, `ParamW`, `ElemW`, `Elem` with `render` and `OK`, `QBody`,
`plainQ`: the definitions the theorems of `Req/Props/C20Digest.lean`, `C20Multi*.lean` and
`C20Malformed*.lean` are stated with, our reading of the grammar of RFC 7235, trusted —, `splitList` on a
rendered list (`scan` is its state after a piece), the loop body `stepElem` on an element that begins
with a token (`stepElem_token`), what each written element looks like once trimmed (`trim_render`),
and the first refused element of a list (`parseChallenge_first_error`); `sim_stepElem` in
`C20Meaning.lean` puts them together.
-/
namespace Req.DigestAuth
open Req.Proto Req.Ascii Req.Digest
open Req.Trim (takeWhile_pad dropWhile_pad dropWhile_reverse_id dropWhile_reverse_split)

/-- The state of `splitList` after a piece: `q` = inside a quoted-string, `e` = behind a backslash
there; `none` = the piece contains a comma outside quoted-strings. -/
def scan : Bool → Bool → Bytes → Option (Bool × Bool)
  | q, e, [] => some (q, e)
  | q, e, c :: cs =>
    if e then scan q false cs
    else if q && c == 92 then scan q true cs
    else if c == 34 then scan (!q) false cs
    else if c == 44 && !q then none
    else scan q false cs

/-! the defining equations of `scan` and `splitListAux` on a non-empty input, in a form `rw` can use -/

theorem scan_cons (q e : Bool) (c : UInt8) (cs : Bytes) :
    scan q e (c :: cs) =
      if e then scan q false cs
      else if q && c == 92 then scan q true cs
      else if c == 34 then scan (!q) false cs
      else if c == 44 && !q then none
      else scan q false cs := rfl

theorem splitListAux_cons (q e : Bool) (c : UInt8) (cs : Bytes) :
    splitListAux q e (c :: cs) =
      if e then (c :: (splitListAux q false cs).1, (splitListAux q false cs).2)
      else if q && c == 92 then (c :: (splitListAux q true cs).1, (splitListAux q true cs).2)
      else if c == 34 then (c :: (splitListAux (!q) false cs).1, (splitListAux (!q) false cs).2)
      else if c == 44 && !q then ([], (splitListAux q false cs).1 :: (splitListAux q false cs).2)
      else (c :: (splitListAux q false cs).1, (splitListAux q false cs).2) := rfl

theorem splitListAux_append : ∀ (x y : Bytes) (q e q' e' : Bool), scan q e x = some (q', e') →
    splitListAux q e (x ++ y) = (x ++ (splitListAux q' e' y).1, (splitListAux q' e' y).2) := by
  intro x
  induction x with
  | nil =>
    intro y q e q' e' h
    simp only [scan, Option.some.injEq, Prod.mk.injEq] at h
    obtain ⟨rfl, rfl⟩ := h
    rfl
  | cons c cs ih =>
    intro y q e q' e' h
    rw [scan_cons] at h
    simp only [List.cons_append]
    rw [splitListAux_cons]
    by_cases h1 : e = true
    · simp only [h1, if_true] at h ⊢
      rw [ih y q false q' e' h]
    · simp only [h1, Bool.false_eq_true, if_false] at h ⊢
      by_cases h2 : (q && c == 92) = true
      · simp only [h2, if_true] at h ⊢
        rw [ih y q true q' e' h]
      · simp only [h2, Bool.false_eq_true, if_false] at h ⊢
        by_cases h3 : (c == 34) = true
        · simp only [h3, if_true] at h ⊢
          rw [ih y (!q) false q' e' h]
        · simp only [h3, Bool.false_eq_true, if_false] at h ⊢
          by_cases h4 : (c == 44 && !q) = true
          · simp only [h4, if_true] at h
            cases h
          · simp only [h4, Bool.false_eq_true, if_false] at h ⊢
            rw [ih y q false q' e' h]

theorem scan_append : ∀ (x y : Bytes) (q e : Bool),
    scan q e (x ++ y) = (scan q e x).bind fun s => scan s.1 s.2 y := by
  intro x
  induction x with
  | nil => intro y q e; rfl
  | cons c cs ih =>
    intro y q e
    simp only [List.cons_append]
    rw [scan_cons, scan_cons]
    by_cases h1 : e = true
    · simp only [h1, if_true]; exact ih y q false
    · simp only [h1, Bool.false_eq_true, if_false]
      by_cases h2 : (q && c == 92) = true
      · simp only [h2, if_true]; exact ih y q true
      · simp only [h2, Bool.false_eq_true, if_false]
        by_cases h3 : (c == 34) = true
        · simp only [h3, if_true]; exact ih y (!q) false
        · simp only [h3, Bool.false_eq_true, if_false]
          by_cases h4 : (c == 44 && !q) = true
          · simp only [h4, if_true]; rfl
          · simp only [h4, Bool.false_eq_true, if_false]; exact ih y q false

theorem scan_plain : ∀ x : Bytes, (∀ c ∈ x, c ≠ 34 ∧ c ≠ 44) → scan false false x = some (false, false) := by
  intro x
  induction x with
  | nil => intro _; rfl
  | cons c cs ih =>
    intro h
    have hc := h c (by simp)
    have h34 : (c == 34) = false := by simpa using hc.1
    have h44 : (c == 44) = false := by simpa using hc.2
    rw [scan_cons]
    simp only [Bool.false_eq_true, if_false, Bool.false_and, h34, h44]
    exact ih (fun d hd => h d (List.mem_cons_of_mem _ hd))

/-- a piece that closes its quotes is passed over -/
theorem scan_closed (x y : Bytes) (hx : scan false false x = some (false, false)) :
    scan false false (x ++ y) = scan false false y := by
  rw [scan_append, hx]; rfl

theorem scan_two (x y : Bytes) (hx : scan false false x = some (false, false))
    (hy : scan false false y = some (false, false)) : scan false false (x ++ y) = some (false, false) :=
  (scan_closed x y hx).trans hy

/-- the content of a quoted-string as written: each byte with the flag "written as quoted-pair" -/
abbrev QBody := List (UInt8 × Bool)

def qbRender : QBody → Bytes
  | [] => []
  | (c, true) :: r => 92 :: c :: qbRender r
  | (c, false) :: r => c :: qbRender r

def qbValue (l : QBody) : Bytes := l.map (·.1)

/-- `"` and `\` must be written as quoted-pairs; everything else may be -/
def QbOK (l : QBody) : Prop := ∀ p ∈ l, p.2 = true ∨ (p.1 ≠ 34 ∧ p.1 ≠ 92)

theorem scan_qb : ∀ l : QBody, QbOK l → scan true false (qbRender l) = some (true, false) := by
  intro l
  induction l with
  | nil => intro _; rfl
  | cons p r ih =>
    intro h
    have ihr := ih (fun x hx => h x (List.mem_cons_of_mem _ hx))
    obtain ⟨c, f⟩ := p
    cases f with
    | true =>
      simp only [qbRender]
      rw [scan_cons]
      simp only [Bool.false_eq_true, if_false, Bool.true_and, beq_self_eq_true, if_true]
      rw [scan_cons]
      simp only [if_true]
      exact ihr
    | false =>
      have hc := h (c, false) (by simp)
      simp only [Bool.false_eq_true, false_or] at hc
      have h34 : (c == 34) = false := by simpa using hc.1
      have h92 : (c == 92) = false := by simpa using hc.2
      simp only [qbRender]
      rw [scan_cons]
      simp only [Bool.false_eq_true, if_false, h92, h34, Bool.not_true, Bool.and_false]
      exact ihr

theorem unquote_close : unquote [34] = some [] := rfl

theorem unquote_esc (c : UInt8) (rest : Bytes) : unquote (92 :: c :: rest) = (unquote rest).map (c :: ·) := by
  simp [unquote]

theorem unquote_plain (c : UInt8) (rest : Bytes) (h34 : (c == 34) = false) (h92 : (c == 92) = false)
    (hr : rest ≠ []) : unquote (c :: rest) = (unquote rest).map (c :: ·) := by
  cases rest with
  | nil => exact absurd rfl hr
  | cons d r => simp [unquote, h34, h92]

theorem unquote_qbRender (l : QBody) (hl : QbOK l) (rest : Bytes) :
    unquote (qbRender l ++ rest) = (unquote rest).map (qbValue l ++ ·) := by
  induction l with
  | nil => simp [qbRender, qbValue]
  | cons p r ih =>
    have ihr := ih (fun x hx => hl x (List.mem_cons_of_mem _ hx))
    obtain ⟨c, f⟩ := p
    cases f with
    | true =>
      rw [qbRender, List.cons_append, List.cons_append, unquote_esc, ihr, Option.map_map]
      rfl
    | false =>
      have hc := hl (c, false) List.mem_cons_self
      simp only [Bool.false_eq_true, false_or] at hc
      have h34 : (c == 34) = false := by simpa using hc.1
      have h92 : (c == 92) = false := by simpa using hc.2
      rw [qbRender, List.cons_append]
      cases hcs : qbRender r ++ rest with
      | nil =>
        rw [hcs] at ihr
        have hr : unquote rest = none := by
          cases h : unquote rest with
          | none => rfl
          | some v => rw [h] at ihr; cases ihr
        simp [unquote, h34, hr]
      | cons d t =>
        rw [unquote_plain c _ h34 h92 (by simp), ← hcs, ihr, Option.map_map]
        rfl

theorem unquote_qb (l : QBody) (h : QbOK l) : unquote (qbRender l ++ [34]) = some (qbValue l) := by
  rw [unquote_qbRender l h]
  simp [unquote]

theorem qbRender_plain (body : Bytes) : qbRender (body.map (·, false)) = body := by
  induction body with
  | nil => rfl
  | cons c cs ih => rw [List.map_cons, qbRender, ih]

theorem qbOK_plain {body : Bytes} (hb : ∀ c ∈ body, c ≠ 34 ∧ c ≠ 92) : QbOK (body.map (·, false)) := by
  intro p hp
  obtain ⟨c, hc, rfl⟩ := List.mem_map.mp hp
  exact Or.inr (hb c hc)

theorem scan_unterminated (body : Bytes) (hb : ∀ c ∈ body, c ≠ 34 ∧ c ≠ 92) :
    scan false false (34 :: body) = some (true, false) := by
  rw [scan_cons]
  simp only [Bool.false_eq_true, if_false, Bool.false_and, beq_self_eq_true, if_true, Bool.not_false]
  have := scan_qb _ (qbOK_plain hb)
  rwa [qbRender_plain] at this

theorem unquote_plain_none (body : Bytes) (hb : ∀ c ∈ body, c ≠ 34 ∧ c ≠ 92) : unquote body = none := by
  have := unquote_qbRender _ (qbOK_plain hb) []
  rwa [List.append_nil, qbRender_plain] at this

theorem unquote_junk (l : QBody) (hl : QbOK l) (junk : Bytes) (hj : junk ≠ []) :
    unquote (qbRender l ++ 34 :: junk) = none := by
  rw [unquote_qbRender l hl]
  cases junk with
  | nil => exact absurd rfl hj
  | cons j js => simp [unquote]

/-- a parameter value as written: a token, or the body of a quoted-string -/
inductive ValW
  | tok (v : Bytes)
  | quo (l : QBody)

def ValW.render : ValW → Bytes
  | .tok v => v
  | .quo l => 34 :: (qbRender l ++ [34])

def ValW.value : ValW → Bytes
  | .tok v => v
  | .quo l => qbValue l

def TokenOK (t : Bytes) : Prop := t ≠ [] ∧ t.all isTokenByte = true

def ValW.OK : ValW → Prop
  | .tok v => TokenOK v
  | .quo l => QbOK l

/-- `name BWS "=" BWS value` -/
structure ParamW where
  name : Bytes
  bws1 : Bytes
  bws2 : Bytes
  val : ValW

def ParamW.tail (p : ParamW) : Bytes := p.bws1 ++ 61 :: (p.bws2 ++ p.val.render)
def ParamW.render (p : ParamW) : Bytes := p.name ++ p.tail

def ParamW.OK (p : ParamW) : Prop :=
  TokenOK p.name ∧ p.bws1.all isOws = true ∧ p.bws2.all isOws = true ∧ p.val.OK

theorem ParamW.OK.name {p : ParamW} (h : p.OK) : TokenOK p.name := h.1
theorem ParamW.OK.bws1 {p : ParamW} (h : p.OK) : p.bws1.all isOws = true := h.2.1
theorem ParamW.OK.bws2 {p : ParamW} (h : p.OK) : p.bws2.all isOws = true := h.2.2.1
theorem ParamW.OK.val {p : ParamW} (h : p.OK) : p.val.OK := h.2.2.2

theorem ows_not_delim : ∀ c, isOws c = true → c ≠ 34 ∧ c ≠ 44 ∧ c ≠ 61 ∧ isTokenByte c = false :=
  Req.U8.forall_uint8 _ (by decide +kernel)

theorem ows_not_token (c : UInt8) (h : isOws c = true) : isTokenByte c = false := (ows_not_delim c h).2.2.2

theorem scan_tok (t : Bytes) (h : t.all isTokenByte = true) : scan false false t = some (false, false) :=
  scan_plain t (fun c hc => ⟨(tok_not_delim c (List.all_eq_true.mp h c hc)).1, (tok_not_delim c (List.all_eq_true.mp h c hc)).2.1⟩)

theorem scan_ows (t : Bytes) (h : t.all isOws = true) : scan false false t = some (false, false) :=
  scan_plain t (fun c hc => ⟨(ows_not_delim c (List.all_eq_true.mp h c hc)).1, (ows_not_delim c (List.all_eq_true.mp h c hc)).2.1⟩)

theorem scan_val (v : ValW) (h : v.OK) : scan false false v.render = some (false, false) := by
  cases v with
  | tok t => exact scan_tok t h.2
  | quo l =>
    simp only [ValW.render]
    rw [scan_cons]
    simp only [Bool.false_eq_true, if_false, Bool.false_and, beq_self_eq_true, if_true, Bool.not_false]
    rw [scan_append, scan_qb l h]
    rfl

/-- `name BWS "=" BWS` holds no quote and no comma: the scan of a parameter is the scan of its value
as written -/
theorem scan_upto_value (name b1 b2 v : Bytes) (hn : name.all isTokenByte = true)
    (h1 : b1.all isOws = true) (h2 : b2.all isOws = true) :
    scan false false (name ++ (b1 ++ 61 :: (b2 ++ v))) = scan false false v := by
  rw [scan_closed _ _ (scan_tok _ hn), scan_closed _ _ (scan_ows _ h1)]
  exact (scan_closed [61] (b2 ++ v) rfl).trans (scan_closed _ _ (scan_ows _ h2))

theorem scan_param (p : ParamW) (h : p.OK) : scan false false p.render = some (false, false) :=
  (scan_upto_value _ _ _ _ h.name.2 h.bws1 h.bws2).trans (scan_val _ h.val)

theorem cutToken_append (t rest : Bytes) (ht : t.all isTokenByte = true)
    (hr : ∀ a ∈ rest.head?, isTokenByte a = false) : cutToken (t ++ rest) = (t, rest) := by
  unfold cutToken
  rw [takeWhile_pad (List.all_eq_true.mp ht) hr, dropWhile_pad (List.all_eq_true.mp ht) hr]

theorem trimLeft_ows_append (w rest : Bytes) (hw : w.all isOws = true)
    (hr : ∀ a ∈ rest.head?, isOws a = false) : trimLeft isOws (w ++ rest) = rest :=
  dropWhile_pad (List.all_eq_true.mp hw) hr

theorem trimLeft_bws (w rest : Bytes) (hw : w.all isOws = true) :
    trimLeft isOws (w ++ 61 :: rest) = 61 :: rest :=
  trimLeft_ows_append w _ hw (by intro a ha; simp at ha; subst ha; decide)

/-- a rendered value does not begin with white space (its first byte is `"` or a token byte) -/
theorem val_head (v : ValW) (h : v.OK) : ∃ a r, v.render = a :: r ∧ isOws a = false := by
  cases v with
  | tok t =>
    obtain ⟨hne, ht⟩ := h
    cases t with
    | nil => exact absurd rfl hne
    | cons a r =>
      simp only [List.all_cons, Bool.and_eq_true] at ht
      exact ⟨a, r, rfl, tok_not_ows ht.1⟩
  | quo l => exact ⟨34, _, rfl, by decide⟩

/-- `paramValue` behind `BWS "=" BWS`: what is left is read as a quoted-string or as a token -/
theorem paramValue_bws (b1 b2 s : Bytes) (h1 : b1.all isOws = true) (h2 : b2.all isOws = true)
    (hs : ∀ a ∈ s.head?, isOws a = false) :
    paramValue (b1 ++ 61 :: (b2 ++ s)) =
      match (generalizing := false) s with
      | [] => none
      | d :: body =>
        if d == 34 then unquote body
        else if !(cutToken s).1.isEmpty && (cutToken s).2.isEmpty then some (cutToken s).1 else none := by
  unfold paramValue
  rw [trimLeft_bws b1 _ h1]
  simp only [bne_self_eq_false, Bool.false_eq_true, if_false]
  rw [trimLeft_ows_append b2 _ h2 hs]
  cases s <;> rfl

theorem paramValue_tail (p : ParamW) (h : p.OK) : paramValue p.tail = some p.val.value := by
  obtain ⟨_, h1, h2, hv⟩ := h
  obtain ⟨a, r, hr, ha⟩ := val_head p.val hv
  unfold ParamW.tail
  rw [paramValue_bws _ _ _ h1 h2 (by intro b hb; rw [hr] at hb; simp at hb; subst hb; exact ha)]
  cases hpv : p.val with
  | tok t =>
    rw [hpv] at hv
    obtain ⟨hne, ht⟩ := hv
    cases t with
    | nil => exact absurd rfl hne
    | cons c cs =>
      have hc : (c == 34) = false := by
        simp only [List.all_cons, Bool.and_eq_true] at ht
        simpa using (tok_not_delim c ht.1).1
      have := cutToken_append (c :: cs) [] ht (by intro a ha; cases ha)
      simp only [List.append_nil] at this
      simp [ValW.render, ValW.value, hc, this]
  | quo l =>
    rw [hpv] at hv
    simp only [ValW.render, ValW.value, beq_self_eq_true, if_true]
    exact unquote_qb l hv

/-- a list element as written (RFC 7235 section 4.1): nothing, an `auth-param`, a `scheme`,
`scheme 1*SP auth-param` (the first parameter of a challenge), `scheme 1*SP token68`;
`s` is the scheme, `sp` the white space after it, `t` the token68 -/
inductive ElemW
  | empty
  | param (p : ParamW)
  | scheme (s : Bytes)
  | schemeParam (s sp : Bytes) (p : ParamW)
  | scheme68 (s sp t : Bytes)

def ElemW.core : ElemW → Bytes
  | .empty => []
  | .param p => p.render
  | .scheme s => s
  | .schemeParam s sp p => s ++ (sp ++ p.render)
  | .scheme68 s sp t => s ++ (sp ++ t)

/-- `1*SP` (HTAB is tolerated by the parser; the grammar asks for SP) -/
def SpOK (sp : Bytes) : Prop := sp ≠ [] ∧ sp.all isOws = true

def ElemW.OK : ElemW → Prop
  | .empty => True
  | .param p => p.OK
  | .scheme s => TokenOK s
  | .schemeParam s sp p => TokenOK s ∧ SpOK sp ∧ p.OK
  | .scheme68 s sp t => TokenOK s ∧ SpOK sp ∧ isToken68 t = true

/-- a list element with the optional white space around it -/
structure Elem where
  pre : Bytes
  e : ElemW
  post : Bytes

def Elem.render (x : Elem) : Bytes := x.pre ++ (x.e.core ++ x.post)

def Elem.OK (x : Elem) : Prop := x.pre.all isOws = true ∧ x.post.all isOws = true ∧ x.e.OK

theorem Elem.OK.pre {x : Elem} (h : x.OK) : x.pre.all isOws = true := h.1
theorem Elem.OK.post {x : Elem} (h : x.OK) : x.post.all isOws = true := h.2.1
theorem Elem.OK.elem {x : Elem} (h : x.OK) : x.e.OK := h.2.2

/-! `OK` of a concrete written list is checked by `decide` in the worked examples (`exOK`, `mxDigest`) -/

instance (t : Bytes) : Decidable (TokenOK t) := inferInstanceAs (Decidable (t ≠ [] ∧ t.all isTokenByte = true))
instance (sp : Bytes) : Decidable (SpOK sp) := inferInstanceAs (Decidable (sp ≠ [] ∧ sp.all isOws = true))
instance (l : QBody) : Decidable (QbOK l) :=
  inferInstanceAs (Decidable (∀ p ∈ l, p.2 = true ∨ (p.1 ≠ 34 ∧ p.1 ≠ 92)))
instance : (v : ValW) → Decidable v.OK
  | .tok t => inferInstanceAs (Decidable (TokenOK t))
  | .quo l => inferInstanceAs (Decidable (QbOK l))
instance (p : ParamW) : Decidable p.OK :=
  inferInstanceAs (Decidable (TokenOK p.name ∧ p.bws1.all isOws = true ∧ p.bws2.all isOws = true ∧ p.val.OK))
instance : (w : ElemW) → Decidable w.OK
  | .empty => inferInstanceAs (Decidable True)
  | .param p => inferInstanceAs (Decidable p.OK)
  | .scheme s => inferInstanceAs (Decidable (TokenOK s))
  | .schemeParam s sp p => inferInstanceAs (Decidable (TokenOK s ∧ SpOK sp ∧ p.OK))
  | .scheme68 s sp t => inferInstanceAs (Decidable (TokenOK s ∧ SpOK sp ∧ isToken68 t = true))
instance (x : Elem) : Decidable x.OK :=
  inferInstanceAs (Decidable (x.pre.all isOws = true ∧ x.post.all isOws = true ∧ x.e.OK))

/-- a value written without gratuitous quoted-pairs -/
def plainQ (v : Bytes) : ValW := .quo (v.map fun c => (c, c == 34 || c == 92))

/-- The loop variables after a scheme name: a new (empty) challenge is opened if the scheme is
`Digest`, and no parameter name has been seen yet. -/
def newChal (st : PState) (s : Bytes) : PState :=
  { rev := if equalFold s b!"Digest" then ({} : Challenge) :: st.rev else st.rev,
    cur := equalFold s b!"Digest", seen := some [] }

/-- `addParam` once the value has been read (`name` already in lower case) -/
def putParam (st : PState) (name value : Bytes) : Except Err PState :=
  match st.seen with
  | none => .error .badChallenge
  | some seen =>
    if seen.contains name then .error .badChallenge
    else
      let st := { st with seen := some (name :: seen) }
      if !st.cur then .ok st
      else
        match st.rev with
        | c :: cs =>
          (match setParam c name value with
           | .ok c' => .ok { st with rev := c' :: cs }
           | .error e => .error e)
        | [] => .ok st

theorem addParam_eq (st : PState) (name rest value : Bytes) (h : paramValue rest = some value) :
    addParam st name rest = putParam st (lower name) value := by
  unfold addParam putParam
  rw [h]
  cases st.seen <;> rfl

theorem val_ne_nil (v : ValW) (h : v.OK) : v.render ≠ [] := by
  obtain ⟨a, r, hr, _⟩ := val_head v h
  rw [hr]; simp

theorem val_last (v : ValW) (h : v.OK) : ∀ z ∈ v.render.getLast?, isOws z = false ∧ z ≠ 61 := by
  intro z hz
  cases v with
  | tok t =>
    have hm : z ∈ t := List.mem_of_getLast? hz
    have ht := List.all_eq_true.mp h.2 z hm
    exact ⟨tok_not_ows ht, (tok_not_delim z ht).2.2⟩
  | quo l =>
    simp only [ValW.render] at hz
    have e : (34 : UInt8) :: (qbRender l ++ [34]) = (34 :: qbRender l) ++ [34] := by simp
    rw [e, List.getLast?_concat] at hz
    simp only [Option.mem_def, Option.some.injEq] at hz
    subst hz
    decide

theorem param_ne_nil (p : ParamW) : p.tail ≠ [] := by
  unfold ParamW.tail; simp

theorem param_last (p : ParamW) (h : p.OK) : ∀ z ∈ p.render.getLast?, isOws z = false ∧ z ≠ 61 := by
  intro z hz
  unfold ParamW.render ParamW.tail at hz
  have hv := val_ne_nil p.val h.val
  rw [List.getLast?_append_ne _ _ (by simp), List.getLast?_append_ne _ _ (by simp)] at hz
  have e : (61 : UInt8) :: (p.bws2 ++ p.val.render) = (61 :: p.bws2) ++ p.val.render := by simp
  rw [e, List.getLast?_append_ne _ _ hv] at hz
  exact val_last p.val h.val z hz

theorem token_head (t : Bytes) (h : TokenOK t) : ∃ a r, t = a :: r ∧ isTokenByte a = true := by
  obtain ⟨hne, ht⟩ := h
  cases t with
  | nil => exact absurd rfl hne
  | cons a r =>
    simp only [List.all_cons, Bool.and_eq_true] at ht
    exact ⟨a, r, rfl, ht.1⟩

theorem trimLeft_tail (p : ParamW) (h : p.OK) :
    trimLeft isOws p.tail = 61 :: (p.bws2 ++ p.val.render) :=
  trimLeft_bws p.bws1 _ h.bws1

/-- text that begins (after BWS) with `=` does not begin with a token byte -/
theorem rest_head_not_token (rest : Bytes) (h : (trimLeft isOws rest).head? = some 61) :
    ∀ a ∈ rest.head?, isTokenByte a = false := by
  intro a ha
  cases rest with
  | nil => cases ha
  | cons c cs =>
    simp only [List.head?_cons, Option.mem_def, Option.some.injEq] at ha
    subst ha
    by_cases hc : isOws c = true
    · exact ows_not_token c hc
    · have : trimLeft isOws (c :: cs) = c :: cs := by simp [trimLeft, hc]
      rw [this] at h
      simp only [List.head?_cons, Option.some.injEq] at h
      subst h
      decide

theorem tail_head (p : ParamW) (h : p.OK) : ∀ a ∈ p.tail.head?, isTokenByte a = false :=
  rest_head_not_token p.tail (by rw [trimLeft_tail p h]; rfl)

theorem cutToken_param (p : ParamW) (h : p.OK) : cutToken p.render = (p.name, p.tail) :=
  cutToken_append p.name p.tail h.name.2 (tail_head p h)

theorem sp_head (sp rest : Bytes) (h : SpOK sp) : ∀ a ∈ (sp ++ rest).head?, isTokenByte a = false := by
  intro a ha
  obtain ⟨hne, hs⟩ := h
  cases sp with
  | nil => exact absurd rfl hne
  | cons b bs =>
    simp at ha
    subst ha
    simp only [List.all_cons, Bool.and_eq_true] at hs
    exact ows_not_token _ hs.1

theorem trimRight_split (p : UInt8 → Bool) (t : Bytes) :
    ∃ suf, t = trimRight p t ++ suf ∧ ∀ x ∈ suf, p x = true :=
  dropWhile_reverse_split p t

theorem t68_byte : ∀ c, isT68Byte c = true → isOws c = false ∧ c ≠ 34 ∧ c ≠ 44 ∧ c ≠ 61 :=
  Req.U8.forall_uint8 _ (by decide +kernel)

theorem t68_plain (c : UInt8) (h : isT68Byte c = true ∨ c = 61) : isOws c = false ∧ c ≠ 34 ∧ c ≠ 44 := by
  rcases h with h | rfl
  · exact ⟨(t68_byte c h).1, (t68_byte c h).2.1, (t68_byte c h).2.2.1⟩
  · decide

theorem t68_ne_eq (c : UInt8) (h : isT68Byte c = true) : c ≠ 61 := (t68_byte c h).2.2.2

theorem token68_bytes (t : Bytes) (h : isToken68 t = true) :
    (∀ c ∈ t, isT68Byte c = true ∨ c = 61) ∧ ∃ a r, t = a :: r ∧ isT68Byte a = true := by
  unfold isToken68 at h
  simp only [Bool.and_eq_true, Bool.not_eq_true'] at h
  obtain ⟨suf, hsplit, hsuf⟩ := trimRight_split (fun c => c == 61) t
  constructor
  · intro c hc
    rw [hsplit] at hc
    rcases List.mem_append.mp hc with hc | hc
    · exact Or.inl (List.all_eq_true.mp h.1 c hc)
    · exact Or.inr (eq_of_beq (hsuf c hc))
  · cases hu : trimRight (fun c => c == 61) t with
    | nil => rw [hu] at h; simp at h
    | cons a r =>
      rw [hu] at hsplit h
      simp only [List.all_cons, Bool.and_eq_true] at h
      exact ⟨a, r ++ suf, by rw [hsplit]; rfl, h.1.1⟩

theorem trimRight_noop (p : UInt8 → Bool) (t : Bytes) (h : ∀ z ∈ t.getLast?, p z = false) : trimRight p t = t :=
  dropWhile_reverse_id h

theorem param_not_token68 (p : ParamW) (h : p.OK) : isToken68 p.render = false := by
  unfold isToken68
  rw [trimRight_noop _ p.render (fun z hz => by simpa using (param_last p h z hz).2)]
  have : p.render.all isT68Byte = false := by
    rw [List.all_eq_false]
    refine ⟨61, ?_, by decide⟩
    unfold ParamW.render ParamW.tail
    simp
  simp [this]

theorem core_head (w : ElemW) (h : w.OK) (hne : w ≠ .empty) :
    ∃ a r, w.core = a :: r ∧ isTokenByte a = true := by
  cases w with
  | empty => exact absurd rfl hne
  | param p =>
    obtain ⟨a, r, hr, ha⟩ := token_head p.name h.1
    exact ⟨a, r ++ p.tail, by simp [ElemW.core, ParamW.render, hr], ha⟩
  | scheme s =>
    obtain ⟨a, r, hr, ha⟩ := token_head s h
    exact ⟨a, r, by simp [ElemW.core, hr], ha⟩
  | schemeParam s sp p =>
    obtain ⟨a, r, hr, ha⟩ := token_head s h.1
    exact ⟨a, r ++ (sp ++ p.render), by simp [ElemW.core, hr], ha⟩
  | scheme68 s sp t =>
    obtain ⟨a, r, hr, ha⟩ := token_head s h.1
    exact ⟨a, r ++ (sp ++ t), by simp [ElemW.core, hr], ha⟩

theorem core_last (w : ElemW) (h : w.OK) : ∀ z ∈ w.core.getLast?, isOws z = false := by
  intro z hz
  cases w with
  | empty => simp [ElemW.core] at hz
  | param p => exact (param_last p h z hz).1
  | scheme s =>
    have hm : z ∈ s := List.mem_of_getLast? hz
    exact tok_not_ows (List.all_eq_true.mp h.2 z hm)
  | schemeParam s sp p =>
    simp only [ElemW.core] at hz
    have hp : p.render ≠ [] := by unfold ParamW.render; simp [param_ne_nil p]
    rw [List.getLast?_append_ne _ _ (by simp [hp]), List.getLast?_append_ne _ _ hp] at hz
    obtain ⟨_, _, hp⟩ : TokenOK s ∧ SpOK sp ∧ p.OK := h
    exact (param_last p hp z hz).1
  | scheme68 s sp t =>
    simp only [ElemW.core] at hz
    obtain ⟨_, _, h68⟩ : TokenOK s ∧ SpOK sp ∧ isToken68 t = true := h
    obtain ⟨hb, a, r, hr, _⟩ := token68_bytes t h68
    have ht : t ≠ [] := by rw [hr]; simp
    rw [List.getLast?_append_ne _ _ (by simp [ht]), List.getLast?_append_ne _ _ ht] at hz
    exact (t68_plain z (hb z (List.mem_of_getLast? hz))).1

theorem trim_render (x : Elem) (h : x.OK) : trim isOws x.render = x.e.core := by
  unfold Elem.render
  rw [← List.append_assoc]
  refine trim_pad x.pre x.post x.e.core h.pre h.post (fun b hb => ?_) (core_last x.e h.elem)
  by_cases hne : x.e = .empty
  · simp [hne, ElemW.core] at hb
  · obtain ⟨a, r, hr, ha⟩ := core_head x.e h.elem hne
    rw [hr] at hb
    exact Option.some.inj hb ▸ tok_not_ows ha

/-- the loop body on an element that is `name rest` once trimmed, `name` a token and `rest` not
beginning with a token byte: a parameter when `rest` begins (after BWS) with `=`, else a new challenge -/
theorem stepElem_token (st : PState) (e0 name rest : Bytes)
    (ht : trim isOws e0 = name ++ rest) (hn : TokenOK name)
    (hr : ∀ a ∈ rest.head?, isTokenByte a = false) :
    stepElem st e0 =
      if (trimLeft isOws rest).head? != some 61 then
        if !(trimLeft isOws rest).isEmpty && trimLeft isOws rest == rest then .error .badChallenge
        else if (trimLeft isOws rest).isEmpty then .ok (newChal st name)
        else if isToken68 (trimLeft isOws rest) then
          (if equalFold name b!"Digest" then .error .badChallenge else .ok (newChal st name))
        else addParam (newChal st name) (cutToken (trimLeft isOws rest)).1 (cutToken (trimLeft isOws rest)).2
      else addParam st name rest := by
  obtain ⟨a, r, hr', _⟩ := token_head name hn
  have hne : (name ++ rest).isEmpty = false := by rw [hr']; rfl
  have hnn : name.isEmpty = false := by rw [hr']; rfl
  unfold stepElem
  simp only [ht, cutToken_append name rest hn.2 hr, hne, hnn, Bool.false_eq_true, if_false, newChal]

theorem stepElem_param (st : PState) (e0 name rest : Bytes)
    (ht : trim isOws e0 = name ++ rest) (hn : TokenOK name)
    (heq : (trimLeft isOws rest).head? = some 61) :
    stepElem st e0 = addParam st name rest := by
  rw [stepElem_token st e0 name rest ht hn (rest_head_not_token rest heq), heq]
  rfl

/-- `scheme 1*SP rest` where `rest` begins with a byte that is neither OWS nor `=`: the loop opens a
new challenge and reads `rest` as its token68 or as its first parameter -/
theorem stepElem_scheme (st : PState) (e0 s sp rest : Bytes) (a : UInt8)
    (ht : trim isOws e0 = s ++ (sp ++ rest)) (hs : TokenOK s) (hsp : SpOK sp)
    (hhead : rest.head? = some a) (hows : isOws a = false) (heq : a ≠ 61) :
    stepElem st e0 =
      if isToken68 rest then
        (if equalFold s b!"Digest" then .error .badChallenge else .ok (newChal st s))
      else addParam (newChal st s) (cutToken rest).1 (cutToken rest).2 := by
  have hafter : trimLeft isOws (sp ++ rest) = rest :=
    trimLeft_ows_append sp _ hsp.2 (by
      intro c hc'
      rw [hhead] at hc'
      cases hc'
      exact hows)
  have h61 : (some a != some (61 : UInt8)) = true := by simp [heq]
  have hne : rest.isEmpty = false := by
    cases hh : rest with
    | nil => rw [hh] at hhead; cases hhead
    | cons _ _ => rfl
  have hshorter : (rest == sp ++ rest) = false :=
    beq_eq_false_iff_ne.mpr (mt List.self_eq_append_left.mp hsp.1)
  rw [stepElem_token st e0 s (sp ++ rest) ht hs (sp_head sp _ hsp)]
  simp only [hafter, hhead, h61, if_true, hne, Bool.not_false, Bool.true_and, hshorter,
    Bool.false_eq_true, if_false]

theorem scan_t68 (t : Bytes) (h : isToken68 t = true) : scan false false t = some (false, false) := by
  obtain ⟨hb, _⟩ := token68_bytes t h
  exact scan_plain t (fun c hc => (t68_plain c (hb c hc)).2)

theorem scan_core (w : ElemW) (h : w.OK) : scan false false w.core = some (false, false) := by
  cases w with
  | empty => rfl
  | param p => exact scan_param p h
  | scheme s => exact scan_tok s h.2
  | schemeParam s sp p =>
    obtain ⟨hs, hsp, hp⟩ : TokenOK s ∧ SpOK sp ∧ p.OK := h
    exact scan_two _ _ (scan_tok s hs.2) (scan_two _ _ (scan_ows sp hsp.2) (scan_param p hp))
  | scheme68 s sp t =>
    obtain ⟨hs, hsp, h68⟩ : TokenOK s ∧ SpOK sp ∧ isToken68 t = true := h
    exact scan_two _ _ (scan_tok s hs.2) (scan_two _ _ (scan_ows sp hsp.2) (scan_t68 t h68))

theorem scan_elem (x : Elem) (h : x.OK) : scan false false x.render = some (false, false) :=
  scan_two _ _ (scan_ows _ h.pre) (scan_two _ _ (scan_core _ h.elem) (scan_ows _ h.post))

/-- `splitList` takes a rendered list apart into the rendered pieces; only the last piece may
leave a quoted-string open -/
theorem splitList_commaCat_tail : ∀ (pieces : List Bytes) (d : Bytes) (q e : Bool),
    (∀ p ∈ pieces, scan false false p = some (false, false)) → scan false false d = some (q, e) →
    splitList (commaCat (pieces ++ [d])) = pieces ++ [d]
  | [], d, q, e, _, hd => by
    have := splitListAux_append d [] false false q e hd
    simp only [List.append_nil, splitListAux] at this
    simp only [splitList, commaCat, List.nil_append, this]
  | x :: r, d, q, e, hp, hd => by
    have ih := splitList_commaCat_tail r d q e (fun p hp' => hp p (List.mem_cons_of_mem _ hp')) hd
    unfold splitList at ih ⊢
    have hne : r ++ [d] ≠ [] := by simp
    cases hrd : r ++ [d] with
    | nil => exact absurd hrd hne
    | cons y t =>
      rw [hrd] at ih
      simp only [List.cons_append, hrd, commaCat]
      rw [splitListAux_append x _ false false false false (hp x (by simp)), splitListAux_cons]
      simp only [Bool.false_eq_true, if_false, Bool.false_and, Bool.not_false, Bool.and_true]
      have h44 : ((44 : UInt8) == 34) = false := by decide
      simp only [h44, Bool.false_eq_true, if_false, beq_self_eq_true, if_true, List.append_nil]
      simp only at ih
      rw [ih]

theorem splitList_commaCat (pieces : List Bytes) (hne : pieces ≠ [])
    (h : ∀ p ∈ pieces, scan false false p = some (false, false)) :
    splitList (commaCat pieces) = pieces := by
  have := splitList_commaCat_tail pieces.dropLast (pieces.getLast hne) false false
    (fun p hp => h p ((List.dropLast_sublist pieces).subset hp)) (h _ (List.getLast_mem hne))
  rwa [List.dropLast_concat_getLast] at this

theorem parseElems_first_error : ∀ (good : List Bytes) (d : Bytes) (more : List Bytes) (st0 st : PState) (e : Err),
    parseElems good st0 = .ok st → stepElem st d = .error e → parseElems (good ++ d :: more) st0 = .error e := by
  intro good
  induction good with
  | nil =>
    intro d more st0 st e hg hd
    simp only [parseElems, Except.ok.injEq] at hg
    subst hg
    simp only [List.nil_append, parseElems, hd]
  | cons g good ih =>
    intro d more st0 st e hg hd
    simp only [List.cons_append, parseElems] at hg ⊢
    cases hs : stepElem st0 g with
    | error e' => rw [hs] at hg; cases hg
    | ok st1 =>
      rw [hs] at hg
      exact ih d more st1 st e hg hd

/-- a field value that `splitList` takes apart into pieces of which those before `d` are read and `d`
is refused: `parseChallenge` fails with the error of `d`, whatever follows -/
theorem parseChallenge_first_error (algOf' : Bytes → Option Alg) (good : List Bytes) (d : Bytes)
    (more : List Bytes) (st : PState) (e : Err)
    (hsplit : splitList (commaCat (good ++ d :: more)) = good ++ d :: more)
    (hgood : parseElems good {} = .ok st) (hd : stepElem st d = .error e) :
    parseChallenge algOf' (commaCat (good ++ d :: more)) = .error e := by
  unfold parseChallenge
  rw [hsplit, parseElems_first_error good d more {} st e hgood hd]

end Req.DigestAuth
