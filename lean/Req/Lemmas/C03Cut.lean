import Req.Lemmas.H1Body
/-!
C03 — HTTP/1.1: a call's outcome is the head parser's result followed by `readBody`.  The theorems
about cuts need of the head parser only that it is stable under extension of the stream, so they are
proved for any such parser `ph`; `Props/C03` uses them for `parseHead` (one response) and
`parseFinalHead` (informational responses skipped), `Props/C03Gzip` under the decompressor.
-/
namespace Req.C03
open Req.Proto Req.H1

section cut
variable {ph : Bytes → Option (Msg × Bytes)} {P : Bytes → Outcome} {B : Nat}
  (hP : ∀ s, P s = match ph s with | none => .reject | some (m, r) => .resp m (readBody B m r))
  (hext : ∀ {s m r}, ph s = some (m, r) → ∀ t, ph (s ++ t) = some (m, r ++ t))
include hP hext

theorem cut_resp {s : Bytes} {m : Msg} {b : BodyRes} (h : P s = .resp m b) (k : Nat) :
    P (s.take k) = .reject ∨
    ∃ r, P (s.take k) = .resp m (readBody B m r) ∧ b = readBody B m (r ++ s.drop k) := by
  rw [hP] at h ⊢
  cases hp : ph (s.take k) with
  | none => exact .inl rfl
  | some q =>
    have hfull := hext hp (s.drop k)
    rw [List.take_append_drop] at hfull
    simp only [hfull, Outcome.resp.injEq] at h
    obtain ⟨rfl, rfl⟩ := h
    exact .inr ⟨q.2, rfl, rfl⟩

theorem cut_prefix {s : Bytes} {m : Msg} {b : BodyRes} (h : P s = .resp m b) (k : Nat) :
    P (s.take k) = .reject ∨ ∃ b', P (s.take k) = .resp m b' ∧ b'.data <+: b.data := by
  rcases cut_resp hP hext h k with hr | ⟨r, hr, rfl⟩
  · exact .inl hr
  · exact .inr ⟨_, hr, readBody_data_prefix B m r _⟩

theorem cut_error {s : Bytes} {m : Msg} {b : BodyRes} (h : P s = .resp m b)
    (hf : m.framing ≠ .untilClose) (hrest : b.rest = []) (k : Nat) (hk : k < s.length) :
    (P (s.take k)).isSuccess = false := by
  rcases cut_resp hP hext h k with hr | ⟨r, hr, rfl⟩
  · rw [hr]; rfl
  · rw [hr]
    cases hb : (readBody B m r).ok with
    | false => exact hb
    | true =>
      -- a complete body read leaves the dropped bytes unread
      rw [readBody_append hb hf] at hrest
      have := List.drop_eq_nil_iff.mp (List.append_eq_nil_iff.mp hrest).2
      omega

/-- `cut_error` with hypotheses that evaluation can check. -/
theorem cut_error_checked {s : Bytes} {n : Nat} (hn : s.length = n)
    (h : (match P s with
      | .resp m b => decide (m.framing ≠ .untilClose) && b.rest.isEmpty
      | .reject => false) = true) (k : Nat) (hk : k < n) :
    (P (s.take k)).isSuccess = false := by
  cases hs : P s with
  | reject => simp [hs] at h
  | resp m b =>
    simp only [hs, Bool.and_eq_true, decide_eq_true_eq, List.isEmpty_iff] at h
    exact cut_error hP hext hs h.1 h.2 k (hn ▸ hk)

end cut

end Req.C03
