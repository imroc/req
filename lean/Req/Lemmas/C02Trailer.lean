import Req.Lemmas.C02Head
import Req.Lemmas.C02Chunked
/-!
`body.readTrailer` on a non-empty trailer section: `Peek(2)`, the `seeUpcomingDoubleCRLF`
scan, the field block parse — for every segmentation — yields exactly the fields written.
-/
namespace Req.C02
open Req.Proto Req.Ascii

theorem append_cons_inj_of_not_mem {α} [BEq α] [LawfulBEq α] (x : α) (l1 r1 l2 r2 : List α) (h1 : x ∉ l1) (h2 : x ∉ l2)
    (h : l1 ++ x :: r1 = l2 ++ x :: r2) : l1 = l2 ∧ r1 = r2 := by
  have e : l1 = l2 := by rw [← Req.Trim.takeWhile_ne_append h1 r1, h, Req.Trim.takeWhile_ne_append h2 r2]
  subst e
  exact ⟨rfl, (List.cons.inj (List.append_cancel_left h)).2⟩

/-- Inside a field block the sequence CRLF CRLF occurs only at the very end. -/
theorem block_no_early_double (fs : List WField) (hfs : ∀ f ∈ fs, f.OK) (w y : Bytes) (hy : y ≠ []) :
    blockWire fs ≠ w ++ 13 :: 10 :: 13 :: 10 :: y := by
  induction fs generalizing w with
  | nil =>
    intro h
    have := congrArg List.length h
    simp [blockWire] at this
    omega
  | cons f fs ih =>
    intro h
    have hcr := WField.line_no_cr f (hfs f List.mem_cons_self)
    rw [blockWire_cons] at h
    by_cases hw : (13 : UInt8) ∈ w
    · -- the first CR of `w` is the one that ends the first line: recurse behind its LF
      obtain ⟨a, w', rfl, ha⟩ := List.eq_append_cons_of_mem hw
      rw [List.append_assoc] at h
      obtain ⟨-, h2⟩ := append_cons_inj_of_not_mem 13 _ _ _ _ hcr ha h
      cases w' with
      | nil => exact absurd (List.cons.inj h2).1 (by decide)
      | cons c w'' => exact ih (fun g hg => hfs g (List.mem_cons_of_mem f hg)) w'' (List.cons.inj h2).2
    · -- `w` is the first line, so the next line (or the end) would start with CR
      obtain ⟨-, h2⟩ := append_cons_inj_of_not_mem 13 _ _ _ _ hcr hw h
      have h2 := (List.cons.inj h2).2
      cases fs with
      | nil => exact hy (List.cons.inj (List.cons.inj h2).2).2.symm
      | cons g gs =>
        obtain ⟨a, b, r, hl, ha⟩ := WField.line_head g (hfs g (by simp))
        rw [blockWire_cons, hl] at h2
        exact absurd ((List.cons.inj h2).1 ▸ ha) (by decide)

theorem blockWire_ends (fs : List WField) (hne : fs ≠ []) :
    ∃ w, blockWire fs = w ++ [13, 10, 13, 10] := by
  induction fs with
  | nil => exact absurd rfl hne
  | cons f fs ih =>
    cases fs with
    | nil => exact ⟨f.line, by simp [blockWire]⟩
    | cons g gs =>
      obtain ⟨w, hw⟩ := ih (by simp)
      exact ⟨f.line ++ 13 :: 10 :: w, by rw [blockWire_cons, hw]; simp⟩

/-- The test of `seeUpcomingDoubleCRLF` on the first `size` bytes of a field block succeeds
exactly when they are the whole block. -/
theorem seeUpcomingDoubleCRLF_test (fs : List WField) (hfs : ∀ f ∈ fs, f.OK) (hne : fs ≠ []) (size : Nat) (h4 : 4 ≤ size)
    (hle : size ≤ (blockWire fs).length) :
    (((blockWire fs).take size).length ≥ 4 ∧
      (((blockWire fs).take size).drop (((blockWire fs).take size).length - 4) == [13, 10, 13, 10]) = true) ↔
    size = (blockWire fs).length := by
  rw [List.length_take_of_le hle, beq_iff_eq]
  constructor
  · intro ⟨_, hm⟩
    -- a match before the end would be a CRLF CRLF inside the block
    refine Nat.le_antisymm hle (Nat.le_of_not_lt fun hlt => ?_)
    apply block_no_early_double fs hfs ((blockWire fs).take (size - 4)) ((blockWire fs).drop size)
    · exact fun h0 => Nat.not_le_of_lt hlt (List.drop_eq_nil_iff.mp h0)
    · have h1 := List.take_append_drop (size - 4) ((blockWire fs).take size)
      rw [hm, List.take_take, Nat.min_eq_left (Nat.sub_le _ _)] at h1
      exact (List.take_append_drop size _).symm.trans (by rw [← h1, List.append_assoc]; rfl)
  · intro hend
    obtain ⟨w, hwq⟩ := blockWire_ends fs hne
    refine ⟨h4, ?_⟩
    rw [hend, List.take_length, hwq]
    simp

/-- `seeUpcomingDoubleCRLF` peeks one byte more each round until what it peeked ends in CRLF CRLF.
On a field block that fits the buffer it stops exactly at the end of the block (`seeUpcomingDoubleCRLF_test`): the
whole block is buffered and nothing was consumed. -/
theorem seeUpcomingDoubleCRLF_spec (fs : List WField) (hfs : ∀ f ∈ fs, f.OK) (hne : fs ≠ []) (rest : Bytes) (fuel : Nat) :
    ∀ (size : Nat) (b : Bufio), b.WF → b.Fits → b.rem = blockWire fs ++ rest →
      (blockWire fs).length ≤ b.cap → 4 ≤ size → size ≤ (blockWire fs).length →
      (blockWire fs).length - size < fuel →
      ∃ b', seeUpcomingDoubleCRLF fuel size b = (true, b') ∧ b'.rem = b.rem ∧
        (blockWire fs).length ≤ b'.buf.length := by
  induction fuel with
  | zero => exact fun _ _ _ _ _ _ _ _ h => absurd h (Nat.not_lt_zero _)
  | succ fuel ih =>
    intro size b hw hf hrem hcap hsize hle hfuel
    obtain ⟨b1, hp, hrem1, hw1, hf1, hcap1, -, hbuf1⟩ := Bufio.peek_spec b size hw hf
      (by rw [hrem, List.length_append]; exact Nat.le_trans hle (Nat.le_add_right _ _)) (Nat.le_trans hle hcap)
    rw [seeUpcomingDoubleCRLF, hp, hrem, List.take_append_of_le_length hle]
    simp only [seeUpcomingDoubleCRLF_test fs hfs hne size hsize hle]
    by_cases hend : size = (blockWire fs).length
    · rw [if_pos hend]
      exact ⟨b1, rfl, hrem1.trans hrem, hend ▸ hbuf1⟩
    · rw [if_neg hend]
      obtain ⟨b', h1, h2, h3⟩ := ih (size + 1) b1 hw1 hf1 (hrem1.trans hrem) (hcap1 ▸ hcap)
        (Nat.le_succ_of_le hsize) (Nat.lt_of_le_of_ne hle hend) (by omega)
      exact ⟨b', h1, h2.trans (hrem1.trans hrem), h3⟩

/-- `readTrailer` on `<field lines> CRLF <rest>` yields
exactly the fields written (canonical names, values without optional whitespace, in order)
and leaves `rest`, for every segmentation — provided the section fits the read buffer (the
documented limit of `seeUpcomingDoubleCRLF`). -/
theorem trailerOK_fields (cap : Nat) (fs : List WField) (hfs : ∀ f ∈ fs, f.OK) (hne : fs ≠ [])
    (hcap : (blockWire fs).length ≤ cap) (rest : Bytes) :
    TrailerOK cap (blockWire fs ++ rest) rest (some (fieldsOf fs)) := by
  intro b hrem hw hf hc
  obtain ⟨f, fs', rfl⟩ := List.exists_cons_of_ne_nil hne
  have ⟨h4, hfl⟩ : 4 ≤ (blockWire (f :: fs')).length ∧ (f :: fs').length < (blockWire (f :: fs')).length := by
    have := blockWire_len (f :: fs') hfs
    rw [List.length_cons] at this ⊢
    omega
  have h2 : 2 ≤ (blockWire (f :: fs')).length := Nat.le_trans (by decide) h4
  have hremlen : 2 ≤ b.rem.length := by
    rw [hrem, List.length_append]
    exact Nat.le_trans h2 (Nat.le_add_right _ _)
  obtain ⟨b1, hp, hrem1, hw1, hf1, hcap1, -⟩ := Bufio.peek_spec b 2 hw hf hremlen (hc ▸ Nat.le_trans h2 hcap)
  -- the first two bytes are not CRLF: the section starts with a field name
  obtain ⟨a, a2, r, hl, ha⟩ := WField.line_head f (hfs f List.mem_cons_self)
  have hnot : ((b.rem.take 2 : Bytes) == [13, 10]) = false := by
    rw [hrem, blockWire_cons, hl]
    exact beq_eq_false_iff_ne.mpr fun e => absurd ((List.cons.inj e).1 ▸ ha) (by decide)
  have hlen2 : ¬ (b.rem.take 2).length < 2 := by
    rw [List.length_take_of_le hremlen]
    exact Nat.lt_irrefl 2
  rw [← hc, ← hcap1] at hcap
  obtain ⟨b2, hsee, hrem2, hbuf2⟩ :=
    seeUpcomingDoubleCRLF_spec (f :: fs') hfs hne rest (b1.cap + 2) 4 b1 hw1 hf1 (hrem1.trans hrem) hcap (Nat.le_refl 4) h4
      (by omega)
  -- the buffer holds the whole section
  have hrem2' : b2.rem = blockWire (f :: fs') ++ rest := hrem2.trans (hrem1.trans hrem)
  obtain ⟨X, hbX, -⟩ := List.append_eq_append_of_length_le hrem2' hbuf2
  refine ⟨b2.discardBuffered (blockWire (f :: fs')).length, ?_, ?_⟩
  · rw [readTrailer, hp]
    simp only [hnot, hlen2, Bool.false_eq_true, if_false, hsee]
    rw [hbX, parseFieldBlock_block (f :: fs') hfs X _ (by
      rw [List.length_append]
      exact Nat.lt_succ_of_le (Nat.le_trans (Nat.le_of_lt hfl) (Nat.le_add_right _ _)))]
  · rw [Bufio.discardBuffered_rem _ _ hbuf2, hrem2', List.drop_left]

end Req.C02
