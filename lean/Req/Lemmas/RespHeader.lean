import Req.Client.RespHeader
import Req.Lemmas.ListFacts
/-! C15, the response header: `Header.Add` on the assembled header (`values_add`), and the pre-allocated value
slots — with the capacity of every handed-out slice capped at one, the slot mechanism computes `add`
(`Slots.step_capped`, `Slots.run_capped`). -/
namespace Req.RespHeader
open Req.Proto Req.Ascii

theorem lookup_cons_ne {β : Type} (k k' : Bytes) (y : β) (rest : List (Bytes × β)) (h : k' ≠ k) :
    List.lookup k ((k', y) :: rest) = rest.lookup k := by
  have : (k == k') = false := by simp [Ne.symm h]
  simp [List.lookup, this]

theorem values_add (h : Hdr) (k v k2 : Bytes) :
    values (add h k v) k2 = if k = k2 then values h k2 ++ [v] else values h k2 := by
  induction h with
  | nil =>
    by_cases hk : k = k2
    · subst hk; simp [add, values]
    · simp [add, values, hk, lookup_cons_ne]
  | cons e rest ih =>
    obtain ⟨k', vs⟩ := e
    by_cases hk' : k' = k
    · subst hk'
      by_cases hk : k' = k2
      · subst hk; simp [add, values]
      · simp [add, values, hk, lookup_cons_ne]
    · simp only [add, hk', if_false]
      by_cases h2 : k' = k2
      · subst h2
        have : k ≠ k' := fun e => hk' e.symm
        simp [values, this]
      · unfold values at ih ⊢
        rw [lookup_cons_ne _ _ _ _ h2, lookup_cons_ne _ _ _ _ h2]
        exact ih

theorem values_foldl (fields : List Field) (h : Hdr) (k2 : Bytes) :
    values (fields.foldl (fun h f => add h (canonicalMIMEHeaderKey f.1) f.2) h) k2 =
      values h k2 ++ (fields.filter fun f => canonicalMIMEHeaderKey f.1 = k2).map Prod.snd := by
  induction fields generalizing h with
  | nil => simp
  | cons f fs ih =>
    rw [List.foldl_cons, ih, values_add]
    by_cases hk : canonicalMIMEHeaderKey f.1 = k2 <;> simp [hk]

namespace Slots

/-- Every shared view is a one-element slice with capacity one into the part of the array that
has been handed out. -/
def Good (s : St) : Prop :=
  s.next ≤ s.mem.length ∧
  ∀ k off len cap, (k, Vals.shared off len cap) ∈ s.hdr → len = 1 ∧ cap = 1 ∧ off < s.next

/-- `readOut` with the backing array and the map as two arguments (`readOut s = resolve s.mem s.hdr` by `rfl`): a
step changes the two separately, and `Good` relates the map to the array as it is at that step. -/
def resolve (mem : List Bytes) (l : List (Bytes × Vals)) : Hdr :=
  l.map fun kv => (kv.1, readVals mem kv.2)

theorem lookup_resolve (mem : List Bytes) (l : List (Bytes × Vals)) (k : Bytes) :
    (resolve mem l).lookup k = (l.lookup k).map (readVals mem) := by
  induction l with
  | nil => simp [resolve]
  | cons e rest ih =>
    obtain ⟨k', y⟩ := e
    by_cases hk : k' = k
    · subst hk; simp [resolve]
    · have : resolve mem ((k', y) :: rest) = (k', readVals mem y) :: resolve mem rest := rfl
      rw [this, lookup_cons_ne _ _ _ _ hk, lookup_cons_ne _ _ _ _ hk, ih]

theorem setVals_absent (l : List (Bytes × Vals)) (k : Bytes) (x : Vals) (h : l.lookup k = none) :
    setVals l k x = l ++ [(k, x)] := by
  induction l with
  | nil => rfl
  | cons e rest ih =>
    obtain ⟨k', y⟩ := e
    by_cases hk : k' = k
    · subst hk; simp at h
    · rw [lookup_cons_ne _ _ _ _ hk] at h
      simp [setVals, hk, ih h]

theorem add_absent (h : Hdr) (k v : Bytes) (hl : h.lookup k = none) : add h k v = h ++ [(k, [v])] := by
  induction h with
  | nil => rfl
  | cons e rest ih =>
    obtain ⟨k', y⟩ := e
    by_cases hk : k' = k
    · subst hk; simp at hl
    · rw [lookup_cons_ne _ _ _ _ hk] at hl
      simp [add, hk, ih hl]

theorem setVals_present (mem : List Bytes) (l : List (Bytes × Vals)) (k v : Bytes) (x y : Vals)
    (h : l.lookup k = some y) (hx : readVals mem x = readVals mem y ++ [v]) :
    resolve mem (setVals l k x) = add (resolve mem l) k v := by
  induction l with
  | nil => simp at h
  | cons e rest ih =>
    obtain ⟨k', y'⟩ := e
    by_cases hk : k' = k
    · subst hk
      rw [List.lookup_cons_self] at h
      cases h
      simp [setVals, resolve, add, hx]
    · rw [lookup_cons_ne _ _ _ _ hk] at h
      have := ih h
      simp only [resolve] at this ⊢
      simp [setVals, add, hk, this]

theorem mem_setVals (l : List (Bytes × Vals)) (k : Bytes) (x : Vals) (e : Bytes × Vals)
    (h : e ∈ setVals l k x) : e ∈ l ∨ e = (k, x) := by
  induction l with
  | nil => simpa [setVals] using h
  | cons a rest ih =>
    obtain ⟨k', y⟩ := a
    by_cases hk : k' = k <;> simp only [setVals, hk, if_true, if_false, List.mem_cons] at h ⊢
    · rcases h with h | h <;> simp [h]
    · rcases h with h | h
      · simp [h]
      · rcases ih h with h | h <;> simp [h]

theorem take_drop_set (mem : List Bytes) (i off n : Nat) (v : Bytes) (h : i < off ∨ off + n ≤ i) :
    ((mem.set i v).drop off).take n = (mem.drop off).take n := by
  apply List.ext_getElem?
  intro m
  simp only [List.getElem?_take, List.getElem?_drop]
  split
  · rw [List.getElem?_set_ne (by omega)]
  · rfl

theorem step_capped (s : St) (key value : Bytes) (hg : Good s) :
    Good (step true s key value) ∧
    resolve (step true s key value).mem (step true s key value).hdr = add (resolve s.mem s.hdr) key value := by
  obtain ⟨hn, hs⟩ := hg
  have hown : ∀ vs, Good { s with hdr := setVals s.hdr key (.own vs) } := fun vs =>
    ⟨hn, fun k off len cap hm => (mem_setVals _ _ _ _ hm).elim (hs k off len cap) fun h => nomatch h⟩
  unfold step
  cases hl : s.hdr.lookup key with
  | none =>
    simp only []
    have habs : (resolve s.mem s.hdr).lookup key = none := by rw [lookup_resolve, hl]; rfl
    by_cases hnext : s.next < s.mem.length
    · simp only [hnext, if_true]
      refine ⟨⟨by simp; omega, ?_⟩, ?_⟩
      · intro k off len cap hm
        rcases mem_setVals _ _ _ _ hm with hm | hm
        · obtain ⟨h1, h2, h3⟩ := hs k off len cap hm
          exact ⟨h1, h2, by simp; omega⟩
        · cases hm
          exact ⟨rfl, rfl, by simp⟩
      · rw [setVals_absent _ _ _ hl, add_absent _ _ _ habs]
        simp only [resolve, List.map_append, List.map_cons, List.map_nil]
        congr 1
        · apply List.map_congr_left
          intro e he
          obtain ⟨k, y⟩ := e
          cases y with
          | own vs => rfl
          | shared off len cap =>
            obtain ⟨h1, _, h3⟩ := hs k off len cap he
            subst h1
            simp only [readVals]
            rw [take_drop_set _ _ _ _ _ (by omega)]
        · simp only [readVals, List.cons.injEq, Prod.mk.injEq, true_and, and_true]
          apply List.ext_getElem?
          intro n
          cases n with
          | zero => simp [List.getElem?_drop, hnext]
          | succ n => simp [List.getElem?_take]
    · simp only [hnext, if_false]
      refine ⟨hown _, ?_⟩
      rw [setVals_absent _ _ _ hl, add_absent _ _ _ habs]
      simp [resolve, readVals]
  | some y =>
    cases y with
    | own vs =>
      simp only []
      exact ⟨hown _, setVals_present _ _ _ _ _ _ hl (by simp [readVals])⟩
    | shared off len cap =>
      obtain ⟨h1, h2, _⟩ := hs key off len cap (List.lookup_mem hl)
      subst h1; subst h2
      simp only [Nat.lt_irrefl, if_false]
      exact ⟨hown _, setVals_present _ _ _ _ _ _ hl (by simp [readVals])⟩

theorem run_capped (fields : List Field) (s : St) (hg : Good s) :
    let s' := fields.foldl (fun s f => step true s (canonicalMIMEHeaderKey f.1) f.2) s
    Good s' ∧ resolve s'.mem s'.hdr =
      fields.foldl (fun h f => add h (canonicalMIMEHeaderKey f.1) f.2) (resolve s.mem s.hdr) := by
  induction fields generalizing s with
  | nil => exact ⟨hg, rfl⟩
  | cons f fs ih =>
    have h1 := step_capped s (canonicalMIMEHeaderKey f.1) f.2 hg
    have h2 := ih _ h1.1
    simp only [List.foldl_cons]
    exact ⟨h2.1, by rw [h2.2, h1.2]⟩

end Slots
end Req.RespHeader
