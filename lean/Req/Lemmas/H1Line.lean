import Req.H1.Response
/-!
The line layer. `splitLF` is `cutByte LF`, and `cutByte` is specified once (`cutByte_eq_some`,
`cutByte_eq_none`): every fact about where a stream is split is an instance.  Then the line reader:
what a successful read consumed does not depend on what follows in the stream ("extension
stability").
-/
namespace Req.H1
open Req.Proto

/-- Bytes other than `b` in front of a stream do not change where it is cut. -/
theorem cutByte_prefix {b : UInt8} {f : Bytes} (h : ∀ c ∈ f, c ≠ b) (x : Bytes) :
    cutByte b (f ++ x) = (cutByte b x).map fun p => (f ++ p.1, p.2) := by
  induction f with
  | nil => cases hx : cutByte b x <;> simp [hx]
  | cons c f ih =>
    simp only [List.cons_append, cutByte, if_neg (h c List.mem_cons_self),
      ih fun y hy => h y (List.mem_cons_of_mem _ hy)]
    cases cutByte b x <;> rfl

theorem cutByte_eq_some {b : UInt8} {s x y : Bytes} :
    cutByte b s = some (x, y) ↔ s = x ++ b :: y ∧ ∀ c ∈ x, c ≠ b := by
  constructor
  · intro h
    induction s generalizing x with
    | nil => cases h
    | cons c cs ih =>
      unfold cutByte at h
      split at h
      · next hc => cases h; exact ⟨by rw [hc]; rfl, nofun⟩
      · next hc =>
        split at h
        · next x' y' hs =>
          cases h
          obtain ⟨rfl, hn⟩ := ih hs
          exact ⟨rfl, fun z hz => (List.mem_cons.mp hz).elim (· ▸ hc) (hn z)⟩
        · cases h
  · rintro ⟨rfl, hn⟩
    rw [cutByte_prefix hn]
    simp [cutByte]

theorem cutByte_eq_none {b : UInt8} {s : Bytes} : cutByte b s = none ↔ ∀ c ∈ s, c ≠ b := by
  induction s with
  | nil => simp [cutByte]
  | cons c s ih =>
    simp only [cutByte, List.mem_cons, forall_eq_or_imp, ← ih]
    by_cases hc : c = b
    · simp [hc]
    · cases cutByte b s <;> simp [hc]

theorem cutByte_length {b : UInt8} {s x y : Bytes} (h : cutByte b s = some (x, y)) :
    x.length + 1 + y.length = s.length := by
  rw [(cutByte_eq_some.1 h).1]; simp; omega

theorem cutByte_append (b : UInt8) (pre post : Bytes) (h : b ∉ pre) :
    cutByte b (pre ++ b :: post) = some (pre, post) :=
  cutByte_eq_some.2 ⟨rfl, fun _ hc e => h (e ▸ hc)⟩

theorem splitLF_eq_cutByte (s : Bytes) : splitLF s = cutByte LF s := by
  induction s with
  | nil => rfl
  | cons c cs ih => simp only [splitLF, cutByte, ih]

theorem splitLF_eq_some {s a r : Bytes} :
    splitLF s = some (a, r) ↔ s = a ++ LF :: r ∧ ∀ c ∈ a, c ≠ LF := by
  rw [splitLF_eq_cutByte]; exact cutByte_eq_some

theorem splitLF_eq_none {s : Bytes} : splitLF s = none ↔ ∀ c ∈ s, c ≠ LF := by
  rw [splitLF_eq_cutByte]; exact cutByte_eq_none

theorem splitLF_noLF_prefix {f : Bytes} (h : ∀ c ∈ f, c ≠ LF) (x : Bytes) :
    splitLF (f ++ x) = (splitLF x).map fun p => (f ++ p.1, p.2) := by
  simp only [splitLF_eq_cutByte]; exact cutByte_prefix h x

theorem splitLF_of_noLF {a : Bytes} (h : ∀ c ∈ a, c ≠ LF) (r : Bytes) :
    splitLF (a ++ LF :: r) = some (a, r) :=
  splitLF_eq_some.2 ⟨rfl, h⟩

theorem splitLF_append {s a r : Bytes} (h : splitLF s = some (a, r)) (t : Bytes) :
    splitLF (s ++ t) = some (a, r ++ t) := by
  obtain ⟨rfl, hn⟩ := splitLF_eq_some.1 h
  rw [List.append_assoc]; exact splitLF_of_noLF hn (r ++ t)

theorem splitLF_length {s a r : Bytes} (h : splitLF s = some (a, r)) :
    s.length = a.length + 1 + r.length := by
  rw [(splitLF_eq_some.1 h).1]; simp; omega

theorem stripCR_append {x : Bytes} (hx : x ≠ []) (f : Bytes) : stripCR (f ++ x) = f ++ stripCR x := by
  induction f with
  | nil => rfl
  | cons c f ih =>
    cases hfx : f ++ x with
    | nil => simp at hfx; exact absurd hfx.2 hx
    | cons d t =>
      simp only [List.cons_append, hfx, stripCR]
      rw [← hfx, ih]

theorem stripCR_append_cr (l : Bytes) : stripCR (l ++ [CR]) = l :=
  (stripCR_append (List.cons_ne_nil _ _) l).trans (List.append_nil l)

theorem readLine_of_splitLF {s a r : Bytes} (h : splitLF s = some (a, r)) :
    readLine s = some (stripCR a, r) := by
  cases s with
  | nil => simp [splitLF] at h
  | cons c cs => simp [readLine, h]

/-- An unterminated last line: everything is the line, nothing is left. -/
theorem readLine_of_noLF {s : Bytes} (hs : s ≠ []) (h : splitLF s = none) :
    readLine s = some (s, []) := by
  cases s with
  | nil => exact absurd rfl hs
  | cons c cs => simp [readLine, h]

theorem readLine_crlf (l R : Bytes) (h : LF ∉ l) : readLine (l ++ CR :: LF :: R) = some (l, R) := by
  have hs : splitLF (l ++ CR :: LF :: R) = some (l ++ [CR], R) := by
    rw [← splitLF_of_noLF (a := l ++ [CR]) _ R, List.append_assoc]; rfl
    intro c hc
    rcases List.mem_append.mp hc with hc | hc
    · exact ne_of_mem_of_not_mem hc h
    · rw [List.mem_singleton.mp hc]; decide
  rw [readLine_of_splitLF hs, stripCR_append_cr]

/-- Either the line was LF-terminated (then it is stable under extension of the stream) or it
was the unterminated remainder (then nothing is left and the line is the whole stream). -/
theorem readLine_cases {s l r : Bytes} (h : readLine s = some (l, r)) :
    (∀ t, readLine (s ++ t) = some (l, r ++ t)) ∨ (r = [] ∧ l = s ∧ s ≠ []) := by
  cases s with
  | nil => simp [readLine] at h
  | cons c cs =>
    cases hs : splitLF (c :: cs) with
    | none =>
      right
      simp [readLine, hs] at h
      obtain ⟨rfl, rfl⟩ := h
      simp
    | some p =>
      obtain ⟨a, r'⟩ := p
      left
      intro t
      simp [readLine, hs] at h
      obtain ⟨rfl, rfl⟩ := h
      have := splitLF_append hs t
      exact readLine_of_splitLF this

theorem readLine_length {s l r : Bytes} (h : readLine s = some (l, r)) : r.length < s.length := by
  cases s with
  | nil => simp [readLine] at h
  | cons c cs =>
    cases hs : splitLF (c :: cs) with
    | none =>
      simp [readLine, hs] at h
      obtain ⟨_, rfl⟩ := h
      simp
    | some p =>
      obtain ⟨a, r'⟩ := p
      simp [readLine, hs] at h
      obtain ⟨_, rfl⟩ := h
      have := splitLF_length hs
      omega

/-- An empty line can only come from a terminated blank line. -/
theorem readLine_empty_stable {s r : Bytes} (h : readLine s = some ([], r)) (t : Bytes) :
    readLine (s ++ t) = some ([], r ++ t) := by
  rcases readLine_cases h with h' | ⟨_, h2, h3⟩
  · exact h' t
  · exact absurd h2.symm h3

/-- A read that leaves something behind was terminated. -/
theorem readLine_stable_of_rest {s l r : Bytes} (h : readLine s = some (l, r)) (hr : r ≠ [])
    (t : Bytes) : readLine (s ++ t) = some (l, r ++ t) := by
  rcases readLine_cases h with h' | ⟨h1, _, _⟩
  · exact h' t
  · exact absurd h1 hr

theorem countOWS_le (s : Bytes) : countOWS s ≤ s.length := by
  induction s with
  | nil => simp [countOWS]
  | cons c cs ih => simp only [countOWS]; split <;> simp <;> omega

/-- If some byte after the leading blanks exists, appending does not change the count. -/
theorem countOWS_append {s : Bytes} (h : countOWS s < s.length) (t : Bytes) :
    countOWS (s ++ t) = countOWS s := by
  induction s with
  | nil => simp at h
  | cons c cs ih =>
    simp only [countOWS, List.cons_append] at h ⊢
    split
    · next hc =>
      simp only [hc, if_true, List.length_cons] at h
      rw [ih (by omega)]
    · rfl

theorem countOWS_zero_append {s : Bytes} (hs : s ≠ []) (h : countOWS s = 0) (t : Bytes) :
    countOWS (s ++ t) = 0 := by
  have : countOWS s < s.length := by
    have : 0 < s.length := List.length_pos_iff.mpr hs
    omega
  rw [countOWS_append this, h]

end Req.H1
