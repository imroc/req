import Req.Pool.WrapChain
/-! The middleware chains of `Req.Pool.Wrap`: `WF` (every chain refers to its holder) is kept by every step of the
variant that rebuilds the chains over the copy; under `WF` a member is served and governed by itself; and the
part of a step the settings see (`settView`, `settStep`) ignores the chains, so wrapper installations drop out of it. -/
namespace Req.Pool.Wrap
open Req.Pool.Dispatch

/-- A change to the current member that leaves its chains referring to it keeps every chain referring to its holder. -/
theorem wf_setCur (f : Fam) (g : Member → Member) (h : WF f)
    (hg : ∀ m, ((∀ c, m.tchain = some c → c.target = f.cur) ∧ (∀ c, m.cchain = some c → c.target = f.cur)) →
      (∀ c, (g m).tchain = some c → c.target = f.cur) ∧ (∀ c, (g m).cchain = some c → c.target = f.cur)) :
    WF (setCur f g) := by
  intro i m' hm'
  unfold setCur at hm'
  cases hm : f.members[f.cur]? with
  | none => rw [hm] at hm'; exact h i m' hm'
  | some m =>
    rw [hm] at hm'
    by_cases he : f.cur = i
    · subst he
      have hlt : f.cur < f.members.length := (List.getElem?_eq_some_iff.mp hm).1
      simp [hlt] at hm'
      subst hm'
      exact hg m (h _ m hm)
    · simp [List.getElem?_set_ne he] at hm'
      exact h i m' hm'

/-- Installing a wrapper on the object at `self` keeps / makes the chain refer to `self`. -/
theorem addWrapper_target (self w : Nat) (oc : Option Chain)
    (hold : ∀ c0, oc = some c0 → c0.target = self) (c : Chain) (h : addWrapper self w oc = some c) :
    c.target = self := by
  cases oc with
  | none => simp [addWrapper] at h; rw [← h]
  | some c0 => simp [addWrapper] at h; rw [← h]; exact hold c0 rfl

theorem rebuild_onCopy_target (orig copy : Nat) (oc : Option Chain) (c : Chain)
    (h : rebuild .onCopy orig copy oc = some c) : c.target = copy := by
  cases oc with
  | none => simp [rebuild] at h
  | some c0 =>
    simp only [rebuild] at h
    split at h
    · cases h
    · cases h; rfl

theorem wstep_wf (f : Fam) (op : WOp) (h : WF f) : WF (wstep .onCopy f op) := by
  cases op with
  | set o => exact wf_setCur f _ h fun _ hm => hm
  | twrap w => exact wf_setCur f _ h fun m hm => ⟨addWrapper_target f.cur w m.tchain hm.1, hm.2⟩
  | cwrap w => exact wf_setCur f _ h fun m hm => ⟨hm.1, addWrapper_target f.cur w m.cchain hm.2⟩
  | fork =>
    simp only [wstep]
    cases hm : f.members[f.cur]? with
    | none => exact h
    | some m =>
      intro i m' hm'
      simp only [List.getElem?_append, List.getElem?_singleton] at hm'
      split at hm'
      · exact h i m' hm'
      · -- the copy, at index `length`: its chains are rebuilt over that index
        split at hm' <;> cases hm'
        have hi' : i = f.members.length := by omega
        exact ⟨fun c hc => by rw [rebuild_onCopy_target f.cur f.members.length m.tchain c hc, hi'],
               fun c hc => by rw [rebuild_onCopy_target f.cur f.members.length m.cchain c hc, hi']⟩
  | switch k =>
    simp only [wstep]
    split <;> exact h
  | request => exact h

theorem wrun_wf (ops : List WOp) (f : Fam) (h : WF f) : WF (wrun .onCopy f ops) :=
  List.foldlRecOn ops _ h fun f h op _ => wstep_wf f op h

theorem wf_init : WF Fam.init := by
  intro i m hm
  cases i with
  | zero => simp [Fam.init] at hm; subst hm; simp
  | succ n => simp [Fam.init] at hm

theorem chainTarget_of_holder (i : Nat) (oc : Option Chain) (h : ∀ c, oc = some c → c.target = i) :
    chainTarget i oc = i := by
  cases oc with
  | none => rfl
  | some c => exact h c rfl

/-- With every chain referring to its holder, member `i`'s request is dispatched by member
`i`'s own `Transport.roundTrip`. -/
theorem served_by_self (f : Fam) (h : WF f) (i : Nat) (m : Member) (hm : f.members[i]? = some m) :
    servedBy f i = some i := by
  simp [servedBy, hm, chainTarget_of_holder i _ (h i m hm).1, chainTarget_of_holder i _ (h i m hm).2]

/-- What the settings part of a step sees and yields: the cursor and every member's settings. -/
def settView (f : Fam) : Nat × List Sett := (f.cur, f.members.map (·.sett))

/-- …hence under the settings member `i` holds. -/
theorem governing_of_wf (f : Fam) (h : WF f) (i : Nat) : governing f i = (settView f).2[i]? := by
  cases hm : f.members[i]? with
  | none => simp [governing, servedBy, settView, hm]
  | some m => simp [governing, served_by_self f h i m hm, settView, hm]

/-- `wstep` on `settView`: the chains play no part in it, nor does how `Clone` rebuilds them. -/
def settStep (p : Nat × List Sett) : WOp → Nat × List Sett
  | .set o => (p.1, match p.2[p.1]? with | some s => p.2.set p.1 (applyS s o) | none => p.2)
  | .fork => (p.1, match p.2[p.1]? with | some s => p.2 ++ [s] | none => p.2)
  | .switch k => (if k < p.2.length then k else p.1, p.2)
  | _ => p

theorem settView_setCur (f : Fam) (g : Member → Member) (k : Sett → Sett) (hg : ∀ m, (g m).sett = k m.sett) :
    settView (setCur f g) =
      (f.cur, match (settView f).2[f.cur]? with | some s => (settView f).2.set f.cur (k s) | none => (settView f).2) := by
  unfold setCur settView
  cases hm : f.members[f.cur]? <;> simp [hm, List.map_set, hg]

theorem settView_wstep (r : Rebuild) (f : Fam) (op : WOp) : settView (wstep r f op) = settStep (settView f) op := by
  cases op with
  | set o => exact settView_setCur f _ (applyS · o) fun _ => rfl
  | twrap w | cwrap w =>
    -- the member is put back with the settings it has
    rw [wstep, settView_setCur f _ id (by intro _; rfl)]
    simp only [settStep, settView]
    cases hh : (f.members.map (·.sett))[f.cur]? with
    | none => rfl
    | some s =>
      obtain ⟨hlt, rfl⟩ := List.getElem?_eq_some_iff.mp hh
      simp only [id, List.set_getElem_self]
  | fork =>
    simp only [wstep, settStep, settView]
    cases hm : f.members[f.cur]? <;> simp [hm]
  | switch k =>
    simp only [wstep, settStep, settView, List.length_map]
    split <;> rfl
  | request => rfl

/-- Cursor and settings after a run are those after the run without its middleware installations, whichever
way `Clone` rebuilds the chains: both runs are `settStep` runs, and a wrapper installation is `settStep`'s identity. -/
theorem settView_wrun_noWraps (r r' : Rebuild) (f : Fam) (ops : List WOp) :
    settView (wrun r f ops) = settView (wrun r' f (noWraps ops)) := by
  rw [wrun, wrun, ← List.foldl_hom settView (g₂ := settStep) fun f op => (settView_wstep r f op).symm,
    ← List.foldl_hom settView (g₂ := settStep) fun f op => (settView_wstep r' f op).symm, noWraps, List.foldl_filter]
  congr
  funext p op
  cases op <;> rfl

end Req.Pool.Wrap
