import Req.Lemmas.C03H2Open
/-!
C03 — HTTP/2: fewer DATA bytes than declared (`run_short`, `drain_short`), the draining caller of
`H2X.outcome` (`drainAll_eof`); a stream that stopped taking DATA has its pipe closed (`Shut`), so
without END_STREAM a stream is live or dead (`live_or_dead`); the surplus beyond the declared
length arriving in DATA frames (`surplus_after_data`); HEAD streams (`head_no_body_run`).
-/
namespace Req.C03
open Req.Proto Req.C02

theorem Mono.run {x : H2X} {O D : Bytes} (hi : Inv x.st O D) (ops : List H2XOp) :
    Mono x.st (x.run ops).2.st :=
  (hi.run_ind (φ := fun _ => True) (Q := fun y _ _ _ => Mono x.st y.st)
    (fun _ _ _ e _ hy hm => hm.trans (Mono.step hy e)) (fun _ _ _ _ _ hm => hm.trans (Mono.closeBody _))
    (fun _ _ _ _ _ _ _ hm => ⟨trivial, hm⟩)
    (fun _ _ _ _ _ _ _ _ _ hr hm => ⟨trivial, hm.trans (Mono.ofRd (read_rdsame hr))⟩) ops (Mono.refl _)).2.2

/-- Fewer DATA bytes than declared, in total: no read ever ends cleanly. -/
theorem run_short {x : H2X} {O D : Bytes} (hi : Inv x.st O D) (ops : List H2XOp) (r : H2Res) (n : Nat)
    (hres : (x.run ops).2.st.res = some r) (hp : r.body = .piped) (hcl : r.contentLength = some n)
    (hlt : (D ++ dataOf (evsOf ops)).length < n) : NoCleanEOF (x.run ops).1 := by
  refine noCleanEOF_of (hi.run_ind (φ := NotEOF)
    (Q := fun y _ D rest => (y.run rest).2.st.res = some r ∧ (D ++ dataOf (evsOf rest)).length < n)
    (fun _ _ _ e rest _ ⟨hres, hlt⟩ => ⟨hres, by rw [List.append_assoc, ← dataOf_cons]; exact hlt⟩)
    (fun _ _ _ _ _ h => h) (fun _ _ _ _ _ _ hr ⟨hres, hlt⟩ => ⟨.none, by rwa [run_read_none _ _ _ hr] at hres, hlt⟩)
    ?_ ops ⟨hres, hlt⟩).1
  intro y O D k d e st' rest hy hr ⟨hres, hlt⟩
  rw [run_read_some _ _ _ _ _ hr] at hres
  refine ⟨.of_ne fun he => ?_, hres, hlt⟩
  -- a clean end means the declared length was handed out; the response head is the final one
  subst he
  obtain ⟨herr, _, _, hlen⟩ := read_eof_spec hy k d st' hr
  have hsome := hy.closedRes (hy.eofClosed herr)
  cases hr0 : y.st.res with
  | none => simp [hr0] at hsome
  | some r0 =>
    have hfin := (Mono.run (x := { y with st := st' }) (hy.read k d _ st' hr) rest).res r0
      (by rw [(read_rdsame hr).res]; exact hr0)
    cases hres.symm.trans hfin
    have := hlen r n hr0 hp hcl
    have hpf := hy.outPfx.length_le
    simp only [List.length_append] at hlt
    omega

/-- Draining after a clean END_STREAM that came before the declared length: the data that
arrived, then `io.ErrUnexpectedEOF`. -/
theorem drain_short {s : H2Stream} {O D : Bytes} (hi : Inv s O D) (r : H2Res) (n : Nat)
    (hres : s.res = some r) (hp : r.body = .piped) (hcl : r.contentLength = some n)
    (herr : s.pipe.err = some .eof) (hbe : s.pipe.breakErr = none) (hre : s.readErr = none)
    (hlt : D.length < n) (ks : List Nat) (hpos : ∀ k ∈ ks, 0 < k) (hlen : s.pipe.buf.length < ks.length) :
    ∃ d, (s.runReads ks).1.getLast? = some (d, some .unexpectedEOF) ∧
      outBytes (s.runReads ks).1 = s.pipe.buf := by
  induction ks generalizing s O with
  | nil => simp at hlen
  | cons k ks ih =>
    have hnf := read_nf s k
    have hall := (hi.allPfx hre).length_le
    have hrem := hi.remain r hres hp hre
    rw [hcl] at hrem; simp at hrem
    simp only [List.length_append] at hall
    generalize hr : s.read k = v at hnf
    cases hnf with
    | blocked _ _ he _ => simp [herr] at he
    | sticky e he => simp [hre] at he
    | broken b _ hb => simp [hbe] at hb
    | brokenShort _ hb => simp [hbe] at hb
    | over rem _ _ _ _ hbr hgt =>
      rw [hbr] at hrem; simp at hrem
      simp only [List.length_take] at hgt; omega
    | ended y _ _ hnb hy hye =>
      rw [herr] at hy; simp at hy; subst hy
      rcases hye rfl with h0 | h0 <;> (rw [h0] at hrem; simp at hrem)
      omega
    | short rem _ _ hnb _ _ _ => rw [runReads_err hr]; exact ⟨[], rfl, by simp [outBytes, hi.buf_nil hnb]⟩
    | data _ _ hhb hne _ =>
      obtain ⟨d', hl, hout⟩ := ih (hi.read k _ none _ hr) hres herr hbe hre (fun k hk => hpos k (by simp [hk]))
        (took_lt hne (hpos k (by simp)) hlen)
      rw [runReads_data hr]
      refine ⟨d', by rw [List.getLast?_cons, hl]; rfl, ?_⟩
      simp only [outBytes, List.map_cons, List.flatten_cons] at hout ⊢
      rw [hout]; simp [took]

/-- The draining caller of `H2X.outcome`. -/
theorem drainAll_eof {s : H2Stream} {O D : Bytes} (hi : Inv s O D) (k fuel : Nat) (acc b : Bytes) (s' : H2Stream)
    (h : drainAll k fuel s acc = ((b, some (some .eof)), s')) :
    ∃ O', b = acc ++ O' ∧ O ++ O' <+: D ∧ s.readClosed = true ∧
      ∀ r n, s.res = some r → r.body = .piped → r.contentLength = some n → (O ++ O').length = n := by
  induction fuel generalizing s O acc with
  | zero => simp [drainAll] at h
  | succ fuel ih =>
    unfold drainAll at h
    cases hr : s.read k with
    | none => rw [hr] at h; simp at h
    | some v =>
      obtain ⟨⟨d, e⟩, s1⟩ := v
      rw [hr] at h
      have hinv := hi.read k d e s1 hr
      have hsame := read_rdsame hr
      cases e with
      | none =>
        simp only [] at h
        obtain ⟨O', hb, hpf, hrc, hlen⟩ := ih hinv (acc ++ d) h
        refine ⟨d ++ O', by rw [hb, List.append_assoc], by rw [← List.append_assoc]; exact hpf,
          by rw [← hsame.readClosed]; exact hrc, ?_⟩
        intro r n h1 h2 h3
        rw [← List.append_assoc]; exact hlen r n (by rw [hsame.res]; exact h1) h2 h3
      | some e =>
        simp only [] at h
        simp at h
        obtain ⟨⟨hb, he⟩, _⟩ := h
        subst he
        obtain ⟨herr, hd, _, hlen⟩ := read_eof_spec hi k d s1 hr
        subst hd
        refine ⟨[], by simpa using hb.symm, by simpa using hi.outPfx, hi.eofClosed herr, ?_⟩
        intro r n h1 h2 h3
        simpa using hlen r n h1 h2 h3

/-- What a success of `H2X.outcome` is made of: a response head without a body, or a piped body
whose draining ended with a clean `io.EOF`. -/
theorem outcome_ok {x : H2X} {k status : Nat} {body : Bytes} (h : x.outcome k = .ok status body) :
    ∃ res, x.st.res = some res ∧ res.status = status ∧
      (res.body = .noBody ∧ body = [] ∨
       res.body = .piped ∧ ∃ s', drainAll k (x.st.pipe.buf.length + 2) x.st [] = ((body, some (some .eof)), s')) := by
  unfold H2X.outcome at h
  cases hr : x.st.res with
  | none => rw [hr] at h; simp only [] at h; split at h <;> cases h
  | some res =>
    rw [hr] at h; simp only [] at h
    refine ⟨res, rfl, ?_⟩
    cases hb : res.body with
    | missingBody => rw [hb] at h; cases h
    | noBody => rw [hb] at h; cases h; exact ⟨rfl, .inl ⟨rfl, rfl⟩⟩
    | piped =>
      rw [hb] at h; simp only [] at h
      generalize drainAll k (x.st.pipe.buf.length + 2) x.st [] = dr at h
      obtain ⟨⟨b, t⟩, s'⟩ := dr
      rcases t with _ | _ | e <;> try cases h
      cases e <;> cases h
      exact ⟨rfl, .inr ⟨rfl, s', rfl⟩⟩

/-- A stream that stopped taking DATA has its pipe closed. -/
def Shut (s : H2Stream) : Prop :=
  (s.readAborted = true ∨ s.connDead = true ∨ s.readClosed = true) →
    (s.pipe.err.isSome = true ∨ s.pipe.breakErr.isSome = true)

theorem Shut.init (isHead : Bool) : Shut (H2Stream.init isHead) := by
  intro h; simp [H2Stream.init] at h

theorem Shut.abort (s : H2Stream) (e : H2Err) : Shut (s.abort e) := by
  intro _; left; rw [abort_eq]; exact closeWithError_err_isSome _ _ _

theorem Shut.endStreamError (s : H2Stream) (e : H2Err) : Shut (s.endStreamError e) := by
  unfold H2Stream.endStreamError; exact Shut.abort _ _

theorem Shut.connError {s : H2Stream} (h : Shut s) : Shut s.connError := by
  unfold H2Stream.connError
  simp only []
  split
  · rename_i hrc
    intro _
    exact h (Or.inr (Or.inr hrc))
  · exact Shut.abort _ _

theorem Shut.endStream {s : H2Stream} (h : Shut s) : Shut s.endStream := by
  unfold H2Stream.endStream
  split
  · exact h
  · intro _; left; exact closeWithError_err_isSome _ _ _

theorem Shut.ctl {s s1 : H2Stream} (h : Shut s) (hc : CtlEq s s1) : Shut s1 := by
  unfold Shut
  rw [hc.readAborted, hc.connDead, hc.readClosed, hc.pipe]; exact h

theorem Shut.closed : Closed true fun s s' => Shut s → Shut s' where
  refl _ := id
  trans h1 h2 := h2 ∘ h1
  ctl hc h := h.ctl hc
  abort s e _ := Shut.abort s e
  endStreamError s e _ := Shut.endStreamError s e
  connError _ h := h.connError
  endStream _ _ h := h.endStream
  push _ _ _ h := h
  head _ _ _ _ _ h := h
  piped _ _ _ _ _ h := fun hx => by simpa using h hx

theorem Shut.step {x : H2X} {O D : Bytes} (hi : Inv x.st O D) (h : Shut x.st) (e : H2XEv) : Shut (x.step e).st :=
  Shut.closed.step hi.res_none e (fun _ => rfl) h

theorem Shut.read {s s' : H2Stream} (h : Shut s) (hs : RdSame s s') : Shut s' := by
  intro hx
  rw [hs.readAborted, hs.connDead, hs.readClosed] at hx
  rcases h hx with h1 | h1
  · left
    cases he : s.pipe.err with
    | none => simp [he] at h1
    | some e => rw [hs.errKeep e he]; rfl
  · right; rw [hs.breakErr]; exact h1

theorem Shut.run {x : H2X} {O D : Bytes} (hi : Inv x.st O D) (h : Shut x.st) (ops : List H2XOp) :
    Shut (x.run ops).2.st :=
  (hi.run_ind (φ := fun _ => True) (Q := fun y _ _ _ => Shut y.st) (fun _ _ _ e _ hy h => Shut.step hy h e)
    (fun _ _ _ _ _ _ => Shut.abort _ _) (fun _ _ _ _ _ _ _ h => ⟨trivial, h⟩)
    (fun _ _ _ _ _ _ _ _ _ hr h => ⟨trivial, h.read (read_rdsame hr)⟩) ops h).2.2

/-- Without END_STREAM so far a closed or broken pipe means a dead stream: the close error is not
`io.EOF`, which only `endStream` sets. -/
theorem Dead.of_shut {s : H2Stream} {O D : Bytes} (hi : Inv s O D) (ho : Open s)
    (h : s.pipe.err.isSome = true ∨ s.pipe.breakErr.isSome = true) : Dead s := by
  rcases h with h1 | h1
  · cases he : s.pipe.err with
    | none => simp [he] at h1
    | some e =>
      refine .inr (.inr ⟨e, he, fun hx => ?_⟩)
      subst hx
      have := hi.eofClosed he
      rw [ho.readClosed] at this; cases this
  · cases hb : s.pipe.breakErr with
    | none => simp [hb] at h1
    | some e => exact .inr (.inl ⟨e, hb⟩)

/-- Without END_STREAM so far, a stream is either live or dead — nothing in between. -/
theorem live_or_dead {s : H2Stream} {O D : Bytes} (hi : Inv s O D) (ho : Open s) (hs : Shut s) : Live s ∨ Dead s := by
  by_cases hl : Live s
  · exact Or.inl hl
  · refine .inr (Dead.of_shut hi ho ?_)
    by_cases h1 : s.pipe.err = none
    · by_cases h2 : s.pipe.breakErr = none
      · apply hs
        by_cases h3 : s.readAborted = true
        · exact Or.inl h3
        · by_cases h4 : s.connDead = true
          · exact Or.inr (Or.inl h4)
          · exfalso; apply hl
            exact ⟨h1, h2, by simpa using h3, by simpa using h4, ho.readClosed⟩
      · right; cases hb : s.pipe.breakErr with
        | none => exact absurd hb h2
        | some _ => rfl
    · left; cases he : s.pipe.err with
      | none => exact absurd he h1
      | some _ => rfl

theorem Surplus.endStream {s : H2Stream} {O : Bytes} (hs : Surplus s O) (es : Bool) :
    Surplus (if es then s.endStream else s) O := by
  split
  · exact hs.mono (Mono.endStream s) (BufGrow.endStream s)
  · exact hs

/-- More DATA than declared arrives before any END_STREAM — the last frame of the surplus may
itself carry END_STREAM: from then on the surplus is there (or the stream is dead). -/
theorem surplus_after_data {x : H2X} {O D : Bytes} (hi : Inv x.st O D) (ho : Open x.st) (hs : Shut x.st)
    (hh : x.st.isHead = false) (r : H2Res) (n : Nat) (hres : x.st.res = some r) (hcl : r.contentLength = some n)
    (p : Bytes) (pad es : Bool) (hsur : D.length + p.length > n) :
    Surplus (x.step (.data p pad es)).st O := by
  have hp := ho.piped hh r hres
  rcases live_or_dead hi ho hs with hl | hd
  · have hlen : O.length + x.st.pipe.buf.length = D.length := by rw [← hi.liveEq hl, List.length_append]
    -- the surplus is there once the payload is in the buffer; END_STREAM on the same frame keeps it
    have hpush : Surplus (pushData x.st p) O :=
      .inr ⟨r, n, hres, hp, hcl, hi.liveBuf hl r hres hp, by simp only [pushData, List.length_append]; omega⟩
    rw [step_st]
    simp only []
    have hnf := processData_nf x.st p pad es
    generalize x.st.processData p pad es = s' at hnf
    cases hnf with
    | ignored hig => exact absurd hl (not_live_of_ignored hig)
    | rejected e he _ => exact .inl (.inr (.inr ⟨e, by simp [H2Stream.endStreamError, hl.1], he⟩))
    | empty hpe _ _ _ =>
      subst hpe
      exact Surplus.endStream (by simpa [pushData] using hpush) es
    | accepted _ _ _ _ _ => exact hpush.endStream es
  · exact Or.inl (hd.mono (Mono.step hi _))

theorem evsOf_map_ev (evs : List H2XEv) : evsOf (evs.map H2XOp.ev) = evs := by
  induction evs with
  | nil => rfl
  | cons e t ih => simp [evsOf, ih]

theorem outOf_run_evs (x : H2X) (evs : List H2XEv) : outOf (x.run (evs.map .ev)).1 = [] := by
  induction evs generalizing x with
  | nil => rfl
  | cons e t ih => simp only [List.map_cons, H2X.run]; exact ih _

/-- On a HEAD stream every response head is body-less. -/
def HeadNB (s : H2Stream) : Prop := s.isHead = true ∧ ∀ r, s.res = some r → r.body = .noBody

theorem HeadNB.same {s s' : H2Stream} (h : HeadNB s) (hh : s'.isHead = s.isHead) (hr : s'.res = s.res) : HeadNB s' :=
  ⟨hh.trans h.1, by rw [hr]; exact h.2⟩

theorem HeadNB.closed : Closed true fun s s' => HeadNB s → HeadNB s' where
  refl _ := id
  trans h1 h2 := h2 ∘ h1
  ctl hc h := h.same hc.isHead hc.res
  abort s e h := h.same (by simp) (by simp)
  endStreamError s e h := h.same (by simp [H2Stream.endStreamError]) (by simp [H2Stream.endStreamError])
  connError s h := by unfold H2Stream.connError; simp only []; split <;> exact h.same (by simp) (by simp)
  endStream _ s h := by unfold H2Stream.endStream; split; exact h; exact h.same rfl rfl
  push _ _ _ h := h.same rfl rfl
  head _ _ _ _ hnb h := ⟨h.1, fun _ hr => by cases hr; exact hnb h.1⟩
  piped _ _ _ _ hh h := by have := h.1; rw [hh] at this; cases this

/-- On a HEAD stream every response head is body-less, and stays so. -/
theorem head_no_body_run (ops : List H2XOp) : ∀ (x : H2X) (O D : Bytes), Inv x.st O D → x.st.isHead = true →
    (∀ r, x.st.res = some r → r.body = .noBody) →
    ∀ r, (x.run ops).2.st.res = some r → r.body = .noBody := by
  intro x O D hi hh h
  exact (hi.run_ind (φ := fun _ => True) (Q := fun y _ _ _ => HeadNB y.st)
    (fun _ _ _ e _ hy h => HeadNB.closed.step hy.res_none e (fun _ => rfl) h)
    (fun _ _ _ _ _ h => h.same (by simp [H2X.closeBody]) (by simp [H2X.closeBody]))
    (fun _ _ _ _ _ _ _ h => ⟨trivial, h⟩)
    (fun _ _ _ _ _ _ _ _ _ hr h => ⟨trivial, h.same (read_rdsame hr).isHead (read_rdsame hr).res⟩) ops ⟨hh, h⟩).2.2.2

end Req.C03
