import Req.Client.DumpSetters
/-! The request-level dump setters (`Req.Client.DumpSetters`): the pointer model refines its value semantics
(`Refines`, kept by every call), and what a run of the value semantics leaves enabled. -/
namespace Req.Client.DumpSetters
open Req.Client.Dump

/-- the invariant that ties the pointer model to the value semantics -/
def Refines (s : RSt) (v : VSt) : Prop :=
  match s.cur with
  | none => v = {} ∧ s.dumper = none
  | some i => (∃ o, s.heap i = some o ∧ v.opts = some o) ∧ s.dumper = (if v.enabled then some i else none)

theorem refines_step (buf : Writer) (s : RSt) (v : VSt) (op : ROp) (h : Refines s v) :
    Refines (step buf false s op) (vstep buf v op) := by
  unfold Refines at h
  cases op with
  | preset p =>
    cases hc : s.cur with
    | none =>
      rw [hc] at h
      obtain ⟨hv, _⟩ := h
      subst hv
      simp [Refines, step, getOpts, hc, RSt.alloc, RSt.store, vstep]
    | some i =>
      rw [hc] at h
      obtain ⟨⟨o, ho, hv⟩, _⟩ := h
      simp [Refines, step, getOpts, hc, RSt.store, vstep, ho, hv]
  | set o =>
    cases hc : s.cur with
    | none =>
      rw [hc] at h
      obtain ⟨hv, hd⟩ := h
      subst hv
      simp [Refines, step, hc, RSt.alloc, vstep, hd]
    | some i =>
      rw [hc] at h
      obtain ⟨⟨o', ho, hv⟩, hd⟩ := h
      cases hen : v.enabled <;> simp [Refines, step, hc, RSt.store, vstep, hd, hen]

theorem refines_run (buf : Writer) (ops : List ROp) (s : RSt) (v : VSt) (h : Refines s v) :
    Refines (ops.foldl (step buf false) s) (ops.foldl (vstep buf) v) :=
  List.foldl_rel h fun op _ s v h => refines_step buf s v op h

theorem vrun_append (buf : Writer) (a b : List ROp) :
    vrun buf (a ++ b) = b.foldl (vstep buf) (vrun buf a) := by
  simp [vrun, List.foldl_append]

theorem vrun_enabled (buf : Writer) (ops : List ROp) (v : VSt) :
    (ops.foldl (vstep buf) v).enabled = (v.enabled || ops.any ROp.enables) := by
  induction ops generalizing v with
  | nil => simp
  | cons op rest ih =>
    rw [List.foldl_cons, ih]
    cases op <;> simp [vstep, ROp.enables]

end Req.Client.DumpSetters
