import Req.Client.Finish
import Req.Lemmas.Ascii
/-!
C18 — what the functions of the models `Req.Result` and `Req.Pipeline` compute: for each, one
equation or one complete case rule (every branch with its guard), for every `Fixes`, stack and
attempt, obtained by unfolding the function once. The other C18 files argue from these.
-/
namespace Req.Result

theorem lowerB_eq_toLower (b : UInt8) : lowerB b = Ascii.toLower b := by
  simp [lowerB, Ascii.toLower, Ascii.isUpper]

/-- What makes `t` the target for the http response `h`: it was supplied, `h` is in the state `t`
stands for and is not a 204; the client-level common error type is used only when the request
carries no error target. -/
def Wants (i : BindIn) (h : Http) : Target → Prop
  | .success => i.successTarget = true ∧ stateOf h = .success ∧ h.status ≠ noContent
  | .errorReq => i.errorTarget = true ∧ stateOf h = .error ∧ h.status ≠ noContent
  | .errorCommon => i.errorTarget = false ∧ i.commonErr = true ∧ stateOf h = .error ∧ h.status ≠ noContent

theorem select_iff (i : BindIn) (t : Target) : selectTarget i = some t ↔ ∃ h, i.http = some h ∧ Wants i h t := by
  unfold selectTarget
  cases i.http with
  | none => simp
  | some h =>
    cases hst : stateOf h
    · cases t <;> simp [hst, Wants]
    · cases t <;> dsimp only [Wants] <;> cases i.errorTarget <;> cases i.commonErr <;> simp [hst]
    · cases t <;> simp [hst, Wants]

/-- `parseResponseBody` by outcome: no target is selected and nothing happens; or the error
already recorded is answered; or `ToBytes` has to read, fails, and records what it returns; or
the body is unmarshalled into the target (the guard spelled out here is `Req.Props.C18.Ready`); or
the unmarshaller rejects it. -/
theorem parseBody_cases (i : BindIn) :
    let keep : BindOut := { slots := i.slots, err := none, respErr := i.respErr, bodyCached := i.bodyCached, codec := none }
    ((i.http = none ∨ selectTarget i = none) ∧ parseBody i = keep) ∨
    ∃ h t, i.http = some h ∧ selectTarget i = some t ∧
      ((∃ e, i.respErr = some e ∧ parseBody i = { keep with err := some e }) ∨
       (∃ e, i.respErr = none ∧ i.bodyCached = false ∧ h.acqErr = some e ∧
          parseBody i = { keep with err := some e, respErr := some e, bodyCached := h.acqBody }) ∨
       ((i.respErr = none ∧ (i.bodyCached = true ∨ h.bodyOK = true) ∧ codecOK h = true) ∧
          parseBody i = { keep with slots := store i.slots t, bodyCached := true, codec := some (codecFor h.ct) }) ∨
       (i.respErr = none ∧ (i.bodyCached = true ∨ h.bodyOK = true) ∧ codecOK h = false ∧
          parseBody i = { keep with err := some .unmarshal, bodyCached := true, codec := some (codecFor h.ct) })) := by
  unfold parseBody
  dsimp only []
  split
  · next h t hh hsel =>
    refine .inr ⟨h, t, hh, hsel, ?_⟩
    cases hre : i.respErr with
    | some e => exact .inl ⟨e, rfl, rfl⟩
    | none =>
      dsimp only []
      split
      · next hc =>
        simp only [Bool.and_eq_true, Bool.not_eq_true', Http.bodyOK] at hc
        cases ha : h.acqErr with
        | none => rw [ha] at hc; cases hc.2
        | some e => exact .inr (.inl ⟨e, rfl, hc.1, rfl, rfl⟩)
      · next hc =>
        have hrd : i.bodyCached = true ∨ h.bodyOK = true := by
          cases hb : i.bodyCached <;> cases hk : h.bodyOK <;> simp [hb, hk] at hc ⊢
        split
        · next hok => exact .inr (.inr (.inl ⟨⟨rfl, hrd, hok⟩, rfl⟩))
        · next hok => exact .inr (.inr (.inr ⟨rfl, hrd, Bool.eq_false_iff.mpr hok, rfl⟩))
  · next hn =>
    refine .inl ⟨?_, rfl⟩
    rcases hh : i.http with _ | h
    · exact .inl rfl
    · rcases hsel : selectTarget i with _ | t
      · exact .inr rfl
      · exact absurd hsel (hn h t hh)

theorem parse_slots_or (i : BindIn) : (parseBody i).slots = i.slots ∨ ∃ t, (parseBody i).slots = store i.slots t := by
  rcases parseBody_cases i with ⟨_, hp⟩ | ⟨h, t, _, _, ⟨e, _, hp⟩ | ⟨e, _, _, _, hp⟩ | ⟨_, hp⟩ | ⟨_, _, _, hp⟩⟩ <;> rw [hp]
  case inr.inr.inr.inl => exact .inr ⟨t, rfl⟩
  all_goals exact .inl rfl

end Req.Result

namespace Req.Pipeline
open Req.Result

/-- What a site does to `resp.Err` with what a built-in element returned: the client loop
records it, the digest tail only hands it on. -/
def Site.record : Site → Resp → Option Err → Resp
  | .clientLoop, r, some e => { r with err := some e }
  | _, r, _ => r

def raisedEv : Option Err → List Ev
  | some e => [.raised e]
  | none => []

/-- `finish` without its destructuring `let`s. (`bif`: a `Decidable` instance would mention the
response the save step is tried on, and `simp` does not rewrite inside instances.) -/
theorem finish_eq (site : Site) (s : Stack) (a : Nat) (r1 : Resp) :
    finish site s a r1 =
      (let p := parseResp s (autoRead s r1).1
       let r3 := site.record p.resp p.ret
       let q := bif site.saves s a r3 p.ret then saveStep s a r3 else (r3, none)
       { resp := site.record q.1 q.2, parse := p.ret, save := q.2, saveRan := site.saves s a r3 p.ret,
         ret := site.combine p.ret q.2, evs := (autoRead s r1).2 ++ p.evs ++ raisedEv q.2 }) := by
  unfold finish
  generalize autoRead s r1 = ar
  obtain ⟨r2, e1⟩ := ar
  simp only
  generalize parseResp s r2 = p
  obtain ⟨pr, pret, pevs⟩ := p
  simp only
  cases site <;> cases pret <;> simp only [Site.record] <;>
    (generalize Site.saves _ s a _ _ = runs
     cases runs <;> simp only [if_true, Bool.false_eq_true, if_false, raisedEv, cond_true, cond_false]
     generalize saveStep s a _ = q
     obtain ⟨r4, sv⟩ := q
     cases sv <;> rfl)

theorem Site.record_none (site : Site) (r : Resp) : site.record r none = r := by cases site <;> rfl

theorem saveStep_fst (s : Stack) (a : Nat) (r : Resp) : ∃ sv, (saveStep s a r).1 = { r with savedOf := sv } := by
  unfold saveStep; split <;> exact ⟨_, rfl⟩

theorem saveStep_snd (s : Stack) (a : Nat) (r : Resp) : (saveStep s a r).2 = saveErr s a r := by
  unfold saveStep; cases saveErr s a r <;> rfl

theorem saveStep_err (s : Stack) (a : Nat) (r : Resp) : (saveStep s a r).1.err = r.err := by
  obtain ⟨sv, h⟩ := saveStep_fst s a r; rw [h]

theorem cond_saveStep_fst (b : Bool) (s : Stack) (a : Nat) (r : Resp) :
    ∃ sv, (bif b then saveStep s a r else (r, none)).1 = { r with savedOf := sv } := by
  cases b
  · exact ⟨_, rfl⟩
  · exact saveStep_fst s a r

theorem cond_saveStep_err (b : Bool) (s : Stack) (a : Nat) (r : Resp) :
    (bif b then saveStep s a r else (r, none)).1.err = r.err := by
  obtain ⟨sv, h⟩ := cond_saveStep_fst b s a r; rw [h]

theorem finish_resp (site : Site) (s : Stack) (a : Nat) (r1 : Resp) :
    ∃ e sv, (finish site s a r1).resp = { (parseResp s (autoRead s r1).1).resp with err := e, savedOf := sv } := by
  rw [finish_eq]
  dsimp only []
  generalize (parseResp s (autoRead s r1).1).ret = pret
  generalize hq : cond _ _ _ = q
  obtain ⟨sv, h⟩ : ∃ sv, q.1 = { site.record (parseResp s (autoRead s r1).1).resp pret with savedOf := sv } := by
    rw [← hq]; exact cond_saveStep_fst _ s a _
  rw [h]
  cases site <;> cases pret <;> cases q.2 <;> exact ⟨_, _, rfl⟩

/-- `handleDownload` is the client loop's save step: `saveStep` when the site saves, with the
failure recorded in `resp.Err`. -/
theorem download_eq (s : Stack) (a : Nat) (r : Resp) (p : Option Err) :
    download s a r =
      (let q := bif Site.saves .clientLoop s a r p then saveStep s a r else (r, none)
       (Site.record .clientLoop q.1 q.2, raisedEv q.2)) := by
  obtain ⟨o, _ | h, tag, err, bc, bo, so, sl⟩ := r
  · rfl
  · unfold download Site.saves saveStep
    dsimp only []
    by_cases hc : s.fixDigestSave = true ∧ digestChallenged s a h = true
    · rw [if_pos hc, hc.1, hc.2]; rfl
    · have hb : (s.fixDigestSave && digestChallenged s a h) = false :=
        Bool.eq_false_iff.mpr fun hb => hc (Bool.and_eq_true_iff.mp hb)
      rw [if_neg hc, hb]
      cases saveErr s a _ <;> rfl

theorem clientRoundTrip_eq (s : Stack) (a : Nat) (hg : s.getBodyAt a = false) :
    clientRoundTrip s a =
      (let f := finish .clientLoop s a (exchange s a).1
       let u := clientLoop 0 (s.clientAt a) f.resp
       { resp := some u.1, err := u.1.err, evs := .send :: (exchange s a).2 ++ f.evs ++ u.2 }) := by
  unfold clientRoundTrip
  rw [if_neg (by rw [hg]; exact Bool.false_ne_true), finish_eq]
  dsimp only []
  generalize parseResp s (autoRead s (exchange s a).1).1 = p
  rcases p with ⟨pr, _ | e, pevs⟩ <;> dsimp only []
  · rw [Site.record_none, download_eq s a pr none]; simp only [List.append_assoc, List.cons_append]
  · rw [show Site.record .clientLoop pr (some e) = { pr with err := some e } from rfl, download_eq s a _ (some e)]; simp only [List.append_assoc, List.cons_append]

/-- `Client.roundTrip` when `GetBody` fails; otherwise it is `clientRoundTrip_eq`. -/
theorem clientRoundTrip_getBody (s : Stack) (a : Nat) (hg : s.getBodyAt a = true) :
    clientRoundTrip s a =
      { resp := some { origin := .roundTrip a, err := some .getBody }, err := some .getBody, evs := [.raised .getBody] } := by
  unfold clientRoundTrip; rw [if_pos hg]

theorem rebind_eq (s : Stack) (a : Nat) (r1 : Resp) :
    rebind s a r1 =
      (let f := finish .digestTail s a r1
       match f.ret with
       | some e => .stop (some f.resp) e (.resend :: f.evs)
       | none => .cont (some f.resp) (.resend :: f.evs)) := by
  unfold rebind
  rw [finish_eq]
  dsimp only []
  generalize parseResp s (autoRead s r1).1 = p
  rcases p with ⟨pr, _ | e, pevs⟩ <;> dsimp only [Site.saves, Site.record, Site.combine, Option.isNone]
  · cases s.fixDigestSave
    · simp only [Bool.and_false, cond_false, raisedEv, List.append_nil, Bool.false_eq_true, if_false]; rfl
    · simp only [Bool.and_true, cond_true, if_true, saveStep]
      cases saveErr s a pr <;> simp only [raisedEv, List.append_nil] <;> rfl
  · simp only [Bool.false_and, cond_false, raisedEv, List.append_nil]; rfl

theorem finish_clientLoop_err (s : Stack) (a : Nat) (r1 : Resp) :
    let f := finish .clientLoop s a r1
    f.resp.err = (match f.save, f.parse with
      | some e, _ => some e
      | none, some e => some e
      | none, none => (parseResp s (autoRead s r1).1).resp.err) ∧
    (f.ret.isSome → f.resp.err = f.ret) := by
  rw [finish_eq]
  dsimp only []
  generalize parseResp s (autoRead s r1).1 = p
  generalize hq : cond _ _ _ = q
  have hq1 : q.1.err = (Site.record .clientLoop p.resp p.ret).err := by
    rw [← hq]; exact cond_saveStep_err _ s a _
  rcases q with ⟨r4, _ | e'⟩ <;> rcases p with ⟨pr, _ | e, pevs⟩ <;>
    simp only [Site.record, Site.combine] at hq1 ⊢ <;> simp [hq1]

theorem autoRead_nohttp (s : Stack) (r : Resp) (hh : r.http = none) : (autoRead s r).1 = r := by
  unfold autoRead; simp [hh]

/-- The error a client-level response middleware leaves in `resp.Err`. -/
def clientActErr (cur : Option Err) : RespAct → Option Err
  | .nop => cur
  | .ret e => some e
  | .set e => some e
  | .clear => none

/-- The client-level response middleware touch nothing but `resp.Err`, and the last one that
returns an error or assigns it decides. -/
theorem clientLoop_fst (acts : List RespAct) :
    ∀ i r, (clientLoop i acts r).1 = { r with err := acts.foldl clientActErr r.err } := by
  induction acts with
  | nil => exact fun _ _ => rfl
  | cons act rest ih =>
    intro i r
    simp only [clientLoop, List.foldl_cons]
    rw [ih]
    cases act <;> rfl

theorem applyHook_eq (r : Resp) (h : HookAct) : ∃ e, applyHook r h = { r with err := e } := by
  cases h <;> exact ⟨_, rfl⟩

/-- `handleDigestAuthFunc` on a non-nil response: it leaves the response alone; or (as found,
no http response) dereferences nil; or cannot answer the 401 and returns a digest error; or
forgets what was bound and re-sends. -/
theorem digestStep_cases (fx : Fixes) (s : Stack) (a : Nat) (ok : Bool) (re : TOut) (r : Resp) :
    digestStep fx s a ok re r = .cont (some r) [] ∨
    (fx.digestRebind = false ∧ digestStep fx s a ok re r = .crash) ∨
    (r.err = none ∧ digestStep fx s a ok re r = .stop (some r) .digest [.raised .digest]) ∨
    (r.err = none ∧ r.http ≠ none ∧ digestStep fx s a ok re r = digestResend fx s a (forget fx r) re) := by
  unfold digestStep
  split
  · exact .inl rfl
  · have he : r.err = none := Decidable.not_not.mp ‹_›
    split
    · cases hfx : fx.digestRebind
      · exact .inr (.inl ⟨rfl, rfl⟩)
      · exact .inl rfl
    · split
      · exact .inl rfl
      · split
        · exact .inr (.inr (.inl ⟨he, rfl⟩))
        · exact .inr (.inr (.inr ⟨he, by simp [*], rfl⟩))

theorem runReqMws_shape (i : Nat) (acts : List ReqAct) :
    (∃ e k, (runReqMws i acts) = (some e, (List.range' i (k + 1)).map .udReq ++ [.raised e]) ∧
        k < acts.length ∧ acts[k]? = some (.fail e) ∧ ∀ j, j < k → acts[j]? = some .ok) ∨
    ((runReqMws i acts) = (none, (List.range' i acts.length).map .udReq) ∧ ∀ act ∈ acts, act = .ok) := by
  induction acts generalizing i with
  | nil => exact .inr ⟨rfl, fun _ h => (List.not_mem_nil h).elim⟩
  | cons act rest ih =>
    cases act with
    | ok =>
      rcases ih (i + 1) with ⟨e, k, h1, h2, h3, h4⟩ | ⟨h1, h2⟩
      · refine .inl ⟨e, k + 1, ?_, Nat.succ_lt_succ h2, h3, ?_⟩
        · simp only [runReqMws, h1, List.range'_succ (n := k + 1)]; rfl
        · intro j hj
          cases j with
          | zero => rfl
          | succ j => exact h4 j (Nat.lt_of_succ_lt_succ hj)
      · refine .inr ⟨?_, List.forall_mem_cons.mpr ⟨rfl, h2⟩⟩
        simp only [runReqMws, h1, List.length_cons, List.range'_succ]; rfl
    | fail e => exact .inl ⟨e, 0, rfl, Nat.zero_lt_succ _, rfl, fun j hj => (Nat.not_lt_zero j hj).elim⟩

/-- The round trip of attempt `a` as `do` sees it: `Client.roundTrip` inside the wrapper chain. -/
def roundTrip (s : Stack) (a : Nat) : RT := runWrappers a (clientRoundTrip s a) (wrapChain (s.wrapAt a))

theorem attempt_request_phase (fx : Fixes) (s : Stack) (a : Nat) (prev : Option Resp) :
    (∃ k e, k < (s.udAt a).length ∧ (s.udAt a)[k]? = some (.fail e) ∧ (∀ j, j < k → (s.udAt a)[j]? = some .ok) ∧
        attempt fx s a prev = { resp := prev, err := some e, evs := (List.range (k + 1)).map .udReq ++ [.raised e],
                                returned := true, crash := false }) ∨
    ((∀ act ∈ s.udAt a, act = .ok) ∧
      ((∃ e, s.builtinAt a = .fail e ∧
          attempt fx s a prev = { resp := prev, err := some e,
                                  evs := (List.range (s.udAt a).length).map .udReq ++ [.raised e],
                                  returned := true, crash := false }) ∨
       (s.builtinAt a = .ok ∧
          attempt fx s a prev =
            let rt := roundTrip s a
            let resp := if fx.nilGuard then nilGuard rt.resp rt.err else rt.resp
            let t := reqRespLoop fx s a 0 (s.reqRespAt a) resp rt.err
            { t with evs := (List.range (s.udAt a).length).map .udReq ++ .builtin :: rt.evs ++ t.evs }))) := by
  unfold attempt
  rcases runReqMws_shape 0 (s.udAt a) with ⟨e, k, h1, h2, h3, h4⟩ | ⟨h1, h2⟩
  · exact .inl ⟨k, e, h2, h3, h4, by rw [h1, List.range_eq_range']⟩
  · refine .inr ⟨h2, ?_⟩
    rw [h1, List.range_eq_range']
    cases hb : s.builtinAt a with
    | fail e => exact .inl ⟨e, rfl, rfl⟩
    | ok => exact .inr ⟨rfl, rfl⟩

theorem attempt_cases (fx : Fixes) (s : Stack) (a : Nat) (prev : Option Resp) :
    (∃ k e, attempt fx s a prev = { resp := prev, err := some e, evs := (List.range k).map .udReq ++ [.raised e],
                                    returned := true, crash := false }) ∨
    ((∀ act ∈ s.udAt a, act = .ok) ∧ s.builtinAt a = .ok ∧
      attempt fx s a prev =
        let rt := roundTrip s a
        let resp := if fx.nilGuard then nilGuard rt.resp rt.err else rt.resp
        let t := reqRespLoop fx s a 0 (s.reqRespAt a) resp rt.err
        { t with evs := (List.range (s.udAt a).length).map .udReq ++ .builtin :: rt.evs ++ t.evs }) := by
  rcases attempt_request_phase fx s a prev with ⟨k, e, _, _, _, h⟩ | ⟨hok, ⟨e, _, h⟩ | ⟨hb, h⟩⟩
  · exact .inl ⟨_, e, h⟩
  · exact .inl ⟨_, e, h⟩
  · exact .inr ⟨hok, hb, h⟩

/-- `Do` answers a builder error or an unreplayable body before any attempt; otherwise it runs
the attempt loop. -/
theorem callDo_cases (fx : Fixes) (s : Stack) :
    (∃ e, (e = Err.builder ∨ e = Err.unreplayable) ∧
      callDo fx s = { atts := [], resp := some { origin := .synth, err := some e }, err := some e, crash := false }) ∨
    callDo fx s = doLoop fx s s.fuelFor 0 none := by
  unfold callDo
  split
  · exact .inl ⟨_, .inl rfl, rfl⟩
  · split
    · exact .inl ⟨_, .inr rfl, rfl⟩
    · exact .inr rfl

end Req.Pipeline
