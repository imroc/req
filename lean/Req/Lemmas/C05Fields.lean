import Req.H3.Rfc9114
/-! `h3_fields_accept_iff` / `h3_trailers_accept_iff` (C05): the executable checks of the parser model
against the declarative RFC 9114 predicates. The parser's loop is first abstracted to an automaton on
what accept/reject depends on (`AbsState`, `absStep`, `absRun`; `step_abs`, `loop_abs`), and the
automaton is then shown to accept exactly the sections that split into a pseudo-header part and a
regular part as the RFC asks (`ReadsFrom`, `absRun_iff_readsFrom`). -/
namespace Req.Lemmas.C05.Fields
open Req.H3.Fields Req.Proto Req.Ascii Req.H3.Rfc9114

theorem isPseudo_iff (f : Field) : f.isPseudo = true ↔ IsPseudo f := by
  unfold Field.isPseudo IsPseudo
  cases hn : f.name with
  | nil => simp
  | cons c tl =>
    simp only [beq_iff_eq, List.cons.injEq]
    constructor
    · intro h; exact ⟨tl, h, rfl⟩
    · rintro ⟨tl', h, _⟩; exact h

theorem hasUpper_iff (n : Bytes) : hasUpper n = false ↔ LowercaseName n := by
  simp [hasUpper, LowercaseName, isUpper]

theorem validValue_iff (v : Bytes) : validValue v = true ↔ ValidFieldValue v := by
  simp only [validValue, ValidFieldValue, List.all_eq_true, Bool.or_eq_true, Bool.not_eq_true',
    Bool.or_eq_false_iff, decide_eq_false_iff_not, beq_iff_eq]
  constructor
  · intro h b hb hc
    rcases h b hb with ⟨h1, h2⟩ | h3
    · rcases hc with hc | hc
      · exact absurd hc h1
      · exact absurd hc (by simpa using h2)
    · exact h3
  · intro h b hb
    by_cases hc : b < 32 ∨ b = 127
    · right; exact h b hb hc
    · left
      simp only [not_or] at hc
      exact ⟨hc.1, by simpa using hc.2⟩

theorem validName_iff (n : Bytes) : validName n = true ↔ IsToken n := by
  simp only [validName, IsToken, Bool.and_eq_true, Bool.not_eq_true', List.all_eq_true]
  constructor
  · rintro ⟨h1, h2⟩; exact ⟨by intro hn; simp [hn] at h1, h2⟩
  · rintro ⟨h1, h2⟩; exact ⟨by cases n <;> simp_all, h2⟩

theorem connection_iff (n : Bytes) : invalidHeaderFields.contains n = true ↔ ConnectionSpecific n := by
  simp [invalidHeaderFields, ConnectionSpecific]

theorem isStatus3_iff (v : Bytes) : isStatus3 v = true ↔ StatusOK v := by
  unfold isStatus3 StatusOK
  split
  · next a b c =>
    simp [isDigit]
    constructor
    · rintro ⟨⟨h1, h2⟩, h3⟩; exact ⟨h1, h2, h3⟩
    · rintro ⟨h1, h2, h3⟩; exact ⟨⟨h1, h2⟩, h3⟩
  · next hne =>
    simp only [Bool.false_eq_true, false_iff, not_and]
    intro hl
    exfalso
    match v, hl with
    | [a, b, c], _ => exact hne a b c rfl

/-- `checkRegular` as a Boolean -/
def regB (f : Field) : Bool :=
  validName f.name && !invalidHeaderFields.contains f.name && !(f.name == sTe && f.value != sTrailers)

/-- the executable form of `RegularOK`: the two checks of `step`, then `checkRegular`. -/
def regularOKb (f : Field) : Bool := !hasUpper f.name && validValue f.value && regB f

theorem regularOKb_iff (f : Field) : regularOKb f = true ↔ RegularOK f := by
  unfold regularOKb regB RegularOK
  simp only [Bool.and_eq_true, Bool.not_eq_true', ← hasUpper_iff, ← validValue_iff, ← validName_iff,
    ← connection_iff, Bool.and_eq_false_iff, beq_eq_false_iff_ne, bne_eq_false_iff_eq,
    Bool.not_eq_true]
  constructor
  · rintro ⟨⟨h1, h2⟩, ⟨h3, h4⟩, h5⟩
    refine ⟨h1, h3, h2, h4, ?_⟩
    intro hte
    rcases h5 with h5 | h5
    · exact absurd hte h5
    · exact h5
  · rintro ⟨h1, h3, h2, h4, h5⟩
    refine ⟨⟨h1, h2⟩, ⟨h3, h4⟩, ?_⟩
    by_cases hte : f.name = sTe
    · right; exact h5 hte
    · left; exact hte

/-- what acceptance depends on. Of the accumulator `Acc` the loop body tests only
`readFirstRegular`, `readContentLength` and `contentLengthStr`, and the checks after the loop only
`hdr.status` and `contentLengthStr`; the header map and the other pseudo-header values are written,
never read. -/
structure AbsState where
  reg : Bool           -- a regular field was read
  cl : Option Bytes    -- the first content-length value, if any
  st : Bool            -- a (non-empty) :status was read
  deriving DecidableEq

def abs (a : Acc) : AbsState :=
  ⟨a.readFirstRegular, if a.readContentLength then some a.contentLengthStr else none,
   !a.hdr.status.isEmpty⟩

def absStep (σ : AbsState) (f : Field) : Option AbsState :=
  if f.isPseudo then
    if !σ.reg && f.name == pStatus && isStatus3 f.value then some { σ with st := true } else none
  else if regularOKb f then
    if f.name == sContentLength then
      match σ.cl with
      | none => some { reg := true, cl := some f.value, st := σ.st }
      | some c => if c == f.value then some { σ with reg := true } else none
    else some { σ with reg := true }
  else none

def absResult : Except Err Acc → Option AbsState
  | .ok a => some (abs a)
  | .error _ => none

theorem status3_props (v : Bytes) (h : isStatus3 v = true) : validValue v = true ∧ v.isEmpty = false := by
  unfold isStatus3 at h
  split at h
  · next a b c =>
    simp only [Bool.and_eq_true, isDigit, decide_eq_true_eq] at h
    obtain ⟨⟨⟨a1, a2⟩, b1, b2⟩, c1, c2⟩ := h
    refine ⟨?_, rfl⟩
    have key : ∀ x : UInt8, 48 ≤ x → x ≤ 57 → (!(decide (x < 32) || x == 127) || x == 9) = true := by
      intro x h1 h2
      rw [UInt8.le_iff_toNat_le] at h1 h2
      have h32 : ¬ x < 32 := by rw [UInt8.lt_iff_toNat_lt]; simp at *; omega
      have h127 : (x == 127) = false := by
        rw [beq_eq_false_iff_ne]; intro he; subst he; simp at h2
      simp [h32, h127]
    simp only [validValue, List.all_cons, List.all_nil, Bool.and_true, Bool.and_eq_true]
    exact ⟨key a a1 a2, key b b1 b2, key c c1 c2⟩
  · cases h

theorem pseudoSet_status (h : Header) (f : Field) (hs : f.name = pStatus) (h3 : isStatus3 f.value = true) :
    pseudoSet h f = .ok ({ h with status := f.value }, true) := by
  have e1 : (pStatus == pPath) = false := by decide
  have e2 : (pStatus == pMethod) = false := by decide
  have e3 : (pStatus == pAuthority) = false := by decide
  have e4 : (pStatus == pProtocol) = false := by decide
  have e5 : (pStatus == pScheme) = false := by decide
  simp [pseudoSet, hs, h3, e1, e2, e3, e4, e5]

theorem pseudoSet_other (h : Header) (f : Field)
    (hn : ¬ (f.name = pStatus ∧ isStatus3 f.value = true)) :
    (∃ e, pseudoSet h f = .error e) ∨ (∃ h', pseudoSet h f = .ok (h', false)) := by
  unfold pseudoSet
  by_cases h1 : f.name == pPath; · rw [if_pos h1]; exact Or.inr ⟨_, rfl⟩
  by_cases h2 : f.name == pMethod; · rw [if_neg h1, if_pos h2]; exact Or.inr ⟨_, rfl⟩
  by_cases h3 : f.name == pAuthority; · rw [if_neg h1, if_neg h2, if_pos h3]; exact Or.inr ⟨_, rfl⟩
  by_cases h4 : f.name == pProtocol
  · rw [if_neg h1, if_neg h2, if_neg h3, if_pos h4]; exact Or.inr ⟨_, rfl⟩
  by_cases h5 : f.name == pScheme
  · rw [if_neg h1, if_neg h2, if_neg h3, if_neg h4, if_pos h5]; exact Or.inr ⟨_, rfl⟩
  rw [if_neg h1, if_neg h2, if_neg h3, if_neg h4, if_neg h5]
  by_cases hs : f.name == pStatus
  · by_cases hv : isStatus3 f.value
    · exact absurd ⟨by simpa using hs, hv⟩ hn
    · rw [if_pos hs, if_neg hv]; exact Or.inl ⟨_, rfl⟩
  · rw [if_neg hs]; exact Or.inl ⟨_, rfl⟩

theorem stepPseudo_abs (a : Acc) (f : Field) :
    absResult (stepPseudo false a f) =
      if !a.readFirstRegular && f.name == pStatus && isStatus3 f.value then some { abs a with st := true }
      else none := by
  unfold stepPseudo
  by_cases hr : a.readFirstRegular = true
  · simp [hr, absResult]
  · have hr' : a.readFirstRegular = false := by simpa using hr
    simp only [hr', Bool.false_eq_true, if_false, Bool.not_false, Bool.true_and]
    by_cases hc : f.name = pStatus ∧ isStatus3 f.value = true
    · rw [pseudoSet_status _ f hc.1 hc.2]
      have := (status3_props _ hc.2).2
      simp [absResult, abs, hc.1, hc.2, hr', this]
    · have hcond : (f.name == pStatus && isStatus3 f.value) = false := by
        rw [Bool.and_eq_false_iff]
        by_cases hs : f.name = pStatus
        · right; simpa using fun h3 => hc ⟨hs, h3⟩
        · left; simpa using hs
      rw [hcond]
      rcases pseudoSet_other a.hdr f hc with ⟨e, he⟩ | ⟨h', he⟩
      · simp [he, absResult]
      · simp [he, absResult]

theorem checkRegular_cases (f : Field) :
    (regB f = true ∧ checkRegular f = .ok ()) ∨ (regB f = false ∧ ∃ e, checkRegular f = .error e) := by
  unfold checkRegular regB
  cases h1 : validName f.name <;> cases h2 : invalidHeaderFields.contains f.name <;>
    cases h3 : (f.name == sTe && f.value != sTrailers) <;> simp

theorem stepRegular_abs (a : Acc) (f : Field) :
    absResult (stepRegular a f) =
      if regB f then
        (if f.name == sContentLength then
          match (abs a).cl with
          | none => some { reg := true, cl := some f.value, st := (abs a).st }
          | some c => if c == f.value then some { abs a with reg := true } else none
        else some { abs a with reg := true })
      else none := by
  unfold stepRegular
  rcases checkRegular_cases f with ⟨hb, hc⟩ | ⟨hb, e, hc⟩
  · rw [hc, hb]
    simp only [if_true]
    by_cases hcl : (f.name == sContentLength) = true
    · simp only [hcl, if_true]
      by_cases hr : a.readContentLength = true
      · simp only [hr, Bool.not_true, Bool.false_eq_true, if_false, abs, if_true]
        by_cases he : a.contentLengthStr = f.value
        · simp [he, absResult, abs]
        · have : (a.contentLengthStr != f.value) = true := by simpa using he
          simp [this, absResult, he]
      · have hr' : a.readContentLength = false := by simpa using hr
        simp [hr', absResult, abs]
    · have hcl' : (f.name == sContentLength) = false := by simpa using hcl
      simp [hcl', absResult, abs]
  · rw [hc, hb]
    simp [absResult]

theorem step_abs (a : Acc) (f : Field) : absResult (step false a f) = absStep (abs a) f := by
  unfold step absStep
  by_cases hp : f.isPseudo = true
  · simp only [hp, if_true]
    by_cases hu : hasUpper f.name = true
    · -- an upper-case pseudo name is not ":status"
      have : (f.name == pStatus) = false := by
        rw [beq_eq_false_iff_ne]; intro he; rw [he] at hu; revert hu; decide
      simp [hu, absResult, this]
    · have hu' : hasUpper f.name = false := by simpa using hu
      by_cases hv : validValue f.value = true
      · simp only [hu', hv, Bool.false_eq_true, if_false, Bool.not_true]
        rw [stepPseudo_abs]
        rfl
      · have hv' : validValue f.value = false := by simpa using hv
        have : isStatus3 f.value = false := by
          cases h3 : isStatus3 f.value with
          | false => rfl
          | true =>
            have := (status3_props _ h3).1
            rw [hv'] at this; cases this
        simp [hu', hv', absResult, this]
  · have hp' : f.isPseudo = false := by simpa using hp
    simp only [hp', Bool.false_eq_true, if_false]
    by_cases hu : hasUpper f.name = true
    · simp [hu, absResult, regularOKb]
    · have hu' : hasUpper f.name = false := by simpa using hu
      by_cases hv : validValue f.value = true
      · simp only [hu', hv, Bool.false_eq_true, if_false, Bool.not_true]
        rw [stepRegular_abs]
        simp only [regularOKb, regB, hu', hv, Bool.not_false, Bool.true_and, Bool.and_assoc]
      · have hv' : validValue f.value = false := by simpa using hv
        simp [hu', hv', absResult, regularOKb]

def absRun : AbsState → List Field → Option AbsState
  | σ, [] => some σ
  | σ, f :: fs =>
    match absStep σ f with
    | none => none
    | some σ' => absRun σ' fs

theorem absRun_cons (σ : AbsState) (f : Field) (fs : List Field) (P : AbsState → Prop) :
    (∃ σ', absRun σ (f :: fs) = some σ' ∧ P σ') ↔
      ∃ σ1, absStep σ f = some σ1 ∧ ∃ σ', absRun σ1 fs = some σ' ∧ P σ' := by
  simp only [absRun]
  cases absStep σ f <;> simp

theorem loop_abs (a : Acc) (fs : List Field) : absResult (loop false a fs) = absRun (abs a) fs := by
  induction fs generalizing a with
  | nil => simp [loop, absResult, absRun]
  | cons f fs ih =>
    have hs := step_abs a f
    simp only [loop, absRun]
    cases hstep : step false a f with
    | error e => rw [hstep] at hs; simp only [absResult] at hs; rw [← hs]; simp [absResult]
    | ok a' => rw [hstep] at hs; simp only [absResult] at hs; rw [← hs]; exact ih a'

/-- `contentLengthStr` is only ever set together with `readContentLength`: `parseHeaders` tests
`contentLengthStr.isEmpty` where the abstraction `abs` reads the flag, and this reconciles the two. -/
def ClInv (a : Acc) : Prop := a.readContentLength = false → a.contentLengthStr = []

theorem step_inv (a a' : Acc) (f : Field) (h : step false a f = .ok a') (hi : ClInv a) : ClInv a' := by
  unfold step at h
  split at h; · cases h
  split at h; · cases h
  split at h
  · unfold stepPseudo at h
    split at h; · cases h
    split at h; · cases h
    split at h; · cases h
    cases h; exact hi
  · unfold stepRegular at h
    split at h; · cases h
    split at h
    · split at h
      · cases h; intro hc; simp at hc
      · split at h; · cases h
        cases h; exact hi
    · cases h; exact hi

theorem loop_inv (a a' : Acc) (fs : List Field) (h : loop false a fs = .ok a') (hi : ClInv a) : ClInv a' := by
  induction fs generalizing a with
  | nil => simp [loop] at h; cases h; exact hi
  | cons f fs ih =>
    simp only [loop] at h
    split at h; · cases h
    next a1 h1 => exact ih a1 h (step_inv a a1 f h1 hi)

/-- what `parseHeaders` and `updateResponseFromHeaders` still check after the loop -/
def EndOK (σ : AbsState) : Prop := σ.st = true ∧ ∀ c, σ.cl = some c → c = [] ∨ (parseUint63 c).isSome = true

/-- acceptance by `updateResponseFromHeaders` in the parser's own terms: the loop succeeds, a
`:status` was stored, and the stored content-length string is empty or parses. -/
theorem update_ok_iff_loop (fs : List Field) :
    (∃ r, updateResponseFromHeaders fs = .ok r) ↔
      ∃ a, loop false {} fs = .ok a ∧ a.hdr.status.isEmpty = false ∧
        (a.contentLengthStr.isEmpty = true ∨ (parseUint63 a.contentLengthStr).isSome = true) := by
  unfold updateResponseFromHeaders parseHeaders
  cases loop false {} fs with
  | error e => simp
  | ok a =>
    simp only [Except.ok.injEq, exists_eq_left']
    cases hcl : a.contentLengthStr.isEmpty <;> cases hp : parseUint63 a.contentLengthStr <;>
      cases hst : a.hdr.status.isEmpty <;> simp [hst]

theorem endOK_abs (a : Acc) (hi : ClInv a) :
    EndOK (abs a) ↔ a.hdr.status.isEmpty = false ∧
      (a.contentLengthStr.isEmpty = true ∨ (parseUint63 a.contentLengthStr).isSome = true) := by
  unfold EndOK abs
  cases hr : a.readContentLength
  · simp [hi hr]
  · simp

theorem update_ok_iff_absRun (fs : List Field) :
    (∃ r, updateResponseFromHeaders fs = .ok r) ↔ ∃ σ, absRun ⟨false, none, false⟩ fs = some σ ∧ EndOK σ := by
  have hl : absResult (loop false {} fs) = absRun ⟨false, none, false⟩ fs := loop_abs {} fs
  rw [update_ok_iff_loop, ← hl]
  cases hloop : loop false {} fs with
  | error e => simp [absResult]
  | ok a => simp [absResult, endOK_abs a (loop_inv {} a fs hloop fun _ => rfl)]

theorem validCL_iff (c : Bytes) : (parseUint63 c).isSome = true ↔ ValidCL c := by
  unfold parseUint63 ValidCL
  by_cases h : (!c.isEmpty && c.all isDigit && decide (decVal c < 2 ^ 63)) = true
  · rw [if_pos h]
    simp only [Option.isSome_some, true_iff]
    simp only [Bool.and_eq_true, Bool.not_eq_true', List.all_eq_true, decide_eq_true_eq, isDigit] at h
    obtain ⟨⟨h1, h2⟩, h3⟩ := h
    refine ⟨by intro hn; simp [hn] at h1, ?_, h3⟩
    intro x hx; simpa using h2 x hx
  · rw [if_neg h]
    simp only [Option.isSome_none, Bool.false_eq_true, false_iff]
    rintro ⟨h1, h2, h3⟩
    apply h
    simp only [Bool.and_eq_true, Bool.not_eq_true', List.all_eq_true, decide_eq_true_eq, isDigit]
    refine ⟨⟨by cases c <;> simp_all, ?_⟩, h3⟩
    intro x hx; simpa using h2 x hx

/-- `fs` read as pseudo-header part `ps` and regular part `rs` from abstract state `σ`. -/
structure DSplit (σ : AbsState) (fs ps rs : List Field) : Prop where
  split : fs = ps ++ rs
  noPseudoAfterRegular : σ.reg = true → ps = []
  pseudo : ∀ f ∈ ps, IsPseudo f ∧ ResponsePseudoOK f
  regular : ∀ f ∈ rs, ¬ IsPseudo f ∧ RegularOK f
  status : σ.st = true ∨ ps ≠ []
  contentLength : CLAgree (σ.cl.toList ++ clValues rs)

/-- the declarative reading of a section from abstract state `σ` -/
def ReadsFrom (σ : AbsState) (fs : List Field) : Prop := ∃ ps rs, DSplit σ fs ps rs

theorem clAgree_congr (l1 l2 : List Bytes) (h : ∀ x, x ∈ l1 ↔ x ∈ l2) : CLAgree l1 ↔ CLAgree l2 := by
  unfold CLAgree
  constructor
  · rintro ⟨h1, h2⟩
    exact ⟨fun v hv w hw => h1 v ((h v).mpr hv) w ((h w).mpr hw), fun v hv => h2 v ((h v).mpr hv)⟩
  · rintro ⟨h1, h2⟩
    exact ⟨fun v hv w hw => h1 v ((h v).mp hv) w ((h w).mp hw), fun v hv => h2 v ((h v).mp hv)⟩

theorem clValues_cons (f : Field) (fs : List Field) :
    clValues (f :: fs) = if f.name == sContentLength then f.value :: clValues fs else clValues fs := by
  unfold clValues
  by_cases h : (f.name == sContentLength) = true <;> simp [h]

/-- the content-length bookkeeping of one field: a content-length field must repeat the value
remembered so far, if any, and its value is the one remembered from then on. -/
theorem clAgree_step (cl : Option Bytes) (f : Field) (fs : List Field) :
    CLAgree (cl.toList ++ clValues (f :: fs)) ↔
      (f.name = sContentLength → cl = none ∨ cl = some f.value) ∧
        CLAgree ((if f.name == sContentLength then some f.value else cl).toList ++ clValues fs) := by
  rw [clValues_cons]
  by_cases hn : f.name = sContentLength
  · simp only [hn, true_imp_iff]
    cases cl with
    | none => simp
    | some c =>
      constructor
      · intro h
        obtain rfl : c = f.value := h.1 c (by simp) f.value (by simp)
        exact ⟨Or.inr rfl, (clAgree_congr _ _ (by simp)).mp h⟩
      · rintro ⟨h | h, h'⟩
        · cases h
        · cases h; exact (clAgree_congr _ _ (by simp)).mpr h'
  · have hb : (f.name == sContentLength) = false := by simpa using hn
    simp [hb, hn]

theorem absStep_pseudo (σ σ1 : AbsState) (f : Field) (hp : IsPseudo f) :
    absStep σ f = some σ1 ↔ (σ.reg = false ∧ ResponsePseudoOK f ∧ σ1 = { σ with st := true }) := by
  have hp' := (isPseudo_iff f).mpr hp
  unfold absStep ResponsePseudoOK
  simp only [hp', if_true, ← isStatus3_iff]
  by_cases hc : (!σ.reg && f.name == pStatus && isStatus3 f.value) = true
  · rw [if_pos hc]
    simp only [Bool.and_eq_true, Bool.not_eq_true', beq_iff_eq] at hc
    simp only [Option.some.injEq]
    constructor
    · intro h; exact ⟨hc.1.1, ⟨hc.1.2, hc.2⟩, h.symm⟩
    · intro h; exact h.2.2.symm
  · rw [if_neg hc]
    simp only [reduceCtorEq, false_iff]
    rintro ⟨h1, ⟨h2, h3⟩, _⟩
    apply hc
    simp [h1, h2, h3]

theorem absStep_regular (σ σ1 : AbsState) (f : Field) (hp : ¬ IsPseudo f) :
    absStep σ f = some σ1 ↔
      RegularOK f ∧ (f.name = sContentLength → σ.cl = none ∨ σ.cl = some f.value) ∧
        σ1 = ⟨true, if f.name == sContentLength then some f.value else σ.cl, σ.st⟩ := by
  have hp' : f.isPseudo = false := by
    cases h : f.isPseudo with
    | false => rfl
    | true => exact absurd ((isPseudo_iff f).mp h) hp
  unfold absStep
  simp only [hp', Bool.false_eq_true, if_false, ← regularOKb_iff]
  by_cases hr : regularOKb f = true
  · simp only [hr, if_true, true_and]
    by_cases hcl : f.name = sContentLength
    · simp only [hcl, true_imp_iff]
      cases hσ : σ.cl with
      | none => simp [eq_comm]
      | some c =>
        by_cases hc : c = f.value
        · subst hc; simp [eq_comm, ← hσ]
        · have : (c == f.value) = false := by simpa using hc
          simp [this, hc]
    · have : (f.name == sContentLength) = false := by simpa using hcl
      simp [this, hcl, eq_comm]
  · simp [hr]

theorem endOK_iff_readsFrom_nil (σ : AbsState) : EndOK σ ↔ ReadsFrom σ [] := by
  unfold EndOK ReadsFrom
  constructor
  · rintro ⟨h1, h2⟩
    refine ⟨[], [], rfl, fun _ => rfl, by simp, by simp, Or.inl h1, ?_⟩
    simp only [clValues, List.filter_nil, List.map_nil, List.append_nil, CLAgree]
    cases hσ : σ.cl with
    | none => simp
    | some c =>
      simp only [Option.toList_some, List.mem_singleton]
      constructor
      · intro v hv w hw; rw [hv, hw]
      · intro v hv
        rw [hv]
        rcases h2 c hσ with h | h
        · exact Or.inl h
        · exact Or.inr ((validCL_iff c).mp h)
  · rintro ⟨ps, rs, hsplit, _, _, _, hst, hcl⟩
    obtain ⟨hps, hrs⟩ := List.nil_eq_append_iff.mp hsplit
    subst hps hrs
    refine ⟨by simpa using hst, ?_⟩
    intro c hc
    simp only [clValues, List.filter_nil, List.map_nil, List.append_nil, CLAgree] at hcl
    rcases hcl.2 c (by simp [hc]) with h | h
    · exact Or.inl h
    · exact Or.inr ((validCL_iff c).mpr h)

theorem absRun_iff_readsFrom (fs : List Field) (σ : AbsState) :
    (∃ σ', absRun σ fs = some σ' ∧ EndOK σ') ↔ ReadsFrom σ fs := by
  induction fs generalizing σ with
  | nil => simp only [absRun, Option.some.injEq, exists_eq_left']; exact endOK_iff_readsFrom_nil σ
  | cons f fs ih =>
    -- what is left to show: `ReadsFrom` unfolds along the list as the automaton steps
    simp only [absRun_cons, ih]
    by_cases hp : IsPseudo f
    · -- a pseudo-header field: it must extend the pseudo prefix
      constructor
      · rintro ⟨σ1, hs, ps, rs, rfl, hnoPs, hpseudo, hregular, _, hclv⟩
        obtain ⟨hreg, hok, rfl⟩ := (absStep_pseudo σ σ1 f hp).mp hs
        exact ⟨f :: ps, rs, rfl, (fun hr => by rw [hreg] at hr; cases hr),
          List.forall_mem_cons.mpr ⟨⟨hp, hok⟩, hpseudo⟩, hregular, Or.inr (by simp), hclv⟩
      · rintro ⟨ps, rs, hsplit, hnoPs, hpseudo, hregular, hstat, hclv⟩
        rcases List.cons_eq_append_iff.mp hsplit with ⟨rfl, rfl⟩ | ⟨ps, rfl, rfl⟩
        · exact absurd hp (hregular f (by simp)).1
        · have hreg : σ.reg = false := by
            cases hr : σ.reg with
            | false => rfl
            | true => have := hnoPs hr; cases this
          exact ⟨_, (absStep_pseudo σ _ f hp).mpr ⟨hreg, (hpseudo f (by simp)).2, rfl⟩, ps, rs, rfl,
            (fun hr => by simp [hreg] at hr), fun g hg => hpseudo g (by simp [hg]), hregular, Or.inl rfl, hclv⟩
    · -- a regular field: the pseudo prefix is over
      constructor
      · rintro ⟨σ1, hs, ps, rs, hsplit, hnoPs, hpseudo, hregular, hstat, hclv⟩
        obtain ⟨hok, hcl, rfl⟩ := (absStep_regular σ σ1 f hp).mp hs
        obtain rfl : ps = [] := hnoPs rfl
        obtain rfl : fs = rs := hsplit
        exact ⟨[], f :: fs, rfl, fun _ => rfl, by simp, List.forall_mem_cons.mpr ⟨⟨hp, hok⟩, hregular⟩,
          hstat, (clAgree_step σ.cl f fs).mpr ⟨hcl, hclv⟩⟩
      · rintro ⟨ps, rs, hsplit, hnoPs, hpseudo, hregular, hstat, hclv⟩
        rcases List.cons_eq_append_iff.mp hsplit with ⟨rfl, rfl⟩ | ⟨ps, rfl, rfl⟩
        · obtain ⟨hcl, hclv⟩ := (clAgree_step σ.cl f fs).mp hclv
          exact ⟨_, (absStep_regular σ _ f hp).mpr ⟨(hregular f (by simp)).2, hcl, rfl⟩, [], fs, rfl,
            fun _ => rfl, by simp, fun g hg => hregular g (by simp [hg]), hstat, hclv⟩
        · exact absurd (hpseudo f (by simp)).1 hp

theorem h3_fields_accept_iff (fs : List Field) :
    (∃ r, updateResponseFromHeaders fs = .ok r) ↔ ResponseSection fs := by
  rw [update_ok_iff_absRun, absRun_iff_readsFrom]
  unfold ReadsFrom ResponseSection
  constructor
  · rintro ⟨ps, rs, h0, _, h2, h3, h4, h5⟩
    refine ⟨ps, rs, h0, h2, h3, ?_, by simpa using h5⟩
    rcases h4 with h4 | h4
    · cases h4
    · exact h4
  · rintro ⟨ps, rs, h0, h2, h3, h4, h5⟩
    exact ⟨ps, rs, h0, (fun h => by cases h), h2, h3, Or.inr h4, by simpa using h5⟩

theorem trailerLoop_iff (fs : List Field) (m : HeaderMap) :
    (∃ r, trailerLoop m fs = .ok r) ↔ TrailerSection fs := by
  unfold TrailerSection
  induction fs generalizing m with
  | nil => simp [trailerLoop]
  | cons f fs ih =>
    simp only [trailerLoop, List.mem_cons, forall_eq_or_imp]
    by_cases hp : f.isPseudo = true
    · have := (isPseudo_iff f).mp hp
      simp [hp, this]
    · have hp' : f.isPseudo = false := by simpa using hp
      have hnp : ¬ IsPseudo f := fun h => hp ((isPseudo_iff f).mpr h)
      simp only [hp', Bool.false_eq_true, if_false, hnp, not_false_eq_true, true_and]
      rw [← regularOKb_iff, regularOKb]
      by_cases hu : hasUpper f.name = true
      · simp [hu]
      · have hu' : hasUpper f.name = false := by simpa using hu
        by_cases hv : validValue f.value = true
        · simp only [hu', hv, Bool.false_eq_true, if_false, Bool.not_true, Bool.not_false, Bool.true_and]
          rcases checkRegular_cases f with ⟨hb, hc⟩ | ⟨hb, e, hc⟩
          · rw [hc, hb]; simp only [true_and]; exact ih _
          · rw [hc, hb]; simp
        · have hv' : validValue f.value = false := by simpa using hv
          simp [hu', hv']

theorem h3_trailers_accept_iff (fs : List Field) :
    (∃ r, parseTrailers fs = .ok r) ↔ TrailerSection fs :=
  trailerLoop_iff fs []

end Req.Lemmas.C05.Fields
