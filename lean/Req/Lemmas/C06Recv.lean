import Req.Lemmas.C06Send
/-!
C06 — helper lemmas: the simulation between the connection model and the receive side of the
strict-peer monitor (`Req.H2.Monitor.Recv`): every WINDOW_UPDATE of the client has a legal
increment, names a stream the peer knows, and never pushes one of the peer's send windows
above 2^31-1. At connection level the relation is an equality while the connection is up: the
peer's send window by its own books is the client's `cc.inflow.avail` (`RInv.exact`); both numbers
move only in `inflow.take` (a DATA frame arrives) and in `inflow.add` when it emits a WINDOW_UPDATE.
-/
namespace Req.Lemmas.C06
open Req.H2 Req.H2.Flow Req.H2.Conn Req.H2.Monitor

theorem recv_run_ok_append {m m' m'' : Recv} {a b : List Event}
    (h1 : Recv.run m a = .ok m') (h2 : Recv.run m' b = .ok m'') :
    Recv.run m (a ++ b) = .ok m'' :=
  (run_append_ok (step := Recv.step) (fun _ => rfl) (fun m e _ => by rw [Recv.run]; cases m.step e <;> rfl) b h1).trans h2

theorem recv_run_cons_c {m m' : Recv} {f : Frame} {rest : List Event} (h : m.client f = .ok m') :
    Recv.run m (Event.c f :: rest) = Recv.run m' rest := by
  simp [Recv.run, Recv.step, h]

theorem recv_run_cons_p (m : Recv) (f : PFrame) (rest : List Event) :
    Recv.run m (Event.p f :: rest) = Recv.run (m.peer f) rest := by
  simp [Recv.run, Recv.step]

/-- a receive window of the model: what `flow.go` keeps in range -/
structure InflowOK (f : Inflow) : Prop where
  avail : 0 ≤ f.avail
  unsent : 0 ≤ f.unsent
  sum : f.avail + f.unsent ≤ 2147483647

theorem InflowOK.add {f f' : Inflow} {n : Nat} {inc : Int} (h : InflowOK f)
    (ha : Inflow.add f n = .ok (f', inc)) :
    InflowOK f' ∧ 0 ≤ inc ∧ f'.avail = f.avail + inc ∧ inc ≤ 2147483647 := by
  have h1 := h.avail; have h2 := h.unsent
  obtain ⟨_, _, s3, _, _⟩ := Inflow.add_spec ha
  exact ⟨⟨by omega, by omega, by omega⟩, by omega, s3, by omega⟩

theorem InflowOK.take {f f' : Inflow} {n : Nat} (h : InflowOK f) (hn : (n : Int) ≤ f.avail)
    (ha : f'.avail = f.avail - n) (hu : f'.unsent = f.unsent) : InflowOK f' := by
  have h2 := h.unsent; have h3 := h.sum
  exact ⟨by omega, by omega, by omega⟩

/-- a stream of the model and the receive side's entry (id, the peer's send window on it, whether
it may still send): the client's receive window covers what the peer believes it may send -/
structure RRel (s : Stream) (e : Nat × Int × Bool) : Prop where
  id : e.1 = s.id
  win : e.2.1 ≤ s.inflow.avail
  ok : InflowOK s.inflow

inductive RRels : List Stream → List (Nat × Int × Bool) → Prop where
  | nil : RRels [] []
  | cons {s : Stream} {e : Nat × Int × Bool} {l : List Stream} {rl : List (Nat × Int × Bool)} :
      RRel s e → RRels l rl → RRels (s :: l) (e :: rl)

structure RView where
  cfg : Cfg
  connIn : Inflow
  nextStreamID : Nat
  streams : List Stream

def rview (st : State) : RView :=
  { cfg := st.cfg, connIn := st.connIn, nextStreamID := st.nextStreamID, streams := st.streams }

theorem rview_forget (st : State) (s : Stream) :
    rview (forget st s) = { (rview st) with streams := setStream st.streams { s with live := false } } := by
  unfold forget; simp only; split <;> rfl

theorem rview_settle (st : State) (s : Stream) :
    rview (settle st s) =
      { (rview st) with streams := setStream st.streams (if s.live ∧ s.sentEnd ∧ s.peerEnd then { s with live := false } else s) } := by
  unfold settle
  split
  · rw [rview_forget]
  · rfl

theorem rview_terminate (st : State) (s : Stream) (b : Bool) :
    rview (terminate st s b).1 = { (rview st) with streams := setStream st.streams { s with live := false } } := by
  unfold terminate; simp only; rw [rview_forget]

/-- the simulation invariant (receive side); `c` = the connection is torn down. A connection error
leaves a DATA frame booked by the peer only, so from then on the equality is an inequality — which
the WINDOW_UPDATEs written while the connection goes down still need. -/
structure RInv (v : RView) (c : Bool) (r : Recv) : Prop where
  connWin : r.connWin ≤ v.connIn.avail
  exact : c = false → r.connWin = v.connIn.avail
  connOK : InflowOK v.connIn
  initWin : (r.initWin : Int) ≤ streamInflow0 v.cfg
  initOK : InflowOK ⟨streamInflow0 v.cfg, 0⟩
  lastId : r.lastId < v.nextStreamID
  ids : ∀ e ∈ r.streams, e.1 ≤ r.lastId ∧ e.1 ≠ 0
  rel : RRels v.streams r.streams

/-- the relation survives any entry-by-entry change of both tables that keeps related entries related -/
theorem rrels_map {l : List Stream} {rl : List (Nat × Int × Bool)} (h : RRels l rl)
    (f : Stream → Stream) (g : Nat × Int × Bool → Nat × Int × Bool)
    (hfg : ∀ s ∈ l, ∀ e, RRel s e → RRel (f s) (g e)) : RRels (l.map f) (rl.map g) := by
  induction h with
  | nil => exact RRels.nil
  | cons hr _ ih =>
    exact RRels.cons (hfg _ List.mem_cons_self _ hr) (ih fun s hs => hfg s (List.mem_cons_of_mem _ hs))

theorem rrels_lower {l : List Stream} {rl : List (Nat × Int × Bool)} (h : RRels l rl)
    (g : Nat × Int × Bool → Nat × Int × Bool) (hg : ∀ e, (g e).1 = e.1 ∧ (g e).2.1 ≤ e.2.1) :
    RRels l (rl.map g) := by
  have := rrels_map h id g fun s _ e hr =>
    { id := (hg e).1.trans hr.id, win := Int.le_trans (hg e).2 hr.win, ok := hr.ok }
  rwa [List.map_id] at this

theorem ids_map {rl : List (Nat × Int × Bool)} {k : Nat} (h : ∀ e ∈ rl, e.1 ≤ k ∧ e.1 ≠ 0)
    (g : Nat × Int × Bool → Nat × Int × Bool) (hg : ∀ e, (g e).1 = e.1) :
    ∀ e ∈ rl.map g, e.1 ≤ k ∧ e.1 ≠ 0 := by
  intro e he
  simp only [List.mem_map] at he
  rcases he with ⟨y, hy, rfl⟩
  rw [hg]; exact h y hy

theorem rinv_lower {v : RView} {c : Bool} {r : Recv} (h : RInv v c r)
    (g : Nat × Int × Bool → Nat × Int × Bool) (hg : ∀ e, (g e).1 = e.1 ∧ (g e).2.1 ≤ e.2.1) :
    RInv v c { r with streams := r.streams.map g } :=
  { h with ids := ids_map h.ids g (fun e => (hg e).1), rel := rrels_lower h.rel g hg }

/-- the receive side marks a stream the client reset; windows are untouched -/
theorem rinv_rst {v : RView} {c : Bool} {r : Recv} (h : RInv v c r) (id : Nat) :
    ∃ r', r.client (Frame.rst id) = .ok r' ∧ RInv v c r' :=
  ⟨_, rfl, rinv_lower h _ (fun e => by split <;> simp)⟩

theorem rrels_ids {l : List Stream} {rl : List (Nat × Int × Bool)} (h : RRels l rl) :
    rl.map (·.1) = l.map (·.id) := by
  induction h with
  | nil => rfl
  | cons hr _ ih => simp [hr.id, ih]

theorem rrels_find {l : List Stream} {rl : List (Nat × Int × Bool)} (h : RRels l rl) {id : Nat} {s : Stream}
    (hf : findStream l id = some s) :
    ∃ e, rl.find? (·.1 = id) = some e ∧ RRel s e ∧ e ∈ rl ∧ s.id = id := by
  induction h with
  | nil => simp [findStream] at hf
  | @cons a e l rl hr _ ih =>
    unfold findStream at hf ih
    by_cases hid : a.id = id
    · simp only [List.find?, hid, decide_true] at hf
      cases hf
      have : e.1 = id := by rw [hr.id]; exact hid
      exact ⟨e, by simp [List.find?, this], hr, List.mem_cons_self, hid⟩
    · simp only [List.find?, hid, decide_false] at hf
      have hne : ¬ e.1 = id := by rw [hr.id]; exact hid
      obtain ⟨e', h1, h2, h3, h4⟩ := ih hf
      exact ⟨e', by simp [List.find?, hne, h1], h2, List.mem_cons_of_mem _ h3, h4⟩

/-- stream `id` is replaced on both sides; distinct ids: no other entry is touched -/
theorem rrels_upd {l : List Stream} {rl : List (Nat × Int × Bool)} (h : RRels l rl)
    (hnd : (l.map (·.id)).Nodup) {id : Nat} {s s' : Stream} (hf : findStream l id = some s)
    (h1 : s'.id = s.id) (g : Nat × Int × Bool → Nat × Int × Bool)
    (hg : ∀ e, RRel s e → RRel s' (g e)) :
    RRels (setStream l s') (rl.map fun t => if t.1 = id then g t else t) := by
  have hsid : s.id = id := (findStream_mem hf).2
  refine rrels_map h _ _ fun a ha e hr => ?_
  by_cases hid : a.id = s'.id
  · have : a = s := List.eq_of_key_eq hnd ha (findStream_mem hf).1 (hid.trans h1)
    subst this
    rw [if_pos hid, if_pos (hr.id.trans hsid)]
    exact hg e hr
  · rw [if_neg hid, if_neg (by rw [hr.id, ← hsid, ← h1]; exact hid)]
    exact hr

theorem rrels_set_same {l : List Stream} {rl : List (Nat × Int × Bool)} (h : RRels l rl)
    (hnd : (l.map (·.id)).Nodup) {id : Nat} {s s' : Stream} (hf : findStream l id = some s)
    (h1 : s'.id = s.id) (h2 : s'.inflow = s.inflow) : RRels (setStream l s') rl := by
  have := rrels_upd h hnd hf h1 (fun e => e) fun e hr =>
    { id := hr.id.trans h1.symm, win := h2 ▸ hr.win, ok := h2 ▸ hr.ok }
  simpa using this

/-- a connection-level WINDOW_UPDATE computed by `inflow.add` is accepted -/
theorem rsim_wu_conn {v : RView} {c : Bool} {r : Recv} (h : RInv v c r) {n : Nat} {f' : Inflow} {inc : Int}
    (ha : Inflow.add v.connIn n = .ok (f', inc)) :
    ∃ r', Recv.run r ((wuFrame 0 inc).map Event.c) = .ok r' ∧ RInv { v with connIn := f' } c r' := by
  obtain ⟨hok, h0, hav, hmax⟩ := InflowOK.add h.connOK ha
  have hcw := h.connWin
  have a1 := hok.avail; have a2 := hok.unsent; have a3 := hok.sum
  unfold wuFrame
  split
  · rename_i hpos
    refine ⟨{ r with connWin := r.connWin + inc }, ?_, { h with connWin := ?_, exact := fun hc => ?_, connOK := hok }⟩
    · have h1 : ¬ (inc < 1 ∨ inc > Monitor.maxWindow) := by unfold Monitor.maxWindow; omega
      have h2 : ¬ (r.connWin + inc > Monitor.maxWindow) := by unfold Monitor.maxWindow; omega
      simp [Recv.run, Recv.step, Recv.client, h1, h2]
    · simp only; omega
    · have := h.exact hc; simp only; omega
  · rename_i hpos
    refine ⟨r, rfl, { h with connWin := ?_, exact := fun hc => ?_, connOK := hok }⟩
    · simp only; omega
    · have := h.exact hc; simp only; omega

/-- a stream-level WINDOW_UPDATE computed by `inflow.add` is accepted -/
theorem rsim_wu_stream {v : RView} {c : Bool} {r : Recv} (h : RInv v c r) (hnd : (v.streams.map (·.id)).Nodup)
    {id : Nat} {s s' : Stream} (hf : findStream v.streams id = some s) {n : Nat} {inc : Int}
    (h1 : s'.id = s.id) (ha : Inflow.add s.inflow n = .ok (s'.inflow, inc)) :
    ∃ r', Recv.run r ((wuFrame id inc).map Event.c) = .ok r' ∧
      RInv { v with streams := setStream v.streams s' } c r' := by
  obtain ⟨e, hfe, hre, hmem, hsid⟩ := rrels_find h.rel hf
  obtain ⟨hok, h0, hav, hmax⟩ := InflowOK.add hre.ok ha
  have a1 := hok.avail; have a2 := hok.unsent; have a3 := hok.sum
  have hw := hre.win
  unfold wuFrame
  split
  · rename_i hpos
    have hide := h.ids e hmem
    have he1 : e.1 = id := by rw [hre.id]; exact hsid
    have hid0 : ¬ id = 0 := by rw [← he1]; exact hide.2
    have hlast : ¬ id > r.lastId := by rw [← he1]; omega
    obtain ⟨e1, w, o⟩ := e
    simp only at he1 hw
    refine ⟨{ r with streams := r.streams.map fun t => if t.1 = id then (id, w + inc, o) else t }, ?_, ?_⟩
    · have h1' : ¬ (inc < 1 ∨ inc > Monitor.maxWindow) := by unfold Monitor.maxWindow; omega
      have h2' : ¬ (w + inc > Monitor.maxWindow) := by unfold Monitor.maxWindow; omega
      simp [Recv.run, Recv.step, Recv.client, h1', hid0, hlast, hfe, h2']
    · refine { h with ids := ?_, rel := ?_ }
      · exact ids_map h.ids _ (fun y => by split <;> simp [*])
      · exact rrels_upd h.rel hnd hf h1 (fun _ => (id, w + inc, o)) (fun e' _ =>
          { id := by simp only; rw [h1]; exact hsid.symm, win := by simp only; omega, ok := hok })
  · refine ⟨r, rfl, { h with rel := ?_ }⟩
    have := rrels_upd h.rel hnd hf h1 (fun e => e) (fun e he =>
      { id := by rw [h1]; exact he.id, win := by have := he.win; omega, ok := hok })
    simpa using this

theorem rinv_set_same {v : RView} {c : Bool} {r : Recv} (h : RInv v c r) (hnd : (v.streams.map (·.id)).Nodup)
    {id : Nat} {s s' : Stream} (hf : findStream v.streams id = some s)
    (h1 : s'.id = s.id) (h2 : s'.inflow = s.inflow) :
    RInv { v with streams := setStream v.streams s' } c r :=
  { h with rel := rrels_set_same h.rel hnd hf h1 h2 }

theorem RInv.close {v : RView} {c c' : Bool} {r : Recv} (h : RInv v c r) (hc : c' = false → c = false) :
    RInv v c' r := { h with exact := fun hx => h.exact (hc hx) }

theorem recv_run_nil (r : Recv) : Recv.run r [] = .ok r := rfl

/-- the client frames of an outcome are accepted from `r` and the invariant holds again -/
abbrev RSim (r : Recv) (x : State × List Frame) : Prop :=
  ∃ r', Recv.run r (x.2.map Event.c) = .ok r' ∧ RInv (rview x.1) x.1.closed r'

theorem rsim_nil {st : State} {r : Recv} (h : RInv (rview st) st.closed r) : RSim r (st, []) := ⟨r, rfl, h⟩

theorem rsim_connError {st : State} {c : Bool} {r : Recv} (h : RInv (rview st) c r) : RSim r (connError st) :=
  ⟨r, rfl, h.close nofun⟩

theorem rsim_panic {st : State} {c : Bool} {r : Recv} (h : RInv (rview st) c r) : RSim r (panicState st) :=
  ⟨r, rfl, h.close nofun⟩

theorem rsim_terminate {st : State} {r : Recv} (h : RInv (rview st) st.closed r)
    (hnd : (st.streams.map (·.id)).Nodup) {id : Nat} {s s' : Stream} (b : Bool)
    (hf : findStream st.streams id = some s) (h1 : s'.id = s.id) (h2 : s'.inflow = s.inflow) :
    RSim r (terminate st s' b) := by
  show ∃ r', _ ∧ RInv (rview (terminate st s' b).1) (forget st s').closed r'
  rw [rview_terminate]
  have hbase : RInv { (rview st) with streams := setStream st.streams { s' with live := false } } (forget st s').closed r :=
    (rinv_set_same h (v := rview st) (s' := { s' with live := false }) hnd hf h1 h2).close forget_open
  unfold terminate
  simp only
  split
  · exact ⟨r, rfl, hbase⟩
  · obtain ⟨r', hr1, hr2⟩ := rinv_rst hbase s'.id
    refine ⟨r', ?_, hr2⟩
    simp only [List.map_cons, List.map_nil]
    rw [recv_run_cons_c hr1]; rfl

theorem rinv_settle {st : State} {r : Recv} (h : RInv (rview st) st.closed r)
    (hnd : (st.streams.map (·.id)).Nodup) {id : Nat} {s s' : Stream}
    (hf : findStream st.streams id = some s) (h1 : s'.id = s.id) (h2 : s'.inflow = s.inflow) :
    RInv (rview (settle st s')) (settle st s').closed r := by
  rw [rview_settle]
  exact (rinv_set_same h (v := rview st) hnd hf (by split <;> simp [h1]) (by split <;> simp [h2])).close settle_open

theorem rsim_creditConn {x : State × List Frame} {r : Recv} (hx : RSim r x) (n : Nat) : RSim r (creditConn x n) := by
  obtain ⟨r', hrun, hinv⟩ := hx
  refine creditConn_cases (RSim r) x n (fun _ => ⟨r', hrun, hinv⟩) ⟨r', hrun, hinv.close nofun⟩ (fun ci connAdd _ hc => ?_)
  obtain ⟨r1, hr1, hi1⟩ := rsim_wu_conn (v := rview x.1) hinv hc
  refine ⟨r1, ?_, hi1⟩
  rw [List.map_append]
  exact recv_run_ok_append hrun hr1

theorem rsim_closeStream {st : State} {r : Recv} (h : RInv (rview st) st.closed r)
    (hnd : (st.streams.map (·.id)).Nodup) {id : Nat} {s s' : Stream}
    (hf : findStream st.streams id = some s) (h1 : s'.id = s.id) (h2 : s'.inflow = s.inflow) :
    RSim r (closeStream st s s') :=
  closeStream_cases (RSim r) st s s' (fun _ => rsim_terminate h hnd false hf h1 h2)
    (fun _ => ⟨r, rfl, rinv_set_same h (v := rview st) hnd hf h1 h2⟩)

theorem rsim_readCore {st : State} {r : Recv} (h : RInv (rview st) st.closed r)
    (hnd : (st.streams.map (·.id)).Nodup) {id : Nat} {s s' : Stream}
    (hf : findStream st.streams id = some s) (h1 : s'.id = s.id) (h2 : s'.inflow = s.inflow) (k : Nat) :
    RSim r (readCore st s' k) := by
  have hsid : s.id = id := (findStream_mem hf).2
  refine readCore_cases (RSim r) st s' k (rsim_panic h) (fun ci connAdd si streamAdd hc hs => ?_)
  obtain ⟨r1, hr1, hi1⟩ := rsim_wu_conn (v := rview st) h hc
  obtain ⟨r2, hr2, hi2⟩ := rsim_wu_stream (v := { (rview st) with connIn := ci }) hi1 hnd hf
    (s' := { s' with inflow := si, buffered := s'.buffered - k }) h1 (by rw [← h2]; exact hs)
  refine ⟨r2, ?_, hi2⟩
  rw [List.map_append, h1, hsid]
  exact recv_run_ok_append hr1 hr2

theorem rsim_readK {st : State} {r : Recv} (h : RInv (rview st) st.closed r)
    (hnd : (st.streams.map (·.id)).Nodup) {id : Nat} {s : Stream}
    (hf : findStream st.streams id = some s) (k : Nat) : RSim r (readK st s k) := by
  refine readK_cases (RSim r) st s k (fun b => rsim_readCore h hnd hf (s' := { s with bytesRemain := b }) rfl rfl _)
    (fun _ _ _ => ?_)
  have := rsim_closeStream h hnd hf (s' := { s with buffered := s.buffered - k, readErr := true }) rfl rfl
  exact readOverlong_cases (RSim r) st s k (fun _ => rsim_creditConn this _) (fun _ => this)

/-- header frames do not move the receive side, except a HEADERS frame that opens a stream -/
theorem rheader_frames_run (id : Nat) (es : Bool) (mf : Nat) (prio fix : Bool) :
    ∀ (fuel len : Nat) (first : Bool) (r : Recv), (first = true → ¬ id > r.lastId) →
      Recv.run r ((headerFrames fuel id len es mf prio fix first).map Event.c) = .ok r := by
  intro fuel
  induction fuel with
  | zero => intro len first r _; rfl
  | succ fuel ih =>
    intro len first r hid
    simp only [headerFrames]
    split
    · rfl
    · simp only [List.map_cons]
      cases first with
      | true =>
        simp only [if_true]
        rw [recv_run_cons_c (m' := r) (by simp [Recv.client, hid rfl])]
        exact ih _ false r (fun h => nomatch h)
      | false =>
        simp only [Bool.false_eq_true, if_false]
        rw [recv_run_cons_c (m' := r) rfl]
        exact ih _ false r (fun h => nomatch h)

theorem rheaders_run (r : Recv) (id len : Nat) (es : Bool) (mf : Nat) (prio fix : Bool)
    (hlen : 0 < len) (hid : id > r.lastId) :
    Recv.run r ((headerFrames (len + 1) id len es mf prio fix true).map Event.c) =
      .ok { r with lastId := id, streams := r.streams ++ [(id, (r.initWin : Int), true)] } := by
  have hne : ¬ len = 0 := by omega
  simp only [headerFrames, hne, if_false, if_true, List.map_cons]
  rw [recv_run_cons_c (m' := { r with lastId := id, streams := r.streams ++ [(id, (r.initWin : Int), true)] })
    (by simp [Recv.client, hid])]
  exact rheader_frames_run id es mf prio fix _ _ false _ (fun h => nomatch h)

theorem rrels_append {l : List Stream} {rl : List (Nat × Int × Bool)} (h : RRels l rl)
    {s : Stream} {e : Nat × Int × Bool} (hr : RRel s e) : RRels (l ++ [s]) (rl ++ [e]) := by
  induction h with
  | nil => exact RRels.cons hr RRels.nil
  | cons h0 _ ih => exact RRels.cons h0 ih

theorem rsim_doOpen {st : State} {r : Recv} (h : RInv (rview st) st.closed r) (rq : Req)
    (hlen : 0 < rq.hdrLen) :
    RSim r (doOpen st rq) := by
  have hlast : st.nextStreamID > r.lastId := h.lastId
  have hrun := rheaders_run r st.nextStreamID rq.hdrLen
    (endOnHeaders st.cfg.fixes (!(rq.known && rq.bodyLen == 0)) rq.trailer) st.maxFrameSize st.cfg.hdrPrio
    st.cfg.fixes.hdrPrio hlen hlast
  simp only [doOpen]
  refine ⟨_, hrun, ?_⟩
  refine { h with lastId := ?_, ids := ?_, rel := ?_ }
  · show st.nextStreamID < st.nextStreamID + 2; omega
  · intro e he
    simp only [List.mem_append, List.mem_singleton] at he
    rcases he with he | rfl
    · have := h.ids e he
      exact ⟨by simp only; omega, this.2⟩
    · simp only; omega
  · show RRels (st.streams ++ [_]) (r.streams ++ [_])
    apply rrels_append h.rel
    exact { id := rfl, win := h.initWin, ok := h.initOK }

theorem rsim_resumePending {st : State} {r : Recv} (h : RInv (rview st) st.closed r)
    (hp : ∀ a, st.pendingOpen = some a → a.hdrLen > 0) : RSim r (resumePending st) :=
  resumePending_cases (RSim r) st (fun _ => (rsim_nil h)) (fun _ _ _ _ => (rsim_nil h)) (fun _ _ => (rsim_nil h))
    (fun rq hpo _ _ _ => rsim_doOpen (st := { st with pendingOpen := none }) h rq (hp rq hpo))

theorem rsim_write {st : State} {r : Recv} (h : RInv (rview st) st.closed r)
    (hnd : (st.streams.map (·.id)).Nodup) (id : Nat) : RSim r (write st id) := by
  refine write_cases (RSim r) st id (rsim_nil h) (fun s n hf _ _ _ _ => ?_) (fun s d ch last hf _ _ _ => ?_)
  · obtain ⟨e, _, hre, hmem, _⟩ := rrels_find h.rel hf
    have hid : ¬ s.id > r.lastId := by
      have := (h.ids e hmem).1
      rw [hre.id] at this; omega
    exact ⟨r, rheader_frames_run s.id true _ _ _ _ _ true r (fun _ => hid), rinv_settle h hnd hf rfl rfl⟩
  · exact ⟨r, rfl, rinv_settle (st := { st with connOut := st.connOut - d }) h hnd hf rfl rfl⟩

theorem rrels_map_same {l : List Stream} {rl : List (Nat × Int × Bool)} (h : RRels l rl)
    (f : Stream → Stream) (hf : ∀ s, (f s).id = s.id ∧ (f s).inflow = s.inflow) :
    RRels (l.map f) rl := by
  have := rrels_map h f id fun s _ e hr =>
    { id := hr.id.trans (hf s).1.symm, win := (hf s).2 ▸ hr.win, ok := (hf s).2 ▸ hr.ok }
  rwa [List.map_id] at this

theorem rinv_applySettings {vals : List (Nat × Nat)} {st st' : State} {r : Recv} {sm sm' : Bool}
    (h : RInv (rview st) st.closed r) (heq : applySettings st sm vals = some (st', sm')) : RInv (rview st') st'.closed r := by
  obtain ⟨mf, mc, iw, o, rfl⟩ := applySettings_touch heq
  exact { h with rel := rrels_map_same h.rel _ (fun s => ⟨rfl, rfl⟩) }

theorem rsim_peerSettings {st : State} {r : Recv} (h : RInv (rview st) st.closed r) (vals : List (Nat × Nat)) :
    RSim (r.peer (.settings vals)) (peerSettings st vals) := by
  have hack : Recv.run (r.peer (.settings vals)) ([Frame.settingsAck].map Event.c) = .ok r := by
    simp only [List.map_cons, List.map_nil]
    rw [recv_run_cons_c (m' := r.peer (.settings vals)) rfl]; rfl
  exact peerSettings_cases (RSim (r.peer (.settings vals))) st vals (fun _ => rsim_connError h)
    (fun _ _ hs _ => ⟨r, hack, rinv_applySettings h hs⟩)
    (fun st1 _ hs _ => ⟨r, hack, (rinv_applySettings h hs : RInv (rview st1) st1.closed r)⟩)

theorem rsim_abortAbove (last : Nat) (ids : List Nat) :
    ∀ {st : State} {m : Send} {r : Recv}, SInv (view st) m → RInv (rview st) st.closed r → RSim r (abortAbove last ids st) := by
  intro st m r hs h
  refine abortAbove_induction (P := fun st x => ∀ m r, SInv (view st) m → RInv (rview st) st.closed r → RSim r x) last
    (fun _ _ _ _ h => rsim_nil h) (fun st s _ x hf hl hx m r hs h => ?_) ids st m r hs h
  obtain ⟨m1, _, hs1⟩ := sim_terminate_client hs hf hl
  obtain ⟨r1, hr1, hi1⟩ := rsim_terminate h hs.nodup false hf (s' := s) rfl rfl
  obtain ⟨r2, hr2, hi2⟩ := hx m1 r1 hs1 hi1
  exact ⟨r2, by simp only [List.map_append]; exact recv_run_ok_append hr1 hr2, hi2⟩

/-- `n` bytes taken from the connection window: both books go down by `n` -/
theorem rinv_take {st : State} {r rp : Recv} (h : RInv (rview st) st.closed r) (hbase : RInv (rview st) true rp) {n : Nat}
    (hrp : rp.connWin = r.connWin - (n : Int)) {ci : Inflow} (hT : Inflow.take st.connIn (n : Int) = (ci, true)) :
    RInv (rview { st with connIn := ci }) st.closed rp := by
  have hcw : r.connWin ≤ st.connIn.avail := h.connWin
  obtain ⟨hle, hav, hu⟩ := Inflow.take_spec hT
  exact { hbase with connWin := by simp only [rview]; omega, connOK := h.connOK.take hle hav hu,
                     exact := fun hc => by have := h.exact hc; simp only [rview] at this ⊢; omega }

/-- a DATA frame dropped with a stream error; `hbase` = after the peer's own bookkeeping -/
theorem rsim_discardData {st : State} {r rp : Recv} (h : RInv (rview st) st.closed r)
    (hnd : (st.streams.map (·.id)).Nodup) {id : Nat} {s : Stream} (hf : findStream st.streams id = some s)
    (hfix : st.cfg.fixes.dataCredit = true)
    (n : Nat) (hbase : RInv (rview st) true rp) (hrp : rp.connWin = r.connWin - (n : Int)) :
    RSim rp (discardData st s (n : Int)) := by
  refine discardData_cases (RSim rp) st s n (rsim_panic hbase) (rsim_connError hbase)
    (fun hn => ?_) (fun ci ci' connAdd _ _ hT hadd => ?_)
  · -- with fixes/C06-6 only an empty frame is dropped without bookkeeping
    have hn0 : ¬ (n : Int) > 0 := fun hp => hn ⟨hfix, hp⟩
    exact rsim_terminate { hbase with exact := fun hc => by have := h.exact hc; omega } hnd false hf rfl rfl
  obtain ⟨r1, hr1, hi1⟩ := rsim_terminate (st := { st with connIn := ci }) (rinv_take h hbase hrp hT) hnd false hf
    (s' := s) rfl rfl
  rw [terminate_connIn] at hr1 hi1
  obtain ⟨r2, hr2, hi2⟩ := rsim_wu_conn (v := rview { (terminate st s false).1 with connIn := ci }) hi1 hadd
  refine ⟨r2, ?_, hi2⟩
  rw [List.map_append]
  exact recv_run_ok_append hr1 hr2

theorem rsim_peerData {st : State} {r : Recv} (h : RInv (rview st) st.closed r)
    (hnd : (st.streams.map (·.id)).Nodup) (hfix : st.cfg.fixes.dataCredit = true) (id len pad : Nat) (es : Bool) :
    RSim (r.peer (.data id len pad es)) (peerData st id len pad es) := by
  have hcw : r.connWin ≤ st.connIn.avail := h.connWin
  -- the peer's own books: they agree with the client's again once the client has taken the octets
  -- (or if there are none), or the connection is torn down
  have hbase : ∀ c, (c = false → st.closed = false ∧ len + pad = 0) →
      RInv (rview st) c (r.peer (.data id len pad es)) := fun c hc => by
    have := rinv_lower h (fun t => if t.1 = id then (t.1, t.2.1 - ((len + pad : Nat) : Int), t.2.2 && !es) else t)
      (fun e => by split <;> simp <;> omega)
    exact { this with connWin := by simp only [rview, Recv.peer]; omega,
                      exact := fun hx => by
                        have := h.exact (hc hx).1
                        have := (hc hx).2
                        simp only [rview, Recv.peer] at *; omega }
  have hb := hbase true nofun
  refine peerData_cases (RSim (r.peer (.data id len pad es))) st id len pad es
    (fun hz => rsim_nil (hbase _ fun hc => ⟨hc, hz⟩)) (rsim_panic hb)
    (rsim_connError hb) (fun ci ci' connAdd hT hadd => rsim_wu_conn (rinv_take h hb rfl hT) hadd)
    (fun s hf _ => rsim_discardData h hnd hf hfix (len + pad) hb rfl)
    (fun s ci si ci' sendConn si' sendStream hfl _ _ hT hc hs => ?_)
    (fun s hf _ _ hz => ⟨_, rfl, rinv_settle (hbase _ fun hc => ⟨hc, hz⟩) hnd hf rfl rfl⟩)
  obtain ⟨e, _, hre, _, _⟩ := rrels_find h.rel hfl
  obtain ⟨l1, l2, t3, u3, t4, u4⟩ := takeInflows_spec hT
  have t1 := h.connOK.take l1 t3 u3
  have t2 := hre.ok.take l2 t4 u4
  -- after both sides have booked the frame
  have h1 : RInv { (rview st) with connIn := ci, streams := setStream st.streams { s with inflow := si } } st.closed
      (r.peer (.data id len pad es)) := by
    refine { h with connWin := ?_, exact := fun hx => ?_, connOK := t1, ids := ?_, rel := ?_ }
    · simp only [Recv.peer]; omega
    · have := h.exact hx; simp only [Recv.peer, rview] at *; omega
    · exact ids_map h.ids _ (fun e => by split <;> simp)
    · exact rrels_upd h.rel hnd hfl (s' := { s with inflow := si }) rfl
        (fun t => (t.1, t.2.1 - ((len + pad : Nat) : Int), t.2.2 && !es))
        (fun e' he' => { id := he'.id, win := by have := he'.win; simp only; omega, ok := t2 })
  obtain ⟨r1, hr1, hi1⟩ := rsim_wu_conn h1 hc
  have hnd1 : ((setStream st.streams { s with inflow := si }).map (·.id)).Nodup := by
    rw [setStream_ids]; exact hnd
  have hf1 := find_setStream (s' := { s with inflow := si }) hfl rfl
  show ∃ r', _ ∧ RInv (rview (settle _ _)) (settle _ _).closed r'
  rw [rview_settle]
  obtain ⟨r2, hr2, hi2⟩ := rsim_wu_stream hi1 hnd1 hf1
    (s' := if s.live = true ∧ s.sentEnd = true ∧ es = true then
             { s with inflow := si', buffered := s.buffered + len, peerEnd := es, live := false }
           else { s with inflow := si', buffered := s.buffered + len, peerEnd := es })
    (n := pad) (inc := sendStream) (by split <;> rfl) (by split <;> exact hs)
  refine ⟨r2, ?_, ?_⟩
  · rw [List.map_append]
    exact recv_run_ok_append hr1 hr2
  · rw [setStream_setStream _ _ _ (by split <;> rfl)] at hi2
    exact hi2.close settle_open

/-- (with the send side's invariant, which provides the distinctness of stream ids) -/
theorem rsim_peer {st : State} {m : Send} {r : Recv} (hs : SInv (view st) m) (h : RInv (rview st) st.closed r) (f : PFrame) :
    RSim (r.peer f) (Conn.peer st f) := by
  have hnd := hs.nodup
  -- RST_STREAM and response HEADERS only clear the peer's "may still send" flag
  have hflags : ∀ id (c : Bool), RInv (rview st) st.closed
      { r with streams := r.streams.map fun t => if t.1 = id then (t.1, t.2.1, t.2.2 && c) else t } :=
    fun id c => rinv_lower h _ (fun e => by split <;> simp)
  cases f with
  | settings vals => exact rsim_peerSettings h vals
  | settingsAck => exact peerSettingsAck_cases (RSim r) st (fun _ => rsim_nil h) (rsim_connError h)
  | windowUpdate id inc =>
    exact peerWindowUpdate_cases (RSim r) st id inc (rsim_nil h) (rsim_connError h) (fun _ _ _ => (rsim_nil h))
      (fun _ _ hf _ => rsim_terminate h hnd false hf rfl rfl)
      (fun _ _ _ hf _ _ => ⟨r, rfl, rinv_set_same h (v := rview st) hnd hf rfl rfl⟩)
  | rst id code =>
    have hbase : RInv (rview st) st.closed (r.peer (.rst id code)) := by
      have := hflags id false; simpa [Recv.peer] using this
    exact peerRst_cases (RSim (r.peer (.rst id code))) st id code (rsim_nil hbase) (fun _ hf _ =>
      rsim_terminate (st := { st with doNotReuse := st.doNotReuse || decide (code = 1) }) hbase hnd true hf rfl rfl)
  | goaway last => exact rsim_abortAbove last _ (st := { st with goAway := true }) hs h
  | resp id es status cl =>
    have hbase : RInv (rview st) st.closed (r.peer (.resp id es status cl)) := hflags id (!es)
    exact peerResp_cases (RSim (r.peer (.resp id es status cl))) st id es status cl (rsim_nil hbase) (rsim_connError hbase)
      (fun _ hf _ => rsim_terminate hbase hnd false hf rfl rfl)
      (fun _ hf _ => ⟨_, rfl, rinv_set_same hbase (v := rview st) hnd hf rfl rfl⟩)
      (fun _ hf _ _ => ⟨_, rfl, rinv_settle hbase hnd hf rfl rfl⟩)
      (fun _ hf _ _ _ => ⟨_, rfl, rinv_settle hbase hnd hf rfl rfl⟩)
  | data id len pad e =>
    exact rsim_peerData h hnd (by have := hs.fixes; simp only [view] at this; rw [this]; rfl) id len pad e
  | ping ack d =>
    exact peerPing_cases (RSim r) st ack d (rsim_nil h) (fun _ => ⟨r, rfl, h⟩)
  | pushPromise id p => exact rsim_connError h

theorem rsim_apply {st : State} {m : Send} {r : Recv} (hs : SInv (view st) m) (h : RInv (rview st) st.closed r)
    (op : Op) (hok : op.ok) :
    ∃ r', Recv.run r (opEvents op (apply st op).2) = .ok r' ∧ RInv (rview (apply st op).1) (apply st op).1.closed r' := by
  have hnd := hs.nodup
  cases op with
  | openReq rq =>
    exact openStream_cases (RSim r) st rq (rsim_nil h) (fun _ _ => rsim_doOpen h rq hok) (fun _ _ => (rsim_nil h))
  | feed id n =>
    exact feed_cases (RSim r) st id n (rsim_nil h)
      (fun _ _ hf => ⟨r, rfl, rinv_set_same h (v := rview st) hnd hf rfl rfl⟩)
  | write id => exact rsim_write h hnd id
  | cancel id =>
    exact cancel_cases (RSim r) st id (rsim_nil h) (fun _ hf _ => rsim_terminate h hnd false hf rfl rfl)
  | read id n => exact read_cases (RSim r) st id n (rsim_nil h) (fun _ _ hf _ _ => rsim_readK h hnd hf _)
  | close id =>
    exact close_cases (RSim r) st id (fun _ => rsim_nil h) (fun s hf =>
      rsim_creditConn (rsim_closeStream h hnd hf (s' := { s with broken := true, buffered := 0 }) rfl rfl) _)
  | wake => exact (rsim_nil h)
  | peer f =>
    obtain ⟨r', h1, h2⟩ := rsim_peer hs h f
    refine ⟨r', ?_, h2⟩
    simp only [opEvents, apply, List.singleton_append]
    rw [recv_run_cons_p]
    exact h1

theorem rsim_step {st : State} {m : Send} {r : Recv} (hs : SInv (view st) m) (h : RInv (rview st) st.closed r)
    (op : Op) (hok : op.ok) :
    ∃ r', Recv.run r (stepEvents st op) = .ok r' ∧
      RInv (rview (step st op).1) (step st op).1.closed r' := by
  obtain ⟨_, _, a2⟩ := sim_apply hs op hok
  obtain ⟨r1, b1, b2⟩ := rsim_apply hs h op hok
  refine step_cases (fun x => ∃ r', Recv.run r (if st.closed then [] else opEvents op x.2) = .ok r' ∧
    RInv (rview x.1) x.1.closed r') st op (fun hc => ?_) (fun hc _ => ?_) (fun hc => ?_)
  · rw [if_pos hc]; exact ⟨r, rfl, h⟩
  · rw [if_neg (ne_true_of_eq_false hc)]; exact ⟨r1, b1, b2⟩
  · rw [if_neg (ne_true_of_eq_false hc)]
    obtain ⟨r2, b3, b4⟩ := rsim_resumePending b2 (fun x hx => a2.pendOpen x hx)
    exact ⟨r2, by rw [opEvents_append]; exact recv_run_ok_append b1 b3, b4⟩

theorem joint_runFrom (ops : List Op) (hok : ∀ op ∈ ops, op.ok) :
    ∀ {st : State} {m m0 : Send} {r r0 : Recv} {hist : List Event},
    Send.run m0 hist = .ok m → Recv.run r0 hist = .ok r → SInv (view st) m → RInv (rview st) st.closed r →
    ∃ m' r', Send.run m0 (runFrom st hist ops).2 = .ok m' ∧ Recv.run r0 (runFrom st hist ops).2 = .ok r' ∧
      SInv (view (runFrom st hist ops).1) m' ∧
      RInv (rview (runFrom st hist ops).1) (runFrom st hist ops).1.closed r' := by
  intro st m m0 r r0 hist h1 h2 h3 h4
  obtain ⟨⟨m', a1, a2⟩, r', b1, b2⟩ :=
    sinv_along (Q := fun st hist => ∃ r, Recv.run r0 hist = .ok r ∧ RInv (rview st) st.closed r) ops hok
      (fun op hok hs ⟨r, h2, h4⟩ =>
        have ⟨r1, b1, b2⟩ := rsim_step hs h4 op hok
        ⟨r1, recv_run_ok_append h2 b1, b2⟩) h1 h3 ⟨r, h2, h4⟩
  exact ⟨m', r', a1, b1, a2, b2⟩

/-- SETTINGS_INITIAL_WINDOW_SIZE as advertised in the connection preface -/
def advertisedInitWin (cfg : Cfg) : Nat :=
  match lastSetting (initialSettings cfg) sInitialWindowSize with
  | some v => v
  | none => 65535

theorem lastSetting_default (mhl : Nat) :
    lastSetting ([(sEnablePush, 0), (sInitialWindowSize, 4194304)] ++
      (if mhl = 0 then [] else [(sMaxHeaderListSize, mhl)])) sInitialWindowSize = some 4194304 := by
  unfold lastSetting
  split <;> simp [sEnablePush, sInitialWindowSize, sMaxHeaderListSize]

theorem advertised_le (cfg : Cfg) (hfix : cfg.fixes = Fixes.all) (hok : cfg.ok) :
    ((advertisedInitWin cfg : Nat) : Int) ≤ streamInflow0 cfg ∧ InflowOK ⟨streamInflow0 cfg, 0⟩ ∧
    advertisedInitWin cfg ≤ 2147483647 := by
  have hsi : cfg.fixes.streamInflow = true := by rw [hfix]; rfl
  unfold advertisedInitWin streamInflow0 initialSettings
  rw [hsi]
  simp only [if_true]
  cases he : cfg.settings.isEmpty with
  | true =>
    have hnil : cfg.settings = [] := by simpa using he
    simp only [if_true, lastSetting_default, hnil]
    have : lastSetting ([] : List (Nat × Nat)) sInitialWindowSize = none := rfl
    rw [this]
    simp only [transportDefaultStreamFlow]
    exact ⟨by omega, ⟨by simp, by simp, by simp⟩, by omega⟩
  | false =>
    simp only [Bool.false_eq_true, if_false]
    cases hl : lastSetting cfg.settings sInitialWindowSize with
    | none =>
      simp only [transportDefaultStreamFlow]
      exact ⟨by omega, ⟨by simp, by simp, by simp⟩, by omega⟩
    | some v =>
      have hv := hok.1 v hl
      have hw : wrap32 (v : Int) = v := wrap32_of_in32 (by unfold In32; omega)
      simp only [hw]
      exact ⟨Int.le_refl _, ⟨by simp only; omega, by simp, by simp only; omega⟩, hv⟩

theorem rpreface_run (cfg : Cfg) (hfix : cfg.fixes = Fixes.all) (hok : cfg.ok) :
    Recv.run Recv.init ((newConn cfg).2.map Event.c) =
      .ok { initWin := advertisedInitWin cfg, connWin := 65535 + connFlowAdvertised cfg.connFlow, lastId := 0, streams := [] } := by
  have hadv := (advertised_le cfg hfix hok).2.2
  have hcf := hok.2
  have hcf1 := (connInflowInit_ok hok).1
  simp only [newConn, List.map_cons, List.cons_append, List.nil_append]
  have h1 : Recv.init.client (Frame.settings (initialSettings cfg)) =
      .ok { initWin := advertisedInitWin cfg, connWin := 65535, lastId := 0, streams := [] } := by
    unfold advertisedInitWin at hadv ⊢
    simp only [Recv.client, Recv.init]
    cases hl : lastSetting (initialSettings cfg) sInitialWindowSize with
    | none => rfl
    | some v =>
      rw [hl] at hadv
      simp only at hadv
      have : ¬ v > 2147483647 := by omega
      simp [this]
  rw [recv_run_cons_c h1]
  have h2 : ({ initWin := advertisedInitWin cfg, connWin := 65535, lastId := 0, streams := [] } : Recv).client
      (Frame.windowUpdate 0 (connFlowAdvertised cfg.connFlow)) =
      .ok { initWin := advertisedInitWin cfg, connWin := 65535 + connFlowAdvertised cfg.connFlow, lastId := 0, streams := [] } := by
    have a1 : ¬ (connFlowAdvertised cfg.connFlow < 1 ∨ connFlowAdvertised cfg.connFlow > Monitor.maxWindow) := by
      unfold Monitor.maxWindow; omega
    have a2 : ¬ (65535 + connFlowAdvertised cfg.connFlow > Monitor.maxWindow) := by
      unfold Monitor.maxWindow; omega
    simp [Recv.client, a1, a2]
  rw [recv_run_cons_c h2]
  -- PRIORITY frames are not the receive side's business
  generalize cfg.prio = l
  induction l with
  | nil => rfl
  | cons a l ih =>
    simp only [List.filter]
    split
    · simp only [List.map_cons]
      rw [recv_run_cons_c (m' := _) rfl]
      exact ih
    · exact ih

theorem rinv_init (cfg : Cfg) (hfix : cfg.fixes = Fixes.all) (hok : cfg.ok) :
    RInv (rview (newConn cfg).1) false
      { initWin := advertisedInitWin cfg, connWin := 65535 + connFlowAdvertised cfg.connFlow, lastId := 0, streams := [] } := by
  obtain ⟨h1, h2, _⟩ := advertised_le cfg hfix hok
  have hcf := hok.2
  obtain ⟨hcf1, hci⟩ := connInflowInit_ok hok
  have hn := nextStreamID0_odd cfg hfix
  exact { connWin := by simp only [rview, newConn, hci]; omega,
          exact := fun _ => by simp only [rview, newConn, hci]; omega,
          connOK := ⟨by simp only [rview, newConn, hci]; omega, by simp [rview, newConn],
                     by simp only [rview, newConn, hci]; omega⟩,
          initWin := h1, initOK := h2,
          lastId := by simp only [rview, newConn]; omega,
          ids := (by intro e he; cases he),
          rel := RRels.nil }

/-- every run of the repaired model from a legal fingerprint: both sides of the strict peer accept the
history, and both simulation invariants hold at its end -/
theorem run_joint (cfg : Cfg) (hfix : cfg.fixes = Fixes.all) (hok : cfg.ok) (ops : List Op) (hops : ∀ op ∈ ops, op.ok) :
    ∃ m r, Send.run Send.init (run cfg ops).2 = .ok m ∧ Recv.run Recv.init (run cfg ops).2 = .ok r ∧
      SInv (view (run cfg ops).1) m ∧ RInv (rview (run cfg ops).1) (run cfg ops).1.closed r :=
  joint_runFrom ops hops (preface_run cfg) (rpreface_run cfg hfix hok) (sinv_init cfg hfix) (rinv_init cfg hfix hok)

end Req.Lemmas.C06
