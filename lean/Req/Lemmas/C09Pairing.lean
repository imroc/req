import Req.Pool.Pairing
/-! Invariant of the per-connection pairing model (C09). -/
namespace Req.Lemmas.C09Pairing
open Req.Pool.Pairing

def PairsOK (s : St) : Prop := ∀ p ∈ s.pairs, s.started[p.2]? = some p.1

def Quiet (s : St) : Prop := s.tainted = false → s.answered = s.started.length ∧ ∀ l ∈ s.wire, l = none

structure Shape.Avail (s : St) : Prop where
  avail : s.avail = true
  phase : s.phase = .peeking
  reqch : s.reqch = []
  reads : s.reads = s.started.length
  consumed : s.consumed = s.started.length
  numExpected : s.numExpected = 0
  quiet : Quiet s

structure Shape.Awaiting (s : St) : Prop where
  avail : s.avail = false
  phase : s.phase = .peeking
  numExpected : s.numExpected = 1
  consumed : s.consumed = s.reads
  req : ∃ r pre, s.reqch = [r] ∧ s.started = pre ++ [r] ∧ s.reads = pre.length ∧
    (s.tainted = false → (s.wire = [] ∧ s.answered = pre.length) ∨
      (s.wire = [some r] ∧ s.answered = pre.length + 1))

structure Shape.InBody (s : St) : Prop where
  avail : s.avail = false
  reqch : s.reqch = []
  reads : s.reads = s.started.length
  consumed : s.consumed + 1 = s.started.length
  numExpected : s.numExpected = 0
  phase : ∃ r k, s.phase = .body r k
  quiet : Quiet s

structure Shape.Closed (s : St) : Prop where
  avail : s.avail = false
  phase : s.phase = .closed

/-- The four shapes a connection can be in — available to the pool; a request written and the head of its
response awaited; the body of a response being read; closed — each with what an untainted wire then holds. -/
def Shape (s : St) : Prop := Shape.Avail s ∨ Shape.Awaiting s ∨ Shape.InBody s ∨ Shape.Closed s

structure PInv (s : St) : Prop where
  shape : Shape s
  pairs : PairsOK s
  neLe : s.numExpected ≤ 1
  own : s.tainted = false → ∀ p ∈ s.got, p.2 = some p.1

theorem PInv_init : PInv {} :=
  ⟨Or.inl ⟨rfl, rfl, rfl, rfl, rfl, rfl, fun _ => ⟨rfl, nofun⟩⟩, nofun, by simp, fun _ => nofun⟩

theorem PairsOK_append (s : St) (x : Nat) (h : PairsOK s) :
    ∀ p ∈ s.pairs, (s.started ++ [x])[p.2]? = some p.1 := by
  intro p hp
  have := h p hp
  have hlt : p.2 < s.started.length := (List.getElem?_eq_some_iff.1 this).1
  rw [List.getElem?_append_left hlt]; exact this

/-- The state after readLoop has taken request `r` off `reqch` and response `l` off the wire. -/
def delivered (s : St) (r : Nat) (rest : List Nat) (l : Option Nat) (wrest : List (Option Nat)) : St :=
  { s with reqch := rest, pairs := (r, s.reads) :: s.pairs, reads := s.reads + 1,
           numExpected := s.numExpected - 1, wire := wrest, got := (r, l) :: s.got }

/-- The transitions of `step` with their guards; the event log is left open. -/
inductive Tr (s : St) : St → Prop
  | refl : Tr s s
  | start (r : Nat) (ha : s.avail = true) (hp : s.phase = .peeking) :
      Tr s { s with avail := false, numExpected := s.numExpected + 1, reqch := s.reqch ++ [r],
                    started := s.started ++ [r], log := .started r :: s.log,
                    tainted := s.tainted || !s.wire.isEmpty }
  | headBody (r : Nat) (rest : List Nat) (l : Option Nat) (wrest : List (Option Nat)) (hp : s.phase = .peeking)
      (hr : s.reqch = r :: rest) (hw : s.wire = l :: wrest) (hne : s.numExpected ≠ 0) (keep : Bool) (lg : List Ev) :
      Tr s { delivered s r rest l wrest with phase := .body r keep, log := lg }
  | headPut (r : Nat) (rest : List Nat) (l : Option Nat) (wrest : List (Option Nat)) (hp : s.phase = .peeking)
      (hr : s.reqch = r :: rest) (hw : s.wire = l :: wrest) (hne : s.numExpected ≠ 0) (lg : List Ev) :
      Tr s { delivered s r rest l wrest with consumed := s.consumed + 1, avail := true, log := lg }
  | headClose (r : Nat) (rest : List Nat) (l : Option Nat) (wrest : List (Option Nat)) (hp : s.phase = .peeking)
      (hr : s.reqch = r :: rest) (hw : s.wire = l :: wrest) (hne : s.numExpected ≠ 0) (lg : List Ev) :
      Tr s { delivered s r rest l wrest with consumed := s.consumed + 1, phase := .closed, log := lg }
  | bodyPut (r : Nat) (keep : Bool) (hp : s.phase = .body r keep) (lg : List Ev) :
      Tr s { s with consumed := s.consumed + 1, phase := .peeking, avail := true, log := lg }
  | bodyClose (r : Nat) (keep : Bool) (hp : s.phase = .body r keep) (n : Nat) (lg : List Ev) :
      Tr s { s with consumed := n, phase := .closed, log := lg }
  | close (hp : s.phase = .peeking) (hn : s.numExpected = 0) :
      Tr s { s with phase := .closed, avail := false, log := .close :: s.log }
  | peerAnswer (r : Nat) (h : s.started[s.answered]? = some r) :
      Tr s { s with wire := s.wire ++ [some r], answered := s.answered + 1 }
  | peerExtra (h : s.phase ≠ .closed) :
      Tr s { s with wire := s.wire ++ [none],
                    tainted := s.tainted || (s.phase == .peeking && s.numExpected != 0) }

theorem step_tr (s : St) (op : Op) : Tr s (step s op) := by
  cases op with
  | start r =>
    simp only [step]
    split
    · next h =>
      rw [Bool.and_eq_true, beq_iff_eq] at h
      exact .start r h.1 h.2
    · exact .refl
  | readHead hasBody keep wrote accept =>
    simp only [step]
    split
    · next r rest l wrest hp hr hw =>
      by_cases hne : s.numExpected = 0
      · rw [if_pos hne]; exact .refl
      · rw [if_neg hne]
        cases hasBody
        · by_cases hk : (keep && wrote) = true
          · cases accept
            · simp only [hk, if_true, Bool.false_eq_true, if_false]; exact .headClose r rest l wrest hp hr hw hne _
            · simp only [hk, if_true]; exact .headPut r rest l wrest hp hr hw hne _
          · simp only [hk, Bool.false_eq_true, if_false]; exact .headClose r rest l wrest hp hr hw hne _
        · exact .headBody r rest l wrest hp hr hw hne keep _
    · exact .refl
  | bodyDone eof wrote accept =>
    simp only [step]
    split
    · next r keep hp =>
      cases eof
      · exact .bodyClose r keep hp _ _
      · by_cases hk : (keep && wrote) = true
        · cases accept
          · simp only [hk, if_true, Bool.false_eq_true, if_false]; exact .bodyClose r keep hp _ _
          · simp only [hk, if_true]; exact .bodyPut r keep hp _
        · simp only [hk, if_true, Bool.false_eq_true, if_false]; exact .bodyClose r keep hp _ _
    · exact .refl
  | peekFail =>
    simp only [step]
    split
    · next h =>
      simp only [Bool.and_eq_true, beq_iff_eq] at h
      exact .close h.1 h.2
    · exact .refl
  | peerAnswer =>
    simp only [step]
    split
    · next r h => exact .peerAnswer r h
    · exact .refl
  | peerExtra =>
    simp only [step]
    split
    · exact .refl
    · next h => exact .peerExtra (by simpa using h)
  | peekIdle =>
    simp only [step]
    split
    · next h =>
      simp only [Bool.and_eq_true, beq_iff_eq] at h
      exact .close h.1.1 h.1.2
    · exact .refl

/-- While peeking with a request handed over, the connection is `Awaiting`; an untainted wire then holds
exactly the answer to that request. -/
theorem PInv.at_head {s : St} (h : PInv s) {r : Nat} {rest : List Nat} {l : Option Nat} {wrest : List (Option Nat)}
    (hph : s.phase = .peeking) (hrq : s.reqch = r :: rest) (hw : s.wire = l :: wrest) :
    s.avail = false ∧ s.numExpected = 1 ∧ s.consumed = s.reads ∧ rest = [] ∧ s.started.length = s.reads + 1 ∧
      PairsOK (delivered s r rest l wrest) ∧
      (s.tainted = false → (∀ p ∈ (r, l) :: s.got, p.2 = some p.1) ∧ Quiet (delivered s r rest l wrest)) := by
  rcases h.shape with h' | h' | h' | h'
  · rw [h'.reqch] at hrq; cases hrq
  · obtain ⟨r', pre, h5, h6, h7, h8⟩ := h'.req
    rw [h5] at hrq; cases hrq
    refine ⟨h'.avail, h'.numExpected, h'.consumed, rfl, by rw [h6, h7]; simp, ?_, fun ht => ?_⟩
    · intro p hp'
      rcases List.mem_cons.mp hp' with rfl | hp'
      · simp [delivered, h6, h7]
      · exact h.pairs p hp'
    · rcases h8 ht with ⟨e, _⟩ | ⟨e, ha⟩ <;> rw [e] at hw <;> cases hw
      exact ⟨List.forall_mem_cons.2 ⟨rfl, h.own ht⟩, fun _ => ⟨by simp [delivered, ha, h6], nofun⟩⟩
  · rw [h'.reqch] at hrq; cases hrq
  · rw [h'.phase] at hph; cases hph

theorem Shape.at_body {s : St} (hs : Shape s) {r : Nat} {k : Bool} (hph : s.phase = .body r k) : Shape.InBody s := by
  rcases hs with h | h | h | h
  · rw [h.phase] at hph; cases hph
  · rw [h.phase] at hph; cases hph
  · exact h
  · rw [h.phase] at hph; cases hph

theorem PInv_tr {s s' : St} (st : Tr s s') (h : PInv s) : PInv s' := by
  obtain ⟨hs, hp, hn, ho⟩ := h
  cases st with
  | refl => exact ⟨hs, hp, hn, ho⟩
  | start r ha hph =>
    rcases hs with h | h | h | h
    · refine ⟨Or.inr (Or.inl ⟨rfl, hph, by simp [h.numExpected], by simp [h.consumed, h.reads], r, s.started,
        by simp [h.reqch], rfl, h.reads, fun ht => ?_⟩), PairsOK_append s r hp, by simp [h.numExpected], fun ht => ho ?_⟩
      all_goals simp only [Bool.or_eq_false_iff, Bool.not_eq_false', List.isEmpty_iff] at ht
      · exact Or.inl ⟨ht.2, (h.quiet ht.1).1⟩
      · exact ht.1
    all_goals rw [h.avail] at ha; cases ha
  | headBody r rest l wrest hph hrq hw _ keep =>
    obtain ⟨h1, h3, h4, rfl, hlen, hpairs, hown⟩ := PInv.at_head ⟨hs, hp, hn, ho⟩ hph hrq hw
    exact ⟨Or.inr (Or.inr (Or.inl ⟨h1, rfl, by simp [delivered, hlen], by simp [delivered, hlen, h4],
      by simp [delivered, h3], ⟨r, keep, rfl⟩, fun ht => (hown ht).2 ht⟩)), hpairs, by simp [delivered, h3],
      fun ht => (hown ht).1⟩
  | headPut r rest l wrest hph hrq hw =>
    obtain ⟨_, h3, h4, rfl, hlen, hpairs, hown⟩ := PInv.at_head ⟨hs, hp, hn, ho⟩ hph hrq hw
    exact ⟨Or.inl ⟨rfl, hph, rfl, by simp [delivered, hlen], by simp [delivered, hlen, h4], by simp [delivered, h3],
      fun ht => (hown ht).2 ht⟩, hpairs, by simp [delivered, h3], fun ht => (hown ht).1⟩
  | headClose r rest l wrest hph hrq hw =>
    obtain ⟨h1, h3, _, _, _, hpairs, hown⟩ := PInv.at_head ⟨hs, hp, hn, ho⟩ hph hrq hw
    exact ⟨Or.inr (Or.inr (Or.inr ⟨h1, rfl⟩)), hpairs, by simp [delivered, h3], fun ht => (hown ht).1⟩
  | bodyPut r keep hph =>
    have h := hs.at_body hph
    exact ⟨Or.inl ⟨rfl, rfl, h.reqch, h.reads, h.consumed, h.numExpected, h.quiet⟩, hp, hn, ho⟩
  | bodyClose r keep hph => exact ⟨Or.inr (Or.inr (Or.inr ⟨(hs.at_body hph).avail, rfl⟩)), hp, hn, ho⟩
  | close => exact ⟨Or.inr (Or.inr (Or.inr ⟨rfl, rfl⟩)), hp, hn, ho⟩
  | peerAnswer r hr =>
    -- a request is unanswered only in `Awaiting`, with an empty (untainted) wire
    have quiet : Quiet s → Quiet { s with wire := s.wire ++ [some r], answered := s.answered + 1 } := fun hq ht => by
      rw [(hq ht).1, List.getElem?_eq_none (Nat.le_refl _)] at hr; cases hr
    refine ⟨?_, hp, hn, ho⟩
    rcases hs with h | h | h | h
    · exact Or.inl { h with quiet := quiet h.quiet }
    · obtain ⟨r', pre, h5, h6, h7, h8⟩ := h.req
      refine Or.inr (Or.inl { h with req := ⟨r', pre, h5, h6, h7, fun ht => ?_⟩ })
      rcases h8 ht with ⟨e, ha⟩ | ⟨_, ha⟩
      · rw [ha, h6] at hr
        simp at hr; subst hr
        exact Or.inr ⟨by simp [e], by simp [ha]⟩
      · rw [ha, h6, List.getElem?_eq_none (by simp)] at hr; cases hr
    · exact Or.inr (Or.inr (Or.inl { h with quiet := quiet h.quiet }))
    · exact Or.inr (Or.inr (Or.inr { h with }))
  | peerExtra hcl =>
    have quiet : Quiet s → Quiet { s with wire := s.wire ++ [none], tainted := s.tainted || (s.phase == .peeking && s.numExpected != 0) } := fun hq ht => by
      obtain ⟨ha, hall⟩ := hq (Bool.or_eq_false_iff.1 ht).1
      exact ⟨ha, fun l hl => (List.mem_append.mp hl).elim (hall l) (by simp)⟩
    refine ⟨?_, hp, hn, fun ht => ho (Bool.or_eq_false_iff.1 ht).1⟩
    rcases hs with h | h | h | h
    · exact Or.inl { h with quiet := quiet h.quiet }
    · obtain ⟨r', pre, h5, h6, h7, _⟩ := h.req
      exact Or.inr (Or.inl { h with req := ⟨r', pre, h5, h6, h7, fun ht => by simp [h.phase, h.numExpected] at ht⟩ })
    · exact Or.inr (Or.inr (Or.inl { h with quiet := quiet h.quiet }))
    · exact absurd h.phase hcl

theorem PInv_run (s : St) (ops : List Op) (h : PInv s) : PInv (run s ops) := by
  induction ops generalizing s with
  | nil => exact h
  | cons op ops ih => exact ih _ (PInv_tr (step_tr s op) h)

/-- A closed connection stays closed and delivers nothing more. -/
theorem closed_tr {s s' : St} (st : Tr s s') (h : s.phase = .closed) :
    s'.phase = .closed ∧ s'.got = s.got ∧ s'.started = s.started := by
  cases st with
  | refl | peerAnswer | peerExtra => exact ⟨h, rfl, rfl⟩
  | start _ _ hp | headBody _ _ _ _ hp | headPut _ _ _ _ hp | headClose _ _ _ _ hp | bodyPut _ _ hp
  | bodyClose _ _ hp | close hp => rw [h] at hp; cases hp

theorem closed_run (s : St) (ops : List Op) (h : s.phase = .closed) :
    (run s ops).phase = .closed ∧ (run s ops).got = s.got ∧ (run s ops).started = s.started := by
  induction ops generalizing s with
  | nil => exact ⟨h, rfl, rfl⟩
  | cons op ops ih =>
    obtain ⟨h1, h2, h3⟩ := closed_tr (step_tr s op) h
    obtain ⟨i1, i2, i3⟩ := ih _ h1
    exact ⟨i1, by rw [← h2]; exact i2, by rw [← h3]; exact i3⟩

end Req.Lemmas.C09Pairing
