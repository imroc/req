import Req.H1.Origin
import Req.Client.Validate
import Req.Lemmas.TrimBy
import Req.Lemmas.ListFacts
/-! White-space trimming: `textproto.TrimString` (writer) vs OWS trimming (origin). -/
namespace Req.H1.Origin
open Req.Proto Req.Validate
open Req.Trim (trimBy trimBy_idem trimBy_congr)

theorem trimOWSLeft_eq (s : Bytes) : trimOWSLeft s = s.dropWhile isOWS := by
  induction s with
  | nil => rfl
  | cons c t ih => rw [trimOWSLeft, List.dropWhile_cons, ih]

theorem trimLeft_eq (s : Bytes) : trimLeft s = s.dropWhile isASCIISpace := by
  induction s with
  | nil => rfl
  | cons c t ih => rw [trimLeft, List.dropWhile_cons, ih]

theorem trimString_eq (v : Bytes) : trimString v = trimBy isASCIISpace v := by
  rw [trimString, trimLeft_eq, trimLeft_eq, trimBy]

theorem trimOWS_eq (v : Bytes) : trimOWS v = trimBy isOWS v := by
  rw [trimOWS, trimOWSLeft_eq, trimOWSLeft_eq, trimBy]

theorem trimOWS_idem (v : Bytes) : trimOWS (trimOWS v) = trimOWS v := by
  simp only [trimOWS_eq, trimBy_idem]

theorem space_eq_ows {b : UInt8} (h : b ≠ 13 ∧ b ≠ 10) : isASCIISpace b = isOWS b := by
  have h1 : (b == 10) = false := by simpa using h.2
  have h2 : (b == 13) = false := by simpa using h.1
  simp [isASCIISpace, isOWS, h1, h2]

theorem trimString_eq_trimOWS (v : Bytes) (h : ∀ b ∈ v, b ≠ 13 ∧ b ≠ 10) :
    trimString v = trimOWS v := by
  rw [trimString_eq, trimOWS_eq, trimBy_congr fun b hb => space_eq_ows (h b hb)]

theorem newlineToSpace_id (v : Bytes) (h : ∀ b ∈ v, b ≠ 13 ∧ b ≠ 10) : newlineToSpace v = v := by
  unfold newlineToSpace
  induction v with
  | nil => rfl
  | cons c t ih =>
    have hc := h c (by simp)
    have h1 : (c == 10) = false := by simpa using hc.2
    have h2 : (c == 13) = false := by simpa using hc.1
    simp only [List.map_cons, h1, h2, Bool.or_self, Bool.false_eq_true, if_false]
    rw [ih (fun b hb => h b (by simp [hb]))]

theorem validValue_no_crlf (v : Bytes) (h : validHeaderFieldValue v = true) :
    ∀ b ∈ v, b ≠ 13 ∧ b ≠ 10 :=
  fun b hb => ⟨List.all_ne h (by decide) b hb, List.all_ne h (by decide) b hb⟩

/-- a value that passes `validateHeaders` is written exactly as given, minus surrounding optional
white space: nothing inside it is altered. -/
theorem sanitizeValue_of_valid (v : Bytes) (h : validHeaderFieldValue v = true) :
    sanitizeValue v = trimOWS v := by
  unfold sanitizeValue
  have hn := validValue_no_crlf v h
  rw [newlineToSpace_id v hn, trimString_eq_trimOWS v hn]

theorem trimString_subset (s : Bytes) : ∀ b ∈ trimString s, b ∈ s :=
  fun _ hb => Req.Trim.trimBy_subset isASCIISpace s (trimString_eq s ▸ hb)

/-- a sanitised value never holds CR or LF: no caller value can start a new line. -/
theorem sanitizeValue_no_crlf (v : Bytes) : ∀ b ∈ sanitizeValue v, b ≠ 13 ∧ b ≠ 10 := by
  intro b hb
  unfold sanitizeValue at hb
  have := trimString_subset _ b hb
  unfold newlineToSpace at this
  obtain ⟨c, _, rfl⟩ := List.mem_map.mp this
  split
  · decide
  next h => simp only [Bool.or_eq_true, beq_iff_eq, not_or] at h; exact ⟨h.2, h.1⟩

end Req.H1.Origin
