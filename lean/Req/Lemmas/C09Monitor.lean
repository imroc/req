import Req.Pool.Monitor
/-! What acceptance by the history monitor implies (C09). -/
namespace Req.Lemmas.C09Monitor
open Req.Pool.Monitor

/-- An accepted run passed every event in the state its prefix had reached. -/
theorem runFrom_ok_split (cfg : Cfg) (e : Ev) (post : List Ev) : ∀ (pre : List Ev) (s : St) (i : Nat) (s' : St),
    runFrom cfg s i (pre ++ e :: post) = .ok s' →
      ∃ s₁ s₂, runFrom cfg s i pre = .ok s₁ ∧ step cfg s₁ e = .ok s₂ := by
  intro pre
  induction pre with
  | nil =>
    intro s i s' hrun
    simp only [List.nil_append, runFrom] at hrun
    cases hstep : step cfg s e with
    | error k => rw [hstep] at hrun; cases hrun
    | ok s2 => exact ⟨s, s2, rfl, hstep⟩
  | cons a t ih =>
    intro s i s' hrun
    simp only [List.cons_append, runFrom] at hrun ⊢
    cases hstep : step cfg s a with
    | error k => rw [hstep] at hrun; cases hrun
    | ok s1 => rw [hstep] at hrun; exact ih s1 (i + 1) s' hrun

/-- In a history the monitor accepts, every event passed `step` in the state reached by the events before it. -/
theorem check_ok_at (cfg : Cfg) (pre : List Ev) (e : Ev) (post : List Ev)
    (hacc : check cfg (pre ++ e :: post) = .ok ()) :
    ∃ s₁ s₂, runFrom cfg {} 0 pre = .ok s₁ ∧ step cfg s₁ e = .ok s₂ := by
  unfold check at hacc
  cases hr : runFrom cfg {} 0 (pre ++ e :: post) with
  | error e => rw [hr] at hacc; cases hacc
  | ok s => exact runFrom_ok_split cfg e post pre {} 0 s hr

theorem check_ok_mem (cfg : Cfg) (h : List Ev) (hacc : check cfg h = .ok ()) :
    ∀ e ∈ h, ∃ s₁ s₂, step cfg s₁ e = .ok s₂ := by
  intro e he
  obtain ⟨pre, post, rfl⟩ := List.append_of_mem he
  obtain ⟨s₁, s₂, _, hs⟩ := check_ok_at cfg pre e post hacc
  exact ⟨s₁, s₂, hs⟩

theorem ite_error_eq_ok {ε α : Type} {c : Prop} [Decidable c] {x : ε} {e : Except ε α} {a : α} :
    (if c then .error x else e) = .ok a ↔ ¬ c ∧ e = .ok a := by
  split <;> simp [*]

/-- A `done` event that the monitor lets pass echoes its own tag with an intact body. -/
theorem step_done_ok (cfg : Cfg) (s s' : St) (t echo : Nat) (ok early : Bool)
    (h : step cfg s (.done t echo ok early) = .ok s') : echo = t ∧ ok = true := by
  simp only [step, ite_error_eq_ok] at h
  simpa using h.2.2.1

/-- A `req` event on an HTTP/1.1 connection passes only if no request is outstanding on it. -/
theorem step_req_ok (cfg : Cfg) (s s' : St) (c t : Nat) (h : step cfg s (.req c t) = .ok s') :
    (s.outstanding.lookup c).isSome = false := by
  simp only [step] at h
  split at h
  · cases h
  · exact Bool.eq_false_iff.2 (ite_error_eq_ok.1 h).1

end Req.Lemmas.C09Monitor
