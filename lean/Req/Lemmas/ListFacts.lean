/-! Facts about core `List` that several models need and core does not state in this form. -/
namespace List

theorem getLast?_append_ne {α} (a b : List α) (hb : b ≠ []) : (a ++ b).getLast? = b.getLast? := by
  rw [getLast?_append]
  cases hl : b.getLast? with
  | none => exact absurd (getLast?_eq_none_iff.mp hl) hb
  | some z => rfl

theorem dropLast_append_of_getLast? {α} {l : List α} {a : α} (h : l.getLast? = some a) :
    l.dropLast ++ [a] = l := by
  obtain ⟨ys, rfl⟩ := getLast?_eq_some_iff.mp h
  simp

theorem mem_ite_l {α} {c : Prop} [Decidable c] {x a : α} (h : a ∈ (if c then [x] else [])) : a = x := by
  split at h <;> simp at h; exact h

theorem mem_ite_r {α} {c : Prop} [Decidable c] {x a : α} (h : a ∈ (if c then [] else [x])) : a = x := by
  split at h <;> simp at h; exact h

theorem mem_ite_lr {α} {c d : Prop} [Decidable c] [Decidable d] {x y a : α}
    (h : a ∈ (if c then [x] else if d then [y] else [])) : a = x ∨ a = y := by
  split at h
  · simp at h; exact Or.inl h
  · exact Or.inr (mem_ite_l h)

theorem flatMap_filter {α β} (c : α → Bool) (g : α → List β) (l : List α) :
    (l.filter c).flatMap g = l.flatMap fun x => if c x then g x else [] := by
  induction l with
  | nil => rfl
  | cons x xs ih => cases h : c x <;> simp [h, ih]

theorem flatMap_filter_of_nil {α β} (p : α → Bool) (g : α → List β)
    (hg : ∀ a, p a = false → g a = []) (l : List α) : (l.filter p).flatMap g = l.flatMap g := by
  rw [flatMap_filter]
  congr
  funext a
  cases hp : p a
  · exact (hg a hp).symm
  · rfl

theorem all_imp {α} {q r : α → Bool} (h : ∀ c, q c = true → r c = true) {s : List α}
    (hs : s.all q = true) : s.all r = true :=
  all_eq_true.mpr fun x hx => h x (all_eq_true.mp hs x hx)

theorem not_mem_of_all {α} {p : α → Bool} {s : List α} (h : s.all p = true) {c : α} (hc : p c = false) :
    c ∉ s := fun m => by
  rw [all_eq_true.mp h c m] at hc
  cases hc

theorem all_ne {α} {p : α → Bool} {s : List α} (h : s.all p = true) {c : α} (hc : p c = false) :
    ∀ b ∈ s, b ≠ c :=
  fun _ hb e => not_mem_of_all h hc (e ▸ hb)

theorem append_eq_append_of_length_le {α : Type} {a b c d : List α} (h : a ++ b = c ++ d)
    (hl : c.length ≤ a.length) : ∃ a', a = c ++ a' ∧ d = a' ++ b := by
  rw [← take_append_drop c.length a, append_assoc] at h
  obtain ⟨h1, h2⟩ := append_inj h (length_take_of_le hl)
  exact ⟨a.drop c.length, (take_append_drop c.length a).symm.trans (by rw [h1]), h2.symm⟩

theorem eq_of_key_eq {α β} {key : α → β} {l : List α} (hnd : (l.map key).Nodup) {a b : α}
    (ha : a ∈ l) (hb : b ∈ l) (hk : key a = key b) : a = b := by
  induction l with
  | nil => cases ha
  | cons x xs ih =>
    rw [map_cons, nodup_cons] at hnd
    rcases mem_cons.mp ha with rfl | ha' <;> rcases mem_cons.mp hb with rfl | hb'
    · rfl
    · exact absurd (hk ▸ mem_map_of_mem (f := key) hb') hnd.1
    · exact absurd (hk ▸ mem_map_of_mem (f := key) ha') hnd.1
    · exact ih hnd.2 ha' hb'

section lookup
variable {α β : Type} [BEq α] [LawfulBEq α] {m : List (α × β)} {a : α}

theorem lookup_mem {b : β} (h : m.lookup a = some b) : (a, b) ∈ m := by
  obtain ⟨l1, l2, e, _⟩ := lookup_eq_some_iff.mp h
  rw [e]; simp

theorem lookup_none_not_mem (h : m.lookup a = none) (b : β) : (a, b) ∉ m := fun hm => by
  have := lookup_eq_none_iff.mp h _ hm
  simp at this

omit [BEq α] [LawfulBEq α] in
theorem filter_keys_nodup (p : α × β → Bool) (hn : (m.map Prod.fst).Nodup) : ((m.filter p).map Prod.fst).Nodup :=
  hn.sublist (Sublist.map _ filter_sublist)

end lookup

end List
