import Req.Client.DumpStop
/-! The asynchronous queue with its `Stop` sentinel (`Req.Client.DumpStop`): `QueueInv` along every schedule of
one channel program, and `ClientInv` (a sentinel is the last item of its program) along every sequence of
client operations. -/
namespace Req.Client.DumpStop
open Req.Proto Req.Client.Dump

/-- What the `Start` loop has written, with what it has still to take up to the sentinel, is the program up to
the sentinel; once it has returned, what it wrote is all of that. -/
def QueueInv (prog : List Item) (q : Q) : Prop :=
  if q.running then q.written ++ upToStop (q.queue ++ q.todo) = upToStop prog
  else q.written = upToStop prog

theorem queueInv_step (cap : Nat) (prog : List Item) (q q' : Q) (st : Step)
    (h : QueueInv prog q) (hs : q.step cap st = some q') : QueueInv prog q' := by
  unfold QueueInv at h ⊢
  cases st with
  | send =>
    simp only [Q.step] at hs
    split at hs
    · cases hs
    · rename_i x rest htodo
      split at hs
      · cases hs
        simp only [htodo] at h
        simpa [List.append_assoc] using h
      · cases hs
  | recv =>
    simp only [Q.step] at hs
    split at hs
    · rename_i hr
      simp only [hr, if_true] at h
      split at hs
      · cases hs
      · rename_i e rest hq
        cases hs
        simp only [hr, if_true]
        rw [hq] at h
        simpa [upToStop, List.append_assoc] using h
      · rename_i rest hq
        cases hs
        rw [hq] at h
        simpa [upToStop] using h
    · cases hs

theorem queueInv_run (cap : Nat) (prog : List Item) (sched : List Step) (q : Q) (h : QueueInv prog q) :
    QueueInv prog (q.run cap sched) := by
  induction sched generalizing q with
  | nil => exact h
  | cons st rest ih =>
    simp only [Q.run]
    cases hs : q.step cap st with
    | none => exact ih q h
    | some q' => exact ih q' (queueInv_step cap prog q q' st h hs)

theorem noStop_snoc_task (l : List Item) (e : Event) : noStop (l ++ [.task e]) = noStop l := by
  induction l with
  | nil => rfl
  | cons x rest ih => cases x <;> simp [noStop, ih]

theorem upToStop_of_stop_last (l : List Item) (h : noStop l.dropLast = true) :
    upToStop (l ++ [.stop]) = tasksOf l := by
  induction l with
  | nil => rfl
  | cons x rest ih =>
    cases rest with
    | nil => cases x <;> rfl
    | cons y r =>
      cases x with
      | stop => simp [noStop] at h
      | task e =>
        show e :: upToStop ((y :: r) ++ [.stop]) = _
        rw [ih (by simpa [noStop] using h)]
        rfl

/-- In every dumper generation's channel program a sentinel — if there is one — is the last item,
and a generation that is still live has none; generations not yet made have sent nothing. -/
def ClientInv (s : CSt) : Prop :=
  (∀ g, noStop (s.progs g).dropLast = true) ∧
  (∀ g, s.live = some g → noStop (s.progs g) = true ∧ g < s.count) ∧
  (∀ g, s.count ≤ g → s.progs g = [])

theorem clientInv_fresh (s : CSt) (h : ClientInv s) : ClientInv s.fresh := by
  obtain ⟨h1, h2, h3⟩ := h
  refine ⟨fun g => ?_, fun g hg => ?_, fun g hg => ?_⟩
  · by_cases hg : g = s.count
    · simp [CSt.fresh, hg, noStop]
    · simpa [CSt.fresh, hg] using h1 g
  · cases hg
    simp [CSt.fresh, noStop]
  · have : g ≠ s.count := by simp only [CSt.fresh] at hg; omega
    simpa [CSt.fresh, this] using h3 g (by simp only [CSt.fresh] at hg; omega)

theorem clientInv_send (s : CSt) (h : ClientInv s) (g : Nat) (hl : s.live = some g) (x : Item) :
    (∀ j, noStop ((s.send g x).progs j).dropLast = true) ∧
    (∀ j, s.count ≤ j → (s.send g x).progs j = []) := by
  obtain ⟨h1, h2, h3⟩ := h
  refine ⟨fun j => ?_, fun j hj => ?_⟩
  · by_cases hj : j = g
    · subst hj; simpa [CSt.send] using (h2 j hl).1
    · simpa [CSt.send, hj] using h1 j
  · have : j ≠ g := by have := (h2 g hl).2; omega
    simpa [CSt.send, this] using h3 j hj

theorem clientInv_step (s : CSt) (op : COp) (h : ClientInv s) : ClientInv (cstep s op) := by
  cases op with
  | hold | release | setOpts o => exact h
  | clone =>
    simp only [cstep]
    split
    · exact h
    · exact clientInv_fresh s h
  | enable =>
    simp only [cstep]
    split
    · exact h
    · exact clientInv_fresh { s with opts := _ } h
  | dump p data =>
    simp only [cstep]
    split
    · exact h
    · next g hl =>
      split
      · exact h
      · obtain ⟨hlast, hfuture⟩ := clientInv_send s h g hl (.task ⟨_, data⟩)
        refine ⟨hlast, fun j hj => ?_, hfuture⟩
        have hj : s.live = some j := hj
        rw [hl] at hj; cases hj
        simpa [CSt.send, noStop_snoc_task] using h.2.1 g hl
  | disable =>
    simp only [cstep]
    split
    · exact h
    · next g hl =>
      obtain ⟨hlast, hfuture⟩ := clientInv_send s h g hl .stop
      exact ⟨hlast, nofun, hfuture⟩

/-- `DisableDumpAll` never leaves anything behind the sentinel, after ANY sequence of client operations. -/
theorem clientInv_run (ops : List COp) (s : CSt) (h : ClientInv s) : ClientInv (ops.foldl cstep s) :=
  List.foldlRecOn ops cstep h fun s h op _ => clientInv_step s op h

end Req.Client.DumpStop
