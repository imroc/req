import Req.Client.DecodeSettings
/-! C15 settings: one operation on a family of clients acts on the configurations as it acts on the lineages of
setter calls that produced them (`fam_step`). -/
namespace Req.Decode
open Req.Proto

theorem map_modify {α β : Type} (f : α → β) (g : α → α) (g' : β → β)
    (h : ∀ a, f (g a) = g' (f a)) (l : List α) (i : Nat) :
    (l.modify i g).map f = (l.map f).modify i g' := by
  induction l generalizing i with
  | nil => simp
  | cons a l ih =>
    cases i with
    | zero => simp [h]
    | succ i => simp [ih]

theorem applyOps_snoc (c : Config) (l : List SetOp) (op : SetOp) :
    applyOps c (l ++ [op]) = SetOp.apply (applyOps c l) op := by
  simp [applyOps, List.foldl_append]

theorem fam_step (ls : List (List SetOp)) (op : FamOp) :
    (FamOp.applyLin ls op).map (applyOps Config.default) =
      FamOp.apply (ls.map (applyOps Config.default)) op := by
  cases op with
  | on i op =>
    simp only [FamOp.applyLin, FamOp.apply]
    exact map_modify _ _ _ (fun l => applyOps_snoc _ l op) ls i
  | clone i =>
    simp only [FamOp.applyLin, FamOp.apply, List.getElem?_map]
    cases ls[i]? <;> simp

end Req.Decode
