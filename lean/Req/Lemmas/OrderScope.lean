import Req.Client.OrderScope
/-!
Client-level order settings (`Req.OrderScope`): an operation leaves the clients it does not touch alone
(`run_untouched`), and the state of a client after any sequence of operations is the replay of its own
history (`run_eq_replay_rev`).
-/
namespace Req.OrderScope
open Req.Proto

@[simp] theorem upd_same (st : Store) (c : Nat) (v : CState) : upd st c v c = v := by simp [upd]
@[simp] theorem upd_other (st : Store) (c j : Nat) (v : CState) (h : j ≠ c) : upd st c v j = st j := by
  simp [upd, h]

theorem run_snoc (st : Store) (ops : List Op) (o : Op) : run st (ops ++ [o]) = apply (run st ops) o := by
  simp [run, List.foldl_append]

theorem apply_untouched (st : Store) (o : Op) (c : Nat) (h : touches o c = false) :
    apply st o c = st c := by
  cases o <;> exact upd_other _ _ _ _ fun e => by simp [touches, e] at h

theorem run_untouched (ops : List Op) (c : Nat) :
    ∀ st : Store, (∀ o ∈ ops, touches o c = false) → run st ops c = st c := by
  induction ops with
  | nil => intro _ _; rfl
  | cons o t ih =>
    intro st h
    exact (ih _ fun o' ho' => h o' (List.mem_cons_of_mem _ ho')).trans
      (apply_untouched st o c (h o (List.mem_cons_self ..)))

theorem replay_snoc (h : List Cfg) (x : Cfg) : replay (h ++ [x]) = applyCfg (replay h) x := by
  simp [replay, List.foldl_append]

theorem run_eq_replay_rev (rops : List Op) : ∀ c, run fresh rops.reverse c = replay (historyRev rops c) := by
  induction rops with
  | nil => intro c; rfl
  | cons o older ih =>
    intro c
    rw [List.reverse_cons, run_snoc]
    cases o with
    | setOrder c' l | setPseudo c' l =>
      by_cases e : c' = c
      · subst e; simp [apply, historyRev, replay_snoc, applyCfg, ih]
      · simp [apply, historyRev, e, Ne.symm e, ih]
    | clone s d =>
      by_cases e : d = c
      · subst e; simp [apply, historyRev, ih]
      · simp [apply, historyRev, e, Ne.symm e, ih]

end Req.OrderScope
