import Req.C02.H1Body
import Req.Lemmas.C02Bufio
import Req.Lemmas.C02Reader
/-!
The declared-length body (`io.LimitedReader` inside `body`) and the close-delimited body hand
out exactly "the next n bytes of the wire" / "the rest of the wire" for every segmentation
(`limited_exact`, `close_exact`).
-/
namespace Req.C02
open Req.Proto

/-- One `Read` on a declared-length body whose bytes are all on the wire: a prefix of them, and
EOF exactly with the last one. -/
theorem limited_read (bd : H1Body) (k : Nat) (m : Nat) (hsrc : bd.src = .limited m) (hm : 0 < m)
    (hle : m ≤ bd.br.rem.length) (hs : bd.sawEOF = false) (hc : bd.closed = false) (hw : bd.br.WF)
    (d : Bytes) (e : Option IOErr) (bd' : H1Body) (h : bd.read k = ((d, e), bd')) :
    bd'.trailer = bd.trailer ∧ bd.br.rem = d ++ bd'.br.rem ∧ bd'.br.WF ∧ bd'.closed = false ∧
    bd'.src = .limited (m - d.length) ∧ (0 < k → d ≠ []) ∧
    ((e = none ∧ d.length < m ∧ bd'.sawEOF = false) ∨ (e = some .eof ∧ d.length = m)) := by
  have hrem : bd.br.rem ≠ [] := fun h0 => by
    rw [h0] at hle; exact Nat.not_succ_le_zero _ (Nat.le_trans hm hle)
  rcases hr : bd.br.read (min k m) with ⟨⟨d0, e0⟩, br'⟩
  have hsplit := (Bufio.read_any _ _ _ _ _ hr).split
  have hlen := (Bufio.read_any _ _ _ _ _ hr).le
  obtain ⟨hw', ⟨rfl, hprog⟩ | ⟨_, h0, _⟩⟩ := (Bufio.read_any _ _ _ _ _ hr).wf hw
  · unfold H1Body.read H1Body.readLocked at h
    simp only [hc, hs, hsrc, hr, Nat.ne_of_gt hm, Bool.false_eq_true, if_false] at h
    by_cases hfull : d0.length > 0 ∧ m - d0.length = 0
    · rw [if_pos hfull] at h
      cases h
      exact ⟨rfl, hsplit, hw', rfl, rfl, fun hk => hprog (Nat.lt_min.mpr ⟨hk, hm⟩), .inr ⟨rfl, by omega⟩⟩
    · rw [if_neg hfull] at h
      cases h
      exact ⟨rfl, hsplit, hw', rfl, rfl, fun hk => hprog (Nat.lt_min.mpr ⟨hk, hm⟩), .inl ⟨rfl, by omega, rfl⟩⟩
  · exact absurd h0 hrem

/-- The declared-length body still has to hand out `E`; `rest` follows on the wire. -/
structure LimRel (rest : Bytes) (bd : H1Body) (E : Bytes) : Prop where
  src : bd.src = .limited E.length
  ne : E ≠ []
  rem : bd.br.rem = E ++ rest
  sawEOF : bd.sawEOF = false
  closed : bd.closed = false
  wf : bd.br.WF
  trailer : bd.trailer = none

theorem limited_exact (rest : Bytes) :
    ExactR H1Body.read (LimRel rest) IOErr.eof (fun bd => bd.trailer = none ∧ bd.br.rem = rest)
      (fun _ E => E.length) :=
  .of_read fun {bd E k d e bd'} ⟨hsrc, hne, hrem, hs, hc, hw, ht⟩ h => by
    obtain ⟨htr, hsplit, hw', hc', hsrc', hprog, ⟨rfl, hlt, hs'⟩ | ⟨rfl, heq⟩⟩ :=
      limited_read bd k E.length hsrc (List.length_pos_iff.mpr hne)
        (by rw [hrem, List.length_append]; exact Nat.le_add_right _ _) hs hc hw d e bd' h
    all_goals rw [hrem] at hsplit
    · refine ⟨fun _ => ?_, nofun⟩
      obtain ⟨E', rfl, hr'⟩ := List.append_eq_append_of_length_le hsplit (Nat.le_of_lt hlt)
      refine ⟨E', rfl, ⟨by rw [hsrc']; simp, ?_, hr', hs', hc', hw', htr.trans ht⟩, hprog⟩
      intro h0; subst h0; simp at hlt
    · refine ⟨nofun, fun x hx => ?_⟩
      obtain ⟨hd, hr⟩ := List.append_inj hsplit heq.symm
      exact ⟨(Option.some.inj hx).symm, hd, htr.trans ht, hr.symm⟩

/-- `net.fin = .eof`: the connection ends with FIN.  A close-delimited body whose connection ends
in a reset is outside `close_exact`. -/
def CloseInv (bd : H1Body) : Prop :=
  bd.src = .untilClose ∧ bd.sawEOF = false ∧ bd.closed = false ∧ bd.br.WF ∧ bd.br.net.fin = .eof

theorem close_read (bd : H1Body) (k : Nat) (hinv : CloseInv bd)
    (d : Bytes) (e : Option IOErr) (bd' : H1Body) (h : bd.read k = ((d, e), bd')) :
    bd'.trailer = bd.trailer ∧ bd.br.rem = d ++ bd'.br.rem ∧ (0 < k → e = none → d ≠ []) ∧
    (e = none → CloseInv bd') ∧ (∀ x, e = some x → x = .eof ∧ bd.br.rem = [] ∧ d = []) := by
  obtain ⟨hsrc, hs, hc, hw, hfin⟩ := hinv
  rcases hr : bd.br.read k with ⟨⟨d0, e0⟩, br'⟩
  unfold H1Body.read H1Body.readLocked at h
  simp only [hc, hs, hsrc, hr, Bool.false_eq_true, if_false] at h
  have hfin' := (Bufio.read_any _ _ _ _ _ hr).fin
  have hsplit := (Bufio.read_any _ _ _ _ _ hr).split
  obtain ⟨hw', ⟨rfl, hprog⟩ | ⟨rfl, hrem, rfl⟩⟩ := (Bufio.read_any _ _ _ _ _ hr).wf hw
  · cases h
    exact ⟨rfl, hsplit, fun hk _ => hprog hk, fun _ => ⟨rfl, rfl, rfl, hw', hfin'.trans hfin⟩,
      fun _ hx => (nomatch hx)⟩
  · rw [hfin] at h
    cases h
    exact ⟨rfl, hsplit, fun _ h0 => (nomatch h0), fun h0 => (nomatch h0),
      fun x hx => ⟨(Option.some.inj hx).symm, hrem, rfl⟩⟩

/-- The close-delimited body still has to hand out `E`, the whole rest of the wire. -/
def CloseRel (bd : H1Body) (E : Bytes) : Prop := CloseInv bd ∧ bd.trailer = none ∧ bd.br.rem = E

theorem close_exact :
    ExactR H1Body.read CloseRel IOErr.eof (fun bd => bd.trailer = none ∧ bd.br.rem = [])
      (fun _ E => E.length) :=
  .of_read fun {bd E k d e bd'} ⟨hinv, ht, hrem⟩ h => by
    obtain ⟨htr, hsplit, hprog, hi, hx⟩ := close_read bd k hinv d e bd' h
    subst hrem
    refine ⟨fun he => ⟨bd'.br.rem, hsplit, ⟨hi he, htr.trans ht, rfl⟩, fun hk => hprog hk he⟩,
      fun x hx' => ?_⟩
    obtain ⟨rfl, h0, rfl⟩ := hx x hx'
    rw [h0] at hsplit
    exact ⟨rfl, h0, htr.trans ht, (List.nil_eq_append_iff.mp hsplit).2⟩

theorem close_only_eof (bd : H1Body) (k : Nat) (hinv : CloseInv bd) (d : Bytes) (e : IOErr)
    (bd' : H1Body) (h : bd.read k = ((d, some e), bd')) : e = .eof := by
  obtain ⟨_, _, _, _, hend⟩ := close_read bd k hinv d (some e) bd' h
  exact (hend e rfl).1

end Req.C02
