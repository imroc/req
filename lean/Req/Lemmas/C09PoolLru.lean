import Req.Lemmas.C09PoolExcl
/-! LRU / total-idle invariants of the pool model (C09). -/
namespace Req.Lemmas.C09PoolLru
open Req.Pool.H1Pool Req.Lemmas.C09Pool Req.Lemmas.C09PoolExcl

structure LruCore (s : St) : Prop where
  lruNodup : s.lru.Nodup
  idleInLru : ∀ k c, c ∈ s.idle k → c ∈ s.lru
  /-- closed and in no idle list: a broken connection that the scan of `queueForIdleConn` dropped from its idle
  list (`Move.prune` writes `idle` only) stays in the LRU list until `removeIdleConn` takes it off. -/
  lruIdleOrClosed : ∀ c, c ∈ s.lru → (∃ k, c ∈ s.idle k) ∨ s.closed c = true
  noDup : s.dupPanic = false
  closedCreated : ∀ c, s.closed c = true → s.ckey c ≠ none

def LruLen (cfg : Cfg) (s : St) : Prop := cfg.maxIdle ≠ 0 → s.lru.length ≤ cfg.maxIdle

theorem LruCore_of_closed_mono {s s' : St} (hi : s'.idle = s.idle) (hl : s'.lru = s.lru)
    (hd : s'.dupPanic = s.dupPanic)
    (hmono : ∀ x, s.closed x = true → s'.closed x = true)
    (hcr : ∀ x, s'.closed x = true → s'.ckey x ≠ none) (h : LruCore s) : LruCore s' where
  lruNodup := by rw [hl]; exact h.lruNodup
  idleInLru := by rw [hi, hl]; exact h.idleInLru
  lruIdleOrClosed := fun c hc => by
    rw [hl] at hc; rw [hi]
    rcases h.lruIdleOrClosed c hc with h1 | h1
    · exact Or.inl h1
    · exact Or.inr (hmono c h1)
  noDup := by rw [hd]; exact h.noDup
  closedCreated := hcr

theorem LruCore.frame {s s' : St} (h : LruCore s) (hi : s'.idle = s.idle := by rfl) (hl : s'.lru = s.lru := by rfl)
    (hd : s'.dupPanic = s.dupPanic := by rfl) (hc : s'.closed = s.closed := by rfl) (hk : s'.ckey = s.ckey := by rfl) :
    LruCore s' :=
  LruCore_of_closed_mono hi hl hd (by rw [hc]; intros; assumption) (by rw [hc, hk]; exact h.closedCreated) h

theorem closeConn_closed (cfg : Cfg) (s : St) (c x : Conn) :
    (closeConn cfg s c).closed x = true ↔ s.closed x = true ∨ (x = c ∧ s.ckey c ≠ none) := by
  unfold closeConn
  split
  · next hc =>
    constructor
    · exact Or.inl
    · rintro (h | ⟨rfl, _⟩)
      · exact h
      · exact hc
  · split
    · next hk => simp [hk]
    · next k hk =>
      simp only [decConns_closed, upd]
      constructor
      · intro h
        split at h
        · next he => exact Or.inr ⟨he, by simp [hk]⟩
        · exact Or.inl h
      · rintro (h | ⟨rfl, _⟩)
        · split
          · rfl
          · exact h
        · simp

theorem LruCore_closeConn (cfg : Cfg) (s : St) (c : Conn) (h : LruCore s) : LruCore (closeConn cfg s c) := by
  apply LruCore_of_closed_mono (s := s) (by simp) (by simp) (by simp) _ _ h
  · intro x hx; exact (closeConn_closed cfg s c x).mpr (Or.inl hx)
  · intro x hx
    simp only [closeConn_ckey]
    rcases (closeConn_closed cfg s c x).mp hx with h1 | ⟨rfl, h1⟩
    · exact h.closedCreated x h1
    · exact h1

theorem LruCore_decConns (cfg : Cfg) (s : St) (k : Key) (h : LruCore s) : LruCore (decConns cfg s k) :=
  h.frame (by simp) (by simp) (by simp) (by simp) (by simp)

theorem removeIdleLocked_idle_mem (s : St) (c : Conn) (he : Excl s) (k : Key) (x : Conn) :
    x ∈ (removeIdleLocked s c).1.idle k ↔ x ∈ s.idle k ∧ x ≠ c := by
  refine ⟨fun hx => ⟨removeIdleLocked_idle_subset s c k x hx, ?_⟩, fun h => removeIdleLocked_mem_of_ne s c x k h.2 h.1⟩
  rintro rfl
  have hk := he.idleKey k x (removeIdleLocked_idle_subset s x k x hx)
  rw [removeIdleLocked_fst, hk] at hx
  simp only [upd_same] at hx
  exact ((he.idleNodup k).mem_erase_iff.mp hx).1 rfl

theorem LruCore_removeIdleLocked (s : St) (c : Conn) (hk : s.ckey c ≠ none) (he : Excl s) (h : LruCore s) :
    LruCore (removeIdleLocked s c).1 where
  lruNodup := by rw [removeIdleLocked_lru s c hk]; exact h.lruNodup.erase c
  idleInLru := fun k x hx => by
    rw [removeIdleLocked_lru s c hk]
    obtain ⟨h1, h2⟩ := (removeIdleLocked_idle_mem s c he k x).mp hx
    exact (List.mem_erase_of_ne h2).mpr (h.idleInLru k x h1)
  lruIdleOrClosed := fun x hx => by
    rw [removeIdleLocked_lru s c hk] at hx
    obtain ⟨hne, hm⟩ := (List.Nodup.mem_erase_iff h.lruNodup).mp hx
    rcases h.lruIdleOrClosed x hm with ⟨k, hk'⟩ | hcl
    · exact Or.inl ⟨k, (removeIdleLocked_idle_mem s c he k x).mpr ⟨hk', hne⟩⟩
    · exact Or.inr (by simpa using hcl)
  noDup := by simp [h.noDup]
  closedCreated := by simpa using h.closedCreated

theorem LruLen_erase (cfg : Cfg) (s s' : St) (c : Conn) (hl : s'.lru = s.lru.erase c) (h : LruLen cfg s) :
    LruLen cfg s' := by
  intro hm; rw [hl]; exact Nat.le_trans List.length_erase_le (h hm)

theorem lru_created (s : St) (c : Conn) (he : Excl s) (h : LruCore s) (hc : c ∈ s.lru) : s.ckey c ≠ none := by
  rcases h.lruIdleOrClosed c hc with ⟨k, hk⟩ | hcl
  · rw [he.idleKey k c hk]; simp
  · exact h.closedCreated c hcl

theorem LruCore_create (s : St) (c : Conn) (k : Key) (hfresh : s.ckey c = none) (he : Excl s) (h : LruCore s) :
    LruCore { s with ckey := upd s.ckey c (some k), closed := upd s.closed c false } := by
  have hnl : c ∉ s.lru := fun hc => lru_created s c he h hc hfresh
  refine { h with lruIdleOrClosed := ?_, closedCreated := ?_ }
  · intro x hx
    rcases h.lruIdleOrClosed x hx with h1 | h1
    · exact Or.inl h1
    · refine Or.inr ?_
      have : x ≠ c := by intro e; subst e; exact hnl hx
      simp only [upd, this, if_false]; exact h1
  · intro x hx
    simp only [upd] at hx ⊢
    split at hx
    · cases hx
    · next hne => simp only [hne, if_false]; exact h.closedCreated x hx

theorem LruCore_init : LruCore {} :=
  ⟨by simp, by intro k c hc; simp at hc, by intro c hc; simp at hc, rfl, by intro c hc; simp at hc⟩

theorem flatMap_idle_nodup (s : St) (he : Excl s) (ks : List Key) (hks : ks.Nodup) :
    (ks.flatMap s.idle).Nodup := by
  induction ks with
  | nil => simp
  | cons k rest ih =>
    obtain ⟨hk, hrest⟩ := List.nodup_cons.mp hks
    simp only [List.flatMap_cons]
    rw [List.nodup_append]
    refine ⟨he.idleNodup k, ih hrest, ?_⟩
    intro a ha b hb hab
    subst hab
    obtain ⟨k', hk', hbk'⟩ := List.mem_flatMap.mp hb
    have e1 := he.idleKey k a ha
    have e2 := he.idleKey k' a hbk'
    rw [e1] at e2; simp at e2; subst e2
    exact hk hk'

/-- Over any set of distinct keys, the idle lists together hold at most `|idleLRU|` connections. -/
theorem total_idle_le_lru (s : St) (he : Excl s) (h : LruCore s) (ks : List Key) (hks : ks.Nodup) :
    (ks.map (fun k => (s.idle k).length)).sum ≤ s.lru.length := by
  rw [← List.length_flatMap]
  refine (flatMap_idle_nodup s he ks hks).length_le_of_subset fun x hx => ?_
  obtain ⟨k, _, hk⟩ := List.mem_flatMap.mp hx
  exact h.idleInLru k x hk

end Req.Lemmas.C09PoolLru
