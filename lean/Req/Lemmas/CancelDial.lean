import Req.Pool.CancelDial
import Req.Lemmas.Lts
namespace Req.Lemmas.CancelDial
open Req.CancelDial

theorem mem_allActs (a : Act) : a ∈ allActs := by cases a <;> decide

theorem run_lts {s s' : St} {as : List Act} (h : Run s as s') : Lts.Run guard apply s as s' := by
  induction h with
  | nil s => exact .nil s
  | cons g _ ih => exact .cons g ih

/-- the number of steps still possible: one per waiter still waiting, one for the dial to end -/
def mu (s : St) : Nat :=
  (if s.me = .waiting then 1 else 0) + (if s.other = .waiting then 1 else 0) +
  (if s.dial.finished then 0 else 1)

theorem mu_dec (s : St) (a : Act) (g : guard s a = true) : mu (apply s a) < mu s := by
  rcases s with ⟨dial, st, ctx, me, other⟩
  cases a <;>
    simp only [CancelDial.guard, Bool.and_eq_true, beq_iff_eq, Bool.not_eq_true', Option.isSome_iff_exists] at g
  · obtain ⟨rfl, e, rfl⟩ := g
    simp only [mu, CancelDial.apply]; grind
  · obtain ⟨rfl, _⟩ := g
    simp only [mu, CancelDial.apply]; grind
  · obtain ⟨rfl, _⟩ := g
    simp only [mu, CancelDial.apply]; grind
  · obtain ⟨⟨hf, _⟩, _⟩ := g
    cases dial <;> simp only [Dial.finished, Bool.true_eq_false] at hf <;>
      (simp [mu, CancelDial.apply, Dial.finished]; try exact Nat.lt_succ_self _)

theorem mu_le (s : St) : mu s ≤ 3 := by
  unfold mu; split <;> split <;> split <;> omega

end Req.Lemmas.CancelDial
