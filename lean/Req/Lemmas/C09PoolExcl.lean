import Req.Lemmas.C09Pool
/-! Exclusivity invariants of the pool model (C09): every connection is in at most one place. -/
namespace Req.Lemmas.C09PoolExcl
open Req.Pool.H1Pool Req.Lemmas.C09Pool

structure Excl (s : St) : Prop where
  idleNodup : ∀ k, (s.idle k).Nodup
  idleKey : ∀ k c, c ∈ s.idle k → s.ckey c = some k
  idleNotTransit : ∀ k c, c ∈ s.idle k → c ∉ s.transit
  idleNotHeld : ∀ k c w, c ∈ s.idle k → (s.wst w).holds c = false
  transitNodup : s.transit.Nodup
  transitNotHeld : ∀ c w, c ∈ s.transit → (s.wst w).holds c = false
  heldUnique : ∀ w₁ w₂ c, (s.wst w₁).holds c = true → (s.wst w₂).holds c = true → w₁ = w₂
  transitCreated : ∀ c, c ∈ s.transit → s.ckey c ≠ none
  heldCreated : ∀ w c, (s.wst w).holds c = true → s.ckey c ≠ none
  connsNodup : s.conns.Nodup
  connsCreated : ∀ c, c ∈ s.conns ↔ s.ckey c ≠ none

/-- `c` is in no pool structure and owned by no request. -/
def Free (s : St) (c : Conn) : Prop :=
  (∀ k, c ∉ s.idle k) ∧ c ∉ s.transit ∧ ∀ w, (s.wst w).holds c = false

theorem Excl_of_idle_subset {s s' : St} (hsub : ∀ k c, c ∈ s'.idle k → c ∈ s.idle k)
    (hnd : ∀ k, (s'.idle k).Nodup) (htr : s'.transit = s.transit) (hw : s'.wst = s.wst)
    (hck : s'.ckey = s.ckey) (hc : s'.conns = s.conns) (h : Excl s) : Excl s' where
  idleNodup := hnd
  idleKey := fun k c hc' => by rw [hck]; exact h.idleKey k c (hsub k c hc')
  idleNotTransit := fun k c hc' => by rw [htr]; exact h.idleNotTransit k c (hsub k c hc')
  idleNotHeld := fun k c w hc' => by rw [hw]; exact h.idleNotHeld k c w (hsub k c hc')
  transitNodup := by rw [htr]; exact h.transitNodup
  transitNotHeld := fun c w hc' => by rw [hw]; rw [htr] at hc'; exact h.transitNotHeld c w hc'
  heldUnique := by rw [hw]; exact h.heldUnique
  transitCreated := by rw [htr, hck]; exact h.transitCreated
  heldCreated := by rw [hw, hck]; exact h.heldCreated
  connsNodup := by rw [hc]; exact h.connsNodup
  connsCreated := by rw [hc, hck]; exact h.connsCreated

theorem Excl.frame {s s' : St} (h : Excl s) (hi : s'.idle = s.idle := by rfl) (htr : s'.transit = s.transit := by rfl)
    (hw : s'.wst = s.wst := by rfl) (hck : s'.ckey = s.ckey := by rfl) (hc : s'.conns = s.conns := by rfl) : Excl s' :=
  Excl_of_idle_subset (by rw [hi]; intros; assumption) (by rw [hi]; exact h.idleNodup) htr hw hck hc h

theorem Free_of_idle_subset {s s' : St} {c : Conn} (hsub : ∀ k x, x ∈ s'.idle k → x ∈ s.idle k)
    (htr : s'.transit = s.transit) (hw : s'.wst = s.wst) (h : Free s c) : Free s' c :=
  ⟨fun k hk => h.1 k (hsub k c hk), by rw [htr]; exact h.2.1, by rw [hw]; exact h.2.2⟩

theorem removeIdleLocked_idle_subset (s : St) (c : Conn) :
    ∀ k x, x ∈ (removeIdleLocked s c).1.idle k → x ∈ s.idle k := by
  rw [removeIdleLocked_fst]
  split
  · intros; assumption
  · intro k x hx
    simp only [upd] at hx
    split at hx
    · next heq => subst heq; exact List.mem_of_mem_erase hx
    · exact hx

theorem removeIdleLocked_mem_of_ne (s : St) (x c : Conn) (k : Key) (hne : c ≠ x) (h : c ∈ s.idle k) :
    c ∈ (removeIdleLocked s x).1.idle k := by
  rw [removeIdleLocked_fst]
  split
  · exact h
  · simp only [upd]
    split
    · next heq => subst heq; exact (List.mem_erase_of_ne hne).mpr h
    · exact h

theorem removeIdleLocked_idle_nodup (s : St) (c : Conn) (h : ∀ k, (s.idle k).Nodup) :
    ∀ k, ((removeIdleLocked s c).1.idle k).Nodup := by
  rw [removeIdleLocked_fst]
  split
  · exact h
  · intro k
    simp only [upd]
    split
    · next heq => subst heq; exact (h _).erase c
    · exact h k

theorem Excl_removeIdleLocked (s : St) (c : Conn) (h : Excl s) : Excl (removeIdleLocked s c).1 :=
  Excl_of_idle_subset (removeIdleLocked_idle_subset s c) (removeIdleLocked_idle_nodup s c h.idleNodup)
    (by simp) (by simp) (by simp) (by simp) h

theorem Excl_closeConn (cfg : Cfg) (s : St) (c : Conn) (h : Excl s) : Excl (closeConn cfg s c) :=
  h.frame (by simp) (by simp) (by simp) (by simp) (by simp)

theorem Excl_decConns (cfg : Cfg) (s : St) (k : Key) (h : Excl s) : Excl (decConns cfg s k) :=
  h.frame (by simp) (by simp) (by simp) (by simp) (by simp)

theorem Excl_evictOldest (cfg : Cfg) (s : St) (h : Excl s) : Excl (evictOldest cfg s) := by
  unfold evictOldest
  split
  · exact h
  · apply Excl_removeIdleLocked
    apply Excl_closeConn
    exact h.frame

theorem evictOldest_idle_subset (cfg : Cfg) (s : St) : ∀ k x, x ∈ (evictOldest cfg s).idle k → x ∈ s.idle k := by
  unfold evictOldest
  split
  · intros; assumption
  · intro k x hx
    have := removeIdleLocked_idle_subset _ _ k x hx
    simpa using this

@[simp] theorem evictOldest_transit (cfg : Cfg) (s : St) : (evictOldest cfg s).transit = s.transit := by
  unfold evictOldest; split <;> simp
@[simp] theorem evictOldest_ckey (cfg : Cfg) (s : St) : (evictOldest cfg s).ckey = s.ckey := by
  unfold evictOldest; split <;> simp

theorem Excl_appendIdle (s : St) (c : Conn) (k : Key) (hf : Free s c) (hk : s.ckey c = some k) (he : Excl s) :
    Excl { s with idle := upd s.idle k (s.idle k ++ [c]), lru := c :: s.lru } :=
  have hmem := mem_append_idle s.idle k
  { he with
    idleNodup := fun k' => by
      show (upd s.idle k (s.idle k ++ [c]) k').Nodup
      simp only [upd]; split
      · next e =>
        subst e
        exact List.nodup_append.mpr ⟨he.idleNodup _, by simp, fun a ha b hb e =>
          hf.1 _ (by rw [List.mem_singleton.mp hb] at e; exact e ▸ ha)⟩
      · exact he.idleNodup k'
    idleKey := fun k' x hx => ((hmem k' c x).mp hx).elim (he.idleKey k' x) fun ⟨e1, e2⟩ => by rw [e1, e2]; exact hk
    idleNotTransit := fun k' x hx =>
      ((hmem k' c x).mp hx).elim (he.idleNotTransit k' x) fun ⟨_, e2⟩ => by rw [e2]; exact hf.2.1
    idleNotHeld := fun k' x w hx =>
      ((hmem k' c x).mp hx).elim (he.idleNotHeld k' x w) fun ⟨_, e2⟩ => by rw [e2]; exact hf.2.2 w }

theorem Excl_addIdle (cfg : Cfg) (s : St) (c : Conn) (k : Key) (hf : Free s c) (hk : s.ckey c = some k)
    (h : Excl s) : Excl (addIdle cfg s c k) := by
  have h2 := Excl_appendIdle s c k hf hk h
  unfold addIdle
  simp only
  split
  · exact Excl_evictOldest cfg _ h2
  · exact h2

theorem holds_waiting (c : Conn) : WSt.waiting.holds c = false := rfl
theorem holds_gotErr (c : Conn) : WSt.gotErr.holds c = false := rfl
theorem holds_gotConn (c d : Conn) : (WSt.gotConn c).holds d = true ↔ c = d := by simp [WSt.holds]
theorem Excl_setWst (s : St) (w : Want) (v : WSt)
    (hv : ∀ d, v.holds d = true → (s.wst w).holds d = true ∨ (Free s d ∧ s.ckey d ≠ none)) (h : Excl s) :
    Excl { s with wst := upd s.wst w v } := by
  have hupd : ∀ w' d, (upd s.wst w v w').holds d = true →
      (s.wst w').holds d = true ∨ (w' = w ∧ Free s d ∧ s.ckey d ≠ none) := by
    intro w' d hd
    simp only [upd] at hd
    split at hd
    · next e => subst e; exact (hv d hd).imp id fun x => ⟨rfl, x⟩
    · exact .inl hd
  have hnot : ∀ w' d, (∀ u, (s.wst u).holds d = false) → (Free s d → False) → (upd s.wst w v w').holds d = false := by
    intro w' d hd hnf
    cases hh : (upd s.wst w v w').holds d with
    | false => rfl
    | true =>
      rcases hupd w' d hh with hold | ⟨_, hf, _⟩
      · rw [hd w'] at hold; cases hold
      · exact absurd hf hnf
  refine { h with idleNotHeld := ?_, transitNotHeld := ?_, heldUnique := ?_, heldCreated := ?_ }
  · intro k x w' hx
    exact hnot w' x (fun u => h.idleNotHeld k x u hx) fun hf => hf.1 k hx
  · intro x w' hx
    exact hnot w' x (fun u => h.transitNotHeld x u hx) fun hf => hf.2.1 hx
  · intro w₁ w₂ d h1 h2
    rcases hupd w₁ d h1 with o1 | ⟨e1, hf, _⟩ <;> rcases hupd w₂ d h2 with o2 | ⟨e2, hf', _⟩
    · exact h.heldUnique w₁ w₂ d o1 o2
    · rw [hf'.2.2 w₁] at o1; cases o1
    · rw [hf.2.2 w₂] at o2; cases o2
    · rw [e1, e2]
  · intro w' d hd
    rcases hupd w' d hd with hold | ⟨_, _, hck⟩
    · exact h.heldCreated w' d hold
    · exact hck

theorem Excl_deliver (s : St) (w : Want) (c : Conn) (hf : Free s c) (hck : s.ckey c ≠ none) (h : Excl s) :
    Excl { s with wst := upd s.wst w (.gotConn c) } :=
  Excl_setWst s w _ (fun d hd => by obtain rfl := (holds_gotConn c d).mp hd; exact .inr ⟨hf, hck⟩) h

theorem Excl_release (s : St) (w : Want) (v : WSt) (hv : ∀ d, v.holds d = false) (h : Excl s) :
    Excl { s with wst := upd s.wst w v } :=
  Excl_setWst s w v (fun d hd => by rw [hv d] at hd; cases hd) h

theorem Excl_toTransit (s : St) (c : Conn) (hf : Free s c) (hck : s.ckey c ≠ none) (h : Excl s) :
    Excl { s with transit := c :: s.transit } := by
  refine ⟨h.idleNodup, h.idleKey, ?_, h.idleNotHeld, ?_, ?_, h.heldUnique, ?_, h.heldCreated,
    h.connsNodup, h.connsCreated⟩
  · intro k x hx hmem
    rcases List.mem_cons.mp hmem with rfl | hm
    · exact hf.1 k hx
    · exact h.idleNotTransit k x hx hm
  · exact List.nodup_cons.mpr ⟨hf.2.1, h.transitNodup⟩
  · intro x w hx
    rcases List.mem_cons.mp hx with rfl | hm
    · exact hf.2.2 w
    · exact h.transitNotHeld x w hm
  · intro x hx
    rcases List.mem_cons.mp hx with rfl | hm
    · exact hck
    · exact h.transitCreated x hm

theorem Excl_transit_erase (s : St) (c : Conn) (h : Excl s) :
    Excl { s with transit := s.transit.erase c } := by
  refine ⟨h.idleNodup, h.idleKey, ?_, h.idleNotHeld, h.transitNodup.erase c, ?_, h.heldUnique, ?_,
    h.heldCreated, h.connsNodup, h.connsCreated⟩
  · intro k x hx hm; exact h.idleNotTransit k x hx (List.mem_of_mem_erase hm)
  · intro x w hx; exact h.transitNotHeld x w (List.mem_of_mem_erase hx)
  · intro x hx; exact h.transitCreated x (List.mem_of_mem_erase hx)

theorem Free_after_transit_erase (s : St) (c : Conn) (hc : c ∈ s.transit) (h : Excl s) :
    Free { s with transit := s.transit.erase c } c := by
  refine ⟨?_, ?_, fun w => h.transitNotHeld c w hc⟩
  · intro k hk; exact h.idleNotTransit k c hk hc
  · intro hm
    have := (List.Nodup.mem_erase_iff h.transitNodup).mp hm
    exact this.1 rfl

theorem Free_after_release (s : St) (w : Want) (c : Conn) (v : WSt) (hv : ∀ d, v.holds d = false)
    (hw : (s.wst w).holds c = true) (h : Excl s) : Free { s with wst := upd s.wst w v } c := by
  refine ⟨?_, ?_, ?_⟩
  · intro k hk
    have := h.idleNotHeld k c w hk
    rw [this] at hw; cases hw
  · intro hm
    have := h.transitNotHeld c w hm
    rw [this] at hw; cases hw
  · intro w'
    simp only [upd]
    split
    · exact hv c
    · next hne =>
      cases hh : (s.wst w').holds c with
      | false => rfl
      | true => exact absurd (h.heldUnique w' w c hh hw) hne

@[simp] theorem addIdle_ckey (cfg : Cfg) (s : St) (c : Conn) (k : Key) : (addIdle cfg s c k).ckey = s.ckey := by
  unfold addIdle; simp only; split <;> simp

@[simp] theorem tryPut_ckey (cfg : Cfg) (s : St) (c : Conn) (k : Key) : (tryPut cfg s c k).1.ckey = s.ckey := by
  have sp := tryPut_spec cfg s c k
  generalize tryPut cfg s c k = r at sp ⊢
  cases sp with
  | added => exact addIdle_ckey cfg _ c k
  | _ => rfl

@[simp] theorem addIdle_transit (cfg : Cfg) (s : St) (c : Conn) (k : Key) : (addIdle cfg s c k).transit = s.transit := by
  unfold addIdle; simp only; split <;> simp

@[simp] theorem tryPut_transit (cfg : Cfg) (s : St) (c : Conn) (k : Key) : (tryPut cfg s c k).1.transit = s.transit := by
  have sp := tryPut_spec cfg s c k
  generalize tryPut cfg s c k = r at sp ⊢
  cases sp with
  | added => exact addIdle_transit ..
  | _ => rfl

theorem Excl_create (s : St) (c : Conn) (k : Key) (hfresh : s.ckey c = none) (h : Excl s) :
    Excl { s with ckey := upd s.ckey c (some k), conns := c :: s.conns } ∧
    Free { s with ckey := upd s.ckey c (some k), conns := c :: s.conns } c := by
  have hne : ∀ x, s.ckey x ≠ none → x ≠ c := by
    intro x hx hxc; subst hxc; exact hx hfresh
  have hkeep : ∀ x, s.ckey x ≠ none → upd s.ckey c (some k) x ≠ none := by
    intro x hx
    simp only [upd]; split
    · simp
    · exact hx
  constructor
  · refine ⟨h.idleNodup, ?_, h.idleNotTransit, h.idleNotHeld, h.transitNodup, h.transitNotHeld,
      h.heldUnique, ?_, ?_, ?_, ?_⟩
    · intro k' x hx
      have e := h.idleKey k' x hx
      have : x ≠ c := hne x (by rw [e]; simp)
      simp only [upd, this, if_false]; exact e
    · intro x hx; exact hkeep x (h.transitCreated x hx)
    · intro w x hx; exact hkeep x (h.heldCreated w x hx)
    · refine List.nodup_cons.mpr ⟨?_, h.connsNodup⟩
      intro hm; exact (h.connsCreated c).mp hm hfresh
    · intro x
      simp only [List.mem_cons, upd]
      constructor
      · rintro (rfl | hm)
        · simp
        · split
          · simp
          · exact (h.connsCreated x).mp hm
      · intro hx
        by_cases hxc : x = c
        · exact Or.inl hxc
        · simp only [hxc, if_false] at hx; exact Or.inr ((h.connsCreated x).mpr hx)
  · refine ⟨?_, ?_, ?_⟩
    · intro k' hk'
      have e := h.idleKey k' c hk'
      rw [hfresh] at e; cases e
    · intro hm; exact h.transitCreated c hm hfresh
    · intro w
      cases hh : (s.wst w).holds c with
      | false => rfl
      | true => exact absurd hfresh (h.heldCreated w c hh)

theorem listedIdle_mem (s : St) (c : Conn) (h : Excl s) :
    c ∈ listedIdle s ↔ ∃ k, c ∈ s.idle k := by
  unfold listedIdle
  rw [List.mem_filter]
  constructor
  · rintro ⟨_, hp⟩
    split at hp
    · next k _ => exact ⟨k, by simpa using hp⟩
    · cases hp
  · rintro ⟨k, hk⟩
    have e := h.idleKey k c hk
    refine ⟨(h.connsCreated c).mpr (by rw [e]; simp), ?_⟩
    rw [e]; simpa using hk

theorem Excl_init : Excl {} where
  idleNodup := by intro k; simp
  idleKey := by intro k c hc; simp at hc
  idleNotTransit := by intro k c hc; simp at hc
  idleNotHeld := by intro k c w hc; simp at hc
  transitNodup := by simp
  transitNotHeld := by intro c w hc; simp at hc
  heldUnique := by intro w₁ w₂ c h1; simp [WSt.holds] at h1
  transitCreated := by intro c hc; simp at hc
  heldCreated := by intro w c h1; simp [WSt.holds] at h1
  connsNodup := by simp
  connsCreated := by intro c; simp

theorem Excl_prune {s : St} (k : Key) (l' : List Conn) (hp : Pruned s k l') (h : Excl s) :
    Excl { s with idle := upd s.idle k l' } :=
  Excl_of_idle_subset (s := s) (fun _ _ => hp.mem)
    (by
      intro k'; simp only [upd]; split
      · next e => subst e; exact (h.idleNodup _).sublist hp.1
      · exact h.idleNodup k') rfl rfl rfl rfl h

theorem handOver_mem {s : St} {c : Conn} {k : Key} {l : List Conn} (hi : s.idle k = l ++ [c]) (h : Excl s) :
    ∀ k' x, x ∈ upd s.idle k l k' ↔ x ∈ s.idle k' ∧ x ≠ c := by
  have hck : c ∈ s.idle k := by rw [hi]; simp
  have hnd := h.idleNodup k
  rw [hi] at hnd
  have hcl : c ∉ l := fun hm => (List.nodup_append.mp hnd).2.2 c hm c (by simp) rfl
  intro k' x
  rw [mem_upd_idle]
  constructor
  · rintro (⟨rfl, hx⟩ | ⟨hkk, hx⟩)
    · exact ⟨by rw [hi]; exact List.mem_append_left _ hx, fun e => hcl (e ▸ hx)⟩
    · refine ⟨hx, fun e => hkk ?_⟩
      subst e
      have := h.idleKey k' x hx
      rw [h.idleKey k x hck] at this
      exact (Option.some.inj this).symm
  · rintro ⟨hx, hne⟩
    by_cases hkk : k' = k
    · subst hkk
      rw [hi] at hx
      exact .inl ⟨rfl, (List.mem_append.mp hx).resolve_right (by simpa using hne)⟩
    · exact .inr ⟨hkk, hx⟩

theorem Excl_handOver {s : St} (w : Want) (c : Conn) (k : Key) (l : List Conn) (hi : s.idle k = l ++ [c])
    (h : Excl s) :
    Excl { s with idle := upd s.idle k l, lru := s.lru.erase c, wst := upd s.wst w (.gotConn c) } := by
  have hck : c ∈ s.idle k := by rw [hi]; simp
  have hnd := h.idleNodup k
  rw [hi] at hnd
  have hmem := handOver_mem hi h
  let sa : St := { s with idle := upd s.idle k l, lru := s.lru.erase c }
  have hea : Excl sa := Excl_of_idle_subset (s := s) (fun k' x hx => ((hmem k' x).mp hx).1) (by
      intro k'; show (upd s.idle k l k').Nodup; simp only [upd]; split
      · exact (List.nodup_append.mp hnd).1
      · exact h.idleNodup k') rfl rfl rfl rfl h
  have hfree : Free sa c := ⟨fun k' hx => ((hmem k' c).mp hx).2 rfl, h.idleNotTransit k c hck,
    fun u => h.idleNotHeld k c u hck⟩
  exact Excl_deliver sa w c hfree (by show s.ckey c ≠ none; rw [h.idleKey k c hck]; simp) hea

theorem Excl_move {cfg : Cfg} {s s' : St} (m : Move cfg s s') (h : Excl s) : Excl s' := by
  cases m with
  | prune k l' hp => exact Excl_prune k l' hp h
  | handOver w c k l hi => exact Excl_handOver w c k l hi h
  | toErr w => exact Excl_release s w .gotErr holds_gotErr h
  | dialDrop w k => exact Excl_decConns cfg _ k h.frame
  | create w c k _ hc =>
    obtain ⟨hc1, hf1⟩ := Excl_create s c k hc h
    exact (Excl_toTransit _ c hf1 (by simp) hc1).frame
  | wstSame w v hv => exact Excl_setWst s w v (fun d hd => .inl ((hv d).symm.trans hd)) h
  | release w c v hc hv =>
    have hh : (s.wst w).holds c = true := (hc c).mpr rfl
    exact Excl_toTransit _ c (Free_after_release s w c v hv hh h) (h.heldCreated w c hh) (Excl_release s w v hv h)
  | deliverTransit w c hc =>
    exact Excl_deliver { s with transit := s.transit.erase c } w c
      (Free_after_transit_erase s c hc h) (h.transitCreated c hc) (Excl_transit_erase s c h)
  | transitFront c hc =>
    have hm := mem_cons_erase hc
    exact { h with
      idleNotTransit := fun k x hx hm' => h.idleNotTransit k x hx ((hm x).mp hm')
      transitNodup := List.nodup_cons.mpr ⟨fun hm' => ((List.Nodup.mem_erase_iff h.transitNodup).mp hm').1 rfl,
        h.transitNodup.erase c⟩
      transitNotHeld := fun x w hx => h.transitNotHeld x w ((hm x).mp hx)
      transitCreated := fun x hx => h.transitCreated x ((hm x).mp hx) }
  | dup c k => exact (Excl_transit_erase s c h).frame
  | addIdle c k hc hk =>
    exact Excl_addIdle cfg _ c k (Free_after_transit_erase s c hc h) hk (Excl_transit_erase s c h)
  | closeT c => exact Excl_closeConn cfg _ c (Excl_transit_erase s c h)
  | close c => exact Excl_closeConn cfg s c h
  | remove c => exact Excl_removeIdleLocked s c h
  | idleTimeout c => exact Excl_closeConn cfg _ c (Excl_removeIdleLocked s c h)
  | flush =>
    have hli := fun x => (listedIdle_mem s x h).mp
    exact { h with
      idleNodup := fun k => List.nodup_nil
      idleKey := fun k c hc => nomatch hc
      idleNotTransit := fun k c hc => nomatch hc
      idleNotHeld := fun k c w hc => nomatch hc
      transitNodup := List.nodup_append.mpr ⟨h.connsNodup.sublist List.filter_sublist, h.transitNodup,
        fun a ha b hb hab => by
          subst hab
          obtain ⟨k, hk⟩ := hli a ha
          exact h.idleNotTransit k a hk hb⟩
      transitNotHeld := fun x w hx => (List.mem_append.mp hx).elim
        (fun hx => by obtain ⟨k, hk⟩ := hli x hx; exact h.idleNotHeld k x w hk) (h.transitNotHeld x w)
      transitCreated := fun x hx => (List.mem_append.mp hx).elim
        (fun hx => by obtain ⟨k, hk⟩ := hli x hx; rw [h.idleKey k x hk]; simp) (h.transitCreated x) }
  | _ => exact h.frame

/-- tryPut on behalf of a caller that afterwards keeps a failed connection in transit. -/
theorem Excl_put_or_transit (cfg : Cfg) (s : St) (c : Conn) (k : Key) (hf : Free s c)
    (hk : s.ckey c = some k) (h : Excl s) :
    Excl (if (tryPut cfg s c k).2 = .ok then (tryPut cfg s c k).1
          else { (tryPut cfg s c k).1 with transit := c :: (tryPut cfg s c k).1.transit }) := by
  -- the caller that has `c` in hand holds it in `transit`; then this is `putT`
  have ms := putT_moves cfg { s with transit := c :: s.transit } c k hk List.mem_cons_self
  simp only [List.erase_cons_head] at ms
  exact ms.keeps Excl_move (Excl_toTransit s c hf (by simp [hk]) h)

end Req.Lemmas.C09PoolExcl
