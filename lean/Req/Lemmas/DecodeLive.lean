import Req.Lemmas.Decode
/-! Progress of the readers (C15 liveness): every `Read` with a non-empty buffer either reports the
end of the stream or strictly decreases a lexicographic measure; so every schedule of non-empty buffers
(`firstBufs f n`, the sizes `f 0 … f (n-1)`) reaches the end, a constant size `L` (`List.replicate n L`) being one. -/
namespace Req.Decode
open Req.Proto

variable {σ : Type}

/-- first component of the measure of a decoding reader (the second is `r.out.length`) -/
def decA (r : DecR σ) (src : Src) : Nat := r.pre.length + (if r.fin = none then 1 else 0) + srcMu src

theorem DecR.pull_progress (r : DecR σ) (src : Src) (T : Term) (hT : src.term = T) (hfin : r.fin = none) :
    (r.pull src).2.term = T ∧
    ((r.pull src).1.fin = none ∨ (r.pull src).1.fin = some T) ∧
    decA (r.pull src).1 (r.pull src).2 < decA r src := by
  have h4096 : 0 < transformBufSize := by decide
  by_cases hpre : r.pre ≠ []
  · rw [DecR.pull_pre r src hpre]
    refine ⟨hT, Or.inl hfin, ?_⟩
    have : 0 < r.pre.length := List.length_pos_iff.mpr hpre
    simp only [decA, hfin, List.length_drop, transformBufSize]
    omega
  · have hpre' : r.pre = [] := by simpa using hpre
    obtain ⟨_, _, h1, h4, h3, h2⟩ := Src.read_spec src transformBufSize
    rw [DecR.pull_src r src hpre' hfin]
    refine ⟨by rw [h1, hT], ?_, ?_⟩
    · cases hterm : (src.read transformBufSize).term with
      | none => exact Or.inl rfl
      | some t => exact Or.inr (by rw [← hT, (h4 t hterm).1])
    · cases hterm : (src.read transformBufSize).term with
      | none => have := h2 hterm h4096; simp only [decA, hfin, hpre']; omega
      | some t => simp [decA, hfin, hpre']; omega

theorem DecR.deliver_term (r : DecR σ) (src : Src) (L : Nat) (T : Term) (hfin : r.fin = none ∨ r.fin = some T) :
    ∀ t, (r.deliver src L).term = some t → t = T := by
  intro t ht
  unfold DecR.deliver at ht
  split at ht
  · rcases hfin with h | h <;> rw [h] at ht
    · cases ht
    · exact (Option.some.inj ht).symm
  · cases ht

theorem DecR.read_progress (r : DecR σ) (src : Src) (L : Nat) (hL : 0 < L) (T : Term)
    (hT : src.term = T) (hfin : r.fin = none ∨ r.fin = some T) :
    (r.read src L).st.2.term = T ∧
    ((r.read src L).st.1.fin = none ∨ (r.read src L).st.1.fin = some T) ∧
    (∀ t, (r.read src L).term = some t → t = T) ∧
    ((r.read src L).term = none →
      decA (r.read src L).st.1 (r.read src L).st.2 < decA r src ∨
      (decA (r.read src L).st.1 (r.read src L).st.2 = decA r src ∧ (r.read src L).st.1.out.length < r.out.length)) := by
  rcases DecR.read_cases r src L with ⟨e, hc⟩ | ⟨e, ho, hf⟩ <;> rw [e]
  · refine ⟨hT, hfin, DecR.deliver_term r src L T hfin, fun hnone => Or.inr ⟨rfl, ?_⟩⟩
    unfold DecR.deliver at hnone ⊢
    by_cases ho : r.out = []
    · -- nothing buffered: then `fin` is set and is reported
      have hf : r.fin ≠ none := hc.resolve_left fun h => h ho
      simp [ho] at hnone
      exact absurd hnone hf
    · have : 0 < r.out.length := List.length_pos_iff.mpr ho
      simp only [List.length_drop]
      omega
  · obtain ⟨p1, p2, p3⟩ := DecR.pull_progress r src T hT hf
    exact ⟨p1, p2, DecR.deliver_term _ _ L T p2, fun _ => Or.inl p3⟩

/-- the first `n` buffers of the schedule `f` -/
abbrev firstBufs (f : Nat → Nat) (n : Nat) : List Nat := (List.range n).map f

theorem firstBufs_succ (f : Nat → Nat) (n : Nat) :
    firstBufs f (n + 1) = f 0 :: firstBufs (fun i => f (i + 1)) n := by
  simp [firstBufs, List.range_succ_eq_map, List.map_map, Function.comp_def]

theorem firstBufs_const (L n : Nat) : firstBufs (fun _ => L) n = List.replicate n L := by
  rw [firstBufs, List.map_const', List.length_range]

/-- Reads with non-empty buffers come to an end, whatever their sizes `f 0`, `f 1`, …: `Good` is an invariant of the
reader's state, `P` holds of every terminal condition a read reports, and a read that reports none decreases `(A, B)`
lexicographically. -/
theorem reads_terminate {α : Type} (rd : α → Nat → RR α) (Good : α → Prop) (P : Term → Prop) (A B : α → Nat)
    (step : ∀ a L, 0 < L → Good a → Good (rd a L).st ∧ (∀ t, (rd a L).term = some t → P t) ∧
      ((rd a L).term = none → A (rd a L).st < A a ∨ (A (rd a L).st = A a ∧ B (rd a L).st < B a))) :
    ∀ a, Good a → ∀ f : Nat → Nat, (∀ i, 0 < f i) → ∃ n t, (reads rd a (firstBufs f n)).term = some t ∧ P t := by
  have main : ∀ k j a, Good a → A a = k → B a = j → ∀ f : Nat → Nat, (∀ i, 0 < f i) →
      ∃ n t, (reads rd a (firstBufs f n)).term = some t ∧ P t := by
    intro k
    induction k using Nat.strongRecOn with
    | ind k ihk =>
      intro j
      induction j using Nat.strongRecOn with
      | ind j ihj =>
        intro a hg hk hj f hf
        obtain ⟨hg', hP, hdec⟩ := step a (f 0) (hf 0) hg
        cases hterm : (rd a (f 0)).term with
        | some t => exact ⟨1, t, by rw [firstBufs_succ, reads_cons_some rd a _ _ t hterm], hP t hterm⟩
        | none =>
          obtain ⟨n, t, hn, ht⟩ : ∃ n t, (reads rd (rd a (f 0)).st (firstBufs (fun i => f (i + 1)) n)).term = some t ∧ P t := by
            rcases hdec hterm with h | ⟨h1, h2⟩
            · exact ihk _ (by omega) _ _ hg' rfl rfl _ fun i => hf _
            · exact ihj _ (by omega) _ hg' (by omega) rfl _ fun i => hf _
          exact ⟨n + 1, t, by rw [firstBufs_succ, reads_cons_none rd a _ _ hterm]; exact hn, ht⟩
  exact fun a hg => main _ _ a hg rfl rfl

theorem src_reaches_end (src : Src) (f : Nat → Nat) (hf : ∀ i, 0 < f i) :
    ∃ n, (reads Src.read src (firstBufs f n)).term = some src.term := by
  obtain ⟨n, t, hn, rfl⟩ := reads_terminate Src.read (fun s => s.term = src.term) (· = src.term) srcMu (fun _ => 0)
    (fun a L hL ha => by
      obtain ⟨_, _, h1, h4, _, h2⟩ := Src.read_spec a L
      exact ⟨h1.trans ha, fun t ht => (h4 t ht).1.trans ha, fun ht => Or.inl (h2 ht hL)⟩) src rfl f hf
  exact ⟨n, hn⟩

theorem dec_reaches_end (p : DecR σ × Src) (hfin : p.1.fin = none ∨ p.1.fin = some p.2.term)
    (f : Nat → Nat) (hf : ∀ i, 0 < f i) :
    ∃ n, (reads decRead p (firstBufs f n)).term = some p.2.term := by
  obtain ⟨n, t, hn, rfl⟩ := reads_terminate decRead
    (fun q : DecR σ × Src => q.2.term = p.2.term ∧ (q.1.fin = none ∨ q.1.fin = some p.2.term)) (· = p.2.term)
    (fun q => decA q.1 q.2) (fun q => q.1.out.length)
    (fun q L hL hq => by
      obtain ⟨p1, p2, p3, p4⟩ := DecR.read_progress q.1 q.2 L hL _ hq.1 hq.2
      exact ⟨⟨p1, p2⟩, p3, p4⟩) p ⟨rfl, hfin⟩ f hf
  exact ⟨n, hn⟩

/-- The sniffing reader reaches the end: reads without data make the source smaller (induction on `srcMu`); the first data
chunk hands the rest of the run to one of the two readers above. -/
theorem fresh_reaches_end_sched (find : Bytes → Option (Decoder σ)) (src : Src) (f : Nat → Nat) (hf : ∀ i, 0 < f i) :
    ∃ n, (reads (autoRead find) (State.init src) (firstBufs f n)).term = some src.term := by
  induction hk : srcMu src using Nat.strongRecOn generalizing src f with
  | ind k ih =>
    obtain ⟨_, _, h1, h4, _, h2⟩ := Src.read_spec src (f 0)
    cases hns : noSniff (src.read (f 0)) with
    | true =>
      have hpk := autoRead_skip find src (f 0) hns
      cases ht : (src.read (f 0)).term with
      | some t =>
        refine ⟨1, ?_⟩
        rw [firstBufs_succ, reads_cons_some _ _ _ _ t (by rw [hpk]; exact ht), (h4 t ht).1]
      | none =>
        obtain ⟨n, hn⟩ := ih _ (by rw [← hk]; exact h2 ht (hf 0)) (src.read (f 0)).st _ (fun i => hf (i + 1)) rfl
        refine ⟨n + 1, ?_⟩
        rw [firstBufs_succ, reads_cons_none _ _ _ _ (by rw [hpk]; exact ht), hpk, ← h1]
        exact hn
    | false =>
      cases hfd : find (src.read (f 0)).out with
      | none =>
        obtain ⟨n, hn⟩ := src_reaches_end src f hf
        cases n with
        | zero => cases hn
        | succ n =>
          refine ⟨n + 1, ?_⟩
          rw [firstBufs_succ] at hn ⊢
          rw [autoReads_sniff_none find src _ _ hns hfd]
          exact hn
      | some d =>
        obtain ⟨n, hn⟩ := dec_reaches_end (DecR.start d (src.read (f 0)).out, (src.read (f 0)).st) (Or.inl rfl) f hf
        cases n with
        | zero => cases hn
        | succ n =>
          refine ⟨n + 1, ?_⟩
          rw [firstBufs_succ] at hn ⊢
          rw [autoReads_sniff_some find src _ _ d hns hfd, ← h1]
          exact hn

/-- every reader `autoDecodeResponseBody` can install reaches the end of the stream, with the source's own terminal
condition, under every schedule of non-empty buffers -/
theorem body_reaches_end_sched (find : Bytes → Option (Decoder σ)) (sel : Sel σ) (src : Src)
    (f : Nat → Nat) (hf : ∀ i, 0 < f i) :
    ∃ n, (reads (Body.read find) (wrapBody sel src) (firstBufs f n)).term = some src.term := by
  cases sel with
  | untouched => exact (src_reaches_end src f hf).imp fun n hn => (congrArg RR.term (bodyReads_raw find _ src)).trans hn
  | header d =>
    exact (dec_reaches_end (DecR.start d [], src) (Or.inl rfl) f hf).imp fun n hn =>
      (congrArg RR.term (bodyReads_hdr find _ (DecR.start d [], src))).trans hn
  | peek => exact (fresh_reaches_end_sched find src f hf).imp fun n hn => (congrArg RR.term (bodyReads_auto find _ _)).trans hn

theorem fresh_reaches_end (find : Bytes → Option (Decoder σ)) (L : Nat) (hL : 0 < L) (src : Src) :
    ∃ n, (reads (autoRead find) (State.init src) (List.replicate n L)).term = some src.term :=
  (fresh_reaches_end_sched find src (fun _ => L) fun _ => hL).imp fun n hn => firstBufs_const L n ▸ hn

theorem body_reaches_end (find : Bytes → Option (Decoder σ)) (sel : Sel σ) (src : Src) (L : Nat) (hL : 0 < L) :
    ∃ n, (reads (Body.read find) (wrapBody sel src) (List.replicate n L)).term = some src.term :=
  (body_reaches_end_sched find sel src (fun _ => L) fun _ => hL).imp fun n hn => firstBufs_const L n ▸ hn

end Req.Decode
