import Req.Lemmas.C06Pump
import Req.Lemmas.C06Credit
/-!
C06 — helper lemmas for `Req.Props.C06Cut`: a script with operations inside somebody's
frame write (`Req.H2.Cut.XOp`) is, for the code as it is (`Variant.real`), a run of the atomic
connection machine: same final state, same history.
-/
namespace Req.Lemmas.C06
open Req.H2 Req.H2.Conn Req.H2.Cut

theorem clientFrames_append (a b : List Event) :
    clientFrames (a ++ b) = clientFrames a ++ clientFrames b := by
  simp [clientFrames, List.filterMap_append]

theorem clientFrames_map_c (fs : List Frame) : clientFrames (fs.map Event.c) = fs := by
  induction fs with
  | nil => rfl
  | cons f fs ih =>
    simp only [List.map_cons, clientFrames, List.filterMap_cons] at ih ⊢
    rw [ih]

theorem clientFrames_opEvents (op : Op) (fs : List Frame) : clientFrames (opEvents op fs) = fs := by
  unfold opEvents
  rw [clientFrames_append, clientFrames_map_c]
  cases op <;> simp [clientFrames]

/-- `writeHeaders` never looks at the cancellation: whatever the cut, the whole block is written -/
theorem writeBlock_real (cut : Nat) : ∀ (w : Nat) (fs : List Frame), writeBlock false cut w fs = fs := by
  intro w fs
  induction fs generalizing w with
  | nil => rfl
  | cons f fs ih => simp [writeBlock, ih]

theorem step_is_run (st : State) (hist : List Event) (op : Op) :
    runFrom st hist [op] = ((step st op).1, hist ++ stepEvents st op) := by
  simp [runFrom, stepEvents]

theorem clientFrames_scriptEvents (st : State) (op : Op) :
    clientFrames (scriptEvents st op) = (scriptStep st op).2 := by
  unfold scriptEvents scriptStep
  simp only
  rw [clientFrames_append, clientFrames_map_c]
  cases hc : st.closed with
  | true => simp [step_closed hc, clientFrames]
  | false => simp [clientFrames_opEvents, List.append_assoc]

theorem ops_ok_append {a b : List Op} (ha : ∀ o ∈ a, o.ok) (hb : ∀ o ∈ b, o.ok) : ∀ o ∈ a ++ b, o.ok :=
  fun o ho => (List.mem_append.mp ho).elim (ha o) (hb o)

/-- a pumped script step as a run: its operations are admissible when the scripted one is -/
theorem script_is_run (c : Prop) (st : State) {op : Op} (hok : c → op.ok) :
    IsRun (fun o => c → o.ok) st ((scriptStep st op).1, scriptEvents st op) := fun hist => by
  obtain ⟨ws, hw, hr⟩ := scriptStep_is_run st hist op
  refine ⟨_, fun o ho hc => ?_, hr⟩
  rcases List.mem_cons.mp ho with rfl | ho
  · exact hok hc
  rcases List.mem_cons.mp ho with rfl | ho
  · trivial
  · obtain ⟨id, rfl⟩ := hw o ho
    trivial

theorem xstepE_is_run (st : State) (x : XOp) :
    IsRun (fun o => x.ok → o.ok) st (xstepE Variant.real st x) := by
  cases x with
  | plain op => exact script_is_run _ st id
  | openCancel r cut =>
    have h := (IsRun.step st (op := .openReq r) id).trans
      (script_is_run (XOp.openCancel r cut).ok _ (op := .cancel st.nextStreamID) fun _ => trivial)
    simp only [xstepE, Variant.real, writeBlock_real]
    cases hc : st.closed with
    | true => simpa [stepEvents, hc] using h
    | false => simpa [stepEvents, hc, opEvents, List.append_assoc] using h
  | held fid n o =>
    have h := (script_is_run (XOp.held fid n o).ok st (op := .feed fid n) fun _ => trivial).trans (script_is_run _ _ id)
    simpa [xstepE, Variant.real, List.append_assoc] using h
  | feedCancel fid n cut =>
    have h := (script_is_run (XOp.feedCancel fid n cut).ok st (op := .feed fid n) fun _ => trivial).trans
      (script_is_run _ _ (op := .cancel fid) fun _ => trivial)
    simpa [xstepE, Variant.real, List.append_assoc] using h

theorem xrunFrom_is_run (xs : List XOp) :
    ∀ (st : State) (hist : List Event),
    ∃ ops : List Op, ((∀ x ∈ xs, x.ok) → ∀ o ∈ ops, o.ok) ∧
      runFrom st hist ops = xrunFrom Variant.real st hist xs := by
  induction xs with
  | nil => intro st hist; exact ⟨[], by simp, rfl⟩
  | cons x xs ih =>
    intro st hist
    obtain ⟨ops, hok, hr⟩ := xstepE_is_run st x hist
    obtain ⟨ops', hok', hr'⟩ := ih (xstepE Variant.real st x).1 (hist ++ (xstepE Variant.real st x).2)
    refine ⟨ops ++ ops', fun hx => ops_ok_append (fun o ho => hok o ho (hx x (List.mem_cons_self ..)))
      (hok' fun y hy => hx y (List.mem_cons_of_mem _ hy)), ?_⟩
    rw [runFrom_append, hr]
    simp only [xrunFrom]
    exact hr'

theorem sumBuffered_filter_ne (id : Nat) (l : List Stream)
    (h : ∀ t ∈ l, t.id = id → t.buffered = 0) :
    sumBuffered l = sumBuffered (l.filter (fun t => t.id ≠ id)) := by
  induction l with
  | nil => rfl
  | cons t l ih =>
    have ih' := ih (fun u hu => h u (List.mem_cons_of_mem _ hu))
    by_cases ht : t.id = id
    · have := h t (List.mem_cons_self ..) ht
      simp [sumBuffered, ht, this, ih']
    · simp [sumBuffered, ht, ih']

theorem setStream_buffered (l : List Stream) (s' : Stream) (h0 : s'.buffered = 0) :
    ∀ t ∈ setStream l s', t.id = s'.id → t.buffered = 0 := by
  intro t ht hid
  unfold setStream at ht
  obtain ⟨u, _, hu⟩ := List.mem_map.mp ht
  by_cases hc : u.id = s'.id
  · simp [hc] at hu; rw [← hu]; exact h0
  · simp [hc] at hu; rw [← hu] at hid; exact absurd hid hc

/-- the streams of `resumePending`: the old ones, or one fresh stream (empty buffer) appended -/
theorem resumePending_streams (st : State) :
    ∀ t ∈ (resumePending st).1.streams, t ∈ st.streams ∨ t.buffered = 0 :=
  resumePending_cases (fun r => ∀ t ∈ r.1.streams, t ∈ st.streams ∨ t.buffered = 0) st
    (fun _ _ h => .inl h) (fun _ _ _ _ _ h => .inl h) (fun _ _ _ h => .inl h)
    fun r _ _ _ _ t h => by
      simp only [doOpen, List.mem_append, List.mem_singleton] at h
      exact h.imp id fun e => by rw [e]

/-- after an effective `Body.Close` (the response has a body that was not closed before) every
stream with that id has an empty buffer -/
theorem close_step_buffered (st : State) (id : Nat) (s : Stream)
    (hc : st.closed = false) (hf : findStream st.streams id = some s)
    (h1 : s.gotHeaders = true) (h2 : s.noBody = false) (h3 : s.broken = false) :
    ∀ t ∈ (step st (.close id)).1.streams, t.id = id → t.buffered = 0 := by
  have hid := (findStream_mem hf).2
  have hset : ∀ s' : Stream, s'.id = id → s'.buffered = 0 →
      ∀ t ∈ setStream st.streams s', t.id = id → t.buffered = 0 :=
    fun s' h h0 t ht htid => setStream_buffered _ _ h0 t ht (htid.trans h.symm)
  have hclose : ∀ t ∈ (close st id).1.streams, t.id = id → t.buffered = 0 := by
    refine close_cases (fun r => ∀ t ∈ r.1.streams, t.id = id → t.buffered = 0) st id
      (fun hn => absurd ⟨h1, by simp [h2], by simp [h3]⟩ (hn s hf)) (fun s' hf' => ?_)
    cases hf.symm.trans hf'
    have base := closeStream_cases (fun r => ∀ t ∈ r.1.streams, t.id = id → t.buffered = 0) st s
      { s with broken := true, buffered := 0 }
      (fun _ => by simp only [terminate, forget]; split <;> exact hset _ hid rfl) (fun _ => hset _ hid rfl)
    exact creditConn_cases (fun r => ∀ t ∈ r.1.streams, t.id = id → t.buffered = 0) _ _ (fun _ => base) base
      fun _ _ _ _ => base
  refine step_cases (fun r => ∀ t ∈ r.1.streams, t.id = id → t.buffered = 0) st (.close id)
    (fun h => by rw [hc] at h; cases h) (fun _ _ => hclose) (fun _ t ht htid => ?_)
  rcases resumePending_streams _ t ht with h | h
  · exact hclose t h htid
  · exact h

end Req.Lemmas.C06
