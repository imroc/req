import Req.C02.Bufio
import Req.Lemmas.ListFacts
/-!
`Net.read`, `Bufio.read` and `Bufio.fill` consume a prefix of the unread wire
(`Bufio.rem` = buffered bytes ++ bytes the connection will still deliver), whatever the
segmentation.  `Req.C02.Bufio` is C02's model of `bufio.Reader` (the capacity a field, the
connection's end `net.fin` part of the state, loops with fuel): the one to use for what a BODY
reader gets from a connection.  C04 has two models of its own for the HEAD reader, `Req.H1.BufLine`
(`Lemmas/BufLine`, `Props/C04Split`, `Props/C04Whole`) and `Req.H1.BufAlias` with the buffer array
explicit (`Props/C04Alias`); no lemma relates them to this one.  `Bufio.read` is specified by `read_any` (every `k`, any state); `read_spec` is what
that gives for `k > 0` under `WF`.
-/
namespace Req.C02
open Req.Proto

theorem Net.readSegs_none (segs : List Bytes) (k : Nat) (segs' : List Bytes)
    (h : Net.readSegs segs k = (none, segs')) : segs.flatten = [] ∧ segs' = [] := by
  induction segs with
  | nil => simp [Net.readSegs] at h; simp [h]
  | cons s rest ih =>
    unfold Net.readSegs at h
    split at h
    next hs =>
      have := ih h
      simp [List.isEmpty_iff.mp hs, this]
    next hs =>
      split at h <;> simp at h

theorem Net.readSegs_some (segs : List Bytes) (k : Nat) (d : Bytes) (segs' : List Bytes)
    (h : Net.readSegs segs k = (some d, segs')) :
    segs.flatten = d ++ segs'.flatten ∧ d.length ≤ k ∧ (0 < k → d ≠ []) := by
  induction segs with
  | nil => simp [Net.readSegs] at h
  | cons s rest ih =>
    unfold Net.readSegs at h
    split at h
    next hs =>
      obtain ⟨h1, h2, h3⟩ := ih h
      exact ⟨by simp [List.isEmpty_iff.mp hs, h1], h2, h3⟩
    next hs =>
      have hne : s ≠ [] := by simpa [List.isEmpty_iff] using hs
      split at h
      next hle =>
        simp only [Prod.mk.injEq, Option.some.injEq] at h
        obtain ⟨rfl, rfl⟩ := h
        exact ⟨by simp, hle, fun _ => hne⟩
      next hgt =>
        simp only [Prod.mk.injEq, Option.some.injEq] at h
        obtain ⟨rfl, rfl⟩ := h
        refine ⟨by simp [← List.append_assoc, List.take_append_drop], by simp; omega, ?_⟩
        intro hk
        have : 0 < (s.take k).length := by
          simp only [List.length_take]
          have := List.length_pos_iff.mpr hne
          omega
        exact List.length_pos_iff.mp this

theorem Net.read_some (n : Net) (k : Nat) (d : Bytes) (n' : Net) (h : n.read k = (some d, n')) :
    n.segs.flatten = d ++ n'.segs.flatten ∧ d.length ≤ k ∧ (0 < k → d ≠ []) ∧ n'.fin = n.fin := by
  unfold Net.read at h
  rcases hr : Net.readSegs n.segs k with ⟨od, segs'⟩
  rw [hr] at h
  simp only [Prod.mk.injEq] at h
  obtain ⟨rfl, rfl⟩ := h
  obtain ⟨h1, h2, h3⟩ := Net.readSegs_some _ _ _ _ hr
  exact ⟨h1, h2, h3, rfl⟩

theorem Net.read_none (n : Net) (k : Nat) (n' : Net) (h : n.read k = (none, n')) :
    n.segs.flatten = [] ∧ n'.segs.flatten = [] ∧ n'.fin = n.fin := by
  unfold Net.read at h
  rcases hr : Net.readSegs n.segs k with ⟨od, segs'⟩
  rw [hr] at h
  simp only [Prod.mk.injEq] at h
  obtain ⟨rfl, rfl⟩ := h
  obtain ⟨h1, h2⟩ := Net.readSegs_none _ _ _ hr
  exact ⟨h1, by simp [h2], rfl⟩

/-- Invariant of `bufio.Reader` over a `Net`: `b.err` is set only by a `fill` that found the connection
exhausted, and is then the connection's end error. -/
def Bufio.WF (b : Bufio) : Prop :=
  ∀ e, b.err = some e → b.net.segs.flatten = [] ∧ e = b.net.fin.toErr

def Bufio.Fits (b : Bufio) : Prop := b.buf.length ≤ b.cap

theorem Bufio.WF.err_none {b : Bufio} (hw : b.WF) (hmore : b.buf.length < b.rem.length) : b.err = none := by
  cases he : b.err with
  | none => rfl
  | some e =>
    rw [Bufio.rem, (hw e he).1, List.append_nil] at hmore
    exact absurd hmore (Nat.lt_irrefl _)

theorem Bufio.new_fits (cap : Nat) (n : Net) : (Bufio.new cap n).Fits := by
  simp [Bufio.new, Bufio.Fits]

theorem Bufio.new_wf (cap : Nat) (n : Net) : (Bufio.new cap n).WF := by
  intro e h; simp [Bufio.new] at h

theorem Bufio.new_rem (cap : Nat) (n : Net) : (Bufio.new cap n).rem = n.segs.flatten := by
  simp [Bufio.new, Bufio.rem]

/-- `Read(p)` for every `len(p) = k`: a prefix of the unread wire of at most `k` bytes; either no
error (and bytes whenever `k > 0`), or nothing is left and the connection's end error is reported
with nothing read. -/
structure Bufio.ReadAny (b : Bufio) (k : Nat) (d : Bytes) (e : Option IOErr) (b' : Bufio) : Prop where
  cap : b'.cap = b.cap
  fin : b'.net.fin = b.net.fin
  split : b.rem = d ++ b'.rem
  le : d.length ≤ k
  fits : b.Fits → b'.Fits
  wf : b.WF → b'.WF ∧ ((e = none ∧ (0 < k → d ≠ [])) ∨ (e = some b.net.fin.toErr ∧ b.rem = [] ∧ d = []))

theorem Bufio.read_any (b : Bufio) (k : Nat) (d : Bytes) (e : Option IOErr) (b' : Bufio)
    (h : b.read k = ((d, e), b')) : Bufio.ReadAny b k d e b' := by
  obtain ⟨cap, buf, err, net⟩ := b
  have take_ne : ∀ l : Bytes, l ≠ [] → 0 < k → l.take k ≠ [] := fun l hl hk h0 => by
    have := List.length_pos_iff.mpr hl
    have := congrArg List.length h0
    simp only [List.length_take, List.length_nil] at this
    omega
  have take_le : ∀ l : Bytes, (l.take k).length ≤ k := fun l => by
    rw [List.length_take]; exact Nat.min_le_left _ _
  -- an error is pending over an empty buffer: it is reported and cleared
  have pending : ∀ x, err = some x → (Bufio.mk cap [] err net).WF →
      (Bufio.mk cap [] none net).WF ∧
        (some x = some net.fin.toErr ∧ (Bufio.mk cap [] err net).rem = [] ∧ ([] : Bytes) = []) :=
    fun x hx hw => ⟨fun _ he => (nomatch he), congrArg some (hw x hx).2, (hw x hx).1, rfl⟩
  -- the connection is exhausted: its end error, nothing read
  have ended : ∀ k' net', net.read k' = (none, net') →
      Bufio.ReadAny ⟨cap, [], none, net⟩ k [] (some net.fin.toErr) ⟨cap, [], none, net'⟩ := fun _ _ hr =>
    have ⟨hfl, hfl', hfin⟩ := Net.read_none _ _ _ hr
    ⟨rfl, hfin, hfl.trans hfl'.symm, Nat.zero_le _, id, fun _ => ⟨fun _ he => (nomatch he), .inr ⟨rfl, hfl, rfl⟩⟩⟩
  unfold Bufio.read at h
  by_cases hk : k = 0
  · subst hk
    rw [if_pos rfl] at h
    cases buf with
    | cons x xs =>
      cases h
      exact ⟨rfl, rfl, rfl, Nat.le_refl _, id, fun hw => ⟨hw, .inl ⟨rfl, fun h0 => absurd h0 (Nat.lt_irrefl _)⟩⟩⟩
    | nil =>
      cases err with
      | none => cases h; exact ⟨rfl, rfl, rfl, Nat.le_refl _, id, fun hw => ⟨hw, .inl ⟨rfl, fun h0 => absurd h0 (Nat.lt_irrefl _)⟩⟩⟩
      | some x => cases h; exact ⟨rfl, rfl, rfl, Nat.le_refl _, id, fun hw => (pending x rfl hw).imp id .inr⟩
  · have hk' : 0 < k := Nat.pos_of_ne_zero hk
    rw [if_neg hk] at h
    cases buf with
    | cons x xs =>
      cases h
      exact ⟨rfl, rfl, by simp only [Bufio.rem, ← List.append_assoc, List.take_append_drop], take_le _,
        fun hf => Nat.le_trans (by simp only [List.length_drop]; omega) hf,
        fun hw => ⟨hw, .inl ⟨rfl, fun _ => take_ne _ (List.cons_ne_nil _ _) hk'⟩⟩⟩
    | nil =>
      cases err with
      | some x =>
        cases h
        exact ⟨rfl, rfl, rfl, Nat.zero_le _, id, fun hw => (pending x rfl hw).imp id .inr⟩
      | none =>
        simp only [List.isEmpty_nil, if_true] at h
        by_cases hbig : k ≥ cap
        · -- large read, empty buffer: straight from the connection
          rw [if_pos hbig] at h
          rcases hr : net.read k with ⟨_ | d0, net'⟩ <;> rw [hr] at h <;> cases h
          · exact ended _ _ hr
          · obtain ⟨hfl, hlen, hne, hfin⟩ := Net.read_some _ _ _ _ hr
            exact ⟨rfl, hfin, hfl, hlen, id, fun _ => ⟨fun _ he => (nomatch he), .inl ⟨rfl, hne⟩⟩⟩
        · rw [if_neg hbig] at h
          rcases hr : net.read cap with ⟨_ | d0, net'⟩ <;> rw [hr] at h <;> cases h
          · exact ended _ _ hr
          · obtain ⟨hfl, hlen, hne, hfin⟩ := Net.read_some _ _ _ _ hr
            exact ⟨rfl, hfin, by simp only [Bufio.rem, hfl, ← List.append_assoc, List.take_append_drop]; rfl, take_le _,
              fun _ => Nat.le_trans (by simp only [List.length_drop]; omega) hlen,
              fun _ => ⟨fun _ he => (nomatch he), .inl ⟨rfl, fun _ => take_ne _ (hne (by omega)) hk'⟩⟩⟩

theorem Bufio.read_spec (b : Bufio) (k : Nat) (hk : 0 < k) (hw : b.WF)
    (d : Bytes) (e : Option IOErr) (b' : Bufio) (h : b.read k = ((d, e), b')) :
    b'.WF ∧ b'.cap = b.cap ∧ b'.net.fin = b.net.fin ∧ b.rem = d ++ b'.rem ∧ d.length ≤ k ∧
    ((b.rem ≠ [] → e = none ∧ d ≠ []) ∧ (b.rem = [] → e = some b.net.fin.toErr ∧ d = [])) := by
  have r := Bufio.read_any b k d e b' h
  obtain ⟨hw', ⟨he, hd⟩ | ⟨he, hrem, hd⟩⟩ := r.wf hw
  · exact ⟨hw', r.cap, r.fin, r.split, r.le, fun _ => ⟨he, hd hk⟩,
      fun h0 => absurd (List.append_eq_nil_iff.mp (r.split ▸ h0)).1 (hd hk)⟩
  · exact ⟨hw', r.cap, r.fin, r.split, r.le, fun hne => absurd hrem hne, fun _ => ⟨he, hd⟩⟩

theorem Bufio.read_fits (b : Bufio) (k : Nat) (hf : b.Fits) (d : Bytes) (e : Option IOErr) (b' : Bufio)
    (h : b.read k = ((d, e), b')) : b'.Fits :=
  (Bufio.read_any b k d e b' h).fits hf

theorem Bufio.fill_spec (b : Bufio) (hw : b.WF) (hfree : b.buf.length < b.cap)
    (hmore : b.buf.length < b.rem.length) :
    b.err = none ∧ b.buf.length < b.fill.buf.length ∧ b.fill.rem = b.rem ∧ b.fill.WF ∧ b.fill.Fits ∧
      b.fill.cap = b.cap ∧ b.fill.net.fin = b.net.fin := by
  have herr := hw.err_none hmore
  unfold Bufio.fill
  rcases hr : b.net.read (b.cap - b.buf.length) with ⟨_ | d, n'⟩
  · rw [Bufio.rem, (Net.read_none _ _ _ hr).1, List.append_nil] at hmore
    exact absurd hmore (Nat.lt_irrefl _)
  · obtain ⟨hfl, hlen, hne, hfin⟩ := Net.read_some _ _ _ _ hr
    have hdl := List.length_pos_iff.mpr (hne (by omega))
    refine ⟨herr, ?_, ?_, fun e he => ?_, ?_, rfl, hfin⟩
    · simp only [List.length_append]; omega
    · simp [Bufio.rem, hfl]
    · simp [herr] at he
    · simp only [Bufio.Fits, List.length_append]; omega

end Req.C02
