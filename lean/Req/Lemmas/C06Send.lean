import Req.Lemmas.C06Acks
/-!
C06 — helper lemmas: the simulation between the connection model (`Req.H2.Conn`) and the send
side of the strict-peer monitor (`Req.H2.Monitor.Send`).
-/
namespace Req.Lemmas.C06
open Req.H2 Req.H2.Flow Req.H2.Conn Req.H2.Monitor

/-- the machines of the monitor run a history event by event: where the first part of a history is
accepted, the whole is judged as the second part from there -/
theorem run_append_ok {σ : Type} {step : σ → Event → Verdict σ} {run : σ → List Event → Verdict σ}
    (hnil : ∀ m, run m [] = .ok m)
    (hcons : ∀ m e es, run m (e :: es) = (step m e).bind fun m' => run m' es) :
    ∀ {a : List Event} {m m' : σ} (b : List Event), run m a = .ok m' → run m (a ++ b) = run m' b := by
  intro a
  induction a with
  | nil => intro m m' b h; rw [hnil] at h; cases h; rfl
  | cons e es ih =>
    intro m m' b h
    rw [List.cons_append, hcons]
    rw [hcons] at h
    cases hs : step m e with
    | error r => rw [hs] at h; cases h
    | ok m1 => rw [hs] at h; exact ih b h

theorem send_run_ok_append {m m' m'' : Send} {a b : List Event}
    (h1 : Send.run m a = .ok m') (h2 : Send.run m' b = .ok m'') :
    Send.run m (a ++ b) = .ok m'' :=
  (run_append_ok (step := Send.step) (fun _ => rfl) (fun m e _ => by rw [Send.run]; cases m.step e <;> rfl) b h1).trans h2

/-- a stream of the model and the monitor's entry for it. While the stream is in `cc.streams`: the
monitor's window covers the model's (`win`); the model's window lies between `iw - (2^31-1)` and
`2^31-1` (`lo`, `hi`), a range that a change of SETTINGS_INITIAL_WINDOW_SIZE maps into the range for
the new value (`rel_delta`); the closing flags agree. Once it has left `cc.streams` the monitor has it closed. -/
structure Rel (iw : Nat) (s : Stream) (ms : MStream) : Prop where
  id : ms.id = s.id
  win : s.live = true → s.out ≤ ms.win
  lo : s.live = true → (iw : Int) - 2147483647 ≤ s.out
  hi : s.live = true → s.out ≤ 2147483647
  cRst : s.live = true → ms.cRst = false
  cEnd : s.live = true → ms.cEnd = s.sentEnd
  pEnd : s.peerEnd = true → ms.pEnd = true
  dead : s.live = false → ms.closed = true

inductive Rels (iw : Nat) : List Stream → List MStream → Prop where
  | nil : Rels iw [] []
  | cons {s : Stream} {ms : MStream} {l : List Stream} {ml : List MStream} :
      Rel iw s ms → Rels iw l ml → Rels iw (s :: l) (ms :: ml)

theorem rels_find {iw : Nat} {l : List Stream} {ml : List MStream} (h : Rels iw l ml) (id : Nat) :
    (findStream l id = none ∧ findM ml id = none) ∨
    (∃ s ms, findStream l id = some s ∧ findM ml id = some ms ∧ Rel iw s ms ∧ s.id = id) := by
  induction h with
  | nil => left; simp [findStream, findM]
  | @cons s ms l ml hr _ ih =>
    unfold findStream findM at *
    by_cases hid : s.id = id
    · right
      refine ⟨s, ms, ?_, ?_, hr, hid⟩
      · simp [List.find?, hid]
      · have : ms.id = id := by rw [hr.id]; exact hid
        simp [List.find?, this]
    · have hm : ¬ ms.id = id := by rw [hr.id]; exact hid
      simp only [List.find?, hid, hm, decide_false]
      exact ih

theorem rels_set {iw : Nat} {l : List Stream} {ml : List MStream} (h : Rels iw l ml)
    {s' : Stream} {ms' : MStream} (hr : Rel iw s' ms') :
    Rels iw (setStream l s') (setM ml ms') := by
  induction h with
  | nil => exact Rels.nil
  | @cons s ms l ml hr0 _ ih =>
    unfold setStream setM at *
    simp only [List.map]
    refine Rels.cons ?_ ih
    by_cases hid : s.id = s'.id
    · have : ms.id = ms'.id := by rw [hr0.id, hr.id]; exact hid
      simp [hid, this, hr]
    · have : ¬ ms.id = ms'.id := by rw [hr0.id, hr.id]; exact hid
      simp [hid, this, hr0]

theorem rels_open_le_live {iw : Nat} {l : List Stream} {ml : List MStream} (h : Rels iw l ml) :
    openCount ml ≤ liveCount l := by
  induction h with
  | nil => simp [openCount, liveCount]
  | @cons s ms l ml hr _ ih =>
    unfold openCount liveCount at *
    simp only [List.filter]
    cases hl : s.live with
    | true =>
      cases hc : ms.closed <;> simp <;> omega
    | false =>
      have := hr.dead hl
      simp [this]; exact ih

theorem rels_append {iw : Nat} {l : List Stream} {ml : List MStream} (h : Rels iw l ml)
    {s : Stream} {ms : MStream} (hr : Rel iw s ms) : Rels iw (l ++ [s]) (ml ++ [ms]) := by
  induction h with
  | nil => exact Rels.cons hr Rels.nil
  | cons h0 _ ih => exact Rels.cons h0 ih

theorem rels_ids {iw : Nat} {l : List Stream} {ml : List MStream} (h : Rels iw l ml) :
    ml.map (·.id) = l.map (·.id) := by
  induction h with
  | nil => rfl
  | cons hr _ ih => simp [hr.id, ih]

/-- the part of the state the send side depends on -/
structure View where
  cfg : Cfg
  maxFrameSize : Nat
  initialWindowSize : Nat
  maxConcurrent : Nat
  nextStreamID : Nat
  seenSettings : Bool
  connOut : Int
  streams : List Stream
  pendingOpen : Option Req

def view (st : State) : View :=
  { cfg := st.cfg, maxFrameSize := st.maxFrameSize, initialWindowSize := st.initialWindowSize,
    maxConcurrent := st.maxConcurrent, nextStreamID := st.nextStreamID, seenSettings := st.seenSettings,
    connOut := st.connOut, streams := st.streams, pendingOpen := st.pendingOpen }

theorem view_forget (st : State) (s : Stream) :
    view (forget st s) = { (view st) with streams := setStream st.streams { s with live := false } } := by
  unfold forget; simp only; split <;> rfl

theorem view_settle (st : State) (s : Stream) :
    view (settle st s) =
      { (view st) with streams := setStream st.streams (if s.live ∧ s.sentEnd ∧ s.peerEnd then { s with live := false } else s) } := by
  unfold settle
  split
  · rw [view_forget]
  · rfl

theorem view_terminate (st : State) (s : Stream) (b : Bool) :
    view (terminate st s b).1 = { (view st) with streams := setStream st.streams { s with live := false } } := by
  unfold terminate; simp only; rw [view_forget]

/-- the simulation invariant of the send side, between two steps. `pending`, `hdr`: the monitor is owed
no acknowledgement and no header block is open. `lastId`, `ids`, `idsLt`: the monitor knows only ids
below `nextStreamID`, so the next stream is new to it (`client_headers_new`) and the stream of a trailer
block is not (`trailers_run`). `conc`, `concNone`: the monitor enforces a stream limit only once the
client has applied one. `nodup` follows from `sorted`; it is what `setStream_self` and `setM_self`
(an entry replaced by itself) ask for. `pendOpen`: a parked request still has the non-empty header
block it had (`Op.ok`) when it was parked, for `resumePending`. -/
structure SInv (v : View) (m : Send) : Prop where
  fixes : v.cfg.fixes = Fixes.all
  maxFrame : m.maxFrame = v.maxFrameSize
  frameLo : 16384 ≤ v.maxFrameSize
  pending : m.pending = []
  hdr : m.hdrOpen = none
  initWin : m.initWin = v.initialWindowSize
  initHi : v.initialWindowSize ≤ 2147483647
  conc : ∀ k, m.maxConc = some k → v.maxConcurrent = k
  concNone : v.seenSettings = false → m.maxConc = none
  connWin : v.connOut ≤ m.connWin
  connLo : 0 ≤ v.connOut
  connHi : v.connOut ≤ 2147483647
  lastId : m.lastId < v.nextStreamID
  odd : v.nextStreamID % 2 = 1
  ids : ∀ ms ∈ m.streams, ms.id ≤ m.lastId ∧ ms.id ≠ 0
  rel : Rels v.initialWindowSize v.streams m.streams
  nodup : (v.streams.map (·.id)).Nodup
  sorted : (v.streams.map (·.id)).Pairwise (· < ·)
  oddIds : ∀ s ∈ v.streams, s.id % 2 = 1
  idsLt : ∀ s ∈ v.streams, s.id < v.nextStreamID
  pendOpen : ∀ r, v.pendingOpen = some r → r.hdrLen > 0

theorem rel_congr {iw : Nat} {s s' : Stream} {ms : MStream} (h : Rel iw s ms)
    (h1 : s'.id = s.id) (h2 : s'.live = s.live) (h3 : s'.out = s.out) (h4 : s'.sentEnd = s.sentEnd)
    (h5 : s'.peerEnd = s.peerEnd) : Rel iw s' ms :=
  { id := by rw [h1]; exact h.id,
    win := fun hl => by rw [h3]; exact h.win (h2 ▸ hl),
    lo := fun hl => by rw [h3]; exact h.lo (h2 ▸ hl),
    hi := fun hl => by rw [h3]; exact h.hi (h2 ▸ hl),
    cRst := fun hl => h.cRst (h2 ▸ hl),
    cEnd := fun hl => by rw [h4]; exact h.cEnd (h2 ▸ hl),
    pEnd := fun hp => h.pEnd (h5 ▸ hp),
    dead := fun hl => h.dead (h2 ▸ hl) }

/-- the entry of a stream that has left `cc.streams` only has to be closed -/
theorem rel_dead {iw : Nat} {s : Stream} {ms : MStream} (hl : s.live = false) (hid : ms.id = s.id)
    (hp : s.peerEnd = true → ms.pEnd = true) (hc : ms.closed = true) : Rel iw s ms :=
  have no : s.live = true → False := fun hx => by rw [hl] at hx; cases hx
  { id := hid, win := fun hx => (no hx).elim, lo := fun hx => (no hx).elim, hi := fun hx => (no hx).elim,
    cRst := fun hx => (no hx).elim, cEnd := fun hx => (no hx).elim, pEnd := hp, dead := fun _ => hc }

/-- `settle` forgets a stream that both sides have finished: the monitor has it closed by then -/
theorem rel_settle {iw : Nat} {s : Stream} {ms : MStream} (hr : Rel iw s ms) :
    Rel iw (if s.live = true ∧ s.sentEnd = true ∧ s.peerEnd = true then { s with live := false } else s) ms := by
  split
  · rename_i hfin
    refine rel_dead rfl hr.id hr.pEnd ?_
    simp [MStream.closed, hr.cEnd hfin.1, hfin.2.1, hr.pEnd hfin.2.2]
  · exact hr

theorem findM_mem {l : List MStream} {id : Nat} {s : MStream} (h : findM l id = some s) :
    s ∈ l ∧ s.id = id := by
  unfold findM at h
  exact ⟨List.mem_of_find?_eq_some h, by simpa using List.find?_some h⟩

theorem setM_self {ml : List MStream} {ms : MStream} {id : Nat}
    (hnd : (ml.map (·.id)).Nodup) (hf : findM ml id = some ms) : setM ml ms = ml :=
  map_replace_self MStream.id hnd (findM_mem hf).1

theorem send_run_nil (m : Send) : Send.run m [] = .ok m := rfl

theorem send_run_single_c {m m' : Send} {f : Frame} (h : m.client f = .ok m') :
    Send.run m [Event.c f] = .ok m' := by
  simp [Send.run, Send.step, h]

theorem send_run_cons_c {m m' : Send} {f : Frame} {rest : List Event} (h : m.client f = .ok m') :
    Send.run m (Event.c f :: rest) = Send.run m' rest := by
  simp [Send.run, Send.step, h]

theorem send_run_cons_p (m : Send) (f : PFrame) (rest : List Event) :
    Send.run m (Event.p f :: rest) = Send.run (m.peer f) rest := by
  simp [Send.run, Send.step]

/-- the four clauses about the ids in the stream table read nothing but the list of ids -/
theorem sinv_table {v : View} {m : Send} (h : SInv v m) {l' : List Stream}
    (hids : l'.map (·.id) = v.streams.map (·.id)) :
    (l'.map (·.id)).Nodup ∧ (l'.map (·.id)).Pairwise (· < ·) ∧ (∀ s ∈ l', s.id % 2 = 1) ∧
      (∀ s ∈ l', s.id < v.nextStreamID) := by
  have key : ∀ {P : Nat → Prop}, (∀ s ∈ v.streams, P s.id) → ∀ s ∈ l', P s.id := by
    intro P hP s hs
    have : s.id ∈ v.streams.map (·.id) := hids ▸ List.mem_map_of_mem (f := (·.id)) hs
    rcases List.mem_map.mp this with ⟨t, ht, he⟩
    exact he ▸ hP t ht
  exact ⟨hids ▸ h.nodup, hids ▸ h.sorted, key (P := fun n => n % 2 = 1) h.oddIds,
    key (P := fun n => n < v.nextStreamID) h.idsLt⟩

theorem sinv_set {v : View} {m : Send} (h : SInv v m) {id : Nat} {s' : Stream} {ms ms' : MStream}
    (hm : findM m.streams id = some ms) (hmid : ms'.id = ms.id) (hr : Rel v.initialWindowSize s' ms') :
    SInv { v with streams := setStream v.streams s' } { m with streams := setM m.streams ms' } := by
  obtain ⟨t1, t2, t3, t4⟩ := sinv_table h (setStream_ids v.streams s')
  exact { h with ids := forall_mem_replace h.ids (by rw [hmid]; exact h.ids ms (findM_mem hm).1),
                 rel := rels_set h.rel hr, nodup := t1, sorted := t2, oddIds := t3, idsLt := t4 }

theorem find_pair {v : View} {m : Send} (h : SInv v m) {id : Nat} {s : Stream}
    (hf : findStream v.streams id = some s) :
    ∃ ms, findM m.streams id = some ms ∧ Rel v.initialWindowSize s ms ∧ s.id = id := by
  rcases rels_find h.rel id with ⟨hn, _⟩ | ⟨s0, ms, hs0, hms, hr, hid⟩
  · rw [hf] at hn; cases hn
  · rw [hf] at hs0; cases hs0; exact ⟨ms, hms, hr, hid⟩

theorem find_none {v : View} {m : Send} (h : SInv v m) {id : Nat}
    (hf : findStream v.streams id = none) : findM m.streams id = none := by
  rcases rels_find h.rel id with ⟨_, hn⟩ | ⟨s0, ms, hs0, _, _, _⟩
  · exact hn
  · rw [hf] at hs0; cases hs0

theorem sinv_set_left {v : View} {m : Send} (h : SInv v m) {id : Nat} {s s' : Stream}
    (hf : findStream v.streams id = some s)
    (h1 : s'.id = s.id) (h2 : s'.live = s.live) (h3 : s'.out = s.out) (h4 : s'.sentEnd = s.sentEnd)
    (h5 : s'.peerEnd = s.peerEnd) :
    SInv { v with streams := setStream v.streams s' } m := by
  obtain ⟨ms, hms, hr, _⟩ := find_pair h hf
  have := sinv_set h hms rfl (rel_congr hr h1 h2 h3 h4 h5)
  rwa [setM_self (by rw [rels_ids h.rel]; exact h.nodup) hms] at this

theorem sinv_settle {st : State} {m : Send} (h : SInv (view st) m) {id : Nat} {s' : Stream} {ms ms' : MStream}
    (hm : findM m.streams id = some ms) (hmid : ms'.id = ms.id) (hr : Rel st.initialWindowSize s' ms') :
    SInv (view (settle st s')) { m with streams := setM m.streams ms' } := by
  rw [view_settle]
  exact sinv_set h (v := view st) hm hmid (rel_settle hr)

/-- the monitor ignores the client's WINDOW_UPDATEs on the send side -/
theorem send_run_wu {m : Send} (h : m.hdrOpen = none) (id : Nat) (inc : Int) :
    Send.run m ((wuFrame id inc).map Event.c) = .ok m := by
  unfold wuFrame
  split
  · simp [Send.run, Send.step, Send.client, h]
  · rfl

theorem send_run_wu2 {m : Send} (h : m.hdrOpen = none) (id1 id2 : Nat) (inc1 inc2 : Int) :
    Send.run m ((wuFrame id1 inc1 ++ wuFrame id2 inc2).map Event.c) = .ok m := by
  rw [List.map_append]
  exact send_run_ok_append (send_run_wu h id1 inc1) (send_run_wu h id2 inc2)

/-- the client ends a stream abnormally: RST_STREAM unless both sides had already finished -/
theorem sim_terminate_client {st : State} {m : Send} (h : SInv (view st) m) {id : Nat} {s s' : Stream}
    (hf : findStream st.streams id = some s) (hl : s.live = true)
    (hidEq : s'.id = s.id := by rfl) (hsentEnd : s'.sentEnd = s.sentEnd := by rfl)
    (hpeerEnd : s'.peerEnd = s.peerEnd := by rfl) :
    ∃ m', Send.run m ((terminate st s' false).2.map Event.c) = .ok m' ∧
      SInv (view (terminate st s' false).1) m' := by
  obtain ⟨ms, hms, hr, hid⟩ := find_pair h (v := view st) hf
  rw [view_terminate]
  have hmid : ms.id = s'.id := by rw [hr.id]; exact hidEq.symm
  have hpe : s'.peerEnd = true → ms.pEnd = true := fun hp => hr.pEnd (hpeerEnd ▸ hp)
  by_cases hboth : s'.sentEnd = true ∧ s'.peerEnd = true
  · -- closed on both sides already: nothing is written
    refine ⟨m, by simp [terminate, hboth, Send.run], ?_⟩
    have hc : ms.closed = true := by
      have e1 := hr.cEnd hl
      rw [← hsentEnd, hboth.1] at e1
      simp [MStream.closed, e1, hpe hboth.2]
    have := sinv_set h (s' := { s' with live := false }) hms rfl (rel_dead rfl hmid hpe hc)
    rwa [setM_self (by rw [rels_ids h.rel]; exact h.nodup) hms] at this
  · refine ⟨{ m with streams := setM m.streams { ms with cRst := true } }, ?_,
      sinv_set h (s' := { s' with live := false }) (ms' := { ms with cRst := true }) hms rfl
        (rel_dead rfl hmid hpe (by simp [MStream.closed]))⟩
    have hid0 : ¬ (s'.id = 0 ∨ s'.id > m.lastId) := by
      have := h.ids ms (findM_mem hms).1
      rw [← hmid]; omega
    have hfm : findM m.streams s'.id = some ms := by rw [hidEq, hid]; exact hms
    simp [terminate, hboth, Send.run, Send.step, Send.client, h.hdr, hid0, hfm]

/-- the client frames of an outcome are accepted from `m` and the invariant holds again -/
abbrev Sim (m : Send) (x : State × List Frame) : Prop :=
  ∃ m', Send.run m (x.2.map Event.c) = .ok m' ∧ SInv (view x.1) m'

theorem sim_nil {st : State} {m : Send} (h : SInv (view st) m) : Sim m (st, []) := ⟨m, rfl, h⟩

theorem sim_feed {st : State} {m : Send} (h : SInv (view st) m) (id n : Nat) : Sim m (feed st id n) :=
  feed_cases (Sim m) st id n (sim_nil h)
    (fun _ _ hf => ⟨m, rfl, sinv_set_left h (v := view st) hf rfl rfl rfl rfl rfl⟩)

theorem sim_cancel {st : State} {m : Send} (h : SInv (view st) m) (id : Nat) : Sim m (cancel st id) :=
  cancel_cases (Sim m) st id (sim_nil h) (fun _ hf hl => sim_terminate_client h hf hl)

theorem sim_creditConn {r : State × List Frame} {m : Send} (hr : Sim m r) (n : Nat) : Sim m (creditConn r n) := by
  obtain ⟨m', hrun, hinv⟩ := hr
  refine creditConn_cases (Sim m) r n (fun _ => ⟨m', hrun, hinv⟩) ⟨m', hrun, hinv⟩ (fun _ _ _ _ => ⟨m', ?_, hinv⟩)
  rw [List.map_append]
  exact send_run_ok_append hrun (send_run_wu hinv.hdr _ _)

theorem sim_closeStream {st : State} {m : Send} (h : SInv (view st) m) {id : Nat} {s s' : Stream}
    (hf : findStream st.streams id = some s)
    (h1 : s'.id = s.id) (h2 : s'.live = s.live) (h3 : s'.out = s.out) (h4 : s'.sentEnd = s.sentEnd)
    (h5 : s'.peerEnd = s.peerEnd) : Sim m (closeStream st s s') :=
  closeStream_cases (Sim m) st s s' (fun hl => sim_terminate_client h hf hl h1 h4 h5)
    (fun _ => ⟨m, rfl, sinv_set_left h (v := view st) hf h1 h2 h3 h4 h5⟩)

theorem sim_readK {st : State} {m : Send} (h : SInv (view st) m) {id : Nat} {s : Stream}
    (hf : findStream st.streams id = some s) (k : Nat) : Sim m (readK st s k) := by
  refine readK_cases (Sim m) st s k (fun b => ?_) (fun _ _ _ => ?_)
  · exact readCore_cases (Sim m) st _ k (sim_nil h) (fun _ _ _ _ _ _ =>
      ⟨m, send_run_wu2 h.hdr _ _ _ _, sinv_set_left h (v := view st) hf rfl rfl rfl rfl rfl⟩)
  · have := sim_closeStream h hf (s' := { s with buffered := s.buffered - k, readErr := true }) rfl rfl rfl rfl rfl
    exact readOverlong_cases (Sim m) st s k (fun _ => sim_creditConn this _) (fun _ => this)

theorem sim_read {st : State} {m : Send} (h : SInv (view st) m) (id n : Nat) : Sim m (Conn.read st id n) :=
  read_cases (Sim m) st id n (sim_nil h) (fun _ _ hf _ _ => sim_readK h hf _)

theorem sim_close {st : State} {m : Send} (h : SInv (view st) m) (id : Nat) : Sim m (close st id) :=
  close_cases (Sim m) st id (fun _ => sim_nil h) (fun s hf =>
    sim_creditConn (sim_closeStream h hf (s' := { s with broken := true, buffered := 0 }) rfl rfl rfl rfl rfl) _)

theorem send_eta_hdr (m : Send) : { m with hdrOpen := m.hdrOpen } = m := by cases m; rfl

theorem client_continuation {m : Send} {id len : Nat} {eh : Bool} (hdr : m.hdrOpen = some id)
    (hlen : len ≤ m.maxFrame) :
    m.client (.continuation id len eh) = .ok { m with hdrOpen := if eh then none else m.hdrOpen } := by
  unfold Send.client
  simp only [hdr, beq_self_eq_true]
  rw [if_neg (by decide), if_neg (by omega)]

theorem cont_run (id : Nat) (es : Bool) (mf : Nat) (prio fix : Bool) (hmf0 : 0 < mf) :
    ∀ (fuel len : Nat) (m : Send), m.hdrOpen = some id → m.maxFrame = mf → 0 < len → len ≤ fuel →
      Send.run m ((headerFrames fuel id len es mf prio fix false).map Event.c) = .ok { m with hdrOpen := none } := by
  intro fuel
  induction fuel with
  | zero => intro len m _ _ h1 h2; omega
  | succ fuel ih =>
    intro len m hdr hmf hlen hfuel
    have hne : ¬ len = 0 := by omega
    simp only [headerFrames, hne, if_false, Bool.false_eq_true, false_and, List.map_cons]
    generalize hchunk : (if len > mf then mf else len) = chunk
    have hc : 0 < chunk ∧ chunk ≤ mf ∧ chunk ≤ len := by rw [← hchunk]; split <;> omega
    rw [send_run_cons_c (client_continuation hdr (by omega))]
    by_cases hrest : len - chunk = 0
    · rw [hrest, headerFrames_zero, decide_eq_true rfl]; rfl
    · rw [decide_eq_false hrest]
      exact ih (len - chunk) m hdr hmf (by omega) (by omega)

/-- the CONTINUATION frames after a first frame that announced whether it was the last -/
theorem block_rest (id : Nat) (es : Bool) (mf : Nat) (prio : Bool) (hmf0 : 0 < mf) (len rest : Nat) (hr : rest ≤ len)
    {next : Bool → Send}
    (hopen : ∀ eh, (next eh).hdrOpen = if eh then none else some id) (hmf : ∀ eh, (next eh).maxFrame = mf)
    (hsame : ∀ eh, { next eh with hdrOpen := none } = next true) :
    Send.run (next (decide (rest = 0))) ((headerFrames len id rest es mf prio true false).map Event.c) = .ok (next true) := by
  by_cases hrest : rest = 0
  · rw [hrest, headerFrames_zero, decide_eq_true rfl]; rfl
  · rw [decide_eq_false hrest,
      cont_run id es mf prio true hmf0 len rest (next false) (by rw [hopen]; rfl) (hmf _) (by omega) hr, hsame]

/-- a header block written by `writeHeaders`: when the monitor accepts its HEADERS frame — which
`hstep` shows for the size the frame has — and that frame opens the block unless it is the last
one, the whole block is accepted and leaves no block open -/
theorem block_run {m : Send} (id len : Nat) (es prio : Bool) (mf : Nat) (h16 : 16384 ≤ mf) (hlen : 0 < len)
    {next : Bool → Send}
    (hstep : ∀ flen eh, flen ≤ mf → m.client (Frame.headers id flen es eh) = .ok (next eh))
    (hopen : ∀ eh, (next eh).hdrOpen = if eh then none else some id) (hmf : ∀ eh, (next eh).maxFrame = mf)
    (hsame : ∀ eh, { next eh with hdrOpen := none } = next true) :
    Send.run m ((headerFrames (len + 1) id len es mf prio true true).map Event.c) = .ok (next true) := by
  obtain ⟨chunk, _, _, hc, he⟩ := headerFrames_first id len es prio mf h16 hlen
  rw [he, List.map_cons, send_run_cons_c (hstep _ _ hc)]
  exact block_rest id es mf prio (by omega) len _ (by omega) hopen hmf hsame

/-- the monitor's books after the first frame of a new stream's header block -/
def firstHdrMon (m : Send) (id : Nat) (es fin : Bool) : Send :=
  { m with lastId := id, hdrOpen := (if fin then none else some id),
           streams := m.streams ++ [{ id := id, win := m.initWin, cEnd := es, cRst := false, pEnd := false, pRst := false }] }

/-- the monitor's books after a new stream's whole header block -/
def openedMon (m : Send) (id : Nat) (es : Bool) : Send := firstHdrMon m id es true

/-- HEADERS of a new stream (odd id above every earlier one, within the frame size, no block open):
the stream is booked, unless the stream limit in force is reached — the only ground for refusing it -/
theorem client_headers_new {m : Send} (hdr : m.hdrOpen = none) {id len : Nat} (es eh : Bool) (hlen : len ≤ m.maxFrame)
    (hid : id > m.lastId) (hodd : id % 2 = 1) :
    m.client (.headers id len es eh) = .ok (firstHdrMon m id es eh) ∨
    ∃ k, m.maxConc = some k ∧ k < openCount m.streams + 1 ∧
      m.client (.headers id len es eh) = .error "max-concurrent-streams" := by
  have h1 : ¬ len > m.maxFrame := by omega
  have h2 : ¬ id % 2 = 0 := by omega
  simp only [Send.client, hdr, Bool.not_true, Bool.false_eq_true, if_false, if_neg h1, if_pos hid, if_neg h2]
  cases hk : m.maxConc with
  | none => exact .inl (by simp [firstHdrMon, hk])
  | some k =>
    by_cases hf : k < openCount m.streams + 1
    · exact .inr ⟨k, rfl, hf, by simp [hf]⟩
    · exact .inl (by simp [hf, firstHdrMon, hk])

theorem headers_run {m : Send} (hdr : m.hdrOpen = none) (id len : Nat) (es prio : Bool) (mf : Nat)
    (hmf : m.maxFrame = mf) (h16 : 16384 ≤ mf) (hlen : 0 < len) (hid : id > m.lastId) (hodd : id % 2 = 1)
    (hconc : ∀ k, m.maxConc = some k → openCount m.streams + 1 ≤ k) :
    Send.run m ((headerFrames (len + 1) id len es mf prio true true).map Event.c) = .ok (openedMon m id es) := by
  refine block_run id len es prio mf h16 hlen (next := firstHdrMon m id es)
    (fun flen eh hf => ?_) (fun _ => rfl) (fun _ => hmf) (fun _ => rfl)
  rcases client_headers_new hdr es eh (hmf ▸ hf) hid hodd with h | ⟨k, hk, hfull, _⟩
  · exact h
  · exact absurd (hconc k hk) (Nat.not_le.mpr hfull)

/-- the invariant after `doOpen`, whatever admitted the stream -/
theorem sinv_doOpen {st : State} {m : Send} (h : SInv (view st) m) (r : Req) :
    SInv (view (doOpen st r).1) (openedMon m st.nextStreamID (r.known && r.bodyLen == 0)) := by
  simp only [doOpen, openedMon, firstHdrMon]
  have hlast : m.lastId < st.nextStreamID := h.lastId
  have hiw : m.initWin = st.initialWindowSize := h.initWin
  have hih : st.initialWindowSize ≤ 2147483647 := h.initHi
  have hodd : st.nextStreamID % 2 = 1 := h.odd
  have hlt : ∀ x ∈ st.streams, x.id < st.nextStreamID := h.idsLt
  -- the new stream's id is above every id in the table
  have hsorted : ∀ x : Stream, x.id = st.nextStreamID →
      ((st.streams ++ [x]).map (fun (x : Stream) => x.id)).Pairwise (· < ·) := by
    intro x hx
    rw [List.map_append, List.pairwise_append]
    refine ⟨h.sorted, List.pairwise_singleton _ _, fun a ha b hb => ?_⟩
    rcases List.mem_map.mp ha with ⟨y, hy, rfl⟩
    have hb : b = x.id := by simpa using hb
    rw [hb, hx]
    exact hlt y hy
  have hout := streamOut0_eq st.initialWindowSize hih
  refine { h with lastId := ?_, odd := ?_, ids := ?_, rel := ?_, nodup := (hsorted _ rfl).imp Nat.ne_of_lt,
                  idsLt := ?_, hdr := rfl, sorted := hsorted _ rfl, oddIds := ?_ }
  · show st.nextStreamID < st.nextStreamID + 2; omega
  · show (st.nextStreamID + 2) % 2 = 1; omega
  · intro ms hms
    rcases List.mem_append.mp hms with hms | hms
    · have := h.ids ms hms
      exact ⟨by simp only; omega, this.2⟩
    · rw [List.mem_singleton.mp hms]; simp only; omega
  · refine rels_append h.rel ?_
    exact { id := rfl, win := fun _ => by simp only [hout, hiw]; omega,
            lo := fun _ => by simp only [view, hout]; omega, hi := fun _ => by simp only [hout]; omega,
            cRst := fun _ => rfl, cEnd := fun _ => (Bool.not_not _).symm, pEnd := fun hp => (nomatch hp), dead := fun hl => (nomatch hl) }
  · intro x hx
    rcases List.mem_append.mp hx with hx | hx
    · exact h.oddIds x hx
    · rw [List.mem_singleton.mp hx]; exact hodd
  · intro x hx
    rcases List.mem_append.mp hx with hx | hx
    · exact Nat.lt_add_right 2 (hlt x hx)
    · rw [List.mem_singleton.mp hx]; exact Nat.lt_add_of_pos_right (by decide)

theorem sim_doOpen {st : State} {m : Send} (h : SInv (view st) m) (r : Req)
    (hlen : 0 < r.hdrLen) (hslot : liveCount st.streams < st.maxConcurrent) :
    Sim m (doOpen st r) := by
  have hfixes : st.cfg.fixes = Fixes.all := by have := h.fixes; simpa only [view] using this
  have hmf : m.maxFrame = st.maxFrameSize := h.maxFrame
  have hlast : st.nextStreamID > m.lastId := h.lastId
  have hconc : ∀ k, m.maxConc = some k → openCount m.streams + 1 ≤ k := by
    intro k hk
    have h1 := h.conc k hk
    have h2 := rels_open_le_live h.rel
    simp only [view] at h1 h2
    omega
  have hrun := headers_run h.hdr st.nextStreamID r.hdrLen (r.known && r.bodyLen == 0) st.cfg.hdrPrio st.maxFrameSize
    hmf h.frameLo hlen hlast h.odd hconc
  exact ⟨_, by rw [doOpen_frames hfixes]; exact hrun, sinv_doOpen h r⟩

theorem sim_openStream {st : State} {m : Send} (h : SInv (view st) m) (r : Req) (hlen : 0 < r.hdrLen) :
    Sim m (openStream st r) :=
  openStream_cases (Sim m) st r (sim_nil h) (fun _ hslot => sim_doOpen h r hlen hslot)
    (fun _ _ => ⟨m, rfl, { h with pendOpen := fun a hp => by cases hp; exact hlen }⟩)

theorem sim_resumePending {st : State} {m : Send} (h : SInv (view st) m) : Sim m (resumePending st) := by
  have h0 : SInv (view { st with pendingOpen := none }) m := { h with pendOpen := fun a hx => by cases hx }
  exact resumePending_cases (Sim m) st (fun _ => (sim_nil h)) (fun _ _ _ _ => (sim_nil h))
    (fun _ _ => (sim_nil h0)) (fun rq hp _ _ hslot => sim_doOpen h0 rq (h.pendOpen rq hp) hslot)

theorem sinv_mon_upd {v : View} {m : Send} (h : SInv v m) {id : Nat} {s : Stream} {ms ms' : MStream}
    (hf : findStream v.streams id = some s) (hm : findM m.streams id = some ms)
    (hmid : ms'.id = ms.id) (hr : Rel v.initialWindowSize s ms') :
    SInv v { m with streams := setM m.streams ms' } := by
  have := sinv_set h (s' := s) hm hmid hr
  rw [setStream_self h.nodup hf] at this
  exact this

theorem trailers_run {m : Send} (hdr : m.hdrOpen = none) (id len : Nat) (prio : Bool) (mf : Nat)
    (hmf : m.maxFrame = mf) (h16 : 16384 ≤ mf) (hlen : 0 < len) (hid : ¬ id > m.lastId)
    {ms : MStream} (hms : findM m.streams id = some ms) (hce : ms.cEnd = false) (hcr : ms.cRst = false) :
    Send.run m ((headerFrames (len + 1) id len true mf prio true true).map Event.c) =
      .ok { m with hdrOpen := none, streams := setM m.streams { ms with cEnd := true } } := by
  refine block_run id len true prio mf h16 hlen
    (next := fun eh => { m with
      hdrOpen := if eh then none else some id, streams := setM m.streams { ms with cEnd := true } })
    (fun flen eh hf => ?_) (fun _ => rfl) (fun _ => hmf) (fun _ => rfl)
  have hflen : ¬ flen > m.maxFrame := by omega
  simp [Send.client, hdr, hflen, hid, hms, hce, hcr]

theorem sinv_sentEnd {st : State} {m : Send} (h : SInv (view st) m) {id : Nat} {s : Stream} {ms : MStream}
    (hms : findM m.streams id = some ms)
    (hr : Rel (view st).initialWindowSize s ms) (hl : s.live = true) :
    SInv (view (settle st { s with sentEnd := true }))
      { m with hdrOpen := none, streams := setM m.streams { ms with cEnd := true } } :=
  sinv_settle (m := { m with hdrOpen := none }) { h with hdr := rfl } hms rfl
    { id := hr.id, win := fun _ => hr.win hl, lo := fun _ => hr.lo hl, hi := fun _ => hr.hi hl,
      cRst := fun _ => hr.cRst hl, cEnd := fun _ => rfl, pEnd := hr.pEnd,
      dead := fun hx => by rw [show s.live = false from hx] at hl; cases hl }

/-- when the strict peer accepts a DATA frame: no header block open, the stream not closed by
the client, within the frame size and (unless empty) within both windows -/
theorem client_data {m : Send} {ms : MStream} {id len : Nat} {es : Bool} (hdr : m.hdrOpen = none)
    (hms : findM m.streams id = some ms) (hce : ms.cEnd = false) (hcr : ms.cRst = false)
    (hlen : len ≤ m.maxFrame) (hcw : (len : Int) ≤ m.connWin ∨ len = 0) (hw : (len : Int) ≤ ms.win ∨ len = 0) :
    m.client (.data id len es) =
      .ok { m with connWin := m.connWin - len, streams := setM m.streams { ms with win := ms.win - len, cEnd := es } } := by
  unfold Send.client
  simp only [hdr, hms]
  rw [if_neg (by decide), if_neg (by omega), if_neg (by rw [hce, hcr]; decide), if_neg (by omega), if_neg (by omega)]

/-- `d` bytes of DATA leave on a live stream: both sides debit both windows by `d` -/
theorem sinv_data {st : State} {m : Send} (h : SInv (view st) m) {id : Nat} {s s' : Stream} {ms : MStream}
    (hms : findM m.streams id = some ms)
    (hr : Rel st.initialWindowSize s ms) (hl : s.live = true) {d : Nat} {c : Int} {last : Bool}
    (hc : c = st.connOut - d) (hd1 : (d : Int) ≤ st.connOut) (hd2 : (d : Int) ≤ s.out ∨ d = 0)
    (h1 : s'.id = s.id) (h2 : s'.live = true) (h3 : s'.out = s.out - d) (h4 : s'.sentEnd = last)
    (h5 : s'.peerEnd = s.peerEnd) :
    SInv (view (settle { st with connOut := c } s'))
      { m with connWin := m.connWin - d, streams := setM m.streams { ms with win := ms.win - d, cEnd := last } } := by
  have hwin := hr.win hl
  have hlo := hr.lo hl
  have hhi := hr.hi hl
  have hih : st.initialWindowSize ≤ 2147483647 := h.initHi
  have hcw : st.connOut ≤ m.connWin := h.connWin
  have hcl : 0 ≤ st.connOut := h.connLo
  have hch : st.connOut ≤ 2147483647 := h.connHi
  have hbase : SInv (view { st with connOut := c }) { m with connWin := m.connWin - (d : Int) } :=
    { h with connWin := by simp only [view]; omega, connLo := by simp only [view]; omega,
             connHi := by simp only [view]; omega }
  exact sinv_settle hbase hms rfl
    { id := by rw [h1]; exact hr.id, win := fun _ => by simp only [h3]; omega, lo := fun _ => by simp only [h3]; omega,
      hi := fun _ => by simp only [h3]; omega, cRst := fun _ => hr.cRst hl, cEnd := fun _ => h4.symm,
      pEnd := fun hp => hr.pEnd (h5 ▸ hp), dead := fun hx => by rw [h2] at hx; cases hx }

/-- `d` octets of DATA within both windows and the frame size (or none at all): the strict peer accepts
the frame -/
theorem sim_data {st : State} {m : Send} (h : SInv (view st) m) {id : Nat} {s : Stream}
    (hf : findStream st.streams id = some s) (hl : s.live = true) (hse : s.sentEnd = false) {d : Nat} (ch : Nat)
    (last : Bool) (hd : d = 0 ∨ ((d : Int) ≤ st.connOut ∧ (d : Int) ≤ s.out ∧ d ≤ st.maxFrameSize)) :
    ∃ m', m.client (Frame.data s.id d last) = .ok m' ∧
      SInv (view (settle { st with connOut := st.connOut - d } { s with out := s.out - d, chunk := ch, sentEnd := last })) m' := by
  obtain ⟨ms, hms, hr, hid⟩ := find_pair h (v := view st) hf
  have hwin := hr.win hl
  have hcw : st.connOut ≤ m.connWin := h.connWin
  have hcl : 0 ≤ st.connOut := h.connLo
  have hmfeq : m.maxFrame = st.maxFrameSize := h.maxFrame
  have hce : ms.cEnd = false := by rw [hr.cEnd hl]; exact hse
  exact ⟨_, client_data h.hdr (by rw [hid]; exact hms) hce (hr.cRst hl) (by omega) (by omega) (by omega),
    sinv_data h hms hr hl rfl (by omega) (by omega) rfl hl rfl rfl rfl⟩

theorem sim_write {st : State} {m : Send} (h : SInv (view st) m) (id : Nat) : Sim m (write st id) := by
  refine write_cases (Sim m) st id (sim_nil h) (fun s n hf _ hl hse hn => ?_) (fun s d ch last hf hl hse hd => ?_)
  · -- the trailer block: HEADERS with END_STREAM on a stream the client has not ended yet
    obtain ⟨ms, hms, hr, hid⟩ := find_pair h (v := view st) hf
    have hfix : st.cfg.fixes = Fixes.all := h.fixes
    have hmm := findM_mem hms
    have hlast : ¬ s.id > m.lastId := by
      have := (h.ids ms hmm.1).1
      rw [hid, ← hmm.2]; omega
    have hce : ms.cEnd = false := by rw [hr.cEnd hl]; exact hse
    have hrun := trailers_run h.hdr s.id n st.cfg.hdrPrio st.maxFrameSize h.maxFrame h.frameLo hn hlast
      (by rw [hid]; exact hms) hce (hr.cRst hl)
    simp only [hfix, Fixes.all, if_true]
    exact ⟨_, hrun, sinv_sentEnd h hms hr hl⟩
  · obtain ⟨m', h1, h2⟩ := sim_data h hf hl hse ch last hd
    exact ⟨m', send_run_single_c h1, h2⟩

/-- the peer books a frame of its own on stream `id` (`g` on its entry, if it knows the stream) in a
way that keeps the relation: the invariant holds for its new books, and they are the old ones
with that one entry changed -/
theorem sinv_peer_upd {st : State} {m m1 : Send} (h : SInv (view st) m) (id : Nat) (g : MStream → MStream)
    (hgid : ∀ ms, (g ms).id = ms.id)
    (hg : ∀ {s ms}, Rel st.initialWindowSize s ms → Rel st.initialWindowSize s (g ms))
    (hm1 : m1 = match findM m.streams id with
      | none => m
      | some ms => { m with streams := setM m.streams (g ms) }) :
    SInv (view st) m1 ∧
    ∀ s, findStream st.streams id = some s → ∃ ms, findM m.streams id = some ms ∧
      Rel st.initialWindowSize s ms ∧ m1 = { m with streams := setM m.streams (g ms) } := by
  subst hm1
  cases hf : findStream st.streams id with
  | none =>
    rw [find_none h (v := view st) hf]
    exact ⟨h, fun s hs => by cases hs⟩
  | some s =>
    obtain ⟨ms, hms, hr, _⟩ := find_pair h (v := view st) hf
    rw [hms]
    exact ⟨sinv_mon_upd h (v := view st) hf hms (hgid ms) (hg hr), fun s' hs' => by cases hs'; exact ⟨ms, rfl, hr, rfl⟩⟩

/-- the peer's own RST_STREAM ends the stream without an answer from the client -/
theorem sim_peerRst {st : State} {m : Send} (h : SInv (view st) m) (id code : Nat) :
    Sim (m.peer (.rst id code)) (peerRst st id code) := by
  obtain ⟨hbase, hpair⟩ := sinv_peer_upd h id (fun ms => { ms with pRst := true }) (fun _ => rfl)
    (fun hr => { hr with dead := fun _ => by simp [MStream.closed] }) (m1 := m.peer (.rst id code)) rfl
  refine peerRst_cases (Sim (m.peer (.rst id code))) st id code (sim_nil hbase) (fun s hf _ => ?_)
  obtain ⟨ms, hms, hr, hm1⟩ := hpair s hf
  rw [hm1]
  refine ⟨{ m with streams := setM m.streams { ms with pRst := true } }, by simp [terminate, Send.run], ?_⟩
  rw [view_terminate]
  exact sinv_set h (v := view st) (s' := { s with live := false }) hms rfl
    (rel_dead rfl hr.id hr.pEnd (by simp [MStream.closed]))

/-- a WINDOW_UPDATE the client applies moves both windows by the same amount; one it answers with
an error only widens the monitor's -/
theorem sim_peerWindowUpdate {st : State} {m : Send} (h : SInv (view st) m) (id inc : Nat)
    (hinc : inc ≤ 2147483647) : Sim (m.peer (.windowUpdate id inc)) (peerWindowUpdate st id inc) := by
  have hcw : st.connOut ≤ m.connWin := h.connWin
  have hcl : 0 ≤ st.connOut := h.connLo
  have hch : st.connOut ≤ 2147483647 := h.connHi
  have hih : st.initialWindowSize ≤ 2147483647 := h.initHi
  by_cases hid : id = 0
  · have hm1 : m.peer (.windowUpdate id inc) = { m with connWin := m.connWin + (inc : Int) } := if_pos hid
    rw [hm1]
    have hbase : SInv (view st) { m with connWin := m.connWin + (inc : Int) } :=
      { h with connWin := by simp only [view]; omega }
    refine peerWindowUpdate_cases (Sim _) st id inc (sim_nil hbase) (sim_nil hbase) (fun w _ hw => ?_)
      (fun _ h0 => absurd hid h0) (fun _ _ h0 => absurd hid h0)
    obtain ⟨rfl, hin⟩ := addWindow_some (by unfold In32; omega) hinc hw
    unfold In32 at hin
    exact ⟨_, rfl, { h with connWin := by simp only [view]; omega, connLo := by simp only [view]; omega,
                             connHi := by simp only [view]; omega }⟩
  · have hm1 : m.peer (.windowUpdate id inc) = (match findM m.streams id with
        | none => m
        | some ms => { m with streams := setM m.streams { ms with win := ms.win + (inc : Int) } }) := if_neg hid
    obtain ⟨hbase, hpair⟩ := sinv_peer_upd h id (fun ms => { ms with win := ms.win + (inc : Int) }) (fun _ => rfl)
      (fun hr => { hr with win := fun hl => by have := hr.win hl; simp only; omega }) hm1
    refine peerWindowUpdate_cases (Sim _) st id inc (sim_nil hbase) (sim_nil hbase) (fun _ h0 => absurd h0 hid)
      (fun s _ hf hl => sim_terminate_client hbase hf hl) (fun s w _ hf hl hw => ?_)
    obtain ⟨ms, hms, hr, hm1'⟩ := hpair s hf
    have hlo := hr.lo hl
    have hhi := hr.hi hl
    obtain ⟨rfl, hin⟩ := addWindow_some (by unfold In32; omega) hinc hw
    unfold In32 at hin
    rw [hm1']
    exact ⟨_, rfl, sinv_set h (v := view st) (s' := { s with out := s.out + (inc : Int) }) hms rfl
      { hr with win := fun _ => by have := hr.win hl; simp only; omega,
                lo := fun _ => by show (st.initialWindowSize : Int) - 2147483647 ≤ s.out + inc; omega,
                hi := fun _ => by simp only; omega }⟩

theorem sim_abortAbove (last : Nat) (ids : List Nat) :
    ∀ {st : State} {m : Send}, SInv (view st) m → Sim m (abortAbove last ids st) := by
  intro st m h
  refine abortAbove_induction (P := fun st r => ∀ m, SInv (view st) m → Sim m r) last (fun _ _ h => sim_nil h)
    (fun st s _ r hf hl hr m h => ?_) ids st m h
  obtain ⟨m1, hr1, hi1⟩ := sim_terminate_client h hf hl
  obtain ⟨m2, hr2, hi2⟩ := hr m1 hi1
  exact ⟨m2, by simp only [List.map_append]; exact send_run_ok_append hr1 hr2, hi2⟩

theorem sinv_settle_peer {st : State} {m : Send} (h : SInv (view st) m) {id : Nat} {s s' : Stream} {ms : MStream}
    (es : Bool) (hms : findM m.streams id = some ms)
    (hr : Rel (view st).initialWindowSize s ms) (hl : s.live = true)
    (h1 : s'.id = s.id) (h2 : s'.live = s.live) (h3 : s'.out = s.out) (h4 : s'.sentEnd = s.sentEnd)
    (h5 : s'.peerEnd = true → s.peerEnd = true ∨ es = true) :
    SInv (view (settle st s')) { m with streams := setM m.streams { ms with pEnd := ms.pEnd || es } } :=
  sinv_settle h hms rfl
    { id := by rw [hr.id]; exact h1.symm,
      win := fun _ => by rw [h3]; exact hr.win hl,
      lo := fun _ => by rw [h3]; exact hr.lo hl,
      hi := fun _ => by rw [h3]; exact hr.hi hl,
      cRst := fun _ => hr.cRst hl,
      cEnd := fun _ => by rw [h4]; exact hr.cEnd hl,
      pEnd := fun hp => by rcases h5 hp with hp' | hp' <;> simp [hr.pEnd, hp'],
      dead := fun hx => by rw [h2, hl] at hx; cases hx }

/-- the peer's own books after a frame that may carry END_STREAM (response HEADERS, DATA) -/
theorem sinv_peer_end {st : State} {m m1 : Send} (h : SInv (view st) m) (id : Nat) (es : Bool)
    (hm1 : m1 = match findM m.streams id with
      | none => m
      | some ms => { m with streams := setM m.streams { ms with pEnd := ms.pEnd || es } }) :
    SInv (view st) m1 ∧
    ∀ s, findStream st.streams id = some s → ∃ ms, findM m.streams id = some ms ∧
      Rel st.initialWindowSize s ms ∧
      m1 = { m with streams := setM m.streams { ms with pEnd := ms.pEnd || es } } :=
  sinv_peer_upd h id (fun ms => { ms with pEnd := ms.pEnd || es }) (fun _ => rfl)
    (fun hr => { hr with
      pEnd := fun hp => by simp [hr.pEnd hp],
      dead := fun hl => by
        have := hr.dead hl
        simp only [MStream.closed, Bool.or_eq_true, Bool.and_eq_true] at this ⊢
        rcases this with (h1 | h1) | h1
        · exact Or.inl (Or.inl h1)
        · exact Or.inl (Or.inr h1)
        · exact Or.inr ⟨h1.1, Or.inl h1.2⟩ }) hm1

theorem sim_peerResp {st : State} {m : Send} (h : SInv (view st) m) (id : Nat) (es : Bool)
    (status : Nat) (cl : Option Nat) :
    Sim (m.peer (.resp id es status cl)) (peerResp st id es status cl) := by
  obtain ⟨hbase, hpair⟩ := sinv_peer_end h id es (m1 := m.peer (.resp id es status cl)) rfl
  refine peerResp_cases (Sim (m.peer (.resp id es status cl))) st id es status cl (sim_nil hbase) (sim_nil hbase)
    (fun s hf hl => sim_terminate_client hbase hf hl)
    (fun s hf _ => ⟨_, rfl, sinv_set_left hbase (v := view st) hf rfl rfl rfl rfl rfl⟩)
    (fun s hf hl _ => ?_) (fun s hf hl _ he => ?_)
  · obtain ⟨ms, hms, hr, hm1⟩ := hpair s hf
    rw [hm1]
    exact ⟨_, rfl, sinv_settle_peer h es hms hr hl rfl rfl rfl rfl (fun hp => Or.inr hp)⟩
  · obtain ⟨ms, hms, hr, hm1⟩ := hpair s hf
    rw [hm1]
    exact ⟨_, rfl, sinv_settle_peer h es hms hr hl rfl rfl rfl rfl (fun _ => Or.inr he)⟩

theorem sim_discardData {st : State} {m : Send} (h : SInv (view st) m) {id : Nat} {s : Stream}
    (hf : findStream st.streams id = some s) (hl : s.live = true) (flen : Int) :
    Sim m (discardData st s flen) := by
  obtain ⟨m1, hr1, hi1⟩ := sim_terminate_client h hf hl (s' := s)
  refine discardData_cases (Sim m) st s flen
    (sim_nil h) (sim_nil h) (fun _ => ⟨m1, hr1, hi1⟩) (fun _ _ _ _ _ _ _ => ⟨m1, ?_, hi1⟩)
  rw [List.map_append]
  exact send_run_ok_append hr1 (send_run_wu hi1.hdr _ _)

theorem sim_peerData {st : State} {m : Send} (h : SInv (view st) m) (id len pad : Nat) (es : Bool) :
    Sim (m.peer (.data id len pad es)) (peerData st id len pad es) := by
  obtain ⟨hbase, hpair⟩ := sinv_peer_end h id es (m1 := m.peer (.data id len pad es)) rfl
  refine peerData_cases (Sim (m.peer (.data id len pad es))) st id len pad es (fun _ => (sim_nil hbase)) (sim_nil hbase) (sim_nil hbase)
    (fun _ _ _ _ _ => ⟨_, send_run_wu hbase.hdr _ _, hbase⟩)
    (fun s hf hl => sim_discardData hbase hf hl _)
    (fun s _ _ ci' _ si' _ hf hl _ _ _ _ => ?_) (fun s hf hl _ _ => ?_)
  · obtain ⟨ms, hms, hr, hm1⟩ := hpair s hf
    refine ⟨_, send_run_wu2 hbase.hdr _ _ _ _, ?_⟩
    rw [hm1]
    exact sinv_settle_peer (st := { st with connIn := ci' })
      (s' := { s with inflow := si', buffered := s.buffered + len, peerEnd := es })
      h es hms hr hl rfl rfl rfl rfl (fun hp => Or.inr hp)
  · obtain ⟨ms, hms, hr, hm1⟩ := hpair s hf
    rw [hm1]
    exact ⟨_, rfl, sinv_settle_peer (s' := { s with peerEnd := es }) h es hms hr hl rfl rfl rfl rfl
      (fun hp => Or.inr hp)⟩

/-- the new initial window moves the window of a live stream on both sides; where the client's
addition overflows (and is ignored) its window stays below the monitor's -/
theorem rel_delta {iw iw' : Nat} (hiw : iw ≤ 2147483647) (hiw' : iw' ≤ 2147483647) {s : Stream} {ms : MStream}
    (hr : Rel iw s ms) :
    Rel iw' (deltaStream ((iw' : Int) - (iw : Int)) s) { ms with win := ms.win + ((iw' : Int) - (iw : Int)) } := by
  unfold deltaStream
  by_cases hl : s.live = true
  · rw [if_pos hl]
    have hwin := hr.win hl
    have hlo := hr.lo hl
    have hhi := hr.hi hl
    rw [addWindow_spec s.out _ (by unfold In32; omega) (by unfold In32; omega)]
    have hrest : ∀ w, Rel iw' { s with out := w } { ms with win := ms.win + ((iw' : Int) - (iw : Int)) } ↔
        (w ≤ ms.win + ((iw' : Int) - (iw : Int)) ∧ (iw' : Int) - 2147483647 ≤ w ∧ w ≤ 2147483647) := fun w =>
      ⟨fun h => ⟨h.win hl, h.lo hl, h.hi hl⟩, fun h =>
        { id := hr.id, win := fun _ => h.1, lo := fun _ => h.2.1, hi := fun _ => h.2.2, cRst := hr.cRst, cEnd := hr.cEnd,
          pEnd := hr.pEnd, dead := hr.dead }⟩
    by_cases hin : In32 (s.out + ((iw' : Int) - (iw : Int)))
    · rw [if_pos hin]
      unfold In32 at hin
      exact (hrest _).mpr (by omega)
    · rw [if_neg hin]
      unfold In32 at hin
      exact (hrest s.out).mpr (by omega)
  · rw [if_neg hl]
    exact rel_dead (eq_false_of_ne_true hl) hr.id hr.pEnd (hr.dead (eq_false_of_ne_true hl))

theorem rels_delta {iw iw' : Nat} (hiw : iw ≤ 2147483647) (hiw' : iw' ≤ 2147483647)
    {l : List Stream} {ml : List MStream} (h : Rels iw l ml) :
    Rels iw' (l.map (deltaStream ((iw' : Int) - (iw : Int))))
      (ml.map fun ms => { ms with win := ms.win + ((iw' : Int) - (iw : Int)) }) := by
  induction h with
  | nil => exact Rels.nil
  | cons hr _ ih => exact Rels.cons (rel_delta hiw hiw' hr) ih

/-- one acknowledged setting: both sides make the same change -/
theorem sim_applySetting {st st' : State} {m : Send} {sm sm' : Bool} {p : Nat × Nat}
    (h : SInv { (view st) with seenSettings := true } m)
    (cn : st.seenSettings = false → sm = false → m.maxConc = none) :
    applySetting st sm p = some (st', sm') →
    SInv { (view st') with seenSettings := true } (ackSetting m p) ∧
    (st'.seenSettings = false → sm' = false → (ackSetting m p).maxConc = none) ∧
    st'.seenSettings = st.seenSettings := by
  refine applySetting_cases (fun o => o = some (st', sm') → _) st sm p (fun _ heq => by cases heq)
    (fun h5 hlo _ heq => ?_) (fun h5 h3 heq => ?_) (fun h5 h3 h4 hp2 heq => ?_) (fun h5 h3 h4 heq => ?_) <;> cases heq
  · rw [show ackSetting m p = { m with maxFrame := p.2 } by unfold ackSetting; rw [if_pos h5]]
    exact ⟨{ h with maxFrame := rfl, frameLo := hlo }, cn, rfl⟩
  · rw [show ackSetting m p = { m with maxConc := some p.2 } by unfold ackSetting; rw [if_neg h5, if_pos h3]]
    exact ⟨{ h with conc := fun k hk => (by cases hk; rfl), concNone := fun hx => (by cases hx) },
      fun _ hx => (by cases hx), rfl⟩
  · rw [show ackSetting m p = { m with initWin := p.2, streams := m.streams.map fun s =>
        { s with win := s.win + ((p.2 : Int) - (m.initWin : Int)) } } by
      unfold ackSetting; rw [if_neg h5, if_neg h3, if_pos h4]]
    have hiw : m.initWin = st.initialWindowSize := h.initWin
    have hih : st.initialWindowSize ≤ 2147483647 := h.initHi
    obtain ⟨t1, t2, t3, t4⟩ := sinv_table h (map_delta_ids ((p.2 : Int) - (st.initialWindowSize : Int)) st.streams)
    refine ⟨{ h with initWin := rfl, initHi := hp2, ids := ?_, rel := ?_, nodup := t1, idsLt := t4,
                     sorted := t2, oddIds := t3 }, cn, rfl⟩
    · intro ms hms
      rcases List.mem_map.mp hms with ⟨y, hy, rfl⟩
      exact h.ids y hy
    · show Rels p.2 (st.streams.map (deltaStream ((p.2 : Int) - (st.initialWindowSize : Int)))) (m.streams.map _)
      rw [hiw]
      exact rels_delta hih hp2 h.rel
  · rw [show ackSetting m p = m by unfold ackSetting; rw [if_neg h5, if_neg h3, if_neg h4]]
    exact ⟨h, cn, rfl⟩

theorem sim_applySettings {vals : List (Nat × Nat)} :
    ∀ {st st' : State} {m : Send} {sm sm' : Bool},
    SInv { (view st) with seenSettings := true } m →
    (st.seenSettings = false → sm = false → m.maxConc = none) →
    applySettings st sm vals = some (st', sm') →
    vals.any invalidSetting = false ∧
    SInv { (view st') with seenSettings := true } (vals.foldl ackSetting m) ∧
    (st'.seenSettings = false → sm' = false → (vals.foldl ackSetting m).maxConc = none) ∧
    st'.seenSettings = st.seenSettings := by
  intro st st' m sm sm' h cn heq
  refine ⟨?_, ?_⟩
  · cases hi : vals.any invalidSetting with
    | false => rfl
    | true => rw [applySettings_none_iff.mpr hi] at heq; cases heq
  · exact applySettings_fold (P := fun s b m => SInv { (view s) with seenSettings := true } m ∧
        (s.seenSettings = false → b = false → m.maxConc = none) ∧ s.seenSettings = st.seenSettings) ackSetting vals
      (fun _ _ _ _ _ _ _ h1 ⟨a1, a2, a3⟩ => have ⟨b1, b2, b3⟩ := sim_applySetting a1 a2 h1; ⟨b1, b2, b3.trans a3⟩)
      heq ⟨h, cn, rfl⟩

theorem send_pending_nil {m : Send} (h : m.pending = []) : { m with pending := [] } = m := by
  cases m; simp_all

/-- the two ways `processSettings` can go: an invalid frame closes the connection and nothing is
written; a valid one is acknowledged, and the acknowledgement makes the monitor apply what the
client has applied -/
theorem peerSettings_shape {st : State} {m : Send} (h : SInv (view st) m) (vals : List (Nat × Nat)) :
    (peerSettings st vals = ({ st with closed := true }, []) ∧ vals.any invalidSetting = true) ∨
    (∃ st1, peerSettings st vals = (st1, [Frame.settingsAck]) ∧ st1.closed = st.closed ∧
      vals.any invalidSetting = false ∧ SInv (view st1) (vals.foldl ackSetting m)) := by
  have key : ∀ {st1 seenMax}, applySettings st false vals = some (st1, seenMax) →
      vals.any invalidSetting = false ∧ SInv { (view st1) with seenSettings := true } (vals.foldl ackSetting m) ∧
      (st1.seenSettings = false → seenMax = false → (vals.foldl ackSetting m).maxConc = none) ∧
      st1.closed = st.closed := fun hs => by
    obtain ⟨b1, b2, b3, _⟩ := sim_applySettings (m := m) { h with concNone := fun hx => nomatch hx }
      (fun hseen _ => h.concNone hseen) hs
    exact ⟨b1, b2, b3, by obtain ⟨_, _, _, _, rfl⟩ := applySettings_touch hs; rfl⟩
  refine peerSettings_cases (fun x => (x = ({ st with closed := true }, []) ∧ vals.any invalidSetting = true) ∨
      ∃ st1, x = (st1, [Frame.settingsAck]) ∧ st1.closed = st.closed ∧ vals.any invalidSetting = false ∧
        SInv (view st1) (vals.foldl ackSetting m)) st vals
    (fun hs => Or.inl ⟨rfl, applySettings_none_iff.mp hs⟩) (fun st1 seenMax hs hseen => ?_) (fun st1 seenMax hs hseen => ?_)
  · -- not the first SETTINGS frame
    obtain ⟨b1, b2, _, hcl⟩ := key hs
    rw [show ({ (view st1) with seenSettings := true } : View) = view st1 by simp only [view, hseen]] at b2
    exact Or.inr ⟨_, rfl, hcl, b1, b2⟩
  · -- the first one: the stream limit is the peer's value, or the default
    obtain ⟨b1, b2, b3, hcl⟩ := key hs
    refine Or.inr ⟨_, rfl, hcl, b1, { b2 with conc := fun k hk => ?_, concNone := fun hx => nomatch hx }⟩
    cases hsm : seenMax with
    | true => exact b2.conc k hk
    | false => rw [b3 hseen hsm] at hk; cases hk

theorem sim_peerSettings {st : State} {m : Send} (h : SInv (view st) m) (vals : List (Nat × Nat)) :
    Sim (m.peer (.settings vals)) (peerSettings st vals) := by
  rw [peer_settings_eq]
  rcases peerSettings_shape h vals with ⟨he, hinv⟩ | ⟨st1, he, _, hval, hs⟩ <;> rw [he]
  · rw [if_pos hinv]; exact ⟨m, rfl, h⟩
  · rw [if_neg (by rw [hval]; decide), h.pending]
    have hm : ({ m with pending := [], hdrOpen := none } : Send) = m := by
      have h1 := h.pending; have h2 := h.hdr
      cases m; simp_all
    exact ⟨vals.foldl ackSetting m, send_run_single_c (by simp [Send.client, h.hdr, hm]), hs⟩

theorem sim_peer {st : State} {m : Send} (h : SInv (view st) m) (f : PFrame) (hok : f.ok) :
    Sim (m.peer f) (Conn.peer st f) := by
  cases f with
  | settings vals => exact sim_peerSettings h vals
  | settingsAck => exact peerSettingsAck_cases (Sim m) st (fun _ => sim_nil h) (sim_nil h)
  | windowUpdate id inc => exact sim_peerWindowUpdate h id inc hok
  | rst id code => exact sim_peerRst h id code
  | goaway last => exact sim_abortAbove last _ (st := { st with goAway := true }) h
  | resp id e status cl => exact sim_peerResp h id e status cl
  | data id len pad e => exact sim_peerData h id len pad e
  | ping ack d =>
    exact peerPing_cases (Sim m) st ack d (sim_nil h)
      (fun _ => ⟨m, by simp [Send.run, Send.step, Send.client, h.hdr], h⟩)
  | pushPromise id p => exact (sim_nil h)

theorem sim_apply {st : State} {m : Send} (h : SInv (view st) m) (op : Op) (hok : op.ok) :
    ∃ m', Send.run m (opEvents op (apply st op).2) = .ok m' ∧ SInv (view (apply st op).1) m' := by
  cases op with
  | openReq r => exact sim_openStream h r hok
  | feed id n => exact sim_feed h id n
  | write id => exact sim_write h id
  | cancel id => exact sim_cancel h id
  | read id n => exact sim_read h id n
  | close id => exact sim_close h id
  | wake => exact (sim_nil h)
  | peer f =>
    obtain ⟨m', h1, h2⟩ := sim_peer h f hok
    refine ⟨m', ?_, h2⟩
    simp only [opEvents, apply, List.singleton_append]
    rw [send_run_cons_p]
    exact h1

theorem sim_step {st : State} {m : Send} (h : SInv (view st) m) (op : Op) (hok : op.ok) :
    ∃ m', Send.run m (stepEvents st op) = .ok m' ∧
      SInv (view (step st op).1) m' := by
  refine step_cases (fun x => ∃ m', Send.run m (if st.closed then [] else opEvents op x.2) = .ok m' ∧
    SInv (view x.1) m') st op (fun hc => ?_) (fun hc _ => ?_) (fun hc => ?_)
  · rw [if_pos hc]; exact (sim_nil h)
  · rw [if_neg (ne_true_of_eq_false hc)]; exact sim_apply h op hok
  · rw [if_neg (ne_true_of_eq_false hc)]
    obtain ⟨m1, h1, h2⟩ := sim_apply h op hok
    obtain ⟨m2, h3, h4⟩ := sim_resumePending h2
    exact ⟨m2, by rw [opEvents_append]; exact send_run_ok_append h1 h3, h4⟩

/-- the send side's invariant holds along every run, and with it whatever else (`Q`, on state and
history) a step preserves where that invariant holds -/
theorem sinv_along {Q : State → List Event → Prop} (ops : List Op) (hok : ∀ op ∈ ops, op.ok)
    (hstep : ∀ {st hist m} (op : Op), op.ok → SInv (view st) m → Q st hist →
      Q (step st op).1 (hist ++ stepEvents st op))
    {st : State} {m m0 : Send} {hist : List Event} (hr : Send.run m0 hist = .ok m) (h : SInv (view st) m)
    (hq : Q st hist) :
    (∃ m', Send.run m0 (runFrom st hist ops).2 = .ok m' ∧ SInv (view (runFrom st hist ops).1) m') ∧
      Q (runFrom st hist ops).1 (runFrom st hist ops).2 := by
  refine runFrom_induction (P := fun st hist => (∃ m, Send.run m0 hist = .ok m ∧ SInv (view st) m) ∧ Q st hist) ops
    (fun st hist op ho ⟨⟨m, hr, h⟩, hq⟩ => ?_) st hist ⟨⟨m, hr, h⟩, hq⟩
  obtain ⟨m1, h1, h2⟩ := sim_step h op (hok op ho)
  exact ⟨⟨m1, send_run_ok_append hr h1, h2⟩, hstep op (hok op ho) h hq⟩

theorem sim_runFrom (ops : List Op) (hok : ∀ op ∈ ops, op.ok) {st : State} {m m0 : Send} {hist : List Event}
    (hr : Send.run m0 hist = .ok m) (h : SInv (view st) m) :
    ∃ m', Send.run m0 (runFrom st hist ops).2 = .ok m' ∧ SInv (view (runFrom st hist ops).1) m' :=
  (sinv_along (Q := fun _ _ => True) ops hok (fun _ _ _ _ => trivial) hr h trivial).1

theorem preface_run (cfg : Cfg) :
    Send.run Send.init ((newConn cfg).2.map Event.c) = .ok Send.init := by
  simp only [newConn, List.map_cons, List.cons_append, List.nil_append]
  rw [send_run_cons_c (m' := Send.init) (by simp [Send.client, Send.init])]
  rw [send_run_cons_c (m' := Send.init) (by simp [Send.client, Send.init])]
  generalize cfg.prio = l
  induction l with
  | nil => rfl
  | cons a l ih =>
    simp only [List.filter]
    split
    · rename_i ha
      simp only [List.map_cons]
      have hne : ¬ a = 0 := by
        simp only [decide_eq_true_eq] at ha
        exact ha.1
      rw [send_run_cons_c (m' := Send.init) (by simp [Send.client, Send.init, hne])]
      exact ih
    · exact ih

theorem sinv_init (cfg : Cfg) (hfix : cfg.fixes = Fixes.all) :
    SInv (view (newConn cfg).1) Send.init := by
  have hodd := nextStreamID0_odd cfg hfix
  have hmf : maxFrameSize0 cfg = 16384 := by
    unfold maxFrameSize0; rw [hfix]; rfl
  exact { fixes := hfix,
          maxFrame := by simp only [view, newConn, hmf, Send.init],
          frameLo := by simp only [view, newConn, hmf]; omega,
          pending := rfl, hdr := rfl, initWin := rfl,
          initHi := by simp only [view, newConn, initialWindowSize]; omega,
          conc := by intro k hk; simp [Send.init] at hk,
          concNone := fun _ => rfl,
          connWin := by simp only [view, newConn, Send.init]; omega,
          connLo := by simp only [view, newConn]; omega,
          connHi := by simp only [view, newConn]; omega,
          lastId := by simp only [view, newConn, Send.init]; omega,
          odd := hodd.2,
          ids := by intro ms hms; simp [Send.init] at hms,
          rel := Rels.nil,
          nodup := by simp [view, newConn],
          sorted := by simp [view, newConn],
          oddIds := by intro s hs; simp [view, newConn] at hs,
          idsLt := by intro s hs; simp [view, newConn] at hs,
          pendOpen := by intro a hx; simp [view, newConn] at hx }

/-- every run of the repaired model: the send side of the strict peer accepts the history, and the
simulation invariant holds at its end -/
theorem run_sinv (cfg : Cfg) (hfix : cfg.fixes = Fixes.all) (ops : List Op) (hok : ∀ op ∈ ops, op.ok) :
    ∃ m, Send.run Send.init (run cfg ops).2 = .ok m ∧ SInv (view (run cfg ops).1) m :=
  sim_runFrom ops hok (preface_run cfg) (sinv_init cfg hfix)

/-- every run of the repaired model is accepted by the send side of the strict peer -/
theorem send_conforms (cfg : Cfg) (hfix : cfg.fixes = Fixes.all) (ops : List Op) (hok : ∀ op ∈ ops, op.ok) :
    ∃ m, Send.run Send.init (run cfg ops).2 = .ok m ∧ m.final = .ok () := by
  obtain ⟨m, h1, h2⟩ := run_sinv cfg hfix ops hok
  exact ⟨m, h1, by simp [Send.final, h2.pending, h2.hdr]⟩

end Req.Lemmas.C06
