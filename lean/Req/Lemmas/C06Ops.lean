import Req.H2.Conn
import Req.Lemmas.ListFacts
/-!
C06 — the handlers of the connection model by cases.

Every property of C06 is an invariant proved by a walk over the handlers of `Req.H2.Conn`. Each
handler is a tree of guards whose leaves are a handful of moves (nothing, `terminate`, `settle`,
one stream replaced, a connection error, a panic). The lemmas here state that tree once per
handler, as an elimination rule with the guards as hypotheses; a walk supplies one argument per
leaf instead of unfolding the handler. The leaf moves themselves (`terminate`, `forget`, `settle`,
`doOpen`) are left to the walks; the two loops have induction principles (`abortAbove_induction`,
`applySettings_induction`), a run has `runFrom_induction`.

Before the rules: what the small functions of the model compute, for every walk alike — the stream
table (`findStream`, `setStream`: a keyed list), the windows (`addWindow`, `available`), the frames
of a header block (`headerFrames`), `forget` and `terminate` on a field they do not look at.

(The rules are proved with `by_cases` + `rw [if_pos/if_neg]`: `split` is slow to check on terms
that carry `{ st with … }`.)
-/
namespace Req.Lemmas.C06
open Req.H2 Req.H2.Flow Req.H2.Conn

theorem map_replace_self {α : Type} (key : α → Nat) {l : List α} {x : α} (hnd : (l.map key).Nodup) (hx : x ∈ l) :
    l.map (fun t => if key t = key x then x else t) = l := by
  have : ∀ t ∈ l, (if key t = key x then x else t) = id t := by
    intro t ht
    split
    · rename_i hk; exact (List.eq_of_key_eq hnd ht hx hk).symm
    · rfl
  rw [List.map_congr_left this, List.map_id]

theorem forall_mem_replace {α : Type} {l : List α} {c : α → Prop} [DecidablePred c] {y : α} {P : α → Prop}
    (h : ∀ x ∈ l, P x) (hy : P y) : ∀ x ∈ l.map (fun t => if c t then y else t), P x := by
  intro x hx
  rcases List.mem_map.mp hx with ⟨t, ht, rfl⟩
  split
  · exact hy
  · exact h t ht

theorem find?_map_key {α β : Type} (f : α → β) (p : β → Bool) (q : α → Bool) (h : ∀ a, p (f a) = q a) (l : List α) :
    (l.map f).find? p = (l.find? q).map f := by
  rw [List.find?_map]
  congr 2
  exact funext h

theorem find_setStream_any (l : List Stream) (s' : Stream) (id : Nat) :
    findStream (setStream l s') id = (findStream l id).map fun t => if t.id = s'.id then s' else t :=
  find?_map_key _ _ _ (fun t => by split <;> simp_all) l

theorem findStream_mem {l : List Stream} {id : Nat} {s : Stream} (h : findStream l id = some s) :
    s ∈ l ∧ s.id = id := by
  unfold findStream at h
  exact ⟨List.mem_of_find?_eq_some h, by simpa using List.find?_some h⟩

theorem setStream_self {l : List Stream} {s : Stream} {id : Nat}
    (hnd : (l.map (·.id)).Nodup) (hf : findStream l id = some s) : setStream l s = l :=
  map_replace_self Stream.id hnd (findStream_mem hf).1

theorem setStream_ids (l : List Stream) (s' : Stream) : (setStream l s').map (·.id) = l.map (·.id) := by
  unfold setStream
  rw [List.map_map]
  apply List.map_congr_left
  intro x _
  simp only [Function.comp]
  split
  · rename_i hx; rw [hx]
  · rfl
theorem find_setStream {l : List Stream} {id : Nat} {s s' : Stream}
    (hf : findStream l id = some s) (h1 : s'.id = s.id) : findStream (setStream l s') id = some s' := by
  rw [find_setStream_any, hf, Option.map_some, if_pos h1.symm]

theorem setStream_setStream (l : List Stream) (a b : Stream) (h : a.id = b.id) :
    setStream (setStream l a) b = setStream l b := by
  unfold setStream
  rw [List.map_map]
  apply List.map_congr_left
  intro x _
  simp only [Function.comp]
  by_cases hx : x.id = a.id
  · simp [hx, h]
  · have : ¬ x.id = b.id := by rw [← h]; exact hx
    simp [hx, this]
theorem find_append_old (l : List Stream) (x : Stream) (id : Nat) (s : Stream)
    (h : findStream l id = some s) : findStream (l ++ [x]) id = some s := by
  unfold findStream at *
  rw [List.find?_append, h]; rfl

theorem addWindow_some {w w' : Int} {n : Nat} (hw : In32 w) (hn : n ≤ 2147483647) (h : addWindow w n = some w') :
    w' = w + n ∧ In32 (w + n) := by
  rw [addWindow_spec w n hw (by unfold In32; omega)] at h
  split at h <;> cases h
  exact ⟨rfl, ‹_›⟩

theorem addWindow_zero (iw : Nat) (h : iw ≤ 2147483647) : addWindow 0 (iw : Int) = some (iw : Int) := by
  have hin : In32 (iw : Int) := by unfold In32; omega
  have hin0 : In32 (0 + (iw : Int)) := by unfold In32; omega
  rw [addWindow_spec 0 iw (by unfold In32; omega) hin, if_pos hin0, Int.zero_add]

theorem streamOut0_eq (iw : Nat) (h : iw ≤ 2147483647) : streamOut0 iw = (iw : Int) := by
  have hin : In32 (iw : Int) := by unfold In32; omega
  unfold streamOut0
  rw [wrap32_of_in32 hin, addWindow_zero iw h]
  rfl
theorem available_mono {c c1 o o1 : Int} (hc : c1 ≤ c) (ho : o1 ≤ o) : available c1 o1 ≤ available c o := by
  unfold available; split <;> split <;> omega
/-- for a legal fingerprint the connection window is initialised without wrap-around -/
theorem connInflowInit_ok {cfg : Cfg} (hok : cfg.ok) :
    1 ≤ connFlowAdvertised cfg.connFlow ∧
    connInflowInit cfg.connFlow = connFlowAdvertised cfg.connFlow + 65535 := by
  have hcf := hok.2
  have hcf1 : 1 ≤ connFlowAdvertised cfg.connFlow := by
    unfold connFlowAdvertised transportDefaultConnFlow; split <;> omega
  refine ⟨hcf1, ?_⟩
  unfold connInflowInit
  rw [wrap32_of_in32 (x := connFlowAdvertised cfg.connFlow) (by unfold In32; omega)]
  exact wrap32_of_in32 (by unfold In32; omega)

theorem headerFrames_zero (fuel id : Nat) (es : Bool) (mf : Nat) (prio fix first : Bool) :
    headerFrames fuel id 0 es mf prio fix first = [] := by
  cases fuel <;> simp [headerFrames]

/-- `writeHeaders`: the first frame of a non-empty block is a HEADERS frame that fits the frame
size (priority octets included) and ends the block exactly when nothing is left over -/
theorem headerFrames_first (id len : Nat) (es prio : Bool) (mf : Nat) (h16 : 16384 ≤ mf) (hlen : 0 < len) :
    ∃ chunk, 0 < chunk ∧ chunk ≤ len ∧ chunk + (if prio = true then 5 else 0) ≤ mf ∧
      headerFrames (len + 1) id len es mf prio true true =
        Frame.headers id (chunk + (if prio = true then 5 else 0)) es (decide (len - chunk = 0)) ::
          headerFrames len id (len - chunk) es mf prio true false := by
  have hne : ¬ len = 0 := by omega
  simp only [headerFrames, hne, if_false, true_and, and_true, if_true]
  generalize hlimit : (if prio = true then mf - 5 else mf) = limit
  have hl : 0 < limit ∧ limit + (if prio = true then 5 else 0) ≤ mf := by rw [← hlimit]; cases prio <;> simp <;> omega
  exact ⟨_, by split <;> omega, by split <;> omega, by split <;> omega, rfl⟩

theorem endOnHeaders_all (hasBody : Bool) (t : Option Nat) : endOnHeaders Fixes.all hasBody t = !hasBody := by
  cases hasBody <;> cases t <;> rfl

theorem doOpen_frames {st : State} (hfixes : st.cfg.fixes = Fixes.all) (r : Req) :
    (doOpen st r).2 = headerFrames (r.hdrLen + 1) st.nextStreamID r.hdrLen (r.known && r.bodyLen == 0)
      st.maxFrameSize st.cfg.hdrPrio true true := by
  simp only [doOpen, hfixes, endOnHeaders_all, Bool.not_not]
  rfl

theorem forget_open {st : State} {s : Stream} (h : (forget st s).closed = false) : st.closed = false := by
  unfold forget at h; dsimp only at h; split at h
  · cases h
  · exact h

theorem settle_open {st : State} {s : Stream} (h : (settle st s).closed = false) : st.closed = false := by
  unfold settle at h; split at h
  · exact forget_open h
  · exact h

theorem forget_connIn (st : State) (s : Stream) (c : Inflow) :
    ({ (forget st s) with connIn := c } : State) = forget { st with connIn := c } s := by
  unfold forget; simp only; split <;> rfl

theorem terminate_connIn (st : State) (s : Stream) (b : Bool) (c : Inflow) :
    terminate { st with connIn := c } s b =
      ({ (terminate st s b).1 with connIn := c }, (terminate st s b).2) := by
  unfold terminate; simp only [forget_connIn]

theorem feed_cases (motive : State × List Frame → Prop) (st : State) (id n : Nat)
    (skip : motive (st, []))
    (upd : ∀ s c, findStream st.streams id = some s →
      motive ({ st with streams := setStream st.streams { s with chunk := c, bodyRemain := s.bodyRemain - c } }, [])) :
    motive (feed st id n) := by
  unfold feed
  cases hf : findStream st.streams id with
  | none => exact skip
  | some s =>
    dsimp only
    by_cases hc : s.live = true ∧ ¬ s.sentEnd = true ∧ s.chunk = 0 ∧ s.bodyRemain > 0
    · rw [if_pos hc]; exact upd s _ hf
    · rw [if_neg hc]; exact skip

theorem cancel_cases (motive : State × List Frame → Prop) (st : State) (id : Nat)
    (skip : motive (st, []))
    (abort : ∀ s, findStream st.streams id = some s → s.live = true → motive (terminate st s false)) :
    motive (cancel st id) := by
  unfold cancel
  cases hf : findStream st.streams id with
  | none => exact skip
  | some s =>
    dsimp only
    by_cases hl : s.live = true
    · rw [if_pos hl]; exact abort s hf hl
    · rw [if_neg hl]; exact skip

/-- what one turn of the body writer that writes something does: `d` octets of DATA on a live stream
whose upload is not finished, debited from both send windows; `d` is 0 (the closing empty frame) or
fits both windows and the frame size -/
theorem writeStep_spec {c0 : Int} {mf : Nat} {s s' : Stream} {c : Int} {f : Frame}
    (hw : writeStep c0 mf s = some (c, s', f)) :
    ∃ (d ch : Nat) (last : Bool), s.live = true ∧ s.sentEnd = false ∧ c = c0 - d ∧
      s' = { s with out := s.out - d, chunk := ch, sentEnd := last } ∧ f = Frame.data s.id d last ∧
      (d = 0 ∨ ((d : Int) ≤ c0 ∧ (d : Int) ≤ s.out ∧ d ≤ mf)) := by
  unfold writeStep at hw
  by_cases h0 : (!s.live || s.sentEnd) = true
  · rw [if_pos h0] at hw; cases hw
  rw [if_neg h0] at hw
  have hl : s.live = true := by cases h : s.live <;> simp [h] at h0 ⊢
  have hs : s.sentEnd = false := by cases h : s.sentEnd <;> simp [h] at h0 ⊢
  by_cases hc : s.chunk = 0
  · rw [if_pos hc] at hw
    by_cases he : s.bodyRemain = 0 ∧ endOwed s = true
    · rw [if_pos he] at hw; cases hw
      exact ⟨0, s.chunk, true, hl, hs, by simp, by simp, rfl, .inl rfl⟩
    · rw [if_neg he] at hw; cases hw
  rw [if_neg hc] at hw
  by_cases ha : available c0 s.out ≤ 0
  · rw [if_pos ha] at hw; cases hw
  rw [if_neg ha] at hw; cases hw
  have ⟨t0, t1, t2, t3⟩ : 0 ≤ awaitTake (available c0 s.out) s.chunk mf ∧
      awaitTake (available c0 s.out) s.chunk mf ≤ available c0 s.out ∧
      awaitTake (available c0 s.out) s.chunk mf ≤ s.chunk ∧ awaitTake (available c0 s.out) s.chunk mf ≤ mf := by
    unfold awaitTake; simp only; split <;> split <;> omega
  have ha1 : available c0 s.out ≤ c0 := by unfold available; split <;> omega
  have ha2 : available c0 s.out ≤ s.out := by unfold available; split <;> omega
  generalize htk : awaitTake (available c0 s.out) s.chunk mf = take at *
  have hlen : ((take.toNat : Nat) : Int) = take := by omega
  exact ⟨take.toNat, s.chunk - take.toNat, _, hl, hs, by rw [hlen], by rw [hlen], rfl, .inr ⟨by omega, by omega, by omega⟩⟩

/-- when the writer has trailers to send: the upload is over, the block is split by the frame size in force -/
theorem trailerStep_spec {st : State} {s s' : Stream} {fs : List Frame} (ht : trailerStep st s = some (s', fs)) :
    ∃ n, s.trailer = some n ∧ s.live = true ∧ s.sentEnd = false ∧ 0 < n ∧ s' = { s with sentEnd := true } ∧
      fs = headerFrames (n + 1) s.id n true (if st.cfg.fixes.trailerFrame then st.maxFrameSize else s.upMaxFrame)
        st.cfg.hdrPrio st.cfg.fixes.hdrPrio true := by
  unfold trailerStep at ht
  cases hn : s.trailer with
  | none => rw [hn] at ht; cases ht
  | some n =>
    rw [hn] at ht; dsimp only at ht
    by_cases hc : s.live = true ∧ ¬ s.sentEnd = true ∧ s.chunk = 0 ∧ s.bodyRemain = 0 ∧ 0 < n
    · rw [if_pos hc] at ht; cases ht
      exact ⟨n, rfl, hc.1, eq_false_of_ne_true hc.2.1, hc.2.2.2.2, rfl, rfl⟩
    · rw [if_neg hc] at ht; cases ht

/-- `write` by cases, the outcomes written out: nothing; the trailer block; `d` octets of DATA -/
theorem write_cases (motive : State × List Frame → Prop) (st : State) (id : Nat)
    (skip : motive (st, []))
    (trailers : ∀ s n, findStream st.streams id = some s → s.trailer = some n → s.live = true → s.sentEnd = false → 0 < n →
      motive (settle st { s with sentEnd := true },
        headerFrames (n + 1) s.id n true (if st.cfg.fixes.trailerFrame then st.maxFrameSize else s.upMaxFrame)
          st.cfg.hdrPrio st.cfg.fixes.hdrPrio true))
    (data : ∀ s (d ch : Nat) (last : Bool), findStream st.streams id = some s → s.live = true → s.sentEnd = false →
      (d = 0 ∨ ((d : Int) ≤ st.connOut ∧ (d : Int) ≤ s.out ∧ d ≤ st.maxFrameSize)) →
      motive (settle { st with connOut := st.connOut - d } { s with out := s.out - d, chunk := ch, sentEnd := last },
        [Frame.data s.id d last])) :
    motive (write st id) := by
  unfold write
  cases hf : findStream st.streams id with
  | none => exact skip
  | some s =>
    dsimp only
    cases ht : trailerStep st s with
    | some r =>
      obtain ⟨n, h1, h2, h3, h4, h5, h6⟩ := trailerStep_spec (s' := r.1) (fs := r.2) ht
      dsimp only
      rw [h5, h6]
      exact trailers s n hf h1 h2 h3 h4
    | none =>
      dsimp only
      cases hw : writeStep st.connOut st.maxFrameSize s with
      | none => exact skip
      | some r =>
        obtain ⟨d, ch, last, hl, hse, h1, h2, h3, hd⟩ := writeStep_spec (c := r.1) (s' := r.2.1) (f := r.2.2) hw
        dsimp only
        rw [h1, h2, h3]
        exact data s d ch last hf hl hse hd

theorem closeStream_cases (motive : State × List Frame → Prop) (st : State) (s s' : Stream)
    (abort : s.live = true → motive (terminate st s' false))
    (upd : s.live = false → motive ({ st with streams := setStream st.streams s' }, [])) :
    motive (closeStream st s s') := by
  unfold closeStream
  by_cases hl : s.live = true
  · rw [if_pos hl]; exact abort hl
  · rw [if_neg hl]; exact upd (eq_false_of_ne_true hl)

theorem creditConn_cases (motive : State × List Frame → Prop) (r : State × List Frame) (n : Nat)
    (skip : n = 0 → motive r)
    (panic : motive ({ r.1 with panicked := true, closed := true }, r.2))
    (credit : ∀ ci connAdd, 0 < n → Inflow.add r.1.connIn n = .ok (ci, connAdd) →
      motive ({ r.1 with connIn := ci }, r.2 ++ wuFrame 0 connAdd)) :
    motive (creditConn r n) := by
  unfold creditConn
  by_cases hn : n > 0
  · rw [if_pos hn]
    cases ha : Inflow.add r.1.connIn n with
    | panic => exact panic
    | ok p => exact credit p.1 p.2 hn ha
  · rw [if_neg hn]; exact skip (by omega)

theorem readCore_cases (motive : State × List Frame → Prop) (st : State) (s : Stream) (k : Nat)
    (panic : motive (panicState st))
    (credit : ∀ ci connAdd si streamAdd, Inflow.add st.connIn k = .ok (ci, connAdd) →
      Inflow.add s.inflow k = .ok (si, streamAdd) →
      motive ({ st with connIn := ci,
                        streams := setStream st.streams { s with inflow := si, buffered := s.buffered - k } },
              wuFrame 0 connAdd ++ wuFrame s.id streamAdd)) :
    motive (readCore st s k) := by
  unfold readCore
  cases hc : Inflow.add st.connIn k with
  | panic => exact panic
  | ok p =>
    dsimp only
    cases hs : Inflow.add s.inflow k with
    | panic => exact panic
    | ok q => exact credit p.1 p.2 q.1 q.2 hc hs

theorem readK_cases (motive : State × List Frame → Prop) (st : State) (s : Stream) (k : Nat)
    (core : ∀ b, motive (readCore st { s with bytesRemain := b } k))
    (overlong : ∀ rem, s.bytesRemain = some rem → rem < k → motive (readOverlong st s k)) :
    motive (readK st s k) := by
  unfold readK
  cases hb : s.bytesRemain with
  | none => exact core s.bytesRemain
  | some rem =>
    dsimp only
    by_cases hk : k > rem
    · rw [if_pos hk]; exact overlong rem hb hk
    · rw [if_neg hk]; exact core _

theorem readOverlong_cases (motive : State × List Frame → Prop) (st : State) (s : Stream) (k : Nat)
    (credit : st.cfg.fixes.readCredit = true →
      motive (creditConn (closeStream st s { s with buffered := s.buffered - k, readErr := true }) k))
    (plain : st.cfg.fixes.readCredit = false →
      motive (closeStream st s { s with buffered := s.buffered - k, readErr := true })) :
    motive (readOverlong st s k) := by
  unfold readOverlong
  dsimp only
  by_cases hc : st.cfg.fixes.readCredit = true
  · rw [if_pos hc]; exact credit hc
  · rw [if_neg hc]; exact plain (eq_false_of_ne_true hc)

theorem read_cases (motive : State × List Frame → Prop) (st : State) (id n : Nat)
    (skip : motive (st, []))
    (take : ∀ s k, findStream st.streams id = some s → 0 < k → k ≤ s.buffered → motive (readK st s k)) :
    motive (Conn.read st id n) := by
  unfold Conn.read
  cases hf : findStream st.streams id with
  | none => exact skip
  | some s =>
    dsimp only
    by_cases hc : s.gotHeaders = true ∧ ¬ s.noBody = true ∧ ¬ s.broken = true ∧ ¬ s.readErr = true ∧ s.buffered > 0 ∧ n > 0
    · rw [if_pos hc]
      refine take s _ hf ?_ ?_
      · have := hc.2.2.2.2; split <;> omega
      · split <;> omega
    · rw [if_neg hc]; exact skip

theorem close_cases (motive : State × List Frame → Prop) (st : State) (id : Nat)
    (skip : (∀ s, findStream st.streams id = some s →
      ¬ (s.gotHeaders = true ∧ ¬ s.noBody = true ∧ ¬ s.broken = true)) → motive (st, []))
    (close : ∀ s, findStream st.streams id = some s →
      motive (creditConn (closeStream st s { s with broken := true, buffered := 0 }) s.buffered)) :
    motive (Conn.close st id) := by
  unfold Conn.close
  cases hf : findStream st.streams id with
  | none => exact skip fun _ h => by rw [hf] at h; cases h
  | some s =>
    dsimp only
    by_cases hc : s.gotHeaders = true ∧ ¬ s.noBody = true ∧ ¬ s.broken = true
    · rw [if_pos hc]; exact close s hf
    · rw [if_neg hc]; exact skip fun _ h => by rw [hf] at h; cases h; exact hc

theorem openStream_cases (motive : State × List Frame → Prop) (st : State) (r : Req)
    (skip : motive (st, []))
    (go : st.pendingOpen = none → liveCount st.streams < st.maxConcurrent → motive (doOpen st r))
    (park : st.pendingOpen = none → ¬ liveCount st.streams < st.maxConcurrent →
      motive ({ st with pendingOpen := some r }, [])) :
    motive (openStream st r) := by
  unfold openStream
  by_cases hp : st.pendingOpen.isSome = true
  · rw [if_pos hp]; exact skip
  rw [if_neg hp]
  have hp : st.pendingOpen = none := by cases h : st.pendingOpen <;> simp [h] at hp ⊢
  by_cases hc : (!canTake st) = true
  · rw [if_pos hc]; exact skip
  rw [if_neg hc]
  by_cases hl : liveCount st.streams < st.maxConcurrent
  · rw [if_pos hl]; exact go hp hl
  · rw [if_neg hl]; exact park hp hl

theorem resumePending_cases (motive : State × List Frame → Prop) (st : State)
    (idle : st.pendingOpen = none → motive (st, []))
    (wait : ∀ r, st.pendingOpen = some r → st.closed = false → ¬ liveCount st.streams < st.maxConcurrent →
      motive (st, []))
    (drop : ∀ r, st.pendingOpen = some r → motive ({ st with pendingOpen := none }, []))
    (go : ∀ r, st.pendingOpen = some r → st.closed = false → canTake { st with pendingOpen := none } = true →
      liveCount st.streams < st.maxConcurrent → motive (doOpen { st with pendingOpen := none } r)) :
    motive (resumePending st) := by
  unfold resumePending
  cases hp : st.pendingOpen with
  | none => exact idle hp
  | some r =>
    dsimp only
    by_cases hc : st.closed = true
    · rw [if_pos hc]; exact drop r hp
    rw [if_neg hc]
    by_cases ht : (!canTake { st with pendingOpen := none }) = true
    · rw [if_pos ht]; exact drop r hp
    rw [if_neg ht]
    by_cases hl : liveCount st.streams < st.maxConcurrent
    · rw [if_pos hl]; exact go r hp (eq_false_of_ne_true hc) (Bool.not_not_eq.mp ht) hl
    · rw [if_neg hl]; exact wait r hp (eq_false_of_ne_true hc) hl

/-- a setting the client must answer with a connection error instead of an acknowledgement
(RFC 9113 section 6.5.2). `Monitor.Send.peer` tests a frame with it (`peer_settings_eq`), and
`validSettings` is its negation over a frame (`validSettings_eq`). -/
def invalidSetting (p : Nat × Nat) : Bool :=
  (p.1 == sInitialWindowSize && decide (p.2 > 2147483647)) ||
  (p.1 == sMaxFrameSize && (decide (p.2 < 16384) || decide (p.2 > 16777215)))

theorem applySetting_cases (motive : Option (State × Bool) → Prop) (st : State) (sm : Bool) (p : Nat × Nat)
    (bad : invalidSetting p = true → motive none)
    (frame : p.1 = sMaxFrameSize → 16384 ≤ p.2 → p.2 ≤ 16777215 →
      motive (some ({ st with maxFrameSize := p.2 }, sm)))
    (conc : p.1 ≠ sMaxFrameSize → p.1 = sMaxConcurrentStreams → motive (some ({ st with maxConcurrent := p.2 }, true)))
    (win : p.1 ≠ sMaxFrameSize → p.1 ≠ sMaxConcurrentStreams → p.1 = sInitialWindowSize → p.2 ≤ 2147483647 →
      motive (some ({ st with streams := st.streams.map (deltaStream ((p.2 : Int) - (st.initialWindowSize : Int))),
                              initialWindowSize := p.2 }, sm)))
    (other : p.1 ≠ sMaxFrameSize → p.1 ≠ sMaxConcurrentStreams → p.1 ≠ sInitialWindowSize → motive (some (st, sm))) :
    motive (applySetting st sm p) := by
  unfold applySetting
  by_cases h5 : p.1 = sMaxFrameSize
  · rw [if_pos h5]
    by_cases hr : p.2 < 16384 ∨ p.2 > 16777215
    · rw [if_pos hr]
      refine bad ?_
      rcases hr with hr | hr <;> simp [invalidSetting, h5, hr]
    · rw [if_neg hr]; exact frame h5 (by omega) (by omega)
  rw [if_neg h5]
  by_cases h3 : p.1 = sMaxConcurrentStreams
  · rw [if_pos h3]; exact conc h5 h3
  rw [if_neg h3]
  by_cases h4 : p.1 = sInitialWindowSize
  · rw [if_pos h4]
    by_cases hb : p.2 > 2147483647
    · rw [if_pos hb]; exact bad (by simp [invalidSetting, h4, hb])
    · rw [if_neg hb]; exact win h5 h3 h4 (by omega)
  · rw [if_neg h4]; exact other h5 h3 h4

theorem applySetting_none_iff {st : State} {sm : Bool} {p : Nat × Nat} :
    applySetting st sm p = none ↔ invalidSetting p = true := by
  have key : ∀ x : State × Bool, invalidSetting p = false → (some x = none ↔ invalidSetting p = true) :=
    fun x hb => by simp [hb]
  refine applySetting_cases (fun o => o = none ↔ invalidSetting p = true) st sm p (fun h => ⟨fun _ => h, fun _ => rfl⟩)
    (fun h5 _ _ => key _ ?_) (fun h5 h3 => key _ ?_) (fun h5 _ h4 _ => key _ ?_) (fun h5 _ h4 => key _ ?_)
  · have : ¬ sMaxFrameSize = sInitialWindowSize := by decide
    simp [invalidSetting, h5, this]; omega
  · have : ¬ p.1 = sInitialWindowSize := by rw [h3]; decide
    simp [invalidSetting, h5, this]
  · simp [invalidSetting, h4]; omega
  · simp [invalidSetting, h5, h4]

theorem applySettings_none_iff {vals : List (Nat × Nat)} :
    ∀ {st : State} {sm : Bool}, applySettings st sm vals = none ↔ vals.any invalidSetting = true := by
  induction vals with
  | nil => intro st sm; simp [applySettings]
  | cons p ps ih =>
    intro st sm
    unfold applySettings
    cases h : applySetting st sm p with
    | none => simp [List.any, applySetting_none_iff.mp h]
    | some r =>
      have : invalidSetting p = false := by
        cases hi : invalidSetting p with
        | false => rfl
        | true => rw [applySetting_none_iff.mpr hi] at h; cases h
      simp only [List.any, this, Bool.false_or]
      exact ih

theorem deltaStream_out (d : Int) (s : Stream) : deltaStream d s = { s with out := (deltaStream d s).out } := by
  unfold deltaStream
  split
  · split <;> rfl
  · rfl

theorem deltaStream_id (delta : Int) (s : Stream) : (deltaStream delta s).id = s.id := by
  rw [deltaStream_out]

theorem map_delta_ids (delta : Int) (l : List Stream) :
    (l.map (deltaStream delta)).map (·.id) = l.map (·.id) := by
  rw [List.map_map]
  apply List.map_congr_left
  intro x _
  exact deltaStream_id delta x

/-- `applySettings` is a fold that stops at the first refused setting: what every accepted setting
carries from the state before it and a companion value `b` to the state after it and `g b p`, an
accepted frame carries to `vals.foldl g b` (the monitor applies an acknowledged frame by such a fold) -/
theorem applySettings_fold {β : Type} {P : State → Bool → β → Prop} (g : β → Nat × Nat → β) (vals : List (Nat × Nat))
    (hstep : ∀ p ∈ vals, ∀ {st sm st' sm' b}, applySetting st sm p = some (st', sm') → P st sm b → P st' sm' (g b p)) :
    ∀ {st sm st' sm' b}, applySettings st sm vals = some (st', sm') → P st sm b → P st' sm' (vals.foldl g b) := by
  induction vals with
  | nil =>
    intro st sm st' sm' b heq h
    simp only [applySettings, Option.some.injEq, Prod.mk.injEq] at heq
    obtain ⟨rfl, rfl⟩ := heq
    exact h
  | cons p ps ih =>
    intro st sm st' sm' b heq h
    unfold applySettings at heq
    cases h1 : applySetting st sm p with
    | none => rw [h1] at heq; cases heq
    | some r =>
      rw [h1] at heq
      exact ih (fun q hq => hstep q (List.mem_cons_of_mem _ hq)) heq (hstep p List.mem_cons_self h1 h)

theorem applySettings_induction {P : State → Bool → Prop} (vals : List (Nat × Nat))
    (hstep : ∀ p ∈ vals, ∀ {st sm st' sm'}, applySetting st sm p = some (st', sm') → P st sm → P st' sm')
    {st st' : State} {sm sm' : Bool} (heq : applySettings st sm vals = some (st', sm')) (h : P st sm) : P st' sm' :=
  applySettings_fold (P := fun s b (_ : Unit) => P s b) (fun _ _ => ()) vals (fun p hp => hstep p hp) (b := ()) heq h

/-- what an accepted SETTINGS frame touches: the three limits and the send windows of the streams,
nothing else -/
theorem applySettings_touch {vals : List (Nat × Nat)} {st st' : State} {sm sm' : Bool}
    (h : applySettings st sm vals = some (st', sm')) :
    ∃ (mf mc iw : Nat) (o : Stream → Int),
      st' = { st with maxFrameSize := mf, maxConcurrent := mc, initialWindowSize := iw,
                      streams := st.streams.map fun s => { s with out := o s } } := by
  refine applySettings_induction (P := fun s _ => ∃ (mf mc iw : Nat) (o : Stream → Int),
      s = { st with maxFrameSize := mf, maxConcurrent := mc, initialWindowSize := iw,
                    streams := st.streams.map fun s => { s with out := o s } }) vals
    (fun p _ s1 sm1 s2 sm2 h1 ⟨mf, mc, iw, o, he⟩ => ?_) h
    ⟨st.maxFrameSize, st.maxConcurrent, st.initialWindowSize, (·.out), by cases st; simp⟩
  subst he
  revert h1
  refine applySetting_cases (fun o => o = some (s2, sm2) → _) _ sm1 p (fun _ h => by cases h)
    (fun _ _ _ h => ?_) (fun _ _ h => ?_) (fun _ _ _ _ h => ?_) (fun _ _ _ h => ?_) <;> cases h
  · exact ⟨p.2, mc, iw, o, rfl⟩
  · exact ⟨mf, p.2, iw, o, rfl⟩
  · refine ⟨mf, mc, p.2, fun s => (deltaStream ((p.2 : Int) - (iw : Int)) { s with out := o s }).out, ?_⟩
    simp only [List.map_map]
    congr 1
    exact List.map_congr_left fun s _ => deltaStream_out _ _
  · exact ⟨mf, mc, iw, o, rfl⟩

theorem liveCount_map_out (l : List Stream) (o : Stream → Int) :
    liveCount (l.map fun s => { s with out := o s }) = liveCount l := by
  unfold liveCount
  induction l with
  | nil => rfl
  | cons a l ih => simp only [List.map_cons, List.filter]; split <;> simp [ih]

theorem applySetting_windows {st st' : State} {sm sm' : Bool} {p : Nat × Nat}
    (hp : (p.1 == sInitialWindowSize) = false) :
    applySetting st sm p = some (st', sm') → st'.connOut = st.connOut ∧ st'.streams = st.streams :=
  applySetting_cases (fun o => o = some (st', sm') → st'.connOut = st.connOut ∧ st'.streams = st.streams) st sm p
    (fun _ h => by cases h) (fun _ _ _ h => by cases h; exact ⟨rfl, rfl⟩) (fun _ _ h => by cases h; exact ⟨rfl, rfl⟩)
    (fun _ _ h4 _ _ => by simp [h4] at hp) (fun _ _ _ h => by cases h; exact ⟨rfl, rfl⟩)

theorem applySettings_windows {vals : List (Nat × Nat)} (hv : vals.any (·.1 == sInitialWindowSize) = false)
    {st st' : State} {sm sm' : Bool} (h : applySettings st sm vals = some (st', sm')) :
    st'.connOut = st.connOut ∧ st'.streams = st.streams :=
  applySettings_induction (P := fun s _ => s.connOut = st.connOut ∧ s.streams = st.streams) vals
    (fun p hp _ _ _ _ h1 b =>
      have a := applySetting_windows (by simpa using List.any_eq_false.mp hv p hp) h1
      ⟨a.1.trans b.1, a.2.trans b.2⟩)
    h ⟨rfl, rfl⟩

/-- `processSettings`: a frame with an invalid setting is a connection error; any other is
acknowledged, and the first one of a connection also fixes the stream limit -/
theorem peerSettings_cases (motive : State × List Frame → Prop) (st : State) (vals : List (Nat × Nat))
    (connErr : applySettings st false vals = none → motive (connError st))
    (later : ∀ st1 seenMax, applySettings st false vals = some (st1, seenMax) → st1.seenSettings = true →
      motive (st1, [Frame.settingsAck]))
    (first : ∀ st1 seenMax, applySettings st false vals = some (st1, seenMax) → st1.seenSettings = false →
      motive ({ st1 with seenSettings := true,
                         maxConcurrent := if seenMax then st1.maxConcurrent else defaultMaxConcurrentStreams },
              [Frame.settingsAck])) :
    motive (peerSettings st vals) := by
  unfold peerSettings
  cases hs : applySettings st false vals with
  | none => exact connErr hs
  | some r =>
    dsimp only
    by_cases hseen : r.1.seenSettings = true
    · rw [if_pos hseen]; exact later r.1 r.2 hs hseen
    · rw [if_neg hseen]; exact first r.1 r.2 hs (eq_false_of_ne_true hseen)

theorem peerSettingsAck_cases (motive : State × List Frame → Prop) (st : State)
    (ok : st.wantSettingsAck = true → motive ({ st with wantSettingsAck := false }, []))
    (connErr : motive (connError st)) : motive (peerSettingsAck st) := by
  unfold peerSettingsAck
  by_cases h : st.wantSettingsAck = true
  · rw [if_pos h]; exact ok h
  · rw [if_neg h]; exact connErr

theorem peerPing_cases (motive : State × List Frame → Prop) (st : State) (ack : Bool) (data : Nat)
    (acked : motive (st, [])) (answer : ack = false → motive (st, [Frame.ping true data])) :
    motive (peerPing st ack data) := by
  unfold peerPing
  by_cases h : ack = true
  · rw [if_pos h]; exact acked
  · rw [if_neg h]; exact answer (eq_false_of_ne_true h)

theorem peerWindowUpdate_cases (motive : State × List Frame → Prop) (st : State) (id inc : Nat)
    (skip : motive (st, []))
    (connErr : motive (connError st))
    (conn : ∀ w, id = 0 → addWindow st.connOut inc = some w → motive ({ st with connOut := w }, []))
    (abort : ∀ s, id ≠ 0 → findStream st.streams id = some s → s.live = true → motive (terminate st s false))
    (strm : ∀ s w, id ≠ 0 → findStream st.streams id = some s → s.live = true → addWindow s.out inc = some w →
      motive ({ st with streams := setStream st.streams { s with out := w } }, [])) :
    motive (peerWindowUpdate st id inc) := by
  unfold peerWindowUpdate
  by_cases hid : id = 0
  · rw [if_pos hid]
    by_cases hi : inc = 0
    · rw [if_pos hi]; exact connErr
    rw [if_neg hi]
    cases ha : addWindow st.connOut inc with
    | none => exact connErr
    | some w => exact conn w hid ha
  rw [if_neg hid]
  cases hf : findStream st.streams id with
  | none => exact skip
  | some s =>
    dsimp only
    by_cases hl : (!s.live) = true
    · rw [if_pos hl]; exact skip
    rw [if_neg hl]
    have hl := Bool.not_not_eq.mp hl
    by_cases hi : inc = 0
    · rw [if_pos hi]; exact abort s hid hf hl
    rw [if_neg hi]
    cases ha : addWindow s.out inc with
    | none => exact abort s hid hf hl
    | some w => exact strm s w hid hf hl ha

theorem peerRst_cases (motive : State × List Frame → Prop) (st : State) (id code : Nat)
    (skip : motive (st, []))
    (reset : ∀ s, findStream st.streams id = some s → s.live = true →
      motive (terminate { st with doNotReuse := st.doNotReuse || decide (code = 1) } s true)) :
    motive (peerRst st id code) := by
  unfold peerRst
  cases hf : findStream st.streams id with
  | none => exact skip
  | some s =>
    dsimp only
    by_cases hl : (!s.live) = true
    · rw [if_pos hl]; exact skip
    · rw [if_neg hl]; exact reset s hf (Bool.not_not_eq.mp hl)

theorem abortAbove_cons (last id : Nat) (rest : List Nat) (st : State) :
    abortAbove last (id :: rest) st = abortAbove last rest st ∨
    ∃ s, findStream st.streams id = some s ∧ s.live = true ∧
      abortAbove last (id :: rest) st =
        ((abortAbove last rest (terminate st s false).1).1,
         (terminate st s false).2 ++ (abortAbove last rest (terminate st s false).1).2) := by
  rw [abortAbove]
  cases hf : findStream st.streams id with
  | none => exact Or.inl rfl
  | some s =>
    dsimp only
    by_cases hc : s.live = true ∧ s.id > last
    · rw [if_pos hc]; exact Or.inr ⟨s, rfl, hc.1, rfl⟩
    · rw [if_neg hc]; exact Or.inl rfl

/-- the loop of `abortAbove`: it ends where it is, or terminates one live stream and goes on -/
theorem abortAbove_induction {P : State → State × List Frame → Prop} (last : Nat)
    (done : ∀ st, P st (st, []))
    (abort : ∀ st s id (r : State × List Frame), findStream st.streams id = some s → s.live = true →
      P (terminate st s false).1 r → P st (r.1, (terminate st s false).2 ++ r.2)) :
    ∀ ids st, P st (abortAbove last ids st) := by
  intro ids
  induction ids with
  | nil => exact done
  | cons id rest ih =>
    intro st
    rcases abortAbove_cons last id rest st with h | ⟨s, hf, hl, h⟩ <;> rw [h]
    · exact ih st
    · exact abort st s id _ hf hl (ih _)

theorem peerResp_cases (motive : State × List Frame → Prop) (st : State) (id : Nat) (es : Bool)
    (status : Nat) (cl : Option Nat)
    (skip : motive (st, []))
    (connErr : motive (connError st))
    (abort : ∀ s, findStream st.streams id = some s → s.live = true → motive (terminate st s false))
    (info : ∀ s, findStream st.streams id = some s → s.live = true →
      motive ({ st with streams := setStream st.streams { s with num1xx := s.num1xx + 1 } }, []))
    (final : ∀ s, findStream st.streams id = some s → s.live = true → s.peerEnd = false →
      motive (settle st { s with gotHeaders := true, noBody := es || s.head, peerEnd := es,
                                 bytesRemain := if es || s.head || !bodyAllowedForStatus status then none else cl }, []))
    (trailers : ∀ s, findStream st.streams id = some s → s.live = true → s.peerEnd = false → es = true →
      motive (settle st { s with peerEnd := true }, [])) :
    motive (peerResp st id es status cl) := by
  unfold peerResp
  cases hf : findStream st.streams id with
  | none => exact skip
  | some s =>
    dsimp only
    by_cases hl : (!s.live) = true
    · rw [if_pos hl]; exact skip
    rw [if_neg hl]
    have hl := Bool.not_not_eq.mp hl
    by_cases hp : s.peerEnd = true
    · rw [if_pos hp]; exact abort s hf hl
    rw [if_neg hp]
    have hp := eq_false_of_ne_true hp
    by_cases hg : (!s.gotHeaders) = true
    · rw [if_pos hg]
      by_cases h0 : status = 0
      · rw [if_pos h0]; exact abort s hf hl
      rw [if_neg h0]
      by_cases h1 : 100 ≤ status ∧ status ≤ 199
      · rw [if_pos h1]
        by_cases h2 : es = true ∨ 5 ≤ s.num1xx
        · rw [if_pos h2]; exact abort s hf hl
        · rw [if_neg h2]; exact info s hf hl
      · rw [if_neg h1]; exact final s hf hl hp
    · rw [if_neg hg]
      by_cases h3 : status ≠ 0 ∨ (!es) = true
      · rw [if_pos h3]; exact connErr
      · rw [if_neg h3]
        exact trailers s hf hl hp (by cases es <;> simp at h3 ⊢)

/-- the block `peerData` (DATA on a stream that has left `cc.streams`) and `discardData` share:
`n` bytes are taken from the connection window and handed straight back -/
theorem takeBack_cases (motive : State × List Frame → Prop) (st : State) (r : State × List Frame) (n : Int)
    (panic : motive (panicState st))
    (connErr : motive (connError st))
    (credit : ∀ ci ci' connAdd, Inflow.take st.connIn n = (ci, true) → Inflow.add ci n = .ok (ci', connAdd) →
      motive ({ r.1 with connIn := ci' }, r.2 ++ wuFrame 0 connAdd)) :
    motive (match Inflow.take st.connIn n with
      | (ci, ok) =>
        match Inflow.add ci n with
        | .panic => panicState st
        | .ok (ci', connAdd) =>
          if !ok then connError st else ({ r.1 with connIn := ci' }, r.2 ++ wuFrame 0 connAdd)) := by
  rcases hT : Inflow.take st.connIn n with ⟨ci, ok⟩
  dsimp only
  cases ha : Inflow.add ci n with
  | panic => exact panic
  | ok p =>
    dsimp only
    cases ok with
    | false => exact connErr
    | true => exact credit ci p.1 p.2 hT ha

theorem discardData_cases (motive : State × List Frame → Prop) (st : State) (s : Stream) (flen : Int)
    (panic : motive (panicState st))
    (connErr : motive (connError st))
    (plain : ¬ (st.cfg.fixes.dataCredit = true ∧ flen > 0) → motive (terminate st s false))
    (credit : ∀ ci ci' connAdd, st.cfg.fixes.dataCredit = true → 0 < flen →
      Inflow.take st.connIn flen = (ci, true) → Inflow.add ci flen = .ok (ci', connAdd) →
      motive ({ (terminate st s false).1 with connIn := ci' }, (terminate st s false).2 ++ wuFrame 0 connAdd)) :
    motive (discardData st s flen) := by
  unfold discardData
  dsimp only
  by_cases hc : st.cfg.fixes.dataCredit = true ∧ flen > 0
  · rw [if_pos hc]
    exact takeBack_cases motive st (terminate st s false) flen panic connErr
      (fun ci ci' connAdd h1 h2 => credit ci ci' connAdd hc.1 hc.2 h1 h2)
  · rw [if_neg hc]; exact plain hc

theorem filter_live_eq_some {l : List Stream} {id : Nat} {s : Stream}
    (h : (findStream l id).filter (·.live) = some s) : findStream l id = some s ∧ s.live = true := by
  cases hf : findStream l id with
  | none => rw [hf] at h; cases h
  | some s0 =>
    rw [hf] at h
    cases hl : s0.live with
    | false => simp [Option.filter, hl] at h
    | true =>
      simp only [Option.filter, hl, if_true, Option.some.injEq] at h
      subst h; exact ⟨rfl, hl⟩

theorem peerData_cases (motive : State × List Frame → Prop) (st : State) (id len pad : Nat) (es : Bool)
    (skip : len + pad = 0 → motive (st, []))
    (panic : motive (panicState st))
    (connErr : motive (connError st))
    (stray : ∀ ci ci' connAdd, Inflow.take st.connIn ((len + pad : Nat) : Int) = (ci, true) →
      Inflow.add ci ((len + pad : Nat) : Int) = .ok (ci', connAdd) →
      motive ({ st with connIn := ci' }, wuFrame 0 connAdd))
    (discard : ∀ s, findStream st.streams id = some s → s.live = true →
      motive (discardData st s ((len + pad : Nat) : Int)))
    (data : ∀ s ci si ci' sendConn si' sendStream, findStream st.streams id = some s → s.live = true →
      s.peerEnd = false → takeInflows st.connIn s.inflow ((len + pad : Nat) : Int) = (ci, si, true) →
      Inflow.add ci pad = .ok (ci', sendConn) → Inflow.add si pad = .ok (si', sendStream) →
      motive (settle { st with connIn := ci' }
                { s with inflow := si', buffered := s.buffered + len, peerEnd := es },
              wuFrame 0 sendConn ++ wuFrame id sendStream))
    (empty : ∀ s, findStream st.streams id = some s → s.live = true → s.peerEnd = false → len + pad = 0 →
      motive (settle st { s with peerEnd := es }, [])) :
    motive (peerData st id len pad es) := by
  unfold peerData
  dsimp only
  cases hfs : (findStream st.streams id).filter (·.live) with
  | none =>
    dsimp only
    by_cases hid : id ≥ st.nextStreamID
    · rw [if_pos hid]; exact connErr
    rw [if_neg hid]
    by_cases hn : ((len + pad : Nat) : Int) > 0
    · rw [if_pos hn]
      exact takeBack_cases motive st (st, []) _ panic connErr
        (fun ci ci' connAdd h1 h2 => stray ci ci' connAdd h1 h2)
    · rw [if_neg hn]; exact skip (by omega)
  | some s =>
    obtain ⟨hf, hl⟩ := filter_live_eq_some hfs
    dsimp only
    by_cases hd : s.peerEnd = true ∨ ¬ s.gotHeaders = true ∨ (s.head = true ∧ 0 < len)
    · rw [if_pos hd]; exact discard s hf hl
    rw [if_neg hd]
    have hp : s.peerEnd = false := eq_false_of_ne_true (fun h => hd (Or.inl h))
    by_cases hn : ((len + pad : Nat) : Int) > 0
    · rw [if_pos hn]
      rcases hT : takeInflows st.connIn s.inflow ((len + pad : Nat) : Int) with ⟨ci, si, ok⟩
      dsimp only
      cases ok with
      | false => exact connErr
      | true =>
        rw [if_neg (by decide)]
        cases hc : Inflow.add ci pad with
        | panic => exact panic
        | ok p =>
          dsimp only
          cases hs : Inflow.add si pad with
          | panic => exact panic
          | ok q => exact data s ci si p.1 p.2 q.1 q.2 hf hl hp hT hc hs
    · rw [if_neg hn]; exact empty s hf hl hp (by omega)

theorem resumePending_closed {st : State} (hc : st.closed = true) :
    (resumePending st).1.closed = true ∧ (resumePending st).1.panicked = st.panicked ∧ (resumePending st).2 = [] := by
  unfold resumePending
  cases st.pendingOpen with
  | none => exact ⟨hc, rfl, rfl⟩
  | some r => dsimp only; rw [if_pos hc]; exact ⟨hc, rfl, rfl⟩

theorem step_cases (motive : State × List Frame → Prop) (st : State) (op : Op)
    (closed : st.closed = true → motive (st, []))
    (quiet : st.closed = false →
      (wakes st (apply st op).1 op || decide (liveCount (apply st op).1.streams < liveCount st.streams) ||
        (apply st op).1.closed) = false → motive (apply st op))
    (woken : st.closed = false →
      motive ((resumePending (apply st op).1).1, (apply st op).2 ++ (resumePending (apply st op).1).2)) :
    motive (step st op) := by
  show motive (if st.closed then (st, []) else
    if wakes st (apply st op).1 op || decide (liveCount (apply st op).1.streams < liveCount st.streams) ||
        (apply st op).1.closed then
      ((resumePending (apply st op).1).1, (apply st op).2 ++ (resumePending (apply st op).1).2)
    else apply st op)
  by_cases hc : st.closed = true
  · rw [if_pos hc]; exact closed hc
  rw [if_neg hc]
  by_cases hw : (wakes st (apply st op).1 op || decide (liveCount (apply st op).1.streams < liveCount st.streams) ||
        (apply st op).1.closed) = true
  · rw [if_pos hw]; exact woken (eq_false_of_ne_true hc)
  · rw [if_neg hw]; exact quiet (eq_false_of_ne_true hc) (eq_false_of_ne_true hw)

theorem step_closed {st : State} (hc : st.closed = true) (op : Op) : step st op = (st, []) :=
  step_cases (fun x => x = (st, [])) st op (fun _ => rfl) (fun h _ => by rw [hc] at h; cases h)
    (fun h => by rw [hc] at h; cases h)

/-- what a step appends to the history: nothing on a connection that is down, else the operation's
own event (a frame of the peer) and the frames the client wrote -/
def stepEvents (st : State) (op : Op) : List Event :=
  if st.closed then [] else opEvents op (step st op).2

theorem stepEvents_closed {st : State} (hc : st.closed = true) (op : Op) : stepEvents st op = [] := if_pos hc

theorem stepEvents_open {st : State} (hc : st.closed = false) (op : Op) :
    stepEvents st op = opEvents op (step st op).2 := if_neg (ne_true_of_eq_false hc)

theorem stepEvents_noPeer (st : State) (op : Op) (h : ∀ f, op ≠ .peer f) :
    stepEvents st op = (step st op).2.map Event.c := by
  unfold stepEvents
  cases hc : st.closed with
  | true => simp [step_closed hc]
  | false =>
    cases op with
    | peer f => exact absurd rfl (h f)
    | _ => simp [opEvents]

theorem runFrom_induction {P : State → List Event → Prop} (ops : List Op)
    (hstep : ∀ st hist op, op ∈ ops → P st hist →
      P (step st op).1 (hist ++ stepEvents st op)) :
    ∀ st hist, P st hist → P (runFrom st hist ops).1 (runFrom st hist ops).2 := by
  induction ops with
  | nil => intro st hist h; exact h
  | cons op rest ih =>
    intro st hist h
    exact ih (fun st hist o ho => hstep st hist o (List.mem_cons_of_mem _ ho)) _ _
      (hstep st hist op List.mem_cons_self h)

theorem prioSeedFixed_odd (nx id : Int) :
    0 < prioSeedFixed nx id ∧ prioSeedFixed nx id % 2 = 1 := by
  unfold prioSeedFixed wrapU32
  simp only
  split <;> omega

theorem foldl_prio_odd (l : List Nat) :
    ∀ (nx : Int), 0 < nx → nx % 2 = 1 →
    0 < l.foldl (fun (nx : Int) (id : Nat) => prioSeedFixed nx (id : Int)) nx ∧
    (l.foldl (fun (nx : Int) (id : Nat) => prioSeedFixed nx (id : Int)) nx) % 2 = 1 := by
  induction l with
  | nil => intro nx h1 h2; exact ⟨h1, h2⟩
  | cons a l ih =>
    intro nx _ _
    simp only [List.foldl_cons]
    have := prioSeedFixed_odd nx a
    exact ih _ this.1 this.2

theorem nextStreamID0_odd (cfg : Cfg) (hfix : cfg.fixes = Fixes.all) :
    0 < nextStreamID0 cfg ∧ nextStreamID0 cfg % 2 = 1 := by
  unfold nextStreamID0
  have hp : prioSeed cfg.fixes = prioSeedFixed := by unfold prioSeed; rw [hfix]; rfl
  rw [hp]
  have := foldl_prio_odd cfg.prio 1 (by omega) (by omega)
  omega

theorem opEvents_append (op : Op) (a b : List Frame) :
    opEvents op (a ++ b) = opEvents op a ++ b.map Event.c := by
  simp [opEvents, List.append_assoc]

end Req.Lemmas.C06
