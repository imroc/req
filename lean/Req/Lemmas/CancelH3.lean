import Req.Pool.CancelH3
import Req.Lemmas.Lts
/-! Lemmas for the HTTP/3 lifecycle model (C08): the model's helper functions as plain equations, a measure
that every internal step decreases, the invariant `Inv` (kept by every step and event: `CancelH3Inv`). -/
namespace Req.Lemmas.CancelH3
open Req.Cancel (CtxErr)
open Req.CancelH3 Req.Lemmas.Lts

theorem cancelIfOpen_eq (x : Side) : x.cancelIfOpen = if x = .open then .cancelled else x := by
  cases x <;> rfl

theorem finIfOpen_eq (x : Side) : x.finIfOpen = if x = .open then .fin else x := by
  cases x <;> rfl

theorem resetIfOpen_eq (x : Side) : x.resetIfOpen = if x = .open then .reset else x := by
  cases x <;> rfl

theorem closeBody_eq (s : St) : closeBody s =
    { s with closes := s.closes + (if s.hasBody then 1 else 0), callerClosed := s.callerClosed || s.hasBody } := by
  rcases s with ⟨_ | _, _⟩ <;> simp [closeBody]

/-- Rank of the caller. The points before the stream exist rank LOW although they come first: `hs → openStr →
sendHdr` are environment events (`hsDone`, `streamOpen`), not steps, so nothing has to decrease there.
`sendHdr` must pay for where `cSendHdr` leads: `readResp` (3) plus a started upload (`uRank .read` = 5). -/
def cRank : CPc → Nat
  | .hs => 1 | .openStr => 1 | .sendHdr => 9 | .readResp => 3 | .failSig _ => 2 | .failJoin _ => 1
  | .returned _ => 0

def wRank : WPc → Nat
  | .none => 0 | .waiting => 2 | .mid => 1 | .done => 0

def uRank : UPc → Nat
  | .none => 0 | .read => 5 | .write => 4 | .close => 3 | .fin => 2 | .done => 0

def dRank : Bool → Nat
  | true => 0 | false => 1

def mu (s : St) : Nat := cRank s.cpc + wRank s.wat + uRank s.upl + dRank s.reqDone

/-- 9 + 2 + 5 + 1: the largest value of each summand of `mu` -/
def K : Nat := 17

theorem mu_le (s : St) : mu s ≤ K := by
  have h1 : cRank s.cpc ≤ 9 := by cases s.cpc <;> simp [cRank]
  have h2 : wRank s.wat ≤ 2 := by cases s.wat <;> decide
  have h3 : uRank s.upl ≤ 5 := by cases s.upl <;> decide
  have h4 : dRank s.reqDone ≤ 1 := by cases s.reqDone <;> decide
  unfold mu K
  omega

theorem mu_dec (s : St) (a : Act) (h : guard s a = true) : mu (apply s a) < mu s := by
  cases a <;> simp only [CancelH3.guard, Bool.and_eq_true, beq_iff_eq, Bool.not_eq_true'] at h <;>
    simp only [mu, CancelH3.apply, closeBody_eq]
  case cSendHdr => split <;> (try split) <;> simp only [h, cRank, uRank] <;> omega
  case cFailSig =>
    split at h
    · next e he => cases hd : s.reqDone <;> simp only [he, cRank, dRank] <;> omega
    · cases h
  case cFailJoin =>
    split at h
    · next e he => simp only [he, cRank]; omega
    · cases h.1
  case cBodyReadFail => simp only [h.1.2, dRank]; omega
  all_goals simp only [h, cRank, wRank, uRank]; omega

theorem run_lts {s s' : St} {as : List Act} (h : Run s as s') : Lts.Run guard apply s as s' := by
  induction h with
  | nil s => exact .nil s
  | cons g _ ih => exact .cons g ih

def failing : CPc → Bool
  | .failSig _ | .failJoin _ => true
  | _ => false

def joining : CPc → Bool
  | .failJoin _ => true
  | _ => false

def retErr : CPc → Bool
  | .returned (.err _) => true
  | _ => false

/-- What holds in every reachable state. `wat = none` means the stream does not exist yet (the watcher is
started with it); `reqDone` is closed by the caller's error path, by a failed `Body.Read` or by the application. -/
structure Inv (s : St) : Prop where
  /-- before the stream exists: no watcher, and the caller has not closed the body -/
  pre : (s.cpc = .hs ∨ s.cpc = .openStr) → s.wat = .none ∧ s.callerClosed = false
  /-- no stream: both directions idle, no upload goroutine, `reqDone` open -/
  noStr : s.wat = .none → s.send = .idle ∧ s.recv = .idle ∧ s.upl = .none ∧ s.reqDone = false
  str : s.wat ≠ .none → s.send ≠ .idle ∧ s.recv ≠ .idle
  /-- the watcher between `CancelWrite` and `CancelRead` -/
  mid : s.wat = .mid → s.send ≠ .open
  /-- the watcher left through `reqDone`, or it has cancelled both directions -/
  done : s.wat = .done → s.reqDone = true ∨ (s.send ≠ .open ∧ s.recv ≠ .open)
  hdr : s.cpc = .sendHdr → s.wat ≠ .none ∧ s.upl = .none ∧ s.reqDone = false ∧ s.callerClosed = false ∧ s.send ≠ .fin
  /-- `roundTrip`'s error path is entered only with the send side shut and the receive side shut or about to be -/
  fail : failing s.cpc = true → s.wat ≠ .none ∧ s.send ≠ .open ∧ (s.recv ≠ .open ∨ s.wat = .mid)
  join : joining s.cpc = true → s.reqDone = true
  /-- a dead receive side: the send side went with it, or the application is done -/
  dead : (s.recv = .cancelled ∨ s.recv = .reset) → s.send ≠ .open ∨ s.reqDone = true
  eof : s.recv = .fin → s.respHdr = true
  /-- a cancelled or reset send side: the receive side is shut too, or the watcher is about to shut it -/
  sendDead : (s.send = .cancelled ∨ s.send = .reset) → s.recv ≠ .open ∨ s.wat = .mid
  /-- `Close` calls on the request body = [upload goroutine past its deferred close] + [`closeRequestBody` by the caller] -/
  closes : s.closes = (if s.upl = .fin ∨ s.upl = .done then 1 else 0) + (if s.callerClosed = true then 1 else 0)
  /-- the caller closes the body itself only when no upload goroutine was started -/
  callerClosed : s.callerClosed = true → s.upl = .none ∧ s.hasBody = true
  uplBody : s.upl ≠ .none → s.hasBody = true
  /-- `ReadResponse` and a handed-out response need the stream -/
  respStr : (s.cpc = .readResp ∨ s.cpc = .returned .resp) → s.wat ≠ .none
  /-- an error was returned only after `reqDone` was closed or with the context done (the two early returns) -/
  errRet : retErr s.cpc = true → s.reqDone = true ∨ s.ctx.isSome = true
  /-- `reqDone` is closed only on the error path past `close(reqDone)` or after the call returned -/
  reqDone : s.reqDone = true → joining s.cpc = true ∨ isReturned s = true
  /-- with a body: past `SendRequestHeader` the upload goroutine exists … -/
  uplStarted : s.hasBody = true → (s.cpc = .readResp ∨ s.cpc = .returned .resp) → s.upl ≠ .none
  /-- … and on every error path it exists or the caller has closed the body -/
  uplOnErr : s.hasBody = true → (failing s.cpc = true ∨ retErr s.cpc = true) → s.upl ≠ .none ∨ s.callerClosed = true

theorem inv_init (b : Bool) : Inv (init b) := by
  constructor <;> simp [init, failing, joining, retErr, isReturned]

end Req.Lemmas.CancelH3
