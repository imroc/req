import Req.Pool.CancelPool
import Req.Lemmas.C09Pool
/-! Helper lemmas for the C08 pool theorems: `firstLive` is what `popUntilWaiting` computes, and
the invariant `NSW` (queued for a slot ⇒ no slot is free) is preserved by every critical section. -/
namespace Req.Lemmas.CancelPool
open Req.Pool.H1Pool Req.Pool.CancelPool Req.Lemmas.C09Pool

theorem popUntilWaiting_firstLive (wst : Want → WSt) (q : List Want) :
    popUntilWaiting wst q =
      match firstLive wst q with
      | some (w, r) => (some w, r)
      | none => (none, []) := by
  induction q with
  | nil => rfl
  | cons a t ih =>
    unfold popUntilWaiting firstLive
    split
    · rfl
    · exact ih

theorem firstLive_some (wst : Want → WSt) (q : List Want) (w : Want) (r : List Want)
    (h : firstLive wst q = some (w, r)) :
    ∃ dead, q = dead ++ w :: r ∧ (∀ d ∈ dead, wst d ≠ .waiting) ∧ wst w = .waiting := by
  induction q with
  | nil => simp [firstLive] at h
  | cons a t ih =>
    unfold firstLive at h
    split at h
    · next ha =>
      simp only [Option.some.injEq, Prod.mk.injEq] at h
      obtain ⟨rfl, rfl⟩ := h
      exact ⟨[], rfl, by simp, ha⟩
    · next ha =>
      obtain ⟨dead, hq, hd, hw⟩ := ih h
      refine ⟨a :: dead, by rw [hq]; rfl, ?_, hw⟩
      intro d hdm
      rcases List.mem_cons.mp hdm with rfl | hdm
      · exact ha
      · exact hd d hdm

theorem firstLive_of_split (wst : Want → WSt) (dead : List Want) (w : Want) (r : List Want)
    (hd : ∀ d ∈ dead, wst d ≠ .waiting) (hw : wst w = .waiting) :
    firstLive wst (dead ++ w :: r) = some (w, r) := by
  induction dead with
  | nil => simp [firstLive, hw]
  | cons a t ih =>
    have ha : wst a ≠ .waiting := hd a List.mem_cons_self
    simp only [List.cons_append, firstLive, ha, if_false]
    exact ih (fun d hdm => hd d (List.mem_cons_of_mem _ hdm))

theorem firstLive_none (wst : Want → WSt) (q : List Want) :
    firstLive wst q = none ↔ ∀ w ∈ q, wst w ≠ .waiting := by
  induction q with
  | nil => simp [firstLive]
  | cons a t ih =>
    unfold firstLive
    split
    · next ha =>
      constructor
      · intro h; cases h
      · intro h; exact absurd ha (h a List.mem_cons_self)
    · next ha =>
      rw [ih]
      constructor
      · intro h w hw
        rcases List.mem_cons.mp hw with rfl | hw
        · exact ha
        · exact h w hw
      · intro h w hw; exact h w (List.mem_cons_of_mem _ hw)

theorem hasLive_iff (wst : Want → WSt) (q : List Want) :
    hasLive wst q = true ↔ ∃ w ∈ q, wst w = .waiting := by
  simp [hasLive]

theorem firstLive_isSome_of_hasLive (wst : Want → WSt) (q : List Want) (h : hasLive wst q = true) :
    ∃ w r, firstLive wst q = some (w, r) := by
  cases hf : firstLive wst q with
  | some p => exact ⟨p.1, p.2, rfl⟩
  | none =>
    obtain ⟨w, hw, hwait⟩ := (hasLive_iff wst q).mp h
    exact absurd hwait ((firstLive_none wst q).mp hf w hw)

theorem decConns_firstLive_some (cfg : Cfg) (s : St) (k : Key) (w : Want) (r : List Want)
    (hpos : cfg.maxConnsPerHost > 0) (hc : s.cph k ≠ 0)
    (h : firstLive s.wst (s.dialWait k) = some (w, r)) :
    decConns cfg s k = startDial { s with dialWait := upd s.dialWait k r } w := by
  unfold decConns
  rw [if_neg (by omega), if_neg hc, popUntilWaiting_firstLive, h]

theorem decConns_firstLive_none (cfg : Cfg) (s : St) (k : Key)
    (hpos : cfg.maxConnsPerHost > 0) (hc : s.cph k ≠ 0)
    (h : firstLive s.wst (s.dialWait k) = none) :
    decConns cfg s k = { s with dialWait := upd s.dialWait k [], cph := upd s.cph k (s.cph k - 1) } := by
  unfold decConns
  rw [if_neg (by omega), if_neg hc, popUntilWaiting_firstLive, h]

theorem decConns_dials_first_live (cfg : Cfg) (s : St) (k : Key) (hpos : cfg.maxConnsPerHost > 0) (hc : s.cph k ≠ 0)
    (hlive : hasLive s.wst (s.dialWait k) = true) :
    ∃ dead w rest, s.dialWait k = dead ++ w :: rest ∧ (∀ d ∈ dead, s.wst d ≠ .waiting) ∧ s.wst w = .waiting ∧
      (decConns cfg s k).dialing = w :: s.dialing ∧ (decConns cfg s k).dialWait k = rest ∧
      (decConns cfg s k).cph k = s.cph k := by
  obtain ⟨w, rest, hf⟩ := firstLive_isSome_of_hasLive _ _ hlive
  obtain ⟨dead, hq, hdead, hw⟩ := firstLive_some _ _ w rest hf
  refine ⟨dead, w, rest, hq, hdead, hw, ?_⟩
  rw [decConns_firstLive_some cfg s k w rest hpos hc hf]
  simp [startDial]

/-- somebody queued for a slot ⇒ the limit is set and no slot is free -/
def NSW (cfg : Cfg) (s : St) : Prop :=
  ∀ k, s.dialWait k ≠ [] → cfg.maxConnsPerHost > 0 ∧ cfg.maxConnsPerHost ≤ (s.cph k : Int)

theorem NSW_of_frame {cfg : Cfg} {s s' : St} (h1 : s'.dialWait = s.dialWait) (h2 : s'.cph = s.cph)
    (h : NSW cfg s) : NSW cfg s' := by
  intro k; rw [h1, h2]; exact h k

theorem NSW_decConns (cfg : Cfg) (s : St) (k : Key) (h : NSW cfg s) : NSW cfg (decConns cfg s k) := by
  unfold decConns
  split
  · exact h
  · split
    · exact NSW_of_frame rfl rfl h
    · split
      · next w q heq =>
        have hne : s.dialWait k ≠ [] := popUntilWaiting_some_ne s.wst _ w (by rw [heq])
        intro k' hk'
        simp only [startDial, upd] at hk' ⊢
        by_cases hkk : k' = k
        · subst hkk; exact h k' hne
        · simp only [hkk, if_false] at hk'; exact h k' hk'
      · next q heq =>
        have hq : q = [] := by
          have := popUntilWaiting_none s.wst (s.dialWait k) (by rw [heq])
          rw [heq] at this; exact this
        intro k' hk'
        simp only [upd] at hk' ⊢
        by_cases hkk : k' = k
        · subst hkk; simp [hq] at hk'
        · simp only [hkk, if_false] at hk' ⊢; exact h k' hk'

theorem NSW_closeConn (cfg : Cfg) (s : St) (c : Conn) (h : NSW cfg s) : NSW cfg (closeConn cfg s c) := by
  unfold closeConn
  split
  · exact h
  · split
    · exact h
    · exact NSW_decConns cfg _ _ (NSW_of_frame rfl rfl h)

@[simp] theorem removeIdleLocked_dialWait (s : St) (c : Conn) : (removeIdleLocked s c).1.dialWait = s.dialWait := by
  rw [removeIdleLocked_fst]; split <;> rfl

theorem NSW_removeIdleLocked (cfg : Cfg) (s : St) (c : Conn) (h : NSW cfg s) : NSW cfg (removeIdleLocked s c).1 :=
  NSW_of_frame (by simp) (by simp) h

theorem NSW_evictOldest (cfg : Cfg) (s : St) (h : NSW cfg s) : NSW cfg (evictOldest cfg s) := by
  unfold evictOldest
  split
  · exact h
  · exact NSW_removeIdleLocked cfg _ _ (NSW_closeConn cfg _ _ (NSW_of_frame rfl rfl h))

theorem NSW_addIdle (cfg : Cfg) (s : St) (c : Conn) (k : Key) (h : NSW cfg s) : NSW cfg (addIdle cfg s c k) := by
  unfold addIdle
  simp only
  split
  · exact NSW_evictOldest cfg _ (NSW_of_frame rfl rfl h)
  · exact NSW_of_frame rfl rfl h

theorem NSW_move {cfg : Cfg} {s s' : St} (m : Move cfg s s') (h : NSW cfg s) : NSW cfg s' := by
  cases m with
  | takeSlot w k _ hlt =>
    intro k' hk'
    have := h k' hk'
    show _ ∧ _ ≤ ((upd s.cph k (s.cph k + 1) k' : Nat) : Int)
    simp only [upd]
    split
    · next hkk => subst hkk; omega
    · exact this
  | waitSlot w k _ hpos hge =>
    intro k' hk'
    by_cases hkk : k' = k
    · subst hkk; exact ⟨by omega, show _ ≤ (s.cph k' : Int) by omega⟩
    · exact h k' (by simpa [upd, hkk] using hk')
  | dialDrop w k => exact NSW_decConns _ _ _ (NSW_of_frame rfl rfl h)
  | addIdle c k => exact NSW_addIdle _ _ _ _ (NSW_of_frame rfl rfl h)
  | closeT c => exact NSW_closeConn _ _ _ (NSW_of_frame rfl rfl h)
  | close c => exact NSW_closeConn _ _ _ h
  | remove c => exact NSW_removeIdleLocked _ _ _ h
  | idleTimeout c => exact NSW_closeConn _ _ _ (NSW_removeIdleLocked _ _ _ h)
  | _ => exact NSW_of_frame rfl rfl h

theorem NSW_init (cfg : Cfg) : NSW cfg {} := by
  intro k hk; simp at hk

theorem NSW_run (cfg : Cfg) (s : St) (ops : List Op) (h : NSW cfg s) : NSW cfg (run cfg s ops) :=
  run_moves NSW_move s ops h

theorem NSW_reach (cfg : Cfg) (ops : List Op) : NSW cfg (run cfg {} ops) :=
  NSW_run cfg {} ops (NSW_init cfg)

end Req.Lemmas.CancelPool
