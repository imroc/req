import Req.Lemmas.C11Host
/-! C11: the spec `Req.Authority` by itself. Its identities `specHost` / `specDomain` are lower-case, and
RFC 3986's recognisers give what `WfAuthority` asks: a reg-name byte is a label byte, an `IPv6address`
contains a colon. -/
namespace Req.Lemmas.C11
open Req.Proto Req.Ascii Req.Redirect Req.Authority

theorem specHost_lower (a : Authority) : lower (specHost a) = specHost a := lower_idem _

theorem specDomain_lower (a : Authority) : lower (specDomain a) = specDomain a := by
  cases a with
  | mk host port =>
    cases host <;> simp only [specDomain] <;> first | exact lower_idem _ | exact specHost_lower _

theorem regNameByte_ok (c : UInt8) (h : isRegNameByte c = true) : labelByteOk c = true := by
  rw [labelByteOk_iff]
  refine ⟨?_, ?_, ?_, ?_⟩ <;> (rintro rfl; revert h; decide)

theorem splitDoubleColon_mem (s : Bytes) (l r : Bytes) (h : splitDoubleColon s = some (l, r)) :
    (58 : UInt8) ∈ s := by
  induction s generalizing l r with
  | nil => simp [splitDoubleColon] at h
  | cons a t ih =>
    cases t with
    | nil => simp [splitDoubleColon] at h
    | cons b rest =>
      unfold splitDoubleColon at h
      split at h
      · rename_i hab; simp [hab.1]
      · cases hr : splitDoubleColon (b :: rest) with
        | none => rw [hr] at h; simp at h
        | some lr => exact List.mem_cons_of_mem _ (ih lr.1 lr.2 hr)

theorem ipv6_has_colon (s : Bytes) (h : isIPv6address s = true) : (58 : UInt8) ∈ s := by
  unfold isIPv6address at h
  split at h
  · -- no "::": eight groups, hence at least one ":"
    rename_i hnone
    apply Classical.byContradiction
    intro hno
    have hp : pieces 58 s = [s] := by rw [pieces_eq_splitOn]; exact splitOn_no_sep hno
    simp only [groupCount, hp] at h
    by_cases hs : s.isEmpty = true
    · simp [hs] at h
    · simp only [hs, Bool.false_eq_true, if_false, List.getLast?_singleton, List.dropLast_singleton,
        List.all_nil, if_true, List.length_singleton] at h
      split at h
      · simp at h
      · split at h <;> simp at h
  · rename_i l r hsome
    exact splitDoubleColon_mem s l r hsome

end Req.Lemmas.C11
