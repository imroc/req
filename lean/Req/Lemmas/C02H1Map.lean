import Req.C02.HMap
import Req.Lemmas.H1Transfer
/-! C02 — facts about Go's `http.Header` as modelled by `Req.H1.HeaderMap` (an association list):
what `add`, `del`, `set` do to lookups, and lookups in the map built from a field list
(`Req.C02.hmapOf`).  Used for the HTTP/1.1 head and for the trailer maps of all three protocols. -/
namespace Req.C02
open Req.Proto Req.H1

theorem beq_comm_bytes (a b : Bytes) : (a == b) = (b == a) :=
  Bool.beq_comm

/-! `get`, `set`, `add` on a non-empty map, with the key comparison as a proposition. -/

theorem get_cons (pk : Bytes) (pvs : List Bytes) (m : HeaderMap) (k : Bytes) :
    HeaderMap.get ((pk, pvs) :: m) k = if k = pk then some pvs else HeaderMap.get m k := by
  show (match k == pk with | true => some pvs | false => List.lookup k m) = _
  by_cases h : k = pk
  · rw [if_pos h, beq_iff_eq.2 h]
  · rw [if_neg h, beq_eq_false_iff_ne.2 h]; rfl

theorem set_cons (pk : Bytes) (pvs : List Bytes) (m : HeaderMap) (k : Bytes) (vs : List Bytes) :
    HeaderMap.set ((pk, pvs) :: m) k vs = if pk = k then (pk, vs) :: m else (pk, pvs) :: HeaderMap.set m k vs :=
  ite_cond_congr (propext beq_iff_eq)

theorem add_cons (pk : Bytes) (pvs : List Bytes) (m : HeaderMap) (k v : Bytes) :
    HeaderMap.add ((pk, pvs) :: m) k v = if pk = k then (pk, pvs ++ [v]) :: m else (pk, pvs) :: HeaderMap.add m k v :=
  ite_cond_congr (propext beq_iff_eq)

theorem get_set (m : HeaderMap) (k k' : Bytes) (vs : List Bytes) :
    (m.set k vs).get k' = if k' = k then some vs else m.get k' := by
  induction m with
  | nil => exact get_cons k vs [] k'
  | cons p ps ih =>
    rcases p with ⟨pk, pvs⟩
    rw [set_cons, get_cons]
    by_cases hpk : pk = k
    · subst hpk
      rw [if_pos rfl, get_cons]
      by_cases h : k' = pk
      · rw [if_pos h, if_pos h]
      · rw [if_neg h, if_neg h, if_neg h]
    · rw [if_neg hpk, get_cons, ih]
      by_cases h : k' = pk
      · rw [if_pos h, if_pos h, if_neg (h ▸ hpk)]
      · rw [if_neg h, if_neg h]

theorem getL_cons (pk : Bytes) (pvs : List Bytes) (m : HeaderMap) (k : Bytes) :
    getL ((pk, pvs) :: m) k = if k = pk then pvs else getL m k := by
  rw [getL, get_cons]
  by_cases h : k = pk
  · rw [if_pos h, if_pos h]
  · rw [if_neg h, if_neg h]; rfl

theorem get_add (m : HeaderMap) (k v k' : Bytes) :
    (m.add k v).get k' = if k' = k then some (getL m k ++ [v]) else m.get k' := by
  induction m with
  | nil => exact get_cons k [v] [] k'
  | cons p ps ih =>
    rcases p with ⟨pk, pvs⟩
    rw [add_cons, getL_cons, get_cons pk pvs ps k']
    by_cases hpk : pk = k
    · subst hpk
      rw [if_pos rfl, if_pos rfl, get_cons]
      by_cases h : k' = pk
      · rw [if_pos h, if_pos h]
      · rw [if_neg h, if_neg h, if_neg h]
    · rw [if_neg hpk, if_neg (Ne.symm hpk), get_cons, ih]
      by_cases h : k' = pk
      · rw [if_pos h, if_pos h, if_neg (h ▸ hpk)]
      · rw [if_neg h, if_neg h]

theorem getL_add (m : HeaderMap) (k v k' : Bytes) :
    getL (m.add k v) k' = if k' = k then getL m k ++ [v] else getL m k' := by
  by_cases h : k' = k
  · subst h; simp [getL, get_add]
  · simp [getL, get_add, h]

theorem valuesOf_cons_self (kv : Bytes × Bytes) (kvs : List (Bytes × Bytes)) :
    valuesOf kv.1 (kv :: kvs) = kv.2 :: valuesOf kv.1 kvs := by
  simp [valuesOf]

theorem valuesOf_cons_ne (k : Bytes) (kv : Bytes × Bytes) (kvs : List (Bytes × Bytes)) (h : ¬ kv.1 = k) :
    valuesOf k (kv :: kvs) = valuesOf k kvs := by
  have : (kv.1 == k) = false := by simpa using h
  simp [valuesOf, this]

theorem valuesOf_append (k : Bytes) (a b : List (Bytes × Bytes)) :
    valuesOf k (a ++ b) = valuesOf k a ++ valuesOf k b := by
  simp [valuesOf]

theorem get_hmapAdd (m : HeaderMap) (kvs : List (Bytes × Bytes)) (k : Bytes) :
    (hmapAdd m kvs).get k =
      if valuesOf k kvs = [] then m.get k else some (getL m k ++ valuesOf k kvs) := by
  induction kvs generalizing m with
  | nil => rfl
  | cons kv kvs ih =>
    show (hmapAdd (m.add kv.1 kv.2) kvs).get k = _
    rw [ih, getL_add, get_add]
    by_cases h : k = kv.1
    · subst h
      rw [valuesOf_cons_self, if_pos rfl, if_pos rfl, if_neg (List.cons_ne_nil _ _)]
      split
      next h0 => rw [h0]
      next => rw [List.append_assoc]; rfl
    · rw [valuesOf_cons_ne k kv kvs (fun h' => h h'.symm), if_neg h, if_neg h]

theorem getL_hmapAdd (m : HeaderMap) (kvs : List (Bytes × Bytes)) (k : Bytes) :
    getL (hmapAdd m kvs) k = getL m k ++ valuesOf k kvs := by
  rw [getL, get_hmapAdd]
  by_cases h : valuesOf k kvs = []
  · rw [if_pos h, h, List.append_nil]; rfl
  · rw [if_neg h]

theorem get_hmapOf (kvs : List (Bytes × Bytes)) (k : Bytes) :
    (hmapOf kvs).get k = if valuesOf k kvs = [] then none else some (valuesOf k kvs) := by
  rw [hmapOf, get_hmapAdd]
  rfl

theorem del_cons (pk : Bytes) (pvs : List Bytes) (m : HeaderMap) (k : Bytes) :
    HeaderMap.del ((pk, pvs) :: m) k = if pk = k then m.del k else (pk, pvs) :: m.del k := by
  by_cases h : pk = k
  · rw [if_pos h]; simp [HeaderMap.del, h]
  · rw [if_neg h]; simp [HeaderMap.del, h]

theorem get_delIf (b : Bool) (h : HeaderMap) (k k' : Bytes) (hk : k' ≠ k) :
    (if b = true then h.del k else h).get k' = h.get k' := by
  cases b
  · rfl
  · exact (HeaderMap.get_del h k k').trans (if_neg hk)

theorem del_absent (m : HeaderMap) (k : Bytes) (h : m.get k = none) : m.del k = m := by
  induction m with
  | nil => rfl
  | cons p ps ih =>
    rcases p with ⟨pk, pvs⟩
    rw [get_cons] at h
    by_cases hk : k = pk
    · rw [if_pos hk] at h; cases h
    · rw [if_neg hk] at h
      rw [del_cons, if_neg (Ne.symm hk), ih h]

end Req.C02
