import Req.Pool.H1Pool
/-! The pool model (C09) seen from the proofs: what each function writes (`decConns_eq`,
`closeConn_eq`, `removeIdleLocked_fst`, `evictOldest_eq`), the outcomes of `tryPut` (`TryPut`), and the
primitive moves a critical section is a chain of (`Move`, `step_moves`). -/
namespace Req.Lemmas.C09Pool
open Req.Pool.H1Pool

@[simp] theorem upd_same {β : Type} (f : Nat → β) (k : Nat) (v : β) : upd f k v k = v := by simp [upd]
theorem upd_other {β : Type} (f : Nat → β) (k x : Nat) (v : β) (h : x ≠ k) : upd f k v x = f x := by
  simp [upd, h]
theorem upd_upd {β : Type} (f : Nat → β) (k : Nat) (a b : β) : upd (upd f k a) k b = upd f k b := by
  funext x; simp only [upd]; split <;> rfl
theorem upd_self {β : Type} (f : Nat → β) (k : Nat) : upd f k (f k) = f := by
  funext x; simp only [upd]; split
  · next e => rw [e]
  · rfl

theorem mem_upd_idle (f : Key → List Conn) (k k' : Key) (l : List Conn) (x : Conn) :
    x ∈ upd f k l k' ↔ (k' = k ∧ x ∈ l) ∨ (k' ≠ k ∧ x ∈ f k') := by
  simp only [upd]; split <;> simp [*]

theorem mem_cons_erase {l : List Conn} {c : Conn} (hc : c ∈ l) (x : Conn) : x ∈ c :: l.erase c ↔ x ∈ l := by
  by_cases hxc : x = c
  · subst hxc; simp [hc]
  · simp [hxc, List.mem_erase_of_ne hxc]

@[simp] theorem startDial_idle (s : St) (w : Want) : (startDial s w).idle = s.idle := rfl
@[simp] theorem startDial_idleWait (s : St) (w : Want) : (startDial s w).idleWait = s.idleWait := rfl

/-- `decConnsPerHost` writes the slot count, the queue of wants waiting for a slot, what
`startDialConnForLocked` writes, and the underflow flag; nothing else. -/
theorem decConns_eq (cfg : Cfg) (s : St) (k : Key) :
    decConns cfg s k =
      { s with
        cph := (decConns cfg s k).cph
        dialWait := (decConns cfg s k).dialWait
        dip := (decConns cfg s k).dip
        dialing := (decConns cfg s k).dialing
        underflow := (decConns cfg s k).underflow } := by
  generalize h : decConns cfg s k = t
  unfold decConns startDial at h
  (repeat' split at h) <;> subst h <;> rfl

@[simp] theorem decConns_idle (cfg : Cfg) (s : St) (k : Key) : (decConns cfg s k).idle = s.idle := by rw [decConns_eq]
@[simp] theorem decConns_idleWait (cfg : Cfg) (s : St) (k : Key) : (decConns cfg s k).idleWait = s.idleWait := by rw [decConns_eq]
@[simp] theorem decConns_lru (cfg : Cfg) (s : St) (k : Key) : (decConns cfg s k).lru = s.lru := by rw [decConns_eq]
@[simp] theorem decConns_wst (cfg : Cfg) (s : St) (k : Key) : (decConns cfg s k).wst = s.wst := by rw [decConns_eq]
@[simp] theorem decConns_closeIdle (cfg : Cfg) (s : St) (k : Key) : (decConns cfg s k).closeIdle = s.closeIdle := by rw [decConns_eq]
@[simp] theorem decConns_closed (cfg : Cfg) (s : St) (k : Key) : (decConns cfg s k).closed = s.closed := by rw [decConns_eq]
@[simp] theorem decConns_ckey (cfg : Cfg) (s : St) (k : Key) : (decConns cfg s k).ckey = s.ckey := by rw [decConns_eq]
@[simp] theorem decConns_wkey (cfg : Cfg) (s : St) (k : Key) : (decConns cfg s k).wkey = s.wkey := by rw [decConns_eq]
@[simp] theorem decConns_transit (cfg : Cfg) (s : St) (k : Key) : (decConns cfg s k).transit = s.transit := by rw [decConns_eq]
@[simp] theorem decConns_conns (cfg : Cfg) (s : St) (k : Key) : (decConns cfg s k).conns = s.conns := by rw [decConns_eq]
@[simp] theorem decConns_dupPanic (cfg : Cfg) (s : St) (k : Key) : (decConns cfg s k).dupPanic = s.dupPanic := by rw [decConns_eq]
@[simp] theorem decConns_cancelNil (cfg : Cfg) (s : St) (k : Key) : (decConns cfg s k).cancelNil = s.cancelNil := by rw [decConns_eq]

/-- `persistConn.close` marks the connection and then writes what `decConnsPerHost` writes. -/
theorem closeConn_eq (cfg : Cfg) (s : St) (c : Conn) :
    closeConn cfg s c =
      { s with
        closed := (closeConn cfg s c).closed
        cph := (closeConn cfg s c).cph
        dialWait := (closeConn cfg s c).dialWait
        dip := (closeConn cfg s c).dip
        dialing := (closeConn cfg s c).dialing
        underflow := (closeConn cfg s c).underflow } := by
  generalize h : closeConn cfg s c = t
  unfold closeConn at h
  split at h
  · subst h; rfl
  · split at h
    · subst h; rfl
    · subst h; rw [decConns_eq]

@[simp] theorem closeConn_idle (cfg : Cfg) (s : St) (c : Conn) : (closeConn cfg s c).idle = s.idle := by rw [closeConn_eq]
@[simp] theorem closeConn_idleWait (cfg : Cfg) (s : St) (c : Conn) : (closeConn cfg s c).idleWait = s.idleWait := by rw [closeConn_eq]
@[simp] theorem closeConn_lru (cfg : Cfg) (s : St) (c : Conn) : (closeConn cfg s c).lru = s.lru := by rw [closeConn_eq]
@[simp] theorem closeConn_wst (cfg : Cfg) (s : St) (c : Conn) : (closeConn cfg s c).wst = s.wst := by rw [closeConn_eq]
@[simp] theorem closeConn_closeIdle (cfg : Cfg) (s : St) (c : Conn) : (closeConn cfg s c).closeIdle = s.closeIdle := by rw [closeConn_eq]
@[simp] theorem closeConn_ckey (cfg : Cfg) (s : St) (c : Conn) : (closeConn cfg s c).ckey = s.ckey := by rw [closeConn_eq]
@[simp] theorem closeConn_wkey (cfg : Cfg) (s : St) (c : Conn) : (closeConn cfg s c).wkey = s.wkey := by rw [closeConn_eq]
@[simp] theorem closeConn_transit (cfg : Cfg) (s : St) (c : Conn) : (closeConn cfg s c).transit = s.transit := by rw [closeConn_eq]
@[simp] theorem closeConn_conns (cfg : Cfg) (s : St) (c : Conn) : (closeConn cfg s c).conns = s.conns := by rw [closeConn_eq]
@[simp] theorem closeConn_dupPanic (cfg : Cfg) (s : St) (c : Conn) : (closeConn cfg s c).dupPanic = s.dupPanic := by rw [closeConn_eq]

/-- `removeIdleConnLocked`: the connection goes from the LRU list and from the idle list of its key
(erasing what is not there changes nothing). -/
theorem removeIdleLocked_fst (s : St) (c : Conn) :
    (removeIdleLocked s c).1 =
      match s.ckey c with
      | none => s
      | some k => { s with lru := s.lru.erase c, idle := upd s.idle k ((s.idle k).erase c) } := by
  unfold removeIdleLocked
  cases s.ckey c with
  | none => rfl
  | some k =>
    dsimp only
    split
    · rfl
    · next hn => rw [List.erase_of_not_mem (l := s.idle k) (by simpa using hn), upd_self]

@[simp] theorem removeIdleLocked_transit (s : St) (c : Conn) : (removeIdleLocked s c).1.transit = s.transit := by
  rw [removeIdleLocked_fst]; split <;> rfl
@[simp] theorem removeIdleLocked_wst (s : St) (c : Conn) : (removeIdleLocked s c).1.wst = s.wst := by
  rw [removeIdleLocked_fst]; split <;> rfl
@[simp] theorem removeIdleLocked_ckey (s : St) (c : Conn) : (removeIdleLocked s c).1.ckey = s.ckey := by
  rw [removeIdleLocked_fst]; split <;> rfl
@[simp] theorem removeIdleLocked_conns (s : St) (c : Conn) : (removeIdleLocked s c).1.conns = s.conns := by
  rw [removeIdleLocked_fst]; split <;> rfl
@[simp] theorem removeIdleLocked_closed (s : St) (c : Conn) : (removeIdleLocked s c).1.closed = s.closed := by
  rw [removeIdleLocked_fst]; split <;> rfl
@[simp] theorem removeIdleLocked_dupPanic (s : St) (c : Conn) : (removeIdleLocked s c).1.dupPanic = s.dupPanic := by
  rw [removeIdleLocked_fst]; split <;> rfl
@[simp] theorem removeIdleLocked_cph (s : St) (c : Conn) : (removeIdleLocked s c).1.cph = s.cph := by
  rw [removeIdleLocked_fst]; split <;> rfl

theorem removeIdleLocked_lru (s : St) (c : Conn) (hk : s.ckey c ≠ none) :
    (removeIdleLocked s c).1.lru = s.lru.erase c := by
  rw [removeIdleLocked_fst]; split
  · next h => exact absurd h hk
  · rfl

theorem decConns_setLru (cfg : Cfg) (s : St) (k : Key) (l : List Conn) :
    decConns cfg { s with lru := l } k = { decConns cfg s k with lru := l } := by
  unfold decConns
  dsimp only
  split
  · rfl
  · split
    · rfl
    · split <;> rfl

theorem closeConn_setLru (cfg : Cfg) (s : St) (c : Conn) (l : List Conn) :
    closeConn cfg { s with lru := l } c = { closeConn cfg s c with lru := l } := by
  unfold closeConn
  dsimp only
  split
  · rfl
  · split
    · rfl
    · exact decConns_setLru cfg { s with closed := upd s.closed c true } _ l

theorem dropLast_erase_last {l : List Conn} {o : Conn} (hnd : l.Nodup) (ho : l.getLast? = some o) :
    l.dropLast.erase o = l.erase o := by
  obtain ⟨ys, rfl⟩ := List.getLast?_eq_some_iff.mp ho
  have hn : o ∉ ys := fun hm => (List.nodup_append.mp hnd).2.2 o hm o (by simp) rfl
  rw [List.dropLast_concat, List.erase_append_right _ hn, List.erase_of_not_mem hn]
  simp

/-- Evicting the oldest idle connection is closing it and then taking it off the lists
(`closeConnIfStillIdle` in the other order), when the LRU list has it once and it was dialled. -/
theorem evictOldest_eq (cfg : Cfg) (s : St) (o : Conn) (hnd : s.lru.Nodup) (ho : s.lru.getLast? = some o)
    (hk : s.ckey o ≠ none) : evictOldest cfg s = (removeIdleLocked (closeConn cfg s o) o).1 := by
  obtain ⟨k, hk⟩ := Option.ne_none_iff_exists'.mp hk
  unfold evictOldest
  rw [ho]
  dsimp only
  rw [closeConn_setLru]
  unfold removeIdleLocked
  simp only [closeConn_ckey, closeConn_idle, closeConn_lru, hk, dropLast_erase_last hnd ho]

theorem mem_append_idle (f : Key → List Conn) (k k' : Key) (c x : Conn) :
    x ∈ upd f k (f k ++ [c]) k' ↔ x ∈ f k' ∨ (k' = k ∧ x = c) := by
  simp only [upd]; split
  · next e => subst e; simp
  · next e => simp [e]

/-- What `putT` / `finishPut` leave: a connection `tryPutIdleConn` refused stays with the caller. -/
def putBack (r : St × PutErr) (c : Conn) : St :=
  if r.2 = .ok then r.1 else { r.1 with transit := c :: r.1.transit }

theorem popUntilWaiting_none (wst : Want → WSt) (l : List Want) :
    (popUntilWaiting wst l).1 = none → (popUntilWaiting wst l).2 = [] := by
  induction l with
  | nil => simp [popUntilWaiting]
  | cons w q ih =>
    unfold popUntilWaiting
    split
    · simp
    · exact ih

theorem popUntilWaiting_some_ne (wst : Want → WSt) (l : List Want) (w : Want) :
    (popUntilWaiting wst l).1 = some w → l ≠ [] := by
  cases l with
  | nil => simp [popUntilWaiting]
  | cons _ _ => simp

/-- The outcomes of `tryPutIdleConn`: refused at once, handed to a waiting request, not listed
(`closeIdle`, per-host limit), the "dup" internal error, appended to the idle list. -/
inductive TryPut (cfg : Cfg) (s : St) (c : Conn) (k : Key) : St × PutErr → Prop
  | refused (e : PutErr) (he : e ≠ .ok) : TryPut cfg s c k (s, e)
  | delivered (w : Want) (q : List Want) (hp : popUntilWaiting s.wst (s.idleWait k) = (some w, q))
      (hc : s.closed c = false) :
      TryPut cfg s c k ({ s with idleWait := upd s.idleWait k q, wst := upd s.wst w (.gotConn c) }, .ok)
  | full (e : PutErr) (he : e ≠ .ok) : TryPut cfg s c k ({ s with idleWait := upd s.idleWait k [] }, e)
  | dup (hc : s.closed c = false) (h : c ∈ s.idle k ∨ c ∈ s.lru) :
      TryPut cfg s c k ({ s with idleWait := upd s.idleWait k [], dupPanic := true }, .ok)
  | added (hc : s.closed c = false) (hci : s.closeIdle = false) (hlen : (s.idle k).length < cfg.idlePerHost)
      (hnd : c ∉ s.idle k ∧ c ∉ s.lru) :
      TryPut cfg s c k (addIdle cfg { s with idleWait := upd s.idleWait k [] } c k, .ok)

theorem tryPut_spec (cfg : Cfg) (s : St) (c : Conn) (k : Key) : TryPut cfg s c k (tryPut cfg s c k) := by
  unfold tryPut
  split
  · exact .refused _ (by simp)
  · split
    · exact .refused _ (by simp)
    · next hc =>
      have hc : s.closed c = false := by simpa using hc
      split
      · next w q hp => exact .delivered w q hp hc
      · next q hp =>
        have hq : q = [] := by
          have := popUntilWaiting_none s.wst (s.idleWait k) (by rw [hp])
          rwa [hp] at this
        subst hq
        dsimp only
        split
        · exact .full _ (by simp)
        · next hci =>
          split
          · exact .full _ (by simp)
          · next hlen =>
            split
            · next h => exact .dup hc (by simpa using h)
            · next h => exact .added hc (by simpa using hci) (by simpa using hlen) (by simpa using h)

theorem scanIdle_nil (closed : Conn → Bool) : scanIdle closed [] = (none, []) := rfl

theorem scanIdle_some (closed : Conn → Bool) (l : List Conn) (c : Conn) (rest : List Conn) :
    scanIdle closed l = (some c, rest) →
      ∃ pre, l = pre ++ c :: rest ∧ (∀ x ∈ pre, closed x = true) ∧ closed c = false := by
  induction l with
  | nil => simp [scanIdle]
  | cons a t ih =>
    unfold scanIdle
    split
    · next hc =>
      intro h
      obtain ⟨pre, h1, h2, h3⟩ := ih h
      refine ⟨a :: pre, by simp [h1], ?_, h3⟩
      intro x hx
      rcases List.mem_cons.mp hx with rfl | hx
      · exact hc
      · exact h2 x hx
    · next hc =>
      intro h
      simp only [Prod.mk.injEq, Option.some.injEq] at h
      obtain ⟨rfl, rfl⟩ := h
      exact ⟨[], by simp, by simp, by simpa using hc⟩

theorem scanIdle_none (closed : Conn → Bool) (l : List Conn) (r : List Conn) :
    scanIdle closed l = (none, r) → ∀ x ∈ l, closed x = true := by
  induction l with
  | nil => simp
  | cons a t ih =>
    unfold scanIdle
    split
    · next hc =>
      intro h x hx
      rcases List.mem_cons.mp hx with rfl | hx
      · exact hc
      · exact ih h x hx
    · intro h; simp at h

theorem popUntilWaiting_some_waiting (wst : Want → WSt) (l : List Want) (w : Want) :
    (popUntilWaiting wst l).1 = some w → wst w = .waiting := by
  induction l with
  | nil => simp [popUntilWaiting]
  | cons a q ih =>
    unfold popUntilWaiting
    split
    · next hw => intro h; simp at h; subst h; exact hw
    · exact ih

/-- `l'` is `s.idle k` with some broken connections dropped. -/
def Pruned (s : St) (k : Key) (l' : List Conn) : Prop :=
  l'.Sublist (s.idle k) ∧ ∀ x ∈ s.idle k, x ∉ l' → s.closed x = true

theorem Pruned.mem {s : St} {k : Key} {l' : List Conn} (hp : Pruned s k l') {k' : Key} {x : Conn}
    (hx : x ∈ upd s.idle k l' k') : x ∈ s.idle k' := by
  rcases (mem_upd_idle ..).mp hx with ⟨rfl, h1⟩ | ⟨_, h1⟩
  · exact hp.1.subset h1
  · exact h1

theorem Pruned.keep {s : St} {k : Key} {l' : List Conn} (hp : Pruned s k l') {k' : Key} {x : Conn}
    (hx : x ∈ s.idle k') : x ∈ upd s.idle k l' k' ∨ s.closed x = true := by
  by_cases hkk : k' = k
  · subst hkk
    by_cases hx' : x ∈ l'
    · exact .inl ((mem_upd_idle ..).mpr (.inl ⟨rfl, hx'⟩))
    · exact .inr (hp.2 x hx hx')
  · exact .inl ((mem_upd_idle ..).mpr (.inr ⟨hkk, hx⟩))

theorem Pruned.length_le {s : St} {k : Key} {l' : List Conn} (hp : Pruned s k l') (k' : Key) :
    (upd s.idle k l' k').length ≤ (s.idle k').length := by
  simp only [upd]; split
  · next e => subst e; exact hp.1.length_le
  · exact Nat.le_refl _

/-- What a critical section is made of: a connection changes place (idle list, `transit`, a
request), a want changes state, a queue is rewritten.  Every guard is something the code itself
checks, so `step` decomposes into moves in any state (`step_moves`); a connection a routine has
in hand is in `transit` between two moves, so that every move keeps every invariant by itself.
What gives a slot back (`dialDrop`; `closeT`, `close`, `idleTimeout` through `persistConn.close`)
stays a call of the model's function, because the slot accounting fails between vacating the slot
and `decConnsPerHost`; so do `remove` and the tail of `tryPutIdleConn` (`addIdle`), whose eviction
is a `close` followed by a `remove` only where the LRU list has no duplicates (`evictOldest_eq`). -/
inductive Move (cfg : Cfg) (s : St) : St → Prop
  | wantNew (w : Want) (k : Key) (h : s.wkey w = none) : Move cfg s { s with wkey := upd s.wkey w (some k) }
  | closeIdleFlag (b : Bool) : Move cfg s { s with closeIdle := b }
  | prune (k : Key) (l' : List Conn) (h : Pruned s k l') : Move cfg s { s with idle := upd s.idle k l' }
  | handOver (w : Want) (c : Conn) (k : Key) (l : List Conn) (hi : s.idle k = l ++ [c])
      (hc : s.closed c = false) (hw : s.wst w = .waiting) :
      Move cfg s { s with idle := upd s.idle k l, lru := s.lru.erase c, wst := upd s.wst w (.gotConn c) }
  | setIdleWait (k : Key) (q : List Want) (h : q = [] ∨ s.idle k = [] ∨ s.idleWait k ≠ []) :
      Move cfg s { s with idleWait := upd s.idleWait k q }
  | dialNow (w : Want) (hoff : cfg.maxConnsPerHost ≤ 0) :
      Move cfg s { s with dip := cleanCanceled s.cancelNil s.dip ++ [w], dialing := w :: s.dialing }
  | takeSlot (w : Want) (k : Key) (hk : s.wkey w = some k) (hlt : (s.cph k : Int) < cfg.maxConnsPerHost) :
      Move cfg s { s with cph := upd s.cph k (s.cph k + 1), dip := cleanCanceled s.cancelNil s.dip ++ [w],
                          dialing := w :: s.dialing }
  | waitSlot (w : Want) (k : Key) (hk : s.wkey w = some k) (hpos : ¬ cfg.maxConnsPerHost ≤ 0)
      (hge : ¬ (s.cph k : Int) < cfg.maxConnsPerHost) :
      Move cfg s { s with dialWait := upd s.dialWait k (cleanFront s.wst (s.dialWait k) ++ [w]) }
  | toErr (w : Want) (hw : s.wst w = .waiting) : Move cfg s { s with wst := upd s.wst w .gotErr }
  | dialDrop (w : Want) (k : Key) (hk : s.wkey w = some k) (hd : w ∈ s.dialing) (hw : s.wst w ≠ .waiting) :
      Move cfg s (decConns cfg { s with dialing := s.dialing.erase w } k)
  | create (w : Want) (c : Conn) (k : Key) (hk : s.wkey w = some k) (hc : s.ckey c = none) (hd : w ∈ s.dialing) :
      Move cfg s { s with ckey := upd s.ckey c (some k), closed := upd s.closed c false, conns := c :: s.conns,
                          dialing := s.dialing.erase w, transit := c :: s.transit }
  | dialEnd (w : Want) (h : w ∉ s.dialing ∧ w ∈ s.dip) : Move cfg s { s with cancelNil := upd s.cancelNil w true }
  | wstSame (w : Want) (v : WSt) (hv : ∀ d, v.holds d = (s.wst w).holds d) (hnw : v ≠ .waiting) :
      Move cfg s { s with wst := upd s.wst w v }
  | release (w : Want) (c : Conn) (v : WSt) (hc : ∀ d, (s.wst w).holds d = true ↔ c = d) (hv : ∀ d, v.holds d = false)
      (hnw : v ≠ .waiting) : Move cfg s { s with wst := upd s.wst w v, transit := c :: s.transit }
  | deliverTransit (w : Want) (c : Conn) (hc : c ∈ s.transit) (hcl : s.closed c = false) (hw : s.wst w = .waiting) :
      Move cfg s { s with transit := s.transit.erase c, wst := upd s.wst w (.gotConn c) }
  | transitFront (c : Conn) (hc : c ∈ s.transit) : Move cfg s { s with transit := c :: s.transit.erase c }
  | dup (c : Conn) (k : Key) (hc : c ∈ s.transit) (hcl : s.closed c = false) (h : c ∈ s.idle k ∨ c ∈ s.lru) :
      Move cfg s { s with transit := s.transit.erase c, dupPanic := true }
  | addIdle (c : Conn) (k : Key) (hc : c ∈ s.transit) (hk : s.ckey c = some k) (hcl : s.closed c = false)
      (hq : s.idleWait k = []) (hlen : (s.idle k).length < cfg.idlePerHost) (hnl : c ∉ s.lru) :
      Move cfg s (addIdle cfg { s with transit := s.transit.erase c } c k)
  | closeT (c : Conn) (h : c ∈ s.transit) : Move cfg s (closeConn cfg { s with transit := s.transit.erase c } c)
  | close (c : Conn) : Move cfg s (closeConn cfg s c)
  | remove (c : Conn) (hk : s.ckey c ≠ none) (h : s.closed c = true) : Move cfg s (removeIdleLocked s c).1
  | idleTimeout (c : Conn) (h : c ∈ s.lru) : Move cfg s (closeConn cfg (removeIdleLocked s c).1 c)
  | flush : Move cfg s { s with transit := listedIdle s ++ s.transit, idle := fun _ => [], lru := [], closeIdle := true }

inductive Moves (cfg : Cfg) : St → St → Prop
  | nil {s : St} : Moves cfg s s
  | cons {s t u : St} : Move cfg s t → Moves cfg t u → Moves cfg s u

theorem Moves.of_eq {cfg : Cfg} {s t : St} (h : s = t) : Moves cfg s t := h ▸ .nil
theorem Moves.one {cfg : Cfg} {s t : St} (m : Move cfg s t) : Moves cfg s t := .cons m .nil

theorem Moves.keeps {cfg : Cfg} {P : St → Prop} (hP : ∀ {s s'}, Move cfg s s' → P s → P s') {s s' : St}
    (ms : Moves cfg s s') (h : P s) : P s' := by
  induction ms with
  | nil => exact h
  | cons m _ ih => exact ih (hP m h)

theorem pruned_of_scan (s : St) (k : Key) (c : Conn) (pre rest : List Conn)
    (hpre : (s.idle k).reverse = pre ++ c :: rest) (hcl : ∀ x ∈ pre, s.closed x = true) :
    Pruned s k (rest.reverse ++ [c]) := by
  have hl : s.idle k = (rest.reverse ++ [c]) ++ pre.reverse := by
    have := congrArg List.reverse hpre; simpa using this
  refine ⟨by rw [hl]; exact List.sublist_append_left _ _, fun x hx hn => ?_⟩
  rw [hl] at hx
  rcases List.mem_append.mp hx with h | h
  · exact absurd h hn
  · exact hcl x (List.mem_reverse.mp h)

/-- `queueForIdleConn`: the broken connections at the recently used end are dropped; then the
candidate goes to the want, or stays (the want has stopped waiting), or the want is queued. -/
theorem queueIdle_moves (cfg : Cfg) (s : St) (w : Want) (k : Key) : Moves cfg s (queueIdle cfg s w k).1 := by
  unfold queueIdle
  split
  · exact .nil
  · simp only
    split
    · next c rest heq =>
      obtain ⟨pre, hpre, hprecl, hc⟩ := scanIdle_some _ _ _ _ heq
      have hp : Pruned { s with closeIdle := false } k (rest.reverse ++ [c]) :=
        pruned_of_scan _ k c pre rest hpre hprecl
      refine .cons (.closeIdleFlag false) (.cons (.prune k _ hp) ?_)
      split
      · next hw => exact .cons (.handOver w c k rest.reverse (upd_same ..) hc hw) (.of_eq (by simp [upd_upd]))
      · exact .of_eq (by simp)
    · next r heq =>
      have hall := scanIdle_none _ _ _ heq
      exact .cons (.closeIdleFlag false)
        (.cons (.prune k [] ⟨List.nil_sublist _, fun x hx _ => hall x (List.mem_reverse.mpr hx)⟩)
          (.one (.setIdleWait k _ (.inr (.inl (upd_same ..))))))

/-- The routine that holds `c` offers it to the pool (`putT`; the tail of `finishPut`). -/
theorem putT_moves (cfg : Cfg) (s : St) (c : Conn) (k : Key) (hk : s.ckey c = some k) (hc : c ∈ s.transit) :
    Moves cfg s (putBack (tryPut cfg { s with transit := s.transit.erase c } c k) c) := by
  have sp := tryPut_spec cfg { s with transit := s.transit.erase c } c k
  generalize tryPut cfg { s with transit := s.transit.erase c } c k = r at sp ⊢
  cases sp with
  | refused e he => exact .cons (.transitFront c hc) (.of_eq (by simp [putBack, he]))
  | delivered w q hp hcl =>
    exact .cons (.setIdleWait k q (.inr (.inr (popUntilWaiting_some_ne s.wst _ w (by rw [hp])))))
      (.cons (.deliverTransit w c hc hcl (popUntilWaiting_some_waiting s.wst _ w (by rw [hp])))
        (.of_eq (by simp [putBack])))
  | full e he =>
    exact .cons (.setIdleWait k [] (.inl rfl)) (.cons (.transitFront c hc) (.of_eq (by simp [putBack, he])))
  | dup hcl h => exact .cons (.setIdleWait k [] (.inl rfl)) (.cons (.dup c k hc hcl h) (.of_eq (by simp [putBack])))
  | added hcl _ hlen hnd =>
    exact .cons (.setIdleWait k [] (.inl rfl))
      (.cons (.addIdle c k hc hk hcl (upd_same ..) hlen hnd.2) (.of_eq (by simp [putBack])))

theorem step_moves (cfg : Cfg) (s : St) (op : Op) : Moves cfg s (step cfg s op).1 := by
  cases op with
  | newWant w k =>
    simp only [step]; split
    · exact .nil
    · next h => exact .one (.wantNew w k h)
  | queueIdle w =>
    simp only [step]; split
    · exact .nil
    · next k hk => exact queueIdle_moves cfg s w k
  | queueDial w =>
    simp only [step]; split
    · exact .nil
    · next k hk =>
      split
      · exact .nil
      · unfold queueDial startDial
        split
        · next hoff => exact .one (.dialNow w hoff)
        · next hpos =>
          split
          · next hlt => exact .one (.takeSlot w k hk hlt)
          · next hge => exact .one (.waitSlot w k hk hpos hge)
  | dialBegin w =>
    simp only [step]; split
    · exact .nil
    · next k hk =>
      split
      · exact .nil
      · next hd =>
        split
        · exact .nil
        · next hw => exact .one (.dialDrop w k hk (by simpa using hd) hw)
  | dialOk w c =>
    simp only [step]; split
    · next k hk hc =>
      split
      · exact .nil
      · next hd =>
        refine .cons (.create w c k hk hc (by simpa using hd)) ?_
        split
        · next hw => exact .cons (.deliverTransit w c List.mem_cons_self (upd_same ..) hw) (.of_eq (by simp))
        · exact .nil
    · exact .nil
  | dialFail w =>
    simp only [step]; split
    · exact .nil
    · next k hk =>
      split
      · exact .nil
      · next hd =>
        have hd : w ∈ s.dialing := by simpa using hd
        split
        · next hw => exact .cons (.toErr w hw) (.one (.dialDrop w k hk hd (by simp [upd])))
        · next hw => exact .one (.dialDrop w k hk hd hw)
  | dialEnd w =>
    simp only [step]; split
    · exact .nil
    · next h => exact .one (.dialEnd w (by simpa using h))
  | recv w =>
    simp only [step]; split
    · next c h => exact .one (.wstSame w _ (by rw [h]; intro d; rfl) (by simp))
    · next h => exact .one (.wstSame w _ (by rw [h]; intro d; rfl) (by simp))
    · exact .nil
  | cancel w =>
    simp only [step]; split
    · exact .nil
    · split
      · next h => exact .one (.wstSame w _ (by rw [h]; intro d; rfl) (by simp))
      · next c h => exact .one (.release w c _ (by rw [h]; simp [WSt.holds]) (fun _ => rfl) (by simp))
      · next h => exact .one (.wstSame w _ (by rw [h]; intro d; rfl) (by simp))
      · exact .nil
  | putT c =>
    simp only [step]; split
    · exact .nil
    · next k hk =>
      split
      · exact .nil
      · next h =>
        have := putT_moves cfg s c k hk (by simpa using h)
        unfold putBack at this
        split <;> simpa [*] using this
  | closeT c =>
    simp only [step]; split
    · exact .nil
    · next h => exact .one (.closeT c (by simpa using h))
  | finishPut w =>
    simp only [step]; split
    · next c h =>
      split
      · exact .nil
      · next k hk =>
        refine .cons (.release w c .finished (by rw [h]; simp [WSt.holds]) (fun _ => rfl) (by simp)) ?_
        have := putT_moves cfg { s with wst := upd s.wst w .finished, transit := c :: s.transit } c k hk
          List.mem_cons_self
        unfold putBack at this
        split <;> simpa [*] using this
    · exact .nil
  | finishClose w =>
    simp only [step]; split
    · next c h =>
      exact .cons (.release w c .finished (by rw [h]; simp [WSt.holds]) (fun _ => rfl) (by simp))
        (.cons (.closeT c List.mem_cons_self) (.of_eq (by simp)))
    · exact .nil
  | serverCloseIdle c =>
    simp only [step]; split
    · exact .nil
    · split
      · exact .one (.close c)
      · exact .nil
  | removeIdle c =>
    simp only [step]; split
    · exact .nil
    · next k hk =>
      split
      · next h => exact .one (.remove c (by rw [hk]; exact Option.some_ne_none k) h)
      · exact .nil
  | idleTimeout c =>
    simp only [step]; split
    · exact .nil
    · next h => exact .one (.idleTimeout c (by simpa using h))
  | closeIdleConnections => exact .one .flush

theorem run_moves {cfg : Cfg} {P : St → Prop} (hP : ∀ {s s'}, Move cfg s s' → P s → P s') (s : St)
    (ops : List Op) (h : P s) : P (run cfg s ops) := by
  induction ops generalizing s with
  | nil => exact h
  | cons op ops ih => exact ih _ ((step_moves cfg s op).keeps hP h)

end Req.Lemmas.C09Pool
