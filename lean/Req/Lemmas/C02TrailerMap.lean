import Req.C02.TrailerMap
import Req.Lemmas.C02H1Map
/-! Lookups in `Response.Trailer` as built by `declMap` and `mergeSet`.  The merge is characterised
for a source with distinct keys, which every map built by `add` has (`nodup_hmapOf`). -/
namespace Req.C02
open Req.Proto Req.H1

theorem get_declMap_aux (keys : List Bytes) (m : HeaderMap) (k : Bytes) :
    (keys.foldl (fun m k => m.set k []) m).get k = if k ∈ keys then some [] else m.get k := by
  induction keys generalizing m with
  | nil => rfl
  | cons x xs ih =>
    rw [List.foldl_cons, ih, get_set]
    by_cases hx : k ∈ xs
    · rw [if_pos hx, if_pos (List.mem_cons_of_mem x hx)]
    · rw [if_neg hx]
      exact ite_cond_congr (by rw [List.mem_cons, or_iff_left hx])

theorem get_declMap (keys : List Bytes) (k : Bytes) :
    (declMap keys).get k = if k ∈ keys then some [] else none :=
  get_declMap_aux keys [] k

def keysOf (m : HeaderMap) : List Bytes := m.map (·.1)

theorem keysOf_add (m : HeaderMap) (k v : Bytes) :
    keysOf (m.add k v) = keysOf m ∧ k ∈ keysOf m ∨ keysOf (m.add k v) = keysOf m ++ [k] ∧ k ∉ keysOf m := by
  induction m with
  | nil => exact .inr ⟨rfl, List.not_mem_nil⟩
  | cons p ps ih =>
    rcases p with ⟨pk, pvs⟩
    rw [add_cons]
    by_cases hpk : pk = k
    · rw [if_pos hpk]
      exact .inl ⟨rfl, hpk ▸ List.mem_cons_self ..⟩
    · rw [if_neg hpk]
      rcases ih with ⟨e, hin⟩ | ⟨e, hnin⟩
      · exact .inl ⟨congrArg (pk :: ·) e, List.mem_cons_of_mem pk hin⟩
      · exact .inr ⟨congrArg (pk :: ·) e, fun h => (List.mem_cons.1 h).elim (fun e => hpk e.symm) hnin⟩

theorem nodup_add (m : HeaderMap) (k v : Bytes) (h : (keysOf m).Nodup) : (keysOf (m.add k v)).Nodup := by
  rcases keysOf_add m k v with ⟨e, _⟩ | ⟨e, hk⟩ <;> rw [e]
  · exact h
  · exact List.nodup_append.mpr ⟨h, List.pairwise_singleton _ k, fun a ha b hb hab =>
      hk (List.mem_singleton.1 hb ▸ hab ▸ ha)⟩

theorem nodup_hmapAdd (kvs : List (Bytes × Bytes)) (m : HeaderMap) (h : (keysOf m).Nodup) :
    (keysOf (hmapAdd m kvs)).Nodup := by
  induction kvs generalizing m with
  | nil => exact h
  | cons kv rest ih => exact ih _ (nodup_add m kv.1 kv.2 h)

theorem nodup_hmapOf (kvs : List (Bytes × Bytes)) : (keysOf (hmapOf kvs)).Nodup :=
  nodup_hmapAdd kvs [] List.nodup_nil

theorem get_none_of_not_mem (m : HeaderMap) (k : Bytes) (h : k ∉ keysOf m) : m.get k = none := by
  induction m with
  | nil => rfl
  | cons p ps ih =>
    rcases p with ⟨pk, pvs⟩
    rw [get_cons, if_neg (fun e : k = pk => h (e ▸ List.mem_cons_self ..))]
    exact ih (fun hm => h (List.mem_cons_of_mem pk hm))

/-- `mergeSetHeader` with a source whose keys are distinct (a Go map): a received key wins,
any other key keeps what the destination had. -/
theorem get_mergeSet (src dst : HeaderMap) (k : Bytes) (h : (keysOf src).Nodup) :
    (mergeSet dst src).get k = match src.get k with | some vv => some vv | none => dst.get k := by
  induction src generalizing dst with
  | nil => rfl
  | cons e rest ih =>
    rcases e with ⟨ek, evs⟩
    obtain ⟨hek, hrest⟩ := List.nodup_cons.1 h
    show (mergeSet (dst.set ek evs) rest).get k = _
    rw [ih _ hrest, get_set, get_cons]
    by_cases hk : k = ek
    · rw [if_pos hk, if_pos hk, get_none_of_not_mem rest k (hk ▸ hek)]
    · rw [if_neg hk, if_neg hk]

end Req.C02
