import Req.Client.DumpSites
import Req.Lemmas.StickyPrefix
/-! The HTTP/2 / HTTP/3 dump call sites (`Req/Client/DumpSites.lean`): the header loop in closed form
(`keptFields`, `encodeLoop_eq`), the DATA frame cut (`cutRead_spec`, `dataFrames_spec`), the invariant `DInv` of the
dumping emit callback through `readMetaFrame`'s loops, and the HTTP/3 body writer as a sticky prefix. -/
namespace Req.Client.DumpSites
open Req.Proto

theorem renderLines_append (a b : List Field) : renderLines (a ++ b) = renderLines a ++ renderLines b := by
  simp [renderLines]

/-- the fields `encodeHeaders` hands on: names lower-cased, non-ASCII names dropped under `skip` -/
def keptFields (skip : Bool) : List Field → List Field
  | [] => []
  | (n, v) :: rest =>
    if skip && !isASCII n then keptFields skip rest else (n.map lowerByte, v) :: keptFields skip rest

theorem encodeLoop_eq (skip dumpOn : Bool) (en : List Field) (o : HeadOut) :
    encodeLoop skip dumpOn en o =
      { wire := o.wire ++ keptFields skip en,
        dump := if dumpOn then o.dump ++ renderLines (keptFields skip en) else o.dump } := by
  induction en generalizing o with
  | nil => cases dumpOn <;> simp [encodeLoop, keptFields, renderLines]
  | cons f rest ih =>
    obtain ⟨n, v⟩ := f
    unfold encodeLoop
    by_cases h : (skip && !isASCII n) = true
    · rw [if_pos h, ih, keptFields, if_pos h]
    · rw [if_neg h, ih, keptFields, if_neg h]
      cases dumpOn <;> simp [renderLines, List.append_assoc]

theorem allowed_pos (m g r : Nat) : 1 ≤ allowed m g r := by unfold allowed; omega

theorem allowed_le (m g r : Nat) (hm : 1 ≤ m) (hr : 1 ≤ r) : allowed m g r ≤ r ∧ allowed m g r ≤ m := by
  unfold allowed; omega

theorem cutRead_spec (maxFrame : Nat) (hm : 1 ≤ maxFrame) :
    ∀ (fuel : Nat) (remain : Bytes) (gs : List Nat), remain.length ≤ fuel →
      (cutRead maxFrame fuel remain gs).1.flatten = remain ∧
      ∀ f ∈ (cutRead maxFrame fuel remain gs).1, f ≠ [] ∧ f.length ≤ maxFrame := by
  intro fuel
  induction fuel with
  | zero =>
    intro remain gs h
    have : remain = [] := List.length_eq_zero_iff.mp (by omega)
    subst this
    simp [cutRead]
  | succ fuel ih =>
    intro remain gs h
    unfold cutRead
    by_cases he : remain.isEmpty
    · have : remain = [] := by simpa using he
      subst this; simp
    · simp only [he, Bool.false_eq_true, ↓reduceIte]
      have hr : 1 ≤ remain.length := by
        cases remain with
        | nil => simp at he
        | cons _ _ => simp
      generalize gs.headD remain.length = g
      have ha := allowed_pos maxFrame g remain.length
      have hb := allowed_le maxFrame g remain.length hm hr
      have hlen : (remain.drop (allowed maxFrame g remain.length)).length ≤ fuel := by
        simp only [List.length_drop]; omega
      obtain ⟨h1, h2⟩ := ih (remain.drop (allowed maxFrame g remain.length)) gs.tail hlen
      constructor
      · simp only [List.flatten_cons, h1, List.take_append_drop]
      · intro f hf
        simp only [List.mem_cons] at hf
        rcases hf with hf | hf
        · subst hf
          constructor
          · intro hnil
            have : (remain.take (allowed maxFrame g remain.length)).length = 0 := by rw [hnil]; rfl
            simp only [List.length_take] at this
            omega
          · simp only [List.length_take]; omega
        · exact h2 f hf

theorem dataFrames_spec (maxFrame : Nat) (hm : 1 ≤ maxFrame) (pieces : List Bytes) :
    ∀ gs : List Nat, (dataFrames maxFrame pieces gs).flatten = pieces.flatten ∧
      ∀ f ∈ dataFrames maxFrame pieces gs, f ≠ [] ∧ f.length ≤ maxFrame := by
  induction pieces with
  | nil => intro gs; simp [dataFrames]
  | cons p ps ih =>
    intro gs
    unfold dataFrames
    obtain ⟨h1, h2⟩ := cutRead_spec maxFrame hm p.length p gs (Nat.le_refl _)
    generalize cutRead maxFrame p.length p gs = c at h1 h2
    obtain ⟨fs, gs'⟩ := c
    obtain ⟨i1, i2⟩ := ih gs'
    simp only at h1 h2 ⊢
    constructor
    · simp [List.flatten_append, h1, i1]
    · intro f hf
      simp only [List.mem_append] at hf
      rcases hf with hf | hf
      · exact h2 f hf
      · exact i2 f hf

open Req.H2.Meta

/-- what has been dumped is the rendering of the accepted fields, as long as the decoder is still
emitting; once it stopped, a field was refused (`invalid`) or cut off (`truncated`). -/
def DInv (s : St) (d : Bytes) : Prop :=
  (s.emitEnabled = true → d = renderLines s.fields) ∧
  (s.emitEnabled = false → s.invalid = true ∨ s.truncated = true)

theorem emit_inv (s : St) (n v : Bytes) (d : Bytes) (he : s.emitEnabled = true) (h : DInv s d) :
    DInv (emit s n v) (d ++ renderLine (n, v)) := by
  unfold emit
  split
  · exact ⟨fun h' => by simp at h', fun _ => Or.inl rfl⟩
  · split
    · exact ⟨fun h' => by simp at h', fun _ => Or.inr rfl⟩
    · refine ⟨fun _ => ?_, fun h' => by simp [he] at h'⟩
      simp only
      rw [renderLines_append, h.1 he]
      simp [renderLines]

theorem writeFragDump_spec (evs : List Event) (s : St) (d : Bytes) :
    (writeFragDump s evs d).1 = writeFrag s evs ∧
    (DInv s d → ∀ s', (writeFragDump s evs d).1 = some s' → DInv s' (writeFragDump s evs d).2) := by
  induction evs generalizing s d with
  | nil => exact ⟨rfl, fun h s' hs => by cases hs; exact h⟩
  | cons e rest ih =>
    cases e with
    | decodeError => exact ⟨rfl, fun _ s' hs => nomatch hs⟩
    | field n v =>
      unfold writeFragDump writeFrag
      by_cases he : s.emitEnabled = true
      · rw [if_pos he, if_pos he]
        exact ⟨(ih _ _).1, fun h => (ih _ _).2 (emit_inv s n v d he h)⟩
      · rw [if_neg he, if_neg he]
        exact ih s d

theorem fragLoopDump_spec (frags : List Frag) (s : St) (d : Bytes) :
    (fragLoopDump s frags d).1 = (fragLoop s frags).toOption ∧
    (DInv s d → ∀ s', (fragLoopDump s frags d).1 = some s' → DInv s' (fragLoopDump s frags d).2) := by
  induction frags generalizing s d with
  | nil => exact ⟨rfl, fun h s' hs => by cases hs; exact h⟩
  | cons f rest ih =>
    unfold fragLoopDump fragLoop
    split
    · exact ⟨rfl, fun _ s' hs => nomatch hs⟩
    · split
      · exact ⟨rfl, fun _ s' hs => nomatch hs⟩
      · obtain ⟨hfst, hinv⟩ := writeFragDump_spec f.events s d
        generalize writeFragDump s f.events d = w at hfst hinv
        obtain ⟨so, d'⟩ := w
        simp only at hfst hinv
        rw [← hfst]
        cases so with
        | none => exact ⟨rfl, fun _ s' hs => nomatch hs⟩
        | some s1 => exact ⟨(ih s1 d').1, fun h => (ih s1 d').2 (hinv h s1 rfl)⟩

theorem take_spec (o : H3Out) (p : Bytes) :
    (o.take p).1.dump = o.dump ∧ (o.take p).2 ≤ p.length ∧
    (o.take p).1.wire = o.wire ++ p.take (o.take p).2 ∧
    (o.failed = false → ((o.take p).2 < p.length → (o.take p).1.failed = true) ∧
                        ((o.take p).2 = p.length → (o.take p).1.failed = false)) := by
  rcases o with ⟨w, d, l, f⟩
  cases l with
  | none => simp [H3Out.take]
  | some l =>
    by_cases h : p.length ≤ l
    · simp [H3Out.take, h]
    · simp [H3Out.take, h]; omega

theorem h3Write_failed (o : H3Out) (p : Bytes) (h : o.failed = true) : h3Write o p = o := by
  simp [h3Write, h]

theorem h3Write_spec (o : H3Out) (p : Bytes) (hf : o.failed = false) :
    ∃ n, n ≤ p.length ∧ (h3Write o p).dump = o.dump ++ p.take n ∧
      (n < p.length → (h3Write o p).failed = true) := by
  unfold h3Write
  simp only [hf, Bool.false_eq_true, ↓reduceIte]
  cases hh : dataHeader p.length with
  | none => exact ⟨0, by omega, by simp, fun _ => rfl⟩
  | some h =>
    simp only
    -- the frame header first: a short count there fails the stream before any payload byte
    obtain ⟨hdump1, hle1, _, hfail1⟩ := take_spec o h
    obtain ⟨hshort1, hfull1⟩ := hfail1 hf
    by_cases ha : (o.take h).2 < h.length
    · simp only [ha, ↓reduceIte]
      exact ⟨0, by omega, by simp [hdump1], fun _ => hshort1 ha⟩
    · simp only [ha, ↓reduceIte]
      obtain ⟨hdump2, hle2, _, hfail2⟩ := take_spec (o.take h).1 p
      refine ⟨((o.take h).1.take p).2, hle2, by simp only [hdump2, hdump1], ?_⟩
      exact (hfail2 (hfull1 (by omega))).1

theorem h3_fold_prefix (pieces : List Bytes) (o : H3Out) :
    ∃ x, (pieces.foldl (fun o p => if p.isEmpty then o else h3Write o p) o).dump = o.dump ++ x ∧
      x <+: pieces.flatten ∧
      ((pieces.foldl (fun o p => if p.isEmpty then o else h3Write o p) o).failed = false →
        x = pieces.flatten) := by
  obtain ⟨x, h1, h2, _, h4⟩ := Req.Lemmas.foldl_acc_prefix
    (fun o p => if p.isEmpty then o else h3Write o p) (·.dump) (·.failed) id
    (fun o p hf => by
      by_cases hp : p.isEmpty
      · exact ⟨0, by simp [hp], fun hn => by simp [List.isEmpty_iff.mp hp] at hn⟩
      · obtain ⟨n, _, hd, hshort⟩ := h3Write_spec o p hf
        exact ⟨n, by simpa [hp] using hd, by simpa [hp] using hshort⟩)
    (fun o p hf => by
      by_cases hp : p.isEmpty
      · simp [hp, hf]
      · simp [hp, h3Write_failed o p hf, hf])
    pieces o
  rw [List.flatMap_id] at h2 h4
  exact ⟨x, h1, h2, h4⟩

end Req.Client.DumpSites
