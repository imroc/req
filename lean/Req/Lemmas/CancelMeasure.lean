import Req.Pool.Cancel
/-!
Helper lemmas for C08: a measure that every internal action strictly decreases
(so internal runs are short, whatever the state), and frame facts of the actions.
-/
namespace Req.Cancel

/-- The caller's share of the measure. Sending and reading rank 2, above `retrySleep` and `done`.
Waiting for a connection ranks 10: `deliver` leaves it for a phase of rank 2 while adding up to
three resources (connection, writer, reader or watcher) and, on h2, the surcharge 2 of `mu`. -/
def phaseRank : Phase → Nat
  | .done => 0
  | .retrySleep => 1
  | .waitConn | .dialing | .handshaking => 10
  | _ => 2

def b2n (b : Bool) : Nat := if b then 1 else 0

@[simp] theorem b2n_true : b2n true = 1 := rfl
@[simp] theorem b2n_false : b2n false = 0 := rfl

/-- goroutines alive + things still held -/
def rest (r : Res) : Nat :=
  b2n (r.conn == .owned) + b2n r.writer + b2n r.reader + b2n r.watch + b2n r.closing + b2n r.bodyOpen

/-- pending work: caller's phase + `rest` + (h2) the caller still has to notice the cancellation -/
def mu (cfg : Cfg) (s : St) : Nat :=
  phaseRank s.phase + rest s.res +
  (if cfg.stack == .h2 && s.phase.inflight && !s.res.rtAbort then 2 else 0)

/-- the bound of `mu`: 10 (`phaseRank`) + 6 (`rest`) + 2 (h2 surcharge) -/
def K : Nat := 18

theorem b2n_le (b : Bool) : b2n b ≤ 1 := by cases b <;> simp [b2n]

theorem rest_le (r : Res) : rest r ≤ 6 := by
  unfold rest
  have h1 := b2n_le (r.conn == .owned)
  have h2 := b2n_le r.writer
  have h3 := b2n_le r.reader
  have h4 := b2n_le r.watch
  have h5 := b2n_le r.closing
  have h6 := b2n_le r.bodyOpen
  omega

theorem mu_le (cfg : Cfg) (s : St) : mu cfg s ≤ K := by
  unfold mu K
  have h1 := rest_le s.res
  have h7 : phaseRank s.phase ≤ 10 := by cases s.phase <;> simp [phaseRank]
  split <;> omega

theorem finish_phase (cfg : Cfg) (s : St) (r : Result) :
    (finish cfg s r).phase = .done ∨ (finish cfg s r).phase = .retrySleep := by
  unfold finish; split <;> simp

theorem finish_res (cfg : Cfg) (s : St) (r : Result) : (finish cfg s r).res = s.res := by
  unfold finish; split <;> rfl

theorem finish_ctx (cfg : Cfg) (s : St) (r : Result) : (finish cfg s r).ctx = s.ctx := by
  unfold finish; split <;> rfl

theorem finish_sleepsDone (cfg : Cfg) (s : St) (r : Result) :
    (finish cfg s r).sleepsDone = s.sleepsDone := by
  unfold finish; split <;> rfl

theorem finish_rank_le (cfg : Cfg) (s : St) (r : Result) :
    phaseRank (finish cfg s r).phase ≤ 1 := by
  rcases finish_phase cfg s r with h | h <;> simp [h, phaseRank]

theorem finish_not_inflight (cfg : Cfg) (s : St) (r : Result) :
    (finish cfg s r).phase.inflight = false := by
  rcases finish_phase cfg s r with h | h <;> simp [h, Phase.inflight]

theorem finishBody_phase (cfg : Cfg) (s : St) (r : Result) :
    (finishBody cfg s r).phase = .done ∨ (finishBody cfg s r).phase = .retrySleep := by
  unfold finishBody; split
  · exact finish_phase cfg s r
  · simp

theorem finishBody_res (cfg : Cfg) (s : St) (r : Result) : (finishBody cfg s r).res = s.res := by
  unfold finishBody; split
  · exact finish_res cfg s r
  · rfl

theorem finishBody_ctx (cfg : Cfg) (s : St) (r : Result) : (finishBody cfg s r).ctx = s.ctx := by
  unfold finishBody; split
  · exact finish_ctx cfg s r
  · rfl

theorem finishBody_sleepsDone (cfg : Cfg) (s : St) (r : Result) :
    (finishBody cfg s r).sleepsDone = s.sleepsDone := by
  unfold finishBody; split
  · exact finish_sleepsDone cfg s r
  · rfl

theorem finishBody_not_inflight (cfg : Cfg) (s : St) (r : Result) :
    (finishBody cfg s r).phase.inflight = false := by
  rcases finishBody_phase cfg s r with h | h <;> simp [h, Phase.inflight]

@[simp] theorem closeBody_eq (r : Res) :
    r.closeBody = { r with bodyOpen := false, closes := r.closes + b2n r.bodyOpen } := by
  cases r with | mk b => cases b <;> rfl

attribute [simp] finish_res finish_ctx finish_sleepsDone finish_not_inflight
attribute [simp] finishBody_res finishBody_ctx finishBody_sleepsDone finishBody_not_inflight

theorem rank_inflight {p : Phase} (h : p.inflight = true) : 2 ≤ phaseRank p := by
  revert h; cases p <;> simp [Phase.inflight, phaseRank]
theorem rank_body {p : Phase} (h : p.body = true) : 2 ≤ phaseRank p := by
  revert h; cases p <;> simp [Phase.body, phaseRank]
theorem rank_preConn {p : Phase} (h : p.preConn = true) : phaseRank p = 10 := by
  revert h; cases p <;> simp [Phase.preConn, phaseRank]

/-! The phases fall into five classes: `preConn`, `inflight`, `body` (an attempt is going on; the
three exclude each other), `retrySleep` and `done`. -/

theorem pre_infl {p : Phase} (h : p.preConn = true) (h' : p.inflight = true) : False := by
  cases p <;> cases h <;> cases h'
theorem pre_body {p : Phase} (h : p.preConn = true) (h' : p.body = true) : False := by
  cases p <;> cases h <;> cases h'
theorem infl_body {p : Phase} (h : p.inflight = true) (h' : p.body = true) : False := by
  cases p <;> cases h <;> cases h'
theorem pre_not_infl {p : Phase} (h : p.preConn = true) : p.inflight = false :=
  Bool.eq_false_iff.2 (pre_infl h)
theorem infl_not_pre {p : Phase} (h : p.inflight = true) : p.preConn = false :=
  Bool.eq_false_iff.2 (pre_infl · h)
theorem body_not_pre {p : Phase} (h : p.body = true) : p.preConn = false :=
  Bool.eq_false_iff.2 (pre_body · h)
theorem ah_or_body_not_pre {p : Phase} (h : p = .awaitingHeaders ∨ p.body = true) : p.preConn = false :=
  h.elim (fun h => h ▸ rfl) body_not_pre

theorem phase_done {p : Phase} (hp : p.preConn = false) (hs : p ≠ .retrySleep) (hi : p.inflight = true → False)
    (hb : p.body = true → False) : p = .done := by
  cases p <;> simp_all [Phase.preConn, Phase.inflight, Phase.body]

theorem preConn_cases {p : Phase} (h : p.preConn = true) :
    p = .waitConn ∨ p = .dialing ∨ p = .handshaking := by
  revert h; cases p <;> simp [Phase.preConn]

theorem stack_cases (st : Stack) : st = .h1 ∨ st = .h2 ∨ st = .h3 := by cases st <;> simp

/-! `phaseRank`, the phase classes and the `Conn` / `Stream` operations of the model on each of
their arguments, as rewrite rules for `simp`. -/

@[simp] theorem rank_wh : phaseRank .writingHeaders = 2 := rfl
@[simp] theorem rank_wb (i) : phaseRank (.writingBody i) = 2 := rfl
@[simp] theorem rank_ah : phaseRank .awaitingHeaders = 2 := rfl
@[simp] theorem rank_rb (i) : phaseRank (.readingBody i) = 2 := rfl
@[simp] theorem rank_done : phaseRank .done = 0 := rfl
@[simp] theorem rank_rs : phaseRank .retrySleep = 1 := rfl
@[simp] theorem infl_wh : Phase.inflight .writingHeaders = true := rfl
@[simp] theorem infl_wb (i) : Phase.inflight (.writingBody i) = true := rfl
@[simp] theorem infl_ah : Phase.inflight .awaitingHeaders = true := rfl
@[simp] theorem infl_done : Phase.inflight .done = false := rfl
@[simp] theorem infl_rs : Phase.inflight .retrySleep = false := rfl
@[simp] theorem infl_rb (i) : Phase.inflight (.readingBody i) = false := rfl
@[simp] theorem pre_wc : Phase.preConn .waitConn = true := rfl
@[simp] theorem pre_dial : Phase.preConn .dialing = true := rfl
@[simp] theorem pre_hs : Phase.preConn .handshaking = true := rfl
@[simp] theorem pre_wh : Phase.preConn .writingHeaders = false := rfl
@[simp] theorem pre_wb (i) : Phase.preConn (.writingBody i) = false := rfl
@[simp] theorem pre_ah : Phase.preConn .awaitingHeaders = false := rfl
@[simp] theorem pre_rb (i) : Phase.preConn (.readingBody i) = false := rfl
@[simp] theorem pre_done : Phase.preConn .done = false := rfl
@[simp] theorem pre_rs : Phase.preConn .retrySleep = false := rfl
@[simp] theorem body_rb (j) : Phase.body (.readingBody j) = true := rfl
@[simp] theorem body_wh : Phase.body .writingHeaders = false := rfl
@[simp] theorem body_wb (i) : Phase.body (.writingBody i) = false := rfl
@[simp] theorem body_ah : Phase.body .awaitingHeaders = false := rfl
@[simp] theorem body_done : Phase.body .done = false := rfl
@[simp] theorem body_rs : Phase.body .retrySleep = false := rfl

@[simp] theorem conn_co : (Conn.closed == Conn.owned) = false := by decide
@[simp] theorem conn_po : (Conn.pooled == Conn.owned) = false := by decide
@[simp] theorem conn_ro : (Conn.ready == Conn.owned) = false := by decide
@[simp] theorem conn_oo : (Conn.owned == Conn.owned) = true := by decide

/-- the caller returns from an attempt: its rank drops below whatever the resources still add -/
theorem mu_finish_lt {cfg : Cfg} {s s' : St} (r : Result) (hr : rest s'.res ≤ rest s.res)
    (hp : 2 ≤ phaseRank s.phase) : mu cfg (finish cfg s' r) < mu cfg s := by
  have := finish_rank_le cfg s' r
  have : mu cfg s ≥ phaseRank s.phase + rest s.res := Nat.le_add_right _ _
  simp [mu] at *; omega

theorem mu_finishBody_lt {cfg : Cfg} {s s' : St} (r : Result) (hr : rest s'.res ≤ rest s.res)
    (hp : 2 ≤ phaseRank s.phase) : mu cfg (finishBody cfg s' r) < mu cfg s := by
  unfold finishBody; split
  · exact mu_finish_lt r hr hp
  · have : mu cfg s ≥ phaseRank s.phase + rest s.res := Nat.le_add_right _ _
    simp [mu] at *; omega

@[simp] theorem release_owned (c : Conn) : (c.release = .owned) = False := by cases c <;> simp [Conn.release]
@[simp] theorem release_ready (c : Conn) : (c.release = .ready) = (c = .ready) := by cases c <;> simp [Conn.release]
@[simp] theorem release_bgDial (c : Conn) : (c.release = .bgDial) = (c = .bgDial) := by cases c <;> simp [Conn.release]
@[simp] theorem release_closed (c : Conn) : (c.release = .closed) = (c = .closed) := by cases c <;> simp [Conn.release]
@[simp] theorem release_none (c : Conn) : (c.release = .none) = (c = .none) := by cases c <;> simp [Conn.release]
@[simp] theorem release_beq_owned (c : Conn) : (c.release == .owned) = false := by cases c <;> decide
@[simp] theorem release_beq_ready (c : Conn) : (c.release == .ready) = (c == .ready) := by cases c <;> decide
@[simp] theorem unready_ready (c : Conn) : (c.unready = .ready) = False := by cases c <;> simp [Conn.unready]
@[simp] theorem unready_owned (c : Conn) : (c.unready = .owned) = (c = .owned) := by cases c <;> simp [Conn.unready]
@[simp] theorem unready_bgDial (c : Conn) : (c.unready = .bgDial) = (c = .bgDial) := by cases c <;> simp [Conn.unready]
@[simp] theorem unready_closed (c : Conn) : (c.unready = .closed) = (c = .closed) := by cases c <;> simp [Conn.unready]
@[simp] theorem unready_none (c : Conn) : (c.unready = .none) = (c = .none) := by cases c <;> simp [Conn.unready]
@[simp] theorem unready_beq_owned (c : Conn) : (c.unready == .owned) = (c == .owned) := by cases c <;> decide
@[simp] theorem unready_beq_ready (c : Conn) : (c.unready == .ready) = false := by cases c <;> decide
@[simp] theorem giveUp_ready (h) (c : Conn) : (c.afterGiveUp h = .ready) = False := by cases c <;> cases h <;> simp [Conn.afterGiveUp]
@[simp] theorem giveUp_owned (h) (c : Conn) : (c.afterGiveUp h = .owned) = (c = .owned) := by cases c <;> cases h <;> simp [Conn.afterGiveUp]
@[simp] theorem giveUp_closed (h) (c : Conn) : (c.afterGiveUp h = .closed) = (c = .closed) := by cases c <;> cases h <;> simp [Conn.afterGiveUp]
@[simp] theorem giveUp_bgDial (h) (c : Conn) : (c.afterGiveUp h = .bgDial) = (c = .bgDial ∧ h = false) := by cases c <;> cases h <;> simp [Conn.afterGiveUp]
@[simp] theorem giveUp_beq_owned (h) (c : Conn) : (c.afterGiveUp h == .owned) = (c == .owned) := by cases c <;> cases h <;> decide
@[simp] theorem h3Fail_owned (d) (c : Conn) : (c.afterH3Fail d = .owned) = False := by cases c <;> cases d <;> simp [Conn.afterH3Fail]
@[simp] theorem h3Fail_ready (d) (c : Conn) : (c.afterH3Fail d = .ready) = (c = .ready) := by cases c <;> cases d <;> simp [Conn.afterH3Fail]
@[simp] theorem h3Fail_bgDial (d) (c : Conn) : (c.afterH3Fail d = .bgDial) = (c = .bgDial) := by cases c <;> cases d <;> simp [Conn.afterH3Fail]
@[simp] theorem h3Fail_beq_owned (d) (c : Conn) : (c.afterH3Fail d == .owned) = false := by cases c <;> cases d <;> decide
@[simp] theorem kill_open (t : Stream) : (t.kill = .open) = False := by cases t <;> simp [Stream.kill]
@[simp] theorem kill_reset (t : Stream) : (t.kill = .reset) = (t = .open ∨ t = .reset) := by cases t <;> simp [Stream.kill]
@[simp] theorem kill_none (t : Stream) : (t.kill = .none) = (t = .none) := by cases t <;> simp [Stream.kill]
@[simp] theorem kill_closed (t : Stream) : (t.kill = .closed) = (t = .closed) := by cases t <;> simp [Stream.kill]
@[simp] theorem kill_bne_open (t : Stream) : (t.kill != .open) = true := by cases t <;> decide

/-- a goroutine leaves or something held is given back while the caller stays where it is -/
theorem mu_lt_of_rest {cfg : Cfg} {s s' : St} (hp : s'.phase = s.phase)
    (ha : s'.res.rtAbort = s.res.rtAbort) (h : rest s'.res < rest s.res) : mu cfg s' < mu cfg s := by
  unfold mu; rw [hp, ha]; omega

theorem mu_dec (cfg : Cfg) (s : St) (a : Act) (h : guard cfg s a = true) :
    mu cfg (apply cfg s a) < mu cfg s := by
  cases a <;> simp only [guard, Bool.and_eq_true, beq_iff_eq, Bool.not_eq_true', Bool.or_eq_true] at h
  case deliver =>
    obtain ⟨h1, h2⟩ := h
    have h3 := rank_preConn h1
    have h4 := pre_not_infl h1
    have w := b2n_le s.res.writer; have r := b2n_le s.res.reader; have wa := b2n_le s.res.watch
    have c := b2n_le s.res.closing; have b := b2n_le s.res.bodyOpen
    rcases stack_cases cfg.stack with hs | hs | hs <;>
      simp (config := {decide := true}) [mu, rest, apply, startInflight, hs, h2, h3, h4]
    · omega
    · split <;> omega
    · split <;> rename_i hc <;> simp [hc] <;> omega
  case preConnCancel =>
    obtain ⟨hpre, -⟩ := h
    exact mu_finish_lt _ (by simp [rest]) (by rw [rank_preConn hpre]; omega)
  case h1RtCancel => exact mu_lt_of_rest rfl rfl (by simp [rest, apply, h])
  case h1WriterExit => exact mu_lt_of_rest rfl rfl (by simp [rest, apply, h])
  case h1WriterFail => exact mu_lt_of_rest rfl (by simp [apply]) (by simp [rest, apply, h]; omega)
  case h1ReaderStop => exact mu_lt_of_rest rfl rfl (by simp [rest, apply, h])
  case h1RtReturn =>
    obtain ⟨⟨⟨-, hinf⟩, -⟩, -⟩ := h
    exact mu_finish_lt _ (by simp [rest]) (rank_inflight hinf)
  case h1ReaderCancel => exact mu_lt_of_rest rfl rfl (by simp [rest, apply, h]; omega)
  case h1BodyReadFail =>
    obtain ⟨⟨-, hbody⟩, -⟩ := h
    exact mu_finishBody_lt _ (Nat.le_refl _) (rank_body hbody)
  case h2RtCancel =>
    obtain ⟨⟨⟨h1, h2⟩, h3⟩, h4⟩ := h
    simp [mu, rest, apply, h1, h2, h4]
    have := b2n_le (s.res.closing || s.res.bodyOpen); have := b2n_le s.res.closing
    omega
  case h2Closer => exact mu_lt_of_rest rfl (by simp [apply]) (by simp [rest, apply, h]; omega)
  case h2RtReturn =>
    obtain ⟨⟨⟨-, hinf⟩, -⟩, -⟩ := h
    exact mu_finish_lt _ (Nat.le_refl _) (rank_inflight hinf)
  case h2RtAbortReturn =>
    obtain ⟨⟨⟨⟨-, hinf⟩, -⟩, -⟩, -⟩ := h
    exact mu_finish_lt _ (Nat.le_refl _) (rank_inflight hinf)
  case h2WriterAbort => exact mu_lt_of_rest rfl (by simp [apply]) (by simp [rest, apply, h]; omega)
  case h2BodyReadFail =>
    obtain ⟨⟨-, hbody⟩, -⟩ := h
    exact mu_finishBody_lt _ (Nat.le_refl _) (rank_body hbody)
  case h3WatchFire => exact mu_lt_of_rest rfl rfl (by simp [rest, apply, h])
  case h3WriterStop => exact mu_lt_of_rest rfl (by simp [apply]) (by simp [rest, apply, h]; omega)
  case h3RtReturn =>
    obtain ⟨⟨⟨-, hinf⟩, -⟩, -⟩ := h
    exact mu_finish_lt _ (by simp [rest]) (rank_inflight hinf)
  case h3BodyReadFail =>
    obtain ⟨⟨-, hbody⟩, -⟩ := h
    exact mu_finishBody_lt _ (by simp [rest]) (rank_body hbody)
  case sleepWake =>
    obtain ⟨⟨h1, h2⟩, h3⟩ := h
    simp [mu, apply, h1]

end Req.Cancel
