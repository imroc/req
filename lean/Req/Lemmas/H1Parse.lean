import Req.H1.Origin
import Req.Lemmas.C01BStr
import Req.Lemmas.SplitReads
/-! Lemmas relating the independent origin `Req.H1.Origin` to the writer's output
(helpers for Props/C01 `h1_fidelity`). -/
namespace Req.H1.Origin
open Req.Proto Req.Ascii Req.BStr Req.H1

theorem readLine_append (l rest cur : Bytes) (h : ∀ b ∈ l, b ≠ 13) :
    readLine (l ++ 13 :: 10 :: rest) cur = some (cur.reverse ++ l, rest) := by
  induction l generalizing cur with
  | nil => simp [readLine]
  | cons c l ih =>
    have hc : (c == 13) = false := by simpa using h c (by simp)
    simp only [List.cons_append, readLine, hc, Bool.false_eq_true, if_false]
    rw [ih _ (fun b hb => h b (by simp [hb]))]
    simp

theorem trimOWS_sp (v : Bytes) : trimOWS (32 :: v) = trimOWS v := by
  simp [trimOWS, trimOWSLeft, isOWS]

theorem parseFieldLine_render (k v : Bytes) (hk : k ≠ []) (hc : ∀ b ∈ k, b ≠ 58) :
    parseFieldLine (k ++ [58, 32] ++ v) = some (k, trimOWS v) := by
  unfold parseFieldLine
  have : k ++ [58, 32] ++ v = k ++ 58 :: (32 :: v) := by simp
  rw [this, cut_append 58 k (32 :: v) hc]
  simp only
  have : k.isEmpty = false := by cases k <;> simp_all
  simp [this, trimOWS_sp]

theorem parseHeaders_line (l more cur : Bytes) (acc : List (Bytes × Bytes))
    (h : ∀ b ∈ l, b ≠ 13) :
    parseHeaders (l ++ 13 :: 10 :: more) cur acc =
      if (cur.reverse ++ l).isEmpty then some (acc.reverse, more)
      else
        match parseFieldLine (cur.reverse ++ l) with
        | some f => parseHeaders more [] (f :: acc)
        | none => none := by
  induction l generalizing cur with
  | nil =>
    simp only [List.nil_append, List.append_nil]
    rw [parseHeaders.eq_def]
    simp only [beq_self_eq_true, if_true, List.isEmpty_reverse]
    rfl
  | cons c l ih =>
    have hc : (c == 13) = false := by simpa using h c (by simp)
    simp only [List.cons_append]
    rw [parseHeaders.eq_def]
    simp only [hc, Bool.false_eq_true, if_false]
    rw [ih _ (fun b hb => h b (by simp [hb]))]
    simp

/-- a header line the writer may emit: non-empty name without `:` / CR, value without CR. -/
def LineOK (l : Bytes × Bytes) : Prop :=
  l.1 ≠ [] ∧ (∀ b ∈ l.1, b ≠ 58 ∧ b ≠ 13) ∧ (∀ b ∈ l.2, b ≠ 13)

def trimmed (l : Bytes × Bytes) : Bytes × Bytes := (l.1, trimOWS l.2)

theorem parseHeaders_render (ls : List (Bytes × Bytes)) (rest : Bytes)
    (acc : List (Bytes × Bytes)) (h : ∀ l ∈ ls, LineOK l) :
    parseHeaders (renderLines ls ++ crlf ++ rest) [] acc =
      some (acc.reverse ++ ls.map trimmed, rest) := by
  induction ls generalizing acc with
  | nil =>
    simp only [renderLines, List.flatMap_nil, List.nil_append, crlf, List.cons_append, List.map_nil,
      List.append_nil]
    have := parseHeaders_line [] rest [] acc (by simp)
    simpa using this
  | cons l ls ih =>
    obtain ⟨hk, hkc, hv⟩ := h l (by simp)
    have e : renderLines (l :: ls) ++ crlf ++ rest =
        (l.1 ++ [58, 32] ++ l.2) ++ 13 :: 10 :: (renderLines ls ++ crlf ++ rest) := by
      simp [renderLines, renderLine, crlf, List.append_assoc]
    rw [e, parseHeaders_line _ _ _ _ (by
      intro b hb
      simp only [List.mem_append, List.mem_cons, List.not_mem_nil, or_false] at hb
      rcases hb with (hb | hb | hb) | hb
      · exact (hkc b hb).2
      · rw [hb]; decide
      · rw [hb]; decide
      · exact hv b hb)]
    have hne : ([].reverse ++ (l.1 ++ [58, 32] ++ l.2)).isEmpty = false := by
      cases hl : l.1 with
      | nil => exact absurd hl hk
      | cons a as => simp
    simp only [List.reverse_nil, List.nil_append] at hne ⊢
    simp only [hne, Bool.false_eq_true, if_false]
    rw [parseFieldLine_render l.1 l.2 hk (fun b hb => (hkc b hb).1)]
    simp only
    rw [ih _ (fun l' hl' => h l' (by simp [hl']))]
    simp [trimmed]

theorem parseRequestLine_render (m t : Bytes) (hm : m ≠ []) (ht : t ≠ [])
    (hms : ∀ b ∈ m, b ≠ 32) (hts : ∀ b ∈ t, b ≠ 32) :
    parseRequestLine (m ++ [32] ++ t ++ [32] ++ sHTTP11) = some (m, t) := by
  unfold parseRequestLine
  have e : m ++ [32] ++ t ++ [32] ++ sHTTP11 = m ++ 32 :: (t ++ 32 :: sHTTP11) := by simp
  rw [e, cut_append 32 m _ hms]
  simp only
  rw [cut_append 32 t _ hts]
  have h1 : m.isEmpty = false := by cases m <;> simp_all
  have h2 : t.isEmpty = false := by cases t <;> simp_all
  simp [h1, h2]

/-- value of a digit list, least significant first -/
def valRev (base : Nat) (ds : List Nat) : Nat := ds.foldr (fun d a => a * base + d) 0

theorem digitsRev_spec (base : Nat) (hb : 2 ≤ base) :
    ∀ (fuel n : Nat), n < fuel →
      valRev base (digitsRev base fuel n) = n ∧ (∀ d ∈ digitsRev base fuel n, d < base) ∧
        digitsRev base fuel n ≠ [] := by
  intro fuel
  induction fuel with
  | zero => intro n h; omega
  | succ f ih =>
    intro n hn
    unfold digitsRev
    split
    next hlt => simp [valRev, hlt]
    next hge =>
      have hge' : base ≤ n := Nat.le_of_not_lt hge
      have hdiv : n / base < f := by
        have h1 : n / base < n := Nat.div_lt_self (by omega) (by omega)
        omega
      obtain ⟨hv, hd, _⟩ := ih (n / base) hdiv
      refine ⟨?_, ?_, by simp⟩
      · simp only [valRev, List.foldr_cons] at hv ⊢
        rw [hv]
        exact Nat.div_add_mod' n base
      · intro d hd'
        simp only [List.mem_cons] at hd'
        rcases hd' with rfl | hd'
        · exact Nat.mod_lt _ (by omega)
        · exact hd d hd'

theorem parseBaseAux_digits (val : UInt8 → Option Nat) (base : Nat)
    (hval : ∀ d, d < base → val (digitChar d) = some d) :
    ∀ (ms : List Nat) (acc : Nat), (∀ d ∈ ms, d < base) →
      parseBaseAux val base acc (ms.map digitChar) = some (ms.foldl (fun a d => a * base + d) acc) := by
  intro ms
  induction ms with
  | nil => intro acc _; rfl
  | cons d ms ih =>
    intro acc h
    simp only [List.map_cons, parseBaseAux, hval d (h d (by simp)), List.foldl_cons]
    exact ih _ (fun d' hd' => h d' (by simp [hd']))

/-- a number written in a base up to 16 is read back. Stated about what `natToDec n` / `natToHex n`
and `parseDec` / `parseHex` unfold to, so that both instances hold by unfolding. -/
theorem parseBase_render (val : UInt8 → Option Nat) (base : Nat) (hb : 2 ≤ base)
    (hval : ∀ d, d < base → val (digitChar d) = some d) (n : Nat) :
    (if (((digitsRev base (n + 1) n).map digitChar).reverse).isEmpty then none
      else parseBaseAux val base 0 (((digitsRev base (n + 1) n).map digitChar).reverse)) = some n := by
  obtain ⟨hv, hd, hne⟩ := digitsRev_spec base hb (n + 1) n (by omega)
  rw [if_neg (by simpa using hne), ← List.map_reverse,
    parseBaseAux_digits val base hval _ 0 (fun d hd' => hd d (List.mem_reverse.mp hd')),
    List.foldl_reverse]
  exact congrArg some hv

theorem decVal_digitChar : ∀ d, d < 10 → decVal (digitChar d) = some d := by decide +kernel

theorem hexVal_digitChar : ∀ d, d < 16 → hexVal (digitChar d) = some d := by decide +kernel

theorem parseDec_natToDec (n : Nat) : parseDec (natToDec n) = some n :=
  parseBase_render decVal 10 (by omega) decVal_digitChar n

theorem parseHex_natToHex (n : Nat) : parseHex (natToHex n) = some n :=
  parseBase_render hexVal 16 (by omega) hexVal_digitChar n

/-- what holds of the sixteen digit characters holds of every byte of a written number (`natToDec`,
`natToHex` unfolded, as above). -/
theorem digits_all {P : UInt8 → Prop} (hP : ∀ d, d < 16 → P (digitChar d)) (base : Nat)
    (hb : 2 ≤ base) (hb16 : base ≤ 16) (n : Nat) :
    ∀ b ∈ ((digitsRev base (n + 1) n).map digitChar).reverse, P b := by
  intro b hb'
  simp only [List.mem_reverse, List.mem_map] at hb'
  obtain ⟨d, hd, rfl⟩ := hb'
  exact hP d (Nat.lt_of_lt_of_le ((digitsRev_spec base hb (n + 1) n (by omega)).2.1 d hd) hb16)

theorem digitChar_ne_cr : ∀ d, d < 16 → digitChar d ≠ 13 := by decide +kernel

theorem natToHex_no_cr (n : Nat) : ∀ b ∈ natToHex n, b ≠ 13 :=
  digits_all digitChar_ne_cr 16 (by omega) (by omega) n

theorem natToDec_no_cr (n : Nat) : ∀ b ∈ natToDec n, b ≠ 13 :=
  digits_all digitChar_ne_cr 10 (by omega) (by omega) n

theorem chunk_length_pos (p : Bytes) : 1 ≤ (chunk p).length := by
  simp [chunk, crlf]; omega

theorem flatMap_chunk_length (ps : List Bytes) : ps.length ≤ (ps.flatMap chunk).length := by
  induction ps with
  | nil => simp
  | cons p ps ih =>
    simp only [List.flatMap_cons, List.length_append, List.length_cons]
    have := chunk_length_pos p
    omega

theorem readChunks_chunk (p tail : Bytes) (hp : p ≠ []) (fuel : Nat) :
    readChunks (fuel + 1) (chunk p ++ tail) =
      match readChunks fuel tail with
      | some (body, r) => some (p ++ body, r)
      | none => none := by
  have e : chunk p ++ tail = natToHex p.length ++ 13 :: 10 :: (p ++ 13 :: 10 :: tail) := by
    simp [chunk, crlf, List.append_assoc]
  rw [e, readChunks, readLine_append _ _ [] (natToHex_no_cr _)]
  simp only [List.reverse_nil, List.nil_append, parseHex_natToHex]
  have hlen : (p.length == 0) = false := by simpa using hp
  have hlt : ¬ (p ++ 13 :: 10 :: tail).length < p.length := by
    simp only [List.length_append]; omega
  simp only [hlen, Bool.false_eq_true, if_false, hlt, List.drop_left, List.take_left,
    beq_self_eq_true, Bool.and_self, if_true]
  cases readChunks fuel tail <;> rfl

theorem readChunks_render (ps : List Bytes) (rest : Bytes) (hne : ∀ p ∈ ps, p ≠ []) :
    ∀ fuel, ps.length + 1 ≤ fuel →
      readChunks fuel (ps.flatMap chunk ++ [48, 13, 10] ++ crlf ++ rest) = some (ps.flatten, rest) := by
  induction ps with
  | nil =>
    intro fuel hf
    obtain ⟨f, rfl⟩ : ∃ f, fuel = f + 1 := ⟨fuel - 1, by omega⟩
    have e : ([] : List Bytes).flatMap chunk ++ [48, 13, 10] ++ crlf ++ rest =
        [48] ++ 13 :: 10 :: (13 :: 10 :: rest) := by simp [crlf]
    rw [e, readChunks, readLine_append [48] _ [] (by decide)]
    simp [show parseHex [48] = some 0 by decide]
  | cons p ps ih =>
    intro fuel hf
    obtain ⟨f, rfl⟩ : ∃ f, fuel = f + 1 := ⟨fuel - 1, by omega⟩
    rw [List.flatMap_cons, List.append_assoc, List.append_assoc, List.append_assoc, readChunks_chunk _ _ (hne p (by simp)),
      ← List.append_assoc, ← List.append_assoc, ih (fun q hq => hne q (by simp [hq])) f (by simp at hf ⊢; omega)]
    simp

theorem decodeBody_chunked (body : Bytes) (reads : List Nat) (rest : Bytes) :
    decodeBody .chunked (chunkedBody body reads ++ rest) = some (body, rest) := by
  unfold decodeBody chunkedBody
  obtain ⟨h1, h2⟩ := splitReads_spec reads body
  rw [List.append_assoc ((splitReads body reads).flatMap chunk ++ [48, 13, 10]) crlf rest]
  rw [← List.append_assoc, readChunks_render _ rest h2, h1]
  have := flatMap_chunk_length (splitReads body reads)
  simp only [List.length_append]
  omega

theorem decodeBody_length (body rest : Bytes) :
    decodeBody (.length body.length) (body ++ rest) = some (body, rest) := by
  simp [decodeBody]

end Req.H1.Origin
