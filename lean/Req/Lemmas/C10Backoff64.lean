import Req.Client.Backoff64
import Req.Lemmas.C10Backoff
/-! `float64(int64)` rounding (`roundF`, `toF`): within half an ulp, never past 2^63, even from 2^53 on;
and `Req.Backoff64.half` in terms of the integer model's `Req.Backoff.temp`.
The literals: `9007199254740992 = 2^53`, `18014398509481984 = 2^54`, `9223372036854775808 = 2^63`. -/
namespace Req.Lemmas.C10Backoff64
open Req.Backoff64 Req.Lemmas.C10Backoff

/-- One test per binade from 2^53 to 2^63 (an `int64` magnitude is at most 2^63): shifts `0 … 11 = 63 − 52`.
Only the lower end of the binade is stated — the rounding lemmas below use no more — and it holds for every `n`,
also beyond 2^63, because the last branch of `shiftOf` has no upper test. -/
theorem shiftOf_spec (n : Nat) :
    shiftOf n ≤ 11 ∧ (shiftOf n = 0 ↔ n < 9007199254740992) ∧
      (shiftOf n ≠ 0 → 2 ^ (52 + shiftOf n) ≤ n) := by
  unfold shiftOf
  by_cases h0 : n < 9007199254740992; · rw [if_pos h0]; omega
  rw [if_neg h0]
  by_cases h1 : n < 18014398509481984; · rw [if_pos h1]; omega
  rw [if_neg h1]
  by_cases h2 : n < 36028797018963968; · rw [if_pos h2]; omega
  rw [if_neg h2]
  by_cases h3 : n < 72057594037927936; · rw [if_pos h3]; omega
  rw [if_neg h3]
  by_cases h4 : n < 144115188075855872; · rw [if_pos h4]; omega
  rw [if_neg h4]
  by_cases h5 : n < 288230376151711744; · rw [if_pos h5]; omega
  rw [if_neg h5]
  by_cases h6 : n < 576460752303423488; · rw [if_pos h6]; omega
  rw [if_neg h6]
  by_cases h7 : n < 1152921504606846976; · rw [if_pos h7]; omega
  rw [if_neg h7]
  by_cases h8 : n < 2305843009213693952; · rw [if_pos h8]; omega
  rw [if_neg h8]
  by_cases h9 : n < 4611686018427387904; · rw [if_pos h9]; omega
  rw [if_neg h9]
  by_cases h10 : n < 9223372036854775808; · rw [if_pos h10]; omega
  rw [if_neg h10]; omega

theorem roundAt_close (n s : Nat) (hs : 0 < s) :
    roundAt n s ≤ n + 2 ^ s / 2 ∧ n ≤ roundAt n s + 2 ^ s / 2 := by
  obtain ⟨t, rfl⟩ : ∃ t, s = t + 1 := ⟨s - 1, by omega⟩
  have hp : 2 ^ (t + 1) = 2 * 2 ^ t := by rw [Nat.pow_succ, Nat.mul_comm]
  have hdm := Nat.div_add_mod n (2 ^ (t + 1))
  have hr := Nat.mod_lt n (Nat.two_pow_pos (t + 1))
  rw [Nat.mul_comm] at hdm
  simp only [roundAt]
  split
  · rw [Nat.add_mul]; omega
  · omega

theorem roundAt_le_mul (n s k : Nat) (hs : 0 < s) (h : n ≤ k * 2 ^ s) : roundAt n s ≤ k * 2 ^ s := by
  have hp : 1 < 2 ^ s := Nat.one_lt_two_pow (by omega)
  have hdm := Nat.div_add_mod n (2 ^ s)
  simp only [roundAt]
  split
  next hup =>
    refine Nat.mul_le_mul_right _ (Nat.succ_le_of_lt ?_)
    refine Nat.lt_of_mul_lt_mul_left (a := 2 ^ s) ?_
    rw [Nat.mul_comm _ k]; omega
  next => exact Nat.le_trans (Nat.div_mul_le_self _ _) h

theorem roundAt_even (n s : Nat) (hs : 0 < s) : roundAt n s % 2 = 0 := by
  obtain ⟨t, rfl⟩ : ∃ t, s = t + 1 := ⟨s - 1, by omega⟩
  rw [roundAt, Nat.pow_succ, ← Nat.mul_assoc]; exact Nat.mul_mod_left _ _

theorem roundF_small (n : Nat) (h : n ≤ 9007199254740992) : roundF n = n := by
  by_cases h' : n = 9007199254740992
  · subst h'; decide
  · rw [roundF, if_pos ((shiftOf_spec n).2.1.mpr (by omega))]

theorem roundF_large (n : Nat) (h : 9007199254740992 ≤ n) :
    roundF n = roundAt n (shiftOf n) ∧ 0 < shiftOf n := by
  have := (shiftOf_spec n).2.1
  have hs : shiftOf n ≠ 0 := by omega
  exact ⟨by rw [roundF, if_neg hs], by omega⟩

/-- `float64(n)` is within half an ulp of `n`: the error is at most `n / 2^53`. -/
theorem roundF_close (n : Nat) :
    roundF n ≤ n + n / 9007199254740992 ∧ n ≤ roundF n + n / 9007199254740992 := by
  by_cases h : n < 9007199254740992
  · rw [roundF_small n (by omega)]; omega
  · obtain ⟨hr, hs⟩ := roundF_large n (by omega)
    have hc := roundAt_close n _ hs
    -- half an ulp, 2^(s-1), times 2^53 is the lower end of the binade
    have hb := (shiftOf_spec n).2.2 (by omega)
    obtain ⟨t, ht⟩ : ∃ t, shiftOf n = t + 1 := ⟨shiftOf n - 1, by omega⟩
    rw [ht] at hb hc
    have : 2 ^ (t + 1) / 2 ≤ n / 9007199254740992 := by
      rw [Nat.le_div_iff_mul_le (by decide), Nat.pow_succ, Nat.mul_div_cancel _ (by decide)]
      rwa [show 52 + (t + 1) = t + 53 by omega, Nat.pow_add] at hb
    rw [hr, ht]; omega

/-- `float64(MaxInt64) = 2^63`: the conversion never leaves `[0, 2^63]`. -/
theorem roundF_le_pow63 (n : Nat) (hn : n ≤ 9223372036854775808) : roundF n ≤ 9223372036854775808 := by
  by_cases h : n < 9007199254740992
  · rw [roundF_small n (by omega)]; exact hn
  · obtain ⟨hr, hs⟩ := roundF_large n (by omega)
    have h11 := (shiftOf_spec n).1
    have : 9223372036854775808 = 2 ^ (63 - shiftOf n) * 2 ^ shiftOf n := by
      rw [← Nat.pow_add, Nat.sub_add_cancel (by omega)]
    rw [hr, this]; exact roundAt_le_mul _ _ _ hs (this ▸ hn)

theorem toF_of_nonneg (x : Int) (h : 0 ≤ x) : toF x = (roundF x.toNat : Int) := by
  rw [toF, if_neg (Int.not_lt.mpr h)]

theorem toF_of_neg (x : Int) (h : x < 0) : toF x = -(roundF x.natAbs : Int) := by
  rw [toF, if_pos h]

theorem toF_exact (x : Int) (h1 : -9007199254740992 ≤ x) (h2 : x ≤ 9007199254740992) : toF x = x := by
  by_cases hx : x < 0
  · rw [toF_of_neg x hx, roundF_small _ (by omega)]; omega
  · rw [toF_of_nonneg x (by omega), roundF_small _ (by omega)]; omega

theorem toF_close (x : Int) (h : 0 ≤ x) :
    toF x ≤ x + x / 9007199254740992 ∧ x ≤ toF x + x / 9007199254740992 := by
  rw [toF_of_nonneg x h]
  have := roundF_close x.toNat
  omega

/-- `float64` does not round a value down past a smaller one that it represents exactly. -/
theorem toF_ge (x k : Int) (hk : k < 9007199254740992) (h0 : 0 ≤ x) (h : k ≤ x) : k ≤ toF x := by
  have := toF_close x h0
  omega

theorem toF_nonpos (x : Int) (h : x ≤ 0) : toF x ≤ 0 := by
  by_cases hx : x < 0
  · rw [toF_of_neg x hx]; omega
  · rw [toF_exact x (by omega) (by omega)]; exact h

theorem toF_le_pow63 (x : Int) (hx : x ≤ 9223372036854775808) : toF x ≤ 9223372036854775808 := by
  by_cases h : x ≤ 0
  · have := toF_nonpos x h; omega
  · rw [toF_of_nonneg x (by omega)]
    have := roundF_le_pow63 x.toNat (by omega)
    omega

theorem toF_even (x : Int) (h : 9007199254740992 ≤ x) : toF x % 2 = 0 := by
  obtain ⟨hr, hs⟩ := roundF_large x.toNat (by omega)
  have := roundAt_even x.toNat _ hs
  rw [toF_of_nonneg x (by omega), hr]
  omega

theorem twoP1024_gt : 9223372036854775808 < twoP1024 :=
  Int.pow_lt_pow_of_lt (a := 2) (b := 63) (c := 1024) (by decide) (by decide)

theorem indefinite_nonpos : indefinite ≤ 0 := by decide

theorem halfTemp_of_le_one (v : Int) (h : v ≤ 1) : halfTemp (.fin v) ≤ 0 := by
  simp only [halfTemp]
  split
  · exact tdiv_two_nonpos v h
  · exact indefinite_nonpos

theorem halfTemp_of_two_le (v : Int) (h2 : 2 ≤ v) (h : v ≤ 9223372036854775808) :
    halfTemp (.fin v) = v / 2 := by
  simp only [halfTemp, Int.tdiv_eq_ediv_of_nonneg (show 0 ≤ v by omega)]
  rw [if_pos (by omega)]

/-- A positive base keeps the computation finite: `+Inf` is absorbed by `math.Min`, and what is
left is the integer model's `temp`. -/
theorem fmin_mulExp2_of_pos (b cap : Int) (a : Nat) (hb : 0 < b) (hc : cap < twoP1024) :
    fmin cap (mulExp2 b a) = .fin (Req.Backoff.temp b cap a) := by
  have h2 := Int.pow_pos (n := 2) (m := a) (by decide)
  have hp : 1 * (2 : Int) ^ a ≤ b * 2 ^ a := Int.mul_le_mul_of_nonneg_right hb (Int.le_of_lt h2)
  unfold mulExp2 Req.Backoff.temp
  by_cases h : 1024 ≤ a
  · have : twoP1024 ≤ (2 : Int) ^ a := two_pow_mono h
    rw [if_pos h, if_pos hb, fmin, if_pos (by omega)]
  · simp only [if_neg h]
    by_cases hbig : twoP1024 ≤ b * (2 : Int) ^ a
    · rw [if_pos hbig, fmin, if_pos (by omega)]
    · have := Int.pow_pos (n := 2) (m := 1024) (by decide)
      rw [if_neg hbig, if_neg (by unfold twoP1024 at *; omega), fmin]
      congr 1
      split <;> split <;> omega

theorem half_of_pos (mn mx : Int) (a : Nat) (hb : 0 < toF mn) (hc : toF mx ≤ 9223372036854775808) :
    half mn mx a = halfTemp (.fin (Req.Backoff.temp (toF mn) (toF mx) a)) := by
  rw [half, fmin_mulExp2_of_pos _ _ _ hb (Int.lt_of_le_of_lt hc twoP1024_gt)]

/-- Otherwise the result is `−Inf`, `NaN` or a finite value `≤ 0`; `int64(·)` of each is `≤ 0`. -/
theorem half_of_nonpos (mn mx : Int) (a : Nat) (hb : toF mn ≤ 0) : half mn mx a ≤ 0 := by
  unfold half
  generalize toF mn = b at hb
  generalize toF mx = cap
  have hx : b * (2 : Int) ^ a ≤ 0 :=
    Int.mul_nonpos_of_nonpos_of_nonneg hb (Int.le_of_lt (Int.pow_pos (by decide)))
  have := Int.pow_pos (n := 2) (m := 1024) (by decide)
  unfold mulExp2
  by_cases h : 1024 ≤ a
  · rw [if_pos h, if_neg (by omega)]
    split <;> exact indefinite_nonpos
  · simp only [if_neg h]
    rw [if_neg (by unfold twoP1024; omega)]
    split
    · exact indefinite_nonpos
    · exact halfTemp_of_le_one _ (by split <;> omega)

/-- `int64(temp / 2)`: with a positive base and at least 2ns left after the cap it is half the integer
model's `temp` on the rounded arguments; in every other case (`−Inf`, `NaN`, a finite value below 2) it is `≤ 0`. -/
theorem half_spec (mn mx : Int) (a : Nat) (hc : toF mx ≤ 9223372036854775808) :
    (0 < toF mn ∧ 2 ≤ Req.Backoff.temp (toF mn) (toF mx) a ∧
      half mn mx a = Req.Backoff.temp (toF mn) (toF mx) a / 2) ∨
    ((toF mn ≤ 0 ∨ Req.Backoff.temp (toF mn) (toF mx) a ≤ 1) ∧ half mn mx a ≤ 0) := by
  by_cases hb : 0 < toF mn
  · have ht := temp_le (toF mn) (toF mx) a
    rw [half_of_pos mn mx a hb hc]
    by_cases h : Req.Backoff.temp (toF mn) (toF mx) a ≤ 1
    · exact .inr ⟨.inr h, halfTemp_of_le_one _ h⟩
    · exact .inl ⟨hb, by omega, halfTemp_of_two_le _ (by omega) (by omega)⟩
  · exact .inr ⟨.inl (by omega), half_of_nonpos mn mx a (by omega)⟩

theorem interval_of_nonpos (mn mx : Int) (a j : Nat) (h : half mn mx a ≤ 0) : interval mn mx a j = 0 := by
  simp only [interval, if_pos h]

theorem interval_of_pos (mn mx : Int) (a j : Nat) (h : 0 < half mn mx a) :
    half mn mx a ≤ interval mn mx a j ∧ interval mn mx a j < 2 * half mn mx a := by
  have := jitter_lt _ j h
  simp only [interval]
  rw [if_neg (by omega)]
  omega

end Req.Lemmas.C10Backoff64
