import Req.Lemmas.C02H3
/-!
C02 — HTTP/3: reading the response head(s) off the QUIC stream in any segmentation:
`requestStream.ReadResponse` (frame header through `ParseNext`, skipping unknown / GREASE
frames, `io.ReadFull` of the encoded field block, the QPACK-decoded field list as side input,
`parseHeaders` + `updateResponseFromHeaders`) and `doRequest`'s 1xx loop.
-/
namespace Req.C02
open Req.Proto

/-- A response head as it travels on the stream: skippable frames the origin may interleave,
the HEADERS frame, and what the QPACK decoder makes of its payload. -/
structure WHead where
  skips : List WFrame
  frame : WFrame
  fields : Fields             -- decoded field list (side input)
  parsed : H3Head             -- what `parseHeaders` + `updateResponseFromHeaders` make of it
deriving Repr

def WHead.OK (maxH : Nat) (w : WHead) : Prop :=
  (∀ g ∈ w.skips, g.OK ∧ skippable g.typ) ∧ w.frame.OK ∧ w.frame.typ = 1 ∧
  w.frame.payload.length ≤ maxH ∧ h3ParseHead w.fields = some w.parsed

def WHead.wire (w : WHead) : Bytes := framesWire w.skips ++ w.frame.wire

/-- **`ReadResponse`** on a stream that starts with a head, for every segmentation: the head
is returned, the stream stands right behind it, one field list is consumed. -/
theorem readResponse_spec (s : H3Stream) (w : WHead) (maxH : Nat) (hw : w.OK maxH) (R : Bytes)
    (rest : List Fields) (hfl : s.net.segs.flatten = w.wire ++ R) (hlists : s.fieldLists = w.fields :: rest)
    (hmax : s.maxHeaderBytes = maxH) :
    ∃ n', s.readResponse = (.ok w.parsed, { s with net := n', fieldLists := rest }) ∧
      n'.segs.flatten = R ∧ n'.fin = s.net.fin := by
  obtain ⟨hsk, hf, hft, hlen, hparse⟩ := hw
  rw [WHead.wire, WFrame.wire, List.append_assoc, List.append_assoc] at hfl
  obtain ⟨n1, hp, hfl1, hfin1⟩ := parseNext_frame hsk w.frame _ hf (.inr hft) hfl
  rw [if_neg (by rw [hft]; exact Nat.one_ne_zero)] at hp
  obtain ⟨n2, hr, hfl2, hfin2⟩ := Net.readN_spec (w.frame.payload.length + 1) w.frame.payload.length [] n1
    w.frame.payload R hfl1 rfl (Nat.lt_succ_self _)
  refine ⟨n2, ?_, hfl2, hfin2.trans hfin1⟩
  simp only [H3Stream.readResponse, hp, gt_iff_lt, Nat.not_lt.mpr (hmax ▸ hlen), if_false, hr, hlists, hparse]

/-- An interim head: 1xx other than 101. -/
def WHead.Interim (w : WHead) : Prop := 100 ≤ w.parsed.status ∧ w.parsed.status ≤ 199 ∧ w.parsed.status ≠ 101

def headsWire (ws : List WHead) : Bytes := (ws.map WHead.wire).flatten

/-- **The 1xx loop of `doRequest`** on a stream on which no frame is open and no trailer was
parsed, with the body frames `frs` and the trailer behind the heads: up to five interim responses
are skipped, the final head is returned, and the body reader finds the stream in front of `frs`. -/
theorem readFinalResponse_spec (is : List WHead) (maxH : Nat) (his : ∀ i ∈ is, i.OK maxH ∧ i.Interim)
    (w : WHead) (hw : w.OK maxH) (hfinal : ¬ w.Interim)
    (fuel n1xx : Nat) (hfuel : is.length < fuel) (hn : n1xx + is.length ≤ 5)
    (s : H3Stream) (frs : List WFrame) (hfrs : ∀ f ∈ frs, BodyFrameOK f) (tr : Option WTrailer)
    (hfl : s.net.segs.flatten = headsWire is ++ (w.wire ++ (framesWire frs ++ trailerWire tr)))
    (hlists : s.fieldLists = is.map (·.fields) ++ (w.fields :: trailerLists tr))
    (hmax : s.maxHeaderBytes = maxH) (hrem : s.remInFrame = 0) (hpt : s.parsedTrailer = false)
    (hfin : s.net.fin = .eof) :
    ∃ s', H3Stream.readFinalResponse fuel n1xx s = (.ok w.parsed, s') ∧ H3StreamAt tr maxH s' [] frs := by
  induction is generalizing fuel n1xx s with
  | nil =>
    cases fuel with
    | zero => exact absurd hfuel (Nat.not_lt_zero _)
    | succ fuel =>
      obtain ⟨n', h1, h2, h3⟩ := readResponse_spec s w maxH hw _ _ hfl hlists hmax
      exact ⟨{ s with net := n', fieldLists := trailerLists tr },
        by rw [H3Stream.readFinalResponse, h1]; exact if_neg hfinal,
        hrem, h2, hfrs, hpt, rfl, h3.trans hfin, hmax⟩
  | cons i is ih =>
    cases fuel with
    | zero => exact absurd hfuel (Nat.not_lt_zero _)
    | succ fuel =>
      obtain ⟨hi, hint⟩ := his i List.mem_cons_self
      rw [List.length_cons] at hfuel hn
      obtain ⟨n1, h1, h2, h3⟩ := readResponse_spec s i maxH hi _ _
        (hfl.trans (List.append_assoc _ _ _)) hlists hmax
      obtain ⟨s', g1, g2⟩ := ih (fun j hj => his j (List.mem_cons_of_mem _ hj)) fuel (n1xx + 1)
        (Nat.lt_of_succ_lt_succ hfuel) (by rw [Nat.add_right_comm]; exact hn)
        { s with net := n1, fieldLists := _ } h2 rfl hmax hrem hpt (h3.trans hfin)
      have hle : ¬ n1xx + 1 > 5 :=
        Nat.not_lt.mpr (Nat.le_trans (Nat.add_le_add_left (Nat.le_add_left 1 _) n1xx) hn)
      refine ⟨s', ?_, g2⟩
      rw [H3Stream.readFinalResponse, h1]
      exact (if_pos hint).trans ((if_neg hle).trans g1)

end Req.C02
