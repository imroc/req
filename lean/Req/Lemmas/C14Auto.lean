import Req.Client.CompressAuto
/-!
Generic facts about byte automata (`Req.Client.CompressAuto`): cutting the input, strict
prefixes of a complete unit, repetition, and the incremental reader's streaming law. The file
also defines what the format theorems are stated with: `IsUnit`, `Boundary`, and the `Reader` /
`Codec` over an automaton (`reader`, `codec`: the proofs of the law are their fields).
-/
namespace Req.Compress.Auto
open Req.Proto Req.Compress
variable (A : Auto)

theorem run_nil (s : A.σ) : A.run [] s = (s, [], []) := rfl

theorem run_cons_working (b : UInt8) (inp : Bytes) (s : A.σ) (h : A.phase s = .working) :
    A.run (b :: inp) s =
      ((A.run inp (A.step s b).1).1,
       optList (A.step s b).2 ++ (A.run inp (A.step s b).1).2.1,
       (A.run inp (A.step s b).1).2.2) := by
  simp [run, h]

theorem run_stopped (inp : Bytes) (s : A.σ) (h : A.phase s ≠ .working) :
    A.run inp s = (s, [], inp) := by
  cases inp with
  | nil => rfl
  | cons b inp =>
    unfold run
    split
    · contradiction
    · rfl

theorem run_append (p q : Bytes) (s : A.σ) :
    A.run (p ++ q) s =
      ((A.run ((A.run p s).2.2 ++ q) (A.run p s).1).1,
       (A.run p s).2.1 ++ (A.run ((A.run p s).2.2 ++ q) (A.run p s).1).2.1,
       (A.run ((A.run p s).2.2 ++ q) (A.run p s).1).2.2) := by
  induction p generalizing s with
  | nil => simp [run_nil]
  | cons b p ih =>
    by_cases h : A.phase s = .working
    · rw [List.cons_append, run_cons_working A b (p ++ q) s h, run_cons_working A b p s h, ih]
      simp [List.append_assoc]
    · rw [run_stopped A (b :: p ++ q) s h, run_stopped A (b :: p) s h]
      simp [run_stopped A _ s h]

variable {A} in
/-- sequencing: once `p` is consumed entirely, what follows is run from the state reached. The
formats' lemmas about a piece that releases output or ends a unit say
`A.run piece s = (s', o, [])` and are composed by this; those about a silent piece (header
fields, lengths, check sums) are rewriting rules `A.run (piece ++ r) s = A.run r s'`, composed
by `rw`. -/
theorem run_seq {p q o o' r : Bytes} {s s' s'' : A.σ} (h : A.run p s = (s', o, []))
    (h' : A.run q s' = (s'', o', r)) : A.run (p ++ q) s = (s'', o ++ o', r) := by
  rw [run_append, h]; simp [h']

variable {A} in
theorem run_cons {b : UInt8} {inp o' r : Bytes} {s s' s'' : A.σ} {o : Option UInt8}
    (hp : A.phase s = .working) (hs : A.step s b = (s', o)) (h' : A.run inp s' = (s'', o', r)) :
    A.run (b :: inp) s = (s'', optList o ++ o', r) := by
  rw [run_cons_working A b inp s hp, hs]; simp [h']

variable {A} in
theorem run_silent {b : UInt8} {inp : Bytes} {s s' : A.σ} (hp : A.phase s = .working)
    (hs : A.step s b = (s', none)) : A.run (b :: inp) s = A.run inp s' := by
  rw [run_cons_working A b inp s hp, hs]; rfl

theorem stopped_of_rest (inp : Bytes) (s : A.σ) (h : (A.run inp s).2.2 ≠ []) :
    A.phase (A.run inp s).1 ≠ .working := by
  induction inp generalizing s with
  | nil => simp [run_nil] at h
  | cons b inp ih =>
    by_cases hp : A.phase s = .working
    · rw [run_cons_working A b inp s hp] at h ⊢
      exact ih _ h
    · rw [run_stopped A _ s hp]; exact hp

theorem out_prefix (p q : Bytes) (s : A.σ) :
    ∃ y, (A.run (p ++ q) s).2.1 = (A.run p s).2.1 ++ y := by
  rw [run_append]; exact ⟨_, rfl⟩

/-- an automaton that consumes ALL of `w` cannot have delivered a verdict (`done` or `failed`)
on a strict prefix of `w`: a stream cut inside a unit can only end in an error. -/
theorem working_on_strict_prefix (w : Bytes) (s : A.σ) (hall : (A.run w s).2.2 = [])
    (p q : Bytes) (hw : w = p ++ q) (hq : q ≠ []) :
    A.phase (A.run p s).1 = .working ∧ (A.run p s).2.2 = [] := by
  subst hw
  have hwork : A.phase (A.run p s).1 = .working := by
    by_cases h : A.phase (A.run p s).1 = .working
    · exact h
    · exfalso
      rw [run_append, run_stopped A _ _ h] at hall
      simp at hall
      exact hq hall.2
  refine ⟨hwork, ?_⟩
  by_cases h : (A.run p s).2.2 = []
  · exact h
  · exact absurd hwork (stopped_of_rest A p s h)

theorem run_not_fresh (hl : A.Lawful) (b : UInt8) (inp : Bytes) (s : A.σ)
    (hs : A.phase s = .working) (hall : (A.run (b :: inp) s).2.2 = []) :
    A.fresh (A.run (b :: inp) s).1 = false := by
  induction inp generalizing s b with
  | nil =>
    rw [run_cons_working A b [] s hs]; simp [run_nil, hl.step_not_fresh]
  | cons c inp ih =>
    rw [run_cons_working A b (c :: inp) s hs] at hall ⊢
    by_cases h1 : A.phase (A.step s b).1 = .working
    · exact ih c _ h1 hall
    · rw [run_stopped A _ _ h1] at hall; simp at hall

variable {A} in
theorem mean_of_run {inp o rest : Bytes} {s0 s : A.σ} (h : A.run inp s0 = (s, o, rest)) (fin : Term) :
    A.mean fin inp s0 = (o, A.verdict fin s) := by
  simp only [mean, h]

theorem verdict_working (s : A.σ) (hw : A.phase s = .working) (hf : A.fresh s = false) (fin : Term) :
    A.verdict fin s = noEOF fin := by
  simp [verdict, hw, hf]

/-- `w` is a complete unit with output `x`: from the initial state the automaton consumes all
of `w`, releases `x` and is done. -/
def IsUnit (w x : Bytes) : Prop :=
  ∃ sd, A.run w A.init = (sd, x, []) ∧ A.phase sd = .done

theorem IsUnit.ne_nil {A : Auto} {w x : Bytes} (h : A.IsUnit w x) (hinit : A.phase A.init = .working) :
    w ≠ [] := by
  obtain ⟨sd, hr, hd⟩ := h
  intro hw; subst hw
  simp [run_nil] at hr
  rw [← hr.1, hinit] at hd
  exact absurd hd (by decide)

/-- stated for any input that is consumed entirely, not only for a complete unit: the proof
never needs the `done` of `IsUnit` -/
theorem strict_prefix_of_consumed {A : Auto} {w x : Bytes} {sd : A.σ}
    (hr : A.run w A.init = (sd, x, [])) (hl : A.Lawful) (hinit : A.phase A.init = .working)
    (p q : Bytes) (hw : w = p ++ q) (hp : p ≠ []) (hq : q ≠ []) :
    ∃ s y z, x = y ++ z ∧ A.run p A.init = (s, y, []) ∧ A.phase s = .working ∧ A.fresh s = false := by
  obtain ⟨hwk, hrest⟩ := working_on_strict_prefix A w A.init (by rw [hr]) p q hw hq
  obtain ⟨z, hz⟩ := out_prefix A p q A.init
  rw [← hw, hr] at hz
  obtain ⟨b, p', rfl⟩ := List.exists_cons_of_ne_nil hp
  exact ⟨_, _, z, hz, by rw [← hrest], hwk, run_not_fresh A hl b p' A.init hinit hrest⟩

theorem many_phase_working (s : A.σ) (h : A.phase s = .working) : A.many.phase s = .working := by
  simp [many, h]

theorem many_step_working (s : A.σ) (b : UInt8) (h : A.phase s = .working) :
    A.many.step s b = A.step s b := by
  simp [many, h, isDone]

/-- as long as no unit completes before the last byte read, the repetition is the unit
automaton. `hs` admits a `done` state when no input is left: that is where the induction
arrives when the unit completes on the last byte. -/
theorem many_run_eq (inp : Bytes) (s : A.σ) (hs : A.phase s ≠ .done ∨ inp = [])
    (hend : A.phase (A.run inp s).1 = .done → (A.run inp s).2.2 = []) :
    A.many.run inp s = A.run inp s := by
  induction inp generalizing s with
  | nil => rfl
  | cons b inp ih =>
    cases hp : A.phase s with
    | done => exact absurd hp (hs.resolve_right (by simp))
    | failed e =>
      rw [run_stopped A _ s (by simp [hp]), run_stopped A.many _ s (by simp [many, hp])]
      rfl
    | working =>
      rw [run_cons_working A b inp s hp] at hend ⊢
      have hs1 : A.phase (A.step s b).1 ≠ .done ∨ inp = [] := by
        by_cases hd : A.phase (A.step s b).1 = .done
        · rw [run_stopped A inp _ (by simp [hd])] at hend
          exact Or.inr (hend hd)
        · exact Or.inl hd
      rw [run_cons_working A.many b inp s (many_phase_working A s hp), many_step_working A s b hp,
        ih _ hs1 hend]
      rfl

/-- a boundary state: nothing consumed yet, or a unit just completed -/
def Boundary (s : A.σ) : Prop := s = A.init ∨ A.phase s = .done

theorem many_run_from_boundary (inp : Bytes) (s : A.σ) (hb : A.Boundary s)
    (hinit : A.phase A.init = .working) (hne : inp ≠ []) :
    A.many.run inp s = A.many.run inp A.init := by
  rcases hb with h | h
  · rw [h]
  · obtain ⟨c, p, rfl⟩ := List.exists_cons_of_ne_nil hne
    rw [run_cons_working A.many c p s (by simp [many, h]),
      run_cons_working A.many c p A.init (many_phase_working A _ hinit)]
    simp [many, h, hinit, isDone]

/-- `w u` the bytes of unit `u`, `x u` its output -/
theorem many_units {ι : Type} (w x : ι → Bytes) (hinit : A.phase A.init = .working) (us : List ι)
    (hus : ∀ u ∈ us, A.IsUnit (w u) (x u)) (s0 : A.σ) (hs0 : A.Boundary s0) :
    ∃ s1, A.Boundary s1 ∧ A.many.run (us.map w).flatten s0 = (s1, (us.map x).flatten, []) := by
  induction us generalizing s0 with
  | nil => exact ⟨s0, hs0, rfl⟩
  | cons u us ih =>
    obtain ⟨sd, hr, hd⟩ := hus u (by simp)
    obtain ⟨s1, hb1, h1⟩ := ih (fun v hv => hus v (by simp [hv])) sd (Or.inr hd)
    refine ⟨s1, hb1, ?_⟩
    have hne : w u ++ (us.map w).flatten ≠ [] := by simp [IsUnit.ne_nil ⟨sd, hr, hd⟩ hinit]
    have hu : A.many.run (w u) A.init = (sd, x u, []) := by
      rw [many_run_eq A (w u) A.init (Or.inl (by simp [hinit])) (by simp [hr]), hr]
    simp only [List.map_cons, List.flatten_cons]
    rw [many_run_from_boundary A _ s0 hs0 hinit hne]
    exact run_seq hu h1

theorem many_verdict_boundary (hinit : A.phase A.init = .working) (hfi : A.fresh A.init = true)
    (s : A.σ) (hb : A.Boundary s) (fin : Term) : A.many.verdict fin s = fin := by
  rcases hb with h | h
  · simp [verdict, many, h, hinit, hfi]
  · simp [verdict, many, h, isDone]

/-- a body of complete units (none, one, several: a multi-member gzip stream) ends the way the
underlying body ends, cleanly on `io.EOF`, with the framing layer's error otherwise: at a unit
boundary the decoder alone cannot tell a complete message from one that was cut there. -/
theorem mean_many_units {ι : Type} (w x : ι → Bytes) (hl : A.Lawful) (hfi : A.fresh A.init = true)
    (us : List ι) (hus : ∀ u ∈ us, A.IsUnit (w u) (x u)) (fin : Term) :
    A.many.mean fin (us.map w).flatten A.init = ((us.map x).flatten, fin) := by
  have hinit := hl.fresh_working _ hfi
  obtain ⟨s1, hb1, h1⟩ := many_units A w x hinit us hus A.init (Or.inl rfl)
  rw [mean_of_run h1, many_verdict_boundary A hinit hfi s1 hb1]

theorem many_verdict_eq (s : A.σ) (h : A.phase s ≠ .done) (fin : Term) :
    A.many.verdict fin s = A.verdict fin s := by
  cases hp : A.phase s with
  | done => exact absurd hp h
  | _ => simp [verdict, many, hp, isDone]

/-- complete units, then a non-empty tail `r` on which the unit automaton, started afresh, does
not complete a unit (it fails, or the input runs out): the repetition reads the tail as the unit
automaton does. Every damaged or truncated stream of the formats is read through this. -/
theorem many_after_units {ι : Type} (w x : ι → Bytes) (hinit : A.phase A.init = .working)
    (us : List ι) (hus : ∀ u ∈ us, A.IsUnit (w u) (x u)) {r o rest : Bytes} {s : A.σ} (hr : r ≠ [])
    (h : A.run r A.init = (s, o, rest)) (hnd : A.phase s ≠ .done) (fin : Term) :
    A.many.run ((us.map w).flatten ++ r) A.init = (s, (us.map x).flatten ++ o, rest) ∧
      A.many.mean fin ((us.map w).flatten ++ r) A.init =
        ((us.map x).flatten ++ o, A.verdict fin s) := by
  obtain ⟨s1, hb1, h1⟩ := many_units A w x hinit us hus A.init (Or.inl rfl)
  have h2 : A.many.run r s1 = (s, o, rest) := by
    rw [many_run_from_boundary A r s1 hb1 hinit hr,
      many_run_eq A r A.init (Or.inl (by simp [hinit])) (by rw [h]; exact fun hd => absurd hd hnd), h]
  have h3 := run_seq h1 h2
  exact ⟨h3, by rw [mean_of_run h3, many_verdict_eq A s hnd]⟩

/-- complete units followed by a strict, non-empty prefix `p` of one more (`wu`, with output
`xu`): everything delivered is a prefix of the full output and the stream ends in an error
(`io.ErrUnexpectedEOF`, or the underlying body's own error), never cleanly. The truncation
theorems of the formats are instances. -/
theorem mean_many_units_truncated {ι : Type} (w x : ι → Bytes) (hl : A.Lawful)
    (hfi : A.fresh A.init = true) (us : List ι) (hus : ∀ u ∈ us, A.IsUnit (w u) (x u))
    {wu xu : Bytes} (hu : A.IsUnit wu xu) (p q : Bytes) (hw : wu = p ++ q) (hp : p ≠ []) (hq : q ≠ [])
    (fin : Term) :
    ∃ y z, xu = y ++ z ∧
      A.many.mean fin ((us.map w).flatten ++ p) A.init = ((us.map x).flatten ++ y, noEOF fin) := by
  have hinit := hl.fresh_working _ hfi
  obtain ⟨_, hr, -⟩ := hu
  obtain ⟨s, y, z, hyz, hrun, hwk, hnf⟩ := strict_prefix_of_consumed hr hl hinit p q hw hp hq
  exact ⟨y, z, hyz, by
    rw [(many_after_units A w x hinit us hus hp hrun (by simp [hwk]) fin).2, verdict_working A s hwk hnf]⟩

/-- `mean_many_units_truncated` for units given as pairs (bytes, output). -/
theorem mean_many_truncated (hl : A.Lawful) (hfi : A.fresh A.init = true)
    (us : List (Bytes × Bytes)) (hus : ∀ u ∈ us, A.IsUnit u.1 u.2)
    (w x p q : Bytes) (hu : A.IsUnit w x) (hw : w = p ++ q) (hp : p ≠ []) (hq : q ≠ [])
    (fin : Term) :
    ∃ y z, x = y ++ z ∧
      A.many.mean fin ((us.map (·.1)).flatten ++ p) A.init =
        ((us.map (·.2)).flatten ++ y, noEOF fin) :=
  mean_many_units_truncated A (·.1) (·.2) hl hfi us hus hu p q hw hp hq fin

/-- a single unit (raw DEFLATE): nothing is consumed after it, so what follows goes unnoticed -/
theorem mean_unit (w x r : Bytes) (hu : A.IsUnit w x) (fin : Term) :
    A.mean fin (w ++ r) A.init = (x, .eof) := by
  obtain ⟨sd, hr, hd⟩ := hu
  have hnw : A.phase sd ≠ .working := by rw [hd]; decide
  rw [mean_of_run (run_seq hr (run_stopped A r sd hnw)), List.append_nil]
  simp [verdict, hd]

theorem mean_unit_truncated (hl : A.Lawful) (hinit : A.phase A.init = .working)
    (w x p q : Bytes) (hu : A.IsUnit w x) (hw : w = p ++ q) (hp : p ≠ []) (hq : q ≠ [])
    (fin : Term) :
    ∃ y z, x = y ++ z ∧ A.mean fin p A.init = (y, noEOF fin) := by
  obtain ⟨_, hr, -⟩ := hu
  obtain ⟨s, y, z, hyz, hrun, hwk, hnf⟩ := strict_prefix_of_consumed hr hl hinit p q hw hp hq
  exact ⟨y, z, hyz, by rw [mean_of_run hrun, verdict_working A s hwk hnf]⟩

theorem pull_len (fin : Term) (inp : Bytes) (n : Nat) (s : A.σ) :
    (A.pull fin inp n s).2.1.length ≤ n := by
  fun_induction pull A fin inp n s with
  | case1 | case2 | case5 => simp
  | case3 _b _inp _n _s _hp _s' _o _hst r ih => simp [r]; exact ih
  | case4 _b _inp _n _s _hp _s' _hst ih => exact ih

theorem pull_none (fin : Term) (inp : Bytes) (n : Nat) (s : A.σ)
    (h : (A.pull fin inp n s).2.2 = none) :
    A.run inp s =
      ((A.run (A.pull fin inp n s).1.2 (A.pull fin inp n s).1.1).1,
       (A.pull fin inp n s).2.1 ++ (A.run (A.pull fin inp n s).1.2 (A.pull fin inp n s).1.1).2.1,
       (A.run (A.pull fin inp n s).1.2 (A.pull fin inp n s).1.1).2.2) := by
  fun_induction pull A fin inp n s with
  | case1 => rfl
  | case2 | case5 => simp at h
  | case3 b inp n s hp s' o hst r ih => rw [run_cons_working A b inp s hp, hst, ih h]; rfl
  | case4 b inp n s hp s' hst ih => rw [run_cons_working A b inp s hp, hst, ih h]; rfl

/-- the third conjunct (after an error nothing more is consumed) is what gives
`rest (read …).1 = ([], t)` in `reader.read_some` -/
theorem pull_some (fin : Term) (inp : Bytes) (n : Nat) (s : A.σ) (t : Term)
    (h : (A.pull fin inp n s).2.2 = some t) :
    A.run inp s = ((A.pull fin inp n s).1.1, (A.pull fin inp n s).2.1, (A.pull fin inp n s).1.2) ∧
      t = A.verdict fin (A.pull fin inp n s).1.1 ∧
      A.run (A.pull fin inp n s).1.2 (A.pull fin inp n s).1.1 =
        ((A.pull fin inp n s).1.1, [], (A.pull fin inp n s).1.2) := by
  fun_induction pull A fin inp n s with
  | case1 => simp at h
  | case2 _ s => exact ⟨rfl, by simpa using h.symm, rfl⟩
  | case3 b inp n s hp s' o hst r ih =>
    obtain ⟨h1, h2, h3⟩ := ih h
    exact ⟨by rw [run_cons_working A b inp s hp, hst, h1]; rfl, h2, h3⟩
  | case4 b inp n s hp s' hst ih =>
    obtain ⟨h1, h2, h3⟩ := ih h
    exact ⟨by rw [run_cons_working A b inp s hp, hst, h1]; rfl, h2, h3⟩
  | case5 b inp n s hp =>
    have hs := run_stopped A (b :: inp) s (fun hw => hp hw)
    exact ⟨hs, by simpa using h.symm, hs⟩

theorem pull_progress (fin : Term) (inp : Bytes) (n : Nat) (s : A.σ) (hn : 0 < n)
    (h : (A.pull fin inp n s).2.2 = none) : (A.pull fin inp n s).2.1 ≠ [] := by
  fun_induction pull A fin inp n s with
  | case1 => omega
  | case2 | case5 => simp at h
  | case3 => simp
  | case4 _b _inp _n _s _hp _s' _hst ih => exact ih (by omega) h

/-- The incremental reader over an automaton: state = automaton state, unread input, how the
underlying body ends. -/
def reader : Reader where
  σ := A.σ × Bytes × Term
  read := fun st n =>
    let r := A.pull st.2.2 st.2.1 n st.1
    ((r.1.1, r.1.2, st.2.2), r.2.1, r.2.2)
  rest := fun st => A.mean st.2.2 st.2.1 st.1
  read_len := fun st n => pull_len A st.2.2 st.2.1 n st.1
  read_none := by
    intro st n h
    simp only at h
    have := pull_none A st.2.2 st.2.1 n st.1 h
    simp only [mean]
    rw [this]
  read_some := by
    intro st n t h
    simp only at h
    obtain ⟨h1, h2, h3⟩ := pull_some A st.2.2 st.2.1 n st.1 t h
    simp only [mean]
    rw [h1, h3]
    simp [h2]
  read_progress := fun st n hn h => pull_progress A st.2.2 st.2.1 n st.1 hn h

/-- the automaton as a `Codec` (`Req.Client.CompressReader`), the parameter of `Req.Props.C14`
Part 2 -/
def codec : Codec := { A.reader with openR := fun src => .ok (A.init, src.data, src.fin) }

theorem codec_total (src : Src) : A.codec.total src = A.mean src.fin src.data A.init := rfl

end Req.Compress.Auto
