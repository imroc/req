import Req.Client.CompressReader
/-!
The wrappers of `internal/compress` and `transport.go` (`lazyRead`, `h1gzRead` of
`Req.Client.CompressReader`) are themselves `Reader`s: `lazyReader`, `h1GzipReader`, whose fields
are the proofs that they keep the streaming law of the codec they wrap. Then what the law gives
for an arbitrary sequence of `Read` calls (`drain_spec`, `read_after_end`, `drain_finishes`):
all that `Req.Props.C14` Part 2 uses of a reader; and that an error stored in `zerr` is
answered for ever (`lazyRun_zerr`, `h1gzRun_zerr`).
-/
namespace Req.Compress
open Req.Proto

def lazyReader (C : Codec) (keep : Bool) : Reader where
  σ := LazyState C
  read := lazyRead C keep
  rest := lazyRest C
  read_len := by
    intro st n
    unfold lazyRead
    split
    · simp
    · split
      · exact C.read_len _ _
      · split
        · simp
        · exact C.read_len _ _
  read_none := by
    intro st n
    unfold lazyRead
    split
    · simp
    · rename_i hz
      split
      · rename_i s hi
        intro h
        simp only at h
        simp only [lazyRest, hz, hi, h, ite_self]
        exact C.read_none s n h
      · rename_i hi
        split
        · simp
        · rename_i s ho
          intro h
          simp only at h
          simp only [lazyRest, hz, hi, Codec.total, ho, h, ite_self]
          exact C.read_none s n h
  read_some := by
    intro st n t
    unfold lazyRead
    split
    · rename_i e hz
      intro h; simp at h; subst h
      simp [lazyRest, hz]
    · rename_i hz
      split
      · rename_i s hi
        intro h
        simp only at h
        have := C.read_some s n t h
        cases keep
        · simp only [lazyRest, hz, hi, Bool.false_eq_true, if_false]; exact this
        · simp only [lazyRest, hz, hi, h, if_true]; exact ⟨this.1, trivial⟩
      · rename_i hi
        split
        · rename_i e ho
          intro h; simp at h; subst h
          simp [lazyRest, hz, hi, Codec.total, ho]
        · rename_i s ho
          intro h
          simp only at h
          have := C.read_some s n t h
          cases keep
          · simp only [lazyRest, hz, hi, Codec.total, ho, Bool.false_eq_true, if_false]; exact this
          · simp only [lazyRest, hz, hi, Codec.total, ho, h, if_true]; exact ⟨this.1, trivial⟩
  read_progress := by
    intro st n hn
    unfold lazyRead
    split
    · simp
    · split
      · exact C.read_progress _ _ hn
      · split
        · simp
        · exact C.read_progress _ _ hn

def h1GzipReader (C : Codec) : Reader where
  σ := H1GzState C
  read := h1gzRead C
  rest := h1gzRest C
  read_len := by
    intro st n
    unfold h1gzRead
    split
    · split
      · simp
      · exact C.read_len _ _
    · split
      · simp
      · split
        · simp
        · split
          · simp
          · exact C.read_len _ _
  read_none := by
    intro st n
    unfold h1gzRead
    split
    · rename_i s hi
      split
      · simp
      · rename_i hc
        intro h
        simp only [h1gzRest, hi, hc]
        exact C.read_none s n h
    · rename_i hi
      split
      · simp
      · rename_i hz
        split
        · simp
        · rename_i hc
          split
          · simp
          · rename_i s ho
            intro h
            simp only [h1gzRest, hi, hz, hc, Codec.total, ho]
            exact C.read_none s n h
  read_some := by
    intro st n t
    unfold h1gzRead
    split
    · rename_i s hi
      split
      · rename_i hc
        intro h; simp at h; subst h
        simp [h1gzRest, hi, hc]
      · rename_i hc
        intro h
        simp only [h1gzRest, hi, hc]
        exact C.read_some s n t h
    · rename_i hi
      split
      · rename_i e hz
        intro h; simp at h; subst h
        simp [h1gzRest, hi, hz]
      · rename_i hz
        split
        · rename_i hc
          intro h; simp at h; subst h
          simp [h1gzRest, hi, hz, hc]
        · rename_i hc
          split
          · rename_i e ho
            intro h; simp at h; subst h
            simp [h1gzRest, hi, hz, hc, Codec.total, ho]
          · rename_i s ho
            intro h
            simp only [h1gzRest, hi, hz, hc, Codec.total, ho]
            exact C.read_some s n t h
  read_progress := by
    intro st n hn
    unfold h1gzRead
    split
    · split
      · simp
      · exact C.read_progress _ _ hn
    · split
      · simp
      · split
        · simp
        · split
          · simp
          · exact C.read_progress _ _ hn

/-- What `drain` returns is a prefix of `rest`; if a call returned an error, all of it. -/
theorem drain_spec (R : Reader) (s : R.σ) (ns : List Nat) :
    match (drain R s ns).2.2 with
    | none => R.rest s = ((drain R s ns).2.1 ++ (R.rest (drain R s ns).1).1, (R.rest (drain R s ns).1).2)
    | some t => R.rest s = ((drain R s ns).2.1, t) ∧ R.rest (drain R s ns).1 = ([], t) := by
  induction ns generalizing s with
  | nil => simp [drain]
  | cons n ns ih =>
    unfold drain
    cases hr : R.read s n with
    | mk s' dt =>
      cases dt with
      | mk d t =>
        cases t with
        | some t =>
          simp only
          have := R.read_some s n t (by rw [hr])
          simpa [hr] using this
        | none =>
          simp only
          have h1 := R.read_none s n (by rw [hr])
          simp only [hr] at h1
          have h2 := ih s'
          cases ht : (drain R s' ns).2.2 with
          | none =>
            simp only [ht] at h2 ⊢
            rw [h1, h2]; simp [List.append_assoc]
          | some t =>
            simp only [ht] at h2 ⊢
            rw [h1, h2.1]; exact ⟨rfl, h2.2⟩

theorem read_after_end (R : Reader) (s : R.σ) (t : Term) (h : R.rest s = ([], t))
    (m : Nat) (hm : 0 < m) :
    (R.read s m).2 = ([], some t) ∧ R.rest (R.read s m).1 = ([], t) := by
  cases ht : (R.read s m).2.2 with
  | none =>
    have h1 := R.read_none s m ht
    have h2 := R.read_progress s m hm ht
    rw [h] at h1
    have : (R.read s m).2.1 = [] := by
      have := congrArg Prod.fst h1
      simp at this
      exact this.1
    exact absurd this h2
  | some t' =>
    have h1 := R.read_some s m t' ht
    rw [h] at h1
    have hd : (R.read s m).2.1 = [] := (congrArg Prod.fst h1.1).symm
    have ht' : t' = t := (congrArg Prod.snd h1.1).symm
    subst ht'
    refine ⟨?_, h1.2⟩
    rw [Prod.ext_iff]; exact ⟨hd, ht⟩

theorem drain_finishes (R : Reader) (s : R.σ) (ns : List Nat) (hpos : ∀ n ∈ ns, 0 < n)
    (hlen : (R.rest s).1.length < ns.length) : (drain R s ns).2.2 ≠ none := by
  induction ns generalizing s with
  | nil => simp at hlen
  | cons n ns ih =>
    unfold drain
    cases hr : R.read s n with
    | mk s' dt =>
      cases dt with
      | mk d t =>
        cases t with
        | some t => simp
        | none =>
          simp only
          have h1 := R.read_none s n (by rw [hr])
          have h2 := R.read_progress s n (hpos n (by simp)) (by rw [hr])
          simp only [hr] at h1 h2
          apply ih s' (fun m hm => hpos m (by simp [hm]))
          rw [h1] at hlen
          simp only [List.length_append, List.length_cons] at hlen
          have : 0 < d.length := List.length_pos_iff.mpr h2
          omega

theorem lazyRun_zerr (C : Codec) (keep : Bool) (st : LazyState C) (e : Term) (hz : st.zerr = some e)
    (ns : List Nat) : lazyRun C keep st (ns.map Op.read) = ns.map (fun _ => ([], some e)) := by
  induction ns with
  | nil => rfl
  | cons n ns ih => simp [lazyRun, lazyRead, hz, ih]

theorem h1gzRun_zerr (C : Codec) (st : H1GzState C) (e : Term) (hi : st.inner = none)
    (hz : st.zerr = some e) (ns : List Nat) :
    h1gzRun C st (ns.map Op.read) = ns.map (fun _ => ([], some e)) := by
  induction ns with
  | nil => rfl
  | cons n ns ih => simp [h1gzRun, h1gzRead, hi, hz, ih]

end Req.Compress
