import Req.C02.DataBuffer
/-! C02 — `dataBuffer` (internal/http2/databuffer.go): the chunk list with its cursors refines a
flat byte FIFO (`writeLoop_spec`, `readLoop_spec`). -/
namespace Req.C02
open Req.Proto

structure DataBuffer.WF (b : DataBuffer) : Prop where
  pos : ∀ c ∈ b.chunks, 0 < c.length
  wle : ∀ L, lastLen b.chunks = some L → b.w ≤ L
  rlt : ∀ c rest, b.chunks = c :: rest → b.r < c.length
  rle : b.r ≤ (contentsAux b.w b.chunks).length
  size_eq : b.size = b.contents.length

theorem DataBuffer.WF_new (e : Int) : (DataBuffer.new e).WF :=
  ⟨nofun, nofun, nofun, Nat.le_refl 0, rfl⟩

/-! `lastLen`, `modifyLast` and `contentsAux` look at the END of the chunk list: each has one
equation on `cs ++ [a]`, and every non-empty list has that form. -/

theorem eq_nil_or_snoc : ∀ cs : List Bytes, cs = [] ∨ ∃ init l, cs = init ++ [l]
  | [] => .inl rfl
  | c :: rest => .inr ⟨_, _, (List.dropLast_concat_getLast (List.cons_ne_nil c rest)).symm⟩

theorem lastLen_snoc (a : Bytes) : ∀ cs : List Bytes, lastLen (cs ++ [a]) = some a.length
  | [] => rfl
  | [_] => rfl
  | _ :: d :: rest => lastLen_snoc a (d :: rest)

theorem modifyLast_snoc (f : Bytes → Bytes) (a : Bytes) :
    ∀ cs : List Bytes, modifyLast f (cs ++ [a]) = cs ++ [f a]
  | [] => rfl
  | [_] => rfl
  | c :: d :: rest => congrArg (c :: ·) (modifyLast_snoc f a (d :: rest))

theorem contentsAux_snoc (w : Nat) (a : Bytes) :
    ∀ cs : List Bytes, contentsAux w (cs ++ [a]) = cs.flatten ++ a.take w
  | [] => rfl
  | [c] => by simp [contentsAux]
  | c :: d :: rest => by
    have ih := contentsAux_snoc w a (d :: rest)
    simp only [List.cons_append, contentsAux, List.flatten_cons, List.append_assoc] at ih ⊢
    rw [ih]

theorem exists_snoc_of_lastLen {cs : List Bytes} {L : Nat} (h : lastLen cs = some L) :
    ∃ init l, cs = init ++ [l] ∧ l.length = L := by
  rcases eq_nil_or_snoc cs with rfl | ⟨init, l, rfl⟩
  · cases h
  · exact ⟨init, l, rfl, Option.some.inj ((lastLen_snoc l init).symm.trans h)⟩

theorem lastLen_eq_none {cs : List Bytes} (h : lastLen cs = none) : cs = [] := by
  rcases eq_nil_or_snoc cs with rfl | ⟨init, l, rfl⟩
  · rfl
  · rw [lastLen_snoc] at h; cases h

theorem lastLen_modifyLast (f : Bytes → Bytes) (hf : ∀ c, (f c).length = c.length) :
    ∀ cs : List Bytes, lastLen (modifyLast f cs) = lastLen cs := by
  intro cs
  rcases eq_nil_or_snoc cs with rfl | ⟨init, l, rfl⟩
  · rfl
  · rw [modifyLast_snoc, lastLen_snoc, lastLen_snoc, hf]

theorem contentsAux_full {w : Nat} {cs : List Bytes} (h : ∀ L, lastLen cs = some L → w = L) :
    contentsAux w cs = cs.flatten := by
  rcases eq_nil_or_snoc cs with rfl | ⟨init, l, rfl⟩
  · rfl
  · rw [contentsAux_snoc, h _ (lastLen_snoc l init), List.take_length, List.flatten_append,
      List.flatten_singleton]

theorem copyAt_length (w : Nat) (p c : Bytes) (h : w ≤ c.length) : (copyAt w p c).length = c.length := by
  rw [copyAt, List.length_append, List.length_append, List.length_take, List.length_take, List.length_drop,
    Nat.min_eq_left h, Nat.min_comm p.length]
  exact Nat.add_sub_cancel' (Nat.add_le_of_le_sub' h (Nat.min_le_left _ _))

theorem copyAt_take (w : Nat) (p c : Bytes) {n : Nat} (hn : n ≤ p.length) (hw : w + n ≤ c.length) :
    (copyAt w p c).take (w + n) = c.take w ++ p.take n := by
  have hnw : n ≤ c.length - w := Nat.le_sub_of_add_le' hw
  have hw' : (c.take w).length = w := List.length_take.trans (Nat.min_eq_left (Nat.le_of_add_right_le hw))
  rw [copyAt, List.append_assoc]
  conv => lhs; arg 1; rw [← hw']
  rw [List.take_length_add_append,
    List.take_append_of_le_length (List.length_take ▸ Nat.le_min.2 ⟨hnw, hn⟩),
    List.take_take, Nat.min_eq_left hnw]

theorem contentsAux_copy (w : Nat) (p : Bytes) {cs : List Bytes} {L n : Nat} (hL : lastLen cs = some L)
    (hn : n ≤ p.length) (hnL : w + n ≤ L) :
    contentsAux (w + n) (modifyLast (copyAt w p) cs) = contentsAux w cs ++ p.take n := by
  obtain ⟨init, l, rfl, rfl⟩ := exists_snoc_of_lastLen hL
  rw [modifyLast_snoc, contentsAux_snoc, contentsAux_snoc, copyAt_take w p l hn hnL, List.append_assoc]

namespace DataBuffer

/-! The write side: `lastChunkOrAlloc` appends a fresh chunk when there is no room, then one
iteration of `Write` copies into the last chunk. -/

theorem WF.grow {b : DataBuffer} (hw : b.WF) (hfull : ∀ L, lastLen b.chunks = some L → b.w = L)
    {a : Bytes} (ha : 0 < a.length) :
    let b' : DataBuffer := { b with chunks := b.chunks ++ [a], w := 0 }
    b'.WF ∧ b'.contents = b.contents := by
  intro b'
  have haux : contentsAux 0 (b.chunks ++ [a]) = contentsAux b.w b.chunks := by
    rw [contentsAux_snoc, contentsAux_full hfull]; exact List.append_nil _
  have hc' : b'.contents = b.contents := congrArg (List.drop b.r) haux
  refine ⟨⟨fun x hx => ?_, fun _ _ => Nat.zero_le _, fun c rest h => ?_, ?_, ?_⟩, hc'⟩
  · rcases List.mem_append.1 hx with h | h
    · exact hw.pos x h
    · rw [List.mem_singleton.1 h]; exact ha
  · have hrle := hw.rle
    have h : b.chunks ++ [a] = c :: rest := h
    cases hch : b.chunks with
    | nil =>
      rw [hch] at hrle h
      exact (List.cons.inj h).1 ▸ Nat.lt_of_le_of_lt hrle ha
    | cons c0 rest0 =>
      rw [hch] at h
      exact (List.cons.inj h).1 ▸ hw.rlt c0 rest0 hch
  · exact haux ▸ hw.rle
  · exact hc' ▸ hw.size_eq

theorem lastChunkOrAlloc_cases (alloc : Int → Bytes) (b : DataBuffer) (want : Int) :
    (∃ L, lastLen b.chunks = some L ∧ b.w < L ∧ b.lastChunkOrAlloc alloc want = b) ∨
    ((∀ L, lastLen b.chunks = some L → L ≤ b.w) ∧
      b.lastChunkOrAlloc alloc want = { b with chunks := b.chunks ++ [alloc want], w := 0 }) := by
  rw [lastChunkOrAlloc]
  cases hl : lastLen b.chunks with
  | none => exact .inr ⟨nofun, by rw [lastLen_eq_none hl]; rfl⟩
  | some L =>
    by_cases hlt : b.w < L
    · exact .inl ⟨L, rfl, hlt, if_pos hlt⟩
    · exact .inr ⟨fun _ h => Option.some.inj h ▸ Nat.le_of_not_lt hlt, if_neg hlt⟩

theorem lastChunkOrAlloc_spec (alloc : Int → Bytes) (halloc : ∀ x, 0 < (alloc x).length)
    (b : DataBuffer) (want : Int) (hw : b.WF) :
    let b1 := b.lastChunkOrAlloc alloc want
    b1.WF ∧ b1.contents = b.contents ∧ ∃ L, lastLen b1.chunks = some L ∧ b1.w < L := by
  intro b1
  rcases lastChunkOrAlloc_cases alloc b want with ⟨L, hL, hlt, h⟩ | ⟨hfull, h⟩
  · rw [show b1 = b from h]
    exact ⟨hw, rfl, L, hL, hlt⟩
  · obtain ⟨h1, h2⟩ := hw.grow (fun L hL => Nat.le_antisymm (hw.wle L hL) (hfull L hL)) (halloc want)
    rw [show b1 = _ from h]
    exact ⟨h1, h2, _, lastLen_snoc _ _, halloc want⟩

theorem WF.copy {b : DataBuffer} (hw : b.WF) {L : Nat} (hL : lastLen b.chunks = some L)
    {p : Bytes} {n : Nat} (hn : n ≤ p.length) (hnL : b.w + n ≤ L) (e : Int) :
    let b' : DataBuffer := { b with chunks := modifyLast (copyAt b.w p) b.chunks, w := b.w + n,
                                    size := b.size + n, expected := e }
    b'.WF ∧ b'.contents = b.contents ++ p.take n := by
  intro b'
  have haux : contentsAux (b.w + n) b'.chunks = contentsAux b.w b.chunks ++ p.take n :=
    contentsAux_copy b.w p hL hn hnL
  have hc' : b'.contents = b.contents ++ p.take n := by
    show (contentsAux (b.w + n) b'.chunks).drop b.r = _
    rw [haux, List.drop_append_of_le_length hw.rle]; rfl
  obtain ⟨init, l, hcs, rfl⟩ := exists_snoc_of_lastLen hL
  have hlen : (copyAt b.w p l).length = l.length := copyAt_length _ _ _ (Nat.le_of_add_right_le hnL)
  have hch' : b'.chunks = init ++ [copyAt b.w p l] := by
    show modifyLast _ b.chunks = _
    rw [hcs, modifyLast_snoc]
  refine ⟨⟨fun x hx => ?_, fun L' hL' => ?_, fun c rest h => ?_, ?_, ?_⟩, hc'⟩
  · rw [hch'] at hx
    rcases List.mem_append.1 hx with h | h
    · exact hw.pos x (hcs ▸ List.mem_append_left _ h)
    · rw [List.mem_singleton.1 h, hlen]
      exact hw.pos l (hcs ▸ List.mem_append_right _ (List.mem_singleton_self l))
  · rw [hch', lastLen_snoc, hlen] at hL'
    cases hL'; exact hnL
  · rw [hch'] at h
    cases init with
    | nil => exact (List.cons.inj h).1 ▸ hlen ▸ hw.rlt l [] hcs
    | cons i init' => exact (List.cons.inj h).1 ▸ hw.rlt i (init' ++ [l]) hcs
  · show b.r ≤ (contentsAux (b.w + n) b'.chunks).length
    rw [haux, List.length_append]; exact Nat.le_add_right_of_le hw.rle
  · show b.size + n = b'.contents.length
    rw [hc', List.length_append, List.length_take, Nat.min_eq_left hn, hw.size_eq]

theorem writeLoop_step (alloc : Int → Bytes) (halloc : ∀ x, 0 < (alloc x).length) {b : DataBuffer}
    (hw : b.WF) {p : Bytes} (hp : 0 < p.length) (fuel : Nat) :
    ∃ n b', 0 < n ∧ writeLoop alloc (fuel + 1) p b = writeLoop alloc fuel (p.drop n) b' ∧ b'.WF ∧
      b'.contents = b.contents ++ p.take n := by
  have hne : ¬ p.isEmpty = true := by cases p with | nil => cases hp | cons _ _ => nofun
  rw [writeLoop, if_neg hne]
  dsimp only
  generalize (if b.expected > (p.length : Int) then b.expected else (p.length : Int)) = want
  obtain ⟨hw1, hc1, L, hL, hwL⟩ := lastChunkOrAlloc_spec alloc halloc b want hw
  generalize b.lastChunkOrAlloc alloc want = b1 at hw1 hc1 hL hwL ⊢
  obtain ⟨hw2, hc2⟩ := hw1.copy hL (Nat.min_le_left p.length (L - b1.w))
    (Nat.add_le_of_le_sub' (Nat.le_of_lt hwL) (Nat.min_le_right _ _))
    (b1.expected - (min p.length (L - b1.w) : Nat))
  simp only [hL]
  exact ⟨_, _, Nat.lt_min.2 ⟨hp, Nat.sub_pos_of_lt hwL⟩, rfl, hw2, hc1 ▸ hc2⟩

theorem writeLoop_spec (alloc : Int → Bytes) (halloc : ∀ x, 0 < (alloc x).length) :
    ∀ (fuel : Nat) (p : Bytes) (b : DataBuffer), b.WF → p.length < fuel →
      ∃ b', writeLoop alloc fuel p b = some b' ∧ b'.WF ∧ b'.contents = b.contents ++ p := by
  intro fuel
  induction fuel with
  | zero => intro p b _ h; cases h
  | succ fuel ih =>
    intro p b hw hf
    rcases Nat.eq_zero_or_pos p.length with h0 | hp
    · obtain rfl := List.eq_nil_of_length_eq_zero h0
      exact ⟨b, rfl, hw, (List.append_nil _).symm⟩
    · obtain ⟨n, b2, hn, hrun, hw2, hc2⟩ := writeLoop_step alloc halloc hw hp fuel
      obtain ⟨b', hrun', hw', hc'⟩ := ih (p.drop n) b2 hw2
        (List.length_drop ▸ Nat.lt_of_lt_of_le (Nat.sub_lt hp hn) (Nat.le_of_lt_succ hf))
      exact ⟨b', hrun.trans hrun', hw', by rw [hc', hc2, List.append_assoc, List.take_append_drop]⟩

/-! The read side: one iteration of `Read` takes bytes from the first chunk. -/

theorem take_drop_length_take (f back : Bytes) (k : Nat) :
    (f ++ back).take (f.take k).length = f.take k ∧
    (f ++ back).drop (f.take k).length = f.drop k ++ back := by
  have h : f ++ back = f.take k ++ (f.drop k ++ back) := by
    rw [← List.append_assoc, List.take_append_drop]
  rw [h]
  exact ⟨List.take_left, List.drop_left⟩

section
variable {b : DataBuffer} (hw : b.WF)
include hw

section
variable {c : Bytes} {rest : List Bytes} (hch : b.chunks = c :: rest)
include hch

/-- What is buffered is what `bytesFromFirstChunk` returns, then the other chunks; that slice
ends inside the first chunk only when there is no other chunk. -/
theorem WF.firstChunk :
    b.contents = b.bytesFromFirstChunk c rest ++ contentsAux b.w rest ∧
    b.r + (b.bytesFromFirstChunk c rest).length ≤ c.length ∧
    (b.r + (b.bytesFromFirstChunk c rest).length < c.length → contentsAux b.w rest = []) := by
  have hrle := hw.rle
  have hrlt := hw.rlt c rest hch
  rw [DataBuffer.contents, hch]
  rw [hch] at hrle
  cases rest with
  | nil =>
    refine ⟨(List.append_nil _).symm, ?_, fun _ => rfl⟩
    have hrle : b.r ≤ (c.take b.w).length := hrle
    show b.r + ((c.take b.w).drop b.r).length ≤ c.length
    rw [List.length_drop, Nat.add_sub_cancel' hrle]
    exact List.length_take_le' _ _
  | cons d rest =>
    have hlen : b.r + (c.drop b.r).length = c.length := by
      rw [List.length_drop, Nat.add_sub_cancel' (Nat.le_of_lt hrlt)]
    exact ⟨List.drop_append_of_le_length (Nat.le_of_lt hrlt), Nat.le_of_eq hlen,
      fun h => absurd hlen (Nat.ne_of_lt h)⟩

/-- The first chunk is used up and goes back to the pool. -/
theorem WF.pop {n : Nat} (hn : (b.bytesFromFirstChunk c rest).length = n) :
    let b' : DataBuffer := { b with chunks := rest, r := 0, size := b.size - n }
    b'.WF ∧ b'.contents = b.contents.drop n := by
  intro b'
  have hc' : b'.contents = b.contents.drop n := by
    rw [(hw.firstChunk hch).1, List.drop_left' hn]; rfl
  refine ⟨⟨fun x hx => hw.pos x (hch ▸ List.mem_cons_of_mem c hx), fun L hL => hw.wle L ?_,
    fun c' rest' h => hw.pos c' ?_, Nat.zero_le _, ?_⟩, hc'⟩
  · rw [hch]
    cases rest with
    | nil => cases hL
    | cons _ _ => exact hL
  · rw [hch, show rest = c' :: rest' from h]
    exact List.mem_cons_of_mem _ (List.mem_cons_self ..)
  · show b.size - n = b'.contents.length
    rw [hc', List.length_drop, hw.size_eq]

theorem WF.advance {n : Nat} (hn : n ≤ b.size) (hlt : b.r + n < c.length) :
    let b' : DataBuffer := { b with r := b.r + n, size := b.size - n }
    b'.WF ∧ b'.contents = b.contents.drop n := by
  intro b'
  have hc' : b'.contents = b.contents.drop n := List.drop_drop.symm
  refine ⟨⟨hw.pos, hw.wle, fun c' rest' h => ?_, ?_, ?_⟩, hc'⟩
  · cases hch.symm.trans h; exact hlt
  · show b.r + n ≤ (contentsAux b.w b.chunks).length
    have h := hw.size_eq ▸ hn
    rw [DataBuffer.contents, List.length_drop] at h
    exact Nat.add_le_of_le_sub' hw.rle h
  · show b.size - n = b'.contents.length
    rw [hc', List.length_drop, hw.size_eq]

end

theorem WF.contents_eq_nil (h : b.size = 0) : b.contents = [] :=
  List.eq_nil_of_length_eq_zero (hw.size_eq.symm.trans h)

theorem readLoop_stop {k : Nat} (h : k = 0 ∨ b.size = 0) (fuel : Nat)
    (acc : Bytes) :
    readLoop fuel k acc b = some (acc ++ b.contents.take k, b) ∧ b.contents.drop k = b.contents := by
  have hrun : readLoop fuel k acc b = some (acc, b) := by
    cases fuel <;> exact if_pos h
  have hnil : b.contents.take k = [] ∧ b.contents.drop k = b.contents := by
    rcases h with rfl | h
    · exact ⟨rfl, rfl⟩
    · rw [hw.contents_eq_nil h]
      exact ⟨List.take_nil, List.drop_nil⟩
  rw [hrun, hnil.1, List.append_nil]
  exact ⟨rfl, hnil.2⟩

/-- One iteration of the loop of `Read`: it hands out the first `n` buffered bytes and keeps the
rest; then `k` is used up, or the buffer is empty, or the first chunk is gone. -/
theorem readLoop_step {k : Nat} (hgo : ¬(k = 0 ∨ b.size = 0)) (fuel : Nat)
    (acc : Bytes) :
    ∃ n b', n ≤ k ∧ readLoop (fuel + 1) k acc b = readLoop fuel (k - n) (acc ++ b.contents.take n) b' ∧
      b'.WF ∧ b'.contents = b.contents.drop n ∧ b'.expected = b.expected ∧
      (k - n = 0 ∨ b'.size = 0 ∨ b'.chunks.length < b.chunks.length) := by
  rw [readLoop, if_neg hgo]
  cases hch : b.chunks with
  | nil =>
    have h0 : b.size = 0 := by
      rw [hw.size_eq, DataBuffer.contents, hch]; exact congrArg List.length List.drop_nil
    exact absurd (Or.inr h0) hgo
  | cons c rest =>
    obtain ⟨hcont, hle, hback⟩ := hw.firstChunk hch
    obtain ⟨htake, -⟩ := take_drop_length_take (b.bytesFromFirstChunk c rest) (contentsAux b.w rest) k
    rw [← hcont] at htake
    have hsz : b.size = (b.bytesFromFirstChunk c rest).length + (contentsAux b.w rest).length := by
      rw [hw.size_eq, hcont, List.length_append]
    dsimp only
    generalize hf : b.bytesFromFirstChunk c rest = f at *
    generalize hd : f.take k = d at htake
    have hdk : d.length ≤ k := hd ▸ List.length_take_le k f
    have hdf : d.length ≤ f.length := hd ▸ List.length_take_le' k f
    have hrd : b.r + d.length ≤ c.length := Nat.le_trans (Nat.add_le_add_left hdf _) hle
    by_cases hpop : b.r + d.length = c.length
    · rw [if_pos hpop]
      obtain ⟨hw', hc'⟩ := hw.pop hch (n := d.length)
        (hf ▸ Nat.le_antisymm (Nat.le_of_add_le_add_left (hpop ▸ hle)) hdf)
      exact ⟨d.length, _, hdk, by rw [htake], hw', hc', rfl, .inr (.inr (Nat.lt_succ_self _))⟩
    · rw [if_neg hpop]
      have hlt := Nat.lt_of_le_of_ne hrd hpop
      obtain ⟨hw', hc'⟩ := hw.advance hch (hsz ▸ Nat.le_add_right_of_le hdf) hlt
      refine ⟨d.length, _, hdk, by rw [htake, hch], hw', hc', rfl, ?_⟩
      rcases Nat.le_total k f.length with h | h
      · have hdk' : d.length = k := hd ▸ List.length_take.trans (Nat.min_eq_left h)
        exact .inl (Nat.sub_eq_zero_of_le (Nat.le_of_eq hdk'.symm))
      · have hdf' : d.length = f.length := hd ▸ List.length_take.trans (Nat.min_eq_right h)
        refine .inr (.inl (show b.size - d.length = 0 from ?_))
        rw [hsz, hback (hdf' ▸ hlt), hdf']
        exact Nat.sub_self _

end

/-- The loop of `Read`: ends within `len(chunks)+1` iterations, hands out a prefix of what is
buffered and keeps the rest, in order. -/
theorem readLoop_spec :
    ∀ (fuel k : Nat) (acc : Bytes) (b : DataBuffer), b.WF →
      (k = 0 ∨ b.size = 0 ∨ b.chunks.length < fuel) →
      ∃ b', readLoop fuel k acc b = some (acc ++ b.contents.take k, b') ∧ b'.WF ∧
        b'.contents = b.contents.drop k ∧ b'.expected = b.expected := by
  intro fuel
  induction fuel with
  | zero =>
    intro k acc b hw hf
    have hstop : k = 0 ∨ b.size = 0 := hf.imp_right (·.resolve_right (Nat.not_lt_zero _))
    obtain ⟨h1, h2⟩ := readLoop_stop hw hstop 0 acc
    exact ⟨b, h1, hw, h2.symm, rfl⟩
  | succ fuel ih =>
    intro k acc b hw hf
    by_cases hstop : k = 0 ∨ b.size = 0
    · obtain ⟨h1, h2⟩ := readLoop_stop hw hstop (fuel + 1) acc
      exact ⟨b, h1, hw, h2.symm, rfl⟩
    · obtain ⟨n, b2, hnk, hrun, hw2, hc2, he2, hprog⟩ := readLoop_step hw hstop fuel acc
      have hlen : b.chunks.length < fuel + 1 := by
        rcases hf with h | h | h
        · exact absurd (Or.inl h) hstop
        · exact absurd (Or.inr h) hstop
        · exact h
      obtain ⟨b', hrun', hw', hc', he'⟩ := ih (k - n) (acc ++ b.contents.take n) b2 hw2
        (hprog.imp id (Or.imp id fun h => Nat.lt_of_lt_of_le h (Nat.le_of_lt_succ hlen)))
      refine ⟨b', ?_, hw', ?_, he'.trans he2⟩
      · rw [hrun, hrun', hc2, List.append_assoc, ← List.take_add, Nat.add_sub_cancel' hnk]
      · rw [hc', hc2, List.drop_drop, Nat.add_sub_cancel' hnk]

end DataBuffer
end Req.C02
