import Req.H1.Chunked
/-! The hex digits of a chunk-size line, byte by byte: which bytes `hexVal?` reads and as what, and that it
reads back what `hexDigitByte` prints. -/
namespace Req.H1
open Req.Proto

theorem hexVal?_isSome (c : UInt8) : (hexVal? c).isSome = true ↔
    (48 ≤ c.toNat ∧ c.toNat ≤ 57) ∨ (97 ≤ c.toNat ∧ c.toNat ≤ 102) ∨
      (65 ≤ c.toNat ∧ c.toNat ≤ 70) := by
  unfold hexVal?
  simp only [UInt8.le_iff_toNat_le, UInt8.toNat_ofNat]
  repeat' split
  all_goals simp [*]

theorem hexVal?_lt {c : UInt8} {d : Nat} (h : hexVal? c = some d) : d < 16 := by
  unfold hexVal? at h
  simp only [UInt8.le_iff_toNat_le, UInt8.toNat_ofNat] at h
  repeat' split at h
  all_goals cases h
  all_goals omega

theorem hexVal_hexDigitByte : ∀ d, d < 16 → hexVal? (hexDigitByte d) = some d := by decide

/-- A hex digit byte is not LF, not `;`, not ASCII whitespace. -/
theorem hexDigitByte_plain : ∀ d, d < 16 →
    hexDigitByte d ≠ LF ∧ hexDigitByte d ≠ 59 ∧ isASCIISpace (hexDigitByte d) = false := by decide

def IsHexDigit (c : UInt8) : Prop := ∃ d, d < 16 ∧ c = hexDigitByte d

end Req.H1
