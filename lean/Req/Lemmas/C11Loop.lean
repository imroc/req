import Req.Client.RedirectLoop
import Req.Lemmas.C11Chain
import Req.Lemmas.C11Hdr
/-! C11: the whole hop loop `Req.Redirect.Loop.run`. One followed redirect is a `Step`, a run a `Chain` of them
(`run_chain`); `chain_nth` gives the `j`-th step with the state after it in closed form (`Nth`), from which
`start_gated` shows every configured policy `Gated` along a run. Headers are followed at map-entry level: the
`entriesFor_*_ne` lemmas say that an operation leaves the entries of every other key alone. `run_perm` is the
lock-step simulation of two runs whose policy lists are permutations (`ListRel`, `HdrEq`, `ReqEq`); the file ends
with the jar: what it holds was set by a reply (`jarAfter_prov`). -/
namespace Req.Lemmas.C11Loop
open Req.Proto Req.Ascii Req.Redirect Req.Redirect.Loop Req.Lemmas.C11

/-- `via` of a non-empty list of requests (oldest first). -/
def viaL : List Loop.Req → Via
  | [] => { first := ⟨[], []⟩ }
  | f :: rest => { first := f.toHop, rest := rest.map Req.toHop }

theorem viaOf_eq (prev : List Loop.Req) (last : Loop.Req) : viaOf prev last = viaL (prev ++ [last]) := by
  cases prev <;> simp [viaOf, viaL]

theorem viaL_length (l : List Loop.Req) (h : l ≠ []) : (viaL l).length = l.length := by
  cases l with
  | nil => exact absurd rfl h
  | cons f rest => simp [viaL, Via.length]

@[simp] theorem sendMutate_url (cfg : Config) (j : Jar) (r : Loop.Req) : (sendMutate cfg j r).url = r.url := by
  unfold sendMutate; split <;> rfl

@[simp] theorem sendMutate_method (cfg : Config) (j : Jar) (r : Loop.Req) :
    (sendMutate cfg j r).method = r.method := by
  unfold sendMutate; split <;> rfl

@[simp] theorem sendMutate_hostField (cfg : Config) (j : Jar) (r : Loop.Req) :
    (sendMutate cfg j r).hostField = r.hostField := by
  unfold sendMutate; split <;> rfl

@[simp] theorem sendMutate_body (cfg : Config) (j : Jar) (r : Loop.Req) :
    (sendMutate cfg j r).body = r.body := by
  unfold sendMutate; split <;> rfl

/-- One followed redirect: from state `st` with `cur` about to be sent and reply `r`, the loop
continues in state `st'` with `next` about to be sent. -/
structure Step (cfg : Config) (st : State) (cur : Loop.Req) (r : Reply) (rm : Bytes) (inclBody : Bool)
    (u : Url) (st' : State) (next : Loop.Req) : Prop where
  hbeh : redirectBehavior cur.method r.status (cfg.getBody || cfg.noBody) = some (rm, inclBody)
  hres : resolve cur.url r.loc = some u
  hprev : st'.prev = st.prev ++ [sendMutate cfg st.jar cur]
  hcopier : st'.copier = if cfg.jar then st.copier.onResponse r.setCookie else st.copier
  hjar : st'.jar = if cfg.jar then st.jar.setCookies cur.url.host r.setCookie else st.jar
  hstrip : st'.strip = (nextRequest cfg st (sendMutate cfg st.jar cur) r u rm inclBody st'.copier).2
  hallow : (checkRedirect cfg.ps (nextRequest cfg st (sendMutate cfg st.jar cur) r u rm inclBody st'.copier).1
      st.prev (sendMutate cfg st.jar cur)).1 = .allow
  hnext : next = { (nextRequest cfg st (sendMutate cfg st.jar cur) r u rm inclBody st'.copier).1 with
      hdr := (checkRedirect cfg.ps (nextRequest cfg st (sendMutate cfg st.jar cur) r u rm inclBody st'.copier).1
        st.prev (sendMutate cfg st.jar cur)).2 }

/-- The requests sent after `cur`, each with the reply that led to it. -/
inductive Chain (cfg : Config) : State → Loop.Req → List Reply → List Loop.Req → Prop where
  | stop (st : State) (cur : Loop.Req) (rs : List Reply) : Chain cfg st cur rs []
  | step {st : State} {cur : Loop.Req} {r : Reply} {rs : List Reply} {rm : Bytes} {inclBody : Bool} {u : Url}
      {st' : State} {next : Loop.Req} {later : List Loop.Req} :
      Step cfg st cur r rm inclBody u st' next → Chain cfg st' next rs later →
      Chain cfg st cur (r :: rs) (sendMutate cfg st'.jar next :: later)

theorem run_chain (cfg : Config) (script : List Reply) (st : State) (cur : Loop.Req) :
    ∃ later, (run cfg st cur script).1 = st.prev ++ sendMutate cfg st.jar cur :: later ∧
      Chain cfg st cur script later := by
  induction script generalizing st cur with
  | nil => exact ⟨[], by simp [run], .stop _ _ _⟩
  | cons r rs ih =>
    unfold run
    simp only
    cases hb : redirectBehavior cur.method r.status (cfg.getBody || cfg.noBody) with
    | none => exact ⟨[], by simp, .stop _ _ _⟩
    | some mb =>
      obtain ⟨rm, inclBody⟩ := mb
      simp only
      by_cases hm : r.loc = .missing
      · exact ⟨[], by simp [hm], .stop _ _ _⟩
      · simp only [hm, if_false]
        cases hres : resolve (sendMutate cfg st.jar cur).url r.loc with
        | none => exact ⟨[], by simp, .stop _ _ _⟩
        | some u =>
          simp only
          generalize hc : checkRedirect cfg.ps
            (nextRequest cfg st (sendMutate cfg st.jar cur) r u rm inclBody
              (if cfg.jar = true then st.copier.onResponse r.setCookie else st.copier)).1
            st.prev (sendMutate cfg st.jar cur) = res
          obtain ⟨d, hdr⟩ := res
          cases d with
          | deny | useLast => exact ⟨[], by simp, .stop _ _ _⟩
          | allow =>
            simp only
            obtain ⟨later, hs, hch⟩ := ih
              { prev := st.prev ++ [sendMutate cfg st.jar cur]
                strip := (nextRequest cfg st (sendMutate cfg st.jar cur) r u rm inclBody
                  (if cfg.jar = true then st.copier.onResponse r.setCookie else st.copier)).2
                jar := if cfg.jar = true then st.jar.setCookies cur.url.host r.setCookie else st.jar
                copier := if cfg.jar = true then st.copier.onResponse r.setCookie else st.copier }
              { (nextRequest cfg st (sendMutate cfg st.jar cur) r u rm inclBody
                  (if cfg.jar = true then st.copier.onResponse r.setCookie else st.copier)).1 with hdr := hdr }
            refine ⟨_ :: later, ?_, .step (rm := rm) (inclBody := inclBody) (u := u) ?_ hch⟩
            · rw [hs]; simp
            · exact {
                hbeh := hb
                hres := by simpa using hres
                hprev := rfl, hcopier := rfl, hjar := rfl, hstrip := rfl
                hallow := by rw [hc]
                hnext := by rw [hc] }

theorem nextRequest_url (cfg : Config) (st : State) (last : Loop.Req) (r : Reply) (u : Url) (rm : Bytes)
    (ib : Bool) (c : Copier) : (nextRequest cfg st last r u rm ib c).1.url = u := rfl

theorem firstHost_sendMutate (cfg : Config) (j : Jar) (prev : List Loop.Req) (cur : Loop.Req) :
    firstHost prev (sendMutate cfg j cur) = firstHost prev cur := by
  cases prev <;> simp [firstHost]

namespace Step
variable {cfg : Config} {st st' : State} {cur next : Loop.Req} {r : Reply} {rm : Bytes} {ib : Bool} {u : Url}

theorem next_url (hs : Step cfg st cur r rm ib u st' next) : next.url = u := by
  simp [hs.hnext, nextRequest_url]

theorem next_hdr (hs : Step cfg st cur r rm ib u st' next) :
    next.hdr = (checkRedirect cfg.ps (nextRequest cfg st (sendMutate cfg st.jar cur) r u rm ib st'.copier).1
      st.prev (sendMutate cfg st.jar cur)).2 := by
  rw [hs.hnext]

theorem strip_eq (hs : Step cfg st cur r rm ib u st' next) :
    st'.strip = (st.strip || goStrips false (firstHost st.prev cur) u.host) := by
  rw [hs.hstrip]
  simp only [nextRequest, firstHost_sendMutate]
  exact goStrips_split _ _ _

end Step

theorem redirectBehavior_some {m : Bytes} {s : Nat} {c : Bool} {rm : Bytes} {ib : Bool}
    (h : redirectBehavior m s c = some (rm, ib)) :
    rm = (if (s = 301 ∨ s = 302 ∨ s = 303) ∧ m ≠ mGET ∧ m ≠ mHEAD then mGET else m) ∧
      (ib = true → s = 307 ∨ s = 308) := by
  unfold redirectBehavior at h
  by_cases h1 : s = 301 ∨ s = 302 ∨ s = 303
  · simp only [h1, if_true, Option.some.injEq, Prod.mk.injEq] at h
    obtain ⟨rfl, rfl⟩ := h
    by_cases hg : m = mGET <;> by_cases hh : m = mHEAD <;> simp [hg, hh, h1]
  · simp only [h1, if_false] at h
    split at h
    next h2 =>
      split at h
      · simp only [Option.some.injEq, Prod.mk.injEq] at h
        exact ⟨by simp [← h.1, h1], fun _ => h2⟩
      · exact absurd h (by simp)
    next => exact absurd h (by simp)

/-- The map entries a receiver attributes to header `k` (any spelling of the key). `values` and
`wireValues` are both functions of this list. -/
def entriesFor (h : Headers) (k : Bytes) : Headers :=
  h.filter fun e => canonicalMIMEHeaderKey e.1 == canonicalMIMEHeaderKey k

theorem wireValues_entriesFor (h : Headers) (k : Bytes) :
    wireValues h k = (sortEntries (entriesFor h k)).flatMap (·.2) := rfl

theorem values_entriesFor (h : Headers) (k : Bytes) : h.values k = (entriesFor h k).values k := by
  simp only [Headers.values, entriesFor, List.filter_filter]
  congr 1
  refine List.filter_congr fun e _ => ?_
  by_cases he : e.1 = canonicalMIMEHeaderKey k <;> simp [he, canonical_idem]

theorem entriesFor_nil_values {h : Headers} {k : Bytes} (he : entriesFor h k = []) : h.values k = [] := by
  rw [values_entriesFor, he]; rfl

theorem entriesFor_append (a b : Headers) (k : Bytes) :
    entriesFor (a ++ b) k = entriesFor a k ++ entriesFor b k := by
  simp [entriesFor]

theorem entriesFor_hdel_ne (h : Headers) (key k : Bytes)
    (hne : canonicalMIMEHeaderKey key ≠ canonicalMIMEHeaderKey k) :
    entriesFor (hdel h key) k = entriesFor h k := by
  simp only [entriesFor, hdel, List.filter_filter]
  refine List.filter_congr fun e _ => ?_
  by_cases he : e.1 = canonicalMIMEHeaderKey key
  · simp [he, canonical_idem, hne]
  · simp [he]

theorem entriesFor_snoc_ne (h : Headers) (key : Bytes) (vs : List Bytes) (k : Bytes)
    (hne : canonicalMIMEHeaderKey key ≠ canonicalMIMEHeaderKey k) :
    entriesFor (h ++ [(canonicalMIMEHeaderKey key, vs)]) k = entriesFor h k := by
  have : (canonicalMIMEHeaderKey (canonicalMIMEHeaderKey key) == canonicalMIMEHeaderKey k) = false := by
    rw [canonical_idem]; exact beq_eq_false_iff_ne.mpr hne
  simp [entriesFor, List.filter, this]

theorem entriesFor_hset_ne (h : Headers) (key v k : Bytes)
    (hne : canonicalMIMEHeaderKey key ≠ canonicalMIMEHeaderKey k) :
    entriesFor (hset h key v) k = entriesFor h k := by
  rw [hset, entriesFor_snoc_ne _ _ _ _ hne, entriesFor_hdel_ne _ _ _ hne]

theorem entriesFor_add_ne (h : Headers) (key v k : Bytes)
    (hne : canonicalMIMEHeaderKey key ≠ canonicalMIMEHeaderKey k) :
    entriesFor (h.add key v) k = entriesFor h k :=
  entriesFor_snoc_ne _ _ _ _ hne

theorem entriesFor_goCopy (init : Headers) (strip : Bool) (k : Bytes) :
    entriesFor (goCopyHeaders init strip) k =
      if strip = true ∧ isSensitive k = true then [] else entriesFor init k :=
  goCopy_filter init strip k _ fun _ he => isSensitive_of_canon_eq (beq_iff_eq.mp he)

theorem entriesFor_foldl_add_ne (vals : List Bytes) (r : Headers) (h k : Bytes)
    (hne : canonicalMIMEHeaderKey h ≠ canonicalMIMEHeaderKey k) :
    entriesFor (vals.foldl (fun r v => r.add h v) r) k = entriesFor r k := by
  induction vals generalizing r with
  | nil => rfl
  | cons v vs ih => simp only [List.foldl_cons, ih, entriesFor_add_ne _ _ _ _ hne]

theorem entriesFor_copyOne_ne (via0 req : Headers) (h k : Bytes)
    (hne : canonicalMIMEHeaderKey h ≠ canonicalMIMEHeaderKey k) :
    entriesFor (copyOne via0 req h) k = entriesFor req k := by
  unfold copyOne
  split
  · rfl
  · exact entriesFor_foldl_add_ne _ _ _ _ hne

theorem entriesFor_alwaysCopy_ne (l : List Bytes) (req via0 : Headers) (k : Bytes)
    (hne : ∀ x ∈ l, canonicalMIMEHeaderKey x ≠ canonicalMIMEHeaderKey k) :
    entriesFor (alwaysCopyHeaders l req via0) k = entriesFor req k := by
  unfold alwaysCopyHeaders
  induction l generalizing req with
  | nil => rfl
  | cons h t ih =>
    simp only [List.foldl_cons]
    rw [ih _ (fun x hx => hne x (List.mem_cons_of_mem _ hx)),
      entriesFor_copyOne_ne _ _ _ _ (hne h (by simp))]

theorem entriesFor_compose_unlisted (ds : List PolicyDesc) (req : Bytes) (h : Headers) (via : Via)
    (k : Bytes) (hcl : copyListed ds k = false)
    (hal : (compose (ds.map PolicyDesc.denote) req h via).1 = .allow) :
    entriesFor (compose (ds.map PolicyDesc.denote) req h via).2 k = entriesFor h k := by
  induction ds generalizing h with
  | nil => simp [compose]
  | cons d ds ih =>
    obtain ⟨l, he, hl⟩ := compose_cons_denote d ds req h via hal
    rw [hl, Bool.or_eq_false_iff, List.any_eq_false] at hcl
    rw [he] at hal ⊢
    rw [ih _ hcl.2 hal]
    exact entriesFor_alwaysCopy_ne _ _ _ _ fun x hx => by simpa using hcl.1 x hx

theorem canon_hCookie : canonicalMIMEHeaderKey hCookie = hCookie := by decide
theorem canon_hReferer : canonicalMIMEHeaderKey hReferer = hReferer := by decide
theorem hReferer_not_sensitive : isSensitive hReferer = false := by decide

theorem entriesFor_addCookie_ne (h : Headers) (p : Bytes × Bytes) (k : Bytes)
    (hk : canonicalMIMEHeaderKey k ≠ hCookie) : entriesFor (addCookie h p) k = entriesFor h k := by
  have hne : canonicalMIMEHeaderKey hCookie ≠ canonicalMIMEHeaderKey k := by
    rw [canon_hCookie]; exact fun e => hk e.symm
  simp only [addCookie]
  split <;> exact entriesFor_hset_ne _ _ _ _ hne

theorem entriesFor_sendMutate_ne (cfg : Config) (j : Jar) (r : Loop.Req) (k : Bytes)
    (hk : canonicalMIMEHeaderKey k ≠ hCookie) :
    entriesFor (sendMutate cfg j r).hdr k = entriesFor r.hdr k := by
  unfold sendMutate
  split
  · simp only
    generalize (j.cookiesFor r.url.host) = cs
    generalize r.hdr = h
    induction cs generalizing h with
    | nil => rfl
    | cons c cs ih => simp only [List.foldl_cons, ih, entriesFor_addCookie_ne _ _ _ hk]
  · rfl

theorem entriesFor_onResponse_ne (c : Copier) (sc : List (Bytes × Bytes)) (k : Bytes)
    (hk : canonicalMIMEHeaderKey k ≠ hCookie) :
    entriesFor (c.onResponse sc).ihdr k = entriesFor c.ihdr k := by
  have hne : canonicalMIMEHeaderKey hCookie ≠ canonicalMIMEHeaderKey k := by
    rw [canon_hCookie]; exact fun e => hk e.symm
  unfold Copier.onResponse
  split
  · rfl
  · split
    · exact entriesFor_hset_ne _ _ _ _ hne
    · rfl

theorem firstHost_snoc (prev : List Loop.Req) (last next : Loop.Req) :
    firstHost (prev ++ [last]) next = firstHost prev last := by
  cases prev <;> rfl

theorem crossed_cons (h0 t : Bytes) (ts : List Bytes) :
    crossed h0 (t :: ts) = (goStrips false h0 t || crossed h0 ts) := by
  simp [crossed]

theorem entriesFor_nextRequest (cfg : Config) (st : State) (last : Loop.Req) (r : Reply) (u : Url)
    (rm : Bytes) (ib : Bool) (c : Copier) (k : Bytes) (hk : canonicalMIMEHeaderKey k ≠ hReferer) :
    entriesFor (nextRequest cfg st last r u rm ib c).1.hdr k =
      if (nextRequest cfg st last r u rm ib c).2 = true ∧ isSensitive k = true then []
      else entriesFor c.ihdr k := by
  have hne : canonicalMIMEHeaderKey hReferer ≠ canonicalMIMEHeaderKey k := by
    rw [canon_hReferer]; exact fun e => hk e.symm
  simp only [nextRequest]
  split
  · exact entriesFor_goCopy _ _ _
  · rw [entriesFor_hset_ne _ _ _ _ hne]; exact entriesFor_goCopy _ _ _

theorem sensitive_ne_referer {k : Bytes} (h : isSensitive k = true) : canonicalMIMEHeaderKey k ≠ hReferer := by
  intro e
  have : isSensitive k = isSensitive hReferer :=
    isSensitive_of_canon_eq (by rw [e, canon_hReferer])
  rw [hReferer_not_sensitive] at this
  rw [this] at h
  exact absurd h (by simp)

theorem values_of_entriesFor_eq {a b : Headers} {k : Bytes} (h : entriesFor a k = entriesFor b k) :
    a.values k = b.values k := by
  rw [values_entriesFor a, values_entriesFor b, h]

/-- What redirect.go's policies read of `via`: the first host and the length. -/
theorem denote_check_indep (d : PolicyDesc) (p : Policy) (hd : d.denote = some p) (req : Bytes)
    (via via' : Via) (hf : via.first.host = via'.first.host) (hl : via.length = via'.length) :
    p.check req via = p.check req via' := by
  cases d <;> simp only [PolicyDesc.denote, Option.some.injEq, reduceCtorEq] at hd <;> subst hd <;>
    simp [noRedirectPolicy, maxRedirectPolicy, sameHostRedirectPolicy, sameDomainRedirectPolicy,
      allowedHostRedirectPolicy, allowedDomainRedirectPolicy, alwaysCopyHeaderRedirectPolicy, hf, hl]

theorem compose_allow_perm (ds ds' : List PolicyDesc) (hp : ds.Perm ds') (req : Bytes) (h h' : Headers)
    (via via' : Via) (hf : via.first.host = via'.first.host) (hl : via.length = via'.length) :
    (compose (ds.map PolicyDesc.denote) req h via).1 = .allow ↔
      (compose (ds'.map PolicyDesc.denote) req h' via').1 = .allow := by
  rw [compose_allow_iff, compose_allow_iff]
  constructor
  · intro hall p hp'
    obtain ⟨d, hd, hde⟩ := List.mem_map.mp hp'
    have hd' : d ∈ ds := hp.symm.subset hd
    rw [← denote_check_indep d p hde req via via' hf hl]
    exact hall p (List.mem_map.mpr ⟨d, hd', hde⟩)
  · intro hall p hp'
    obtain ⟨d, hd, hde⟩ := List.mem_map.mp hp'
    have hd' : d ∈ ds' := hp.subset hd
    rw [denote_check_indep d p hde req via via' hf hl]
    exact hall p (List.mem_map.mpr ⟨d, hd', hde⟩)

theorem copyListed_perm (ds ds' : List PolicyDesc) (hp : ds.Perm ds') (k : Bytes) :
    copyListed ds k = copyListed ds' k := hp.any_eq

/-- Pointwise relation of two lists of the same length (core Lean has no `Forall₂`). -/
inductive ListRel {α β : Type} (R : α → β → Prop) : List α → List β → Prop where
  | nil : ListRel R [] []
  | cons {a b l l'} : R a b → ListRel R l l' → ListRel R (a :: l) (b :: l')

theorem ListRel.append {α β : Type} {R : α → β → Prop} {a a' : List α} {b b' : List β}
    (h : ListRel R a b) (h' : ListRel R a' b') : ListRel R (a ++ a') (b ++ b') := by
  induction h with
  | nil => exact h'
  | cons hr _ ih => exact .cons hr ih

theorem ListRel.length_eq {α β : Type} {R : α → β → Prop} {a : List α} {b : List β}
    (h : ListRel R a b) : a.length = b.length := by
  induction h with
  | nil => rfl
  | cons _ _ ih => simp [ih]

theorem ListRel.get {α β : Type} {R : α → β → Prop} {a : List α} {b : List β}
    (h : ListRel R a b) (k : Nat) (hk : k < a.length) (hk' : k < b.length) : R a[k] b[k] := by
  induction h generalizing k with
  | nil => simp at hk
  | cons hr _ ih =>
    cases k with
    | zero => exact hr
    | succ k => exact ih k (by simpa using hk) (by simpa using hk')

def HdrEq (a b : Headers) : Prop := ∀ k, a.values k = b.values k

theorem values_hdel (h : Headers) (key k : Bytes) :
    (hdel h key).values k =
      if canonicalMIMEHeaderKey key = canonicalMIMEHeaderKey k then [] else h.values k := by
  simp only [hdel, Headers.values, List.filter_filter]
  split
  next hk => rw [List.filter_eq_nil_iff.mpr fun e _ => by simp [← hk]]; rfl
  next hk =>
    congr 1
    refine List.filter_congr fun e _ => ?_
    by_cases he : e.1 = canonicalMIMEHeaderKey k <;> simp [he, Ne.symm hk]

theorem values_hset (h : Headers) (key v k : Bytes) :
    (hset h key v).values k =
      if canonicalMIMEHeaderKey key = canonicalMIMEHeaderKey k then [v] else h.values k := by
  have happ : (hset h key v).values k =
      (hdel h key).values k ++ Headers.values [(canonicalMIMEHeaderKey key, [v])] k := by
    simp [hset, Headers.values]
  rw [happ, values_hdel]
  by_cases hk : canonicalMIMEHeaderKey key = canonicalMIMEHeaderKey k
  · simp [hk, Headers.values, List.filter]
  · simp [hk, Headers.values, List.filter, beq_eq_false_iff_ne.mpr hk]

theorem hget_hdrEq {a b : Headers} (h : HdrEq a b) (k : Bytes) : hget a k = hget b k := by
  simp [hget, h k]

theorem hset_hdrEq {a b : Headers} (h : HdrEq a b) (key v : Bytes) : HdrEq (hset a key v) (hset b key v) := by
  intro k; rw [values_hset, values_hset, h k]

theorem addCookie_hdrEq {a b : Headers} (h : HdrEq a b) (p : Bytes × Bytes) :
    HdrEq (addCookie a p) (addCookie b p) := by
  simp only [addCookie, hget_hdrEq h]
  split <;> exact hset_hdrEq h _ _

theorem foldl_addCookie_hdrEq (cs : List (Bytes × Bytes)) {a b : Headers} (h : HdrEq a b) :
    HdrEq (cs.foldl addCookie a) (cs.foldl addCookie b) := by
  induction cs generalizing a b with
  | nil => exact h
  | cons c cs ih => exact ih (addCookie_hdrEq h c)

/-- Same request as far as a receiver can tell: everything but the header map literally, the header
map up to values. -/
structure ReqEq (a b : Loop.Req) : Prop where
  url : a.url = b.url
  method : a.method = b.method
  hostField : a.hostField = b.hostField
  body : a.body = b.body
  hdr : HdrEq a.hdr b.hdr

theorem ReqEq.refl (a : Loop.Req) : ReqEq a a := ⟨rfl, rfl, rfl, rfl, fun _ => rfl⟩

theorem sendMutate_reqEq (cfg cfg' : Config) (hj : cfg.jar = cfg'.jar) (j : Jar) {a b : Loop.Req}
    (h : ReqEq a b) : ReqEq (sendMutate cfg j a) (sendMutate cfg' j b) := by
  unfold sendMutate
  rw [← hj]
  split
  · exact ⟨h.url, h.method, h.hostField, h.body, by
      simp only [h.url]; exact foldl_addCookie_hdrEq _ h.hdr⟩
  · exact h

theorem viaOf_first_host (prev : List Loop.Req) (last : Loop.Req) :
    (viaOf prev last).first.host = firstHost prev last := by
  cases prev <;> rfl

theorem viaOf_length (prev : List Loop.Req) (last : Loop.Req) : (viaOf prev last).length = prev.length + 1 := by
  cases prev <;> simp [viaOf, Via.length]

theorem firstHost_reqEq {p p' : List Loop.Req} {l l' : Loop.Req} (hp : ListRel ReqEq p p')
    (hl : ReqEq l l') : firstHost p l = firstHost p' l' := by
  cases hp with
  | nil => simp [firstHost, hl.url]
  | cons h _ => simp [firstHost, h.url]

theorem viaOf_first_values {p p' : List Loop.Req} {l l' : Loop.Req} (hp : ListRel ReqEq p p')
    (hl : ReqEq l l') (k : Bytes) : (viaOf p l).first.hdr.values k = (viaOf p' l').first.hdr.values k := by
  cases hp with
  | nil => simpa [viaOf, Req.toHop] using hl.hdr k
  | cons h _ => simpa [viaOf, Req.toHop] using h.hdr k

/-- Lock-step simulation of the two runs. The states stay related (`ListRel ReqEq` on what was sent,
equal flag, jar and copier) because redirect.go's policies read only the first host and the length of
`via` (`denote_check_indep`), and the two closures leave the same values under every header
(`compose_values`, `copyListed_perm`). -/
theorem run_perm (ds ds' : List PolicyDesc) (hperm : ds.Perm ds') (cfg cfg' : Config)
    (hps : cfg.ps = ds.map PolicyDesc.denote) (hps' : cfg'.ps = ds'.map PolicyDesc.denote)
    (hjar : cfg.jar = cfg'.jar) (hgb : cfg.getBody = cfg'.getBody) (hnb : cfg.noBody = cfg'.noBody)
    (script : List Reply) (st st' : State) (cur cur' : Loop.Req)
    (hprev : ListRel ReqEq st.prev st'.prev) (hstrip : st.strip = st'.strip)
    (hj : st.jar = st'.jar) (hcop : st.copier = st'.copier) (hcur : ReqEq cur cur') :
    ListRel ReqEq (run cfg st cur script).1 (run cfg' st' cur' script).1 := by
  induction script generalizing st st' cur cur' with
  | nil =>
    simp only [run]
    exact ListRel.append hprev (.cons (by rw [hj]; exact sendMutate_reqEq _ _ hjar _ hcur) .nil)
  | cons r rs ih =>
    have hlast : ReqEq (sendMutate cfg st.jar cur) (sendMutate cfg' st'.jar cur') := by
      rw [hj]; exact sendMutate_reqEq _ _ hjar _ hcur
    have hsent : ListRel ReqEq (st.prev ++ [sendMutate cfg st.jar cur])
        (st'.prev ++ [sendMutate cfg' st'.jar cur']) := ListRel.append hprev (.cons hlast .nil)
    unfold run
    simp only
    rw [← hcur.method, ← hgb, ← hnb]
    cases hb : redirectBehavior cur.method r.status (cfg.getBody || cfg.noBody) with
    | none => exact hsent
    | some mb =>
      obtain ⟨rm, inclBody⟩ := mb
      simp only
      by_cases hm : r.loc = .missing
      · simp only [hm, if_true]; exact hsent
      · simp only [hm, if_false]
        rw [← hlast.url]
        cases hres : resolve (sendMutate cfg st.jar cur).url r.loc with
        | none => exact hsent
        | some u =>
          simp only
          rw [← hjar, ← hcop]
          -- the request built for the next hop is literally the same on both sides
          have hnx : nextRequest cfg' st' (sendMutate cfg' st'.jar cur') r u rm inclBody
                (if cfg.jar = true then st.copier.onResponse r.setCookie else st.copier) =
              nextRequest cfg st (sendMutate cfg st.jar cur) r u rm inclBody
                (if cfg.jar = true then st.copier.onResponse r.setCookie else st.copier) := by
            simp only [nextRequest, ← hlast.hostField, ← hlast.url, ← hstrip, ← hgb,
              firstHost_reqEq hprev hlast]
          rw [hnx]
          generalize hN : nextRequest cfg st (sendMutate cfg st.jar cur) r u rm inclBody
            (if cfg.jar = true then st.copier.onResponse r.setCookie else st.copier) = nx
          have hiff := compose_allow_perm ds ds' hperm nx.1.url.host nx.1.hdr nx.1.hdr
            (viaOf st.prev (sendMutate cfg st.jar cur)) (viaOf st'.prev (sendMutate cfg' st'.jar cur'))
            (by rw [viaOf_first_host, viaOf_first_host]; exact firstHost_reqEq hprev hlast)
            (by rw [viaOf_length, viaOf_length, hprev.length_eq])
          simp only [checkRedirect, hps, hps']
          generalize hc : compose (ds.map PolicyDesc.denote) nx.1.url.host nx.1.hdr
            (viaOf st.prev (sendMutate cfg st.jar cur)) = res
          generalize hc' : compose (ds'.map PolicyDesc.denote) nx.1.url.host nx.1.hdr
            (viaOf st'.prev (sendMutate cfg' st'.jar cur')) = res'
          obtain ⟨d, hdr⟩ := res
          obtain ⟨d', hdr'⟩ := res'
          rw [hc, hc'] at hiff
          simp only at hiff
          cases d with
          | allow =>
            have hd' : d' = .allow := hiff.mp rfl
            subst hd'
            simp only
            apply ih
            · exact hsent
            · rfl
            · simp only [hj, hcur.url]
            · rfl
            · refine ⟨rfl, rfl, rfl, rfl, ?_⟩
              intro k
              have h1 := compose_values ds nx.1.url.host nx.1.hdr _ k (by rw [hc])
              have h2 := compose_values ds' nx.1.url.host nx.1.hdr _ k (by rw [hc'])
              rw [hc] at h1; rw [hc'] at h2
              simp only at h1 h2 ⊢
              rw [h1, h2, copyListed_perm ds ds' hperm k, viaOf_first_values hprev hlast k]
          | deny | useLast =>
            cases d' with
            | allow => exact absurd (hiff.mpr rfl) (by simp)
            | _ => exact hsent

theorem entriesFor_hset_same (h : Headers) (key v : Bytes) :
    entriesFor (hset h key v) key =
      (entriesFor h key).filter (fun e => !(e.1 == canonicalMIMEHeaderKey key)) ++
        [(canonicalMIMEHeaderKey key, [v])] := by
  simp only [hset, entriesFor_append]
  congr 1
  · simp only [entriesFor, hdel, List.filter_filter]
    apply List.filter_congr
    intro e _
    exact Bool.and_comm _ _
  · simp [entriesFor, List.filter, canonical_idem]

theorem hget_of_entriesFor_eq {a b : Headers} {k : Bytes} (h : entriesFor a k = entriesFor b k) :
    hget a k = hget b k := by
  simp [hget, values_of_entriesFor_eq h]

theorem foldl_addCookie_entries_congr (cs : List (Bytes × Bytes)) {a b : Headers}
    (h : entriesFor a hCookie = entriesFor b hCookie) :
    entriesFor (cs.foldl addCookie a) hCookie = entriesFor (cs.foldl addCookie b) hCookie := by
  induction cs generalizing a b with
  | nil => exact h
  | cons c cs ih =>
    apply ih
    simp only [addCookie, hget_of_entriesFor_eq h]
    split <;> simp only [entriesFor_hset_same, h]

/-- The jar after the given (request host, Set-Cookie pairs) exchanges, starting empty. -/
def jarAfter (pairs : List (Bytes × List (Bytes × Bytes))) : Jar :=
  pairs.foldl (fun j p => j.setCookies p.1 p.2) []

/-- (request host, Set-Cookie pairs) of consecutive exchanges. -/
def exchanges (reqs : List Loop.Req) (replies : List Reply) : List (Bytes × List (Bytes × Bytes)) :=
  List.zipWith (fun q r => (q.url.host, r.setCookie)) reqs replies

theorem exchanges_head_congr (a b : Loop.Req) (l : List Loop.Req) (rs : List Reply)
    (h : a.url.host = b.url.host) : exchanges (a :: l) rs = exchanges (b :: l) rs := by
  cases rs <;> simp [exchanges, h]

theorem hCookie_sensitive : isSensitive hCookie = true := by decide

namespace Step
variable {cfg : Config} {st st' : State} {cur next : Loop.Req} {r : Reply} {rm : Bytes} {ib : Bool} {u : Url}
  {k : Bytes}

theorem copier_entries (hs : Step cfg st cur r rm ib u st' next) (hck : canonicalMIMEHeaderKey k ≠ hCookie) :
    entriesFor st'.copier.ihdr k = entriesFor st.copier.ihdr k := by
  rw [hs.hcopier]
  split
  · exact entriesFor_onResponse_ne _ _ _ hck
  · rfl

/-- The copier left no such entry, and the closure adds entries under listed keys only. -/
theorem stripped_entries (hs : Step cfg st cur r rm ib u st' next) {ds : List PolicyDesc}
    (hps : cfg.ps = ds.map PolicyDesc.denote) (hsens : isSensitive k = true) (hcl : copyListed ds k = false)
    (hx : st'.strip = true) : entriesFor next.hdr k = [] := by
  have hal := hs.hallow
  rw [hs.next_hdr]
  simp only [checkRedirect, hps] at hal ⊢
  rw [entriesFor_compose_unlisted ds _ _ _ k hcl hal,
    entriesFor_nextRequest _ _ _ _ _ _ _ _ _ (sensitive_ne_referer hsens), ← hs.hstrip, if_pos ⟨hx, hsens⟩]

end Step

/-- The `j`-th followed redirect of a chain: the round it was taken in (state `stj`, request `curj`, reply
`r`) and the state `st'` after it in closed form — what was sent before, the sticky flag as a crossing among
the hosts so far, the jar as the initial jar fed with the exchanges so far, the copier's copy of the
initial headers untouched outside `Cookie`. -/
structure Nth (cfg : Config) (st : State) (cur : Loop.Req) (script : List Reply) (later : List Loop.Req) (j : Nat)
    (stj : State) (curj : Loop.Req) (r : Reply) (st' : State) (next : Loop.Req) : Prop where
  reply : script[j]? = some r
  prev : stj.prev = st.prev ++ (sendMutate cfg st.jar cur :: later).take j
  sentj : (sendMutate cfg st.jar cur :: later)[j]? = some (sendMutate cfg stj.jar curj)
  sent' : later[j]? = some (sendMutate cfg st'.jar next)
  strip : st'.strip = (st.strip || crossed (firstHost st.prev cur) ((later.take (j + 1)).map (·.url.host)))
  jar : cfg.jar = true → st'.jar =
    (exchanges (cur :: later.take j) (script.take (j + 1))).foldl (fun j p => j.setCookies p.1 p.2) st.jar
  copier : ∀ k, canonicalMIMEHeaderKey k ≠ hCookie → entriesFor st'.copier.ihdr k = entriesFor st.copier.ihdr k

theorem chain_nth {cfg : Config} {st : State} {cur : Loop.Req} {rs : List Reply} {later : List Loop.Req}
    (h : Chain cfg st cur rs later) (j : Nat) (hj : j < later.length) :
    ∃ stj curj r rm ib u st' next,
      Step cfg stj curj r rm ib u st' next ∧ Nth cfg st cur rs later j stj curj r st' next := by
  induction h generalizing j with
  | stop => simp at hj
  | @step st cur r rs rm ib u st1 n1 later hs _ ih =>
    cases j with
    | zero =>
      refine ⟨st, cur, r, rm, ib, u, st1, n1, hs, rfl, by simp, rfl, rfl, ?_, fun hjar => ?_,
        fun k hk => hs.copier_entries hk⟩
      · simp [hs.strip_eq, crossed, hs.next_url]
      · simp [hs.hjar, hjar, exchanges]
    | succ j =>
      obtain ⟨stj, curj, r', rm', ib', u', st'', next', hs', h⟩ := ih j (Nat.lt_of_succ_lt_succ hj)
      refine ⟨stj, curj, r', rm', ib', u', st'', next', hs', h.reply, ?_, h.sentj, h.sent', ?_, fun hj => ?_,
        fun k hk => ?_⟩
      · simp [h.prev, hs.hprev]
      · rw [h.strip, hs.hprev, firstHost_snoc, firstHost_sendMutate, hs.strip_eq]
        simp only [List.take_succ_cons, List.map_cons, sendMutate_url, hs.next_url, crossed_cons,
          Bool.or_assoc]
      · rw [h.jar hj, hs.hjar, if_pos hj, List.take_succ_cons, List.take_succ_cons]
        exact congrArg _ (exchanges_head_congr _ _ _ _ (by rw [sendMutate_url]))
      · rw [h.copier k hk, hs.copier_entries hk]

/-- What `CheckRedirect` saw as `via` in that round: everything sent before the new request. -/
theorem Nth.via {cfg : Config} {st : State} {cur : Loop.Req} {script : List Reply} {later : List Loop.Req}
    {j : Nat} {stj : State} {curj : Loop.Req} {r : Reply} {st' : State} {next : Loop.Req}
    (h : Nth cfg st cur script later j stj curj r st' next) :
    viaOf stj.prev (sendMutate cfg stj.jar curj) =
      viaL (st.prev ++ sendMutate cfg st.jar cur :: later.take j) := by
  rw [viaOf_eq, h.prev, List.append_assoc, ← List.take_succ_cons, List.take_add_one, h.sentj]
  rfl

theorem start_nth (cfg : Config) (ireq : Loop.Req) (script : List Reply) :
    ∃ later, (start cfg ireq script).1 = sendMutate cfg [] ireq :: later ∧
      ∀ j, j < later.length → ∃ stj curj r rm ib u st' next,
        Step cfg stj curj r rm ib u st' next ∧
          Nth cfg { copier := Copier.init cfg.jar ireq.hdr } ireq script later j stj curj r st' next := by
  obtain ⟨later, hs, hc⟩ := run_chain cfg script { copier := Copier.init cfg.jar ireq.hdr } ireq
  exact ⟨later, hs, chain_nth hc⟩

theorem start_gated (cfg : Config) (ireq : Loop.Req) (script : List Reply) :
    ∃ later, (start cfg ireq script).1 = sendMutate cfg [] ireq :: later ∧
      ∀ p, some p ∈ cfg.ps → Gated p (sendMutate cfg [] ireq).toHop (later.map Req.toHop) := by
  obtain ⟨later, hs, hn⟩ := start_nth cfg ireq script
  refine ⟨later, hs, fun p hp k hk => ?_⟩
  obtain ⟨stj, curj, r, rm, ib, u, st', next, hst, h⟩ := hn k (by simpa using hk)
  obtain ⟨_, hl⟩ := List.getElem_of_getElem? h.sent'
  have := (compose_allow_iff cfg.ps _ _ _).mp hst.hallow p hp
  rw [h.via, nextRequest_url] at this
  simpa [viaL, Req.toHop, hl, hst.next_url] using this

theorem refuse_all_one_request (cfg : Config) (p : Policy) (hp : some p ∈ cfg.ps)
    (hall : ∀ req via, p.check req via ≠ .allow)
    (ireq : Loop.Req) (script : List Reply) : (start cfg ireq script).1.length = 1 := by
  obtain ⟨later, hs, hg⟩ := start_gated cfg ireq script
  simp [hs, List.map_eq_nil_iff.mp ((hg p hp).nil_of_refuses hall)]

theorem start_same_key {cfg : Config} {p : Policy} (hp : some p ∈ cfg.ps) {key : Bytes → Bytes}
    (hc : ∀ req via, p.check req via = if key req = key via.first.host then .allow else .deny)
    (ireq : Loop.Req) (script : List Reply) (k : Nat) (hk : k < (start cfg ireq script).1.length) :
    key ((start cfg ireq script).1[k]).url.host = key ireq.url.host := by
  obtain ⟨later, hs, hg⟩ := start_gated cfg ireq script
  cases k with
  | zero => simp [hs]
  | succ k =>
    have := hg p hp k (by simpa [hs] using hk)
    rw [hc, ite_allow_iff] at this
    simpa [hs, Req.toHop] using this

theorem upsert_inv {Q : JarEntry → Prop} {j : Jar} {d n v : Bytes} (hj : ∀ e ∈ j, Q e)
    (hnew : Q ⟨d, n, v⟩) : ∀ e ∈ j.upsert d n v, Q e := by
  intro e he
  unfold Jar.upsert at he
  split at he
  · obtain ⟨e0, he0, rfl⟩ := List.mem_map.mp he
    split
    next hc =>
      simp only [Bool.and_eq_true, beq_iff_eq] at hc
      obtain ⟨_, _, _⟩ := e0
      simp only at hc
      rw [hc.1, hc.2]; exact hnew
    next => exact hj e0 he0
  · rcases List.mem_append.mp he with h | h
    · exact hj e h
    · rw [List.mem_singleton.mp h]; exact hnew

theorem setCookies_inv {Q : JarEntry → Prop} {j : Jar} {host : Bytes} {cs : List (Bytes × Bytes)}
    (hj : ∀ e ∈ j, Q e) (hnew : ∀ d, jarCanonicalHost host = some d → ∀ c ∈ cs, Q ⟨d, c.1, c.2⟩) :
    ∀ e ∈ j.setCookies host cs, Q e := by
  unfold Jar.setCookies
  cases hh : jarCanonicalHost host with
  | none => exact hj
  | some d =>
    simp only
    induction cs generalizing j with
    | nil => exact hj
    | cons c cs ih =>
      exact ih (upsert_inv hj (hnew d hh c (by simp))) fun d' hd' c' hc' => hnew d' hd' c' (by simp [hc'])

theorem foldl_setCookies_inv {Q : JarEntry → Prop} (ps : List (Bytes × List (Bytes × Bytes))) {j : Jar}
    (hj : ∀ e ∈ j, Q e)
    (hnew : ∀ p ∈ ps, ∀ d, jarCanonicalHost p.1 = some d → ∀ c ∈ p.2, Q ⟨d, c.1, c.2⟩) :
    ∀ e ∈ ps.foldl (fun j p => j.setCookies p.1 p.2) j, Q e := by
  induction ps generalizing j with
  | nil => exact hj
  | cons p ps ih =>
    exact ih (setCookies_inv hj (hnew p (by simp))) fun q hq => hnew q (by simp [hq])

theorem jarAfter_prov (pairs : List (Bytes × List (Bytes × Bytes))) (e : JarEntry) (he : e ∈ jarAfter pairs) :
    ∃ p ∈ pairs, jarCanonicalHost p.1 = some e.domain ∧ (e.name, e.value) ∈ p.2 :=
  foldl_setCookies_inv
    (Q := fun e => ∃ p ∈ pairs, jarCanonicalHost p.1 = some e.domain ∧ (e.name, e.value) ∈ p.2)
    pairs (by simp) (fun p hp d hd c hc => ⟨p, hp, hd, hc⟩) e he

end Req.Lemmas.C11Loop
