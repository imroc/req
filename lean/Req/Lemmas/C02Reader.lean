import Req.C02.Reader
/-!
Generic refinement argument for pull readers (`io.Reader`).  A relation `Rel s E` says that in
state `s` exactly the bytes `E` are still to be handed out.

`RefinesR` is the weak form: every `Read` hands out a prefix of `E` and leaves a state related to
the rest, and reports EOF only when nothing is left.  Then ANY sequence of read sizes delivers a
prefix of `E`, and exactly `E` when it ends with EOF.  All of that is read off two facts about a
run: while no error was reported the relation holds of what is left (`runReadsR_ok`); a run that
ended is a run up to a related state followed by the one read that reported the error
(`runReadsR_last`).

`ExactR` is what the body readers satisfy: moreover the only error is EOF, it comes in a state
with the final facts `Q`, and a non-empty read lowers a measure.  `ExactR.run` turns it into
`ReadsExactly`: prefix / ends only with EOF after exactly `E` with `Q` / does end.  The readers
whose measure is the number of bytes outstanding are instances through `ExactR.of_read`, from one
statement about a read.  (`BodyExact` in
`Lemmas/C02H1Msg` is `ReadsExactly` written out for the HTTP/1.1 body; the HTTP/2 body reader, whose
reads may block, has its own form in `Lemmas/C02H2`.)
-/
namespace Req.C02
open Req.Proto

variable {σ ε : Type}

theorem outBytes_cons (d : Bytes) (e : Option ε) (rs : List (Bytes × Option ε)) :
    outBytes ((d, e) :: rs) = d ++ outBytes rs := by
  simp [outBytes]

theorem outBytes_nil : outBytes ([] : List (Bytes × Option ε)) = [] := rfl

theorem lastErr_single (d : Bytes) (e : Option ε) : lastErr [(d, e)] = e := rfl

theorem lastErr_cons_ne (x : Bytes × Option ε) (rs : List (Bytes × Option ε)) (h : rs ≠ []) :
    lastErr (x :: rs) = lastErr rs := by
  cases rs with
  | nil => exact absurd rfl h
  | cons y ys => simp [lastErr, List.getLast?_cons_cons]

theorem lastErr_cons_none (d : Bytes) (rs : List (Bytes × Option ε)) :
    lastErr ((d, none) :: rs) = lastErr rs := by
  cases rs with
  | nil => rfl
  | cons y ys => exact lastErr_cons_ne _ _ (List.cons_ne_nil _ _)

theorem lastErr_mem {rs : List (Bytes × Option ε)} {e : ε} (h : lastErr rs = some e) :
    ∃ d, (d, some e) ∈ rs := by
  unfold lastErr at h
  cases hg : rs.getLast? with
  | none => rw [hg] at h; cases h
  | some p => rw [hg] at h; obtain ⟨d, e'⟩ := p; cases h; exact ⟨d, List.mem_of_getLast? hg⟩

variable {read : σ → Nat → (Bytes × Option ε) × σ} {isEof : ε → Prop}

theorem runReads_cons_ok {s s' : σ} {k : Nat} {d : Bytes} (h : read s k = ((d, none), s'))
    (ks : List Nat) : runReads read s (k :: ks) =
      ((d, none) :: (runReads read s' ks).1, (runReads read s' ks).2) := by
  rw [runReads, h]

theorem runReads_cons_err {s s' : σ} {k : Nat} {d : Bytes} {e : ε}
    (h : read s k = ((d, some e), s')) (ks : List Nat) :
    runReads read s (k :: ks) = ([(d, some e)], s') := by
  rw [runReads, h]

/-- Two readers that agree read by read, except that where both fail (with the same data) the errors
are only `R`-related: their runs make the same reads and hand out the same pieces, and only the
error of the last read may differ, within `R`. -/
theorem runReads_rel {σ ε : Type} {f g : σ → Nat → (Bytes × Option ε) × σ} {R : ε → ε → Prop}
    (h : ∀ s k, f s k = g s k ∨
      ((f s k).1.1 = (g s k).1.1 ∧ ∃ e e', (f s k).1.2 = some e ∧ (g s k).1.2 = some e' ∧ R e e'))
    (s : σ) (ks : List Nat) :
    (runReads f s ks).1.map (·.1) = (runReads g s ks).1.map (·.1) ∧
    (lastErr (runReads f s ks).1 = lastErr (runReads g s ks).1 ∨
      ∃ e e', lastErr (runReads f s ks).1 = some e ∧ lastErr (runReads g s ks).1 = some e' ∧ R e e') := by
  induction ks generalizing s with
  | nil => exact ⟨rfl, Or.inl rfl⟩
  | cons k ks ih =>
    rcases h s k with h | ⟨hd, e, e', he, he', hr⟩
    · rcases hg : g s k with ⟨⟨d, _ | e⟩, s'⟩
      · rw [runReads_cons_ok (h.trans hg), runReads_cons_ok hg, lastErr_cons_none, lastErr_cons_none]
        exact ⟨by simp [(ih s').1], (ih s').2⟩
      · rw [runReads_cons_err (h.trans hg), runReads_cons_err hg]; exact ⟨rfl, Or.inl rfl⟩
    · rcases hf : f s k with ⟨⟨da, ea⟩, sa⟩
      rcases hg : g s k with ⟨⟨db, eb⟩, sb⟩
      rw [hf, hg] at hd; rw [hf] at he; rw [hg] at he'
      simp only at hd he he'
      subst hd he he'
      rw [runReads_cons_err hf, runReads_cons_err hg]
      exact ⟨rfl, Or.inr ⟨e, e', rfl, rfl, hr⟩⟩

structure RefinesR (read : σ → Nat → (Bytes × Option ε) × σ) (Rel : σ → Bytes → Prop)
    (isEof : ε → Prop) : Prop where
  step_ok : ∀ s E k d s', Rel s E → read s k = ((d, none), s') → ∃ E', E = d ++ E' ∧ Rel s' E'
  step_end : ∀ s E k d e s', Rel s E → read s k = ((d, some e), s') →
    (∃ t, E = d ++ t) ∧ (isEof e → E = d)

variable {Rel : σ → Bytes → Prop}

theorem runReadsR_ok (R : RefinesR read Rel isEof) (ks : List Nat) (s : σ) (E : Bytes) (h : Rel s E)
    (hok : lastErr (runReads read s ks).1 = none) :
    ∃ E', E = outBytes (runReads read s ks).1 ++ E' ∧ Rel (runReads read s ks).2 E' := by
  induction ks generalizing s E with
  | nil => exact ⟨E, rfl, h⟩
  | cons k ks ih =>
    rcases hr : read s k with ⟨⟨d, _ | e⟩, s'⟩
    · rw [runReads_cons_ok hr] at hok ⊢
      obtain ⟨E₁, he, hi⟩ := R.step_ok s E k d s' h hr
      obtain ⟨E', hs, hi'⟩ := ih s' E₁ hi (by rwa [lastErr_cons_none] at hok)
      exact ⟨E', by rw [outBytes_cons, he, hs, List.append_assoc], hi'⟩
    · rw [runReads_cons_err hr] at hok
      cases hok

theorem runReadsR_last (R : RefinesR read Rel isEof) (ks : List Nat) (s : σ) (E : Bytes) (h : Rel s E)
    (e : ε) (he : lastErr (runReads read s ks).1 = some e) :
    ∃ s₀ E₀ k d pre, Rel s₀ E₀ ∧ read s₀ k = ((d, some e), (runReads read s ks).2) ∧
      E = pre ++ E₀ ∧ outBytes (runReads read s ks).1 = pre ++ d := by
  induction ks generalizing s E with
  | nil => cases he
  | cons k ks ih =>
    rcases hr : read s k with ⟨⟨d, _ | e'⟩, s'⟩
    · rw [runReads_cons_ok hr] at he ⊢
      obtain ⟨E₁, hE, hi⟩ := R.step_ok s E k d s' h hr
      obtain ⟨s₀, E₀, k₀, d₀, pre, h₀, hr₀, hp, ho⟩ := ih s' E₁ hi (by rwa [lastErr_cons_none] at he)
      exact ⟨s₀, E₀, k₀, d₀, d ++ pre, h₀, hr₀, by rw [hE, hp, List.append_assoc],
        by rw [outBytes_cons, ho, List.append_assoc]⟩
    · rw [runReads_cons_err hr] at he ⊢
      cases he
      exact ⟨s, E, k, d, [], h, hr, rfl, by simp [outBytes]⟩

theorem runReadsR_prefix (R : RefinesR read Rel isEof) (ks : List Nat) (s : σ) (E : Bytes) (h : Rel s E) :
    ∃ t, E = outBytes (runReads read s ks).1 ++ t := by
  cases he : lastErr (runReads read s ks).1 with
  | none => obtain ⟨E', hE, _⟩ := runReadsR_ok R ks s E h he; exact ⟨E', hE⟩
  | some e =>
    obtain ⟨s₀, E₀, k, d, pre, h₀, hr, hp, ho⟩ := runReadsR_last R ks s E h e he
    obtain ⟨⟨t, ht⟩, _⟩ := R.step_end _ _ _ _ _ _ h₀ hr
    exact ⟨t, by rw [ho, hp, ht, List.append_assoc]⟩

theorem runReadsR_eof (R : RefinesR read Rel isEof) (ks : List Nat) (s : σ) (E : Bytes) (h : Rel s E)
    (e : ε) (he : lastErr (runReads read s ks).1 = some e) (heof : isEof e) :
    outBytes (runReads read s ks).1 = E := by
  obtain ⟨s₀, E₀, k, d, pre, h₀, hr, hp, ho⟩ := runReadsR_last R ks s E h e he
  rw [ho, hp, (R.step_end _ _ _ _ _ _ h₀ hr).2 heof]

theorem runReadsR_lastErr (R : RefinesR read Rel isEof) (Q : ε → Prop)
    (hQ : ∀ s E k d e s', Rel s E → read s k = ((d, some e), s') → Q e)
    (ks : List Nat) (s : σ) (E : Bytes) (h : Rel s E) (e : ε)
    (he : lastErr (runReads read s ks).1 = some e) : Q e := by
  obtain ⟨s₀, E₀, k, d, _, h₀, hr, _⟩ := runReadsR_last R ks s E h e he
  exact hQ _ _ _ _ _ _ h₀ hr

theorem runReadsR_exact {eof : ε} (R : RefinesR read Rel (· = eof)) (Q : σ → Prop)
    (hQ : ∀ s E k d e s', Rel s E → read s k = ((d, some e), s') → e = eof ∧ Q s')
    (ks : List Nat) (s : σ) (E : Bytes) (h : Rel s E) :
    (∃ u, E = outBytes (runReads read s ks).1 ++ u) ∧
    ∀ e, lastErr (runReads read s ks).1 = some e →
      e = eof ∧ outBytes (runReads read s ks).1 = E ∧ Q (runReads read s ks).2 := by
  refine ⟨runReadsR_prefix R ks s E h, fun e he => ?_⟩
  obtain ⟨s₀, E₀, k, d, _, h₀, hr, _⟩ := runReadsR_last R ks s E h e he
  obtain ⟨rfl, hq⟩ := hQ _ _ _ _ _ _ h₀ hr
  exact ⟨rfl, runReadsR_eof R ks s E h _ he rfl, hq⟩

/-- A reader that hands out exactly `E`: a read without error hands out a prefix of `E`, leaves a
state related to the rest and, if it asked for bytes, lowers the measure `μ`; the only error is
`eof`, reported together with the last bytes, in a state with `Q` (trailers stored, the connection
reader standing behind the body, …). -/
structure ExactR (read : σ → Nat → (Bytes × Option ε) × σ) (Rel : σ → Bytes → Prop) (eof : ε)
    (Q : σ → Prop) (μ : σ → Bytes → Nat) : Prop where
  ok : ∀ {s E k d s'}, Rel s E → read s k = ((d, none), s') →
    ∃ E', E = d ++ E' ∧ Rel s' E' ∧ (0 < k → μ s' E' < μ s E)
  fin : ∀ {s E k d e s'}, Rel s E → read s k = ((d, some e), s') → e = eof ∧ E = d ∧ Q s'

/-- For EVERY sequence of read sizes the bytes handed out from `s` are a prefix of `E`; a run that
ends with an error ends with `eof`, after exactly `E`, in a state with `Q`; with positive read
sizes, more than `n` reads do end. -/
def ReadsExactly (read : σ → Nat → (Bytes × Option ε) × σ) (s : σ) (E : Bytes) (eof : ε)
    (Q : σ → Prop) (n : Nat) : Prop :=
  ∀ ks : List Nat,
    (∃ u, E = outBytes (runReads read s ks).1 ++ u) ∧
    (∀ e, lastErr (runReads read s ks).1 = some e →
      e = eof ∧ outBytes (runReads read s ks).1 = E ∧ Q (runReads read s ks).2) ∧
    ((∀ k ∈ ks, 0 < k) → n < ks.length → ∃ e, lastErr (runReads read s ks).1 = some e)

variable {eof : ε} {Q : σ → Prop} {μ : σ → Bytes → Nat}

theorem ExactR.toR (X : ExactR read Rel eof Q μ) : RefinesR read Rel (· = eof) where
  step_ok := fun _ _ _ _ _ h hr => let ⟨E', hE, hrel, _⟩ := X.ok h hr; ⟨E', hE, hrel⟩
  step_end := fun _ _ _ _ _ _ h hr =>
    let ⟨_, hE, _⟩ := X.fin h hr; ⟨⟨[], by rw [hE, List.append_nil]⟩, fun _ => hE⟩

/-- Every non-empty read without error lowers `μ`, so more than `μ s E` of them report the end. -/
theorem ExactR.terminates (X : ExactR read Rel eof Q μ) (ks : List Nat) (s : σ) (E : Bytes) (h : Rel s E)
    (hpos : ∀ k ∈ ks, 0 < k) (hlen : μ s E < ks.length) :
    ∃ e, lastErr (runReads read s ks).1 = some e := by
  induction ks generalizing s E with
  | nil => cases hlen
  | cons k ks ih =>
    rcases hr : read s k with ⟨⟨d, _ | e'⟩, s'⟩
    · rw [runReads_cons_ok hr, lastErr_cons_none]
      obtain ⟨E', _, hi, hlt⟩ := X.ok h hr
      have := hlt (hpos k List.mem_cons_self)
      exact ih s' E' hi (fun k hk => hpos k (List.mem_cons_of_mem _ hk))
        (by rw [List.length_cons] at hlen; omega)
    · exact ⟨e', by rw [runReads_cons_err hr]; rfl⟩

theorem ExactR.run (X : ExactR read Rel eof Q μ) {s : σ} {E : Bytes} (h : Rel s E) :
    ReadsExactly read s E eof Q (μ s E) := fun ks =>
  let ⟨hpre, hend⟩ := runReadsR_exact X.toR Q
    (fun _ _ _ _ _ _ h hr => ⟨(X.fin h hr).1, (X.fin h hr).2.2⟩) ks s E h
  ⟨hpre, hend, X.terminates ks s E h⟩

/-- Where a run stands at any moment: what is still outstanding, in a related state or, once the
error was reported, nothing, in a state with `Q`. -/
theorem ExactR.at (X : ExactR read Rel eof Q μ) {s : σ} {E : Bytes} (h : Rel s E) (ks : List Nat) :
    ∃ E', E = outBytes (runReads read s ks).1 ++ E' ∧
      (Rel (runReads read s ks).2 E' ∨ (E' = [] ∧ Q (runReads read s ks).2)) := by
  cases he : lastErr (runReads read s ks).1 with
  | none => obtain ⟨E', hE, hr⟩ := runReadsR_ok X.toR ks s E h he; exact ⟨E', hE, .inl hr⟩
  | some e =>
    obtain ⟨_, ho, hq⟩ := (X.run h ks).2.1 e he
    exact ⟨[], by rw [ho, List.append_nil], .inr ⟨rfl, hq⟩⟩

/-- A complete read: positive sizes, more than `n` of them. -/
theorem ReadsExactly.complete {s : σ} {E : Bytes} {n : Nat} (h : ReadsExactly read s E eof Q n)
    (ks : List Nat) (hpos : ∀ k ∈ ks, 0 < k) (hlen : n < ks.length) :
    outBytes (runReads read s ks).1 = E ∧ lastErr (runReads read s ks).1 = some eof ∧
      Q (runReads read s ks).2 := by
  obtain ⟨e, he⟩ := (h ks).2.2 hpos hlen
  obtain ⟨rfl, h1, h2⟩ := (h ks).2.1 e he
  exact ⟨h1, he, h2⟩

/-- `ExactR` with the measure "bytes outstanding" from ONE statement about a read, whatever error
it reports: progress then means that a read which asked for bytes and reported no error returned
some. -/
theorem ExactR.of_read
    (h : ∀ {s E k d e s'}, Rel s E → read s k = ((d, e), s') →
      (e = none → ∃ E', E = d ++ E' ∧ Rel s' E' ∧ (0 < k → d ≠ [])) ∧
      (∀ x, e = some x → x = eof ∧ E = d ∧ Q s')) :
    ExactR read Rel eof Q (fun _ E => E.length) where
  ok hr h' :=
    let ⟨E', hE, hrel, hp⟩ := (h hr h').1 rfl
    ⟨E', hE, hrel, fun hk => by
      have := List.length_pos_iff.mpr (hp hk)
      rw [hE, List.length_append]; omega⟩
  fin hr h' := (h hr h').2 _ rfl

end Req.C02
