/-! Walking the `if`-tree of a definition without `split` (nested `split`s cost exponentially in the
depth): what holds of both branches of an `if` holds of the `if`. One application per `if` of the
definition, the leaves in the order of the text. -/
namespace Req.Lemmas

theorem ite_ind {α : Sort _} (P : α → Prop) {c : Prop} [Decidable c] {a b : α}
    (ha : P a) (hb : P b) : P (if c then a else b) :=
  iteInduction (fun _ => ha) (fun _ => hb)

end Req.Lemmas
