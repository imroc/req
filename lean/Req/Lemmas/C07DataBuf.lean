import Req.C07.DataBuf
import Req.Lemmas.IfTree
/-! The HTTP/2 receive buffer model (`Req.C07.DataBuf`): the invariant `Inv` of its reachable states,
what one iteration of `Write` / `Read` does to it, and the memory bounds read off it (`inv_budget`). -/
namespace Req.C07.DataBuf

def firstCap : List Nat → Nat
  | [] => 0
  | c :: _ => c

theorem total_append (l : List Nat) (c : Nat) : total (l ++ [c]) = total l + c := by
  induction l with
  | nil => simp [total]
  | cons a r ih => simp [total, ih]; omega

theorem lastCap_append (l : List Nat) (c : Nat) : lastCap (l ++ [c]) = c := by
  induction l with
  | nil => simp [lastCap]
  | cons a r ih =>
    cases r with
    | nil => simp [lastCap]
    | cons a2 r2 => simpa [lastCap] using ih

theorem firstCap_append (l : List Nat) (c : Nat) (h : l ≠ []) : firstCap (l ++ [c]) = firstCap l := by
  cases l with
  | nil => exact absurd rfl h
  | cons a r => simp [firstCap]

theorem lastCap_le_total (l : List Nat) : lastCap l ≤ total l := by
  induction l with
  | nil => simp [lastCap, total]
  | cons a r ih =>
    cases r with
    | nil => simp [lastCap, total]
    | cons a2 r2 => simp only [lastCap, total] at ih ⊢; omega

theorem lastCap_bound (l : List Nat) (M : Nat) (h : ∀ c ∈ l, 0 < c ∧ c ≤ M) : lastCap l ≤ M := by
  induction l with
  | nil => simp [lastCap]
  | cons a r ih =>
    cases r with
    | nil => simpa [lastCap] using (h a (by simp)).2
    | cons a2 r2 =>
      simp only [lastCap]
      exact ih (fun c hc => h c (List.mem_cons_of_mem _ hc))

open Req.Lemmas in
theorem chunkClass_bounds (want : Int) : 0 < chunkClass want ∧ chunkClass want ≤ maxChunk := by
  let P (c : Nat) := 0 < c ∧ c ≤ maxChunk
  exact ite_ind P (by decide) <| ite_ind P (by decide) <| ite_ind P (by decide) <|
    ite_ind P (by decide) (by decide)

/-- What holds in every reachable state. `r` is the read offset into the first chunk, `w` the write
offset into the last: the chunks hold the `size` unread bytes between the two, the read prefix of
the first and the unwritten tail of the last (`full`); `recv` counts every byte ever written. -/
structure Inv (b : Buf) : Prop where
  caps : ∀ c ∈ b.chunks, 0 < c ∧ c ≤ maxChunk
  recv : b.r + b.size ≤ b.recv
  empty : b.chunks = [] → b.size = 0 ∧ b.r = 0
  full : b.chunks ≠ [] →
    total b.chunks + b.w = b.r + b.size + lastCap b.chunks ∧ b.w ≤ lastCap b.chunks ∧ b.r < firstCap b.chunks

theorem Inv.of_ne {b : Buf} (hne : b.chunks ≠ []) (caps : ∀ c ∈ b.chunks, 0 < c ∧ c ≤ maxChunk)
    (h : b.r + b.size ≤ b.recv ∧ total b.chunks + b.w = b.r + b.size + lastCap b.chunks ∧
      b.w ≤ lastCap b.chunks ∧ b.r < firstCap b.chunks) : Inv b :=
  ⟨caps, h.1, fun he => absurd he hne, fun _ => h.2⟩

theorem inv_init (e : Int) : Inv { expected := e } :=
  ⟨by simp, by simp, by simp, by simp⟩

theorem ensure_spec (b : Buf) (want : Int) (h : Inv b) :
    Inv (b.ensure want) ∧ (b.ensure want).chunks ≠ [] ∧
    (b.ensure want).w < lastCap (b.ensure want).chunks ∧
    (b.ensure want).size = b.size ∧ (b.ensure want).r = b.r ∧ (b.ensure want).recv = b.recv := by
  unfold Buf.ensure
  split
  · rename_i hc; exact ⟨h, hc.1, hc.2, rfl, rfl, rfl⟩
  · rename_i hc
    obtain ⟨hp, hl⟩ := chunkClass_bounds want
    refine ⟨⟨?_, h.recv, ?_, ?_⟩, by simp, by simpa [lastCap_append] using hp, rfl, rfl, rfl⟩
    · intro c hc'
      simp only [List.mem_append, List.mem_singleton] at hc'
      rcases hc' with hc' | hc'
      · exact h.caps c hc'
      · subst hc'; exact ⟨hp, hl⟩
    · intro he; simp at he
    · intro _
      simp only [total_append, lastCap_append]
      by_cases hne : b.chunks = []
      · have := h.empty hne
        simp [hne, total, firstCap]; omega
      · have hf := h.full hne
        have hw : ¬ b.w < lastCap b.chunks := fun hw => hc ⟨hne, hw⟩
        rw [firstCap_append _ _ hne]
        omega

theorem writeStep_spec (b : Buf) (n : Nat) (hn : 0 < n) (h : Inv b) :
    Inv (b.writeStep n).1 ∧ 0 < (b.writeStep n).2 ∧ (b.writeStep n).2 ≤ n ∧
    (b.writeStep n).1.size = b.size + (b.writeStep n).2 ∧
    (b.writeStep n).1.recv = b.recv + (b.writeStep n).2 := by
  simp only [Buf.writeStep]
  generalize (if b.expected > (n : Int) then b.expected else (n : Int)) = want
  obtain ⟨hi, hne, hroom, hs, hr, hrc⟩ := ensure_spec b want h
  generalize b.ensure want = b1 at *
  have hf := hi.full hne
  have hrecv := hi.recv
  have hk : 0 < min (lastCap b1.chunks - b1.w) n ∧ min (lastCap b1.chunks - b1.w) n ≤ n ∧
      b1.w + min (lastCap b1.chunks - b1.w) n ≤ lastCap b1.chunks :=
    ⟨Nat.lt_min.2 ⟨Nat.sub_pos_of_lt hroom, hn⟩, Nat.min_le_right _ _,
      Nat.add_le_of_le_sub' (Nat.le_of_lt hroom) (Nat.min_le_left _ _)⟩
  generalize min (lastCap b1.chunks - b1.w) n = k at *
  refine ⟨.of_ne hne hi.caps ?_, hk.1, hk.2.1, by rw [hs], by rw [hrc]⟩
  simp only
  omega

theorem readStep_spec (b : Buf) (n : Nat) (hn : 0 < n) (hsz : 0 < b.size) (h : Inv b) :
    Inv (b.readStep n).1 ∧ 0 < (b.readStep n).2 ∧ (b.readStep n).2 ≤ n ∧
    (b.readStep n).1.size + (b.readStep n).2 = b.size ∧ (b.readStep n).1.recv = b.recv := by
  unfold Buf.readStep
  cases hc : b.chunks with
  | nil => have := (h.empty hc).1; omega
  | cons c rest =>
    have hf := h.full (by rw [hc]; nofun)
    have hcaps := h.caps
    have hrecv := h.recv
    rw [hc] at hf hcaps
    simp only
    generalize hk : min (if rest = [] then b.w - b.r else c - b.r) n = k
    -- the bytes copied: at least one, no more than asked for, than are buffered, than the chunk holds
    have hk' : 0 < k ∧ k ≤ n ∧ k ≤ b.size ∧ b.r + k ≤ c := by
      cases rest with
      | nil => simp only [total, lastCap, firstCap, if_true] at hf hk; omega
      | cons c2 r2 =>
        have hlt := lastCap_le_total (c2 :: r2)
        simp only [total, lastCap, firstCap, reduceCtorEq, if_false] at hf hlt hk
        omega
    clear hk
    by_cases hpop : b.r + k = c
    · -- the first chunk is read to its end and dropped
      rw [if_pos hpop]
      cases rest with
      | nil =>
        simp only [total, lastCap, firstCap] at hf
        refine ⟨⟨nofun, ?_, fun _ => ⟨?_, rfl⟩, nofun⟩, hk'.1, hk'.2.1, Nat.sub_add_cancel hk'.2.2.1, rfl⟩
        all_goals simp only; omega
      | cons c2 r2 =>
        have hc2 := (hcaps c2 (by simp)).1
        simp only [total, lastCap, firstCap] at hf
        refine ⟨.of_ne nofun (fun x hx => hcaps x (List.mem_cons_of_mem _ hx)) ?_, hk'.1, hk'.2.1,
          Nat.sub_add_cancel hk'.2.2.1, rfl⟩
        simp only [total, firstCap]
        omega
    · rw [if_neg hpop]
      refine ⟨.of_ne nofun hcaps ?_, hk'.1, hk'.2.1, Nat.sub_add_cancel hk'.2.2.1, rfl⟩
      simp only [firstCap] at hf ⊢
      omega

theorem step_inv (b : Buf) (e : Ev) (h : Inv b) : Inv (step b e) := by
  cases e with
  | wstep n =>
    simp only [step]
    split
    · exact h
    · exact (writeStep_spec b n (by omega) h).1
  | rstep n =>
    simp only [step]
    split
    · exact h
    · rename_i hh
      exact (readStep_spec b n (by omega) (by omega) h).1

theorem run_inv (b : Buf) (es : List Ev) (h : Inv b) : Inv (run b es) :=
  List.foldlRecOn es step h fun b hb e _ => step_inv b e hb

theorem inv_budget (b : Buf) (h : Inv b) :
    b.held ≤ b.recv + maxChunk ∧ b.held ≤ b.size + 2 * maxChunk := by
  unfold Buf.held
  by_cases hne : b.chunks = []
  · simp [hne, total]
  · have hf := h.full hne
    have hl := lastCap_bound b.chunks maxChunk h.caps
    have hr := h.recv
    have hfc : firstCap b.chunks ≤ maxChunk := by
      cases hc : b.chunks with
      | nil => exact absurd hc hne
      | cons c r => simpa [firstCap] using (h.caps c (by simp [hc])).2
    omega

theorem write_spec (fuel n : Nat) (b : Buf) (h : Inv b) (hf : n ≤ fuel) :
    Inv (Buf.write fuel b n) ∧ (Buf.write fuel b n).size = b.size + n ∧
    (Buf.write fuel b n).recv = b.recv + n := by
  induction fuel generalizing b n with
  | zero =>
    have : n = 0 := by omega
    subst this; simp [Buf.write, h]
  | succ fuel ih =>
    cases n with
    | zero => simp [Buf.write, h]
    | succ n =>
      simp only [Buf.write]
      obtain ⟨hi, hpos, hle, hs, hr⟩ := writeStep_spec b (n + 1) (Nat.succ_pos n) h
      generalize b.writeStep (n + 1) = p at *
      obtain ⟨hi2, hs2, hr2⟩ := ih (n + 1 - p.2) p.1 hi (by omega)
      exact ⟨hi2, by omega, by omega⟩

end Req.C07.DataBuf
