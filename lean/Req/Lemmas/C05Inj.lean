import Req.Lemmas.C05H2
/-!
Lemmas for `write_injective` (Req.Props.C05Inj): the header bytes determine length, type, flags and
stream (`wire_inj`), and the frame the reader returns for a write operation determines the operation
(`frame_inj`), so the canonical encoding follows from the round trip `parsePayload_wf`.
-/
namespace Req.Lemmas.C05.Inj
open Req.Proto Req.H2.Frame Req.Lemmas.C05.H2

attribute [local simp] tData tHeaders tPriority tRSTStream tSettings tPushPromise tPing tGoAway
  tWindowUpdate tContinuation flagEndStream flagAck flagEndHeaders flagPadded flagPriority two24 two31

theorem wire_inj (l t f s l' t' f' s' : Nat) (p p' : Bytes)
    (hl : l < two24) (ht : t < 256) (hf : f < 256) (hs : s < two31)
    (hl' : l' < two24) (ht' : t' < 256) (hf' : f' < 256) (hs' : s' < two31)
    (h : headerBytes l t f s ++ p = headerBytes l' t' f' s' ++ p') :
    l = l' ∧ t = t' ∧ f = f' ∧ s = s' ∧ p = p' := by
  have h1 := frameHeader_roundtrip l t f s p hl ht hf hs
  have h2 := frameHeader_roundtrip l' t' f' s' p' hl' ht' hf' hs'
  rw [h] at h1
  rw [h1] at h2
  simp only [Option.some.injEq, Prod.mk.injEq, FrameHeader.mk.injEq] at h2
  obtain ⟨⟨a, b, c, d⟩, e⟩ := h2
  exact ⟨a, b, c, d, e⟩

theorem zeros_eq (p q : Bytes) (hp : p.all (· == 0) = true) (hq : q.all (· == 0) = true)
    (hl : p.length = q.length) : p = q := by
  induction p generalizing q with
  | nil => cases q <;> simp_all
  | cons x xs ih =>
    cases q with
    | nil => simp at hl
    | cons y ys =>
      simp only [List.all_cons, Bool.and_eq_true, beq_iff_eq] at hp hq
      simp only [List.length_cons, Nat.add_right_cancel_iff] at hl
      rw [hp.1, hq.1, ih ys hp.2 hq.2 hl]

theorem b2n_flags2 (a b a' b' : Bool) (x y : Nat) (hx : 0 < x) (hxy : x < y)
    (h : b2n a x + b2n b y = b2n a' x + b2n b' y) : a = a' ∧ b = b' := by
  cases a <;> cases b <;> cases a' <;> cases b' <;> simp [b2n] at h ⊢ <;> omega

theorem b2n_inj {a b : Bool} {x : Nat} (hx : 0 < x) (h : b2n a x = b2n b x) : a = b := by
  cases a <;> cases b <;> simp [b2n] at h ⊢ <;> omega

/-- The frame a reader must return determines the write operation: every argument is a field of the
frame, a bit of its flags, or — the padding — fixed by the payload length and all zero. -/
theorem frame_inj (a b : WOp) (ha : a.Wf) (hb : b.Wf) (h : a.frame = b.frame) : a = b := by
  -- two different `Frame` constructors, except SETTINGS / SETTINGS ACK: those differ in the flags
  cases a <;> cases b <;> (try exact Frame.noConfusion h) <;>
    simp only [WOp.frame, Frame.data.injEq, Frame.headers.injEq, Frame.priority.injEq,
      Frame.rstStream.injEq, Frame.settings.injEq, Frame.pushPromise.injEq, Frame.ping.injEq,
      Frame.goAway.injEq, Frame.windowUpdate.injEq, Frame.continuation.injEq, Frame.unknown.injEq,
      FrameHeader.mk.injEq] at h
  case data.data sid es d pad sid' es' d' pad' =>
    obtain ⟨⟨hl, -, hf, rfl⟩, rfl⟩ := h
    simp only [WOp.flags] at hf
    obtain ⟨rfl, e2⟩ := b2n_flags2 _ _ _ _ flagEndStream flagPadded (by decide) (by decide) hf
    cases pad <;> cases pad' <;> simp at e2
    · rfl
    · rename_i q q'
      simp [WOp.payload] at hl
      rw [zeros_eq q q' ha.2.2.1 hb.2.2.1 hl]; rfl
  case headers.headers p q =>
    obtain ⟨⟨hl, -, hf, hs⟩, hpr, hfr⟩ := h
    simp only [WOp.payload, WOp.flags, WOp.sid] at hl hf hs
    have a := headersFlags_bits p
    have b := headersFlags_bits q
    have f1 := a.padded.symm.trans (hf ▸ b.padded)
    have f2 := a.endStream.symm.trans (hf ▸ b.endStream)
    have f3 := a.endHeaders.symm.trans (hf ▸ b.endHeaders)
    rw [headersPayload_length, headersPayload_length, f1, hpr, hfr] at hl
    obtain ⟨sid, frag, es, eh, pl, pr⟩ := p
    obtain ⟨sid', frag', es', eh', pl', pr'⟩ := q
    simp only at hs hpr hfr f2 f3 hl
    subst hs hpr hfr f2 f3
    rw [show pl = pl' by omega]
  case priority.priority sid p sid' p' =>
    obtain ⟨⟨-, -, -, hs⟩, rfl⟩ := h
    cases (show sid = sid' from hs); rfl
  case rstStream.rstStream sid c sid' c' =>
    obtain ⟨⟨-, -, -, hs⟩, rfl⟩ := h
    cases (show sid = sid' from hs); rfl
  case settings.settings ss ss' => rw [h.2]
  case settings.settingsAck => exact absurd h.1.2.2.1 (by simp [WOp.flags])
  case settingsAck.settings => exact absurd h.1.2.2.1 (by simp [WOp.flags])
  case settingsAck.settingsAck => rfl
  case pushPromise.pushPromise p q =>
    obtain ⟨⟨hl, -, hf, hs⟩, hid, hfr⟩ := h
    simp only [WOp.payload, WOp.flags, WOp.sid] at hl hf hs
    have a := pushPromiseFlags_bits p
    have b := pushPromiseFlags_bits q
    have f1 := a.padded.symm.trans (hf ▸ b.padded)
    have f3 := a.endHeaders.symm.trans (hf ▸ b.endHeaders)
    rw [pushPromisePayload_length, pushPromisePayload_length, f1, hfr] at hl
    obtain ⟨sid, pid, frag, eh, pl⟩ := p
    obtain ⟨sid', pid', frag', eh', pl'⟩ := q
    simp only at hs hid hfr f3 hl
    subst hs hid hfr f3
    rw [show pl = pl' by omega]
  case ping.ping ack d ack' d' =>
    obtain ⟨⟨-, -, hf, -⟩, rfl⟩ := h
    rw [b2n_inj (by decide) (show b2n ack flagAck = b2n ack' flagAck from hf)]
  case goAway.goAway m c d m' c' d' =>
    -- the last-stream-id is written masked; `Wf` asks for the masked value
    obtain ⟨-, hm, rfl, rfl⟩ := h
    rw [Nat.mod_eq_of_lt ha.1, Nat.mod_eq_of_lt hb.1] at hm
    rw [hm]
  case windowUpdate.windowUpdate sid i sid' i' =>
    obtain ⟨⟨-, -, -, hs⟩, rfl⟩ := h
    cases (show sid = sid' from hs); rfl
  case continuation.continuation sid eh f sid' eh' f' =>
    obtain ⟨⟨-, -, hf, hs⟩, rfl⟩ := h
    cases (show sid = sid' from hs)
    rw [b2n_inj (by decide) (show b2n eh flagEndHeaders = b2n eh' flagEndHeaders from hf)]
  case raw.raw t fl sid p t' fl' sid' p' =>
    obtain ⟨⟨-, ht, hf, hs⟩, rfl⟩ := h
    cases (show t = t' from ht); cases (show fl = fl' from hf); cases (show sid = sid' from hs); rfl

end Req.Lemmas.C05.Inj
