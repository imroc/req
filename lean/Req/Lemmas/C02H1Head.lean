import Req.Lemmas.C02H1Map
import Req.Lemmas.C02Head
import Req.Lemmas.H1Line
/-!
C02 — what `ReadMIMEHeader` in the byte-exact HTTP/1.1 head reader of `Req.H1` (C04's model of
`persistConn._readResponse`) makes of the field block the ORIGIN wrote: field lines
`name ":" OWS value OWS CRLF` (`WField`, any optional white space, token names of any case),
empty line.  Every field enters the map under its canonical name with its value, in wire order, and
exactly the block is consumed (`readMIMEHeader_block`).
-/
namespace Req.C02
open Req.Proto Req.Ascii Req.H1
open Req.Trim (trimBy_pad dropWhile_pad)

theorem h1_isOWS_fun : Req.H1.isOWS = Req.C02.isOWS := rfl

theorem h1_trimOWS_eq (s : Bytes) : Req.H1.trimOWS s = Req.C02.trimOWS s := rfl

theorem WField.line_no_lf (f : WField) (h : f.OK) : (10 : UInt8) ∉ f.line := fun hm =>
  absurd (WField.line_bytes f h 10 hm) (by decide)

theorem validByte_of_value (c : UInt8) (h : (c ≥ 32 ∧ c != 127) ∨ c == 9) : validHeaderValueByte c = true := by
  simp only [validHeaderValueByte, HT, Bool.or_eq_true, decide_eq_true_eq, Bool.and_eq_true]
  rcases h with ⟨h1, h2⟩ | h1
  · by_cases h3 : c ≤ 126
    · exact .inl (.inr ⟨h1, h3⟩)
    · have h4 : ¬ c.toNat ≤ 126 := fun h => h3 (UInt8.le_iff_toNat_le.mpr h)
      have h5 : c.toNat ≠ 127 := fun e => bne_iff_ne.mp h2 (UInt8.toNat_inj.mp e)
      exact .inr (UInt8.le_iff_toNat_le.mpr (by simp; omega))
  · exact .inl (.inl (beq_iff_eq.mp h1))

/-- What `trim` leaves of a field line: the name, the colon, and the value still preceded by
its leading optional white space. -/
theorem trimOWS_line (f : WField) (h : f.OK) :
    ∃ v', Req.H1.trimOWS f.line = f.name ++ 58 :: v' ∧ v'.all validHeaderValueByte = true ∧
      v'.dropWhile Req.H1.isOWS = f.value := by
  obtain ⟨hne, htok, hv, hp1, hp2⟩ := h
  rw [h1_isOWS_fun]
  -- nothing is trimmed on the left: a line starts with a name byte
  obtain ⟨a, n, hn⟩ := List.exists_cons_of_ne_nil hne
  have hhead : ∀ r, ∀ x ∈ (f.name ++ r).head?, Req.C02.isOWS x = false := fun r x hx => by
    rw [hn] at hx htok
    exact Option.some.inj hx ▸ tokenByte_not_ows a (List.all_eq_true.mp htok a List.mem_cons_self)
  -- on the right `pad2` goes, and `pad1` too if the value is empty
  rcases List.eq_nil_or_concat f.value with hval | ⟨vs, z, hval⟩
  · refine ⟨[], ?_, rfl, hval.symm⟩
    have e : f.line = [] ++ (f.name ++ [58]) ++ (f.pad1 ++ f.pad2) := by simp [WField.line, hval]
    rw [e]
    exact trimBy_pad (p := isOWS) nofun (by simpa [or_imp, forall_and] using And.intro hp1 hp2)
      (hhead _) (by simp; decide)
  · rw [List.concat_eq_append] at hval
    refine ⟨f.pad1 ++ f.value, ?_, ?_, dropWhile_pad hp1 hv.head⟩
    · have e : f.line = [] ++ (f.name ++ 58 :: (f.pad1 ++ f.value)) ++ f.pad2 := by simp [WField.line]
      have hl : f.name ++ 58 :: (f.pad1 ++ f.value) = (f.name ++ 58 :: (f.pad1 ++ vs)) ++ [z] := by
        simp [hval]
      rw [e]
      exact trimBy_pad (p := isOWS) nofun hp2 (hhead _)
        (by rw [hl, List.getLast?_concat]; exact fun a e => Option.some.inj e ▸ hv.2.2 z vs hval)
    · exact List.all_eq_true.mpr fun c hc => validByte_of_value c <| by
        rcases List.mem_append.mp hc with hc | hc
        · exact ows_value c (hp1 c hc)
        · exact of_decide_eq_true (List.all_eq_true.mp hv.1 c hc)

theorem canonKeyRead_token (name : Bytes) (hne : name ≠ []) (h : name.all isTokenByte = true) :
    canonKeyRead name = some (canonicalMIMEHeaderKey name) := by
  have h2 : (name.any fun c => !isTokenByte c && c != SP) = false :=
    List.any_eq_false.mpr fun c hc => by simp [List.all_eq_true.mp h c hc]
  have h3 : (name.any fun c => c == SP) = false :=
    List.any_eq_false.mpr fun c hc e => List.not_mem_of_all h (c := SP) rfl (beq_iff_eq.mp e ▸ hc)
  simp [canonKeyRead, canonicalMIMEHeaderKey, hne, h, h2, h3]

theorem addHeaderLine_line (m : HeaderMap) (f : WField) (h : f.OK) :
    addHeaderLine m (Req.H1.trimOWS f.line) = some (m.add (canonicalMIMEHeaderKey f.name) f.value) := by
  obtain ⟨v', htrim, hvalid, hdrop⟩ := trimOWS_line f h
  obtain ⟨hne, htok, _⟩ := h
  rw [addHeaderLine, htrim, cutByte_append 58 f.name v' (List.not_mem_of_all htok rfl)]
  simp only [canonKeyRead_token f.name hne htok, hvalid, if_true, hdrop]

theorem blockWire_head (fs : List WField) (hfs : ∀ f ∈ fs, f.OK) (R : Bytes) :
    ∃ a r, blockWire fs ++ R = a :: r ∧ Req.H1.isOWS a = false := by
  cases fs with
  | nil => exact ⟨13, 10 :: R, rfl, by decide⟩
  | cons f fs =>
    obtain ⟨a, b, r, hl, ha⟩ := WField.line_head f (hfs f List.mem_cons_self)
    exact ⟨a, _, by rw [blockWire_cons, hl]; rfl, h1_isOWS_fun ▸ tokenByte_not_ows a ha⟩

theorem mimeLoop_block (fs : List WField) (hfs : ∀ f ∈ fs, f.OK) (R : Bytes) (m : HeaderMap) (fuel : Nat)
    (hfuel : fs.length < fuel) :
    mimeLoop fuel m (blockWire fs ++ R) = some (hmapAdd m (fieldsOf fs), R) := by
  induction fs generalizing fuel m with
  | nil =>
    obtain ⟨fuel, rfl⟩ := Nat.exists_eq_add_one_of_ne_zero (Nat.ne_zero_of_lt hfuel)
    rw [mimeLoop, show blockWire [] ++ R = [] ++ 13 :: 10 :: R from rfl, readLine_crlf [] R nofun]
    rfl
  | cons f fs ih =>
    obtain ⟨fuel, rfl⟩ := Nat.exists_eq_add_one_of_ne_zero (Nat.ne_zero_of_lt hfuel)
    have hf := hfs f List.mem_cons_self
    have hrest : ∀ g ∈ fs, g.OK := fun g hg => hfs g (List.mem_cons_of_mem f hg)
    obtain ⟨a, b, r, hl, -⟩ := WField.line_head f hf
    have hne : f.line.isEmpty = false := by rw [hl]; rfl
    have hcolon : f.line.contains 58 = true := by simp [WField.line]
    -- the next line does not start with white space: no continuation
    obtain ⟨c, r', hw, hc⟩ := blockWire_head fs hrest R
    have hcont : ∀ n, readCont (n + 1) (Req.H1.trimOWS f.line) (blockWire fs ++ R) =
        (Req.H1.trimOWS f.line, blockWire fs ++ R) := fun n => by
      rw [hw]; simp [readCont, countOWS, hc]
    rw [blockWire_cons, List.append_assoc, mimeLoop, List.cons_append, List.cons_append,
      readLine_crlf _ _ (WField.line_no_lf f hf)]
    simp only [hne, hcolon, Bool.false_eq_true, if_false, Bool.not_true, hcont, addHeaderLine_line m f hf,
      ih hrest _ fuel (Nat.lt_of_succ_lt_succ hfuel)]
    rfl

theorem readMIMEHeader_block (fs : List WField) (hfs : ∀ f ∈ fs, f.OK) (R : Bytes) :
    readMIMEHeader (blockWire fs ++ R) = some (hmapOf (fieldsOf fs), R) := by
  obtain ⟨a, r, hw, ha⟩ := blockWire_head fs hfs R
  unfold readMIMEHeader
  rw [hw]
  simp only [ha, Bool.false_eq_true, if_false]
  rw [← hw]
  exact mimeLoop_block fs hfs R [] _ (by have := blockWire_len fs hfs; rw [List.length_append]; omega)

end Req.C02
