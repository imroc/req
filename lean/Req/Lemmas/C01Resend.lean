import Req.Client.Merge
/-!
`parseRequestHeader` is idempotent: running it again on the map it produced (a retry attempt, a
second send of the same `*Request`) changes nothing — provided the client-level map has distinct
keys (it is a Go map).
-/
namespace Req.Lemmas.C01Resend
open Req.Proto Req.H1 Req.HeaderSort Req.Merge

/-- the per-entry step of `mergeHeaders`. -/
def fill (ch : Hdr) (kv : KV) : KV :=
  if kv.values.isEmpty then
    match hdrGet? ch kv.key with
    | some vs => ⟨kv.key, vs⟩
    | none => kv
  else kv

theorem mergeHeaders_some (ch rh : Hdr) :
    mergeHeaders (some ch) rh = rh.map (fill ch) ++ ch.filter fun kv => !(rh.any (·.key == kv.key)) := rfl

theorem fill_key (ch : Hdr) (kv : KV) : (fill ch kv).key = kv.key := by
  unfold fill
  split
  · split <;> rfl
  · rfl

theorem fill_idem (ch : Hdr) (kv : KV) : fill ch (fill ch kv) = fill ch kv := by
  by_cases he : kv.values.isEmpty = true
  · cases hg : hdrGet? ch kv.key with
    | none =>
      have : fill ch kv = kv := by simp [fill, he, hg]
      rw [this, this]
    | some vs =>
      have h1 : fill ch kv = ⟨kv.key, vs⟩ := by simp [fill, he, hg]
      rw [h1]
      by_cases hv : vs.isEmpty = true
      · simp [fill, hv, hg]
      · simp [fill, hv]
  · have : fill ch kv = kv := by simp [fill, he]
    rw [this, this]

/-- distinct keys: the first entry found under an entry's own key is that entry. -/
theorem hdrGet_self {ch : Hdr} (hd : ch.Pairwise fun a b => a.key ≠ b.key) {kv : KV} (hkv : kv ∈ ch) :
    hdrGet? ch kv.key = some kv.values := by
  induction ch with
  | nil => cases hkv
  | cons a t ih =>
    rw [List.pairwise_cons] at hd
    unfold hdrGet?
    rcases List.mem_cons.mp hkv with rfl | hin
    · simp [List.find?]
    · have hne : a.key ≠ kv.key := hd.1 kv hin
      have : (a.key == kv.key) = false := by simpa using hne
      simp only [List.find?, this]
      exact ih hd.2 hin

theorem fill_of_mem {ch : Hdr} (hd : ch.Pairwise fun a b => a.key ≠ b.key) {kv : KV} (hkv : kv ∈ ch) :
    fill ch kv = kv := by
  unfold fill
  split
  · rename_i he
    rw [hdrGet_self hd hkv]
  · rfl

theorem mergeHeaders_idem (ch : Option Hdr) (rh : Hdr)
    (hd : ∀ c, ch = some c → c.Pairwise fun a b => a.key ≠ b.key) :
    mergeHeaders ch (mergeHeaders ch rh) = mergeHeaders ch rh := by
  cases ch with
  | none => rfl
  | some ch =>
    have hd := hd ch rfl
    rw [mergeHeaders_some ch rh, mergeHeaders_some]
    have hA : (rh.map (fill ch)).map (fill ch) = rh.map (fill ch) := by
      rw [List.map_map]
      apply List.map_congr_left
      intro kv _
      exact fill_idem ch kv
    have hB : (ch.filter fun kv => !(rh.any (·.key == kv.key))).map (fill ch)
        = ch.filter fun kv => !(rh.any (·.key == kv.key)) := by
      conv => rhs; rw [← List.map_id (ch.filter fun kv => !(rh.any (·.key == kv.key)))]
      apply List.map_congr_left
      intro kv hkv
      exact fill_of_mem hd (List.mem_filter.mp hkv).1
    have hC : (ch.filter fun kv => !((rh.map (fill ch) ++ ch.filter fun kv => !(rh.any (·.key == kv.key))).any
        (·.key == kv.key))) = [] := by
      apply List.filter_eq_nil_iff.mpr
      intro kv hkv
      simp only [List.any_append, List.any_map, Function.comp_def, fill_key, Bool.not_eq_true', Bool.not_eq_false]
      by_cases hr : rh.any (·.key == kv.key) = true
      · simp [hr]
      · simp only [hr, Bool.false_or]
        apply List.any_eq_true.mpr
        refine ⟨kv, List.mem_filter.mpr ⟨hkv, by simpa using hr⟩, by simp⟩
    rw [List.map_append, hA, hB, hC, List.append_nil]

end Req.Lemmas.C01Resend
