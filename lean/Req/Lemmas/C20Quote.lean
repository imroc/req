import Req.Client.DigestAuth
import Req.Lemmas.C20Verify
/-!
Helper lemmas for C20 (repaired code, `Req.DigestAuth`): the credentials automaton of the RFC 7616
verifier reads back what `authorize` writes with `quote` — every value made of field-value
bytes (HTAB, SP, VCHAR, obs-text), quotes and backslashes included. What the code as found
writes (no escaping) is the special case of values without `"` and `\`.
-/
namespace Req.Rfc7616
open Req.Proto Req.Ascii Req.Digest Req.DigestAuth

theorem isFieldByte_eq_isText (c : UInt8) : isFieldByte c = isText c := rfl

theorem run_quoteBody (ps : Params) (n : Bytes) : ∀ (s v rest : Bytes), s.all isText = true →
    run (.quo ps n v) (quoteBody s ++ rest) = run (.quo ps n (v ++ s)) rest := by
  intro s
  induction s with
  | nil => intro v rest _; simp [quoteBody]
  | cons c cs ih =>
    intro v rest h
    simp only [List.all_cons, Bool.and_eq_true] at h
    unfold quoteBody
    by_cases hq : (c == 34 || c == 92) = true
    · simp only [hq, if_true, List.cons_append, run_cons]
      have h92 : step (.quo ps n v) 92 = .esc ps n v := by
        simp [step]
      rw [h92]
      have hesc : step (.esc ps n v) c = .quo ps n (v ++ [c]) := by
        simp [step, h.1]
      rw [hesc, ih (v ++ [c]) rest h.2]
      simp
    · have hq' : (c == 34 || c == 92) = false := by simpa using hq
      simp only [Bool.or_eq_false_iff] at hq'
      simp only [hq, Bool.false_eq_true, if_false, List.cons_append, run_cons]
      have hst : step (.quo ps n v) c = .quo ps n (v ++ [c]) := by
        simp [step, hq'.1, hq'.2, h.1]
      rw [hst, ih (v ++ [c]) rest h.2]
      simp

theorem run_quote_param (ps : Params) (n v rest : Bytes) (hn : n ≠ []) (ht : n.all isTokenByte = true)
    (hv : v.all isText = true) :
    run (.start ps) ((n ++ 61 :: quote v) ++ rest) = run (.after (ps ++ [(n, v)])) rest := by
  have e : (n ++ 61 :: quote v) ++ rest = n ++ (61 :: 34 :: (quoteBody v ++ (34 :: rest))) := by
    simp [quote, List.append_assoc]
  rw [e, run_start_name ps n _ hn ht]
  have h61 : isTokenByte 61 = false := by decide
  have h34o : isOws 34 = false := by decide
  simp only [run_cons, step, h61, Bool.false_eq_true, if_false, beq_self_eq_true, if_true, h34o]
  rw [run_quoteBody ps n v [] (34 :: rest) hv]
  simp only [run_cons, step, beq_self_eq_true, if_true, List.nil_append]

/-- after a rendered parameter the automaton has read its name and value: it stands behind the
closing quote, or still inside the token -/
theorem run_renderParam (ps : Params) (p : Param) (rest : Bytes) (hp : Param.ok isText p) :
    run (.start ps) (renderParam p ++ rest) =
      run (if p.quotedForm then .after (ps ++ [(p.name, p.value)]) else .tok ps p.name p.value) rest := by
  obtain ⟨hn, ht, hv⟩ := hp
  unfold renderParam
  cases hq : p.quotedForm with
  | true =>
    rw [hq, if_pos rfl] at hv
    exact run_quote_param ps p.name p.value _ hn ht hv
  | false =>
    rw [hq] at hv
    exact run_bare_param ps p.name p.value _ hn ht hv.1 hv.2

theorem run_renderParam_sep (ps : Params) (p : Param) (rest : Bytes) (hp : Param.ok isText p) :
    run (.start ps) (renderParam p ++ 44 :: 32 :: rest) = run (.start (ps ++ [(p.name, p.value)])) rest := by
  rw [run_renderParam ps p _ hp]
  cases p.quotedForm <;> rfl

theorem finish_renderParam (ps : Params) (p : Param) (hp : Param.ok isText p) :
    finish (run (.start ps) (renderParam p)) = some (ps ++ [(p.name, p.value)]) := by
  have := run_renderParam ps p [] hp
  rw [List.append_nil] at this
  rw [this]
  cases p.quotedForm <;> rfl

/-- **The automaton reads back what the repaired `authorize` writes.** -/
theorem finish_run_renderParams : ∀ (l : List Param) (ps : Params), l ≠ [] → (∀ p ∈ l, Param.ok isText p) →
    finish (run (.start ps) (commaJoin (l.map renderParam))) =
      some (ps ++ pairs l)
  | [], _, h, _ => absurd rfl h
  | [p], ps, _, hok => by
    simpa [commaJoin, pairs] using finish_renderParam ps p (hok p (by simp))
  | p :: q :: r, ps, _, hok => by
    have hp := hok p (by simp)
    have ih := finish_run_renderParams (q :: r) (ps ++ [(p.name, p.value)]) (by simp)
      (fun x hx => hok x (List.mem_cons_of_mem _ hx))
    simp only [List.map_cons, commaJoin] at ih ⊢
    rw [run_renderParam_sep ps p _ hp, ih]
    simp [pairs]

theorem parseCredentials_renderParams (l : List Param) (hl : l ≠ []) (hok : ∀ p ∈ l, Param.ok isText p) :
    parseCredentials (digestPrefix ++ commaJoin (l.map renderParam)) =
      some (pairs l) := by
  have ht : (digestPrefix ++ commaJoin (l.map renderParam)).take 7 = digestPrefix := rfl
  have hd : (digestPrefix ++ commaJoin (l.map renderParam)).drop 7 = commaJoin (l.map renderParam) := rfl
  have hf : equalFold digestPrefix b!"digest " = true := by decide
  have hne : (pairs l).isEmpty = false := by
    cases l with
    | nil => exact absurd rfl hl
    | cons _ _ => rfl
  simp only [parseCredentials, ht, hd, hf, if_true, finish_run_renderParams l [] hl hok, List.nil_append, hne,
    Bool.false_eq_true, if_false]

theorem quoteBody_qd : ∀ s : Bytes, s.all isQd = true → quoteBody s = s := by
  intro s
  induction s with
  | nil => intro _; rfl
  | cons c cs ih =>
    intro h
    simp only [List.all_cons, Bool.and_eq_true] at h
    obtain ⟨_, h34, h92⟩ := qd_text h.1
    simp only [quoteBody, h34, h92, Bool.or_self, Bool.false_eq_true, if_false, ih h.2]

theorem all_text_of_qd {s : Bytes} (h : s.all isQd = true) : s.all isText = true :=
  List.all_imp (fun _ hx => (qd_text hx).1) h

theorem ok_text_of_qd {p : Param} (h : Param.ok isQd p) : Param.ok isText p := by
  obtain ⟨hn, ht, hv⟩ := h
  refine ⟨hn, ht, ?_⟩
  cases hq : p.quotedForm with
  | true =>
    rw [hq, if_pos rfl] at hv
    rw [if_pos rfl]
    exact all_text_of_qd hv
  | false => rw [hq] at hv; exact hv

theorem render_eq_renderParam {p : Param} (h : Param.ok isQd p) : p.render = renderParam p := by
  obtain ⟨_, _, hv⟩ := h
  unfold Param.render renderParam
  cases hq : p.quotedForm with
  | true =>
    rw [hq, if_pos rfl] at hv
    simp only [if_true, quoted, quote, quoteBody_qd _ hv, List.append_assoc, List.cons_append]
  | false => rfl

theorem parseCredentials_render (l : List Param) (hl : l ≠ []) (hok : ∀ p ∈ l, Param.ok isQd p) :
    parseCredentials (digestPrefix ++ commaJoin (l.map Param.render)) =
      some (pairs l) := by
  rw [List.map_congr_left fun p hp => render_eq_renderParam (hok p hp)]
  exact parseCredentials_renderParams l hl fun p hp => ok_text_of_qd (hok p hp)

theorem quoteBody_all (q : UInt8 → Bool) (h92 : q 92 = true) (s : Bytes) :
    (quoteBody s).all q = s.all q := by
  induction s with
  | nil => rfl
  | cons c cs ih =>
    unfold quoteBody
    split <;> simp [h92, ih]

theorem commaJoin_all (q : UInt8 → Bool) (h44 : q 44 = true) (h32 : q 32 = true) :
    ∀ l : List Bytes, (commaJoin l).all q = l.all (·.all q)
  | [] => rfl
  | [y] => by simp [commaJoin]
  | y :: z :: r => by
    simp [commaJoin, h44, h32, commaJoin_all q h44 h32 (z :: r)]

theorem renderParam_all (q : UInt8 → Bool) (h61 : q 61 = true) (h34 : q 34 = true) (h92 : q 92 = true)
    (p : Param) : (renderParam p).all q = (p.name.all q && p.value.all q) := by
  unfold renderParam
  split <;> simp [quote, bare, quoteBody_all q h92, h61, h34]

theorem header_all (l : List Param) :
    (digestPrefix ++ commaJoin (l.map renderParam)).all isText =
      l.all fun p => p.name.all isText && p.value.all isText := by
  rw [List.all_append, commaJoin_all isText (by decide) (by decide), List.all_map]
  simp only [Function.comp_def, renderParam_all isText (by decide) (by decide) (by decide)]
  rfl

theorem quoted_values_of_header (l : List Param)
    (h : (digestPrefix ++ commaJoin (l.map renderParam)).all isText = true) :
    ∀ p ∈ l, p.quotedForm = true → p.value.all isText = true := by
  intro p hp _
  rw [header_all, List.all_eq_true] at h
  exact (Bool.and_eq_true _ _ ▸ h p hp).2

theorem all_tok_text {s : Bytes} (h : s.all isTokenByte = true) : s.all isText = true :=
  List.all_imp tok_text h

theorem header_text (l : List Param) (h : ∀ p ∈ l, Param.ok isText p) :
    (digestPrefix ++ commaJoin (l.map renderParam)).all isText = true := by
  rw [header_all, List.all_eq_true]
  intro p hp
  obtain ⟨_, hn, hv⟩ := h p hp
  rw [Bool.and_eq_true]
  refine ⟨all_tok_text hn, ?_⟩
  split at hv
  · exact hv
  · exact all_tok_text hv.2

end Req.Rfc7616

