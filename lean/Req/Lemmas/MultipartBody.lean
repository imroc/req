import Req.Lemmas.Multipart
/-!
The server's reader over what the client wrote, layer by layer: a header line (`readHeaders_line`), the
end of a part (`splitBoundary_found`, under `BoundaryFree`), one part (`parseParts_part`, for a
`GoodPart`), the whole body (`parseBody_write`). `boundaryFree_of_not_infix`: `BoundaryFree` from "the
delimiter does not occur in the content".
-/
namespace Req.Multipart
open Req.Proto Req.Ascii

theorem stripCR_snoc (x : Bytes) : stripCR (x ++ [13]) = x := by
  simp [stripCR]

/-- "does not begin (end) with the class" as the model's guards and `CTypeOK` / `FileDomain` spell it,
in the form the lemmas of `Req.Trim` take -/
theorem not_mem_class {p : UInt8 → Bool} {o : Option UInt8} (h : (o.map p).getD false = false) :
    ∀ a ∈ o, p a = false := by
  rintro a rfl; exact h

theorem trimLeft_id (s : Bytes) (h : (s.head?.map isLWS).getD false = false) : trimLeft s = s :=
  Req.Trim.dropWhile_id (not_mem_class h)

theorem trim_id (s : Bytes) (h0 : (s.head?.map isLWS).getD false = false)
    (hl : (s.getLast?.map isLWS).getD false = false) : trim s = s := by
  simp only [trim, trimLeft]
  rw [Req.Trim.dropWhile_reverse_id (not_mem_class hl), Req.Trim.dropWhile_id (not_mem_class h0)]

theorem cutLine_crlf (line rest : Bytes) (hne : line ≠ []) (h10 : (10 : UInt8) ∉ line) :
    cutLine (line ++ crlf ++ rest) = some (line, rest) := by
  have hshape : line ++ crlf ++ rest = (line ++ [13]) ++ 10 :: rest := by simp [crlf]
  have hnotin : (10 : UInt8) ∉ line ++ [13] := by simp [h10]
  unfold cutLine
  have hne' : (line ++ crlf ++ rest).isEmpty = false := by
    cases line with
    | nil => exact absurd rfl hne
    | cons c cs => rfl
  rw [hne', hshape, Req.Form.cut_append 10 _ _ hnotin]
  simp [stripCR_snoc]

theorem cutLine_blank (rest : Bytes) : cutLine (crlf ++ rest) = some ([], rest) := by
  simp [cutLine, crlf, Req.Form.cut, stripCR]

theorem absorb_no_continuation (fuel : Nat) (acc rest : Bytes)
    (h : (rest.head?.map isLWS).getD false = false) : absorb (fuel + 1) acc rest = some (acc, rest) := by
  simp [absorb, h]

theorem readHeaders_line (fuel : Nat) (first : Bool) (k v rest : Bytes)
    (hk : k ≠ []) (hkt : ∀ x ∈ k, isTokenByte x = true) (hcanon : canonGo true k = k)
    (hv : v ≠ []) (hvv : ∀ x ∈ v, validValueByte x = true)
    (hv0 : (v.head?.map isLWS).getD false = false)
    (hvl : (v.getLast?.map isLWS).getD false = false)
    (hrest : (rest.head?.map isLWS).getD false = false) :
    readHeaders (fuel + 1) first (headerLine k v ++ rest) =
      match readHeaders fuel false rest with
      | .error e => .error e
      | .ok (hs, r) => .ok ((k, v) :: hs, r) := by
  obtain ⟨k0, ks, rfl⟩ := List.exists_cons_of_ne_nil hk
  have hk0 := tokenByte_not_separator k0 (hkt k0 (by simp))
  have hline10 : (10 : UInt8) ∉ (k0 :: ks) ++ [58, 32] ++ v := by
    intro hm
    simp only [List.mem_append, List.mem_cons] at hm
    rcases hm with (hm | hm) | hm
    · rcases hm with rfl | hm
      · exact hk0.1 rfl
      · exact (tokenByte_not_separator _ (hkt _ (List.mem_cons_of_mem _ hm))).1 rfl
    · simp at hm
    · exact validValueByte_ne_lf _ (hvv _ hm) rfl
  have hcut : cutLine (headerLine (k0 :: ks) v ++ rest) = some ((k0 :: ks) ++ [58, 32] ++ v, rest) := by
    have : headerLine (k0 :: ks) v ++ rest = ((k0 :: ks) ++ [58, 32] ++ v) ++ crlf ++ rest := by
      simp [headerLine]
    rw [this]
    exact cutLine_crlf _ _ (by simp) hline10
  have hlast : (((k0 :: ks) ++ [58, 32] ++ v).getLast?.map isLWS).getD false = false := by
    obtain ⟨v', vl, rfl⟩ : ∃ v' vl, v = v' ++ [vl] := ⟨v.dropLast, v.getLast hv, (List.dropLast_concat_getLast hv).symm⟩
    have hsh : (k0 :: ks) ++ [58, 32] ++ (v' ++ [vl]) = ((k0 :: ks) ++ [58, 32] ++ v') ++ [vl] := by simp
    rw [hsh, List.getLast?_concat]
    simpa using hvl
  have htrim : trim ((k0 :: ks) ++ [58, 32] ++ v) = (k0 :: ks) ++ [58, 32] ++ v :=
    trim_id _ (by simpa using hk0.2.2.2) hlast
  have h58 : (58 : UInt8) ∉ (k0 :: ks) := by
    intro hm
    exact (tokenByte_not_separator _ (hkt _ hm)).2.1 rfl
  have hcut58 : Req.Form.cut 58 ((k0 :: ks) ++ [58, 32] ++ v) = (k0 :: ks, some (32 :: v)) := by
    have : (k0 :: ks) ++ [58, 32] ++ v = (k0 :: ks) ++ 58 :: (32 :: v) := by simp
    rw [this]
    exact Req.Form.cut_append 58 _ _ h58
  have hkall : (k0 :: ks).all (fun c => isTokenByte c || c == 32) = true := by
    rw [List.all_eq_true]
    intro x hx
    simp [hkt x hx]
  have hvall : (32 :: v).all validValueByte = true := by
    rw [List.all_eq_true]
    intro x hx
    rcases List.mem_cons.mp hx with rfl | hx
    · decide
    · exact hvv x hx
  have hk32 : (k0 :: ks).contains 32 = false := by
    rw [Bool.eq_false_iff]
    intro hc
    have hm : (32 : UInt8) ∈ (k0 :: ks) := by simpa using hc
    have := (tokenByte_not_separator _ (hkt _ hm)).2.2.1
    simp at this
  have htl : trimLeft (32 :: v) = v := by
    have : trimLeft (32 :: v) = trimLeft v := by simp [trimLeft, List.dropWhile, show isLWS 32 = true by decide]
    rw [this, trimLeft_id v hv0]
  conv => lhs; rw [readHeaders.eq_def]
  simp only [hcut]
  have hne : ((k0 :: ks) ++ [58, 32] ++ v).isEmpty = false := rfl
  have hhead : ((((k0 :: ks) ++ [58, 32] ++ v).head?.map isLWS).getD false) = false := by
    simpa using hk0.2.2.2
  have hc58 : ((k0 :: ks) ++ [58, 32] ++ v).contains 58 = true := by simp
  have hkne : (k0 :: ks).isEmpty = false := rfl
  simp only [hne, hhead, hc58, htrim, absorb_no_continuation _ _ _ hrest, hcut58, Option.getD_some, hkall, hvall,
    hk32, hcanon, htl, hkne, Bool.and_false, Bool.not_true, Bool.or_false, Bool.false_eq_true,
    ↓reduceIte]
  cases readHeaders fuel false rest with
  | error e => rfl
  | ok r => rfl

theorem readHeaders_blank (fuel : Nat) (first : Bool) (rest : Bytes) :
    readHeaders (fuel + 1) first (crlf ++ rest) = .ok ([], rest) := by
  conv => lhs; rw [readHeaders.eq_def]
  simp [cutLine_blank]

/-- No occurrence of `d` starts inside `c` — not even one that would run over into a `d`
placed right after `c`. -/
def BoundaryFree (d c : Bytes) : Prop := ∀ i, i < c.length → ¬ d <+: (c.drop i ++ d)

theorem BoundaryFree.tail {d : Bytes} {x : UInt8} {xs : Bytes} (h : BoundaryFree d (x :: xs)) :
    BoundaryFree d xs := by
  intro i hi
  have := h (i + 1) (by simp; omega)
  simpa using this

theorem splitBoundary_found (d c post : Bytes) (hd : d ≠ []) (hfree : BoundaryFree d c)
    (hpost : boundaryAfter post = true) :
    splitBoundary d (c ++ d ++ post) = some (c, post) := by
  induction c with
  | nil =>
    obtain ⟨d0, ds, rfl⟩ := List.exists_cons_of_ne_nil hd
    have hpre : (d0 :: ds).isPrefixOf (d0 :: (ds ++ post)) = true := by
      rw [List.isPrefixOf_iff_prefix]
      exact ⟨post, by simp⟩
    have hdrop : (d0 :: (ds ++ post)).drop (d0 :: ds).length = post := by simp
    show splitBoundary (d0 :: ds) (d0 :: (ds ++ post)) = some ([], post)
    simp only [splitBoundary, hpre, hdrop, hpost, Bool.and_self, ↓reduceIte]
  | cons x xs ih =>
    have hnot : (d.isPrefixOf (x :: (xs ++ d ++ post)) && boundaryAfter ((x :: (xs ++ d ++ post)).drop d.length)) = false := by
      have h0 := hfree 0 (by simp)
      simp only [List.drop_zero] at h0
      have : d.isPrefixOf (x :: (xs ++ d ++ post)) = false := by
        rw [Bool.eq_false_iff]
        intro hp
        rw [List.isPrefixOf_iff_prefix] at hp
        apply h0
        have hp' : d <+: ((x :: xs) ++ d) ++ post := by simpa using hp
        exact List.prefix_of_prefix_length_le hp' (List.prefix_append _ _) (by simp; omega)
      rw [this]; rfl
    show splitBoundary d (x :: (xs ++ d ++ post)) = some (x :: xs, post)
    rw [splitBoundary, if_neg (by simpa using hnot), ih hfree.tail]
    rfl

/-- A part whose header block the server reads as `hs` and whose content is delimiter-free. The
bounds: a header block is at most two lines and the blank line, one unit of fuel each (`3 ≤ n`), and
`parseParts` gives `readHeaders` the length of its input + 1 as fuel, which `2 ≤ p.header.length`
makes at least 3 (`parseParts_part`). -/
structure GoodPart (d : Bytes) (p : Part) (hs : List (Bytes × Bytes)) : Prop where
  hdr : ∀ (n : Nat) (rest : Bytes), 3 ≤ n → readHeaders n true (p.header ++ rest) = .ok (hs, rest)
  hlen : 2 ≤ p.header.length
  free : BoundaryFree d (crlf ++ p.content)

theorem afterBoundary_close : afterBoundary (dashes ++ crlf) = some none := by decide

theorem afterBoundary_next (more : Bytes) : afterBoundary (crlf ++ more) = some (some more) := by
  simp [afterBoundary, crlf, isLWS]

theorem delim_ne_nil (b : Bytes) : delim b ≠ [] := by simp [delim, crlf]

theorem parseParts_part (b : Bytes) (p : Part) (hs : List (Bytes × Bytes)) (hg : GoodPart (delim b) p hs)
    (fuel : Nat) (post : Bytes) (hpost : boundaryAfter post = true) :
    parseParts (delim b) (fuel + 1) (p.header ++ p.content ++ delim b ++ post) =
      match afterBoundary post with
      | none => .error .malformed
      | some none => .ok [⟨hs, p.content⟩]
      | some (some more) =>
        match parseParts (delim b) fuel more with
        | .error e => .error e
        | .ok ps => .ok (⟨hs, p.content⟩ :: ps) := by
  have hlen : 3 ≤ (p.header ++ (p.content ++ (delim b ++ post))).length + 1 := by
    have := hg.hlen; simp; omega
  have hsplit : splitBoundary (delim b) (crlf ++ (p.content ++ (delim b ++ post)))
      = some (crlf ++ p.content, post) := by
    simpa using splitBoundary_found (delim b) (crlf ++ p.content) post (delim_ne_nil b) hg.free hpost
  rw [show p.header ++ p.content ++ delim b ++ post = p.header ++ (p.content ++ (delim b ++ post)) by simp]
  conv => lhs; rw [parseParts.eq_def]
  simp only [hg.hdr _ _ hlen, hsplit]
  -- the two sides differ in the name of the compiled `match` only
  rcases afterBoundary post with _ | _ | more <;> simp [crlf]
  cases parseParts (delim b) fuel more <;> rfl

theorem parseParts_write (b : Bytes) (ps : List (Part × List (Bytes × Bytes)))
    (p : Part × List (Bytes × Bytes)) (fuel : Nat) (hfuel : ps.length < fuel)
    (hgood : ∀ q ∈ p :: ps, GoodPart (delim b) q.1 q.2) :
    parseParts (delim b) fuel
        (p.1.header ++ p.1.content ++ writeRest b (ps.map (·.1)) ++ delim b ++ dashes ++ crlf)
      = .ok ((p :: ps).map fun q => ⟨q.2, q.1.content⟩) := by
  obtain ⟨n, rfl⟩ : ∃ n, fuel = n + 1 := ⟨fuel - 1, by omega⟩
  rw [List.forall_mem_cons] at hgood
  induction ps generalizing p n with
  | nil =>
    have := parseParts_part b p.1 p.2 hgood.1 n (dashes ++ crlf) (by decide)
    simp only [afterBoundary_close] at this
    simpa [writeRest] using this
  | cons q qs ih =>
    obtain ⟨m, rfl⟩ : ∃ m, n = m + 1 := ⟨n - 1, by simp at hfuel; omega⟩
    have hrec := ih q (List.forall_mem_cons.mp hgood.2) m (by simp at hfuel ⊢; omega)
    have := parseParts_part b p.1 p.2 hgood.1 (m + 1)
      (crlf ++ (q.1.header ++ q.1.content ++ writeRest b (qs.map (·.1)) ++ delim b ++ dashes ++ crlf))
      (by simp [crlf, boundaryAfter])
    simp only [afterBoundary_next, hrec] at this
    simpa [writeRest] using this

theorem skipPreamble_open (b rest : Bytes) (fuel : Nat) (h10 : (10 : UInt8) ∉ b) :
    skipPreamble (dashes ++ b) (fuel + 1) (dashes ++ b ++ crlf ++ rest) = .ok (some rest) := by
  have hshape : dashes ++ b ++ crlf ++ rest = (dashes ++ b ++ [13]) ++ 10 :: rest := by simp [crlf]
  have hnotin : (10 : UInt8) ∉ dashes ++ b ++ [13] := by simp [dashes, h10]
  have hpre : (dashes ++ b).isPrefixOf (dashes ++ b ++ [13]) = true := by
    rw [List.isPrefixOf_iff_prefix]; exact List.prefix_append _ _
  have hdrop : (dashes ++ b ++ [13]).drop (dashes ++ b).length = [13] := by simp
  rw [hshape, skipPreamble, Req.Form.cut_append 10 _ _ hnotin]
  simp only [hpre, hdrop, ↓reduceIte]
  simp [isLWS, List.dropWhile]

theorem skipPreamble_empty (b : Bytes) (fuel : Nat) (h10 : (10 : UInt8) ∉ b) :
    skipPreamble (dashes ++ b) (fuel + 2) (delim b ++ dashes ++ crlf) = .ok none := by
  have hshape : delim b ++ dashes ++ crlf = [13] ++ 10 :: ((dashes ++ b ++ dashes ++ [13]) ++ 10 :: []) := by
    simp [delim, crlf]
  have hnot1 : (dashes ++ b).isPrefixOf [13] = false := rfl
  have hnotin : (10 : UInt8) ∉ dashes ++ b ++ dashes ++ [13] := by simp [dashes, h10]
  have hpre : (dashes ++ b).isPrefixOf (dashes ++ b ++ dashes ++ [13]) = true := by
    rw [List.isPrefixOf_iff_prefix]; exact ⟨dashes ++ [13], by simp⟩
  have hpre2 : (dashes ++ b ++ dashes).isPrefixOf (dashes ++ b ++ dashes ++ [13]) = true := by
    rw [List.isPrefixOf_iff_prefix]; exact List.prefix_append _ _
  have hdrop : (dashes ++ b ++ dashes ++ [13]).drop (dashes ++ b).length = dashes ++ [13] := by simp
  have hdrop2 : (dashes ++ b ++ dashes ++ [13]).drop ((dashes ++ b).length + 2) = [13] := by
    simp [dashes]
  rw [hshape, skipPreamble, Req.Form.cut_append 10 [13] _ (by decide)]
  simp only [hnot1, Bool.false_eq_true, ↓reduceIte]
  rw [skipPreamble, Req.Form.cut_append 10 _ _ hnotin]
  simp only [hpre, hpre2, hdrop, hdrop2, ↓reduceIte]
  simp [isLWS, List.dropWhile, dashes]

theorem length_writeRest (b : Bytes) (ps : List Part) : ps.length ≤ (writeRest b ps).length := by
  induction ps with
  | nil => simp [writeRest]
  | cons p ps ih => simp [writeRest, delim, crlf]; omega

theorem parseBody_write (b : Bytes) (ps : List (Part × List (Bytes × Bytes)))
    (h10 : (10 : UInt8) ∉ b) (hgood : ∀ q ∈ ps, GoodPart (delim b) q.1 q.2) :
    parseBody b (writeParts b (ps.map (·.1))) = .ok (ps.map fun q => ⟨q.2, q.1.content⟩) := by
  cases ps with
  | nil =>
    have : ∃ n, (delim b ++ dashes ++ crlf).length + 1 = n + 2 :=
      ⟨(delim b ++ dashes ++ crlf).length - 1, by simp [delim, crlf]⟩
    obtain ⟨n, hn⟩ := this
    show parseBody b (delim b ++ dashes ++ crlf) = .ok []
    simp only [parseBody, hn, skipPreamble_empty b n h10]
  | cons p ps =>
    have hw : writeParts b ((p :: ps).map (·.1)) = dashes ++ b ++ crlf ++
        (p.1.header ++ p.1.content ++ writeRest b (ps.map (·.1)) ++ delim b ++ dashes ++ crlf) := by
      simp [writeParts]
    simp only [parseBody]
    rw [hw, skipPreamble_open b _ _ h10]
    simp only
    apply parseParts_write b ps p _ _ hgood
    have := length_writeRest b (ps.map (·.1))
    simp at this ⊢; omega

/-- `BoundaryFree` follows from the plain statement "the delimiter CRLF `--` boundary does not
occur in the content" as soon as the boundary contains no CR (true of every boundary
`SetBoundary` accepts): an occurrence cannot straddle into the real delimiter because the
delimiter's first byte, CR, occurs nowhere else in it. -/
theorem boundaryFree_of_not_infix (b c : Bytes) (hcr : (13 : UInt8) ∉ b)
    (h : ¬ (delim b) <:+: c) : BoundaryFree (delim b) c := by
  intro i hi hp
  have hd : delim b = 13 :: 10 :: 45 :: 45 :: b := by simp [delim, crlf, dashes]
  by_cases hlen : (delim b).length ≤ (c.drop i).length
  · -- the occurrence lies inside the content
    have hpre : delim b <+: c.drop i :=
      List.prefix_of_prefix_length_le hp (List.prefix_append _ _) hlen
    apply h
    obtain ⟨t, ht⟩ := hpre
    exact ⟨c.take i, t, by rw [List.append_assoc, ht, List.take_append_drop]⟩
  · -- it would straddle: the byte of the delimiter at offset |s| ≥ 1 would have to be CR
    have hs : 0 < (c.drop i).length := by simp; omega
    have hlt : (c.drop i).length < (delim b).length := by omega
    obtain ⟨t, ht⟩ := hp
    have h1 : (delim b ++ t)[(c.drop i).length]? = (c.drop i ++ delim b)[(c.drop i).length]? := by rw [ht]
    rw [List.getElem?_append_left hlt, List.getElem?_append_right (Nat.le_refl _)] at h1
    simp only [Nat.sub_self] at h1
    rw [hd] at h1
    obtain ⟨n, hn⟩ : ∃ n, (c.drop i).length = n + 1 := ⟨(c.drop i).length - 1, by omega⟩
    rw [hn] at h1
    simp only [List.getElem?_cons_succ, List.getElem?_cons_zero] at h1
    have hmem : (13 : UInt8) ∈ (10 :: 45 :: 45 :: b) := List.mem_of_getElem? h1
    simp at hmem
    exact hcr hmem

end Req.Multipart
