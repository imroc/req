import Req.Pool.H2Mux
import Req.Lemmas.C09H2Inv
/-! Step-level facts about admission to the stream table of the HTTP/2 demultiplexer model. -/
namespace Req.Lemmas.C09H2Slots
open Req.Pool.H2Mux Req.Lemmas.C09H2Rel Req.Lemmas.C09H2Core Req.Lemmas.C09H2Inv

/-- `awaitOpenSlotForStreamLocked` + `addStreamLocked`: the table grows only when the connection is usable and
below the peer's limit — all of it in terms of the state the loop runs in. -/
theorem slotLoop_admits (cfg : Cfg) (s : St) (k : Caller)
    (h : (slotLoop cfg s k).streams.length > s.streams.length) :
    s.closed = false ∧ s.goAway = none ∧ s.doNotReuse = false ∧ s.streams.length < s.maxConc ∧
      (cfg.strict = false → s.streams.length + s.reserved + 1 ≤ s.maxConc) ∧
      (slotLoop cfg s k).streams = (s.nextId, k) :: s.streams := by
  unfold slotLoop at h ⊢
  by_cases hc : s.closed = true ∨ canTake cfg s = false
  · rw [if_pos hc] at h; exact absurd h (Nat.lt_irrefl _)
  · rw [if_neg hc] at h ⊢
    by_cases hl : s.streams.length < s.maxConc
    · rw [if_pos hl]
      have hcl : s.closed = false := by cases hx : s.closed <;> simp_all
      have hct : canTake cfg s = true := by cases hx : canTake cfg s <;> simp_all
      simp only [canTake, Bool.and_eq_true, Bool.not_eq_true', Bool.or_eq_true, decide_eq_true_eq,
        Option.isNone_iff_eq_none] at hct
      obtain ⟨⟨⟨⟨⟨_, b2⟩, _⟩, b4⟩, b5⟩, _⟩ := hct
      exact ⟨hcl, b2, b5, hl, fun hs => b4.resolve_left (by simp [hs]), rfl⟩
    · rw [if_neg hl] at h; exact absurd h (Nat.lt_irrefl _)

theorem streams_of_core {s t : St} (h : core t = core s) : t.streams = s.streams := by
  have := congrArg Core.streams h; simpa [core] using this

/-- Every op other than the two that run `awaitOpenSlotForStreamLocked` leaves the table as it is
or shrinks it. -/
theorem step_no_growth (cfg : Cfg) (s : St) (op : Op) (hop : admits op = false) :
    (step cfg s op).1.streams.length ≤ s.streams.length :=
  CStep.streams_le (hop ▸ step_core cfg s op)

end Req.Lemmas.C09H2Slots
