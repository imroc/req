import Req.Pool.ProxyDispatch
import Req.Lemmas.IfTree
/-! Lemmas about `Req.Pool.Dispatch` and `ProxyDispatch`: what a successful result of each dispatch
function says and where it can crash; the decision of `roundTrip` read backwards (`routeP_ok`), on which
the dispatch theorems of `Req.Props.C12` rest. -/
namespace Req.Lemmas.Dispatch
open Req.Pool.Dispatch

theorem speak_ok {v p w : Ver} (h : speak v p = .ok w) : w = v ∧ p = v := by
  unfold speak at h
  split at h
  · rename_i hv; cases h; exact ⟨rfl, hv.symm⟩
  · cases h

theorem speak_not_crash {v p : Ver} : speak v p ≠ .crash := by
  unfold speak; split <;> simp

/-- An `if` that has the value `r` although its first branch has not, has it through the second. -/
theorem of_ite {α : Type} {c : Prop} [Decidable c] {a b r : α}
    (ha : a ≠ r) (h : (if c then a else b) = r) : ¬c ∧ b = r := by
  by_cases hc : c
  · rw [if_pos hc] at h; exact absurd h ha
  · rw [if_neg hc] at h; exact ⟨hc, h⟩

/-- `ite_ind` at `(· ≠ r)`: walks an if-chain none of whose leaves is `r` (here: `.crash`). -/
theorem ite_ne {α : Type} {c : Prop} [Decidable c] {a b r : α} (ha : a ≠ r) (hb : b ≠ r) :
    (if c then a else b) ≠ r :=
  ite_ind (· ≠ r) ha hb

theorem carry_ok {cfg : Cfg} {st : Option TlsState} {v : Ver} (h : carry cfg st = .ok v) :
    (v = .h2 ∧ cfg.force ≠ some .h1 ∧ ∃ s, st = some s ∧ s.proto = some .h2)
    ∨ (v = .h1 ∧ peerOf st = .h1) := by
  cases st with
  | none =>
    simp [carry] at h
    have := speak_ok h
    right; exact ⟨this.1, this.2⟩
  | some s =>
    simp only [carry] at h
    by_cases hh : (decide (cfg.force ≠ some Ver.h1) && (s.isMutual && decide (s.proto = some Alpn.h2))) = true
    · rw [if_pos hh] at h
      have := speak_ok h
      simp at hh
      left; exact ⟨this.1, hh.1, s, rfl, hh.2.2⟩
    · rw [if_neg hh] at h
      have := speak_ok h
      right; exact ⟨this.1, this.2⟩

theorem carry_not_crash {cfg : Cfg} {st : Option TlsState} : carry cfg st ≠ .crash := by
  cases st with
  | none => simp [carry]; exact speak_not_crash
  | some s =>
    simp only [carry]
    split <;> exact speak_not_crash

theorem carry_forced_h1 {cfg : Cfg} {st : Option TlsState} {v : Ver} (hf : cfg.force = some .h1)
    (h : carry cfg st = .ok v) : v = .h1 := by
  rcases carry_ok h with ⟨_, hn, _⟩ | ⟨hv, _⟩
  · exact absurd hf hn
  · exact hv

/-- The three ways the TLS part of `dialConn` succeeds: the user's `DialTLSContext` / `TLSHandshakeContext`
returned a conn without connection state; it returned a TLS conn, whose state is taken as it is; or neither is
set and crypto/tls negotiated `p` in a handshake the configuration accepted. -/
theorem dialTlsState_ok {cfg : Cfg} {o : Bool} {net : Net} {st : Option TlsState}
    (h : dialTlsState cfg o net = .ok st) :
    (st = none ∧ net.custom = .plain ∧ (cfg.dialTLS = true ∨ cfg.handshake = true))
    ∨ (∃ s, st = some s ∧ net.custom = .tls s ∧ (cfg.dialTLS = true ∨ cfg.handshake = true))
    ∨ (∃ cl p, st = some ⟨p, true⟩ ∧ negotiate net.alpn cl = some p ∧ net.tcpAccept = true) := by
  unfold dialTlsState at h
  by_cases hd : cfg.dialTLS = true
  · rw [if_pos hd] at h
    split at h
    · cases h
    · next hplain => cases h; exact .inl ⟨rfl, hplain, .inl hd⟩
    · next s htls =>
      obtain ⟨_, h⟩ := of_ite (by simp) h
      cases h; exact .inr (.inl ⟨s, rfl, htls, .inl hd⟩)
  · rw [if_neg hd] at h
    by_cases hh : cfg.handshake = true
    · rw [if_pos hh] at h
      split at h
      · cases h
      · next hplain => cases h; exact .inl ⟨rfl, hplain, .inr hh⟩
      · next s htls => cases h; exact .inr (.inl ⟨s, rfl, htls, .inr hh⟩)
    · rw [if_neg hh] at h
      split at h
      · cases h
      · next p hn =>
        obtain ⟨ha, h⟩ := of_ite (by simp) h
        obtain ⟨_, h⟩ := of_ite (by simp) h
        cases h
        exact .inr (.inr ⟨_, p, rfl, hn, by simpa using ha⟩)

theorem dialTlsState_accepted {cfg : Cfg} {o : Bool} {net : Net} {st : Option TlsState}
    (hd : cfg.dialTLS = false) (hh : cfg.handshake = false) (h : dialTlsState cfg o net = .ok st) :
    net.tcpAccept = true := by
  rcases dialTlsState_ok h with ⟨_, _, hu⟩ | ⟨_, _, _, hu⟩ | ⟨_, _, _, _, ha⟩
  · rw [hd, hh] at hu; simp at hu
  · rw [hd, hh] at hu; simp at hu
  · exact ha

theorem negotiated_of_carry {cfg cfg' : Cfg} {o : Bool} {net : Net} {st : Option TlsState} {v : Ver}
    (hst : dialTlsState cfg' o net = .ok st) (hc : carry cfg st = .ok v) : Negotiated net v := by
  -- `Negotiated net v` lists, per version, a cached connection, what a user function's TLS state
  -- reports, or what crypto/tls negotiates; a dial never yields the first
  rcases carry_ok hc with ⟨rfl, _, s, rfl, hp2⟩ | ⟨rfl, hpe⟩
  · show net.cachedH2 = true ∨ (∃ st, net.custom = .tls st ∧ st.proto = some .h2)
      ∨ (∃ cl, negotiate net.alpn cl = some (some .h2))
    rcases dialTlsState_ok hst with ⟨hn, _⟩ | ⟨s', hs', hcustom, _⟩ | ⟨cl, p, hs', hneg, _⟩
    · cases hn
    · cases hs'; exact .inr (.inl ⟨s, hcustom, hp2⟩)
    · cases hs'; exact .inr (.inr ⟨cl, by rw [hneg]; simp at hp2; rw [hp2]⟩)
  · show (∃ st, net.custom = .tls st ∧ st.proto ≠ some .h2) ∨ net.custom = .plain
      ∨ (∃ cl p, negotiate net.alpn cl = some p ∧ p ≠ some .h2)
    rcases dialTlsState_ok hst with ⟨_, hplain, _⟩ | ⟨s', rfl, hcustom, _⟩ | ⟨cl, p, rfl, hneg, _⟩
    · exact .inr (.inl hplain)
    · refine .inl ⟨s', hcustom, fun hp2 => ?_⟩
      obtain ⟨pr, m⟩ := s'
      simp at hp2; subst hp2; simp [peerOf] at hpe
    · refine .inr (.inr ⟨cl, p, hneg, fun hp2 => ?_⟩)
      subst hp2
      simp [peerOf] at hpe

theorem t3_ok {cfg : Cfg} {req : Req} {net : Net} {w : Ver}
    (h : t3RoundTrip cfg req net = .ok w) :
    w = .h3 ∧ req.scheme = .https ∧ (net.cachedH3 = true ∨ (net.h3Up = true ∧ net.quicAccept = true)) := by
  unfold t3RoundTrip at h
  obtain ⟨_, h⟩ := of_ite (by simp) h
  obtain ⟨hs, h⟩ := of_ite (by simp) h
  have hs : req.scheme = .https := by simpa using hs
  by_cases hc : net.cachedH3 = true
  · rw [if_pos hc] at h; cases h; exact ⟨rfl, hs, .inl hc⟩
  · rw [if_neg hc] at h
    obtain ⟨hu, h⟩ := of_ite (by simp) h
    obtain ⟨hq, h⟩ := of_ite (by simp) h
    cases h
    exact ⟨rfl, hs, .inr ⟨by simpa using hu, by simpa using hq⟩⟩

theorem negotiated_of_t3 {cfg : Cfg} {req : Req} {net : Net} {w : Ver}
    (h : t3RoundTrip cfg req net = .ok w) : Negotiated net w := by
  obtain ⟨rfl, _, hh⟩ := t3_ok h
  exact hh

/-- The TLS dial of the HTTP/2 stack yields HTTP/2 or nothing; without user functions it
succeeds only after a handshake the TCP configuration accepted. -/
theorem t2Dial_ok {cfg : Cfg} {req : Req} {net : Net} {w : Ver}
    (h : t2Dial cfg req net = .ok w) :
    w = .h2 ∧ (cfg.dialTLS = false → cfg.handshake = false → net.tcpAccept = true) := by
  unfold t2Dial at h
  by_cases hd : cfg.dialTLS = true
  · rw [if_pos hd] at h
    refine ⟨?_, fun h0 => by rw [hd] at h0; cases h0⟩
    split at h
    · cases h
    · exact (speak_ok h).1
    · exact (speak_ok h).1
  · rw [if_neg hd] at h
    obtain ⟨_, h⟩ := of_ite (by simp) h
    by_cases hh : cfg.handshake = true
    · rw [if_pos hh] at h
      refine ⟨?_, fun _ h0 => by rw [hh] at h0; cases h0⟩
      split at h
      · cases h
      · cases h
      · obtain ⟨_, h⟩ := of_ite (by simp) h
        obtain ⟨_, h⟩ := of_ite (by simp) h
        cases h; rfl
    · rw [if_neg hh] at h
      split at h
      · cases h
      · obtain ⟨ha, h⟩ := of_ite (by simp) h
        split at h <;> cases h
        exact ⟨rfl, fun _ _ => by simpa using ha⟩

theorem t2_ok {cfg : Cfg} {req : Req} {net : Net} {w : Ver}
    (h : t2RoundTrip cfg req net = .ok w) :
    w = .h2 ∧ (req.scheme = .https ∨ (req.scheme = .http ∧ cfg.allowHTTP = true))
      ∧ (net.cachedH2 = true ∨ t2Dial cfg req net = .ok w) := by
  unfold t2RoundTrip at h
  split at h; · cases h
  rename_i hs
  have hs' : req.scheme = .https ∨ (req.scheme = .http ∧ cfg.allowHTTP = true) := by
    simp at hs
    by_cases h1 : req.scheme = .https
    · exact Or.inl h1
    · exact Or.inr (hs h1)
  split at h
  · cases h; exact ⟨rfl, hs', .inl ‹_›⟩
  · exact ⟨(t2Dial_ok h).1, hs', .inr h⟩

theorem h1Path_ok {cfg : Cfg} {req : Req} {net : Net} {v : Ver} (h : h1Path cfg req net = .ok v) :
    (req.scheme = .http ∧ v = .h1)
    ∨ (req.scheme = .https ∧ ∃ st, dialTlsState cfg (cfg.force = some .h1 || req.requiresH1) net = .ok st
        ∧ carry cfg st = .ok v) := by
  unfold h1Path at h
  split at h
  · cases h
  · left; exact ⟨by assumption, (speak_ok h).1⟩
  · right
    refine ⟨by assumption, ?_⟩
    split at h
    · cases h
    · exact ⟨_, by assumption, h⟩

theorem dialTlsState_nohook {cfg : Cfg} {o : Bool} {net : Net} (hd : cfg.dialTLS = false)
    (hh : cfg.handshake = false) :
    dialTlsState cfg o net =
      match negotiate net.alpn (if o then [] else cfg.protos) with
      | none => .error .alpnNoOverlap
      | some p =>
        if !net.tcpAccept then .error .tlsReject
        else if cfg.force = some .h2 ∧ p ≠ some .h2 then .error .h2NotSupported
        else .ok (some ⟨p, true⟩) := by
  unfold dialTlsState
  simp [hd, hh]
  cases negotiate net.alpn (if o = true then [] else cfg.protos) <;> rfl

theorem h1Path_https {cfg : Cfg} {req : Req} {net : Net} (hs : req.scheme = .https) :
    h1Path cfg req net =
      match dialTlsState cfg (cfg.force = some .h1 || req.requiresH1) net with
      | .error e => .error e
      | .ok st => carry cfg st := by
  unfold h1Path
  rw [hs]
  rfl

theorem carry_tls_ok {cfg : Cfg} {p : Option Alpn} {v : Ver}
    (h : carry cfg (some ⟨p, true⟩) = .ok v) : if p = some .h2 then v = .h2 else v = .h1 := by
  rcases carry_ok h with ⟨hv, _, s, hs, hp⟩ | ⟨hv, hpe⟩
  · cases hs; simp at hp; simp [hp, hv]
  · by_cases hp : p = some .h2
    · subst hp; simp [peerOf] at hpe
    · simp [hp, hv]

theorem h1Path_negotiated {cfg : Cfg} {req : Req} {net : Net} (hs : req.scheme = .https)
    (hd : cfg.dialTLS = false) (hh : cfg.handshake = false) (o : Bool)
    (ho : (decide (cfg.force = some .h1) || req.requiresH1) = o) :
    match negotiate net.alpn (if o then [] else cfg.protos) with
    | none => h1Path cfg req net = .error .alpnNoOverlap
    | some p => ∀ v, h1Path cfg req net = .ok v → (if p = some .h2 then v = .h2 else v = .h1) := by
  rw [h1Path_https hs, dialTlsState_nohook hd hh, ho]
  cases negotiate net.alpn (if o then [] else cfg.protos) with
  | none => rfl
  | some p =>
    intro v h
    by_cases ha : net.tcpAccept = true
    · simp only [ha, Bool.not_true, Bool.false_eq_true, if_false] at h
      by_cases h2 : cfg.force = some .h2 ∧ p ≠ some .h2
      · rw [if_pos h2] at h; cases h
      · rw [if_neg h2] at h; exact carry_tls_ok h
    · simp [ha] at h

theorem t3_not_crash {cfg : Cfg} {req : Req} {net : Net} (h : cfg.h3 = true) :
    t3RoundTrip cfg req net ≠ .crash := by
  unfold t3RoundTrip
  rw [if_neg (by simp [h])]
  exact ite_ne (by simp) <| ite_ne (by simp) <| ite_ne (by simp) <| ite_ne (by simp) (by simp)

theorem t2Dial_not_crash {cfg : Cfg} {req : Req} {net : Net}
    (hc : cfg.handshake = true → net.custom ≠ .plain) : t2Dial cfg req net ≠ .crash := by
  unfold t2Dial
  refine ite_ne ?_ (ite_ne (by simp) ?_)
  · split
    · simp
    · exact speak_not_crash
    · exact speak_not_crash
  · by_cases hh : cfg.handshake = true
    · -- the one crashing leaf: a custom handshake function that returns a plain connection
      rw [if_pos hh]
      split
      · simp
      · next hp => exact absurd hp (hc hh)
      · exact ite_ne (by simp) (ite_ne (by simp) (by simp))
    · rw [if_neg hh]
      split
      · simp
      · exact ite_ne (by simp) (ite_ne (by simp) (by simp))

theorem h1Path_not_crash {cfg : Cfg} {req : Req} {net : Net} : h1Path cfg req net ≠ .crash := by
  unfold h1Path
  split
  · simp
  · exact speak_not_crash
  · split
    · simp
    · exact carry_not_crash

theorem h1PathVia_ok {px : ProxyNet} {cfg : Cfg} {req : Req} {net : Net} {v : Ver}
    (h : h1PathVia px cfg req net = .ok v) :
    (req.scheme = .http ∧ v = .h1 ∧ px.up = true)
    ∨ (req.scheme = .https ∧ px.up = true ∧ px.tunnel = true
        ∧ ∃ st, dialTlsStateTunnel cfg (cfg.force = some .h1 || req.requiresH1) net = .ok st ∧ carry cfg st = .ok v) := by
  unfold h1PathVia at h
  split at h
  · cases h
  · next hs =>
    obtain ⟨hup, h⟩ := of_ite (by simp) h
    refine .inl ⟨hs, ?_, by simpa using hup⟩
    split at h
    · cases h; rfl
    · exact (speak_ok (of_ite (by simp) h).2).1
  · next hs =>
    obtain ⟨hup, h⟩ := of_ite (by simp) h
    simp only [Bool.or_eq_true, Bool.not_eq_eq_eq_not, Bool.not_true, not_or, Bool.not_eq_false] at hup
    split at h
    · cases h
    · exact .inr ⟨hs, hup.1, hup.2, _, ‹_›, h⟩

theorem h1PathVia_not_crash {px : ProxyNet} {cfg : Cfg} {req : Req} {net : Net} :
    h1PathVia px cfg req net ≠ .crash := by
  unfold h1PathVia
  split
  · simp
  · refine ite_ne (by simp) ?_
    split
    · simp
    · exact ite_ne (by simp) speak_not_crash
  · refine ite_ne (by simp) ?_
    split
    · simp
    · exact carry_not_crash

/-- The HTTP/1.1 connection path, direct or through a proxy: plain requests are HTTP/1.1; https
ones are carried as the TLS state of the dial says — the dial being the client's own, except that
behind a proxy `DialTLSContext` is not consulted. -/
theorem h1PathP_ok {px : Option ProxyNet} {cfg : Cfg} {req : Req} {net : Net} {v : Ver}
    (h : h1PathP px cfg req net = .ok v) :
    (req.scheme = .http ∧ v = .h1)
    ∨ (req.scheme = .https ∧ ∃ st,
        dialTlsState (if px.isSome then { cfg with dialTLS := false } else cfg)
          (cfg.force = some .h1 || req.requiresH1) net = .ok st ∧ carry cfg st = .ok v) := by
  cases px with
  | none => exact (h1Path_ok h).imp_right id
  | some p =>
    rcases h1PathVia_ok h with ⟨hs, hv, _⟩ | ⟨hs, _, _, st, hst, hc⟩
    · exact .inl ⟨hs, hv⟩
    · exact .inr ⟨hs, st, hst, hc⟩

/-- An https request carried over a new connection of that path, no handshake function set and no
TLS dialer consulted (none set, or a proxy in between): HTTP/1.1 or HTTP/2, after a handshake the
client's configuration accepted. -/
theorem h1PathP_accepted {px : Option ProxyNet} {cfg : Cfg} {req : Req} {net : Net} {v : Ver}
    (hs : req.scheme = .https) (hh : cfg.handshake = false) (hd : px.isSome = true ∨ cfg.dialTLS = false)
    (h : h1PathP px cfg req net = .ok v) : net.tcpAccept = true ∧ v ≠ .h3 := by
  rcases h1PathP_ok h with ⟨hh', _⟩ | ⟨_, st, hst, hc⟩
  · rw [hs] at hh'; cases hh'
  · refine ⟨dialTlsState_accepted ?_ ?_ hst, ?_⟩
    · cases px <;> simp_all
    · cases px <;> exact hh
    · rcases carry_ok hc with ⟨rfl, _⟩ | ⟨rfl, _⟩ <;> simp

/-- **The decision of `roundTrip`, read backwards.** A request that is carried was carried in one
of four ways: by the HTTP/3 round tripper (forced, or through the Alt-Svc shortcut of an un-forced
client), by the HTTP/2 transport (forced), by a cached HTTP/2 or HTTP/3 connection (un-forced
https), or over the HTTP/1.1 connection path (HTTP/2 and HTTP/3 not forced). -/
theorem routeP_ok {px : Option ProxyNet} {cfg : Cfg} {req : Req} {net : Net} {v : Ver}
    (h : routeP px cfg req net = .ok v) :
    ((cfg.force = none ∨ cfg.force = some .h3) ∧ t3RoundTrip cfg req net = .ok v)
    ∨ (cfg.force = some .h2 ∧ t2RoundTrip cfg req net = .ok v)
    ∨ (cfg.force = none ∧ req.scheme = .https ∧
        ((v = .h2 ∧ net.cachedH2 = true) ∨ (v = .h3 ∧ net.cachedH3 = true)))
    ∨ (cfg.force ≠ some .h2 ∧ cfg.force ≠ some .h3 ∧ h1PathP px cfg req net = .ok v) := by
  unfold routeP at h
  by_cases ha : (cfg.force = none && req.scheme = .https && cfg.h3 && net.alt) = true
  · rw [if_pos ha] at h
    simp only [Bool.and_eq_true, decide_eq_true_eq] at ha
    obtain ⟨⟨⟨hnone, _⟩, _⟩, _⟩ := ha
    exact .inl ⟨.inl hnone, h⟩
  · rw [if_neg ha] at h
    unfold dispatchP at h
    rcases hf : cfg.force with _ | (_ | _ | _) <;> simp only [hf] at h
    · by_cases hs : req.scheme = .https
      · simp only [hs, decide_true, ne_eq, reduceCtorEq, not_false_eq_true, Bool.and_self, if_true] at h
        by_cases h2 : net.cachedH2 = true
        · rw [if_pos h2] at h; cases h; exact .inr (.inr (.inl ⟨rfl, hs, .inl ⟨rfl, h2⟩⟩))
        · rw [if_neg h2] at h
          by_cases h3 : (cfg.h3 && net.cachedH3) = true
          · rw [if_pos h3] at h; cases h
            exact .inr (.inr (.inl ⟨rfl, hs, .inr ⟨rfl, (Bool.and_eq_true _ _ ▸ h3).2⟩⟩))
          · rw [if_neg h3] at h; exact .inr (.inr (.inr ⟨nofun, nofun, h⟩))
      · simp only [hs, decide_false, Bool.false_and, Bool.false_eq_true, if_false] at h
        exact .inr (.inr (.inr ⟨nofun, nofun, h⟩))
    · simp only [ne_eq, not_true_eq_false, decide_false, Bool.and_false, Bool.false_eq_true, if_false] at h
      exact .inr (.inr (.inr ⟨nofun, nofun, h⟩))
    · exact .inr (.inl ⟨rfl, h⟩)
    · exact .inl ⟨.inr rfl, h⟩

theorem route_of_no_alt {cfg : Cfg} {req : Req} {net : Net} (h : net.alt = false) :
    route cfg req net = dispatch cfg req net ∧ routeUnpatched cfg req net = dispatch cfg req net := by
  simp [route, routeUnpatched, h]

end Req.Lemmas.Dispatch
