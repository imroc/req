import Req.C02.H1Body
import Req.Lemmas.TrimBy
import Req.Lemmas.ListFacts
/-!
HTTP/1.1 field blocks (response head fields, trailer section): what the origin writes —
`name ":" OWS value OWS CRLF` per field, then an empty line — is read back as exactly those
fields: canonical name, value without the optional whitespace, wire order.
-/
namespace Req.C02
open Req.Proto Req.Ascii
open Req.Trim (trimBy_pad takeWhile_ne_append)

def isOWS (c : UInt8) : Bool := c == 32 || c == 9

theorem isOWS_iff {c : UInt8} : isOWS c = true ↔ c = 32 ∨ c = 9 := by
  simp [isOWS]

theorem ows_value (x : UInt8) (hx : isOWS x = true) : (x ≥ 32 ∧ x != 127) ∨ x == 9 := by
  rcases isOWS_iff.mp hx with rfl | rfl <;> decide

theorem cutCRLF_cons_ne {a : UInt8} (h : a ≠ 13) (s : Bytes) :
    cutCRLF (a :: s) = (cutCRLF s).map fun (l, r) => (a :: l, r) := by
  cases s with
  | nil => rfl
  | cons b s => simp [cutCRLF, h]

theorem cutCRLF_append (l R : Bytes) (h : (13 : UInt8) ∉ l) : cutCRLF (l ++ 13 :: 10 :: R) = some (l, R) := by
  induction l with
  | nil => rfl
  | cons x xs ih =>
    rw [List.cons_append, cutCRLF_cons_ne (fun e => h (e ▸ List.mem_cons_self)),
      ih fun hm => h (List.mem_cons_of_mem x hm)]
    rfl

/-- A field value as the origin means it: no control byte other than HTAB (the test
`parseFieldLine` makes), no leading/trailing optional whitespace. -/
def ValueOK (v : Bytes) : Prop :=
  (v.all fun c => (c ≥ 32 ∧ c != 127) ∨ c == 9) = true ∧
  (∀ a rest, v = a :: rest → isOWS a = false) ∧ (∀ a pre, v = pre ++ [a] → isOWS a = false)

theorem ValueOK.head {v : Bytes} (hv : ValueOK v) : ∀ a ∈ v.head?, isOWS a = false := fun a ha =>
  let ⟨rest, e⟩ := List.head?_eq_some_iff.mp ha
  hv.2.1 a rest e

theorem ValueOK.last {v : Bytes} (hv : ValueOK v) : ∀ a ∈ v.getLast?, isOWS a = false := fun a ha =>
  let ⟨pre, e⟩ := List.getLast?_eq_some_iff.mp ha
  hv.2.2 a pre e

theorem trimOWS_pad (p1 v p2 : Bytes) (h1 : ∀ x ∈ p1, isOWS x = true) (h2 : ∀ x ∈ p2, isOWS x = true)
    (hv : ValueOK v) : trimOWS (p1 ++ v ++ p2) = v :=
  trimBy_pad h1 h2 hv.head hv.last

/-- A field as the origin writes it: `name ":" pad1 value pad2`. -/
structure WField where
  name : Bytes
  pad1 : Bytes
  value : Bytes
  pad2 : Bytes
deriving Repr

def WField.OK (f : WField) : Prop :=
  f.name ≠ [] ∧ f.name.all isTokenByte = true ∧ ValueOK f.value ∧
  (∀ x ∈ f.pad1, isOWS x = true) ∧ (∀ x ∈ f.pad2, isOWS x = true)

def WField.line (f : WField) : Bytes := f.name ++ 58 :: (f.pad1 ++ f.value ++ f.pad2)

theorem tokenByte_not_ows (c : UInt8) (h : isTokenByte c = true) : isOWS c = false :=
  Bool.eq_false_iff.mpr fun hc => by
    rcases isOWS_iff.mp hc with rfl | rfl <;> exact absurd h (by decide)

theorem parseFieldLine_line (f : WField) (h : f.OK) :
    parseFieldLine f.line = some (canonicalMIMEHeaderKey f.name, f.value) := by
  obtain ⟨hne, htok, hv, hp1, hp2⟩ := h
  have htw : f.line.takeWhile (· != 58) = f.name := takeWhile_ne_append (List.not_mem_of_all htok rfl) _
  have hlen : ¬ f.name.length = f.line.length := by
    rw [WField.line, List.length_append, List.length_cons]; omega
  have hdrop : f.line.drop (f.name.length + 1) = f.pad1 ++ f.value ++ f.pad2 := by
    rw [WField.line, List.drop_append]; simp
  simp only [parseFieldLine, htw, List.isEmpty_iff, hne, hlen, htok, Bool.not_true, Bool.false_eq_true,
    or_self, if_false, hdrop, trimOWS_pad _ _ _ hp1 hp2 hv]
  rw [if_pos hv.1]

theorem WField.line_bytes (f : WField) (h : f.OK) :
    ∀ c ∈ f.line, isTokenByte c = true ∨ (c ≥ 32 ∧ c != 127) ∨ c == 9 := by
  obtain ⟨_, htok, hv, hp1, hp2⟩ := h
  intro c hc
  simp only [WField.line, List.mem_append, List.mem_cons] at hc
  rcases hc with h1 | rfl | (h1 | h1) | h1
  · exact .inl (List.all_eq_true.mp htok c h1)
  · exact .inr (by decide)
  · exact .inr (ows_value c (hp1 c h1))
  · exact .inr (of_decide_eq_true (List.all_eq_true.mp hv.1 c h1))
  · exact .inr (ows_value c (hp2 c h1))

theorem WField.line_no_cr (f : WField) (h : f.OK) : (13 : UInt8) ∉ f.line := fun hm =>
  absurd (WField.line_bytes f h 13 hm) (by decide)

/-- A field line has at least two bytes (a name byte, then more name or the colon). -/
theorem WField.line_head (f : WField) (h : f.OK) : ∃ a b r, f.line = a :: b :: r ∧ isTokenByte a = true := by
  obtain ⟨hne, htok, _⟩ := h
  have ha : ∀ a n, f.name = a :: n → isTokenByte a = true := fun a n hn =>
    List.all_eq_true.mp htok a (hn ▸ List.mem_cons_self)
  unfold WField.line
  match hn : f.name with
  | [] => exact absurd hn hne
  | [a] => exact ⟨a, 58, _, rfl, ha a _ hn⟩
  | a :: b :: n => exact ⟨a, b, _, rfl, ha a _ hn⟩

/-- The field block the origin writes: every field line with CRLF, then the empty line. -/
def blockWire (fs : List WField) : Bytes := (fs.map fun f => f.line ++ [13, 10]).flatten ++ [13, 10]

theorem blockWire_cons (f : WField) (fs : List WField) :
    blockWire (f :: fs) = f.line ++ 13 :: 10 :: blockWire fs := by
  simp [blockWire, List.append_assoc]

theorem blockWire_len (fs : List WField) (hfs : ∀ f ∈ fs, f.OK) :
    4 * fs.length + 2 ≤ (blockWire fs).length := by
  induction fs with
  | nil => exact Nat.le_refl 2
  | cons f fs ih =>
    obtain ⟨a, b, r, hl, _⟩ := WField.line_head f (hfs f List.mem_cons_self)
    have := ih fun g hg => hfs g (List.mem_cons_of_mem f hg)
    rw [blockWire_cons, hl]
    simp only [List.length_append, List.length_cons]
    omega

def fieldsOf (fs : List WField) : List (Bytes × Bytes) :=
  fs.map fun f => (canonicalMIMEHeaderKey f.name, f.value)

theorem parseFieldBlock_block (fs : List WField) (hfs : ∀ f ∈ fs, f.OK) (R : Bytes) (fuel : Nat)
    (hfuel : fs.length < fuel) :
    parseFieldBlock fuel (blockWire fs ++ R) = some (fieldsOf fs, (blockWire fs).length) := by
  induction fs generalizing fuel with
  | nil =>
    obtain ⟨fuel, rfl⟩ := Nat.exists_eq_add_one_of_ne_zero (Nat.ne_zero_of_lt hfuel)
    rfl
  | cons f fs ih =>
    obtain ⟨fuel, rfl⟩ := Nat.exists_eq_add_one_of_ne_zero (Nat.ne_zero_of_lt hfuel)
    have hf := hfs f List.mem_cons_self
    obtain ⟨a, b, r, hl, _⟩ := WField.line_head f hf
    have hne : f.line.isEmpty = false := by rw [hl]; rfl
    rw [blockWire_cons, List.append_assoc, parseFieldBlock, List.cons_append, List.cons_append,
      cutCRLF_append _ _ (WField.line_no_cr f hf)]
    simp only [hne, Bool.false_eq_true, if_false, parseFieldLine_line f hf,
      ih (fun g hg => hfs g (List.mem_cons_of_mem f hg)) fuel (Nat.lt_of_succ_lt_succ hfuel)]
    simp only [fieldsOf, List.map_cons, List.length_append, List.length_cons]
    congr 2
    omega

end Req.C02
