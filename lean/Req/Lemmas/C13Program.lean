import Req.Lemmas.C13BufW
import Req.Lemmas.SplitReads
import Req.Lemmas.ListFacts
/-! What the HTTP/1.1 write program writes, per account. -/
namespace Req.H1.DumpWrite
open Req.Proto Req.H1

theorem dataOf_writes (a : Acc) (t : Tag) (ds : List Bytes) :
    dataOf a (ds.map (fun d => Op.write d t)) = if a.sel t then ds.flatten else [] := by
  induction ds with
  | nil => simp [dataOf]
  | cons d ds ih =>
    simp only [List.map_cons, dataOf, ih]
    split <;> simp

theorem headOps_eq (t : Tag) (line : Bytes) (fields : Hdr) :
    headOps t line fields =
      (line :: ((linesOf fields).map renderLine ++ [crlf])).map (fun d => Op.write d t) := by
  simp [headOps, List.map_map, Function.comp_def]

theorem renderLines_flatten (fields : Hdr) :
    ((linesOf fields).map renderLine).flatten = renderFields fields := by
  unfold linesOf renderFields
  induction fields with
  | nil => rfl
  | cons kv rest ih =>
    simp only [List.flatMap_cons, List.map_append, List.flatten_append, ih]
    congr 1
    unfold renderField
    generalize kv.values = vs
    induction vs with
    | nil => rfl
    | cons v vs ihv =>
      simp only [List.map_cons, List.flatten_cons, List.flatMap_cons, ihv]
      simp [renderLine, List.append_assoc]

theorem head_flatten (line : Bytes) (fields : Hdr) :
    (line :: ((linesOf fields).map renderLine ++ [crlf])).flatten = headBytes line fields := by
  simp [headBytes, List.flatten_append, renderLines_flatten, List.append_assoc]

theorem dataOf_headOps (a : Acc) (t : Tag) (line : Bytes) (fields : Hdr) :
    dataOf a (headOps t line fields) = if a.sel t then headBytes line fields else [] := by
  rw [headOps_eq, dataOf_writes, head_flatten]

theorem htag_sel (md : Mode) (a : Acc) :
    a.sel md.htag = match a with | .hdr => md.hdrDump | .body => false | .all => true := by
  cases a <;> cases h : md.hdrDump <;> simp [Mode.htag, Acc.sel, h]

theorem btag_sel (md : Mode) (a : Acc) :
    a.sel md.btag = match a with | .hdr => false | .body => md.bodyDump | .all => true := by
  cases a <;> cases h : md.bodyDump <;> simp [Mode.btag, Acc.sel, h]

theorem dataOf_chunkOps (a : Acc) (t : Tag) (p : Bytes) :
    dataOf a (chunkOps t p) =
      if p.isEmpty then [] else
        (if a.sel .raw then Req.BStr.natToHex p.length ++ crlf else []) ++ (if a.sel t then p else []) ++
        (if a.sel .raw then crlf else []) := by
  unfold chunkOps
  split
  · rfl
  · simp [dataOf, List.append_assoc]

theorem sel_raw (a : Acc) : a.sel .raw = match a with | .all => true | _ => false := by
  cases a <;> rfl

theorem flatMap_skip_empty (g : Bytes → Bytes) (ps : List Bytes) :
    ps.flatMap (fun p => if p.isEmpty then [] else g p) = (ps.filter (!·.isEmpty)).flatMap g := by
  simp [List.flatMap_filter]

theorem flatMap_const_nil {α : Type} (ps : List α) : ps.flatMap (fun _ => ([] : Bytes)) = [] :=
  List.flatMap_eq_nil_iff.mpr fun _ _ => rfl

theorem flatMap_ite {α : Type} (c : Prop) [Decidable c] (ps : List α) (g : α → Bytes) :
    ps.flatMap (fun p => if c then g p else []) = if c then ps.flatMap g else [] := by
  split
  · rfl
  · exact flatMap_const_nil ps

/-- per piece: what the chunked path writes for account `a`. -/
theorem piece_chunked (a : Acc) (md : Mode) (p : Bytes) :
    dataOf a (Op.read :: chunkOps md.btag p) =
      match a with
      | .all => if p.isEmpty then [] else chunk p
      | .body => if md.bodyDump then p else []
      | .hdr => [] := by
  simp only [dataOf, dataOf_chunkOps, btag_sel, sel_raw]
  by_cases hp : p.isEmpty
  · cases List.isEmpty_iff.mp hp; cases a <;> simp
  · cases a <;> simp [hp, chunk, List.append_assoc]

/-- per piece: the unframed stream path (CONNECT). -/
theorem piece_stream (a : Acc) (m : Bytes) (md : Mode) (p : Bytes) :
    dataOf a (Op.read :: (if p.isEmpty then [] else
        Op.write p md.btag :: (if connectFlush m md then [Op.flush] else []))) =
      match a with
      | .all => p
      | .body => if md.bodyDump then p else []
      | .hdr => [] := by
  by_cases hp : p.isEmpty
  · cases List.isEmpty_iff.mp hp; cases a <;> simp [dataOf]
  · by_cases hc : connectFlush m md <;> cases a <;> simp [hp, hc, dataOf, btag_sel]

/-- per piece: known length through the body wrapper. -/
theorem piece_write (a : Acc) (p : Bytes) :
    dataOf a (Op.read :: (if p.isEmpty then [] else [Op.write p .body])) =
      match a with
      | .hdr => []
      | _ => p := by
  by_cases hp : p.isEmpty
  · cases List.isEmpty_iff.mp hp; cases a <;> simp [dataOf]
  · cases a <;> simp [hp, dataOf, Acc.sel]

/-- per piece: known length through `bufio.ReadFrom` (no body dumper). -/
theorem piece_readFrom (a : Acc) (p : Bytes) :
    dataOf a [Op.flushIfFull, Op.read, Op.write p .raw] =
      match a with
      | .all => p
      | _ => [] := by
  cases a <;> simp [dataOf, Acc.sel]

/-- The body part of the program, per account: everything it writes is the body as framed on the
wire; nothing of it reaches a header dump wrapper; the body dump wrappers are handed the body
bytes. -/
theorem dataOf_bodyOps (m : Bytes) (f : Framing) (md : Mode) (pieces : List Bytes)
    (hf : md.bodyFails = false) :
    dataOf .all (bodyOps m f md pieces) = bodyWire f pieces ∧
    dataOf .hdr (bodyOps m f md pieces) = [] ∧
    dataOf .body (bodyOps m f md pieces) = (if md.bodyDump then bodyDumpBytes f pieces else []) := by
  unfold bodyOps bodyWire bodyDumpBytes
  by_cases h0 : f.sendBody
  · simp only [h0, Bool.not_true, Bool.false_eq_true, ↓reduceIte]
    by_cases h1 : f.chunked
    · simp only [h1, ↓reduceIte, hf, Bool.false_eq_true, dataOf_append, dataOf_flatMap, piece_chunked,
        flatMap_ite, List.flatMap_id', flatMap_const_nil, flatMap_skip_empty]
      refine ⟨?_, ?_, ?_⟩
      · simp [dataOf, Acc.sel, List.append_assoc]
      · simp [dataOf, btag_sel, sel_raw]
      · cases hb : md.bodyDump <;> simp [dataOf, btag_sel, sel_raw, hb]
    · simp only [h1, Bool.false_eq_true, ↓reduceIte, List.append_nil]
      by_cases h2 : f.cl == -1
      · simp only [h2, ↓reduceIte, dataOf_flatMap, piece_stream, flatMap_ite, List.flatMap_id',
          flatMap_const_nil, and_self]
      · simp only [h2, Bool.false_eq_true, ↓reduceIte]
        by_cases h3 : md.bodyDump
        · simp only [h3, ↓reduceIte, dataOf_flatMap, piece_write, List.flatMap_id', flatMap_const_nil,
            and_self]
        · simp only [h3, Bool.false_eq_true, ↓reduceIte, hf, dataOf_append, dataOf_flatMap, piece_readFrom]
          simp only [dataOf, List.append_nil, List.flatMap_id', flatMap_const_nil, and_self]
  · simp [h0, dataOf]

theorem writeRequest_ok (B : Nat) (limit : Option Nat) (r : WReq) (md : Mode) (pieces : List Bytes)
    (st : St) (h : writeRequest B limit r md pieces = .ok st) :
    ∃ host f, wireHost r = .ok host ∧ framing r = .ok f ∧
      Req.BStr.containsCTL (requestTarget r host) = false ∧
      st = run B (St.init limit)
        (program r.method (requestLine r (requestTarget r host)) (h1Fields r host f) f md pieces) := by
  unfold writeRequest at h
  cases hh : wireHost r with
  | error e => rw [hh] at h; cases h
  | ok host =>
    rw [hh] at h
    simp only [bind, Except.bind] at h
    by_cases hc : Req.BStr.containsCTL (requestTarget r host)
    · simp [hc, throw, throwThe, MonadExceptOf.throw] at h
    · simp only [hc, Bool.false_eq_true, ↓reduceIte, pure, Except.pure] at h
      cases hfr : framing r with
      | error e => rw [hfr] at h; cases h
      | ok f =>
        rw [hfr] at h
        simp only at h
        injection h with h
        exact ⟨host, f, rfl, rfl, by simpa using hc, h.symm⟩

/-- With the body read at the chunk boundaries of the wire model, the program's body bytes are the
wire model's. -/
theorem bodyWire_splitReads (r : WReq) (f : Framing) (body : Bytes) (hb : bodyBytes r f = .ok body) :
    bodyWire f (splitReads r.body r.reads) = body := by
  obtain ⟨hfl, hne⟩ := splitReads_spec r.reads r.body
  have hfilter : (splitReads r.body r.reads).filter (!·.isEmpty) = splitReads r.body r.reads :=
    List.filter_eq_self.mpr fun p hp => by simpa using hne p hp
  unfold bodyBytes at hb
  rw [bodyWire, hfilter, hfl]
  by_cases h0 : (!f.sendBody) = true
  · rw [if_pos h0] at hb ⊢; cases hb; rfl
  · rw [if_neg h0] at hb ⊢
    by_cases h1 : f.chunked = true
    · rw [if_pos h1] at hb ⊢; cases hb; rfl
    · rw [if_neg h1] at hb ⊢
      -- unframed, or of known length: the body itself, unless the announced length is wrong
      by_cases h2 : (f.cl == -1) = true
      · rw [if_pos h2] at hb; cases hb; rfl
      · rw [if_neg h2] at hb
        split at hb <;> cases hb
        rfl

end Req.H1.DumpWrite
