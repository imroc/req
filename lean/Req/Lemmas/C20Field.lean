import Req.Client.DigestAuth
import Req.Client.Rfc7616
/-!
The switch over the parameter names of a Digest challenge, described once for both models of
digest.go: `store` is what `Req.Digest.setField` and `Req.DigestAuth.setParam` do to the challenge
under construction (`setField_eq`, `setParam_eq`; they differ in the unknown name and in who strips the
quotes), `field` reads back what `store` wrote (`field_store`), a fold of `store` leaves in each
field the last value written under its name (`field_foldl_pairs`), and what the server issued can be
read off such fields (`issued_of_fields`). `knownKeys`, `store` and `lastVal` occur, through `ParamOK`,
`challengeOf`, `challengeOfParams` and `Describes`, in the statements of `Req/Props/C20Legacy.lean` and
`Req/Props/C20Digest.lean`.

A tenth parameter name means a line in each of `knownKeys`, `store`, `field`, `storedKeys`, one more
`rfl` pattern in `setField_eq`, `setParam_eq` and `field_store`, and its hypothesis in
`issued_of_fields`.
-/
namespace Req.Digest
open Req.Proto Req.Ascii

/-- the nine parameter names `parseChallenge` knows -/
def knownKeys : List Bytes :=
  [b!"realm", b!"domain", b!"nonce", b!"opaque", b!"stale", b!"algorithm", b!"qop", b!"charset", b!"userhash"]

theorem knownKeys_lower : ∀ k ∈ knownKeys, k ≠ [] ∧ k.all isLower = true := by decide

/-- what a parameter does to the challenge under construction (total form of `setField`) -/
def store (c : Challenge) (k v : Bytes) : Challenge :=
  if k == b!"realm" then { c with realm := v }
  else if k == b!"domain" then { c with domain := v }
  else if k == b!"nonce" then { c with nonce := v }
  else if k == b!"opaque" then { c with opaq := v }
  else if k == b!"stale" then { c with stale := v }
  else if k == b!"algorithm" then { c with algorithm := v }
  else if k == b!"qop" then { c with qop := v }
  else if k == b!"userhash" then { c with userhash := v }
  else c

/-! In both equations: on each of the nine names the two sides compute; on any other name every
comparison of the if-chain fails. -/

theorem setField_eq (c : Challenge) (k v : Bytes) :
    setField c k v =
      if k == b!"charset" then
        (if isUtf8Name (trim isQuote v) then .ok c else .error .charset)
      else if k ∈ knownKeys then .ok (store c k (trim isQuote v))
      else .error .badChallenge := by
  by_cases hk : k ∈ knownKeys
  · rw [if_pos hk]
    simp only [knownKeys, List.mem_cons, List.not_mem_nil, or_false] at hk
    rcases hk with rfl | rfl | rfl | rfl | rfl | rfl | rfl | rfl | rfl <;> rfl
  · rw [if_neg hk]
    simp only [knownKeys, List.mem_cons, List.not_mem_nil, or_false, not_or,
      ← beq_eq_false_iff_ne] at hk
    simp only [setField, hk, Bool.false_eq_true, if_false]

theorem _root_.Req.DigestAuth.setParam_eq (c : Challenge) (k v : Bytes) :
    Req.DigestAuth.setParam c k v =
      if k == b!"charset" then (if isUtf8Name v then .ok c else .error .charset)
      else .ok (store c k v) := by
  by_cases hk : k ∈ knownKeys
  · simp only [knownKeys, List.mem_cons, List.not_mem_nil, or_false] at hk
    rcases hk with rfl | rfl | rfl | rfl | rfl | rfl | rfl | rfl | rfl <;> rfl
  · simp only [knownKeys, List.mem_cons, List.not_mem_nil, or_false, not_or,
      ← beq_eq_false_iff_ne] at hk
    simp only [Req.DigestAuth.setParam, store, hk, Bool.false_eq_true, if_false]

/-- the field of `c` that `store` writes under the name `k` (`[]` under any other name) -/
def field (k : Bytes) (c : Challenge) : Bytes :=
  if k == b!"realm" then c.realm
  else if k == b!"domain" then c.domain
  else if k == b!"nonce" then c.nonce
  else if k == b!"opaque" then c.opaq
  else if k == b!"stale" then c.stale
  else if k == b!"algorithm" then c.algorithm
  else if k == b!"qop" then c.qop
  else if k == b!"userhash" then c.userhash
  else []

/-- the names under which `store` writes a field: `knownKeys` without `charset` -/
def storedKeys : List Bytes :=
  [b!"realm", b!"domain", b!"nonce", b!"opaque", b!"stale", b!"algorithm", b!"qop", b!"userhash"]

theorem store_other (c : Challenge) (k v : Bytes) (hk : k ∉ storedKeys) : store c k v = c := by
  simp only [storedKeys, List.mem_cons, List.not_mem_nil, or_false, not_or,
    ← beq_eq_false_iff_ne] at hk
  simp only [store, hk, Bool.false_eq_true, if_false]

theorem field_store (k k' v : Bytes) (c : Challenge) (hk : k ∈ storedKeys) :
    field k (store c k' v) = if k' == k then v else field k c := by
  by_cases hk' : k' ∈ storedKeys
  · simp only [storedKeys, List.mem_cons, List.not_mem_nil, or_false] at hk hk'
    rcases hk with rfl | rfl | rfl | rfl | rfl | rfl | rfl | rfl <;>
    rcases hk' with rfl | rfl | rfl | rfl | rfl | rfl | rfl | rfl <;> rfl
  · rw [store_other c k' v hk', if_neg]
    intro e
    exact hk' (eq_of_beq e ▸ hk)

theorem field_empty : ∀ k ∈ storedKeys, field k {} = [] := by decide

theorem ofNonempty_getD (o : Option Bytes) (h : o ≠ some []) :
    (if (o.getD []).isEmpty then none else some (o.getD [])) = o := by
  rcases o with _ | _ | _
  · rfl
  · exact absurd rfl h
  · rfl

/-- A challenge whose fields are the values `look` finds under their names, and a server record
`sc` that `look` describes: the two agree on everything except the qop options, which the two
models of `digest.go` read differently. -/
theorem issued_of_fields (c : Challenge) (look : Bytes → Option Bytes)
    (hf : ∀ k ∈ storedKeys, field k c = (look k).getD []) (sc : Req.Rfc7616.Issued)
    (realm : look b!"realm" = some sc.realm) (nonce : look b!"nonce" = some sc.nonce)
    (opaq : look b!"opaque" = sc.opaq) (opaqNe : sc.opaq ≠ some [])
    (algorithm : look b!"algorithm" = sc.algorithm) (algorithmNe : sc.algorithm ≠ some [])
    (userhash : sc.userhash = (look b!"userhash" == some b!"true")) :
    c.realm = sc.realm ∧ c.nonce = sc.nonce ∧
    (if c.opaq.isEmpty then none else some c.opaq) = sc.opaq ∧
    (if c.algorithm.isEmpty then none else some c.algorithm) = sc.algorithm ∧
    (c.userhash == b!"true") = sc.userhash ∧ c.qop = (look b!"qop").getD [] := by
  have er : c.realm = _ := hf b!"realm" (by decide)
  have en : c.nonce = _ := hf b!"nonce" (by decide)
  have eo : c.opaq = _ := hf b!"opaque" (by decide)
  have ea : c.algorithm = _ := hf b!"algorithm" (by decide)
  have eu : c.userhash = _ := hf b!"userhash" (by decide)
  rw [er, en, eo, ea, eu, realm, nonce, opaq, algorithm, userhash]
  refine ⟨rfl, rfl, ofNonempty_getD _ opaqNe, ofNonempty_getD _ algorithmNe, ?_, hf b!"qop" (by decide)⟩
  cases look b!"userhash" with
  | none => rfl
  | some v => simp

end Req.Digest

namespace Req.DigestAuth
open Req.Proto Req.Ascii Req.Digest

/-- the value of the LAST parameter called `k` (`Req.Digest.lastValue` is the same over the written
elements of the code as found: `lastValue_eq_lastVal`) -/
def lastVal : List (Bytes × Bytes) → Bytes → Option Bytes
  | [], _ => none
  | kv :: r, k =>
    match lastVal r k with
    | some v => some v
    | none => if kv.1 == k then some kv.2 else none

theorem field_foldl_pairs (k : Bytes) (hk : k ∈ storedKeys) (ps : List (Bytes × Bytes)) (c0 : Challenge) :
    field k (ps.foldl (fun c kv => store c kv.1 kv.2) c0) = (lastVal ps k).getD (field k c0) := by
  induction ps generalizing c0 with
  | nil => rfl
  | cons kv r ih =>
    rw [List.foldl_cons, ih, lastVal, field_store k _ _ _ hk]
    cases lastVal r k with
    | some v => rfl
    | none => split <;> rfl

end Req.DigestAuth
