import Req.Lemmas.C11
import Req.Lemmas.ListFacts
/-! C11: `urlHostname`, `getHostname`, `getDomain` on host text in closed form: one lemma per shape of `URL.Host`
(`urlHostname_plain`, `urlHostname_bracket`), and `Dotted` for the text a registered name and an IPv4 address
share; then the checks of the four host policies as conditionals on propositions. -/
namespace Req.Lemmas.C11
open Req.Proto Req.Ascii Req.Redirect Req.Authority

theorem wfPort_no_colon {p : Bytes} (h : p.all isDigit = true) : (58 : UInt8) ∉ p :=
  List.not_mem_of_all h (by decide)

theorem hasPrefixByte_eq_false {c : UInt8} {s : Bytes} (h : s.head? ≠ some c) : hasPrefixByte c s = false :=
  beq_eq_false_iff_ne.mpr h

theorem urlHostname_plain (N : Bytes) (h58 : (58 : UInt8) ∉ N) (h91 : N.head? ≠ some 91)
    (port : Option Bytes) (hp : WfPort port) : urlHostname (N ++ portSuffix port) = N := by
  have hpre := hasPrefixByte_eq_false h91
  cases port with
  | none =>
    simp [portSuffix, urlHostname, splitLast_none h58, hpre]
  | some p =>
    have hp' : p.all isDigit = true := hp
    simp [portSuffix, urlHostname, splitLast_append N p (wfPort_no_colon hp'), validPortDigits, hp', hpre]

theorem strip_brackets (B : Bytes) :
    (if hasPrefixByte 91 ((91 :: B) ++ [93]) && hasSuffixByte 93 ((91 :: B) ++ [93])
      then (((91 :: B) ++ [93]).drop 1).dropLast else ((91 :: B) ++ [93])) = B := by
  have h1 : hasPrefixByte 91 ((91 :: B) ++ [93]) = true := by simp [hasPrefixByte]
  have h2 : hasSuffixByte 93 ((91 :: B) ++ [93]) = true := by
    unfold hasSuffixByte
    rw [List.getLast?_concat]
    rfl
  rw [h1, h2]
  simp

theorem urlHostname_bracket (B : Bytes) (port : Option Bytes) (hp : WfPort port) :
    urlHostname (91 :: B ++ [93] ++ portSuffix port) = B := by
  cases port with
  | none =>
    have hs : splitLast 58 ((91 :: B) ++ [93]) =
        (splitLast 58 (91 :: B)).map fun ap => (ap.1, ap.2 ++ [93]) :=
      splitLast_concat (by decide) _
    simp only [portSuffix, List.append_nil, urlHostname, hs]
    cases h : splitLast 58 (91 :: B) with
    | none => simpa using strip_brackets B
    | some ap =>
      have : validPortDigits (ap.2 ++ [93]) = false := by
        simp [validPortDigits, isDigit]
      simpa [this] using strip_brackets B
  | some p =>
    have hp' : p.all isDigit = true := hp
    have hs := splitLast_append (c := 58) (91 :: B ++ [93]) p (wfPort_no_colon hp')
    simp only [portSuffix, urlHostname, hs, validPortDigits, hp', if_true]
    exact strip_brackets B

theorem labelByteOk_iff (c : UInt8) :
    labelByteOk c = true ↔ c ≠ 46 ∧ c ≠ 58 ∧ c ≠ 91 ∧ c ≠ 93 := by
  simp [labelByteOk, and_assoc]

theorem trimSuffixDot_concat (s : Bytes) : trimSuffixDot (s ++ [46]) = s := by
  simp [trimSuffixDot, hasSuffixByte]

theorem trimSuffixDot_of_last {s : Bytes} (h : s.getLast? ≠ some 46) : trimSuffixDot s = s := by
  simp [trimSuffixDot, hasSuffixByte, beq_eq_false_iff_ne.mpr h]

theorem ip6Text_colon {addr : Bytes} (z : Option Bytes) (h : (58 : UInt8) ∈ addr) :
    (58 : UInt8) ∈ lower (Host.ip6Text addr z) := by
  rw [colon_mem_lower]
  cases z <;> simp [Host.ip6Text, h]

theorem contains_eq_false_of_not_mem {c : UInt8} {s : Bytes} (h : c ∉ s) : s.contains c = false := by
  simpa using h

theorem lower_length (s : Bytes) : (lower s).length = s.length := by simp [lower]

theorem octetField_lower {l : Bytes} (h : isOctetField (lower l) = true) : lower l = l := by
  have hd : (lower l).all isDigit = true := by
    simp only [isOctetField, Bool.and_eq_true] at h
    exact h.1.1.2
  rw [all_isDigit_lower] at hd
  exact lower_of_digits l hd

/-- Dot-separated host text, what a registered name and an IPv4 address have in common: labels free of
`. : [ ]`, the last one not empty. -/
structure Dotted (ls : List Bytes) : Prop where
  nonempty : ls ≠ []
  bytes : ∀ l ∈ ls, l.all labelByteOk = true
  last : ls.getLast? ≠ some []

theorem _root_.Req.Authority.WfName.dotted {ls : List Bytes} (h : WfName ls) : Dotted ls :=
  ⟨h.nonempty, h.bytes, h.last⟩

theorem labelByteOk_of_isDigit (c : UInt8) (h : isDigit c = true) : labelByteOk c = true := by
  rw [labelByteOk_iff]
  refine ⟨?_, ?_, ?_, ?_⟩ <;> (rintro rfl; revert h; decide)

theorem ip4_dotted {a b c d : Bytes}
    (h : isDecOctet a = true ∧ isDecOctet b = true ∧ isDecOctet c = true ∧ isDecOctet d = true) :
    Dotted [a, b, c, d] := by
  refine ⟨by simp, fun l hl => ?_, by simpa using (decOctet_ne_nil d h.2.2.2).symm⟩
  have : isDecOctet l = true := by
    simp only [List.mem_cons, List.not_mem_nil, or_false] at hl
    rcases hl with rfl | rfl | rfl | rfl
    · exact h.1
    · exact h.2.1
    · exact h.2.2.1
    · exact h.2.2.2
  exact List.all_eq_true.mpr fun x hx =>
    labelByteOk_of_isDigit x (List.all_eq_true.mp (decOctet_digits l this) x hx)

namespace Dotted
variable {ls : List Bytes}

theorem label_no (h : Dotted ls) {l : Bytes} (hl : l ∈ ls) {c : UInt8}
    (hc : c = 46 ∨ c = 58 ∨ c = 91 ∨ c = 93) : c ∉ l := by
  intro hm
  have := (labelByteOk_iff c).mp (List.all_eq_true.mp (h.bytes l hl) c hm)
  rcases hc with hc | hc | hc | hc <;> simp [hc] at this

theorem text_no (h : Dotted ls) {c : UInt8} (hc : c = 58 ∨ c = 91 ∨ c = 93) (dot : Bool) :
    c ∉ joinWith 46 ls ++ (if dot then [46] else []) := by
  have hne : c ≠ 46 := by rcases hc with hc | hc | hc <;> simp [hc]
  intro hm
  have hm' : c ∈ joinWith 46 ls := by cases dot <;> simpa [hne] using hm
  obtain ⟨l, hl, hcl⟩ := mem_joinWith hne ls hm'
  exact h.label_no hl (Or.inr hc) hcl

theorem split (h : Dotted ls) : splitOn 46 (joinWith 46 (ls.map lower)) = ls.map lower := by
  apply splitOn_joinWith
  · simpa using h.nonempty
  · intro l hl
    obtain ⟨l0, hl0, rfl⟩ := List.mem_map.mp hl
    rw [dot_mem_lower]
    exact h.label_no hl0 (Or.inl rfl)

theorem last_not_dot (hw : Dotted ls) : (joinWith 46 (ls.map lower)).getLast? ≠ some 46 := by
  have hlast : (ls.map lower).getLast? ≠ some [] := by
    rw [List.getLast?_map]
    intro h
    obtain ⟨z, hz, hz'⟩ := Option.map_eq_some_iff.mp h
    exact hw.last (by rw [hz, List.map_eq_nil_iff.mp hz'])
  rw [getLast?_joinWith _ (by simpa using hw.nonempty) hlast]
  intro h
  obtain ⟨z, hz, hz'⟩ := Option.bind_eq_some_iff.mp h
  obtain ⟨z0, hz0, rfl⟩ := List.mem_map.mp (List.mem_of_getLast? hz)
  exact hw.label_no hz0 (Or.inl rfl) ((dot_mem_lower z0).mp (List.mem_of_getLast? hz'))

theorem getHostname_eq (h : Dotted ls) (dot : Bool) (port : Option Bytes) (hp : WfPort port) :
    getHostname (joinWith 46 ls ++ (if dot then [46] else []) ++ portSuffix port) =
      lower (joinWith 46 ls ++ (if dot then [46] else [])) := by
  rw [getHostname, urlHostname_plain _ (h.text_no (Or.inl rfl) dot) (fun hh =>
    h.text_no (Or.inr (Or.inl rfl)) dot (List.mem_of_mem_head? (by rw [hh]; rfl))) port hp]

theorem getDomain_eq (h : Dotted ls) (dot : Bool) (port : Option Bytes) (hp : WfPort port) :
    getDomain (joinWith 46 ls ++ (if dot then [46] else []) ++ portSuffix port) =
      if isIPv4 (joinWith 46 (ls.map lower)) = true ∨ ls.length < 3 then joinWith 46 (ls.map lower)
      else joinWith 46 ((ls.map lower).drop 1) := by
  have htrim : trimSuffixDot (lower (joinWith 46 ls ++ (if dot then [46] else []))) =
      joinWith 46 (ls.map lower) := by
    rw [lower_append, ← joinWith_lower]
    cases dot with
    | true => exact trimSuffixDot_concat _
    | false => simpa using trimSuffixDot_of_last h.last_not_dot
  have h58 : (58 : UInt8) ∉ lower (joinWith 46 ls ++ (if dot then [46] else [])) := by
    rw [colon_mem_lower]; exact h.text_no (Or.inl rfl) dot
  simp only [getDomain, h.getHostname_eq dot port hp, contains_eq_false_of_not_mem h58, htrim, h.split,
    List.length_map]
  by_cases hv : isIPv4 (joinWith 46 (ls.map lower)) = true <;> simp [hv]

end Dotted

theorem name_not_ipv4 (ls : List Bytes) (hw : WfName ls) : isIPv4 (joinWith 46 (ls.map lower)) = false := by
  simp only [isIPv4, hw.dotted.split]
  split
  next a b c d hls =>
    apply Bool.eq_false_iff.mpr
    intro hall
    simp only [Bool.and_eq_true] at hall
    refine hw.notV4 ⟨by simpa using congrArg List.length hls, fun l hl => ?_⟩
    have hm : lower l ∈ [a, b, c, d] := hls ▸ List.mem_map_of_mem hl
    have ho : isOctetField (lower l) = true := by
      simp only [List.mem_cons, List.not_mem_nil, or_false] at hm
      rcases hm with e | e | e | e <;> rw [e] <;> simp [hall]
    rw [← octetField_eq_decOctet, ← octetField_lower ho]; exact ho
  next => rfl

theorem ip4_lower {a b c d : Bytes}
    (h : isDecOctet a = true ∧ isDecOctet b = true ∧ isDecOctet c = true ∧ isDecOctet d = true) :
    [a, b, c, d].map lower = [a, b, c, d] := by
  simp [lower_of_digits _ (decOctet_digits _ h.1), lower_of_digits _ (decOctet_digits _ h.2.1),
    lower_of_digits _ (decOctet_digits _ h.2.2.1), lower_of_digits _ (decOctet_digits _ h.2.2.2)]

/-- Both allow-list policies at once: `key` is `getHostname` or `getDomain`, `spec` the identity it computes
on renderings. -/
theorem allowed_by_key_iff {key : Bytes → Bytes} {spec : Authority → Bytes}
    (hspec : ∀ x, WfAuthority x → key x.render = spec x) (hlow : ∀ x, lower (spec x) = spec x)
    (hosts : List Authority) (a : Authority) (hh : ∀ x ∈ hosts, WfAuthority x) (ha : WfAuthority a) :
    ((hosts.map (·.render)).map fun h => lower (key h)).contains (key a.render) = true ↔
      ∃ x ∈ hosts, spec x = spec a := by
  have hm : ((hosts.map (·.render)).map fun h => lower (key h)) = hosts.map spec := by
    rw [List.map_map]
    exact List.map_congr_left fun x hx => by simp [hspec x (hh x hx), hlow]
  rw [hm, hspec a ha, List.contains_iff_mem, List.mem_map]

theorem sameHost_check (req : Bytes) (via : Via) :
    sameHostRedirectPolicy.check req via =
      if getHostname req = getHostname via.first.host then .allow else .deny := by
  simp only [sameHostRedirectPolicy, bne_iff_ne, ne_eq, ite_not]

theorem sameDomain_check (req : Bytes) (via : Via) :
    sameDomainRedirectPolicy.check req via =
      if getDomain req = getDomain via.first.host then .allow else .deny := by
  simp only [sameDomainRedirectPolicy, bne_iff_ne, ne_eq, ite_not]

theorem allowedHost_check (hosts : List Bytes) (req : Bytes) (via : Via) :
    (allowedHostRedirectPolicy hosts).check req via =
      if getHostname req ∈ hosts.map (fun h => lower (getHostname h)) then .allow else .deny := by
  simp only [allowedHostRedirectPolicy, List.contains_iff_mem]

theorem allowedDomain_check (hosts : List Bytes) (req : Bytes) (via : Via) :
    (allowedDomainRedirectPolicy hosts).check req via =
      if getDomain req ∈ hosts.map (fun h => lower (getDomain h)) then .allow else .deny := by
  simp only [allowedDomainRedirectPolicy, List.contains_iff_mem]

theorem ite_allow_iff {c : Prop} [Decidable c] : (if c then Decision.allow else .deny) = .allow ↔ c := by
  split <;> simp [*]

theorem ite_deny_iff {c : Prop} [Decidable c] : (if c then Decision.allow else .deny) = .deny ↔ ¬c := by
  split <;> simp [*]

end Req.Lemmas.C11
