import Req.C07.H1Budget
/-!
The head-phase machine `Req.C07.H1Budget.step`: its equations by event, and the invariant `Good`
of its reachable states, from which the HTTP/1.1 header budgets are read off (`good_budget`).
-/
namespace Req.Props.C07.h1budget
open Req.C07.H1Budget

/-- What holds in every reachable state of a connection set up with limit `L` and buffer size `B`
(no event changes `s.L`, `s.B`): what was taken and what is left of the budget add up to the limit
(`lim`); every byte held for the head was in the buffer when the limit was set or came from the
socket since (`src`); each interim head re-arms a whole limit, at most five times (`n1xx`, `tot`). -/
structure Good (L B : Nat) (s : St) : Prop where
  hL : s.L = L
  hB : s.B = B
  buf : s.buffered ≤ B
  carry : s.carry ≤ B
  lim : s.pulled + s.limit = L
  src : s.headSize + s.buffered ≤ s.carry + s.pulled
  n1xx : s.num1xx ≤ max1xx
  tot : s.total ≤ s.num1xx * L + s.pulled

theorem good_init (L B b0 : Nat) : Good L B (init L B b0) := by
  refine ⟨rfl, rfl, ?_, ?_, ?_, ?_, ?_, ?_⟩ <;> simp [init, max1xx] <;> omega

theorem readN_le (s : St) (want avail n : Nat) (h : readN s want avail = some n) :
    n ≤ s.B - s.buffered ∧ n ≤ s.limit ∧ n ≤ avail ∧
    (0 < want → s.buffered < s.B → 0 < avail → 0 < n) := by
  unfold readN at h
  split at h
  · cases h
  · next hl =>
    cases h
    exact ⟨Nat.le_trans (Nat.min_le_left _ _) (Nat.min_le_right _ _),
      Nat.le_trans (Nat.min_le_right _ _) (Nat.min_le_left _ _),
      Nat.le_trans (Nat.min_le_right _ _) (Nat.min_le_right _ _),
      fun hw hb ha => Nat.lt_min.2 ⟨Nat.lt_min.2 ⟨hw, Nat.sub_pos_of_lt hb⟩,
        Nat.lt_min.2 ⟨Nat.pos_of_ne_zero hl, ha⟩⟩⟩

/-! What an event does in the head phase (outside it, nothing: `step_off`). -/

theorem step_off {s : St} (e : Ev) (hp : s.phase ≠ .head) : step s e = s := by
  cases e <;> exact if_pos (by simpa using hp)

theorem step_net {s : St} {want avail n : Nat} (ph : s.phase = .head)
    (h : readN s want avail = some n) :
    step s (.net want avail) =
      { s with limit := s.limit - n, pulled := s.pulled + n, total := s.total + n,
               buffered := s.buffered + n } := by
  simp only [step, ph, h, bne_self_eq_false, Bool.false_eq_true, if_false]

theorem step_net_exhausted {s : St} (ph : s.phase = .head) (hl : s.limit = 0) (want avail : Nat) :
    step s (.net want avail) = { s with phase := .exhausted } := by
  simp only [step, ph, readN, hl, bne_self_eq_false, Bool.false_eq_true, if_false, if_true]

theorem step_parse {s : St} (k : Nat) (ph : s.phase = .head) :
    step s (.parse k) =
      { s with buffered := s.buffered - min k s.buffered,
               headSize := s.headSize + min k s.buffered } := by
  simp only [step, ph, bne_self_eq_false, Bool.false_eq_true, if_false]

theorem step_endHead {s : St} (interim : Bool) (ph : s.phase = .head) :
    step s (.endHead interim) =
      if interim then
        if s.num1xx + 1 > max1xx then { s with phase := .tooMany1xx }
        else { s with num1xx := s.num1xx + 1, limit := s.L, pulled := 0, carry := s.buffered,
                      headSize := 0 }
      else { s with phase := .accepted } := by
  simp only [step, ph, bne_self_eq_false, Bool.false_eq_true, if_false]

theorem step_good {L B : Nat} (s : St) (e : Ev) (h : Good L B s) : Good L B (step s e) := by
  by_cases ph : s.phase = .head
  case neg => rwa [step_off e ph]
  obtain ⟨hL, hB, h1, h2, h3, h4, h5, h6⟩ := h
  cases e with
  | net want avail =>
    by_cases hl : s.limit = 0
    · rw [step_net_exhausted ph hl]
      exact ⟨hL, hB, h1, h2, h3, h4, h5, h6⟩
    · have hr : readN s want avail = some _ := if_neg hl
      obtain ⟨a, b, _⟩ := readN_le s want avail _ hr
      rw [step_net ph hr]
      generalize min (min want (s.B - s.buffered)) (min s.limit avail) = n at a b
      -- clauses that read none of the fields the event writes are the old ones
      refine ⟨hL, hB, ?_, h2, ?_, ?_, h5, ?_⟩ <;> simp only <;> omega
  | parse k =>
    rw [step_parse k ph]
    have hk := Nat.min_le_right k s.buffered
    generalize min k s.buffered = k' at hk
    refine ⟨hL, hB, ?_, h2, h3, ?_, h5, h6⟩ <;> simp only <;> omega
  | endHead interim =>
    rw [step_endHead interim ph]
    split
    · split
      · exact ⟨hL, hB, h1, h2, h3, h4, h5, h6⟩
      · next hgt =>
        refine ⟨hL, hB, h1, h1, by simp only [hL, Nat.zero_add], Nat.le_of_eq (Nat.add_comm _ _),
          Nat.le_of_not_gt hgt, ?_⟩
        simp only [Nat.add_mul, Nat.one_mul]
        omega
    · exact ⟨hL, hB, h1, h2, h3, h4, h5, h6⟩

theorem run_good {L B : Nat} (s : St) (evs : List Ev) (h : Good L B s) : Good L B (run s evs) :=
  List.foldlRecOn evs step h fun s hs e _ => step_good s e hs

theorem good_budget {L B : Nat} {s : St} (g : Good L B s) :
    held s ≤ L + B ∧ s.pulled ≤ L ∧ s.headSize ≤ s.carry + L ∧ s.total ≤ 6 * L := by
  obtain ⟨_, _, _, h2, h3, h4, h5, h6⟩ := g
  have : s.num1xx * L ≤ 5 * L := Nat.mul_le_mul_right _ h5
  unfold held
  omega

end Req.Props.C07.h1budget
