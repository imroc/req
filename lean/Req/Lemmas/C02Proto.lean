import Req.Lemmas.C02Cross
import Req.Lemmas.Ascii
/-!
C02 — an abstract origin message and how it travels as HTTP/2 frames: the HEADERS field list
the origin sends for it and what `handleResponse` makes of that list.  By `Req.Ascii.canonical_eq_lower`
a lower-case name that is not `content-length` does not canonicalise to `Content-Length` (`plain_not_cl`).
-/
namespace Req.C02
open Req.Proto Req.Ascii

-- "Content-Length"
def kContentLength : Bytes := [67, 111, 110, 116, 101, 110, 116, 45, 76, 101, 110, 103, 116, 104]

theorem plain_not_cl (kv : Bytes × Bytes) (h : PlainField kv) :
    (canonicalMIMEHeaderKey kv.1 == kContentLength) = false := by
  obtain ⟨h1, _, _, _, _, h6, _⟩ := h
  rw [beq_eq_false_iff_ne]
  intro heq
  have := canonical_eq_lower kv.1 kContentLength h1 heq
  have hl : lower kContentLength = kContentLengthLower := by decide
  rw [hl] at this
  simp [this] at h6

/-- An origin message, protocol-independent: status (as digits and as a number), ordinary
fields (lower-case names, as HTTP/2 and HTTP/3 carry them), body, trailer fields. -/
structure AMsg where
  code : Nat
  sv : Bytes
  fields : Fields
  body : Bytes
  trailers : Fields
deriving Repr

structure AMsg.OK (M : AMsg) : Prop where
  svNe : M.sv ≠ []
  svCode : natOfDigits M.sv = some M.code
  svValid : validFieldValue M.sv = true
  final : ¬ (100 ≤ M.code ∧ M.code ≤ 199)
  plain : ∀ kv ∈ M.fields, PlainField kv
  trailersOK : ∀ kv ∈ M.trailers, isPseudo kv.1 = false

/-- What the caller is to see under the header: canonical names, the origin's order. -/
def AMsg.header (M : AMsg) : Fields := M.fields.map canonKV

def AMsg.trailer (M : AMsg) : Fields := M.trailers.map canonKV

/-- The field list of the final HEADERS frame: `:status`, optionally `content-length`, the
ordinary fields. -/
def AMsg.h2Head (M : AMsg) (declare : Option Bytes) : Fields :=
  (kStatus, M.sv) :: ((match declare with | some cb => [(kContentLengthLower, cb)] | none => []) ++ M.fields)

/-- The `Content-Length` entry of the header when the origin announced the length. -/
def clEntry : Option Bytes → Fields
  | some cb => [(kContentLength, cb)]
  | none => []

theorem filter_plain_cl (fs : Fields) (hfs : ∀ kv ∈ fs, PlainField kv) :
    (fs.map canonKV).filter (fun x => x.1 == kContentLength) = [] :=
  (filter_key_ne (canon_key_ne fun kv hkv => by simpa using plain_not_cl kv (hfs kv hkv))).2

/-- `handleResponse` on the origin's final HEADERS: status, header, no announced trailers, and
the declared length. -/
theorem h2Head_spec (M : AMsg) (hM : M.OK) (declare : Option Bytes) :
    h2StatusValue (M.h2Head declare) = some M.sv ∧
    h2Fields (M.h2Head declare) = clEntry declare ++ M.header ∧
    h2Declared (M.h2Head declare) = [] ∧
    h2ContentLengths (M.h2Head declare) = declare.toList := by
  have hcl : (clField declare).map canonKV = clEntry declare := by
    cases declare
    · rfl
    · exact congrArg (fun k => [(k, _)]) (by decide : canonicalMIMEHeaderKey kContentLengthLower = kContentLength)
  obtain ⟨h1, h2, h3⟩ := h2_head_regular (clField declare ++ M.fields) (fun kv hkv => by
    rcases List.mem_append.mp hkv with h | h
    · cases declare with
      | none => cases h
      | some cb =>
        rw [List.mem_singleton.mp h]
        exact (by decide : isPseudo kContentLengthLower = false ∧ canonicalMIMEHeaderKey kContentLengthLower ≠ kTrailer)
    · exact (hM.plain kv h).regular) M.sv
  rw [List.map_append, hcl] at h2
  refine ⟨h1, h2, h3, ?_⟩
  show ((h2Fields (M.h2Head declare)).filter (·.1 == kContentLength)).map (·.2) = _
  rw [show h2Fields (M.h2Head declare) = _ from h2, List.filter_append,
    filter_plain_cl M.fields hM.plain, List.append_nil]
  cases declare <;> rfl

end Req.C02
