import Req.Client.HtmlSpec
/-! The HTML prescan automaton `Req.Prescan.step` / `scan` (C15) against the text: `scan` is a fold
(`scan_append`), a verdict is final (`found_absorbing`), text without `<` stays in the data state
(`scan_no_lt`); inside a comment the state is a function `cstateR` of the text read and one step leaves the
comment exactly when the text read closes it (`step_comment`, `scan_comment`); a text state that only `<` leaves
is not left by a text without `<` followed by one of the bytes that matter (`lt_loop`). -/
namespace Req.Prescan
open Req.Proto

theorem scan_append (P : Params) (s : St) (a b : Bytes) : scan P s (a ++ b) = scan P (scan P s a) b := by
  simp [scan, List.foldl_append]

theorem found_absorbing (P : Params) (n : Bytes) (b : Bytes) : scan P (.found n) b = .found n := by
  induction b with
  | nil => rfl
  | cons c cs ih => simpa [scan, step] using ih

theorem scan_no_lt (P : Params) (a : Bytes) (h : ∀ c ∈ a, c ≠ 60) : scan P .data a = .data := by
  induction a with
  | nil => rfl
  | cons c cs ih =>
    have hc : c ≠ 60 := h c List.mem_cons_self
    have : step P .data c = .data := by simp [step, dataStep, hc]
    simp only [scan, List.foldl_cons, this]
    exact ih fun x hx => h x (List.mem_cons_of_mem _ hx)

theorem prescan_of_scan_eq (P : Params) (a b : Bytes) (h : scan P .data a = scan P .data b) (post : Bytes) :
    prescan P (a ++ post) = prescan P (b ++ post) := by
  unfold prescan
  rw [scan_append, scan_append, h]

-- the text read so far, most recent byte first, begins with one dash (`dash1`), two dashes (`dash2`), `!--` (`bangR`)
def dash1 (r : Bytes) : Bool := [45].isPrefixOf r
def dash2 (r : Bytes) : Bool := [45, 45].isPrefixOf r
def bangR (r : Bytes) : Bool := [33, 45, 45].isPrefixOf r

/-- `commentCloses` on the reversed text: a `>` after nothing, `-`, `--…` or `--!…` -/
def closesR : Bytes → Bool
  | c :: r => 62 == c && (r == [] || r == [45] || dash2 r || bangR r)
  | [] => false

theorem commentCloses_eq (t : Bytes) : commentCloses t = closesR t.reverse := by
  have reverse_beq (a b : Bytes) : (a.reverse == b.reverse) = (a == b) := by rw [Bool.eq_iff_iff]; simp
  unfold commentCloses List.isSuffixOf
  rw [← reverse_beq t, ← reverse_beq t]
  generalize t.reverse = r
  rcases r with _ | ⟨c, r⟩
  · rfl
  · by_cases h : c = 62
    · subst h; simp [closesR, dash2, bangR]
    · simp [closesR, List.isPrefixOf, beq_false_of_ne h, beq_false_of_ne (Ne.symm h)]

def dashesR (r : Bytes) : Nat := if dash2 r then 2 else if dash1 r then 1 else 0

/-- the scanner's state inside a comment as a function of the (reversed) text read so far -/
def cstateR (r : Bytes) : St :=
  if bangR r then .commentBang else .comment (dashesR r) (r.all (· == 45))

theorem dash1_of_dash2 (r : Bytes) (h : dash2 r = true) : dash1 r = true := by
  rcases r with _ | ⟨a, r⟩ <;> simp_all [dash2, dash1, List.isPrefixOf]

theorem not_dash_of_bangR (r : Bytes) (h : bangR r = true) :
    dash1 r = false ∧ dash2 r = false ∧ r.all (· == 45) = false := by
  rcases r with _ | ⟨a, r⟩
  · simp [bangR] at h
  · obtain rfl : 33 = a := (by simpa [bangR, List.isPrefixOf] using h : 33 = a ∧ _).1
    simp [dash1, dash2, List.isPrefixOf]

/-- The flag `beginning` of `St.comment` (only dashes so far) matters for a text of at most one dash. -/
theorem all_dashes (r : Bytes) : (r == [] || r == [45] || dash2 r) = (r.all (· == 45) || dash2 r) := by
  rcases r with _ | ⟨a, _ | ⟨b, r⟩⟩ <;> simp [dash2, List.isPrefixOf]
  exact fun ha hb _ => ⟨ha.symm, hb.symm⟩

/-- the four shapes of the text read so far that the comment states tell apart -/
theorem hist_cases (r : Bytes) :
    (bangR r = true ∧ dash1 r = false ∧ dash2 r = false ∧ r.all (· == 45) = false) ∨
    bangR r = false ∧ ((dash1 r = false ∧ dash2 r = false) ∨ (dash1 r = true ∧ dash2 r = false) ∨
      (dash1 r = true ∧ dash2 r = true)) := by
  cases hB : bangR r
  · cases h2 : dash2 r
    · cases h1 : dash1 r <;> simp
    · simp [dash1_of_dash2 r h2]
  · exact Or.inl ⟨rfl, not_dash_of_bangR r hB⟩

/-- One step inside a comment: the scanner leaves it exactly when the text read closes it.  Only `>`, `-`
and `!` are told apart; for each of them the four shapes of `hist_cases` are evaluated. -/
theorem step_comment (P : Params) (r : Bytes) (c : UInt8) :
    step P (cstateR r) c = if closesR (c :: r) then .data else cstateR (c :: r) := by
  have hcl : closesR (c :: r) = (62 == c && (r.all (· == 45) || dash2 r || bangR r)) := by
    rw [← all_dashes]; rfl
  have hst : cstateR (c :: r) = if 33 == c && dash2 r then .commentBang
      else .comment (if 45 == c && dash1 r then 2 else if 45 == c && true then 1 else 0)
        (c == 45 && r.all (· == 45)) := rfl
  rw [hcl, hst, cstateR, dashesR]
  by_cases hc : c = 62 ∨ c = 45 ∨ c = 33
  · rcases hist_cases r with ⟨hB, h1, h2, h3⟩ | ⟨hB, ⟨h1, h2⟩ | ⟨h1, h2⟩ | ⟨h1, h2⟩⟩ <;> rw [hB, h1, h2]
    · rw [h3]; rcases hc with rfl | rfl | rfl <;> rfl
    all_goals rcases hc with rfl | rfl | rfl <;> cases r.all (· == 45) <;> rfl
  · obtain ⟨h62, h45, h33⟩ : c ≠ 62 ∧ c ≠ 45 ∧ c ≠ 33 := by simpa [not_or] using hc
    have e1 := beq_false_of_ne h45
    have e2 := beq_false_of_ne h62
    rw [e1, beq_false_of_ne (Ne.symm h45), beq_false_of_ne (Ne.symm h62), beq_false_of_ne (Ne.symm h33)]
    cases bangR r
    · rw [if_neg Bool.false_ne_true, step, e1, e2, beq_false_of_ne h33]; rfl
    · rw [if_pos rfl, step, e1, e2]; rfl

theorem scan_comment (P : Params) (pre t : Bytes)
    (h : ∀ k, 0 < k → k ≤ t.length → commentCloses (pre ++ t.take k) = false) :
    scan P (cstateR pre.reverse) t = cstateR (pre ++ t).reverse := by
  induction t generalizing pre with
  | nil => simp [scan]
  | cons c cs ih =>
    have h1 : closesR (c :: pre.reverse) = false := by simpa [commentCloses_eq] using h 1 (by omega) (by simp)
    have := ih (pre ++ [c]) fun k hk hk' => by simpa using h (k + 1) (by omega) (by simpa using hk')
    simp only [List.reverse_append, List.reverse_cons, List.reverse_nil, List.nil_append, List.singleton_append,
      List.append_assoc] at this
    simpa only [scan, List.foldl_cons, step_comment, h1, Bool.false_eq_true, if_false, List.reverse_append,
      List.reverse_cons, List.append_assoc, List.singleton_append] using this

theorem cstateR_comment (r : Bytes) : cstateR r = .commentBang ∨ ∃ d b, cstateR r = .comment d b := by
  unfold cstateR
  cases bangR r
  · exact Or.inr ⟨_, _, rfl⟩
  · exact Or.inl rfl

theorem CommentEnd_spec (t : Bytes) (h : CommentEnd t = true) :
    commentCloses t = true ∧ ∀ k, k < t.length → commentCloses (t.take k) = false := by
  simpa [CommentEnd] using h

theorem hasPair_tail {x y c : UInt8} {cs : Bytes} (h : hasPair x y (c :: cs) = false) : hasPair x y cs = false := by
  cases cs with
  | nil => rfl
  | cons d ds => simp only [hasPair, Bool.or_eq_false_iff] at h; exact h.2

theorem hasPair_head {x y : UInt8} {cs : Bytes} (h : hasPair x y (x :: cs) = false) : cs.head? ≠ some y := by
  cases cs with
  | nil => simp
  | cons d ds =>
    simp only [hasPair, Bool.or_eq_false_iff, beq_self_eq_true, Bool.true_and, beq_eq_false_iff_ne] at h
    simpa using h.1

/-- Text state `A` goes to `B` on `<` and stays otherwise; `B` reads every byte not in `bad` as `A` does.
A text without `<` followed by a byte of `bad` never leaves the two. -/
theorem lt_loop (P : Params) (A B : St) (bad : List UInt8)
    (hA : ∀ c, step P A c = if c == 60 then B else A) (hB : ∀ c, c ∉ bad → step P B c = step P A c)
    (b : Bytes) (h : ∀ y ∈ bad, hasPair 60 y b = false) : scan P A b = A ∨ scan P A b = B := by
  induction b with
  | nil => exact Or.inl rfl
  | cons c cs ih =>
    have ih' := ih fun y hy => hasPair_tail (h y hy)
    simp only [scan, List.foldl_cons, hA]
    by_cases h60 : c = 60
    · subst h60
      cases cs with
      | nil => exact Or.inr rfl
      | cons d ds =>
        have hd : d ∉ bad := fun hd => hasPair_head (h d hd) rfl
        simp only [scan, List.foldl_cons, beq_self_eq_true, if_true, hB d hd] at ih' ⊢
        simpa only [hA] using ih'
    · rw [beq_false_of_ne h60, if_neg Bool.false_ne_true]; exact ih'

theorem rawSplit_cons_ne (tag : Bytes) (c : UInt8) (rest : Bytes) (h : c ≠ 60) :
    rawSplit tag (c :: rest) = rawSplit tag rest := by
  simp [rawSplit, h]

theorem nameAt_nil (ts : Bytes) : nameAt ts [] = none := by cases ts <;> rfl

theorem nameAt_self (ts : Bytes) (e : UInt8) (rest : Bytes) (he : isTagEnd e = true) :
    nameAt ts (ts ++ e :: rest) = some (e, rest) := by
  induction ts with
  | nil => simp [nameAt, he]
  | cons t ts ih => simp [nameAt, ciMatch, ih]

end Req.Prescan
