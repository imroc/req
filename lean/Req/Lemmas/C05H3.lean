import Req.H3.SettingsWrite
import Req.Lemmas.C05Varint
/-! HTTP/3 frames and SETTINGS (C05). A SETTINGS payload is read in two steps: the bytes decode to
(identifier, value) pairs (`decodePairs`; what `Append` writes decodes to the pairs written), and the
loop of `parseSettingsFrame` is a fold over the pairs (`pairsLoop`) that succeeds exactly on the pair lists
RFC 9114 §7.2.4 allows (`pairsLoop_ok_iff`, `stepsOK_init_iff`). Round trip, duplicate rejection and the
iff-verdicts are read off that characterisation. Then `ParseNext` once the two header varints are
read (`step_header`). -/
namespace Req.Lemmas.C05.H3
open Req.H3.Varint Req.H3.Frame Req.Proto Req.Lemmas.C05.Varint

theorem appendPair_some (a b : Nat) (z : Bytes) (h : appendPair a b = some z) :
    ∃ x y, append a = some x ∧ append b = some y ∧ z = x ++ y := by
  unfold appendPair at h
  split at h
  · next x y hx hy => cases h; exact ⟨x, y, hx, hy, rfl⟩
  · cases h

theorem appendPairs_cons (id v : Nat) (ps : List (Nat × Nat)) (bs : Bytes)
    (h : appendPairs ((id, v) :: ps) = some bs) :
    ∃ x y z, append id = some x ∧ append v = some y ∧ appendPairs ps = some z ∧ bs = x ++ y ++ z := by
  simp only [appendPairs] at h
  split at h
  · next xy z hxy hz =>
    cases h
    obtain ⟨x, y, hx, hy, rfl⟩ := appendPair_some _ _ _ hxy
    exact ⟨x, y, z, hx, hy, hz, rfl⟩
  · cases h

theorem appendPairs_length (ps : List (Nat × Nat)) (bs : Bytes) (h : appendPairs ps = some bs) :
    2 * ps.length ≤ bs.length := by
  induction ps generalizing bs with
  | nil => simp
  | cons p ps ih =>
    obtain ⟨id, v⟩ := p
    obtain ⟨x, y, z, hx, hy, hz, rfl⟩ := appendPairs_cons id v ps bs h
    have := ih z hz
    have := (append_length hx).2
    have := (append_length hy).2
    simp only [List.length_append, List.length_cons]
    omega

/-- the loop of `parseSettingsFrame` seen on the decoded (id, value) pairs; `tr`: the payload ended
inside a pair (then the loop's last read fails with `io.EOF`, if no earlier pair was refused). -/
def pairsLoop : SettingsAcc → List (Nat × Nat) → Bool → Except Err Settings
  | a, [], tr => if tr then .error .eof else .ok a.s
  | a, (id, v) :: ps, tr =>
    match settingsStep a id v with
    | .error e => .error e
    | .ok a' => pairsLoop a' ps tr

section pairs
open Req.H3.Stream Req.H3.SettingsWrite

theorem settingsLoop_decode : ∀ (fuel : Nat) (a : SettingsAcc) (b : Bytes),
    settingsLoop fuel a b = pairsLoop a (decodePairs fuel b).1 (decodePairs fuel b).2 := by
  intro fuel
  induction fuel with
  | zero => intro a b; simp [settingsLoop, decodePairs, pairsLoop]
  | succ n ih =>
    intro a b
    rw [settingsLoop, decodePairs]
    by_cases he : b.isEmpty = true
    · simp [he, pairsLoop]
    · simp only [he, Bool.false_eq_true, ↓reduceIte]
      cases h1 : Req.H3.Varint.read b with
      | error e => simp [pairsLoop]
      | ok p1 =>
        obtain ⟨id, b1⟩ := p1
        simp only
        cases h2 : Req.H3.Varint.read b1 with
        | error e => simp [pairsLoop]
        | ok p2 =>
          obtain ⟨v, b2⟩ := p2
          simp only [pairsLoop]
          cases settingsStep a id v with
          | error e => rfl
          | ok a' => exact ih a' b2

theorem decodePairs_appendPairs (ps : List (Nat × Nat)) (fuel : Nat) (bs : Bytes)
    (h : appendPairs ps = some bs) (hf : ps.length < fuel) : decodePairs fuel bs = (ps, false) := by
  induction ps generalizing fuel bs with
  | nil =>
    cases h
    cases fuel with
    | zero => omega
    | succ f => rfl
  | cons p ps ih =>
    obtain ⟨id, v⟩ := p
    obtain ⟨x, y, z, hx, hy, hz, rfl⟩ := appendPairs_cons id v ps bs h
    cases fuel with
    | zero => omega
    | succ f =>
      have hne : (x ++ y ++ z).isEmpty = false := by
        have := (append_length hx).2
        cases x with
        | nil => simp at this
        | cons _ _ => rfl
      rw [decodePairs, hne, List.append_assoc, read_append id x (y ++ z) hx]
      simp only [Bool.false_eq_true, if_false]
      rw [read_append v y z hy]
      simp only [ih f z hz (by simp at hf; omega)]

theorem parseSettingsPayload_eq_fold (ps : List (Nat × Nat)) (bs : Bytes)
    (h : appendPairs ps = some bs) : parseSettingsPayload bs = pairsLoop {} ps false := by
  unfold parseSettingsPayload
  rw [settingsLoop_decode,
    decodePairs_appendPairs ps _ bs h (by have := appendPairs_length ps bs h; omega)]

/-- the identifiers the accumulator has already seen -/
def seen (a : SettingsAcc) (id : Nat) : Prop :=
  (id = settingExtendedConnect ∧ a.readExtendedConnect = true) ∨
  (id = settingDatagram ∧ a.readDatagram = true) ∨
  (id ≠ settingExtendedConnect ∧ id ≠ settingDatagram ∧ id ∈ a.s.other.map (·.1))

/-- RFC 9114 §7.2.4 / RFC 9220 / RFC 9297: the two Boolean settings carry 0 or 1. -/
def valOK (id v : Nat) : Prop :=
  (id = settingExtendedConnect ∨ id = settingDatagram) → v = 0 ∨ v = 1

/-- the accumulator after an accepted pair (the `.ok` branches of `settingsStep`). -/
def accStep (a : SettingsAcc) (id v : Nat) : SettingsAcc :=
  if id = settingExtendedConnect then
    { a with readExtendedConnect := true, s := { a.s with extendedConnect := v == 1 } }
  else if id = settingDatagram then
    { a with readDatagram := true, s := { a.s with datagram := v == 1 } }
  else { a with s := { a.s with other := a.s.other ++ [(id, v)] } }

/-- one loop iteration, completely: an identifier not seen before with an allowed value is stored;
otherwise the error is "duplicate" or "invalid value" for this identifier. -/
theorem settingsStep_cases (a : SettingsAcc) (id v : Nat) :
    (¬ seen a id ∧ valOK id v ∧ settingsStep a id v = .ok (accStep a id v)) ∨
    (¬ (¬ seen a id ∧ valOK id v) ∧ (settingsStep a id v = .error (.duplicateSetting id) ∨
      settingsStep a id v = .error (.invalidValue id))) := by
  have hany : (a.s.other.any fun p => p.1 == id) = true ↔ id ∈ a.s.other.map (·.1) := by simp
  unfold settingsStep seen valOK accStep
  simp only [settingExtendedConnect, settingDatagram, hany]
  by_cases h8 : id = 8
  · subst h8
    cases a.readExtendedConnect
    · by_cases hv : v ≠ 0 ∧ v ≠ 1
      · right; simp [hv]
      · left; simp [hv]; omega
    · right; simp
  by_cases h51 : id = 51
  · subst h51
    cases a.readDatagram
    · by_cases hv : v ≠ 0 ∧ v ≠ 1
      · right; simp [hv]
      · left; simp [hv]; omega
    · right; simp
  by_cases hm : id ∈ a.s.other.map (·.1)
  · right; simp [h8, h51, hm]
  · left; simp [h8, h51, hm]

theorem seen_accStep (a : SettingsAcc) (id v j : Nat) :
    seen (accStep a id v) j ↔ (seen a j ∨ j = id) := by
  unfold seen accStep
  by_cases h8 : id = settingExtendedConnect
  · subst h8
    by_cases hj : j = settingExtendedConnect <;> simp [hj, settingExtendedConnect, settingDatagram]
  by_cases h51 : id = settingDatagram
  · subst h51
    by_cases hj : j = settingDatagram <;> simp [hj, settingExtendedConnect, settingDatagram]
  rw [if_neg h8, if_neg h51]
  by_cases hj : j = id
  · subst hj; simp [h8, h51]
  · simp [hj, List.map_append]

theorem accStep_s (a : SettingsAcc) (id v : Nat) : (accStep a id v).s = applyPair a.s (id, v) := by
  unfold accStep applyPair
  split
  · rfl
  · split <;> rfl

/-- the loop condition on the decoded pairs, state by state. -/
def StepsOK : SettingsAcc → List (Nat × Nat) → Prop
  | _, [] => True
  | a, (id, v) :: ps => ¬ seen a id ∧ valOK id v ∧ StepsOK (accStep a id v) ps

/-- the loop on the decoded pairs, completely: where every step is allowed it ends with the settings
the pairs stand for (or `io.EOF` after a partial pair), otherwise with the error of a step. -/
theorem pairsLoop_cases (ps : List (Nat × Nat)) (a : SettingsAcc) (tr : Bool) :
    (StepsOK a ps ∧ pairsLoop a ps tr = if tr then .error .eof else .ok (ps.foldl applyPair a.s)) ∨
    (¬ StepsOK a ps ∧ ∃ id, pairsLoop a ps tr = .error (.duplicateSetting id) ∨
      pairsLoop a ps tr = .error (.invalidValue id)) := by
  induction ps generalizing a with
  | nil => exact .inl ⟨trivial, rfl⟩
  | cons p ps ih =>
    obtain ⟨id, v⟩ := p
    simp only [pairsLoop, StepsOK, List.foldl_cons]
    rcases settingsStep_cases a id v with ⟨h1, h2, he⟩ | ⟨hno, he | he⟩ <;> rw [he]
    · rw [← accStep_s]
      rcases ih (accStep a id v) with ⟨hok, he⟩ | ⟨hno, he⟩
      · exact .inl ⟨⟨h1, h2, hok⟩, he⟩
      · exact .inr ⟨fun h => hno h.2.2, he⟩
    · exact .inr ⟨fun h => hno ⟨h.1, h.2.1⟩, id, .inl rfl⟩
    · exact .inr ⟨fun h => hno ⟨h.1, h.2.1⟩, id, .inr rfl⟩

theorem pairsLoop_ok_iff (ps : List (Nat × Nat)) (a : SettingsAcc) (tr : Bool) (s : Settings) :
    pairsLoop a ps tr = .ok s ↔ (tr = false ∧ StepsOK a ps ∧ s = ps.foldl applyPair a.s) := by
  rcases pairsLoop_cases ps a tr with ⟨hok, he⟩ | ⟨hno, id, he | he⟩ <;> rw [he]
  · cases tr <;> simp [hok, eq_comm]
  · simp [hno]
  · simp [hno]

theorem pairsLoop_eof_iff (ps : List (Nat × Nat)) (a : SettingsAcc) (tr : Bool) :
    pairsLoop a ps tr = .error .eof ↔ (tr = true ∧ StepsOK a ps) := by
  rcases pairsLoop_cases ps a tr with ⟨hok, he⟩ | ⟨hno, id, he | he⟩ <;> rw [he]
  · cases tr <;> simp [hok]
  · simp [hno]
  · simp [hno]

theorem parseSettingsPayload_ne_tooLarge (bs : Bytes) :
    parseSettingsPayload bs ≠ .error .settingsTooLarge := by
  unfold parseSettingsPayload
  rw [settingsLoop_decode]
  rcases pairsLoop_cases (decodePairs (bs.length + 1) bs).1 {} (decodePairs (bs.length + 1) bs).2 with
    ⟨_, he⟩ | ⟨_, id, he | he⟩ <;> rw [he]
  · split <;> nofun
  · nofun
  · nofun

theorem stepsOK_iff (ps : List (Nat × Nat)) (a : SettingsAcc) :
    StepsOK a ps ↔ ((ps.map (·.1)).Nodup ∧ (∀ id ∈ ps.map (·.1), ¬ seen a id) ∧
      ∀ p ∈ ps, valOK p.1 p.2) := by
  induction ps generalizing a with
  | nil => simp [StepsOK]
  | cons p ps ih =>
    obtain ⟨id, v⟩ := p
    simp only [StepsOK, List.map_cons, List.nodup_cons, List.mem_cons, forall_eq_or_imp]
    constructor
    · rintro ⟨h1, h2, h3⟩
      obtain ⟨n1, n2, n3⟩ := (ih _).mp h3
      refine ⟨⟨?_, n1⟩, ⟨h1, ?_⟩, h2, n3⟩
      · intro hm
        exact n2 id hm ((seen_accStep a id v id).mpr (.inr rfl))
      · intro j hj hs
        exact n2 j hj ((seen_accStep a id v j).mpr (.inl hs))
    · rintro ⟨⟨m1, m2⟩, ⟨m3, m4⟩, m5, m6⟩
      refine ⟨m3, m5, (ih _).mpr ⟨m2, ?_, m6⟩⟩
      intro j hj hs
      rcases (seen_accStep a id v j).mp hs with h | h
      · exact m4 j hj h
      · subst h; exact m1 hj

theorem not_seen_init (id : Nat) : ¬ seen {} id := by
  unfold seen
  simp

/-- from the initial accumulator the loop condition is RFC 9114 §7.2.4 on the pairs. -/
theorem stepsOK_init_iff (ps : List (Nat × Nat)) : StepsOK {} ps ↔ SettingsOK ps := by
  rw [stepsOK_iff]
  unfold SettingsOK valOK
  exact ⟨fun ⟨h2, _, h4⟩ => ⟨h2, h4⟩, fun ⟨h2, h4⟩ => ⟨h2, fun id _ => not_seen_init id, h4⟩⟩

theorem parse_written_iff (ps : List (Nat × Nat)) (bs : Bytes) (h : appendPairs ps = some bs)
    (s' : Settings) :
    parseSettingsPayload bs = .ok s' ↔ (SettingsOK ps ∧ s' = settingsOf ps) := by
  rw [parseSettingsPayload_eq_fold ps bs h, pairsLoop_ok_iff, stepsOK_init_iff]
  exact ⟨fun h => ⟨h.2.1, h.2.2⟩, fun h => ⟨rfl, h.1, h.2⟩⟩

theorem foldl_applyPair_avoid (other : List (Nat × Nat)) (s0 : Settings)
    (hne : ∀ p ∈ other, p.1 ≠ settingExtendedConnect ∧ p.1 ≠ settingDatagram) :
    other.foldl applyPair s0 = { s0 with other := s0.other ++ other } := by
  induction other generalizing s0 with
  | nil => simp
  | cons p ps ih =>
    have hp := hne p (by simp)
    rw [List.foldl_cons, ih _ fun q hq => hne q (by simp [hq])]
    simp [applyPair, hp.1, hp.2]

/-- a `settingsFrame` whose `Other` is a map that avoids the two dedicated identifiers writes pairs
that RFC 9114 §7.2.4 allows and that stand for the same settings. -/
theorem written_ok (s : Settings) (h : WfSettings s) :
    SettingsOK (writtenPairs s) ∧ s = settingsOf (writtenPairs s) := by
  obtain ⟨hnd, hne⟩ := h
  obtain ⟨dg, ec, other⟩ := s
  simp only at hnd hne
  have hm8 : settingExtendedConnect ∉ other.map (·.1) := fun hm => by
    obtain ⟨p, hp, e⟩ := List.mem_map.mp hm; exact (hne p hp).1 e
  have hm51 : settingDatagram ∉ other.map (·.1) := fun hm => by
    obtain ⟨p, hp, e⟩ := List.mem_map.mp hm; exact (hne p hp).2 e
  have hv : ∀ p ∈ other, (p.1 = settingExtendedConnect ∨ p.1 = settingDatagram) → p.2 = 0 ∨ p.2 = 1 :=
    fun p hp h => absurd h (by simp [hne p hp])
  unfold SettingsOK settingsOf writtenPairs
  -- per flag combination: the dedicated pairs come first, `other` avoids their identifiers (`hm8`,
  -- `hm51`) and is folded in as it is (`foldl_applyPair_avoid`)
  cases dg <;> cases ec <;>
    simp [foldl_applyPair_avoid _ _ hne, applyPair, hnd, hm8, hm51,
      show settingDatagram ≠ settingExtendedConnect by decide] <;>
    exact fun a b hab => hv (a, b) hab

end pairs

theorem h3settings_dup_rejected (ps : List (Nat × Nat)) (bs : Bytes)
    (h : appendPairs ps = some bs) (hdup : ¬ (ps.map (·.1)).Nodup) :
    ∃ e, parseSettingsPayload bs = .error e := by
  cases hr : parseSettingsPayload bs with
  | error e => exact ⟨e, rfl⟩
  | ok s => exact absurd ((parse_written_iff ps bs h s).mp hr).1.1 hdup

theorem h3settings_payload_roundtrip (s : Settings) (bs : Bytes) (h : WfSettings s)
    (hp : settingsPayload s = some bs) : parseSettingsPayload bs = .ok s :=
  (parse_written_iff (Req.H3.SettingsWrite.writtenPairs s) bs hp s).mpr (written_ok s h)

theorem isVarint_append {n : Nat} {bs : Bytes} (h : append n = some bs) : Req.H3.Stream.IsVarint bs n :=
  fun rest => read_append n bs rest h

/-- `ParseNext` once the type and length varints are read. -/
theorem step_header {te le : Bytes} {t l : Nat} (ht : Req.H3.Stream.IsVarint te t)
    (hl : Req.H3.Stream.IsVarint le l) (fuel : Nat) (rest : Bytes) :
    parseNext (fuel + 1) (te ++ (le ++ rest)) =
      if t = 0 then (.ok (.data l), rest)
      else if t = 1 then (.ok (.headers l), rest)
      else if t = 4 then truncated (parseSettingsFrame l rest)
      else if isReservedType t then (.error (.reserved t), rest)
      else if rest.length < l then (.error .unexpectedEOF, [])
      else parseNext fuel (rest.drop l) := by
  rw [parseNext, ht (le ++ rest)]
  simp only
  rw [hl rest]

theorem appendSettings_some {s : Settings} {out : Bytes} (h : appendSettings s = some out) :
    ∃ x y p, append 4 = some x ∧ append p.length = some y ∧ settingsPayload s = some p ∧
      out = x ++ (y ++ p) := by
  unfold appendSettings at h
  split at h; · cases h
  next p hpl =>
  split at h; · cases h
  next hd hhd =>
  cases h
  obtain ⟨x, y, hx, hy, rfl⟩ := appendPair_some _ _ _ hhd
  exact ⟨x, y, p, hx, hy, hpl, by simp⟩

/-- the verdict of `ParseNext` on a SETTINGS frame whose payload is complete: the payload's. -/
def _root_.Req.Lemmas.C05.H3Settings.frameVerdict (p rest : Bytes) : Except Err Frame × Bytes :=
  match parseSettingsPayload p with
  | .error e => (.error e, rest)
  | .ok s' => (.ok (.settings s'), rest)

/-- `ParseNext` on a SETTINGS frame whose payload `p` is all there and within the size cap. -/
theorem parseNext_settingsFrame {te le p : Bytes} (ht : Req.H3.Stream.IsVarint te 4)
    (hl : Req.H3.Stream.IsVarint le p.length) (hsz : p.length ≤ 8192) (fuel : Nat) (rest : Bytes) :
    parseNext (fuel + 1) (te ++ (le ++ (p ++ rest))) = truncated (H3Settings.frameVerdict p rest) := by
  rw [step_header ht hl, if_neg (by decide), if_neg (by decide), if_pos rfl, parseSettingsFrame,
    if_neg (by omega), if_neg (by simp), List.take_left' rfl, List.drop_left' rfl]
  rfl

theorem h3settings_roundtrip (s : Settings) (out rest : Bytes) (fuel : Nat) (h : WfSettings s)
    (hw : appendSettings s = some out) (hsz : out.length ≤ 8192) :
    parseNext (fuel + 1) (out ++ rest) = (.ok (.settings s), rest) := by
  obtain ⟨x, y, p, hx, hy, hp, rfl⟩ := appendSettings_some hw
  rw [List.append_assoc, List.append_assoc, parseNext_settingsFrame (isVarint_append hx)
    (isVarint_append hy) (by simp only [List.length_append] at hsz; omega),
    H3Settings.frameVerdict, h3settings_payload_roundtrip s p h hp]
  rfl

theorem h3_frameHeader_roundtrip (l : Nat) (rest : Bytes) (fuel : Nat) (hl : l < 2^62) :
    (∃ out, appendData l = some out ∧ parseNext (fuel + 1) (out ++ rest) = (.ok (.data l), rest)) ∧
    (∃ out, appendHeaders l = some out ∧ parseNext (fuel + 1) (out ++ rest) = (.ok (.headers l), rest)) := by
  obtain ⟨y, hy, _⟩ := varint_roundtrip l hl []
  obtain ⟨x0, hx0, _⟩ := varint_roundtrip 0 (by decide) []
  obtain ⟨x1, hx1, _⟩ := varint_roundtrip 1 (by decide) []
  constructor
  · refine ⟨x0 ++ y, by simp [appendData, appendPair, hx0, hy], ?_⟩
    rw [List.append_assoc, step_header (isVarint_append hx0) (isVarint_append hy)]
    simp
  · refine ⟨x1 ++ y, by simp [appendHeaders, appendPair, hx1, hy], ?_⟩
    rw [List.append_assoc, step_header (isVarint_append hx1) (isVarint_append hy)]
    simp

end Req.Lemmas.C05.H3
