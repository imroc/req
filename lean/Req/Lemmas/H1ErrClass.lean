import Req.H1.ErrClass
import Req.Lemmas.H1Mime
import Req.Lemmas.BufLineSplit
/-! The class-reporting readers of `Req.H1.ErrClass`.  The line read `readLineB`: what it returns for every stream
(`readLineB_eq`), against `readLine` (`readLineB_readLine`: they differ only where an unterminated remainder is
refused), and one buffer-sized fragment of its walk `untermEOF` at a time (`readLineB_step`), in the form in which
`bufio.ReadLine` cuts fragments (`BufLine.lastIs 13` on the first `B` bytes).  Then the continuation and header loops. -/
theorem Except.toOption_eq_some {ε α : Type} (e : Except ε α) (x : α) : e.toOption = some x ↔ e = .ok x := by
  cases e <;> simp [Except.toOption]

namespace Req.H1
open Req.Proto
open Req.H1.BufLine (lastIs cutNL cutNL_splitLF stripCR_eq)

/-- `readLineB` is `readLine`, except that it may refuse an unterminated non-empty remainder. -/
theorem readLineB_readLine (B : Nat) (s : Bytes) :
    readLineB B s = readLine s ∨ (readLineB B s = none ∧ readLine s = some (s, []) ∧ s ≠ []) := by
  cases s with
  | nil => left; rfl
  | cons c cs =>
    cases hs : splitLF (c :: cs) with
    | some p => left; simp [readLineB, readLine, hs]
    | none =>
      by_cases hu : untermEOF B (cs.length + 1 + 1) (c :: cs) = true
      · right; simp [readLineB, readLine, hs, hu]
      · left; simp [readLineB, readLine, hs, hu]

/-- Where `readContB` and `readCont` differ, both have consumed the whole stream (and `mimeLoop`, which
still needs the blank line, fails on both sides). -/
theorem readContB_readCont (B : Nat) (fuel : Nat) (acc s : Bytes) :
    readContB B fuel acc s = readCont fuel acc s ∨
    ((readContB B fuel acc s).2 = [] ∧ (readCont fuel acc s).2 = []) := by
  induction fuel generalizing acc s with
  | zero => left; rfl
  | succ f ih =>
    simp only [readContB, readCont]
    by_cases hn : countOWS s = 0
    · left; simp [hn]
    · simp only [hn, if_false]
      rcases readLineB_readLine B (s.drop (countOWS s)) with he | ⟨hb, hp, _⟩
      · rw [he]
        cases readLine (s.drop (countOWS s)) with
        | none => left; rfl
        | some p => obtain ⟨l, rest⟩ := p; exact ih _ _
      · right
        rw [hb, hp]
        simp [readCont_nil]

theorem mimeLoopE_nil (B fuel : Nat) (m : HeaderMap) : mimeLoopE B fuel m [] = .error .eof := by
  cases fuel <;> simp [mimeLoopE, readLineB]

theorem take_drop_pred (s : Bytes) (B : Nat) (hB : 1 ≤ B) (hlen : B ≤ s.length) :
    ∃ c, s.take B = s.take (B - 1) ++ [c] ∧ s.drop (B - 1) = c :: s.drop B := by
  obtain ⟨n, rfl⟩ : ∃ n, B = n + 1 := ⟨B - 1, by omega⟩
  exact ⟨s[n], List.take_succ_eq_append_getElem hlen, List.drop_eq_getElem_cons hlen⟩

/-- The walk drops a fragment of `B` bytes, or of `B - 1` when a CR would end it. -/
theorem untermEOF_succ (B f : Nat) (s : Bytes) : untermEOF B (f + 1) s =
    if s.isEmpty then true
    else if s.length < B then false
    else if B ≤ 1 then false
    else untermEOF B f (s.drop (if (s.drop (B - 1)).head? == some CR then B - 1 else B)) := by
  rw [untermEOF]
  refine ite_congr rfl (fun _ => rfl) fun _ => ite_congr rfl (fun _ => rfl) fun _ =>
    ite_congr rfl (fun _ => rfl) fun _ => ?_
  cases (s.drop (B - 1)).head? == some CR <;> rfl

theorem untermEOF_fuel (B : Nat) (hB : 2 ≤ B) (f1 f2 : Nat) (s : Bytes)
    (h1 : s.length + 1 ≤ f1) (h2 : s.length + 1 ≤ f2) : untermEOF B f1 s = untermEOF B f2 s := by
  induction f1 generalizing f2 s with
  | zero => omega
  | succ f1 ih =>
    cases f2 with
    | zero => omega
    | succ f2 =>
      rw [untermEOF_succ, untermEOF_succ]
      refine ite_congr rfl (fun _ => rfl) fun hne => ite_congr rfl (fun _ => rfl) fun hlen =>
        ite_congr rfl (fun _ => rfl) fun _ => ?_
      have hpos : 0 < s.length := by cases s <;> simp at hne ⊢
      apply ih <;> (simp only [List.length_drop]; split <;> omega)

theorem readLineB_eq (B : Nat) (s : Bytes) : readLineB B s =
    match splitLF s with
    | some (a, rest) => some (stripCR a, rest)
    | none => if untermEOF B (s.length + 1) s then none else some (s, []) := by
  cases s with
  | nil => simp [readLineB, splitLF, untermEOF]
  | cons c t => rfl

/-- A first piece `g` without LF that the walk passes over is glued in front of what the rest
yields; a CR at its end stays unless the line ends right behind it.  `hw` says that `untermEOF` gives
the same verdict behind `g`; for a fragment as `bufio.ReadLine` cuts it, `untermEOF_step` provides it. -/
theorem readLineB_append (B : Nat) (g x : Bytes) (hg : ∀ c ∈ g, c ≠ 10)
    (hcr : lastIs 13 g = true → x.head? ≠ some 10)
    (hw : untermEOF B ((g ++ x).length + 1) (g ++ x) = untermEOF B (x.length + 1) x) :
    readLineB B (g ++ x) = (readLineB B x).map fun p => (g ++ p.1, p.2) := by
  rw [readLineB_eq, readLineB_eq, splitLF_noLF_prefix hg, hw]
  cases hx : splitLF x with
  | none => simp only [Option.map_none]; split <;> simp
  | some p =>
    obtain ⟨a, r⟩ := p
    simp only [Option.map_some, Option.some.injEq, Prod.mk.injEq, and_true]
    by_cases ha : a = []
    · subst ha
      rw [(splitLF_eq_some.1 hx).1] at hcr
      rw [List.append_nil, stripCR_eq, if_neg (fun h => hcr h rfl)]
      simp [stripCR]
    · exact stripCR_append ha _

/-- With fuel to spare the walk passes a fragment of `k` bytes, `k` as `bufio.ReadLine` cuts it: the CR
test read off the first `B` bytes. -/
theorem untermEOF_step (B : Nat) (hB : 2 ≤ B) (s : Bytes) (hlen : B ≤ s.length) (k : Nat)
    (hk : (if lastIs 13 (s.take B) then B - 1 else B) = k) :
    untermEOF B (s.length + 1) s = untermEOF B ((s.drop k).length + 1) (s.drop k) := by
  have hcr : ((s.drop (B - 1)).head? == some CR) = lastIs 13 (s.take B) := by
    obtain ⟨c, h1, h2⟩ := take_drop_pred s B (by omega) hlen
    simp [h1, h2, lastIs, CR]
  rw [untermEOF_succ, if_neg (by cases s <;> simp at hlen ⊢; omega), if_neg (by omega),
    if_neg (by omega), hcr, hk]
  apply untermEOF_fuel B hB <;> simp only [List.length_drop] <;> (subst hk; split <;> omega)

theorem take_dropLast_of_cr (s : Bytes) (B : Nat) (hB : 1 ≤ B) (hlen : B ≤ s.length)
    (hcr : lastIs 13 (s.take B) = true) :
    (s.take B).dropLast = s.take (B - 1) ∧ s.drop (B - 1) = 13 :: s.drop B := by
  obtain ⟨c, h1, h2⟩ := take_drop_pred s B hB hlen
  rw [h1] at hcr ⊢
  obtain rfl : c = 13 := by simpa [lastIs] using hcr
  exact ⟨List.dropLast_concat, h2⟩

/-- One fragment of the walk: the first `B` bytes hold no LF and the stream has at least `B`
bytes — the reader takes `B` bytes (`B - 1` when the last of them is a CR) and goes on. -/
theorem readLineB_step (B : Nat) (hB : 2 ≤ B) (s : Bytes) (hlen : B ≤ s.length)
    (hno : ∀ c ∈ s.take B, c ≠ 10) :
    readLineB B s =
      if lastIs 13 (s.take B) then
        (readLineB B (13 :: s.drop B)).map fun p => ((s.take B).dropLast ++ p.1, p.2)
      else (readLineB B (s.drop B)).map fun p => (s.take B ++ p.1, p.2) := by
  by_cases hcr : lastIs 13 (s.take B) = true
  · obtain ⟨htk, hdr⟩ := take_dropLast_of_cr s B (by omega) hlen hcr
    have := readLineB_append B (s.take (B - 1)) (s.drop (B - 1))
      (fun c h => hno c (List.take_subset_take_left s (Nat.sub_le B 1) h)) (by simp [hdr])
      (by rw [List.take_append_drop]; exact untermEOF_step B hB s hlen _ (if_pos hcr))
    rw [List.take_append_drop] at this
    rwa [if_pos hcr, htk, ← hdr]
  · have := readLineB_append B (s.take B) (s.drop B) hno (fun h => absurd h hcr)
      (by rw [List.take_append_drop]; exact untermEOF_step B hB s hlen _ (if_neg hcr))
    rw [List.take_append_drop] at this
    rwa [if_neg hcr]

theorem readLineB_of_cut {B : Nat} {s a r : Bytes} (h : cutNL s = some (a ++ [10], r)) :
    readLineB B s = some (stripCR a, r) := by
  obtain ⟨a', ha, hsp⟩ := cutNL_splitLF h
  obtain rfl : a' = a := by simpa using ha.symm
  rw [readLineB_eq, hsp]

theorem readContB_ne_nil (B f : Nat) (acc s : Bytes) (h : acc ≠ []) : (readContB B f acc s).1 ≠ [] := by
  induction f generalizing acc s with
  | zero => exact h
  | succ f ih =>
    unfold readContB
    simp only
    split
    · exact h
    · split
      · simp
      · exact ih _ _ (by simp)

theorem readMIMEHeaderE_loop (B : Nat) (s : Bytes) (h : (s.head?.map isOWS == some true) = false) :
    readMIMEHeaderE B s = mimeLoopE B (s.length + 1) [] s := by
  unfold readMIMEHeaderE
  cases s with
  | nil => simp [mimeLoopE, readLineB]
  | cons c t =>
    have : isOWS c = false := by
      cases hc : isOWS c with
      | false => rfl
      | true => simp [hc] at h
    simp [this]

end Req.H1
