import Req.H2.Meta
import Req.Lemmas.H2MetaLoop
/-! Invariants of the model of `readMetaFrame` (C05): what a returned `MetaHeadersFrame` guarantees. -/
namespace Req.Lemmas.C05.Meta
open Req.H2.Meta Req.Proto

/-- `hpack.HeaderField.Size` summed over a field list -/
def fieldsSize : List (Bytes × Bytes) → Nat
  | [] => 0
  | f :: fs => f.1.length + f.2.length + 32 + fieldsSize fs

theorem fieldsSize_append (a b : List (Bytes × Bytes)) :
    fieldsSize (a ++ b) = fieldsSize a + fieldsSize b := by
  induction a with
  | nil => simp [fieldsSize]
  | cons f fs ih => simp [fieldsSize, ih]; omega

/-- a field the emit callback may store -/
def FieldOK (f : Bytes × Bytes) : Prop :=
  validValue f.2 = true ∧ (isPseudoName f.1 = true ∨ validWireName f.1 = true)

/-- invariant of the emit state: the stored fields fit the budget `M` together with what remains,
are individually valid, and no pseudo-header field follows a regular one. -/
structure Good (M : Nat) (s : St) : Prop where
  size : fieldsSize s.fields + s.remainSize ≤ M
  valid : ∀ f ∈ s.fields, FieldOK f
  order : s.sawRegular = false → ∀ f ∈ s.fields, isPseudoName f.1 = true
  prefix_ : s.fields.Pairwise fun g f => isPseudoName f.1 = true → isPseudoName g.1 = true

theorem Good.mono {M : Nat} {s s' : St} (h : Good M s) (hf : s'.fields = s.fields)
    (hr : s'.remainSize ≤ s.remainSize) (hs : s'.sawRegular = false → s.sawRegular = false) : Good M s' :=
  ⟨by have := h.size; rw [hf]; omega, hf ▸ h.valid, fun h' => hf ▸ h.order (hs h'), hf ▸ h.prefix_⟩

theorem emit_good (M : Nat) (s : St) (n v : Bytes) (h : Good M s) : Good M (emit s n v) := by
  unfold emit
  simp only
  by_cases hbad : emitBad s n v = true
  · rw [if_pos hbad]; exact h.mono rfl (Nat.le_refl _) (by simp +contextual)
  rw [if_neg hbad]
  have hbad' : emitBad s n v = false := by simpa using hbad
  simp only [emitBad, Bool.or_eq_false_iff, Bool.not_eq_false'] at hbad'
  obtain ⟨⟨hinv, hval⟩, hname⟩ := hbad'
  by_cases hsz : n.length + v.length + 32 > s.remainSize
  · rw [if_pos hsz]; exact h.mono rfl (Nat.zero_le _) (by simp +contextual)
  rw [if_neg hsz]
  refine ⟨?_, ?_, ?_, ?_⟩
  · simp only [fieldsSize_append, fieldsSize]
    have := h.size
    omega
  · intro f hf
    simp only [List.mem_append, List.mem_singleton] at hf
    rcases hf with hf | rfl
    · exact h.valid f hf
    · refine ⟨hval, ?_⟩
      cases hp : isPseudoName n
      · right; simpa [hp] using hname
      · left; rfl
  · intro hs f hf
    simp only [Bool.or_eq_false_iff, Bool.not_eq_false'] at hs
    simp only [List.mem_append, List.mem_singleton] at hf
    rcases hf with hf | rfl
    · exact h.order hs.1 f hf
    · exact hs.2
  · -- a new pseudo-header field: no regular field was seen, so all stored are pseudo
    refine List.pairwise_append.mpr ⟨h.prefix_, List.pairwise_singleton _ _, fun g hg f hf hpf => ?_⟩
    cases List.mem_singleton.mp hf
    simp only [hpf, if_true] at hname
    exact h.order hname g hg

theorem good_start (M : Nat) : Good M { remainSize := M } :=
  ⟨by simp [fieldsSize], by simp, by simp, .nil⟩

theorem meta_ok_wellformed (maxList : Nat) (frags : List Frag) (closeErr : Bool)
    (fields : List (Bytes × Bytes)) (trunc : Bool)
    (h : readMeta maxList frags closeErr = .ok fields trunc) :
    fieldsSize fields ≤ maxHeaderListSize maxList ∧ (∀ f ∈ fields, FieldOK f) ∧
    (∀ a b, fields = a ++ b → ∀ f ∈ b, isPseudoName f.1 = true → ∀ g ∈ a, isPseudoName g.1 = true) ∧
    checkPseudos fields = true := by
  unfold readMeta at h
  split at h
  · next o ho =>
    obtain ⟨c, rfl⟩ := fragLoop_error_conn _ _ _ ho
    cases h
  next s hs =>
  have hg : Good (maxHeaderListSize maxList) s :=
    fragLoop_inv (emit_good _) frags _ s (good_start _) hs
  split at h; · cases h
  split at h; · cases h
  split at h; · cases h
  next hcp =>
  cases h
  refine ⟨by have := hg.size; omega, hg.valid, fun a b hab f hf hpf g hga => ?_, by simpa using hcp⟩
  have hp := hg.prefix_
  rw [hab] at hp
  exact (List.pairwise_append.mp hp).2.2 g hga f hf hpf

end Req.Lemmas.C05.Meta
