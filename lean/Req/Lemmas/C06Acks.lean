import Req.H2.Monitor
import Req.Lemmas.C06Ops
import Req.Lemmas.IfTree
/-!
C06 — helper lemmas about the monitor alone: its count of unacknowledged SETTINGS frames.
-/
namespace Req.Lemmas.C06
open Req.H2 Req.H2.Conn Req.H2.Monitor

/-- SETTINGS acknowledgements written by the client -/
def ackCount : List Event → Nat
  | [] => 0
  | .c .settingsAck :: es => ackCount es + 1
  | _ :: es => ackCount es

/-- a SETTINGS frame the peer may expect an acknowledgement for (not itself a protocol violation) -/
def validSettings (vals : List (Nat × Nat)) : Bool :=
  !(vals.any (fun p => (p.1 == sInitialWindowSize && decide (p.2 > 2147483647)) ||
      (p.1 == sMaxFrameSize && (decide (p.2 < 16384) || decide (p.2 > 16777215)))))

/-- SETTINGS frames sent by the peer that call for an acknowledgement -/
def settingsCount : List Event → Nat
  | [] => 0
  | .p (.settings vals) :: es => settingsCount es + (if validSettings vals then 1 else 0)
  | _ :: es => settingsCount es

theorem ackSetting_pending (m : Send) (p : Nat × Nat) : (ackSetting m p).pending = m.pending := by
  unfold ackSetting; split
  · rfl
  · split
    · rfl
    · split <;> rfl

theorem foldl_ackSetting_pending (vals : List (Nat × Nat)) :
    ∀ m : Send, (vals.foldl ackSetting m).pending = m.pending := by
  induction vals with
  | nil => intro m; rfl
  | cons p ps ih => intro m; simp only [List.foldl_cons]; rw [ih, ackSetting_pending]

/-- a verdict that, where it accepts, leaves the list of unacknowledged SETTINGS as in `m` -/
def KeepsPending (m : Send) (r : Verdict Send) : Prop := ∀ m', r = .ok m' → m'.pending = m.pending

theorem KeepsPending.error {m : Send} {e : String} : KeepsPending m (.error e) := fun _ h => by cases h

theorem KeepsPending.ok {m x : Send} (h : x.pending = m.pending) : KeepsPending m (.ok x) :=
  fun _ h' => by cases h'; exact h

theorem KeepsPending.ite {m : Send} {c : Prop} [Decidable c] {a b : Verdict Send}
    (ha : KeepsPending m a) (hb : KeepsPending m b) : KeepsPending m (if c then a else b) :=
  ite_ind _ ha hb

/-- only an acknowledgement touches `pending`: every other branch of `Send.client` rejects the
frame or returns `m` with other fields updated -/
theorem client_keeps (m : Send) (f : Frame) (hf : f ≠ .settingsAck) : KeepsPending m (m.client f) := by
  unfold Send.client
  dsimp only
  refine .ite .error ?_
  cases f with
  | settingsAck => exact absurd rfl hf
  | settings vals => exact .ok rfl
  | ping ack d => exact .ok rfl
  | windowUpdate id inc => exact .ok rfl
  | priority id => exact .ite .error (.ok rfl)
  | headers id len es eh =>
    refine .ite .error (.ite (.ite .error (.ite .error (.ok rfl))) ?_)
    cases findM m.streams id with
    | none => exact .error
    | some s => exact .ite .error (.ite .error (.ok rfl))
  | continuation id len eh =>
    cases m.hdrOpen with
    | none => exact .error
    | some v => exact .ite .error (.ok rfl)
  | data id len es =>
    refine .ite .error ?_
    cases findM m.streams id with
    | none => exact .error
    | some s => exact .ite .error (.ite .error (.ite .error (.ok rfl)))
  | rst id =>
    refine .ite .error ?_
    cases findM m.streams id <;> exact .ok rfl

theorem client_ack {m m' : Send} (h : m.client .settingsAck = .ok m') :
    m'.pending.length + 1 = m.pending.length := by
  cases hh : m.hdrOpen with
  | some v => simp [Send.client, hh] at h
  | none =>
    simp only [Send.client, hh] at h
    cases hp : m.pending with
    | nil => simp [hp] at h
    | cons vals rest =>
      simp [hp] at h
      rw [← h, foldl_ackSetting_pending]
      simp

def owesAck : PFrame → Nat
  | .settings vals => if validSettings vals then 1 else 0
  | _ => 0

/-- the test inside `Monitor.Send.peer` is `invalidSetting`, the one `Conn.applySetting` refuses by
(`applySetting_none_iff`): the peer expects an acknowledgement exactly for the frames the client applies -/
theorem peer_settings_eq (m : Send) (vals : List (Nat × Nat)) :
    m.peer (.settings vals) =
      if vals.any invalidSetting = true then m else { m with pending := m.pending ++ [vals] } := rfl

theorem validSettings_eq (vals : List (Nat × Nat)) : validSettings vals = !vals.any invalidSetting := rfl

theorem peer_pending (m : Send) (f : PFrame) : (m.peer f).pending.length = m.pending.length + owesAck f := by
  cases f with
  | settings vals =>
    rw [peer_settings_eq]
    simp only [owesAck, validSettings_eq]
    rcases Bool.eq_false_or_eq_true (vals.any invalidSetting) with h | h <;> simp [h]
  | settingsAck => rfl
  | windowUpdate id inc =>
    simp only [Send.peer]
    split
    · rfl
    · split <;> rfl
  | rst id code => simp only [Send.peer]; split <;> rfl
  | goaway last => rfl
  | resp id es status cl => simp only [Send.peer]; split <;> rfl
  | data id len pad es => simp only [Send.peer]; split <;> rfl
  | ping ack d => rfl
  | pushPromise id p => rfl

theorem pending_count (h : List Event) :
    ∀ {m m' : Send}, Send.run m h = .ok m' →
      m'.pending.length + ackCount h = m.pending.length + settingsCount h := by
  induction h with
  | nil => intro m m' hr; cases hr; rfl
  | cons e es ih =>
    intro m m' hr
    cases e with
    | c f =>
      simp only [Send.run, Send.step] at hr
      cases hc : m.client f with
      | error r => rw [hc] at hr; cases hr
      | ok m1 =>
        rw [hc] at hr
        have := ih hr
        by_cases hf : f = .settingsAck
        · subst hf
          have := client_ack hc
          simp only [ackCount, settingsCount]; omega
        · have hp := client_keeps m f hf m1 hc
          have hs : settingsCount (.c f :: es) = settingsCount es := rfl
          have ha : ackCount (.c f :: es) = ackCount es := by cases f <;> first | rfl | exact absurd rfl hf
          rw [hs, ha, ← hp]; exact this
    | p f =>
      simp only [Send.run, Send.step] at hr
      have := ih hr
      have hp := peer_pending m f
      have hs : settingsCount (.p f :: es) = settingsCount es + owesAck f := by cases f <;> rfl
      have ha : ackCount (.p f :: es) = ackCount es := rfl
      rw [hs, ha]; omega

end Req.Lemmas.C06
