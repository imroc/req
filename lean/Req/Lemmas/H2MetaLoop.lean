import Req.H2.Meta
import Req.Lemmas.IfTree
/-! The loops of `readMetaFrame` change the emit state through `emit` alone: what `emit` preserves
holds in every state `writeFrag` and `fragLoop` hand back; and `fragLoop` fails with a connection
error only. -/
namespace Req.H2.Meta

theorem writeFrag_inv {P : St → Prop} (hemit : ∀ s n v, P s → P (emit s n v)) (evs : List Event)
    (s s' : St) (h : P s) (hw : writeFrag s evs = some s') : P s' := by
  induction evs generalizing s with
  | nil => cases hw; exact h
  | cons e rest ih =>
    cases e with
    | decodeError => cases hw
    | field n v => exact ih _ (Req.Lemmas.ite_ind P (hemit s n v h) h) hw

theorem fragLoop_inv {P : St → Prop} (hemit : ∀ s n v, P s → P (emit s n v)) (frags : List Frag)
    (s s' : St) (h : P s) (hl : fragLoop s frags = .ok s') : P s' := by
  induction frags generalizing s with
  | nil => cases hl; exact h
  | cons f fs ih =>
    simp only [fragLoop] at hl
    split at hl; · cases hl
    split at hl; · cases hl
    split at hl; · cases hl
    next s1 hs1 => exact ih s1 (writeFrag_inv hemit f.events s s1 h hs1) hl

theorem fragLoop_error_conn (frags : List Frag) (s : St) (o : Outcome)
    (hl : fragLoop s frags = .error o) : ∃ c, o = .conn c := by
  induction frags generalizing s with
  | nil => simp [fragLoop] at hl
  | cons f fs ih =>
    simp only [fragLoop] at hl
    split at hl; · cases hl; exact ⟨_, rfl⟩
    split at hl; · cases hl; exact ⟨_, rfl⟩
    split at hl; · cases hl; exact ⟨_, rfl⟩
    next s1 _ => exact ih s1 hl

end Req.H2.Meta
