import Req.Client.Heap
import Req.Lemmas.C19Scope
import Req.Lemmas.C19AMap
/-!
The reference-aware model refines the value model as long as no `derive` shares a reference (`AliasSafe`).

`Inv` is the heap invariant: references are below `next`, no two slots hold the same object id (separation), slot
contents fit the field kind, a slice's backing array has `cap` elements. Every heap operation of `stepH` on an
existing record is an instance of ONE single-slot update, `Heap.write`: one slot changes and at most one object,
which is new or owned by that slot alone (`WriteOk`); `write_inv` / `write_abs` are its frame rule. `Step h h' o f m`
is what comes out ("slot `(o, f)` now reads `m`, `Inv` kept"): `write_step`, in its two modes `alloc_step` (a new
object behind the slot) and `inplace_step` (the slot's own object rewritten); `step_clear`, `step_putFresh`,
`step_updBox`, `step_newArray`, `step_appendSlice`, `step_putSliceCap` are the heap operations as `Step`s, and
`Step.guarded` matches the guard `o < count` of `stepH` with that of `updOwner`. The other move, appending a record
whose fields are all fresh or zero, is `addOwner_spec`. `stepH_refines` walks the primitives with these;
`runH_refines` and `runHeapFrom_refines` lift it to runs and programs.
-/
namespace Req.Heap
open Req.Scope

theorem ofList_toList_ofList (xs : List Nat) : AMap.ofList (AMap.ofList xs).toList = AMap.ofList xs := by
  rw [toList_ofList]

def refId : FieldVal → Option Nat
  | .nil => none
  | .box id => some id
  | .slice id _ _ => some id

/-- the value fits the field kind; a slice's array has exactly `cap` elements, `0 < len ≤ cap` -/
def ValOk (obj : Nat → AMap) (f : Field) : FieldVal → Prop
  | .nil => True
  | .box _ => kind f = .box
  | .slice id l c => kind f = .slice ∧ ∃ xs, obj id = AMap.ofList xs ∧ xs.length = c ∧ l ≤ c ∧ 0 < l

structure Inv (h : Heap) : Prop where
  lt : ∀ i f id, refId ((h.owner i).fld f) = some id → id < h.next
  sep : ∀ i f j g id, refId ((h.owner i).fld f) = some id → refId ((h.owner j).fld g) = some id → i = j ∧ f = g
  ok : ∀ i f, ValOk h.obj f ((h.owner i).fld f)

theorem inv_empty : Inv Heap.empty := by
  refine ⟨?_, ?_, ?_⟩
  · intro i f id h; simp [Heap.empty, emptyHOwner, refId] at h
  · intro i f j g id h; simp [Heap.empty, emptyHOwner, refId] at h
  · intro i f; simp [Heap.empty, emptyHOwner, ValOk]

theorem absVal_congr (h h' : Heap) (v : FieldVal) (hobj : ∀ id, refId v = some id → h'.obj id = h.obj id) :
    h'.absVal v = h.absVal v := by
  cases v with
  | nil => rfl
  | box id => simp [Heap.absVal, hobj id (by simp [refId])]
  | slice id l c => simp [Heap.absVal, hobj id (by simp [refId])]

theorem ValOk.congr {obj obj' : Nat → AMap} {f : Field} {v : FieldVal} (hv : ValOk obj f v)
    (h : ∀ id, refId v = some id → obj' id = obj id) : ValOk obj' f v := by
  cases v with
  | nil => trivial
  | box id => exact hv
  | slice id l c => exact ⟨hv.1, by rw [h id rfl]; exact hv.2⟩

theorem norm_absVal (h : Heap) (f : Field) (v : FieldVal) (hv : ValOk h.obj f v) :
    norm (kind f) (h.absVal v) = h.absVal v := by
  cases v with
  | nil => simp [Heap.absVal, norm_nil]
  | box id => simp [ValOk] at hv; simp [hv, norm]
  | slice id l c =>
    simp [ValOk] at hv
    simp [hv.1, Heap.absVal, norm_slice_ofList]

def Heap.write (h : Heap) (o : Nat) (f : Field) (v : FieldVal) (ow : Option (Nat × AMap)) (bump : Nat) : Heap :=
  { count := h.count
    owner := fun i => if i = o then (h.owner o).setFld f v else h.owner i
    obj := match ow with
      | none => h.obj
      | some (id, m) => fun j => if j = id then m else h.obj j
    next := h.next + bump }

/-- the object ids a write to slot `(o, f)` may bring into play: the next unused one (and then `next` moves on), or
the one the slot holds already. These are the two ways separation survives: a new id is below no reference yet
(`Inv.lt`), and the slot's own id is, by `Inv.sep`, held by no other slot. -/
def Allowed (h : Heap) (o : Nat) (f : Field) (bump : Nat) (id : Nat) : Prop :=
  (id = h.next ∧ 0 < bump) ∨ refId ((h.owner o).fld f) = some id

/-- the new slot value `v` and the object written (`ow`) mention only `Allowed` ids, and `v` fits the field -/
structure WriteOk (h : Heap) (o : Nat) (f : Field) (v : FieldVal) (ow : Option (Nat × AMap)) (bump : Nat) : Prop where
  vref : ∀ id, refId v = some id → Allowed h o f bump id
  oref : ∀ id m, ow = some (id, m) → Allowed h o f bump id
  vok : ValOk (h.write o f v ow bump).obj f v

theorem write_obj_other (h : Heap) (hi : Inv h) {o f v ow bump} (hw : WriteOk h o f v ow bump)
    (i : Nat) (g : Field) (hne : ¬ (i = o ∧ g = f)) (id : Nat)
    (hr : refId ((h.owner i).fld g) = some id) : (h.write o f v ow bump).obj id = h.obj id := by
  unfold Heap.write
  cases ow with
  | none => rfl
  | some p =>
    obtain ⟨id', m⟩ := p
    simp only
    by_cases hid : id = id'
    · exfalso
      subst hid
      rcases hw.oref id m rfl with ⟨hn, _⟩ | hown
      · have := hi.lt i g id hr; omega
      · have := hi.sep i g o f id hr hown; exact hne this
    · simp [hid]

theorem write_absVal_other (h : Heap) (hi : Inv h) {o f v ow bump} (hw : WriteOk h o f v ow bump)
    (i : Nat) (g : Field) (hne : ¬ (i = o ∧ g = f)) :
    (h.write o f v ow bump).absVal ((h.owner i).fld g) = h.absVal ((h.owner i).fld g) :=
  absVal_congr _ _ _ fun id hr => write_obj_other h hi hw i g hne id hr

theorem write_owner_fld (h : Heap) (o : Nat) (f : Field) (v : FieldVal) (ow bump) (i : Nat) (g : Field) :
    ((h.write o f v ow bump).owner i).fld g = if i = o ∧ g = f then v else (h.owner i).fld g := by
  unfold Heap.write HOwner.setFld
  by_cases hio : i = o
  · subst hio
    by_cases hg : g = f <;> simp [hg]
  · simp [hio]

theorem write_inv (h : Heap) (hi : Inv h) {o f v ow bump} (hw : WriteOk h o f v ow bump) :
    Inv (h.write o f v ow bump) := by
  have hnext : (h.write o f v ow bump).next = h.next + bump := rfl
  refine ⟨?_, ?_, ?_⟩
  · intro i g id hr
    rw [write_owner_fld] at hr
    rw [hnext]
    by_cases hs : i = o ∧ g = f
    · simp [hs] at hr
      rcases hw.vref id hr with ⟨hn, hb⟩ | hown
      · omega
      · have := hi.lt o f id hown; omega
    · simp [hs] at hr
      have := hi.lt i g id hr; omega
  · intro i g j k id hr1 hr2
    rw [write_owner_fld] at hr1 hr2
    by_cases hs1 : i = o ∧ g = f <;> by_cases hs2 : j = o ∧ k = f
    · exact ⟨hs1.1.trans hs2.1.symm, hs1.2.trans hs2.2.symm⟩
    · exfalso
      simp [hs1] at hr1; simp [hs2] at hr2
      rcases hw.vref id hr1 with ⟨hn, _⟩ | hown
      · have := hi.lt j k id hr2; omega
      · exact hs2 (hi.sep j k o f id hr2 hown)
    · exfalso
      simp [hs1] at hr1; simp [hs2] at hr2
      rcases hw.vref id hr2 with ⟨hn, _⟩ | hown
      · have := hi.lt i g id hr1; omega
      · exact hs1 (hi.sep i g o f id hr1 hown)
    · simp [hs1] at hr1; simp [hs2] at hr2
      exact hi.sep i g j k id hr1 hr2
  · intro i g
    rw [write_owner_fld]
    by_cases hs : i = o ∧ g = f
    · simp [hs]; exact hw.vok
    · simp [hs]
      exact (hi.ok i g).congr (write_obj_other h hi hw i g hs)

theorem write_abs (h : Heap) (hi : Inv h) {o f v ow bump} (hw : WriteOk h o f v ow bump) :
    abs (h.write o f v ow bump) =
      { count := h.count
        owner := fun i => if i = o then ((abs h).owner o).setVal f ((h.write o f v ow bump).absVal v)
                          else (abs h).owner i } := by
  unfold abs
  congr 1
  funext i
  by_cases hio : i = o
  · subst hio
    simp only [if_true]
    unfold Heap.absOwner VOwner.setVal
    congr 1
    · simp [Heap.write, HOwner.setFld]
    · funext g
      rw [write_owner_fld]
      by_cases hg : g = f
      · simp [hg]
      · simp [hg]
        exact write_absVal_other h hi hw i g (by simp [hg])
  · simp only [if_neg hio]
    unfold Heap.absOwner
    have hown : (h.write o f v ow bump).owner i = h.owner i := by simp [Heap.write, hio]
    rw [hown]
    congr 1
    funext g
    exact write_absVal_other h hi hw i g (by simp [hio])

/-- `h'` is `h` with slot `(o, f)` now reading `m` -/
structure Step (h h' : Heap) (o : Nat) (f : Field) (m : AMap) : Prop where
  inv : Inv h'
  reads : o < h.count → abs h' = (abs h).updOwner o (·.setVal f m)
  count : h'.count = h.count

theorem write_step (h : Heap) (hi : Inv h) {o f v ow bump m} (hw : WriteOk h o f v ow bump)
    (hm : (h.write o f v ow bump).absVal v = m) : Step h (h.write o f v ow bump) o f m :=
  ⟨write_inv h hi hw, fun ho => by rw [write_abs h hi hw, hm]; exact (if_pos (c := o < (abs h).count) ho).symm, rfl⟩

theorem setFld_same (w : HOwner) (f : Field) : w.setFld f (w.fld f) = w := by
  cases w with
  | mk parent fld =>
    unfold HOwner.setFld
    congr 1
    funext g
    by_cases hg : g = f <;> simp [hg]

theorem setObj_eq_write (h : Heap) (o : Nat) (f : Field) (id : Nat) (m : AMap) :
    h.setObj id m = h.write o f ((h.owner o).fld f) (some (id, m)) 0 := by
  unfold Heap.setObj Heap.write
  cases h with
  | mk count owner obj next =>
    simp only [Nat.add_zero]
    congr 1
    funext i
    by_cases hio : i = o
    · subst hio; simp [setFld_same]
    · simp [hio]

/-- a write that puts a new object behind the slot -/
theorem alloc_step (h : Heap) (hi : Inv h) {o f v m m'} (hv : refId v = some h.next)
    (hok : ValOk (h.write o f v (some (h.next, m)) 1).obj f v)
    (hm : (h.write o f v (some (h.next, m)) 1).absVal v = m') :
    Step h (h.write o f v (some (h.next, m)) 1) o f m' :=
  -- both ids in play are the fresh one, `Allowed` by its first disjunct
  write_step h hi ⟨fun _ hr => Or.inl ⟨Option.some.inj (hv.symm.trans hr) ▸ rfl, Nat.one_pos⟩,
    fun _ _ hr => Or.inl ⟨(Prod.mk.inj (Option.some.inj hr)).1 ▸ rfl, Nat.one_pos⟩, hok⟩ hm

/-- a write into the object the slot owns already -/
theorem inplace_step (h : Heap) (hi : Inv h) {o f v id m m'} (hown : refId ((h.owner o).fld f) = some id)
    (hv : refId v = some id) (hok : ValOk (h.write o f v (some (id, m)) 0).obj f v)
    (hm : (h.write o f v (some (id, m)) 0).absVal v = m') :
    Step h (h.write o f v (some (id, m)) 0) o f m' :=
  -- both ids in play are the one the slot owns, `Allowed` by its second disjunct
  write_step h hi ⟨fun _ hr => Or.inr (Option.some.inj (hv.symm.trans hr) ▸ hown),
    fun _ _ hr => Or.inr ((Prod.mk.inj (Option.some.inj hr)).1 ▸ hown), hok⟩ hm

theorem step_clear (h : Heap) (hi : Inv h) (o : Nat) (f : Field) :
    Step h (h.updOwner o (·.setFld f .nil)) o f [] :=
  write_step h hi (v := .nil) (ow := none) (bump := 0) ⟨nofun, nofun, trivial⟩ rfl

theorem length_pos_of_not_isEmpty {xs : List Nat} (h : xs.isEmpty = false) : 0 < xs.length :=
  List.length_pos_iff.2 (by simpa using h)

theorem step_putFresh (h : Heap) (hi : Inv h) (o : Nat) (f : Field) (m : AMap) :
    Step h (h.putFresh o f m) o f (norm (kind f) m) := by
  unfold Heap.putFresh
  cases hk : kind f with
  | box =>
    exact alloc_step h hi (v := .box h.next) (m := m) rfl hk (by simp [Heap.absVal, Heap.write, norm])
  | slice =>
    cases he : m.toList.isEmpty
    · simp only [Bool.false_eq_true, if_false]
      exact alloc_step h hi (v := .slice h.next m.toList.length m.toList.length) (m := AMap.ofList m.toList) rfl
        ⟨hk, m.toList, by simp [Heap.write], rfl, Nat.le_refl _, length_pos_of_not_isEmpty he⟩
        (by simp [Heap.absVal, Heap.write, toList_ofList, norm])
    · have hn : norm Kind.slice m = [] := by simp only [norm, AMap.ofList, he, if_true]
      simp only [if_true, hn]
      exact step_clear h hi o f

theorem step_updBox (h : Heap) (hi : Inv h) (o : Nat) (f : Field) (g : AMap → AMap) (hk : kind f = .box) :
    Step h (h.updBox o f g) o f (g (h.absVal ((h.owner o).fld f))) := by
  unfold Heap.updBox
  have hok := hi.ok o f
  cases hv : (h.owner o).fld f with
  | box id =>
    dsimp only
    rw [setObj_eq_write h o f id (g (h.obj id)), hv]
    exact inplace_step h hi (by rw [hv]; rfl) rfl hk (by simp [Heap.absVal, Heap.write])
  | nil => simpa [hk, norm, Heap.absVal] using step_putFresh h hi o f (g [])
  | slice id l c => simp [hv, ValOk, hk] at hok

theorem overwrite_length (old : List Nat) (l : Nat) (xs : List Nat) (hl : l + xs.length ≤ old.length) :
    (overwrite old l xs).length = old.length := by
  simp [overwrite]; omega

theorem overwrite_take (old : List Nat) (l : Nat) (xs : List Nat) (hl : l ≤ old.length) :
    (overwrite old l xs).take (l + xs.length) = old.take l ++ xs := by
  unfold overwrite
  have h1 : (old.take l ++ xs).length = l + xs.length := by simp; omega
  rw [List.take_append_of_le_length (by omega)]
  rw [← h1, List.take_length]

/-- a slice slot gets a new array: `xs` padded with `p` spare elements -/
theorem step_newArray (h : Heap) (hi : Inv h) (o : Nat) (f : Field) (hk : kind f = .slice) (xs : List Nat)
    (hx : xs.isEmpty = false) (p n c : Nat) (hn : n = xs.length) (hc : c = n + p) :
    Step h (h.write o f (.slice h.next n c) (some (h.next, AMap.ofList (xs ++ List.replicate p 0))) 1) o f
      (AMap.ofList xs) := by
  subst hn hc
  refine alloc_step h hi rfl ⟨hk, xs ++ List.replicate p 0, by simp [Heap.write], by simp, Nat.le_add_right _ _,
    length_pos_of_not_isEmpty hx⟩ ?_
  simp only [Heap.absVal, Heap.write, if_true, toList_ofList]
  rw [List.take_append_of_le_length (Nat.le_refl _), List.take_length]

theorem step_appendSlice (grow : Nat → Nat → Nat) (h : Heap) (hi : Inv h) (o : Nat) (f : Field) (xs : List Nat)
    (hk : kind f = .slice) :
    Step h (h.appendSlice grow o f xs) o f (appendV (h.absVal ((h.owner o).fld f)) xs) := by
  unfold Heap.appendSlice
  cases hx : xs.isEmpty
  · have hxl := length_pos_of_not_isEmpty hx
    simp only [Bool.false_eq_true, if_false]
    have hok := hi.ok o f
    cases hv : (h.owner o).fld f with
    | slice id l c =>
      rw [hv] at hok
      obtain ⟨_, arr, harr, hlen, hlc, hl0⟩ := hok
      have htl : (h.obj id).toList = arr := by rw [harr, toList_ofList]
      simp only [Heap.absVal, htl]
      rw [appendV_ofList _ _ hx]
      by_cases hfit : l + xs.length ≤ c
      · simp only [hfit, if_true]
        refine inplace_step h hi (v := .slice id (l + xs.length) c) (m := AMap.ofList (overwrite arr l xs))
          (by rw [hv]; rfl) rfl ⟨hk, overwrite arr l xs, by simp [Heap.write], ?_, hfit, by omega⟩ ?_
        · rw [overwrite_length _ _ _ (by omega)]; exact hlen
        · simp only [Heap.absVal, Heap.write, if_true, toList_ofList]
          rw [overwrite_take _ _ _ (by omega)]
      · simp only [hfit, if_false]
        exact step_newArray h hi o f hk (arr.take l ++ xs) (by cases xs <;> simp_all) _ _ _ (by simp; omega) (by omega)
    | nil =>
      have hv2 : appendV [] xs = AMap.ofList xs := by simpa [AMap.ofList] using appendV_ofList [] xs hx
      simp only [Heap.absVal, hv2]
      exact step_newArray h hi o f hk xs hx _ _ _ rfl (by omega)
    | box id => simp [hv, ValOk, hk] at hok
  · refine ⟨hi, fun _ => ?_, rfl⟩
    simp only [if_true, appendV, hx]
    exact (updOwner_id _ o).symm.trans (updOwner_congr _ o (setVal_same _ f).symm)

theorem step_putSliceCap (h : Heap) (hi : Inv h) (o : Nat) (f : Field) (xs : List Nat) (c : Nat)
    (hk : kind f = .slice) : Step h (h.putSliceCap o f xs c) o f (AMap.ofList xs) := by
  unfold Heap.putSliceCap
  cases hx : xs.isEmpty
  · exact step_newArray h hi o f hk xs hx _ _ _ rfl (by omega)
  · have : AMap.ofList xs = [] := by simp [AMap.ofList, hx]
    rw [this]
    exact step_clear h hi o f

theorem fieldOf_val (f : Field) : fieldOf f.val = some f := by
  unfold fieldOf
  simp [f.isLt]

theorem addOwner_obj_old (h : Heap) (parent : Option Nat) (src : Field → Src) (id : Nat) (hid : id < h.next) :
    (h.addOwner parent src).obj id = h.obj id := by
  unfold Heap.addOwner
  simp only
  rw [if_neg (by omega)]

theorem addOwner_obj_new (h : Heap) (parent : Option Nat) (src : Field → Src) (f : Field) :
    (h.addOwner parent src).obj (h.next + f.val) =
      match src f with
      | .fresh m => norm (kind f) m
      | _ => h.obj (h.next + f.val) := by
  unfold Heap.addOwner
  simp only
  rw [if_pos (by omega), Nat.add_sub_cancel_left, fieldOf_val]
  rfl

def srcAbs (f : Field) : Src → AMap
  | .fresh m => norm (kind f) m
  | _ => []

theorem srcVal_ref (base : Nat) (f : Field) (s : Src) (hns : ∀ v, s ≠ .share v) (id : Nat)
    (hr : refId (srcVal base f s) = some id) : id = base + f.val ∧ ∃ m, s = .fresh m := by
  cases s with
  | share v => exact absurd rfl (hns v)
  | zero => simp [srcVal, refId] at hr
  | fresh m =>
    unfold srcVal at hr
    cases hk : kind f with
    | box => simp [hk, refId] at hr; exact ⟨hr.symm, m, rfl⟩
    | slice =>
      simp only [hk] at hr
      by_cases he : m.toList.isEmpty
      · simp [he, refId] at hr
      · simp [he, refId] at hr; exact ⟨hr.symm, m, rfl⟩

theorem srcVal_spec (h : Heap) (base : Nat) (f : Field) (s : Src) (hns : ∀ v, s ≠ .share v)
    (hobj : ∀ m, s = .fresh m → h.obj (base + f.val) = norm (kind f) m) :
    ValOk h.obj f (srcVal base f s) ∧ h.absVal (srcVal base f s) = srcAbs f s := by
  cases s with
  | share v => exact absurd rfl (hns v)
  | zero => exact ⟨trivial, rfl⟩
  | fresh m =>
    have ho := hobj m rfl
    simp only [srcVal, srcAbs]
    cases hk : kind f with
    | box => exact ⟨hk, by simp [Heap.absVal, ho, hk]⟩
    | slice =>
      rw [hk] at ho
      cases he : m.toList.isEmpty
      · simp only [Bool.false_eq_true, if_false]
        exact ⟨⟨hk, m.toList, ho, rfl, Nat.le_refl _, length_pos_of_not_isEmpty he⟩,
          by simp only [Heap.absVal, ho, norm, toList_ofList, List.take_length]⟩
      · exact ⟨trivial, by simp only [if_true, Heap.absVal, norm, AMap.ofList, he]⟩

theorem addOwner_spec (h : Heap) (hi : Inv h) (parent : Option Nat) (src : Field → Src)
    (hns : ∀ f v, src f ≠ .share v) (vals : Field → AMap) (hv : ∀ f, srcAbs f (src f) = vals f) :
    Inv (h.addOwner parent src) ∧ abs (h.addOwner parent src) = (abs h).push ⟨parent, vals⟩ := by
  have hown_new : (h.addOwner parent src).owner h.count = ⟨parent, fun f => srcVal h.next f (src f)⟩ := by
    simp [Heap.addOwner]
  have hown_old : ∀ i, i ≠ h.count → (h.addOwner parent src).owner i = h.owner i := by
    intro i hne; simp [Heap.addOwner, hne]
  have hnext : (h.addOwner parent src).next = h.next + nFields := rfl
  -- a reference held by the new state: either an old one (below `next`) or a fresh one
  have href : ∀ i f id, refId (((h.addOwner parent src).owner i).fld f) = some id →
      (i ≠ h.count ∧ refId ((h.owner i).fld f) = some id ∧ id < h.next) ∨
      (i = h.count ∧ id = h.next + f.val ∧ ∃ m, src f = .fresh m) := by
    intro i f id hr
    by_cases hic : i = h.count
    · subst hic
      rw [hown_new] at hr
      have := srcVal_ref h.next f (src f) (hns f) id hr
      exact Or.inr ⟨rfl, this.1, this.2⟩
    · rw [hown_old i hic] at hr
      exact Or.inl ⟨hic, hr, hi.lt i f id hr⟩
  have hnew : ∀ f, ValOk (h.addOwner parent src).obj f (srcVal h.next f (src f)) ∧
      (h.addOwner parent src).absVal (srcVal h.next f (src f)) = srcAbs f (src f) := fun f =>
    srcVal_spec _ h.next f (src f) (hns f) fun m hm => by rw [addOwner_obj_new, hm]
  have hold : ∀ i f id, refId ((h.owner i).fld f) = some id → (h.addOwner parent src).obj id = h.obj id :=
    fun i f id hr => addOwner_obj_old h parent src id (hi.lt i f id hr)
  refine ⟨⟨?_, ?_, ?_⟩, ?_⟩
  · intro i f id hr
    rw [hnext]
    rcases href i f id hr with ⟨_, _, hlt⟩ | ⟨_, hid, _⟩
    · omega
    · have := f.isLt; omega
  · intro i f j g id hr1 hr2
    rcases href i f id hr1 with ⟨hi1, ho1, hlt1⟩ | ⟨hi1, hid1, _⟩ <;>
      rcases href j g id hr2 with ⟨hi2, ho2, hlt2⟩ | ⟨hi2, hid2, _⟩
    · exact hi.sep i f j g id ho1 ho2
    · omega
    · omega
    · exact ⟨hi1.trans hi2.symm, Fin.ext (by omega)⟩
  · intro i f
    by_cases hic : i = h.count
    · rw [hic, hown_new]; exact (hnew f).1
    · rw [hown_old i hic]; exact (hi.ok i f).congr (hold i f)
  · unfold abs
    congr 1
    funext i
    unfold Heap.absOwner
    by_cases hic : i = h.count
    · rw [if_pos hic, hic, hown_new]
      exact congrArg _ (funext fun f => (hnew f).2.trans (hv f))
    · rw [if_neg hic, hown_old i hic]
      exact congrArg _ (funext fun f => absVal_congr _ _ _ (hold i f))

/-- a primitive shares no reference -/
def PrimSafe : Prim → Prop
  | .derive _ t _ => AliasSafe t
  | _ => True

/-- `stepH` does a single-slot step only if the record exists (`if o < h.count then h' else h`); `updOwner` on the
value side has the same guard. `g` is the new value of the slot as a function of the record, as `stepV` writes it. -/
theorem Step.guarded {h h' : Heap} {o : Nat} {f : Field} {m : AMap} (g : VOwner → AMap)
    (st : Step h h' o f m) (hi : Inv h) (hg : g ((abs h).owner o) = m) :
    Inv (if o < h.count then h' else h) ∧
      abs (if o < h.count then h' else h) = (abs h).updOwner o (fun w => w.setVal f (g w)) := by
  by_cases ho : o < h.count
  · rw [if_pos ho, st.reads ho]
    exact ⟨st.inv, updOwner_congr _ o (congrArg _ hg.symm)⟩
  · rw [if_neg ho]
    exact ⟨hi, (updOwner_ge _ _ _ ho).symm⟩

theorem stepH_refines (grow : Nat → Nat → Nat) (h : Heap) (hi : Inv h) (p : Prim) (hp : PrimSafe p) :
    Inv (stepH grow h p) ∧ abs (stepH grow h p) = stepV (abs h) p := by
  have hcount : (abs h).count = h.count := rfl
  cases p with
  | newClient => exact addOwner_spec h hi none _ (fun _ _ hc => by cases hc) initVal norm_initVal
  | derive src t req =>
    simp only [stepH, stepV, hcount]
    split
    · refine addOwner_spec h hi _ (srcOf h t (h.owner src)) (fun f v hc => hp f ?_) _ fun f => ?_
      · unfold srcOf at hc
        split at hc <;> first | assumption | cases hc
      · have := hp f
        unfold srcOf deriveVal
        cases ht : t f with
        | assigned => exact absurd ht this
        | fresh => exact norm_absVal h f _ (hi.ok src f)
        | absent => rfl
    · exact ⟨hi, rfl⟩
  | set o f k vs =>
    simp only [stepH, stepV]
    by_cases hk : kind f = .box
    · simp only [hk, true_and, if_true]
      exact Step.guarded (fun w => (w.val f).set k vs) (step_updBox h hi o f (·.set k vs) hk) hi rfl
    · simp [hk, hi]
  | add o f k vs =>
    simp only [stepH, stepV]
    by_cases hk : kind f = .box
    · simp only [hk, true_and, if_true]
      exact Step.guarded (fun w => (w.val f).addMany k vs) (step_updBox h hi o f (·.addMany k vs) hk) hi rfl
    · simp [hk, hi]
  | replace o f m =>
    have st := step_putFresh h hi o f (norm (kind f) m)
    rw [norm_idem] at st
    exact Step.guarded (fun _ => norm (kind f) m) st hi rfl
  | clear o f => exact Step.guarded (fun _ => []) (step_clear h hi o f) hi rfl
  | append o f xs =>
    simp only [stepH, stepV]
    by_cases hk : kind f = .slice
    · simp only [hk, true_and, if_true]
      exact Step.guarded (fun w => appendV (w.val f) xs) (step_appendSlice grow h hi o f xs hk) hi rfl
    · simp [hk, hi]
  | copyFrom o dst src =>
    have st := step_putFresh h hi o dst (norm (kind dst) (h.absVal ((h.owner o).fld src)))
    rw [norm_idem] at st
    exact Step.guarded (fun w => norm (kind dst) (w.val src)) st hi rfl
  | jarStore r v =>
    simp only [stepH, stepV, hcount]
    by_cases hr : r < h.count
    · simp only [hr, if_true]
      show _ ∧ _ = match (h.owner r).parent with | some c => _ | none => _
      cases (h.owner r).parent with
      | none => exact ⟨hi, rfl⟩
      | some c =>
        exact Step.guarded (fun w => (w.val F.jar).add 0 v)
          (step_updBox h hi c F.jar (·.addMany 0 [v]) (by decide)) hi rfl
    · simp [hr, hi]
  | wrap o sl ch xs built =>
    simp only [stepH, stepV]
    by_cases hc : kind sl = .slice ∧ kind ch = .box ∧ ¬ xs.isEmpty
    · simp only [if_pos hc]
      by_cases ho : o < h.count
      · rw [if_pos ho]
        -- first the slice slot, then the chain slot: two single-slot steps on the same record
        have st1 : Step h
            (if (h.absVal ((h.owner o).fld ch)).toList.isEmpty then
               h.putSliceCap o sl xs (if built then builtCap grow xs.length else xs.length)
             else h.appendSlice grow o sl xs) o sl
            (if (h.absVal ((h.owner o).fld ch)).toList.isEmpty then AMap.ofList xs
             else appendV (h.absVal ((h.owner o).fld sl)) xs) := by
          split
          · exact step_putSliceCap h hi o sl xs _ hc.1
          · exact step_appendSlice grow h hi o sl xs hc.1
        have m1 := Step.guarded (fun w => if (w.val ch).toList.isEmpty then AMap.ofList xs else appendV (w.val sl) xs)
          st1 hi rfl
        rw [if_pos ho] at m1
        have m2 := Step.guarded (fun w => (w.val ch).set 0 ((w.val ch).toList ++ xs))
          (step_updBox _ m1.1 o ch (fun m => m.set 0 (m.toList ++ xs)) hc.2.1) m1.1 rfl
        rw [if_pos (st1.count ▸ ho)] at m2
        refine ⟨m2.1, ?_⟩
        rw [m2.2, m1.2, updOwner_updOwner]
        congr 1; funext w
        split <;> rfl
      · rw [if_neg ho]
        exact ⟨hi, (updOwner_ge _ _ _ ho).symm⟩
    · simp only [if_neg hc]
      exact ⟨hi, trivial⟩

theorem runH_refines (grow : Nat → Nat → Nat) : ∀ (ps : List Prim) (h : Heap), Inv h → (∀ p ∈ ps, PrimSafe p) →
    Inv (runH grow h ps) ∧ abs (runH grow h ps) = runV (abs h) ps := by
  intro ps
  induction ps with
  | nil => intro h hi _; exact ⟨hi, rfl⟩
  | cons p ps ih =>
    intro h hi hs
    have h1 := stepH_refines grow h hi p (hs p (by simp))
    have h2 := ih (stepH grow h p) h1.1 (fun q hq => hs q (by simp [hq]))
    simp only [runH, runV, List.foldl_cons] at h2 ⊢
    rw [← h1.2]
    exact h2

theorem primSafe_of_static {p : Prim} {o : Nat} (h : staticTarget p = some o) : PrimSafe p := by
  cases p <;> first | trivial | cases h

theorem compile_safe (tc tr : Table) (hc : AliasSafe tc) (hr : AliasSafe tr) (n : Nat) (op : Op) :
    ∀ p ∈ compile tc tr n op, PrimSafe p := by
  intro p hp
  cases op with
  | newClient =>
    simp [compile] at hp
    rcases hp with rfl | rfl <;> trivial
  | clone i =>
    simp only [compile] at hp
    split at hp
    · simp at hp
      rcases hp with rfl | rfl | rfl | rfl
      · exact hc
      all_goals trivial
    · simp at hp
  | newReq i =>
    simp only [compile] at hp
    split at hp
    · simp at hp
      rcases hp with rfl | rfl | rfl | rfl | rfl
      · exact hr
      all_goals trivial
    · simp at hp
  | set o s =>
    exact primSafe_of_static (setter_static o s p hp)
  | exec r m md path sc =>
    simp only [compile] at hp
    split at hp
    · simp at hp
    · simp at hp; subst hp; trivial
  | getCookies c => simp [compile] at hp
  | probe o => simp [compile] at hp

theorem runHeapFrom_refines (grow : Nat → Nat → Nat) (tc tr : Table) (hc : AliasSafe tc) (hr : AliasSafe tr) :
    ∀ (ops : List Op) (h : Heap), Inv h →
      Inv (runHeapFrom grow tc tr h ops).1 ∧
      abs (runHeapFrom grow tc tr h ops).1 = (runWith tc tr (abs h) ops).1 ∧
      (runHeapFrom grow tc tr h ops).2 = (runWith tc tr (abs h) ops).2 := by
  intro ops
  induction ops with
  | nil => intro h hi; exact ⟨hi, rfl, rfl⟩
  | cons op ops ih =>
    intro h hi
    simp only [runHeapFrom, runWith, stepOp]
    have hcount : (abs h).count = h.count := rfl
    by_cases he : observe (abs h) op = .err
    · simp only [he, if_true]
      have := ih h hi
      exact ⟨this.1, this.2.1, by rw [this.2.2]⟩
    · simp only [he, if_false]
      have h1 := runH_refines grow (compile tc tr h.count op) h hi (compile_safe tc tr hc hr h.count op)
      have := ih (runH grow h (compile tc tr h.count op)) h1.1
      rw [h1.2] at this
      rw [hcount]
      exact ⟨this.1, this.2.1, by rw [this.2.2]⟩

end Req.Heap
