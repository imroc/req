import Req.C03.EncCut
import Req.Lemmas.C14Formats
/-!
C03 — the gzip automaton of C14 never turns an error of its source into a clean end.

`Auto.verdict` of the multistream reader `gzip S = (gzip1 S).many` is `.eof` only for a state whose
phase is `failed .eof` (never reached: every failure of `gstep` / `dstep` is `errCorrupt` or
`errUnmodelled`) or a working state when the source itself ended with `.eof`.  The invariant `okG`
("no `failed .eof` inside", `Req.Lemmas.C14Formats`) holds initially and is preserved by every step
(`gstep_lands`), for ANY check-sum function.
-/
namespace Req.C03
open Req.Proto Req.Compress Req.Compress.Fmt Req.Compress.Auto

theorem gstep_ok (S : Sums) (s : GSt) (b : UInt8) (h : okG s) : okG (gstep S s b).1 :=
  (gstep_lands S s b).2 h

theorem gInit_ok : okG gInit := by simp [gInit, okG]

theorem gzip_run_ok (S : Sums) (inp : Bytes) (s : GSt) (h : okG s) : okG ((gzip S).run inp s).1 := by
  induction inp generalizing s with
  | nil => exact h
  | cons b inp ih =>
    simp only [Auto.run]
    split
    · apply ih
      show okG (gstep S (if isDone (gphase s) then gInit else s) b).1
      apply gstep_ok
      split
      · exact gInit_ok
      · exact h
    · exact h

theorem gzip_verdict_err (S : Sums) (s : GSt) (h : okG s) (e : Nat) : (gzip S).verdict (.err e) s ≠ .eof := by
  unfold Auto.verdict
  show (match (match gphase s with | .done => Phase.working | p => p) with
    | .done => Term.eof
    | .failed e' => e'
    | .working => if (gzip S).fresh s then Term.err e else noEOF (.err e)) ≠ .eof
  -- the verdict is the recorded failure, which `okG` says is not `eof`; every other state passes the source's error on
  cases s with
  | failed e' => simpa [gphase, okG] using h
  | _ => simp [gphase, noEOF] <;> split <;> simp

end Req.C03
