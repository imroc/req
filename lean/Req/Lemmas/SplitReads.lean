import Req.H1.RequestWrite
namespace Req.H1
open Req.Proto

theorem splitReads_spec (reads : List Nat) (b : Bytes) :
    (splitReads b reads).flatten = b ∧ ∀ p ∈ splitReads b reads, p ≠ [] := by
  induction reads generalizing b with
  | nil => cases b <;> simp [splitReads]
  | cons n ns ih =>
    cases b with
    | nil => simp [splitReads]
    | cons x xs =>
      cases n with
      | zero => simpa [splitReads] using ih (x :: xs)
      | succ k =>
        obtain ⟨h1, h2⟩ := ih (xs.drop k)
        simpa [splitReads, h1] using h2

end Req.H1
