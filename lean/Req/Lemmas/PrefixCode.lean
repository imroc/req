import Req.Client.PrefixCode
import Req.Lemmas.Decode
/-! Prefix codes (C15, multi-byte decoders): the two facts behind the streaming law of `ofCode` (`Props.C15.ofCode_lawful`) —
`greedy_append` (greedy decoding may be cut anywhere: two chunks are fed as their concatenation) and `decAll_greedy`
(the whole-input loop starts with what greedy decoding emits). -/
namespace Req.Decode
open Req.Proto
namespace Code

-- `greedyF` and `decAllF` advance by `max n 1`: their fuel `w.length` then suffices for ANY code; for a
-- well-formed one (`1 ≤ n`) it is `n`
theorem drop_max_lt (w : Bytes) (n : Nat) (h : w ≠ []) : (w.drop (max n 1)).length < w.length := by
  have : 0 < w.length := List.length_pos_iff.mpr h
  simp only [List.length_drop]
  omega

/-- Enough fuel is enough: a function by recursion on fuel, whose step `G` calls it on shorter inputs only,
satisfies the unfolding equation of `G` when started with the length of the input as fuel. -/
theorem fuel_unfold {α : Type} (F : Nat → Bytes → α) (G : Bytes → (Bytes → α) → α)
    (h0 : ∀ r, F 0 [] = G [] r) (hF : ∀ f w, F (f + 1) w = G w (F f))
    (hG : ∀ w r r', (∀ w' : Bytes, w'.length < w.length → r w' = r' w') → G w r = G w r') (w : Bytes) :
    F w.length w = G w fun w' => F w'.length w' := by
  have fuel : ∀ (f1 f2 : Nat) (w : Bytes), w.length ≤ f1 → w.length ≤ f2 → F f1 w = F f2 w := by
    intro f1
    induction f1 with
    | zero =>
      intro f2 w h1 _
      obtain rfl : w = [] := List.eq_nil_of_length_eq_zero (by omega)
      cases f2 with
      | zero => rfl
      | succ j => rw [hF, h0]
    | succ k ih =>
      intro f2 w h1 h2
      cases f2 with
      | zero =>
        obtain rfl : w = [] := List.eq_nil_of_length_eq_zero (by omega)
        rw [hF, h0]
      | succ j => rw [hF, hF]; exact hG w _ _ fun w' hl => ih j w' (by omega) (by omega)
  cases hl : w.length with
  | zero => rw [List.eq_nil_of_length_eq_zero hl]; exact h0 _
  | succ k => rw [hF]; exact hG w _ _ fun w' hw' => fuel k _ w' (by omega) (Nat.le_refl _)

theorem greedy_unfold (c : Code) (w : Bytes) :
    greedy c w =
      if w = [] then ([], [])
      else
        match c.dec w with
        | none => ([], w)
        | some (out, n) => (out ++ (greedy c (w.drop (max n 1))).1, (greedy c (w.drop (max n 1))).2) := by
  refine fuel_unfold (greedyF c) (fun w r => if w = [] then ([], []) else
      match c.dec w with
      | none => ([], w)
      | some (out, n) => (out ++ (r (w.drop (max n 1))).1, (r (w.drop (max n 1))).2))
    (fun _ => rfl) (fun _ _ => rfl) (fun w r r' h => ?_) w
  by_cases hw : w = []
  · simp [hw]
  · simp only [hw, if_false]
    cases c.dec w with
    | none => rfl
    | some p => simp only [h _ (drop_max_lt w p.2 hw)]

theorem decAll_unfold (c : Code) (w : Bytes) :
    decAll c w =
      if w = [] then []
      else
        match c.dec w with
        | some (out, n) => out ++ decAll c (w.drop (max n 1))
        | none => (c.eof w).1 ++ decAll c (w.drop (max (c.eof w).2 1)) := by
  refine fuel_unfold (decAllF c) (fun w r => if w = [] then [] else
      match c.dec w with
      | some (out, n) => out ++ r (w.drop (max n 1))
      | none => (c.eof w).1 ++ r (w.drop (max (c.eof w).2 1)))
    (fun _ => rfl) (fun _ _ => rfl) (fun w r r' h => ?_) w
  by_cases hw : w = []
  · simp [hw]
  · simp only [hw, if_false]
    cases c.dec w with
    | none => simp only [h _ (drop_max_lt w (c.eof w).2 hw)]
    | some p => simp only [h _ (drop_max_lt w p.2 hw)]

theorem greedy_append (c : Code) (hc : c.WellFormed) (q w : Bytes) :
    greedy c (w ++ q) =
      ((greedy c w).1 ++ (greedy c ((greedy c w).2 ++ q)).1, (greedy c ((greedy c w).2 ++ q)).2) := by
  induction hn : w.length using Nat.strongRecOn generalizing w with
  | ind k ih =>
    rw [greedy_unfold c w]
    by_cases hne : w = []
    · simp [hne]
    · simp only [hne, if_false]
      cases hd : c.dec w with
      | none => simp
      | some p =>
        obtain ⟨out, n⟩ := p
        obtain ⟨h1, h2, h3⟩ := hc w out n hd
        have hmax : max n 1 = n := by omega
        have hl : (w.drop n).length < k := by simp only [List.length_drop]; omega
        rw [greedy_unfold c (w ++ q)]
        simp only [hmax, show w ++ q ≠ [] by simp [hne], if_false, h3 q, List.drop_append_of_le_length h2,
          ih _ hl (w.drop n) rfl, List.append_assoc]

theorem decAll_greedy (c : Code) (hc : c.WellFormed) (w : Bytes) :
    decAll c w = (greedy c w).1 ++ decAll c (greedy c w).2 := by
  induction hn : w.length using Nat.strongRecOn generalizing w with
  | ind k ih =>
    rw [greedy_unfold c w]
    by_cases hne : w = []
    · simp [hne]
    · simp only [hne, if_false]
      cases hd : c.dec w with
      | none => simp
      | some p =>
        obtain ⟨out, n⟩ := p
        obtain ⟨h1, h2, _⟩ := hc w out n hd
        have hmax : max n 1 = n := by omega
        have hl : (w.drop n).length < k := by simp only [List.length_drop]; omega
        conv => lhs; rw [decAll_unfold c w]
        simp only [hne, if_false, hd, hmax, ih _ hl (w.drop n) rfl, List.append_assoc]

end Code

end Req.Decode
