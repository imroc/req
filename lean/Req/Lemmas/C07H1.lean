import Req.H1.Response
import Req.Lemmas.H1Line
import Req.Lemmas.H1Body
/-! Progress, fuel and size lemmas for the loops of the HTTP/1.1 reader model (`chunkLoop`, `readCont`,
`mimeLoop`): the measure is the remaining input. -/
namespace Req.Lemmas.C07.H1
open Req.Proto Req.H1

/-- One iteration of the chunk loop: it returns — no more data than it was given, a proper suffix
when it reports the end — or copies a chunk and goes on with a proper suffix. -/
theorem chunkLoop_iter (B : Nat) (ex : Int) (s : Bytes) :
    (∃ x : Bytes × Option Bytes, (∀ fuel, chunkLoop (fuel + 1) B ex s = x) ∧
      x.1.length ≤ s.length ∧ ∀ r, x.2 = some r → r.length < s.length) ∨
    ∃ pre ex1 r3, pre.length + r3.length < s.length ∧ ∀ fuel,
      chunkLoop (fuel + 1) B ex s =
        (pre ++ (chunkLoop fuel B ex1 r3).1, (chunkLoop fuel B ex1 r3).2) := by
  cases hl : readChunkLine B s with
  | none => exact .inl ⟨([], none), fun _ => by rw [chunkLoop, hl], Nat.zero_le _, nofun⟩
  | some p =>
    obtain ⟨line, r⟩ := p
    have hlt := readChunkLine_length hl
    cases hk : parseHexUint (chunkSizeField line) with
    | none => exact .inl ⟨([], none), fun _ => by rw [chunkLoop, hl]; simp only [hk], Nat.zero_le _, nofun⟩
    | some k =>
      have unf := fun fuel => chunkLoop_step (fuel := fuel) (ex := ex) hl hk _ rfl
      by_cases h0 : k = 0
      · exact .inl ⟨([], some r), fun _ => by rw [unf, if_pos h0], Nat.zero_le _, fun _ h => by cases h; exact hlt⟩
      by_cases h1 : max (wrap64 (ex + (line.length : Int) + 2 - (16 + 2 * (k : Int)))) 0 > 16 * 1024
      · exact .inl ⟨([], none), fun _ => by rw [unf, if_neg h0, if_pos h1], Nat.zero_le _, nofun⟩
      by_cases h2 : r.length < k
      · exact .inl ⟨(r, none), fun _ => by rw [unf, if_neg h0, if_neg h1, if_pos h2], Nat.le_of_lt hlt, nofun⟩
      have ht : (r.take k).length ≤ r.length := by simp only [List.length_take]; omega
      by_cases hd : (r.drop k).take 2 = [13, 10]
      · refine .inr ⟨r.take k, _, r.drop (k + 2), ?_, fun _ => by rw [unf, if_neg h0, if_neg h1, if_neg h2, if_pos hd]⟩
        simp only [List.length_take, List.length_drop]; omega
      · exact .inl ⟨(r.take k, none), fun _ => by rw [unf, if_neg h0, if_neg h1, if_neg h2, if_neg hd],
          Nat.le_trans ht (Nat.le_of_lt hlt), nofun⟩

theorem chunkLoop_fuel_stable (f1 f2 B : Nat) (ex : Int) (s : Bytes)
    (h1 : s.length < f1) (h2 : s.length < f2) : chunkLoop f1 B ex s = chunkLoop f2 B ex s := by
  induction f1 generalizing f2 ex s with
  | zero => omega
  | succ n ih =>
    cases f2 with
    | zero => omega
    | succ m =>
      rcases chunkLoop_iter B ex s with ⟨x, hx, _⟩ | ⟨pre, ex1, r3, hlen, he⟩
      · rw [hx, hx]
      · rw [he, he, ih m ex1 r3 (by omega) (by omega)]

theorem chunkLoop_data_le (fuel B : Nat) (ex : Int) (s : Bytes) :
    (chunkLoop fuel B ex s).1.length ≤ s.length := by
  induction fuel generalizing ex s with
  | zero => exact Nat.zero_le _
  | succ n ih =>
    rcases chunkLoop_iter B ex s with ⟨x, hx, hle, _⟩ | ⟨pre, ex1, r3, hlen, he⟩
    · rwa [hx]
    · have := ih ex1 r3
      rw [he, List.length_append]
      omega

theorem chunkLoop_rest_lt (fuel B : Nat) (ex : Int) (s d r : Bytes)
    (h : chunkLoop fuel B ex s = (d, some r)) : r.length < s.length := by
  induction fuel generalizing ex s d with
  | zero => cases h
  | succ n ih =>
    rcases chunkLoop_iter B ex s with ⟨x, hx, _, hr⟩ | ⟨pre, ex1, r3, hlen, he⟩
    · exact hr r (by rw [← hx n, h])
    · rw [he] at h
      have := ih ex1 r3 _ (Prod.ext rfl (congrArg Prod.snd h :))
      omega

theorem readCont_rest_le (fuel : Nat) (acc s : Bytes) : (readCont fuel acc s).2.length ≤ s.length := by
  induction fuel generalizing acc s with
  | zero => simp [readCont]
  | succ n ih =>
    unfold readCont
    simp only
    split
    · simp
    · split
      · simp
      · next l rest hl =>
        have h1 := readLine_length hl
        have := ih (acc ++ [SP] ++ trimOWS l) rest
        simp only [List.length_drop] at h1
        omega

theorem readCont_fuel_stable (f1 f2 : Nat) (acc s : Bytes) (h1 : s.length < f1) (h2 : s.length < f2) :
    readCont f1 acc s = readCont f2 acc s := by
  induction f1 generalizing f2 acc s with
  | zero => omega
  | succ n ih =>
    cases f2 with
    | zero => omega
    | succ m =>
      unfold readCont
      simp only
      split
      · rfl
      · split
        · rfl
        · next l rest hl =>
          have hlt := readLine_length hl
          simp only [List.length_drop] at hlt
          exact ih m _ rest (by omega) (by omega)

theorem mimeLoop_fuel_stable (f1 f2 : Nat) (m : HeaderMap) (s : Bytes)
    (h1 : s.length < f1) (h2 : s.length < f2) : mimeLoop f1 m s = mimeLoop f2 m s := by
  induction f1 generalizing f2 m s with
  | zero => omega
  | succ n ih =>
    cases f2 with
    | zero => omega
    | succ k =>
      unfold mimeLoop
      split
      · rfl
      · next l rest hl =>
        have hlt := readLine_length hl
        split
        · rfl
        · split
          · rfl
          · simp only
            have hle := readCont_rest_le (rest.length + 1) (trimOWS l) rest
            split
            · rfl
            · next m' hm => exact ih k m' _ (by omega) (by omega)

theorem mimeLoop_rest_lt (fuel : Nat) (m res : HeaderMap) (s r : Bytes)
    (h : mimeLoop fuel m s = some (res, r)) : r.length < s.length := by
  induction fuel generalizing m s with
  | zero => simp [mimeLoop] at h
  | succ n ih =>
    unfold mimeLoop at h
    split at h
    · cases h
    · next l rest hl =>
      have hlt := readLine_length hl
      split at h
      · simp only [Option.some.injEq, Prod.mk.injEq] at h
        obtain ⟨_, rfl⟩ := h
        exact hlt
      · split at h
        · cases h
        · simp only at h
          have hle := readCont_rest_le (rest.length + 1) (trimOWS l) rest
          split at h
          · cases h
          · next m' hm =>
            have := ih m' _ h
            omega

end Req.Lemmas.C07.H1
