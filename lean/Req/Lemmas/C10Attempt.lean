import Req.Client.Attempt
/-! The per-attempt request middleware (`Req.Attempt`): the association-list maps, idempotence of the
header merge, and the fixpoint the whole chain `mw` reaches after one application (repaired code). -/
namespace Req.Lemmas.C10Attempt
open Req.Attempt

theorem vals_put (m : Multi) (k k' : Str) (vs : List Str) :
    vals (put m k vs) k' = if k' = k then vs else vals m k' := by
  induction m with
  | nil =>
    by_cases h : k' = k
    · subst h; simp [put, vals, List.lookup]
    · have : (k' == k) = false := by simpa using h
      simp [put, vals, List.lookup, h, this]
  | cons e t ih =>
    obtain ⟨k0, v0⟩ := e
    unfold put
    by_cases h0 : k0 = k
    · subst h0
      by_cases h : k' = k0
      · subst h; simp [vals, List.lookup]
      · have : (k' == k0) = false := by simpa using h
        simp [vals, List.lookup, h, this]
    · simp only [h0, ↓reduceIte]
      by_cases h1 : k' = k0
      · subst h1
        have : ¬ k' = k := h0
        simp [vals, List.lookup, this]
      · have hb : (k' == k0) = false := by simpa using h1
        have := ih
        simp only [vals, List.lookup, hb] at this ⊢
        exact this

theorem put_put (m : Multi) (k : Str) (a b : List Str) : put (put m k a) k b = put m k b := by
  induction m with
  | nil => simp [put]
  | cons e t ih =>
    obtain ⟨k0, v0⟩ := e
    by_cases h0 : k0 = k
    · subst h0; simp [put]
    · simp [put, h0, ih]

theorem put_comm_of_fixed (m : Multi) (k k' : Str) (a b : List Str) (hk : k ≠ k')
    (h : put m k' b = m) : put (put m k a) k' b = put m k a := by
  induction m with
  | nil => simp [put] at h
  | cons e t ih =>
    obtain ⟨k0, v0⟩ := e
    by_cases h0 : k0 = k'
    · subst h0
      have hb : b = v0 := by simpa [put] using h
      subst hb
      have : ¬ k0 = k := fun e => hk e.symm
      simp [put, this]
    · have ht : put t k' b = t := by simpa [put, h0] using h
      by_cases h1 : k0 = k
      · subst h1
        simp [put, hk, ht]
      · simp [put, h0, h1, ih ht]

theorem vals_of_put_eq (m : Multi) (k : Str) (a : List Str) (h : put m k a = m) : vals m k = a := by
  have := vals_put m k k a
  rw [h] at this
  simpa using this

/-- `e` is already satisfied in `m`: the merge step for it changes nothing. -/
def Fixed (m : Multi) (e : Str × List Str) : Prop := mergeStep m e = m

theorem fixed_after_step (m : Multi) (e : Str × List Str) : Fixed (mergeStep m e) e := by
  unfold Fixed mergeStep
  by_cases h : vals m e.1 = []
  · simp only [h, ↓reduceIte, vals_put]
    by_cases h2 : e.2 = []
    · simp [h2, put_put]
    · simp [h2]
  · simp [h]

/-- A write at key `k` keeps a satisfied entry satisfied, provided it does not empty a key that has values. -/
theorem Fixed.put {m : Multi} {e' : Str × List Str} (h : Fixed m e') (k : Str) (vs : List Str)
    (hvs : vs = [] → vals m k = []) : Fixed (put m k vs) e' := by
  unfold Fixed mergeStep at *
  simp only [vals_put]
  by_cases hk : e'.1 = k
  · simp only [hk, ↓reduceIte]
    by_cases he : vs = []
    · -- `h` (at key `k`, where `m` has no values) says `put m k e'.2 = m`, so `e'.2 = vals m k = []`
      have hm := hvs he
      simp only [he, ↓reduceIte, put_put]
      rw [hk, hm] at h
      simp only [↓reduceIte] at h
      have := vals_of_put_eq m k e'.2 h
      rw [hm] at this
      rw [← this]
    · simp [he]
  · simp only [hk, ↓reduceIte]
    by_cases h' : vals m e'.1 = []
    · simp only [h', ↓reduceIte] at h ⊢
      rw [put_comm_of_fixed m k e'.1 vs e'.2 (Ne.symm hk) h]
    · simp [h']

theorem Fixed.step {m : Multi} {e' : Str × List Str} (h : Fixed m e') (e : Str × List Str) :
    Fixed (mergeStep m e) e' := by
  unfold mergeStep
  split
  · exact h.put _ _ fun _ => ‹_›
  · exact h

theorem foldl_fixed (m : Multi) (c : Multi) (h : ∀ e ∈ c, Fixed m e) : c.foldl mergeStep m = m := by
  induction c with
  | nil => rfl
  | cons e t ih =>
    have he : mergeStep m e = m := h e (List.mem_cons_self ..)
    simp only [List.foldl_cons, he]
    exact ih fun x hx => h x (List.mem_cons_of_mem _ hx)

theorem all_fixed_after_merge (c r : Multi) : ∀ e ∈ c, Fixed (mergeHeaders c r) e := by
  unfold mergeHeaders
  induction c generalizing r with
  | nil => simp
  | cons e0 t ih =>
    intro e he
    simp only [List.foldl_cons]
    rcases List.mem_cons.mp he with rfl | ht
    · -- the step for `e` was taken first; the later steps keep it satisfied
      have h0 := fixed_after_step r e
      generalize mergeStep r e = m at h0
      clear ih he
      induction t generalizing m with
      | nil => exact h0
      | cons e1 t ih2 => exact ih2 _ (h0.step e1)
    · exact ih _ e ht

/-- parseRequestHeader is idempotent. -/
theorem merge_idem (c r : Multi) : mergeHeaders c (mergeHeaders c r) = mergeHeaders c r := by
  conv => lhs; unfold mergeHeaders
  exact foldl_fixed _ _ (all_fixed_after_merge c r)

/-- … also after parseRequestBody stored a Content-Type. -/
theorem merge_put_idem (c r : Multi) (k x : Str) :
    mergeHeaders c (put (mergeHeaders c r) k [x]) = put (mergeHeaders c r) k [x] := by
  conv => lhs; unfold mergeHeaders
  exact foldl_fixed _ _ fun e he => (all_fixed_after_merge c r e he).put k [x] nofun

theorem first_put_self (m : Multi) (k : Str) (x : Str) : first (put m k [x]) k = x := by
  simp [first, vals_put]

open Req.Retry

theorem consume_idem (s : FileSrc) : s.consume.consume = s.consume := by
  cases s <;> rfl

/-- The upload's reader can be read in full on every attempt: not a stream, not a reader the first
attempt closes, not a shared reader that cannot be rewound. -/
def Rereadable (f : FileUp) : Prop :=
  (∀ c b, f.src ≠ .stream c b) ∧ (∀ c b, f.src ≠ .closer c b) ∧ (∀ c b, f.src ≠ .shared c false b)

/-- The four kinds of source `Rereadable` leaves. -/
theorem Rereadable.elim {f : FileUp} (h : Rereadable f) {motive : FileSrc → Prop}
    (bytes : ∀ c, motive (.bytes c)) (path : ∀ c, motive (.path c)) (seeker : ∀ c b, motive (.seeker c b))
    (shared : ∀ c b, motive (.shared c true b)) : motive f.src := by
  cases hs : f.src with
  | bytes c => exact bytes c
  | path c => exact path c
  | seeker c b => exact seeker c b
  | stream c b => exact absurd hs (h.1 c b)
  | closer c b => exact absurd hs (h.2.1 c b)
  | shared c sk b =>
    cases sk with
    | true => exact shared c b
    | false => exact absurd hs (h.2.2 c b)

theorem filePart_consume (c : ClientCfg) (f : FileUp) (h : Rereadable f) :
    filePart R c { f with src := f.src.consume } = filePart R c f := by
  obtain ⟨p, n, ct, src⟩ := f
  exact h.elim (motive := fun s => filePart R c ⟨p, n, ct, s.consume⟩ = filePart R c ⟨p, n, ct, s⟩)
    (fun _ => rfl) (fun _ => rfl)
    (fun _ _ => by simp [filePart, fileContent, FileSrc.consume, R, Variant.repaired])
    (fun _ _ => by simp [filePart, fileContent, FileSrc.consume])

theorem not_closed_of_rereadable (f : FileUp) (h : Rereadable f) : f.closed = false := by
  obtain ⟨p, n, ct, src⟩ := f
  exact h.elim (motive := fun s => FileUp.closed ⟨p, n, ct, s⟩ = false)
    (fun _ => rfl) (fun _ => rfl) (fun _ _ => rfl) (fun _ _ => rfl)

theorem fileParts_eq_map (v : Variant) (c : ClientCfg) (files : List FileUp) (h : ∀ f ∈ files, Rereadable f) :
    fileParts v c files = files.map (filePart v c) := by
  unfold fileParts
  congr 1
  apply List.filter_eq_self.mpr
  intro f hf
  simp [not_closed_of_rereadable f (h f hf)]

theorem rereadable_consume (f : FileUp) (h : Rereadable f) : Rereadable { f with src := f.src.consume } := by
  obtain ⟨p, n, ct, src⟩ := f
  refine h.elim (motive := fun s => Rereadable ⟨p, n, ct, s.consume⟩) ?_ ?_ ?_ ?_ <;> intros <;>
    refine ⟨?_, ?_, ?_⟩ <;> intro x y hh <;> simp [FileSrc.consume] at hh

/-- A re-readable upload yields its complete content whenever it is read (repaired code): a fresh
reader, a reopened file, or a reader rewound first. -/
theorem fileContent_complete (f : FileUp) (h : Rereadable f) : fileContent R f.src = f.src.content :=
  h.elim (motive := fun s => fileContent R s = s.content) (fun _ => rfl) (fun _ => rfl)
    (fun _ _ => by simp [fileContent, FileSrc.content, R, Variant.repaired])
    (fun _ _ => by simp [fileContent, FileSrc.content])

theorem rereadable_of_replayable (st : ReqState) (h : unreplayable R st = false) (hc : st.contract = true) :
    ∀ f ∈ st.files, Rereadable f := by
  intro f hf
  simp only [unreplayable, R, Variant.repaired, Bool.true_and, Bool.or_eq_false_iff] at h
  have h2 := h.2
  rw [List.any_eq_false] at h2
  have h3 := h2 f hf
  have h4 : f.contract = true := by
    simp only [ReqState.contract, List.all_eq_true] at hc
    exact hc f hf
  refine ⟨?_, ?_, ?_⟩
  · intro c b hsrc; simp [hsrc] at h3
  · intro c b hsrc; simp [hsrc] at h3
  · intro c b hsrc; simp [FileUp.contract, hsrc] at h4

theorem notReader_of_replayable (st : ReqState) (h : unreplayable R st = false) :
    ∀ b c, st.body ≠ .reader b c := by
  intro b c hb
  simp [unreplayable, hb] at h

theorem parseBody_fix (c : ClientCfg) (hx : c.isXML c.jsonCT = false) (j k : Nat) (st : ReqState) (h0 : Multi)
    (hh : st.headers = mergeHeaders c.headers h0) (hr : unreplayable R st = false) (hc : st.contract = true) :
    mergeHeaders c.headers (parseBody R c j st).1.headers = (parseBody R c j st).1.headers ∧
    parseBody R c (k + 1) (parseBody R c j st).1 = parseBody R c j st ∧
    (parseBody R c j st).1.method = st.method ∧
    ((parseBody R c j st).1.urlHead = st.urlHead ∧ (parseBody R c j st).1.path = st.path ∧
      (parseBody R c j st).1.rawQuery = st.rawQuery ∧ (parseBody R c j st).1.pathParams = st.pathParams) ∧
    (parseBody R c j st).1.query = st.query := by
  have hfiles := rereadable_of_replayable st hr hc
  have hbody := notReader_of_replayable st hr
  have hk : (k + 1 == 0) = false := by simp
  have hmi : mergeHeaders c.headers st.headers = st.headers := by rw [hh, merge_idem]
  have hmp : ∀ key x, mergeHeaders c.headers (put st.headers key [x]) = put st.headers key [x] := by
    intro key x; rw [hh, merge_put_idem]
  clear hh
  -- the first pass is evaluated once, into `r`: unfolded in place, its decision tree would be
  -- copied into every conjunct and nested in the second pass
  generalize he : parseBody R c j st = r
  unfold parseBody at he
  by_cases hp : payloadForbid c st.method = true
  · have hfb : st.body.forbidden.forbidden = st.body.forbidden := by cases st.body <;> rfl
    rw [if_pos hp] at he
    subst he
    simp [parseBody, hp, hmi, hfb]
  · rw [if_neg hp] at he
    simp only [R, Variant.repaired, Bool.not_true, Bool.false_or] at he
    generalize hform : (if (nonEmpty c.form && j == 0) = true then addAll st.form c.form else st.form) = form at he
    by_cases hm : st.multipart = true
    · rw [if_pos hm] at he
      subst he
      simp only [parseBody, hm, ↓reduceIte, hp, Bool.false_eq_true, put_put, hmp, true_and, and_true, R, Variant.repaired, hk, Bool.not_true, Bool.false_or, Bool.and_false]
      congr 1
      · congr 1
        simp only [List.map_map]
        apply List.map_congr_left
        intro f _
        simp [consume_idem]
      · congr 1
        have e1 := fileParts_eq_map R c st.files hfiles
        have e2 := fileParts_eq_map R c (st.files.map fun f => { f with src := f.src.consume }) (by
          intro f hf
          obtain ⟨g, hg, rfl⟩ := List.mem_map.mp hf
          exact rereadable_consume g (hfiles g hg))
        simp only [R, Variant.repaired] at e1 e2
        rw [e1, e2]
        simp only [List.map_map]
        apply List.map_congr_left
        intro f hf
        exact filePart_consume c f (hfiles f hf)
    · rw [if_neg hm] at he
      by_cases ho : st.ordered.isEmpty = true
      · simp only [ho, Bool.not_true, Bool.false_eq_true, ↓reduceIte] at he
        by_cases hf : nonEmpty form = true
        · rw [if_pos hf] at he
          subst he
          simp [parseBody, R, Variant.repaired, hk, hf, hp, hm, ho, put_put, hmp]
        · rw [if_neg hf] at he
          cases hb : st.body with
          | none => simp only [hb] at he; subst he; simp [parseBody, R, Variant.repaired, hk, hp, hm, hf, ho, hmi]
          | user b => simp only [hb] at he; subst he; simp [parseBody, R, Variant.repaired, hk, hp, hm, hf, ho, hmi]
          | reader b cns => exact absurd hb (hbody b cns)
          | marshal js xs =>
            simp only [hb] at he
            by_cases hct : first st.headers c.ctKey = []
            · rw [if_pos hct] at he
              subst he
              by_cases hj : c.jsonCT = []
              · simp [parseBody, R, Variant.repaired, hk, hp, hm, hf, ho, hmp, first_put_self, hj, put_put]
              · simp [parseBody, R, Variant.repaired, hk, hp, hm, hf, ho, hmp, first_put_self, hj, hx]
            · rw [if_neg hct] at he
              subst he
              simp [parseBody, R, Variant.repaired, hk, hp, hm, hf, ho, hct, hmi]
          | bytes b =>
            simp only [hb] at he
            by_cases hct : first st.headers c.ctKey = []
            · rw [if_pos hct] at he
              subst he
              by_cases hj : c.detect b = []
              · simp [parseBody, R, Variant.repaired, hk, hp, hm, hf, ho, hmp, first_put_self, hj, put_put]
              · simp [parseBody, R, Variant.repaired, hk, hp, hm, hf, ho, hmp, first_put_self, hj]
            · rw [if_neg hct] at he
              subst he
              simp [parseBody, R, Variant.repaired, hk, hp, hm, hf, ho, hct, hmi]
      · simp only [ho, Bool.not_false, ↓reduceIte] at he
        subst he
        by_cases hf : nonEmpty form = true
        · simp [parseBody, R, Variant.repaired, hk, ho, hp, hm, hf, put_put, hmp]
        · simp [parseBody, R, Variant.repaired, hk, ho, hp, hm, hf, put_put, hmp]

/-- The request after parseRequestHeader and parseRequestCookie. -/
def pre (c : ClientCfg) (j : Nat) (st : ReqState) : ReqState :=
  { st with headers := mergeHeaders c.headers st.headers, cookies := parseCookie R c j st.cookies }

theorem mw_eq (c : ClientCfg) (j : Nat) (st : ReqState) :
    mw R c j st = ((parseBody R c j (pre c j st)).1,
      ⟨st.method, urlOf c st, st.rawQuery.map (fun p => (p.1, [p.2])) ++ mergeQuery c.query st.query,
        (parseBody R c j (pre c j st)).1.headers,
        (parseBody R c j (pre c j st)).1.cookies, (parseBody R c j (pre c j st)).2⟩) := rfl

theorem pre_fix (c : ClientCfg) (k : Nat) (s : ReqState)
    (h : mergeHeaders c.headers s.headers = s.headers) : pre c (k + 1) s = s := by
  have hck : parseCookie R c (k + 1) s.cookies = s.cookies := by
    simp [parseCookie, R, Variant.repaired]
  unfold pre
  rw [h, hck]

/-- One application of the request middleware chain, then any later one: same state, same wire
request.  (`hx`: the JSON content type the middleware itself stores is not an XML type — the
law `util.IsXMLType` is instantiated with.) -/
theorem mw_fix (c : ClientCfg) (hx : c.isXML c.jsonCT = false) (j k : Nat) (st : ReqState)
    (hr : unreplayable R st = false) (hc : st.contract = true) :
    mw R c (k + 1) (mw R c j st).1 = mw R c j st := by
  have hun : unreplayable R (pre c j st) = false := by
    simpa [unreplayable, pre] using hr
  have hcn : (pre c j st).contract = true := by
    simpa [ReqState.contract, pre] using hc
  obtain ⟨hmerged, hidem, hmethod, ⟨hurlHead, hpath, hrawQuery, hpathParams⟩, hquery⟩ :=
    parseBody_fix c hx j k (pre c j st) st.headers rfl hun hcn
  have hpre : pre c (k + 1) (parseBody R c j (pre c j st)).1 = (parseBody R c j (pre c j st)).1 :=
    pre_fix c k _ hmerged
  have hurl : urlOf c (parseBody R c j (pre c j st)).1 = urlOf c st := by
    unfold urlOf
    rw [hurlHead, hpath, hpathParams]
    rfl
  rw [mw_eq c j st]
  simp only
  rw [mw_eq c (k + 1), hpre, hidem, hmethod, hurl, hrawQuery, hquery]
  rfl

theorem mw_after_first (c : ClientCfg) (hx : c.isXML c.jsonCT = false) (st : ReqState)
    (hr : unreplayable R st = false) (hct : st.contract = true) (k : Nat) :
    mw R c (k + 1) (stateAt R c st (k + 1)) = mw R c 0 st := by
  induction k with
  | zero => exact mw_fix c hx 0 0 st hr hct
  | succ k ih =>
    have : stateAt R c st (k + 1 + 1) = (mw R c 0 st).1 := by
      show (mw R c (k + 1) (stateAt R c st (k + 1))).1 = _
      rw [ih]
    rw [this]
    exact mw_fix c hx 0 (k + 1) st hr hct

theorem build_eq_first (c : ClientCfg) (hx : c.isXML c.jsonCT = false) (st : ReqState)
    (hr : unreplayable R st = false) (hct : st.contract = true) (k : Nat) :
    build R c st k = build R c st 0 := by
  cases k with
  | zero => rfl
  | succ n =>
    show (mw R c (n + 1) (stateAt R c st (n + 1))).2 = (mw R c 0 (stateAt R c st 0)).2
    rw [mw_after_first c hx st hr hct n]; rfl

end Req.Lemmas.C10Attempt
