import Req.H1.DumpWrite
import Req.Lemmas.StickyPrefix
/-! The buffered writer of `Req/H1/DumpWrite.lean` under ONE specification of a call (`Takes`): `Write`, `Flush`
and the writer underneath are instances of it (`write_takes`, `flush_takes`, `under_takes`), and so is every step
of a write program (`step_takes`); conservation, the accounts as prefixes (`run_acc_prefix`) and the
no-failure case of a run are read off `Takes`. -/
namespace Req.H1.DumpWrite
open Req.Proto Req.H1

/-- What a call that offers `p` to the connection's writer does, whichever call it is — `Write`,
`Flush` (`p = []`), a write on the writer under an empty buffer: `n` bytes of `p` are taken, in order,
behind what wire and buffer hold; fewer than offered only with the sticky error set; after the error
nothing moves; a wire without limit takes everything and does not fail. -/
structure Takes (s : BufW) (p : Bytes) (s' : BufW) (n : Nat) : Prop where
  conserve : s'.wire ++ s'.buf = s.wire ++ s.buf ++ p.take n
  short : s.err = false → n < p.length → s'.err = true
  stuck : s.err = true → s' = s ∧ n = 0
  nofail : s.limit = none → s.err = false → s'.limit = none ∧ s'.err = false ∧ n = p.length

theorem Takes.nil (s : BufW) : Takes s [] s 0 :=
  ⟨by simp, nofun, fun _ => ⟨rfl, rfl⟩, fun hl he => ⟨hl, he, rfl⟩⟩

theorem under_buf (s : BufW) (p : Bytes) : (s.under p).1.buf = s.buf := by
  unfold BufW.under
  split
  · rfl
  · split <;> rfl

/-- `bufio` hands bytes to the underlying writer only past an empty buffer and before any error. -/
theorem under_takes (s : BufW) (p : Bytes) (hb : s.buf = []) (he : s.err = false) :
    Takes s p (s.under p).1 (s.under p).2 := by
  rcases s with ⟨w, b, l, e⟩
  simp only at hb he
  subst hb he
  cases l with
  | none => exact ⟨by simp [BufW.under], by simp [BufW.under], nofun, fun _ _ => by simp [BufW.under]⟩
  | some l =>
    by_cases h : p.length ≤ l
    · exact ⟨by simp [BufW.under, h], by simp [BufW.under, h], nofun, nofun⟩
    · exact ⟨by simp [BufW.under, h], by simp [BufW.under, h], nofun, nofun⟩

theorem flush_takes (s : BufW) :
    Takes s [] s.flush 0 ∧ (s.err = false → s.flush.err = false → s.flush.buf = []) := by
  unfold BufW.flush
  by_cases he : s.err = true
  · rw [if_pos he]
    exact ⟨.nil s, fun h => (by rw [he] at h; cases h)⟩
  · have he' : s.err = false := by simpa using he
    rw [if_neg he]
    by_cases hb : s.buf.isEmpty = true
    · rw [if_pos hb]
      exact ⟨.nil s, fun _ _ => by simpa using hb⟩
    · rw [if_neg hb]
      -- the whole buffer goes to the underlying writer; what it does not take stays buffered
      obtain ⟨c, sh, _, nf⟩ := under_takes ({ s with buf := [] } : BufW) s.buf rfl he'
      rw [under_buf] at c
      simp only [List.append_nil] at c
      refine ⟨⟨?_, nofun, fun h => (by rw [he'] at h; cases h), fun hl _ => ?_⟩, fun _ hf => ?_⟩
      · simp only [c, List.append_assoc, List.take_append_drop, List.take_nil, List.append_nil]
      · obtain ⟨hlim, herr, _⟩ := nf hl he'
        exact ⟨hlim, herr, rfl⟩
      · -- no error: nothing fell short
        by_cases hlt : (({ s with buf := [] } : BufW).under s.buf).2 < s.buf.length
        · rw [sh he' hlt] at hf; cases hf
        · exact List.drop_eq_nil_of_le (by omega)

theorem flush_nofail (s : BufW) (hl : s.limit = none) (he : s.err = false) :
    s.flush.limit = none ∧ s.flush.err = false ∧ s.flush.buf = [] ∧ s.flush.wire = s.wire ++ s.buf := by
  obtain ⟨t, hbuf⟩ := flush_takes s
  obtain ⟨hlim, herr, _⟩ := t.nofail hl he
  have hc := t.conserve
  rw [hbuf he herr] at hc
  exact ⟨hlim, herr, hbuf he herr, by simpa using hc⟩

theorem write_takes (B : Nat) (s : BufW) (p : Bytes) : Takes s p (s.write B p).1 (s.write B p).2 := by
  unfold BufW.write
  by_cases he : s.err = true
  · rw [if_pos he]
    exact ⟨by simp, fun h => (by rw [he] at h; cases h), fun _ => ⟨rfl, rfl⟩, fun _ h => (by rw [he] at h; cases h)⟩
  · have he' : s.err = false := by simpa using he
    have hstuck : ∀ {s' : BufW} {n : Nat}, s.err = true → s' = s ∧ n = 0 := fun h => absurd h he
    rw [if_neg he]
    by_cases h1 : p.length ≤ B - s.buf.length
    · rw [if_pos h1]
      exact ⟨by simp [List.append_assoc], fun _ h => absurd h (Nat.lt_irrefl _), hstuck, fun hl _ => ⟨hl, he', rfl⟩⟩
    · rw [if_neg h1]
      by_cases h2 : s.buf.isEmpty = true
      · rw [if_pos h2]
        exact under_takes s p (by simpa using h2) he'
      · rw [if_neg h2]
        simp only
        -- fill the buffer and flush it; what is left goes into the emptied buffer or straight to the wire
        generalize hs0 : ({ s with buf := s.buf ++ p.take (B - s.buf.length) } : BufW) = s0
        have hs0w : s0.wire = s.wire := by rw [← hs0]
        have hs0b : s0.buf = s.buf ++ p.take (B - s.buf.length) := by rw [← hs0]
        have hs0e : s0.err = false := by rw [← hs0]; exact he'
        have hs0l : s0.limit = s.limit := by rw [← hs0]
        obtain ⟨tf, hempty⟩ := flush_takes s0
        have hf := tf.conserve
        rw [hs0w, hs0b, List.take_nil, List.append_nil] at hf
        have hk : B - s.buf.length < p.length := by omega
        by_cases h3 : s0.flush.err = true
        · rw [if_pos h3]
          refine ⟨by simp only; rw [hf, List.append_assoc], fun _ _ => h3, hstuck, fun hl _ => ?_⟩
          rw [(tf.nofail (hs0l.trans hl) hs0e).2.1] at h3; cases h3
        · rw [if_neg h3]
          have h3' : s0.flush.err = false := by simpa using h3
          have hbe : s0.flush.buf = [] := hempty hs0e h3'
          have hfl : s.limit = none → s0.flush.limit = none := fun hl => (tf.nofail (hs0l.trans hl) hs0e).1
          by_cases h4 : (p.drop (B - s.buf.length)).length ≤ B - s0.flush.buf.length
          · rw [if_pos h4]
            refine ⟨?_, fun _ h => absurd h (Nat.lt_irrefl _), hstuck, fun hl _ => ⟨hfl hl, h3', rfl⟩⟩
            simp only
            rw [← List.append_assoc, hf]
            simp [List.append_assoc]
          · rw [if_neg h4]
            obtain ⟨c, sh, _, nf⟩ := under_takes s0.flush (p.drop (B - s.buf.length)) hbe h3'
            simp only [List.length_drop] at sh nf
            refine ⟨?_, fun _ h => sh h3' (by omega), hstuck, fun hl _ => ?_⟩
            · rw [c, hbe, List.append_nil]
              rw [hbe, List.append_nil] at hf
              rw [hf, List.append_assoc, List.append_assoc, ← List.take_add, List.append_assoc]
            · obtain ⟨hlim, herr, hn⟩ := nf (hfl hl) h3'
              exact ⟨hlim, herr, by omega⟩

/-- What is being accounted: the header dump, the body dump, or everything the buffered writer
accepted. -/
inductive Acc | hdr | body | all
  deriving DecidableEq

def St.acc (s : St) : Acc → Bytes
  | .hdr => s.dumpH
  | .body => s.dumpB
  | .all => s.accepted

def Acc.sel : Acc → Tag → Bool
  | .hdr, t => t == .hdr
  | .body, t => t == .body
  | .all, _ => true

/-- the bytes of the writes selected by `a`, in program order. -/
def dataOf (a : Acc) : List Op → Bytes
  | [] => []
  | .write d t :: ops => (if a.sel t then d else []) ++ dataOf a ops
  | _ :: ops => dataOf a ops

/-- what one operation offers to account `a` -/
def Op.offers (a : Acc) : Op → Bytes
  | .write d t => if a.sel t then d else []
  | _ => []

theorem dataOf_eq_flatMap (a : Acc) (ops : List Op) : dataOf a ops = ops.flatMap (Op.offers a) := by
  induction ops with
  | nil => rfl
  | cons op ops ih => cases op <;> simp [dataOf, Op.offers, ih]

theorem dataOf_append (a : Acc) (x y : List Op) : dataOf a (x ++ y) = dataOf a x ++ dataOf a y := by
  simp only [dataOf_eq_flatMap, List.flatMap_append]

theorem dataOf_flatMap {α : Type} (a : Acc) (f : α → List Op) (l : List α) :
    dataOf a (l.flatMap f) = l.flatMap (fun p => dataOf a (f p)) := by
  simp only [dataOf_eq_flatMap, List.flatMap_assoc]

/-- the bytes an operation hands to the buffered writer -/
def Op.data : Op → Bytes
  | .write d _ => d
  | _ => []

/-- how many of them the writer in state `w` takes -/
def Op.taken (B : Nat) (w : BufW) : Op → Nat
  | .write d _ => (w.write B d).2
  | _ => 0

theorem Op.offers_cases (a : Acc) (op : Op) : op.offers a = op.data ∨ op.offers a = [] := by
  cases op with
  | write d t => by_cases h : a.sel t = true <;> simp [Op.offers, Op.data, h]
  | _ => exact .inr rfl

theorem Op.offers_all (op : Op) : op.offers .all = op.data := by
  cases op <;> rfl

theorem step_takes (B : Nat) (s : St) (op : Op) : Takes s.w op.data (step B s op).w (op.taken B s.w) := by
  cases op with
  | write d t => exact write_takes B s.w d
  | flush => exact (flush_takes s.w).1
  | flushIfFull =>
    simp only [step]
    split
    · exact (flush_takes s.w).1
    · exact .nil _
  | read => exact .nil _

theorem step_acc (B : Nat) (s : St) (op : Op) (a : Acc) :
    (step B s op).acc a = s.acc a ++ (op.offers a).take (op.taken B s.w) := by
  cases op with
  | write d t => cases a <;> cases t <;> simp [step, St.acc, Acc.sel, Op.offers, Op.taken]
  | flush => cases a <;> simp [step, St.acc, Op.offers]
  | flushIfFull => cases a <;> simp only [step, Op.offers, List.take_nil, List.append_nil] <;> split <;> rfl
  | read => cases a <;> simp [step, St.acc, Op.offers]

theorem run_cons (B : Nat) (s : St) (op : Op) (ops : List Op) :
    run B s (op :: ops) = run B (step B s op) ops := rfl

theorem run_append (B : Nat) (s : St) (x y : List Op) : run B s (x ++ y) = run B (run B s x) y := by
  simp [run, List.foldl_append]

/-- Conservation: whatever the buffered writer accepted is on the wire or in the buffer, in
order — for every program, buffer size and failure point. -/
theorem run_conserve (B : Nat) (ops : List Op) (s : St) (h : s.w.wire ++ s.w.buf = s.accepted) :
    (run B s ops).w.wire ++ (run B s ops).w.buf = (run B s ops).accepted :=
  List.foldlRecOn (motive := fun s => s.w.wire ++ s.w.buf = s.accepted) ops (step B) h fun s h op _ => by
    have hacc := step_acc B s op .all
    rw [op.offers_all] at hacc
    rw [(step_takes B s op).conserve, h]
    exact hacc.symm

/-- Exactness of the accounting under failure: each account (header dump, body dump, accepted
bytes) grows by a PREFIX of the bytes the program writes for it — nothing is claimed twice or
out of order, nothing after the writer failed — and by all of them if the writer has not failed
at the end. -/
theorem run_acc_prefix (B : Nat) (a : Acc) (ops : List Op) (s : St) :
    ∃ x, (run B s ops).acc a = s.acc a ++ x ∧ x <+: dataOf a ops ∧
      ((run B s ops).w.err = false → x = dataOf a ops) := by
  obtain ⟨x, h1, h2, _, h4⟩ := Req.Lemmas.foldl_acc_prefix (step B) (St.acc · a) (·.w.err) (Op.offers a)
    (fun s op he => ⟨_, step_acc B s op a, fun hn => by
      rcases op.offers_cases a with h | h <;> rw [h] at hn
      · exact (step_takes B s op).short he hn
      · cases hn⟩)
    (fun s op he => by
      obtain ⟨hw, hn⟩ := (step_takes B s op).stuck he
      exact ⟨by rw [hw]; exact he, by rw [step_acc, hn, List.take_zero, List.append_nil]⟩)
    ops s
  rw [dataOf_eq_flatMap]
  exact ⟨x, h1, h2, h4⟩

theorem run_init_acc (B : Nat) (limit : Option Nat) (a : Acc) (ops : List Op) :
    (run B (St.init limit) ops).acc a <+: dataOf a ops ∧
    ((run B (St.init limit) ops).w.err = false → (run B (St.init limit) ops).acc a = dataOf a ops) := by
  obtain ⟨x, h1, h2, h4⟩ := run_acc_prefix B a ops (St.init limit)
  have h0 : (St.init limit).acc a = [] := by cases a <;> rfl
  rw [h0, List.nil_append] at h1
  rw [h1]
  exact ⟨h2, h4⟩

theorem run_nofail (B : Nat) (ops : List Op) (s : St) (hl : s.w.limit = none) (he : s.w.err = false) :
    (run B s ops).w.limit = none ∧ (run B s ops).w.err = false :=
  List.foldlRecOn (motive := fun s => s.w.limit = none ∧ s.w.err = false) ops (step B) ⟨hl, he⟩
    fun s h op _ => ⟨((step_takes B s op).nofail h.1 h.2).1, ((step_takes B s op).nofail h.1 h.2).2.1⟩

end Req.H1.DumpWrite
