import Req.Lemmas.C13Program
/-! The flush schedule of the HTTP/1.1 write program: independence of the dump tags, and
promptness of streamed bodies. -/
namespace Req.H1.DumpWrite
open Req.Proto Req.H1

/-- forget through which dump wrapper a write goes. -/
def Op.erase : Op → Op
  | .write d _ => .write d .raw
  | op => op

theorem step_erase (B : Nat) (s s' : St) (op : Op) (hw : s.w = s'.w) (hp : s.pending = s'.pending) :
    (step B s op).w = (step B s' op.erase).w ∧ (step B s op).pending = (step B s' op.erase).pending := by
  cases op with
  | write d t => simp [step, Op.erase, hw, hp]
  | flush => simp [step, Op.erase, hw, hp]
  | flushIfFull => simp only [step, Op.erase, hw, hp]; split <;> first | exact ⟨rfl, rfl⟩ | exact ⟨hw, hp⟩
  | read => simp [step, Op.erase, hw, hp]

/-- What the connection and the body producer can observe — bytes on the wire, bytes withheld,
error state, the withheld count at every body read — does not depend on the dump tags. -/
theorem run_erase (B : Nat) (ops : List Op) (s s' : St) (hw : s.w = s'.w) (hp : s.pending = s'.pending) :
    (run B s ops).w = (run B s' (ops.map Op.erase)).w ∧
    (run B s ops).pending = (run B s' (ops.map Op.erase)).pending := by
  rw [run, run, List.foldl_map]
  exact List.foldl_rel (r := fun s s' : St => s.w = s'.w ∧ s.pending = s'.pending) ⟨hw, hp⟩
    fun op _ s s' h => step_erase B s s' op h.1 h.2

theorem run_erase_congr (B : Nat) (s : St) (ops ops' : List Op) (h : ops.map Op.erase = ops'.map Op.erase) :
    (run B s ops).w = (run B s ops').w ∧ (run B s ops).pending = (run B s ops').pending := by
  have a := run_erase B ops s s rfl rfl
  have b := run_erase B ops' s s rfl rfl
  rw [h] at a
  exact ⟨a.1.trans b.1.symm, a.2.trans b.2.symm⟩

theorem headOps_erase (t : Tag) (line : Bytes) (fields : Hdr) :
    (headOps t line fields).map Op.erase = headOps .raw line fields := by
  simp [headOps, Op.erase, List.map_map, Function.comp_def]

theorem chunkOps_erase (t : Tag) (p : Bytes) : (chunkOps t p).map Op.erase = chunkOps .raw p := by
  unfold chunkOps; split <;> simp [Op.erase]

/-- The erased program depends on the mode only through `flushHeaders`, `bodyFails`, the
CONNECT flush and — for bodies of known length only — the copy path: such a body goes through
`io.CopyBuffer`, which picks `ReadFrom` or `Write` by `bodyDump`; `h4` says the body is streamed,
not sent, or copied the same way. -/
theorem program_erase (m line : Bytes) (fields : Hdr) (f : Framing) (md md' : Mode) (pieces : List Bytes)
    (h1 : md.flushHeaders = md'.flushHeaders) (h2 : md.bodyFails = md'.bodyFails)
    (h3 : connectFlush m md = connectFlush m md')
    (h4 : f.chunked = true ∨ (f.cl == -1) = true ∨ f.sendBody = false ∨ md.bodyDump = md'.bodyDump) :
    (program m line fields f md pieces).map Op.erase = (program m line fields f md' pieces).map Op.erase := by
  unfold program
  simp only [List.map_append, headOps_erase, h1]
  congr 1
  unfold bodyOps
  by_cases h0 : f.sendBody
  · simp only [h0, Bool.not_true, Bool.false_eq_true, ↓reduceIte]
    by_cases hc : f.chunked
    · simp only [hc, ↓reduceIte, List.map_append, List.map_flatMap, List.map_cons, chunkOps_erase, h2]
      congr 1
      by_cases hx : md'.bodyFails <;> simp [hx, Op.erase]
    · simp only [hc, Bool.false_eq_true, ↓reduceIte]
      by_cases hl : (f.cl == -1) = true
      · simp only [hl, ↓reduceIte, List.map_flatMap, h3]
        congr 1
        funext p
        by_cases hp : p.isEmpty
        · simp [hp, Op.erase]
        · by_cases hcf : connectFlush m md' <;> simp [hp, hcf, Op.erase]
      · have hbd : md.bodyDump = md'.bodyDump := by
          rcases h4 with h | h | h | h
          · exact absurd h hc
          · exact absurd h hl
          · rw [h0] at h; cases h
          · exact h
        simp only [hl, Bool.false_eq_true, ↓reduceIte, hbd, h2]
  · simp [h0]

/-- The wire cannot fail and has not, and at every body read so far nothing was withheld. -/
structure Prompt (s : St) : Prop where
  noLimit : s.w.limit = none
  noErr : s.w.err = false
  prompt : ∀ n ∈ s.pending, n = 0

/-- …and nothing is withheld now: the buffer is empty. -/
structure Flushed (s : St) : Prop extends Prompt s where
  flushed : s.w.buf = []

theorem prompt_write (B : Nat) (s : St) (d : Bytes) (t : Tag) (h : Prompt s) : Prompt (step B s (.write d t)) := by
  obtain ⟨hl, he, _⟩ := (write_takes B s.w d).nofail h.noLimit h.noErr
  exact ⟨hl, he, h.prompt⟩

theorem flushed_flush (B : Nat) (s : St) (h : Prompt s) : Flushed (step B s .flush) := by
  obtain ⟨hl, he, hb, _⟩ := flush_nofail s.w h.noLimit h.noErr
  exact ⟨⟨hl, he, h.prompt⟩, hb⟩

theorem flushed_read (B : Nat) (s : St) (h : Flushed s) : Flushed (step B s .read) := by
  refine ⟨⟨h.noLimit, h.noErr, ?_⟩, h.flushed⟩
  intro n hn
  simp only [step, List.mem_append, List.mem_singleton] at hn
  rcases hn with hn | hn
  · exact h.prompt n hn
  · rw [hn, h.flushed]; rfl

theorem flushed_chunk (B : Nat) (t : Tag) (p : Bytes) (s : St) (h : Flushed s) :
    Flushed (run B s (Op.read :: chunkOps t p)) := by
  rw [run_cons]
  have h1 := flushed_read B s h
  unfold chunkOps
  split
  · exact h1
  · simp only [run, List.foldl_cons, List.foldl_nil]
    exact flushed_flush B _ (prompt_write B _ _ _ (prompt_write B _ _ _ (prompt_write B _ _ _ h1.toPrompt)))

theorem run_flatMap_inv (B : Nat) (P : St → Prop) (g : Bytes → List Op)
    (h : ∀ s p, P s → P (run B s (g p))) (pieces : List Bytes) (s : St) (hs : P s) :
    P (run B s (pieces.flatMap g)) := by
  rw [run, List.foldl_flatMap]
  exact List.foldlRecOn pieces _ hs fun s hs p _ => h s p hs

theorem flushed_pieces_chunked (B : Nat) (t : Tag) (pieces : List Bytes) :
    ∀ s, Flushed s → Flushed (run B s (pieces.flatMap fun p => Op.read :: chunkOps t p)) :=
  run_flatMap_inv B Flushed _ (fun s p => flushed_chunk B t p s) pieces

theorem flushed_pieces_stream (B : Nat) (t : Tag) (pieces : List Bytes) :
    ∀ s, Flushed s → Flushed (run B s (pieces.flatMap fun p =>
      Op.read :: (if p.isEmpty then [] else Op.write p t :: [Op.flush]))) := by
  refine run_flatMap_inv B Flushed _ (fun s p h => ?_) pieces
  rw [run_cons]
  have h1 := flushed_read B s h
  split
  · exact h1
  · exact flushed_flush B _ (prompt_write B _ _ _ h1.toPrompt)

theorem prompt_headOps (B : Nat) (t : Tag) (line : Bytes) (fields : Hdr) (s : St) (h : Prompt s) :
    Prompt (run B s (headOps t line fields)) := by
  rw [headOps_eq, run, List.foldl_map]
  exact List.foldlRecOn _ _ h fun s h d _ => prompt_write B s d t h

end Req.H1.DumpWrite
