import Req.Lemmas.MultipartBody
/-!
What a multipart body can carry and what the server makes of it. `FieldOK`, `CTypeOK`, `FileOK`: the
fields and files whose parts are `GoodPart`s (`goodPart_field`, `goodPart_file`) and which `itemOf`
reads back as `fieldItem` / `fileItem` (`itemOf_field`, `itemOf_file`); `serverForm_writeParts`
composes these over any list of parts. The writer's error branch: `checkAll_ok`, `checkField_ok`,
`checkFile_ok`; what it accepts is `FileOK` within `FileDomain` (`fileOK_of_checked`).
-/
namespace Req.Multipart
open Req.Proto Req.Ascii

/-- A field that multipart/form-data can carry: a non-empty name (ANY bytes — the name is
quoted like a file name; an empty name is refused by `checkField`) and a value free of the
delimiter. -/
structure FieldOK (b : Bytes) (kv : Bytes × Bytes) : Prop where
  name_ne : kv.1 ≠ []
  free : BoundaryFree (delim b) (crlf ++ kv.2)

/-- A content type the part header can carry: blank (no header is written), or valid header
bytes without surrounding white space. -/
def CTypeOK (t : Bytes) : Prop :=
  isStringEmpty t = true ∨
  (t ≠ [] ∧ (∀ c ∈ t, validValueByte c = true) ∧ (t.head?.map isLWS).getD false = false ∧
    (t.getLast?.map isLWS).getD false = false)

/-- A file upload that multipart/form-data can carry. ANY bytes are allowed in the names. -/
structure FileOK (b : Bytes) (f : File) : Prop where
  param_ne : f.param ≠ []
  filename_ne : f.filename ≠ []
  params : GoodParams (fileParams f)
  ctype : CTypeOK f.ctype
  free : BoundaryFree (delim b) (crlf ++ f.content)

/-- The content type the server finds on the part. -/
def seenCType (f : File) : Bytes := if isStringEmpty f.ctype then [] else f.ctype

def fieldItem (kv : Bytes × Bytes) : Item := .field (arrive kv.1) kv.2
def fileItem (f : File) : Item := .file (arrive f.param) (arrive f.filename) (seenCType f) f.content

def fieldHeaders (kv : Bytes × Bytes) : List (Bytes × Bytes) := [(cdHeader, fieldDisposition kv.1)]
def fileHeaders (f : File) : List (Bytes × Bytes) :=
  (cdHeader, fileDisposition f) :: (if isStringEmpty f.ctype then [] else [(ctHeader, f.ctype)])

/-- the two header names of a part are header-name tokens in Go's canonical form: `readHeaders` hands
them back as written -/
theorem headerNames_canonical :
    (∀ x ∈ cdHeader, isTokenByte x = true) ∧ canonGo true cdHeader = cdHeader ∧
    (∀ x ∈ ctHeader, isTokenByte x = true) ∧ canonGo true ctHeader = ctHeader := by decide

theorem formData_valid : ∀ x ∈ formData, validValueByte x = true := by decide

/-- what the look-ups of `itemOf` turn on: the header names differ, the keys differ and are in lower
case -/
theorem keys_distinct :
    (cdHeader == ctHeader) = false ∧ (nameKey == filenameKey) = false ∧
    lower nameKey = nameKey ∧ lower filenameKey = filenameKey := by decide

/-- `name` and `filename` are keys a parameter list can carry (the clause of `GoodParams`) -/
theorem key_consts :
    (nameKey ≠ [] ∧ (∀ x ∈ nameKey, isTokenChar x = true) ∧ (lower nameKey).contains 42 = false) ∧
    (filenameKey ≠ [] ∧ (∀ x ∈ filenameKey, isTokenChar x = true) ∧
      (lower filenameKey).contains 42 = false) := by decide

theorem cdParam_valid (p : Bytes × Bytes) (hk : ∀ x ∈ p.1, isTokenChar x = true) :
    ∀ c ∈ cdParam p, validValueByte c = true := by
  intro c hc
  simp only [cdParam, List.mem_append, List.mem_cons] at hc
  rcases hc with (((hc | hc) | hc) | hc) | hc
  · simp at hc; rcases hc with rfl | rfl <;> decide
  · exact tokenChar_valid c (hk c hc)
  · simp at hc; rcases hc with rfl | rfl <;> decide
  · exact quote_valid p.2 c hc
  · simp at hc; subst hc; decide

theorem disposition_value (l : List (Bytes × Bytes)) (hg : GoodParams l) (hne : l ≠ []) :
    formData ++ l.flatMap cdParam ≠ [] ∧ (∀ c ∈ formData ++ l.flatMap cdParam, validValueByte c = true) ∧
    ((formData ++ l.flatMap cdParam).head?.map isLWS).getD false = false ∧
    ((formData ++ l.flatMap cdParam).getLast?.map isLWS).getD false = false := by
  refine ⟨by simp [formData], ?_, by simp [formData]; decide, ?_⟩
  · intro c hc
    simp only [List.mem_append, List.mem_flatMap] at hc
    rcases hc with hc | ⟨p, hp, hc⟩
    · exact formData_valid c hc
    · exact cdParam_valid p (hg.1 p hp).2.1 c hc
  · obtain ⟨l', pl, hl⟩ : ∃ l' pl, l = l' ++ [pl] :=
      ⟨l.dropLast, l.getLast hne, (List.dropLast_concat_getLast hne).symm⟩
    have : formData ++ l.flatMap cdParam
        = (formData ++ l'.flatMap cdParam ++ ([59, 32] ++ pl.1 ++ [61, 34] ++ quote pl.2)) ++ [34] := by
      simp [hl, cdParam]
    rw [this, List.getLast?_concat]; decide

theorem goodParams_name (k : Bytes) : GoodParams [(nameKey, k)] :=
  ⟨fun p hp => List.mem_singleton.mp hp ▸ key_consts.1, by simp⟩

theorem fieldDisposition_eq (k : Bytes) :
    fieldDisposition k = formData ++ [(nameKey, k)].flatMap cdParam := by
  simp [fieldDisposition]

theorem fieldDisposition_value (k : Bytes) :
    fieldDisposition k ≠ [] ∧ (∀ c ∈ fieldDisposition k, validValueByte c = true) ∧
    ((fieldDisposition k).head?.map isLWS).getD false = false ∧
    ((fieldDisposition k).getLast?.map isLWS).getD false = false := by
  rw [fieldDisposition_eq]
  exact disposition_value _ (goodParams_name k) (by simp)

theorem goodPart_field (b : Bytes) (kv : Bytes × Bytes) (h : FieldOK b kv) :
    GoodPart (delim b) (fieldPart kv) (fieldHeaders kv) := by
  obtain ⟨hcd, hcanon, -⟩ := headerNames_canonical
  obtain ⟨v1, v2, v3, v4⟩ := fieldDisposition_value kv.1
  refine ⟨?_, by simp [fieldPart, fieldHeader, headerLine, cdHeader], h.free⟩
  intro n rest hn
  obtain ⟨m, rfl⟩ : ∃ m, n = m + 2 := ⟨n - 2, by omega⟩
  have hshape : (fieldPart kv).header ++ rest
      = headerLine cdHeader (fieldDisposition kv.1) ++ (crlf ++ rest) := by
    simp [fieldPart, fieldHeader]
  rw [hshape, readHeaders_line (m + 1) true cdHeader _ _ (by decide) hcd hcanon v1 v2 v3 v4 (by simp [crlf]; decide),
    readHeaders_blank]
  rfl

theorem goodPart_file (b : Bytes) (f : File) (h : FileOK b f) :
    GoodPart (delim b) (filePart f) (fileHeaders f) := by
  obtain ⟨hcd, hcanon, hct, hctcanon⟩ := headerNames_canonical
  have hne : fileParams f ≠ [] := by simp [fileParams, h.param_ne]
  obtain ⟨v1, v2, v3, v4⟩ := disposition_value (fileParams f) h.params hne
  refine ⟨?_, by simp [filePart, fileHeader, headerLine, cdHeader], h.free⟩
  intro n rest hn
  by_cases hblank : isStringEmpty f.ctype = true
  · obtain ⟨m, rfl⟩ : ∃ m, n = m + 2 := ⟨n - 2, by omega⟩
    have hshape : (filePart f).header ++ rest
        = headerLine cdHeader (fileDisposition f) ++ (crlf ++ rest) := by
      simp [filePart, fileHeader, hblank]
    rw [hshape, readHeaders_line (m + 1) true cdHeader (fileDisposition f) _ (by decide) hcd hcanon v1 v2 v3 v4 (by simp [crlf]; decide),
      readHeaders_blank]
    simp [fileHeaders, hblank]
  · obtain ⟨m, rfl⟩ : ∃ m, n = m + 3 := ⟨n - 3, by omega⟩
    rcases h.ctype with hb | ⟨t1, t2, t3, t4⟩
    · exact absurd hb hblank
    · have hshape : (filePart f).header ++ rest
          = headerLine cdHeader (fileDisposition f) ++ (headerLine ctHeader f.ctype ++ (crlf ++ rest)) := by
        simp [filePart, fileHeader, hblank]
      rw [hshape, readHeaders_line (m + 2) true cdHeader (fileDisposition f) _ (by decide) hcd hcanon v1 v2 v3 v4
          (by simp [headerLine, ctHeader]; decide),
        readHeaders_line (m + 1) false ctHeader _ _ (by decide) hct hctcanon t1 t2 t3 t4 (by simp [crlf]; decide),
        readHeaders_blank]
      simp [fileHeaders, hblank]

theorem safe_no_crlf (k : Bytes) (h : ∀ c ∈ k, headerUnsafe c = false) :
    ∀ c ∈ k, (c == 13) = false ∧ (c == 10) = false :=
  fun c hc => headerSafe_not_crlf c (h c hc)

theorem itemOf_field (kv : Bytes × Bytes) (hne : kv.1 ≠ []) :
    itemOf ⟨fieldHeaders kv, kv.2⟩ = .ok (some (fieldItem kv)) := by
  obtain ⟨-, hnf, hln, -⟩ := keys_distinct
  have ha := List.isEmpty_eq_false_iff.mpr (arrive_ne_nil kv.1 hne)
  have hpm := parseMediaType_cdParams [(nameKey, kv.1)] (goodParams_name kv.1)
  rw [← fieldDisposition_eq] at hpm
  simp [itemOf, fieldHeaders, lookup, hpm, hnf, hln, ha, fieldItem]

theorem fileParams_shape (f : File) (hp : f.param ≠ []) (hn : f.filename ≠ []) :
    fileParams f = (nameKey, f.param) :: (filenameKey, f.filename) :: f.extra := by
  simp [fileParams, hp, hn]

theorem itemOf_file (b : Bytes) (f : File) (h : FileOK b f) :
    itemOf ⟨fileHeaders f, f.content⟩ = .ok (some (fileItem f)) := by
  obtain ⟨hcc, hnf, hln, hlf⟩ := keys_distinct
  have hshape := fileParams_shape f h.param_ne h.filename_ne
  have hpm := parseMediaType_cdParams (fileParams f) h.params
  rw [hshape] at hpm
  have ha1 := List.isEmpty_eq_false_iff.mpr (arrive_ne_nil f.param h.param_ne)
  have ha2 := List.isEmpty_eq_false_iff.mpr (arrive_ne_nil f.filename h.filename_ne)
  have hfd : fileDisposition f = formData ++ List.flatMap cdParam ((nameKey, f.param) :: (filenameKey, f.filename) :: f.extra) := by
    simp [fileDisposition, hshape]
  have hlk : lookup cdHeader (fileHeaders f) = fileDisposition f := by simp [fileHeaders, lookup]
  have hct : lookup ctHeader (fileHeaders f) = seenCType f := by
    by_cases hblank : isStringEmpty f.ctype = true <;> simp [fileHeaders, lookup, hcc, seenCType, hblank]
  unfold itemOf
  simp only [hlk, hct]
  rw [hfd, hpm]
  simp [lookup, hln, hlf, hnf, ha1, ha2, fileItem]

theorem checkAll_ok {α} (chk : α → Except WriteErr Unit) (l : List α) :
    checkAll chk l = .ok () ↔ ∀ x ∈ l, chk x = .ok () := by
  induction l with
  | nil => simp [checkAll]
  | cons x xs ih =>
    simp only [checkAll, List.mem_cons, forall_eq_or_imp]
    cases h : chk x with
    | error e => simp
    | ok u => cases u; simp [ih]

theorem checkAll_cases {α} (chk : α → Except WriteErr Unit) (l : List α) :
    checkAll chk l = .ok () ∨ ∃ x ∈ l, ∃ e, chk x = .error e ∧ checkAll chk l = .error e := by
  induction l with
  | nil => left; rfl
  | cons x xs ih =>
    cases h : chk x with
    | error e => right; exact ⟨x, by simp, e, h, by simp [checkAll, h]⟩
    | ok u =>
      cases u
      rcases ih with ih | ⟨y, hy, e, h1, h2⟩
      · left; simp [checkAll, h, ih]
      · right; exact ⟨y, List.mem_cons_of_mem _ hy, e, h1, by simp [checkAll, h, h2]⟩

theorem checkField_ok (kv : Bytes × Bytes) : checkField kv = .ok () ↔ kv.1 ≠ [] := by
  unfold checkField
  cases kv.1 <;> simp

theorem checkFile_ok (f : File) :
    checkFile f = .ok () ↔
      (∀ c ∈ f.ctype, headerUnsafe c = false) ∧ ∀ p ∈ f.extra, p.1 ≠ [] ∧ ∀ c ∈ p.1, isTChar c = true := by
  have : checkFile f = .ok () ↔
      validFieldValue f.ctype = true ∧ (f.extra.any fun p => !validParamKey p.1) = false := by
    unfold checkFile
    cases validFieldValue f.ctype <;> cases f.extra.any (fun p => !validParamKey p.1) <;> simp
  simp [this, validFieldValue, validParamKey]

theorem writeChecked_ok_body (b : Bytes) (fields : List (Bytes × Bytes)) (files : List File) (body : Bytes) :
    writeChecked b fields files = .ok body ↔
      body = write b fields files ∧ (∀ kv ∈ fields, checkField kv = .ok ()) ∧
        ∀ f ∈ files, checkFile f = .ok () := by
  unfold writeChecked
  rw [← checkAll_ok, ← checkAll_ok]
  cases checkAll checkField fields with
  | error e => simp
  | ok u =>
    cases checkAll checkFile files with
    | error e => simp
    | ok u => simp [eq_comm]

/-- What remains a DOMAIN restriction of a file upload once `checkFile` has accepted it:
non-empty names (`SetFileUpload` refuses the others), extra parameter names without `*`
(RFC 2231 continuations are another syntax) and pairwise different from each other and from
`name` / `filename` ignoring case, a content type without surrounding blanks (a header value is
trimmed), content free of the delimiter. -/
structure FileDomain (b : Bytes) (f : File) : Prop where
  param_ne : f.param ≠ []
  filename_ne : f.filename ≠ []
  keys_plain : ∀ p ∈ f.extra, (lower p.1).contains 42 = false
  keys_nodup : ((fileParams f).map fun p => lower p.1).Nodup
  ctype_trim : isStringEmpty f.ctype = true ∨
    ((f.ctype.head?.map isLWS).getD false = false ∧ (f.ctype.getLast?.map isLWS).getD false = false)
  free : BoundaryFree (delim b) (crlf ++ f.content)

theorem fileOK_of_checked (b : Bytes) (f : File) (hc : checkFile f = .ok ()) (hd : FileDomain b f) :
    FileOK b f := by
  obtain ⟨hct, hkeys⟩ := (checkFile_ok f).mp hc
  refine ⟨hd.param_ne, hd.filename_ne, ⟨?_, hd.keys_nodup⟩, ?_, hd.free⟩
  · intro p hp
    rw [fileParams_shape f hd.param_ne hd.filename_ne] at hp
    simp only [List.mem_cons] at hp
    rcases hp with rfl | rfl | hp
    · exact key_consts.1
    · exact key_consts.2
    · exact ⟨(hkeys p hp).1, fun x hx => tchar_token x ((hkeys p hp).2 x hx), hd.keys_plain p hp⟩
  · rcases hd.ctype_trim with hb | ⟨t1, t2⟩
    · exact Or.inl hb
    · by_cases hb : isStringEmpty f.ctype = true
      · exact Or.inl hb
      · right
        refine ⟨?_, fun c hc => by simp [validValueByte, hct c hc], t1, t2⟩
        intro he; simp [he, isStringEmpty] at hb

theorem itemsOf_map {α} (l : List α) (raw : α → RawPart) (item : α → Item)
    (h : ∀ x ∈ l, itemOf (raw x) = .ok (some (item x))) :
    itemsOf (l.map raw) = .ok (l.map item) := by
  induction l with
  | nil => simp [itemsOf]
  | cons x xs ih =>
    simp [itemsOf, h x (by simp), ih (fun y hy => h y (List.mem_cons_of_mem _ hy))]

/-- The server reads back, in order, the items of ANY list of parts it can carry — fields and
files in any order (`writeMultiPart` happens to write the fields first). -/
theorem serverForm_writeParts (b : Bytes) (l : List (Part × List (Bytes × Bytes) × Item))
    (hb : (10 : UInt8) ∉ b)
    (h : ∀ q ∈ l, GoodPart (delim b) q.1 q.2.1 ∧ itemOf ⟨q.2.1, q.1.content⟩ = .ok (some q.2.2)) :
    serverForm b (writeParts b (l.map (·.1))) = .ok (l.map (·.2.2)) := by
  have hp := parseBody_write b (l.map fun q => (q.1, q.2.1)) hb (by
    intro q hq
    obtain ⟨r, hr, rfl⟩ := List.mem_map.mp hq
    exact (h r hr).1)
  rw [List.map_map] at hp
  simp only [serverForm, Function.comp_def] at hp ⊢
  rw [hp, List.map_map]
  exact itemsOf_map l _ _ fun q hq => (h q hq).2

end Req.Multipart
