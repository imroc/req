import Req.C02.H3Recv
import Req.Lemmas.C02Bufio
import Req.Lemmas.C02Reader
/-!
C02 — HTTP/3 (`Req.C02.H3Recv`): the DATA-frame reader (`stream.Read` with `bytesRemainingInFrame`) under the
content-length accounting of `body.Read` refines "the concatenation of the DATA payloads" for
every segmentation of the QUIC stream and every caller read size.
-/
namespace Req.C02
open Req.Proto

theorem Net.read_nil (n : Net) (k : Nat) (h : n.segs.flatten = []) :
    n.read k = (none, { n with segs := [] }) := by
  have hs : Net.readSegs n.segs k = (none, []) := by
    generalize n.segs = segs at h
    induction segs with
    | nil => rfl
    | cons s rest ih =>
      obtain ⟨rfl, h2⟩ := List.append_eq_nil_iff.mp h
      exact ih h2
  simp only [Net.read, hs]

/-- One `Read` of at most `k ≤ |p|` bytes from a stream that still holds `p ++ R`, in any
segmentation, hands out a prefix of `p`: the one fact about `Net.read` all readers below use. -/
theorem Net.read_prefix (n : Net) (k : Nat) (p R : Bytes) (hfl : n.segs.flatten = p ++ R)
    (hne : n.segs.flatten ≠ []) (hk : k ≤ p.length) :
    ∃ d p' n', n.read k = (some d, n') ∧ (0 < k → d ≠ []) ∧ p = d ++ p' ∧
      n'.segs.flatten = p' ++ R ∧ n'.fin = n.fin := by
  rcases hr : n.read k with ⟨_ | d, n'⟩
  · exact absurd (Net.read_none n k n' hr).1 hne
  · obtain ⟨hs, hl, hd, hfin⟩ := Net.read_some n k d n' hr
    obtain ⟨p', hp, hfl'⟩ := List.append_eq_append_of_length_le (hfl.symm.trans hs) (Nat.le_trans hl hk)
    exact ⟨d, p', n', rfl, hd, hp, hfl', hfin⟩

theorem Net.readByte_cons (n : Net) (x : UInt8) (R : Bytes) (h : n.segs.flatten = x :: R) :
    ∃ n', n.readByte = (.ok x, n') ∧ n'.segs.flatten = R ∧ n'.fin = n.fin := by
  obtain ⟨d, p', n', hr, hd, hp, hfl', hfin⟩ :=
    Net.read_prefix n 1 [x] R h (by rw [h]; exact List.cons_ne_nil _ _) (Nat.le_refl 1)
  cases d with
  | nil => exact absurd rfl (hd Nat.one_pos)
  | cons a as =>
    obtain ⟨rfl, h2⟩ := List.cons.inj hp
    obtain ⟨rfl, rfl⟩ := List.append_eq_nil_iff.mp h2.symm
    exact ⟨n', by rw [Net.readByte, hr], hfl', hfin⟩

theorem Net.readByte_nil (n : Net) (h : n.segs.flatten = []) :
    ∃ n', n.readByte = (.error n.fin.toH3, n') ∧ n'.segs.flatten = [] ∧ n'.fin = n.fin :=
  ⟨{ n with segs := [] }, by simp only [Net.readByte, Net.read_nil n 1 h], rfl, rfl⟩

def decVarintTail : Nat → Nat → Bytes → Option (Nat × Bytes)
  | 0, acc, bs => some (acc, bs)
  | _ + 1, _, [] => none
  | k + 1, acc, b :: bs => decVarintTail k (acc * 256 + b.toNat) bs

/-- The QUIC variable-length integer at the head of a byte string. -/
def decVarint : Bytes → Option (Nat × Bytes)
  | [] => none
  | b :: bs => decVarintTail ((1 <<< (b.toNat / 64)) - 1) (b.toNat % 64) bs

theorem decVarintTail_length (k acc : Nat) (bs : Bytes) (v : Nat) (r : Bytes)
    (h : decVarintTail k acc bs = some (v, r)) : r.length + k = bs.length := by
  induction k generalizing acc bs with
  | zero => simp [decVarintTail] at h; obtain ⟨_, rfl⟩ := h; simp
  | succ k ih =>
    cases bs with
    | nil => simp [decVarintTail] at h
    | cons b bs => simp only [decVarintTail] at h; have := ih _ _ h; simp; omega

theorem decVarint_length (bs : Bytes) (v : Nat) (r : Bytes) (h : decVarint bs = some (v, r)) :
    r.length < bs.length := by
  cases bs with
  | nil => simp [decVarint] at h
  | cons b bs =>
    simp only [decVarint] at h
    have := decVarintTail_length _ _ _ _ _ h
    simp; omega

theorem decVarintTail_append (k acc : Nat) (a x : Bytes) (v : Nat) (r : Bytes)
    (h : decVarintTail k acc a = some (v, r)) : decVarintTail k acc (a ++ x) = some (v, r ++ x) := by
  induction k generalizing acc a with
  | zero => simp [decVarintTail] at h ⊢; obtain ⟨rfl, rfl⟩ := h; simp
  | succ k ih =>
    cases a with
    | nil => simp [decVarintTail] at h
    | cons b a => simp only [decVarintTail, List.cons_append] at h ⊢; exact ih _ _ h

theorem decVarint_append (a x : Bytes) (v : Nat) (r : Bytes) (h : decVarint a = some (v, r)) :
    decVarint (a ++ x) = some (v, r ++ x) := by
  cases a with
  | nil => simp [decVarint] at h
  | cons b a => simp only [decVarint, List.cons_append] at h ⊢; exact decVarintTail_append _ _ _ _ _ _ h

theorem Net.read_fin (n : Net) (k : Nat) : (n.read k).2.fin = n.fin := by
  unfold Net.read; rfl

theorem Net.readVarintTail_total (k acc : Nat) (n : Net) : ∃ n', n'.fin = n.fin ∧
    ((∃ v, n.readVarintTail k acc = (.ok v, n') ∧ decVarintTail k acc n.segs.flatten = some (v, n'.segs.flatten)) ∨
     (n.readVarintTail k acc = (.error n.fin.toH3, n') ∧ decVarintTail k acc n.segs.flatten = none ∧
        n'.segs.flatten = [])) := by
  induction k generalizing acc n with
  | zero => exact ⟨n, rfl, .inl ⟨acc, rfl, rfl⟩⟩
  | succ k ih =>
    cases hfl : n.segs.flatten with
    | nil =>
      obtain ⟨n1, hb, h1, h2⟩ := Net.readByte_nil n hfl
      exact ⟨n1, h2, .inr ⟨by simp only [Net.readVarintTail, hb], rfl, h1⟩⟩
    | cons x xs =>
      obtain ⟨n1, hb, hfl1, hfin1⟩ := Net.readByte_cons n x xs hfl
      obtain ⟨n', hf, h⟩ := ih (acc * 256 + x.toNat) n1
      rw [hfl1, hfin1] at h
      exact ⟨n', hf.trans hfin1, by simpa only [Net.readVarintTail, hb, decVarintTail] using h⟩

/-- `quicvarint.Read` is `decVarint` on the bytes of the stream, in whatever segments they arrive:
a varint that is there is read and the stream is left behind it; one that is cut short uses up the
stream and fails with the stream's end. -/
theorem Net.readVarint_total (n : Net) : ∃ n', n'.fin = n.fin ∧
    ((∃ v, n.readVarint = (.ok v, n') ∧ decVarint n.segs.flatten = some (v, n'.segs.flatten)) ∨
     (n.readVarint = (.error n.fin.toH3, n') ∧ decVarint n.segs.flatten = none ∧ n'.segs.flatten = [])) := by
  cases hfl : n.segs.flatten with
  | nil =>
    obtain ⟨n1, hb, h1, h2⟩ := Net.readByte_nil n hfl
    exact ⟨n1, h2, .inr ⟨by simp only [Net.readVarint, hb], rfl, h1⟩⟩
  | cons x xs =>
    obtain ⟨n1, hb, hfl1, hfin1⟩ := Net.readByte_cons n x xs hfl
    obtain ⟨n', hf, h⟩ := Net.readVarintTail_total ((1 <<< (x.toNat / 64)) - 1) (x.toNat % 64) n1
    rw [hfl1, hfin1] at h
    exact ⟨n', hf.trans hfin1, by simpa only [Net.readVarint, hb, decVarint] using h⟩

theorem Net.readVarint_spec (n : Net) (v : Nat) (R : Bytes) (h : decVarint n.segs.flatten = some (v, R)) :
    ∃ n', n.readVarint = (.ok v, n') ∧ n'.segs.flatten = R ∧ n'.fin = n.fin := by
  obtain ⟨n', hf, ⟨v', hr, hd⟩ | ⟨_, hd, _⟩⟩ := Net.readVarint_total n <;> rw [h] at hd <;> cases hd
  exact ⟨n', hr, rfl, hf⟩

theorem Net.readVarint_fin (n : Net) : n.readVarint.2.fin = n.fin := by
  obtain ⟨n', hf, ⟨v, h, _⟩ | ⟨h, _⟩⟩ := Net.readVarint_total n <;> rw [h] <;> exact hf

theorem Net.readN.piecesOf_cons (d : Bytes) (acc : List Bytes) :
    Net.readN.piecesOf (d :: acc) = Net.readN.piecesOf acc ++ d := by
  simp only [Net.readN.piecesOf, List.reverse_cons, List.flatten_append, List.flatten_cons,
    List.flatten_nil, List.append_nil]

/-- `io.ReadFull` / `io.CopyN` of `k` bytes on the bytes of the stream: all `k` are there and are
read; or the stream ends first and its end is reported; or the fuel runs out (only if `fuel ≤ k`:
every `Read` hands out at least one byte). -/
theorem Net.readN_total (fuel k : Nat) (acc : List Bytes) (n : Net) : ∃ p n', n'.fin = n.fin ∧
    ((Net.readN fuel k acc n = ((p, none), n') ∧ k ≤ n.segs.flatten.length ∧
        p = Net.readN.piecesOf acc ++ n.segs.flatten.take k ∧ n'.segs.flatten = n.segs.flatten.drop k) ∨
     (Net.readN fuel k acc n = ((p, some n.fin.toH3), n') ∧ n.segs.flatten.length < k) ∨
     (Net.readN fuel k acc n = ((p, some .stuck), n') ∧ fuel ≤ k)) := by
  induction fuel generalizing k acc n with
  | zero => exact ⟨_, n, rfl, .inr (.inr ⟨rfl, Nat.zero_le _⟩)⟩
  | succ fuel ih =>
    unfold Net.readN
    by_cases hk : k = 0
    · rw [if_pos hk]; exact ⟨_, n, rfl, .inl ⟨rfl, by omega, by simp [hk], by simp [hk]⟩⟩
    rw [if_neg hk]
    rcases hr : n.read k with ⟨od, n1⟩
    cases od with
    | none =>
      obtain ⟨h0, _, hfin⟩ := Net.read_none _ _ _ hr
      exact ⟨_, n1, hfin, .inr (.inl ⟨rfl, by rw [h0]; exact Nat.pos_of_ne_zero hk⟩)⟩
    | some d =>
      obtain ⟨hfl, hle, hne, hfin⟩ := Net.read_some _ _ _ _ hr
      have hd : 0 < d.length := List.length_pos_iff.mpr (hne (Nat.pos_of_ne_zero hk))
      obtain ⟨p, n', hf', hc⟩ := ih (k - d.length) (d :: acc) n1
      refine ⟨p, n', hf'.trans hfin, ?_⟩
      simp only [hfl, List.length_append, hfin] at hc ⊢
      rcases hc with ⟨h1, h2, h3, h4⟩ | ⟨h1, h2⟩ | ⟨h1, h2⟩
      · refine .inl ⟨h1, by omega, ?_, ?_⟩
        · rw [h3, Net.readN.piecesOf_cons, List.append_assoc, List.take_append, List.take_of_length_le hle]
        · rw [h4, List.drop_append, List.drop_of_length_le hle, List.nil_append]
      · exact .inr (.inl ⟨h1, by omega⟩)
      · exact .inr (.inr ⟨h1, by omega⟩)

theorem Net.readN_spec (fuel k : Nat) (acc : List Bytes) (n : Net) (p R : Bytes)
    (hfl : n.segs.flatten = p ++ R) (hk : p.length = k) (hfuel : k < fuel) :
    ∃ n', Net.readN fuel k acc n = ((Net.readN.piecesOf acc ++ p, none), n') ∧ n'.segs.flatten = R ∧
      n'.fin = n.fin := by
  subst hk
  obtain ⟨q, n', hf, ⟨hr, _, rfl, hd⟩ | ⟨_, hlt⟩ | ⟨_, hle⟩⟩ := Net.readN_total fuel p.length acc n
  · rw [hfl, List.take_left] at hr
    rw [hfl, List.drop_left] at hd
    exact ⟨n', hr, hd, hf⟩
  · rw [hfl, List.length_append] at hlt; omega
  · omega

theorem Net.readN_fin (fuel k : Nat) (acc : List Bytes) (n : Net) : (Net.readN fuel k acc n).2.fin = n.fin := by
  obtain ⟨p, n', hf, ⟨h, _⟩ | ⟨h, _⟩ | ⟨h, _⟩⟩ := Net.readN_total fuel k acc n <;> rw [h] <;> exact hf

theorem Net.size_eq (n : Net) : n.size = n.segs.flatten.length := by
  simp [Net.size, List.length_flatten]

/-- A frame header: type and length varints. -/
def decHdr (bs : Bytes) : Option (Nat × Nat × Bytes) :=
  match decVarint bs with
  | none => none
  | some (t, r1) =>
    match decVarint r1 with
    | none => none
    | some (l, r2) => some (t, l, r2)

theorem decHdr_eq_some {bs r : Bytes} {t l : Nat} :
    decHdr bs = some (t, l, r) ↔ ∃ r1, decVarint bs = some (t, r1) ∧ decVarint r1 = some (l, r) := by
  unfold decHdr
  cases decVarint bs with
  | none => simp
  | some p =>
    obtain ⟨t', r1⟩ := p
    simp only []
    cases h2 : decVarint r1 with
    | none => simp [h2]
    | some q => obtain ⟨l', r2⟩ := q; simp [h2, and_assoc]

theorem decHdr_length (bs : Bytes) (t l : Nat) (r : Bytes) (h : decHdr bs = some (t, l, r)) :
    r.length + 2 ≤ bs.length := by
  obtain ⟨r1, h1, h2⟩ := decHdr_eq_some.mp h
  have a := decVarint_length _ _ _ h1
  have b := decVarint_length _ _ _ h2
  omega

theorem decHdr_append (a x : Bytes) (t l : Nat) (r : Bytes) (h : decHdr a = some (t, l, r)) :
    decHdr (a ++ x) = some (t, l, r ++ x) := by
  obtain ⟨r1, h1, h2⟩ := decHdr_eq_some.mp h
  exact decHdr_eq_some.mpr ⟨_, decVarint_append _ x _ _ h1, decVarint_append _ x _ _ h2⟩

/-- A frame as written on the stream: header bytes (any valid varint encodings of the type
and of the payload length) and the payload. -/
structure WFrame where
  hdr : Bytes
  typ : Nat
  payload : Bytes
deriving Repr

/-- `hdr` is a frame header for `typ` and the payload's length and nothing more: whatever follows,
the decoder reads these two numbers and stops right behind `hdr`.  Quantifying over what follows
says so without naming an encoder, so any valid (also non-minimal) varint spelling qualifies. -/
def WFrame.OK (f : WFrame) : Prop := ∀ R, decHdr (f.hdr ++ R) = some (f.typ, f.payload.length, R)

def WFrame.wire (f : WFrame) : Bytes := f.hdr ++ f.payload

/-- Frame types `ParseNext` skips on a request stream (unknown / GREASE / CANCEL_PUSH, …): every
type it does not handle itself (0 DATA, 1 HEADERS, 4 SETTINGS) or refuse as `H3_FRAME_UNEXPECTED`
(2, 6, 8, 9: the types reserved from HTTP/2). -/
def skippable (t : Nat) : Prop :=
  t ≠ 0 ∧ t ≠ 1 ∧ t ≠ 4 ∧ t ≠ 2 ∧ t ≠ 6 ∧ t ≠ 8 ∧ t ≠ 9

def framesWire (fs : List WFrame) : Bytes := (fs.map WFrame.wire).flatten

theorem framesWire_append (a b : List WFrame) : framesWire (a ++ b) = framesWire a ++ framesWire b := by
  simp [framesWire]

theorem framesWire_cons (f : WFrame) (fs : List WFrame) : framesWire (f :: fs) = f.hdr ++ (f.payload ++ framesWire fs) := by
  simp [framesWire, WFrame.wire, List.append_assoc]

theorem WFrame.hdr_ne (f : WFrame) (h : f.OK) : f.hdr ≠ [] := by
  intro h0
  have := h []
  simp [h0, decHdr, decVarint] at this

theorem readHdr_spec (n : Net) (f : WFrame) (hf : f.OK) (R : Bytes) (hfl : n.segs.flatten = f.hdr ++ R) :
    ∃ n1 n2, n.readVarint = (.ok f.typ, n1) ∧ n1.readVarint = (.ok f.payload.length, n2) ∧
      n2.segs.flatten = R ∧ n2.fin = n.fin := by
  obtain ⟨r1, h1, h2⟩ := decHdr_eq_some.mp (hfl ▸ hf R)
  obtain ⟨n1, hr1, hfl1, hfin1⟩ := Net.readVarint_spec n _ _ h1
  obtain ⟨n2, hr2, hfl2, hfin2⟩ := Net.readVarint_spec n1 _ _ (hfl1 ▸ h2)
  exact ⟨n1, n2, hr1, hr2, hfl2, hfin2.trans hfin1⟩

theorem parseNext_skip_one (fuel : Nat) (n : Net) (g : WFrame) (hg : g.OK) (hgt : skippable g.typ)
    (R : Bytes) (hfl : n.segs.flatten = g.hdr ++ (g.payload ++ R)) :
    ∃ n', parseNext (fuel + 1) n = parseNext fuel n' ∧ n'.segs.flatten = R ∧ n'.fin = n.fin := by
  obtain ⟨n1, n2, h1, h2, hfl2, hfin2⟩ := readHdr_spec n g hg _ hfl
  obtain ⟨n3, h3, hfl3, hfin3⟩ := Net.readN_spec (g.payload.length + 1) g.payload.length [] n2 g.payload R
    hfl2 rfl (Nat.lt_succ_self _)
  refine ⟨n3, ?_, hfl3, hfin3.trans hfin2⟩
  obtain ⟨g0, g1, g4, g2, g6, g8, g9⟩ := hgt
  simp only [parseNext, h1, h2, h3, g0, g1, g4, g2, g6, g8, g9, or_self, if_false]

section
variable {skips : List WFrame} (hsk : ∀ g ∈ skips, g.OK ∧ skippable g.typ) {n : Net}
include hsk

/-- `ParseNext` reads over the skippable frames in front and goes on behind them. Every frame
takes at least one byte, so fuel for the bytes on the stream (what `stream.Read` and
`ReadResponse` give) is enough. -/
theorem parseNext_skips (fuel : Nat) (hfuel : n.size ≤ fuel) (R : Bytes)
    (hfl : n.segs.flatten = framesWire skips ++ R) :
    ∃ m n', parseNext (fuel + 1) n = parseNext (m + 1) n' ∧ n'.segs.flatten = R ∧ n'.fin = n.fin := by
  induction skips generalizing fuel n with
  | nil => exact ⟨fuel, n, rfl, hfl, rfl⟩
  | cons g skips ih =>
    obtain ⟨hg, hgt⟩ := hsk g List.mem_cons_self
    rw [framesWire_cons, List.append_assoc, List.append_assoc] at hfl
    have hpos := List.length_pos_iff.mpr (WFrame.hdr_ne g hg)
    rw [Net.size_eq, hfl, List.length_append, List.length_append] at hfuel
    have hlt : (framesWire skips ++ R).length < fuel := Nat.lt_of_lt_of_le (Nat.lt_of_lt_of_le
      (Nat.lt_add_of_pos_left hpos) (Nat.add_le_add_left (Nat.le_add_left _ _) _)) hfuel
    obtain ⟨fuel, rfl⟩ := Nat.exists_eq_add_one_of_ne_zero (Nat.ne_zero_of_lt hlt)
    obtain ⟨n1, h1, hfl1, hfin1⟩ := parseNext_skip_one (fuel + 1) n g hg hgt _ hfl
    obtain ⟨m, n', h2, hfl2, hfin2⟩ := ih (fun g' hg' => hsk g' (List.mem_cons_of_mem _ hg')) fuel
      (by rw [Net.size_eq, hfl1]; exact Nat.le_of_lt_succ hlt) hfl1
    exact ⟨m, n', h1.trans h2, hfl2, hfin2.trans hfin1⟩

theorem parseNext_frame (f : WFrame) (R : Bytes) (hf : f.OK) (hft : f.typ = 0 ∨ f.typ = 1)
    (hfl : n.segs.flatten = framesWire skips ++ (f.hdr ++ R)) :
    ∃ n', parseNext (n.size + 1) n =
        (.ok (if f.typ = 0 then .data f.payload.length else .headers f.payload.length), n') ∧
      n'.segs.flatten = R ∧ n'.fin = n.fin := by
  obtain ⟨m, n1, h1, hfl1, hfin1⟩ := parseNext_skips hsk n.size (Nat.le_refl _) _ hfl
  obtain ⟨n2, n', h2, h3, hfl', hfin'⟩ := readHdr_spec n1 f hf R hfl1
  refine ⟨n', h1.trans ?_, hfl', hfin'.trans hfin1⟩
  rcases hft with h0 | h0 <;> simp [parseNext, h2, h3, h0]

theorem parseNext_end (hfl : n.segs.flatten = framesWire skips) :
    ∃ n', parseNext (n.size + 1) n = (.error n.fin.toH3, n') ∧ n'.segs.flatten = [] ∧ n'.fin = n.fin := by
  obtain ⟨m, n1, h1, hfl1, hfin1⟩ := parseNext_skips hsk n.size (Nat.le_refl _) []
    (hfl.trans (List.append_nil _).symm)
  obtain ⟨n', hb, hfl', hfin'⟩ := Net.readByte_nil n1 hfl1
  exact ⟨n', h1.trans (by simp only [parseNext, Net.readVarint, hb, hfin1]), hfl', hfin'.trans hfin1⟩

end

def BodyFrameOK (f : WFrame) : Prop := f.OK ∧ (f.typ = 0 ∨ skippable f.typ)

/-- The body the origin sent: the concatenation of the DATA payloads. -/
def h3DataOf : List WFrame → Bytes
  | [] => []
  | f :: fs => if f.typ = 0 then f.payload ++ h3DataOf fs else h3DataOf fs

theorem h3DataOf_cons_data (f : WFrame) (fs : List WFrame) (h : f.typ = 0) :
    h3DataOf (f :: fs) = f.payload ++ h3DataOf fs := if_pos h

theorem split_skips (frs : List WFrame) (h : ∀ f ∈ frs, BodyFrameOK f) :
    ∃ skips, (∀ g ∈ skips, g.OK ∧ skippable g.typ) ∧
      ((frs = skips ∧ h3DataOf frs = []) ∨
       ∃ f rest, frs = skips ++ f :: rest ∧ f.OK ∧ f.typ = 0 ∧ (∀ g ∈ rest, BodyFrameOK g) ∧
         h3DataOf frs = f.payload ++ h3DataOf rest) := by
  induction frs with
  | nil => exact ⟨[], nofun, .inl ⟨rfl, rfl⟩⟩
  | cons f frs ih =>
    obtain ⟨hf, h0 | hs⟩ := h f List.mem_cons_self
    · exact ⟨[], nofun, .inr ⟨f, frs, rfl, hf, h0, fun g hg => h g (List.mem_cons_of_mem _ hg),
        h3DataOf_cons_data f frs h0⟩⟩
    · obtain ⟨skips, hsk, hc⟩ := ih fun g hg => h g (List.mem_cons_of_mem _ hg)
      have hd : h3DataOf (f :: frs) = h3DataOf frs := if_neg hs.1
      refine ⟨f :: skips, List.forall_mem_cons.mpr ⟨⟨hf, hs⟩, hsk⟩, ?_⟩
      rcases hc with ⟨rfl, hd0⟩ | ⟨g, rest, rfl, hg, hg0, hrest, hdg⟩
      · exact .inl ⟨rfl, hd.trans hd0⟩
      · exact .inr ⟨g, rest, rfl, hg, hg0, hrest, hd.trans hdg⟩

/-- The optional trailer: the HEADERS frame, its decoded field list (QPACK is external) and
what `parseTrailers` makes of it. -/
structure WTrailer where
  frame : WFrame
  fields : Fields
  parsed : Fields
deriving Repr

def WTrailer.OK (maxH : Nat) (t : WTrailer) : Prop :=
  t.frame.OK ∧ t.frame.typ = 1 ∧ t.frame.payload.length ≤ maxH ∧ h3ParseTrailers t.fields = some t.parsed

def trailerWire : Option WTrailer → Bytes
  | none => []
  | some t => t.frame.wire

/-- The decoded field lists still to be consumed (side input of the model). -/
def trailerLists : Option WTrailer → List Fields
  | none => []
  | some t => [t.fields]

/-! `body.Read`: the two ways through it that a well-formed stream takes. -/

theorem violation_false (b : H3Body) (h : b.hasCL = true → b.remaining = 0 → b.str.remInFrame = 0) :
    b.violation = false := by
  simp only [H3Body.violation, Bool.and_eq_false_imp, Bool.and_eq_true, beq_iff_eq, and_imp,
    decide_eq_false_iff_not, Nat.not_lt, Nat.le_zero_eq]
  exact h

theorem H3Body.read_ok (b : H3Body) (k : Nat) (d : Bytes) (s' : H3Stream) (hv : b.violation = false)
    (hr : b.str.read (if b.hasCL = true then min k b.remaining else k) = ((d, none), s'))
    (hv' : ({ b with str := s', remaining := b.remaining - d.length } : H3Body).violation = false) :
    b.read k = ((d, none), { b with str := s', remaining := b.remaining - d.length }) := by
  simp [H3Body.read, hv, hr, hv']

theorem H3Body.read_end (b : H3Body) (k : Nat) (e : H3Err) (s' : H3Stream) (hv : b.violation = false)
    (hr : b.str.read (if b.hasCL = true then min k b.remaining else k) = (([], some e), s'))
    (h0 : s'.remInFrame = 0) (hcl : b.hasCL = true → b.remaining = 0) :
    b.read k = (([], some e), { b with str := s' }) := by
  have hv' : ({ b with str := s' } : H3Body).violation = false := violation_false _ fun _ _ => h0
  have hn : ¬ (b.hasCL = true ∧ b.remaining > 0) := fun ⟨hc, hr⟩ => absurd (hcl hc) (Nat.ne_of_gt hr)
  simp [H3Body.read, hv, hr, hv', hn]

/-- The request stream stands in front of `p`, the rest of the open DATA frame, then `frs`, then
the trailer: where `ReadResponse` leaves it (`p = []`) and where every body read finds it. -/
structure H3StreamAt (tr : Option WTrailer) (maxH : Nat) (s : H3Stream) (p : Bytes) (frs : List WFrame) :
    Prop where
  rem : s.remInFrame = p.length
  fl : s.net.segs.flatten = p ++ (framesWire frs ++ trailerWire tr)
  frs_ok : ∀ f ∈ frs, BodyFrameOK f
  pt : s.parsedTrailer = false
  lists : s.fieldLists = trailerLists tr
  fin : s.net.fin = .eof
  max : s.maxHeaderBytes = maxH

/-- The body reader stands there: its stream does, and a declared length, if armed, is what is
still to come. -/
structure H3At (tr : Option WTrailer) (maxH : Nat) (b : H3Body) (p : Bytes) (frs : List WFrame) : Prop
    extends H3StreamAt tr maxH b.str p frs where
  cl : b.hasCL = true → b.remaining = (p ++ h3DataOf frs).length

/-- Where the body reader stands and what it still has to hand out. -/
inductive H3Pos (tr : Option WTrailer) (maxH : Nat) : H3Body → Bytes → Prop
  | frames (b : H3Body) (p : Bytes) (frs : List WFrame) (h : H3At tr maxH b p frs) :
      H3Pos tr maxH b (p ++ h3DataOf frs)
  | trailed (b : H3Body) (t : WTrailer) (htr : tr = some t)
      (hrem : b.str.remInFrame = 0) (hfl : b.str.net.segs.flatten = [])
      (hpt : b.str.parsedTrailer = true) (htrail : b.str.trailer = some t.parsed)
      (hfin : b.str.net.fin = .eof) (hcl : b.hasCL = true → b.remaining = 0) :
      H3Pos tr maxH b []

theorem H3Pos.violation {tr : Option WTrailer} {maxH : Nat} {b : H3Body} {E : Bytes}
    (h : H3Pos tr maxH b E) : b.violation = false := by
  refine violation_false b fun hc h0 => ?_
  cases h with
  | frames p frs h =>
    rw [h.rem]
    exact (Nat.add_eq_zero_iff.mp ((List.length_append ▸ h.cl hc).symm.trans h0)).1
  | trailed t _ hrem => exact hrem

section
variable {tr : Option WTrailer} {maxH : Nat} {b : H3Body}

/-- Handing out part of the DATA payload `q` (`go` of `stream.Read`). -/
theorem h3_read_open {q : Bytes} {frs : List WFrame} (h : H3At tr maxH b q frs)
    (hne : b.str.net.segs.flatten ≠ []) (k : Nat) :
    ∃ d q' n', b.str.net.read (min (if b.hasCL = true then min k b.remaining else k) b.str.remInFrame) =
        (some d, n') ∧
      q = d ++ q' ∧ n'.segs.flatten.length ≤ b.str.net.segs.flatten.length ∧
      (0 < k → q ≠ [] → n'.segs.flatten.length < b.str.net.segs.flatten.length) ∧
      H3At tr maxH { b with str := { b.str with net := n', remInFrame := b.str.remInFrame - d.length },
                            remaining := b.remaining - d.length } q' frs := by
  obtain ⟨d, q', n', hrd, hd, rfl, hfl', hfin'⟩ := Net.read_prefix b.str.net _ q _ h.fl hne
    (Nat.le_trans (Nat.min_le_right _ _) (Nat.le_of_eq h.rem))
  have hlen : b.str.net.segs.flatten.length = d.length + n'.segs.flatten.length := by
    rw [h.fl, hfl', List.append_assoc, List.length_append]
  refine ⟨d, q', n', hrd, rfl, hlen ▸ Nat.le_add_left _ _, fun hk hq => ?_,
    { rem := ?_, fl := hfl', frs_ok := h.frs_ok, pt := h.pt, lists := h.lists,
      fin := hfin'.trans h.fin, max := h.max, cl := fun hc => ?_ }⟩
  · have hq' := List.length_pos_iff.mpr hq
    refine hlen ▸ Nat.lt_add_of_pos_left (List.length_pos_iff.mpr (hd (Nat.lt_min.mpr ⟨?_, h.rem ▸ hq'⟩)))
    split
    · next hc =>
      rw [h.cl hc, List.length_append]
      exact Nat.lt_min.mpr ⟨hk, Nat.add_pos_left hq' _⟩
    · exact hk
  · show b.str.remInFrame - d.length = q'.length
    rw [h.rem, List.length_append, Nat.add_sub_cancel_left]
  · show b.remaining - d.length = _
    rw [h.cl hc, List.append_assoc, List.length_append, Nat.add_sub_cancel_left]

/-- One `Read` of the HTTP/3 response body at position `E`: it hands out a prefix of `E` and
moves on, or (only with nothing left) reports the end of the stream. -/
def H3Step (tr : Option WTrailer) (maxH : Nat) (b : H3Body) (k : Nat) (E : Bytes) : Prop :=
  (∃ d E' b', b.read k = ((d, none), b') ∧ E = d ++ E' ∧ H3Pos tr maxH b' E' ∧
    (0 < k → b'.str.net.segs.flatten.length < b.str.net.segs.flatten.length)) ∨
  (∃ b', b.read k = (([], some .eof), b') ∧ E = [] ∧ ∀ t, tr = some t → b'.str.trailer = some t.parsed)

section
variable {skips : List WFrame} (hsk : ∀ g ∈ skips, g.OK ∧ skippable g.typ)
include hsk

theorem h3_read_end (k : Nat) (hrem : b.str.remInFrame = 0)
    (hfl : b.str.net.segs.flatten = framesWire skips) (hfin : b.str.net.fin = .eof)
    (hcl : b.hasCL = true → b.remaining = 0) :
    ∃ b', b.read k = (([], some .eof), b') ∧ b'.str.trailer = b.str.trailer := by
  obtain ⟨n', hp, _, _⟩ := parseNext_end hsk hfl
  rw [hfin] at hp
  have hs k' : b.str.read k' = (([], some .eof), { b.str with net := n' }) :=
    (if_neg (not_not_intro hrem)).trans (by simp only [hp, NetEnd.toH3])
  exact ⟨_, H3Body.read_end b k .eof _ (violation_false b fun _ _ => hrem) (hs _) hrem hcl, rfl⟩

theorem h3_read_trailer {t : WTrailer} (h : H3At (some t) maxH b [] skips)
    (ht : t.OK maxH) (hd0 : h3DataOf skips = []) (k : Nat) :
    ∃ b', b.read k = (([], none), b') ∧ H3Pos (some t) maxH b' [] ∧
      b'.str.net.segs.flatten.length < b.str.net.segs.flatten.length := by
  obtain ⟨htok, htyp, htlen, htparse⟩ := ht
  have hfl : b.str.net.segs.flatten = framesWire skips ++ (t.frame.hdr ++ t.frame.payload) := h.fl
  obtain ⟨n1, hp, hfl1, hfin1⟩ := parseNext_frame hsk t.frame t.frame.payload htok (.inr htyp) hfl
  rw [if_neg (by rw [htyp]; exact Nat.one_ne_zero)] at hp
  obtain ⟨n2, hrn, hfl2, hfin2⟩ := Net.readN_spec (t.frame.payload.length + 1) t.frame.payload.length []
    n1 t.frame.payload [] (by rw [hfl1, List.append_nil]) rfl (Nat.lt_succ_self _)
  have hs k' : b.str.read k' = (([], none),
      { b.str with net := n2, parsedTrailer := true, fieldLists := [], trailer := some t.parsed }) :=
    (if_neg (not_not_intro h.rem)).trans (by
      simp only [hp, h.pt, Bool.false_eq_true, if_false, H3Stream.parseTrailer,
        Nat.not_lt.mpr (h.max ▸ htlen), hrn, h.lists, trailerLists, htparse])
  refine ⟨_, H3Body.read_ok b k [] _ (violation_false b fun _ _ => h.rem) (hs _)
    (violation_false _ fun _ _ => h.rem),
    .trailed _ t (htr := rfl) (hrem := h.rem) (hfl := hfl2) (hpt := rfl) (htrail := rfl)
      (hfin := hfin2.trans (hfin1.trans h.fin)) (hcl := fun hc => ?_), ?_⟩
  · exact (h.cl hc).trans (congrArg List.length hd0)
  · show n2.segs.flatten.length < _
    rw [hfl2, hfl]
    exact List.length_pos_iff.mpr (List.append_ne_nil_of_right_ne_nil _
      (List.append_ne_nil_of_left_ne_nil (WFrame.hdr_ne _ htok) _))

/-- Behind skippable frames comes a DATA frame: its header is parsed and the first read inside
it follows (an empty one at the very end of the stream reads as `io.EOF`). -/
theorem h3_read_data {frs rest : List WFrame} {f : WFrame} (h : H3At tr maxH b [] frs)
    (htr : ∀ t, tr = some t → t.OK maxH) (hfrs : frs = skips ++ f :: rest) (hf : f.OK) (hf0 : f.typ = 0)
    (hrest : ∀ g ∈ rest, BodyFrameOK g) (hdf : h3DataOf frs = f.payload ++ h3DataOf rest) (k : Nat) :
    H3Step tr maxH b k (h3DataOf frs) := by
  have hv : b.violation = false := violation_false b fun _ _ => h.rem
  have hcl := h.cl
  have hfl := h.fl
  rw [hfrs, List.nil_append, framesWire_append, framesWire_cons, List.append_assoc, List.append_assoc,
    List.append_assoc] at hfl
  rw [List.nil_append, hdf] at hcl
  rw [hdf]
  obtain ⟨n1, hp, hfl1, hfin1⟩ := parseNext_frame hsk f _ hf (.inl hf0) hfl
  rw [if_pos hf0] at hp
  by_cases hmore : n1.segs.flatten = []
  · rw [hfl1] at hmore
    simp only [List.append_eq_nil_iff] at hmore
    obtain ⟨hpay, hr0, ht0⟩ := hmore
    obtain rfl : rest = [] := by
      cases rest with
      | nil => rfl
      | cons g _ =>
        rw [framesWire_cons] at hr0
        exact absurd (List.append_eq_nil_iff.mp hr0).1 (WFrame.hdr_ne g (hrest g List.mem_cons_self).1)
    rw [hpay] at hp hcl ⊢
    have hs k' : b.str.read k' = (([], some .eof), { b.str with net := { n1 with segs := [] }, remInFrame := 0 }) :=
      (if_neg (not_not_intro h.rem)).trans (by
        simp [hp, h.pt, Net.read_nil n1 _ (by rw [hfl1, hpay, hr0, ht0]; rfl), hfin1, h.fin, NetEnd.toH3])
    refine .inr ⟨_, H3Body.read_end b k .eof _ hv (hs _) rfl hcl, rfl, fun t ht => ?_⟩
    subst ht
    exact absurd (List.append_eq_nil_iff.mp ht0).1 (WFrame.hdr_ne _ (htr t rfl).1)
  · obtain ⟨d, q', n', hrd, hq, hle, _, h'⟩ := h3_read_open
      (b := { b with str := { b.str with net := n1, remInFrame := f.payload.length } })
      { rem := rfl, fl := hfl1, frs_ok := hrest, pt := h.pt, lists := h.lists,
        fin := hfin1.trans h.fin, max := h.max, cl := hcl } hmore k
    have hs : b.str.read (if b.hasCL = true then min k b.remaining else k) =
        ((d, none), { b.str with net := n', remInFrame := f.payload.length - d.length }) :=
      (if_neg (not_not_intro h.rem)).trans (by simp only [hp, h.pt, Bool.false_eq_true, if_false, hrd])
    refine .inl ⟨d, q' ++ h3DataOf rest, _, H3Body.read_ok b k d _ hv hs (H3Pos.frames _ _ _ h').violation,
      by rw [hq, List.append_assoc], H3Pos.frames _ _ _ h', fun _ => ?_⟩
    show n'.segs.flatten.length < _
    rw [hfl, ← hfl1, List.length_append, List.length_append]
    exact Nat.lt_of_le_of_lt hle (Nat.lt_of_lt_of_le
      (Nat.lt_add_of_pos_left (List.length_pos_iff.mpr (WFrame.hdr_ne f hf))) (Nat.le_add_left _ _))

end

theorem h3_step (tr : Option WTrailer) (maxH : Nat) (htr : ∀ t, tr = some t → t.OK maxH)
    (b : H3Body) (E : Bytes) (k : Nat) (hpos : H3Pos tr maxH b E) : H3Step tr maxH b k E := by
  have hv := hpos.violation
  cases hpos with
  | trailed t htr' hrem hfl hpt htrail hfin hcl0 =>
    obtain ⟨b', hr, htl⟩ := h3_read_end (skips := []) nofun k hrem hfl hfin hcl0
    exact .inr ⟨b', hr, rfl, fun t' ht' => by cases htr'.symm.trans ht'; exact htl.trans htrail⟩
  | frames p frs h =>
    cases p with
    | nil =>
      -- no DATA frame open: `ParseNext` finds the next DATA frame, the trailers or the end
      obtain ⟨skips, hsk, ⟨hs, hd0⟩ | ⟨f, rest, hs, hf, hf0, hrest, hdf⟩⟩ := split_skips frs h.frs_ok
      · subst hs
        have hcl0 : b.hasCL = true → b.remaining = 0 := fun hc => (h.cl hc).trans (congrArg List.length hd0)
        cases tr with
        | none =>
          obtain ⟨b', hr, _⟩ := h3_read_end hsk k h.rem (h.fl.trans (List.append_nil _)) h.fin hcl0
          exact .inr ⟨b', hr, hd0, nofun⟩
        | some t =>
          obtain ⟨b', hr, hpos', hlt⟩ := h3_read_trailer hsk h (htr t rfl) hd0 k
          exact .inl ⟨[], [], b', hr, hd0, hpos', fun _ => hlt⟩
      · exact h3_read_data hsk h htr hs hf hf0 hrest hdf k
    | cons x p =>
      -- inside a DATA frame
      obtain ⟨d, q', n', hrd, hq, _, hlt, h'⟩ := h3_read_open h (by rw [h.fl]; exact List.cons_ne_nil _ _) k
      exact .inl ⟨d, q' ++ h3DataOf frs, _, H3Body.read_ok b k d _ hv
        ((if_pos (by rw [h.rem]; exact Nat.succ_ne_zero _)).trans (by simp only [hrd]))
        (H3Pos.frames _ _ _ h').violation,
        by rw [hq, List.append_assoc], H3Pos.frames _ _ _ h', fun hk => hlt hk (List.cons_ne_nil _ _)⟩

end

/-- The body reader from any position: exactly what is still expected, then `io.EOF` with the
trailers parsed; every non-empty read takes bytes off the stream. -/
theorem h3_exact (tr : Option WTrailer) (maxH : Nat) (htr : ∀ t, tr = some t → t.OK maxH) :
    ExactR H3Body.read (H3Pos tr maxH) H3Err.eof
      (fun b' => ∀ t, tr = some t → b'.str.trailer = some t.parsed)
      (fun b _ => b.str.net.segs.flatten.length) where
  ok := fun {b E k d b'} hpos h => by
    rcases h3_step tr maxH htr b E k hpos with ⟨_, E', _, heq, hE, hpos', hlt⟩ | ⟨_, heq, _⟩ <;>
      cases heq.symm.trans h
    exact ⟨E', hE, hpos', hlt⟩
  fin := fun {b E k d e b'} hpos h => by
    rcases h3_step tr maxH htr b E k hpos with ⟨_, _, _, heq, _⟩ | ⟨_, heq, hE, ht⟩ <;>
      cases heq.symm.trans h
    exact ⟨rfl, hE, ht⟩

/-- The body reader right after the response head was read. -/
def h3Start (segs : List Bytes) (tr : Option WTrailer) (maxH : Nat) (cl : Option Nat) : H3Body :=
  let s0 : H3Stream := { net := ⟨segs, .eof⟩, remInFrame := 0, parsedTrailer := false, trailer := none,
                         fieldLists := trailerLists tr, maxHeaderBytes := maxH }
  match cl with
  | some n => { str := s0, hasCL := true, remaining := n }
  | none => { str := s0, hasCL := false, remaining := 0 }

theorem H3StreamAt.pos {tr : Option WTrailer} {maxH : Nat} {b : H3Body} {frs : List WFrame}
    (h : H3StreamAt tr maxH b.str [] frs) (hcl : b.hasCL = true → b.remaining = (h3DataOf frs).length) :
    H3Pos tr maxH b (h3DataOf frs) :=
  .frames b [] frs { h with cl := hcl }

theorem H3Body.new_str (isHead : Bool) (h : H3Head) (s : H3Stream) : (H3Body.new isHead h s).str = s := by
  unfold H3Body.new
  split
  · rfl
  · split <;> rfl

/-- `newResponseBody` on the stream as `ReadResponse` left it: a `Content-Length`, if the head
declared one, is the total of the DATA payloads. -/
theorem H3Body.new_pos {tr : Option WTrailer} {maxH : Nat} {s : H3Stream} {frs : List WFrame}
    (hs : H3StreamAt tr maxH s [] frs) (isHead : Bool) (h : H3Head)
    (hcl : h.contentLength = none ∨ h.contentLength = some (h3DataOf frs).length) :
    H3Pos tr maxH (H3Body.new isHead h s) (h3DataOf frs) := by
  refine H3StreamAt.pos (by rw [H3Body.new_str]; exact hs) ?_
  unfold H3Body.new
  split
  · nofun
  · rcases hcl with h0 | h0 <;> rw [h0]
    · nofun
    · exact fun _ => rfl

theorem h3Start_pos (segs : List Bytes) (frs : List WFrame) (hfrs : ∀ f ∈ frs, BodyFrameOK f)
    (tr : Option WTrailer) (maxH : Nat) (cl : Option Nat)
    (hcl : cl = none ∨ cl = some (h3DataOf frs).length)
    (hsegs : segs.flatten = framesWire frs ++ trailerWire tr) :
    H3Pos tr maxH (h3Start segs tr maxH cl) (h3DataOf frs) := by
  rcases hcl with rfl | rfl
  · exact H3StreamAt.pos ⟨rfl, hsegs, hfrs, rfl, rfl, rfl, rfl⟩ nofun
  · exact H3StreamAt.pos ⟨rfl, hsegs, hfrs, rfl, rfl, rfl, rfl⟩ fun _ => rfl

end Req.C02
