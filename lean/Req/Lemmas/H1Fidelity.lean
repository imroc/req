import Req.Lemmas.H1Parse
import Req.Lemmas.Trim
import Req.Lemmas.H1Fields
/-! Assembly lemmas for Props/C01 `h1_fidelity`: every line the HTTP/1.1 writer emits is
well-formed, and the framing an origin derives from the header block is the writer's. -/
namespace Req.H1.Origin
open Req.Proto Req.Ascii Req.BStr Req.H1 Req.Validate Req.HeaderSort Req.Props.C16
open Req.Trim (trimBy_of_ends)

theorem validName_ok (k : Bytes) (h : validHeaderFieldName k = true) :
    k ≠ [] ∧ ∀ b ∈ k, b ≠ 58 ∧ b ≠ 13 := by
  unfold validHeaderFieldName at h
  simp only [Bool.and_eq_true, Bool.not_eq_true'] at h
  exact ⟨by rintro rfl; simp at h,
    fun b hb => ⟨List.all_ne h.2 (by decide) b hb, List.all_ne h.2 (by decide) b hb⟩⟩

theorem cutLast_append (sep : UInt8) (s a b : Bytes) (h : cutLast sep s = some (a, b)) : a ++ b = s := by
  induction s generalizing a b with
  | nil => simp [cutLast] at h
  | cons c t ih =>
    unfold cutLast at h
    cases hc : cutLast sep t with
    | some p =>
      obtain ⟨a', b'⟩ := p
      simp only [hc, Option.some.injEq, Prod.mk.injEq] at h
      obtain ⟨rfl, rfl⟩ := h
      simp [ih a' b' hc]
    | none =>
      simp only [hc] at h
      split at h
      · simp only [Option.some.injEq, Prod.mk.injEq] at h
        obtain ⟨rfl, rfl⟩ := h
        rfl
      · exact absurd h (by simp)

theorem removeZone_subset (h : Bytes) : ∀ b ∈ removeZone h, b ∈ h := by
  intro b hb
  unfold removeZone at hb
  split at hb
  · exact hb
  · cases h1 : cutLast 93 h with
    | none => simpa [h1] using hb
    | some p =>
      obtain ⟨inside, fromB⟩ := p
      simp only [h1] at hb
      have e1 := cutLast_append 93 h inside fromB h1
      cases h2 : cutLast 37 inside with
      | none => simpa [h2] using hb
      | some q =>
        obtain ⟨before, pz⟩ := q
        simp only [h2] at hb
        have e2 := cutLast_append 37 inside before pz h2
        rw [← e1, ← e2]
        simp only [List.mem_append] at hb ⊢
        rcases hb with hb | hb
        · exact Or.inl (Or.inl hb)
        · exact Or.inr hb

theorem wireHost_valid (r : WReq) (host : Bytes) (h : wireHost r = .ok host) :
    validHostHeader host = true := by
  unfold wireHost at h
  simp only at h
  generalize (if r.host.isEmpty = true then r.url.host else r.host) = h0 at h
  split at h
  · cases h
  · split at h
    · split at h <;> cases h
      rfl
    next hv =>
      cases h
      simp only [Bool.not_eq_true', Bool.not_eq_false] at hv
      exact List.all_eq_true.mpr fun b hb =>
        List.all_eq_true.mp hv b (removeZone_subset _ b hb)

theorem renderFields_eq (h : Hdr) : renderFields h = renderLines (linesOf h) := by
  unfold renderFields renderLines linesOf
  induction h with
  | nil => rfl
  | cons kv t ih =>
    simp only [List.flatMap_cons, List.flatMap_append, ih]
    congr 1
    unfold renderField renderLine
    simp [List.flatMap_map]

/-- what `h1_fidelity` asks of the parts the writer does NOT validate or sanitise itself. -/
structure Valid (r : WReq) (host : Bytes) (f : Framing) : Prop where
  /-- the method has no SP / CR (`validMethod` — token bytes — in `Transport.roundTrip`) -/
  method_ok : ∀ b ∈ methodOrGet r.method, b ≠ 32 ∧ b ≠ 13
  /-- the request target is non-empty and has no SP / CR (CR is checked by the writer; a raw SP in
  the caller's own URL query is not — notes/C01.md, `h1_raw_space_rejected`) -/
  target_ok : requestTarget r host ≠ [] ∧ ∀ b ∈ requestTarget r host, b ≠ 32 ∧ b ≠ 13
  /-- the User-Agent value has no CR (`validateHeaders` in `Transport.roundTrip`; the writer does
  not sanitise this one value) -/
  ua_ok : ∀ b ∈ hdrFirst r.header sUserAgent, b ≠ 13
  /-- no framing header smuggled in under a spelling the exclusion table does not know -/
  framing_hdr : ∀ kv ∈ r.header, (lower kv.key == sTE || lower kv.key == sCL) = true →
      reqWriteExcludeHeader.contains kv.key = true
  /-- the same for the transport's extra headers, which pass no exclusion table -/
  framing_extra : ∀ kv ∈ r.extra, (lower kv.key == sTE || lower kv.key == sCL) = false
  /-- the body, if sent, is framed (everything except CONNECT's raw tunnel) -/
  framed : f.sendBody = true → f.chunked = true ∨ 0 ≤ f.cl

theorem ownKeys_lineok : ∀ k ∈ ownKeysH1, k ≠ [] ∧ ∀ b ∈ k, b ≠ 58 ∧ b ≠ 13 := by decide +kernel

theorem const_values_no_cr :
    (∀ b ∈ defaultUserAgent, b ≠ 13) ∧ (∀ b ∈ sClose, b ≠ 13) ∧ (∀ b ∈ sChunked, b ≠ 13) := by
  decide +kernel

theorem own_values_no_cr (r : WReq) (host : Bytes) (f : Framing)
    (hh : ∀ b ∈ host, b ≠ 13) (hua : ∀ b ∈ hdrFirst r.header sUserAgent, b ≠ 13) :
    ∀ kv ∈ ownFieldsH1 r host f, ∀ v ∈ kv.values, ∀ b ∈ v, b ≠ 13 := by
  intro kv hkv v hv b hb
  unfold ownFieldsH1 framingFields at hkv
  simp only [List.mem_append, List.mem_singleton] at hkv
  rcases hkv with ((hkv | hkv) | hkv | hkv)
  · subst hkv
    simp only [List.mem_singleton] at hv; subst hv
    exact hh b hb
  · have := List.mem_ite_r hkv
    subst this
    simp only [List.mem_singleton] at hv; subst hv
    split at hb
    · exact hua b hb
    · exact const_values_no_cr.1 b hb
  · have := List.mem_ite_l hkv
    subst this
    simp only [List.mem_singleton] at hv; subst hv
    exact const_values_no_cr.2.1 b hb
  · rcases List.mem_ite_lr hkv with h | h
    · subst h
      simp only [List.mem_singleton] at hv; subst hv
      exact natToDec_no_cr _ b hb
    · subst h
      simp only [List.mem_singleton] at hv; subst hv
      exact const_values_no_cr.2.2 b hb

theorem callerFields_lineok (h : Hdr) (ex : List Bytes) :
    ∀ l ∈ linesOf (callerFields h ex), LineOK l := by
  intro ⟨k, v⟩ hl
  obtain ⟨kv, hkv, rfl, hv⟩ := mem_linesOf hl
  have hname := (callerFields_mem_key hkv).2
  obtain ⟨hne, hb⟩ := validName_ok _ hname
  refine ⟨hne, hb, ?_⟩
  unfold callerFields at hkv
  obtain ⟨kv0, _, rfl⟩ := List.mem_map.mp hkv
  simp only [List.mem_map] at hv
  obtain ⟨v0, _, rfl⟩ := hv
  intro b hb'
  exact (sanitizeValue_no_crlf v0 b hb').1

theorem h1Fields_lineok (r : WReq) (host : Bytes) (f : Framing)
    (hh : ∀ b ∈ host, b ≠ 13) (hua : ∀ b ∈ hdrFirst r.header sUserAgent, b ≠ 13) :
    ∀ l ∈ linesOf (h1Fields r host f), LineOK l := by
  intro l hl
  have hl' := (linesOf_h1Fields_perm r host f).mem_iff.mp hl
  simp only [List.mem_append] at hl'
  rcases hl' with (hl' | hl') | hl'
  · obtain ⟨k, v⟩ := l
    obtain ⟨kv, hkv, rfl, hv⟩ := mem_linesOf hl'
    obtain ⟨h1, h2⟩ := ownKeys_lineok _ (ownFieldsH1_keys r host f kv hkv)
    exact ⟨h1, h2, own_values_no_cr r host f hh hua kv hkv v hv⟩
  · exact callerFields_lineok _ _ l hl'
  · exact callerFields_lineok _ _ l hl'

/-- values of the fields named `nm` (lower-case comparison), in order: the origin's `teValues` and
`clValues` are `selN sTE` and `selN sCL`. -/
def selN (nm : Bytes) (ls : List (Bytes × Bytes)) : List Bytes :=
  ls.filterMap fun f => if lower f.1 == nm then some f.2 else none

theorem teValues_eq (ls : List (Bytes × Bytes)) : teValues ls = selN sTE ls := rfl
theorem clValues_eq (ls : List (Bytes × Bytes)) : clValues ls = selN sCL ls := rfl

theorem selN_append (nm : Bytes) (a b : List (Bytes × Bytes)) :
    selN nm (a ++ b) = selN nm a ++ selN nm b := by simp [selN]

theorem selN_perm (nm : Bytes) {a b : List (Bytes × Bytes)} (h : a.Perm b) :
    (selN nm a).Perm (selN nm b) := List.Perm.filterMap _ h

theorem selN_trimmed (nm : Bytes) (ls : List (Bytes × Bytes)) :
    selN nm (ls.map trimmed) = (selN nm ls).map trimOWS := by
  unfold selN
  rw [List.filterMap_map, List.map_filterMap]
  congr 1
  funext l
  simp only [Function.comp, trimmed]
  split <;> simp [*]

theorem selN_nil_of_keys (nm : Bytes) (ls : List (Bytes × Bytes))
    (h : ∀ l ∈ ls, (lower l.1 == nm) = false) : selN nm ls = [] := by
  unfold selN
  rw [List.filterMap_eq_nil_iff]
  intro l hl
  simp [h l hl]

/-- caller fields written through an exclusion table that covers every spelling of the two
framing names contribute no framing value. -/
theorem selN_caller (h : Hdr) (ex : List Bytes) (nm : Bytes) (hnm : nm = sTE ∨ nm = sCL)
    (hv : ∀ kv ∈ h, (lower kv.key == sTE || lower kv.key == sCL) = true → ex.contains kv.key = true) :
    selN nm (linesOf (callerFields h ex)) = [] := by
  apply selN_nil_of_keys
  intro ⟨k, v⟩ hl
  obtain ⟨kv, hkv, rfl, _⟩ := mem_linesOf hl
  have hex := (callerFields_mem_key hkv).1
  unfold callerFields at hkv
  obtain ⟨kv0, h0, rfl⟩ := List.mem_map.mp hkv
  cases hb : (lower kv0.key == sTE || lower kv0.key == sCL) with
  | true => rw [hv kv0 (List.mem_filter.mp h0).1 hb] at hex; cases hex
  | false =>
    simp only [Bool.or_eq_false_iff] at hb
    rcases hnm with rfl | rfl
    · exact hb.1
    · exact hb.2

theorem selN_single (nm k v : Bytes) :
    selN nm (linesOf [⟨k, [v]⟩]) = if lower k == nm then [v] else [] := by
  simp only [linesOf, List.flatMap_cons, List.flatMap_nil, List.map_cons, List.map_nil, List.append_nil,
    selN, List.filterMap_cons, List.filterMap_nil]
  split <;> simp_all

/-- the values of a field `nm` other than Host, User-Agent and Connection among the writer's own
fields -/
theorem selN_own (nm : Bytes) (r : WReq) (host : Bytes) (f : Framing)
    (h1 : (lower sHost == nm) = false) (h2 : (lower sUserAgent == nm) = false)
    (h3 : (lower sConnection == nm) = false) :
    selN nm (linesOf (ownFieldsH1 r host f)) =
      if shouldSendContentLength (methodOrGet r.method) f then
        (if lower sContentLength == nm then [natToDec f.cl.toNat] else [])
      else if f.chunked then (if lower sTransferEncoding == nm then [sChunked] else []) else [] := by
  simp only [ownFieldsH1, framingFields, linesOf_append, selN_append,
    apply_ite (fun h => selN nm (linesOf h)), selN_single, h1, h2, h3]
  simp [selN, linesOf]

theorem selN_own_cl (r : WReq) (host : Bytes) (f : Framing) :
    selN sCL (linesOf (ownFieldsH1 r host f)) =
      if shouldSendContentLength (methodOrGet r.method) f then [natToDec f.cl.toNat] else [] := by
  rw [selN_own sCL r host f (by decide +kernel) (by decide +kernel) (by decide +kernel)]
  simp [show (lower sContentLength == sCL) = true by decide +kernel,
    show (lower sTransferEncoding == sCL) = false by decide +kernel]

theorem selN_own_te (r : WReq) (host : Bytes) (f : Framing) :
    selN sTE (linesOf (ownFieldsH1 r host f)) =
      if shouldSendContentLength (methodOrGet r.method) f then []
      else if f.chunked then [sChunked] else [] := by
  rw [selN_own sTE r host f (by decide +kernel) (by decide +kernel) (by decide +kernel)]
  simp [show (lower sContentLength == sTE) = false by decide +kernel,
    show (lower sTransferEncoding == sTE) = true by decide +kernel]

theorem trimOWS_id (v : Bytes) (h : ∀ b ∈ v, isOWS b = false) : trimOWS v = v :=
  trimOWS_eq v ▸ trimBy_of_ends (fun c hc => h c (List.mem_of_mem_head? hc))
    fun c hc => h c (List.mem_of_getLast? hc)

theorem digitChar_not_ows : ∀ d, d < 16 → isOWS (digitChar d) = false := by decide +kernel

theorem trimOWS_natToDec (n : Nat) : trimOWS (natToDec n) = natToDec n :=
  trimOWS_id _ (digits_all digitChar_not_ows 10 (by omega) (by omega) n)

theorem trimOWS_chunked : trimOWS sChunked = sChunked := by decide

/-- the origin derives the writer's framing from the header block it reads. -/
theorem framingOf_h1Fields (r : WReq) (host : Bytes) (f : Framing) (hv : Valid r host f) :
    framingOf ((linesOf (h1Fields r host f)).map trimmed) =
      if shouldSendContentLength (methodOrGet r.method) f then .length f.cl.toNat
      else if f.chunked then .chunked else .none := by
  have hperm := linesOf_h1Fields_perm r host f
  have hsel : ∀ nm, nm = sTE ∨ nm = sCL →
      (selN nm (linesOf (h1Fields r host f))).Perm (selN nm (linesOf (ownFieldsH1 r host f))) := by
    intro nm hnm
    have := selN_perm nm hperm
    rw [selN_append, selN_append, selN_caller _ _ nm hnm hv.framing_hdr,
      selN_caller _ _ nm hnm fun kv hkv hb => by rw [hv.framing_extra kv hkv] at hb; cases hb] at this
    simpa using this
  have hte := hsel sTE (Or.inl rfl)
  have hcl := hsel sCL (Or.inr rfl)
  rw [selN_own_te] at hte
  rw [selN_own_cl] at hcl
  unfold framingOf
  rw [teValues_eq, clValues_eq, selN_trimmed, selN_trimmed]
  by_cases hs : shouldSendContentLength (methodOrGet r.method) f = true
  · rw [if_pos hs] at hte hcl ⊢
    rw [List.perm_nil.mp hte, List.perm_singleton.mp hcl]
    simp [trimOWS_natToDec, parseDec_natToDec]
  · rw [if_neg hs] at hte hcl ⊢
    rw [List.perm_nil.mp hcl]
    by_cases hc : f.chunked = true
    · rw [if_pos hc] at hte ⊢
      rw [List.perm_singleton.mp hte]
      simp [trimOWS_chunked]
    · rw [if_neg hc] at hte ⊢
      rw [List.perm_nil.mp hte]
      rfl

/-- origin form: not through a proxy, not CONNECT -/
theorem requestTarget_origin (r : WReq) (host : Bytes) (hnp : r.usingProxy = false)
    (hnc : (r.method == sCONNECT) = false) : requestTarget r host = Req.Url.requestURI r.url := by
  unfold requestTarget
  simp [hnp, hnc]

theorem serializeH1_ok (r : WReq) (wire host : Bytes) (hh : wireHost r = .ok host)
    (hs : serializeH1 r = .ok wire) :
    containsCTL (requestTarget r host) = false ∧ ∃ f bw, framing r = .ok f ∧ bodyBytes r f = .ok bw ∧
      wire = requestLine r (requestTarget r host) ++ renderFields (h1Fields r host f) ++ crlf ++ bw := by
  unfold serializeH1 at hs
  simp only [hh, bind, Except.bind] at hs
  split at hs
  · simp [throw, throwThe, MonadExceptOf.throw] at hs
  next hc =>
    cases hf : framing r with
    | error e => simp [hf] at hs
    | ok f =>
      simp only [hf] at hs
      cases hb : bodyBytes r f with
      | error e => simp [hb] at hs
      | ok bw =>
        simp only [hb, pure, Except.pure, Except.ok.injEq] at hs
        exact ⟨by simpa using hc, f, bw, rfl, hb, hs.symm⟩

theorem readLine_requestLine (r : WReq) (t tail : Bytes)
    (hm : ∀ b ∈ methodOrGet r.method, b ≠ 13) (ht : ∀ b ∈ t, b ≠ 13) :
    readLine (requestLine r t ++ tail) [] =
      some (methodOrGet r.method ++ [32] ++ t ++ [32] ++ sHTTP11, tail) := by
  have hline : ∀ b ∈ methodOrGet r.method ++ [32] ++ t ++ [32] ++ sHTTP11, b ≠ 13 := by
    intro b hb
    simp only [List.mem_append, List.mem_singleton] at hb
    rcases hb with (((hb | hb) | hb) | hb) | hb
    · exact hm b hb
    · rw [hb]; decide
    · exact ht b hb
    · rw [hb]; decide
    · revert b; decide
  have e : requestLine r t ++ tail =
      (methodOrGet r.method ++ [32] ++ t ++ [32] ++ sHTTP11) ++ 13 :: 10 :: tail := by
    simp [requestLine, crlf]
  rw [e, readLine_append _ _ [] hline]
  rfl

end Req.H1.Origin
