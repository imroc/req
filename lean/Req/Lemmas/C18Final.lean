import Req.Lemmas.C18Bind
/-!
Helper lemmas for C18: provenance. Every `*Response` value that travels through the repaired
pipeline is COHERENT (`Coh`): the http response it carries is the scripted outcome of the exchange its
`tag` names (first exchange of attempt `tag / 2`, or the digest re-send of that attempt), and a
cached body is the body of that same exchange. Together with `Agrees` (slots ⇔ that http
response) this is what `binding_belongs_to_final_exchange` (`Props/C18Final`, stated with `HttpOf`)
rests on.
-/
namespace Req.Pipeline
open Req.Result

/-- `h` is what the script answers to the exchange `tag`: exchange `2a` is the transport call of
attempt `a`, exchange `2a + 1` the re-send of a digest middleware of attempt `a`. -/
def HttpOf (s : Stack) (tag : Nat) (h : Http) : Prop :=
  (tag % 2 = 0 ∧ s.transportAt (tag / 2) = .resp h) ∨
  (tag % 2 = 1 ∧ ∃ ok, RAct.digest ok (.resp h) ∈ s.reqRespAt (tag / 2))

def Coh (s : Stack) (r : Resp) : Prop :=
  (∀ h, r.http = some h → HttpOf s r.tag h) ∧
  (r.bodyCached = true → r.http ≠ none → r.bodyOf = r.tag)

theorem Coh.of_eq {s : Stack} {r r' : Resp} (h : Coh s r) (h1 : r'.http = r.http) (h2 : r'.tag = r.tag)
    (h3 : r'.bodyCached = r.bodyCached) (h4 : r'.bodyOf = r.bodyOf) : Coh s r' := by
  unfold Coh at h ⊢; rw [h1, h2, h3, h4]; exact h

theorem coh_nohttp (s : Stack) (r : Resp) (h : r.http = none) : Coh s r := by
  unfold Coh; simp [h]

theorem coh_fresh (s : Stack) (o : Origin) (e : Option Err) : Coh s { origin := o, err := e } :=
  coh_nohttp s _ rfl

theorem Coh.set_err {s : Stack} {r : Resp} (h : Coh s r) (e : Option Err) : Coh s { r with err := e } :=
  h.of_eq rfl rfl rfl rfl

theorem exchange_coh (s : Stack) (a : Nat) : Coh s (exchange s a).1 := by
  unfold exchange
  split
  · exact coh_nohttp s _ rfl
  · rename_i h ht
    refine ⟨?_, by simp⟩
    intro h' hh
    simp only [Option.some.injEq] at hh
    subst hh
    left
    simp only
    exact ⟨by omega, by rw [Nat.mul_div_cancel_left a (by omega : 0 < 2)]; exact ht⟩

theorem autoRead_coh (s : Stack) (r : Resp) (h : Coh s r) : Coh s (autoRead s r).1 := by
  unfold autoRead
  split
  · split
    · split
      · exact ⟨h.1, by intro _ _; rfl⟩
      · exact ⟨h.1, by intro _ _; rfl⟩
    · exact h
  · exact h

theorem parseResp_coh (s : Stack) (r : Resp) (h : Coh s r) : Coh s (parseResp s r).resp := by
  unfold parseResp
  refine ⟨h.1, ?_⟩
  simp only
  intro hc hh
  split
  · rename_i hrc; exact h.2 hrc hh
  · rfl

theorem cleanup_coh (s : Stack) (r : Resp) (h : Coh s r) : Coh s (cleanup r) :=
  ⟨h.1, fun hc => nomatch hc⟩

theorem coh_kept (s : Stack) : Kept s (Coh s) where
  err _ e h := h.set_err e
  saved _ _ h := h.of_eq rfl rfl rfl rfl
  empty r h _ := coh_nohttp s r h
  exchange a := parseResp_coh s _ (autoRead_coh s _ (exchange_coh s a))
  resend a r ok h hmem _ := by
    -- the second exchange: tag `2a + 1`, nothing cached
    refine parseResp_coh s _ (autoRead_coh s _ ⟨?_, fun hc => nomatch hc⟩)
    rintro _ ⟨⟩
    exact .inr ⟨Nat.mul_add_mod _ _ _, ok, by rw [show (2 * a + 1) / 2 = a by omega]; exact hmem⟩

theorem callDo_coh (s : Stack) : ∀ r, (callDo Fixes.all s).resp = some r → Coh s r := fun r hr =>
  (((coh_kept s).keeps_callDo (fx := Fixes.all) rfl rfl (fun _ e h => h.set_err e) (cleanup_coh s)).2.2 r hr).elim id And.left

end Req.Pipeline
