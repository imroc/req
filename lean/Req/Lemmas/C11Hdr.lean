import Req.Lemmas.C11
/-! C11: header values (`Headers.values`), `CanonicalMIMEHeaderKey`, and what AlwaysCopy and a composition
of redirect.go's policies do to them. -/
namespace Req.Lemmas.C11
open Req.Proto Req.Ascii Req.Redirect

theorem values_add (r : Headers) (h v k : Bytes) :
    (r.add h v).values k =
      r.values k ++ (if canonicalMIMEHeaderKey h = canonicalMIMEHeaderKey k then [v] else []) := by
  simp only [Headers.add, Headers.values, List.filter_append, List.flatMap_append]
  by_cases hk : canonicalMIMEHeaderKey h = canonicalMIMEHeaderKey k
  · simp [hk, List.filter]
  · have : (canonicalMIMEHeaderKey h == canonicalMIMEHeaderKey k) = false := by simpa using hk
    simp [hk, List.filter, this]

theorem values_foldl_add (vals : List Bytes) (r : Headers) (h k : Bytes) :
    (vals.foldl (fun r v => r.add h v) r).values k =
      r.values k ++ (if canonicalMIMEHeaderKey h = canonicalMIMEHeaderKey k then vals else []) := by
  induction vals generalizing r with
  | nil => simp
  | cons v vs ih =>
    simp only [List.foldl_cons, ih, values_add]
    by_cases hk : canonicalMIMEHeaderKey h = canonicalMIMEHeaderKey k <;> simp [hk]

theorem values_congr (r : Headers) {h k : Bytes}
    (hk : canonicalMIMEHeaderKey h = canonicalMIMEHeaderKey k) : r.values h = r.values k := by
  simp [Headers.values, hk]

theorem copyOne_values (via0 req : Headers) (h k : Bytes) :
    (copyOne via0 req h).values k =
      if canonicalMIMEHeaderKey h = canonicalMIMEHeaderKey k ∧ req.values k = []
      then via0.values k else req.values k := by
  unfold copyOne
  by_cases hk : canonicalMIMEHeaderKey h = canonicalMIMEHeaderKey k
  · rw [values_congr req hk, values_congr via0 hk]
    by_cases he : req.values k = []
    · simp [he, hk, values_foldl_add]
    · have : (req.values k).length > 0 := List.length_pos_iff.mpr he
      simp [this, he]
  · by_cases hl : (req.values h).length > 0
    · simp [hl, hk]
    · simp [hl, hk, values_foldl_add]

theorem alwaysCopy_values (hs : List Bytes) (req via0 : Headers) (k : Bytes) :
    (alwaysCopyHeaders hs req via0).values k =
      if (∃ h ∈ hs, canonicalMIMEHeaderKey h = canonicalMIMEHeaderKey k) ∧ req.values k = []
      then via0.values k else req.values k := by
  unfold alwaysCopyHeaders
  induction hs generalizing req with
  | nil => simp
  | cons h t ih =>
    simp only [List.foldl_cons, ih, copyOne_values, List.mem_cons, exists_eq_or_imp]
    by_cases hk : canonicalMIMEHeaderKey h = canonicalMIMEHeaderKey k
    · by_cases he : req.values k = []
      · by_cases hv : via0.values k = []
        · simp [hk, he, hv]
        · simp [hk, he, hv]
      · simp [hk, he]
    · simp [hk]

theorem isTokenByte_of_isAlpha {c : UInt8} (h : isAlpha c = true) : isTokenByte c = true := by
  simp [isTokenByte, h]

theorem token_toUpper (c : UInt8) (h : isTokenByte c = true) : isTokenByte (toUpper c) = true := by
  by_cases hl : isLower c = true
  · have := toUpper_toNat c
    refine isTokenByte_of_isAlpha (Bool.or_eq_true_iff.mpr (.inr ((isUpper_iff _).mpr ?_)))
    rw [isLower_iff] at hl; omega
  · rwa [toUpper, if_neg hl]

theorem token_toLower (c : UInt8) (h : isTokenByte c = true) : isTokenByte (toLower c) = true := by
  by_cases hu : isUpper c = true
  · have := toLower_toNat c
    refine isTokenByte_of_isAlpha (Bool.or_eq_true_iff.mpr (.inl ((isLower_iff _).mpr ?_)))
    rw [isUpper_iff] at hu; omega
  · rwa [toLower, if_neg hu]

theorem canonGo_token (up : Bool) (s : Bytes) (h : s.all isTokenByte = true) :
    (canonGo up s).all isTokenByte = true := by
  induction s generalizing up with
  | nil => rfl
  | cons c cs ih =>
    simp only [List.all_cons, Bool.and_eq_true] at h
    simp only [canonGo, List.all_cons, Bool.and_eq_true]
    refine ⟨?_, ih _ h.2⟩
    cases up
    · exact token_toLower c h.1
    · exact token_toUpper c h.1

theorem canonGo_idem (up : Bool) (s : Bytes) : canonGo up (canonGo up s) = canonGo up s := by
  induction s generalizing up with
  | nil => rfl
  | cons c cs ih =>
    cases up
    · have : (toLower c == 45) = (c == 45) := by
        rw [Bool.eq_iff_iff, beq_iff_eq, beq_iff_eq, toLower_eq_fixed rfl]
      simp only [canonGo, Bool.false_eq_true, if_false, toLower_idem, this, ih]
    · have : (toUpper c == 45) = (c == 45) := by
        rw [Bool.eq_iff_iff, beq_iff_eq, beq_iff_eq, toUpper_eq_fixed rfl]
      simp only [canonGo, if_true, toUpper_idem, this, ih]

theorem canonical_idem (k : Bytes) :
    canonicalMIMEHeaderKey (canonicalMIMEHeaderKey k) = canonicalMIMEHeaderKey k := by
  unfold canonicalMIMEHeaderKey
  by_cases h : k.all isTokenByte = true
  · simp only [h, if_true, canonGo_token true k h, canonGo_idem]
  · simp [h]

theorem isSensitive_canon (k : Bytes) : isSensitive (canonicalMIMEHeaderKey k) = isSensitive k := by
  simp [isSensitive, canonical_idem]

theorem isSensitive_of_canon_eq {a b : Bytes}
    (h : canonicalMIMEHeaderKey a = canonicalMIMEHeaderKey b) : isSensitive a = isSensitive b := by
  simp [isSensitive, h]

/-- Selecting, from what net/http hands to CheckRedirect, entries that are all as sensitive as `k`:
nothing once a cross-origin hop was seen and `k` is sensitive, the initial request's otherwise. -/
theorem goCopy_filter (init : Headers) (strip : Bool) (k : Bytes) (m : Bytes × List Bytes → Bool)
    (hm : ∀ e, m e = true → isSensitive e.1 = isSensitive k) :
    (goCopyHeaders init strip).filter m =
      if strip = true ∧ isSensitive k = true then [] else init.filter m := by
  simp only [goCopyHeaders, List.filter_filter]
  split
  next hs =>
    refine List.filter_eq_nil_iff.mpr fun e _ => ?_
    cases he : m e <;> simp [hm e, he, hs.1, hs.2]
  next hs =>
    refine List.filter_congr fun e _ => ?_
    cases he : m e
    · rfl
    · have := hm e he
      cases strip <;> simp_all

theorem goCopy_values (init : Headers) (strip : Bool) (k : Bytes) :
    (goCopyHeaders init strip).values k =
      if strip = true ∧ isSensitive k = true then [] else init.values k := by
  rw [Headers.values, goCopy_filter init strip k _ fun e he => by
    rw [beq_iff_eq.mp he, isSensitive_canon]]
  split <;> rfl

theorem compose_cons_some (p : Policy) (ps : List (Option Policy)) (req : Bytes) (h : Headers) (via : Via) :
    compose (some p :: ps) req h via =
      if p.check req via = .allow then compose ps req (p.xform h via) via else (p.check req via, h) := by
  simp only [compose]
  cases p.check req via <;> rfl

theorem compose_cons_allow (p : Policy) (ps : List (Option Policy)) (req : Bytes) (h : Headers)
    (via : Via) (hal : (compose (some p :: ps) req h via).1 = .allow) :
    compose (some p :: ps) req h via = compose ps req (p.xform h via) via := by
  rw [compose_cons_some] at hal ⊢
  split at hal
  next hc => rw [if_pos hc]
  next hc => exact absurd hal hc

/-- One argument of `SetRedirectPolicy` at the head of an allowed composition acts on the headers
as `AlwaysCopy l` for some `l` (`[]` unless it is one), and `l` is its share of `copyListed`. -/
theorem compose_cons_denote (d : PolicyDesc) (ds : List PolicyDesc) (req : Bytes) (h : Headers)
    (via : Via) (hal : (compose ((d :: ds).map PolicyDesc.denote) req h via).1 = .allow) :
    ∃ l, compose ((d :: ds).map PolicyDesc.denote) req h via =
        compose (ds.map PolicyDesc.denote) req (alwaysCopyHeaders l h via.first.hdr) via ∧
      ∀ k, copyListed (d :: ds) k =
        ((l.any fun x => canonicalMIMEHeaderKey x == canonicalMIMEHeaderKey k) || copyListed ds k) := by
  cases d with
  | nil => exact ⟨[], rfl, fun k => by simp [copyListed]⟩
  | alwaysCopy l => exact ⟨l, compose_cons_allow _ _ req h via hal, fun k => by simp [copyListed]⟩
  | _ => exact ⟨[], compose_cons_allow _ _ req h via hal, fun k => by simp [copyListed]⟩

theorem compose_values (ds : List PolicyDesc) (req : Bytes) (h : Headers) (via : Via) (k : Bytes)
    (hal : (compose (ds.map PolicyDesc.denote) req h via).1 = .allow) :
    (compose (ds.map PolicyDesc.denote) req h via).2.values k =
      if copyListed ds k = true ∧ h.values k = [] then via.first.hdr.values k else h.values k := by
  induction ds generalizing h with
  | nil => simp [compose, copyListed]
  | cons d ds ih =>
    obtain ⟨l, he, hcl⟩ := compose_cons_denote d ds req h via hal
    rw [he] at hal ⊢
    rw [ih _ hal, alwaysCopy_values]
    simp only [hcl, Bool.or_eq_true, List.any_eq_true, beq_iff_eq]
    by_cases hA : ∃ x, x ∈ l ∧ canonicalMIMEHeaderKey x = canonicalMIMEHeaderKey k <;>
      by_cases hE : h.values k = [] <;> by_cases hV : via.first.hdr.values k = [] <;>
      cases hB : copyListed ds k <;> simp [hA, hE, hV]

/-- Sticky stripping, then AlwaysCopy, seen on the values `v` the original request has for one header. -/
theorem strip_then_copy {α : Type} (S sens listed : Bool) (v : List α) :
    (if listed = true ∧ (if S = true ∧ sens = true then [] else v) = [] then v
      else if S = true ∧ sens = true then [] else v) =
    if S = true ∧ sens = true ∧ listed = false then [] else v := by
  cases S <;> cases sens <;> cases listed <;> by_cases hv : v = [] <;> simp [hv]

end Req.Lemmas.C11
