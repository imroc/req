import Req.Lemmas.H1Transfer
import Req.Lemmas.H1Head
import Req.Lemmas.C02H1Head
import Req.Lemmas.C02BufioLine
import Req.Lemmas.Ascii
/-!
C02 — `readTransfer` (C04's model, `Req.H1.readTransfer`) on the header map of an
origin-written HTTP/1.1 head, the status line, `parseHead`, and the 1xx loop `parseFinalHead`;
then decidable forms of the origin-side predicates (for the examples) and the head as the lines
`ReadSlice('\n')` sees (`OHead.lines`, `OHead.wire_lines`).
-/
namespace Req.C02
open Req.Proto Req.Ascii Req.H1

/-- `HTTP/1.1 SP d1 d2 d3 SP reason`. -/
def statusWire (d1 d2 d3 : UInt8) (reason : Bytes) : Bytes :=
  [72, 84, 84, 80, 47, 49, 46, 49, 32, d1, d2, d3, 32] ++ reason

def codeOf (d1 d2 d3 : UInt8) : Nat :=
  ((d1.toNat - 48) * 10 + (d2.toNat - 48)) * 10 + (d3.toNat - 48)

theorem digit_toNat {d : UInt8} (h : isDigit d = true) : 48 ≤ d.toNat ∧ d.toNat ≤ 57 :=
  (isDigit_iff d).mp h

/-- A digit is none of the bytes the status-line parser looks for: SP (`cutByte`), `-` and `+`
(`atoi`), LF (the line reader). -/
theorem isDigit_ne_sep (d : UInt8) (h : isDigit d = true) : d ≠ 32 ∧ d ≠ 45 ∧ d ≠ 43 ∧ d ≠ 10 := by
  obtain ⟨h1, _⟩ := digit_toNat h
  refine ⟨?_, ?_, ?_, ?_⟩ <;> (intro hd; subst hd; exact absurd h1 (by decide))

theorem parseStatusLine_origin (d1 d2 d3 : UInt8) (reason : Bytes)
    (h1 : isDigit d1 = true) (h2 : isDigit d2 = true) (h3 : isDigit d3 = true) :
    ∃ sl, Req.H1.parseStatusLine (statusWire d1 d2 d3 reason) = some sl ∧ sl.code = codeOf d1 d2 d3 ∧
      sl.major = 1 ∧ sl.minor = 1 := by
  obtain ⟨sp1, minus1, plus1, _⟩ := isDigit_ne_sep d1 h1
  obtain ⟨sp2, _, _, _⟩ := isDigit_ne_sep d2 h2
  obtain ⟨sp3, _, _, _⟩ := isDigit_ne_sep d3 h3
  have hcut1 : cutByte SP (statusWire d1 d2 d3 reason) =
      some ([72, 84, 84, 80, 47, 49, 46, 49], d1 :: d2 :: d3 :: 32 :: reason) :=
    cutByte_append SP [72, 84, 84, 80, 47, 49, 46, 49] _ (by decide)
  have hcut2 : cutByte SP (d1 :: d2 :: d3 :: 32 :: reason) = some ([d1, d2, d3], reason) :=
    cutByte_append SP [d1, d2, d3] reason (by simp [SP, sp1, sp2, sp3, eq_comm])
  have hdrop : (d1 :: d2 :: d3 :: 32 :: reason).dropWhile (fun c => c == SP) = d1 :: d2 :: d3 :: 32 :: reason := by
    simp [SP, sp1]
  have hatoi : atoi [d1, d2, d3] = some ((codeOf d1 d2 d3 : Nat) : Int) := by
    simp only [atoi, if_neg minus1, if_neg plus1, parseDigits, List.all_cons, List.all_nil, h1, h2, h3, Bool.and_self,
      if_true, List.foldl_cons, List.foldl_nil, Nat.zero_mul, Nat.zero_add, codeOf]
    rfl
  have hver : parseHTTPVersion [72, 84, 84, 80, 47, 49, 46, 49] = some (1, 1) := by decide
  refine ⟨⟨[72, 84, 84, 80, 47, 49, 46, 49], d1 :: d2 :: d3 :: 32 :: reason, codeOf d1 d2 d3, 1, 1⟩, ?_, rfl, rfl, rfl⟩
  unfold Req.H1.parseStatusLine
  simp only [hcut1, hdrop, hcut2, hatoi, hver]
  simp

/-- A response head as the origin writes it. -/
structure OHead where
  d1 : UInt8
  d2 : UInt8
  d3 : UInt8
  reason : Bytes
  fs : List WField
deriving Repr

def OHead.code (o : OHead) : Nat := codeOf o.d1 o.d2 o.d3

def OHead.OK (o : OHead) : Prop :=
  isDigit o.d1 = true ∧ isDigit o.d2 = true ∧ isDigit o.d3 = true ∧ (10 : UInt8) ∉ o.reason ∧
  ∀ f ∈ o.fs, f.OK

/-- status line CRLF field lines CRLF -/
def OHead.wire (o : OHead) : Bytes := statusWire o.d1 o.d2 o.d3 o.reason ++ 13 :: 10 :: blockWire o.fs

/-- The header map `ReadMIMEHeader` builds for the head. -/
def OHead.hmap (o : OHead) : HeaderMap := hmapOf (fieldsOf o.fs)

theorem statusWire_no_lf (o : OHead) (h : o.OK) : (10 : UInt8) ∉ statusWire o.d1 o.d2 o.d3 o.reason := by
  obtain ⟨h1, h2, h3, hr, _⟩ := h
  obtain ⟨_, _, _, lf1⟩ := isDigit_ne_sep o.d1 h1
  obtain ⟨_, _, _, lf2⟩ := isDigit_ne_sep o.d2 h2
  obtain ⟨_, _, _, lf3⟩ := isDigit_ne_sep o.d3 h3
  simp only [statusWire, List.cons_append, List.nil_append, List.mem_cons, not_or]
  -- `HTTP/1.1 ` (nine bytes), the three digits, SP, the reason
  refine ⟨by decide, by decide, by decide, by decide, by decide, by decide, by decide, by decide, by decide,
    Ne.symm lf1, Ne.symm lf2, Ne.symm lf3, by decide, hr⟩

/-! ### the stages of `readTransfer` on a map with known framing entries -/

theorem framingKeys_distinct :
    kConnection ≠ kTransferEncoding ∧ kConnection ≠ kContentLength ∧ kConnection ≠ Req.H1.kTrailer ∧
    kTransferEncoding ≠ kContentLength ∧ kTransferEncoding ≠ Req.H1.kTrailer ∧ kContentLength ≠ Req.H1.kTrailer := by
  decide

theorem fixPragma_absent (h : HeaderMap) (hp : h.get kPragma = none) : fixPragmaCacheControl h = h := by
  simp [fixPragmaCacheControl, hp]

theorem shouldClose_11 (h : HeaderMap) (cc : Bool)
    (hconn : h.get kConnection = if cc then some [vClose] else none) :
    shouldClose 1 1 h = (cc, if cc then h.del kConnection else h) := by
  unfold shouldClose
  cases cc with
  | true =>
    simp only [if_true] at hconn
    have : valuesContainToken [vClose] vClose = true := by decide
    simp [hconn, this]
  | false =>
    simp only [Bool.false_eq_true, if_false] at hconn
    simp [hconn, valuesContainToken]

theorem parseTE_11 (h : HeaderMap) (chunked : Bool) (te : Bytes) (hlow : lower te = vChunked)
    (hte : h.get kTransferEncoding = if chunked then some [te] else none) :
    parseTransferEncoding 1 1 h = some (chunked, if chunked then h.del kTransferEncoding else h) := by
  unfold parseTransferEncoding
  cases chunked with
  | true =>
    simp only [if_true] at hte
    simp [hte, hlow]
  | false =>
    simp only [Bool.false_eq_true, if_false] at hte
    simp [hte]

/-- The framing entries of an origin-written head, as lookups in the map `ReadMIMEHeader`
built. `cl`: the Content-Length value (any spelling the reader parses to `n`). -/
structure FrameEntries (h : HeaderMap) (cc chunked : Bool) (te : Bytes) (cl : Option (Bytes × Nat))
    (tr : Option Bytes) : Prop where
  pragma : h.get kPragma = none
  conn : h.get kConnection = if cc then some [vClose] else none
  teGet : h.get kTransferEncoding = if chunked then some [te] else none
  teLow : lower te = vChunked
  clGet : h.get kContentLength = cl.map fun p => [p.1]
  clParse : ∀ p, cl = some p → parseContentLength1 p.1 = some p.2
  trGet : h.get Req.H1.kTrailer = tr.map fun v => [v]

/-- `FrameEntries` without the "no Pragma field" clause: all that `readTransfer_core` and
`parseHead_origin_pragma` read (`fixPragmaCacheControl` touches none of the framing keys:
`FrameEntries0.fixPragma`). -/
structure FrameEntries0 (h : HeaderMap) (cc chunked : Bool) (te : Bytes) (cl : Option (Bytes × Nat))
    (tr : Option Bytes) : Prop where
  conn : h.get kConnection = if cc then some [vClose] else none
  teGet : h.get kTransferEncoding = if chunked then some [te] else none
  teLow : lower te = vChunked
  clGet : h.get kContentLength = cl.map fun p => [p.1]
  clParse : ∀ p, cl = some p → parseContentLength1 p.1 = some p.2
  trGet : h.get Req.H1.kTrailer = tr.map fun v => [v]

theorem FrameEntries.to0 {h : HeaderMap} {cc chunked : Bool} {te : Bytes} {cl : Option (Bytes × Nat)}
    {tr : Option Bytes} (hE : FrameEntries h cc chunked te cl tr) : FrameEntries0 h cc chunked te cl tr :=
  ⟨hE.conn, hE.teGet, hE.teLow, hE.clGet, hE.clParse, hE.trGet⟩

/-- The header the caller sees: the map minus what `readTransfer` deletes. -/
def afterTransfer (h : HeaderMap) (cc chunked delCL delTr : Bool) : HeaderMap :=
  let h1 := if cc then h.del kConnection else h
  let h2 := if chunked then h1.del kTransferEncoding else h1
  let h3 := if delCL then h2.del kContentLength else h2
  if delTr then h3.del Req.H1.kTrailer else h3

/-- Keys the origin announced with `Trailer:` as `fixTrailer` reads them. -/
def declKeys (tv : Bytes) : List Bytes := (headerElements tv).map canonicalMIMEHeaderKey

def badTrailerKey (k : Bytes) : Bool := k == kTransferEncoding || k == Req.H1.kTrailer || k == kContentLength

/-- `resp.Trailer`'s keys before the body is read. -/
def trailerDeclOf : Option Bytes → List Bytes
  | some tv => (declKeys tv).eraseDups
  | none => []

/-- The body reader `readTransfer` installs for a response that may have a body and is not
chunked. -/
def framingOfCL : Option (Bytes × Nat) → RespFraming
  | some (_, 0) => RespFraming.none
  | some (_, n + 1) => RespFraming.length (n + 1)
  | none => RespFraming.untilClose

theorem fixLength_origin (code : Nat) (isHead : Bool) (h : HeaderMap) (chunked : Bool) (cl : Option (Bytes × Nat))
    (hcl : h.get kContentLength = cl.map fun p => [p.1])
    (hp : ∀ p, cl = some p → parseContentLength1 p.1 = some p.2) :
    fixLength code isHead h chunked = some (
      lengthOf (isHead || !Req.H1.bodyAllowedForStatus code) chunked (cl.map (·.2)),
      if (!(isHead || !Req.H1.bodyAllowedForStatus code) && (chunked || cl.isNone)) = true
        then h.del kContentLength else h) := by
  unfold fixLength lengthOf
  cases cl with
  | none =>
    simp only [Option.map_none] at hcl
    simp only [hcl, fixLength_status_chain]
    cases (isHead || !Req.H1.bodyAllowedForStatus code) <;> cases chunked <;> rfl
  | some p =>
    simp only [Option.map_some] at hcl
    simp only [hcl, hp p rfl, Option.map_some, fixLength_status_chain]
    cases (isHead || !Req.H1.bodyAllowedForStatus code) <;> cases chunked <;> rfl

/-- The body reader `readTransfer` chooses from the length `fixLength` returned.  The left side
is the last step of `Req.H1.readTransfer` as it stands after `unfold readTransfer` (the model has
no name for it), with `noBody` for `isHead || !bodyAllowedForStatus code`, `ba` for
`bodyAllowedForStatus code`, `cc` for what `shouldClose` returned: it is used by `rw` in
`readTransfer_core` and has to match that term syntactically. -/
theorem framing_origin (noBody chunked cc ba : Bool) (cl : Option (Bytes × Nat)) (hba : noBody = false → ba = true) :
    (if chunked = true then (if noBody = true then RespFraming.none else RespFraming.chunked)
      else if lengthOf noBody chunked (cl.map (·.2)) = 0 then RespFraming.none
      else if lengthOf noBody chunked (cl.map (·.2)) > 0 then RespFraming.length (lengthOf noBody chunked (cl.map (·.2))).toNat
      else if (cc || (decide (lengthOf noBody chunked (cl.map (·.2)) = -1) && !chunked && ba)) = true then
        RespFraming.untilClose
      else RespFraming.none) =
    if noBody = true then RespFraming.none else if chunked = true then RespFraming.chunked else framingOfCL cl := by
  rw [readTransfer_framing_chain _ _ _ _ _ hba]
  unfold framingFor
  cases noBody <;> cases chunked <;> try rfl
  match cl with
  | none => rfl
  | some (_, 0) => rfl
  | some (_, n + 1) => rfl

theorem fixTrailer_origin (h : HeaderMap) (chunked : Bool) (tr : Option Bytes)
    (htr : h.get Req.H1.kTrailer = tr.map fun v => [v]) (htrc : tr.isSome = true → chunked = true)
    (hkeys : ∀ tv, tr = some tv → (declKeys tv).any badTrailerKey = false) :
    fixTrailer h chunked =
      some (trailerDeclOf tr, if tr.isSome then h.del Req.H1.kTrailer else h) := by
  unfold fixTrailer
  cases tr with
  | none =>
    simp only [Option.map_none] at htr
    simp [htr, trailerDeclOf]
  | some tv =>
    simp only [Option.map_some] at htr
    have hc : chunked = true := htrc rfl
    have hk := hkeys tv rfl
    simp only [htr, hc, Bool.not_true, Bool.false_eq_true, if_false, List.flatMap_cons, List.flatMap_nil,
      List.append_nil, Option.isSome_some, if_true]
    have : (List.map canonicalMIMEHeaderKey (headerElements tv)).any
        (fun k => k == kTransferEncoding || k == Req.H1.kTrailer || k == kContentLength) = false := hk
    simp only [this, Bool.false_eq_true, if_false]
    rfl

/-- What `readTransfer` makes of status `code` and a map `h` with the framing entries
`cc chunked cl tr`: the framing verdict is the origin's choice, the announced trailer keys are
kept, and the caller's header is `h` minus the framing fields `readTransfer` deletes. -/
structure Transferred (isHead : Bool) (code : Nat) (h : HeaderMap) (cc chunked : Bool)
    (cl : Option (Bytes × Nat)) (tr : Option Bytes) (msg : Msg) : Prop where
  teChunked : msg.teChunked = chunked
  trailerDecl : msg.trailerDecl = trailerDeclOf tr
  framing : msg.framing =
    if (isHead || !Req.H1.bodyAllowedForStatus code) = true then RespFraming.none
    else if chunked = true then RespFraming.chunked
    else framingOfCL cl
  header : msg.header = afterTransfer h cc chunked
    (!(isHead || !Req.H1.bodyAllowedForStatus code) && (chunked || cl.isNone)) tr.isSome

theorem Transferred.get {isHead : Bool} {code : Nat} {h : HeaderMap} {cc chunked : Bool}
    {cl : Option (Bytes × Nat)} {tr : Option Bytes} {msg : Msg} (hT : Transferred isHead code h cc chunked cl tr msg)
    (k : Bytes)
    (hk : k ≠ kConnection ∧ k ≠ kTransferEncoding ∧ k ≠ kContentLength ∧ k ≠ Req.H1.kTrailer) :
    msg.header.get k = h.get k := by
  rw [hT.header]
  exact (get_delIf _ _ _ k hk.2.2.2).trans <| (get_delIf _ _ _ k hk.2.2.1).trans <|
    (get_delIf _ _ _ k hk.2.1).trans (get_delIf _ h _ k hk.1)

theorem get_fixPragma_other (h : HeaderMap) (k : Bytes) (hk : k ≠ kCacheControl) :
    (fixPragmaCacheControl h).get k = h.get k := by
  unfold fixPragmaCacheControl
  split
  · split
    · exact (get_set h kCacheControl k _).trans (if_neg hk)
    · rfl
  · rfl

theorem FrameEntries0.fixPragma {h : HeaderMap} {cc chunked : Bool} {te : Bytes} {cl : Option (Bytes × Nat)}
    {tr : Option Bytes} (hE : FrameEntries0 h cc chunked te cl tr) :
    FrameEntries0 (fixPragmaCacheControl h) cc chunked te cl tr :=
  ⟨(get_fixPragma_other h _ (by decide)).trans hE.conn, (get_fixPragma_other h _ (by decide)).trans hE.teGet,
    hE.teLow, (get_fixPragma_other h _ (by decide)).trans hE.clGet, hE.clParse,
    (get_fixPragma_other h _ (by decide)).trans hE.trGet⟩

/-- An interim response: 1xx other than 101, no framing fields. -/
def OHead.Interim (o : OHead) : Prop :=
  o.OK ∧ o.d1 = 49 ∧ ¬ (o.d2 = 48 ∧ o.d3 = 49) ∧
  FrameEntries o.hmap false false vChunked none none

def interimsWire (is : List OHead) : Bytes := (is.map OHead.wire).flatten

/-! ### `readTransfer`, `parseHead` and the 1xx loop on origin-written heads

The origin sends `Content-Length` or `Transfer-Encoding: chunked` or neither, optionally
`Connection: close`, and with chunked coding optionally a `Trailer` announcement. -/

section
variable (isHead : Bool) {cc chunked : Bool} {te : Bytes} {cl : Option (Bytes × Nat)} {tr : Option Bytes}
  (htrc : tr.isSome = true → chunked = true)
  (hkeys : ∀ tv, tr = some tv → (declKeys tv).any badTrailerKey = false)
include htrc hkeys

theorem readTransfer_core (sl : StatusLine) (hmaj : sl.major = 1) (hmin : sl.minor = 1) {h : HeaderMap}
    (hE : FrameEntries0 h cc chunked te cl tr) :
    ∃ msg, readTransfer isHead sl h = some msg ∧ msg.sl = sl ∧ Transferred isHead sl.code h cc chunked cl tr msg := by
  obtain ⟨hconn, hte, hlow, hcl, hclp, htr⟩ := hE
  obtain ⟨connTE, connCL, connTr, teCL, teTr, clTr⟩ := framingKeys_distinct
  have hcl2 : (if chunked = true then (if cc = true then h.del kConnection else h).del kTransferEncoding
        else (if cc = true then h.del kConnection else h)).get kContentLength = cl.map fun p => [p.1] :=
    (get_delIf chunked _ _ _ teCL.symm).trans ((get_delIf cc h _ _ connCL.symm).trans hcl)
  unfold readTransfer
  rw [hmaj, hmin, shouldClose_11 h cc hconn]
  simp only [show ¬ ((1 : Nat) = 0 ∧ (1 : Nat) = 0) by decide, if_false]
  rw [parseTE_11 _ chunked te hlow ((get_delIf cc h _ _ connTE.symm).trans hte)]
  simp only
  rw [fixLength_origin sl.code isHead _ chunked cl hcl2 hclp]
  simp only
  rw [fixTrailer_origin _ chunked tr
    ((get_delIf _ _ _ _ clTr.symm).trans <| (get_delIf chunked _ _ _ teTr.symm).trans <|
      (get_delIf cc h _ _ connTr.symm).trans htr) htrc hkeys]
  have hba : (isHead || !Req.H1.bodyAllowedForStatus sl.code) = false →
      Req.H1.bodyAllowedForStatus sl.code = true := by
    cases isHead <;> simp
  -- `resp.ContentLength`: for HEAD it is read from the header once more
  cases isHead with
  | false => exact ⟨_, rfl, rfl, { teChunked := rfl, trailerDecl := rfl, framing := framing_origin _ chunked cc _ cl hba, header := rfl }⟩
  | true =>
    simp only [Bool.true_or, Bool.not_true, Bool.false_and, Bool.false_eq_true, if_true, if_false, hcl2]
    cases cl with
    | none => exact ⟨_, rfl, rfl, { teChunked := rfl, trailerDecl := rfl, framing := framing_origin true chunked cc _ none (by simp), header := rfl }⟩
    | some p =>
      simp only [Option.map_some, hclp p rfl]
      exact ⟨_, rfl, rfl, { teChunked := rfl, trailerDecl := rfl, framing := framing_origin true chunked cc _ (some p) (by simp), header := rfl }⟩

/-- The byte-exact reader returns the origin's status code, and `readTransfer`'s
verdict on the origin's framing fields; it consumes exactly the head.  The head may carry a
`Pragma` field: the header is described as `readTransfer` finds it, `fixPragmaCacheControl o.hmap`. -/
theorem parseHead_origin_pragma (o : OHead) (ho : o.OK) (hE : FrameEntries0 o.hmap cc chunked te cl tr) (R : Bytes) :
    ∃ msg, Req.H1.parseHead isHead (o.wire ++ R) = some (msg, R) ∧ msg.sl.code = o.code ∧
      Transferred isHead o.code (fixPragmaCacheControl o.hmap) cc chunked cl tr msg := by
  obtain ⟨sl, hsl, hcode, hmaj, hmin⟩ := parseStatusLine_origin o.d1 o.d2 o.d3 o.reason ho.1 ho.2.1 ho.2.2.1
  obtain ⟨msg, hrt, hmsl, hT⟩ := readTransfer_core isHead htrc hkeys sl hmaj hmin hE.fixPragma
  have hline : Req.H1.readLine (o.wire ++ R) =
      some (statusWire o.d1 o.d2 o.d3 o.reason, blockWire o.fs ++ R) := by
    have := readLine_crlf (statusWire o.d1 o.d2 o.d3 o.reason) (blockWire o.fs ++ R) (statusWire_no_lf o ho)
    simpa [OHead.wire, List.append_assoc] using this
  have hc : sl.code = o.code := hcode
  exact ⟨msg, parseHead_eq_some.2 ⟨_, _, sl, _, hline, hsl, readMIMEHeader_block o.fs ho.2.2.2.2 R, hrt⟩,
    by rw [hmsl, hc], hc ▸ hT⟩

end

theorem interim_code (o : OHead) (h : o.Interim) : 100 ≤ o.code ∧ o.code ≤ 199 ∧ o.code ≠ 101 := by
  obtain ⟨ho, h1, hne, _⟩ := h
  obtain ⟨l2, u2⟩ := digit_toNat ho.2.1
  obtain ⟨l3, u3⟩ := digit_toNat ho.2.2.1
  have hc : o.code = (10 + (o.d2.toNat - 48)) * 10 + (o.d3.toNat - 48) := by
    rw [OHead.code, codeOf, h1]
    rfl
  have hi : (10 + (o.d2.toNat - 48)) * 10 + (o.d3.toNat - 48) ≤ (10 + 9) * 10 + 9 :=
    Nat.add_le_add (Nat.mul_le_mul_right 10 (Nat.add_le_add_left (Nat.sub_le_of_le_add u2) 10))
      (Nat.sub_le_of_le_add u3)
  rw [hc]
  refine ⟨Nat.le_trans (Nat.mul_le_mul_right 10 (Nat.le_add_right 10 _)) (Nat.le_add_right _ _), hi,
    fun h101 => hne ?_⟩
  have : o.d2.toNat = 48 ∧ o.d3.toNat = 49 := by omega
  exact ⟨UInt8.toNat_inj.mp this.1, UInt8.toNat_inj.mp this.2⟩

/-- The 1xx loop of `persistConn.readResponse`: the interim responses are skipped (at most five under
the `fuel + 1 = 6` the model's callers pass, Go's `max1xxResponses`), the final head is returned as
`parseHead` reads it. -/
theorem parseFinalHead_origin (isHead : Bool) (is : List OHead) (his : ∀ i ∈ is, i.Interim)
    {fuel : Nat} (hfuel : is.length ≤ fuel) {W R : Bytes} {msg : Msg}
    (hfinal : Req.H1.parseHead isHead W = some (msg, R))
    (hcode : ¬ (100 ≤ msg.sl.code ∧ msg.sl.code ≤ 199 ∧ msg.sl.code ≠ 101)) :
    Req.H1.parseFinalHead (fuel + 1) isHead (interimsWire is ++ W) = some (msg, R) := by
  induction is generalizing fuel with
  | nil =>
    rw [show interimsWire [] ++ W = W from rfl, parseFinalHead_succ hfinal, if_neg hcode]
  | cons i is ih =>
    obtain ⟨fuel, rfl⟩ := Nat.exists_eq_add_one_of_ne_zero (Nat.ne_of_gt (Nat.zero_lt_of_lt hfuel))
    have hi := his i List.mem_cons_self
    obtain ⟨m, hph, hc, _⟩ :=
      parseHead_origin_pragma isHead (by simp) (by simp) i hi.1 hi.2.2.2.to0 (interimsWire is ++ W)
    have hw : interimsWire (i :: is) ++ W = i.wire ++ (interimsWire is ++ W) := by
      simp [interimsWire, List.append_assoc]
    have hcode' := interim_code i hi
    rw [← hc] at hcode'
    rw [hw, parseFinalHead_succ hph, if_pos hcode']
    exact ih (fun j hj => his j (List.mem_cons_of_mem i hj)) (Nat.le_of_succ_le_succ hfuel)

/-! ### decidable forms of the origin-side well-formedness predicates (for examples) -/

def valueOKb (v : Bytes) : Bool :=
  (v.all fun c => (c ≥ 32 ∧ c != 127) ∨ c == 9) &&
  (match v.head? with | some a => !Req.C02.isOWS a | none => true) &&
  (match v.getLast? with | some a => !Req.C02.isOWS a | none => true)

theorem valueOK_of_bool (v : Bytes) (h : valueOKb v = true) : ValueOK v := by
  simp only [valueOKb, Bool.and_eq_true] at h
  obtain ⟨⟨h1, h2⟩, h3⟩ := h
  refine ⟨h1, ?_, ?_⟩
  · intro a rest hv
    subst hv
    simpa using h2
  · intro a pre hv
    subst hv
    simpa using h3

def wfieldOKb (f : WField) : Bool :=
  !f.name.isEmpty && f.name.all isTokenByte && valueOKb f.value &&
  f.pad1.all Req.C02.isOWS && f.pad2.all Req.C02.isOWS

theorem wfield_ok_of_bool (f : WField) (h : wfieldOKb f = true) : f.OK := by
  simp only [wfieldOKb, Bool.and_eq_true] at h
  obtain ⟨⟨⟨⟨h1, h2⟩, h3⟩, h4⟩, h5⟩ := h
  refine ⟨?_, h2, valueOK_of_bool _ h3, ?_, ?_⟩
  · intro hn; rw [hn] at h1; simp at h1
  · exact fun x hx => List.all_eq_true.mp h4 x hx
  · exact fun x hx => List.all_eq_true.mp h5 x hx

def oheadOKb (o : OHead) : Bool :=
  isDigit o.d1 && isDigit o.d2 && isDigit o.d3 && !o.reason.contains 10 && o.fs.all wfieldOKb

theorem ohead_ok_of_bool (o : OHead) (h : oheadOKb o = true) : o.OK := by
  simp only [oheadOKb, Bool.and_eq_true] at h
  obtain ⟨⟨⟨⟨h1, h2⟩, h3⟩, h4⟩, h5⟩ := h
  refine ⟨h1, h2, h3, ?_, ?_⟩
  · intro hm
    have : o.reason.contains 10 = true := by simpa using hm
    rw [this] at h4
    simp at h4
  · exact fun f hf => wfield_ok_of_bool f (List.all_eq_true.mp h5 f hf)

/-- The lines of a head as `ReadSlice('\n')` sees them (without the final LF). -/
def OHead.lines (o : OHead) : List Bytes :=
  (statusWire o.d1 o.d2 o.d3 o.reason ++ [13]) :: ((o.fs.map fun f => f.line ++ [13]) ++ [[13]])

theorem linesWire_append (a b : List Bytes) : linesWire (a ++ b) = linesWire a ++ linesWire b := by
  simp [linesWire]

theorem OHead.wire_lines (o : OHead) : o.wire = linesWire o.lines := by
  have hb : ∀ fs : List WField, blockWire fs = linesWire ((fs.map fun f => f.line ++ [13]) ++ [[13]]) := by
    intro fs
    induction fs with
    | nil => simp [blockWire, linesWire]
    | cons f fs ih =>
      rw [blockWire_cons, ih]
      simp [linesWire, List.append_assoc]
  unfold OHead.wire OHead.lines
  rw [hb]
  simp [linesWire, List.append_assoc]

theorem OHead.lines_no_lf (o : OHead) (ho : o.OK) : ∀ l ∈ o.lines, (10 : UInt8) ∉ l := by
  have hcr : ∀ l : Bytes, (10 : UInt8) ∉ l → (10 : UInt8) ∉ l ++ [13] := fun l h hm =>
    (List.mem_append.mp hm).elim h (fun h13 => absurd (List.mem_singleton.mp h13) (by decide))
  intro l hl
  simp only [OHead.lines, List.mem_cons, List.mem_append, List.mem_map, List.mem_nil_iff, or_false] at hl
  rcases hl with rfl | ⟨f, hf, rfl⟩ | rfl
  · exact hcr _ (statusWire_no_lf o ho)
  · exact hcr _ (WField.line_no_lf f (ho.2.2.2.2 f hf))
  · decide

end Req.C02
