import Req.Client.Redirect
import Req.Lemmas.C11Hdr
import Req.Lemmas.C11Host
/-! C11: the closure `compose` (allows iff every policy allows; a refusal is that of the first policy that
refuses), `Gated` (what one policy enforces on a whole chain) and `follow` in closed form (`FollowSpec`). -/
namespace Req.Lemmas.C11
open Req.Proto Req.Redirect

theorem compose_allow_iff (ps : List (Option Policy)) (req : Bytes) (h : Headers) (via : Via) :
    (compose ps req h via).1 = .allow ↔ ∀ p, some p ∈ ps → p.check req via = .allow := by
  induction ps generalizing h with
  | nil => simp [compose]
  | cons q qs ih =>
    cases q with
    | none => simp only [compose, ih, List.mem_cons, reduceCtorEq, false_or]
    | some p =>
      rw [compose_cons_some]
      by_cases hc : p.check req via = .allow
      · simp [hc, ih]
      · simp [hc]

theorem compose_refusal (ps : List (Option Policy)) (req : Bytes) (h : Headers) (via : Via)
    (d : Decision) (hd : d ≠ .allow) (hr : (compose ps req h via).1 = d) :
    ∃ pre p post, ps = pre ++ some p :: post ∧ (∀ q, some q ∈ pre → q.check req via = .allow) ∧
      p.check req via = d := by
  induction ps generalizing h with
  | nil => exact absurd hr.symm hd
  | cons q qs ih =>
    -- a refusal further down: the head, nil or allowing, joins the prefix
    have later : ∀ h', (compose qs req h' via).1 = d → (∀ p0, q = some p0 → p0.check req via = .allow) →
        ∃ pre p post, q :: qs = pre ++ some p :: post ∧
          (∀ q', some q' ∈ pre → q'.check req via = .allow) ∧ p.check req via = d :=
      fun h' hr' hq => by
        obtain ⟨pre, p, post, he, hpre, hp⟩ := ih h' hr'
        exact ⟨q :: pre, p, post, by rw [he]; rfl, fun q' hq' => by
          rcases List.mem_cons.mp hq' with e | e
          · exact hq q' e.symm
          · exact hpre q' e, hp⟩
    cases q with
    | none => exact later h hr (fun _ e => absurd e (by simp))
    | some p0 =>
      rw [compose_cons_some] at hr
      by_cases hc : p0.check req via = .allow
      · rw [if_pos hc] at hr
        exact later _ hr (fun _ e => by cases e; exact hc)
      · rw [if_neg hc] at hr
        exact ⟨[], p0, qs, rfl, by simp, hr⟩

theorem max_check_iff (n : Int) (req : Bytes) (via : Via) :
    (maxRedirectPolicy n).check req via = .allow ↔ (via.length : Int) < n := by
  simp only [maxRedirectPolicy]
  by_cases h : (via.length : Int) ≥ n
  · simp [h]
  · simp [h]; omega

/-- Every request after `first` passed `p`, which was shown exactly the requests before it. Both chain
models guarantee it of each configured policy (`runChain_spec`, `C11Loop.start_gated`); what a single
policy then enforces on a whole chain is proved here once. -/
def Gated (p : Policy) (first : Hop) (later : List Hop) : Prop :=
  ∀ k (hk : k < later.length), p.check later[k].host ⟨first, later.take k⟩ = .allow

theorem Gated.nil_of_refuses {p : Policy} {first : Hop} {later : List Hop} (h : Gated p first later)
    (hp : ∀ req via, p.check req via ≠ .allow) : later = [] := by
  cases later with
  | nil => rfl
  | cons x xs => exact absurd (h 0 (by simp)) (hp _ _)

theorem Gated.max {n : Int} {first : Hop} {later : List Hop} (h : Gated (maxRedirectPolicy n) first later) :
    (later.length : Int) + 1 ≤ max 1 n := by
  cases hl : later.length with
  | zero => omega
  | succ m =>
    -- the last request sent passed MaxRedirectPolicy(n)
    have := (max_check_iff n _ _).mp (h m (by omega))
    simp only [Via.length, List.length_take] at this
    omega

theorem goStrips_split (s : Bool) (a b : Bytes) : goStrips s a b = (s || goStrips false a b) := by
  simp [goStrips]

/-- `follow` in closed form: `later` is the longest prefix of `ts` whose hops the closure allows, each hop
with the header map the closure left. -/
structure FollowSpec (ps : List (Option Policy)) (init : Headers) (st : ChainState) (ts : List Bytes)
    (res : List Hop × Outcome) (later : List Hop) : Prop where
  sent : res.1 = st.via.toList ++ later
  permitted : ∀ k (hk : k < later.length) p, some p ∈ ps →
    p.check later[k].host ⟨st.via.first, st.via.rest ++ later.take k⟩ = .allow
  hdr : ∀ k (hk : k < later.length), later[k].hdr =
    (compose ps later[k].host
      (goCopyHeaders init (st.stripped || crossed st.via.first.host (ts.take (k + 1))))
      ⟨st.via.first, st.via.rest ++ later.take k⟩).2
  hosts : later.map (·.host) = ts.take later.length
  len : later.length ≤ ts.length
  final : res.2 = .final ↔ later.length = ts.length
  stop : later.length < ts.length →
    ∃ t, ts[later.length]? = some t ∧
      ∃ p, some p ∈ ps ∧ p.check t ⟨st.via.first, st.via.rest ++ later⟩ ≠ .allow

theorem follow_spec (ps : List (Option Policy)) (init : Headers) (ts : List Bytes) (st : ChainState) :
    ∃ later, FollowSpec ps init st ts (follow ps init st ts) later := by
  induction ts generalizing st with
  | nil => exact ⟨[], by constructor <;> simp [follow]⟩
  | cons t ts ih =>
    unfold follow
    simp only
    generalize hc : compose ps t (goCopyHeaders init (goStrips st.stripped st.via.first.host t)) st.via = r
    obtain ⟨d, hdr⟩ := r
    have hd : (compose ps t (goCopyHeaders init (goStrips st.stripped st.via.first.host t)) st.via).1 = d := by
      rw [hc]
    -- a refusal, whichever of the two kinds, ends the chain here
    have refused : ∀ o : Outcome, o ≠ .final → d ≠ .allow →
        FollowSpec ps init st (t :: ts) (st.via.toList, o) [] := by
      intro o ho hne
      obtain ⟨pre, p, post, he, _, hp⟩ := compose_refusal ps t _ st.via d hne hd
      constructor
      · simp
      · intro k hk; simp at hk
      · intro k hk; simp at hk
      · simp
      · simp
      · simpa using ho
      · exact fun _ => ⟨t, by simp, p, by simp [he], by simpa [hp] using hne⟩
    cases d with
    | allow =>
      have hall := (compose_allow_iff ps t _ st.via).mp hd
      obtain ⟨later, hs⟩ := ih { via := st.via.push ⟨t, hdr⟩, stripped := goStrips st.stripped st.via.first.host t }
      refine ⟨⟨t, hdr⟩ :: later, ?_⟩
      constructor
      · rw [hs.sent]; simp [Via.push, Via.toList]
      · intro k hk
        cases k with
        | zero => simpa using hall
        | succ k => simpa [Via.push] using hs.permitted k (by simpa using hk)
      · intro k hk
        cases k with
        | zero => simp [hc, crossed, ← goStrips_split]
        | succ k =>
          simpa [Via.push, crossed, goStrips_split st.stripped, Bool.or_assoc] using hs.hdr k (by simpa using hk)
      · simp [hs.hosts]
      · simpa using hs.len
      · rw [hs.final]; simp
      · intro hlt
        obtain ⟨t', ht', p, hp, hne⟩ := hs.stop (by simpa using hlt)
        exact ⟨t', by simpa using ht', p, hp, by simpa [Via.push] using hne⟩
    | deny | useLast => exact ⟨[], refused _ (by simp) (by simp)⟩

theorem runChain_spec (ps : List (Option Policy)) (h0 : Hop) (targets : List Bytes) :
    ∃ later, (runChain ps h0 targets).1 = h0 :: later ∧ (∀ p, some p ∈ ps → Gated p h0 later) ∧
      FollowSpec ps h0.hdr { via := { first := h0 } } targets (runChain ps h0 targets) later := by
  obtain ⟨later, hs⟩ := follow_spec ps h0.hdr targets { via := { first := h0 } }
  exact ⟨later, hs.sent, fun p hp k hk => by simpa using hs.permitted k hk p hp, hs⟩

end Req.Lemmas.C11
