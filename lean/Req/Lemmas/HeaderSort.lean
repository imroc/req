import Req.Client.HeaderSortSpec
/-!
The insertion sort `isort` of `header.SortKeyValues`, for any element type and index function: it
permutes (`isort_perm`), puts the listed elements in list order for inputs of any length
(`isort_listed_ordered`, from the invariant `Inv` of the reversed sorted prefix), is the stable sort
of `HeaderSortSpec` on the listed elements (`isort_listed_subsequence`) and never swaps two elements
of one position or two unlisted ones (`isort_filter_same_idx`). `applyOrder` is the step the three
header writers share: sort only when an order list is given.
-/
namespace Req.HeaderSort
open Req.Proto

variable {α : Type} (idx : α → Option Nat)

theorem ins_perm (x : α) (ys : List α) : (ins idx x ys).Perm (x :: ys) := by
  induction ys with
  | nil => simp [ins]
  | cons y ys ih =>
    unfold ins
    split
    · exact (List.Perm.cons y ih).trans (List.Perm.swap x y ys)
    · exact List.Perm.refl _

theorem foldl_ins_perm (l acc : List α) :
    (l.foldl (fun acc x => ins idx x acc) acc).Perm (l.reverse ++ acc) := by
  induction l generalizing acc with
  | nil => simp
  | cons x xs ih =>
    simp only [List.foldl_cons, List.reverse_cons, List.append_assoc, List.singleton_append]
    exact (ih _).trans (List.Perm.append_left _ (ins_perm idx x acc))

theorem isort_perm (l : List α) : (isort idx l).Perm l := by
  unfold isort
  have h := foldl_ins_perm idx l []
  simp only [List.append_nil] at h
  exact (List.reverse_perm _).trans (h.trans (List.reverse_perm l))

/-- Invariant of the reversed sorted prefix (head = rightmost element): every listed element to the
left of `y` (i.e. in the tail) has index ≤ the comparator key of `y` where it stands,
`keyAt idx y ys.length` — `y`'s own index when it is listed (so the listed elements are sorted), its
slice position when it is not (so a listed element that stops at an unlisted one has nothing larger
to its left). -/
def Inv : List α → Prop
  | [] => True
  | y :: ys => (∀ z ∈ ys, ∀ i, idx z = some i → i ≤ keyAt idx y ys.length) ∧ Inv ys

theorem ins_length (x : α) (ys : List α) : (ins idx x ys).length = ys.length + 1 := by
  induction ys with
  | nil => simp [ins]
  | cons y ys ih => unfold ins; split <;> simp [ih]

theorem mem_ins (x z : α) (ys : List α) : z ∈ ins idx x ys → z = x ∨ z ∈ ys := by
  intro h
  have := (ins_perm idx x ys).mem_iff.mp h
  simpa using this

theorem keyAt_of_some {x : α} {i : Nat} (h : idx x = some i) (p : Nat) : keyAt idx x p = i := by
  simp [keyAt, h]

theorem keyAt_mono (y : α) (p : Nat) : keyAt idx y p ≤ keyAt idx y (p + 1) := by
  unfold keyAt; cases idx y <;> simp

theorem listed_le_of_head (y : α) (ys : List α) (h : Inv idx (y :: ys)) (b : Nat)
    (hb : keyAt idx y ys.length ≤ b) : ∀ z ∈ y :: ys, ∀ i, idx z = some i → i ≤ b := by
  intro z hz i hi
  rcases List.mem_cons.mp hz with rfl | hz
  · exact keyAt_of_some idx hi _ ▸ hb
  · exact Nat.le_trans (h.1 z hz i hi) hb

theorem ins_inv (x : α) (ys : List α) (h : Inv idx ys) : Inv idx (ins idx x ys) := by
  induction ys with
  | nil => simp [ins, Inv]
  | cons y ys ih =>
    unfold ins
    split
    next hlt =>
      -- x moves left past y, which now stands one position further to the right
      refine ⟨fun z hz i hi => ?_, ih h.2⟩
      rw [ins_length]
      refine Nat.le_trans ?_ (keyAt_mono idx y ys.length)
      rcases mem_ins idx x z ys hz with rfl | hz
      · exact Nat.le_of_lt (keyAt_of_some idx hi _ ▸ hlt)
      · exact h.1 z hz i hi
    next hge => exact ⟨listed_le_of_head idx y ys h _ (Nat.le_of_not_lt hge), h⟩

theorem foldl_ins_inv (l acc : List α) (h : Inv idx acc) :
    Inv idx (l.foldl (fun acc x => ins idx x acc) acc) := by
  induction l generalizing acc with
  | nil => simpa
  | cons x xs ih => exact ih _ (ins_inv idx x acc h)

theorem inv_pairwise (ys : List α) (h : Inv idx ys) : (ys.filterMap idx).Pairwise (· ≥ ·) := by
  rw [List.pairwise_filterMap]
  induction ys with
  | nil => exact .nil
  | cons y ys ih =>
    exact .cons (fun z hz j hj i hi => keyAt_of_some idx hj _ ▸ h.1 z hz i hi) (ih h.2)

theorem isort_listed_ordered (l : List α) : ((isort idx l).filterMap idx).Pairwise (· ≤ ·) := by
  unfold isort
  rw [List.filterMap_reverse, List.pairwise_reverse]
  exact inv_pairwise idx _ (foldl_ins_inv idx l [] trivial)

theorem insL_stop (x : α) (F : List α) (h : ∀ z ∈ F, olt (idx x) (idx z) = false) :
    insL idx x F = x :: F := by
  cases F with
  | nil => rfl
  | cons z F' => simp [insL, h z (List.mem_cons_self ..)]

theorem filter_ins (x : α) (ys : List α) (h : Inv idx ys) :
    (ins idx x ys).filter (isListed idx) =
      if isListed idx x then insL idx x (ys.filter (isListed idx)) else ys.filter (isListed idx) := by
  induction ys with
  | nil => cases hx : isListed idx x <;> simp [ins, insL, hx]
  | cons y ys ih =>
    unfold ins
    cases hx : idx x with
    | none =>
      have hxl : isListed idx x = false := by simp [isListed, hx]
      split <;> simp [hxl, List.filter_cons, ih h.2]
    | some i =>
      split
      next hlt =>
        rw [List.filter_cons, ih h.2]
        cases hy : idx y with
        | none => simp [isListed, hx, hy]
        | some j =>
          have hij : i < j := by simpa [keyAt, hx, hy] using hlt
          simp [isListed, hx, hy, insL, olt, hij]
      next hge =>
        -- x stays to the right of y: no listed element of the prefix has a larger index
        have hall := listed_le_of_head idx y ys h i (keyAt_of_some idx hx _ ▸ Nat.le_of_not_lt hge)
        have hxl : isListed idx x = true := by simp [isListed, hx]
        rw [List.filter_cons, hxl, if_pos rfl, if_pos rfl, insL_stop]
        intro z hz
        cases hzi : idx z with
        | none => simp [olt, hx]
        | some k => simpa [olt, hx] using hall z (List.mem_filter.mp hz).1 k hzi

theorem filter_foldl_ins (l acc : List α) (h : Inv idx acc) :
    (l.foldl (fun acc x => ins idx x acc) acc).filter (isListed idx) =
      (l.filter (isListed idx)).foldl (fun acc x => insL idx x acc) (acc.filter (isListed idx)) := by
  induction l generalizing acc with
  | nil => rfl
  | cons x xs ih =>
    rw [List.foldl_cons, ih _ (ins_inv idx x acc h), filter_ins idx x acc h, List.filter_cons]
    cases hx : isListed idx x <;> simp

/-- On the listed elements the positional comparator plays no part: they come out as `stableSort`
(`HeaderSortSpec`) puts them. -/
theorem isort_listed_subsequence (l : List α) :
    (isort idx l).filter (isListed idx) = stableSort idx (l.filter (isListed idx)) := by
  unfold isort stableSort
  rw [List.filter_reverse, filter_foldl_ins idx l [] trivial]
  rfl

theorem stableSort_congr (idx' : α → Option Nat)
    (h : ∀ x y, olt (idx x) (idx y) = olt (idx' x) (idx' y)) (l : List α) :
    stableSort idx l = stableSort idx' l := by
  have : ∀ x F, insL idx x F = insL idx' x F := by
    intro x F
    induction F with
    | nil => rfl
    | cons y ys ih => simp [insL, h, ih]
  unfold stableSort
  simp only [this]

/-- an element never moves left past one of the same position: listed at one list entry the two
compare equal, unlisted they compare by slice position. -/
theorem keyAt_same {x y : α} (h : idx x = idx y) (p : Nat) :
    ¬ keyAt idx x (p + 1) < keyAt idx y p := by
  unfold keyAt
  rw [h]
  cases idx y <;> simp

theorem ins_filter_same (Q : α → Bool) (x : α) (ys : List α)
    (hQ : ∀ y ∈ ys, Q x = true → Q y = true → idx x = idx y) :
    (ins idx x ys).filter Q = if Q x then x :: ys.filter Q else ys.filter Q := by
  induction ys with
  | nil => simp [ins, List.filter_cons]
  | cons y ys ih =>
    unfold ins
    split
    next hlt =>
      rw [List.filter_cons, ih fun z hz => hQ z (List.mem_cons_of_mem _ hz), List.filter_cons]
      cases hx : Q x with
      | false => rfl
      | true =>
        cases hy : Q y with
        | false => rfl
        | true => exact absurd hlt (keyAt_same idx (hQ y (List.mem_cons_self ..) hx hy) _)
    next => simp [List.filter_cons]

/-- the elements sharing one position keep their relative order — listed at the same list
entry (fields of one name, names differing only in case) or unlisted (all the other fields). -/
theorem isort_filter_same_idx (Q : α → Bool) (l : List α)
    (hQ : ∀ x ∈ l, ∀ y ∈ l, Q x = true → Q y = true → idx x = idx y) :
    (isort idx l).filter Q = l.filter Q := by
  have : ∀ l acc : List α, (∀ x ∈ l ++ acc, ∀ y ∈ l ++ acc, Q x = true → Q y = true → idx x = idx y) →
      (l.foldl (fun acc x => ins idx x acc) acc).filter Q = (l.filter Q).reverse ++ acc.filter Q := by
    intro l
    induction l with
    | nil => intro _ _; rfl
    | cons x xs ih =>
      intro acc h
      rw [List.foldl_cons, ih, ins_filter_same idx Q x acc fun y hy =>
        h x (List.mem_cons_self ..) y (List.mem_append_right _ hy), List.filter_cons]
      · cases Q x <;> simp
      · have hm : ∀ z ∈ xs ++ ins idx x acc, z ∈ x :: xs ++ acc := fun z hz => by
          rcases List.mem_append.mp hz with hz | hz
          · exact List.mem_append_left _ (List.mem_cons_of_mem _ hz)
          · rcases mem_ins idx x z acc hz with rfl | hz
            · exact List.mem_append_left _ (List.mem_cons_self ..)
            · exact List.mem_append_right _ hz
        exact fun a ha b hb => h a (hm a ha) b (hm b hb)
  unfold isort
  rw [List.filter_reverse, this l [] (by simpa using hQ)]
  simp

/-- what each of the three writers does with the groups it collected: they stay as collected when
no order list is given, otherwise `header.SortKeyValues` goes over them. -/
def applyOrder (order : List Bytes) (l : List KV) : List KV :=
  if order.isEmpty then l else sortKeyValues l order

theorem applyOrder_perm (order : List Bytes) (l : List KV) : (applyOrder order l).Perm l := by
  unfold applyOrder; split
  · exact .refl _
  · exact isort_perm _ _

/-- no hypothesis on the order list: the empty list names nothing. -/
theorem applyOrder_listed (order : List Bytes) (l : List KV) :
    ((applyOrder order l).filterMap fun kv => lastIndex order kv.key).Pairwise (· ≤ ·) := by
  unfold applyOrder; split
  next he =>
    rw [List.isEmpty_iff.mp he, List.filterMap_eq_nil_iff.mpr fun _ _ => (rfl : lastIndex [] _ = none)]
    exact .nil
  · exact isort_listed_ordered _ _

theorem applyOrder_filter_same (order : List Bytes) (Q : KV → Bool) (l : List KV)
    (hQ : ∀ x ∈ l, ∀ y ∈ l, Q x = true → Q y = true → lastIndex order x.key = lastIndex order y.key) :
    (applyOrder order l).filter Q = l.filter Q := by
  unfold applyOrder; split
  · rfl
  · exact isort_filter_same_idx _ Q l hQ

end Req.HeaderSort
