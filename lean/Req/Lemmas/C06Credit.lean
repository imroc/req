import Req.Lemmas.C06Recv
/-!
C06 — helper lemmas: conservation of flow-control credit on the receive side of the model.
Every byte of response data the client was sent is, at every moment, in exactly one place: still
granted to the peer (`avail`), consumed and waiting to be returned in the next WINDOW_UPDATE
(`unsent`), or buffered in a response body the caller has not read or closed yet.
-/
namespace Req.Lemmas.C06
open Req.H2 Req.H2.Flow Req.H2.Conn Req.H2.Monitor

def sumBuffered : List Stream → Nat
  | [] => 0
  | s :: l => s.buffered + sumBuffered l

/-- the postcondition of `inflow.add`: nothing is held back unless it is small both in
absolute terms (4096 is `inflowMinRefresh`) and relative to what the peer still has -/
def Fresh (f : Inflow) : Prop := f.unsent = 0 ∨ (f.unsent < 4096 ∧ f.unsent < f.avail)

/-- the accounts of the receive side: the connection's three places add up to `T`, those of every
stream whose body is still being read to `S`, the initial stream window -/
structure CInv (T S : Int) (v : RView) : Prop where
  conn : v.connIn.avail + v.connIn.unsent + sumBuffered v.streams = T
  connFresh : Fresh v.connIn
  strm : ∀ s ∈ v.streams, s.broken = false → s.readErr = false →
    s.inflow.avail + s.inflow.unsent + s.buffered = S
  strmFresh : ∀ s ∈ v.streams, Fresh s.inflow
  sInit : S = streamInflow0 v.cfg

theorem add_credit {f f' : Inflow} {n : Nat} {inc : Int} (ha : Inflow.add f n = .ok (f', inc)) :
    f'.avail + f'.unsent = f.avail + f.unsent + n ∧ Fresh f' := by
  obtain ⟨_, _, _, _, s5⟩ := Inflow.add_spec ha
  exact ⟨by omega, by unfold Fresh; omega⟩

theorem sum_setStream {l : List Stream} {id : Nat} {s s' : Stream}
    (hnd : (l.map (·.id)).Nodup) (hf : findStream l id = some s) (h1 : s'.id = s.id) :
    sumBuffered (setStream l s') + s.buffered = sumBuffered l + s'.buffered := by
  induction l with
  | nil => simp [findStream] at hf
  | cons a l ih =>
    simp only [List.map_cons, List.nodup_cons] at hnd
    unfold findStream at hf ih
    unfold setStream at ih ⊢
    simp only [List.map, sumBuffered]
    by_cases ha : a.id = id
    · simp only [List.find?, ha, decide_true] at hf
      cases hf
      have hid : s.id = s'.id := h1.symm
      simp only [hid, if_true]
      -- no other entry carries this id: the tail is unchanged
      have htail : List.map (fun t => if t.id = s'.id then s' else t) l = l := by
        have : List.map (fun t => if t.id = s'.id then s' else t) l = List.map (fun t => t) l := by
          apply List.map_congr_left
          intro x hx
          have : x.id ≠ s'.id := by
            intro he
            apply hnd.1
            rw [hid, ← he]
            exact List.mem_map_of_mem (f := (·.id)) hx
          simp [this]
        rw [this, List.map_id']
      rw [htail]; omega
    · simp only [List.find?, ha, decide_false] at hf
      have hsid : s.id = id := by simpa using List.find?_some hf
      have hne : ¬ a.id = s'.id := by rw [h1, hsid]; exact ha
      simp only [hne, if_false]
      have := ih hnd.2 hf
      omega

/-- replace a stream and the connection window together; `hconn`: what leaves the stream's buffer
stays in the connection-level account -/
theorem cinv_set {T S : Int} {v : RView} (h : CInv T S v) (hnd : (v.streams.map (·.id)).Nodup)
    {id : Nat} {s s' : Stream} {ci : Inflow} (hf : findStream v.streams id = some s) (h1 : s'.id = s.id)
    (hconn : ci.avail + ci.unsent + s'.buffered = v.connIn.avail + v.connIn.unsent + s.buffered)
    (hfr : Fresh ci)
    (hs : s'.broken = false → s'.readErr = false → s'.inflow.avail + s'.inflow.unsent + s'.buffered = S)
    (hsf : Fresh s'.inflow) :
    CInv T S { v with connIn := ci, streams := setStream v.streams s' } := by
  have hsum := sum_setStream hnd hf h1
  refine { conn := ?_, connFresh := hfr, strm := ?_, strmFresh := ?_, sInit := h.sInit }
  · have := h.conn; simp only; omega
  · exact forall_mem_replace h.strm hs
  · exact forall_mem_replace h.strmFresh hsf

theorem cinv_set_same {T S : Int} {v : RView} (h : CInv T S v) (hnd : (v.streams.map (·.id)).Nodup)
    {id : Nat} {s s' : Stream} (hf : findStream v.streams id = some s) (hid : s'.id = s.id := by rfl)
    (hinflow : s'.inflow = s.inflow := by rfl) (hbuffered : s'.buffered = s.buffered := by rfl)
    (hbroken : s'.broken = s.broken := by rfl) (hreadErr : s'.readErr = s.readErr := by rfl) :
    CInv T S { v with streams := setStream v.streams s' } := by
  have hmem := (findStream_mem hf).1
  exact cinv_set h hnd (ci := v.connIn) hf hid (by rw [hbuffered]) h.connFresh
    (by rw [hinflow, hbuffered, hbroken, hreadErr]; exact h.strm s hmem) (by rw [hinflow]; exact h.strmFresh s hmem)


section
variable {T S : Int}

theorem c_terminate {st : State} (h : CInv T S (rview st)) (hnd : (st.streams.map (·.id)).Nodup)
    {id : Nat} {s s' : Stream} (b : Bool) (hf : findStream st.streams id = some s) (hid : s'.id = s.id := by rfl)
    (hinflow : s'.inflow = s.inflow := by rfl) (hbuffered : s'.buffered = s.buffered := by rfl)
    (hbroken : s'.broken = s.broken := by rfl) (hreadErr : s'.readErr = s.readErr := by rfl) :
    CInv T S (rview (terminate st s' b).1) := by
  rw [rview_terminate]
  exact cinv_set_same h (v := rview st) hnd hf hid hinflow hbuffered hbroken hreadErr

theorem c_settle {st : State} (h : CInv T S (rview st)) (hnd : (st.streams.map (·.id)).Nodup)
    {id : Nat} {s s' : Stream} (hf : findStream st.streams id = some s) (hid : s'.id = s.id := by rfl)
    (hinflow : s'.inflow = s.inflow := by rfl) (hbuffered : s'.buffered = s.buffered := by rfl)
    (hbroken : s'.broken = s.broken := by rfl) (hreadErr : s'.readErr = s.readErr := by rfl) :
    CInv T S (rview (settle st s')) := by
  rw [rview_settle]
  exact cinv_set_same h (v := rview st) hnd hf (by split <;> simp [hid]) (by split <;> simp [hinflow])
    (by split <;> simp [hbuffered]) (by split <;> simp [hbroken]) (by split <;> simp [hreadErr])

theorem c_write {st : State} (h : CInv T S (rview st)) (hnd : (st.streams.map (·.id)).Nodup) (id : Nat) :
    CInv T S (rview (write st id).1) :=
  write_cases (fun x => CInv T S (rview x.1)) st id h (fun _ _ hf _ _ _ _ => c_settle h hnd hf)
    (fun _ d _ _ hf _ _ _ => c_settle (st := { st with connOut := st.connOut - d }) h hnd hf)

/-- the accounts balance, or the model has reached a Go `panic` (and stopped) -/
def Balanced (T S : Int) (st : State) : Prop :=
  (st.panicked = true ∧ st.closed = true) ∨ CInv T S (rview st)

theorem c_readCore {st : State} (h : CInv T S (rview st)) (hnd : (st.streams.map (·.id)).Nodup)
    {id : Nat} {s s' : Stream} (hf : findStream st.streams id = some s) (h1 : s'.id = s.id)
    (h2 : s'.inflow = s.inflow) (h3 : s'.buffered = s.buffered) (h4 : s'.broken = s.broken)
    (h5 : s'.readErr = s.readErr) (k : Nat) (hk : k ≤ s.buffered) :
    Balanced T S (readCore st s' k).1 := by
  have hmem := (findStream_mem hf).1
  refine readCore_cases (fun x => Balanced T S x.1) st s' k (Or.inl ⟨rfl, rfl⟩) (fun ci connAdd si streamAdd hci hsi => ?_)
  obtain ⟨a1, a2⟩ := add_credit hci
  obtain ⟨b1, b2⟩ := add_credit hsi
  rw [h2] at b1
  refine Or.inr (cinv_set h (v := rview st) hnd hf h1 ?_ a2 ?_ b2)
  · simp only [rview, h3] at *; omega
  · intro hb hre
    have := h.strm s hmem (by rw [← h4]; exact hb) (by rw [← h5]; exact hre)
    simp only [h3] at *; omega

theorem rview_closeStream (st : State) (s s' : Stream) :
    rview (closeStream st s s').1 =
      { (rview st) with streams := setStream st.streams (if s.live then { s' with live := false } else s') } := by
  unfold closeStream
  split
  · simp [rview_terminate]
  · rfl

/-- a response body is given up (`Body.Close`, or the over-long response): `k` of its bytes go
back to the connection window; the stream-level account is closed -/
theorem c_closeCredit {st : State} (h : CInv T S (rview st)) (hnd : (st.streams.map (·.id)).Nodup)
    {id : Nat} {s s' : Stream} (hf : findStream st.streams id = some s) (h1 : s'.id = s.id)
    (h2 : s'.inflow = s.inflow) (k : Nat) (hk : s'.buffered + k = s.buffered)
    (hdead : s'.broken = true ∨ s'.readErr = true) :
    Balanced T S (creditConn (closeStream st s s') k).1 := by
  have hmem := (findStream_mem hf).1
  have hv := rview_closeStream st s s'
  have hstrm : ∀ t : Stream, (t = s' ∨ t = { s' with live := false }) →
      t.broken = false → t.readErr = false → t.inflow.avail + t.inflow.unsent + t.buffered = S := by
    intro t ht hb hre
    rcases ht with rfl | rfl <;> rcases hdead with hd | hd <;> simp_all
  -- the stream-level clauses after the close, whichever way `closeStream` went
  have hrest : ∀ ci, ci.avail + ci.unsent + s'.buffered = st.connIn.avail + st.connIn.unsent + s.buffered → Fresh ci →
      CInv T S { (rview (closeStream st s s').1) with connIn := ci } := fun ci hconn hfr => by
    rw [hv]
    refine cinv_set h (v := rview st) hnd hf (by split <;> simp [h1]) ?_ hfr ?_ ?_
    · split <;> exact hconn
    · split
      · exact hstrm _ (Or.inr rfl)
      · exact hstrm _ (Or.inl rfl)
    · have := h.strmFresh s hmem
      split <;> (rw [← h2] at this; exact this)
  have hci0 : (closeStream st s s').1.connIn = st.connIn := congrArg RView.connIn hv
  refine creditConn_cases (fun x => Balanced T S x.1) _ k (fun hz => Or.inr ?_) (Or.inl ⟨rfl, rfl⟩)
    (fun ci connAdd _ hci => Or.inr ?_)
  · have := hrest st.connIn (by omega) h.connFresh
    rwa [show ({ (rview (closeStream st s s').1) with connIn := st.connIn } : RView) = rview (closeStream st s s').1 by
      rw [← hci0]; rfl] at this
  · rw [hci0] at hci
    obtain ⟨a1, a2⟩ := add_credit hci
    exact hrest ci (by omega) a2

theorem c_readK {st : State} (h : CInv T S (rview st)) (hnd : (st.streams.map (·.id)).Nodup)
    (hfix : st.cfg.fixes.readCredit = true)
    {id : Nat} {s : Stream} (hf : findStream st.streams id = some s) (k : Nat) (hk : k ≤ s.buffered) :
    Balanced T S (readK st s k).1 := by
  refine readK_cases (fun x => Balanced T S x.1) st s k
    (fun b => c_readCore h hnd hf (s' := { s with bytesRemain := b }) rfl rfl rfl rfl rfl k hk) (fun _ _ _ => ?_)
  refine readOverlong_cases (fun x => Balanced T S x.1) st s k (fun _ => ?_) (fun h0 => by rw [hfix] at h0; cases h0)
  exact c_closeCredit h hnd hf (s' := { s with buffered := s.buffered - k, readErr := true }) rfl rfl k
    (by simp only; omega) (Or.inr rfl)

theorem sumBuffered_append (l : List Stream) (s : Stream) :
    sumBuffered (l ++ [s]) = sumBuffered l + s.buffered := by
  induction l with
  | nil => simp [sumBuffered]
  | cons a l ih => simp only [List.cons_append, sumBuffered, ih]; omega

theorem c_doOpen {st : State} (h : CInv T S (rview st)) (rq : Req) :
    CInv T S (rview (doOpen st rq).1) := by
  simp only [doOpen]
  refine { conn := ?_, connFresh := h.connFresh, strm := ?_, strmFresh := ?_, sInit := h.sInit }
  · have := h.conn
    simp only [rview, sumBuffered_append] at *
    omega
  · intro s hs hb hre
    simp only [rview, List.mem_append, List.mem_singleton] at hs
    rcases hs with hs | rfl
    · exact h.strm s hs hb hre
    · have := h.sInit; simp only [rview] at this; simp only [this]; omega
  · intro s hs
    simp only [rview, List.mem_append, List.mem_singleton] at hs
    rcases hs with hs | rfl
    · exact h.strmFresh s hs
    · exact Or.inl rfl

theorem c_resumePending {st : State} (h : CInv T S (rview st)) : CInv T S (rview (resumePending st).1) :=
  resumePending_cases (fun x => CInv T S (rview x.1)) st (fun _ => h) (fun _ _ _ _ => h) (fun _ _ => h)
    (fun _ _ _ _ _ => c_doOpen (st := { st with pendingOpen := none }) h _)

theorem sumBuffered_map (l : List Stream) (f : Stream → Stream) (hf : ∀ s, (f s).buffered = s.buffered) :
    sumBuffered (l.map f) = sumBuffered l := by
  induction l with
  | nil => rfl
  | cons a l ih => simp only [List.map, sumBuffered, hf, ih]

theorem c_applySettings {vals : List (Nat × Nat)} {st st' : State} {sm sm' : Bool}
    (h : CInv T S (rview st)) (heq : applySettings st sm vals = some (st', sm')) : CInv T S (rview st') := by
  obtain ⟨mf, mc, iw, o, rfl⟩ := applySettings_touch heq
  refine { conn := ?_, connFresh := h.connFresh, strm := ?_, strmFresh := ?_, sInit := h.sInit }
  · have := h.conn
    simp only [rview] at *
    rw [sumBuffered_map _ (fun s => { s with out := o s }) (fun s => rfl)]
    exact this
  · intro s hs hb hre
    obtain ⟨y, hy, rfl⟩ := List.mem_map.mp hs
    exact h.strm y hy hb hre
  · intro s hs
    obtain ⟨y, hy, rfl⟩ := List.mem_map.mp hs
    exact h.strmFresh y hy

theorem c_peerSettings {st : State} (h : CInv T S (rview st)) (vals : List (Nat × Nat)) :
    CInv T S (rview (peerSettings st vals).1) := by
  exact peerSettings_cases (fun x => CInv T S (rview x.1)) st vals (fun _ => h)
    (fun _ _ hs _ => c_applySettings h hs) (fun st1 _ hs _ => (c_applySettings h hs : CInv T S (rview st1)))

theorem c_abortAbove (last : Nat) (ids : List Nat) :
    ∀ {st : State} {m : Send}, SInv (view st) m → CInv T S (rview st) →
    CInv T S (rview (abortAbove last ids st).1) := by
  intro st m hs h
  refine abortAbove_induction (P := fun st x => ∀ m, SInv (view st) m → CInv T S (rview st) → CInv T S (rview x.1)) last
    (fun _ _ _ h => h) (fun st s _ x hf hl hx m hs h => ?_) ids st m hs h
  obtain ⟨m1, _, hs1⟩ := sim_terminate_client hs hf hl
  exact hx m1 hs1 (c_terminate h hs.nodup false hf (s' := s))

/-- `n` bytes taken from the connection window and handed back: the connection account is as before -/
theorem take_add_credit {f ci ci' : Inflow} {n connAdd : Int} (hn : 0 ≤ n) (hT : Inflow.take f n = (ci, true))
    (hadd : Inflow.add ci n = .ok (ci', connAdd)) : ci'.avail + ci'.unsent = f.avail + f.unsent ∧ Fresh ci' := by
  obtain ⟨_, t1, t2⟩ := Inflow.take_spec hT
  obtain ⟨k, rfl⟩ : ∃ k : Nat, n = k := ⟨n.toNat, by omega⟩
  obtain ⟨a1, a2⟩ := add_credit hadd
  exact ⟨by omega, a2⟩

theorem c_discardData {st : State} (h : CInv T S (rview st)) (hnd : (st.streams.map (·.id)).Nodup)
    {id : Nat} {s : Stream} (hf : findStream st.streams id = some s) (flen : Int) :
    Balanced T S (discardData st s flen).1 := by
  have hterm : CInv T S (rview (terminate st s false).1) := c_terminate h hnd false hf
  refine discardData_cases (fun x => Balanced T S x.1) st s flen (Or.inl ⟨rfl, rfl⟩) (Or.inr h) (fun _ => Or.inr hterm)
    (fun ci ci' connAdd _ hpos hT hadd => ?_)
  obtain ⟨a1, a2⟩ := take_add_credit (Int.le_of_lt hpos) hT hadd
  refine Or.inr { conn := ?_, connFresh := a2, strm := hterm.strm, strmFresh := hterm.strmFresh, sInit := hterm.sInit }
  have hc := hterm.conn
  have hci : (terminate st s false).1.connIn = st.connIn := congrArg RView.connIn (rview_terminate st s false)
  simp only [rview] at hc ⊢
  rw [hci] at hc
  omega

theorem c_peerData {st : State} (h : CInv T S (rview st)) (hnd : (st.streams.map (·.id)).Nodup)
    (id len pad : Nat) (es : Bool) : Balanced T S (peerData st id len pad es).1 := by
  refine peerData_cases (fun x => Balanced T S x.1) st id len pad es (fun _ => Or.inr h) (Or.inl ⟨rfl, rfl⟩) (Or.inr h)
    (fun ci ci' connAdd hT hadd => ?_) (fun s hf _ => c_discardData h hnd hf _)
    (fun s ci si ci' sendConn si' sendStream hfl _ _ hT hc hs => ?_)
    (fun s hf _ _ _ => Or.inr (c_settle h hnd hf))
  · obtain ⟨a1, a2⟩ := take_add_credit (by omega) hT hadd
    refine Or.inr { conn := ?_, connFresh := a2, strm := h.strm, strmFresh := h.strmFresh, sInit := h.sInit }
    have := h.conn
    simp only [rview] at *
    omega
  · have hmem := (findStream_mem hfl).1
    obtain ⟨_, _, t1, t2, t3, t4⟩ := takeInflows_spec hT
    obtain ⟨a1, a2⟩ := add_credit hc
    obtain ⟨b1, b2⟩ := add_credit hs
    refine Or.inr ?_
    rw [rview_settle]
    refine cinv_set h (v := rview st) hnd hfl (ci := ci') (by split <;> rfl) ?_ a2 ?_ (by split <;> exact b2)
    · simp only [rview] at *
      split <;> simp only <;> omega
    · intro hb hre
      have hb' : s.broken = false := by split at hb <;> exact hb
      have hre' : s.readErr = false := by split at hre <;> exact hre
      have := h.strm s hmem hb' hre'
      split <;> simp only <;> omega

theorem c_peer {st : State} {m : Send} (hs : SInv (view st) m) (h : CInv T S (rview st)) (f : PFrame) :
    Balanced T S (Conn.peer st f).1 := by
  have hnd := hs.nodup
  cases f with
  | settings vals => exact Or.inr (c_peerSettings h vals)
  | settingsAck =>
    exact Or.inr (peerSettingsAck_cases (fun x => CInv T S (rview x.1)) st (fun _ => h) h)
  | windowUpdate id inc =>
    exact Or.inr (peerWindowUpdate_cases (fun x => CInv T S (rview x.1)) st id inc h h (fun _ _ _ => h)
      (fun _ _ hf _ => c_terminate h hnd false hf)
      (fun _ _ _ hf _ _ => cinv_set_same h (v := rview st) hnd hf))
  | rst id code =>
    exact Or.inr (peerRst_cases (fun x => CInv T S (rview x.1)) st id code h (fun _ hf _ =>
      c_terminate (st := { st with doNotReuse := st.doNotReuse || decide (code = 1) }) h hnd true hf))
  | goaway last => exact Or.inr (c_abortAbove last _ (st := { st with goAway := true }) hs h)
  | resp id es status cl =>
    exact Or.inr (peerResp_cases (fun x => CInv T S (rview x.1)) st id es status cl h h
      (fun _ hf _ => c_terminate h hnd false hf)
      (fun _ hf _ => cinv_set_same h (v := rview st) hnd hf)
      (fun _ hf _ _ => c_settle h hnd hf)
      (fun _ hf _ _ _ => c_settle h hnd hf))
  | data id len pad e => exact c_peerData h hnd id len pad e
  | ping ack d =>
    exact Or.inr (peerPing_cases (fun x => CInv T S (rview x.1)) st ack d h (fun _ => h))
  | pushPromise id p => exact Or.inr h

theorem c_apply {st : State} {m : Send} (hs : SInv (view st) m) (h : CInv T S (rview st))
    (op : Op) : Balanced T S (apply st op).1 := by
  have hnd := hs.nodup
  cases op with
  | openReq rq =>
    exact Or.inr (openStream_cases (fun x => CInv T S (rview x.1)) st rq h (fun _ _ => c_doOpen h rq) (fun _ _ => h))
  | feed id n =>
    exact Or.inr (feed_cases (fun x => CInv T S (rview x.1)) st id n h
      (fun _ _ hf => cinv_set_same h (v := rview st) hnd hf))
  | write id => exact Or.inr (c_write h hnd id)
  | cancel id =>
    exact Or.inr (cancel_cases (fun x => CInv T S (rview x.1)) st id h
      (fun _ hf _ => c_terminate h hnd false hf))
  | read id n =>
    have hfix : st.cfg.fixes.readCredit = true := by have := hs.fixes; simp only [view] at this; rw [this]; rfl
    exact read_cases (fun x => Balanced T S x.1) st id n (Or.inr h) (fun _ _ hf _ hk => c_readK h hnd hfix hf _ hk)
  | close id =>
    exact close_cases (fun x => Balanced T S x.1) st id (fun _ => Or.inr h) (fun s hf =>
      c_closeCredit h hnd hf (s' := { s with broken := true, buffered := 0 }) rfl rfl s.buffered (by simp) (Or.inl rfl))
  | wake => exact Or.inr h
  | peer f => exact c_peer hs h f

theorem balanced_step {st : State} {m : Send} (hs : SInv (view st) m) (h : Balanced T S st) (op : Op) :
    Balanced T S (step st op).1 := by
  have hcinv : st.closed = false → CInv T S (rview st) := fun hc => by
    rcases h with ⟨_, h2⟩ | h
    · rw [hc] at h2; cases h2
    · exact h
  refine step_cases (fun x => Balanced T S x.1) st op (fun _ => h) (fun hc _ => c_apply hs (hcinv hc) op) (fun hc => ?_)
  rcases c_apply hs (hcinv hc) op with ⟨p1, p2⟩ | h1
  · -- a panicked connection is closed: nothing is resumed
    obtain ⟨q1, q2, _⟩ := resumePending_closed p2
    exact Or.inl ⟨q2.trans p1, q1⟩
  · exact Or.inr (c_resumePending h1)

theorem balanced_runFrom (ops : List Op) (hok : ∀ op ∈ ops, op.ok) :
    ∀ {st : State} {m m0 : Send} {hist : List Event},
    Send.run m0 hist = .ok m → SInv (view st) m → Balanced T S st → Balanced T S (runFrom st hist ops).1 := by
  intro st m m0 hist hr hs h
  exact (sinv_along (Q := fun st _ => Balanced T S st) ops hok (fun op _ hs h => balanced_step hs h op) hr hs h).2

theorem cinv_init (cfg : Cfg) :
    CInv (connInflowInit cfg.connFlow) (streamInflow0 cfg) (rview (newConn cfg).1) :=
  { conn := by simp [rview, newConn, sumBuffered],
    connFresh := Or.inl rfl,
    strm := (by intro s hs; simp [rview, newConn] at hs),
    strmFresh := (by intro s hs; simp [rview, newConn] at hs),
    sInit := rfl }

end

end Req.Lemmas.C06
