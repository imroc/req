import Req.Client.Multipart
import Req.Lemmas.Form
import Req.Lemmas.TrimBy
/-!
Header values of the multipart path, written and read back. `consumeQuoted` reads, byte by byte, what
`quote` / `escapeQuotes` wrote (`consumeQuoted_*`); `parseParams` takes one rendered parameter per step
(`parseParams_step`, `_step_token`); `parseMediaType` of `type ++ params` (`parseMediaType_typed`), for
the Content-Disposition of a part (`parseMediaType_cdParams`, under `GoodParams`) and for the
Content-Type of the request (`content_type_boundary`). `byte_classes`: how the byte classes involved lie
in one another.
-/
namespace Req.Multipart
open Req.Proto Req.Ascii
open Req.Trim (takeWhile_pad dropWhile_pad takeWhile_all dropWhile_all)

theorem consumeQuoted_close (r : Bytes) : consumeQuoted (34 :: r) = some ([], r) := by
  conv => lhs; rw [consumeQuoted.eq_def]
  simp

theorem consumeQuoted_esc (d : UInt8) (r : Bytes) (h : isTSpecial d = true) :
    consumeQuoted (92 :: d :: r) = (consumeQuoted r).map fun x => (d :: x.1, x.2) := by
  conv => lhs; rw [consumeQuoted.eq_def]
  simp [h]

theorem consumeQuoted_lit (c : UInt8) (r : Bytes) (h34 : (c == 34) = false) (h92 : (c == 92) = false)
    (h13 : (c == 13) = false) (h10 : (c == 10) = false) :
    consumeQuoted (c :: r) = (consumeQuoted r).map fun x => (c :: x.1, x.2) := by
  conv => lhs; rw [consumeQuoted.eq_def]
  simp [h34, h92, h13, h10]

/-- `\` and `"` backslash-escaped, any other byte but CR and LF as it is: read back as the byte. -/
theorem consumeQuoted_escaped (c : UInt8) (r : Bytes) (h13 : (c == 13) = false) (h10 : (c == 10) = false) :
    consumeQuoted ((if c == 92 then [92, 92] else if c == 34 then [92, 34] else [c]) ++ r) =
      (consumeQuoted r).map fun x => (c :: x.1, x.2) := by
  split
  next h => rw [eq_of_beq h]; exact consumeQuoted_esc 92 r (by decide)
  next h92 =>
    split
    next h => rw [eq_of_beq h]; exact consumeQuoted_esc 34 r (by decide)
    next h34 => exact consumeQuoted_lit c r (by simpa using h34) (by simpa using h92) h13 h10

theorem upperHex_plain : ∀ d, d < 16 →
    (Req.Form.upperHex d == 34) = false ∧ (Req.Form.upperHex d == 92) = false ∧
    (Req.Form.upperHex d == 13) = false ∧ (Req.Form.upperHex d == 10) = false ∧
    headerUnsafe (Req.Form.upperHex d) = false := by decide +kernel

/-- How the byte classes of the multipart path lie in one another — header-name bytes
(`isTokenByte`), header-value bytes (`validValueByte`, `headerUnsafe`), MIME token characters
(`isTokenChar`), RFC 7230 `tchar`s (`isTChar`), blanks — in one pass over the 256 bytes. -/
theorem byte_classes : ∀ c : UInt8,
    (isTokenByte c = true → c ≠ 10 ∧ c ≠ 58 ∧ (c == 32) = false ∧ isLWS c = false) ∧
    (validValueByte c = true → c ≠ 10) ∧
    (headerUnsafe c = false → (c == 13) = false ∧ (c == 10) = false) ∧
    (isTokenChar c = true → isBlank c = false ∧ validValueByte c = true) ∧
    (isTChar c = true → isTokenChar c = true) := by
  apply Req.U8.forall_uint8
  decide +kernel

theorem tokenByte_not_separator : ∀ c : UInt8, isTokenByte c = true →
    c ≠ 10 ∧ c ≠ 58 ∧ (c == 32) = false ∧ isLWS c = false :=
  fun c => (byte_classes c).1

theorem validValueByte_ne_lf : ∀ c : UInt8, validValueByte c = true → c ≠ 10 :=
  fun c => (byte_classes c).2.1

theorem headerSafe_not_crlf : ∀ c : UInt8, headerUnsafe c = false → (c == 13) = false ∧ (c == 10) = false :=
  fun c => (byte_classes c).2.2.1

theorem token_not_blank : ∀ c : UInt8, isTokenChar c = true → isBlank c = false :=
  fun c h => ((byte_classes c).2.2.2.1 h).1

theorem tokenChar_valid : ∀ c : UInt8, isTokenChar c = true → validValueByte c = true :=
  fun c h => ((byte_classes c).2.2.2.1 h).2

theorem tchar_token : ∀ c : UInt8, isTChar c = true → isTokenChar c = true :=
  fun c => (byte_classes c).2.2.2.2

theorem consumeQuoted_pct (c : UInt8) (r : Bytes) :
    consumeQuoted (pctByte c ++ r) = (consumeQuoted r).map fun x => (pctByte c ++ x.1, x.2) := by
  obtain ⟨a1, a2, a3, a4, -⟩ := upperHex_plain _ (Req.Form.toNat_div16_lt c)
  obtain ⟨b1, b2, b3, b4, -⟩ := upperHex_plain _ (Req.Form.toNat_mod16_lt c)
  simp only [pctByte, List.cons_append, List.nil_append]
  rw [consumeQuoted_lit 37 _ (by decide) (by decide) (by decide) (by decide),
    consumeQuoted_lit _ _ a1 a2 a3 a4, consumeQuoted_lit _ _ b1 b2 b3 b4]
  cases consumeQuoted r <;> simp

theorem consumeQuoted_quoteByte (c : UInt8) (r : Bytes) :
    consumeQuoted (quoteByte c ++ r) = (consumeQuoted r).map fun x => (arriveByte c ++ x.1, x.2) := by
  unfold quoteByte arriveByte
  cases hu : headerUnsafe c
  · obtain ⟨h13, h10⟩ := headerSafe_not_crlf c hu
    simpa using consumeQuoted_escaped c r h13 h10
  · have h92 : (c == 92) = false := by rw [beq_eq_false_iff_ne]; rintro rfl; cases hu
    have h34 : (c == 34) = false := by rw [beq_eq_false_iff_ne]; rintro rfl; cases hu
    simpa [h92, h34] using consumeQuoted_pct c r

theorem consumeQuoted_quote (s r : Bytes) :
    consumeQuoted (quote s ++ 34 :: r) = some (arrive s, r) := by
  induction s with
  | nil => simp [quote, arrive, consumeQuoted_close]
  | cons c cs ih =>
    have h1 : quote (c :: cs) = quoteByte c ++ quote cs := by simp [quote]
    have h2 : arrive (c :: cs) = arriveByte c ++ arrive cs := by simp [arrive]
    rw [h1, h2, List.append_assoc, consumeQuoted_quoteByte, ih]
    simp

theorem arrive_eq_self (s : Bytes) (h : ∀ c ∈ s, headerUnsafe c = false) : arrive s = s :=
  Req.Form.flatMap_self _ s fun c hc => by simp [arriveByte, h c hc]

theorem arrive_ne_nil (s : Bytes) (h : s ≠ []) : arrive s ≠ [] := by
  cases s with
  | nil => exact absurd rfl h
  | cons c cs =>
    simp only [arrive, List.flatMap_cons]
    unfold arriveByte pctByte
    split <;> simp

theorem quote_valid (s : Bytes) : ∀ c ∈ quote s, validValueByte c = true := by
  intro c hc
  simp only [quote, List.mem_flatMap] at hc
  obtain ⟨x, -, hx⟩ := hc
  unfold quoteByte at hx
  split at hx
  · simp at hx; rcases hx with rfl | rfl <;> decide
  · split at hx
    · simp at hx; rcases hx with rfl | rfl <;> decide
    · split at hx
      · simp [pctByte] at hx
        rcases hx with rfl | rfl | rfl
        · decide
        · simp [validValueByte, (upperHex_plain _ (Req.Form.toNat_div16_lt x)).2.2.2.2]
        · simp [validValueByte, (upperHex_plain _ (Req.Form.toNat_mod16_lt x)).2.2.2.2]
      next hu =>
        simp at hx; subst hx
        simp [validValueByte] at hu ⊢
        exact hu

theorem consumeQuoted_escapeQuotes (s r : Bytes) (h : ∀ c ∈ s, (c == 13) = false ∧ (c == 10) = false) :
    consumeQuoted (escapeQuotes s ++ 34 :: r) = some (s, r) := by
  induction s with
  | nil => exact consumeQuoted_close r
  | cons c cs ih =>
    rw [List.forall_mem_cons] at h
    rw [escapeQuotes, List.flatMap_cons, List.append_assoc, consumeQuoted_escaped c _ h.1.1 h.1.2]
    exact congrArg _ (ih h.2)

/-- How `parseParams` scans `; key=` in front of a value: the blanks skipped, the key cut off. -/
theorem scan_key (k rest : Bytes) (hk : k ≠ []) (hkt : ∀ x ∈ k, isTokenChar x = true) :
    skipWs (59 :: 32 :: (k ++ 61 :: rest)) = 59 :: 32 :: (k ++ 61 :: rest) ∧
    skipWs (32 :: (k ++ 61 :: rest)) = k ++ 61 :: rest ∧
    (k ++ 61 :: rest).takeWhile isTokenChar = k ∧
    (k ++ 61 :: rest).dropWhile isTokenChar = 61 :: rest ∧
    skipWs (61 :: rest) = 61 :: rest ∧ k.isEmpty = false := by
  obtain ⟨k0, ks, rfl⟩ := List.exists_cons_of_ne_nil hk
  have hb0 := token_not_blank k0 (hkt k0 (by simp))
  exact ⟨rfl, by simp [skipWs, List.dropWhile, show isBlank 32 = true by decide, hb0],
    takeWhile_pad hkt (by rintro _ ⟨⟩; decide), dropWhile_pad hkt (by rintro _ ⟨⟩; decide), rfl, rfl⟩

theorem parseParams_step (fuel : Nat) (k q val R : Bytes)
    (hk : k ≠ []) (hkt : ∀ x ∈ k, isTokenChar x = true)
    (hq : consumeQuoted (q ++ 34 :: R) = some (val, R)) :
    parseParams (fuel + 1) ([59, 32] ++ k ++ [61, 34] ++ q ++ [34] ++ R) =
      match parseParams fuel R with
      | .error e => .error e
      | .ok ps => .ok ((lower k, val) :: ps) := by
  obtain ⟨hs1, hs2, htk, hdk, hs3, hne⟩ := scan_key k (34 :: (q ++ 34 :: R)) hk hkt
  rw [show ([59, 32] ++ k ++ [61, 34] ++ q ++ [34] ++ R : Bytes) = 59 :: 32 :: (k ++ 61 :: (34 :: (q ++ 34 :: R))) by simp]
  conv => lhs; rw [parseParams.eq_def]
  have hs4 : skipWs (34 :: (q ++ 34 :: R)) = 34 :: (q ++ 34 :: R) := rfl
  simp only [hs1, hs2, htk, hdk, hs3, hs4, hq]
  cases parseParams fuel R <;> simp [hne]

theorem parseParams_nil (fuel : Nat) : parseParams (fuel + 1) [] = .ok [] := by
  simp [parseParams, skipWs]

theorem cdParam_shape (p : Bytes × Bytes) (R : Bytes) :
    cdParam p ++ R = [59, 32] ++ p.1 ++ [61, 34] ++ quote p.2 ++ [34] ++ R := by
  simp [cdParam]

theorem parseParams_cdParams (l : List (Bytes × Bytes)) (fuel : Nat) (hf : l.length < fuel)
    (hk : ∀ p ∈ l, p.1 ≠ [] ∧ ∀ x ∈ p.1, isTokenChar x = true) :
    parseParams fuel (l.flatMap cdParam) = .ok (l.map fun p => (lower p.1, arrive p.2)) := by
  induction l generalizing fuel with
  | nil =>
    obtain ⟨n, rfl⟩ : ∃ n, fuel = n + 1 := ⟨fuel - 1, by simp at hf; omega⟩
    simp [parseParams_nil]
  | cons p ps ih =>
    obtain ⟨n, rfl⟩ : ∃ n, fuel = n + 1 := ⟨fuel - 1, by simp at hf; omega⟩
    have hp := hk p (by simp)
    have := ih n (by simp at hf; omega) (fun q hq => hk q (List.mem_cons_of_mem _ hq))
    rw [List.flatMap_cons, cdParam_shape,
      parseParams_step n p.1 (quote p.2) (arrive p.2) _ hp.1 hp.2 (consumeQuoted_quote _ _), this]
    simp

theorem dupConflict_nodup (ps : List (Bytes × Bytes)) (h : (ps.map (·.1)).Nodup) :
    dupConflict ps = false := by
  induction ps with
  | nil => simp [dupConflict]
  | cons p ps ih =>
    simp only [List.map_cons, List.nodup_cons] at h
    simp only [dupConflict, ih h.2, Bool.or_false]
    rw [Bool.eq_false_iff]
    intro hany
    simp only [List.any_eq_true, Bool.and_eq_true, beq_iff_eq] at hany
    obtain ⟨q, hq, hqe, -⟩ := hany
    exact h.1 (List.mem_map.mpr ⟨q, hq, hqe⟩)

/-- A media type as `parseMediaType` hands it back: trimmed and in lower case, valid, without `;`. -/
def IsMediaType (t : Bytes) : Prop :=
  lower (((t.reverse.dropWhile isBlank).reverse).dropWhile isBlank) = t ∧ validType t = true ∧
    ∀ x ∈ t, (x != 59) = true

theorem formData_type : IsMediaType formData := by unfold IsMediaType; decide

theorem parseMediaType_typed (t params : Bytes) (ps : List (Bytes × Bytes)) (ht : IsMediaType t)
    (hstart : params = [] ∨ ∃ r, params = 59 :: r)
    (hp : parseParams ((t ++ params).length + 1) params = .ok ps)
    (hstar : ps.any (fun p => p.1.contains 42) = false) (hdup : dupConflict ps = false) :
    parseMediaType (t ++ params) = .ok (t, ps) := by
  have hhead : ∀ a ∈ params.head?, (fun c : UInt8 => c != 59) a = false := by
    rcases hstart with rfl | ⟨r, rfl⟩
    · nofun
    · rintro _ ⟨⟩; decide
  have hbase : (t ++ params).takeWhile (fun c => c != 59) = t := takeWhile_pad ht.2.2 hhead
  have hrest : (t ++ params).dropWhile (fun c => c != 59) = params := dropWhile_pad ht.2.2 hhead
  unfold parseMediaType
  simp only [hbase, hrest, ht.1, ht.2.1, hp, hstar, hdup]
  simp

/-- One parameter. Reading it takes two units of fuel, one for the parameter and one for the end of
the list (`parseParams_step` / `_step_token`, `parseParams_nil`); `params` begins with `;`, so the fuel
`parseMediaType` supplies, `(t ++ params).length + 1`, is at least that. -/
theorem parseMediaType_single (t params k val : Bytes) (ht : IsMediaType t)
    (hstart : ∃ r, params = 59 :: r) (hp : ∀ n, parseParams (n + 2) params = .ok [(k, val)])
    (hstar : k.contains 42 = false) :
    parseMediaType (t ++ params) = .ok (t, [(k, val)]) := by
  refine parseMediaType_typed t params _ ht (.inr hstart) ?_ (by simpa using hstar) (by simp [dupConflict])
  obtain ⟨r, rfl⟩ := hstart
  rw [show (t ++ 59 :: r).length + 1 = (t ++ r).length + 2 by simp; omega]
  exact hp _

/-- Keys of a parameter list that `mime.ParseMediaType` can carry: non-empty tokens, no `*`,
pairwise different after lower-casing. -/
def GoodParams (l : List (Bytes × Bytes)) : Prop :=
  (∀ p ∈ l, p.1 ≠ [] ∧ (∀ x ∈ p.1, isTokenChar x = true) ∧ (lower p.1).contains 42 = false) ∧
  (l.map fun p => lower p.1).Nodup

theorem length_flatMap_cdParam (l : List (Bytes × Bytes)) : l.length ≤ (l.flatMap cdParam).length := by
  induction l with
  | nil => simp
  | cons p ps ih =>
    have : 1 ≤ (cdParam p).length := by simp [cdParam]
    rw [List.flatMap_cons, List.length_append, List.length_cons]; omega

theorem parseMediaType_cdParams (l : List (Bytes × Bytes)) (hg : GoodParams l) :
    parseMediaType (formData ++ l.flatMap cdParam)
      = .ok (formData, l.map fun p => (lower p.1, arrive p.2)) := by
  apply parseMediaType_typed formData _ _ formData_type
  · cases l with
    | nil => left; rfl
    | cons p ps =>
      right
      refine ⟨[32] ++ p.1 ++ [61, 34] ++ quote p.2 ++ [34] ++ ps.flatMap cdParam, ?_⟩
      simp [cdParam]
  · apply parseParams_cdParams
    · have := length_flatMap_cdParam l
      rw [List.length_append]; omega
    · intro p hp; exact ⟨(hg.1 p hp).1, (hg.1 p hp).2.1⟩
  · rw [Bool.eq_false_iff]
    intro h
    simp only [List.any_eq_true, List.mem_map] at h
    obtain ⟨q, ⟨p, hp, rfl⟩, hq⟩ := h
    have h42 := (hg.1 p hp).2.2
    simp at h42 hq
    exact h42 hq
  · apply dupConflict_nodup
    simpa [List.map_map, Function.comp_def] using hg.2

theorem parseMediaType_rawField (k : Bytes) (h : ∀ c ∈ k, (c == 13) = false ∧ (c == 10) = false) :
    parseMediaType (rawFieldDisposition k) = .ok (formData, [(nameKey, k)]) := by
  rw [show rawFieldDisposition k = formData ++ ([59, 32] ++ nameKey ++ [61, 34] ++ escapeQuotes k ++ [34] ++ []) by
    simp [rawFieldDisposition]]
  refine parseMediaType_single _ _ _ _ formData_type ⟨_, rfl⟩
    (fun n => ?_) (by decide)
  rw [parseParams_step _ nameKey _ k [] (by decide) (by decide) (consumeQuoted_escapeQuotes k [] h), parseParams_nil]
  rfl

theorem consumeQuoted_plain (s r : Bytes)
    (h : ∀ c ∈ s, (c == 34) = false ∧ (c == 92) = false ∧ (c == 13) = false ∧ (c == 10) = false) :
    consumeQuoted (s ++ 34 :: r) = some (s, r) := by
  -- a string without `"` and `\` is its own `escapeQuotes`
  have := consumeQuoted_escapeQuotes s r fun c hc => (h c hc).2.2
  rwa [escapeQuotes, Req.Form.flatMap_self _ s fun c hc => by simp [(h c hc).1, (h c hc).2.1]] at this

theorem parseParams_step_token (fuel : Nat) (k tok : Bytes)
    (hk : k ≠ []) (hkt : ∀ x ∈ k, isTokenChar x = true)
    (ht : tok ≠ []) (htt : ∀ x ∈ tok, isTokenChar x = true) :
    parseParams (fuel + 2) ([59, 32] ++ k ++ [61] ++ tok) = .ok [(lower k, tok)] := by
  obtain ⟨hs1, hs2, htk, hdk, hs3, hne⟩ := scan_key k tok hk hkt
  obtain ⟨t0, ts, rfl⟩ := List.exists_cons_of_ne_nil ht
  have ht0 : isTokenChar t0 = true := htt t0 (by simp)
  have hs4 : skipWs (t0 :: ts) = t0 :: ts := by simp [skipWs, List.dropWhile, token_not_blank t0 ht0]
  rw [show ([59, 32] ++ k ++ [61] ++ (t0 :: ts) : Bytes) = 59 :: 32 :: (k ++ 61 :: (t0 :: ts)) by simp]
  conv => lhs; rw [parseParams.eq_def]
  simp only [hs1, hs2, htk, hdk, hs3, hs4, hne, show ((59 : UInt8) != 59) = false by decide,
    Bool.false_eq_true, ↓reduceIte]
  split
  next r4 heq =>
    -- a token does not start with `"`
    injection heq with h1 _
    rw [h1] at ht0; cases ht0
  next => simp [takeWhile_all htt, dropWhile_all htt, parseParams_nil]

/-- A name made of bytes a header can carry (TAB, quotes, backslashes, non-ASCII and invalid UTF-8
included) is read back exactly. -/
theorem quote_roundtrip (s rest : Bytes) (h : ∀ c ∈ s, headerUnsafe c = false) :
    consumeQuoted (quote s ++ 34 :: rest) = some (s, rest) := by
  rw [consumeQuoted_quote, arrive_eq_self s h]

theorem boundaryChar_facts : ∀ c : UInt8, boundaryChar c = true →
    ((c == 34) = false ∧ (c == 92) = false ∧ (c == 13) = false ∧ (c == 10) = false) ∧
    ((isTSpecial c || c == 32) = false → isTokenChar c = true) := by
  apply Req.U8.forall_uint8
  decide +kernel

/-- For every boundary `Writer.SetBoundary` accepts, the Content-Type header written by
`FormDataContentType` (quoted when the boundary contains tspecials or spaces) is parsed by the server
(`mime.ParseMediaType`) as `multipart/form-data` with exactly that boundary. -/
theorem content_type_boundary (b : Bytes) (hv : validBoundary b = true) :
    parseMediaType (formDataContentType b) = .ok (multipartFormData, [(boundaryKey, b)]) := by
  simp only [validBoundary, Bool.and_eq_true, List.all_eq_true, decide_eq_true_eq] at hv
  obtain ⟨⟨⟨hlen, -⟩, hchars⟩, -⟩ := hv
  have hne : b ≠ [] := by intro e; subst e; simp at hlen
  have hmt : IsMediaType multipartFormData := by unfold IsMediaType; decide +kernel
  obtain ⟨c4, c5, c6, c7⟩ : boundaryKey ≠ [] ∧ (∀ x ∈ boundaryKey, isTokenChar x = true) ∧
      lower boundaryKey = boundaryKey ∧ boundaryKey.contains 42 = false := by decide
  unfold formDataContentType
  split
  next hq =>
    rw [show multipartFormData ++ [59, 32] ++ boundaryKey ++ [61] ++ ([34] ++ b ++ [34])
        = multipartFormData ++ ([59, 32] ++ boundaryKey ++ [61, 34] ++ b ++ [34] ++ []) by simp]
    refine parseMediaType_single _ _ _ _ hmt ⟨_, rfl⟩ (fun n => ?_) c7
    rw [parseParams_step _ boundaryKey b b [] c4 c5
      (consumeQuoted_plain b [] fun c hc => (boundaryChar_facts c (hchars c hc)).1), parseParams_nil, c6]
  next hq =>
    have htok : ∀ c ∈ b, isTokenChar c = true := fun c hc =>
      (boundaryChar_facts c (hchars c hc)).2
        (Bool.eq_false_iff.mpr fun h => hq (List.any_eq_true.mpr ⟨c, hc, h⟩))
    rw [show multipartFormData ++ [59, 32] ++ boundaryKey ++ [61] ++ b
        = multipartFormData ++ ([59, 32] ++ boundaryKey ++ [61] ++ b) by simp]
    refine parseMediaType_single _ _ _ _ hmt ⟨_, rfl⟩ (fun n => ?_) c7
    rw [parseParams_step_token n boundaryKey b c4 c5 hne htok, c6]

end Req.Multipart
