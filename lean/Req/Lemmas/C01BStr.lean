import Req.Base.BStr
namespace Req.BStr
open Req.Proto

theorem cut_append (sep : UInt8) (a b : Bytes) (h : ∀ x ∈ a, x ≠ sep) :
    cut sep (a ++ sep :: b) = (a, b, true) := by
  induction a with
  | nil => simp [cut]
  | cons c a ih =>
    have hc : (c == sep) = false := by simpa using h c (by simp)
    simp only [List.cons_append, cut, hc, Bool.false_eq_true, if_false]
    rw [ih (fun x hx => h x (by simp [hx]))]

theorem count_append (c : UInt8) (a b : Bytes) : count c (a ++ b) = count c a + count c b := by
  simp [count, List.countP_append]

theorem count_cons (c x : UInt8) (a : Bytes) :
    count c (x :: a) = count c a + (if x == c then 1 else 0) := by
  simp [count, List.countP_cons]

theorem count_eq_zero_of_not_mem (c : UInt8) (s : Bytes) (h : ∀ b ∈ s, b ≠ c) : count c s = 0 := by
  unfold count
  rw [List.countP_eq_zero]
  intro b hb
  simpa using h b hb

theorem replaceAux_count (c : UInt8) (old new : Bytes) (hnew : count c new = 0) :
    ∀ (s : Bytes) (skip : Nat), count c (replaceAux old new skip s) ≤ count c s := by
  intro s
  induction s with
  | nil => intro skip; cases skip <;> simp [replaceAux]
  | cons x t ih =>
    intro skip
    cases skip with
    | succ k =>
      simp only [replaceAux]
      have := ih k
      rw [count_cons]
      omega
    | zero =>
      simp only [replaceAux]
      split
      · rw [count_append, hnew, count_cons]
        have := ih (old.length - 1)
        omega
      · rw [count_cons, count_cons]
        have := ih 0
        omega

theorem insertBy_perm {β} (le : β → β → Bool) (x : β) (l : List β) :
    (insertBy le x l).Perm (x :: l) := by
  induction l with
  | nil => simp [insertBy]
  | cons y ys ih =>
    unfold insertBy
    split
    · exact List.Perm.refl _
    · exact (List.Perm.cons y ih).trans (List.Perm.swap x y ys)

theorem isortBy_perm {β} (le : β → β → Bool) (l : List β) : (isortBy le l).Perm l := by
  induction l with
  | nil => simp [isortBy]
  | cons x xs ih =>
    unfold isortBy at ih ⊢
    simp only [List.foldr_cons]
    exact (insertBy_perm le x _).trans (List.Perm.cons x ih)

end Req.BStr
