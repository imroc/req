import Req.H3.Stream
import Req.Lemmas.C05H3
/-!
Lemmas for `Req.Props.C05H3Stream`: fuel of `parseNext` is irrelevant once it exceeds the input
length; one-frame steps of `parseNext` for ANY varint encodings; the consumer loop `parseStream`
over a sequence of complete frames. (SETTINGS payloads: `Req.Lemmas.C05H3`.)
-/
namespace Req.Lemmas.C05.H3Stream
open Req.Proto Req.H3.Varint Req.H3.Frame Req.H3.Stream Req.Lemmas.C05.Varint Req.Lemmas.C05.H3

theorem isVarint_ne_nil (e : Bytes) (v : Nat) (h : IsVarint e v) : e ≠ [] := by
  intro he
  have := h []
  rw [he] at this
  simp [Req.H3.Varint.read, parse] at this

theorem isVarint_length (e : Bytes) (v : Nat) (h : IsVarint e v) : 1 ≤ e.length := by
  have := isVarint_ne_nil e v h
  cases e with
  | nil => exact absurd rfl this
  | cons _ _ => simp

theorem parseNext_succ : ∀ (fuel : Nat) (input : Bytes), input.length < fuel →
    parseNext fuel input = parseNext (fuel + 1) input := by
  intro fuel
  induction fuel with
  | zero => intro input h; omega
  | succ n ih =>
    intro input h
    rw [parseNext, parseNext]
    cases h1 : Req.H3.Varint.read input with
    | error e => rfl
    | ok p1 =>
      obtain ⟨t, r1⟩ := p1
      simp only
      cases h2 : Req.H3.Varint.read r1 with
      | error e => rfl
      | ok p2 =>
        obtain ⟨l, r2⟩ := p2
        simp only
        have l1 := read_lt _ _ _ h1
        have l2 := read_lt _ _ _ h2
        have : (r2.drop l).length < n := by simp only [List.length_drop]; omega
        rw [ih _ this]

theorem parseNext_add (fuel k : Nat) (input : Bytes) (h : input.length < fuel) :
    parseNext fuel input = parseNext (fuel + k) input := by
  induction k with
  | zero => rfl
  | succ k ih => rw [ih, ← Nat.add_assoc, parseNext_succ (fuel + k) input (by omega)]

theorem parseNext_fuel (f1 f2 : Nat) (input : Bytes) (h1 : input.length < f1) (h2 : input.length < f2) :
    parseNext f1 input = parseNext f2 input := by
  rcases Nat.le_total f1 f2 with h | h
  · obtain ⟨k, rfl⟩ := Nat.exists_eq_add_of_le h
    exact parseNext_add f1 k input h1
  · obtain ⟨k, rfl⟩ := Nat.exists_eq_add_of_le h
    exact (parseNext_add f2 k input h2).symm

theorem isSkipped_iff (t : Nat) :
    isSkipped t = true ↔ t ≠ 0 ∧ t ≠ 1 ∧ t ≠ 4 ∧ isReservedType t = false := by
  simp [isSkipped, and_assoc]

section step
variable {te le : Bytes} {t l : Nat} (ht : IsVarint te t) (hl : IsVarint le l)
include ht hl

theorem parseNext_skip (fuel : Nat) (rest : Bytes) (hs : isSkipped t = true) (hle : l ≤ rest.length) :
    parseNext (fuel + 1) (te ++ (le ++ rest)) = parseNext fuel (rest.drop l) := by
  rw [H3.step_header ht hl]
  obtain ⟨h0, h1, h4, hr⟩ := (isSkipped_iff t).mp hs
  simp only [h0, h1, h4, hr, ↓reduceIte, Bool.false_eq_true]
  rw [if_neg (by omega)]

theorem parseNext_skip_short (fuel : Nat) (part : Bytes) (hs : isSkipped t = true) (hp : part.length < l) :
    parseNext (fuel + 1) (te ++ (le ++ part)) = (.error .unexpectedEOF, []) := by
  rw [H3.step_header ht hl]
  obtain ⟨h0, h1, h4, hr⟩ := (isSkipped_iff t).mp hs
  simp only [h0, h1, h4, hr, ↓reduceIte, Bool.false_eq_true, hp]

end step

theorem parseNext_no_type (fuel : Nat) (tail : Bytes) (e : PErr) (h : Req.H3.Varint.read tail = .error e) :
    parseNext (fuel + 1) tail = (.error (if tail.isEmpty then .eof else .unexpectedEOF), []) := by
  rw [parseNext, h]

theorem parseNext_no_length (fuel : Nat) (te tail : Bytes) (t : Nat) (ht : IsVarint te t) (e : PErr)
    (h : Req.H3.Varint.read tail = .error e) :
    parseNext (fuel + 1) (te ++ tail) = (.error .unexpectedEOF, []) := by
  rw [parseNext, ht tail]
  simp only
  rw [h]

theorem truncated_ne_eof (r : Except Err Frame × Bytes) : (truncated r).1 ≠ .error .eof := by
  obtain ⟨a, b⟩ := r
  cases a with
  | ok f => simp [truncated]
  | error e => cases e <;> simp [truncated]

/-- the five ways `ParseNext` treats a frame type. -/
theorem frameType_cases (t : Nat) :
    t = 0 ∨ t = 1 ∨ t = 4 ∨ (isReservedType t = true ∧ t ≠ 0 ∧ t ≠ 1 ∧ t ≠ 4) ∨ isSkipped t = true := by
  by_cases h0 : t = 0; · exact .inl h0
  by_cases h1 : t = 1; · exact .inr (.inl h1)
  by_cases h4 : t = 4; · exact .inr (.inr (.inl h4))
  cases hr : isReservedType t
  · exact .inr (.inr (.inr (.inr (by simp [isSkipped, h0, h1, h4, hr]))))
  · exact .inr (.inr (.inr (.inl ⟨rfl, h0, h1, h4⟩)))

/-- the SETTINGS branch returns a SETTINGS frame or an error. -/
theorem settingsBranch_ok {l : Nat} {rest : Bytes} {f : Frame}
    (h : (truncated (parseSettingsFrame l rest)).1 = .ok f) : ∃ s, f = .settings s := by
  unfold parseSettingsFrame at h
  split at h; · cases h
  split at h; · cases h
  split at h
  · next e _ => cases e <;> cases h
  · cases h; exact ⟨_, rfl⟩

theorem branch_eof (t l : Nat) (r2 : Bytes) (fuel : Nat) :
    (if t = 0 then ((.ok (.data l) : Except Err Frame), r2)
      else if t = 1 then (.ok (.headers l), r2)
      else if t = 4 then truncated (parseSettingsFrame l r2)
      else if isReservedType t then (.error (.reserved t), r2)
      else if r2.length < l then (.error .unexpectedEOF, [])
      else parseNext fuel (r2.drop l)).1 = .error .eof ↔
    (isSkipped t = true ∧ l ≤ r2.length ∧ (parseNext fuel (r2.drop l)).1 = .error .eof) := by
  rcases frameType_cases t with rfl | rfl | rfl | ⟨hr, h0, h1, h4⟩ | hs
  · simp [isSkipped]
  · simp [isSkipped]
  · simpa [isSkipped] using truncated_ne_eof _
  · simp [h0, h1, h4, hr, isSkipped]
  · obtain ⟨h0, h1, h4, hr⟩ := (isSkipped_iff t).mp hs
    by_cases hlt : r2.length < l
    · simp [h0, h1, h4, hr, hs, hlt, Nat.not_le_of_lt hlt]
    · simp [h0, h1, h4, hr, hs, hlt, Nat.le_of_not_lt hlt]

theorem parseStream_congr (m : Nat) (a b : Bytes)
    (h : parseNext (a.length + 1) a = parseNext (b.length + 1) b) :
    parseStream (m + 1) a = parseStream (m + 1) b := by
  rw [parseStream, parseStream, h]

/-- the consumer loop on one complete frame: its event, if it has one, and on with what follows. -/
theorem parseStream_frame (w : WFrame) (hw : w.Wf) (m : Nat) (X : Bytes) :
    parseStream (m + 1) (w.tEnc ++ (w.lEnc ++ (w.payload ++ X))) =
      match w.event with
      | some e => e :: parseStream m X
      | none => parseStream (m + 1) X := by
  obtain ⟨ht, hl, hp, hr, hset⟩ := hw
  by_cases h0 : w.t = 0
  · rw [parseStream, H3.step_header ht hl]
    simp [WFrame.event, h0, ← hp]
  by_cases h1 : w.t = 1
  · rw [parseStream, H3.step_header ht hl]
    simp [WFrame.event, h1, ← hp]
  by_cases h4 : w.t = 4
  · obtain ⟨hc, s, hs⟩ := hset h4
    rw [h4] at ht; rw [← hp] at hl hc
    rw [parseStream, H3.parseNext_settingsFrame ht hl hc]
    simp [WFrame.event, h4, hs, truncated, H3Settings.frameVerdict]
  · have hsk : isSkipped w.t = true := by simp [isSkipped, h0, h1, h4, hr]
    have := isVarint_length _ _ ht
    simp only [WFrame.event, h0, h1, h4, ↓reduceIte]
    apply parseStream_congr
    rw [parseNext_skip ht hl _ _ hsk (by simp [← hp]), List.drop_left' hp]
    exact parseNext_fuel _ _ _ (by simp only [List.length_append]; omega) (by omega)

end Req.Lemmas.C05.H3Stream
