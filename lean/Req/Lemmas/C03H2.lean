import Req.C03.H2Cut
/-!
C03 — HTTP/2 lemmas: normal forms of the read-loop transitions of `Req.C02.H2Stream`
(`processData`, `handleResponse`, `processHeaders`): every result is one of a few shapes, each with
the guards under which it arises.
-/
namespace Req.C03
open Req.Proto Req.C02

/-- `s1` differs from `s` only in fields the body reader never looks at. -/
structure CtlEq (s s1 : H2Stream) : Prop where
  pipe : s1.pipe = s.pipe
  readErr : s1.readErr = s.readErr
  bytesRemain : s1.bytesRemain = s.bytesRemain
  readClosed : s1.readClosed = s.readClosed
  readAborted : s1.readAborted = s.readAborted
  connDead : s1.connDead = s.connDead
  isHead : s1.isHead = s.isHead
  res : s1.res = s.res
  headErr : s1.headErr = s.headErr

theorem CtlEq.refl (s : H2Stream) : CtlEq s s := ⟨rfl, rfl, rfl, rfl, rfl, rfl, rfl, rfl, rfl⟩

/-- An update of the five fields `CtlEq` does not mention. -/
theorem CtlEq.update (s : H2Stream) (ph pt : Bool) (n : Nat) (tr rtr : Fields) :
    CtlEq s { s with pastHeaders := ph, pastTrailers := pt, num1xx := n, trailer := tr, resTrailer := rtr } :=
  ⟨rfl, rfl, rfl, rfl, rfl, rfl, rfl, rfl, rfl⟩

theorem CtlEq.trans {a b c : H2Stream} (h1 : CtlEq a b) (h2 : CtlEq b c) : CtlEq a c :=
  ⟨h2.pipe.trans h1.pipe, h2.readErr.trans h1.readErr, h2.bytesRemain.trans h1.bytesRemain,
   h2.readClosed.trans h1.readClosed, h2.readAborted.trans h1.readAborted, h2.connDead.trans h1.connDead,
   h2.isHead.trans h1.isHead, h2.res.trans h1.res, h2.headErr.trans h1.headErr⟩

def pushData (s : H2Stream) (p : Bytes) : H2Stream := { s with pipe := { s.pipe with buf := s.pipe.buf ++ p } }

/-- `pipe.Write` succeeds: not closed, not broken, buffer set. -/
def Writable (s : H2Stream) : Prop :=
  s.pipe.err = none ∧ s.pipe.breakErr = none ∧ s.pipe.hasBuf = true

theorem write_cases (s : H2Stream) (d : Bytes) :
    (s.pipe.write d = .error .pipeWrite ∧ ¬Writable s) ∨
    (s.pipe.write d = .ok { s.pipe with buf := s.pipe.buf ++ d } ∧ Writable s) := by
  unfold Pipe.write Writable
  split
  · left; rename_i h; refine ⟨rfl, ?_⟩; rcases h with h | h <;> (intro ⟨a, b, _⟩; simp_all)
  · split
    · left; refine ⟨rfl, ?_⟩; intro ⟨_, _, c⟩; simp_all
    · right; rename_i h1 h2; simp_all

/-- The read loop drops the frame: the stream was reset by the loop, or the loop is gone. -/
def Ignored (s : H2Stream) : Prop := s.readAborted = true ∨ s.connDead = true

inductive DataNF (s : H2Stream) (p : Bytes) (es : Bool) : H2Stream → Prop
  | ignored : Ignored s → DataNF s p es s
  | rejected (e : H2Err) : e ≠ .eof → ¬Ignored s → DataNF s p es (s.endStreamError e)
  | empty : p = [] → ¬Ignored s → s.readClosed = false → s.pastHeaders = true →
      DataNF s p es (if es then s.endStream else s)
  | accepted : p ≠ [] → ¬Ignored s → s.readClosed = false → s.pastHeaders = true →
      Writable s → DataNF s p es (if es then (pushData s p).endStream else pushData s p)

theorem processData_nf (s : H2Stream) (p : Bytes) (pad es : Bool) : DataNF s p es (s.processData p pad es) := by
  unfold H2Stream.processData
  by_cases h0 : s.readAborted = true ∨ s.connDead = true
  · rw [if_pos h0]; exact .ignored h0
  rw [if_neg h0]
  by_cases h1 : s.readClosed = true
  · rw [if_pos h1]; exact .rejected _ (by simp) h0
  rw [if_neg h1]
  by_cases h2 : (!s.pastHeaders) = true
  · rw [if_pos h2]; exact .rejected _ (by simp) h0
  rw [if_neg h2]
  simp only []
  split
  · exact .rejected _ (by simp) h0
  by_cases hp : p.length > 0
  · simp only [hp, if_true]
    have hpne : p ≠ [] := by intro h; simp [h] at hp
    rcases write_cases s p with ⟨hw, _⟩ | ⟨hw, hwr⟩
    · simp only [hw]; exact .rejected _ (by simp) h0
    · simp only [hw]
      exact .accepted (es := es) hpne h0 (by simpa using h1) (by simpa using h2) hwr
  · have hpe : p = [] := List.length_eq_zero_iff.mp (by omega)
    simp only [hp, if_false]
    exact .empty (s := s) (es := es) hpe h0 (by simpa using h1) (by simpa using h2)

inductive RespNF (s : H2Stream) (es : Bool) : Except H2Err (Option H2Res) × H2Stream → Prop
  | rejected (e : H2Err) (s1 : H2Stream) : e ≠ .eof → CtlEq s s1 → s1.pastHeaders = s.pastHeaders →
      RespNF s es (.error e, s1)
  | interim (s1 : H2Stream) : CtlEq s s1 → s1.pastHeaders = false → es = false → RespNF s es (.ok none, s1)
  | bodiless (r : H2Res) : r.body ≠ .piped → (s.isHead = false → es = true) → (s.isHead = true → r.body = .noBody) →
      (r.body = .missingBody → bodyAllowedForStatusH2 r.status = true) → RespNF s es (.ok (some r), s)
  | piped (r : H2Res) : r.body = .piped → s.isHead = false → es = false →
      RespNF s es (.ok (some r), { s with pipe := s.pipe.setBuffer, bytesRemain := r.contentLength })

/-- The body kind `handleResponse` gives a response that ends on its HEADERS frame. -/
theorem endStream_kind {cl : Option Nat} {code : Nat} {k : H2BodyKind}
    (hk : k = match cl with
      | some n => if n > 0 ∧ bodyAllowedForStatusH2 code then H2BodyKind.missingBody else .noBody
      | none => .noBody) :
    k ≠ .piped ∧ (k = .missingBody → bodyAllowedForStatusH2 code = true) := by
  subst hk
  cases cl with
  | none => simp
  | some n => by_cases h : n > 0 ∧ bodyAllowedForStatusH2 code = true <;> simp [h]

theorem handleResponse_nf (s : H2Stream) (fs : Fields) (es : Bool) : RespNF s es (s.handleResponse fs es) := by
  unfold H2Stream.handleResponse
  cases h2StatusValue fs with
  | none => exact .rejected _ _ (by simp) (CtlEq.refl s) rfl
  | some sv =>
    simp only []
    by_cases hsv : sv.isEmpty = true
    · rw [if_pos hsv]; exact .rejected _ _ (by simp) (CtlEq.refl s) rfl
    rw [if_neg hsv]
    cases natOfDigits sv with
    | none => exact .rejected _ _ (by simp) (CtlEq.refl s) rfl
    | some code =>
      simp only []
      by_cases h1 : 100 ≤ code ∧ code ≤ 199
      · rw [if_pos h1]
        cases es with
        | true => exact .rejected _ _ (by simp) (CtlEq.refl s) rfl
        | false =>
          rw [if_neg (by simp)]
          split
          · exact .rejected _ _ (by simp) (.update s ..) rfl
          · exact .interim _ (.update s ..) rfl rfl
      · rw [if_neg h1]
        by_cases hh : s.isHead = true
        · rw [if_pos hh]; exact .bodiless _ (by simp) (by simp [hh]) (fun _ => rfl) (by simp)
        rw [if_neg hh]
        cases es with
        | true =>
          rw [if_pos rfl]
          exact .bodiless _ (endStream_kind rfl).1 (fun _ => rfl) (fun h => absurd h hh) (endStream_kind rfl).2
        | false => rw [if_neg (by simp)]; refine .piped _ ?_ (by simpa using hh) rfl; rfl

inductive HeadersNF (s : H2Stream) (es : Bool) : H2Stream → Prop
  | ignored : Ignored s → HeadersNF s es s
  | rejected (s1 : H2Stream) (e : H2Err) : CtlEq s s1 → e ≠ .eof → ¬Ignored s →
      (s.pastHeaders = true → s1.pastHeaders = true) → HeadersNF s es (s1.endStreamError e)
  | connErr (s1 : H2Stream) : CtlEq s s1 → ¬Ignored s → s.readClosed = false → s.pastHeaders = true →
      s1.pastHeaders = true → HeadersNF s es s1.connError
  | trailers (s1 : H2Stream) : CtlEq s s1 → ¬Ignored s → s.readClosed = false → s.pastHeaders = true →
      s1.pastHeaders = true → es = true → HeadersNF s es s1.endStream
  | interim (s1 : H2Stream) : CtlEq s s1 → ¬Ignored s → s.readClosed = false → s.pastHeaders = false →
      s1.pastHeaders = false → es = false → HeadersNF s es s1
  | bodiless (r : H2Res) : ¬Ignored s → s.readClosed = false → s.pastHeaders = false →
      r.body ≠ .piped → (s.isHead = false → es = true) → (s.isHead = true → r.body = .noBody) →
      HeadersNF s es (if es then ({ s with pastHeaders := true, res := some r } : H2Stream).endStream
        else { s with pastHeaders := true, res := some r })
  | piped (r : H2Res) : ¬Ignored s → s.readClosed = false → s.pastHeaders = false →
      r.body = .piped → s.isHead = false → es = false →
      HeadersNF s es { s with pastHeaders := true, res := some r, pipe := s.pipe.setBuffer, bytesRemain := r.contentLength }

theorem processHeaders_nf (s : H2Stream) (fs : Fields) (es : Bool) : HeadersNF s es (s.processHeaders fs es) := by
  unfold H2Stream.processHeaders
  by_cases h0 : s.readAborted = true ∨ s.connDead = true
  · rw [if_pos h0]; exact .ignored h0
  rw [if_neg h0]
  by_cases h1 : s.readClosed = true
  · rw [if_pos h1]; exact .rejected s _ (CtlEq.refl s) (by simp) h0 id
  rw [if_neg h1]
  have h1' : s.readClosed = false := by simpa using h1
  by_cases h2 : s.pastHeaders = true
  · rw [if_pos h2]
    unfold H2Stream.processTrailers
    by_cases h3 : s.pastTrailers = true
    · rw [if_pos h3]; exact .connErr s (CtlEq.refl s) h0 h1' h2 h2
    rw [if_neg h3]
    simp only []
    cases es with
    | false => exact .connErr _ (.update s ..) h0 h1' h2 h2
    | true =>
      rw [if_neg (by simp)]
      split
      · exact .connErr _ (.update s ..) h0 h1' h2 h2
      · exact .trailers _ (.update s ..) h0 h1' h2 h2 rfl
  · rw [if_neg h2]
    have h2' : s.pastHeaders = false := by simpa using h2
    simp only []
    have hc0 : CtlEq s { s with pastHeaders := true } := (.update s ..)
    have hnf := handleResponse_nf { s with pastHeaders := true } fs es
    generalize ({ s with pastHeaders := true } : H2Stream).handleResponse fs es = r at hnf ⊢
    cases hnf with
    | rejected e s' he hc hpp => exact .rejected s' e (hc0.trans hc) he h0 (fun _ => by simpa using hpp)
    | interim s' hc hp hes => exact .interim s' (hc0.trans hc) h0 h1' h2' hp hes
    | bodiless res hb hh hnb _ => exact .bodiless res h0 h1' h2' hb hh hnb
    | piped res hb hh hes => subst hes; exact .piped res h0 h1' h2' hb hh rfl

/-! ### relations closed under the primitive moves

Every transition the read loop makes is composed of a few primitive moves (a change of fields the
body reader never looks at, `abort`, `endStreamError`, `connError`, `endStream`, a DATA payload
accepted, the response head set).  A reflexive, transitive relation that holds along each of them
holds along `processData` and `processHeaders` (and along every step: `Closed.step`).  `E` says
whether END_STREAM may occur: without it there is no `endStream`, and a response head without a
piped body comes only on a HEAD stream (the side condition of `head`: `handleResponse` gives a
non-HEAD stream a body-less head only when the HEADERS frame carries END_STREAM).  The other two
side conditions are what `handleResponse` knows about the body kind: on a HEAD stream the head says
`noBody`, and a piped head comes only on a non-HEAD stream. -/
structure Closed (E : Bool) (R : H2Stream → H2Stream → Prop) : Prop where
  refl : ∀ s, R s s
  trans : ∀ {a b c}, R a b → R b c → R a c
  ctl : ∀ {s s1}, CtlEq s s1 → R s s1
  abort : ∀ s e, R s (s.abort e)
  endStreamError : ∀ s e, R s (s.endStreamError e)
  connError : ∀ s, R s s.connError
  endStream : E = true → ∀ s, R s s.endStream
  push : ∀ s p, Writable s → R s (pushData s p)
  head : ∀ s r, s.res = none → (s.isHead = false → E = true) → (s.isHead = true → r.body = .noBody) →
    R s { s with pastHeaders := true, res := some r }
  piped : ∀ s r, s.res = none → r.body = .piped → s.isHead = false →
    R s { s with pastHeaders := true, res := some r, pipe := s.pipe.setBuffer, bytesRemain := r.contentLength }

theorem Closed.processData {E : Bool} {R : H2Stream → H2Stream → Prop} (c : Closed E R) (s : H2Stream)
    (p : Bytes) (pad es : Bool) (hE : es = true → E = true) : R s (s.processData p pad es) := by
  have hnf := processData_nf s p pad es
  generalize s.processData p pad es = s' at hnf
  cases hnf with
  | ignored _ => exact c.refl s
  | rejected e _ _ => exact c.endStreamError s e
  | empty _ _ _ _ => split; exact c.endStream (hE ‹_›) s; exact c.refl s
  | accepted _ _ _ _ hw => split; exact c.trans (c.push s p hw) (c.endStream (hE ‹_›) _); exact c.push s p hw

theorem Closed.processHeaders {E : Bool} {R : H2Stream → H2Stream → Prop} (c : Closed E R) {s : H2Stream}
    (hres : s.pastHeaders = false → s.res = none) (fs : Fields) (es : Bool) (hE : es = true → E = true) :
    R s (s.processHeaders fs es) := by
  have hnf := processHeaders_nf s fs es
  generalize s.processHeaders fs es = s' at hnf
  cases hnf with
  | ignored _ => exact c.refl s
  | rejected s1 e hc _ _ _ => exact c.trans (c.ctl hc) (c.endStreamError s1 e)
  | connErr s1 hc _ _ _ _ => exact c.trans (c.ctl hc) (c.connError s1)
  | trailers s1 hc _ _ _ _ hes => exact c.trans (c.ctl hc) (c.endStream (hE hes) s1)
  | interim s1 hc _ _ _ _ _ => exact c.ctl hc
  | bodiless r _ _ hph _ hh hnb =>
    have h1 := c.head s r (hres hph) (fun h => hE (hh h)) hnb
    split
    · exact c.trans h1 (c.endStream (hE ‹_›) _)
    · exact h1
  | piped r _ _ hph hb hh _ => exact c.piped s r (hres hph) hb hh

end Req.C03
