import Req.Client.Digest
import Req.Client.Rfc7616
import Req.Lemmas.TrimBy
import Req.Lemmas.U8
import Req.Lemmas.ListFacts
/-!
What the lemma files of both digest models (`Req.Digest`, `Req.DigestAuth`) and of the verifier
(`Req.Rfc7616`) share at the level of bytes: the byte classes compared with each other, one sweep over
the 256 bytes per class; `strings.Trim` on a padded value; and `commaCat`, the list joined by single
commas in which both `parse_faithful` theorems write a challenge.

`Req.Rfc7616.isOws`, `Req.DigestAuth.isOws` and `Req.Auth.isOws` have the same body, and so have
`Req.Rfc7616.isText` and the two `isFieldByte`: a lemma stated with one of them is applied to the others
by unfolding.
-/
namespace Req.Digest
open Req.Proto Req.Ascii
open Req.Trim (trimBy_pad)

theorem trim_pad {p : UInt8 → Bool} (lead trail X : Bytes)
    (hl : lead.all p = true) (ht : trail.all p = true)
    (ha : ∀ a ∈ X.head?, p a = false) (hz : ∀ z ∈ X.getLast?, p z = false) :
    trim p (lead ++ X ++ trail) = X :=
  trimBy_pad (List.all_eq_true.mp hl) (List.all_eq_true.mp ht) ha hz

/-- pieces joined by a single comma (the `#rule` list separator) -/
def commaCat : List Bytes → Bytes
  | [] => []
  | [x] => x
  | x :: y :: r => x ++ 44 :: commaCat (y :: r)

theorem commaCat_ne_nil : ∀ (l : List Bytes), (∀ x ∈ l, x ≠ []) → l ≠ [] → commaCat l ≠ []
  | [], _, h => absurd rfl h
  | [x], hx, _ => hx x (by simp)
  | x :: y :: r, _, _ => by simp [commaCat]

theorem commaCat_head (x : Bytes) (r : List Bytes) (hx : x ≠ []) :
    (commaCat (x :: r)).head? = x.head? := by
  cases r with
  | nil => rfl
  | cons y r =>
    cases x with
    | nil => exact absurd rfl hx
    | cons a as => rfl

theorem commaCat_getLast? : ∀ (l : List Bytes), (∀ x ∈ l, x ≠ []) →
    (commaCat l).getLast? = l.getLast?.bind List.getLast?
  | [], _ => rfl
  | [x], _ => rfl
  | x :: y :: r, h => by
    have hr := fun w hw => h w (List.mem_cons_of_mem x hw)
    rw [List.getLast?_cons_cons, ← commaCat_getLast? (y :: r) hr, commaCat, List.append_cons]
    exact List.getLast?_append_ne _ _ (commaCat_ne_nil _ hr (by simp))

theorem commaCat_append : ∀ (a b : List Bytes), a ≠ [] → b ≠ [] →
    commaCat (a ++ b) = commaCat a ++ 44 :: commaCat b
  | [], _, h, _ => absurd rfl h
  | [x], b, _, hb => by
    cases b with
    | nil => exact absurd rfl hb
    | cons y r => simp [commaCat]
  | x :: y :: r, b, _, hb => by
    have ih := commaCat_append (y :: r) b (by simp) hb
    simp only [List.cons_append, commaCat] at ih ⊢
    rw [ih]
    simp

/-- the bytes at which Go's `strings.TrimSpace` stops without decoding a rune: ASCII, and not white
space -/
def plain (c : UInt8) : Bool := c < 128 && !isAsciiSpace c

theorem plain_lt {a : UInt8} (h : plain a = true) : a < 128 := by
  simp only [plain, Bool.and_eq_true, decide_eq_true_eq] at h
  exact h.1

theorem plain_ne_of_ge {a : UInt8} (k : UInt8) (hk : 128 ≤ k) (h : plain a = true) : (a == k) = false :=
  beq_eq_false_iff_ne.mpr fun e => absurd (e ▸ plain_lt h) (UInt8.not_lt.mpr hk)

theorem plain_notSpace {a : UInt8} (h : plain a = true) : isAsciiSpace a = false := by
  simp only [plain, Bool.and_eq_true, Bool.not_eq_true'] at h
  exact h.2

theorem tok_byte : ∀ c, isTokenByte c = true →
    plain c = true ∧ Req.Rfc7616.isText c = true ∧ Req.Rfc7616.isOws c = false ∧
      c ≠ 34 ∧ c ≠ 44 ∧ c ≠ 61 :=
  Req.U8.forall_uint8 _ (by decide +kernel)

theorem tok_plain (c : UInt8) (h : isTokenByte c = true) : plain c = true := (tok_byte c h).1

theorem tok_text (c : UInt8) (h : isTokenByte c = true) : Req.Rfc7616.isText c = true := (tok_byte c h).2.1

theorem tok_not_ows {c : UInt8} (h : isTokenByte c = true) : Req.Rfc7616.isOws c = false :=
  (tok_byte c h).2.2.1

theorem tok_not_delim (c : UInt8) (h : isTokenByte c = true) : c ≠ 34 ∧ c ≠ 44 ∧ c ≠ 61 :=
  (tok_byte c h).2.2.2

theorem lower_plain : ∀ c, isLower c = true → plain c = true :=
  Req.U8.forall_uint8 _ (by decide +kernel)

theorem ows_space : ∀ c, Req.Rfc7616.isOws c = true → isAsciiSpace c = true :=
  Req.U8.forall_uint8 _ (by decide +kernel)

theorem ows_ws : ∀ c, Req.Rfc7616.isOws c = true → isWs c = true :=
  Req.U8.forall_uint8 _ (by decide +kernel)

theorem plain_notWs : ∀ c, plain c = true → isWs c = false :=
  Req.U8.forall_uint8 _ (by decide +kernel)

theorem plain_ne' : ∀ c, plain c = true → (decide (128 ≤ c)) = false :=
  fun _ h => decide_eq_false (UInt8.not_le.mpr (plain_lt h))

end Req.Digest
