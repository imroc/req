import Req.Client.Graph
/-!
The specification of `cloneNode` (`cloneNode_spec`), by induction on the fuel with one invariant (`FoldInv`) for the
fold over the fields of the object being copied: every reference of a new object goes to a new object or is
`Justified` — a field the specification shares, copied from an old object of the same type. From it, what is
reachable from the copy (`new_reach`) and from the original (`reach_below`); the frame rule for `G.set`
(`set_frame_iff`); the field list of the copy's root (`foldl_labels`, `foldl_shared`).
-/
namespace Req.Graph

def AgreeBelow (b : Nat) (g g0 : G) : Prop := ∀ i, i < b → g.node i = g0.node i

/-- a reference from a new object to an old one is a field that `S` shares, copied from an old
object of the same type -/
def Justified (S : Spec) (g0 : G) (b : Nat) (t : Ty) (e : Label × Nat) : Prop :=
  e.2 < b ∧ S t e.1 = .share ∧ ∃ a, a < b ∧ (g0.node a).ty = t ∧ e ∈ (g0.node a).out

def EdgeOK (S : Spec) (g0 : G) (b nx : Nat) (t : Ty) (e : Label × Nat) : Prop :=
  (b ≤ e.2 ∧ e.2 < nx) ∨ Justified S g0 b t e

/-- every reference of every new object (`b ≤ i`) is to a new object or justified -/
def NewOK (S : Spec) (g0 : G) (b : Nat) (g : G) : Prop :=
  ∀ i, b ≤ i → i < g.next → ∀ e ∈ (g.node i).out, EdgeOK S g0 b g.next (g.node i).ty e

def EnvOK (b nx : Nat) (env : Ty → Option Nat) : Prop := ∀ u n, env u = some n → b ≤ n ∧ n < nx

theorem EdgeOK.mono {S : Spec} {g0 : G} {b nx nx' : Nat} {t : Ty} {e : Label × Nat}
    (h : EdgeOK S g0 b nx t e) (hle : nx ≤ nx') : EdgeOK S g0 b nx' t e := by
  rcases h with ⟨h1, h2⟩ | h
  · exact Or.inl ⟨h1, Nat.lt_of_lt_of_le h2 hle⟩
  · exact Or.inr h

theorem NewOK.alloc {S : Spec} {g0 : G} {b : Nat} {g : G} (h : NewOK S g0 b g) (n : Node)
    (hn : ∀ e ∈ n.out, EdgeOK S g0 b (g.next + 1) n.ty e) : NewOK S g0 b (g.alloc n) := by
  intro i hbi hi e he
  simp only [G.alloc] at hi he ⊢
  by_cases hig : i = g.next
  · simp only [hig, if_true] at he ⊢
    exact hn e he
  · simp only [hig, if_false] at he ⊢
    have : i < g.next := by omega
    exact (h i hbi this e he).mono (by omega)

/-- the state of the fold over the fields of the object being copied -/
structure FoldInv (S : Spec) (g0 : G) (b : Nat) (base : G) (t : Ty) (acc : G × List (Label × Nat)) : Prop where
  next_le : base.next ≤ acc.1.next
  same : ∀ i, i < base.next → acc.1.node i = base.node i
  newOK : NewOK S g0 b acc.1
  edges : ∀ e ∈ acc.2, EdgeOK S g0 b acc.1.next t e

/-- one more field of the copy: the graph may have grown, the new reference is fine in it -/
theorem FoldInv.push {S : Spec} {g0 : G} {b : Nat} {base : G} {t : Ty} {acc : G × List (Label × Nat)}
    (h : FoldInv S g0 b base t acc) {g' : G} {e : Label × Nat} (hle : acc.1.next ≤ g'.next)
    (hsame : ∀ i, i < base.next → g'.node i = base.node i) (hnew : NewOK S g0 b g')
    (he : EdgeOK S g0 b g'.next t e) : FoldInv S g0 b base t (g', acc.2 ++ [e]) := by
  refine ⟨Nat.le_trans h.next_le hle, hsame, hnew, fun x hx => ?_⟩
  rcases List.mem_append.1 hx with hx | hx
  · exact (h.edges x hx).mono hle
  · rw [List.mem_singleton.1 hx]; exact he

theorem cloneNode_spec (S : Spec) (g0 : G) (b : Nat) (hwf : WFBelow b g0) :
    ∀ (fuel : Nat) (env : Ty → Option Nat) (g : G) (a : Nat), b ≤ g.next → a < b → AgreeBelow b g g0 →
      EnvOK b g.next env → NewOK S g0 b g →
      (cloneNode S fuel env g a).2 = g.next ∧ g.next < (cloneNode S fuel env g a).1.next ∧
      (∀ i, i < g.next → (cloneNode S fuel env g a).1.node i = g.node i) ∧
      NewOK S g0 b (cloneNode S fuel env g a).1 ∧
      ((cloneNode S fuel env g a).1.node g.next).ty = (g0.node a).ty := by
  intro fuel
  induction fuel with
  | zero =>
    intro env g a hb ha hag _ hnew
    simp only [cloneNode]
    refine ⟨trivial, by simp [G.alloc], ?_, ?_, ?_⟩
    · intro i hi
      simp [G.alloc, Nat.ne_of_lt hi]
    · exact hnew.alloc _ (by simp)
    · simp [G.alloc, hag a ha]
  | succ fuel ih =>
    intro env g a hb ha hag henv hnew
    have hsrc : g.node a = g0.node a := hag a ha
    simp only [cloneNode]
    generalize hbase : g.alloc ⟨(g.node a).ty, (g.node a).val, []⟩ = base
    generalize henv' : (fun u => if u = (g.node a).ty then some g.next else env u : Ty → Option Nat) = env'
    have hbn : base.next = g.next + 1 := by rw [← hbase]; rfl
    have hbase_same : ∀ i, i < g.next → base.node i = g.node i := by
      intro i hi; rw [← hbase]; simp [G.alloc, Nat.ne_of_lt hi]
    have henvOK : ∀ nx, g.next + 1 ≤ nx → EnvOK b nx env' := by
      intro nx hnx u n hun
      rw [← henv'] at hun
      simp only at hun
      split at hun
      · injection hun with hun; subst hun; exact ⟨hb, by omega⟩
      · have := henv u n hun; exact ⟨this.1, by omega⟩
    have hinit : FoldInv S g0 b base (g.node a).ty (base, []) := by
      refine ⟨Nat.le_refl _, fun _ _ => rfl, ?_, by simp⟩
      rw [← hbase]
      exact hnew.alloc _ (by simp)
    have hfold := List.foldlRecOn (motive := FoldInv S g0 b base (g.node a).ty) (g.node a).out
      (cloneEdge S (g.node a).ty env' (cloneNode S fuel env')) hinit (by
        intro acc hacc e he
        have he0 : e ∈ (g0.node a).out := by rw [← hsrc]; exact he
        have hlt : e.2 < b := hwf a ha e he0
        have hle : g.next + 1 ≤ acc.1.next := by have := hacc.next_le; omega
        unfold cloneEdge
        split
        · -- share
          rename_i hS
          exact hacc.push (Nat.le_refl _) hacc.same hacc.newOK (Or.inr ⟨hlt, hS, a, ha, by rw [hsrc], he0⟩)
        · -- zero
          exact hacc
        · -- fresh
          refine hacc.push (Nat.le_succ _) (fun i hi => ?_) (hacc.newOK.alloc _ (by simp))
            (Or.inl ⟨by simp only; omega, Nat.lt_succ_self _⟩)
          simp only [G.alloc]
          rw [if_neg (by omega)]
          exact hacc.same i hi
        · -- toNew
          rename_i u _
          split
          · rename_i n hn
            exact hacc.push (Nat.le_refl _) hacc.same hacc.newOK (Or.inl (henvOK acc.1.next hle u n hn))
          · exact hacc
        · -- copy
          have hagree : AgreeBelow b acc.1 g0 := by
            intro i hi
            rw [hacc.same i (by omega), hbase_same i (by omega)]
            exact hag i hi
          obtain ⟨h1, h2, h3, h4, _⟩ := ih env' acc.1 e.2 (by omega) hlt hagree (henvOK _ hle) hacc.newOK
          refine hacc.push (Nat.le_of_lt h2) (fun i hi => ?_) h4 (Or.inl ⟨by rw [h1]; omega, by rw [h1]; exact h2⟩)
          rw [h3 i (by omega)]
          exact hacc.same i hi)
    generalize (g.node a).out.foldl (cloneEdge S (g.node a).ty env' (cloneNode S fuel env')) (base, []) = r at hfold
    have hnl := hfold.next_le
    refine ⟨trivial, by simp only [G.set]; omega, ?_, ?_, ?_⟩
    · intro i hi
      simp only [G.set]
      rw [if_neg (Nat.ne_of_lt hi), hfold.same i (by omega), hbase_same i hi]
    · intro i hbi hi e he
      simp only [G.set] at hi he ⊢
      by_cases hig : i = g.next
      · simp only [hig, if_true] at he ⊢
        exact hfold.edges e he
      · simp only [hig, if_false] at he ⊢
        exact hfold.newOK i hbi hi e he
    · simp [G.set, hsrc]

/-- `cloneNode_spec` for `clone`: no enclosing copies, the whole graph is old -/
theorem clone_spec (S : Spec) (fuel : Nat) (g : G) (r : Nat) (hwf : WFBelow g.next g) (hr : r < g.next) :
    (clone S fuel g r).2 = g.next ∧ g.next < (clone S fuel g r).1.next ∧
    AgreeBelow g.next (clone S fuel g r).1 g ∧ NewOK S g g.next (clone S fuel g r).1 :=
  have h := cloneNode_spec S g g.next hwf fuel (fun _ => none) g r (Nat.le_refl _) hr (fun _ _ => rfl)
    (by intro u n h; simp at h) (by intro i h1 h2; omega)
  ⟨h.1, h.2.1, h.2.2.1, h.2.2.2.1⟩

theorem reach_below {b : Nat} {g : G} (hwf : WFBelow b g) {a n : Nat} (ha : a < b) (h : Reach g a n) : n < b := by
  induction h with
  | refl => exact ha
  | step _ he ih => exact hwf _ ih _ he

theorem new_reach {S : Spec} {imm : Ty → Bool} {design : Ty → Label → Bool} {g0 g' : G} {b r' : Nat}
    (hNew : NewOK S g0 b g') (hAgree : AgreeBelow b g' g0) (hwf : WFBelow b g0)
    (himm : ImmClosed imm b g0) (hsafe : ShareSafe S imm design b g0)
    (hr : b ≤ r') (hr' : r' < g'.next) {n : Nat} (h : Reach g' r' n) :
    (b ≤ n ∧ n < g'.next) ∨ (n < b ∧ (imm (g'.node n).ty = true ∨ ViaDesign design g' b n)) := by
  induction h with
  | refl => exact Or.inl ⟨hr, hr'⟩
  | @step m n l _ he ih =>
    rcases ih with ⟨hbm, hm⟩ | ⟨hmb, hm⟩
    · -- from a new object
      rcases hNew m hbm hm (l, n) he with hnew | ⟨hlt, hS, a, ha, hty, hin⟩
      · exact Or.inl hnew
      · refine Or.inr ⟨hlt, ?_⟩
        have hs := hsafe a ha (l, n) hin (by rw [hty]; exact hS)
        rcases hs with hd | hi
        · right
          exact ⟨m, (l, n), hbm, he, hlt, by rw [← hty]; exact hd, Reach.refl _⟩
        · left
          rw [hAgree n hlt]; exact hi
    · -- from an old object
      have hnode : g'.node m = g0.node m := hAgree m hmb
      have he0 : (l, n) ∈ (g0.node m).out := by rw [← hnode]; exact he
      have hlt : n < b := hwf m hmb _ he0
      refine Or.inr ⟨hlt, ?_⟩
      rcases hm with hi | ⟨i, e, hbi, hei, heb, hd, hre⟩
      · left
        rw [hAgree n hlt]
        exact himm m hmb (by rw [← hnode]; exact hi) _ he0
      · right
        exact ⟨i, e, hbi, hei, heb, hd, Reach.step hre he⟩

theorem set_frame (g : G) (b n : Nat) (x : Node) (h : ¬ Reach g b n) {m : Nat} (hm : Reach g b m) :
    (g.set n x).node m = g.node m ∧ Reach (g.set n x) b m := by
  induction hm with
  | refl =>
    refine ⟨?_, Reach.refl _⟩
    simp only [G.set]
    rw [if_neg]
    intro heq; exact h (heq ▸ Reach.refl _)
  | @step m' c l hr he ih =>
    have hne : c ≠ n := by
      intro heq; exact h (heq ▸ Reach.step hr he)
    refine ⟨by simp [G.set, hne], ?_⟩
    apply Reach.step ih.2
    rw [ih.1]; exact he

theorem set_frame_conv (g : G) (b n : Nat) (x : Node) (h : ¬ Reach g b n) {m : Nat}
    (hm : Reach (g.set n x) b m) : Reach g b m := by
  induction hm with
  | refl => exact Reach.refl _
  | @step m' c l _ he ih =>
    have hne : m' ≠ n := by
      intro heq; exact h (heq ▸ ih)
    apply Reach.step ih
    simpa [G.set, hne] using he

/-- overwriting an object that `b` does not reach: the same objects are reachable from `b`, unchanged -/
theorem set_frame_iff (g : G) (b n : Nat) (x : Node) (h : ¬ Reach g b n) (m : Nat) :
    (Reach (g.set n x) b m ↔ Reach g b m) ∧ (Reach g b m → (g.set n x).node m = g.node m) :=
  ⟨⟨set_frame_conv g b n x h, fun hm => (set_frame g b n x h hm).2⟩, fun hm => (set_frame g b n x h hm).1⟩

theorem foldl_labels (S : Spec) (t : Ty) (env : Ty → Option Nat) (rec : G → Nat → G × Nat) :
    ∀ (l : List (Label × Nat)) (acc : G × List (Label × Nat)),
      ((l.foldl (cloneEdge S t env rec) acc).2).map Prod.fst =
        acc.2.map Prod.fst ++ (l.filter (kept S env t)).map Prod.fst := by
  intro l
  induction l with
  | nil => intro acc; simp
  | cons e es ih =>
    intro acc
    simp only [List.foldl_cons]
    rw [ih]
    unfold cloneEdge
    cases hS : S t e.1 with
    | share => simp [kept, hS]
    | zero => simp [kept, hS]
    | fresh => simp [kept, hS]
    | copy => simp [kept, hS]
    | toNew u =>
      cases hu : env u with
      | none => simp [kept, hS, hu]
      | some n => simp [kept, hS, hu]

theorem foldl_shared (S : Spec) (t : Ty) (env : Ty → Option Nat) (rec : G → Nat → G × Nat) :
    ∀ (l : List (Label × Nat)) (acc : G × List (Label × Nat)) (e : Label × Nat),
      (e ∈ acc.2 ∨ (e ∈ l ∧ S t e.1 = .share)) → e ∈ (l.foldl (cloneEdge S t env rec) acc).2 := by
  intro l
  induction l with
  | nil => intro acc e h; rcases h with h | ⟨h, _⟩; exact h; simp at h
  | cons x xs ih =>
    intro acc e h
    simp only [List.foldl_cons]
    apply ih
    rcases h with h | ⟨h, hS⟩
    · left
      unfold cloneEdge
      split <;> try (simp [h])
      · split <;> simp [h]
    · simp only [List.mem_cons] at h
      rcases h with h | h
      · left
        subst h
        unfold cloneEdge
        simp [hS]
      · right; exact ⟨h, hS⟩

end Req.Graph
