import Req.H2.Fields
import Req.Lemmas.HeaderSort
import Req.Lemmas.ListFacts
import Req.Lemmas.Ascii
/-!
The field list of the HTTP/2 / HTTP/3 encoders (`Req.H2.fields`): what a produced list is made of
(`fields_ok`), the two sorted parts as `applyOrder` over what was collected (`pseudoKVs_eq`,
`regularKVs_eq`), and the collector `headerGroups`: where a group comes from (`mem_headerGroups`) and
how it commutes with selecting entries by name (`headerGroups_filter_name`) or dropping excluded ones
(`headerGroups_filter`).
-/
namespace Req.H2
open Req.Proto Req.Ascii Req.HeaderSort Req.H1 Req.Validate

theorem wireOf_append (a b : List KV) : wireOf (a ++ b) = wireOf a ++ wireOf b := by
  simp [wireOf]

theorem fields_ok {fl : Flavor} {r : FReq} {fs : List (Bytes × Bytes)} (h : fields fl r = .ok fs) :
    ∃ host path, fieldHost r = .ok host ∧ fieldPath r host = .ok path ∧
      headersValid (r.header.map fun kv => (kv.key, kv.values)) = true ∧
      fs = wireOf (pseudoKVs fl r host path ++ regularKVs fl r) ∧
      ∀ lim, r.maxHeaderList = some lim → headerListSize fs ≤ lim := by
  unfold fields at h
  cases hh : fieldHost r with
  | error e => simp [hh, bind, Except.bind] at h
  | ok host =>
    cases hp : fieldPath r host with
    | error e => simp [hh, hp, bind, Except.bind] at h
    | ok path =>
      refine ⟨host, path, rfl, hp, ?_⟩
      simp only [hh, hp, bind, Except.bind] at h
      split at h
      · simp [throw, throwThe, MonadExceptOf.throw] at h
      next hv =>
        refine ⟨by simpa using hv, ?_⟩
        simp only [pure, Except.pure] at h
        cases hl : r.maxHeaderList with
        | none =>
          simp only [hl, Except.ok.injEq] at h
          exact ⟨h.symm, fun _ hn => nomatch hn⟩
        | some lim =>
          simp only [hl] at h
          split at h
          · simp [throw, throwThe, MonadExceptOf.throw] at h
          next hle =>
            simp only [Except.ok.injEq] at h
            subst h
            exact ⟨rfl, fun l hl' => Option.some.inj hl' ▸ Nat.le_of_not_lt hle⟩

theorem pseudoKVs_eq (fl : Flavor) (r : FReq) (host path : Bytes) :
    pseudoKVs fl r host path = applyOrder (pseudoOrderList r.header) (basePseudo fl r host path) := rfl

theorem regularKVs_eq (fl : Flavor) (r : FReq) :
    regularKVs fl r = applyOrder (orderList r.header) (baseRegular fl r) := rfl

/-- where a regular group comes from: an entry of the header map that is not excluded, under that
entry's key — or, for the `cookie` entry on HTTP/2, under the lower-case name. -/
theorem mem_headerGroups {fl : Flavor} {h : Hdr} {g : KV} (hg : g ∈ headerGroups fl h) :
    ∃ x ∈ h, isExcluded x.key = false ∧
      (g.key = x.key ∨ g.key = sCookieL ∧ Req.Ascii.equalFold x.key sCookieL = true) := by
  unfold headerGroups at hg
  obtain ⟨x, hx, hgx⟩ := List.mem_flatMap.mp hg
  refine ⟨x, hx, ?_⟩
  by_cases hex : isExcluded x.key = true
  · simp [hex] at hgx
  refine ⟨by simpa using hex, ?_⟩
  rw [if_neg hex] at hgx
  by_cases hua : Req.Ascii.equalFold x.key sUserAgentL = true
  · rw [if_pos hua] at hgx
    left
    split at hgx
    · simp at hgx
    · split at hgx <;> simp at hgx
      rw [hgx]
  rw [if_neg hua] at hgx
  by_cases hck : (fl == Flavor.h2 && Req.Ascii.equalFold x.key sCookieL) = true
  · rw [if_pos hck, List.mem_singleton] at hgx
    exact Or.inr ⟨by rw [hgx], (Bool.and_eq_true _ _ ▸ hck).2⟩
  rw [if_neg hck] at hgx
  left
  by_cases h3 : (fl == Flavor.h3) = true
  · rw [if_pos h3] at hgx
    obtain ⟨v, _, rfl⟩ := List.mem_map.mp hgx
    rfl
  · rw [if_neg h3, List.mem_singleton] at hgx
    rw [hgx]

/-- entries with excluded keys are invisible to the HTTP/2 / HTTP/3 collectors -/
theorem headerGroups_filter (fl : Flavor) (p : KV → Bool)
    (hp : ∀ kv, p kv = false → isExcluded kv.key = true) (h : Hdr) :
    headerGroups fl (h.filter p) = headerGroups fl h :=
  List.flatMap_filter_of_nil p _ (fun kv hkv => by simp [hp kv hkv]) h

theorem didUA_filter (p : KV → Bool) (hp : ∀ kv, p kv = false → isExcluded kv.key = true) (h : Hdr) :
    didUA (h.filter p) = didUA h := by
  unfold didUA
  rw [List.any_filter]
  congr 1
  funext kv
  cases hk : p kv <;> simp [hp kv, hk]

theorem headerGroups_cons (fl : Flavor) (x : KV) (xs : Hdr) :
    headerGroups fl (x :: xs) = headerGroups fl [x] ++ headerGroups fl xs := by
  simp [headerGroups]

theorem headerGroups_name {fl : Flavor} {h : Hdr} {g : KV} (hg : g ∈ headerGroups fl h) :
    ∃ x ∈ h, lower g.key = lower x.key := by
  obtain ⟨x, hx, _, hk | ⟨hk, hc⟩⟩ := mem_headerGroups hg
  · exact ⟨x, hx, by rw [hk]⟩
  · exact ⟨x, hx, by rw [hk, equalFold_lower hc (by decide)]; decide⟩

theorem headerGroups_filter_name (fl : Flavor) (n : Bytes) (h : Hdr) :
    (headerGroups fl h).filter (fun g => lower g.key == n) =
      headerGroups fl (h.filter fun kv => lower kv.key == n) := by
  induction h with
  | nil => rfl
  | cons x xs ih =>
    rw [headerGroups_cons, List.filter_append, ih, List.filter_cons]
    have hx : ∀ g ∈ headerGroups fl [x], lower g.key = lower x.key := fun g hg => by
      obtain ⟨y, hy, hk⟩ := headerGroups_name hg
      rw [hk, List.mem_singleton.mp hy]
    cases hq : lower x.key == n with
    | true =>
      rw [if_pos rfl, headerGroups_cons fl x (List.filter _ xs),
        List.filter_eq_self.mpr fun g hg => by rw [hx g hg]; exact hq]
    | false =>
      rw [if_neg (by simp), List.filter_eq_nil_iff.mpr fun g hg => by rw [hx g hg]; simp [hq]]
      rfl

end Req.H2
