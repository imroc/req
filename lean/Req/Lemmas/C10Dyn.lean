import Req.Client.RetryDyn
import Req.Lemmas.C10Loop
/-! The retry loop with a mutable retry option (`Req.RetryDyn`): the ways through one pass as a relation (`Exit`,
`diteration_exit`), what follows from it for any pass (`Exit.events`, `.shape`, `.wires`, `.cont`, `.held`; `Exit.calls` is in
`Lemmas/C10Obs`, where `intervalCalls` is known), and the induction principle `dloop_induct` over the whole loop. -/
namespace Req.Lemmas.C10Dyn
open Req.Retry Req.RetryDyn Req.Lemmas.C10Loop

variable {σ W : Type}

theorem nop_apply (d : Dyn) : Edit.nop.apply d = d := by
  cases d; simp [Edit.apply, Edit.nop]

theorem applyEv_nop (d : Dyn) (e : Event W) : applyEv Edits.nop d e = d := by
  cases e <;> simp [applyEv, editOf, Edits.nop, nop_apply]

theorem editsOf_nop (d : Dyn) (ev : List (Event W)) : editsOf Edits.nop d ev = d := by
  induction ev generalizing d with
  | nil => rfl
  | cons e t ih => simp [editsOf, List.foldl_cons, applyEv_nop] at ih ⊢; exact ih d

theorem editsOf_append (ed : Edits) (d : Dyn) (a b : List (Event W)) :
    editsOf ed d (a ++ b) = editsOf ed (editsOf ed d a) b := by
  simp [editsOf, List.foldl_append]

theorem editsOf_cons (ed : Edits) (d : Dyn) (e : Event W) (t : List (Event W)) :
    editsOf ed d (e :: t) = editsOf ed (applyEv ed d e) t := rfl

theorem editsOf_nil (ed : Edits) (d : Dyn) : editsOf ed d ([] : List (Event W)) = d := rfl

theorem apply_ctxDone_mono (e : Edit) (d : Dyn) (h : d.ctxDone = true) : (e.apply d).ctxDone = true := by
  unfold Edit.apply
  cases hc : e.count <;> cases hi : e.interval <;> simp [Dyn.get, h] <;> split <;> simp [h]

theorem apply_cancel (e : Edit) (d : Dyn) (h : e.cancel = true) : (e.apply d).ctxDone = true := by
  unfold Edit.apply
  simp [h]

theorem editsOf_ctxDone_mono (ed : Edits) (d : Dyn) (ev : List (Event W)) (h : d.ctxDone = true) :
    (editsOf ed d ev).ctxDone = true := by
  induction ev generalizing d with
  | nil => exact h
  | cons e t ih => exact ih _ (apply_ctxDone_mono _ _ h)

theorem editsOf_cancel (ed : Edits) (d : Dyn) (ev : List (Event W)) (e : Event W) (he : e ∈ ev)
    (hc : (editOf ed e).cancel = true) : (editsOf ed d ev).ctxDone = true := by
  induction ev generalizing d with
  | nil => cases he
  | cons e' t ih =>
    rcases List.mem_cons.mp he with rfl | h
    · exact editsOf_ctxDone_mono ed _ t (apply_cancel _ _ hc)
    · exact ih _ h

theorem withDyn_dynOf (p : Policy σ) : withDyn p (dynOf p) = p := by
  cases p; rfl

theorem need_withDyn (p : Policy σ) (d : Dyn) (o : Outcome) (ra : Nat) :
    need (withDyn p d) o ra = need p o ra := rfl

theorem aborted_withDyn (p : Policy σ) (d : Dyn) (o : Outcome) (ra : Nat) :
    aborted (withDyn p d) o ra = aborted p o ra := rfl

/-- The mutable part when the "absolutely cannot retry" test of pass `(o, ra)` reads it: after
the request-level response middleware of that pass. -/
def dynAtCheck (W : Type) (v : Variant) (p : Policy σ) (ed : Edits) (o : Outcome) (ra : Nat) (d : Dyn) : Dyn :=
  let rt := roundTrip v ra o
  editsOf ed d (runAfter (W := W) v ⟨ra, viewOf rt.1, (rt.1.bind (·.err)).map (·.2)⟩ ra p.after 0 rt.2).1

/-- The request-level response middleware of pass `(o, ra)`: its events, the new `err`, whether `do` returns. -/
def afterRun (W : Type) (v : Variant) (p : Policy σ) (o : Outcome) (ra : Nat) : List (Event W) × Option Err × Bool :=
  let rt := roundTrip v ra o
  runAfter v ⟨ra, viewOf rt.1, (rt.1.bind (·.err)).map (·.2)⟩ ra p.after 0 rt.2

theorem quiet_afterRun (v : Variant) (p : Policy σ) (o : Outcome) (ra : Nat) : Quiet (afterRun W v p o ra).1 :=
  quiet_runAfter _ _ _ _ _ _

theorem dynAtCheck_eq (v : Variant) (p : Policy σ) (ed : Edits) (o : Outcome) (ra : Nat) (d : Dyn) :
    dynAtCheck W v p ed o ra d = editsOf ed d (afterRun W v p o ra).1 := rfl

theorem quiet_askConds (p : Policy σ) (ra : Nat) (view : RespView) (err : Option Err) :
    Quiet (askConds (W := W) p ra view err).1 := quiet_conds p _ _

theorem hookEvs_iterations (p : Policy σ) (ra : Nat) (view : RespView) (err : Option Err) :
    iterations (hookEvs (W := W) p ra view err) = 0 := hooks_iterations _ _

theorem hookEvs_wires (p : Policy σ) (ra : Nat) (view : RespView) (err : Option Err) :
    wires (hookEvs (W := W) p ra view err) = [] := hooks_wires _ _

theorem applyEv_before (ed : Edits) (d : Dyn) (ra : Nat) : applyEv ed d (.before ra : Event W) = d := nop_apply d

theorem applyEv_wire (ed : Edits) (d : Dyn) (ra : Nat) (w : W) : applyEv ed d (.wire ra w) = d := nop_apply d

/-- The response middleware and the conditions of a pass of the repaired code, in the specification's terms. -/
theorem afterRun_repaired (p : Policy σ) {o : Outcome} (ra : Nat) (ho : o ≠ .beforeErr) :
    (afterRun W R p o ra).2.2 = aborted p o ra ∧
    (aborted p o ra = false → (afterRun W R p o ra).2.1 = o.errKind.map (ra, ·) ∧
      (askConds (W := W) p ra (viewOf (roundTrip R ra o).1) (afterRun W R p o ra).2.1).2 = need p o ra) := by
  obtain ⟨hstop, herr⟩ := runAfter_repaired (W := W) R rfl p o ra
  unfold afterRun
  simp only [roundTrip_repaired R rfl ra o ho, viewOf, Option.bind_some, errKind_of_pair]
  refine ⟨hstop, fun hab => ⟨herr hab, ?_⟩⟩
  rw [herr hab, need_eq (W := W)]
  unfold askConds
  simp only [errKind_of_pair, Option.isSome_map, obsOf]

theorem roundTrip_some (v : Variant) (hg : v.nilRespGuard = true) (ra : Nat) (o : Outcome)
    (ho : o ≠ .beforeErr) : ∃ r, (roundTrip v ra o).1 = some r ∧ r.attempt = ra := by
  cases o <;> simp_all [roundTrip]

/-- How the wait before the next attempt ends, given the response `resp` the pass holds and the mutable part `d4`
after the interval function: what the pass hands on (`Pass.out`), and whether that response still holds what its
attempt buffered (`Pass.held`). -/
inductive WaitOut (v : Variant) (o : Outcome) (ra : Nat) (d4 : Dyn) (resp : Option Resp) :
    Final ⊕ Option Resp → Bool → Prop
  | panic (hr : resp = none) : WaitOut v o ra d4 resp (.inl .panic) false
  | ctxDone {r} (hr : resp = some r) (h : (o.ctxDone || d4.ctxDone) = true) :
      WaitOut v o ra d4 resp (.inl (.done (some { r with err := some (ra, .waitCtx) }) (some (ra, .waitCtx))))
        v.wipeAfterWait
  | goes {r} (hr : resp = some r) (h1 : o.ctxDone = false) (h2 : d4.ctxDone = false) :
      WaitOut v o ra d4 resp (.inr (some r)) false

theorem waitStage_exit (v : Variant) (ed : Edits) (o : Outcome) (ra : Nat) (view : RespView) (resp : Option Resp)
    (ev : List (Event W)) (d3 : Dyn) (st2 : σ) :
    ∃ out held, waitStage v ed o ra view resp ev d3 st2 =
        ⟨ev ++ [.interval d3.interval (ra + 1) view], applyEv ed d3 (.interval d3.interval (ra + 1) view : Event W),
          ra + 1, st2, out, held⟩ ∧
      WaitOut v o ra (applyEv ed d3 (.interval d3.interval (ra + 1) view : Event W)) resp out held := by
  unfold waitStage
  cases resp with
  | none => exact ⟨_, _, rfl, .panic rfl⟩
  | some r =>
    simp only
    by_cases h : (o.ctxDone || (applyEv ed d3 (.interval d3.interval (ra + 1) view : Event W)).ctxDone) = true
    · rw [if_pos h]; exact ⟨_, _, rfl, .ctxDone rfl h⟩
    · rw [if_neg h]
      simp only [Bool.or_eq_true, not_or, Bool.not_eq_true] at h
      exact ⟨_, _, rfl, .goes rfl h.1 h.2⟩

section pass
variable (v : Variant) (p : Policy σ) (ed : Edits) (mw : Nat → σ → σ × W) (su : σ → Bool)
  (o : Outcome) (ra : Nat) (st : σ) (d : Dyn) (prev : Option Resp)

/-- The ways through one pass of the loop (`diteration`), each with the test results that lead there and the `Pass`
it yields: a request middleware failed; the pass returns before the conditions are asked (response middleware
aborted, no retry allowed, body cannot be replayed); the conditions say no; hooks and interval function run and the
wait ends as `WaitOut` says.  `a` is the response middleware's result, `c` the conditions', `d3` the mutable part
when the interval function is called, `d4` after it. -/
inductive Exit : Pass σ W → Prop
  | before (ho : o = .beforeErr) :
      Exit ⟨[.before ra], d, ra, st, .inl (.done prev (some (ra, .before))), false⟩
  | early (ho : o ≠ .beforeErr) {a} (ha : afterRun W v p o ra = a)
      (h : a.2.2 = true ∨ cannotRetry (withDyn p (editsOf ed d a.1)) o ra = true ∨ su (mw ra st).1 = true) :
      Exit ⟨[.before ra, .wire ra (mw ra st).2] ++ a.1, editsOf ed d a.1, ra, (mw ra st).1,
        .inl (.done (roundTrip v ra o).1 a.2.1), true⟩
  | condsNo (ho : o ≠ .beforeErr) {a c} (ha : afterRun W v p o ra = a)
      (hab : a.2.2 = false) (hcr : cannotRetry (withDyn p (editsOf ed d a.1)) o ra = false)
      (hsu : su (mw ra st).1 = false)
      (hc : askConds p ra (viewOf (roundTrip v ra o).1) a.2.1 = c) (hno : c.2 = false) :
      Exit ⟨[.before ra, .wire ra (mw ra st).2] ++ a.1 ++ c.1, editsOf ed (editsOf ed d a.1) c.1, ra, (mw ra st).1,
        .inl (.done (roundTrip v ra o).1 a.2.1), true⟩
  | wait (ho : o ≠ .beforeErr) {a c hev d3 iev d4} (ha : afterRun W v p o ra = a)
      (hab : a.2.2 = false) (hcr : cannotRetry (withDyn p (editsOf ed d a.1)) o ra = false)
      (hsu : su (mw ra st).1 = false)
      (hc : askConds p ra (viewOf (roundTrip v ra o).1) a.2.1 = c) (hyes : c.2 = true)
      (hh : hookEvs p ra (viewOf (roundTrip v ra o).1) a.2.1 = hev)
      (hd3 : editsOf ed (editsOf ed (editsOf ed d a.1) c.1) hev = d3)
      (hi : Event.interval d3.interval (ra + 1) (viewOf (roundTrip v ra o).1) = iev)
      (hd4 : applyEv ed d3 iev = d4)
      {out held} (hout : WaitOut v o ra d4 (roundTrip v ra o).1 out held) :
      Exit ⟨[.before ra, .wire ra (mw ra st).2] ++ a.1 ++ c.1 ++ hev ++ [iev], d4, ra + 1,
        hookState p ra (viewOf (roundTrip v ra o).1) a.2.1 (mw ra st).1, out, held⟩

theorem diteration_exit : Exit v p ed mw su o ra st d prev (diteration v p ed mw su o ra st d prev) := by
  unfold diteration
  by_cases ho : o = .beforeErr
  · rw [if_pos ho]; exact .before ho
  rw [if_neg ho]
  simp only
  generalize ha : afterRun W v p o ra = a
  unfold afterRun at ha
  simp only at ha
  rw [ha]
  by_cases h1 : a.2.2 = true
  · rw [if_pos h1]; exact .early ho ha (.inl h1)
  rw [if_neg h1]
  by_cases h2 : cannotRetry (withDyn p (editsOf ed d a.1)) o ra = true
  · rw [if_pos h2]; exact .early ho ha (.inr (.inl h2))
  rw [if_neg h2]
  by_cases h3 : su (mw ra st).1 = true
  · rw [if_pos h3]; exact .early ho ha (.inr (.inr h3))
  rw [if_neg h3]
  unfold retryStage
  simp only
  generalize hc : askConds (W := W) p ra (viewOf (roundTrip v ra o).1) a.2.1 = c
  by_cases h4 : c.2 = false
  · rw [if_pos h4]; exact .condsNo ho ha (by simpa using h1) (by simpa using h2) (by simpa using h3) hc h4
  rw [if_neg h4]
  obtain ⟨out, held, e, hw⟩ := waitStage_exit v ed o ra (viewOf (roundTrip v ra o).1) (roundTrip v ra o).1
    ([Event.before ra, .wire ra (mw ra st).2] ++ a.1 ++ c.1 ++ hookEvs p ra (viewOf (roundTrip v ra o).1) a.2.1)
    (editsOf ed (editsOf ed (editsOf ed d a.1) c.1) (hookEvs (W := W) p ra (viewOf (roundTrip v ra o).1) a.2.1))
    (hookState p ra (viewOf (roundTrip v ra o).1) a.2.1 (mw ra st).1)
  rw [e]
  exact .wait ho ha (by simpa using h1) (by simpa using h2) (by simpa using h3) hc (by simpa using h4) rfl rfl rfl rfl hw

/-- What must hold for the loop to go round again after pass `(o, ra)` with result `P`. -/
structure Continues (P : Pass σ W) : Prop where
  notBefore : o ≠ .beforeErr
  notCancelled : o ≠ .cancelled
  enabled : (dynAtCheck W v p ed o ra d).enabled = true
  retriesLeft : (dynAtCheck W v p ed o ra d).maxRetries < 0 ∨ (ra : Int) < (dynAtCheck W v p ed o ra d).maxRetries
  ctxAlive : o.ctxDone = false
  dynAlive : P.dyn.ctxDone = false
  raSucc : P.ra = ra + 1
  replayable : su (mw ra st).1 = false

variable {v p ed mw su o ra st d prev} {P : Pass σ W}

/-- What every pass that reaches the wire logs: `before`, `wire`, the response middleware, and a tail
(conditions, hooks, interval function) without `before` or `wire`; the mutable part is edited by the
callbacks logged, in call order. -/
theorem Exit.events (h : Exit v p ed mw su o ra st d prev P) (ho : o ≠ .beforeErr) :
    ∃ q tail, Quiet q ∧ P.events = [Event.before ra, .wire ra (mw ra st).2] ++ q ++ tail ∧
      P.dyn = editsOf ed (editsOf ed d q) tail ∧ iterations tail = 0 ∧ wires tail = [] := by
  cases h with
  | before h => exact absurd h ho
  | early _ ha _ => exact ⟨_, [], ha ▸ quiet_afterRun v p o ra, (List.append_nil _).symm, rfl, rfl, rfl⟩
  | condsNo _ ha _ _ _ hc _ =>
    have hq := hc ▸ quiet_askConds (W := W) p ra _ _
    exact ⟨_, _, ha ▸ quiet_afterRun v p o ra, rfl, rfl, hq.iterations, hq.wires⟩
  | @wait _ a c hev d3 iev d4 ha _ _ _ hc _ hh hd3 hi hd4 _ _ _ =>
    have hq := hc ▸ quiet_askConds (W := W) p ra _ _
    refine ⟨a.1, c.1 ++ hev ++ [iev], ha ▸ quiet_afterRun v p o ra, by simp only [List.append_assoc], ?_, ?_, ?_⟩
    · rw [editsOf_append, editsOf_append, hd3, ← hd4]; rfl
    · rw [iterations_append, iterations_append, hq.iterations, ← hh, hookEvs_iterations, ← hi]; rfl
    · rw [wires_append, wires_append, hq.wires, ← hh, hookEvs_wires, ← hi]; rfl

theorem Exit.shape (h : Exit v p ed mw su o ra st d prev P) :
    P.dyn = editsOf ed d P.events ∧ iterations P.events = 1 := by
  by_cases ho : o = .beforeErr
  · cases h with
    | before => exact ⟨(nop_apply d).symm, rfl⟩
    | early ho' | condsNo ho' | wait ho' => exact absurd ho ho'
  · obtain ⟨q, tail, hq, h1, h2, h3, -⟩ := h.events ho
    rw [h1, h2]
    constructor
    · simp only [editsOf_append, editsOf_cons, applyEv_before, applyEv_wire, editsOf_nil]
    · rw [iterations_append, iterations_append, hq.iterations, h3]; rfl

theorem Exit.wires (h : Exit v p ed mw su o ra st d prev P) :
    wires P.events = if o = .beforeErr then [] else [(ra, (mw ra st).2)] := by
  by_cases ho : o = .beforeErr
  · cases h with
    | before => rw [if_pos ho]; rfl
    | early ho' | condsNo ho' | wait ho' => exact absurd ho ho'
  · obtain ⟨q, tail, hq, h1, -, -, h4⟩ := h.events ho
    rw [h1, if_neg ho, wires_append, wires_append, hq.wires, h4]; rfl

theorem Exit.cont (h : Exit v p ed mw su o ra st d prev P) {x : Option Resp} (hx : P.out = .inr x) :
    Continues v p ed mw su o ra st d P := by
  cases h with
  | before | early | condsNo => cases hx
  | wait ho ha _ hcr hsu _ _ _ _ _ _ hout =>
    cases hout with
    | panic | ctxDone => cases hx
    | goes _ h1 h2 =>
      subst ha
      obtain ⟨hnc, hen, hleft⟩ := cannotRetry_eq_false.mp hcr
      exact { notBefore := ho, notCancelled := hnc, enabled := hen, retriesLeft := hleft,
              ctxAlive := h1, dynAlive := h2, raSucc := rfl, replayable := hsu }

theorem Exit.held (hw : v.wipeAfterWait = true) (hg : v.nilRespGuard = true)
    (h : Exit v p ed mw su o ra st d prev P) (ho : o ≠ .beforeErr) {resp : Option Resp} {err : Option Err}
    (hd : P.out = .inl (.done resp err)) : P.held = true ∧ ∃ r, resp = some r ∧ r.attempt = ra := by
  obtain ⟨r0, hr0, hra⟩ := roundTrip_some v hg ra o ho
  cases h with
  | before h => exact absurd h ho
  | early | condsNo => cases hd; exact ⟨rfl, r0, hr0, hra⟩
  | wait _ _ _ _ _ _ _ _ _ _ _ hout =>
    cases hout with
    | panic hr => cases hr0.symm.trans hr
    | ctxDone hr => cases hd; cases hr0.symm.trans hr; exact ⟨hw, _, rfl, hra⟩
    | goes => cases hd

end pass

theorem returns_of_not_continues {v : Variant} {p : Policy σ} {ed : Edits} {mw : Nat → σ → σ × W} {su : σ → Bool}
    {o : Outcome} {ra : Nat} {st : σ} {d : Dyn} (prev : Option Resp)
    (h : ¬ Continues v p ed mw su o ra st d (diteration v p ed mw su o ra st d prev)) :
    ∃ f, (diteration v p ed mw su o ra st d prev).out = .inl f := by
  cases hout : (diteration v p ed mw su o ra st d prev).out with
  | inl f => exact ⟨f, rfl⟩
  | inr x => exact absurd ((diteration_exit v p ed mw su o ra st d prev).cont hout) h

/-- Induction over the loop: a pass that returns ends it, any other is followed by the loop on the rest of the
script from where the pass left the request. -/
theorem dloop_induct (v : Variant) (p : Policy σ) (ed : Edits) (mw : Nat → σ → σ × W) (su : σ → Bool)
    {motive : List Outcome → Nat → σ → Dyn → Option Resp → Prop}
    (nil : ∀ ra st d prev, motive [] ra st d prev)
    (stop : ∀ o rest ra st d prev P f, Exit v p ed mw su o ra st d prev P → P.out = .inl f →
      dloop v p ed mw su (o :: rest) ra st d prev = (P.events, f, ⟨P.ra, P.st, P.dyn, rest, P.held⟩) →
      motive (o :: rest) ra st d prev)
    (cont : ∀ o rest ra st d prev P x, Exit v p ed mw su o ra st d prev P → P.out = .inr x →
      dloop v p ed mw su (o :: rest) ra st d prev =
        (P.events ++ (dloop v p ed mw su rest P.ra P.st P.dyn x).1, (dloop v p ed mw su rest P.ra P.st P.dyn x).2) →
      motive rest P.ra P.st P.dyn x → motive (o :: rest) ra st d prev)
    (script : List Outcome) (ra : Nat) (st : σ) (d : Dyn) (prev : Option Resp) : motive script ra st d prev := by
  induction script generalizing ra st d prev with
  | nil => exact nil ra st d prev
  | cons o rest ih =>
    have h := diteration_exit v p ed mw su o ra st d prev
    cases hout : (diteration v p ed mw su o ra st d prev).out with
    | inl f => exact stop o rest ra st d prev _ f h hout (by simp only [dloop, hout])
    | inr x => exact cont o rest ra st d prev _ x h hout (by simp only [dloop, hout]) (ih _ _ _ _)

end Req.Lemmas.C10Dyn
