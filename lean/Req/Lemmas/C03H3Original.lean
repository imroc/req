import Req.Lemmas.C03H3Head
/-!
C03 — HTTP/3: the repaired body reader (`parseNextR`, `readR`, `bodyReadR`) against the original
of C02 (`parseNext`, `H3Stream.read`, `H3Body.read`), which C02's lane `c02h3recv` ties to the
code byte by byte: same reads, same bytes, only the error of the last read may differ, and only
`io.EOF` → `io.ErrUnexpectedEOF` (or between two non-EOF errors).
-/
namespace Req.C03
open Req.Proto Req.C02

/-- The repaired reader may say `io.ErrUnexpectedEOF` for the original's `io.EOF`, or another
non-EOF error for a non-EOF error (a SETTINGS frame whose payload the repaired parser reads first). -/
def ERel (e e' : H3Err) : Prop := e' = e ∨ (e = .eof ∧ e' = .unexpectedEOF) ∨ (e ≠ .eof ∧ e' ≠ .eof)

/-- Two read results: identical, or both an error with the same data. -/
def RRel (a b : (Bytes × Option H3Err) × H3Stream) : Prop :=
  a = b ∨ (a.1.1 = b.1.1 ∧ a.2.remInFrame = b.2.remInFrame ∧ ∃ e e', a.1.2 = some e ∧ b.1.2 = some e' ∧ ERel e e')

theorem read_go_eq (s : H3Stream) (k : Nat) (h : s.remInFrame ≠ 0) : s.read k = readInFrame s k := by
  unfold H3Stream.read readInFrame
  simp only [h, if_true, ne_eq, not_false_eq_true]
  rfl

/-- The repaired trailer reader leaves the same state as the original, and reports the same error
or `io.ErrUnexpectedEOF` for the original's `io.EOF`. -/
theorem parseTrailer_rel (s : H3Stream) (l : Nat) :
    (s.parseTrailer l).2 = (parseTrailerR s l).2 ∧
    ((s.parseTrailer l).1 = (parseTrailerR s l).1 ∨
      ((s.parseTrailer l).1 = some .eof ∧ (parseTrailerR s l).1 = some .unexpectedEOF)) := by
  unfold H3Stream.parseTrailer parseTrailerR
  split
  · exact ⟨rfl, .inl rfl⟩
  · rcases hr : Net.readN (l + 1) l [] s.net with ⟨⟨got, oe⟩, n'⟩
    cases oe with
    | none => exact ⟨rfl, .inl rfl⟩
    | some e =>
      refine ⟨rfl, ?_⟩
      simp only []
      unfold readFullErr readFullErrR
      by_cases he : (e == H3Err.eof) = true
      · by_cases hg : got.length > 0
        · left; simp [he, hg]
        · right; have := (h3err_beq_eof _).mp he; subst this; simp [hg, he]
      · left; simp [he]

theorem readR_rel (s : H3Stream) (k : Nat) : RRel (s.read k) (readR s k) := by
  by_cases hrem : s.remInFrame ≠ 0
  · left
    rw [read_go_eq s k hrem]
    unfold readR; rw [if_pos hrem]
  · have hrel := parseNext_rel (s.net.size + 1) s.net
    unfold H3Stream.read readR
    simp only [hrem, if_false]
    generalize parseNext (s.net.size + 1) s.net = pa at hrel
    generalize parseNextR (s.net.size + 1) s.net = pb at hrel
    cases hrel with
    | data l n =>
      simp only []
      split
      · left; rfl
      · left; unfold readInFrame; rfl
    | headers l n =>
      simp only []
      split
      · left; rfl
      · obtain ⟨hs, h | ⟨h1, h2⟩⟩ := parseTrailer_rel ({ s with net := n, parsedTrailer := true } : H3Stream) l
        · left; rw [h, hs]
        · exact .inr ⟨rfl, by rw [hs], .eof, .unexpectedEOF, h1, h2, Or.inr (Or.inl ⟨rfl, rfl⟩)⟩
    | settings n n' _ =>
      right
      exact ⟨rfl, rfl, .frameUnexpected, .frameUnexpected, rfl, rfl, Or.inl rfl⟩
    | settingsErr n n' e _ he =>
      right
      exact ⟨rfl, rfl, .frameUnexpected, e, rfl, rfl, Or.inr (Or.inr ⟨by simp, he⟩)⟩
    | err e n => left; rfl
    | eofTrunc n =>
      right
      exact ⟨rfl, rfl, .eof, .unexpectedEOF, rfl, rfl, Or.inr (Or.inl ⟨rfl, rfl⟩)⟩

/-- `RRel` for `body.Read`, without its clause on the DATA-frame position. -/
def BRel (a b : (Bytes × Option H3Err) × H3Body) : Prop :=
  a = b ∨ (a.1.1 = b.1.1 ∧ ∃ e e', a.1.2 = some e ∧ b.1.2 = some e' ∧ ERel e e')

theorem bodyRead_eq (b : H3Body) (k : Nat) (hv : b.violation = false) :
    b.read k = bodyStep b (b.str.read (bodyK b k)) := by
  unfold H3Body.read
  rw [if_neg (by simp [hv])]
  exact bodyWrap_eq b _

theorem bodyRead_viol (b : H3Body) (k : Nat) (hv : b.violation = true) :
    b.read k = (([], some .tooMuchData), b) := by
  unfold H3Body.read; simp [hv]

theorem ERel.refl (e : H3Err) : ERel e e := .inl rfl

theorem bodyErr_rel {ba bb : H3Body} {e e' : H3Err} (hv : ba.violation = bb.violation) (hc : ba.hasCL = bb.hasCL)
    (hr : ba.remaining = bb.remaining) (h : ERel e e') :
    ∃ x x', bodyErr ba (some e) = some x ∧ bodyErr bb (some e') = some x' ∧ ERel x x' := by
  rw [bodyErr_some, bodyErr_some, hv, hc, hr]
  refine ⟨_, _, rfl, rfl, ?_⟩
  by_cases h1 : bb.violation = true
  · rw [if_pos h1, if_pos h1]; exact .refl _
  rw [if_neg h1, if_neg h1]
  by_cases h2 : bb.hasCL = true ∧ bb.remaining > 0
  · -- an `io.EOF` with bytes still owed becomes `io.ErrUnexpectedEOF` on both sides
    rcases h with rfl | ⟨rfl, rfl⟩ | ⟨ha, hb⟩
    · exact .refl _
    · rw [if_pos ⟨rfl, h2⟩, if_neg (fun h => nomatch h.1)]; exact .refl _
    · rw [if_neg (fun h => ha h.1), if_neg (fun h => hb h.1)]; exact .inr (.inr ⟨ha, hb⟩)
  · rw [if_neg (fun h => h2 h.2), if_neg (fun h => h2 h.2)]; exact h

theorem bodyRead_rel (b : H3Body) (k : Nat) : BRel (b.read k) (bodyReadR b k) := by
  cases hv : b.violation with
  | true => left; rw [bodyRead_viol b k hv, bodyReadR_viol b k hv]
  | false =>
    rw [bodyRead_eq b k hv, bodyReadR_eq b k hv, bodyStep, bodyStep]
    rcases readR_rel b.str (bodyK b k) with h | ⟨hd, hrem, e, e', he, he', hrel⟩
    · left; rw [h]
    · right
      obtain ⟨x, x', h1, h2, hx⟩ := bodyErr_rel (ba := bodyNext b (b.str.read (bodyK b k)))
        (bb := bodyNext b (readR b.str (bodyK b k))) (by simp [bodyNext, H3Body.violation, hrem, hd]) rfl
        (by simp [bodyNext, hd]) hrel
      exact ⟨hd, x, x', by rw [he]; exact h1, by rw [he']; exact h2, hx⟩

end Req.C03
