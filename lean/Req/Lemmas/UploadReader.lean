import Req.Client.UploadReader
/-!
What `writeFile` makes of a read script: `copy` is `content` with `clean` (`copy_eq`), one capped read
splits the script (`readCap_spec`), and the result of the call in one statement (`writeFile_spec`).
-/
namespace Req.UploadReader
open Req.Proto

theorem copy_eq (r : List Rd) : copy r = (content r, clean r) := by
  induction r with
  | nil => rfl
  | cons x xs ih => cases x <;> simp [copy, content, clean, ih]

theorem readCap_spec (cap : Nat) (s : List Rd) :
    match readCap cap s with
    | (.data bs, r) => bs.length ≤ cap ∧ content s = bs ++ content r ∧ clean s = clean r
    | (.eof bs, _) => bs.length ≤ cap ∧ content s = bs ∧ clean s = true
    | (.fail bs, _) => bs.length ≤ cap ∧ clean s = false := by
  cases s with
  | nil => simp [readCap, content, clean]
  | cons x xs =>
    cases x with
    | data bs =>
      by_cases h : bs.length ≤ cap
      · simp [readCap, h, content, clean]
      · simp only [readCap, h, if_false, content, clean]
        refine ⟨by simp; omega, ?_, trivial⟩
        rw [← List.append_assoc, List.take_append_drop]
    | eof bs =>
      by_cases h : bs.length ≤ cap
      · simp [readCap, h, content, clean]
      · simp only [readCap, h, if_false, content, clean]
        exact ⟨by simp; omega, (List.take_append_drop cap bs).symm, trivial⟩
    | fail bs =>
      by_cases h : bs.length ≤ cap
      · simp [readCap, h, clean]
      · simp only [readCap, h, if_false, content, clean]
        exact ⟨by simp; omega, (List.take_append_drop cap bs).symm, trivial⟩

/-- What `writeFile` returns: nothing when the content function or the FIRST read fails; else the
file's bytes, whether the script was clean, and for sniffing the first read — at most 512 bytes
of the file — zero-padded. -/
theorem writeFile_spec (script : List Rd) :
    (writeFile true script = none ∧ clean script = false) ∨
    ∃ k, k ≤ sniffCap ∧ k ≤ (content script).length ∧
      writeFile true script = some ⟨pad ((content script).take k), content script, clean script⟩ := by
  have hs := readCap_spec sniffCap script
  simp only [writeFile, Bool.not_true, Bool.false_eq_true, if_false]
  rcases hr : readCap sniffCap script with ⟨bs | bs | bs, rest⟩ <;> rw [hr] at hs <;> simp only at hs ⊢
  · exact .inr ⟨bs.length, hs.1, by simp [hs.2.1], by simp [copy_eq, hs.2.1, hs.2.2]⟩
  · exact .inr ⟨bs.length, hs.1, by simp [hs.2.1], by simp [hs.2.1, hs.2.2]⟩
  · exact .inl ⟨trivial, hs.2⟩

end Req.UploadReader
