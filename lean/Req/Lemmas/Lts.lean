/-! Action systems: a state space with named internal steps, each with a guard (`guard s a`) and an
effect (`apply s a`). What the lifecycle models of C08 share: what holds along a run of enabled steps,
and, from a measure that every step decreases, that runs are short and that some run ends stuck.
`guard` and `apply` are parameters, so that an instance speaks of a model's own functions. -/
namespace Req.Lemmas.Lts

variable {σ α : Type} (guard : σ → α → Bool) (apply : σ → α → σ)

/-- runs of enabled steps; each lifecycle model has its own inductive `Run` of this shape, which its `run_lts` maps into this one -/
inductive Run : σ → List α → σ → Prop
  | nil (s) : Run s [] s
  | cons {s a as s'} : guard s a = true → Run (apply s a) as s' → Run s (a :: as) s'

variable {guard apply}

theorem Run.keeps {P : σ → Prop} (step : ∀ {s a}, P s → guard s a = true → P (apply s a))
    {s s' : σ} {as : List α} (r : Run guard apply s as s') (h : P s) : P s' := by
  induction r with
  | nil => exact h
  | cons g _ ih => exact ih (step h g)

theorem Run.length_le {mu : σ → Nat} (dec : ∀ s a, guard s a = true → mu (apply s a) < mu s)
    {s s' : σ} {as : List α} (r : Run guard apply s as s') : as.length + mu s' ≤ mu s := by
  induction r with
  | nil => exact Nat.le_of_eq (Nat.zero_add _)
  | cons g _ ih => have := dec _ _ g; simp only [List.length_cons]; omega

theorem Run.length_le_of_le {mu : σ → Nat} {K : Nat} (dec : ∀ s a, guard s a = true → mu (apply s a) < mu s)
    (le : ∀ s, mu s ≤ K) {s s' : σ} {as : List α} (r : Run guard apply s as s') : as.length ≤ K :=
  Nat.le_trans (Nat.le_trans (Nat.le_add_right _ _) (r.length_le dec)) (le s)

variable {acts : List α}

/-- `stuck` of a model is `acts.all fun a => !guard s a` for its list `acts` of all steps -/
theorem all_not_guard (complete : ∀ a, a ∈ acts) {s : σ} :
    (acts.all fun a => !guard s a) = true ↔ ∀ a, guard s a = false := by
  simp only [List.all_eq_true, Bool.not_eq_true']
  exact ⟨fun h a => h a (complete a), fun h a _ => h a⟩

/-- stated for any relation `R` that contains the runs, so that it yields a run of the model's own `Run` -/
theorem exists_maximal_run {R : σ → List α → σ → Prop} (nil : ∀ s, R s [] s)
    (cons : ∀ {s a as s'}, guard s a = true → R (apply s a) as s' → R s (a :: as) s')
    {mu : σ → Nat} (dec : ∀ s a, guard s a = true → mu (apply s a) < mu s) (s : σ) :
    ∃ as s', R s as s' ∧ (acts.all fun a => !guard s' a) = true := by
  cases hst : acts.all fun a => !guard s a with
  | true => exact ⟨[], s, nil s, hst⟩
  | false =>
    obtain ⟨a, -, ha⟩ := List.all_eq_false.mp hst
    have ha : guard s a = true := by simpa using ha
    have := dec s a ha
    obtain ⟨as, s', hr, hs'⟩ := exists_maximal_run nil cons dec (apply s a)
    exact ⟨a :: as, s', cons ha hr, hs'⟩
termination_by mu s

end Req.Lemmas.Lts
