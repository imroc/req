import Req.Client.Scope
/-!
The multimap of the value model (`AMap`, an association list in which a key may occur more than once): what `get` /
`has` read after `set`, `del` and an appended entry, the one-element encoding of a slice (`ofList` / `toList`) with
`norm` and `appendV`, and what the header merge (a fold of `set` over the client's entries) sends for a key.
-/
namespace Req.Scope

theorem get_cons (e : Nat × List Nat) (m : AMap) (k : Nat) :
    AMap.get (e :: m) k = if e.1 = k then e.2 else AMap.get m k := by
  unfold AMap.get
  by_cases h : e.1 = k
  · simp [List.find?, h]
  · have : (e.1 == k) = false := by simpa using h
    simp [List.find?, this, h]

theorem get_nil (k : Nat) : AMap.get [] k = [] := rfl

theorem has_cons (e : Nat × List Nat) (m : AMap) (k : Nat) :
    AMap.has (e :: m) k = (e.1 == k || AMap.has m k) := by
  simp [AMap.has]

theorem has_false_get (m : AMap) (k : Nat) (h : AMap.has m k = false) : AMap.get m k = [] := by
  induction m with
  | nil => rfl
  | cons e m ih =>
    rw [has_cons] at h
    rw [get_cons]
    have h1 : ¬ e.1 = k := by intro he; simp [he] at h
    simp only [h1, if_false]
    exact ih (by simpa [h1] using h)

theorem get_append_single (m : AMap) (k k' : Nat) (vs : List Nat) :
    AMap.get (m ++ [(k, vs)]) k' = if AMap.has m k' then AMap.get m k' else if k = k' then vs else [] := by
  induction m with
  | nil => simp [get_cons, get_nil, AMap.has]
  | cons e m ih =>
    rw [List.cons_append, get_cons, get_cons, has_cons, ih]
    by_cases h : e.1 = k'
    · simp [h]
    · have : (e.1 == k') = false := by simpa using h
      simp [h, this]

theorem has_map_set (m : AMap) (k : Nat) (vs : List Nat) :
    AMap.has (m.map (fun e => if e.1 == k then (k, vs) else e)) k = AMap.has m k := by
  unfold AMap.has
  rw [List.any_map]
  congr 1; funext e
  by_cases h : e.1 = k <;> simp [h]

theorem get_map_set (m : AMap) (k k' : Nat) (vs : List Nat) :
    AMap.get (m.map (fun e => if e.1 == k then (k, vs) else e)) k' =
      if k' = k then (if AMap.has m k then vs else []) else AMap.get m k' := by
  induction m with
  | nil => simp [get_nil, AMap.has]
  | cons e m ih =>
    rw [List.map_cons, get_cons, ih, get_cons, has_cons]
    by_cases hek : e.1 = k
    · have hb : (e.1 == k) = true := by simpa using hek
      simp only [hb, if_true]
      by_cases hk' : k' = k
      · simp [hk']
      · have : ¬ k = k' := fun h => hk' h.symm
        have hek' : ¬ e.1 = k' := by rw [hek]; exact this
        simp [hk', this, hek']
    · have hb : (e.1 == k) = false := by simpa using hek
      simp only [hb, Bool.false_eq_true, if_false, Bool.false_or]
      by_cases hk' : k' = k
      · subst hk'
        simp [hek]
      · simp [hk']

theorem get_set_same (m : AMap) (k : Nat) (vs : List Nat) : (m.set k vs).get k = vs := by
  unfold AMap.set
  by_cases h : AMap.has m k
  · simp only [h, if_true]
    rw [get_map_set]; simp [h]
  · simp only [h, Bool.false_eq_true, if_false]
    rw [get_append_single]; simp [h]

theorem get_set_other (m : AMap) (k k' : Nat) (vs : List Nat) (hne : k' ≠ k) : (m.set k vs).get k' = m.get k' := by
  unfold AMap.set
  by_cases h : AMap.has m k
  · simp only [h, if_true]
    rw [get_map_set]; simp [hne]
  · simp only [h, Bool.false_eq_true, if_false]
    rw [get_append_single]
    by_cases h' : AMap.has m k'
    · simp [h']
    · have hk : ¬ k = k' := fun e => hne e.symm
      simp only [h', Bool.false_eq_true, if_false, hk]
      exact (has_false_get m k' (by simpa using h')).symm

theorem has_del (m : AMap) (k k' : Nat) : AMap.has (m.del k) k' = (AMap.has m k' && k' != k) := by
  induction m with
  | nil => simp [AMap.del, AMap.has]
  | cons e m ih =>
    unfold AMap.del at ih ⊢
    rw [List.filter_cons]
    by_cases hek : e.1 = k
    · have : (e.1 != k) = false := by simp [hek]
      simp only [this, Bool.false_eq_true, if_false, ih, has_cons]
      by_cases hk : k' = k
      · simp [hk]
      · have : (e.1 == k') = false := by rw [hek]; simpa using fun h => hk h.symm
        simp [this]
    · have : (e.1 != k) = true := by simp [hek]
      simp only [this, if_true, has_cons, ih]
      by_cases hk : k' = k
      · subst hk; simp [hek]
      · have hb : (k' != k) = true := by simpa using hk
        rw [hb]; simp

theorem get_del_other (m : AMap) (k k' : Nat) (hne : k' ≠ k) : AMap.get (m.del k) k' = AMap.get m k' := by
  induction m with
  | nil => rfl
  | cons e m ih =>
    unfold AMap.del at ih ⊢
    rw [List.filter_cons]
    by_cases hek : e.1 = k
    · have : (e.1 != k) = false := by simp [hek]
      simp only [this, Bool.false_eq_true, if_false, ih, get_cons]
      have : ¬ e.1 = k' := by rw [hek]; exact fun h => hne h.symm
      simp [this]
    · have : (e.1 != k) = true := by simp [hek]
      simp only [this, if_true, get_cons, ih]

/-- one step of the query merge, read at key `k'` -/
theorem get_del_append (m : AMap) (k k' : Nat) (vs : List Nat) :
    AMap.get (m.del k ++ [(k, vs)]) k' = if k = k' then vs else AMap.get m k' := by
  rw [get_append_single, has_del]
  by_cases hk : k = k'
  · subst hk; simp
  · have hne : k' ≠ k := fun h => hk h.symm
    simp only [hk, if_false]
    by_cases hh : AMap.has m k' = true
    · simp [hh, hne, get_del_other m k k' hne]
    · have hh' : AMap.has m k' = false := by simpa using hh
      simp [hh', has_false_get m k' hh']

theorem toList_ofList (xs : List Nat) : (AMap.ofList xs).toList = xs := by
  unfold AMap.ofList AMap.toList AMap.get
  cases xs with
  | nil => simp
  | cons x xs => simp

theorem norm_slice_ofList (xs : List Nat) : norm .slice (AMap.ofList xs) = AMap.ofList xs := by
  simp [norm, toList_ofList]

theorem norm_nil (k : Kind) : norm k [] = [] := by
  cases k <;> simp [norm, AMap.toList, AMap.get, AMap.ofList]

theorem appendV_ofList (ys xs : List Nat) (hx : xs.isEmpty = false) :
    appendV (AMap.ofList ys) xs = AMap.ofList (ys ++ xs) := by
  simp [appendV, hx, toList_ofList]

theorem norm_idem (k : Kind) (m : AMap) : norm k (norm k m) = norm k m := by
  cases k with
  | box => rfl
  | slice => simp [norm, toList_ofList]

theorem norm_initVal : ∀ f : Field, norm (kind f) (initVal f) = initVal f := by decide +kernel

/-- fold of the header merge keeps a key the request already has values for -/
theorem mergeHeaders_keeps (k : Nat) : ∀ (c r : AMap), (r.get k).isEmpty = false →
    (mergeHeaders c r).get k = r.get k := by
  intro c
  induction c with
  | nil => intro r _; rfl
  | cons e c ih =>
    intro r hr
    simp only [mergeHeaders, List.foldl_cons]
    have step : ((if (r.get e.1).isEmpty then r.set e.1 e.2 else r).get k) = r.get k := by
      by_cases hek : e.1 = k
      · subst hek; simp [hr]
      · split
        · exact get_set_other r e.1 k e.2 (fun h => hek h.symm)
        · rfl
    have := ih (if (r.get e.1).isEmpty then r.set e.1 e.2 else r) (by rw [step]; exact hr)
    simp only [mergeHeaders] at this
    rw [this, step]

/-- a client header the request has no values for is sent with the client's values -/
theorem mergeHeaders_client (k : Nat) : ∀ (c r : AMap), (r.get k).isEmpty = true → (c.get k).isEmpty = false →
    (mergeHeaders c r).get k = c.get k := by
  intro c
  induction c with
  | nil => intro r _ hc; simp [get_nil] at hc
  | cons e c ih =>
    intro r hr hc
    simp only [mergeHeaders, List.foldl_cons]
    rw [get_cons] at hc ⊢
    by_cases hek : e.1 = k
    · simp only [hek, if_true] at hc ⊢
      have hacc : (if (r.get k).isEmpty then r.set k e.2 else r) = r.set k e.2 := by
        rw [hr]; simp
      rw [hacc]
      have := mergeHeaders_keeps k c (r.set k e.2) (by rw [get_set_same]; exact hc)
      simp only [mergeHeaders] at this
      rw [this, get_set_same]
    · simp only [hek, if_false] at hc ⊢
      have hacc : ((if (r.get e.1).isEmpty then r.set e.1 e.2 else r).get k).isEmpty = true := by
        split
        · rw [get_set_other r e.1 k e.2 (fun h => hek h.symm)]; exact hr
        · exact hr
      have := ih _ hacc hc
      simp only [mergeHeaders] at this
      exact this

end Req.Scope
