import Req.Lemmas.C06Wake
/-!
C06 — the wake-up discipline, proved by one walk over the handlers. Two kinds of goroutine sleep
on `cc.cond`: a `RoundTrip` parked in `awaitOpenSlotForStreamLocked` (`Req.Lemmas.C06Wake`: `enabled`,
`Same`) and the body writers blocked in `awaitFlowControl` until `cs.flow.available()` is positive.
The only operations that can raise what a live stream's writer sees are a WINDOW_UPDATE that is
applied and a SETTINGS frame with SETTINGS_INITIAL_WINDOW_SIZE — and both broadcast (`Conn.wakes`).

`NoRaise st st1`: the connection window did not grow and no stream's window grew. `Calm` = `Same`
and `NoRaise`: what every handler that neither broadcasts nor is the sleeper's own move satisfies
(`calm_apply`); from it `wake_step` (nobody who could go ahead is left asleep) and
`noraise_quiet` (no broadcast, no raised window; `Req.Props.C06.writer_woken` is its contrapositive).
-/
namespace Req.Lemmas.C06
open Req.H2 Req.H2.Flow Req.H2.Conn

/-- the send window a live stream's body writer sees (`cs.flow.available()`) -/
def availOf (st : State) (id : Nat) : Option Int :=
  match findStream st.streams id with
  | some s => if s.live then some (available st.connOut s.out) else none
  | none => none

/-- the connection's send window did not grow, and every stream is still in the table with a send
window that did not grow (streams never leave the table, so this is a preorder) -/
structure NoRaise (st st1 : State) : Prop where
  conn : st1.connOut ≤ st.connOut
  strm : ∀ id s, findStream st.streams id = some s → ∃ s1, findStream st1.streams id = some s1 ∧ s1.out ≤ s.out

theorem noraise_of_eq {st st1 : State} (h1 : st1.connOut = st.connOut) (h2 : st1.streams = st.streams) :
    NoRaise st st1 :=
  ⟨by rw [h1]; exact Int.le_refl _, fun id s h => ⟨s, by rw [h2]; exact h, Int.le_refl _⟩⟩

theorem noraise_refl (st : State) : NoRaise st st := noraise_of_eq rfl rfl

theorem noraise_setStream {st : State} {s' : Stream} (c : Int) (hc : c ≤ st.connOut)
    (h : ∀ s, findStream st.streams s'.id = some s → s'.out ≤ s.out) (st1 : State)
    (h1 : st1.connOut = c) (h2 : st1.streams = setStream st.streams s') : NoRaise st st1 := by
  refine ⟨by rw [h1]; exact hc, ?_⟩
  intro id s hf
  refine ⟨_, by rw [h2, find_setStream_any, hf]; rfl, ?_⟩
  dsimp only
  by_cases hid : s.id = s'.id
  · rw [if_pos hid]
    have hsid : s.id = id := (findStream_mem hf).2
    exact h s (by rw [← hid, hsid]; exact hf)
  · rw [if_neg hid]; exact Int.le_refl _

theorem noraise_trans {a b c : State} (h1 : NoRaise a b) (h2 : NoRaise b c) : NoRaise a c :=
  ⟨Int.le_trans h2.conn h1.conn, fun id s hf =>
    have ⟨s1, hf1, hle1⟩ := h1.strm id s hf
    have ⟨s2, hf2, hle2⟩ := h2.strm id s1 hf1
    ⟨s2, hf2, Int.le_trans hle2 hle1⟩⟩

theorem noraise_forget (st : State) {id0 : Nat} {s s' : Stream} (hf : findStream st.streams id0 = some s)
    (hid : s'.id = s.id) (ho : s'.out ≤ s.out) : NoRaise st (forget st s') := by
  have hsid : s.id = id0 := (findStream_mem hf).2
  have hkey : ∀ t, findStream st.streams ({ s' with live := false } : Stream).id = some t →
      ({ s' with live := false } : Stream).out ≤ t.out := by
    intro t ht
    have : findStream st.streams id0 = some t := by
      have e : ({ s' with live := false } : Stream).id = id0 := by show s'.id = id0; rw [hid, hsid]
      rw [e] at ht; exact ht
    rw [hf] at this; cases this; exact ho
  unfold forget
  simp only
  split <;> exact noraise_setStream (s' := { s' with live := false }) st.connOut (Int.le_refl _) hkey _ rfl rfl

/-- nothing that a goroutine asleep on `cc.cond` waits for has got better: the control part a parked
`RoundTrip` looks at is as it was (`Same`), no send window a body writer looks at has grown
(`NoRaise`). What the walk below shows of every handler that does not broadcast. -/
structure Calm (st st1 : State) : Prop where
  same : Same st st1
  win : NoRaise st st1

theorem calm_refl (st : State) : Calm st st := ⟨same_refl st, noraise_refl st⟩

theorem calm_trans {a b c : State} (h1 : Calm a b) (h2 : Calm b c) : Calm a c :=
  ⟨same_trans h1.same h2.same, noraise_trans h1.win h2.win⟩

/-- `st1` is `st` with fields changed that no sleeper looks at: each clause holds by `rfl` -/
theorem calm_of_eq {st st1 : State} (hs : Same st st1 := by exact same_of_eq)
    (connOut : st1.connOut = st.connOut := by rfl) (streams : st1.streams = st.streams := by rfl) : Calm st st1 :=
  ⟨hs, noraise_of_eq connOut streams⟩

/-- stream `s` replaced by `s'`, nothing else that a sleeper looks at touched -/
theorem calm_upd (st st1 : State) {s' : Stream} (h2 : st1.streams = setStream st.streams s') {id0 : Nat} {s : Stream}
    (hf : findStream st.streams id0 = some s) (hid : s'.id = s.id) (ho : s'.out ≤ s.out)
    (h1 : st1.connOut = st.connOut := by rfl) (hs : Same st st1 := by exact same_of_eq) : Calm st st1 := by
  have hsid : s.id = id0 := (findStream_mem hf).2
  refine ⟨hs, noraise_setStream (s' := s') st.connOut (Int.le_refl _) ?_ st1 h1 h2⟩
  intro t ht
  rw [hid, hsid, hf] at ht; cases ht; exact ho

section
variable (st : State) {id0 : Nat} {s s' : Stream} (hf : findStream st.streams id0 = some s)
  (hid : s'.id = s.id) (ho : s'.out ≤ s.out)
include hf hid ho

theorem calm_terminate (b : Bool) : Calm st (terminate st s' b).1 :=
  ⟨same_terminate _ _ _, noraise_forget st hf hid ho⟩

theorem calm_settle : Calm st (settle st s') := by
  refine ⟨same_settle _ _, ?_⟩
  have hsid : s.id = id0 := (findStream_mem hf).2
  unfold settle
  split
  · exact noraise_forget st hf hid ho
  · refine noraise_setStream (s' := s') st.connOut (Int.le_refl _) ?_ _ rfl rfl
    intro t ht
    rw [hid, hsid, hf] at ht; cases ht; exact ho

theorem calm_closeStream : Calm st (closeStream st s s').1 :=
  closeStream_cases (fun x => Calm st x.1) st s s' (fun _ => calm_terminate st hf hid ho false)
    (fun _ => calm_upd st _ rfl hf hid ho)
end

theorem calm_creditConn {st : State} (r : State × List Frame) (n : Nat) (h : Calm st r.1) :
    Calm st (creditConn r n).1 :=
  creditConn_cases (fun x => Calm st x.1) r n (fun _ => h) (calm_trans h calm_of_eq)
    (fun _ _ _ _ => calm_trans h calm_of_eq)

theorem calm_readK (st : State) {id0 : Nat} {s : Stream} (hf : findStream st.streams id0 = some s) (k : Nat) :
    Calm st (readK st s k).1 := by
  refine readK_cases (fun x => Calm st x.1) st s k (fun b => ?_) (fun _ _ _ => ?_)
  · exact readCore_cases (fun x => Calm st x.1) st _ k calm_of_eq
      (fun _ _ _ _ _ _ => calm_upd st _ rfl hf rfl (Int.le_refl _))
  · exact readOverlong_cases (fun x => Calm st x.1) st s k
      (fun _ => calm_creditConn _ _ (calm_closeStream st hf rfl (Int.le_refl _)))
      (fun _ => calm_closeStream st hf rfl (Int.le_refl _))

theorem calm_write (st : State) (id : Nat) : Calm st (write st id).1 :=
  write_cases (fun x => Calm st x.1) st id (calm_refl st)
    (fun _ _ hf _ _ _ _ => calm_settle st hf rfl (Int.le_refl _))
    (fun s d _ _ hf _ _ _ => calm_trans (b := { st with connOut := st.connOut - d })
      ⟨same_of_eq, by show st.connOut - _ ≤ st.connOut; omega, (noraise_refl st).strm⟩
      (calm_settle _ (s := s) hf rfl (by show s.out - _ ≤ s.out; omega)))

theorem calm_discardData (st : State) {id0 : Nat} {s : Stream} (hf : findStream st.streams id0 = some s)
    (flen : Int) : Calm st (discardData st s flen).1 := by
  have ht := calm_terminate st hf (s' := s) rfl (Int.le_refl _) false
  exact discardData_cases (fun x => Calm st x.1) st s flen calm_of_eq calm_of_eq (fun _ => ht)
    (fun _ _ _ _ _ _ _ => calm_trans ht calm_of_eq)

theorem calm_abortAbove (last : Nat) (ids : List Nat) : ∀ st : State, Calm st (abortAbove last ids st).1 :=
  abortAbove_induction (P := fun st r => Calm st r.1) last calm_refl
    (fun st s _ _ hf _ hr => calm_trans (calm_terminate st hf (s' := s) rfl (Int.le_refl _) false) hr) ids

/-- the handlers that neither broadcast by themselves nor are the sleeper's own move: everything
but `RoundTrip`, WINDOW_UPDATE, SETTINGS and GOAWAY -/
theorem calm_apply (st : State) (op : Op) (h0 : ∀ r, op ≠ .openReq r)
    (h1 : ∀ id inc, op ≠ .peer (.windowUpdate id inc)) (h2 : ∀ vals, op ≠ .peer (.settings vals))
    (h3 : ∀ last, op ≠ .peer (.goaway last)) : Calm st (apply st op).1 := by
  cases op with
  | openReq r => exact absurd rfl (h0 r)
  | feed id n =>
    exact feed_cases (fun x => Calm st x.1) st id n (calm_refl st)
      (fun _ _ hf => calm_upd st _ rfl hf rfl (Int.le_refl _))
  | write id => exact calm_write st id
  | cancel id =>
    exact cancel_cases (fun x => Calm st x.1) st id (calm_refl st)
      (fun _ hf _ => calm_terminate st hf rfl (Int.le_refl _) false)
  | read id n =>
    exact read_cases (fun x => Calm st x.1) st id n (calm_refl st) (fun _ _ hf _ _ => calm_readK st hf _)
  | close id =>
    exact close_cases (fun x => Calm st x.1) st id (fun _ => calm_refl st)
      (fun _ hf => calm_creditConn _ _ (calm_closeStream st hf rfl (Int.le_refl _)))
  | wake => exact calm_refl st
  | peer f =>
    cases f with
    | settings vals => exact absurd rfl (h2 vals)
    | settingsAck => exact peerSettingsAck_cases (fun x => Calm st x.1) st (fun _ => calm_of_eq) calm_of_eq
    | windowUpdate id inc => exact absurd rfl (h1 id inc)
    | rst id code =>
      refine peerRst_cases (fun x => Calm st x.1) st id code (calm_refl st) (fun s hf _ => ?_)
      have hb : Calm st { st with doNotReuse := st.doNotReuse || decide (code = 1) } :=
        ⟨⟨rfl, rfl, rfl, rfl, rfl, by cases st.doNotReuse <;> cases decide (code = 1) <;> simp⟩, noraise_of_eq rfl rfl⟩
      exact calm_trans hb (calm_terminate { st with doNotReuse := st.doNotReuse || decide (code = 1) } hf rfl (Int.le_refl _) true)
    | goaway last => exact absurd rfl (h3 last)
    | resp id es status cl =>
      exact peerResp_cases (fun x => Calm st x.1) st id es status cl (calm_refl st) calm_of_eq
        (fun _ hf _ => calm_terminate st hf rfl (Int.le_refl _) false)
        (fun _ hf _ => calm_upd st _ rfl hf rfl (Int.le_refl _))
        (fun _ hf _ _ => calm_settle st hf rfl (Int.le_refl _))
        (fun _ hf _ _ _ => calm_settle st hf rfl (Int.le_refl _))
    | data id len pad es =>
      exact peerData_cases (fun x => Calm st x.1) st id len pad es (fun _ => calm_refl st) calm_of_eq
        calm_of_eq (fun _ _ _ _ _ => calm_of_eq) (fun _ hf _ => calm_discardData st hf _)
        (fun s _ _ ci' _ _ _ hf _ _ _ _ _ =>
          calm_trans calm_of_eq (calm_settle { st with connIn := ci' } (s := s) hf rfl (Int.le_refl _)))
        (fun _ hf _ _ _ => calm_settle st hf rfl (Int.le_refl _))
    | ping ack d => exact peerPing_cases (fun x => Calm st x.1) st ack d (calm_refl st) (fun _ => calm_refl st)
    | pushPromise id p => exact calm_of_eq

/-- a WINDOW_UPDATE leaves the control part alone (it raises a window, and broadcasts) -/
theorem same_peerWindowUpdate (st : State) (id inc : Nat) : Same st (peerWindowUpdate st id inc).1 :=
  peerWindowUpdate_cases (fun x => Same st x.1) st id inc (same_refl st) same_of_eq (fun _ _ _ => same_of_eq)
    (fun _ _ _ _ => same_terminate _ _ _) (fun _ _ _ _ _ _ => same_of_eq)

/-- every handler leaves the control part alone, but for the three that are there to change it -/
theorem same_apply (st : State) (op : Op) :
    Same st (apply st op).1 ∨ (∃ r, op = .openReq r) ∨ (∃ vals, op = .peer (.settings vals)) ∨
      ∃ last, op = .peer (.goaway last) := by
  by_cases h1 : ∃ r, op = .openReq r
  · exact .inr (.inl h1)
  by_cases h2 : ∃ vals, op = .peer (.settings vals)
  · exact .inr (.inr (.inl h2))
  by_cases h3 : ∃ last, op = .peer (.goaway last)
  · exact .inr (.inr (.inr h3))
  by_cases hw : ∃ id inc, op = .peer (.windowUpdate id inc)
  · obtain ⟨i, inc, rfl⟩ := hw
    exact .inl (same_peerWindowUpdate st i inc)
  · exact .inl (calm_apply st op (fun r hx => h1 ⟨r, hx⟩) (fun id inc hx => hw ⟨id, inc, hx⟩) (fun v hx => h2 ⟨v, hx⟩)
      (fun l hx => h3 ⟨l, hx⟩)).same

theorem noraise_doOpen (st : State) (r : Req) : NoRaise st (doOpen st r).1 :=
  ⟨Int.le_refl _, fun _ s hf => ⟨s, find_append_old _ _ _ _ hf, Int.le_refl _⟩⟩

/-- every handler but WINDOW_UPDATE and SETTINGS leaves every send window where it was or lower -/
theorem noraise_apply (st : State) (op : Op)
    (h1 : ∀ id inc, op ≠ .peer (.windowUpdate id inc)) (h2 : ∀ vals, op ≠ .peer (.settings vals)) :
    NoRaise st (apply st op).1 := by
  by_cases ho : ∃ r, op = .openReq r
  · obtain ⟨r, rfl⟩ := ho
    exact openStream_cases (fun x => NoRaise st x.1) st r (noraise_refl st) (fun _ _ => noraise_doOpen st r)
      (fun _ _ => noraise_of_eq rfl rfl)
  by_cases hg : ∃ last, op = .peer (.goaway last)
  · obtain ⟨last, rfl⟩ := hg
    have := (calm_abortAbove last (st.streams.map (·.id)) { st with goAway := true }).win
    exact ⟨this.conn, this.strm⟩
  exact (calm_apply st op (fun r hx => ho ⟨r, hx⟩) h1 h2 (fun l hx => hg ⟨l, hx⟩)).win

/-- the wake-up discipline, one step: nobody who could go ahead is asleep before ⇒ nobody is
afterwards. Needs fixes/C06-9 (a raised stream limit broadcasts). -/
theorem wake_step (st : State) (hfix : st.cfg.fixes.mcsWake = true) (h : enabled st = false) (op : Op) :
    enabled (step st op).1 = false := by
  refine step_cases (fun x => enabled x.1 = false) st op (fun _ => h) (fun hc hw => ?_) (fun _ => resume_not_enabled _)
  -- no broadcast, no stream gone, connection still up
  simp only [Bool.or_eq_false_iff, decide_eq_false_iff_not] at hw
  obtain ⟨⟨hw1, hw2⟩, hw3⟩ := hw
  have hl : liveCount st.streams ≤ liveCount (apply st op).1.streams := by omega
  cases he : enabled (apply st op).1 with
  | false => rfl
  | true =>
    exfalso
    rcases same_apply st op with hs | ⟨r, rfl⟩ | ⟨vals, rfl⟩ | ⟨last, rfl⟩
    · have := same_enabled hs hc hl he
      rw [h] at this; cases this
    · revert he
      exact openStream_cases (fun x => enabled x.1 = true → False) st r
        (fun he => by rw [h] at he; cases he)
        (fun hp _ he => by simp [enabled, doOpen, hp] at he)
        (fun _ hnl he => by simp [enabled, hnl] at he)
    · simp only [wakes, hfix, Bool.true_and, Bool.or_eq_false_iff, decide_eq_false_iff_not] at hw1
      rcases sames_peerSettings st vals with hcl | hs
      · rw [show (apply st (.peer (.settings vals))).1.closed = true from hcl] at hw3; cases hw3
      · -- the limit did not go up, nothing else changed: it was enabled before
        have := enabled_mono hs.pendingOpen hs.goAway hs.nextStreamID hs.cfg (Or.inl hs.doNotReuse) hc
          (Nat.le_of_not_lt hw1.2) (Nat.le_of_eq hs.live.symm) he
        rw [h] at this; cases this
    · have hg : (apply st (.peer (.goaway last))).1.goAway = true :=
        (calm_abortAbove last _ { st with goAway := true }).same.goAway
      simp [enabled, canTake, hg] at he

theorem step_cfg (st : State) (op : Op) : (step st op).1.cfg = st.cfg := by
  have hres : ∀ s : State, (resumePending s).1.cfg = s.cfg := fun s =>
    resumePending_cases (fun x => x.1.cfg = s.cfg) s (fun _ => rfl) (fun _ _ _ _ => rfl) (fun _ _ => rfl)
      (fun _ _ _ _ _ => rfl)
  have happ : (apply st op).1.cfg = st.cfg := by
    rcases same_apply st op with hs | ⟨r, rfl⟩ | ⟨vals, rfl⟩ | ⟨last, rfl⟩
    · exact hs.cfg
    · exact openStream_cases (fun x => x.1.cfg = st.cfg) st r rfl (fun _ _ => rfl) (fun _ _ => rfl)
    · exact peerSettings_cases (fun x => x.1.cfg = st.cfg) st vals (fun _ => rfl)
        (fun _ _ h _ => (sames_applySettings h).cfg) (fun _ _ h _ => (sames_applySettings h).cfg)
    · exact (calm_abortAbove last _ { st with goAway := true }).same.cfg
  exact step_cases (fun x => x.1.cfg = st.cfg) st op (fun _ => rfl) (fun _ _ => happ) (fun _ => (hres _).trans happ)

theorem wake_runFrom (ops : List Op) :
    ∀ (st : State) (hist : List Event), st.cfg.fixes.mcsWake = true → enabled st = false →
      enabled (runFrom st hist ops).1 = false := fun st hist hfix h =>
  (runFrom_induction (P := fun st _ => st.cfg.fixes.mcsWake = true ∧ enabled st = false) ops
    (fun st _ op _ ⟨hfix, h⟩ => ⟨by rw [step_cfg]; exact hfix, wake_step st hfix h op⟩) st hist ⟨hfix, h⟩).2

/-- what a live stream's writer sees does not grow where no send window did -/
theorem availOf_mono {st st1 : State} (h : NoRaise st st1) {id : Nat} {a a1 : Int}
    (h0 : availOf st id = some a) (h1 : availOf st1 id = some a1) : a1 ≤ a := by
  unfold availOf at h0 h1
  cases hf : findStream st.streams id with
  | none => rw [hf] at h0; cases h0
  | some s =>
    obtain ⟨s1, hf1, hle⟩ := h.strm id s hf
    rw [hf] at h0; rw [hf1] at h1
    simp only at h0 h1
    split at h0 <;> split at h1 <;> cases h0 <;> cases h1
    exact available_mono h.conn hle

/-- an operation that does not end in a broadcast raises no send window -/
theorem noraise_quiet (st : State) (op : Op) (hw : wakes st (apply st op).1 op = false) :
    NoRaise st (apply st op).1 := by
  by_cases hwu : ∃ i inc, op = .peer (.windowUpdate i inc)
  · obtain ⟨i, inc, rfl⟩ := hwu
    -- not applied: unknown or dead stream (a connection-level one always broadcasts)
    simp only [wakes, Bool.or_eq_false_iff, beq_eq_false_iff_ne, ne_eq] at hw
    have hdead : ∀ s, findStream st.streams i = some s → s.live = true → False := fun s hf hl => by
      have := hw.2; rw [hf] at this; exact absurd (hl.symm.trans this) (by decide)
    exact peerWindowUpdate_cases (fun x => NoRaise st x.1) st i inc (noraise_refl st) (noraise_of_eq rfl rfl)
      (fun _ h0 _ => absurd h0 hw.1) (fun s _ hf hl => (hdead s hf hl).elim)
      (fun s _ _ hf hl _ => (hdead s hf hl).elim)
  by_cases hset : ∃ vals, op = .peer (.settings vals)
  · obtain ⟨vals, rfl⟩ := hset
    simp only [wakes, Bool.or_eq_false_iff] at hw
    exact peerSettings_cases (fun x => NoRaise st x.1) st vals (fun _ => noraise_of_eq rfl rfl)
      (fun _ _ hs _ => have w := applySettings_windows hw.1 hs; noraise_of_eq w.1 w.2)
      (fun _ _ hs _ => have w := applySettings_windows hw.1 hs; noraise_of_eq w.1 w.2)
  exact noraise_apply st op (fun i inc hx => hwu ⟨i, inc, hx⟩) (fun v hx => hset ⟨v, hx⟩)

end Req.Lemmas.C06
