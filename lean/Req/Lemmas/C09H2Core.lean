import Req.Pool.H2Mux
import Req.Lemmas.C09H2Rel
/-!
The routing-relevant projection (`core`) of an `H2Mux` state and the abstract transitions
(`CStep`) every op of the model performs on it.  The invariants (C09H2Inv) are proved over
`CStep` and reach `step` only through `step_core`; the theorems of Props/C09H2 about one step in an
arbitrary state (`h2_admission`, `h2_forget_wakes_all`, ..) unfold `step` themselves.
-/
namespace Req.Lemmas.C09H2Core
open Req.Pool.H2Mux Req.Lemmas.C09H2Rel

structure Core where
  streams : List (Nat × Caller)
  nextId : Nat
  hdrMu : Option Caller
  hdrWire : List Nat
  pendingReq : Nat
  forgetPanic : Bool
  rx : List Frame
  rl : Option (Frame × Option Caller)
  id : Caller → Nat
  phase : Caller → Phase
  got : Caller → List Item

def core (s : St) : Core :=
  ⟨s.streams, s.nextId, s.hdrMu, s.hdrWire, s.pendingReq, s.forgetPanic, s.rx, s.rl,
   fun k => (s.cs k).id, fun k => (s.cs k).phase, fun k => (s.cs k).got⟩

/-- holds `reqHeaderMu` -/
def holds (p : Phase) : Prop := p = .holdMu ∨ p = .pending ∨ p = .opened

/-- plain phase changes that touch nothing else -/
def plain (p p' : Phase) : Prop :=
  (p = .idle ∧ p' = .wantMu) ∨ (p = .wantMu ∧ p' = .exiting) ∨ (p = .sent ∧ p' = .exiting) ∨
  (p = .exiting ∧ p' = .finishing)

def pendDec (c : Core) (k : Caller) : Nat :=
  if c.phase k = .pending then c.pendingReq - 1 else c.pendingReq

/-- `b`: whether the transition may be `addStreamLocked` (`admit`). -/
inductive CStep (b : Bool) : Core → Core → Prop
  | quiet (c : Core) : CStep b c c
  | phase (c : Core) (k : Caller) (p' : Phase) (h : plain (c.phase k) p') :
      CStep b c { c with phase := upd c.phase k p' }
  | acquire (c : Core) (k : Caller) (h1 : c.phase k = .wantMu) (h2 : c.hdrMu = none) :
      CStep b c { c with phase := upd c.phase k .holdMu, hdrMu := some k }
  | exitHeld (c : Core) (k : Caller) (h : holds (c.phase k)) :
      CStep b c { c with phase := upd c.phase k .exiting, hdrMu := none, pendingReq := pendDec c k }
  | admit (c : Core) (k : Caller) (hb : b = true) (h : c.phase k = .holdMu ∨ c.phase k = .pending) :
      CStep b c { c with phase := upd c.phase k .opened, id := upd c.id k c.nextId,
                            streams := (c.nextId, k) :: c.streams, nextId := c.nextId + 2,
                            pendingReq := pendDec c k }
  | park (c : Core) (k : Caller) (h : c.phase k = .holdMu ∨ c.phase k = .pending) :
      CStep b c { c with phase := upd c.phase k .pending, pendingReq := pendDec c k + 1 }
  | wrote (c : Core) (k : Caller) (h : c.phase k = .opened) :
      CStep b c { c with phase := upd c.phase k .sent, hdrMu := none, hdrWire := c.hdrWire ++ [c.id k] }
  | forgot (c : Core) (k : Caller) (h : c.phase k = .finishing) :
      CStep b c { c with phase := upd c.phase k .done,
                         streams := if c.id k = 0 then c.streams else
                           if (c.streams.lookup (c.id k)).isSome then c.streams.filter (fun p => p.1 ≠ c.id k)
                           else c.streams,
                         forgetPanic := if c.id k = 0 then c.forgetPanic else
                           if (c.streams.lookup (c.id k)).isSome then c.forgetPanic else true }
  | read (c : Core) (f : Frame) (tgt : Option Caller) (h1 : c.rl = none)
      (h2 : ∀ k, tgt = some k → ∃ i, f.sid? = some i ∧ c.streams.lookup i = some k) :
      CStep b c { c with rx := c.rx ++ [f], rl := some (f, tgt) }
  | processed (c : Core) (f : Frame) (tgt : Option Caller) (got' : Caller → List Item)
      (h1 : c.rl = some (f, tgt))
      (h2 : ∀ k, ∃ new, got' k = new ++ c.got k ∧ ∀ it ∈ new, PFrame f tgt (c.rx.length - 1) k it) :
      CStep b c { c with rl := none, got := got' }

theorem CStep.of_eq {b} {c c1 c2 : Core} (h : CStep b c c1) (e : c2 = c1) : CStep b c c2 := e ▸ h

theorem CStep.streams_le {c c' : Core} (st : CStep false c c') : c'.streams.length ≤ c.streams.length := by
  cases st with
  | forgot k h =>
    show (if c.id k = 0 then c.streams else _).length ≤ _
    split
    · exact Nat.le_refl _
    · split
      · exact List.length_filter_le _ _
      · exact Nat.le_refl _
  | admit k hb h => cases hb
  | _ => exact Nat.le_refl _

theorem core_setCS (s : St) (k : Caller) (c : CS) :
    core (setCS s k c) = { core s with id := upd (core s).id k c.id, phase := upd (core s).phase k c.phase,
                                       got := upd (core s).got k c.got } := by
  simp only [core, setCS]
  congr 1 <;> (funext j; simp only [upd]; split <;> rfl)

theorem core_setCS_phase (s : St) (k : Caller) (c : CS) (h1 : c.id = (s.cs k).id) (h3 : c.got = (s.cs k).got) :
    core (setCS s k c) = { core s with phase := upd (core s).phase k c.phase } := by
  rw [core_setCS, h1, h3]
  show ({ core s with id := upd (core s).id k ((core s).id k), phase := _,
                      got := upd (core s).got k ((core s).got k) } : Core) = _
  rw [C09H2Inv.upd_self, C09H2Inv.upd_self]

theorem core_setCS_same (s : St) (k : Caller) (c : CS) (h1 : c.id = (s.cs k).id)
    (h2 : c.phase = (s.cs k).phase) (h3 : c.got = (s.cs k).got) : core (setCS s k c) = core s := by
  rw [core_setCS_phase s k c h1 h3, h2]
  show ({ core s with phase := upd (core s).phase k ((core s).phase k) } : Core) = core s
  rw [C09H2Inv.upd_self]

theorem core_of_rel_got {P} {s s' : St} (h : Rel P s s') :
    core s' = { core s with got := fun k => (s'.cs k).got } := by
  simp only [core, h.streams, h.nextId, h.hdrMu, h.hdrWire, h.pendingReq, h.forgetPanic, h.rx, h.rl, h.id, h.phase]

theorem core_of_rel {s s' : St} (h : Rel (fun _ _ => False) s s') : core s' = core s := by
  have hg : (fun k => (s'.cs k).got) = fun k => (s.cs k).got := by
    funext k
    obtain ⟨n, e, p⟩ := h.got k
    cases n with
    | nil => exact e
    | cons x _ => exact absurd (p x List.mem_cons_self) id
  rw [core_of_rel_got h, hg]
  rfl

theorem core_abortLocked (s : St) (k : Caller) (e : Err) : core (abortLocked s k e) = core s :=
  core_of_rel (rel_abortLocked _ s k e)

theorem core_exitWith (s : St) (k : Caller) (e : Option Err) :
    core (exitWith s k e false) = { core s with phase := upd (core s).phase k .exiting } :=
  core_setCS_phase s k _ rfl rfl

theorem core_exitWith_held (s : St) (k : Caller) (e : Option Err) :
    core (exitWith s k e true) = { core s with phase := upd (core s).phase k .exiting, hdrMu := none } :=
  congrArg (fun c : Core => { c with hdrMu := none }) (core_exitWith s k e)

theorem core_addStream (s : St) (k : Caller) :
    core (addStream s k) =
      { core s with phase := upd (core s).phase k .opened, id := upd (core s).id k (core s).nextId,
                    streams := ((core s).nextId, k) :: (core s).streams, nextId := (core s).nextId + 2 } := by
  simp only [core, addStream, setCS]
  congr 1 <;> funext j <;> simp only [upd] <;> split <;> (try subst j) <;> rfl


/-- `slotLoop` for a caller that holds `reqHeaderMu` in phase `holdMu` or `pending`, started in a
state whose `pendingReq` is already decremented (`wake`) or untouched (`openSlot`). -/
theorem slotLoop_core (cfg : Cfg) (s : St) (k : Caller) (c0 : Core)
    (hph : c0.phase k = .holdMu ∨ c0.phase k = .pending)
    (hc : core s = { c0 with pendingReq := pendDec c0 k }) :
    CStep true c0 (core (slotLoop cfg s k)) := by
  unfold slotLoop
  split
  · rw [core_exitWith_held, hc]
    exact .exitHeld c0 k (hph.elim .inl fun h => .inr (.inl h))
  · split
    · rw [core_addStream, hc]
      exact .admit c0 k rfl hph
    · have e := core_setCS_phase s k { s.cs k with phase := .pending } rfl rfl
      rw [hc] at e
      exact (CStep.park c0 k hph).of_eq (congrArg (fun c : Core => { c with pendingReq := c.pendingReq + 1 }) e)

theorem core_phase_eq (s : St) (k : Caller) : (core s).phase k = (s.cs k).phase := rfl

theorem streamByID_lookup (s : St) (i : Nat) (k : Caller) (h : streamByID s i = some k) :
    s.streams.lookup i = some k := by
  unfold streamByID at h
  split at h
  · next k' hk => split at h <;> simp_all
  · cases h

theorem core_ite_eq {p : Prop} [Decidable p] {a b : St} {c : Core} (ha : core a = c) (hb : core b = c) :
    core (if p then a else b) = c := by
  split <;> assumption

theorem core_ite_fst {p : Prop} [Decidable p] {x y : St × Out} {c : Core} (hx : core x.1 = c) (hy : core y.1 = c) :
    core (if p then x else y).1 = c := by
  split <;> assumption

theorem core_ite_closed (t : St) (p : Prop) [Decidable p] :
    core (if p then (({ t with closed := true } : St), Out.none) else (t, Out.none)).1 = core t := by
  split <;> rfl

/-- the ops that run `awaitOpenSlotForStreamLocked` -/
def admits : Op → Bool
  | .openSlot _ | .wake _ => true
  | _ => false

theorem step_core (cfg : Cfg) (s : St) (op : Op) : CStep (admits op) (core s) (core (step cfg s op).1) := by
  have quiet : ∀ {b} {t : St}, core t = core s → CStep b (core s) (core t) := fun e => e ▸ .quiet _
  cases op with
  | reserve k =>
    simp only [step]
    repeat' split
    · exact .quiet _
    · exact quiet (core_setCS_same s k _ rfl rfl rfl)
    · exact .quiet _
  | begin k isHead upload =>
    simp only [step]
    split
    · exact .quiet _
    · next h =>
      exact (CStep.phase _ k .wantMu (.inl ⟨Classical.not_not.mp h, rfl⟩)).of_eq (core_setCS_phase s k _ rfl rfl)
  | acquire k =>
    simp only [step]
    split
    · exact .quiet _
    · next h =>
      exact (CStep.acquire (core s) k (Classical.not_not.mp fun hn => h (.inl hn))
          (Option.not_isSome_iff_eq_none.mp fun hs => h (.inr hs))).of_eq
        (congrArg (fun c : Core => { c with hdrMu := some k })
          (core_setCS_phase s k { s.cs k with phase := .holdMu } rfl rfl))
  | openSlot k =>
    simp only [step]
    split
    · exact .quiet _
    · next h =>
      have h' : (core s).phase k = .holdMu := Classical.not_not.mp h
      refine slotLoop_core cfg _ k (core s) (.inl h') ?_
      rw [pendDec, if_neg (by rw [h']; simp)]
      exact core_setCS_same s k _ rfl rfl rfl
  | wake k =>
    simp only [step]
    split
    · exact .quiet _
    · next h =>
      have h' : (core s).phase k = .pending := Classical.not_not.mp fun hn => h (.inl hn)
      have hcore : core ({ s with woken := s.woken.erase k, pendingReq := s.pendingReq - 1 } : St) =
          { core s with pendingReq := pendDec (core s) k } := by
        rw [pendDec, if_pos h']; rfl
      split
      · rw [core_exitWith_held, hcore]
        exact .exitHeld _ k (.inr (.inl h'))
      · exact slotLoop_core cfg _ k (core s) (.inr h') hcore
  | writeHeaders k =>
    simp only [step]
    split
    · exact .quiet _
    · next h =>
      have h' : (core s).phase k = .opened := Classical.not_not.mp h
      have hx : ∀ (t : St) e, core t = core s → CStep false (core s) (core (exitWith t k e true)) := by
        intro t e ht
        rw [core_exitWith_held, ht]
        refine (CStep.exitHeld (core s) k (.inr (.inr h'))).of_eq ?_
        rw [pendDec, if_neg (by rw [h']; simp)]
      split
      · exact hx s _ rfl
      · split
        · exact hx _ _ (core_setCS_same s k _ rfl rfl rfl)
        · exact (CStep.wrote (core s) k h').of_eq
            (congrArg (fun c : Core => { c with hdrMu := none, hdrWire := (core s).hdrWire ++ [(core s).id k] })
              (core_setCS_phase s k { s.cs k with phase := .sent, sentHeaders := true, blocked := (s.cs k).upload }
                rfl rfl))
  | wakeUpload k =>
    simp only [step]
    repeat' split
    · exact .quiet _
    · exact quiet (core_setCS_same _ k _ rfl rfl rfl)
    · exact .quiet _
  | finishWrite k =>
    have hx : ∀ e, (core s).phase k = .wantMu ∨ (core s).phase k = .sent →
        CStep false (core s) (core (exitWith s k e false)) := by
      intro e h
      rw [core_exitWith]
      exact .phase _ k _ (.inr (h.elim (fun h => .inl ⟨h, rfl⟩) fun h => .inr (.inl ⟨h, rfl⟩)))
    simp only [step]
    split
    · next h => split <;> first | exact .quiet _ | exact hx _ (.inl h)
    · next h =>
      repeat' split
      all_goals first | exact .quiet _ | exact hx _ (.inr h)
    · exact .quiet _
  | retire k =>
    simp only [step]
    by_cases h : (s.cs k).phase ≠ .exiting
    · rw [if_pos h]; exact .quiet _
    · rw [if_neg h]
      have h0 : core (if (s.cs k).id = 0 then decrReserved (setCS s k { s.cs k with resv := false }) else s)
          = core s := core_ite_eq (core_setCS_same s k _ rfl rfl rfl) rfl
      have key : ∀ (t : St) (c : CS), core t = core s → c.id = (t.cs k).id → c.got = (t.cs k).got →
          c.phase = .finishing → CStep false (core s) (core (setCS t k c)) := by
        intro t c ht h1 h3 hp
        rw [core_setCS_phase t k c h1 h3, ht, hp]
        exact .phase _ k _ (.inr (.inr (.inr ⟨Classical.not_not.mp h, rfl⟩)))
      generalize (if (s.cs k).sentHeaders = true ∧ (s.cs k).upload = false ∧ (s.cs k).readClosed = true then none
        else (s.cs k).exitErr) = err
      cases err with
      | some e =>
        have h1 := (core_abortLocked _ k e).trans h0
        refine key _ _ ?_ rfl rfl rfl
        cases rstCodeOf e with
        | none => exact h1
        | some code => exact core_ite_eq h1 h1
      | none => exact key _ _ (core_ite_eq h0 h0) rfl rfl rfl
  | forget k =>
    simp only [step]
    by_cases h : (s.cs k).phase ≠ .finishing
    · rw [if_pos h]; exact .quiet _
    · rw [if_neg h]
      have hs0 := core_setCS_phase s k { s.cs k with phase := .done } rfl rfl
      refine (CStep.forgot (core s) k (Classical.not_not.mp h)).of_eq ?_
      by_cases hid : (s.cs k).id = 0
      · have hid' : (core s).id k = 0 := hid
        rw [if_pos hid, hs0, if_pos hid', if_pos hid']
      · have hid' : ¬ (core s).id k = 0 := hid
        rw [if_neg hid, core_ite_closed, if_neg hid', if_neg hid']
        show core (if _ then _ else _) = _
        by_cases hl : (s.streams.lookup (s.cs k).id).isSome = true
        · have hl' : ((core s).streams.lookup ((core s).id k)).isSome = true := hl
          rw [if_pos hl', if_pos hl']
          exact (congrArg core (if_pos hl)).trans (congrArg
            (fun c : Core => { c with streams := (core s).streams.filter fun p => p.1 ≠ (core s).id k }) hs0)
        · have hl' : ¬ ((core s).streams.lookup ((core s).id k)).isSome = true := hl
          rw [if_neg hl', if_neg hl']
          exact (congrArg core (if_neg hl)).trans (congrArg (fun c : Core => { c with forgetPanic := true }) hs0)
  | cancel k =>
    simp only [step]
    repeat' split
    all_goals first | exact .quiet _ | exact quiet (core_setCS_same s k _ rfl rfl rfl)
  | rtSee k =>
    simp only [step]
    split
    · exact .quiet _
    · exact quiet (core_setCS_same s k _ rfl rfl rfl)
  | rtReturn k =>
    simp only [step]
    refine quiet (core_ite_fst rfl ?_)
    split
    · rfl
    · exact core_ite_fst (core_setCS_same s k _ rfl rfl rfl) rfl
    · exact core_ite_fst
        (core_ite_fst (core_setCS_same s k _ rfl rfl rfl) (core_ite_fst (core_setCS_same s k _ rfl rfl rfl) rfl))
        (core_ite_fst rfl (core_ite_fst
          (Eq.trans (core_setCS_same _ k _ rfl rfl rfl) (core_abortLocked s k .canceled)) rfl))
  | closeBody k =>
    simp only [step]
    split
    · exact .quiet _
    · rw [core_abortLocked]
      exact quiet (core_setCS_same s k _ rfl rfl rfl)
  | idleTimeout =>
    simp only [step]
    split <;> exact .quiet _
  | rlRead f =>
    simp only [step]
    split
    · exact .quiet _
    · next h =>
      refine .read (core s) f _ ?_ ?_
      · exact Option.not_isSome_iff_eq_none.mp fun hs => h (.inr hs)
      · intro k hk
        split at hk
        · next i hi => exact ⟨i, hi, streamByID_lookup s i k hk⟩
        · cases hk
  | rlProcess =>
    simp only [step]
    split
    · exact .quiet _
    · next f tgt hrl =>
      have hr := rel_process { s with rl := none } f tgt
      exact (CStep.processed (core s) f tgt _ hrl hr.got).of_eq (core_of_rel_got hr)

end Req.Lemmas.C09H2Core
