import Req.Client.RedirectStore
import Req.Client.RedirectLoop
import Req.Lemmas.C11Chain
/-! C11: `Req.Redirect.Store` against its spec: the stored copy is the argument list (`copyArgs_eq`), `compose` is
first-refusal over the non-nil cells (`compose_eq_firstRefusal`), no-op arguments drop out (`compose_normalize`);
`run_congr_ps` carries equal closures over to equal runs of the hop loop. -/
namespace Req.Lemmas.C11Store
open Req.Proto Req.Redirect Req.Redirect.Store Req.Redirect.Loop

theorem foldl_snoc {α : Type} (l init : List α) :
    l.foldl (fun acc p => acc ++ [p]) init = init ++ l := by
  induction l generalizing init with
  | nil => simp
  | cons x xs ih => rw [List.foldl_cons, ih]; simp

theorem copyArgs_eq {α : Type} (l : List α) : copyArgs l = l := by
  unfold copyArgs; rw [foldl_snoc]; rfl

theorem compose_eq_firstRefusal (ps : List (Option Policy)) (req : Bytes) (h : Headers) (via : Via) :
    compose ps req h via = firstRefusal (nonNil ps) req h via := by
  induction ps generalizing h with
  | nil => rfl
  | cons q qs ih =>
    cases q with
    | none => simpa [compose, nonNil] using ih h
    | some p =>
      simp only [compose, nonNil, List.filterMap_cons, id, firstRefusal]
      cases p.check req via with
      | allow => simpa [nonNil] using ih (p.xform h via)
      | _ => rfl

theorem nonNil_filter_isSome (ps : List (Option Policy)) :
    nonNil (ps.filter Option.isSome) = nonNil ps := by
  induction ps with
  | nil => rfl
  | cons q qs ih => cases q <;> simpa [nonNil] using ih

theorem nonNil_append (a b : List (Option Policy)) : nonNil (a ++ b) = nonNil a ++ nonNil b := by
  simp [nonNil]

theorem alwaysCopy_nil_xform (h : Headers) (via : Via) :
    (alwaysCopyHeaderRedirectPolicy []).xform h via = h := rfl

theorem normalize_cons (d : PolicyDesc) (ds : List PolicyDesc) :
    normalize (d :: ds) = if d.isNoop = true then normalize ds else d :: normalize ds := by
  cases hd : d.isNoop <;> simp [normalize, hd]

theorem compose_cons_congr (q : Option Policy) (X Y : List (Option Policy)) (req : Bytes) (via : Via)
    (hXY : ∀ h, compose X req h via = compose Y req h via) (h : Headers) :
    compose (q :: X) req h via = compose (q :: Y) req h via := by
  cases q with
  | none => simpa [compose] using hXY h
  | some p => rw [Req.Lemmas.C11.compose_cons_some, Req.Lemmas.C11.compose_cons_some, hXY]

theorem noop_compose (d : PolicyDesc) (hd : d.isNoop = true) (ps : List (Option Policy)) (req : Bytes)
    (h : Headers) (via : Via) : compose (d.denote :: ps) req h via = compose ps req h via := by
  cases d with
  | nil => rfl
  | alwaysCopy l =>
    cases l with
    | nil => rfl
    | cons x xs => simp [PolicyDesc.isNoop] at hd
  | _ => simp [PolicyDesc.isNoop] at hd

theorem compose_normalize (ds : List PolicyDesc) (req : Bytes) (h : Headers) (via : Via) :
    compose ((normalize ds).map PolicyDesc.denote) req h via =
      compose (ds.map PolicyDesc.denote) req h via := by
  induction ds generalizing h with
  | nil => rfl
  | cons d ds ih =>
    rw [normalize_cons]
    cases hd : d.isNoop with
    | true =>
      simp only [if_true, List.map_cons]
      rw [noop_compose d hd]
      exact ih h
    | false =>
      simp only [Bool.false_eq_true, if_false, List.map_cons]
      exact compose_cons_congr _ _ _ req via ih h

/-- The hop loop reads the policy list only through the closure. -/
theorem run_congr_ps (cfg cfg' : Config) (hj : cfg.jar = cfg'.jar) (hg : cfg.getBody = cfg'.getBody)
    (hn : cfg.noBody = cfg'.noBody)
    (hc : ∀ req h via, compose cfg.ps req h via = compose cfg'.ps req h via)
    (script : List Reply) (st : State) (cur : Loop.Req) :
    run cfg st cur script = run cfg' st cur script := by
  obtain ⟨ps, jar, gb, nb⟩ := cfg
  obtain ⟨ps', jar', gb', nb'⟩ := cfg'
  simp only at hj hg hn hc
  subst hj hg hn
  have hs : sendMutate ⟨ps, jar, gb, nb⟩ = sendMutate ⟨ps', jar, gb, nb⟩ := by
    funext j c; simp [sendMutate]
  have hx : nextRequest ⟨ps, jar, gb, nb⟩ = nextRequest ⟨ps', jar, gb, nb⟩ := by
    funext a b c d e f g; simp [nextRequest]
  induction script generalizing st cur with
  | nil => simp [run, hs]
  | cons r rs ih =>
    simp only [run, checkRedirect, hc, hs, hx, ih]

theorem mem_dedupList (x : Bytes) (l : List Bytes) : x ∈ dedupList l ↔ x ∈ l := by
  induction l with
  | nil => simp [dedupList]
  | cons y ys ih =>
    simp only [dedupList, List.mem_cons, List.mem_filter, ih]
    by_cases hxy : x = y <;> simp [hxy]

end Req.Lemmas.C11Store
