import Req.Lemmas.CancelH3
/-! The invariant of the HTTP/3 lifecycle model is preserved by every internal step and every
environment event.

Each step builds the invariant of the new state as `{ h with … }` from the invariant `h` of the old one:
a clause that reads none of the fields the step writes is the old clause as it stands (the two agree by
unfolding `apply` / `evApply`), so only the clauses that read a written field are listed. Such a clause
follows from the guard, from the consequences of `h` drawn in front of the record, and from the clauses
of `h` brought in by a `have` inside it; `nofun` = the new state refutes the clause's premise. -/
namespace Req.Lemmas.CancelH3
open Req.Cancel (CtxErr)
open Req.CancelH3

theorem inv_preCancel {s : St} (h : Inv s) (g : s.cpc = .hs ∨ s.cpc = .openStr) (hx : s.ctx.isSome = true)
    (e : Err) : Inv { closeBody s with cpc := .returned (.err e) } := by
  have ⟨hw, hk⟩ := h.pre g
  have ⟨_, _, hu, hd⟩ := h.noStr hw
  rw [closeBody_eq]
  exact { h with
    pre := nofun
    hdr := nofun
    fail := nofun
    join := nofun
    respStr := nofun
    errRet := by grind
    reqDone := by grind
    uplStarted := nofun
    uplOnErr := by grind
    closes := by have := h.closes; grind
    callerClosed := by grind }

theorem inv_cSendHdr {s : St} (h : Inv s) (g : s.cpc = .sendHdr) : Inv (apply s .cSendHdr) := by
  have ⟨hw, hu, hd, hk, hf⟩ := h.hdr g
  have ⟨hs, hr⟩ := h.str hw
  simp only [CancelH3.apply, closeBody_eq, beq_iff_eq]
  by_cases ho : s.send = .open
  · by_cases hb : s.hasBody = true
    · rw [if_pos ho, if_pos hb]
      exact { h with
        pre := nofun
        noStr := by grind
        hdr := nofun
        fail := nofun
        join := nofun
        respStr := by grind
        errRet := nofun
        reqDone := by grind
        uplStarted := nofun
        uplOnErr := nofun
        closes := by have := h.closes; grind
        callerClosed := by grind
        uplBody := by grind }
    · rw [if_pos ho, if_neg hb]
      exact { h with
        pre := nofun
        noStr := by grind
        str := by grind
        mid := nofun
        done := by have := h.done; grind
        hdr := nofun
        fail := nofun
        join := nofun
        dead := by grind
        sendDead := nofun
        respStr := by grind
        errRet := nofun
        reqDone := by grind
        uplStarted := by grind
        uplOnErr := nofun }
  · have : s.recv ≠ .open ∨ s.wat = .mid := h.sendDead (by revert ho hf hs; cases s.send <;> simp)
    rw [if_neg ho]
    exact { h with
      pre := nofun
      hdr := nofun
      fail := by grind
      join := nofun
      respStr := nofun
      errRet := nofun
      reqDone := by grind
      uplStarted := nofun
      uplOnErr := by grind
      closes := by have := h.closes; grind
      callerClosed := by grind }

theorem inv_cRespOk {s : St} (h : Inv s) (g : s.cpc = .readResp) : Inv (apply s .cRespOk) :=
  { h with
    pre := nofun
    hdr := nofun
    fail := nofun
    join := nofun
    respStr := fun _ => h.respStr (.inl g)
    errRet := nofun
    reqDone := fun _ => .inr rfl
    uplStarted := fun hb _ => h.uplStarted hb (.inl g)
    uplOnErr := nofun }

theorem inv_cRespFail {s : St} (h : Inv s) (g : s.cpc = .readResp) (gd : s.recv = .cancelled ∨ s.recv = .reset) :
    Inv (apply s .cRespFail) := by
  have hw := h.respStr (.inl g)
  have hd : s.reqDone = false := by have := h.reqDone; grind [joining, isReturned]
  simp only [CancelH3.apply, cancelIfOpen_eq]
  exact { h with
    pre := nofun
    noStr := by grind
    str := by have := h.str; grind
    mid := by grind
    done := by grind
    hdr := nofun
    fail := by grind
    join := nofun
    dead := by grind
    sendDead := by grind
    respStr := nofun
    errRet := nofun
    reqDone := by grind
    uplStarted := nofun
    uplOnErr := fun hb _ => .inl (h.uplStarted hb (.inl g)) }

theorem inv_cFailSig {s : St} {e : Err} (h : Inv s) (g : s.cpc = .failSig e) : Inv (apply s .cFailSig) := by
  have hf : failing s.cpc = true := by rw [g]; rfl
  have ⟨hw, hs, hr⟩ := h.fail hf
  simp only [CancelH3.apply, g]
  exact { h with
    pre := nofun
    noStr := fun hn => absurd hn hw
    done := fun _ => .inl rfl
    hdr := nofun
    fail := fun _ => ⟨hw, hs, hr⟩
    join := fun _ => rfl
    dead := fun _ => .inr rfl
    respStr := nofun
    errRet := nofun
    reqDone := fun _ => .inl rfl
    uplStarted := nofun
    uplOnErr := fun hb _ => h.uplOnErr hb (.inl hf) }

theorem inv_cFailJoin {s : St} {e : Err} (h : Inv s) (g : s.cpc = .failJoin e) : Inv (apply s .cFailJoin) := by
  have hd : s.reqDone = true := h.join (by rw [g]; rfl)
  have hf : failing s.cpc = true := by rw [g]; rfl
  simp only [CancelH3.apply, g]
  exact { h with
    pre := nofun
    hdr := nofun
    fail := nofun
    join := nofun
    respStr := nofun
    errRet := fun _ => .inl hd
    reqDone := fun _ => .inr rfl
    uplStarted := nofun
    uplOnErr := fun hb _ => h.uplOnErr hb (.inl hf) }

/-- the caller has handed out the response: a failed `Body.Read` or the application's EOF closes `reqDone` -/
theorem inv_reqDone {s : St} (h : Inv s) (g : s.cpc = .returned .resp) {r : Option Err} :
    Inv { s with reqDone := true, readRes := r } := by
  have := h.respStr (.inr g)
  exact { h with
    noStr := by grind
    done := by grind
    hdr := by grind
    join := by grind
    dead := by grind
    errRet := by grind
    reqDone := by grind [isReturned] }

theorem inv_wFireW {s : St} (h : Inv s) (g : s.wat = .waiting) : Inv (apply s .wFireW) := by
  simp only [CancelH3.apply, cancelIfOpen_eq]
  exact { h with
    pre := by have := h.pre; grind
    noStr := nofun
    str := by have := h.str; grind
    mid := by grind
    done := nofun
    hdr := by have := h.hdr; grind
    fail := by have := h.fail; grind
    dead := by grind
    sendDead := by grind
    respStr := nofun }

theorem inv_wFireR {s : St} (h : Inv s) (g : s.wat = .mid) : Inv (apply s .wFireR) := by
  have := h.mid g
  simp only [CancelH3.apply, cancelIfOpen_eq]
  exact { h with
    pre := by have := h.pre; grind
    noStr := nofun
    str := by have := h.str; grind
    mid := nofun
    done := by grind
    hdr := by have := h.hdr; grind
    fail := by have := h.fail; grind
    dead := by have := h.dead; grind
    eof := by have := h.eof; grind
    sendDead := by grind
    respStr := nofun }

theorem inv_wExit {s : St} (h : Inv s) (g : s.wat = .waiting) (gd : s.reqDone = true) : Inv (apply s .wExit) := by
  simp only [CancelH3.apply]
  exact { h with
    pre := by have := h.pre; grind
    noStr := nofun
    str := by have := h.str; grind
    mid := nofun
    done := by grind
    hdr := by have := h.hdr; grind
    fail := by have := h.fail; grind
    sendDead := by have := h.sendDead; grind
    respStr := nofun }

theorem inv_upl {s : St} {u : UPc} {w : Nat} (h : Inv s) (g : s.upl = .read ∨ s.upl = .write)
    (g' : u = .read ∨ u = .write ∨ u = .close) : Inv { s with upl := u, writes := w } :=
  { h with
    noStr := by have := h.noStr; grind
    hdr := by have := h.hdr; grind
    closes := by have := h.closes; grind
    callerClosed := by have := h.callerClosed; grind
    uplBody := by have := h.uplBody; grind
    uplStarted := by grind
    uplOnErr := by grind }

theorem inv_uClose {s : St} (h : Inv s) (g : s.upl = .close) : Inv (apply s .uClose) := by
  simp only [CancelH3.apply]
  exact { h with
    noStr := by have := h.noStr; grind
    hdr := by have := h.hdr; grind
    closes := by have := h.closes; grind
    callerClosed := by have := h.callerClosed; grind
    uplBody := by have := h.uplBody; grind
    uplStarted := nofun
    uplOnErr := by grind }

theorem inv_uFin {s : St} (h : Inv s) (g : s.upl = .fin) : Inv (apply s .uFin) := by
  simp only [CancelH3.apply, finIfOpen_eq]
  exact { h with
    noStr := by have := h.noStr; grind
    str := by have := h.str; grind
    mid := by grind
    done := by have := h.done; grind
    hdr := by have := h.hdr; grind
    fail := by have := h.fail; grind
    dead := by grind
    sendDead := by have := h.sendDead; grind
    closes := by have := h.closes; grind
    callerClosed := by have := h.callerClosed; grind
    uplBody := by have := h.uplBody; grind
    uplStarted := nofun
    uplOnErr := by grind }


theorem inv_act {s : St} {a : Act} (h : Inv s) (g : guard s a = true) : Inv (apply s a) := by
  cases a <;> simp only [CancelH3.guard, recvDead, Bool.and_eq_true, Bool.or_eq_true, beq_iff_eq] at g
  case cHsCancel => exact inv_preCancel h (.inl g.1) g.2 _
  case cOpenCancel => exact inv_preCancel h (.inr g.1) g.2 _
  case cSendHdr => exact inv_cSendHdr h g
  case cRespOk => exact inv_cRespOk h g.1.1
  case cRespFail => exact inv_cRespFail h g.1 g.2
  case cFailSig =>
    split at g
    · exact inv_cFailSig h ‹_›
    · cases g
  case cFailJoin =>
    split at g
    · exact inv_cFailJoin h ‹_›
    · cases g.1
  case cBodyReadFail => exact inv_reqDone h g.1.1
  case wFireW => exact inv_wFireW h g.1
  case wFireR => exact inv_wFireR h g
  case wExit => exact inv_wExit h g.1 g.2
  case uRead => exact inv_upl h (.inl g) (.inr (.inl rfl))
  case uEOF => exact inv_upl h (.inl g) (.inr (.inr rfl))
  case uWriteFail => exact inv_upl h (.inr g.1) (.inr (.inr rfl))
  case uClose => exact inv_uClose h g
  case uFin => exact inv_uFin h g

theorem inv_ev {s : St} {e : Ev} (h : Inv s) (g : evGuard s e = true) : Inv (evApply s e) := by
  cases e <;> simp only [CancelH3.evGuard, Bool.and_eq_true, beq_iff_eq, bne_iff_ne, ne_eq, Bool.not_eq_true'] at g <;>
    simp only [CancelH3.evApply, resetIfOpen_eq, cancelIfOpen_eq]
  case cancel => exact { h with errRet := by have := h.errRet; grind }
  case hsDone =>
    have := h.pre (.inl g)
    exact { h with
      pre := by grind
      hdr := nofun
      fail := nofun
      join := nofun
      respStr := nofun
      errRet := nofun
      reqDone := by have := h.reqDone; grind [joining, isReturned]
      uplStarted := nofun
      uplOnErr := nofun }
  case streamOpen =>
    have ⟨hw, _⟩ := h.pre (.inr g)
    have := h.noStr hw
    exact { h with
      pre := nofun
      noStr := nofun
      str := by grind
      mid := nofun
      done := nofun
      hdr := by grind
      fail := nofun
      join := nofun
      dead := nofun
      eof := nofun
      sendDead := nofun
      respStr := nofun
      errRet := nofun
      reqDone := by grind
      uplStarted := nofun
      uplOnErr := nofun }
  case credit => exact inv_upl h (.inr g.1) (.inl rfl)
  case peerHeaders => exact { h with eof := by grind }
  case peerEnd =>
    exact { h with
      noStr := by have := h.noStr; grind
      str := by have := h.str; grind
      done := by have := h.done; grind
      fail := by have := h.fail; grind
      dead := nofun
      eof := by grind
      sendDead := by have := h.sendDead; grind }
  case peerReset =>
    exact { h with
      noStr := by have := h.noStr; grind
      str := by have := h.str; grind
      mid := by have := h.mid; grind
      done := by have := h.done; grind
      hdr := by have := h.hdr; grind
      fail := by have := h.fail; grind
      dead := by have := h.dead; grind
      eof := by have := h.eof; grind
      sendDead := by have := h.sendDead; grind }
  case callerClose =>
    have := h.respStr (.inr g)
    exact { h with
      noStr := by grind
      str := by have := h.str; grind
      done := by grind
      hdr := by grind
      fail := by grind [failing]
      join := by grind
      dead := by grind
      eof := by have := h.eof; grind
      sendDead := by have := h.sendDead; grind
      errRet := by grind
      reqDone := by grind [isReturned] }
  case callerEOF => exact inv_reqDone h g.1
  case peerInterim => exact h

theorem reach_inv {s : St} (h : Reach s) : Inv s := by
  induction h with
  | init b => exact inv_init b
  | ev e _ g ih => exact inv_ev ih g
  | act a _ g ih => exact inv_act ih g

end Req.Lemmas.CancelH3
