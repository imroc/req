import Req.H1.BufLine
import Req.Lemmas.BufLine
/-! The dumping `readLine` against `bufio.ReadLine`, and parsers over a `readLine` (`Prog`): two line functions that
agree on result and reader state are indistinguishable to every parser (`prog_congr`); with a line function that
dumps what it consumes an accounted parser dumps what it consumes (`prog_exact`); `readLineSlice` is such a
parser (`sliceProg`). -/
namespace Req.H1.BufLine
open Req.Proto

theorem dumpReadLine_eq_readLine (B : Nat) (st : Rd) :
    ((dumpReadLine B st).1, (dumpReadLine B st).2.1) = readLine B st := by
  rcases h : readSlice B st with ⟨r, st1⟩
  simp only [dumpReadLine, readLine, h]
  split <;> split <;> rfl

theorem dump_agrees_plain (B : Nat) (st : Rd) :
    ((dumpReadLine B st).1, (dumpReadLine B st).2.1) = ((plainReadLine B st).1, (plainReadLine B st).2.1) := by
  rw [dumpReadLine_eq_readLine B st]
  simp [plainReadLine]

theorem prog_congr {α : Type} (rl1 rl2 : LineFn)
    (h : ∀ st, ((rl1 st).1, (rl1 st).2.1) = ((rl2 st).1, (rl2 st).2.1))
    (p : Prog α) (st : Rd) (d d' : Bytes) (e e' : Bool) :
    (p.run rl1 e st d).1 = (p.run rl2 e' st d').1 ∧ (p.run rl1 e st d).2.1 = (p.run rl2 e' st d').2.1 := by
  induction p generalizing st d d' with
  | ret a => simp [Prog.run]
  | line k ih =>
    have hs := h st
    rcases h1 : rl1 st with ⟨r1, s1, e1⟩
    rcases h2 : rl2 st with ⟨r2, s2, e2⟩
    rw [h1, h2] at hs
    cases hs
    simp only [Prog.run, h1, h2]
    exact ih _ _ _ _
  | look k ih => simp only [Prog.run]; exact ih _ _ _ _
  | upd f k ih => simp only [Prog.run]; exact ih _ _ _
  | eat f k ih => simp only [Prog.run]; exact ih _ _ _ _

theorem prog_exact {α : Type} (rl : LineFn) (h : ∀ st, (rl st).2.2 ++ (rl st).2.1.bytes = st.bytes)
    (p : Prog α) (hp : p.Accounted) (st : Rd) (d : Bytes) :
    (p.run rl true st d).2.2 ++ (p.run rl true st d).2.1.bytes = d ++ st.bytes := by
  induction p generalizing st d with
  | ret a => simp [Prog.run]
  | line k ih =>
    have hs := h st
    rcases h1 : rl st with ⟨r1, s1, e1⟩
    rw [h1] at hs
    simp only at hs
    simp only [Prog.run, h1]
    rw [ih _ (hp r1)]
    simp [← hs]
  | look k ih => simp only [Prog.run]; exact ih _ (hp st) _ _
  | upd f k ih => simp only [Prog.run]; rw [ih hp.2, hp.1]
  | eat f k ih =>
    have hs := hp.1 st
    simp only [Prog.run, if_true]
    rw [ih _ (hp.2 _)]
    simp [← hs]

/-- The accumulation loop of `readLineSlice` as a parser over `readLine`. -/
def sliceProg (lim : Option Nat) : Nat → Bytes → Prog (Res Bytes)
  | 0, _ => .ret (.error .stuck)
  | f + 1, acc => .line fun r =>
    match r.err with
    | some e => .ret (.error e)
    | none =>
      if overLimit lim (acc.length + r.line.length) then .ret (.error .tooLarge)
      else if r.isPrefix then sliceProg lim f (acc ++ r.line)
      else .ret (.ok (acc ++ r.line))

/-- `readLineSlice` is one of the parsers of `prog_congr` / `prog_exact`. -/
theorem readLineSliceLoop_eq_prog (rl : LineFn) (lim : Option Nat) (e : Bool) (f : Nat) (acc d : Bytes)
    (st : Rd) :
    readLineSliceLoop rl lim f acc d st =
      ⟨((sliceProg lim f acc).run rl e st d).1, ((sliceProg lim f acc).run rl e st d).2.1,
        ((sliceProg lim f acc).run rl e st d).2.2⟩ := by
  induction f generalizing acc d st with
  | zero => rfl
  | succ f ih =>
    rcases h1 : rl st with ⟨r, s1, e1⟩
    simp only [readLineSliceLoop, sliceProg, Prog.run, h1]
    cases r.err with
    | some x => rfl
    | none =>
      simp only
      split
      · rfl
      · split
        · exact ih _ _ _
        · rfl

theorem sliceProg_accounted (lim : Option Nat) (f : Nat) (acc : Bytes) : (sliceProg lim f acc).Accounted := by
  induction f generalizing acc with
  | zero => trivial
  | succ f ih =>
    intro r
    simp only
    split
    · trivial
    · split
      · trivial
      · split
        · exact ih _
        · trivial

end Req.H1.BufLine
