import Req.Lemmas.C09PoolLeak
import Req.Lemmas.C09PoolCount
/-! The limits of the pool model (C09) and its whole invariant: `Places` (every connection in exactly
one place) together with `Limits` (per-host limits, no idle connection while somebody waits, slot
accounting) and the bound on the LRU list, kept by every primitive move (`PoolInv_move`), hence
along every interleaving (`PoolInv_run`). -/
namespace Req.Lemmas.C09PoolInv
open Req.Pool.H1Pool Req.Lemmas.C09Pool Req.Lemmas.C09PoolExcl Req.Lemmas.C09PoolLru
open Req.Lemmas.C09PoolLeak Req.Lemmas.C09PoolCount

def NoIdleWhileWaiting (s : St) : Prop := ∀ k, s.idleWait k ≠ [] → s.idle k = []

theorem NoIdleWhileWaiting_of_frame {s s' : St} (h1 : s'.idle = s.idle) (h2 : s'.idleWait = s.idleWait)
    (h : NoIdleWhileWaiting s) : NoIdleWhileWaiting s' := by
  intro k; rw [h1, h2]; exact h k

theorem NoIdleWhileWaiting_removeIdleLocked (s : St) (c : Conn) (h : NoIdleWhileWaiting s) :
    NoIdleWhileWaiting (removeIdleLocked s c).1 := by
  rw [removeIdleLocked_fst]
  split
  · exact h
  · intro k hk
    simp only [upd]
    split
    · next heq => subst heq; simp [h _ hk]
    · exact h k hk

def IdlePerHostLe (cfg : Cfg) (s : St) : Prop := ∀ k, (s.idle k).length ≤ cfg.idlePerHost

theorem IdlePerHostLe_of_frame {cfg : Cfg} {s s' : St} (h1 : s'.idle = s.idle) (h : IdlePerHostLe cfg s) :
    IdlePerHostLe cfg s' := by
  intro k; rw [h1]; exact h k

theorem IdlePerHostLe_removeIdleLocked (cfg : Cfg) (s : St) (c : Conn) (h : IdlePerHostLe cfg s) :
    IdlePerHostLe cfg (removeIdleLocked s c).1 := by
  rw [removeIdleLocked_fst]
  split
  · exact h
  · intro k
    simp only [upd]
    split
    · next heq => subst heq; exact Nat.le_trans List.length_erase_le (h _)
    · exact h k

def CphLe (s' s : St) : Prop := ∀ k, s'.cph k ≤ s.cph k

theorem CphLe.refl (s : St) : CphLe s s := fun _ => Nat.le_refl _
theorem CphLe.of_eq {a b : St} (h : a.cph = b.cph) : CphLe a b := by intro k; rw [h]; exact Nat.le_refl _

theorem decConns_cphLe (cfg : Cfg) (s : St) (k : Key) : CphLe (decConns cfg s k) s := by
  unfold decConns startDial
  split
  · exact CphLe.refl s
  · split
    · exact CphLe.refl s
    · split
      · exact CphLe.refl s
      · intro k'
        simp only [upd]
        split
        · next heq => subst heq; omega
        · exact Nat.le_refl _

theorem closeConn_cphLe (cfg : Cfg) (s : St) (c : Conn) : CphLe (closeConn cfg s c) s := by
  unfold closeConn
  split
  · exact CphLe.refl s
  · split
    · exact CphLe.refl s
    · exact decConns_cphLe cfg _ _

def ConnsPerHostLe (cfg : Cfg) (s : St) : Prop := cfg.maxConnsPerHost > 0 → ∀ k, (s.cph k : Int) ≤ cfg.maxConnsPerHost

theorem ConnsPerHostLe_of_le {cfg : Cfg} {s s' : St} (hle : CphLe s' s) (h : ConnsPerHostLe cfg s) :
    ConnsPerHostLe cfg s' := by
  intro hpos k
  have := h hpos k
  have := hle k
  omega

/-- The limits `MaxIdleConnsPerHost` and `MaxConnsPerHost`, "no idle connection while somebody waits
for one", and the slot accounting. They rest on `Places` and not the other way round. -/
structure Limits (cfg : Cfg) (s : St) : Prop where
  iw : NoIdleWhileWaiting s
  il : IdlePerHostLe cfg s
  cl : ConnsPerHostLe cfg s
  acct : cfg.maxConnsPerHost > 0 → Acct s

/-- `len` (`MaxIdleConns`) stands beside `Limits` because it alone fails inside a move: between the
append and the eviction of `tryPutIdleConn` the LRU list is one too long. -/
structure PoolInv (cfg : Cfg) (s : St) : Prop extends Places s, Limits cfg s where
  len : LruLen cfg s

variable {cfg : Cfg} {s : St}

theorem Limits.transit_erase (h : Limits cfg s) (c : Conn) : Limits cfg { s with transit := s.transit.erase c } :=
  { h with acct := fun hp => (h.acct hp).frame }

theorem Limits.close (he : Excl s) (h : Limits cfg s) (c : Conn) : Limits cfg (closeConn cfg s c) where
  iw := NoIdleWhileWaiting_of_frame (by simp) (by simp) h.iw
  il := IdlePerHostLe_of_frame (by simp) h.il
  cl := ConnsPerHostLe_of_le (closeConn_cphLe cfg s c) h.cl
  acct := fun hp => Acct_closeConn cfg hp s c he.connsNodup he.connsCreated (h.acct hp)

theorem Limits.remove (h : Limits cfg s) (c : Conn) : Limits cfg (removeIdleLocked s c).1 where
  iw := NoIdleWhileWaiting_removeIdleLocked s c h.iw
  il := IdlePerHostLe_removeIdleLocked cfg s c h.il
  cl := ConnsPerHostLe_of_le (CphLe.of_eq (removeIdleLocked_cph s c)) h.cl
  acct := fun hp => Acct_removeIdleLocked s c (h.acct hp)

theorem Limits.evict (hp : Places s) (h : Limits cfg s) : Limits cfg (evictOldest cfg s) := by
  cases ho : s.lru.getLast? with
  | none => unfold evictOldest; rw [ho]; exact h
  | some o =>
    rw [evictOldest_eq cfg s o hp.lru.lruNodup ho (lru_created s o hp.excl hp.lru (List.mem_of_getLast? ho))]
    exact (h.close hp.excl o).remove o

theorem Limits.append (h : Limits cfg s) (c : Conn) (k : Key) (hq : s.idleWait k = [])
    (hlen : (s.idle k).length < cfg.idlePerHost) :
    Limits cfg { s with idle := upd s.idle k (s.idle k ++ [c]), lru := c :: s.lru } :=
  { h with
    iw := fun k' hk' => by
      have hkk : k' ≠ k := fun e => hk' (e ▸ hq)
      show upd s.idle k _ k' = []
      rw [upd_other _ _ _ _ hkk]; exact h.iw k' hk'
    il := fun k' => by
      show (upd s.idle k _ k').length ≤ _
      simp only [upd]; split
      · next e => subst e; simp; omega
      · exact h.il k'
    acct := fun hp => (h.acct hp).frame }

theorem Limits.add {c : Conn} {k : Key} (hp : Places { s with idle := upd s.idle k (s.idle k ++ [c]), lru := c :: s.lru })
    (h : Limits cfg s) (hq : s.idleWait k = []) (hlen : (s.idle k).length < cfg.idlePerHost) :
    Limits cfg (addIdle cfg s c k) := by
  have h2 := h.append c k hq hlen
  unfold addIdle
  dsimp only
  split
  · exact h2.evict hp
  · exact h2

theorem Limits_move {s' : St} (m : Move cfg s s') (hp : Places s) (h : Limits cfg s) : Limits cfg s' := by
  cases m with
  | wantNew w k hn => exact { h with acct := fun hpos => Acct_wantNew s w k hn (h.acct hpos) }
  | prune k l' hpr =>
    exact { h with
      acct := fun hpos => (h.acct hpos).frame
      iw := fun k' hk' => List.eq_nil_of_length_eq_zero (by
        have := hpr.length_le k'; rw [h.iw k' hk'] at this; exact Nat.le_zero.mp this)
      il := fun k' => Nat.le_trans (hpr.length_le k') (h.il k') }
  | handOver w c k l hi _ hw =>
    exact { h with
      acct := fun hpos => (h.acct hpos).frame
      iw := fun k' hk' => by
        have := h.iw k' hk'
        by_cases hkk : k' = k
        · subst hkk; rw [hi] at this; simp at this
        · show upd s.idle k l k' = []; simp only [upd, hkk, if_false]; exact this
      il := fun k' => by
        show (upd s.idle k l k').length ≤ _
        simp only [upd]; split
        · next e => subst e; have := h.il k'; rw [hi] at this; simp at this; omega
        · exact h.il k' }
  | setIdleWait k q hq =>
    exact { h with
      acct := fun hpos => (h.acct hpos).frame
      iw := fun k' hk' => by
        by_cases hkk : k' = k
        · subst hkk
          rcases hq with rfl | hq | hq
          · exact absurd (upd_same ..) hk'
          · exact hq
          · exact h.iw _ hq
        · exact h.iw k' fun hn => hk' ((upd_other s.idleWait k k' q hkk).trans hn) }
  | dialNow w hoff => exact { h with acct := fun hpos => absurd hoff (by omega) }
  | takeSlot w k hk hlt =>
    exact { h with
      cl := fun hpos k' => by
        show ((upd s.cph k (s.cph k + 1) k' : Nat) : Int) ≤ _
        simp only [upd]; split
        · next heq => subst heq; omega
        · exact h.cl hpos k'
      acct := fun hpos => Acct_takeSlot s w k hk (h.acct hpos) }
  | waitSlot w k hk => exact { h with acct := fun hpos => Acct_waitSlot s w k hk (h.acct hpos) }
  | dialDrop w k hk hd =>
    exact {
      iw := NoIdleWhileWaiting_of_frame (s := s) (by simp) (by simp) h.iw
      il := IdlePerHostLe_of_frame (s := s) (by simp) h.il
      cl := ConnsPerHostLe_of_le (decConns_cphLe cfg _ k) h.cl
      acct := fun hpos => Acct_decConns cfg hpos _ k (DecPre_of_erase s w k hd hk (h.acct hpos)) }
  | create w c k hk hc hd =>
    exact { h with acct := fun hpos => (Acct_create s w c k hk hc hd hp.excl (h.acct hpos)).frame }
  | addIdle c k hc hk _ hq hlen hnl => exact (h.transit_erase c).add (hp.append hc hk hnl) hq hlen
  | closeT c => exact (h.transit_erase c).close (Excl_transit_erase s c hp.excl) c
  | close c => exact h.close hp.excl c
  | remove c => exact h.remove c
  | idleTimeout c => exact (h.remove c).close (Excl_removeIdleLocked s c hp.excl) c
  | flush =>
    exact { h with
      acct := fun hpos => (h.acct hpos).frame
      iw := fun k _ => rfl
      il := fun k => Nat.zero_le _ }
  | _ => exact { h with acct := fun hpos => (h.acct hpos).frame }

theorem LruLen_move {s' : St} (m : Move cfg s s') (hp : Places s) (h : LruLen cfg s) : LruLen cfg s' := by
  cases m with
  | handOver w c k l => exact fun hm => Nat.le_trans List.length_erase_le (h hm)
  | dialDrop w k => exact fun hm => by rw [decConns_lru]; exact h hm
  | addIdle c k hc hk _ _ _ hnl => exact (hp.add hc hk hnl).2 h
  | closeT c | close c => exact fun hm => by rw [closeConn_lru]; exact h hm
  | remove c hk => exact LruLen_erase cfg s _ c (removeIdleLocked_lru s c hk) h
  | idleTimeout c hm =>
    exact fun hm' => by
      rw [closeConn_lru]
      exact LruLen_erase cfg s _ c (removeIdleLocked_lru s c (lru_created s c hp.excl hp.lru hm)) h hm'
  | flush => exact fun _ => Nat.zero_le _
  | _ => exact h

theorem PoolInv_move {s' : St} (m : Move cfg s s') (h : PoolInv cfg s) : PoolInv cfg s' :=
  { Places_move m h.toPlaces, Limits_move m h.toPlaces h.toLimits with len := LruLen_move m h.toPlaces h.len }

theorem PoolInv_init (cfg : Cfg) : PoolInv cfg {} where
  excl := Excl_init
  lru := LruCore_init
  leak := NoLeak_init
  len := fun _ => Nat.zero_le _
  iw := fun k hk => absurd rfl hk
  il := fun k => Nat.zero_le _
  cl := fun hpos k => by simp; omega
  acct := fun _ => Acct_init

theorem PoolInv_run (cfg : Cfg) (s : St) (ops : List Op) (h : PoolInv cfg s) : PoolInv cfg (run cfg s ops) :=
  run_moves PoolInv_move s ops h

theorem PoolInv_reach (cfg : Cfg) (ops : List Op) : PoolInv cfg (run cfg {} ops) :=
  PoolInv_run cfg {} ops (PoolInv_init cfg)

end Req.Lemmas.C09PoolInv
