import Req.Lemmas.C03H2Inv
/-!
C03 — HTTP/2: normal form of `transportResponseBody.Read` (`Req.C02.H2Stream.read`), every result with its
successor state written as a literal update of the state before (`took`, `drained`, `failed`), and the
proof that a caller read of any size preserves the stream invariant `Inv`.
-/
namespace Req.C03
open Req.Proto Req.C02

theorem h2err_beq_eof (b : H2Err) : (b == .eof) = true ↔ b = .eof := by cases b <;> decide

theorem pipe_read_cases (p : Pipe) (k : Nat) :
    (∃ b, p.breakErr = some b ∧ p.read k = some (([], some b, false), p)) ∨
    (p.breakErr = none ∧ p.hasBuf = true ∧ p.buf ≠ [] ∧
      p.read k = some ((p.buf.take k, none, false), { p with buf := p.buf.drop k })) ∨
    (p.breakErr = none ∧ ¬(p.hasBuf = true ∧ p.buf ≠ []) ∧ ∃ x, p.err = some x ∧
      p.read k = some (([], some x, p.readFn), { p with readFn := false, hasBuf := false })) ∨
    (p.breakErr = none ∧ ¬(p.hasBuf = true ∧ p.buf ≠ []) ∧ p.err = none ∧ p.read k = none) := by
  unfold Pipe.read
  cases hb : p.breakErr with
  | some b => left; exact ⟨b, rfl, rfl⟩
  | none =>
    right
    simp only []
    by_cases hc : p.hasBuf = true ∧ p.buf.length > 0
    · left
      have : p.buf ≠ [] := by intro h; simp [h] at hc
      simp [hc, this]
    · right
      have hc' : ¬(p.hasBuf = true ∧ p.buf ≠ []) := by
        intro ⟨a, b⟩; apply hc; exact ⟨a, List.length_pos_iff.mpr b⟩
      simp only [hc, if_false]
      cases he : p.err with
      | some x => left; exact ⟨trivial, hc', x, rfl, rfl⟩
      | none => right; exact ⟨trivial, hc', rfl, rfl⟩

/-- A successful read of data: `k` bytes leave the pipe, the declared length is counted down. -/
def took (s : H2Stream) (k : Nat) : H2Stream :=
  { s with pipe := { s.pipe with buf := s.pipe.buf.drop k },
           bytesRemain := s.bytesRemain.map (· - (s.pipe.buf.take k).length) }

/-- The pipe reports its close error: `copyTrailers` has run, the buffer is gone. -/
def drained (s : H2Stream) : H2Stream :=
  { s with pipe := { s.pipe with readFn := false, hasBuf := false },
           resTrailer := if s.pipe.readFn then s.trailer else s.resTrailer }

/-- The read fails with `e` for good. -/
def failed (s : H2Stream) (e : H2Err) : H2Stream := { s with readErr := some e }

/-- The state after the pipe read, before the length accounting. -/
def readMid (s : H2Stream) (p' : Pipe) (ranFn : Bool) : H2Stream :=
  let s := { s with pipe := p' }
  if ranFn then { s with resTrailer := s.trailer } else s

/-- The length accounting of `transportResponseBody.Read`. -/
def readTail (s : H2Stream) (d : Bytes) (e : Option H2Err) : Option ((Bytes × Option H2Err) × H2Stream) :=
  match s.bytesRemain with
  | some rem =>
    if d.length > rem then
      let e' := match e with | none => some H2Err.overDeclared | some e => some e
      let s' := if e.isNone then s.abort .overDeclared else s
      some ((d.take rem, e'), { s' with readErr := e' })
    else
      let s := { s with bytesRemain := some (rem - d.length) }
      if e == some .eof ∧ rem - d.length > 0 then
        some ((d, some .unexpectedEOF), { s with readErr := some .unexpectedEOF })
      else some ((d, e), s)
  | none => some ((d, e), s)

theorem read_eq (s : H2Stream) (k : Nat) :
    s.read k = match s.readErr with
      | some e => some (([], some e), s)
      | none =>
        match s.pipe.read k with
        | none => none
        | some ((d, e, ranFn), p') => readTail (readMid s p' ranFn) d e := by
  unfold H2Stream.read readTail readMid
  rfl

inductive ReadNF (s : H2Stream) (k : Nat) : Option ((Bytes × Option H2Err) × H2Stream) → Prop
  | blocked : s.readErr = none → s.pipe.breakErr = none → s.pipe.err = none →
      ¬(s.pipe.hasBuf = true ∧ s.pipe.buf ≠ []) → ReadNF s k none
  | sticky (e : H2Err) : s.readErr = some e → ReadNF s k (some (([], some e), s))
  | broken (b : H2Err) : s.readErr = none → s.pipe.breakErr = some b → ReadNF s k (some (([], some b), s))
  | brokenShort : s.readErr = none → s.pipe.breakErr = some .eof →
      ReadNF s k (some (([], some .unexpectedEOF), failed s .unexpectedEOF))
  | data : s.readErr = none → s.pipe.breakErr = none → s.pipe.hasBuf = true → s.pipe.buf ≠ [] →
      (∀ rem, s.bytesRemain = some rem → (s.pipe.buf.take k).length ≤ rem) →
      ReadNF s k (some ((s.pipe.buf.take k, none), took s k))
  | over (rem : Nat) : s.readErr = none → s.pipe.breakErr = none → s.pipe.hasBuf = true → s.pipe.buf ≠ [] →
      s.bytesRemain = some rem → (s.pipe.buf.take k).length > rem →
      ReadNF s k (some (((s.pipe.buf.take k).take rem, some .overDeclared),
        failed (({ s with pipe := { s.pipe with buf := s.pipe.buf.drop k } } : H2Stream).abort .overDeclared) .overDeclared))
  | ended (x : H2Err) : s.readErr = none → s.pipe.breakErr = none → ¬(s.pipe.hasBuf = true ∧ s.pipe.buf ≠ []) →
      s.pipe.err = some x → (x = .eof → s.bytesRemain = none ∨ s.bytesRemain = some 0) →
      ReadNF s k (some (([], some x), drained s))
  | short (rem : Nat) : s.readErr = none → s.pipe.breakErr = none → ¬(s.pipe.hasBuf = true ∧ s.pipe.buf ≠ []) →
      s.pipe.err = some .eof → s.bytesRemain = some rem → rem > 0 →
      ReadNF s k (some (([], some .unexpectedEOF), failed (drained s) .unexpectedEOF))

/-- The length accounting leaves the state alone when nothing was read and the end is not a short one. -/
theorem readTail_nil (s : H2Stream) (e : Option H2Err)
    (h : ¬(e = some .eof ∧ ∃ rem, s.bytesRemain = some rem ∧ rem > 0)) : readTail s [] e = some (([], e), s) := by
  unfold readTail
  cases hbr : s.bytesRemain with
  | none => rfl
  | some rem =>
    simp only [List.length_nil, Nat.not_lt_zero, if_false, Nat.sub_zero]
    rw [if_neg]
    · rw [← hbr]
    · intro ⟨h1, h2⟩
      exact h ⟨by cases e with | none => cases h1 | some x => rw [(h2err_beq_eof x).mp (by simpa using h1)], rem, hbr, h2⟩

theorem readTail_short (s : H2Stream) (rem : Nat) (h : s.bytesRemain = some rem) (hpos : rem > 0) :
    readTail s [] (some .eof) = some (([], some .unexpectedEOF), failed s .unexpectedEOF) := by
  unfold readTail
  simp only [h, List.length_nil, Nat.not_lt_zero, if_false, Nat.sub_zero]
  rw [if_pos ⟨rfl, hpos⟩, ← h]; rfl

theorem readMid_false (s : H2Stream) (p : Pipe) : readMid s p false = { s with pipe := p } := rfl

theorem readTail_fits (s : H2Stream) (d : Bytes) (h : ∀ rem, s.bytesRemain = some rem → d.length ≤ rem) :
    readTail s d none = some ((d, none), { s with bytesRemain := s.bytesRemain.map (· - d.length) }) := by
  unfold readTail
  cases hbr : s.bytesRemain with
  | none => simp only [Option.map_none]; rw [← hbr]
  | some rem => simp only [Option.map_some]; rw [if_neg (Nat.not_lt.mpr (h rem hbr)), if_neg (by simp)]

theorem readTail_over (s : H2Stream) (d : Bytes) (rem : Nat) (h : s.bytesRemain = some rem) (hgt : d.length > rem) :
    readTail s d none = some ((d.take rem, some .overDeclared), failed (s.abort .overDeclared) .overDeclared) := by
  unfold readTail; simp only [h]; rw [if_pos hgt]; rfl

theorem read_nf (s : H2Stream) (k : Nat) : ReadNF s k (s.read k) := by
  rw [read_eq]
  cases hre : s.readErr with
  | some e => exact .sticky e hre
  | none =>
    simp only []
    rcases pipe_read_cases s.pipe k with ⟨b, hb, hr⟩ | ⟨hb, hhb, hne, hr⟩ | ⟨hb, hnb, x, hx, hr⟩ | ⟨hb, hnb, hx, hr⟩
    · rw [hr]; simp only [readMid_false]
      by_cases hsh : b = .eof ∧ ∃ rem, s.bytesRemain = some rem ∧ rem > 0
      · obtain ⟨rfl, rem, hrem, hpos⟩ := hsh
        rw [readTail_short _ rem hrem hpos]; exact .brokenShort hre hb
      · rw [readTail_nil _ _ (by simpa using hsh)]; exact .broken b hre hb
    · rw [hr]; simp only [readMid_false]
      by_cases hov : ∃ rem, s.bytesRemain = some rem ∧ (s.pipe.buf.take k).length > rem
      · obtain ⟨rem, hbr, hgt⟩ := hov
        rw [readTail_over (rem := rem) (h := by exact hbr) (hgt := hgt)]; exact .over rem hre hb hhb hne hbr hgt
      · have hle : ∀ rem, s.bytesRemain = some rem → (s.pipe.buf.take k).length ≤ rem :=
          fun rem hbr => Nat.not_lt.mp fun hgt => hov ⟨rem, hbr, hgt⟩
        rw [readTail_fits (h := by exact hle)]; exact .data hre hb hhb hne hle
    · rw [hr]; simp only []
      have hm : readMid s { s.pipe with readFn := false, hasBuf := false } s.pipe.readFn = drained s := by
        unfold readMid drained; cases s.pipe.readFn <;> rfl
      rw [hm]
      by_cases hsh : x = .eof ∧ ∃ rem, (drained s).bytesRemain = some rem ∧ rem > 0
      · obtain ⟨rfl, rem, hrem, hpos⟩ := hsh
        rw [readTail_short _ rem hrem hpos]; exact .short rem hre hb hnb hx hrem hpos
      · rw [readTail_nil _ _ (by simpa using hsh)]
        refine .ended x hre hb hnb hx fun hxe => ?_
        cases hbr : s.bytesRemain with
        | none => exact .inl rfl
        | some rem =>
          right; congr
          cases rem with
          | zero => rfl
          | succ r => exact absurd ⟨hxe, r + 1, hbr, Nat.succ_pos r⟩ hsh
    · rw [hr]; exact .blocked hre hb hx hnb

theorem Inv.buf_nil {s : H2Stream} {O D : Bytes} (h : Inv s O D) (hnb : ¬(s.pipe.hasBuf = true ∧ s.pipe.buf ≠ [])) :
    s.pipe.buf = [] := by
  cases hhb : s.pipe.hasBuf with
  | false => exact h.bufNil hhb
  | true =>
    cases hbuf : s.pipe.buf with
    | nil => rfl
    | cons a t => exact absurd ⟨hhb, by simp [hbuf]⟩ hnb

/-- A caller read preserves the invariant; `O` grows by what was handed out. -/
theorem Inv.read {s : H2Stream} {O D : Bytes} (h : Inv s O D) (k : Nat) (d : Bytes) (e : Option H2Err)
    (s' : H2Stream) (hr : s.read k = some ((d, e), s')) : Inv s' (O ++ d) D := by
  have hnf := read_nf s k
  rw [hr] at hnf
  cases hnf with
  | sticky e he => simpa using h
  | broken b hre hb => simpa using h
  | brokenShort hre hb => exact absurd hb h.noEofB
  | data hre hb hhb hne hle =>
    obtain ⟨r, hres, hpiped⟩ := h.hasBufPiped hhb
    have hrem := h.remain r hres hpiped hre
    have htd : O ++ s.pipe.buf.take k ++ s.pipe.buf.drop k = O ++ s.pipe.buf := by simp [List.append_assoc]
    exact
      { h with
        bufNil := fun hx => by simp [took, hhb] at hx
        outPfx := (List.prefix_append _ _).trans (htd ▸ h.allPfx hre)
        allPfx := fun _ => htd ▸ h.allPfx hre
        liveEq := fun hl => htd ▸ h.liveEq hl
        resNone := fun hx => by simp [took, hres] at hx
        remain := fun r' hr' _ _ => by
          cases hres.symm.trans hr'
          simp only [took, hrem, Option.map_map, List.length_append]
          cases r.contentLength with
          | none => rfl
          | some n => simp only [Option.map_some, Function.comp]; congr 1; omega
        bound := fun r' n hr' _ hcl => by
          cases hres.symm.trans hr'
          have hb0 := h.bound r n hres hpiped hcl
          rw [hcl] at hrem
          have := hle _ hrem
          simp only [] at this
          simp only [List.length_append]; omega }
  | over rem hre hb hhb hne hbr hgt =>
    obtain ⟨r, hres, hpiped⟩ := h.hasBufPiped hhb
    have hrem := h.remain r hres hpiped hre
    rw [hbr] at hrem
    have hpfx : O ++ (s.pipe.buf.take k).take rem <+: D := by
      obtain ⟨t, ht⟩ := ((List.take_prefix rem (s.pipe.buf.take k)).trans (List.take_prefix k s.pipe.buf))
      exact (show O ++ (s.pipe.buf.take k).take rem <+: O ++ s.pipe.buf from ⟨t, by rw [List.append_assoc, ht]⟩).trans
        (h.allPfx hre)
    have hcl : (if s.pipe.err.isSome then s.pipe.err else some H2Err.overDeclared).isSome = true := by
      split <;> simp_all
    have h1 := h.abort .overDeclared (by simp)
    rw [abort_eq, closeWithError_eq] at h1
    rw [abort_eq, closeWithError_eq]
    exact
      { h1 with
        bufNil := fun hx => by simp [failed, hhb] at hx
        outPfx := hpfx
        allPfx := fun hx => by simp [failed] at hx
        liveEq := fun hl => by have := hl.1; simp only [failed] at this; rw [this] at hcl; cases hcl
        noEofR := by simp [failed]
        resNone := fun hx => by simp [failed, hres] at hx
        remain := fun _ _ _ hx => by simp [failed] at hx
        bound := fun r' n hr' _ hcl => by
          cases hres.symm.trans hr'
          have hb0 := h.bound r n hres hpiped hcl
          rw [hcl] at hrem; simp at hrem
          simp only [List.length_append, List.length_take] at hgt ⊢
          omega
        readErrDead := fun _ => .inl hcl
        liveBuf := fun hl => by have := hl.1; simp only [failed] at this; rw [this] at hcl; cases hcl }
  | ended x hre hb hnb hx hxe =>
    rw [List.append_nil]
    exact
      { h with
        bufNil := fun _ => h.buf_nil hnb
        resNone := fun hr => ⟨rfl, (h.resNone hr).2⟩
        hasBufPiped := fun hx => nomatch hx
        liveBuf := fun hl => absurd hl.1 (by simp [drained, hx]) }
  | short rem hre hb hnb hx hbr hpos =>
    rw [List.append_nil]
    exact
      { h with
        bufNil := fun _ => h.buf_nil hnb
        allPfx := fun hx => by simp [failed] at hx
        liveEq := fun hl => absurd hl.1 (by simp [failed, drained, hx])
        noEofR := by simp [failed]
        resNone := fun hr => ⟨rfl, (h.resNone hr).2⟩
        hasBufPiped := fun hx => nomatch hx
        remain := fun _ _ _ hx => by simp [failed] at hx
        readErrDead := fun _ => .inl (by simp [failed, drained, hx])
        liveBuf := fun hl => absurd hl.1 (by simp [failed, drained, hx]) }

/-- The fields a body read never changes. -/
structure RdSame (s s' : H2Stream) : Prop where
  readClosed : s'.readClosed = s.readClosed
  readAborted : s'.readAborted = s.readAborted
  connDead : s'.connDead = s.connDead
  res : s'.res = s.res
  pastHeaders : s'.pastHeaders = s.pastHeaders
  isHead : s'.isHead = s.isHead
  breakErr : s'.pipe.breakErr = s.pipe.breakErr
  errKeep : ∀ x, s.pipe.err = some x → s'.pipe.err = some x
  readErrKeep : ∀ x, s.readErr = some x → s'.readErr = some x

theorem RdSame.refl (s : H2Stream) : RdSame s s :=
  ⟨rfl, rfl, rfl, rfl, rfl, rfl, rfl, fun _ h => h, fun _ h => h⟩

theorem read_rdsame {s : H2Stream} {k : Nat} {o : Bytes × Option H2Err} {s' : H2Stream}
    (hr : s.read k = some (o, s')) : RdSame s s' := by
  have hnf := read_nf s k
  rw [hr] at hnf
  cases hnf with
  | sticky e he => exact RdSame.refl s
  | broken b _ _ => exact RdSame.refl s
  | brokenShort hre _ => exact ⟨rfl, rfl, rfl, rfl, rfl, rfl, rfl, fun _ h => h, fun x hx => by simp [hre] at hx⟩
  | data _ _ _ _ _ => exact ⟨rfl, rfl, rfl, rfl, rfl, rfl, rfl, fun _ h => h, fun _ h => h⟩
  | over rem hre _ _ _ _ _ =>
    rw [abort_eq, closeWithError_eq]
    exact ⟨rfl, rfl, rfl, rfl, rfl, rfl, rfl, fun x hx => by simp [failed, hx], fun x hx => by simp [hre] at hx⟩
  | ended y _ _ _ _ _ => exact ⟨rfl, rfl, rfl, rfl, rfl, rfl, rfl, fun _ h => h, fun _ h => h⟩
  | short rem hre _ _ _ _ _ =>
    exact ⟨rfl, rfl, rfl, rfl, rfl, rfl, rfl, fun _ h => h, fun x hx => by simp [hre] at hx⟩

end Req.C03
