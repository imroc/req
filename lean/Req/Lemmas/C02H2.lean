import Req.C02.H2Recv
/-!
C02 — HTTP/2 (`Req.C02.H2Recv`).  The read loop delivers the frames of a conformant response
(interim 1xx HEADERS, final HEADERS, DATA…, END_STREAM on the last DATA or on a trailer HEADERS)
while the caller reads with arbitrary sizes at arbitrary moments.  Throughout, the stream state is
one of three canonical shapes (`Ph`), and every byte handed out is the next byte of the
concatenated DATA payloads.

A read may come before the frames it needs and then blocks (`H2Stream.read` returns `none`), so this
reader is not an instance of `ExactR` (`Lemmas/C02Reader`), whose reads always return.  The
counterparts here: `Ph.run` for `ExactR.run` over any interleaving of frames and reads, `Ph.drain` for
`ExactR.terminates`, `readsOut` for `outBytes`, `SawEOF` for `lastErr = some eof`.
-/
namespace Req.C02
open Req.Proto

/-- A response as the sequence of frames of one stream. -/
structure H2Msg where
  interims : List Fields           -- field lists of the 1xx HEADERS
  head : Fields                    -- field list of the final HEADERS (pseudo fields included)
  datas : List (Bytes × Bool)      -- DATA frames without END_STREAM: payload, padded?
  last : H2Ev                      -- the frame carrying END_STREAM
deriving Repr

def H2Msg.tailEvents (m : H2Msg) (ds : List (Bytes × Bool)) : List H2Ev :=
  (ds.map fun d => H2Ev.data d.1 d.2 false) ++ [m.last]

def H2Msg.events (m : H2Msg) : List H2Ev :=
  (m.interims.map fun fs => H2Ev.headers fs false) ++ (H2Ev.headers m.head false :: m.tailEvents m.datas)

def lastPayload : H2Ev → Bytes
  | .data p _ _ => p
  | _ => []

/-- The trailer fields as `Response.Trailer` gets them: `processTrailers` canonicalises the names. -/
def lastTrailers : H2Ev → Fields
  | .headers t _ => t.map fun kv => (Req.Ascii.canonicalMIMEHeaderKey kv.1, kv.2)
  | _ => []

/-- The body the origin sent: the concatenation of the DATA payloads. -/
def H2Msg.body (m : H2Msg) : Bytes := (m.datas.map (·.1)).flatten ++ lastPayload m.last

def InterimOK (fs : Fields) : Prop :=
  ∃ sv c, h2StatusValue fs = some sv ∧ sv ≠ [] ∧ natOfDigits sv = some c ∧ 100 ≤ c ∧ c ≤ 199

/-- Conformance of the frame sequence (what a correct origin produces). -/
structure H2Msg.Conformant (m : H2Msg) (code : Nat) (cl : Option Nat) : Prop where
  interims_ok : ∀ fs ∈ m.interims, InterimOK fs
  -- `handleResponse` refuses the sixth 1xx HEADERS (`num1xx + 1 > 5`)
  interims_le : m.interims.length ≤ 5
  status : ∃ sv, h2StatusValue m.head = some sv ∧ sv ≠ [] ∧ natOfDigits sv = some code ∧
    ¬ (100 ≤ code ∧ code ≤ 199)
  length : (h2ContentLengths m.head = [] ∧ cl = none) ∨
    (∃ cb, h2ContentLengths m.head = [cb] ∧ natOfDigits cb = some m.body.length ∧ cl = some m.body.length)
  last_ok : (∃ p pad, m.last = .data p pad true) ∨
    (∃ t, m.last = .headers t true ∧ ∀ kv ∈ t, isPseudo kv.1 = false)

/-! ### the three canonical shapes of the stream state

`st0`: before the final HEADERS (`Ph.pre`); `st1`: body in flight (`Ph.mid`); `st2`: after END_STREAM
(`Ph.fin`); `stB`: what `st1` and `st2` have in common. -/

/-- Before the final HEADERS: `j` interim responses skipped. -/
def st0 (j : Nat) : H2Stream := { H2Stream.init false with num1xx := j }

def h2res (m : H2Msg) (code : Nat) (cl : Option Nat) : H2Res :=
  { status := code, fields := h2Fields m.head, declaredTrailers := h2Declared m.head,
    contentLength := cl, body := .piped }

/-- After the final HEADERS. `closed`: END_STREAM has arrived; `eofSeen`: the caller has read the
EOF (trailers copied); `buf`: bytes received and not yet read; `remain`: `bytesRemain`. -/
def stB (m : H2Msg) (code : Nat) (cl : Option Nat) (j : Nat) (closed eofSeen : Bool) (buf : Bytes)
    (remain : Option Nat) : H2Stream :=
  { isHead := false, pastHeaders := true,
    pastTrailers := closed && (match m.last with | .headers _ _ => true | _ => false),
    readClosed := closed, readAborted := false, num1xx := j, res := some (h2res m code cl), headErr := none,
    pipe := { hasBuf := !eofSeen, buf := buf, err := if closed then some .eof else none, breakErr := none,
              readFn := closed && !eofSeen },
    bytesRemain := remain, readErr := none, trailer := if closed then lastTrailers m.last else [],
    resTrailer := if eofSeen then lastTrailers m.last else [], connDead := false }

/-- Body in flight: `arrived` = payload bytes received so far, `consumed` = bytes the caller
has read. -/
def st1 (m : H2Msg) (code : Nat) (cl : Option Nat) (j : Nat) (arrived consumed : Bytes) : H2Stream :=
  stB m code cl j false false (arrived.drop consumed.length) (cl.map (· - consumed.length))

/-- After END_STREAM. -/
def st2 (m : H2Msg) (code : Nat) (cl : Option Nat) (j : Nat) (consumed : Bytes) (eofSeen : Bool) : H2Stream :=
  stB m code cl j true eofSeen (m.body.drop consumed.length) (cl.map (· - consumed.length))

theorem st0_interim (j : Nat) (fs : Fields) (hj : j + 1 ≤ 5) (h : InterimOK fs) :
    (st0 j).event (.headers fs false) = st0 (j + 1) := by
  obtain ⟨sv, c, hsv, hne, hc, h1, h2⟩ := h
  have hemp : sv.isEmpty = false := by cases sv <;> simp_all
  have hnot : ¬ (j + 1 > 5) := by omega
  simp [st0, H2Stream.event, H2Stream.processHeaders, H2Stream.init, H2Stream.handleResponse, hsv,
    hemp, hc, h1, h2, hnot]

theorem st0_head (m : H2Msg) (code : Nat) (cl : Option Nat) (hc : m.Conformant code cl) (j : Nat) :
    (st0 j).event (.headers m.head false) = st1 m code cl j [] [] := by
  obtain ⟨sv, hsv, hne, hcode, hnot⟩ := hc.status
  have hemp : sv.isEmpty = false := by cases sv <;> simp_all
  rcases hc.length with ⟨hl, rfl⟩ | ⟨cb, hl, hcb, rfl⟩
  · simp [st0, st1, stB, h2res, H2Stream.event, H2Stream.processHeaders, H2Stream.init,
      H2Stream.handleResponse, hsv, hemp, hcode, hnot, hl, Pipe.setBuffer, Pipe.empty]
  · simp [st0, st1, stB, h2res, H2Stream.event, H2Stream.processHeaders, H2Stream.init,
      H2Stream.handleResponse, hsv, hemp, hcode, hnot, hl, hcb, Pipe.setBuffer, Pipe.empty]

theorem st1_data (m : H2Msg) (code : Nat) (cl : Option Nat) (j : Nat) (arrived consumed p : Bytes)
    (pad es : Bool) (hle : consumed.length ≤ arrived.length) :
    (st1 m code cl j arrived consumed).event (.data p pad es) =
      bif es then (st1 m code cl j (arrived ++ p) consumed).endStream else st1 m code cl j (arrived ++ p) consumed := by
  cases p <;> simp [st1, stB, H2Stream.event, H2Stream.processData, Pipe.write, List.drop_append_of_le_length hle]

theorem st1_last (m : H2Msg) (code : Nat) (cl : Option Nat) (hc : m.Conformant code cl) (j : Nat)
    (arrived consumed : Bytes) (hle : consumed.length ≤ arrived.length)
    (harr : arrived ++ lastPayload m.last = m.body) :
    (st1 m code cl j arrived consumed).event m.last = st2 m code cl j consumed false := by
  rcases hc.last_ok with ⟨p, pad, hl⟩ | ⟨t, hl, hps⟩
  · rw [hl] at harr ⊢
    rw [st1_data _ _ _ _ _ _ _ _ _ hle]
    simp [st1, st2, stB, hl, H2Stream.endStream, Pipe.closeWithError, lastTrailers, ← harr, lastPayload]
  · rw [hl] at harr ⊢
    have hany : (t.any fun kv => isPseudo kv.1) = false :=
      List.any_eq_false.mpr fun kv hkv => by simp [hps kv hkv]
    simp [st1, st2, stB, hl, H2Stream.event, H2Stream.processHeaders, H2Stream.processTrailers, hany,
      H2Stream.endStream, Pipe.closeWithError, lastTrailers, ← harr, lastPayload]

namespace H2Stream

theorem read_blocked (s : H2Stream) (k : Nat) (hre : s.readErr = none) (hb : s.pipe.breakErr = none)
    (he : s.pipe.buf = []) (herr : s.pipe.err = none) : s.read k = none := by
  simp [H2Stream.read, Pipe.read, hre, hb, he, herr]

theorem read_data (s : H2Stream) (k : Nat) (hre : s.readErr = none) (hb : s.pipe.breakErr = none)
    (hh : s.pipe.hasBuf = true) (hne : s.pipe.buf ≠ [])
    (hrem : ∀ r, s.bytesRemain = some r → (s.pipe.buf.take k).length ≤ r) :
    s.read k = some ((s.pipe.buf.take k, none),
      { s with pipe := { s.pipe with buf := s.pipe.buf.drop k },
               bytesRemain := s.bytesRemain.map (· - (s.pipe.buf.take k).length) }) := by
  have hpos : s.pipe.buf.length > 0 := List.length_pos_iff.mpr hne
  cases hr : s.bytesRemain with
  | none => simp [H2Stream.read, Pipe.read, hre, hb, hh, hpos, hr]
  | some r =>
    have := hrem r hr
    simp only [List.length_take] at this
    simp [H2Stream.read, Pipe.read, hre, hb, hh, hpos, hr, Nat.not_lt.mpr this]

/-- Buffer drained, pipe closed with `io.EOF`, nothing of the declared length outstanding:
`Read` reports `io.EOF` and runs `copyTrailers` if it has not run yet. -/
theorem read_eof (s : H2Stream) (k : Nat) (hre : s.readErr = none) (hb : s.pipe.breakErr = none)
    (he : s.pipe.buf = []) (herr : s.pipe.err = some .eof) (hrem : ∀ r, s.bytesRemain = some r → r = 0) :
    s.read k = some (([], some .eof),
      { s with pipe := { s.pipe with readFn := false, hasBuf := false },
               resTrailer := if s.pipe.readFn then s.trailer else s.resTrailer }) := by
  cases hfn : s.pipe.readFn <;> cases hr : s.bytesRemain with
  | none => simp [H2Stream.read, Pipe.read, hre, hb, he, herr, hr, hfn]
  | some r =>
    cases hrem r hr
    simp [H2Stream.read, Pipe.read, hre, hb, he, herr, hr, hfn]

end H2Stream

theorem cl_remain {L : Nat} {cl : Option Nat} (hcl : cl = none ∨ cl = some L) (n r : Nat)
    (h : cl.map (· - n) = some r) : r = L - n := by
  rcases hcl with rfl | rfl
  · cases h
  · exact (Option.some.inj h).symm

/-- A read of buffered body bytes, before or after END_STREAM: of the bytes `a = c ++ t` that have
arrived the caller has consumed `c` and now gets the next `k` bytes of `t`. -/
theorem stB_read_data {m : H2Msg} {code : Nat} {cl : Option Nat} (hcl : cl = none ∨ cl = some m.body.length)
    (j : Nat) (closed : Bool) (a c t : Bytes) (k : Nat) (ha : a = c ++ t) (ht : t ≠ [])
    (hle : a.length ≤ m.body.length) :
    (stB m code cl j closed false (a.drop c.length) (cl.map (· - c.length))).read k =
      some ((t.take k, none), stB m code cl j closed false (a.drop (c ++ t.take k).length)
        (cl.map (· - (c ++ t.take k).length))) := by
  subst ha
  have hrem : cl.map (· - (c ++ t.take k).length) = (cl.map (· - c.length)).map (· - (t.take k).length) := by
    rw [Option.map_map, List.length_append]
    exact congrArg (Option.map · cl) (funext fun _ => (Nat.sub_sub ..).symm)
  have hbuf : (c ++ t).drop (c ++ t.take k).length = t.drop k := by
    rw [List.length_append, List.drop_length_add_append, List.length_take, ← List.drop_eq_drop_min]
  rw [hbuf, hrem, List.drop_left]
  exact H2Stream.read_data _ k (hre := rfl) (hb := rfl) (hh := rfl) (hne := ht) fun r hr => by
    show (t.take k).length ≤ r
    rw [cl_remain hcl _ r hr]
    have := List.length_take_le' k t
    rw [List.length_append] at hle
    omega

theorem st2_read_eof (m : H2Msg) (code : Nat) (cl : Option Nat) (hcl : cl = none ∨ cl = some m.body.length)
    (j : Nat) (eofSeen : Bool) (k : Nat) :
    (st2 m code cl j m.body eofSeen).read k = some (([], some .eof), st2 m code cl j m.body true) := by
  rw [H2Stream.read_eof _ k (hre := rfl) (hb := rfl) (he := List.drop_length) (herr := rfl) (fun r hr => by
    rw [cl_remain hcl _ r hr, Nat.sub_self])]
  cases eofSeen <;> rfl

/-- The frames among an interleaving of frames and caller reads. -/
def evsOf : List H2Op → List H2Ev
  | [] => []
  | .ev e :: r => e :: evsOf r
  | .read _ :: r => evsOf r

theorem evsOf_append (a b : List H2Op) : evsOf (a ++ b) = evsOf a ++ evsOf b := by
  induction a with
  | nil => rfl
  | cons op a ih => cases op <;> simp [evsOf, ih]

theorem evsOf_reads (ks : List Nat) : evsOf (ks.map H2Op.read) = [] := by
  induction ks with
  | nil => rfl
  | cons k ks ih => simp [evsOf, ih]

/-- The bytes the caller's reads returned, in order (a blocked read returns nothing). -/
def readsOut : List (Option (Bytes × Option H2Err)) → Bytes
  | [] => []
  | none :: r => readsOut r
  | some (d, _) :: r => d ++ readsOut r

/-- Stream state `s`, frames still to come `evs`, bytes the caller has consumed `c`, and
whether the caller has seen EOF. -/
inductive Ph (m : H2Msg) (code : Nat) (cl : Option Nat) : H2Stream → List H2Ev → Bytes → Bool → Prop
  | pre (j : Nat) (ints : List Fields) (hj : j + ints.length ≤ 5) (hok : ∀ fs ∈ ints, InterimOK fs) :
      Ph m code cl (st0 j)
        ((ints.map fun fs => H2Ev.headers fs false) ++ (H2Ev.headers m.head false :: m.tailEvents m.datas)) [] false
  | mid (j : Nat) (arrived consumed : Bytes) (ds : List (Bytes × Bool))
      (hpre : ∃ t, arrived = consumed ++ t)
      (hbody : arrived ++ (ds.map (·.1)).flatten ++ lastPayload m.last = m.body) :
      Ph m code cl (st1 m code cl j arrived consumed) (m.tailEvents ds) consumed false
  | fin (j : Nat) (consumed : Bytes) (eofSeen : Bool) (hpre : ∃ t, m.body = consumed ++ t)
      (hdone : eofSeen = true → consumed = m.body) :
      Ph m code cl (st2 m code cl j consumed eofSeen) [] consumed eofSeen

theorem Ph.prefix_body {m : H2Msg} {code : Nat} {cl : Option Nat} {s : H2Stream} {evs : List H2Ev}
    {c : Bytes} {b : Bool} (h : Ph m code cl s evs c b) : ∃ t, m.body = c ++ t := by
  cases h with
  | pre => exact ⟨m.body, by simp⟩
  | mid j arrived consumed ds hpre hbody =>
    obtain ⟨t, rfl⟩ := hpre
    exact ⟨t ++ (ds.map (·.1)).flatten ++ lastPayload m.last, by rw [← hbody]; simp [List.append_assoc]⟩
  | fin j consumed eofSeen hpre _ => exact hpre

/-- Once EOF was seen everything was consumed and the trailers are in `Response.Trailer`. -/
theorem Ph.seen {m : H2Msg} {code : Nat} {cl : Option Nat} {s : H2Stream} {evs : List H2Ev}
    {c : Bytes} (h : Ph m code cl s evs c true) : c = m.body ∧ s.resTrailer = lastTrailers m.last := by
  cases h with
  | fin j consumed eofSeen hpre hdone => exact ⟨hdone rfl, rfl⟩

theorem H2Stream.runOps_append (ops₁ ops₂ : List H2Op) (s : H2Stream) :
    (s.runOps (ops₁ ++ ops₂)).1 = (s.runOps ops₁).1 ++ ((s.runOps ops₁).2.runOps ops₂).1 := by
  induction ops₁ generalizing s with
  | nil => simp [H2Stream.runOps]
  | cons op ops₁ ih =>
    cases op with
    | ev e => simpa [H2Stream.runOps] using ih (s.event e)
    | read k =>
      simp only [List.cons_append, H2Stream.runOps]
      cases hr : s.read k with
      | none => simp [ih s]
      | some x => simp [ih x.2]

theorem Ph.start {m : H2Msg} {code : Nat} {cl : Option Nat} (hc : m.Conformant code cl) :
    Ph m code cl (H2Stream.init false) m.events [] false :=
  Ph.pre 0 m.interims (by simpa using hc.interims_le) hc.interims_ok

theorem Ph.event {m : H2Msg} {code : Nat} {cl : Option Nat} (hc : m.Conformant code cl)
    {s : H2Stream} {e : H2Ev} {evs : List H2Ev} {c : Bytes} {b : Bool} (h : Ph m code cl s (e :: evs) c b) :
    Ph m code cl (s.event e) evs c b := by
  generalize hev : e :: evs = evs0 at h
  cases h with
  | pre j ints hj hok =>
    cases ints with
    | nil =>
      simp only [List.map_nil, List.nil_append, List.cons.injEq] at hev
      obtain ⟨rfl, rfl⟩ := hev
      rw [st0_head m code cl hc j]
      exact Ph.mid j [] [] m.datas ⟨[], rfl⟩ (by simp [H2Msg.body])
    | cons fs ints' =>
      simp only [List.map_cons, List.cons_append, List.cons.injEq] at hev
      obtain ⟨rfl, rfl⟩ := hev
      simp only [List.length_cons] at hj
      rw [st0_interim j fs (by omega) (hok fs (by simp))]
      exact Ph.pre (j + 1) ints' (by omega) (fun fs' h' => hok fs' (by simp [h']))
  | mid j arrived consumed ds hpre hbody =>
    obtain ⟨t, rfl⟩ := hpre
    cases ds with
    | nil =>
      simp only [H2Msg.tailEvents, List.map_nil, List.nil_append, List.cons.injEq] at hev
      obtain ⟨rfl, rfl⟩ := hev
      simp only [List.map_nil, List.flatten_nil, List.append_nil] at hbody
      rw [st1_last m code cl hc j _ _ (by simp) hbody]
      refine Ph.fin j c false ⟨t ++ lastPayload m.last, by rw [← hbody]; simp⟩ (by simp)
    | cons d ds' =>
      simp only [H2Msg.tailEvents, List.map_cons, List.cons_append, List.cons.injEq] at hev
      obtain ⟨rfl, rfl⟩ := hev
      rw [st1_data m code cl j _ _ d.1 d.2 false (by simp)]
      refine Ph.mid j _ c ds' ⟨t ++ d.1, by simp⟩ ?_
      rw [← hbody]
      simp [List.append_assoc]
  | fin => simp at hev

theorem H2Msg.Conformant.cl_cases {m : H2Msg} {code : Nat} {cl : Option Nat} (hc : m.Conformant code cl) :
    cl = none ∨ cl = some m.body.length :=
  hc.length.imp And.right fun ⟨_, _, _, h⟩ => h

/-- A read of `k` bytes that does not block, at phase `s evs c b`: it returns `d` and `e`, moves to
`s'`, and `b'` says whether the caller has seen EOF by now. -/
structure Ph.ReadStep (m : H2Msg) (code : Nat) (cl : Option Nat) (s : H2Stream) (evs : List H2Ev)
    (c : Bytes) (b : Bool) (k : Nat) (d : Bytes) (e : Option H2Err) (s' : H2Stream) (b' : Bool) : Prop where
  read : s.read k = some ((d, e), s')
  ph : Ph m code cl s' evs (c ++ d) b'
  /-- data (at least one byte if `k > 0`) or EOF, nothing else -/
  outcome : (e = none ∧ (0 < k → d ≠ [])) ∨ e = some .eof
  sawEOF : e = some .eof → b' = true
  mono : b = true → b' = true

/-- A read blocks only while frames are outstanding; otherwise it hands out the next bytes of
the body or reports EOF. -/
theorem Ph.read {m : H2Msg} {code : Nat} {cl : Option Nat} (hc : m.Conformant code cl)
    {s : H2Stream} {evs : List H2Ev} {c : Bytes} {b : Bool} (h : Ph m code cl s evs c b) (k : Nat) :
    (s.read k = none ∧ evs ≠ []) ∨ ∃ d e s' b', Ph.ReadStep m code cl s evs c b k d e s' b' := by
  have hcl := hc.cl_cases
  have htake : ∀ t : Bytes, t ≠ [] → 0 < k → t.take k ≠ [] := fun t ht hk h =>
    (List.take_eq_nil_iff.mp h).elim (Nat.ne_of_gt hk) ht
  cases h with
  | pre j ints hj hok =>
    exact Or.inl ⟨H2Stream.read_blocked _ k (hre := rfl) (hb := rfl) (he := rfl) (herr := rfl),
      List.append_ne_nil_of_right_ne_nil _ (List.cons_ne_nil _ _)⟩
  | mid j arrived consumed ds hpre hbody =>
    obtain ⟨t, rfl⟩ := hpre
    by_cases ht : t = []
    · exact Or.inl ⟨H2Stream.read_blocked _ k (hre := rfl) (hb := rfl) (he := by rw [ht]; exact List.drop_left) (herr := rfl),
        List.append_ne_nil_of_right_ne_nil _ (List.cons_ne_nil _ _)⟩
    · have hab : (c ++ t).length ≤ m.body.length := by
        rw [← hbody, List.append_assoc]
        exact (List.prefix_append _ _).length_le
      exact Or.inr ⟨t.take k, none, _, false,
        { read := stB_read_data hcl j false _ c t k rfl ht hab,
          ph := Ph.mid j (c ++ t) (c ++ t.take k) ds ⟨t.drop k, by rw [List.append_assoc, List.take_append_drop]⟩ hbody,
          outcome := Or.inl ⟨rfl, htake t ht⟩, sawEOF := nofun, mono := nofun }⟩
  | fin j consumed eofSeen hpre hdone =>
    obtain ⟨t, ht⟩ := hpre
    by_cases hte : t = []
    · obtain rfl : c = m.body := by rw [ht, hte, List.append_nil]
      exact Or.inr ⟨[], some .eof, _, true,
        { read := st2_read_eof m code cl hcl j b k,
          ph := by rw [List.append_nil]; exact Ph.fin j m.body true ⟨[], (List.append_nil _).symm⟩ (fun _ => rfl),
          outcome := Or.inr rfl, sawEOF := fun _ => rfl, mono := fun _ => rfl }⟩
    · obtain rfl : b = false := by
        cases b with
        | false => rfl
        | true => rw [hdone rfl] at ht; exact absurd (List.append_right_eq_self.mp ht.symm) hte
      exact Or.inr ⟨t.take k, none, _, false,
        { read := stB_read_data hcl j true _ c t k ht hte (Nat.le_refl _),
          ph := Ph.fin j (c ++ t.take k) false ⟨t.drop k, by rw [ht, List.append_assoc, List.take_append_drop]⟩ nofun,
          outcome := Or.inl ⟨rfl, htake t hte⟩, sawEOF := nofun, mono := nofun }⟩

/-- What every observation of a run must look like: blocked, data, or EOF. -/
def ObsOK : Option (Bytes × Option H2Err) → Prop
  | none => True
  | some (_, e) => e = none ∨ e = some .eof

def SawEOF (obs : List (Option (Bytes × Option H2Err))) : Prop := ∃ d, some (d, some H2Err.eof) ∈ obs

/-- Any interleaving `ops` of frames and reads keeps the phase: the frames of `ops` are taken off
those still to come, what the reads returned is added to `c`. -/
theorem Ph.run {m : H2Msg} {code : Nat} {cl : Option Nat} (hc : m.Conformant code cl)
    (ops : List H2Op) (s : H2Stream) (rest : List H2Ev) (c : Bytes) (b : Bool)
    (h : Ph m code cl s (evsOf ops ++ rest) c b) :
    ∃ b', Ph m code cl (s.runOps ops).2 rest (c ++ readsOut (s.runOps ops).1) b' ∧
    (∀ o ∈ (s.runOps ops).1, ObsOK o) ∧ (b = true → b' = true) ∧
    (SawEOF (s.runOps ops).1 → b' = true) := by
  induction ops generalizing s c b with
  | nil =>
    simp only [H2Stream.runOps, readsOut, List.append_nil]
    exact ⟨b, by simpa [evsOf] using h, by simp, id, fun ⟨d, hd⟩ => by simp at hd⟩
  | cons op ops ih =>
    cases op with
    | ev e =>
      simp only [evsOf, List.cons_append] at h
      have h' := Ph.event hc h
      simpa [H2Stream.runOps] using ih (s.event e) c b h'
    | read k =>
      simp only [evsOf] at h
      rcases Ph.read hc h k with ⟨hnone, _⟩ | ⟨d, e, s', b1, st⟩
      · obtain ⟨b', i1, i2, i3, i4⟩ := ih s c b h
        simp only [H2Stream.runOps, hnone, readsOut]
        exact ⟨b', i1, List.forall_mem_cons.mpr ⟨trivial, i2⟩, i3,
          fun ⟨d, hd⟩ => i4 ⟨d, (List.mem_cons.mp hd).resolve_left nofun⟩⟩
      · obtain ⟨b', i1, i2, i3, i4⟩ := ih s' (c ++ d) b1 st.ph
        simp only [H2Stream.runOps, st.read, readsOut]
        rw [← List.append_assoc]
        exact ⟨b', i1, List.forall_mem_cons.mpr ⟨st.outcome.imp And.left id, i2⟩, fun hb => i3 (st.mono hb),
          fun ⟨d', hd'⟩ => (List.mem_cons.mp hd').elim
            (fun h => i3 (st.sawEOF (by cases h; rfl))) (fun h => i4 ⟨d', h⟩)⟩

/-- Once all frames have arrived, enough non-empty reads reach EOF. -/
theorem Ph.drain {m : H2Msg} {code : Nat} {cl : Option Nat} (hc : m.Conformant code cl)
    (ks : List Nat) (hpos : ∀ k ∈ ks, 0 < k) (s : H2Stream) (c : Bytes) (b : Bool)
    (h : Ph m code cl s [] c b) (hlen : m.body.length - c.length < ks.length) :
    SawEOF (s.runOps (ks.map H2Op.read)).1 := by
  induction ks generalizing s c b with
  | nil => simp at hlen
  | cons k ks ih =>
    rcases Ph.read hc h k with ⟨_, hne⟩ | ⟨d, e, s', b', st⟩
    · exact absurd rfl hne
    have hph := st.ph
    simp only [List.map_cons, H2Stream.runOps, st.read]
    rcases st.outcome with ⟨rfl, hd⟩ | rfl
    · have hdl : 0 < d.length := List.length_pos_iff.mpr (hd (hpos k (by simp)))
      obtain ⟨t, ht⟩ := hph.prefix_body
      have hcl : (c ++ d).length ≤ m.body.length := by rw [ht]; simp
      have : m.body.length - (c ++ d).length < ks.length := by
        simp only [List.length_append, List.length_cons] at hlen hcl ⊢
        omega
      obtain ⟨d', hd'⟩ := ih (fun k hk => hpos k (by simp [hk])) s' (c ++ d) b' hph this
      exact ⟨d', by simp [hd']⟩
    · exact ⟨d, by simp⟩

end Req.C02
