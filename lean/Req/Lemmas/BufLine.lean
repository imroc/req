import Req.H1.BufLine
import Req.Lemmas.ListFacts
/-! Lemmas about the bufio model `Req.H1.BufLine`: every primitive conserves the bytes, the recursion
fuel is never exhausted, and the two loops one round at a time in terms of what the primitive
returns. -/
namespace Req.H1.BufLine
open Req.Proto

theorem lastIs_dropLast {c : UInt8} {l : Bytes} (h : lastIs c l = true) : l.dropLast ++ [c] = l := by
  apply List.dropLast_append_of_getLast?
  simpa [lastIs] using h

theorem cutNL_append {s l r : Bytes} (h : cutNL s = some (l, r)) : l ++ r = s := by
  induction s generalizing l r with
  | nil => simp [cutNL] at h
  | cons c cs ih =>
    unfold cutNL at h
    split at h
    · cases h; simp_all
    · split at h
      · next l' r' heq =>
        cases h
        simp [ih heq]
      · cases h

theorem srcRead_bytes {cap : Nat} {src src' : List Chunk} {d : Bytes} {e : Option SrcErr}
    (h : srcRead cap src = (d, e, src')) : d ++ srcBytes src' = srcBytes src := by
  cases src with
  | nil => simp [srcRead] at h; obtain ⟨rfl, _, rfl⟩ := h; simp [srcBytes]
  | cons c rest =>
    simp only [srcRead] at h
    split at h
    · cases h; simp [srcBytes]
    · cases h; simp [srcBytes, ← List.append_assoc, List.take_append_drop]

theorem fillLoop_bytes (B i : Nat) (st : Rd) : (fillLoop B i st).bytes = st.bytes := by
  induction i generalizing st with
  | zero => simp [fillLoop, Rd.bytes]
  | succ i ih =>
    unfold fillLoop
    split
    · next d e src' h => simp [Rd.bytes, srcRead_bytes h]
    · next d src' h =>
      split
      · simp [Rd.bytes, srcRead_bytes h]
      · rw [ih]; simp [Rd.bytes, srcRead_bytes h]

theorem fill_bytes (B : Nat) (st : Rd) : (fill B st).bytes = st.bytes := fillLoop_bytes B 100 st

theorem readSliceLoop_bytes (B f : Nat) (st : Rd) :
    (readSliceLoop B f st).1.line ++ (readSliceLoop B f st).2.bytes = st.bytes := by
  induction f generalizing st with
  | zero => simp [readSliceLoop]
  | succ f ih =>
    unfold readSliceLoop
    split
    · next line rest h => simp [Rd.bytes, ← cutNL_append h]
    · split
      · simp [Rd.bytes]
      · split
        · simp [Rd.bytes]
        · rw [ih, fill_bytes]

theorem readSlice_bytes (B : Nat) (st : Rd) :
    (readSlice B st).1.line ++ (readSlice B st).2.bytes = st.bytes := readSliceLoop_bytes B _ st

def resByte : Res UInt8 → Bytes
  | .ok c => [c]
  | .error _ => []

theorem readByteLoop_bytes (B f : Nat) (st : Rd) :
    resByte (readByteLoop B f st).1 ++ (readByteLoop B f st).2.bytes = st.bytes := by
  induction f generalizing st with
  | zero => simp [readByteLoop, resByte]
  | succ f ih =>
    unfold readByteLoop
    cases hb : st.buf with
    | cons c rest => simp [Rd.bytes, hb, resByte]
    | nil =>
      cases he : st.err with
      | some e => simp [Rd.bytes, hb, resByte]
      | none => simp only []; rw [ih, fill_bytes]

theorem skipSpaceLoop_bytes (B f : Nat) (acc : Bytes) (st : Rd) :
    (skipSpaceLoop B f acc st).1 ++ (skipSpaceLoop B f acc st).2.bytes = acc ++ st.bytes := by
  induction f generalizing acc st with
  | zero => simp [skipSpaceLoop]
  | succ f ih =>
    unfold skipSpaceLoop
    have hb := readByteLoop_bytes B 2 st
    unfold readByte
    cases h : readByteLoop B 2 st with
    | mk r st1 =>
      rw [h] at hb
      cases r with
      | error e =>
        simp only [resByte, List.nil_append] at hb
        simp [hb]
      | ok c =>
        simp only [resByte] at hb
        simp only []
        split
        · rw [ih]; simp [← hb]
        · simp only [Rd.bytes] at hb ⊢
          rw [← hb]; simp

theorem skipSpace_bytes (B : Nat) (st : Rd) :
    (skipSpace B st).1 ++ (skipSpace B st).2.bytes = st.bytes := by
  have := skipSpaceLoop_bytes B (st.bytes.length + 1) [] st
  simpa [skipSpace] using this

theorem fillLoop_progress (B i : Nat) (st : Rd) :
    st.buf.length ≤ (fillLoop B i st).buf.length ∧
    ((fillLoop B i st).err.isSome = true ∨ st.buf.length < (fillLoop B i st).buf.length) ∧
    (st.err ≠ some .stuck → (fillLoop B i st).err ≠ some .stuck) := by
  induction i generalizing st with
  | zero => simp [fillLoop]
  | succ i ih =>
    unfold fillLoop
    split
    · simp
    · next d src' h =>
      split
      · next hd => simp; omega
      · next hd =>
        have hd0 : d.length = 0 := by omega
        have := ih { buf := st.buf ++ d, err := st.err, src := src' }
        simp only [List.length_append, hd0, Nat.add_zero] at this
        exact this

theorem readSliceLoop_not_stuck (B f : Nat) (st : Rd) (hs : st.err ≠ some .stuck)
    (hf : (B - st.buf.length) + (if st.err.isSome then 0 else 1) + 1 ≤ f) :
    (readSliceLoop B f st).1.err ≠ some .stuck := by
  induction f generalizing st with
  | zero => omega
  | succ f ih =>
    unfold readSliceLoop
    split
    · simp
    · split
      · next e he => simp; intro h; exact hs (by rw [he, h])
      · next he =>
        split
        · simp
        · next hlt =>
          have hp := fillLoop_progress B 100 st
          apply ih
          · exact hp.2.2 hs
          · simp only [he, Option.isSome_none, Bool.false_eq_true, if_false] at hf
            unfold fill
            rcases hp.2.1 with h | h
            · simp only [h, if_true]; omega
            · split <;> omega

/-- `ReadSlice` always returns a Go result: the `stuck` marker is unreachable. -/
theorem readSlice_not_stuck (B : Nat) (st : Rd) (hs : st.err ≠ some .stuck) :
    (readSlice B st).1.err ≠ some .stuck := by
  apply readSliceLoop_not_stuck B (B + 2) st hs
  split <;> omega

/-- Errors a reader state can hold pending: only what `fill` stores. -/
def GoodErr (e : Option RErr) : Prop :=
  e ≠ some .stuck ∧ e ≠ some .bufferFull ∧ e ≠ some .tooLarge

theorem goodErr_none : GoodErr none := by simp [GoodErr]

theorem fillLoop_goodErr (B i : Nat) (st : Rd) (h : GoodErr st.err) : GoodErr (fillLoop B i st).err := by
  induction i generalizing st with
  | zero => simp [fillLoop, GoodErr]
  | succ i ih =>
    unfold fillLoop
    split
    · simp [GoodErr]
    · split
      · exact h
      · exact ih _ h

theorem readSliceLoop_spec (B f : Nat) (st : Rd) (h : GoodErr st.err) :
    GoodErr (readSliceLoop B f st).2.err ∧
    ((readSliceLoop B f st).1.err = some .bufferFull → B ≤ (readSliceLoop B f st).1.line.length) ∧
    ((readSliceLoop B f st).1.err ≠ some .tooLarge) := by
  induction f generalizing st with
  | zero => simp [readSliceLoop, h]
  | succ f ih =>
    unfold readSliceLoop
    split
    · simp [h]
    · split
      · next e he =>
        refine ⟨goodErr_none, ?_, ?_⟩
        · intro hb; simp only at hb; exact absurd (he.trans hb) h.2.1
        · intro hb; simp only at hb; exact absurd (he.trans hb) h.2.2
      · split
        · next hle => exact ⟨h, fun _ => hle, by simp⟩
        · exact ih _ (fillLoop_goodErr B 100 st h)

theorem dumpReadLine_spec (B : Nat) (st : Rd) (h : GoodErr st.err) :
    GoodErr (dumpReadLine B st).2.1.err ∧
    (dumpReadLine B st).1.err ≠ some .stuck ∧
    ((dumpReadLine B st).1.isPrefix = true → B ≤ (dumpReadLine B st).2.2.length + 1) := by
  have hs := readSliceLoop_spec B (B + 2) st h
  have hn := readSlice_not_stuck B st h.1
  unfold readSlice at hn
  unfold dumpReadLine readSlice
  cases hr : readSliceLoop B (B + 2) st with
  | mk r st1 =>
    rw [hr] at hs hn
    simp only at hs hn ⊢
    split
    · next hb =>
      have hlen := hs.2.1 hb
      split
      · next hcr =>
        refine ⟨hs.1, by simp, fun _ => ?_⟩
        have := congrArg List.length (lastIs_dropLast hcr)
        simp at this ⊢
        omega
      · exact ⟨hs.1, by simp, fun _ => by simp only; omega⟩
    · split
      · exact ⟨hs.1, hn, by simp⟩
      · exact ⟨hs.1, by simp, by simp⟩

theorem readLineSliceLoop_succ (B f : Nat) (acc d : Bytes) (st : Rd) :
    readLineSliceLoop (plainReadLine B) none (f + 1) acc d st =
      match (readLine B st).1.err with
      | some e => ⟨.error e, (readLine B st).2, d ++ []⟩
      | none =>
        if (readLine B st).1.isPrefix then
          readLineSliceLoop (plainReadLine B) none f (acc ++ (readLine B st).1.line) (d ++ [])
            (readLine B st).2
        else ⟨.ok (acc ++ (readLine B st).1.line), (readLine B st).2, d ++ []⟩ := by
  conv => lhs; unfold readLineSliceLoop
  simp only [plainReadLine, overLimit, Bool.false_eq_true, if_false]
  cases (readLine B st).1.err <;> rfl

theorem skipSpaceLoop_succ (B f : Nat) (acc : Bytes) (st : Rd) :
    skipSpaceLoop B (f + 1) acc st =
      match (readByte B st).1 with
      | .error _ => (acc, (readByte B st).2)
      | .ok c =>
        if isSpTab c then skipSpaceLoop B f (acc ++ [c]) (readByte B st).2
        else (acc, { (readByte B st).2 with buf := c :: (readByte B st).2.buf }) := by
  conv => lhs; unfold skipSpaceLoop
  rcases readByte B st with ⟨_ | _, _⟩ <;> rfl

/-- `skipSpace` in front of a byte that is no blank: nothing is skipped, the reader is unchanged
(`ReadByte` + `UnreadByte`). -/
theorem skipSpace_nonblank (B : Nat) (st : Rd) (c : UInt8) (t : Bytes) (hb : st.buf = c :: t)
    (hc : isSpTab c = false) : skipSpace B st = ([], st) := by
  unfold skipSpace
  unfold skipSpaceLoop
  simp only [readByte, readByteLoop, hb, hc, Bool.false_eq_true, if_false]
  congr 1
  cases st
  simp_all

end Req.H1.BufLine
