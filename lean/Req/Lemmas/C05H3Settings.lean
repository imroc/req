import Req.H3.SettingsWrite
import Req.Lemmas.C05H3
/-! `settingsFrame.Append` written statement by statement
(`Req.H3.SettingsWrite`): the declared length is the payload length, for every `Other` (colliding
with the dedicated identifiers or not) and every pair of iteration orders (`declaredLen_eq`), so the
Go function is `appendSettings` (`appendGo_eq`). Then the two facts about written pairs behind the
verdicts of `Req.Props.C05H3Settings`: a collision repeats an identifier (`collides_not_nodup`), and
settings that come back unchanged were well-formed (`roundtrip_wf`). -/
namespace Req.Lemmas.C05.H3Settings
open Req.H3.Varint Req.H3.Frame Req.H3.Stream Req.H3.SettingsWrite Req.Proto
open Req.Lemmas.C05.Varint Req.Lemmas.C05.H3

theorem len_eq_append (i : Nat) : len i = (append i).map List.length := by
  cases h : append i with
  | some bs => rw [(append_length h).1]; rfl
  | none =>
    rw [append_enc] at h
    cases hl : len i with
    | none => rfl
    | some l => rw [hl] at h; cases h

/-- the sum of `Len(id) + Len(val)` over a list of pairs; `none` = a `Len` panics. -/
def plen : List (Nat × Nat) → Option Nat
  | [] => some 0
  | (id, v) :: ps =>
    match len id, len v, plen ps with
    | some a, some b, some c => some (a + b + c)
    | _, _, _ => none

theorem otherLen_none (ps : List (Nat × Nat)) : otherLen ps none = none := by
  induction ps with
  | nil => rfl
  | cons p ps ih => obtain ⟨id, v⟩ := p; simp [otherLen, addPairLen, ih]

theorem otherLen_eq (ps : List (Nat × Nat)) (l : Nat) :
    otherLen ps (some l) = (plen ps).map (l + ·) := by
  induction ps generalizing l with
  | nil => simp [otherLen, plen]
  | cons p ps ih =>
    obtain ⟨id, v⟩ := p
    simp only [otherLen, addPairLen, plen]
    cases len id with
    | none => simp [otherLen_none]
    | some a =>
      cases len v with
      | none => simp [otherLen_none]
      | some b =>
        simp only [ih]
        cases plen ps with
        | none => simp
        | some c => simp; omega

theorem plen_perm {ps qs : List (Nat × Nat)} (h : ps.Perm qs) : plen ps = plen qs := by
  induction h with
  | nil => rfl
  | cons x _ ih => obtain ⟨id, v⟩ := x; simp only [plen, ih]
  | swap x y l =>
    obtain ⟨i1, v1⟩ := x
    obtain ⟨i2, v2⟩ := y
    simp only [plen]
    cases len i1 <;> cases len v1 <;> cases len i2 <;> cases len v2 <;> cases plen l <;> simp
    omega
  | trans _ _ ih1 ih2 => exact ih1.trans ih2

theorem plen_eq_appendPairs (ps : List (Nat × Nat)) :
    plen ps = (appendPairs ps).map List.length := by
  induction ps with
  | nil => simp [plen, appendPairs]
  | cons p ps ih =>
    obtain ⟨id, v⟩ := p
    simp only [plen, appendPairs, appendPair, ih, len_eq_append]
    cases append id <;> cases append v <;> cases appendPairs ps <;> simp
    omega

theorem declaredLen_eq_plen (ord1 : List (Nat × Nat)) (s : Settings) (hp : ord1.Perm s.other) :
    declaredLen ord1 s = plen (writtenPairs s) := by
  obtain ⟨dg, ec, other⟩ := s
  simp only at hp
  unfold declaredLen writtenPairs
  simp only [otherLen_eq, plen_perm hp]
  have len51 : len settingDatagram = some 1 := by decide
  have len8 : len settingExtendedConnect = some 1 := by decide
  have len1 : len 1 = some 1 := by decide
  cases dg <;> cases ec <;>
    simp only [Bool.false_eq_true, if_false, if_true, List.nil_append, List.cons_append, plen,
      addPairLen, len51, len8, len1] <;>
    cases plen other <;> simp <;> omega

theorem declaredLen_eq (ord1 : List (Nat × Nat)) (s : Settings) (hp : ord1.Perm s.other) :
    declaredLen ord1 s = (settingsPayload s).map List.length := by
  rw [declaredLen_eq_plen ord1 s hp, plen_eq_appendPairs]
  rfl

theorem writePairs_none (ps : List (Nat × Nat)) : writePairs ps none = none := by
  induction ps with
  | nil => rfl
  | cons p ps ih => obtain ⟨id, v⟩ := p; simp [writePairs, putVarint, ih]

theorem writePairs_eq (ps : List (Nat × Nat)) (b : Bytes) :
    writePairs ps (some b) = (appendPairs ps).map (b ++ ·) := by
  induction ps generalizing b with
  | nil => simp [writePairs, appendPairs]
  | cons p ps ih =>
    obtain ⟨id, v⟩ := p
    simp only [writePairs, putVarint, appendPairs, appendPair]
    cases append id with
    | none => simp [writePairs_none]
    | some x =>
      cases append v with
      | none => simp [writePairs_none]
      | some y =>
        simp only [ih]
        cases appendPairs ps <;> simp

/-- the statement-by-statement `Append` is the "length from the payload" writer of `H3/Frame.lean`:
for every `Other` and every pair of iteration orders. -/
theorem appendGo_eq (ord1 : List (Nat × Nat)) (s : Settings) (hp : ord1.Perm s.other) :
    appendGo ord1 s = appendSettings s := by
  have append51 : append settingDatagram = some [51] := by decide
  have append8 : append settingExtendedConnect = some [8] := by decide
  have append1 : append 1 = some [1] := by decide
  have append4 : append 4 = some [4] := by decide
  unfold appendGo appendSettings
  rw [declaredLen_eq ord1 s hp]
  cases hpl : settingsPayload s with
  | none => rfl
  | some p =>
    simp only [Option.map_some, appendPair, putVarint, append4]
    cases hl : append p.length with
    | none =>
      obtain ⟨dg, ec, other⟩ := s
      cases dg <;> cases ec <;> simp [writePairs_none]
    | some y =>
      obtain ⟨dg, ec, other⟩ := s
      unfold settingsPayload at hpl
      -- per flag combination both sides are type 4, the varint of `p.length`, the dedicated pairs
      -- and `appendPairs other` (`writePairs_eq`); `hpl` says `p` is exactly those pairs
      cases dg <;> cases ec <;>
        simp only [Bool.false_eq_true, if_false, if_true, List.nil_append, List.cons_append,
          appendPairs, appendPair, append51, append8, append1, writePairs_eq] at hpl ⊢ <;>
        cases ho : appendPairs other <;> simp [ho] at hpl ⊢ <;> simp [← hpl]

theorem collides_not_nodup (s : Settings) (h : Collides s) :
    ¬ ((writtenPairs s).map (·.1)).Nodup := by
  obtain ⟨dg, ec, other⟩ := s
  unfold Collides at h
  unfold writtenPairs
  simp only at h ⊢
  rcases h with ⟨hd, hm⟩ | ⟨he, hm⟩
  · subst hd
    cases ec <;>
      simp only [if_true, Bool.false_eq_true, if_false, List.nil_append, List.cons_append,
        List.append_nil, List.map_cons, List.nodup_cons, List.mem_cons] <;>
      intro hn
    · exact hn.1 hm
    · exact hn.1 (.inr hm)
  · subst he
    cases dg <;>
      simp only [if_true, Bool.false_eq_true, if_false, List.nil_append, List.cons_append,
        List.map_cons, List.nodup_cons, List.mem_cons] <;>
      intro hn
    · exact hn.1 hm
    · exact hn.2.1 hm

theorem foldl_applyPair_other (ps : List (Nat × Nat)) (s0 : Settings) :
    (ps.foldl applyPair s0).other =
      s0.other ++ ps.filter (fun p => p.1 != settingExtendedConnect && p.1 != settingDatagram) := by
  induction ps generalizing s0 with
  | nil => simp
  | cons p ps ih =>
    simp only [List.foldl_cons, ih, List.filter_cons]
    unfold applyPair
    by_cases h1 : p.1 = settingExtendedConnect
    · simp [h1]
    · by_cases h2 : p.1 = settingDatagram
      · simp [h2, show settingDatagram ≠ settingExtendedConnect by decide]
      · simp [h1, h2]

theorem roundtrip_wf (s : Settings) (p : Bytes) (hp : settingsPayload s = some p)
    (h : parseSettingsPayload p = .ok s) : WfSettings s := by
  have hw := (parse_written_iff (writtenPairs s) p hp s).mp h
  obtain ⟨⟨hnd, _⟩, hs⟩ := hw
  have ho : s.other = (writtenPairs s).filter
      (fun p => p.1 != settingExtendedConnect && p.1 != settingDatagram) := by
    have := congrArg Settings.other hs
    unfold settingsOf at this
    rw [foldl_applyPair_other] at this
    simpa using this
  obtain ⟨dg, ec, other⟩ := s
  unfold writtenPairs at ho hnd
  simp only at ho hnd
  have hf : other = other.filter
      (fun p => p.1 != settingExtendedConnect && p.1 != settingDatagram) := by
    cases dg <;> cases ec <;> simpa [List.filter_cons] using ho
  have hnd' : (other.map (·.1)).Nodup := by
    rw [List.map_append, List.nodup_append] at hnd
    exact hnd.2.1
  refine ⟨hnd', ?_⟩
  intro q hq
  have := List.filter_eq_self.mp hf.symm q hq
  simp only [Bool.and_eq_true, bne_iff_ne, ne_eq] at this
  exact this

end Req.Lemmas.C05.H3Settings
