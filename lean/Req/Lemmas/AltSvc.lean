import Req.Pool.AltSvcState
/-! The Alt-Svc machine (`Req.Pool.AltSvc.step`) analysed once: a header event and the verdict on a request as
equations with their guards; what one event can do to the state of ONE origin as five moves (`Move`, `step_move`);
and `run_traces`, which carries a one-step fact along every run. -/
namespace Req.Pool.AltSvc
open Req.Pool.Dispatch (Origin)

theorem jar_none_of_not_live_not_expired {s : State} {o : Origin} {now : Nat}
    (hl : jarLive s o now = false) (hx : jarExpired s o now = false) : s.jar o = none := by
  unfold jarLive at hl; unfold jarExpired at hx
  cases h : s.jar o with
  | none => rfl
  | some e => simp [h] at hl hx; simp [hl] at hx

theorem jar_some_of_live {s : State} {o : Origin} {now : Nat} (hl : jarLive s o now = true) : s.jar o ≠ none := by
  unfold jarLive at hl
  cases h : s.jar o with
  | none => simp [h] at hl
  | some e => simp

theorem not_expired_of_live {s : State} {o : Origin} {now : Nat} (hl : jarLive s o now = true) :
    jarExpired s o now = false := by
  unfold jarLive at hl; unfold jarExpired
  cases h : s.jar o with
  | none => rfl
  | some e => simp [h] at hl; simp [hl]

theorem purge_pending (s : State) (o : Origin) (now : Nat) : (jarPurge s o now).pending = s.pending := by
  unfold jarPurge; split <;> rfl

theorem purge_jar_other (s : State) (o o' : Origin) (now : Nat) (h : o' ≠ o) : (jarPurge s o now).jar o' = s.jar o' := by
  unfold jarPurge; split <;> simp [upd, h]

theorem purge_jar_self (s : State) (o : Origin) (now : Nat) :
    (jarPurge s o now).jar o = if jarExpired s o now then none else s.jar o := by
  unfold jarPurge; split <;> simp [upd, *]

/-- `handleAltSvc` returns early for an origin that has a live jar entry or a pending advertisement, and for a
header without `h3` entries: only `GetAltSvc`'s purge has happened. -/
theorem step_header_ignored {s : State} {o : Origin} {now : Nat} {mas : List (Option Nat)}
    (h : jarLive s o now = true ∨ s.pending o ≠ none ∨ mas = []) :
    step s (.header o now mas) = (jarPurge s o now, none) := by
  simp only [step]
  cases hl : jarLive s o now
  · rcases hp : s.pending o with _ | p
    · have hm : mas = [] := by simpa [hl, hp] using h
      simp [hm]
    · rfl
  · rfl

theorem step_header_advertised {s : State} {o : Origin} {now : Nat} {mas : List (Option Nat)}
    (hl : jarLive s o now = false) (hp : s.pending o = none) (hm : mas ≠ []) :
    step s (.header o now mas)
      = ({ jarPurge s o now with pending := upd s.pending o (some ⟨mas.map (·.map (· + now)), 0, false⟩) }, none) := by
  simp [step, hl, hp, hm]

/-- `checkAltSvc`'s verdict: the shortcut exactly when `usable`, and then with the outcome of the HTTP/3 exchange. -/
theorem step_request_served (s : State) (o : Origin) (now : Nat) (ok : Bool) :
    (step s (.request o now ok)).2 = some (if usable s o now then .alt ok else .normal) := by
  unfold usable
  simp only [step, viaJar]
  rcases hp : s.pending o with _ | p
  · simp
  · by_cases hr : p.ready = true
    · cases ok
      · simp [hr]
      · rcases hx : p.expires[p.idx]? with _ | e <;> simp [hr, hx]
    · simp [hr]

/-- the origin an event is about -/
def Event.origin : Event → Origin
  | .header o _ _ => o
  | .dialed o _ => o
  | .request o _ _ => o

/-- An event about one origin never touches the state of another: `https://h:8443` and `https://h:8444` are
different origins. -/
theorem step_other_origin (s : State) (e : Event) (o' : Origin) (hne : o' ≠ e.origin) :
    (step s e).1.pending o' = s.pending o' ∧ (step s e).1.jar o' = s.jar o' := by
  cases e with
  | header x now mas =>
    simp only [step]
    cases hl : jarLive s x now <;> rcases hp : s.pending x with _ | p <;> by_cases hm : mas = [] <;>
      simp [hm, purge_pending, purge_jar_other s x o' now hne, upd, show o' ≠ x from hne]
  | dialed x rs =>
    simp only [step]
    rcases hp : s.pending x with _ | p
    · simp
    · by_cases hr : p.ready = true
      · simp [hr]
      · rcases hf : firstTrue rs with _ | k
        · simp [hr]
        · by_cases hk : p.idx + k < p.expires.length <;> simp [hr, hk, upd, show o' ≠ x from hne]
  | request x now ok =>
    simp only [step, viaJar]
    rcases hp : s.pending x with _ | p
    · simp [purge_pending, purge_jar_other s x o' now hne]
    · by_cases hr : p.ready = true
      · cases ok
        · simp [hr, upd, show o' ≠ x from hne]
        · rcases hx : p.expires[p.idx]? with _ | e <;> simp [hr, hx, upd, show o' ≠ x from hne]
      · simp [hr, purge_pending, purge_jar_other s x o' now hne]

/-- The Alt-Svc state of one origin: its pending advertisement and its jar entry. -/
abbrev Cell := Option Pending × Option (Option Nat)

def cell (s : State) (o : Origin) : Cell := (s.pending o, s.jar o)

/-- Everything one event can do to the state of one origin (`step_move`); what holds of one origin's state
along every run is read off these five moves. -/
inductive Move (e : Event) (o : Origin) : Cell → Cell → Prop
  /-- nothing (always so for an event about another origin) -/
  | keep (c : Cell) : Move e o c c
  /-- `GetAltSvc` deletes the jar entry -/
  | purge (p : Option Pending) (j : Option (Option Nat)) : Move e o (p, j) (p, none)
  /-- a header with `h3` entries, for an origin without pending and without live entry -/
  | advertise (now : Nat) (mas : List (Option Nat)) (j : Option (Option Nat)) (p' : Pending) :
      e = .header o now mas → mas ≠ [] → Move e o (none, j) (some p', none)
  /-- a dial outcome or a failed exchange moves the pending entry on -/
  | progress (p p' : Pending) (j : Option (Option Nat)) : Move e o (some p, j) (some p', j)
  /-- a successful exchange over the pending entry puts it into the jar -/
  | confirm (now : Nat) (p : Pending) (j : Option (Option Nat)) (x : Option Nat) :
      e = .request o now true → Move e o (some p, j) (none, some x)

theorem step_move (s : State) (e : Event) (o : Origin) : Move e o (cell s o) (cell (step s e).1 o) := by
  unfold cell
  rcases Classical.em (o = e.origin) with rfl | hne
  · -- `GetAltSvc` on the way: an expired jar entry of the origin is deleted
    have hjar : ∀ now, Move e e.origin (s.pending e.origin, s.jar e.origin)
        ((jarPurge s e.origin now).pending e.origin, (jarPurge s e.origin now).jar e.origin) := fun now => by
      rw [purge_pending, purge_jar_self]; split
      · exact .purge _ _
      · exact .keep _
    cases e with
    | header x now mas =>
      simp only [Event.origin] at hjar ⊢
      by_cases h : jarLive s x now = true ∨ s.pending x ≠ none ∨ mas = []
      · rw [step_header_ignored h]; exact hjar now
      · obtain ⟨hl, hp, hm⟩ : jarLive s x now = false ∧ s.pending x = none ∧ mas ≠ [] := by simpa using h
        -- neither live nor, after the purge, expired: the jar holds nothing for the origin
        have hx : (jarPurge s x now).jar x = none := by
          rw [purge_jar_self]; split
          · rfl
          · exact jar_none_of_not_live_not_expired hl (by simpa using ‹¬jarExpired s x now = true›)
        rw [step_header_advertised hl hp hm, hp]
        simp only [upd, if_true, hx]
        exact .advertise now mas _ _ rfl hm
    | dialed x rs =>
      simp only [step, Event.origin]
      rcases hp : s.pending x with _ | p
      · rw [hp]; exact .keep _
      · simp only
        split
        · rw [hp]; exact .keep _
        · split
          · rw [hp]; exact .keep _
          · split
            · simp only [upd, if_true]; exact .progress _ _ _
            · rw [hp]; exact .keep _
    | request x now ok =>
      simp only [step, viaJar, Event.origin] at hjar ⊢
      rcases hp : s.pending x with _ | p
      · simpa only [hp] using hjar now
      · simp only
        split
        · cases ok
          · simp only [Bool.false_eq_true, if_false, upd, if_true]; exact .progress _ _ _
          · simp only [if_true]
            split
            · simp only [upd, if_true]; exact .confirm now _ _ _ rfl
            · rw [hp]; exact .keep _
        · simpa only [hp] using hjar now
  · obtain ⟨h1, h2⟩ := step_other_origin s e o hne
    rw [h1, h2]
    exact .keep _

/-- State appears only through an advertisement. -/
theorem Move.entry {e : Event} {o : Origin} {c c' : Cell} (h : Move e o c c')
    (h' : c'.1 ≠ none ∨ c'.2 ≠ none) :
    (c.1 ≠ none ∨ c.2 ≠ none) ∨ ∃ now mas, e = .header o now mas ∧ mas ≠ [] := by
  cases h with
  | keep => exact .inl h'
  | purge => exact .inl (.inl (h'.resolve_right (· rfl)))
  | advertise now mas _ _ he hmas => exact .inr ⟨now, mas, he, hmas⟩
  | progress | confirm => exact .inl (.inl nofun)

/-- A jar entry appears only through a successful exchange. -/
theorem Move.jar {e : Event} {o : Origin} {c c' : Cell} (h : Move e o c c') (h' : c'.2 ≠ none) :
    c.2 ≠ none ∨ ∃ now, e = .request o now true := by
  cases h with
  | keep | progress => exact .inl h'
  | purge | advertise => exact absurd rfl h'
  | confirm now _ _ _ he => exact .inr ⟨now, he⟩

theorem Move.disjoint {e : Event} {o : Origin} {c c' : Cell} (h : Move e o c c')
    (hc : ¬(c.1 ≠ none ∧ c.2 ≠ none)) : ¬(c'.1 ≠ none ∧ c'.2 ≠ none) := by
  cases h with
  | keep => exact hc
  | purge | advertise => exact fun h => h.2 rfl
  | progress => exact fun h => hc ⟨nofun, h.2⟩
  | confirm => exact fun h => h.1 rfl

theorem run_traces (Q : State → Origin → Prop) (R : Event → Origin → Prop)
    (hstep : ∀ s e o, Q (step s e).1 o → Q s o ∨ R e o)
    (evs : List Event) (s : State) (o : Origin) (h : Q (run s evs) o) : Q s o ∨ ∃ e ∈ evs, R e o :=
  List.foldlRecOn (motive := fun s' => Q s' o → Q s o ∨ ∃ e ∈ evs, R e o) evs _ .inl
    (fun s' ih e he h => (hstep s' e o h).elim ih fun hr => .inr ⟨e, he, hr⟩) h

end Req.Pool.AltSvc
