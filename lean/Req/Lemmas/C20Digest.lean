import Req.Client.Digest
import Req.Client.Rfc7616
import Req.Lemmas.C20Verify
/-!
Helper lemmas for C20 about `Req.Digest`, the model of digest.go without RFC 7230 quoted-string
handling: its trimming and cutting functions only remove bytes (so that no field of a parsed challenge
contains a comma, see `C20Parse.lean`), and `validateQop` on a comma-free value. The rest serves
`Req.DigestAuth` as well, which shares these definitions: the algorithm table (`algOf_spec`,
`specAlg_effAlg`), hex output (`hex_all_qd`, `hex8_one`), and the shape of an exchange (`resend_shape`).
-/
namespace Req.Digest
open Req.Proto Req.Ascii

theorem head_ne_of_not_mem {k c : UInt8} {cs : Bytes} (h : k ∉ c :: cs) : (c == k) = false := by
  simp only [beq_eq_false_iff_ne]
  rintro rfl
  exact h List.mem_cons_self

theorem mem_trimLeftSpace {x : UInt8} : ∀ {s : Bytes}, x ∈ trimLeftSpace s → x ∈ s := by
  intro s
  fun_induction trimLeftSpace s <;> intro h <;> simp_all

theorem mem_trimLeftSpaceRev {x : UInt8} : ∀ {s : Bytes}, x ∈ trimLeftSpaceRev s → x ∈ s := by
  intro s
  fun_induction trimLeftSpaceRev s <;> intro h <;> simp_all

theorem mem_trimSpace {x : UInt8} {s : Bytes} (h : x ∈ trimSpace s) : x ∈ s := by
  unfold trimSpace at h
  have h1 := List.mem_reverse.mp h
  have h2 := mem_trimLeftSpaceRev h1
  exact mem_trimLeftSpace (List.mem_reverse.mp h2)

theorem mem_cutEq {x : UInt8} : ∀ {s k v : Bytes}, cutEq s = some (k, v) → x ∈ v → x ∈ s := by
  intro s
  induction s with
  | nil => intro k v h; simp [cutEq] at h
  | cons c cs ih =>
    intro k v h hx
    unfold cutEq at h
    split at h
    · simp only [Option.some.injEq, Prod.mk.injEq] at h
      exact List.mem_cons_of_mem _ (h.2 ▸ hx)
    · split at h
      · rename_i k' v' hk
        simp only [Option.some.injEq, Prod.mk.injEq] at h
        exact List.mem_cons_of_mem _ (ih hk (h.2 ▸ hx))
      · cases h

theorem splitByte_no_sep (sep : UInt8) : ∀ s : Bytes,
    sep ∉ (splitByte sep s).1 ∧ ∀ p ∈ (splitByte sep s).2, sep ∉ p := by
  intro s
  induction s with
  | nil => simp [splitByte]
  | cons c cs ih =>
    unfold splitByte
    by_cases hc : (c == sep) = true
    · simp only [hc, if_true]
      refine ⟨by simp, ?_⟩
      intro p hp
      cases hp with
      | head => exact ih.1
      | tail _ hp => exact ih.2 p hp
    · simp only [hc, Bool.false_eq_true, if_false]
      refine ⟨?_, ih.2⟩
      intro hm
      cases hm with
      | head => exact hc (by simp)
      | tail _ hm => exact ih.1 hm

theorem split_no_sep (sep : UInt8) (s : Bytes) : ∀ p ∈ split sep s, sep ∉ p := by
  intro p hp
  unfold split at hp
  cases hp with
  | head => exact (splitByte_no_sep sep s).1
  | tail _ hp => exact (splitByte_no_sep sep s).2 p hp

theorem splitCommaSpaceAux_noComma : ∀ s : Bytes, 44 ∉ s → splitCommaSpaceAux s = (s, []) := by
  intro s
  induction s with
  | nil => intro _; rfl
  | cons c cs ih =>
    intro h
    have hc : (c == 44) = false := head_ne_of_not_mem h
    have := ih (fun m => h (List.mem_cons_of_mem _ m))
    simp [splitCommaSpaceAux, hc, this]

theorem validateQop_noComma {qop : Bytes} (hc : 44 ∉ qop) (h : validateQop qop = true) :
    qop = [] ∨ qop = b!"auth" := by
  unfold validateQop splitCommaSpace at h
  rw [splitCommaSpaceAux_noComma qop hc] at h
  simp only [Bool.or_eq_true, List.isEmpty_iff] at h
  rcases h with h | h
  · exact Or.inl h
  · right
    have : b!"auth" = qop := by simpa using h
    exact this.symm

theorem lookup_mem {β} (k : Bytes) : ∀ (l : List (Bytes × β)) (v : β), lookup k l = some v → (k, v) ∈ l := by
  intro l
  induction l with
  | nil => intro v h; simp [lookup] at h
  | cons e es ih =>
    intro v h
    obtain ⟨k', v'⟩ := e
    unfold lookup at h
    split at h
    · rename_i hk
      have := eq_of_beq hk
      simp only [Option.some.injEq] at h
      subst this; subst h
      exact List.mem_cons_self
    · exact List.mem_cons_of_mem _ (ih v h)

/-- Every entry of `hashTable` is RFC 7616's: same hash, `-sess` iff the suffix, and the names are
tokens. -/
theorem hashTable_spec : ∀ e ∈ hashTable,
    (e.1 = [] ∧ e.2 = Alg.md5 ∧ isSess e.1 = false) ∨
    (e.1 ≠ [] ∧ e.1.all isTokenByte = true ∧ Req.Rfc7616.specAlg e.1 = some (e.2, isSess e.1)) := by
  decide

theorem algOf_spec {name : Bytes} {a : Alg} (h : algOf name = some a) :
    (name = [] ∧ a = Alg.md5 ∧ isSess name = false) ∨
    (name ≠ [] ∧ name.all isTokenByte = true ∧ Req.Rfc7616.specAlg name = some (a, isSess name)) :=
  hashTable_spec (name, a) (lookup_mem name hashTable a h)

theorem algOf_token {name : Bytes} {a : Alg} (h : algOf name = some a) :
    name = [] ∨ (name ≠ [] ∧ name.all isTokenByte = true) := by
  rcases algOf_spec h with ⟨e, _, _⟩ | ⟨e1, e2, _⟩
  · exact Or.inl e
  · exact Or.inr ⟨e1, e2⟩

/-- the verifier, which reads an absent algorithm as MD5, finds the client's hash function -/
theorem specAlg_effAlg {name : Bytes} {a : Alg} (h : algOf name = some a) :
    Req.Rfc7616.specAlg (Req.Rfc7616.effAlg (if name.isEmpty then none else some name)) =
      some (a, isSess name) := by
  rcases algOf_spec h with ⟨rfl, rfl, _⟩ | ⟨e1, _, e3⟩
  · rfl
  · cases name with
    | nil => exact absurd rfl e1
    | cons _ _ => exact e3

theorem hexDigit_qd : ∀ n, n < 16 → Req.Rfc7616.isQd (hexDigitByte n) = true := by decide

theorem hex_all_qd : ∀ bs : Bytes, (hex bs).all Req.Rfc7616.isQd = true := by
  intro bs
  induction bs with
  | nil => rfl
  | cons b bs ih =>
    have hb : b.toNat < 256 := UInt8.toNat_lt b
    have h1 := hexDigit_qd (b.toNat / 16) (by omega)
    have h2 := hexDigit_qd (b.toNat % 16) (by omega)
    simp only [hex, List.flatMap_cons, List.cons_append, List.nil_append, List.all_cons, h1, h2,
      Bool.true_and] at ih ⊢
    exact ih

theorem all_take {p : UInt8 → Bool} {l : Bytes} (n : Nat) (h : l.all p = true) : (l.take n).all p = true := by
  rw [List.all_eq_true] at h ⊢
  intro x hx
  exact h x (List.mem_of_mem_take hx)

theorem hex8_one : hex8 1 = b!"00000001" := by decide

/-- an exchange whose second request exists exactly when the outcome is a re-send. The `match` is the
body of `Req.Digest.exchange` and of `Req.DigestAuth.exchange` with the first request, the second
request and the outcome of `handle` left open: it applies to both by unfolding. -/
theorem resend_shape (first : Wire) (second : Bytes → Option Bytes → Wire) (o : Outcome) :
    let x : List Wire × Outcome := match o with
      | .resend hdr b => ([first, second hdr b], o)
      | _ => ([first], o)
    (x.1 = [first] ∧ ∀ hdr b, x.2 ≠ .resend hdr b) ∨
    (∃ hdr b, x.2 = .resend hdr b ∧ x.1 = [first, second hdr b]) := by
  cases o with
  | untouched => left; exact ⟨rfl, by intro _ _ h; cases h⟩
  | failed e => left; exact ⟨rfl, by intro _ _ h; cases h⟩
  | resend hdr b => right; exact ⟨hdr, b, rfl, rfl⟩

end Req.Digest
