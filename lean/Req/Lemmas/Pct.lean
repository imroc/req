import Req.Base.PercentEncoding
import Req.Lemmas.U8
/-! `escape` / `unescape`: every statement about the bytes `escape` emits goes through `escape_forall`,
the round trip is `unescape_escape`; both rest on one table, `hexPair`. -/
namespace Req.Pct
open Req.Proto

/-- the two digits `escape` writes after `%`: letters or digits (never escaped themselves), hex digits
for `unescape`, and they decode to the byte. -/
theorem hexPair (c : UInt8) :
    isAlnum (upperHex (c >>> 4)) = true ∧ isAlnum (upperHex (c &&& 15)) = true ∧
      ishex (upperHex (c >>> 4)) = true ∧ ishex (upperHex (c &&& 15)) = true ∧
      (unhex (upperHex (c >>> 4)) <<< 4) ||| unhex (upperHex (c &&& 15)) = c := by
  simpa [and_assoc] using Req.U8.all (fun c => isAlnum (upperHex (c >>> 4)) && isAlnum (upperHex (c &&& 15)) &&
    ishex (upperHex (c >>> 4)) && ishex (upperHex (c &&& 15)) &&
    ((unhex (upperHex (c >>> 4)) <<< 4) ||| unhex (upperHex (c &&& 15)) == c)) (by decide +kernel) c

theorem alnum_unescaped {b : UInt8} (h : isAlnum b = true) (m : Mode) : shouldEscape b m = false := by
  simp [shouldEscape, h]

theorem escape_nil (m : Mode) : escape m [] = [] := rfl

theorem escape_cons (m : Mode) (c : UInt8) (s : Bytes) :
    escape m (c :: s) = escByte m c ++ escape m s := by
  simp [escape, List.flatMap_cons]

theorem escape_append (m : Mode) (a b : Bytes) : escape m (a ++ b) = escape m a ++ escape m b := by
  simp [escape, List.flatMap_append]

/-- What holds of `%`, of `+` (query components only) and of every byte that needs no escaping holds
of every byte `escape` emits. -/
theorem escape_forall {m : Mode} {P : UInt8 → Prop} (h37 : P 37) (h43 : m = .queryComponent → P 43)
    (hraw : ∀ b, shouldEscape b m = false → P b) (s : Bytes) : ∀ b ∈ escape m s, P b := by
  intro b hb
  obtain ⟨c, -, hb⟩ := List.mem_flatMap.mp hb
  unfold escByte at hb
  split at hb
  next h1 =>
    simp only [Bool.and_eq_true, beq_iff_eq] at h1
    rw [List.mem_singleton.mp hb]
    exact h43 h1.2
  next =>
    split at hb
    next =>
      obtain ⟨hh, hl, -⟩ := hexPair c
      simp only [List.mem_cons, List.not_mem_nil, or_false] at hb
      rcases hb with rfl | rfl | rfl
      · exact h37
      · exact hraw _ (alnum_unescaped hh m)
      · exact hraw _ (alnum_unescaped hl m)
    next h2 =>
      rw [List.mem_singleton.mp hb]
      exact hraw c (by simpa using h2)

/-- `%` is escaped in every mode: a byte emitted verbatim is never read back as the start of an
escape. -/
theorem shouldEscape_percent (m : Mode) : shouldEscape 37 m = true := by
  cases m <;> decide +kernel

theorem unescape_cons_plain (m : Mode) (hm1 : m ≠ .host) (hm2 : m ≠ .zone) (c : UInt8)
    (rest : Bytes) (h37 : c ≠ 37) (h43 : c = 43 → m ≠ .queryComponent) :
    unescape m (c :: rest) = (unescape m rest).map (c :: ·) := by
  rw [unescape.eq_def]
  have e37 : (c == 37) = false := by simpa using h37
  simp only [e37, Bool.false_eq_true, if_false]
  by_cases hc : c = 43
  · subst hc
    have : (m == Mode.queryComponent) = false := by simpa using h43 rfl
    simp [this]
  · have e43 : (c == 43) = false := by simpa using hc
    have eh : (m == Mode.host) = false := by simpa using hm1
    have ez : (m == Mode.zone) = false := by simpa using hm2
    simp [e43, eh, ez]

theorem unescape_cons_plus_query (rest : Bytes) :
    unescape .queryComponent (43 :: rest) = (unescape .queryComponent rest).map (32 :: ·) := by
  rw [unescape.eq_def]
  simp

theorem unescape_escByte (m : Mode) (hm1 : m ≠ .host) (hm2 : m ≠ .zone) (c : UInt8)
    (rest : Bytes) : unescape m (escByte m c ++ rest) = (unescape m rest).map (c :: ·) := by
  unfold escByte
  split
  next h1 =>
    simp only [Bool.and_eq_true, beq_iff_eq] at h1
    obtain ⟨hc, hq⟩ := h1
    subst hc; subst hq
    exact unescape_cons_plus_query rest
  next h1 =>
    split
    next h2 =>
      obtain ⟨-, -, hhi, hlo, hround⟩ := hexPair c
      have eh : (m == Mode.host) = false := by simpa using hm1
      have ez : (m == Mode.zone) = false := by simpa using hm2
      simp only [List.cons_append, List.nil_append]
      rw [unescape.eq_def]
      simp [hhi, hlo, eh, ez, hround]
    next h2 =>
      have h2' : shouldEscape c m = false := by simpa using h2
      apply unescape_cons_plain m hm1 hm2 c rest
      · rintro rfl; rw [shouldEscape_percent] at h2'; cases h2'
      · rintro rfl rfl; exact absurd h2' (by decide +kernel)

theorem unescape_escape_append (m : Mode) (hm1 : m ≠ .host) (hm2 : m ≠ .zone) (s rest : Bytes) :
    unescape m (escape m s ++ rest) = (unescape m rest).map (s ++ ·) := by
  induction s with
  | nil => simp [escape]
  | cons c s ih =>
    rw [escape_cons, List.append_assoc, unescape_escByte m hm1 hm2, ih]
    cases unescape m rest <;> simp

/-- host and zone are left out: there Go itself refuses `%XX` of an ASCII byte. -/
theorem unescape_escape (m : Mode) (hm1 : m ≠ .host) (hm2 : m ≠ .zone) (s : Bytes) :
    unescape m (escape m s) = some s := by
  simpa [unescape] using unescape_escape_append m hm1 hm2 s []

end Req.Pct
