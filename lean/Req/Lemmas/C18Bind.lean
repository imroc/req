import Req.Lemmas.C18Err
import Req.Props.C18
/-!
C18 — result binding seen through the whole pipeline: `Agrees`, kept by every stage (`agrees_kept`).
`SuccessRHS`, `ErrReqRHS`, `ErrCommonRHS` are what `success_bound_call` / `error_bound_call`
(`Props/C18Pipeline`) are stated with. Rests on the binding decision of `Props/C18` (`Ready` and the
three `*_bound_iff`), which is about the model `Req.Result` alone.
-/
namespace Req.Pipeline
open Req.Result Req.Props.C18

/-- "target supplied, success state, carries content, unmarshals" for the http response `h`;
`ErrReqRHS` likewise for the request-level error target, `ErrCommonRHS` for the client-level
common error type, which counts only without a request-level target. -/
def SuccessRHS (s : Stack) (h : Http) : Prop :=
  s.successTarget = true ∧ stateOf h = .success ∧ h.status ≠ noContent ∧ h.bodyOK = true ∧ codecOK h = true

def ErrReqRHS (s : Stack) (h : Http) : Prop :=
  s.errorTarget = true ∧ stateOf h = .error ∧ h.status ≠ noContent ∧ h.bodyOK = true ∧ codecOK h = true

def ErrCommonRHS (s : Stack) (h : Http) : Prop :=
  s.errorTarget = false ∧ s.commonErr = true ∧ stateOf h = .error ∧ h.status ≠ noContent ∧ h.bodyOK = true ∧ codecOK h = true

/-- The slots of `r` are exactly what the http response it carries calls for. -/
def Agrees (s : Stack) (r : Resp) : Prop :=
  (r.slots.result = true ↔ ∃ h, r.http = some h ∧ SuccessRHS s h) ∧
  (r.slots.error = some .errorReq ↔ ∃ h, r.http = some h ∧ ErrReqRHS s h) ∧
  (r.slots.error = some .errorCommon ↔ ∃ h, r.http = some h ∧ ErrCommonRHS s h) ∧
  r.slots.error ≠ some .success

theorem Agrees.of_eq {s : Stack} {r r' : Resp} (h : Agrees s r) (h1 : r'.http = r.http) (h2 : r'.slots = r.slots) :
    Agrees s r' := by
  unfold Agrees at h ⊢; rw [h1, h2]; exact h

/-- After the auto-read block, "no error recorded and the body is or can be read" is `bodyOK` (reads and transforms). -/
theorem autoRead_ready (s : Stack) (r : Resp) (h : Http) (hh : r.http = some h) (he : r.err = none) (hb : r.bodyCached = false) :
    (autoRead s r).1.http = some h ∧ (autoRead s r).1.slots = r.slots ∧
    (((autoRead s r).1.err = none ∧ ((autoRead s r).1.bodyCached = true ∨ h.bodyOK = true)) ↔ h.bodyOK = true) := by
  unfold autoRead
  simp only [hh]
  split
  · split
    · rename_i hr; simp [he, hr, Http.bodyOK]
    · rename_i hr; simp [hr, Http.bodyOK]
  · simp [hh, he, hb]

theorem agrees_nohttp (s : Stack) (r : Resp) (h : r.http = none) (hs : r.slots = {}) : Agrees s r := by
  unfold Agrees; rw [h, hs]; simp

/-- Reading and binding a response that has not been read or bound yet makes the slots agree
with it. -/
theorem readParse_agrees (s : Stack) (r : Resp) (hs : r.slots = {}) (hb : r.bodyCached = false)
    (he : r.http ≠ none → r.err = none) :
    Agrees s (parseResp s (autoRead s r).1).resp := by
  rcases hh : r.http with _ | h
  · rw [autoRead_nohttp s r hh]
    refine agrees_nohttp s _ hh ?_
    rcases parseBody_cases (bindIn s r) with ⟨_, hp⟩ | ⟨_, _, hh', _⟩
    · exact (congrArg BindOut.slots hp).trans hs
    · cases hh.symm.trans hh'
  · obtain ⟨h1, h2, h3⟩ := autoRead_ready s r h hh (he (by simp [hh])) hb
    generalize (autoRead s r).1 = r' at h1 h2 h3
    have hready : Ready (bindIn s r') h ↔ (h.bodyOK = true ∧ codecOK h = true) :=
      (and_assoc (c := codecOK h = true)).symm.trans (and_congr_left' h3)
    have hslots : (bindIn s r').slots = {} := h2.trans hs
    have hhttp : (bindIn s r').http = some h := h1
    have hhttp' : (parseResp s r').resp.http = some h := h1
    unfold Agrees
    rw [hhttp']
    refine ⟨(success_bound_iff _ hslots).trans ?_, (error_bound_iff _ hslots).trans ?_,
      (error_common_bound_iff _ hslots).trans ?_, error_slot_kind _ hslots⟩ <;>
      simp only [hhttp, Option.some.injEq, exists_eq_left', hready] <;> exact Iff.rfl

theorem exchange_fresh (s : Stack) (a : Nat) :
    (exchange s a).1.slots = {} ∧ (exchange s a).1.bodyCached = false ∧
    ((exchange s a).1.http ≠ none → (exchange s a).1.err = none) := by
  unfold exchange; split <;> simp

theorem agrees_kept (s : Stack) : Kept s (Agrees s) where
  err _ _ h := h.of_eq rfl rfl
  saved _ _ h := h.of_eq rfl rfl
  empty := agrees_nohttp s
  exchange a := by
    obtain ⟨f1, f2, f3⟩ := exchange_fresh s a
    exact readParse_agrees s _ f1 f2 f3
  resend a r ok h _ he := readParse_agrees s _ rfl rfl fun _ => he

/-- What `do` returns: slots that agree with the carried http response, or — a request
middleware failed on a retry — the previous attempt's response with empty slots and an error. -/
def Final (s : Stack) (r : Resp) : Prop := Agrees s r ∨ (r.slots = {} ∧ r.err ≠ none)

theorem callDo_final (s : Stack) : ∀ r, (callDo Fixes.all s).resp = some r → Final s r :=
  ((agrees_kept s).keeps_callDo (fx := Fixes.all) rfl rfl (J := fun r => r.slots = {}) (fun _ _ h => h) fun _ _ => rfl).2.2

end Req.Pipeline
