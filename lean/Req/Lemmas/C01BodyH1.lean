import Req.H1.BodyWrite
import Req.Lemmas.C01Body
/-! `Req.H1.BodyWrite.ioCopy`: `ioCopy_spec` gives `Copied` for any reader, `ioCopy_progress` says the
fuel suffices for a reader that ends with `io.EOF`; `outcomeOf_known_ok`: when `writeBody` of a declared
length returns nil. -/
namespace Req.Lemmas.C01BodyH1
open Req.Proto Req.H1 Req.H1.BodyWrite Req.Lemmas.C01Body
open Req.H2.BodyWrite (Reader RErr Ending)

/-- the budget of a `LimitedReader` is respected -/
def Within (limit : Option Nat) (len : Nat) : Prop := ∀ n, limit = some n → len ≤ n

/-- what `io.CopyBuffer` (over the body or over `io.LimitReader(body, n)`) that made the writes `ws`,
ended with `o` and left the reader `r'` has done, for ANY reader -/
structure Copied (r : Reader) (limit : Option Nat) (ws : List Bytes) (o : CopyEnd) (r' : Reader) : Prop where
  data : ws.flatten ++ r'.data = r.data
  within : Within limit ws.flatten.length
  nonempty : ∀ w ∈ ws, w ≠ []
  ending : r'.ending = r.ending
  eof : o = .eof → r'.data = [] ∨ limit = some ws.flatten.length

theorem ioCopy_spec (buf : Nat) :
    ∀ (fuel : Nat) (limit : Option Nat) (r : Reader) {ws o r'}, ioCopy buf fuel limit r = (ws, o, r') →
      Copied r limit ws o r' := by
  intro fuel
  induction fuel with
  | zero => intro limit r ws o r' h; cases h; exact ⟨by simp, fun n _ => by simp, by simp, rfl, nofun⟩
  | succ fuel ih =>
    intro limit r ws o r' h
    simp only [ioCopy] at h
    by_cases h0 : limit = some 0
    · simp only [h0, if_true] at h
      cases h
      exact ⟨by simp, fun n _ => by simp, by simp, rfl, fun _ => .inr h0⟩
    · simp only [h0, if_false] at h
      rcases hr : r.read (capOf buf limit) with ⟨chunk, e, r1⟩
      have hs := read_spec hr
      simp only [hr] at h
      have hwithin : Within limit chunk.length := fun n hn => by
        subst hn; exact Nat.le_trans hs.len (Nat.min_le_right ..)
      have hmem : ∀ w ∈ (if chunk.isEmpty = true then ([] : List Bytes) else [chunk]), w ≠ [] :=
        fun w hw => (optChunk_mem hw).1 ▸ (optChunk_mem hw).2
      cases e with
      | none =>
        rcases hc : ioCopy buf fuel (limit.map (· - chunk.length)) r1 with ⟨ws', o', r''⟩
        have i := ih _ _ hc
        simp only [hc] at h
        cases h
        refine ⟨?_, fun n hn => ?_, fun w hw => ?_, i.ending.trans hs.ending, fun ho => ?_⟩
        · rw [List.flatten_append, optChunk_flatten, List.append_assoc, i.data, hs.data]
        · have h1 := hwithin n hn
          have h2 := i.within (n - chunk.length) (by simp [hn])
          simp only [List.flatten_append, optChunk_flatten, List.length_append]
          omega
        · rcases List.mem_append.mp hw with h | h
          · exact hmem w h
          · exact i.nonempty w h
        · refine (i.eof ho).imp_right fun h => ?_
          cases limit with
          | none => simp at h
          | some n =>
            have h1 := hwithin n rfl
            simp only [Option.map_some, Option.some.injEq] at h
            simp only [List.flatten_append, optChunk_flatten, List.length_append, Option.some.injEq]
            omega
      | eof =>
        cases h
        exact ⟨by rw [optChunk_flatten]; exact hs.data, by rw [optChunk_flatten]; exact hwithin, hmem,
          hs.ending, fun _ => .inl (hs.eof rfl)⟩
      | fail =>
        cases h
        exact ⟨by rw [optChunk_flatten]; exact hs.data, by rw [optChunk_flatten]; exact hwithin, hmem,
          hs.ending, nofun⟩

theorem Copied.all {r r' : Reader} {ws : List Bytes} (h : Copied r none ws .eof r') : ws.flatten = r.data := by
  rcases h.eof rfl with h' | h'
  · rw [← h.data, h', List.append_nil]
  · cases h'

/-- the second copy is the draining one of `transferWriter.writeBody` (`io.Discard`'s `ReadFrom`, hence
the 8192-byte buffer); ended with `io.EOF` it has read all that was left, so its count is
`r1.data.length` -/
theorem outcomeOf_known_ok {n : Nat} {ws : List Bytes} {o : CopyEnd} {r1 : Reader} :
    outcomeOf (.known n) ws o r1 = .ok ↔
      o = .eof ∧ (ioCopy 8192 (fuelFor r1) none r1).2.1 = .eof ∧ ws.flatten.length + r1.data.length = n := by
  rcases hd : ioCopy 8192 (fuelFor r1) none r1 with ⟨ds, od, rd⟩
  have j := ioCopy_spec 8192 _ _ _ hd
  cases o <;> cases od <;> simp [outcomeOf, hd, -List.length_flatten]
  rw [j.all]

theorem ioCopy_progress (buf : Nat) (hb : 1 ≤ buf) :
    ∀ (fuel : Nat) (limit : Option Nat) (r : Reader), fuelFor r ≤ fuel →
      (r.ending = .eof ∨ r.ending = .eofWithLast) → (ioCopy buf fuel limit r).2.1 = .eof := by
  intro fuel
  induction fuel with
  | zero => intro _ r h; simp [fuelFor, Req.H2.BodyWrite.fuelFor] at h
  | succ fuel ih =>
    intro limit r hfuel hend
    unfold fuelFor Req.H2.BodyWrite.fuelFor at hfuel
    simp only [ioCopy]
    by_cases h0 : limit = some 0
    · simp [h0]
    · simp only [h0, if_false]
      have hcap1 : 1 ≤ capOf buf limit := by
        cases limit with
        | none => exact hb
        | some n => exact Nat.le_min.mpr ⟨hb, Nat.pos_of_ne_zero fun h => h0 (by rw [h])⟩
      rcases hr : r.read (capOf buf limit) with ⟨chunk, e, r1⟩
      have hs := read_spec hr
      cases e with
      | none =>
        have hm := hs.measure hcap1 fun h => nomatch (hs.atEnd h hend).2.1
        exact ih _ r1 (by unfold fuelFor Req.H2.BodyWrite.fuelFor; omega) (hs.ending ▸ hend)
      | eof => rfl
      | fail => exact absurd rfl (hs.honest hend)

/-- pieces that are all non-empty are recovered by splitting their concatenation at their lengths:
the chunk boundaries of the reader-level model are a `reads` list of the byte-level serialiser. -/
theorem splitReads_pieces : ∀ (ws : List Bytes), (∀ w ∈ ws, w ≠ []) →
    splitReads ws.flatten (ws.map List.length) = ws := by
  intro ws
  induction ws with
  | nil => intro _; simp [splitReads]
  | cons w ws ih =>
    intro h
    have hw : w ≠ [] := h w (by simp)
    have hlen : 0 < w.length := List.length_pos_iff.mpr hw
    have hne : (w ++ ws.flatten).isEmpty = false := by
      cases w with
      | nil => exact absurd rfl hw
      | cons _ _ => rfl
    have hn0 : (w.length == 0) = false := by
      simp only [beq_eq_false_iff_ne, ne_eq]; omega
    simp only [List.flatten_cons, List.map_cons, splitReads, hne, Bool.false_eq_true, if_false, hn0,
      List.take_left, List.drop_left]
    rw [ih (fun v hv => h v (by simp [hv]))]

end Req.Lemmas.C01BodyH1
