import Req.Lemmas.Pct
import Req.Lemmas.C01BStr
import Req.Client.Url
/-!
An independent origin-side query parser (`parseQuery`: split at `&`, drop empty pieces, cut at the
first `=`, percent-decode both sides — what `url.ParseQuery` and every server framework do) and
the lemmas relating it to `Values.Encode` (helpers for Props/C01 `query_merge_spec`).
-/
namespace Req.Query
open Req.Proto Req.Pct Req.BStr Req.Url

/-- split at every `sep`; `cur` is the reversed current piece. -/
def splitOnAux (sep : UInt8) : Bytes → Bytes → List Bytes
  | [], cur => [cur.reverse]
  | c :: t, cur => if c == sep then cur.reverse :: splitOnAux sep t [] else splitOnAux sep t (c :: cur)

def splitOn (sep : UInt8) (s : Bytes) : List Bytes := splitOnAux sep s []

def parsePair (p : Bytes) : Option (Bytes × Bytes) :=
  match cut 61 p with
  | (k, v, _) =>
    match unescape .queryComponent k, unescape .queryComponent v with
    | some k', some v' => some (k', v')
    | _, _ => none

/-- the ordered multimap an origin reads from a raw query (`none` = malformed escape). -/
def parseQuery (q : Bytes) : Option (List (Bytes × Bytes)) :=
  ((splitOn 38 q).filter fun p => !p.isEmpty).mapM parsePair

theorem splitOnAux_append (sep : UInt8) (a b cur : Bytes) :
    splitOnAux sep (a ++ sep :: b) cur = splitOnAux sep a cur ++ splitOnAux sep b [] := by
  induction a generalizing cur with
  | nil => simp [splitOnAux]
  | cons c a ih =>
    simp only [List.cons_append, splitOnAux]
    split
    · rw [ih]; simp
    · exact ih _

theorem splitOnAux_no_sep (sep : UInt8) (a cur : Bytes) (h : ∀ b ∈ a, b ≠ sep) :
    splitOnAux sep a cur = [cur.reverse ++ a] := by
  induction a generalizing cur with
  | nil => simp [splitOnAux]
  | cons c a ih =>
    have hc : (c == sep) = false := by simpa using h c (by simp)
    simp only [splitOnAux, hc, Bool.false_eq_true, if_false]
    rw [ih _ (fun b hb => h b (by simp [hb]))]
    simp

/-- bytes that would change the structure of a query (or of the request line / header block):
`& = # ? /`, space, control bytes (CR, LF, NUL …), DEL and everything non-ASCII. -/
def queryStructural (b : UInt8) : Bool :=
  b == 38 || b == 61 || b == 35 || b == 63 || b == 47 || b ≤ 32 || b ≥ 127

theorem queryEscape_not_structural (s : Bytes) : ∀ b ∈ queryEscape s, queryStructural b = false :=
  escape_forall (by decide) (fun _ => by decide) (fun b h => by
    simpa [h] using Req.U8.all (fun b => shouldEscape b .queryComponent || !queryStructural b)
      (by decide +kernel) b) s

theorem queryEscape_ne (s : Bytes) (c : UInt8) (hc : queryStructural c = true) :
    ∀ b ∈ queryEscape s, b ≠ c := by
  intro b hb heq
  have := queryEscape_not_structural s b hb
  rw [heq, hc] at this
  exact Bool.noConfusion this

theorem encodePair_no_amp (k v : Bytes) : ∀ b ∈ encodePair k v, b ≠ 38 := by
  intro b hb
  unfold encodePair at hb
  simp only [List.append_assoc, List.mem_append, List.mem_singleton] at hb
  rcases hb with h | h | h
  · exact queryEscape_ne k 38 (by decide) b h
  · rw [h]; decide
  · exact queryEscape_ne v 38 (by decide) b h

theorem encodePair_ne_nil (k v : Bytes) : (encodePair k v).isEmpty = false := by
  unfold encodePair
  cases queryEscape k <;> simp

theorem parsePair_encodePair (k v : Bytes) : parsePair (encodePair k v) = some (k, v) := by
  unfold parsePair encodePair
  rw [List.append_assoc, List.singleton_append,
    cut_append 61 _ _ (queryEscape_ne k 61 (by decide))]
  simp only
  have hk := unescape_escape .queryComponent (by decide) (by decide) k
  have hv := unescape_escape .queryComponent (by decide) (by decide) v
  unfold queryEscape
  rw [hk, hv]

theorem parseQuery_nil : parseQuery [] = some [] := by
  simp [parseQuery, splitOn, splitOnAux]

theorem parseQuery_append (a b : Bytes) :
    parseQuery (a ++ 38 :: b) =
      (do let x ← parseQuery a; let y ← parseQuery b; pure (x ++ y)) := by
  unfold parseQuery splitOn
  rw [splitOnAux_append, List.filter_append, List.mapM_append]

theorem parseQuery_single (k v : Bytes) : parseQuery (encodePair k v) = some [(k, v)] := by
  unfold parseQuery splitOn
  rw [splitOnAux_no_sep 38 _ [] (encodePair_no_amp k v)]
  simp [encodePair_ne_nil, parsePair_encodePair]

theorem parseQuery_join (ps : List (Bytes × Bytes)) :
    parseQuery (join [38] (ps.map fun p => encodePair p.1 p.2)) = some ps := by
  induction ps with
  | nil => simp [join, parseQuery_nil]
  | cons p ps ih =>
    cases ps with
    | nil => simp [join, parseQuery_single]
    | cons q qs =>
      have e : join [38] (List.map (fun p => encodePair p.1 p.2) (p :: q :: qs)) =
          encodePair p.1 p.2 ++ 38 :: join [38] (List.map (fun p => encodePair p.1 p.2) (q :: qs)) := by
        simp [join]
      rw [e, parseQuery_append, parseQuery_single, ih]
      rfl

end Req.Query
