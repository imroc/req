import Req.Lemmas.C02Chunked
import Req.Lemmas.TrimBy
/-!
The chunk-size line Go's own chunked writer produces (`fmt.Fprintf(w, "%x\r\n", len(data))`)
is one the reader maps back to the chunk length: `WChunk.OK` holds for it.  This is the hex round
trip for the chunked reader of `Req.C02.H1Body`; the one for `Req.H1.parseHexUint` (C04's reader) is
in `Lemmas/H1Chunk`.
-/
namespace Req.C02
open Req.Proto
open Req.Trim (dropWhile_reverse_pad takeWhile_all)

def hexDigit (d : Nat) : UInt8 := if d < 10 then UInt8.ofNat (48 + d) else UInt8.ofNat (87 + d)

/-- Lower-case hex digits of `n`, most significant first, onto `acc` (`fuel` ≥ digit count). -/
def hexDigitsAux : Nat → Nat → Bytes → Bytes
  | 0, _, acc => acc
  | f + 1, n, acc => if n < 16 then hexDigit n :: acc else hexDigitsAux f (n / 16) (hexDigit (n % 16) :: acc)

/-- `%x` of a number below 16^16. -/
def hexOfNat (n : Nat) : Bytes := hexDigitsAux 16 n []

theorem hexDigitVal_hexDigit : ∀ d < 16, hexDigitVal (hexDigit d) = some d := by decide

theorem hexDigit_ne_delims : ∀ d < 16,
    hexDigit d ≠ 10 ∧ hexDigit d ≠ 59 ∧ isASCIISpace (hexDigit d) = false := by decide

/-- `HexOf ds n`: `ds` is a non-empty string of lower-case hex digits with value `n`, most
significant first; leading zeros are allowed. -/
inductive HexOf : Bytes → Nat → Prop
  | one {d} : d < 16 → HexOf [hexDigit d] d
  | snoc {ds m d} : HexOf ds m → d < 16 → HexOf (ds ++ [hexDigit d]) (m * 16 + d)

theorem hexDigitsAux_spec (f n : Nat) (acc : Bytes) (hf : 0 < f) (hn : n < 16 ^ f) :
    ∃ ds, hexDigitsAux f n acc = ds ++ acc ∧ HexOf ds n ∧ ds.length ≤ f := by
  induction f generalizing n acc with
  | zero => exact absurd hf (Nat.lt_irrefl 0)
  | succ f ih =>
    rw [hexDigitsAux]
    by_cases h : n < 16
    · rw [if_pos h]
      exact ⟨[hexDigit n], rfl, .one h, Nat.le_add_left 1 f⟩
    · rw [if_neg h]
      obtain ⟨ds, he, hd, hl⟩ := ih (n / 16) (hexDigit (n % 16) :: acc)
        (Nat.pos_of_ne_zero fun e => h (by subst e; exact hn))
        (Nat.div_lt_of_lt_mul (by rwa [Nat.pow_succ, Nat.mul_comm] at hn))
      refine ⟨ds ++ [hexDigit (n % 16)], by rw [he, List.append_assoc]; rfl, ?_,
        by rw [List.length_append]; exact Nat.succ_le_succ hl⟩
      have := hd.snoc (Nat.mod_lt n (by decide : 0 < 16))
      rwa [Nat.div_add_mod'] at this

theorem HexOf.ne_nil {ds : Bytes} {n : Nat} (h : HexOf ds n) : ds ≠ [] := by
  cases h with
  | one => exact List.cons_ne_nil _ _
  | snoc => exact List.append_ne_nil_of_right_ne_nil _ (List.cons_ne_nil _ _)

theorem HexOf.byte {ds : Bytes} {n : Nat} (h : HexOf ds n) :
    ∀ b ∈ ds, b ≠ 10 ∧ b ≠ 59 ∧ isASCIISpace b = false := by
  induction h with
  | one hd => exact fun b hb => List.mem_singleton.mp hb ▸ hexDigit_ne_delims _ hd
  | snoc _ hd ih =>
    intro b hb
    rcases List.mem_append.mp hb with hb | hb
    · exact ih b hb
    · exact List.mem_singleton.mp hb ▸ hexDigit_ne_delims _ hd

theorem parseHexGo_hexDigit {d i : Nat} (hd : d < 16) (hi : i ≠ 16) (rest : Bytes) (a : Nat) :
    parseHexGo (hexDigit d :: rest) i a = parseHexGo rest (i + 1) (a * 16 + d) := by
  simp only [parseHexGo, hexDigitVal_hexDigit d hd, if_neg hi]

theorem HexOf.parse {ds : Bytes} {n : Nat} (h : HexOf ds n) (hl : ds.length ≤ 16) (rest : Bytes) :
    parseHexGo (ds ++ rest) 0 0 = parseHexGo rest ds.length n := by
  induction h generalizing rest with
  | one hd => simpa using parseHexGo_hexDigit hd (by decide) rest 0
  | snoc _ hd ih =>
    rw [List.length_append] at hl ⊢
    rw [List.append_assoc, ih (by omega)]
    exact parseHexGo_hexDigit hd (by simp at hl; omega) rest _

theorem HexOf.sizeOfLine {ds : Bytes} {n : Nat} (h : HexOf ds n) (hl : ds.length ≤ 16) :
    sizeOfLine (ds ++ [13]) = .ok n := by
  have htrim : trimTrailingWhitespace (ds ++ [13] ++ [10]) = ds := by
    rw [List.append_assoc]
    exact dropWhile_reverse_pad (by decide) fun a ha => (h.byte a (List.mem_of_getLast? ha)).2.2
  have hext : ds.takeWhile (· != 59) = ds := takeWhile_all fun b hb => bne_iff_ne.mpr (h.byte b hb).2.1
  rw [Req.C02.sizeOfLine, htrim, removeChunkExtension, hext, parseHexUint, if_neg (by simpa using h.ne_nil)]
  simpa [parseHexGo] using h.parse hl []

theorem hexOfNat_spec (n : Nat) (hn : n < 16 ^ 16) : HexOf (hexOfNat n) n ∧ (hexOfNat n).length ≤ 16 := by
  obtain ⟨ds, he, hd, hl⟩ := hexDigitsAux_spec 16 n [] (by decide) hn
  rw [hexOfNat, he, List.append_nil]
  exact ⟨hd, hl⟩

/-- A chunk written the way Go's chunked writer writes it is well-formed for the reader, for any
buffer that holds the longest size line (16 digits, CR, LF; `bufio`'s minimum size is 16, the default 4096). -/
theorem wchunk_ok_canonical (cap : Nat) (hcap : 18 ≤ cap) (data : Bytes) (hd : data ≠ [])
    (hlen : data.length < 16 ^ 16) : WChunk.OK cap ⟨hexOfNat data.length ++ [13], data⟩ := by
  obtain ⟨hx, hl⟩ := hexOfNat_spec data.length hlen
  have hl' : (hexOfNat data.length ++ [13]).length + 1 ≤ 18 := by
    rw [List.length_append]
    exact Nat.add_le_add_right (Nat.add_le_add_right hl 1) 1
  refine ⟨fun hmem => ?_, hd, hx.sizeOfLine hl, Nat.lt_of_le_of_lt hl' (by decide), Nat.le_trans hl' hcap⟩
  · rcases List.mem_append.mp hmem with h | h
    · exact (hx.byte _ h).1 rfl
    · exact absurd h (by decide)

theorem lastOK_canonical (cap : Nat) (hcap : 3 ≤ cap) : LastOK cap [48, 13] := by
  exact ⟨by decide, rfl, by decide, hcap⟩

/-- A chunk as Go's `chunkedWriter.Write` emits it. -/
def canonChunk (d : Bytes) : WChunk := ⟨hexOfNat d.length ++ [13], d⟩

/-- The chunked encoding Go's writer produces for the chunk list `ds`, the last-chunk line
`0\r\n`, then `tail`. -/
def canonWire (ds : List Bytes) (tail : Bytes) : Bytes :=
  (ds.map fun d => hexOfNat d.length ++ [13, 10] ++ d ++ [13, 10]).flatten ++ [48, 13, 10] ++ tail

theorem canonWire_eq (ds : List Bytes) (tail : Bytes) :
    canonWire ds tail = wireFrom (ds.map canonChunk) [48, 13] tail := by
  have h : (fun d => hexOfNat d.length ++ [13, 10] ++ d ++ [13, 10]) = WChunk.wire ∘ canonChunk :=
    funext fun d => by simp [canonChunk, WChunk.wire]
  rw [canonWire, wireFrom, List.map_map, h, List.append_assoc]
  rfl

theorem dataOf_canon (ds : List Bytes) : dataOf (ds.map canonChunk) = ds.flatten := by
  induction ds with
  | nil => rfl
  | cons d ds ih =>
    simp only [dataOf, List.map_cons, List.flatten_cons] at ih ⊢
    rw [ih]
    rfl

theorem canon_ok (cap : Nat) (hcap : 18 ≤ cap) (ds : List Bytes)
    (h : ∀ d ∈ ds, d ≠ [] ∧ d.length < 16 ^ 16) : ∀ c ∈ ds.map canonChunk, c.OK cap := by
  intro c hc
  simp only [List.mem_map] at hc
  obtain ⟨d, hd, rfl⟩ := hc
  exact wchunk_ok_canonical cap hcap d (h d hd).1 (h d hd).2

end Req.C02
