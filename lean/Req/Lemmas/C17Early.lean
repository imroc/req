import Req.Client.EarlyResponse
/-!
The automaton `Req.EarlyResponse` in its own vocabulary. `step` is three machines side by side: the
observer `see`, the latches `stopped` (`releases` of what was seen) and `failed`, and the body writer
(`sent`, `credit`, `endSent`; reads `stopped`). One equation per field (`step_*`), their closed forms
along `run`, the writer invariant `Inv`, `pump`, and `released` over a prefix of interim blocks. What
mentions `countInterim` / `OpenStream` stands next to them in `Req.Props.C17Early`.
-/
namespace Req.Lemmas.C17Early
open Req.EarlyResponse

theorem step_total (p : Proto) (s : St) (e : Ev) : (step p s e).total = s.total := by
  cases e <;> simp only [step] <;> (repeat' split) <;> rfl

theorem step_seen (p : Proto) (s : St) (e : Ev) : (step p s e).seen = see s.seen e := by
  cases e <;> simp only [step] <;> (repeat' split) <;> rfl

theorem step_stopped (p : Proto) (s : St) (e : Ev) :
    (step p s e).stopped = (s.stopped || releases p s.seen e) := by
  cases e <;> simp only [step, releases]
  -- `interim`, `headers`, `giveUp`: `if g then stop else stay`, where `g` is the clause of `releases`
  -- for that event word for word; `stop` always stops; `data`, `credit`, `write` leave `stopped` alone
  case interim | headers | giveUp => split <;> simp [*]
  case write => split <;> simp
  all_goals simp

theorem step_failed (p : Proto) (s : St) (e : Ev) :
    (step p s e).failed = (s.failed || (s.seen.resp.isNone && match e with
      | .interim _ => decide (maxInterim ≤ s.seen.interims)
      | .stop => true
      | _ => false)) := by
  cases e with
  | interim c =>
    simp only [step]
    cases (s.seen.resp.isNone && decide (maxInterim ≤ s.seen.interims)) <;> simp
  | _ => simp only [step] <;> (try split) <;> simp

theorem see_resp_some (o : Seen) (e : Ev) (r : Resp) (h : o.resp = some r) :
    ∃ r', (see o e).resp = some r' ∧ r'.status = r.status := by
  cases e <;> simp [see, h]

theorem see_resp_none (o : Seen) (e : Ev) (h : o.resp = none) (he : ∀ s d f, e ≠ .headers s d f) :
    (see o e).resp = none := by
  cases e <;> simp_all [see]

theorem step_sent (p : Proto) (s : St) (e : Ev) (h : s.sent ≤ s.total) :
    s.sent ≤ (step p s e).sent ∧ (step p s e).sent ≤ s.total := by
  cases e <;> simp only [step] <;> (repeat' split) <;> simp <;> omega

theorem step_end (p : Proto) (s : St) (e : Ev) (h : s.endSent = decide (s.sent = s.total)) :
    (step p s e).endSent = decide ((step p s e).sent = (step p s e).total) := by
  cases e <;> simp only [step] <;> (repeat' split) <;> first | exact h | simp_all

theorem run_append (p : Proto) (s : St) (a b : List Ev) :
    run p s (a ++ b) = run p (run p s a) b := by
  induction a generalizing s with
  | nil => rfl
  | cons e es ih => simp [run, ih]

theorem run_total (p : Proto) (s : St) (evs : List Ev) : (run p s evs).total = s.total := by
  induction evs generalizing s with
  | nil => rfl
  | cons e es ih => simp [run, ih, step_total]

theorem run_seen (p : Proto) (s : St) (evs : List Ev) :
    (run p s evs).seen = evs.foldl see s.seen := by
  induction evs generalizing s with
  | nil => rfl
  | cons e es ih => simp [run, ih, step_seen]

theorem run_stopped (p : Proto) (s : St) (evs : List Ev) :
    (run p s evs).stopped = (s.stopped || released p s.seen evs) := by
  induction evs generalizing s with
  | nil => simp [run, released]
  | cons e es ih => simp [run, released, ih, step_stopped, step_seen, Bool.or_assoc]

/-- writer invariant: never more than the body; END_STREAM has gone out exactly when the last
byte has -/
structure Inv (s : St) : Prop where
  le : s.sent ≤ s.total
  fin : s.endSent = decide (s.sent = s.total)

theorem inv_init (t : Nat) : Inv (init t) :=
  ⟨Nat.zero_le _, by cases t <;> rfl⟩

theorem inv_step (p : Proto) (s : St) (e : Ev) (h : Inv s) : Inv (step p s e) := by
  constructor
  · have := step_sent p s e h.le; rw [step_total]; exact this.2
  · exact step_end p s e h.fin

theorem inv_run (p : Proto) (s : St) (evs : List Ev) (h : Inv s) : Inv (run p s evs) := by
  induction evs generalizing s with
  | nil => exact h
  | cons e es ih => exact ih _ (inv_step p s e h)

theorem run_sent_mono (p : Proto) (s : St) (evs : List Ev) (h : Inv s) :
    s.sent ≤ (run p s evs).sent := by
  induction evs generalizing s with
  | nil => exact Nat.le_refl _
  | cons e es ih =>
    exact Nat.le_trans (step_sent p s e h.le).1 (ih _ (inv_step p s e h))

/-- one round "credit `c`, write turn `c`" of a writer that was not told to stop -/
theorem step_credit_write (p : Proto) (c : Nat) (s : St) (h : Inv s) (hs : s.stopped = false) :
    let s' := step p (step p s (.credit c)) (.write c)
    s'.stopped = false ∧ s'.total = s.total ∧ s'.seen = s.seen ∧
    s'.sent = min s.total (s.sent + c) := by
  have hle := h.le
  have hfin := h.fin
  cases he : s.endSent
  · simp [step, see, hs, he]
    omega
  · have : s.sent = s.total := by simpa [he] using hfin.symm
    simp [step, see, hs, he, this]

theorem pump_spec (p : Proto) (c k : Nat) (s : St) (h : Inv s) (hs : s.stopped = false) :
    (pump p c k s).stopped = false ∧ (pump p c k s).total = s.total ∧
    (pump p c k s).seen = s.seen ∧
    (pump p c k s).sent = min s.total (s.sent + k * c) := by
  induction k generalizing s with
  | zero => simp [pump, hs]; exact (Nat.min_eq_right h.le).symm
  | succ k ih =>
    have r := step_credit_write p c s h hs
    simp only at r
    obtain ⟨r1, r2, r3, r4⟩ := r
    have hi : Inv (step p (step p s (.credit c)) (.write c)) := inv_step _ _ _ (inv_step _ _ _ h)
    obtain ⟨i1, i2, i3, i4⟩ := ih _ hi r1
    simp only [pump]
    refine ⟨i1, by rw [i2, r2], by rw [i3, r3], ?_⟩
    rw [i4, r2, r4, Nat.succ_mul]; omega

theorem inv_pump (p : Proto) (c k : Nat) (s : St) (h : Inv s) : Inv (pump p c k s) := by
  induction k generalizing s with
  | zero => exact h
  | succ k ih => exact ih _ (inv_step _ _ _ (inv_step _ _ _ h))

theorem kept_after_final (p : Proto) (s : St) (r : Resp) (evs : List Ev)
    (hf : s.failed = false) (hr : s.seen.resp = some r) :
    (run p s evs).failed = false ∧
      ∃ r', (run p s evs).seen.resp = some r' ∧ r'.status = r.status := by
  induction evs generalizing s r with
  | nil => exact ⟨hf, r, hr, rfl⟩
  | cons e es ih =>
    obtain ⟨r', h2, h3⟩ := see_resp_some s.seen e r hr
    rw [← step_seen p] at h2
    obtain ⟨i1, r'', i2, i3⟩ := ih (step p s e) r' (by simp [step_failed, hf, hr]) h2
    exact ⟨i1, r'', i2, i3.trans h3⟩

theorem released_interims (p : Proto) (k : Nat) (l : List Nat) (rest : List Ev) :
    released p ⟨none, k⟩ (l.map Ev.interim ++ rest) =
      (decide (l ≠ [] ∧ maxInterim < k + l.length) || released p ⟨none, k + l.length⟩ rest) := by
  induction l generalizing k with
  | nil => simp
  | cons x xs ih =>
    simp only [List.map_cons, List.cons_append, released, releases, see, Option.isNone_none,
      Bool.true_and, List.length_cons, if_true]
    rw [ih]
    have e1 : k + 1 + xs.length = k + (xs.length + 1) := by omega
    rw [e1]
    cases xs with
    | nil => by_cases h : maxInterim ≤ k <;> simp [h] <;> omega
    | cons y ys =>
      simp only [List.length_cons, ne_eq, reduceCtorEq, not_false_eq_true, true_and]
      by_cases h : maxInterim ≤ k <;> simp [h] <;> omega

end Req.Lemmas.C17Early
