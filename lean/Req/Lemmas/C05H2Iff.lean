import Req.H2.FrameRfc
import Req.Lemmas.C05H2
/-!
The typed parsers of `internal/http2/frame.go` return exactly the verdict of RFC 9113 §6
(`Req.H2.Frame.Rfc.verdict`): one lemma per frame type, the dispatch, and the error classes of the
parsers read off the verdict.
-/
namespace Req.Lemmas.C05.H2Iff
open Req.Proto Req.H2.Frame Req.H2.Frame.Rfc

theorem ofResult_ite (c : Prop) [Decidable c] (a b : Except RErr Frame) :
    ofResult (if c then a else b) = if c then ofResult a else ofResult b := by
  split <;> rfl
theorem ofResult_ok (f : Frame) : ofResult (.ok f) = .accept := rfl
theorem ofResult_error (e : RErr) : ofResult (.error e) = .reject e := rfl

theorem data_verdict (fh : FrameHeader) (p : Bytes) : ofResult (parseData fh p) = Rfc.data fh p := by
  unfold parseData Rfc.data padLen padded
  by_cases h0 : fh.streamID = 0
  · rw [if_pos h0, if_pos h0]; rfl
  rw [if_neg h0, if_neg h0]
  cases hasFlag fh.flags flagPadded
  · rfl
  · cases p with
    | nil => rfl
    | cons a r =>
      simp only [ofResult_ite, ofResult_ok, ofResult_error, connProtocol, List.length_cons,
        List.headD_cons, true_and, if_true, Nat.succ_ne_zero, if_false, gt_iff_lt, ge_iff_le]
      rfl

theorem headers_verdict (fh : FrameHeader) (p : Bytes) :
    ofResult (parseHeaders fh p) = Rfc.headers fh p := by
  unfold parseHeaders Rfc.headers
  by_cases h0 : fh.streamID = 0
  · rw [if_pos h0, if_pos h0]; rfl
  rw [if_neg h0, if_neg h0, H2.takePad_eq]
  unfold fixedHeaders padLen padded hasPrio
  generalize hasFlag fh.flags flagPadded = pd
  generalize hasFlag fh.flags flagPriority = pr
  by_cases h1 : p.length < b2n pd 1
  · rw [if_pos h1, if_pos (by omega)]; rfl
  rw [if_neg h1]; simp only []
  by_cases h2 : p.length < b2n pd 1 + b2n pr 5
  · rw [H2.takePrio_short (by rw [List.length_drop]; omega), if_pos h2]; rfl
  obtain ⟨prio, hp⟩ := H2.takePrio_ok (pr := pr) (p := p.drop (b2n pd 1)) (by rw [List.length_drop]; omega)
  rw [hp, if_neg h2]
  simp only [List.length_drop, ofResult_ite, ofResult_ok, ofResult_error, Nat.sub_sub]

theorem priority_verdict (fh : FrameHeader) (p : Bytes) :
    ofResult (parsePriority fh p) = Rfc.priority fh p := by
  rcases p with _ | ⟨a, _ | ⟨b, _ | ⟨c, _ | ⟨d, _ | ⟨w, _ | ⟨x, r⟩⟩⟩⟩⟩⟩ <;>
    by_cases h0 : fh.streamID = 0 <;>
    simp [parsePriority, Rfc.priority, ofResult, connFrameSize, connProtocol, h0]

theorem rstStream_verdict (fh : FrameHeader) (p : Bytes) :
    ofResult (parseRSTStream fh p) = Rfc.rstStream fh p := by
  rcases p with _ | ⟨a, _ | ⟨b, _ | ⟨c, _ | ⟨d, _ | ⟨x, r⟩⟩⟩⟩⟩ <;>
    by_cases h0 : fh.streamID = 0 <;>
    simp [parseRSTStream, Rfc.rstStream, ofResult, connFrameSize, connProtocol, h0]

theorem settings_verdict (fh : FrameHeader) (p : Bytes) (hl : fh.length = p.length) :
    ofResult (parseSettings fh p) = Rfc.settings fh p := by
  unfold parseSettings Rfc.settings isAck initialWindowTooLarge
  rw [hl]
  by_cases h1 : hasFlag fh.flags flagAck = true ∧ p.length > 0
  · simp [h1, ofResult, connFrameSize]
  · simp only [h1, ↓reduceIte]
    by_cases h2 : fh.streamID ≠ 0
    · simp [h2, ofResult, connProtocol]
    · simp only [h2, ↓reduceIte]
      by_cases h3 : p.length % 6 ≠ 0
      · simp [h3, ofResult, connFrameSize]
      · simp only [h3, ↓reduceIte]
        cases hv : settingsValue (decodeSettings p) 4 with
        | none => simp [ofResult]
        | some v =>
          simp only
          by_cases h4 : v > two31 - 1
          · have : v > 2147483647 := h4
            simp [this, ofResult]
          · have : ¬ v > 2147483647 := h4
            simp [this, ofResult]

theorem pushPromise_verdict (fh : FrameHeader) (p : Bytes) :
    ofResult (parsePushPromise fh p) = Rfc.pushPromise fh p := by
  unfold parsePushPromise Rfc.pushPromise
  by_cases h0 : fh.streamID = 0
  · rw [if_pos h0, if_pos h0]; rfl
  rw [if_neg h0, if_neg h0, H2.takePad_eq]
  unfold fixedPushPromise padLen padded
  generalize hasFlag fh.flags flagPadded = pd
  by_cases h1 : p.length < b2n pd 1
  · rw [if_pos h1, if_pos (show p.length < b2n pd 1 + 4 by omega)]; rfl
  rw [if_neg h1]; simp only []
  have hl : (p.drop (b2n pd 1)).length = p.length - b2n pd 1 := List.length_drop
  generalize p.drop (b2n pd 1) = q at hl ⊢
  rcases q with _ | ⟨a, _ | ⟨b, _ | ⟨c, _ | ⟨d, r⟩⟩⟩⟩ <;>
    simp only [List.length_cons, List.length_nil] at hl
  case cons.cons.cons.cons =>
    rw [if_neg (show ¬ p.length < b2n pd 1 + 4 by omega)]
    simp only [ofResult_ite, ofResult_ok, ofResult_error, connProtocol, gt_iff_lt,
      show p.length - (b2n pd 1 + 4) = r.length by omega]
  all_goals rw [if_pos (show p.length < b2n pd 1 + 4 by omega)]; rfl

theorem ping_verdict (fh : FrameHeader) (p : Bytes) : ofResult (parsePing fh p) = Rfc.ping fh p := by
  by_cases h1 : p.length = 8 <;> by_cases h0 : fh.streamID = 0 <;>
    simp [parsePing, Rfc.ping, ofResult, connFrameSize, connProtocol, h0, h1]

theorem goAway_verdict (fh : FrameHeader) (p : Bytes) :
    ofResult (parseGoAway fh p) = Rfc.goAway fh p := by
  rcases p with _ | ⟨a, _ | ⟨b, _ | ⟨c, _ | ⟨d, _ | ⟨e, _ | ⟨f, _ | ⟨g, _ | ⟨h, r⟩⟩⟩⟩⟩⟩⟩⟩ <;>
    by_cases h0 : fh.streamID = 0 <;>
    simp [parseGoAway, Rfc.goAway, ofResult, connFrameSize, connProtocol, h0]

/-- the last step of `windowUpdate_verdict`, over a variable `v` for `rd32 a b c d % two31`: done in
place, the kernel runs `Nat.decEq` on the open `%` term and does not come back. -/
theorem wu_aux (fh : FrameHeader) (v n : Nat) (hn : n = 4) :
    ofResult
        (if v = 0 then
          if fh.streamID = 0 then Except.error (RErr.conn errProtocol)
          else Except.error (RErr.stream fh.streamID errProtocol)
        else Except.ok (Frame.windowUpdate fh v)) =
      if n ≠ 4 then connFrameSize
      else
        if v = 0 then
          if fh.streamID = 0 then connProtocol else Verdict.reject (RErr.stream fh.streamID errProtocol)
        else Verdict.accept := by
  by_cases hz : v = 0 <;> by_cases h0 : fh.streamID = 0 <;>
    simp [hn, hz, h0, ofResult, connProtocol]

theorem windowUpdate_verdict (fh : FrameHeader) (p : Bytes) :
    ofResult (parseWindowUpdate fh p) = Rfc.windowUpdate fh p := by
  rcases p with _ | ⟨a, _ | ⟨b, _ | ⟨c, _ | ⟨d, _ | ⟨x, r⟩⟩⟩⟩⟩
  case cons.cons.cons.cons.nil =>
    have e2 : word0 [a, b, c, d] = rd32 a b c d := by simp [word0]
    simp only [parseWindowUpdate, Rfc.windowUpdate, e2, List.length_cons, List.length_nil]
    exact wu_aux fh _ _ rfl
  all_goals simp [parseWindowUpdate, Rfc.windowUpdate, ofResult, connFrameSize]

theorem continuation_verdict (fh : FrameHeader) (p : Bytes) :
    ofResult (parseContinuation fh p) = Rfc.continuation fh p := by
  by_cases h0 : fh.streamID = 0 <;>
    simp [parseContinuation, Rfc.continuation, ofResult, connProtocol, h0]

/-- The typed parsers implement the RFC 9113 §6 verdict. Only the SETTINGS parser reads
`fh.length`. -/
theorem parse_verdict_of (fh : FrameHeader) (p : Bytes)
    (hl : fh.type = tSettings → fh.length = p.length) :
    ofResult (parsePayload fh p) = verdict fh p := by
  by_cases hs : fh.type = tSettings
  · have hv : verdict fh p = Rfc.settings fh p := by unfold verdict; rw [hs]; rfl
    rw [H2.parsePayload_settings hs, hv, settings_verdict fh p (hl hs)]
  · simp only [parsePayload, verdict, ofResult_ite, ofResult_ok, if_neg hs, data_verdict,
      headers_verdict, priority_verdict, rstStream_verdict, pushPromise_verdict, ping_verdict,
      goAway_verdict, windowUpdate_verdict, continuation_verdict]

theorem parse_verdict (fh : FrameHeader) (p : Bytes) (hl : fh.length = p.length) :
    ofResult (parsePayload fh p) = verdict fh p :=
  parse_verdict_of fh p fun _ => hl

theorem ofResult_accept (r : Except RErr Frame) : ofResult r = .accept ↔ ∃ f, r = .ok f := by
  cases r <;> simp [ofResult]

theorem ofResult_reject (r : Except RErr Frame) (e : RErr) : ofResult r = .reject e ↔ r = .error e := by
  cases r <;> simp [ofResult]

theorem accept_iff_of_verdict {r : Except RErr Frame} {v : Verdict} (h : ofResult r = v) :
    (∃ f, r = .ok f) ↔ v = .accept := by rw [← h, ofResult_accept]
theorem reject_iff_of_verdict {r : Except RErr Frame} {v : Verdict} (h : ofResult r = v) (e : RErr) :
    r = .error e ↔ v = .reject e := by rw [← h, ofResult_reject]

/-- every rejection `v` may stand for lies in the error classes of a frame with header `fh`. -/
def Fits (fh : FrameHeader) (v : Verdict) : Prop := ∀ e, v = .reject e → ErrClass fh e

section fits
variable {fh : FrameHeader} {p : Bytes}

theorem Fits.ite {c : Prop} [Decidable c] {a b : Verdict} (ha : c → Fits fh a) (hb : ¬c → Fits fh b) :
    Fits fh (if c then a else b) :=
  iteInduction ha hb

theorem Fits.accept : Fits fh .accept := fun _ h => nomatch h
theorem Fits.reject {e : RErr} (h : ErrClass fh e) : Fits fh (.reject e) := fun _ h' => by
  cases h'; exact h
theorem Fits.protocol : Fits fh connProtocol := .reject (.inl rfl)
theorem Fits.frameSize : Fits fh connFrameSize := .reject (.inr (.inl rfl))
theorem Fits.flowControl (ht : fh.type = tSettings) : Fits fh (.reject (.conn errFlowControl)) :=
  .reject (.inr (.inr (.inl ⟨rfl, ht⟩)))
theorem Fits.stream (h0 : fh.streamID ≠ 0) (ht : fh.type = tHeaders ∨ fh.type = tWindowUpdate) :
    Fits fh (.reject (.stream fh.streamID errProtocol)) :=
  .reject (.inr (.inr (.inr (.inl ⟨rfl, h0, ht⟩))))
theorem Fits.eof (ht : fh.type = tData ∨ fh.type = tHeaders ∨ fh.type = tPushPromise) :
    Fits fh (.reject .unexpectedEOF) :=
  .reject (.inr (.inr (.inr (.inr ⟨rfl, ht⟩))))

/-- Every rejection RFC 9113 §6 prescribes lies in the error classes of the frame's type: the term
follows `verdict` and the per-type verdicts branch by branch. -/
theorem fits_verdict : Fits fh (verdict fh p) := by
  unfold verdict Rfc.data Rfc.headers Rfc.priority Rfc.rstStream Rfc.settings Rfc.pushPromise Rfc.ping
    Rfc.goAway Rfc.windowUpdate Rfc.continuation
  exact
    -- DATA
    .ite (fun ht => .ite (fun _ => .protocol) fun _ => .ite (fun _ => .eof (.inl ht)) fun _ =>
      .ite (fun _ => .protocol) fun _ => .accept) fun _ =>
    -- HEADERS
    .ite (fun ht => .ite (fun _ => .protocol) fun h0 => .ite (fun _ => .eof (.inr (.inl ht))) fun _ =>
      .ite (fun _ => .stream h0 (.inl ht)) fun _ => .accept) fun _ =>
    -- PRIORITY
    .ite (fun _ => .ite (fun _ => .protocol) fun _ => .ite (fun _ => .frameSize) fun _ => .accept) fun _ =>
    -- RST_STREAM
    .ite (fun _ => .ite (fun _ => .frameSize) fun _ => .ite (fun _ => .protocol) fun _ => .accept) fun _ =>
    -- SETTINGS
    .ite (fun ht => .ite (fun _ => .frameSize) fun _ => .ite (fun _ => .protocol) fun _ =>
      .ite (fun _ => .frameSize) fun _ => .ite (fun _ => .flowControl ht) fun _ => .accept) fun _ =>
    -- PUSH_PROMISE
    .ite (fun ht => .ite (fun _ => .protocol) fun _ => .ite (fun _ => .eof (.inr (.inr ht))) fun _ =>
      .ite (fun _ => .protocol) fun _ => .accept) fun _ =>
    -- PING
    .ite (fun _ => .ite (fun _ => .frameSize) fun _ => .ite (fun _ => .protocol) fun _ => .accept) fun _ =>
    -- GOAWAY
    .ite (fun _ => .ite (fun _ => .protocol) fun _ => .ite (fun _ => .frameSize) fun _ => .accept) fun _ =>
    -- WINDOW_UPDATE
    .ite (fun ht => .ite (fun _ => .frameSize) fun _ =>
      .ite (fun _ => .ite (fun _ => .protocol) fun h0 => .stream h0 (.inr ht)) fun _ => .accept) fun _ =>
    -- CONTINUATION
    .ite (fun _ => .ite (fun _ => .protocol) fun _ => .accept) fun _ => .accept

end fits

end Req.Lemmas.C05.H2Iff
