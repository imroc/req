import Req.Client.RetryObs
import Req.Lemmas.C10Dyn
/-! The retry loop under observation (`Req.RetryObs`): observers that do not call back leave it as it is, and the
interval function is called as often as the attempt counter moves. -/
namespace Req.Lemmas.C10Obs
open Req.Retry Req.RetryDyn Req.RetryObs Req.Lemmas.C10Loop Req.Lemmas.C10Dyn

variable {σ W : Type}

theorem logStage_unperturbed (obs : Observers) (im : ObsImpl) (h : perturbs obs im = false) (ed : Edits) (ra : Nat)
    (view : RespView) (ev : List (Event W)) (d3 : Dyn) : logStage obs im ed ra view ev d3 = (ev, d3) := by
  simp [logStage, h]

theorem oditeration_unperturbed (obs : Observers) (im : ObsImpl) (h : perturbs obs im = false) (v : Variant)
    (p : Policy σ) (ed : Edits) (mw : Nat → σ → σ × W) (su : σ → Bool) (o : Outcome) (ra : Nat) (st : σ) (d : Dyn)
    (prev : Option Resp) :
    oditeration obs im v p ed mw su o ra st d prev = diteration v p ed mw su o ra st d prev := by
  simp only [oditeration, diteration, oretryStage, retryStage, owaitStage, logStage_unperturbed obs im h]

theorem odloop_unperturbed (obs : Observers) (im : ObsImpl) (h : perturbs obs im = false) (v : Variant)
    (p : Policy σ) (ed : Edits) (mw : Nat → σ → σ × W) (su : σ → Bool) (script : List Outcome) (ra : Nat) (st : σ)
    (d : Dyn) (prev : Option Resp) :
    odloop obs im v p ed mw su script ra st d prev = dloop v p ed mw su script ra st d prev := by
  induction script generalizing ra st d prev with
  | nil => rfl
  | cons o rest ih =>
    simp only [odloop, dloop, oditeration_unperturbed obs im h]
    cases (diteration v p ed mw su o ra st d prev).out with
    | inl fin => rfl
    | inr x => simp only [ih]

theorem odsend_unperturbed (obs : Observers) (im : ObsImpl) (h : perturbs obs im = false) (v : Variant)
    (p : Policy σ) (ed : Edits) (mw : Nat → σ → σ × W) (un : σ → Bool) (script : List Outcome) (ra : Nat) (st : σ)
    (d : Dyn) : odsend obs im v p ed mw un script ra st d = dsend v p ed mw un script ra st d := by
  simp only [odsend, dsend, odloop_unperturbed obs im h]

theorem odresends_unperturbed (obs : Observers) (im : ObsImpl) (h : perturbs obs im = false) (v : Variant)
    (p : Policy σ) (ed : Edits) (mw : Nat → σ → σ × W) (un : σ → Bool) (again : List (List Edit)) (e : End σ) :
    odresends (W := W) obs im v p ed mw un again e = dresends v p ed mw un again e := by
  induction again generalizing e with
  | nil => rfl
  | cons es more ih => simp only [odresends, dresends, odsend_unperturbed obs im h, ih]

theorem odsends_unperturbed (obs : Observers) (im : ObsImpl) (h : perturbs obs im = false) (v : Variant)
    (p : Policy σ) (ed : Edits) (mw : Nat → σ → σ × W) (un : σ → Bool) (again : List (List Edit))
    (script : List Outcome) (ra : Nat) (st : σ) (d : Dyn) :
    odsends obs im v p ed mw un again script ra st d = dsends v p ed mw un again script ra st d := by
  simp only [odsends, dsends, odsend_unperturbed obs im h, odresends_unperturbed obs im h]

theorem intervalCalls_append (a b : List (Event W)) : intervalCalls (a ++ b) = intervalCalls a + intervalCalls b := by
  simp [intervalCalls, List.countP_append]

theorem intervalCalls_quiet {l : List (Event W)} (h : Quiet l) : intervalCalls l = 0 :=
  List.countP_eq_zero.mpr fun e he => by
    rcases h e he with ⟨_, _, rfl⟩ | ⟨_, _, _, rfl⟩ <;> exact Bool.false_ne_true

theorem intervalCalls_hookEvs (p : Policy σ) (ra : Nat) (view : RespView) (err : Option Err) :
    intervalCalls (hookEvs (W := W) p ra view err) = 0 :=
  List.countP_eq_zero.mpr fun e he => by
    obtain ⟨_, _, rfl⟩ := List.mem_map.mp he; exact Bool.false_ne_true

/-- One pass of the unobserved loop: as many interval calls as the counter moved (0 or 1). -/
theorem _root_.Req.Lemmas.C10Dyn.Exit.calls {v : Variant} {p : Policy σ} {ed : Edits} {mw : Nat → σ → σ × W}
    {su : σ → Bool} {o : Outcome} {ra : Nat} {st : σ} {d : Dyn} {prev : Option Resp} {P : Pass σ W}
    (h : Exit v p ed mw su o ra st d prev P) : intervalCalls P.events + ra = P.ra := by
  have hL : intervalCalls ([Event.before ra, .wire ra (mw ra st).2] : List (Event W)) = 0 := rfl
  cases h with
  | before => exact Nat.zero_add _
  | early _ ha _ =>
    have hq := ha ▸ quiet_afterRun v p o ra
    simp only [intervalCalls_append, hL, intervalCalls_quiet hq, Nat.zero_add]
  | condsNo _ ha _ _ _ hc _ =>
    have hq := ha ▸ quiet_afterRun v p o ra
    have hq2 := hc ▸ quiet_askConds (W := W) p ra _ _
    simp only [intervalCalls_append, hL, intervalCalls_quiet hq, intervalCalls_quiet hq2, Nat.zero_add]
  | wait _ ha _ _ _ hc _ hh _ hi _ _ =>
    have hq := ha ▸ quiet_afterRun v p o ra
    have hq2 := hc ▸ quiet_askConds (W := W) p ra _ _
    simp only [intervalCalls_append, hL, intervalCalls_quiet hq, intervalCalls_quiet hq2, ← hh, intervalCalls_hookEvs,
      ← hi, Nat.zero_add]
    exact Nat.add_comm _ _

theorem dloop_calls (v : Variant) (p : Policy σ) (ed : Edits) (mw : Nat → σ → σ × W) (su : σ → Bool)
    (script : List Outcome) (ra : Nat) (st : σ) (d : Dyn) (prev : Option Resp) :
    intervalCalls (dloop v p ed mw su script ra st d prev).1 + ra = (dloop v p ed mw su script ra st d prev).2.2.ra := by
  induction script, ra, st, d, prev using dloop_induct v p ed mw su with
  | nil => exact Nat.zero_add _
  | stop _ _ _ _ _ _ _ _ h _ hl => rw [hl]; exact h.calls
  | cont _ _ _ _ _ _ _ _ h _ hl ih => rw [hl, intervalCalls_append, ← ih, ← h.calls]; omega

end Req.Lemmas.C10Obs
