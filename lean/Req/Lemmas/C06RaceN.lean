import Req.H2.RaceN
import Req.Lemmas.C06Race
/-!
C06 — any number of SETTINGS frames between sizing a DATA frame (admitting a stream) and writing it
(`Req.H2.RaceN`): the race-tolerant reading of the strict peer accepts the history. For a DATA frame the
induction carries, besides the simulation invariant for the books "DATA first, then all the
SETTINGS so far", that the tolerant monitor's grace values for the stream are at least the window
and the frame size in force when the frame was sized (they only ever grow between two DATA
frames of a stream); for a new stream, that the stream limit noted since the last new stream has room
(`ConcRoom`: it only ever grows too).
-/
namespace Req.Lemmas.C06
open Req.H2 Req.H2.Flow Req.H2.Conn Req.H2.Monitor Req.H2.Race

theorem settingsSeq_closed {st : State} (h : st.closed = true) (frames : List (List (Nat × Nat))) :
    settingsSeq st frames = (st, []) := by
  cases frames with
  | nil => rfl
  | cons v r => simp [settingsSeq, h]

/-- `acc` = the settings acknowledged in the window so far, `m` = the strict books when the frame was
sized. Before the first acknowledgement (`acc = []`) the tolerant monitor has noted nothing yet and the
frame is judged as the strict peer judges it; from then on its grace values cover what was in force in
`m` (`Graced`), which is what lets the delayed frame through. -/
theorem race_seq {m m1 : Send} {id len : Nat} {es : Bool} (hm : m.client (.data id len es) = .ok m1) :
    ∀ (frames : List (List (Nat × Nat))) (st : State) (t : Tolerant) (acc : List (Nat × Nat)),
    st.closed = false → t.m = acc.foldl ackSetting m → t.m.pending = [] → t.m.hdrOpen = none →
    SInv (view st) (acc.foldl ackSetting m1) → (acc = [] ∨ Graced m id t) →
    ∃ t', Tolerant.run t ((settingsSeq st frames).2 ++
        (if (settingsSeq st frames).1.closed then [] else [Event.c (.data id len es)])) = .ok t' ∧
      RaceInv (settingsSeq st frames).1 t' := by
  intro frames
  induction frames with
  | nil =>
    intro st t acc hc hA hp hh hi hg
    simp only [settingsSeq, hc, Bool.false_eq_true, if_false, List.nil_append]
    rcases hg with h0 | hg
    · subst h0
      simp only [List.foldl_nil] at hA hi
      exact race_strict (by rw [hA]; exact send_run_single_c hm) hi
    · obtain ⟨t3, ht3, hm3⟩ := tolerant_data_after_ack hm acc hA hg
      exact ⟨t3, by simp only [Tolerant.run, ht3], .of_sinv hm3 hi⟩
  | cons vals rest ih =>
    intro st t acc hc hA hp hh hi hg
    simp only [settingsSeq, hc, Bool.false_eq_true, if_false]
    rcases peerSettings_shape hi vals with ⟨hps, hinv⟩ | ⟨st1, hps, hcl, hval, hi1⟩
    · -- an invalid SETTINGS frame: the connection is torn down, the rest is never processed
      have hclosed : ({ st with closed := true } : State).closed = true := rfl
      simp only [settingsEvents, hps, List.map_nil, settingsSeq_closed hclosed, List.append_nil, if_true]
      refine ⟨{ t with m := t.m.peer (.settings vals) }, rfl, ?_⟩
      simp only [peer_settings_invalid _ hinv]
      exact ⟨hp, hh, fun hx => by simp at hx⟩
    · have hc1 : st1.closed = false := by rw [hcl]; exact hc
      obtain ⟨t2, ht2, ha, hgr, _⟩ := tolerant_settings_ack t hp hh hval
      have hA2 : t2.m = (acc ++ vals).foldl ackSetting m := by rw [ha, hA, List.foldl_append]
      have hi2 : SInv (view st1) ((acc ++ vals).foldl ackSetting m1) := by rw [List.foldl_append]; exact hi1
      obtain ⟨d2, _, _, b3, _, b5⟩ := foldl_ack_shape vals t.m
      have hp2 : t2.m.pending = [] := by rw [ha, b5]; exact hp
      have hh2 : t2.m.hdrOpen = none := by rw [ha, b3]; exact hh
      have hg2 : Graced m id t2 := by
        intro s hs
        rcases hg with h0 | hg
        · -- the first acknowledgement since the frame was sized: what was in force is what is noted
          subst h0
          obtain ⟨w, mf, hfind, hw, hmf, -⟩ := hgr id s (by rw [hA]; exact hs)
          exact ⟨w, mf, hfind, hw, by rw [hA] at hmf; exact hmf⟩
        · obtain ⟨d, a1, -⟩ := foldl_ack_shape acc m
          obtain ⟨w, mf, hfind, -, -, hold⟩ := hgr id (addWin d s) (by rw [hA, a1, findM_map_addWin, hs]; rfl)
          obtain ⟨w0, mf0, h0, hw0, hmf0⟩ := hg s hs
          obtain ⟨h1, h2⟩ := hold _ h0
          exact ⟨w, mf, hfind, Int.le_trans hw0 h1, Nat.le_trans hmf0 h2⟩
      obtain ⟨t', hr', hinv'⟩ := ih st1 t2 (acc ++ vals) hc1 hA2 hp2 hh2 hi2 (Or.inr hg2)
      refine ⟨t', ?_, ?_⟩
      · simp only [settingsEvents, hps, List.map_cons, List.map_nil]
        rw [List.append_assoc, tolerant_run_append _ _ _ _ ht2]
        exact hr'
      · simp only [settingsEvents, hps]
        exact hinv'

theorem race_writeN {st : State} {t : Tolerant} (h : RaceInv st t) (id : Nat) (frames : List (List (Nat × Nat))) :
    ∃ t', Tolerant.run t (nstep st (.writeRacedN id frames)).2 = .ok t' ∧
      RaceInv (nstep st (.writeRacedN id frames)).1 t' := by
  simp only [nstep]
  by_cases hc : st.closed = true
  · rw [if_pos hc]; exact ⟨t, rfl, h⟩
  · rw [if_neg hc]
    have hs := h.sinv (eq_false_of_ne_true hc)
    split
    · exact ⟨t, rfl, h⟩
    · rename_i s hf
      split
      · exact ⟨t, rfl, h⟩
      · rename_i c s' f hw
        obtain ⟨d, ch, last, hl, hse, rfl, rfl, rfl, hd⟩ := writeStep_spec hw
        obtain ⟨m1, hm1, hi1⟩ := sim_data hs hf hl hse ch last hd
        by_cases hc1 : (settle { st with connOut := st.connOut - d }
            { s with out := s.out - d, chunk := ch, sentEnd := last }).closed = true
        · rw [if_pos hc1]
          exact race_strict (send_run_single_c hm1) hi1
        · rw [if_neg hc1]
          exact race_seq hm1 frames _ t [] (eq_false_of_ne_true hc1) rfl h.pending h.hdr hi1 (Or.inl rfl)

/-- the read loop processes and acknowledges the frames of a new stream's race window: room for
the stream, once there, stays (the noted stream limit only grows) -/
theorem open_seq :
    ∀ (more : List (List (Nat × Nat))) (st : State) (t : Tolerant),
    st.closed = false → SInv (view st) t.m → ConcRoom t →
    ∃ t', Tolerant.run t (settingsSeq st more).2 = .ok t' ∧ t'.m.pending = [] ∧ t'.m.hdrOpen = none ∧
      ((settingsSeq st more).1.closed = false → SInv (view (settingsSeq st more).1) t'.m ∧ ConcRoom t') := by
  intro more
  induction more with
  | nil =>
    intro st t hc hi hr
    exact ⟨t, rfl, hi.pending, hi.hdr, fun _ => ⟨hi, hr⟩⟩
  | cons vals rest ih =>
    intro st t hc hi hr
    simp only [settingsSeq, hc, Bool.false_eq_true, if_false]
    rcases peerSettings_shape hi vals with ⟨hps, hinv⟩ | ⟨st1, hps, hcl, hval, hi1⟩
    · have hclosed : ({ st with closed := true } : State).closed = true := rfl
      simp only [settingsEvents, hps, List.map_nil, settingsSeq_closed hclosed, List.append_nil]
      refine ⟨{ t with m := t.m.peer (.settings vals) }, rfl, ?_, ?_, fun hx => by simp at hx⟩
      · simp only [peer_settings_invalid _ hinv]; exact hi.pending
      · simp only [peer_settings_invalid _ hinv]; exact hi.hdr
    · have hc1 : st1.closed = false := by rw [hcl]; exact hc
      obtain ⟨t2, ht2, ha, -, conc, hgc, hge, hgo⟩ := tolerant_settings_ack t hi.pending hi.hdr hval
      have hi2 : SInv (view st1) t2.m := by rw [ha]; exact hi1
      obtain ⟨d, a1, -⟩ := foldl_ack_shape vals t.m
      have hr2 : ConcRoom t2 := by
        refine .inr ⟨conc, hgc, fun k hk => ?_⟩
        rw [ha, a1, openCount_map_addWin]
        rcases hr with hr | ⟨old, hold, hr⟩
        · obtain ⟨j, hj, hjk⟩ := hge k hk
          exact Nat.le_trans (hr j hj) hjk
        · obtain ⟨j, hj, hjk⟩ := hgo old hold k hk
          exact Nat.le_trans (hr j hj) hjk
      obtain ⟨t', hr', hp', hh', hrest⟩ := ih st1 t2 hc1 hi2 hr2
      refine ⟨t', ?_, hp', hh', ?_⟩
      · simp only [settingsEvents, hps, List.map_cons, List.map_nil]
        exact (tolerant_run_append [Event.p (.settings vals), Event.c .settingsAck] _ _ _ ht2).trans hr'
      · simp only [settingsEvents, hps]
        exact hrest

theorem race_openN {st : State} {t : Tolerant} (h : RaceInv st t) (r : Req) (vals : List (Nat × Nat))
    (more : List (List (Nat × Nat))) (hlen : 0 < r.hdrLen) :
    ∃ t', Tolerant.run t (nstep st (.openRacedN r vals more)).2 = .ok t' ∧
      RaceInv (nstep st (.openRacedN r vals more)).1 t' := by
  simp only [nstep]
  by_cases hc : st.closed = true
  · rw [if_pos hc]; exact ⟨t, rfl, h⟩
  · rw [if_neg hc]
    have hc' := eq_false_of_ne_true hc
    have hs := h.sinv hc'
    split
    · exact ⟨t, rfl, h⟩
    · rename_i hadm
      -- admitted: a slot was free under the limit in force now
      have hslot : liveCount st.streams < st.maxConcurrent := by
        simp only [Bool.or_eq_true, Bool.not_eq_true', decide_eq_false_iff_not, not_or, Bool.not_eq_false,
          Decidable.not_not] at hadm
        exact hadm.2
      have hroom : ConcRoom t := .inl fun k hk => by
        have h1 := hs.conc k hk
        have h2 := rels_open_le_live hs.rel
        simp only [view] at h1 h2
        omega
      obtain ⟨t3, hr3, hp3, hh3, hrest⟩ := open_seq (vals :: more) st t hc' hs hroom
      by_cases hcf : (settingsSeq st (vals :: more)).1.closed = true
      · rw [if_pos hcf]
        exact ⟨t3, hr3, hp3, hh3, fun hx => by rw [hcf] at hx; cases hx⟩
      · rw [if_neg hcf]
        obtain ⟨hi3, hroom3⟩ := hrest (eq_false_of_ne_true hcf)
        have hfixes : (settingsSeq st (vals :: more)).1.cfg.fixes = Fixes.all := hi3.fixes
        obtain ⟨t4, ht4, hm4⟩ := theaders_run hi3.hdr (settingsSeq st (vals :: more)).1.nextStreamID r.hdrLen
          (r.known && r.bodyLen == 0) (settingsSeq st (vals :: more)).1.cfg.hdrPrio _
          hi3.maxFrame hi3.frameLo hlen hi3.lastId hi3.odd hroom3
        refine ⟨t4, ?_, ?_⟩
        · rw [tolerant_run_append _ _ _ _ hr3, doOpen_frames hfixes]
          exact ht4
        · exact .of_sinv hm4 (sinv_doOpen hi3 r)

/-! The two-phase machine `Req.H2.Race` is the case of a window with one SETTINGS frame. -/

theorem settingsSeq_single {st : State} (h : st.closed = false) (vals : List (Nat × Nat)) :
    settingsSeq st [vals] = settingsEvents st vals := by
  simp [settingsSeq, h]

theorem nstep_writeRaced (st : State) (id : Nat) (vals : List (Nat × Nat)) :
    nstep st (.r (.writeRaced id vals)) = nstep st (.writeRacedN id [vals]) := by
  simp only [rstep, nstep]
  cases findStream st.streams id with
  | none => rfl
  | some s =>
    simp only
    cases writeStep st.connOut st.maxFrameSize s with
    | none => rfl
    | some x =>
      simp only
      by_cases hc : (settle { st with connOut := x.1 } x.2.1).closed = true
      · simp only [if_pos hc]
      · simp only [if_neg hc, settingsSeq_single (eq_false_of_ne_true hc)]

theorem nstep_openRaced (st : State) (r : Req) (vals : List (Nat × Nat)) :
    nstep st (.r (.openRaced r vals)) = nstep st (.openRacedN r vals []) := by
  simp only [rstep, nstep]
  by_cases hc : st.closed = true
  · rw [if_pos hc, if_pos hc]
  · rw [if_neg hc, if_neg hc, settingsSeq_single (eq_false_of_ne_true hc)]

theorem race_nstep {st : State} {t : Tolerant} (h : RaceInv st t) (op : NOp) (hok : op.ok) :
    ∃ t', Tolerant.run t (nstep st op).2 = .ok t' ∧ RaceInv (nstep st op).1 t' := by
  cases op with
  | r op =>
    cases op with
    | plain op => exact race_plain h op hok
    | writeRaced id vals => rw [nstep_writeRaced]; exact race_writeN h id [vals]
    | openRaced r vals => rw [nstep_openRaced]; exact race_openN h r vals [] hok
  | writeRacedN id frames => exact race_writeN h id frames
  | openRacedN r vals more => exact race_openN h r vals more hok

theorem race_nrunFrom (ops : List NOp) (hok : ∀ op ∈ ops, op.ok) :
    ∀ {st : State} {t t0 : Tolerant} {hist : List Event},
    Tolerant.run t0 hist = .ok t → RaceInv st t →
    ∃ t', Tolerant.run t0 (nrunFrom st hist ops).2 = .ok t' ∧ RaceInv (nrunFrom st hist ops).1 t' := by
  induction ops with
  | nil => intro st t t0 hist hr h; exact ⟨t, hr, h⟩
  | cons op rest ih =>
    intro st t t0 hist hr h
    obtain ⟨t1, h1, h2⟩ := race_nstep h op (hok op List.mem_cons_self)
    have : nrunFrom st hist (op :: rest) = nrunFrom (nstep st op).1 (hist ++ (nstep st op).2) rest := rfl
    rw [this]
    refine ih (fun o ho => hok o (List.mem_cons_of_mem _ ho)) ?_ h2
    rw [tolerant_run_append _ _ _ _ hr]
    exact h1

/-- every history of the refined machine is accepted by the race-tolerant reading, and no SETTINGS
frame is left unacknowledged -/
theorem race_nrun (cfg : Cfg) (hfix : cfg.fixes = Fixes.all) (ops : List NOp) (hops : ∀ op ∈ ops, op.ok) :
    ∃ t, Tolerant.run Tolerant.init (nrun cfg ops).2 = .ok t ∧ t.m.final = .ok () := by
  unfold nrun
  obtain ⟨t0, h0, hm0⟩ := tolerant_run_of_strict ((newConn cfg).2.map Event.c) (t := Tolerant.init)
    (m' := Send.init) (preface_run cfg)
  have hinv : RaceInv (newConn cfg).1 t0 :=
    ⟨by rw [hm0]; rfl, by rw [hm0]; rfl, fun _ => by rw [hm0]; exact sinv_init cfg hfix⟩
  obtain ⟨t, h1, h2⟩ := race_nrunFrom ops hops h0 hinv
  exact ⟨t, h1, by simp [Send.final, h2.pending, h2.hdr]⟩

theorem rrun_eq_nrun (cfg : Cfg) (ops : List ROp) : rrun cfg ops = nrun cfg (ops.map .r) := by
  have : ∀ (st : State) (hist : List Event), rrunFrom st hist ops = nrunFrom st hist (ops.map .r) := by
    induction ops with
    | nil => intro st hist; rfl
    | cons op rest ih => intro st hist; exact ih _ _
  exact this _ _

theorem strict_verdict {h : List Event} (ht : ∃ t, Tolerant.run Tolerant.init h = .ok t ∧ t.m.final = .ok ()) :
    (∃ m, Send.run Send.init h = .ok m ∧ m.final = .ok ()) ∨
    ∃ r, Send.run Send.init h = .error r ∧ raceVerdict r := by
  obtain ⟨t, h1, h2⟩ := ht
  rcases strict_of_tolerant _ h1 with h | ⟨r, h, hr⟩
  · exact Or.inl ⟨t.m, h, h2⟩
  · exact Or.inr ⟨r, h, hr⟩

end Req.Lemmas.C06
