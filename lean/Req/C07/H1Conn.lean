import Req.C07.H1Budget
/-!
C07 (round 5) — the HTTP/1.1 response-header budget over a SEQUENCE of responses on one kept-alive
connection.

`persistConn.readLoop` (transport.go:2702–2852) is one `for alive { … }` loop per connection. The
FIRST statement of the loop body sets `pc.readLimit = pc.maxHeaderResponseSize()` (:2704); the body
phase runs with `readLimit = maxInt64` (:2738). The loop goes round in two ways: the `continue` of
the body-less path (:2781 — HEAD, 204, 304, `Content-Length: 0`, 1xx-terminated) and the fall
through after the caller drained the body (:2850). Both arrive at :2704, so the head of EVERY
response on the connection — whatever preceded it — is read under a fresh limit.

Two models:

* event level (`CEv`, `cstep`, `crun`): the head-phase events of `H1Budget` plus the body-phase
  events (`bodyNet`: `pc.Read` with no limit fills the buffer; `bodyTake`: the body reader consumes
  buffered bytes) and `next` (the loop goes round; `viaContinue` says by which of the two paths —
  the model, like the code, does the same thing on both);
* response level (`Resp`, `verdict`, `connRun`): what the caller of the i-th request on the
  connection gets, as a function of the sizes of the heads the peer sends (lane `h1connseq` compares
  this with the real client over a raw TCP peer).
-/
namespace Req.C07.H1Conn
open Req.C07.H1Budget

/-! ### event level -/

inductive CEv where
  | head (e : Ev)                     -- an event of the head phase
  | bodyNet (want avail : Nat)        -- `pc.Read` in the body phase (`readLimit = maxInt64`)
  | bodyTake (k : Nat)                -- the body reader takes `k` buffered bytes
  | next (viaContinue : Bool)         -- `readLoop` goes round (`continue` at :2781 / end of body at :2852)
  deriving DecidableEq, Repr

/-- the top of the loop body: a fresh limit, whatever is buffered is carried over -/
def rearm (s : St) : St :=
  { L := s.L, B := s.B, limit := s.L, buffered := s.buffered, carry := s.buffered }

def cstep (s : St) : CEv → St
  | .head e => step s e
  | .bodyNet want avail =>
    if s.phase != .accepted then s
    else { s with buffered := s.buffered + min (min want (s.B - s.buffered)) avail }
  | .bodyTake k =>
    if s.phase != .accepted then s
    else { s with buffered := s.buffered - min k s.buffered }
  | .next _ =>
    -- exhausted / tooMany1xx: `readLoop` has returned, the connection is gone
    if s.phase != .accepted then s else rearm s

def crun (s : St) (evs : List CEv) : St := evs.foldl cstep s

/-- a response head is being read. (The number of responses accepted so far is not part of the
state; the events since the last `next` are what the budget is about.) -/
def inHead (s : St) : Bool := s.phase == .head

/-! ### a canonical schedule for one head (refinement of the response level by the event level) -/

/-- one head of exactly `S` bytes delivered to a state with an empty buffer by a peer that sends the
head and then waits (so nothing but head bytes is available): `bufio` fills when its buffer is
empty, the parser takes what is buffered, the blank line ends the head. `fuel` bounds the number of
events (two per socket read). -/
def feed : Nat → St → Nat → St
  | 0, s, _ => s
  | fuel + 1, s, S =>
    if s.phase != .head then s
    else if S ≤ s.headSize then step s (.endHead false)
    else if s.buffered = 0 then feed fuel (step s (.net s.B (S - s.headSize))) S
    else feed fuel (step s (.parse (S - s.headSize))) S

/-! ### response level -/

/-- one response as the peer sends it: the sizes (status line .. blank line) of the non-terminal
1xx heads in front of it and of the final head, whether a body follows, whether it closes. -/
structure Resp where
  interim : List Nat
  final : Nat
  bodiless : Bool
  close : Bool
  deriving DecidableEq, Repr

inductive Out where
  | ok                   -- the final head was accepted
  | tooLarge (pulled : Nat)  -- "server response headers exceeded N bytes; aborted" after `pulled` bytes of that head
  | tooMany              -- "too many 1xx informational responses"
  deriving DecidableEq, Repr

/-- the loop of `readResponse` over the heads the peer sends; `n` = interim heads counted so far.
The number in `tooLarge` is what was taken from the socket for the response when that is determined
(the refused head is the first of the response: exactly `L`), else 0. -/
def verdictGo (L final : Nat) : Nat → List Nat → Out
  | n, [] => if final > L then .tooLarge (if n = 0 then L else 0) else .ok
  | n, h :: rest =>
    if h > L then .tooLarge (if n = 0 then L else 0)
    else if n + 1 > max1xx then .tooMany
    else verdictGo L final (n + 1) rest

/-- `readResponse` on a connection with nothing buffered (`carry = 0`: the peer sends a response
after it has read the request): every head is read under a fresh limit `L`; a head longer than `L`
uses the limit up (exactly `L` bytes are taken from the socket for it); the sixth interim head is
one too many. -/
def verdict (L : Nat) (r : Resp) : Out := verdictGo L r.final 0 r.interim

/-- connection life: index of the connection the i-th response travels on. An error closes the
connection; so does `Connection: close`. The next request dials a new one. -/
def connRun (L : Nat) : Nat → List Resp → List (Out × Nat)
  | _, [] => []
  | c, r :: rest =>
    let o := verdict L r
    let c' := if o == .ok && !r.close then c else c + 1
    (o, c) :: connRun L c' rest

def renderOut : Out × Nat → String
  | (.ok, c) => "ok@" ++ toString c
  | (.tooLarge p, c) => "big@" ++ toString c ++ "/" ++ toString p
  | (.tooMany, c) => "many@" ++ toString c

end Req.C07.H1Conn
