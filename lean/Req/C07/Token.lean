import Req.Base.Ascii
/-!
C07 — table look-ups indexed by a server-chosen byte.

`textproto_reader.go` keeps `isTokenTable` as a `[127]bool` (one entry short of ASCII, as upstream
net/textproto) and `validHeaderFieldByte(b)` guards the index with `int(b) < len(isTokenTable)`.
`validHeaderValueByte` uses a 128-bit mask built from constants and tests `c >= 0x80` first.
Here the table is a list of 127 entries, an out-of-range index is the explicit value `none`
(= Go's index-out-of-range panic), and the guard is part of the model; the theorems in
`Req.Props.C07Opts` (namespace `token`) say the guarded look-up has a value for EVERY byte and
equals the RFC 7230 token predicate used everywhere else in the model.
-/
namespace Req.C07.Token
open Req.Ascii

def tableLen : Nat := 127

/-- `isTokenTable` -/
def table : List Bool := (List.range tableLen).map fun n => isTokenByte (UInt8.ofNat n)

/-- `isTokenTable[b]`: `none` = index out of range (a run-time panic in Go) -/
def index (b : UInt8) : Option Bool := table[b.toNat]?

/-- `validHeaderFieldByte`: the guard `int(b) < len(isTokenTable)` comes first -/
def validHeaderFieldByte (b : UInt8) : Option Bool :=
  if b.toNat < tableLen then index b else some false

/-- `validHeaderValueByte` (textproto_reader.go:441): `c >= 0x80` short-cuts, otherwise a bit test
in a 128-bit mask (two uint64 words; the shift amount is `c & 63`, never out of range). -/
def validHeaderValueByte (c : UInt8) : Bool :=
  128 ≤ c || c == 9 || (32 ≤ c && c ≤ 126)

end Req.C07.Token
