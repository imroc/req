import Req.Client.CompressFormats
import Req.C03.H2Cut
import Req.C03.H3Cut
import Req.H1.Response
/-!
C03 — an ENCODED body (Content-Encoding: gzip / deflate, decoded transparently or under
`EnableAutoDecompress`) behind the framing layer of every protocol.

The decoder is the concrete container model of C14
(`Req.Client.CompressFormats`: RFC 1952 members around RFC 1951 stored blocks read the way
`compress/gzip` / `compress/flate` read them, multistream, CRC-32/ISIZE checked), run on what the
framing layer of the protocol hands to it: the bytes it delivered and HOW ITS BODY ENDED — a clean
`io.EOF` or the framing error (`io.ErrUnexpectedEOF` short of the declared length, the over-long
error, the stream reset, the lost connection).  Where the decoder sits relative to the length
accounting is the whole point: `internal/http2/transport.go handleResponse`,
`internal/http3/http_stream.go ReadResponse` and `transport.go readLoop` wrap the
LENGTH-ENFORCING body, so the source of the decoder ends with an error whenever the message is
incomplete or over-long — also exactly between two gzip members, also before the first byte.
-/
namespace Req.C03
open Req.Proto Req.Compress Req.Compress.Fmt Req.H1 Req.C02

inductive Enc
  | gzip
  | deflate
deriving Repr, BEq, DecidableEq

/-- The framing error as the decoder sees it (any error that is not `io.EOF`). -/
def framingErr : Term := .err 10

/-- `compress.GzipReader` / `transport.go gzipReader` / `compress.DeflateReader` drained by the
caller: everything the decoder delivers from a source `src`, and how the decoded body ends
(C14: `Auto.codec_total` — the lazily constructed incremental reader has this whole-stream meaning
for every schedule of reads). -/
def Enc.decode : Enc → Src → Bytes × Term
  | .gzip, src => (Fmt.gzip ieee).mean src.fin src.data gInit
  | .deflate, src => Fmt.deflate.mean src.fin src.data .hdr

/-- What the caller of a response with a decoded body observes. -/
inductive EncOutcome
  | pending
  | callFailed (retry : Bool)
  | ok (status : Nat) (body : Bytes)
  | bodyFailed (status : Nat) (delivered : Bytes)
deriving Repr, BEq, DecidableEq

/-- The decoder on top of a framing-level body that delivered `d` and ended with `fin`. -/
def Enc.over (enc : Enc) (status : Nat) (d : Bytes) (fin : Term) : EncOutcome :=
  match enc.decode ⟨d, fin⟩ with
  | (out, .eof) => .ok status out
  | (out, .err _) => .bodyFailed status out

/-- HTTP/2 (`handleResponse`): a response that ended on its HEADERS frame has `noBody` /
`missingBody` — returned before the decoder is installed; a piped body is wrapped. -/
def h2Enc (enc : Enc) (x : H2X) (k : Nat) : EncOutcome :=
  match x.outcome k with
  | .pending => .pending
  | .callFailed r => .callFailed r
  | .bodyBlocked _ _ => .pending
  | .ok st body =>
    match x.st.res with
    | some res => if res.body == .piped then enc.over st body .eof else .ok st body
    | none => .ok st body
  | .bodyFailed st d _ =>
    match x.st.res with
    | some res => if res.body == .piped then enc.over st d framingErr else .bodyFailed st d
    | none => .bodyFailed st d

/-- HTTP/3 (`ReadResponse`): the length-enforcing `body` is built first, the decoder around it. -/
def h3Enc (enc : Enc) (isHead : Bool) (segs : List Bytes) (fin : NetEnd) (fls : List Fields)
    (maxH k : Nat) : EncOutcome × H3Outcome :=
  let o := h3Outcome isHead segs fin fls maxH k
  (match o with
   | .callFailed => .callFailed false
   | .ok st body => enc.over st body .eof
   | .bodyFailed st d _ => enc.over st d framingErr
   | .bodyOpen _ _ => .pending, o)

/-- HTTP/1.1 under `EnableAutoDecompress` (`readLoop`: `compress.NewCompressReader(resp.Body, …)`
around the `body` of transfer.go): `none` = the call fails. -/
def h1Enc (enc : Enc) (B : Nat) (s : Bytes) : Option EncOutcome :=
  match parseFinal false B s with
  | .reject => none
  | .resp m b => some (enc.over m.sl.code b.data (if b.ok then .eof else framingErr))

end Req.C03
