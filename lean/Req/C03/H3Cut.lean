import Req.C02.H3Recv
/-!
C03 — HTTP/3: the body reader of one request stream with the truncated-frame rule of
fixes/C03-3 (`frameParser.ParseNext` counts the bytes of the frame it is reading; an `io.EOF`
after the first byte of a frame is `io.ErrUnexpectedEOF`; `decodeTrailers` does the same for an
empty read of a non-empty field section), how a stream ends (FIN, stream reset with any code,
connection close with any code), what the caller observes, and what `RoundTripper.getClient`
does with the cached connection afterwards.

The response head is read by the functions of C02 (`H3Stream.readFinalResponse`: a failure there
fails the call whatever the error is); the body functions below are those of C02
(`Req.C02.parseNext`, `H3Stream.read`, `H3Body.read`) with the repaired end-of-stream mapping —
`h3_repaired_refines_original` (Props/C03H3.lean): the same reads and the same bytes as C02's, only
the error of the last read may differ.
-/
namespace Req.C03
open Req.Proto Req.Ascii Req.C02

/-- `truncatedFrame(err, consumed)`: the stream ended after `consumed > 0` bytes of a frame. -/
def truncatedFrame (e : H3Err) (consumed : Bool) : H3Err :=
  if e == .eof ∧ consumed then .unexpectedEOF else e

/-- `frameParser.ParseNext` on a request stream (no unknownFrameHandler), repaired. -/
def parseNextR : Nat → Net → Except H3Err H3Frame × Net
  | 0, n => (.error .stuck, n)
  | fuel + 1, n =>
    match n.readVarint with
    | (.error e, n1) => (.error (truncatedFrame e (n1.size < n.size)), n1)
    | (.ok t, n1) =>
      match n1.readVarint with
      | (.error e, n2) => (.error (truncatedFrame e true), n2)
      | (.ok l, n2) =>
        if t = 0 then (.ok (.data l), n2)
        else if t = 1 then (.ok (.headers l), n2)
        else if t = 4 then
          -- parseSettingsFrame reads the payload before the frame is refused
          match Net.readN (l + 1) l [] n2 with
          | ((_, none), n3) => (.ok .settings, n3)
          | ((_, some .reset), n3) => (.error .reset, n3)
          | ((_, some _), n3) => (.error .unexpectedEOF, n3)
        else if t = 2 ∨ t = 6 ∨ t = 8 ∨ t = 9 then (.error .frameUnexpected, n2)
        else
          -- skip: io.CopyN(io.Discard, qr, l); a short copy is a truncated frame
          match Net.readN (l + 1) l [] n2 with
          | ((_, none), n3) => parseNextR fuel n3
          | ((_, some .reset), n3) => (.error .reset, n3)
          | ((_, some _), n3) => (.error .unexpectedEOF, n3)

/-- `io.ReadFull` of a non-empty block: every `io.EOF` is a truncation (fixes/C03-3). -/
def readFullErrR (e : H3Err) : H3Err := if e == .eof then .unexpectedEOF else e

/-- `connection.decodeTrailers` through `stream.parseTrailer`, repaired. -/
def parseTrailerR (s : H3Stream) (l : Nat) : Option H3Err × H3Stream :=
  if l > s.maxHeaderBytes then (some .headersTooLarge, s) else
  match Net.readN (l + 1) l [] s.net with
  | ((_, some e), n') => (some (readFullErrR e), { s with net := n' })
  | ((_, none), n') =>
    match s.fieldLists with
    | [] => (some .noFieldList, { s with net := n' })
    | fs :: rest =>
      match h3ParseTrailers fs with
      | none => (some .invalidFields, { s with net := n', fieldLists := rest })
      | some t => (none, { s with net := n', fieldLists := rest, trailer := some t })

/-- Reading inside a DATA frame: `stream.Read` below the frame parsing. -/
def readInFrame (s : H3Stream) (k : Nat) : (Bytes × Option H3Err) × H3Stream :=
  match s.net.read (min k s.remInFrame) with
  | (some d, n') => ((d, none), { s with net := n', remInFrame := s.remInFrame - d.length })
  | (none, n') =>
    (([], some (if s.net.fin == .eof ∧ s.remInFrame > 0 then H3Err.unexpectedEOF else s.net.fin.toH3)),
     { s with net := n' })

/-- `stream.Read(b)`, `len(b) = k`, repaired. -/
def readR (s : H3Stream) (k : Nat) : (Bytes × Option H3Err) × H3Stream :=
  if s.remInFrame ≠ 0 then readInFrame s k else
  match parseNextR (s.net.size + 1) s.net with
  | (.error e, n') => (([], some e), { s with net := n' })
  | (.ok (.data l), n') =>
    if s.parsedTrailer then (([], some .dataAfterTrailers), { s with net := n' })
    else readInFrame { s with net := n', remInFrame := l } k
  | (.ok (.headers l), n') =>
    if s.parsedTrailer then (([], some .headersAfterTrailers), { s with net := n' })
    else
      let (e, s') := parseTrailerR ({ s with net := n', parsedTrailer := true } : H3Stream) l
      (([], e), s')
  | (.ok .settings, n') => (([], some .frameUnexpected), { s with net := n' })

/-- `body.Read` / `hijackableBody.Read`, on the repaired stream reader. -/
def bodyReadR (b : H3Body) (k : Nat) : (Bytes × Option H3Err) × H3Body :=
  if b.violation then (([], some .tooMuchData), b) else
  let k' := if b.hasCL then min k b.remaining else k
  let ((d, e), str') := readR b.str k'
  let b' := { b with str := str', remaining := b.remaining - d.length }
  if b'.violation then ((d, some .tooMuchData), b')
  else if e == some .eof ∧ b'.hasCL ∧ b'.remaining > 0 then ((d, some .unexpectedEOF), b')
  else ((d, e), b')

/-- Reads until the first error (incl. EOF). -/
def bodyRunR (b : H3Body) (ks : List Nat) : List (Bytes × Option H3Err) × H3Body :=
  runReads bodyReadR b ks

/-! ### how the stream ends, what the caller observes -/

inductive H3End
  | fin                       -- the peer finished the stream
  | reset (code : Nat)        -- RESET_STREAM with any application error code
  | connClose (code : Nat)    -- CONNECTION_CLOSE with any code: every stream read fails
deriving Repr, BEq, DecidableEq

def H3End.net : H3End → NetEnd
  | .fin => .eof
  | _ => .reset

inductive H3Outcome
  | callFailed
  | ok (status : Nat) (body : Bytes)
  | bodyFailed (status : Nat) (delivered : Bytes) (e : H3Err)
  | bodyOpen (status : Nat) (delivered : Bytes)     -- the drain ran out of reads (not reached)
deriving Repr, BEq, DecidableEq

/-- The call (`doRequest`: up to five informational responses skipped) and a caller draining
the body with reads of `k` bytes. `segs` = the stream's bytes in the segmentation in which they
arrive, `fls` = the decoded field list of every HEADERS frame, in order. -/
def h3Outcome (isHead : Bool) (segs : List Bytes) (fin : NetEnd) (fls : List Fields) (maxH k : Nat) :
    H3Outcome :=
  let s0 : H3Stream := { net := { segs := segs, fin := fin }, remInFrame := 0, parsedTrailer := false,
                         trailer := none, fieldLists := fls, maxHeaderBytes := maxH }
  match s0.readFinalResponse 7 0 with
  | (.error _, _) => .callFailed
  | (.ok h, s1) =>
    let (rs, _) := bodyRunR (H3Body.new isHead h s1) (List.replicate (s1.net.size + 3) k)
    match lastErr rs with
    | some .eof => .ok h.status (outBytes rs)
    | some e => .bodyFailed h.status (outBytes rs) e
    | none => .bodyOpen h.status (outBytes rs)

/-! ### the cached connection (`RoundTripper.clients[hostname]`) -/

/-- What `getClient` / `RoundTripOpt` look at. -/
structure H3Cache where
  cached : Bool       -- there is an entry for the host
  closed : Bool       -- its `conn.Context()` is done (closed by the peer, by an error, idle timeout)
  dials : Nat
deriving Repr, BEq, DecidableEq

def H3Cache.empty : H3Cache := { cached := false, closed := false, dials := 0 }

/-- `getClient`: a cached connection whose context is done is forgotten and a new one dialled.
Returns the cache and whether the connection handed out is closed. -/
def H3Cache.getClient (c : H3Cache) : H3Cache :=
  if c.cached ∧ !c.closed then c else { cached := true, closed := false, dials := c.dials + 1 }

/-- After `cl.rt.RoundTrip`: a call error (other than `context.Canceled`) removes the entry. -/
def H3Cache.afterRoundTrip (c : H3Cache) (callFailed canceled : Bool) : H3Cache :=
  if callFailed ∧ !canceled then { c with cached := false } else c

/-- The connection was closed (CONNECTION_CLOSE from the peer, a connection error). -/
def H3Cache.connClosed (c : H3Cache) : H3Cache := { c with closed := true }

def H3Outcome.isCallFailed : H3Outcome → Bool
  | .callFailed => true
  | _ => false

/-- Dials after the first request (ending `e`, outcome `o`) and one more request. -/
def h3DialsAfterSecond (e : H3End) (o : H3Outcome) : Nat :=
  let c := H3Cache.empty.getClient
  let c := c.afterRoundTrip o.isCallFailed false
  let c := match e with | .connClose _ => c.connClosed | _ => c
  c.getClient.dials

end Req.C03
