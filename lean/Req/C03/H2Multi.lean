import Req.C03.H2Cut
import Req.C03.H2Pool
/-!
C03 — HTTP/2: SEVERAL concurrent streams on one connection.

`H2X` (H2Cut.lean) is one stream together with its view of the connection.  A connection carrying
several requests is a family of such views, one per stream ID, driven by ONE frame sequence:

* a frame addressed to stream `id` (HEADERS / DATA / RST_STREAM) is processed by that stream
  (`H2X.step`).  What it means for the OTHER streams is its connection-level residue
  (`H2X.sibling`): if processing it raised a connection error (`ConnectionError` from
  `processHeaders` / `processData`: the read loop ends, `cleanup` aborts every stream) the sibling
  sees `connLost`; otherwise at most `cc.doNotReuse` is set (RST_STREAM(PROTOCOL_ERROR) from the
  peer), which no stream outcome depends on;
* GOAWAY and the loss of the connection reach every stream.

`H2M.run` folds a frame sequence; `h2_cut_isolated` (Props/C03H2M.lean) is the isolation theorem.
-/
namespace Req.C03
open Req.Proto Req.C02

inductive H2MEv
  | frame (id : Nat) (e : H2XEv)      -- HEADERS / DATA / RST_STREAM of stream `id`
  | conn (e : H2XEv)                  -- GOAWAY / the connection is lost
deriving Repr, BEq, DecidableEq

/-- The connection-level residue, for stream view `y`, of a frame that took ANOTHER stream from
`x` to `x'`. -/
def H2X.sibling (y x x' : H2X) : H2X :=
  if x'.st.connDead && !x.st.connDead then y.step .connLost
  else { y with doNotReuse := y.doNotReuse || x'.doNotReuse }

/-- The streams of one connection, by stream ID. -/
abbrev H2M := Nat → H2X

def H2M.init : H2M := fun id => H2X.init id false

def H2M.step (m : H2M) : H2MEv → H2M
  | .conn e => fun k => (m k).step e
  | .frame id e => fun k => if k = id then (m id).step e else (m k).sibling (m id) ((m id).step e)

def H2M.run (m : H2M) : List H2MEv → H2M
  | [] => m
  | e :: evs => (m.step e).run evs

/-- The frame is addressed to stream `i`. -/
def H2MEv.on (i : Nat) : H2MEv → Bool
  | .frame id _ => id == i
  | .conn _ => false

/-- After the frames: can the connection take the next request, is it still pooled (any stream's
view answers: the connection flags are shared). -/
def h2mDialsAfterNext (m : H2M) (ids : List Nat) : Nat :=
  let canTake := ids.all fun i => (m i).canTakeNewRequest
  let inPool := ids.all fun i => (m i).inPool
  let p := H2Pool.empty.getClientConn.1
  let p := p.setCanTake 0 canTake
  let p := if inPool then p else p.markDead 0
  p.getClientConn.1.dials

end Req.C03
