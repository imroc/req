import Req.C02.H2Recv
/-!
C03 — HTTP/2: one client stream together with the connection-level events that can end it
early, and what the connection pool may do with the connection afterwards.

The stream itself is the receive-path model of C02 (`Req.C02.H2Stream`: `processHeaders`,
`processData`, `processResetStream`, `endStream`, `readLoop.cleanup`'s abort,
`transportResponseBody.Read` with `bytesRemain`, the pipe).  This file puts around it:

* `H2XEv.rst code` — RST_STREAM carries an error code: the stream ends the same way for every
  code (`processResetStream`), but `ErrCodeProtocol` marks the connection `doNotReuse`, and
  the code decides whether a call that has not seen response headers yet is replayed
  (`canRetryError`: REFUSED_STREAM, or PROTOCOL_ERROR from the peer).
* `H2XEv.goAway last code` — `processGoAway` / `ClientConn.setGoAway`: the connection leaves
  the pool and takes no new request; a stream above `last` is aborted (replayable unless it
  is stream 1 and the merged code is not NO_ERROR), a stream at or below `last` is left alone.
* `H2XEv.connLost` — `ReadFrame` failed (transport EOF at a frame boundary, EOF inside a frame,
  a network error, or a connection error raised by the read loop): `readLoop.cleanup` marks
  the connection dead and closed and aborts every stream the peer has not closed.  A frame cut
  short by the transport never reaches the stream: `h2_midframe_cut_is_conn_lost`
  (Props/C03H2.lean) proves that on the frame reader model of C05.
* `H2XOp.closeBody` — `transportResponseBody.Close`.
-/
namespace Req.C03
open Req.Proto Req.C02

/-- Why `ClientConn.RoundTrip` failed (`cs.abortErr`, kept from the FIRST abort: `abortOnce`). -/
inductive H2Cause
  | rst (code : Nat)          -- StreamError{code, Cause: errFromPeer}
  | goAwayRetry               -- errClientConnGotGoAway
  | goAwayErr (code : Nat)    -- "Transport received GOAWAY from server ErrCode:…" (stream 1, code ≠ NO_ERROR)
  | connLost                  -- io.ErrUnexpectedEOF / GoAwayError / the read loop's error
  | local                     -- a stream error raised by the read loop itself, or the caller
deriving Repr, BEq, DecidableEq

inductive H2XEv
  | headers (fields : Fields) (endStream : Bool)
  | data (payload : Bytes) (padded : Bool) (endStream : Bool)
  | rst (code : Nat)
  | goAway (last : Nat) (code : Nat)
  | connLost
deriving Repr, BEq, DecidableEq

/-- The event carries no END_STREAM flag. -/
def H2XEv.noES : H2XEv → Bool
  | .headers _ es => !es
  | .data _ _ es => !es
  | _ => true

/-- One stream and what `idleStateLocked` looks at on its connection. -/
structure H2X where
  sid : Nat                    -- stream ID (1 for the first request of a connection)
  st : H2Stream
  goAway : Option Nat          -- cc.goAway: the merged error code
  doNotReuse : Bool            -- cc.doNotReuse
  inPool : Bool                -- not yet `MarkDead`
  cause : Option H2Cause       -- cs.abortErr of a call that failed before the response head
deriving Repr, BEq, DecidableEq

def H2X.init (sid : Nat) (isHead : Bool) : H2X :=
  { sid := sid, st := H2Stream.init isHead, goAway := none, doNotReuse := false, inPool := true,
    cause := none }

/-- The call has neither a response head nor an error yet. -/
def H2X.pending (x : H2X) : Bool := x.st.res.isNone && x.st.headErr.isNone

/-- Record the cause if the step made the pending call fail. -/
def H2X.noteCause (x : H2X) (st' : H2Stream) (c : H2Cause) : Option H2Cause :=
  if x.pending ∧ st'.headErr.isSome then some c else x.cause

def ErrCodeProtocol : Nat := 1
def ErrCodeRefusedStream : Nat := 7

/-- `clientConnReadLoop.run` dispatch for the frames that concern this stream, and its end. -/
def H2X.step (x : H2X) : H2XEv → H2X
  | .headers fs es =>
    let st' := x.st.processHeaders fs es
    { x with st := st', cause := x.noteCause st' .local, inPool := x.inPool && !st'.connDead }
  | .data p pad es =>
    let st' := x.st.processData p pad es
    { x with st := st', cause := x.noteCause st' .local, inPool := x.inPool && !st'.connDead }
  | .rst code =>
    let st' := x.st.processRst
    -- `streamByID` finds the stream unless the read loop reset it (or the loop is gone)
    let found := !(x.st.readAborted || x.st.connDead)
    { x with st := st', cause := x.noteCause st' (.rst code),
             doNotReuse := x.doNotReuse || (found && code == ErrCodeProtocol) }
  | .goAway last code =>
    if x.st.connDead then x else
    let merged := match x.goAway with
      | some old => if old ≠ 0 then old else code
      | none => code
    let x := { x with goAway := some merged, inPool := false }
    if x.sid ≤ last then x
    else
      let st' := x.st.abort .connProto
      { x with st := st',
               cause := x.noteCause st' (if x.sid = 1 ∧ merged ≠ 0 then .goAwayErr merged else .goAwayRetry) }
  | .connLost =>
    let st' := x.st.connError
    { x with st := st', cause := x.noteCause st' .connLost, inPool := false }

/-- `transportResponseBody.Close`: break the pipe, abort the stream (RST_STREAM(CANCEL) goes
out from `cleanupWriteRequest`; the connection is not affected). -/
def H2X.closeBody (x : H2X) : H2X :=
  { x with st := ({ x.st with pipe := x.st.pipe.breakWithError .closedBody } : H2Stream).abort .closedBody }

/-- `canRetryError(cs.abortErr)`. -/
def H2Cause.retryable : H2Cause → Bool
  | .rst code => code == ErrCodeProtocol || code == ErrCodeRefusedStream
  | .goAwayRetry => true
  | _ => false

/-- `idleStateLocked().canTakeNewRequest` (stream-count and idle-timeout limits aside). -/
def H2X.canTakeNewRequest (x : H2X) : Bool :=
  x.goAway.isNone && !x.st.connDead && !x.doNotReuse

inductive H2XOp
  | ev (e : H2XEv)
  | read (k : Nat)
  | closeBody
deriving Repr, BEq, DecidableEq

/-- One observation per `read` op (`none` = the read would block at that point). -/
def H2X.run (x : H2X) : List H2XOp → List (Option (Bytes × Option H2Err)) × H2X
  | [] => ([], x)
  | .ev e :: ops => (x.step e).run ops
  | .closeBody :: ops => x.closeBody.run ops
  | .read k :: ops =>
    match x.st.read k with
    | none => let (os, x') := x.run ops; (none :: os, x')
    | some (o, st') => let (os, x') := ({ x with st := st' } : H2X).run ops; (some o :: os, x')

def evsOf : List H2XOp → List H2XEv
  | [] => []
  | .ev e :: ops => e :: evsOf ops
  | _ :: ops => evsOf ops

/-- The concatenated DATA payloads of an event list. -/
def dataOf : List H2XEv → Bytes
  | [] => []
  | .data p _ _ :: evs => p ++ dataOf evs
  | _ :: evs => dataOf evs

/-- The bytes the reads handed to the caller. -/
def outOf : List (Option (Bytes × Option H2Err)) → Bytes
  | [] => []
  | none :: os => outOf os
  | some (d, _) :: os => d ++ outOf os

/-! ### what the caller of the client observes -/

inductive H2Outcome
  | pending                               -- RoundTrip still waits (the peer is silent)
  | callFailed (retry : Bool)             -- RoundTrip returned an error; `retry`: replayed if the request allows
  | ok (status : Nat) (body : Bytes)      -- response head and a body ending in io.EOF
  | bodyFailed (status : Nat) (delivered : Bytes) (e : H2Err)
  | bodyBlocked (status : Nat) (delivered : Bytes)
deriving Repr, BEq, DecidableEq

/-- Drain the body with reads of `k` bytes (`fuel` reads at most). -/
def drainAll (k : Nat) : Nat → H2Stream → Bytes → (Bytes × Option (Option H2Err)) × H2Stream
  | 0, s, acc => ((acc, none), s)
  | fuel + 1, s, acc =>
    match s.read k with
    | none => ((acc, none), s)
    | some ((d, none), s') => drainAll k fuel s' (acc ++ d)
    | some ((d, some e), s') => ((acc ++ d, some (some e)), s')

/-- After all events were delivered: what the call and a draining caller (reads of `k` bytes)
observe. -/
def H2X.outcome (x : H2X) (k : Nat) : H2Outcome :=
  match x.st.res with
  | none =>
    match x.st.headErr with
    | none => .pending
    | some _ => .callFailed (match x.cause with | some c => c.retryable | none => false)
  | some res =>
    match res.body with
    | .noBody => .ok res.status []
    | .missingBody => .bodyFailed res.status [] .unexpectedEOF
    | .piped =>
      match drainAll k (x.st.pipe.buf.length + 2) x.st [] with
      | ((d, some (some .eof)), _) => .ok res.status d
      | ((d, some (some e)), _) => .bodyFailed res.status d e
      | ((d, _), _) => .bodyBlocked res.status d

end Req.C03
