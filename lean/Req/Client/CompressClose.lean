import Req.Client.CompressReader
/-!
C14 — `Close` of the four wrappers of `internal/compress`: what happens to the body underneath.

Whatever decoder sits on top, closing `Response.Body` must reach the framing-level body: on
HTTP/1.1 that is what lets `persistConn.readLoop` go on (reuse or close the connection), on
HTTP/2 / HTTP/3 what resets the stream and returns its flow-control credit. The wrappers differ:

* `GzipReader.Close`:  `Body.Close()`, then `zerr = fs.ErrClosed`;
* `BrotliReader.Close`: `Body.Close()`;
* `ZstdReader.Close`:  `Body.Close()`, then `zr.Close()` if a decoder was built. The order
  matters: `zstd.Decoder.Close` WAITS for the goroutine that is reading the body; the other
  order is the behaviour of imroc/req before commit 0be7b6d (`Legacy.closeWaits`);
* `DeflateReader.Close`: `dr.Close()` if a decoder was built, then `Body.Close()`
  (`closeOf .deflate`). `flate`'s `Close` does NOT touch its source: with
  `if dr != nil { return dr.Close() }`, the behaviour of imroc/req before commit 1ae1001, the body
  is never closed once a `Read` has happened (`Legacy.closeOf .deflate`).
-/
namespace Req.Compress
open Req.Proto

/-- What `Close` can change. -/
structure Handles where
  /-- a `Read` has constructed the decoder (`dr/zr/br != nil`) -/
  started : Bool
  /-- calls of the underlying `Body.Close` so far -/
  bodyCloses : Nat
  /-- calls of the decoder's own `Close` so far (`zstd.Decoder.Close`, `flate` reader `Close`) -/
  decoderCloses : Nat
  /-- the wrapper's sticky error field -/
  sticky : Option Term
  deriving DecidableEq, Repr

def Handles.fresh : Handles := ⟨false, 0, 0, none⟩

/-- a `Read` (of any size) on a wrapper that is not in a sticky error state builds the decoder -/
def readOf (h : Handles) : Handles :=
  match h.sticky with
  | some _ => h
  | none => { h with started := true }

def closeOf : Alg → Handles → Handles
  | .gzip, h => { h with bodyCloses := h.bodyCloses + 1, sticky := some errClosed }
  | .br, h => { h with bodyCloses := h.bodyCloses + 1 }
  | .zstd, h =>
    { h with bodyCloses := h.bodyCloses + 1,
             decoderCloses := if h.started then h.decoderCloses + 1 else h.decoderCloses }
  | .deflate, h =>
    { h with bodyCloses := h.bodyCloses + 1,
             decoderCloses := if h.started then h.decoderCloses + 1 else h.decoderCloses }

/-- Does `Close` wait for the underlying body to deliver (or end)? It must not: the caller closes
a body precisely when it no longer wants to wait for the server. With fixes/C14-6 no wrapper
does (`ZstdReader.Close` closes the body FIRST, which ends any `Body.Read` the decoder's stream
goroutine is blocked in, and only then the decoder). -/
def closeWaits : Alg → Handles → Bool
  | _, _ => false

namespace Legacy

/-- `ZstdReader.Close` before fixes/C14-6: `zr.zr.Close()` first — `zstd.Decoder.Close` waits for
its stream goroutine (`streamWg.Wait()`), which sits in `Body.Read` until the server sends more
or the body ends — and only then `Body.Close()`. -/
def closeWaits : Alg → Handles → Bool
  | .zstd, h => h.started && h.sticky.isNone
  | _, _ => false

/-- `DeflateReader.Close` before /repo 1ae1001. -/
def closeOf : Alg → Handles → Handles
  | .deflate, h =>
    if h.started then { h with decoderCloses := h.decoderCloses + 1 }
    else { h with bodyCloses := h.bodyCloses + 1 }
  | a, h => Req.Compress.closeOf a h

end Legacy

inductive HOp
  | read
  | close
  deriving DecidableEq, Repr

def runOps (close : Alg → Handles → Handles) (a : Alg) : Handles → List HOp → Handles
  | h, [] => h
  | h, .read :: ops => runOps close a (readOf h) ops
  | h, .close :: ops => runOps close a (close a h) ops

end Req.Compress
