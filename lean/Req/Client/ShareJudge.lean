import Req.Client.CloneFacts
/-!
# C19 — what a field of a cloned client may have in common with the original's

The harness lane `share` clones REAL clients at every point of their life (fresh, configured,
after a request over each protocol, with features switched off and on again), and reads off the
heap, field by field of every struct behind a client (`Client`, `Transport`, `transport.Options`,
the HTTP/2 and HTTP/3 transports, `retryOption`, `DumpOptions`, the dumper, `tls.Config`,
`http.Client`), how the copy's field relates to the original's (`Rel`). This file is the judge:

* `rowTruth` — the relation must be the one the regenerated clone table (`Generated/CloneTable`,
  `How`) claims for the field. This validates the extractor's table against the running code.
* `shareOK` — whatever the table says, two clients may have an object in common only if the
  field is in the explicit list `SharedByDesign` below. The same predicate is the premise
  `ShareSafe` of the separation theorem on object graphs (`Req/Client/Graph.lean`,
  `Props/C19Graph.lean`), and `Bridge/C19.lean` decides it for every regenerated row.

## SharedByDesign

Objects a clone has in common with its original, and why that is not a leak between clients:

* function values (every `func` field: `Proxy`, `DialContext`, marshal functions, middleware
  elements, …): immutable; what a user closure captures is the user's. NOT the closures the
  library builds around one particular client (`Options.Debugf`, the TLS-fingerprint handshake):
  those must be made again for the copy (`perClientClosure`).
* `Client.log`, `Client.commonErrorType`, `Client.tlsFingerprint`: a logger supplied by the caller
  (or the package default), a `reflect.Type`, a `*utls.ClientHelloID` that is only ever replaced.
* the seven `io.Writer` fields of `DumpOptions`: the caller's writers.
* `Options.ProxyConnectHeader`: the setter replaces the map, the transport only reads it
  (`hdr.Clone()` before adding `Proxy-Authorization`).
* `http2.Transport.HeaderPriority`: a struct of three scalars held by value (no object behind it;
  the table's kind vocabulary has no "struct of plain values").
* `tls.Config` fields other than `Certificates` / `RootCAs`: `(*tls.Config).Clone` is shallow by
  contract and no setter of req mutates them in place.
* `http.Client.Jar` when the client has NO jar factory (`SetCookieJar(jar)`): the caller's jar.
-/
namespace Req.ShareJudge
open Req.CloneFacts

/-- how the copy's field relates to the original's, on the heap -/
inductive Rel
  | bothzero | zero | appeared | same | freshEq | freshNe | eq | ne
  deriving DecidableEq, Repr

def Rel.parse : String → Option Rel
  | "bothzero" => some .bothzero
  | "zero" => some .zero
  | "appeared" => some .appeared
  | "same" => some .same
  | "fresh+eq" => some .freshEq
  | "fresh+ne" => some .freshNe
  | "eq" => some .eq
  | "ne" => some .ne
  | _ => none

/-- facts about the original at the moment of `Clone` that some rules depend on -/
structure Ctx where
  /-- a TLS fingerprint is set (`Client.tlsFingerprint ≠ nil`): the handshake closure belongs to one client -/
  fp : Bool
  /-- the client has a cookie-jar factory: the copy gets a jar of its own -/
  jarFactory : Bool
  /-- the original's slice / map is empty (a clone of an empty slice is `nil`) -/
  oempty : Bool
  deriving Repr

/-- closures the library builds around ONE client: sharing them makes the copy act on the original -/
def perClientClosure (owner field : String) (ctx : Ctx) : Bool :=
  (owner == "Options" && field == "Debugf") ||
  (owner == "Options" && field == "TLSHandshakeContext" && ctx.fp)

/-- the explicit list (reference-typed fields only; see the module comment) -/
def designList : List (String × String) := [
  ("Client", "log"), ("Client", "commonErrorType"), ("Client", "tlsFingerprint"),
  ("DumpOptions", "Output"), ("DumpOptions", "RequestOutput"), ("DumpOptions", "ResponseOutput"),
  ("DumpOptions", "RequestHeaderOutput"), ("DumpOptions", "RequestBodyOutput"),
  ("DumpOptions", "ResponseHeaderOutput"), ("DumpOptions", "ResponseBodyOutput"),
  ("Options", "ProxyConnectHeader"), ("H2Transport", "HeaderPriority")]

/-- **SharedByDesign**: may the copy's field refer to the very object the original's refers to? -/
def sharedByDesign (owner field : String) (kind : Kind) (ctx : Ctx) : Bool :=
  match kind with
  | .value => true
  | .func => !perClientClosure owner field ctx
  | _ =>
    designList.contains (owner, field) ||
    (owner == "TLSConfig" && field != "Certificates" && field != "RootCAs") ||
    (owner == "HTTPClient" && field == "Jar" && !ctx.jarFactory)

/-- Rule 2 — safety, independent of the table: a common object needs to be shared by design. -/
def shareOK (owner field : String) (kind : Kind) (ctx : Ctx) (rel : Rel) : Bool :=
  rel != .same || sharedByDesign owner field kind ctx

/-- Rule 1 — the relation the table's `how` stands for. `assigned`: the same object / an equal
value; `cloned`: another object with equal content (`nil` for an empty slice / map); `rebuilt`:
anything but the same object; `absent`: the zero value. -/
def rowTruth (how : How) (ctx : Ctx) (rel : Rel) : Bool :=
  match how with
  | .assigned => rel == .bothzero || rel == .same || rel == .eq
  | .cloned => rel == .bothzero || rel == .freshEq || rel == .eq || (ctx.oempty && rel == .zero)
  | .rebuilt => rel != .same
  | .absent => rel == .bothzero || rel == .zero

/-- `HTTPClient.Jar` is copied by assignment and then replaced when there is a factory;
`Options.TLSHandshakeContext`, `Client.tlsFingerprint` and `Options.Debugf` are copied by
assignment and then made again for the copy (`SetTLSFingerprint`, `initTransport`),
`http.Client.Transport` is pointed at the copy's transport: for these the table's `how` is the
first step only, and rule 2 alone decides. -/
def howOverridden (owner field : String) (ctx : Ctx) : Bool :=
  (owner == "HTTPClient" && field == "Jar" && ctx.jarFactory) ||
  (owner == "HTTPClient" && field == "Transport") ||
  (owner == "Client" && field == "tlsFingerprint" && ctx.fp) ||
  perClientClosure owner field ctx

inductive Verdict
  | ok
  /-- the table is WEAKER than the heap (see `staleButSafe`): not a failure of the property -/
  | stale (why : String)
  | bad (why : String)
  deriving DecidableEq, Repr

/-- The table claims LESS separation than the heap has: it says the copy's field is the original's
object / value (`assigned`) or the zero value (`absent`), the heap shows another object with equal
content. The property holds for this field (separate and initially identical); the table is stale —
e.g. the extractor did not see through a rewritten `Clone` body. Whether the stale table still
proves separation is the bridge's business (`repo_rows_safe` / `repo_clone_separates` fail when a
row of an in-place-mutated field says `assigned`). The opposite direction — the table says
`cloned` / `rebuilt`, the heap shows the same object — stays a failure (`rowTruth`). -/
def staleButSafe (how : How) (rel : Rel) : Bool :=
  (how == .assigned || how == .absent) && rel == .freshEq

def showHow : How → String
  | .assigned => "assigned" | .cloned => "cloned" | .rebuilt => "rebuilt" | .absent => "absent"

/-- Rule 3 — carried: a field some settings method writes is not the zero value in the copy when
it is not in the original (an empty slice / map may become `nil`). -/
def carriedOK (hasSetter : Bool) (ctx : Ctx) (rel : Rel) : Bool :=
  !(hasSetter && rel == .zero && !ctx.oempty)

/-- The judge of lane `share`. `row`: the field's row of the regenerated table (kind, how,
hasSetter), if it has one. -/
def judge (owner field : String) (kind : Kind) (row : Option (Kind × How × Bool)) (ctx : Ctx) (rel : Rel) : Verdict :=
  if !shareOK owner field kind ctx rel then
    .bad "object-shared-with-the-original-but-not-SharedByDesign"
  else
    match row with
    | none => .ok
    | some (rk, how, hasSetter) =>
      if rk != kind then .bad "table-kind-differs-from-the-field's-type"
      else if !carriedOK hasSetter ctx rel then .bad "setting-dropped-by-Clone"
      else if howOverridden owner field ctx then .ok
      else if rowTruth how ctx rel then .ok
      else if staleButSafe how rel then .stale ("table-says-" ++ showHow how)
      else .bad ("table-says-" ++ showHow how)

/-- the lane's answer: a stale-but-safe row is `ok` for the property (the harness counts it in the
bucket `table-weaker-than-heap`) -/
def Verdict.show : Verdict → String
  | .ok => "ok"
  | .stale _ => "ok"
  | .bad w => "bad:" ++ w

/-- a stale verdict is only ever given to a field whose object is NOT the original's -/
theorem stale_not_shared (owner field : String) (kind : Kind) (row : Option (Kind × How × Bool)) (ctx : Ctx)
    (rel : Rel) (w : String) (h : judge owner field kind row ctx rel = .stale w) : rel = .freshEq := by
  -- which branch `judge` takes depends on six Booleans; while `staleButSafe` is false none answers `.stale`
  unfold judge at h
  generalize shareOK owner field kind ctx rel = b1 at h
  obtain _ | ⟨rk, how, hasSetter⟩ := row
  · cases b1 <;> cases h
  · dsimp only at h
    generalize (rk != kind) = b2, carriedOK hasSetter ctx rel = b3, howOverridden owner field ctx = b4,
      rowTruth how ctx rel = b5 at h
    cases hs : staleButSafe how rel
    · rw [hs] at h
      cases b1 <;> cases b2 <;> cases b3 <;> cases b4 <;> cases b5 <;> cases h
    · exact beq_iff_eq.1 (Bool.and_eq_true_iff.1 hs).2

example : judge "TLSConfig" "Certificates" .slice (some (.slice, .assigned, true)) ⟨false, true, false⟩ .freshEq =
    .stale "table-says-assigned" := by decide +kernel
example : judge "TLSConfig" "Certificates" .slice (some (.slice, .cloned, true)) ⟨false, true, false⟩ .same =
    .bad "object-shared-with-the-original-but-not-SharedByDesign" := by decide +kernel
example : judge "Dumper" "ch" .pointer (some (.pointer, .rebuilt, false)) ⟨false, true, false⟩ .same ≠ .ok := by decide +kernel

end Req.ShareJudge
