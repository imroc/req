import Req.Client.Decode
/-!
Multi-byte legacy decoders as PREFIX CODES (C15): the shape of x/text's GBK / GB18030 / Big5 /
EUC-KR / Shift-JIS `Transform` loops.  At every position the loop decides from a short window
of the remaining input:

* `dec w = some (out, n)` — emit `out`, advance `n ≥ 1` bytes (a valid sequence of 1–4 bytes,
  or U+FFFD for an invalid one, advancing past the offending lead byte only or past the pair);
* `dec w = none` — the window ends inside a sequence (`transform.ErrShortSrc`): wait for more
  input, or, at the end of the input, emit `eof w` (x/text: U+FFFD, advance 1).

The streaming decoder keeps the undecided window as its state; `decAll` is the whole-input loop
(`atEOF = true`).  `WellFormed`: a decision never depends on bytes beyond the ones it looked
at.  `Req.Props.C15.ofCode_lawful` (Props/C15Codec.lean) proves the streaming law for EVERY well-formed code:
any chunking — through the middle of a sequence, before a dangling lead byte at EOF — gives the
whole-input result.
-/
namespace Req.Decode
open Req.Proto

structure Code where
  dec : Bytes → Option (Bytes × Nat)
  eof : Bytes → Bytes × Nat

namespace Code

/-- Greedy decoding while decisions are possible: (output, undecided rest). -/
def greedyF (c : Code) : Nat → Bytes → Bytes × Bytes
  | 0, w => ([], w)
  | fuel + 1, w =>
    if w = [] then ([], [])
    else
      match c.dec w with
      | none => ([], w)
      | some (out, n) =>
        (out ++ (greedyF c fuel (w.drop (max n 1))).1, (greedyF c fuel (w.drop (max n 1))).2)

def greedy (c : Code) (w : Bytes) : Bytes × Bytes := greedyF c w.length w

/-- The whole-input loop (`atEOF = true`). -/
def decAllF (c : Code) : Nat → Bytes → Bytes
  | 0, _ => []
  | fuel + 1, w =>
    if w = [] then []
    else
      match c.dec w with
      | some (out, n) => out ++ decAllF c fuel (w.drop (max n 1))
      | none => (c.eof w).1 ++ decAllF c fuel (w.drop (max (c.eof w).2 1))

def decAll (c : Code) (w : Bytes) : Bytes := decAllF c w.length w

def WellFormed (c : Code) : Prop :=
  ∀ w out n, c.dec w = some (out, n) → 1 ≤ n ∧ n ≤ w.length ∧ ∀ q, c.dec (w ++ q) = some (out, n)

end Code

/-- The streaming decoder of a code: the state is the undecided window. -/
def ofCode (c : Code) : Decoder Bytes :=
  { init := [],
    feed := fun s chunk => ((c.greedy (s ++ chunk)).2, (c.greedy (s ++ chunk)).1),
    flush := c.decAll,
    decodeAll := c.decAll }

/-! ### double-byte codes (GBK, Big5, EUC-KR, Shift-JIS) -/

/-- `single b = some out`: `b` is decoded on its own (ASCII, half-width katakana, a byte that
can start nothing: U+FFFD); `none`: `b` is a lead byte.  `pair c0 c1 = (out, both)`: the
decision for lead `c0` followed by `c1` — `both = true` advances past the pair (valid
sequence, or unmapped pair), `false` emits U+FFFD for the lead alone and looks at `c1` again. -/
def dbcsCode (single : UInt8 → Option Bytes) (pair : UInt8 → UInt8 → Bytes × Bool) : Code :=
  { dec := fun w =>
      match w with
      | [] => none
      | c0 :: rest =>
        match single c0 with
        | some out => some (out, 1)
        | none =>
          match rest with
          | [] => none
          | c1 :: _ => some ((pair c0 c1).1, if (pair c0 c1).2 then 2 else 1),
    eof := fun _ => (fffd, 1) }

def euro : Bytes := [0xE2, 0x82, 0xAC]

/-- GBK as x/text decodes it (`gbkDecoder{gb18030: false}`): ASCII; `80` = U+20AC; `FF` =
U+FFFD; lead `81..FE` + trail `40..7E | 80..FE` = the table entry (`0` = unmapped = U+FFFD),
any other second byte = U+FFFD for the lead alone.  `tbl` is x/text's `decode` array. -/
def gbkSingle (b : UInt8) : Option Bytes :=
  if b < 0x80 then some [b] else if b = 0x80 then some euro else if b = 0xFF then some fffd else none

def gbkTrail (b : UInt8) : Bool := (0x40 ≤ b && b < 0x7F) || (0x80 ≤ b && b < 0xFF)

def gbkPair (tbl : UInt8 → UInt8 → Nat) (c0 c1 : UInt8) : Bytes × Bool :=
  if gbkTrail c1 then ((if tbl c0 c1 = 0 then fffd else utf8 (tbl c0 c1)), true) else (fffd, false)

def gbkCode (tbl : UInt8 → UInt8 → Nat) : Code := dbcsCode gbkSingle (gbkPair tbl)

/-! ### GB18030: one-, two- and four-byte sequences -/

/-- `gbkDecoder{gb18030: true}`: as GBK, plus lead `81..FE` + second byte `30..39`: a four-byte
sequence — the loop wants all four bytes before it decides anything (`nSrc+3 >= len(src)` ⇒
`ErrShortSrc`); third byte outside `81..FE` or fourth outside `30..39`: U+FFFD for the lead
alone; else `four c0 c1 c2 c3` = (output, whether all four bytes are consumed — a value beyond
the code space is U+FFFD for the lead alone). -/
def gb18030Code (tbl : UInt8 → UInt8 → Nat) (four : UInt8 → UInt8 → UInt8 → UInt8 → Bytes × Bool) : Code :=
  { dec := fun w =>
      match w with
      | [] => none
      | c0 :: rest =>
        match gbkSingle c0 with
        | some out => some (out, 1)
        | none =>
          match rest with
          | [] => none
          | c1 :: rest2 =>
            if 0x30 ≤ c1 ∧ c1 < 0x40 then
              match rest2 with
              | c2 :: c3 :: _ =>
                if c2 < 0x81 ∨ 0xFF ≤ c2 then some (fffd, 1)
                else if c3 < 0x30 ∨ 0x3A ≤ c3 then some (fffd, 1)
                else some ((four c0 c1 c2 c3).1, if (four c0 c1 c2 c3).2 then 4 else 1)
              | _ => none
            else some ((gbkPair tbl c0 c1).1, if (gbkPair tbl c0 c1).2 then 2 else 1),
    eof := fun _ => (fffd, 1) }

end Req.Decode
