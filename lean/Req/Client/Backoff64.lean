/-!
`backoffInterval` (retry.go) with the ACTUAL operations, for all `int64` arguments (round 4).

    base := float64(min); capLevel := float64(max)
    temp := math.Min(capLevel, base*math.Exp2(float64(attempt)))
    halfTemp := int64(temp / 2)
    if halfTemp <= 0 { return 0 }
    return time.Duration(halfTemp + rand.Int63n(halfTemp))

`Req.Backoff` argues that below 2^53 ns every float operation is exact.  Here nothing is argued:

* `float64(x)` of an `int64` rounds to the nearest value with a 53-bit significand, ties to even
  (`toF`): exact below 2^53, off by up to 2^(s−1) in `[2^(52+s), 2^(53+s))`;
* `math.Exp2(float64(a))` is exactly `2^a` for an integer `0 ≤ a ≤ 1023` and `+Inf` from 1024 on
  (`Exp2`: `Ldexp(1, a)` after an exact argument reduction);
* the product of a 53-bit value and a power of two is exact unless it reaches `2^1024`, where it
  becomes `±Inf`; `0 · +Inf = NaN`;
* `math.Min(x, NaN) = NaN`, `math.Min(x, −Inf) = −Inf`, otherwise the smaller value;
* halving is exact; `int64(·)` truncates toward zero when the value lies in `[−2^63, 2^63)` and
  is otherwise IMPLEMENTATION-DEFINED in Go: amd64's `CVTTSD2SQ` answers the "integer
  indefinite" `−2^63` for NaN, ±Inf and everything out of range (`indefinite`; arm64 saturates
  and answers 0 for NaN — every platform value is `≤ 0` on the negative/NaN side, which is all
  that can arise here, see `Req.Lemmas.C10Backoff64.half_spec`);
* `rand.Int63n(n)` is some `j ∈ [0, n)`.
-/
namespace Req.Backoff64

/-- The binade of a natural number `≤ 2^63`: `s` with `2^(52+s) ≤ n < 2^(53+s)` (0 below 2^53). -/
def shiftOf (n : Nat) : Nat :=
  if n < 9007199254740992 then 0 else
  if n < 18014398509481984 then 1 else
  if n < 36028797018963968 then 2 else
  if n < 72057594037927936 then 3 else
  if n < 144115188075855872 then 4 else
  if n < 288230376151711744 then 5 else
  if n < 576460752303423488 then 6 else
  if n < 1152921504606846976 then 7 else
  if n < 2305843009213693952 then 8 else
  if n < 4611686018427387904 then 9 else
  if n < 9223372036854775808 then 10 else
  11

/-- Round to nearest, ties to even, at `2^s`. -/
def roundAt (n s : Nat) : Nat :=
  let q := n / 2 ^ s
  let r := n % 2 ^ s
  let h := 2 ^ s / 2
  (if h < r ∨ (r = h ∧ q % 2 = 1) then q + 1 else q) * 2 ^ s

/-- `float64(n)` for a natural number `n ≤ 2^63`. -/
def roundF (n : Nat) : Nat := if shiftOf n = 0 then n else roundAt n (shiftOf n)

/-- `float64(x)` for an `int64` (as an exact integer: every such float is one). -/
def toF (x : Int) : Int := if x < 0 then -(roundF x.natAbs : Int) else (roundF x.toNat : Int)

/-- A float64 value as far as this computation can produce it. -/
inductive F
  | fin (v : Int)
  | posInf
  | negInf
  | nan
deriving DecidableEq, Repr

def twoP1024 : Int := (2 : Int) ^ 1024

/-- `base * math.Exp2(float64(attempt))` for an integer-valued `base` and `attempt ≥ 0`. -/
def mulExp2 (b : Int) (a : Nat) : F :=
  if 1024 ≤ a then (if 0 < b then .posInf else if b < 0 then .negInf else .nan)
  else
    let p := b * (2 : Int) ^ a
    if twoP1024 ≤ p then .posInf else if p ≤ -twoP1024 then .negInf else .fin p

/-- `math.Min(cap, x)` for a finite `cap`. -/
def fmin (cap : Int) : F → F
  | .fin v => .fin (if v ≤ cap then v else cap)
  | .posInf => .fin cap
  | .negInf => .negInf
  | .nan => .nan

/-- amd64: the result of converting NaN, ±Inf or an out-of-range value to `int64`. -/
def indefinite : Int := -9223372036854775808

/-- `int64(temp / 2)`. -/
def halfTemp (t : F) : Int :=
  match t with
  | .fin v =>
    let h := Int.tdiv v 2
    if -9223372036854775808 ≤ h ∧ h < 9223372036854775808 then h else indefinite
  | _ => indefinite

def half (min max : Int) (attempt : Nat) : Int :=
  halfTemp (fmin (toF max) (mulExp2 (toF min) attempt))

/-- The repaired function (fixes/C10-4 guard): what it answers for jitter `j`. -/
def interval (min max : Int) (attempt jitter : Nat) : Int :=
  let h := half min max attempt
  if h ≤ 0 then 0 else h + (jitter % h.toNat : Nat)

def isInt64 (x : Int) : Prop := -9223372036854775808 ≤ x ∧ x ≤ 9223372036854775807

end Req.Backoff64
