import Req.Client.AuthWire
/-!
Credentials over the LIFE of a client: several requests, sent several times (retry attempts, a
second `Send` of one `Request`), credential setters called between the sends (retry hooks) — at
the level of the `[]string` slices the two header maps hold.

Go facts modelled (client.go `SetCommonHeader`, request.go `SetHeader`, middleware.go
`parseRequestHeader`, request.go `Request.do`):

* `Client.Headers` and every `Request.Headers` hold, under `Authorization`, a REFERENCE to a
  one-element slice (`Heap.cells`: one cell per slice ever allocated; a reference is its index).
* a setter (`Header.Set`: `h[key] = []string{value}`) allocates a FRESH slice and stores the
  reference at its own level (`Store.fresh`). `Store.inPlace` is the other way to write it —
  overwrite element 0 of the slice the level already holds — kept in the model to show what the
  theorems exclude (`in_place_store_leaks`).
* every attempt (`Request.do` runs the request middlewares once per attempt, `parseRequestHeader`
  among them) gives a request that has no `Authorization` entry the CLIENT'S OWN SLICE
  (`r.Headers[k] = vs`, no copy): from then on the two maps share one cell, and the request keeps
  that entry for later attempts.
* the value that leaves is `effective` of the request's entry, the client's entry, the URL.

`Pure` is the same life without references (values only); `Req.Props.C20Heap` proves that under
`Store.fresh` the sharing cannot be observed.

Tie: lane `life` (harness/req/zz_verif_c20_life_test.go; driver lane `c20life`).
-/
namespace Req.Auth
open Req.Proto

inductive Store
  | fresh
  | inPlace
deriving DecidableEq, Repr

/-- one step in the life of a client -/
inductive Ev
  /-- `Client.SetCommonBasicAuth` / `SetCommonBearerAuthToken` storing this field value -/
  | client (v : Bytes)
  /-- `Client.R()`: request number `reqs.length` -/
  | newReq
  /-- `Request.SetBasicAuth` / `SetBearerAuthToken` on request `i` (before a send, between two sends, in a retry hook) -/
  | request (i : Nat) (v : Bytes)
  /-- one attempt of request `i` -/
  | send (i : Nat) (url : Option (Bytes × Bytes))
deriving DecidableEq, Repr

structure Heap where
  cells : List Bytes := []
  client : Option Nat := none
  reqs : List (Option Nat) := []
deriving DecidableEq, Repr

def derefC (cells : List Bytes) : Option Nat → Option Bytes
  | none => none
  | some r => cells[r]?

/-- `Header.Set` at a level whose entry is `slot`: the new cells and the reference stored -/
def store (m : Store) (cells : List Bytes) (slot : Option Nat) (v : Bytes) : List Bytes × Nat :=
  match m, slot with
  | .inPlace, some r => (cells.set r v, r)
  | _, _ => (cells ++ [v], cells.length)

/-- `parseRequestHeader`: a request without an entry takes the client's (the same slice) -/
def inherit (slot client : Option Nat) : Option Nat :=
  match slot with
  | some r => some r
  | none => client

/-- second component: the `Authorization` value of the attempt (`some none`: no such field), `none` for the other events -/
def step (m : Store) (h : Heap) : Ev → Heap × Option (Option Bytes)
  | .client v => ({ h with cells := h.cells ++ [v], client := some h.cells.length }, none)
  | .newReq => ({ h with reqs := h.reqs ++ [none] }, none)
  | .request i v =>
    match h.reqs[i]? with
    | none => (h, none)
    | some slot =>
      ({ h with cells := (store m h.cells slot v).1, reqs := h.reqs.set i (some (store m h.cells slot v).2) }, none)
  | .send i url =>
    match h.reqs[i]? with
    | none => (h, none)
    | some slot =>
      ({ h with reqs := h.reqs.set i (inherit slot h.client) },
       some (effective (derefC h.cells (inherit slot h.client)) (derefC h.cells h.client) url))

def runFrom (m : Store) : Heap → List Ev → Heap × List (Option Bytes)
  | h, [] => (h, [])
  | h, e :: es =>
    let r := runFrom m (step m h e).1 es
    (r.1, match (step m h e).2 with
          | some o => o :: r.2
          | none => r.2)

/-- the values of all attempts, in order -/
def life (m : Store) (es : List Ev) : List (Option Bytes) := (runFrom m {} es).2

/-! the same without references -/

structure Pure where
  client : Option Bytes := none
  reqs : List (Option Bytes) := []
deriving DecidableEq, Repr

def orElse (a b : Option Bytes) : Option Bytes :=
  match a with
  | some v => some v
  | none => b

def stepPure (p : Pure) : Ev → Pure × Option (Option Bytes)
  | .client v => ({ p with client := some v }, none)
  | .newReq => ({ p with reqs := p.reqs ++ [none] }, none)
  | .request i v =>
    match p.reqs[i]? with
    | none => (p, none)
    | some _ => ({ p with reqs := p.reqs.set i (some v) }, none)
  | .send i url =>
    match p.reqs[i]? with
    | none => (p, none)
    | some own =>
      ({ p with reqs := p.reqs.set i (orElse own p.client) },
       some (effective (orElse own p.client) p.client url))

def runPure : Pure → List Ev → Pure × List (Option Bytes)
  | p, [] => (p, [])
  | p, e :: es =>
    let r := runPure (stepPure p e).1 es
    (r.1, match (stepPure p e).2 with
          | some o => o :: r.2
          | none => r.2)

def abs (h : Heap) : Pure := { client := derefC h.cells h.client, reqs := h.reqs.map (derefC h.cells) }

/-- every reference held points into the heap -/
def WF (h : Heap) : Prop :=
  (∀ r, h.client = some r → r < h.cells.length) ∧ ∀ s ∈ h.reqs, ∀ r, s = some r → r < h.cells.length

end Req.Auth
