import Req.Client.Compress
/-!
C14 — the readers the caller receives.

* `Reader`  — an `io.Reader` seen from outside: a state, `read s n` (= `Read(p)` with
  `len(p) = n`) returning the new state, the bytes produced and `some t` when the call
  returned a non-nil error `t` (`Term.eof` for `io.EOF`).  Its *streaming law* is the
  existence of `rest : σ → Bytes × Term` ("what is still to come, and how it ends") that every
  `read` consumes a prefix of.  The decompressors (`compress/gzip`, `compress/flate`,
  `andybalholm/brotli`, `klauspost/compress/zstd`) are parameters of this shape: `Codec` =
  a `Reader` + its constructor `openR` over the underlying body (which may fail: gzip reads
  the member header in `gzip.NewReader`).
* `lazyRead C` / `lazyRest C` — `internal/compress/{gzip,deflate,brotli,zstd}_reader.go`:
  construct on first `Read`, remember a constructor error for ever (`zerr`), `Close` on the gzip
  reader stores `fs.ErrClosed` there.
* `h1gzRead C` / `h1gzRest C` — `transport.go gzipReader`.
  (The `Reader`s made of them, `lazyReader C` and `h1GzipReader C`, carry the proof of the law
  and are in `Req.Lemmas.C14Readers`.)
* `rawReader` — the framing-level body handed over untouched.
* `bufferedCodec` — the executable instance used by the driver: output and final error are
  supplied by the harness (computed with the reference library on the whole input).
* `Req/Client/CompressToy.lean` — an executable, genuinely incremental codec for which the
  law is *proved* (non-vacuity of the parameter).
-/
namespace Req.Compress
open Req.Proto

/-- How a stream ends: `io.EOF` or an error kind (1 = unexpected EOF, 2 = corrupt input /
any other decoder error, 3 = `fs.ErrClosed`, 4 = `errReadOnClosedResBody`,
≥ 10 = framing/transport errors of the underlying body). -/
inductive Term
  | eof
  | err (code : Nat)
  deriving DecidableEq, Repr, Inhabited

def Term.show : Term → String
  | .eof => "eof"
  | .err n => "err" ++ toString n

def errClosed : Term := .err 3
def errReadOnClosed : Term := .err 4

/-- The underlying (framing-level) body: the bytes it will deliver and how it ends. -/
structure Src where
  data : Bytes
  fin : Term
  deriving DecidableEq, Repr

structure Reader where
  σ : Type
  read : σ → Nat → σ × Bytes × Option Term
  rest : σ → Bytes × Term
  /-- never more than asked for -/
  read_len : ∀ s n, (read s n).2.1.length ≤ n
  /-- a call that returns no error hands out a prefix of what is to come -/
  read_none : ∀ s n, (read s n).2.2 = none →
    rest s = ((read s n).2.1 ++ (rest (read s n).1).1, (rest (read s n).1).2)
  /-- a call that returns an error hands out everything that was left, the error is the
  stream's end, and nothing is left afterwards -/
  read_some : ∀ s n t, (read s n).2.2 = some t →
    rest s = ((read s n).2.1, t) ∧ rest (read s n).1 = ([], t)
  /-- a call with a non-empty buffer makes progress: data or an error (`io.Reader` contract) -/
  read_progress : ∀ s n, 0 < n → (read s n).2.2 = none → (read s n).2.1 ≠ []

structure Codec extends Reader where
  /-- `gzip.NewReader(body)` / `flate.NewReader(body)` / … : may consume input, may fail -/
  openR : Src → Except Term σ

/-- Whole-stream meaning of a codec on a body. -/
def Codec.total (C : Codec) (src : Src) : Bytes × Term :=
  match C.openR src with
  | .error e => ([], e)
  | .ok s => C.rest s

/-! ### running a reader -/

/-- Call `Read` with the given buffer sizes until a call returns an error; concatenate. -/
def drain (R : Reader) : R.σ → List Nat → R.σ × Bytes × Option Term
  | s, [] => (s, [], none)
  | s, n :: ns =>
    match R.read s n with
    | (s', d, some t) => (s', d, some t)
    | (s', d, none) =>
      let r := drain R s' ns
      (r.1, d ++ r.2.1, r.2.2)

/-! ### raw body -/

def rawRead (s : Bytes × Term) (n : Nat) : (Bytes × Term) × Bytes × Option Term :=
  if s.1 = [] then (s, [], some s.2) else ((s.1.drop n, s.2), s.1.take n, none)

def rawReader : Reader where
  σ := Bytes × Term
  read := rawRead
  rest := id
  read_len := by
    intro s n; unfold rawRead; split <;> simp [List.length_take]; omega
  read_none := by
    intro s n; unfold rawRead; split <;> simp
  read_some := by
    intro s n t; unfold rawRead; split
    · rename_i h; intro ht; simp at ht; subst ht
      obtain ⟨a, b⟩ := s; simp_all
    · simp
  read_progress := by
    intro s n hn; unfold rawRead; split
    · simp
    · rename_i h; intro _; simp; exact ⟨by omega, h⟩

/-- A codec whose output is known up front (state = what is left). The driver instantiates it
with the reference library's whole-input result. -/
def bufferedCodec (openResult : Src → Except Term (Bytes × Term)) : Codec :=
  { rawReader with openR := openResult }

/-! ### compress.GzipReader / DeflateReader / BrotliReader / ZstdReader -/

structure LazyState (C : Codec) where
  src : Src
  inner : Option C.σ
  zerr : Option Term

def LazyState.init {C : Codec} (src : Src) : LazyState C := ⟨src, none, none⟩

/-- Which wrappers record EVERY error returned by the decoder in their sticky field (not only a
constructor error): `BrotliReader` does (fixes/C14-4: the brotli library itself forgets its
errors); gzip, deflate and zstd rely on their libraries' own stickiness. -/
def keeps : Alg → Bool
  | .br => true
  | _ => false

/-- `if r.zerr != nil {return 0, r.zerr}; if r.zr == nil {r.zr, err = New(r.Body); if err != nil
{r.zerr = err; return 0, err}}; n, err = r.zr.Read(p); [keep: if err != nil {r.zerr = err}];
return n, err` -/
def lazyRead (C : Codec) (keep : Bool) (st : LazyState C) (n : Nat) :
    LazyState C × Bytes × Option Term :=
  match st.zerr with
  | some e => (st, [], some e)
  | none =>
    match st.inner with
    | some s =>
      let r := C.read s n
      ({ st with inner := some r.1, zerr := if keep then r.2.2 else none }, r.2.1, r.2.2)
    | none =>
      match C.openR st.src with
      | .error e => ({ st with zerr := some e }, [], some e)
      | .ok s =>
        let r := C.read s n
        ({ st with inner := some r.1, zerr := if keep then r.2.2 else none }, r.2.1, r.2.2)

/-- `GzipReader.Close` (when the underlying `Body.Close()` succeeds): `zerr = fs.ErrClosed`. -/
def lazyClose {C : Codec} (st : LazyState C) : LazyState C := { st with zerr := some errClosed }

def lazyRest (C : Codec) (st : LazyState C) : Bytes × Term :=
  match st.zerr with
  | some e => ([], e)
  | none =>
    match st.inner with
    | some s => C.rest s
    | none => C.total st.src

/-! ### transport.go gzipReader -/

structure H1GzState (C : Codec) where
  src : Src
  inner : Option C.σ
  zerr : Option Term
  closed : Bool          -- bodyEOFSignal.closed

def H1GzState.init {C : Codec} (src : Src) : H1GzState C := ⟨src, none, none, false⟩

/-- `if gz.zr == nil { if gz.zerr == nil { gz.zr, gz.zerr = gzip.NewReader(gz.body) };
if gz.zerr != nil { return 0, gz.zerr } }; if gz.body.closed { return 0, errReadOnClosedResBody };
return gz.zr.Read(p)`. A closed `bodyEOFSignal` answers every Read with
`errReadOnClosedResBody`, so constructing on it fails with that error. -/
def h1gzRead (C : Codec) (st : H1GzState C) (n : Nat) : H1GzState C × Bytes × Option Term :=
  match st.inner with
  | some s =>
    if st.closed then (st, [], some errReadOnClosed)
    else
      let r := C.read s n
      ({ st with inner := some r.1 }, r.2.1, r.2.2)
  | none =>
    match st.zerr with
    | some e => (st, [], some e)
    | none =>
      if st.closed then ({ st with zerr := some errReadOnClosed }, [], some errReadOnClosed)
      else
        match C.openR st.src with
        | .error e => ({ st with zerr := some e }, [], some e)
        | .ok s =>
          let r := C.read s n
          ({ st with inner := some r.1 }, r.2.1, r.2.2)

def h1gzClose {C : Codec} (st : H1GzState C) : H1GzState C := { st with closed := true }

def h1gzRest (C : Codec) (st : H1GzState C) : Bytes × Term :=
  match st.inner with
  | some s => if st.closed then ([], errReadOnClosed) else C.rest s
  | none =>
    match st.zerr with
    | some e => ([], e)
    | none => if st.closed then ([], errReadOnClosed) else C.total st.src

/-! ### operations as the unit lane drives them -/

inductive Op
  | read (n : Nat)
  | close
  deriving DecidableEq, Repr

/-- Run a script of reads/closes against the lazy reader; one result per read. -/
def lazyRun (C : Codec) (keep : Bool) : LazyState C → List Op → List (Bytes × Option Term)
  | _, [] => []
  | st, .read n :: ops =>
    let r := lazyRead C keep st n
    (r.2.1, r.2.2) :: lazyRun C keep r.1 ops
  | st, .close :: ops => lazyRun C keep (lazyClose st) ops

def h1gzRun (C : Codec) : H1GzState C → List Op → List (Bytes × Option Term)
  | _, [] => []
  | st, .read n :: ops =>
    let r := h1gzRead C st n
    (r.2.1, r.2.2) :: h1gzRun C r.1 ops
  | st, .close :: ops => h1gzRun C (h1gzClose st) ops

end Req.Compress
