/-
C16: writers that borrow a SHARED scratch object while they put a request's header block
on their own connection / stream.

Go code modelled:
* header.go `headerSortedKeyValues` + `headerWriteSubset` (HTTP/1.1, no header order): the sorted
  key/values live in the array of a `headerSorter` taken from `headerSorterPool` (a sync.Pool shared
  by every request of the process); the writer walks that array line by line — every line may park
  it (bufio flush on a full socket) — and puts the sorter back AFTER the walk.
* internal/http3/request_writer.go `requestWriter.writeHeaders`: all request streams of one
  connection share `w.headerBuf` / `w.encoder` under `w.mutex`; the block is copied into the
  request's private frame buffer BEFORE the mutex is released, the (blocking) stream write happens
  afterwards on the private copy.

Abstraction: `n` writers, writer `i` has to deliver `reqs i`. A step of writer `i` (chosen by an
arbitrary schedule) is
  idle      → take a scratch object (pool: a free one, else a new one while fewer than `cap` exist;
              with `cap = some 1` this is a mutex around ONE buffer: the step blocks = no-op),
              fill it with `reqs i`
  holding   → read the next item FROM THE SCRATCH OBJECT into the writer's own output
              (its connection / its private copy), or, at the end, give the object back
  done      → nothing.
`hold = true` is the discipline of the code (object given back after the last read);
`hold = false` is the discipline of the seeded changes C16-r6-1 / C16-r6-2 (given back right after
filling, read later).
-/
namespace Req.SharedScratch

inductive Phase where
  | idle
  | holding (id pos : Nat)
  | done
deriving DecidableEq, Repr

structure State (α : Type) where
  slots : Nat → List α
  free : List Nat
  next : Nat
  phase : Nat → Phase
  out : Nat → List α

def upd {β : Type} (f : Nat → β) (i : Nat) (v : β) : Nat → β := fun j => if j = i then v else f j

def init {α : Type} : State α :=
  { slots := fun _ => [], free := [], next := 0, phase := fun _ => .idle, out := fun _ => [] }

/-- may a new scratch object be made? (`none`: sync.Pool — always; `some c`: at most `c` exist) -/
def mayAlloc (cap : Option Nat) (next : Nat) : Bool :=
  match cap with
  | none => true
  | some c => decide (next < c)

def step {α : Type} (hold : Bool) (cap : Option Nat) (reqs : Nat → List α) (s : State α) (i : Nat) : State α :=
  match s.phase i with
  | .idle =>
    match s.free with
    | f :: fs =>
      { s with slots := upd s.slots f (reqs i)
               free := if hold then fs else f :: fs
               phase := upd s.phase i (.holding f 0) }
    | [] =>
      if mayAlloc cap s.next then
        { s with slots := upd s.slots s.next (reqs i)
                 free := if hold then [] else [s.next]
                 next := s.next + 1
                 phase := upd s.phase i (.holding s.next 0) }
      else s
  | .holding id pos =>
    if pos < (reqs i).length then
      { s with out := upd s.out i (s.out i ++ ((s.slots id).drop pos).take 1)
               phase := upd s.phase i (.holding id (pos + 1)) }
    else
      { s with free := if hold then id :: s.free else s.free
               phase := upd s.phase i .done }
  | .done => s

def run {α : Type} (hold : Bool) (cap : Option Nat) (reqs : Nat → List α) (s : State α) (sched : List Nat) : State α :=
  sched.foldl (step hold cap reqs) s

end Req.SharedScratch
