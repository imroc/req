import Req.Client.CompressReader
/-!
C14 — decoders as byte automata.

A concrete container format (raw DEFLATE with stored blocks, a gzip member, …) is modelled as
an automaton that consumes its input one byte at a time, emits at most one output byte per
input byte and is, at every moment, `working`, `done` (the unit is complete: nothing more is
consumed) or `failed e`. From such an automaton this file defines, ONCE for all formats:

* `run` / `mean` — the whole-input meaning (output, how it ends) for a body that ends in
  `io.EOF` or in an error of the framing layer;
* `many` — the repetition of a unit (multi-member gzip): a completed unit is followed by a
  fresh one, the input may end cleanly exactly between units;
* `pull` — one genuinely incremental `Read` (it consumes only as much input as it needs for the
  bytes it returns).

`Req.Lemmas.C14Auto` builds the `Reader` / `Codec` over `pull` (`Auto.reader`, `Auto.codec`) with
the streaming law PROVED, so that every theorem of `Req.Props.C14` Part 2 applies to the real
formats, and proves the generic theorems every streaming decoder of this shape satisfies: the
outcome does not depend on how the input is cut (`run_append`), and — the one that matters for
the property — **every strict prefix of an input that is consumed entirely leaves the decoder
`working`** (`working_on_strict_prefix`): a truncated stream can only end in an error.
-/
namespace Req.Compress
open Req.Proto

inductive Phase
  | working
  | done
  | failed (e : Term)
  deriving DecidableEq, Repr

/-- `io.ErrUnexpectedEOF` where the input ends inside a unit; an error of the underlying body is
passed on (Go: `noEOF`, `io.ReadFull`). -/
def noEOF : Term → Term
  | .eof => .err 1
  | e => e

structure Auto where
  σ : Type
  init : σ
  /-- consume one byte: new state, the output byte it released (if any) -/
  step : σ → UInt8 → σ × Option UInt8
  phase : σ → Phase
  /-- nothing of a unit has been consumed: if the input ends here the stream ends the way the
  underlying body does (an empty body, the gap between two gzip members) -/
  fresh : σ → Bool

namespace Auto
variable (A : Auto)

def optList : Option UInt8 → Bytes
  | none => []
  | some b => [b]

/-- Consume input until it is exhausted or the automaton has stopped: final state, output,
unconsumed rest. -/
def run : Bytes → A.σ → A.σ × Bytes × Bytes
  | [], s => (s, [], [])
  | b :: inp, s =>
    match A.phase s with
    | .working =>
      let r := A.step s b
      let q := run inp r.1
      (q.1, optList r.2 ++ q.2.1, q.2.2)
    | _ => (s, [], b :: inp)

/-- How the stream ends when the input is exhausted (or the automaton stopped) in state `s`
and the underlying body ended with `fin`. -/
def verdict (fin : Term) (s : A.σ) : Term :=
  match A.phase s with
  | .done => .eof
  | .failed e => e
  | .working => if A.fresh s then fin else noEOF fin

/-- Whole-input meaning: everything the decoder delivers, and how it ends. -/
def mean (fin : Term) (inp : Bytes) (s : A.σ) : Bytes × Term :=
  ((A.run inp s).2.1, A.verdict fin (A.run inp s).1)

/-- The two facts about `fresh` every format below satisfies. -/
structure Lawful : Prop where
  step_not_fresh : ∀ s b, A.fresh (A.step s b).1 = false
  fresh_working : ∀ s, A.fresh s = true → A.phase s = .working

/-! ### repetition of a unit -/

def isDone : Phase → Bool
  | .done => true
  | _ => false

/-- `many A`: when a unit is complete the next byte starts a new one; `done` is never reported,
the end of the input right after a unit is the end of the stream. -/
def many : Auto where
  σ := A.σ
  init := A.init
  step := fun s b => A.step (if isDone (A.phase s) then A.init else s) b
  phase := fun s => match A.phase s with | .done => .working | p => p
  fresh := fun s => A.fresh s || isDone (A.phase s)

/-! ### the incremental reader -/

/-- `Read(p)` with `len(p) = n`: step through the input until `n` bytes were released, the
input is exhausted or the automaton has stopped. -/
def pull (fin : Term) : Bytes → Nat → A.σ → (A.σ × Bytes) × Bytes × Option Term
  | inp, 0, s => ((s, inp), [], none)
  | [], _ + 1, s => ((s, []), [], some (A.verdict fin s))
  | b :: inp, n + 1, s =>
    match A.phase s with
    | .working =>
      match A.step s b with
      | (s', some o) =>
        let r := pull fin inp n s'
        (r.1, o :: r.2.1, r.2.2)
      | (s', none) => pull fin inp (n + 1) s'
    | _ => ((s, b :: inp), [], some (A.verdict fin s))

end Auto
end Req.Compress
