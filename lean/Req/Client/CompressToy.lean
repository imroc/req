import Req.Client.CompressReader
/-!
A toy run-length codec — an executable, genuinely incremental (`Read` pulls input block by
block, keeps a half-emitted run between calls) instance of `Codec` for which the streaming law
is PROVED. It shows that the parameter `Codec` (the law the real decompressors are assumed to
satisfy) is inhabited by something that behaves like a decompressor: round trip on every
payload, an error on every truncation, an error on trailing garbage.

Format: blocks `k b` (k ≥ 1: k copies of byte b), then the end marker `0`, then nothing.
-/
namespace Req.Compress.Toy
open Req.Proto Req.Compress

def errUnexpectedEOF : Term := .err 1
def errCorrupt : Term := .err 2

/-- The input ran out: a clean end of the body is an unexpected EOF for the decoder, an error
of the body is passed through. -/
def trunc : Term → Term
  | .eof => errUnexpectedEOF
  | e => e

structure State where
  run : Nat          -- copies of `byte` still to hand out
  byte : UInt8
  wire : Bytes       -- input not yet consumed
  fin : Term         -- how the input ends
  done : Option Term -- sticky end
  deriving DecidableEq, Repr

/-- Produce at most one byte. -/
def step (s : State) : State × Option UInt8 × Option Term :=
  match s.done with
  | some t => (s, none, some t)
  | none =>
    match s.run with
    | r + 1 => ({ s with run := r }, some s.byte, none)
    | 0 =>
      match s.wire with
      | [] => ({ s with done := some (trunc s.fin) }, none, some (trunc s.fin))
      | [k] =>
        if k = 0 then ({ s with wire := [], done := some s.fin }, none, some s.fin)
        else ({ s with wire := [], done := some (trunc s.fin) }, none, some (trunc s.fin))
      | k :: b :: tl =>
        if k = 0 then ({ s with wire := [], done := some errCorrupt }, none, some errCorrupt)
        else ({ s with run := k.toNat - 1, byte := b, wire := tl }, some b, none)

/-- `Read(p)`, `len(p) = n`: up to `n` steps. -/
def read : State → Nat → State × Bytes × Option Term
  | s, 0 => (s, [], none)
  | s, n + 1 =>
    match step s with
    | (s', some b, _) =>
      let r := read s' n
      (r.1, b :: r.2.1, r.2.2)
    | (s', none, t) => (s', [], t)

/-- Meaning of the unread input. -/
def restW : Bytes → Term → Bytes × Term
  | [], fin => ([], trunc fin)
  | [k], fin => if k = 0 then ([], fin) else ([], trunc fin)
  | k :: b :: tl, fin =>
    if k = 0 then ([], errCorrupt)
    else
      let r := restW tl fin
      (List.replicate k.toNat b ++ r.1, r.2)

def rest (s : State) : Bytes × Term :=
  match s.done with
  | some t => ([], t)
  | none => (List.replicate s.run s.byte ++ (restW s.wire s.fin).1, (restW s.wire s.fin).2)

def openR (src : Src) : Except Term State := .ok ⟨0, 0, src.data, src.fin, none⟩

def encode (p : Bytes) : Bytes := p.flatMap (fun b => [1, b]) ++ [0]

theorem k_pos {k : UInt8} (hk : ¬k = 0) : k.toNat = (k.toNat - 1) + 1 := by
  have hpos : 0 < k.toNat := by
    rcases Nat.eq_zero_or_pos k.toNat with h | h
    · exact absurd (UInt8.toNat_inj.mp (by simpa using h)) hk
    · exact h
  omega

theorem step_spec (s : State) :
    match step s with
    | (s', some b, _) => rest s = (b :: (rest s').1, (rest s').2)
    | (s', none, some t) => rest s = ([], t) ∧ rest s' = ([], t)
    | (_, none, none) => False := by
  obtain ⟨run, byte, wire, fin, done⟩ := s
  cases done with
  | some t => exact ⟨rfl, rfl⟩
  | none =>
    cases run with
    | succ r => simp [step, rest, List.replicate_succ]
    | zero =>
      match wire with
      | [] => simp [step, rest, restW]
      | [k] => by_cases hk : k = 0 <;> simp [step, rest, restW, hk]
      | k :: c :: tl =>
        by_cases hk : k = 0
        · simp [step, rest, restW, hk]
        · simp only [step, rest, restW, hk, if_false, List.replicate_zero, List.nil_append]
          rw [k_pos hk, List.replicate_succ]; simp

/-- `Read` against the meaning of the unread input: at most `n` bytes; without a terminal condition they are the head of
what is left (and there are some, if `n > 0`); with one they are all of it and the condition is its end. -/
theorem read_spec (s : State) (n : Nat) :
    (read s n).2.1.length ≤ n ∧
    ((read s n).2.2 = none →
      rest s = ((read s n).2.1 ++ (rest (read s n).1).1, (rest (read s n).1).2) ∧ (0 < n → (read s n).2.1 ≠ [])) ∧
    ∀ t, (read s n).2.2 = some t → rest s = ((read s n).2.1, t) ∧ rest (read s n).1 = ([], t) := by
  induction n generalizing s with
  | zero => exact ⟨Nat.le_refl _, fun _ => ⟨by simp [read], fun h => absurd h (Nat.lt_irrefl 0)⟩, fun t h => nomatch h⟩
  | succ n ih =>
    have hs := step_spec s
    unfold read
    rcases hst : step s with ⟨s', _ | b, ot⟩ <;> rw [hst] at hs <;> simp only
    · cases ot with
      | none => exact hs.elim
      | some t => exact ⟨Nat.zero_le _, (fun h => nomatch h), fun t' h => by cases h; exact hs⟩
    · obtain ⟨hl, hn, ht⟩ := ih s'
      refine ⟨Nat.succ_le_succ hl, fun h => ⟨?_, fun _ => List.cons_ne_nil _ _⟩, fun t h => ⟨?_, (ht t h).2⟩⟩
      · rw [hs, (hn h).1]; rfl
      · rw [hs, (ht t h).1]

theorem read_len (s : State) (n : Nat) : (read s n).2.1.length ≤ n := (read_spec s n).1

theorem read_none (s : State) (n : Nat) (h : (read s n).2.2 = none) :
    rest s = ((read s n).2.1 ++ (rest (read s n).1).1, (rest (read s n).1).2) := ((read_spec s n).2.1 h).1

theorem read_some (s : State) (n : Nat) (t : Term) (h : (read s n).2.2 = some t) :
    rest s = ((read s n).2.1, t) ∧ rest (read s n).1 = ([], t) := (read_spec s n).2.2 t h

theorem read_progress (s : State) (n : Nat) (hn : 0 < n) (h : (read s n).2.2 = none) : (read s n).2.1 ≠ [] :=
  ((read_spec s n).2.1 h).2 hn

/-- The toy codec, with its law. -/
def codec : Codec where
  σ := State
  read := read
  rest := rest
  read_len := read_len
  read_none := read_none
  read_some := read_some
  read_progress := read_progress
  openR := openR

theorem total_eq (src : Src) : codec.total src = restW src.data src.fin := by
  simp [Codec.total, codec, openR, rest]

theorem encode_cons (b : UInt8) (p : Bytes) : encode (b :: p) = 1 :: b :: encode p := rfl

/-- an encoding followed by `tl`: the payload, then a clean end exactly when nothing follows the end marker -/
theorem restW_encode_append (p tl : Bytes) (fin : Term) :
    restW (encode p ++ tl) fin = (p, if tl = [] then fin else errCorrupt) := by
  induction p with
  | nil => cases tl <;> simp [encode, restW]
  | cons b p ih =>
    rw [encode_cons]
    simp [restW, ih]

/-- round trip: every payload comes back, ending in a clean EOF -/
theorem roundtrip (p : Bytes) : codec.total ⟨encode p, .eof⟩ = (p, .eof) := by
  rw [total_eq]
  simpa using restW_encode_append p [] .eof

theorem encode_length (p : Bytes) : (encode p).length = 2 * p.length + 1 := by
  induction p with
  | nil => simp [encode]
  | cons b p ih => rw [encode_cons]; simp [ih]; omega

theorem restW_take_encode (p : Bytes) (k : Nat) (hk : k < (encode p).length) (fin : Term) :
    (restW ((encode p).take k) fin).2 = trunc fin := by
  induction p generalizing k with
  | nil =>
    obtain rfl : k = 0 := by simpa [encode] using hk
    rfl
  | cons b p ih =>
    rw [encode_cons] at hk ⊢
    match k with
    | 0 => rfl
    | 1 => simp [restW]
    | k + 2 =>
      simp only [List.length_cons] at hk
      simpa [restW] using ih k (by omega)

/-- every strict prefix of an encoding ends in an error, never in a clean EOF -/
theorem truncated_is_error (p : Bytes) (k : Nat) (hk : k < (encode p).length) :
    (codec.total ⟨(encode p).take k, .eof⟩).2 = errUnexpectedEOF := by
  rw [total_eq]; exact restW_take_encode p k hk .eof

/-- a body that the framing layer ends with an error (message shorter than its declared
Content-Length) before the encoding is complete ends in THAT error - the decoder never turns
it into a clean end -/
theorem source_error_surfaces (p : Bytes) (k e : Nat) (hk : k < (encode p).length) :
    (codec.total ⟨(encode p).take k, .err e⟩).2 = .err e := by
  rw [total_eq]; exact restW_take_encode p k hk (.err e)

/-- bytes after the end marker are an error -/
theorem trailing_is_error (p : Bytes) (x : UInt8) (tl : Bytes) :
    (codec.total ⟨encode p ++ x :: tl, .eof⟩).2 = errCorrupt := by
  rw [total_eq]
  exact congrArg Prod.snd (restW_encode_append p (x :: tl) .eof)

end Req.Compress.Toy
