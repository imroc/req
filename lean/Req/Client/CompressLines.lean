import Req.Client.Compress
/-!
C14 — `Content-Encoding` as the header LINES of the response.

RFC 9110 §8.4: the field is a LIST of content codings, in the order they were applied; §5.3:
several field lines with one name are one list (values joined with commas, in order); §5.6.1:
list elements are separated by commas with optional white space, empty elements are ignored.

* `ceLines h`     — the raw field lines (`Header.Values("Content-Encoding")`), in arrival order;
* `splitComma`, `trimOWS`, `codings` — the list of codings the lines denote;
* `firstLine`     — `Header.Get`: the FIRST line, whole, compared as one string; what
                    `Req.Compress.process` reads (`hget_eq_firstLine`);
* `joinLines`, `fieldValue`, `Joined.process` — `compress.ContentEncoding`: ALL the lines as one
                    field value; what /repo reads (below);
* `otherFields h` — everything else in the header (Content-Type, Content-Disposition, …): the
                    part the decision must not look at (`Req.Props.C14Lines.decision_ignores_content_type`
                    says so through `ceLines`; no theorem mentions `otherFields`).

Tie: lanes `e2e_h1/h2/h3`, `cross` (the header handed to driver lane `c14x` carries every observed
field: the Content-Encoding lines as they arrived, Content-Type, the further fields; driver lane
`c14xj` = `Joined.process`); `codings` ↔ the standard-library splitting in lane `select` (driver lane
`c14select … codings=`) with the oracle "whatever gets a reader is one coding as it stands".
-/
namespace Req.Compress.Lines
open Req.Proto Req.Compress

/-- optional white space: SP / HTAB -/
def isOWS (b : UInt8) : Bool := b == 32 || b == 9

def trimOWS (v : Bytes) : Bytes := ((v.dropWhile isOWS).reverse.dropWhile isOWS).reverse

/-- split a field value at its commas (`"a,,b"` → `["a", "", "b"]`; never empty) -/
def splitComma : Bytes → List Bytes
  | [] => [[]]
  | b :: bs =>
    if b == 44 then [] :: splitComma bs
    else match splitComma bs with
      | [] => [[b]]
      | x :: xs => (b :: x) :: xs

/-- the content codings a list of field lines denotes, in order; empty elements dropped -/
def codings (lines : List Bytes) : List Bytes :=
  ((lines.flatMap splitComma).map trimOWS).filter (fun t => t != [])

/-- `Header.Values("Content-Encoding")` -/
def ceLines (h : Header) : List Bytes := hvalues h hContentEncoding

/-- `Header.Get`: the first line, `""` when there is none -/
def firstLine (lines : List Bytes) : Bytes := lines.headD []

/-- the header without its Content-Encoding lines -/
def otherFields (h : Header) : Header := hdel h hContentEncoding

/-- no comma, no optional white space: a value that is one list element as it stands -/
def Plain (v : Bytes) : Prop := ∀ b ∈ v, b ≠ 44 ∧ isOWS b = false

def tokenOf : Alg → Bytes
  | .gzip => tokGzip | .deflate => tokDeflate | .br => tokBr | .zstd => tokZstd

/-- the decision input built from the lines alone (what `respIn` computes from a header) -/
def respInOfLines (addedGzip auto isHead hasBody : Bool) (lines : List Bytes) : RespIn :=
  { addedGzip := addedGzip, autoDecompress := auto, isHead := isHead, hasBody := hasBody,
    ce := firstLine lines }

/-! ### all lines, as ONE field value

`compress.ContentEncoding(h)`, which all six decoding sites of /repo read (transport.go,
internal/http2/transport.go, internal/http3/http_stream.go: the gzip test and the
AutoDecompression branch of each): a single line as it stands, several lines joined with `", "`
(RFC 9110 §5.3) — so that a response which stacks codings over several lines is a LIST for the
decision, exactly like the same codings in one line. `Joined.process` is therefore what /repo
does and what the lanes are judged against. `Req.Compress.process` reads the first line only
(`Header.Get`: the behaviour of imroc/req before commit 5cd2211); the two agree on every response
with at most one Content-Encoding line (`Req.Props.C14Lines.joined_single_line`). -/

def joinLines : List Bytes → Bytes
  | [] => []
  | [v] => v
  | v :: w :: rest => v ++ [44, 32] ++ joinLines (w :: rest)

def fieldValue (h : Header) : Bytes := joinLines (ceLines h)

namespace Joined

def respIn (s : Site) (c : ReqCfg) (auto hasBody : Bool) (r : Resp) : RespIn :=
  { addedGzip := addGzip s c, autoDecompress := auto, isHead := c.isHead, hasBody := hasBody,
    ce := fieldValue r.header }

def process (s : Site) (c : ReqCfg) (auto hasBody : Bool) (r : Resp) : Out :=
  applyAction (decideAt s (respIn s c auto hasBody r)) r

end Joined

end Req.Compress.Lines
