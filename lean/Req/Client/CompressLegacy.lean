import Req.Client.Compress
/-!
C14 — the three decoding branches as they are in imroc/req before commits 08913c8, 06ab59f and
39e092f (DESIGN.md section 5 rows 9 and 10). Kept so that the negations of the property theorems
can be stated, proved by `decide` and replayed on the implementation by the lanes
(`Req.Props.C14.legacy_*`).
-/
namespace Req.Compress.Legacy
open Req.Proto Req.Compress

inductive Action
  | gunzip
  | decompress (a : Alg)
  | untouched
  /-- headers stripped, `resp.Body = compress.NewCompressReader(…)` = nil interface -/
  | strippedNil
  /-- HTTP/3 only: headers as received, `res.Body = s.responseBody` = nil -/
  | untouchedNil
  deriving DecidableEq, Repr

def decideCore (i : RespIn) : Action :=
  if i.addedGzip && isGzipFold i.ce then .gunzip
  else if i.autoDecompress then
    if i.ce != [] then
      match select i.ce with
      | some a => .decompress a
      | none => .strippedNil
    else .untouched
  else .untouched

def decideH1 (i : RespIn) : Action :=
  if i.isHead || !i.hasBody then .untouched else decideCore i

def decideH2 (i : RespIn) : Action :=
  if i.isHead then .untouched
  else if !i.hasBody then .untouched
  else decideCore i

/-- `if s.requestedGzip && Get("Content-Encoding") == "gzip" {… s.responseBody = gzip}
else if s.AutoDecompression { if ce != "" {strip; res.Body = NewCompressReader(…)} }
else { s.responseBody = respBody }; res.Body = s.responseBody` -/
def decideH3 (i : RespIn) : Action :=
  if i.addedGzip && i.ce == tokGzip then .gunzip
  else if i.autoDecompress then
    if i.ce != [] then .strippedNil else .untouchedNil
  else .untouched

def applyAction (a : Action) (r : Resp) : Out :=
  match a with
  | .gunzip => ⟨strip r, some .gunzip⟩
  | .decompress alg => ⟨strip r, some (.decode alg)⟩
  | .untouched => ⟨r, some .raw⟩
  | .strippedNil => ⟨strip r, none⟩
  | .untouchedNil => ⟨r, none⟩

def decideAt : Site → RespIn → Action
  | .h1 => decideH1 | .h2 => decideH2 | .h3 => decideH3

def process (s : Site) (c : ReqCfg) (auto hasBody : Bool) (r : Resp) : Out :=
  applyAction (decideAt s (respIn s c auto hasBody r)) r

end Req.Compress.Legacy
