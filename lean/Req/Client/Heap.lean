import Req.Client.Scope
/-!
# C19 — the REFERENCE-AWARE model (`Heap`)

Same primitives and programs as `Scope`, but a record's field is a *reference* into a store:

* a `box` is a Go map or a pointed-to struct field: every holder of the reference sees an
  in-place update (`m[k] = v`, `opt.MaxRetries = n`);
* a `slice` is a slice header (backing array id, length, capacity): `append` writes into the
  backing array when `len + n ≤ cap` — visible to every header that shares the array and looks
  that far — and moves to a new array otherwise (Go's `growslice`, a parameter `grow`).

`derive` (Clone / R()) treats each field as its table says: `assigned` shares the reference
(what `cc := *c` or `Field: t.Field` does to a map / slice / pointer), `fresh` makes a copy in a
new object (`cloneMap`, `cloneUrlValues`, `cloneSlice`, `x.Clone()`, a rebuild), `absent` leaves
the zero value. Observations are defined through the abstraction `abs` (reading through the
references), so a run of `Heap` yields the same kind of trace as a run of `Scope`.
-/
namespace Req.Heap
open Req.Scope

inductive FieldVal
  | nil
  | box (id : Nat)
  | slice (id len cap : Nat)
  deriving DecidableEq, Repr

structure HOwner where
  parent : Option Nat
  fld : Field → FieldVal

structure Heap where
  count : Nat
  owner : Nat → HOwner
  /-- the store: a box holds its multimap, a backing array `[(0, elements)]` (all `cap` of them) -/
  obj : Nat → AMap
  next : Nat

def emptyHOwner : HOwner := ⟨none, fun _ => .nil⟩

def Heap.empty : Heap := ⟨0, fun _ => emptyHOwner, fun _ => [], 0⟩

/-- read through a reference -/
def Heap.absVal (h : Heap) : FieldVal → AMap
  | .nil => []
  | .box id => h.obj id
  | .slice id len _ => AMap.ofList ((h.obj id).toList.take len)

def Heap.absOwner (h : Heap) (w : HOwner) : VOwner := ⟨w.parent, fun f => h.absVal (w.fld f)⟩

/-- the abstraction: the value state a heap state denotes -/
def abs (h : Heap) : VState := ⟨h.count, fun i => h.absOwner (h.owner i)⟩

def HOwner.setFld (w : HOwner) (f : Field) (v : FieldVal) : HOwner :=
  { w with fld := fun g => if g = f then v else w.fld g }

def Heap.updOwner (h : Heap) (o : Nat) (g : HOwner → HOwner) : Heap :=
  { h with owner := fun i => if i = o then g (h.owner o) else h.owner i }

def Heap.setObj (h : Heap) (id : Nat) (m : AMap) : Heap :=
  { h with obj := fun j => if j = id then m else h.obj j }

/-- field `f` of record `o` becomes a reference to a NEW object holding `m` (already in normal
form for the field's kind); a slice gets `len = cap = length` (`make` + `copy`, a slice literal) -/
def Heap.putFresh (h : Heap) (o : Nat) (f : Field) (m : AMap) : Heap :=
  match kind f with
  | .box =>
    { (h.setObj h.next m).updOwner o (·.setFld f (.box h.next)) with next := h.next + 1 }
  | .slice =>
    if m.toList.isEmpty then h.updOwner o (·.setFld f .nil)
    else
      { (h.setObj h.next (AMap.ofList m.toList)).updOwner o (·.setFld f (.slice h.next m.toList.length m.toList.length))
        with next := h.next + 1 }

/-- capacity of a slice built by `n` single appends starting from nil -/
def builtCap (grow : Nat → Nat → Nat) (n : Nat) : Nat :=
  (List.range n).foldl (fun c i => if i + 1 ≤ c then c else max (grow c (i + 1)) (i + 1)) 0

/-- slice field `f` of record `o` becomes a NEW array holding `xs` with capacity `c` (at least the length) -/
def Heap.putSliceCap (h : Heap) (o : Nat) (f : Field) (xs : List Nat) (c : Nat) : Heap :=
  if xs.isEmpty then h.updOwner o (·.setFld f .nil)
  else
    { (h.setObj h.next (AMap.ofList (xs ++ List.replicate (c - xs.length) 0))).updOwner o
        (·.setFld f (.slice h.next xs.length (max c xs.length)))
      with next := h.next + 1 }

/-- where a field of a new record comes from -/
inductive Src
  | share (v : FieldVal)
  | fresh (m : AMap)
  | zero

/-- the reference field `f` of a new record gets, when fresh objects are numbered from `base` -/
def srcVal (base : Nat) (f : Field) : Src → FieldVal
  | .share v => v
  | .zero => .nil
  | .fresh m =>
    match kind f with
    | .box => .box (base + f.val)
    | .slice => if m.toList.isEmpty then .nil else .slice (base + f.val) m.toList.length m.toList.length

def fieldOf (n : Nat) : Option Field := if h : n < nFields then some ⟨n, h⟩ else none

/-- append a record; fresh objects get the ids `next + f` -/
def Heap.addOwner (h : Heap) (parent : Option Nat) (src : Field → Src) : Heap :=
  { count := h.count + 1
    owner := fun i => if i = h.count then ⟨parent, fun f => srcVal h.next f (src f)⟩ else h.owner i
    obj := fun id =>
      if h.next ≤ id then
        match fieldOf (id - h.next) with
        | some f =>
          match src f with
          | .fresh m => norm (kind f) m
          | _ => h.obj id
        | none => h.obj id
      else h.obj id
    next := h.next + nFields }

/-- overwrite `old` from position `l` on -/
def overwrite (old : List Nat) (l : Nat) (xs : List Nat) : List Nat :=
  old.take l ++ xs ++ old.drop (l + xs.length)

/-- Go `append(s, xs...)` on field `f` of record `o` -/
def Heap.appendSlice (grow : Nat → Nat → Nat) (h : Heap) (o : Nat) (f : Field) (xs : List Nat) : Heap :=
  if xs.isEmpty then h else
  match (h.owner o).fld f with
  | .slice id l c =>
    if l + xs.length ≤ c then
      -- spare capacity: write into the (possibly shared) backing array
      (h.setObj id (AMap.ofList (overwrite (h.obj id).toList l xs))).updOwner o (·.setFld f (.slice id (l + xs.length) c))
    else
      let n := l + xs.length
      let c' := max (grow c n) n
      let data := (h.obj id).toList.take l ++ xs
      { (h.setObj h.next (AMap.ofList (data ++ List.replicate (c' - n) 0))).updOwner o (·.setFld f (.slice h.next n c'))
        with next := h.next + 1 }
  | _ =>
    let n := xs.length
    let c' := max (grow 0 n) n
    { (h.setObj h.next (AMap.ofList (xs ++ List.replicate (c' - n) 0))).updOwner o (·.setFld f (.slice h.next n c'))
      with next := h.next + 1 }

/-- in-place update of a box (allocating it when the field is nil) -/
def Heap.updBox (h : Heap) (o : Nat) (f : Field) (g : AMap → AMap) : Heap :=
  match (h.owner o).fld f with
  | .box id => h.setObj id (g (h.obj id))
  | _ => h.putFresh o f (g [])

/-- where field `f` of a record derived from `w` comes from -/
def srcOf (h : Heap) (t : Table) (w : HOwner) (f : Field) : Src :=
  match t f with
  | .assigned => .share (w.fld f)
  | .fresh => .fresh (h.absVal (w.fld f))
  | .absent => .zero

def stepH (grow : Nat → Nat → Nat) (h : Heap) : Prim → Heap
  | .newClient => h.addOwner none fun f => .fresh (initVal f)
  | .derive src t req =>
    if src < h.count then
      h.addOwner (if req then some src else none) (srcOf h t (h.owner src))
    else h
  | .set o f k vs =>
    if kind f = .box ∧ o < h.count then h.updBox o f (·.set k vs) else h
  | .add o f k vs =>
    if kind f = .box ∧ o < h.count then h.updBox o f (·.addMany k vs) else h
  | .replace o f m => if o < h.count then h.putFresh o f (norm (kind f) m) else h
  | .clear o f => if o < h.count then h.updOwner o (·.setFld f .nil) else h
  | .append o f xs =>
    if kind f = .slice ∧ o < h.count then h.appendSlice grow o f xs else h
  | .copyFrom o dst src =>
    if o < h.count then h.putFresh o dst (norm (kind dst) (h.absVal ((h.owner o).fld src))) else h
  | .wrap o sl ch xs built =>
    if kind sl = .slice ∧ kind ch = .box ∧ ¬ xs.isEmpty then
      if o < h.count then
        let chain := (h.absVal ((h.owner o).fld ch)).toList
        let h1 := if chain.isEmpty then
            h.putSliceCap o sl xs (if built then builtCap grow xs.length else xs.length)
          else h.appendSlice grow o sl xs
        h1.updBox o ch (fun m => m.set 0 (m.toList ++ xs))
      else h
    else h
  | .jarStore r v =>
    if r < h.count then
      match (h.owner r).parent with
      | some c => if c < h.count then h.updBox c F.jar (·.addMany 0 [v]) else h
      | none => h
    else h

def runH (grow : Nat → Nat → Nat) (h : Heap) (ps : List Prim) : Heap := ps.foldl (stepH grow) h

/-- Run an API program on the heap model; observations are read through `abs`. -/
def runHeapFrom (grow : Nat → Nat → Nat) (tc tr : Table) (h : Heap) : List Op → Heap × List Obs
  | [] => (h, [])
  | op :: ops =>
    let o := observe (abs h) op
    let h' := if o = .err then h else runH grow h (compile tc tr h.count op)
    let (hf, os) := runHeapFrom grow tc tr h' ops
    (hf, o :: os)

def runHeap (grow : Nat → Nat → Nat) (tc tr : Table) (ops : List Op) : Heap × List Obs :=
  runHeapFrom grow tc tr Heap.empty ops

/-! ## Tables -/

/-- no field is shared with the record it is derived from -/
def AliasSafe (t : Table) : Prop := ∀ f, t f ≠ .assigned

/-- carries exactly what the ideal table carries -/
def CarriesLike (ideal t : Table) : Prop := ∀ f, (t f = .absent ↔ ideal f = .absent)

/-- the `Clone` table and the `R()` table share nothing and carry what they should -/
structure Safe (tc tr : Table) : Prop where
  cloneAlias : AliasSafe tc
  reqAlias : AliasSafe tr
  cloneCarries : CarriesLike idealClone tc
  reqCarries : CarriesLike idealReq tr

def aliasSafeB (t : Table) : Bool :=
  (List.range nFields).all fun n => if h : n < nFields then t ⟨n, h⟩ != .assigned else true

def carriesLikeB (ideal t : Table) : Bool :=
  (List.range nFields).all fun n =>
    if h : n < nFields then (t ⟨n, h⟩ == .absent) == (ideal ⟨n, h⟩ == .absent) else true

/-- the `Clone` of the code before fixes/C19-1: the two wrapper slices are copied by assignment -/
def aliasWrappers (t : Table) : Table := fun f =>
  if f = F.wrappers ∨ f = F.tWrappers then .assigned else t f

/-! ## Go's slice growth (runtime.growslice, Go 1.23, 8-byte elements) for the driver -/

def sizeClasses : List Nat :=
  [8, 16, 24, 32, 48, 64, 80, 96, 112, 128, 144, 160, 176, 192, 208, 224, 240, 256, 288, 320, 352, 384,
   416, 448, 480, 512, 576, 640, 704, 768, 896, 1024, 1152, 1280, 1408, 1536, 1792, 2048]

def roundUp (bytes : Nat) : Nat :=
  match sizeClasses.find? (fun c => bytes ≤ c) with
  | some c => c
  | none => bytes

def goGrow (oldCap needed : Nat) : Nat :=
  let newcap := if needed > 2 * oldCap then needed else if oldCap < 256 then 2 * oldCap else needed
  roundUp (newcap * 8) / 8

end Req.Heap
