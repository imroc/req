/-!
# C19 — object graphs: `Clone` as a copy directed by a per-field specification

The heap behind a client is a graph: a node per Go object (the `Client` struct, its `Transport`,
the embedded `transport.Options`, the `tls.Config`, certificate array, root pool, dumper, dump
queue, dump options, HTTP/2 transport with its back-pointer to the owning `Options`, connection
pool, retry option, middleware arrays, closures with what they capture, `http.Client`, jar, …),
an edge per reference-typed field. Nothing is flattened: a pointed-to struct is a node with
fields of its own, a closure is a node with an edge to what it captured, a back-pointer is an edge
like any other.

`cloneNode S` copies a node as the specification `S : type → field → Treat` directs, field by
field, recursively:

* `share`  — copy the reference (what `cc := *c`, `Field: t.Field` do to a map / slice / pointer);
* `copy`   — clone the target by the specification of ITS type (`x.Clone()`, `cloneMap`, …);
* `fresh`  — a new empty object (`make`, a new jar from the factory, a new queue, a zeroed pool);
* `toNew t` — a pointer to the COPY of the enclosing object of type `t` (`Options: &tt.Options`,
  `roundTripImpl{&cc}`, `client.Transport = cc.Transport`): back-pointers and per-client closures;
* `zero`   — the field is left out.

`Props/C19Graph.lean` proves: if `S` shares only what is deeply immutable or listed as
shared by design, then after `cloneNode` every object reachable from both the original and the
copy is immutable or lies below a shared-by-design edge (`clone_separates`); hence a write to
any other object reachable from one of them changes nothing reachable from the other
(`original_unaffected`, `copy_unaffected`). `Bridge/C19.lean` instantiates `S` from the
regenerated clone table.
-/
namespace Req.Graph

abbrev Ty := Nat
abbrev Label := Nat

structure Node where
  /-- Go type of the object (index into the schema) -/
  ty : Ty
  /-- content that is not a reference (scalars, map entries, array elements), abstracted -/
  val : Nat
  /-- reference-typed fields: (field, target object) -/
  out : List (Label × Nat)
  deriving DecidableEq, Repr

structure G where
  /-- objects `0 … next-1` are allocated -/
  next : Nat
  node : Nat → Node

inductive Treat
  | share
  | copy
  | fresh
  | toNew (t : Ty)
  | zero
  deriving DecidableEq, Repr

abbrev Spec := Ty → Label → Treat

def G.alloc (g : G) (n : Node) : G :=
  { next := g.next + 1, node := fun i => if i = g.next then n else g.node i }

def G.set (g : G) (i : Nat) (n : Node) : G :=
  { g with node := fun j => if j = i then n else g.node j }

/-- one reference-typed field `e` of the object (of type `t`) being copied; `acc` = graph so far
and the fields of the copy so far; `env` = the copies of the enclosing objects, by type; `rec` =
how to clone a target -/
def cloneEdge (S : Spec) (t : Ty) (env : Ty → Option Nat) (rec : G → Nat → G × Nat)
    (acc : G × List (Label × Nat)) (e : Label × Nat) : G × List (Label × Nat) :=
  match S t e.1 with
  | .share => (acc.1, acc.2 ++ [e])
  | .zero => acc
  | .fresh => (acc.1.alloc ⟨(acc.1.node e.2).ty, 0, []⟩, acc.2 ++ [(e.1, acc.1.next)])
  | .toNew u =>
    match env u with
    | some n => (acc.1, acc.2 ++ [(e.1, n)])
    | none => acc
  | .copy =>
    let r := rec acc.1 e.2
    (r.1, acc.2 ++ [(e.1, r.2)])

/-- Clone object `a`: the copy is allocated first (so that back-pointers can refer to it), then
its fields are produced one by one. `fuel` bounds the nesting depth of `copy` (the copy edges of
a schema form a DAG: its depth suffices); out of fuel the copy has no reference fields. -/
def cloneNode (S : Spec) : Nat → (Ty → Option Nat) → G → Nat → G × Nat
  | 0, _, g, a => (g.alloc ⟨(g.node a).ty, (g.node a).val, []⟩, g.next)
  | fuel + 1, env, g, a =>
    let env' : Ty → Option Nat := fun u => if u = (g.node a).ty then some g.next else env u
    let r := (g.node a).out.foldl (cloneEdge S (g.node a).ty env' (cloneNode S fuel env'))
      (g.alloc ⟨(g.node a).ty, (g.node a).val, []⟩, [])
    (r.1.set g.next ⟨(g.node a).ty, (g.node a).val, r.2⟩, g.next)

/-- `Clone` of the object `r` of graph `g` -/
def clone (S : Spec) (fuel : Nat) (g : G) (r : Nat) : G × Nat := cloneNode S fuel (fun _ => none) g r

inductive Reach (g : G) : Nat → Nat → Prop
  | refl (a : Nat) : Reach g a a
  | step {a b c : Nat} {l : Label} : Reach g a b → (l, c) ∈ (g.node b).out → Reach g a c

theorem Reach.trans {g : G} {a b c : Nat} (h1 : Reach g a b) (h2 : Reach g b c) : Reach g a c := by
  induction h2 with
  | refl => exact h1
  | step _ he ih => exact Reach.step ih he

/-- the references of objects below `b` stay below `b` -/
def WFBelow (b : Nat) (g : G) : Prop := ∀ i, i < b → ∀ e ∈ (g.node i).out, e.2 < b

/-- `n` lies at or below the target of a shared-by-design reference of a new object -/
def ViaDesign (design : Ty → Label → Bool) (g : G) (b : Nat) (n : Nat) : Prop :=
  ∃ i e, b ≤ i ∧ e ∈ (g.node i).out ∧ e.2 < b ∧ design (g.node i).ty e.1 = true ∧ Reach g e.2 n

/-- deeply immutable types reach only deeply immutable types -/
def ImmClosed (imm : Ty → Bool) (b : Nat) (g : G) : Prop :=
  ∀ i, i < b → imm (g.node i).ty = true → ∀ e ∈ (g.node i).out, imm (g.node e.2).ty = true

/-- the specification shares only what is deeply immutable or shared by design (on the objects of `g`) -/
def ShareSafe (S : Spec) (imm : Ty → Bool) (design : Ty → Label → Bool) (b : Nat) (g : G) : Prop :=
  ∀ a, a < b → ∀ e ∈ (g.node a).out, S (g.node a).ty e.1 = .share →
    design (g.node a).ty e.1 = true ∨ imm (g.node e.2).ty = true

/-- does field `e` of an object of type `t` appear in the copy? -/
def kept (S : Spec) (env : Ty → Option Nat) (t : Ty) (e : Label × Nat) : Bool :=
  match S t e.1 with
  | .zero => false
  | .toNew u => (env u).isSome
  | _ => true

end Req.Graph
