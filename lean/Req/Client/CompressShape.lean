import Req.Client.Compress
import Req.Client.CompressLegacy
/-!
C14 — the *shape* of the compression logic at the three call sites, as `tools/gofacts`
extracts it from the source (`Generated/C14Facts.lean`), with an interpreter that gives the
shape its meaning. `Bridge/C14.lean` proves "extracted shape = `shape s`"; `Req.Props.C14`
proves that the meaning of `shape s` IS the model's decision function (`interp_shape_*`).
Together: the decision functions the theorems are about are the ones written in the Go source.
-/
namespace Req.Compress
open Req.Proto

/-- One conjunct of the request-side condition. -/
inductive Ask | notDisabled | noAcceptEncoding | noRange | notHead | other
  deriving DecidableEq, Repr

inductive GzipTest | eq | equalFold | other
  deriving DecidableEq, Repr

inductive AutoCond | auto | notHead | other
  deriving DecidableEq, Repr

inductive Guard | readerExists | encodingNonempty | other
  deriving DecidableEq, Repr

/-- Which variable a statement assigns: `X.Body` or (HTTP/3) `s.responseBody`. -/
inductive Target | body | responseBody
  deriving DecidableEq, Repr

/-- What is assigned. -/
inductive Source
  | raw            -- a local / `transportResponseBody{cs}`: the framing-level body
  | gzipReader     -- `&gzipReader{…}` / `compress.NewGzipReader(…)`
  | reader         -- the result of `compress.NewCompressReader(…)` (nil for unknown encodings)
  | responseBody   -- the field `s.responseBody`
  | other
  deriving DecidableEq, Repr

inductive Effect
  | delContentEncoding
  | delContentLength
  | contentLengthMinus1
  | uncompressedTrue
  | set (t : Target) (s : Source)
  | none           -- no statement (absent `before`/`after`)
  | other
  deriving DecidableEq, Repr

structure SiteShape where
  ask : List Ask
  gzipTest : GzipTest
  gzipToken : Bytes
  gzipEffects : List Effect
  autoConds : List AutoCond
  autoGuard : Guard
  autoEffects : List Effect
  elseEffects : List Effect
  before : Effect
  after : Effect
  deriving DecidableEq, Repr

def stripAll : List Effect :=
  [.delContentEncoding, .delContentLength, .contentLengthMinus1, .uncompressedTrue]

/-- Canonical order of a block's statements (they are independent of each other: four
header/field rewrites and at most one body assignment), so that reordering them in the source
is not a shape change. -/
def canonEffects (l : List Effect) : List Effect :=
  stripAll.filter (fun e => l.contains e) ++ l.filter (fun e => !stripAll.contains e)

def canonAsk (l : List Ask) : List Ask :=
  [Ask.notDisabled, .noAcceptEncoding, .noRange, .notHead, .other].filter (fun a => l.contains a)

def canonAuto (l : List AutoCond) : List AutoCond :=
  [AutoCond.auto, .notHead, .other].filter (fun a => l.contains a)

/-- The code as it is with fixes/C14-1..3 (blocks in canonical order). -/
def shape : Site → SiteShape
  | .h1 => {
      ask := [.notDisabled, .noAcceptEncoding, .noRange, .notHead]
      gzipTest := .equalFold, gzipToken := tokGzip
      gzipEffects := [.delContentEncoding, .delContentLength, .contentLengthMinus1, .uncompressedTrue, .set .body .gzipReader]
      autoConds := [.auto], autoGuard := .readerExists
      autoEffects := [.delContentEncoding, .delContentLength, .contentLengthMinus1, .uncompressedTrue, .set .body .reader]
      elseEffects := [], before := .set .body .raw, after := .none }
  | .h2 => {
      ask := [.notDisabled, .noAcceptEncoding, .noRange, .notHead]
      gzipTest := .equalFold, gzipToken := tokGzip
      gzipEffects := [.delContentEncoding, .delContentLength, .contentLengthMinus1, .uncompressedTrue, .set .body .gzipReader]
      autoConds := [.auto], autoGuard := .readerExists
      autoEffects := [.delContentEncoding, .delContentLength, .contentLengthMinus1, .uncompressedTrue, .set .body .reader]
      elseEffects := [], before := .set .body .raw, after := .none }
  | .h3 => {
      ask := [.notDisabled, .noAcceptEncoding, .noRange, .notHead]
      gzipTest := .equalFold, gzipToken := tokGzip
      gzipEffects := [.delContentEncoding, .delContentLength, .contentLengthMinus1, .uncompressedTrue, .set .responseBody .gzipReader]
      autoConds := [.auto, .notHead], autoGuard := .readerExists
      autoEffects := [.delContentEncoding, .delContentLength, .contentLengthMinus1, .uncompressedTrue, .set .responseBody .reader]
      elseEffects := [], before := .set .responseBody .raw, after := .set .body .responseBody }

/-- The code before the fixes. -/
def Legacy.shape : Site → SiteShape
  | .h1 => { Req.Compress.shape .h1 with autoGuard := .encodingNonempty }
  | .h2 => { Req.Compress.shape .h2 with autoGuard := .encodingNonempty }
  | .h3 => {
      ask := [.notDisabled, .noAcceptEncoding, .noRange, .notHead]
      gzipTest := .eq, gzipToken := tokGzip
      gzipEffects := [.delContentEncoding, .delContentLength, .contentLengthMinus1, .uncompressedTrue, .set .responseBody .gzipReader]
      autoConds := [.auto], autoGuard := .encodingNonempty
      autoEffects := [.delContentEncoding, .delContentLength, .contentLengthMinus1, .uncompressedTrue, .set .body .reader]
      elseEffects := [.set .responseBody .raw], before := .none, after := .set .body .responseBody }

/-! ### meaning of a shape -/

/-- Value of a body variable. -/
inductive BV | unset | raw | gz | reader | bad
  deriving DecidableEq, Repr

structure Vars where
  body : BV
  responseBody : BV
  deriving DecidableEq, Repr

def runEffect (v : Vars) : Effect → Vars
  | .set .body .raw => { v with body := .raw }
  | .set .body .gzipReader => { v with body := .gz }
  | .set .body .reader => { v with body := .reader }
  | .set .body .responseBody => { v with body := v.responseBody }
  | .set .body .other => { v with body := .bad }
  | .set .responseBody .raw => { v with responseBody := .raw }
  | .set .responseBody .gzipReader => { v with responseBody := .gz }
  | .set .responseBody .reader => { v with responseBody := .reader }
  | .set .responseBody _ => { v with responseBody := .bad }
  | .other => { body := .bad, responseBody := .bad }
  | _ => v

def runEffects (v : Vars) (l : List Effect) : Vars := l.foldl runEffect v

/-- Does a block perform the complete header rewrite (`some true`), none of it (`some false`)
or only part (`none`: not a shape the model knows)? -/
def strips (l : List Effect) : Option Bool :=
  if stripAll.all (fun e => l.contains e) then some true
  else if stripAll.all (fun e => !l.contains e) then some false
  else none

/-- What the caller gets: was the response rewritten, and which reader is in `Body`
(`none` = nil interface). Outer `none` = the shape is outside what the interpreter knows. -/
def interp (sh : SiteShape) (i : RespIn) : Option (Bool × Option BodyKind) :=
  let v0 := runEffect ⟨.unset, .unset⟩ sh.before
  let gz : Option Bool := match sh.gzipTest with
    | .eq => some (i.ce == sh.gzipToken)
    | .equalFold => some (Req.Ascii.equalFold i.ce sh.gzipToken)
    | .other => none
  let autoC : Option Bool := sh.autoConds.foldl (fun acc c => match acc, c with
    | some b, .auto => some (b && i.autoDecompress)
    | some b, .notHead => some (b && !i.isHead)
    | _, _ => none) (some true)
  let guard : Option Bool := match sh.autoGuard with
    | .readerExists => some (select i.ce).isSome
    | .encodingNonempty => some (i.ce != [])
    | .other => none
  match gz, autoC, guard, strips sh.gzipEffects, strips sh.autoEffects, strips sh.elseEffects with
  | some gz, some autoC, some guard, some sg, some sa, some se =>
    let r : Vars × Bool :=
      if i.addedGzip && gz then (runEffects v0 sh.gzipEffects, sg)
      else if autoC then
        if guard then (runEffects v0 sh.autoEffects, sa) else (v0, false)
      else (runEffects v0 sh.elseEffects, se)
    let v := runEffect r.1 sh.after
    match v.body with
    | .unset => some (r.2, none)
    | .raw => some (r.2, some .raw)
    | .gz => some (r.2, some .gunzip)
    | .reader => some (r.2, (select i.ce).map BodyKind.decode)
    | .bad => none
  | _, _, _, _, _, _ => none

/-- The same view of the model's actions. -/
def viewAction : Action → Bool × Option BodyKind
  | .gunzip => (true, some .gunzip)
  | .decompress a => (true, some (.decode a))
  | .untouched => (false, some .raw)

def Legacy.viewAction : Legacy.Action → Bool × Option BodyKind
  | .gunzip => (true, some .gunzip)
  | .decompress a => (true, some (.decode a))
  | .untouched => (false, some .raw)
  | .strippedNil => (true, none)
  | .untouchedNil => (false, none)

/-- Meaning of the request-side conjunct list. -/
def interpAsk (l : List Ask) (c : ReqCfg) : Option Bool :=
  l.foldl (fun acc a => match acc, a with
    | some b, .notDisabled => some (b && !c.disableCompression)
    | some b, .noAcceptEncoding => some (b && c.acceptEncoding == [])
    | some b, .noRange => some (b && c.range == [])
    | some b, .notHead => some (b && !c.isHead)
    | _, _ => none) (some true)

end Req.Compress
