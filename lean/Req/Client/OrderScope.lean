import Req.Driver.Proto
/-
C16: WHOSE order list a request is sent with — client-level order settings over
sequences of configuration calls with `Client.Clone`.

Go code modelled:
* client.go `SetCommonHeaderOrder(keys...)` / `SetCommonPseudoHeaderOder(keys...)`: every call adds
  ONE transport wrapper (`Transport.WrapRoundTripFunc`) whose closure holds the `keys` of that call
  and stores them into `req.Header[HeaderOderKey]` / `[PseudoHeaderOderKey]` before calling the next
  round tripper.  transport.go `WrapRoundTrip`: `wrappedRoundTrip = w(wrappedRoundTrip)` — the wrapper
  added LAST is the outermost and runs first; the wrapper added FIRST is the innermost, runs last and
  its assignment is the one the writer sees: the first call on a client wins, and any client-level
  list replaces a request-level one (`Request.SetHeaderOrder`).
* client_impersonate.go `ImpersonateChrome/Firefox/Safari`: one `SetCommonHeaderOrder` + one
  `SetCommonPseudoHeaderOder` call (+ header values, HTTP/2 settings, TLS fingerprint — not here).
* client.go `Client.Clone` + transport.go `Transport.Clone`: the copy gets a copy of the wrapper
  LIST (`httpRoundTripWrappers`) and rebuilds its own chain from it; the closures hold only their
  own `keys`, nothing of the client they were installed on.

A client's state is the two wrapper lists (oldest first); the store maps client ids to states.
-/
namespace Req.OrderScope
open Req.Proto

structure CState where
  hdr : List (List Bytes)
  pse : List (List Bytes)
deriving Repr, DecidableEq

inductive Op where
  | setOrder (c : Nat) (l : List Bytes)
  | setPseudo (c : Nat) (l : List Bytes)
  | clone (src dst : Nat)
deriving Repr, DecidableEq

abbrev Store := Nat → CState

def upd (st : Store) (c : Nat) (v : CState) : Store := fun j => if j = c then v else st j

def fresh : Store := fun _ => ⟨[], []⟩

def apply (st : Store) : Op → Store
  | .setOrder c l => upd st c { st c with hdr := (st c).hdr ++ [l] }
  | .setPseudo c l => upd st c { st c with pse := (st c).pse ++ [l] }
  | .clone s d => upd st d (st s)

def run (st : Store) (ops : List Op) : Store := ops.foldl apply st

/-- the list the writer finds in the header map: the innermost (= oldest) wrapper assigns last;
without any wrapper the request's own list stays. -/
def effective (wrappers : List (List Bytes)) (requestLevel : Option (List Bytes)) : Option (List Bytes) :=
  match wrappers with
  | [] => requestLevel
  | l :: _ => some l

/-- the op configures client `c` (a setter called on it, or `c` created as a copy). -/
def touches : Op → Nat → Bool
  | .setOrder c' _, c => c' == c
  | .setPseudo c' _, c => c' == c
  | .clone _ d, c => d == c

/-- one configuration call, without the client it was made on. -/
inductive Cfg where
  | hdr (l : List Bytes)
  | pse (l : List Bytes)
deriving Repr, DecidableEq

/-- the header-order list of a call, if it is one. -/
def Cfg.hdr? : Cfg → Option (List Bytes)
  | .hdr l => some l
  | .pse _ => none

/-- the pseudo-header-order list of a call, if it is one. -/
def Cfg.pse? : Cfg → Option (List Bytes)
  | .hdr _ => none
  | .pse l => some l

/-- what a client was configured with, in call order — its OWN history: the setter calls made on
it and, through `Clone`, the history its source had at the moment of the copy. Defined on the
REVERSED op list (latest op first). -/
def historyRev : List Op → Nat → List Cfg
  | [], _ => []
  | .setOrder c' l :: older, c =>
    if c' = c then historyRev older c ++ [.hdr l] else historyRev older c
  | .setPseudo c' l :: older, c =>
    if c' = c then historyRev older c ++ [.pse l] else historyRev older c
  | .clone s d :: older, c =>
    if d = c then historyRev older s else historyRev older c

def history (ops : List Op) (c : Nat) : List Cfg := historyRev ops.reverse c

def applyCfg (st : CState) : Cfg → CState
  | .hdr l => { st with hdr := st.hdr ++ [l] }
  | .pse l => { st with pse := st.pse ++ [l] }

/-- state of a client that was configured with exactly these setter calls. -/
def replay (h : List Cfg) : CState := h.foldl applyCfg ⟨[], []⟩

end Req.OrderScope
