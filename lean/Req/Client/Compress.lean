import Req.Driver.Proto
import Req.Base.Ascii
/-!
C14 — content decoding: the decision core of the three response paths and the header rewrite.

Modelled code (imroc/req, with fixes/C14-1..3 applied — the pre-patch behaviour is kept,
faithfully, in `Req/Client/CompressLegacy.lean`):

* request side — who asks for gzip:
  `transport.go persistConn.roundTrip` (`requestedGzip`), `internal/http2/transport.go
  ClientConn.roundTrip` (`cs.requestedGzip`), `internal/http3/http_stream.go
  SendRequestHeader` (`s.requestedGzip`)                                   → `addGzipH1/H2/H3`
* response side — what is done with a `Content-Encoding`:
  `transport.go persistConn.readLoop`, `internal/http2/transport.go handleResponse`,
  `internal/http3/http_stream.go ReadResponse`                             → `decideH1/H2/H3`
* `internal/compress/reader.go NewCompressReader` (exact, case-sensitive switch)   → `select`
* the header rewrite (`Header.Del` ×2, `ContentLength = -1`, `Uncompressed = true`) → `strip`
-/
namespace Req.Compress
open Req.Proto

/-! ### tokens and algorithms -/

inductive Alg | gzip | deflate | br | zstd
  deriving DecidableEq, Repr, Inhabited

def Alg.name : Alg → String
  | .gzip => "gzip" | .deflate => "deflate" | .br => "br" | .zstd => "zstd"

def tokGzip : Bytes := [103, 122, 105, 112]
def tokDeflate : Bytes := [100, 101, 102, 108, 97, 116, 101]
def tokBr : Bytes := [98, 114]
def tokZstd : Bytes := [122, 115, 116, 100]
def tokHEAD : Bytes := [72, 69, 65, 68]

/-- The switch arms of `compress.NewCompressReader`, in source order
(`case "gzip": NewGzipReader …`). Regenerated from the source as `Generated.C14Facts.arms`. -/
def arms : List (Bytes × Alg) :=
  [(tokGzip, .gzip), (tokDeflate, .deflate), (tokBr, .br), (tokZstd, .zstd)]

/-- `compress.NewCompressReader(body, ce)`: `some a` = the reader constructed, `none` = the
function returns a nil interface. A Go `switch` on a string compares bytes exactly. -/
def select (ce : Bytes) : Option Alg := arms.lookup ce

/-- `ascii.EqualFold(ce, "gzip")` -/
def isGzipFold (ce : Bytes) : Bool := Req.Ascii.equalFold ce tokGzip

/-! ### request side -/

/-- What the three `requestedGzip` computations look at. Header values are what
`req.Header.Get` returns (`[]` = absent or empty). -/
structure ReqCfg where
  disableCompression : Bool
  method : Bytes
  acceptEncoding : Bytes
  range : Bytes
  deriving DecidableEq, Repr

def ReqCfg.isHead (c : ReqCfg) : Bool := c.method == tokHEAD

/-- transport.go: `!pc.t.DisableCompression && Get("Accept-Encoding") == "" &&
Get("Range") == "" && req.Method != "HEAD"` -/
def addGzipH1 (c : ReqCfg) : Bool :=
  !c.disableCompression && c.acceptEncoding == [] && c.range == [] && c.method != tokHEAD

/-- internal/http2: same with `!cs.isHead` (`isHead: req.Method == "HEAD"`). -/
def addGzipH2 (c : ReqCfg) : Bool :=
  !c.disableCompression && c.acceptEncoding == [] && c.range == [] && !c.isHead

/-- internal/http3: `!s.DisableCompression && !s.disableCompression && Method != HEAD &&
AE == "" && Range == ""`; both flags are the same `transport.Options.DisableCompression`. -/
def addGzipH3 (c : ReqCfg) : Bool :=
  !c.disableCompression && !c.disableCompression && c.method != tokHEAD &&
    c.acceptEncoding == [] && c.range == []

/-- The `Accept-Encoding` field the origin sees. -/
def wireAcceptEncoding (added : Bool) (c : ReqCfg) : Option Bytes :=
  if added then some tokGzip
  else if c.acceptEncoding == [] then none else some c.acceptEncoding

/-! ### response side: decision -/

inductive Action
  | gunzip                 -- first branch: the transport asked for gzip and got it
  | decompress (a : Alg)   -- AutoDecompression branch with a reader
  | untouched
  deriving DecidableEq, Repr

/-- Inputs of the response-side decision. `hasBody = false` is the early exit of the stack
(H1: `!hasBody` = HEAD or `ContentLength == 0`/1xx/204/304; H2: `cs.isHead` or END_STREAM on
HEADERS): those paths return before the decoding branch. -/
structure RespIn where
  addedGzip : Bool
  autoDecompress : Bool
  isHead : Bool
  hasBody : Bool
  ce : Bytes             -- the Content-Encoding value the branch tests (`respIn`: the first line,
                         -- `Header.Get`; `Lines.Joined.respIn`: all lines, `compress.ContentEncoding`)
  deriving DecidableEq, Repr

/-- The branch shared by the three sites once they are reached. -/
def decideCore (i : RespIn) : Action :=
  if i.addedGzip && isGzipFold i.ce then .gunzip
  else if i.autoDecompress then
    match select i.ce with
    | some a => .decompress a
    | none => .untouched
  else .untouched

/-- transport.go readLoop: `hasBody := Method != "HEAD" && resp.ContentLength != 0`; the
bodiless path `continue`s before the branch. -/
def decideH1 (i : RespIn) : Action :=
  if i.isHead || !i.hasBody then .untouched else decideCore i

/-- internal/http2 handleResponse: `if cs.isHead {…return}`, `if f.StreamEnded() {…return}`. -/
def decideH2 (i : RespIn) : Action :=
  if i.isHead then .untouched
  else if !i.hasBody then .untouched
  else decideCore i

/-- internal/http3 ReadResponse (patched): no early exit exists on this stack — every
response gets a body reader over the stream — so `hasBody` is not consulted; the
AutoDecompression branch is skipped for HEAD. -/
def decideH3 (i : RespIn) : Action :=
  if i.addedGzip && isGzipFold i.ce then .gunzip
  else if i.autoDecompress && !i.isHead then
    match select i.ce with
    | some a => .decompress a
    | none => .untouched
  else .untouched

/-! ### response side: effect -/

/-- Response header as (canonical key, value) pairs in arrival order. -/
abbrev Header := List (Bytes × Bytes)

def hContentEncoding : Bytes := [67, 111, 110, 116, 101, 110, 116, 45, 69, 110, 99, 111, 100, 105, 110, 103]
def hContentLength : Bytes := [67, 111, 110, 116, 101, 110, 116, 45, 76, 101, 110, 103, 116, 104]

/-- `Header.Get`: first value of the key, `""` if absent. -/
def hget (h : Header) (k : Bytes) : Bytes :=
  match h.find? (fun p => p.1 == k) with
  | some p => p.2
  | none => []

/-- `Header.Values`. -/
def hvalues (h : Header) (k : Bytes) : List Bytes :=
  (h.filter (fun p => p.1 == k)).map (·.2)

/-- `Header.Del`: every value of the key goes. -/
def hdel (h : Header) (k : Bytes) : Header := h.filter (fun p => p.1 != k)

structure Resp where
  header : Header
  contentLength : Int
  uncompressed : Bool
  deriving DecidableEq, Repr

/-- Which reader the caller finds in `Response.Body`. `none` would be a nil `io.ReadCloser`. -/
inductive BodyKind
  | raw                  -- the framing-level body, as received
  | gunzip               -- `gzipReader` (H1) / `compress.GzipReader` (H2, H3)
  | decode (a : Alg)     -- `compress.NewCompressReader`
  deriving DecidableEq, Repr

structure Out where
  resp : Resp
  body : Option BodyKind
  deriving DecidableEq, Repr

/-- `Header.Del("Content-Encoding"); Header.Del("Content-Length"); ContentLength = -1;
Uncompressed = true`. -/
def strip (r : Resp) : Resp :=
  { header := hdel (hdel r.header hContentEncoding) hContentLength
    contentLength := -1
    uncompressed := true }

def applyAction (a : Action) (r : Resp) : Out :=
  match a with
  | .gunzip => ⟨strip r, some .gunzip⟩
  | .decompress alg => ⟨strip r, some (.decode alg)⟩
  | .untouched => ⟨r, some .raw⟩

inductive Site | h1 | h2 | h3
  deriving DecidableEq, Repr

def addGzip : Site → ReqCfg → Bool
  | .h1 => addGzipH1 | .h2 => addGzipH2 | .h3 => addGzipH3

def decideAt : Site → RespIn → Action
  | .h1 => decideH1 | .h2 => decideH2 | .h3 => decideH3

/-- One exchange seen from the decoding logic: request configuration → what is asked for;
response (+ whether the stack installs a body reader at all) → what the caller receives. -/
def respIn (s : Site) (c : ReqCfg) (auto hasBody : Bool) (r : Resp) : RespIn :=
  { addedGzip := addGzip s c, autoDecompress := auto, isHead := c.isHead, hasBody := hasBody,
    ce := hget r.header hContentEncoding }

def process (s : Site) (c : ReqCfg) (auto hasBody : Bool) (r : Resp) : Out :=
  applyAction (decideAt s (respIn s c auto hasBody r)) r

/-- The bytes (and final read result) the caller obtains from a body of the given kind:
`wire` is what the framing layer delivers, `dec a` the whole-stream meaning of the codec. -/
def deliver {β : Type} (wire : β) (dec : Alg → β) : BodyKind → β
  | .raw => wire
  | .gunzip => dec .gzip
  | .decode a => dec a

end Req.Compress
