import Req.Driver.Lanes
import Req.Props.C01
import Req.Props.C01Body
import Req.Props.C01Send
import Req.Props.C01Replay
import Req.Props.C01ConnSeq
import Req.Props.C01BodyH1
import Req.Props.C01BodyH1Refine
import Req.Props.C01Resend
import Req.Props.C01Lines
import Req.Props.C01Expect
import Req.Props.C01H2Wire
import Req.Props.C01Attempts
import Req.Props.C02
import Req.Props.C02Call
import Req.Props.C02Msg
import Req.Props.C02Proto
import Req.Props.C02H1
import Req.Props.C02Flow
import Req.Props.C02DataBuf
import Req.Props.C02Line
import Req.Props.C02H2Len
import Req.Props.C02Trailer
import Req.Props.C02Pragma
import Req.Props.C02GoAway
import Req.Props.C02HpackTable
import Req.Props.C03
import Req.Props.C03H2
import Req.Props.C03H3
import Req.Props.C03Gzip
import Req.Props.C03Enc
import Req.Props.C03H2M
import Req.Props.C03R6
import Req.Props.C04
import Req.Props.C04Framing
import Req.Props.C04Conn
import Req.Props.C04Err
import Req.Props.C04Digits
import Req.Props.C04Excess
import Req.Props.C04Alias
import Req.Props.C04Split
import Req.Props.C04Whole
import Req.Props.C04Fold
import Req.Props.C05
import Req.Props.C05Emit
import Req.Props.C05Frag
import Req.Props.C05Iff
import Req.Props.C05Inj
import Req.Props.C05H3Stream
import Req.Props.C05Hpack
import Req.Props.C05Seq
import Req.Props.C05H3Settings
import Req.Lemmas.C05ExceptEq
import Req.Props.C06
import Req.Props.C06Peer
import Req.Props.C06Wake
import Req.Props.C06Race
import Req.Props.C06Cut
import Req.Props.C06RaceN
import Req.Props.C07
import Req.Props.C07Opts
import Req.Lemmas.HeaderSort
import Req.Lemmas.H1Fields
import Req.Lemmas.H2Fields
import Req.Lemmas.SharedScratch
import Req.Lemmas.OrderScope
import Req.Lemmas.H2MetaLoop
import Req.Lemmas.H1Transfer
import Req.Lemmas.H1Head
import Req.Lemmas.H1ErrClass
import Req.Lemmas.H1Hex
import Req.Lemmas.BufLineSplit
import Req.Lemmas.BufAlias
import Req.Lemmas.C03Cut
import Req.Lemmas.TrimBy
import Req.Lemmas.C01BStr
import Req.Lemmas.ListFacts
import Req.Lemmas.Ascii
import Req.Lemmas.C07H1Budget
import Req.Props.C07Budget
import Req.Props.C07Total
import Req.Props.C07Seq
import Req.Props.C07R6
import Req.Props.C07R7
import Req.Props.C08
import Req.Props.C08Pool
import Req.Props.C08H2
import Req.Props.C08Err
import Req.Props.C08H3
import Req.Props.C08H3Stop
import Req.Props.C08H3Quiesce
import Req.Props.C08Dial
import Req.Props.C08Resend
import Req.Props.C08H3Interim
import Req.Props.C09
import Req.Props.C09H2
import Req.Props.C09H3
import Req.Props.C09Dump
import Req.Props.C09Dial
import Req.Props.C09Hpack
import Req.Props.C09Decode
import Req.Props.C09Write
import Req.Lemmas.C10Exchange
import Req.Props.C10
import Req.Props.C10Backoff64
import Req.Props.C10Body
import Req.Props.C10Dyn
import Req.Props.C10Inner
import Req.Props.C10Kinds
import Req.Props.C10Obs
import Req.Props.C10Replay
import Req.Lemmas.C11Authority
import Req.Props.C11
import Req.Props.C11Loop
import Req.Props.C11Ident
import Req.Props.C11Args
import Req.Props.C11Degenerate
import Req.Props.C11Zone
import Req.Props.C12
import Req.Props.C12Family
import Req.Props.C12Paths
import Req.Props.C12Proxy
import Req.Lemmas.AltSvc
import Req.Props.C12Alt
import Req.Props.C12AltForce
import Req.Props.C12Resume
import Req.Props.C12Order
import Req.Props.C12AlpnSeq
import Req.Props.C12AltClone
import Req.Lemmas.WrapChain
import Req.Props.C12Wrap
import Req.Props.C12Hops
import Req.Lemmas.C13ReadLine
import Req.Lemmas.C13Dump
import Req.Props.C13
import Req.Props.C13H1
import Req.Props.C13G
import Req.Props.C13X
import Req.Lemmas.C13Setters
import Req.Lemmas.C13Stop
import Req.Lemmas.C13Partial
import Req.Props.C13R5
import Req.Props.C13R7
import Req.Props.C14
import Req.Props.C14Attempts
import Req.Props.C14Formats
import Req.Props.C14Close
import Req.Props.C14Lines
import Req.Props.C14ZstdWindow
import Req.Props.C14Zstd
import Req.Props.C15
import Req.Props.C15Settings
import Req.Props.C15Header
import Req.Lemmas.Prescan
import Req.Props.C15Prescan
import Req.Props.C15Codec
import Req.Props.C15Live
import Req.Props.C15Path
import Req.Props.C15Contexts
import Req.Props.C16
import Req.Props.C16Frames
import Req.Props.C16Resend
import Req.Props.C16Round5
import Req.Props.C16Round6
import Req.Props.C16Round7
import Req.Props.C16Wire
import Req.Props.C17
import Req.Props.C17Early
import Req.Lemmas.UploadReader
import Req.Props.C17Reader
import Req.Props.C17Progress
import Req.Props.C17Marshal
import Req.Props.C17Stages
import Req.Props.C17ContentType
import Req.Props.C17Utf8
import Req.Props.C17FileSize
import Req.Lemmas.C18Model
import Req.Props.C18
import Req.Props.C18Pipeline
import Req.Props.C18Clone
import Req.Props.C18Final
import Req.Props.C18Loop
import Req.Props.C18Consume
import Req.Props.C18Finish
import Req.Lemmas.C19AMap
import Req.Lemmas.C19Graph
import Req.Props.C19
import Req.Props.C19Graph
import Req.Props.C19Binding
import Req.Props.C19Preserve
import Req.Props.C19Values
import Req.Props.C19ReqTime
import Req.Props.C19Marshal
import Req.Lemmas.C20Bytes
import Req.Lemmas.C20Field
import Req.Props.C20
import Req.Props.C20Digest
import Req.Props.C20Wire
import Req.Props.C20Legacy
import Req.Props.C20Set
import Req.Props.C20SetAll
import Req.Props.C20Heap
import Req.Props.C20Life
import Req.Props.C20Multi
import Req.Props.C20MultiLines
import Req.Props.C20Malformed
import Req.Props.C20MalformedTail
import Req.Props.C20Upload
import Req.Client.CompressToy
import Req.Lemmas.C14Readers
import Req.Lemmas.C14Decide
import Req.Props.C18Pipeline
import Req.Lemmas.C14Auto
import Req.Lemmas.C14Formats
import Req.Lemmas.C14Zstd
